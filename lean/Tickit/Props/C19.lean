import Tickit.Proof.Pen
/-
  C19 — a pen is a faithful partial map of attributes with lawful copy and equivalence.

  `Pen` is the statement-by-statement model of `struct TickitPen` and the functions of src/pen.c
  (`Model/Pen.lean`); widths and signedness of the bit-fields, the enum values, the `tickit_penattr_type`
  table and the colour-name table come from `Gen.PenLayout`, regenerated from the source on every run.

  * A *representable value* of attribute `a` is `a.Representable v`: `v` fits the bit-field of `a`
    (`Representable a.width a.signed v`, e.g. −256 ≤ v < 256 for the signed 9-bit colour index).
  * `p.typedRead a` is what `a` reads as through the getter(s) of its own type; `p.abs : PenDict` is the
    partial map the pen denotes; `PenDict` with `set / erase / copy / equiv / read` is the specification.
  * `Pen.WF` is the type invariant of the C struct (every bit-field holds a value of its width); it holds of
    `Pen.new` and is preserved by every operation (`wf_*`), so it holds of every reachable pen.

  Every theorem is universally quantified (all pens, attributes, values, strings); none uses a bound.
-/
namespace Tickit.Props.C19
open Tickit Tickit.Bitfield Tickit.Pen Tickit.PenHistory Tickit.Gen.PenLayout

/-! ### representable values (tie to the extracted layout) -/

/-- A value is representable exactly when storing it into the attribute's bit-field is exact. -/
theorem representable_iff_store_exact (a : PenAttr) (v : Int) :
    a.Representable v ↔ store a.width a.signed v = v :=
  (store_eq_iff a.width a.signed v a.width_pos).symm

/-- Every value the header documents for an attribute is representable in the bit-field the source declares
    for it: colour indices 0…255 and `COLOUR_DEFAULT`, underline styles and −1, alternate fonts −1…10,
    size positions 0…3, booleans.  Narrowing a bit-field in the source breaks this obligation. -/
theorem documented_values_representable :
    (∀ v : Int, COLOUR_DEFAULT ≤ v → v ≤ 255 → PenAttr.fg.Representable v ∧ PenAttr.bg.Representable v) ∧
    (∀ v : Int, -1 ≤ v → v < TICKIT_N_PEN_UNDERS → PenAttr.under.Representable v) ∧
    (∀ v : Int, -1 ≤ v → v ≤ 10 → PenAttr.altfont.Representable v) ∧
    (∀ v : Int, TICKIT_PEN_SIZEPOS_NORMAL ≤ v → v ≤ TICKIT_PEN_SIZEPOS_SUBSCRIPT → PenAttr.sizepos.Representable v) ∧
    (∀ a : PenAttr, a.type = .bool → a.Representable 0 ∧ a.Representable 1) := by
  -- a range is representable when its two ends are
  refine ⟨fun v h0 h1 => ?_, fun v h0 h1 => ?_, fun v h0 h1 => ?_, fun v h0 h1 => ?_, fun a h => ?_⟩
  · constructor <;> exact representable_of_between (lo := COLOUR_DEFAULT) (hi := 255) (by decide) (by decide) h0 h1
  · exact representable_of_between (lo := -1) (hi := TICKIT_N_PEN_UNDERS - 1) (by decide) (by decide) h0 (by omega)
  · exact representable_of_between (lo := -1) (hi := 10) (by decide) (by decide) h0 h1
  · exact representable_of_between (lo := TICKIT_PEN_SIZEPOS_NORMAL) (hi := TICKIT_PEN_SIZEPOS_SUBSCRIPT)
      (by decide) (by decide) h0 h1
  · cases a <;> first | exact ⟨by decide, by decide⟩ | exact absurd h (by decide)

example : PenAttr.fg.Representable 255 ∧ ¬ PenAttr.fg.Representable 256 ∧ PenAttr.fg.Representable (-256) := by decide
example : PenAttr.sizepos.Representable 3 ∧ ¬ PenAttr.sizepos.Representable (-1) := by decide

/-- The invariant: a new pen is well formed and every operation keeps well-formedness (so every reachable pen is
    well formed: `history_full`). -/
theorem wf_reachable :
    Pen.new.WF ∧
    (∀ (p : Pen) a v, p.WF → (p.setBoolAttr a v).WF) ∧ (∀ (p : Pen) a v, p.WF → (p.setIntAttr a v).WF) ∧
    (∀ (p : Pen) a v, p.WF → (p.setColourAttr a v).WF) ∧ (∀ (p : Pen) a v, p.WF → (p.setColourAttrRgb8 a v).WF) ∧
    (∀ (p : Pen) a, p.WF → (p.clearAttr a).WF) ∧ (∀ p : Pen, p.WF → p.clear.WF) ∧
    (∀ (d s : Pen) ow, d.WF → (d.copy s ow).WF) ∧ (∀ (d s : Pen) a, d.WF → (d.copyAttr s a).WF) ∧
    (∀ o : Pen, (Pen.clone o).WF) ∧
    (∀ sc (p : Pen) a s, p.WF → (setColourAttrDesc sc p a s).2.WF) :=
  ⟨wf_new, @wf_setBoolAttr, @wf_setIntAttr, @wf_setColourAttr, @wf_setColourAttrRgb8, @wf_clearAttr, @wf_clear,
   fun _ _ _ => wf_copy, fun _ _ _ => wf_copyAttr, wf_clone, fun _ _ _ _ => wf_setColourAttrDesc⟩

/-- Setting a boolean attribute makes it present and it reads back the value. -/
theorem set_get_bool (p : Pen) (a : PenAttr) (v : Bool) (h : a.type = .bool) :
    (p.setBoolAttr a v).hasAttr a = true ∧ (p.setBoolAttr a v).getBoolAttr a = v := by
  have hu := slotUpd_setBoolAttr p a v (Or.inl h)
  refine ⟨hu.hasAttr, ?_⟩
  rw [getBoolAttr_eq _ _ h, hu.hasAttr, hu.rawField]
  -- one bit is enough for 0 and 1
  cases a <;> first | exact absurd h (by decide) | (cases v <;> rfl)

/-- Setting an integer attribute to a representable value makes it present and it reads back that value. -/
theorem set_get_int (p : Pen) (a : PenAttr) (v : Int) (h : a.type = .int) (hr : a.Representable v) :
    (p.setIntAttr a v).hasAttr a = true ∧ (p.setIntAttr a v).getIntAttr a = v := by
  have hu := slotUpd_setIntAttr p a v h
  exact ⟨hu.hasAttr, (hu.getIntAttr h).trans (store_of_representable _ _ v a.width_pos hr)⟩

/-- Setting a colour attribute to a representable index makes it present and it reads back that index. -/
theorem set_get_colour (p : Pen) (a : PenAttr) (v : Int) (h : a.type = .colour) (hr : a.Representable v) :
    (p.setColourAttr a v).hasAttr a = true ∧ (p.setColourAttr a v).getColourAttr a = v := by
  have hu := slotUpd_setColourAttr p a v h
  exact ⟨hu.hasAttr, (hu.getColourAttr h).trans (store_of_representable _ _ v a.width_pos hr)⟩

/-- Setting the RGB8 secondary of a present colour makes it present, it reads back, and the index stays. -/
theorem set_get_rgb8 (p : Pen) (a : PenAttr) (v : RGB8) (h : a.type = .colour) (hh : p.hasAttr a = true) :
    (p.setColourAttrRgb8 a v).hasColourAttrRgb8 a = true ∧ (p.setColourAttrRgb8 a v).getColourAttrRgb8 a = v ∧
    (p.setColourAttrRgb8 a v).hasAttr a = true ∧ (p.setColourAttrRgb8 a v).getColourAttr a = p.getColourAttr a :=
  have hu := slotUpd_setColourAttrRgb8 p a v h hh
  ⟨(hu.rgb_some rfl).1, (hu.rgb_some rfl).2, hu.hasAttr, by
    rw [getColourAttr_eq _ _ h, hu.hasAttr, hu.rawField, getColourAttr_eq p a h, hh]⟩

/-- The back-compat boolean view of `TICKIT_PEN_UNDER`: setting it stores SINGLE / NONE. -/
theorem set_get_bool_under (p : Pen) (v : Bool) :
    (p.setBoolAttr .under v).hasAttr .under = true ∧ (p.setBoolAttr .under v).getBoolAttr .under = v ∧
    (p.setBoolAttr .under v).getIntAttr .under = if v then TICKIT_PEN_UNDER_SINGLE else TICKIT_PEN_UNDER_NONE := by
  cases v <;> simp [Pen.setBoolAttr, Pen.hasAttr, Pen.getBoolAttr, Pen.getIntAttr] <;> decide

/-- What is read back after *any* store, representable or not: the value reduced into the bit-field. -/
theorem set_get_wrapped (p : Pen) (a : PenAttr) (v : Int) :
    (a.type = .int → (p.setIntAttr a v).getIntAttr a = store a.width a.signed v) ∧
    (a.type = .colour → (p.setColourAttr a v).getColourAttr a = store a.width a.signed v) :=
  ⟨fun h => (slotUpd_setIntAttr p a v h).getIntAttr h, fun h => (slotUpd_setColourAttr p a v h).getColourAttr h⟩

/-- The whole "set" clause at once, as refinement of the dictionary: every setter is the dictionary update
    (so the attribute set reads back, and *no other attribute changes*). -/
theorem set_get (p : Pen) (a : PenAttr) :
    (∀ v, (p.setBoolAttr a v).abs = p.abs.setBool a v) ∧
    (∀ v, a.Representable v → (p.setIntAttr a v).abs = p.abs.setInt a v) ∧
    (∀ v, a.Representable v → (p.setColourAttr a v).abs = p.abs.setColour a v) ∧
    (∀ v, (p.setColourAttrRgb8 a v).abs = p.abs.setRgb8 a v) :=
  ⟨abs_setBoolAttr p a, abs_setIntAttr p a, abs_setColourAttr p a, abs_setColourAttrRgb8 p a⟩

example : ((Pen.new.setColourAttr .fg 255).setIntAttr .under 3).typedRead .fg = .c 255 none := by decide
example : (Pen.new.setColourAttr .fg 256).getColourAttr .fg = -256 := by decide   -- not representable: wraps

/-- Clearing removes the attribute and nothing else. -/
theorem clear_removes (p : Pen) (a : PenAttr) :
    (p.clearAttr a).hasAttr a = false ∧ (p.clearAttr a).abs = p.abs.erase a :=
  ⟨(slotUpd_clearAttr p a).hasAttr, abs_clearAttr p a⟩

/-- `tickit_pen_clear` removes every attribute. -/
theorem clear_all_removes (p : Pen) : (∀ a, p.clear.hasAttr a = false) ∧ p.clear.abs = PenDict.empty :=
  ⟨clear_hasAttr p, abs_clear p⟩

example : ((Pen.new.setBoolAttr .bold true).clearAttr .bold).hasAttr .bold = false := by decide

/-! ### absent attributes read as their defaults -/

theorem absent_reads_default (p : Pen) (a : PenAttr) (h : p.hasAttr a = false) :
    p.getBoolAttr a = false ∧ p.getIntAttr a = 0 ∧ p.getColourAttr a = COLOUR_DEFAULT ∧
    p.hasColourAttrRgb8 a = false ∧ p.getColourAttrRgb8 a = ⟨0, 0, 0⟩ ∧ p.nondefaultAttr a = false ∧
    p.typedRead a = PenDict.default a := by
  have hr := hasColourAttrRgb8_of_not_has h
  exact ⟨by simp [Pen.getBoolAttr, h], by simp [Pen.getIntAttr, h], by simp [Pen.getColourAttr, h], hr,
    by simp [Pen.getColourAttrRgb8, hr], by simp [Pen.nondefaultAttr, h], typedRead_of_not_has h⟩

/-- A new pen has no attribute, whatever the allocation contained. -/
theorem new_is_empty (garbage : Pen) :
    (∀ a, (Pen.newFrom garbage).hasAttr a = false) ∧ (Pen.newFrom garbage).abs = PenDict.empty ∧
    (Pen.newFrom garbage).isNonempty = false := by
  refine ⟨clear_hasAttr garbage, abs_newFrom garbage, ?_⟩
  simp [Pen.isNonempty, Pen.newFrom, clear_hasAttr]

example : Pen.new.getColourAttr .fg = -1 ∧ Pen.new.getIntAttr .under = 0 := by decide

/-- `tickit_pen_copy` is the dictionary copy (both modes). -/
theorem copy_refines (dst src : Pen) (ow : Bool) (hs : src.WF) :
    (dst.copy src ow).abs = PenDict.copy dst.abs src.abs ow := abs_copy dst src ow hs

/-- What an attribute reads as, and whether it is present, is determined by the dictionary. -/
theorem obs_of_abs (p q : Pen) (a : PenAttr) (h : p.abs a = q.abs a) :
    p.hasAttr a = q.hasAttr a ∧ p.typedRead a = q.typedRead a := Pen.obs_of_abs p q a h

/-- Copying without overwrite fills only absent attributes: an attribute present in the destination is
    untouched, an absent one is taken from the source if the source has it, and stays absent otherwise. -/
theorem copy_no_overwrite (dst src : Pen) (hs : src.WF) (a : PenAttr) :
    (dst.hasAttr a = true →
      (dst.copy src false).hasAttr a = true ∧ (dst.copy src false).typedRead a = dst.typedRead a) ∧
    (dst.hasAttr a = false → src.hasAttr a = true →
      (dst.copy src false).hasAttr a = true ∧ (dst.copy src false).typedRead a = src.typedRead a) ∧
    (dst.hasAttr a = false → src.hasAttr a = false → (dst.copy src false).hasAttr a = false) :=
  ⟨copy_keep_present dst src hs a, fun h h' => copy_take dst src false hs a h' (.inr h),
   fun h h' => (copy_keep dst src false hs a h').1.trans h⟩

/-- Copying with overwrite makes every attribute present in the source read the same in the destination,
    and leaves the rest alone. -/
theorem copy_overwrite (dst src : Pen) (hs : src.WF) (a : PenAttr) :
    (src.hasAttr a = true →
      (dst.copy src true).hasAttr a = true ∧ (dst.copy src true).typedRead a = src.typedRead a) ∧
    (src.hasAttr a = false →
      (dst.copy src true).hasAttr a = dst.hasAttr a ∧ (dst.copy src true).typedRead a = dst.typedRead a ∧
      (dst.copy src true).abs a = dst.abs a) :=
  ⟨fun h => copy_take dst src true hs a h (.inl rfl), copy_keep dst src true hs a⟩

/-- `tickit_pen_copy_attr` (distinct pens): the destination gets what the source reads as. -/
theorem copy_attr_refines (dst src : Pen) (a : PenAttr) (hs : src.WF) :
    (dst.copyAttr src a).abs = PenDict.copyAttr dst.abs src.abs a := abs_copyAttr dst src a hs

example :
    let src := (Pen.new.setColourAttr .fg 5).setBoolAttr .bold true
    let dst := Pen.new.setColourAttr .fg 7
    (dst.copy src false).typedRead .fg = .c 7 none ∧ (dst.copy src true).typedRead .fg = .c 5 none ∧
    (dst.copy src false).typedRead .bold = .b true := by decide +kernel

/-- A clone denotes the same dictionary as its original, hence is equivalent to it and has exactly the
    same attributes. -/
theorem clone_equiv (orig : Pen) (h : orig.WF) :
    orig.clone.equiv orig = true ∧ orig.clone.abs = orig.abs ∧ ∀ a, orig.clone.hasAttr a = orig.hasAttr a := by
  have habs := abs_clone orig h
  refine ⟨?_, habs, fun a => (obs_of_abs _ _ a (congrFun habs a)).1⟩
  rw [equiv_eq_dict, habs]
  simp [PenDict.equiv]

example : ((Pen.new.setColourAttr .bg 3).setColourAttrRgb8 .bg ⟨1, 2, 3⟩).clone.typedRead .bg = .c 3 (some ⟨1, 2, 3⟩) := by
  decide +kernel

/-- Equivalence holds exactly when every attribute reads the same in both pens (through the getter of the
    attribute's own type, each with its default for an absent attribute). -/
theorem equiv_iff_getters_agree (a b : Pen) : a.equiv b = true ↔ ∀ x, a.typedRead x = b.typedRead x := by
  unfold Pen.equiv
  rw [List.all_eq_true]
  constructor
  · intro h x; exact (equivAttr_iff a b x).1 (h x (PenAttr.mem_all x))
  · intro h x _; exact (equivAttr_iff a b x).2 (h x)

/-- The same per attribute: `tickit_pen_equiv_attr`. -/
theorem equiv_attr_iff_getters_agree (a b : Pen) (x : PenAttr) :
    a.equivAttr b x = true ↔ a.typedRead x = b.typedRead x := equivAttr_iff a b x

/-- Spelled out per type: booleans compare `get_bool`, integers `get_int`, colours the index, the presence of
    an RGB8 and its three components. -/
theorem typedRead_eq_iff (a b : Pen) (x : PenAttr) :
    a.typedRead x = b.typedRead x ↔
      match x.type with
      | .bool => a.getBoolAttr x = b.getBoolAttr x
      | .int => a.getIntAttr x = b.getIntAttr x
      | .colour => a.getColourAttr x = b.getColourAttr x ∧ a.hasColourAttrRgb8 x = b.hasColourAttrRgb8 x ∧
          (a.hasColourAttrRgb8 x = true → a.getColourAttrRgb8 x = b.getColourAttrRgb8 x) := Pen.typedRead_eq_iff a b x

theorem equiv_refl (a : Pen) : a.equiv a = true := (equiv_iff_getters_agree a a).2 fun _ => rfl

theorem equiv_symm (a b : Pen) : a.equiv b = b.equiv a := by
  rw [Bool.eq_iff_iff, equiv_iff_getters_agree, equiv_iff_getters_agree]
  exact ⟨fun h x => (h x).symm, fun h x => (h x).symm⟩

theorem equiv_trans (a b c : Pen) (hab : a.equiv b = true) (hbc : b.equiv c = true) : a.equiv c = true := by
  rw [equiv_iff_getters_agree] at *
  intro x; rw [hab x, hbc x]

/-- Equivalence is equivalence of the dictionaries read with defaulting. -/
theorem equiv_refines (a b : Pen) : a.equiv b = PenDict.equiv a.abs b.abs := equiv_eq_dict a b

/-- Equivalence ignores *presence*: a present default is equivalent to an absent attribute
    (non-vacuity of "reads the same": the two pens differ as dictionaries). -/
example : (Pen.new.setBoolAttr .bold false).equiv Pen.new = true ∧
    (Pen.new.setBoolAttr .bold false).hasAttr .bold ≠ Pen.new.hasAttr .bold := by decide +kernel
example : (Pen.new.setColourAttr .fg 1).equiv (Pen.new.setColourAttr .fg 2) = false := by decide

/-! ### the RGB8 secondary -/

/-- An RGB8 secondary exists only alongside an index colour: only on colour attributes, only when the index is
    present; it cannot be created without one, and disappears with it. -/
theorem rgb_requires_index (p : Pen) (a : PenAttr) :
    (p.hasColourAttrRgb8 a = true → a.type = .colour ∧ p.hasAttr a = true) ∧
    (p.hasAttr a = false → ∀ v, p.setColourAttrRgb8 a v = p) ∧
    (∀ v, ((p.clearAttr a).setColourAttrRgb8 a v).hasColourAttrRgb8 a = false) ∧
    (p.clearAttr a).hasColourAttrRgb8 a = false := by
  have hc := hasColourAttrRgb8_of_not_has (slotUpd_clearAttr p a).hasAttr
  refine ⟨has_of_hasColourAttrRgb8 p a, fun h v => setColourAttrRgb8_of_not_has h, fun v => ?_, hc⟩
  rw [setColourAttrRgb8_of_not_has (slotUpd_clearAttr p a).hasAttr]; exact hc

/-- Setting the index again drops the RGB8 secondary — also when the index had been cleared in between
    (the stale `valid.fg_rgb8` bit never resurfaces). -/
theorem set_index_drops_rgb (p : Pen) (a : PenAttr) (v : Int) :
    (p.setColourAttr a v).hasColourAttrRgb8 a = false ∧
    ((p.clearAttr a).setColourAttr a v).hasColourAttrRgb8 a = false ∧
    (p.setColourAttr a v).getColourAttrRgb8 a = ⟨0, 0, 0⟩ := by
  have key : ∀ q : Pen, (q.setColourAttr a v).hasColourAttrRgb8 a = false := by intro q; cases a <;> rfl
  exact ⟨key p, key _, by simp [Pen.getColourAttrRgb8, key p]⟩

example :
    let p := (Pen.new.setColourAttr .fg 5).setColourAttrRgb8 .fg ⟨9, 9, 9⟩
    p.hasColourAttrRgb8 .fg = true ∧ (p.setColourAttr .fg 5).hasColourAttrRgb8 .fg = false ∧
    ((p.clearAttr .fg).setColourAttr .fg 6).hasColourAttrRgb8 .fg = false := by decide

/-! ### colour description strings -/

/-- For *every* string, attribute and pen, and whatever `sscanf` does: the description is either rejected
    without effect, or the result is exactly the pen after the direct call `set_colour_attr idx`, optionally
    followed by `set_colour_attr_rgb8 rgb`, for some `idx`, `rgb`. -/
theorem desc_structural (sc : Scanf) (p : Pen) (a : PenAttr) (s : List UInt8) :
    setColourAttrDesc sc p a s = (false, p) ∨
    ∃ idx, setColourAttrDesc sc p a s = (true, p.setColourAttr a idx) ∨
      ∃ rgb, setColourAttrDesc sc p a s = (true, (p.setColourAttr a idx).setColourAttrRgb8 a rgb) :=
  Pen.desc_structural sc p a s

/-- Stronger: which calls are made depends on the string only (`descParse`), not on the pen or attribute. -/
theorem desc_is_parse_then_direct_calls (sc : Scanf) (p : Pen) (a : PenAttr) (s : List UInt8) :
    setColourAttrDesc sc p a s = applyParsed p a (descParse sc s) := setColourAttrDesc_eq_parse sc p a s

/-- On the dictionary: a description is `setColour` (+ `setRgb8`) of what is actually stored, or nothing. -/
theorem desc_refines (sc : Scanf) (p : Pen) (a : PenAttr) (s : List UInt8) :
    ((setColourAttrDesc sc p a s).1 = false ∧ (setColourAttrDesc sc p a s).2 = p) ∨
    ((setColourAttrDesc sc p a s).1 = true ∧ ∃ idx, a.Representable idx ∧
      ((setColourAttrDesc sc p a s).2.abs = p.abs.setColour a idx ∨
       ∃ rgb, (setColourAttrDesc sc p a s).2.abs = (p.abs.setColour a idx).setRgb8 a rgb)) := by
  rw [setColourAttrDesc_eq_parse]
  match descParse sc s with
  | none => exact Or.inl ⟨rfl, rfl⟩
  | some (idx, none) =>
    exact Or.inr ⟨rfl, _, store_representable _ _ idx a.width_pos, Or.inl (abs_setColourAttr' p a idx)⟩
  | some (idx, some rgb) =>
    refine Or.inr ⟨rfl, _, store_representable _ _ idx a.width_pos, Or.inr ⟨rgb, ?_⟩⟩
    rw [applyParsed, abs_setColourAttrRgb8, abs_setColourAttr']

/-! ### which strings give which index (under the recorded behaviour of glibc's `sscanf`, `glibcScanf`)

These are the `desc_grammar` statements of DESIGN.md: they depend on the small explicit model of `sscanf`
(`Tickit.PenScan`), which is tied to the real libc only by differential execution. -/

/-- Every name of the `colournames[]` table (regenerated from the source) gives its table index. -/
theorem desc_names :
    colourNames.all (fun e => descParse glibcScanf e.1 == some (e.2, none)) = true := by decide +kernel

/-- `hi-` before a name adds 8 to the eight VGA colours and leaves the 256-colour names alone. -/
theorem desc_hi_names :
    colourNames.all (fun e => descParse glibcScanf (hiPrefix ++ e.1) == some (if e.2 < 8 then e.2 + 8 else e.2, none)) = true := by
  decide +kernel

/-- A decimal number (any number of digits, value below 2^31) is that index. -/
theorem desc_number (ds : List UInt8) (hne : ds ≠ []) (hd : ∀ d ∈ ds, PenScan.isDigit d = true) (hv : PenScan.decVal ds < 2 ^ 31) :
    descParse glibcScanf ds = some ((PenScan.decVal ds : Int), none) := PenScan.desc_number ds hne hd hv

/-- After `hi-` the decimal numbers 0…7 give 8…15 and larger ones are rejected. -/
theorem desc_hi_number (ds : List UInt8) (hne : ds ≠ []) (hd : ∀ d ∈ ds, PenScan.isDigit d = true) (hv : PenScan.decVal ds < 2 ^ 31) :
    descParse glibcScanf (hiPrefix ++ ds) = if PenScan.decVal ds ≤ 7 then some ((PenScan.decVal ds : Int) + 8, none) else none :=
  PenScan.desc_hi_number ds hne hd hv

/-- The `#rrggbb` tail: after any base without `#` that does not end in a space, any number of spaces, `#` and
    six hexadecimal characters (anything may follow): the index is that of the base alone and the RGB8 is the
    three bytes. -/
theorem desc_rgb_tail (base : List UInt8) (n : Nat) (a b c d e f : UInt8) (rest : List UInt8)
    (h1 : ∀ x ∈ base, (x == 35) = false) (h2 : base.getLast? ≠ some 32)
    (hx : [a, b, c, d, e, f].all PenScan.isXDigit = true) :
    descParse glibcScanf (base ++ List.replicate n 32 ++ 35 :: a :: b :: c :: d :: e :: f :: rest) =
      (descParse glibcScanf base).map (fun r => (r.1, some
        ⟨UInt8.ofNat (PenScan.xval a * 16 + PenScan.xval b), UInt8.ofNat (PenScan.xval c * 16 + PenScan.xval d),
         UInt8.ofNat (PenScan.xval e * 16 + PenScan.xval f)⟩)) := by
  rw [List.append_assoc]
  refine (PenScan.descParse_tail glibcScanf base n _ h1 h2 fun b' => PenScan.scanD_hashTail b' n _).trans ?_
  rw [show glibcScanf.scanRgb _ = _ from PenScan.scanRgb_hex6 a b c d e f rest hx]

/-- Every table name (and every decimal number) is a legal base for `desc_rgb_tail`. -/
theorem desc_bases_ok :
    colourNames.all (fun e => e.1.all (fun x => !(x == 35)) && !(e.1.getLast? == some 32)) = true ∧
    ∀ ds : List UInt8, (∀ d ∈ ds, PenScan.isDigit d = true) → (∀ x ∈ ds, (x == 35) = false) ∧ ds.getLast? ≠ some 32 := by
  refine ⟨by decide +kernel, fun ds hd => ⟨PenScan.digits_no_hash ds hd, ?_⟩⟩
  intro hl
  have hm : (32 : UInt8) ∈ ds := List.mem_of_getLast? hl
  have := hd 32 hm
  revert this; decide

example : descParse glibcScanf "red #FF1515".toUTF8.toList = some (1, some ⟨0xFF, 0x15, 0x15⟩) := by decide +kernel
example : descParse glibcScanf "hi-12".toUTF8.toList = none := by decide +kernel

/-- Oddities of the parser, recorded (not violations of C19: each is "some index via the direct call"):
    names are matched as *prefixes* (`strncmp` with the length of the description), so the empty string and
    `"hi-"` are accepted as black / bright black, `"b"` is black, `"g"` is green; junk after a number is
    ignored; an index outside the bit-field wraps. -/
theorem desc_prefix_quirks :
    descParse glibcScanf [] = some (0, none) ∧
    descParse glibcScanf hiPrefix = some (8, none) ∧
    descParse glibcScanf "b".toUTF8.toList = some (0, none) ∧
    descParse glibcScanf "g".toUTF8.toList = some (2, none) ∧
    descParse glibcScanf "#102030".toUTF8.toList = some (0, some ⟨0x10, 0x20, 0x30⟩) ∧
    descParse glibcScanf "12abc".toUTF8.toList = some (12, none) ∧
    descParse glibcScanf "hi--5".toUTF8.toList = some (3, none) ∧
    (Pen.new.setColourAttr .fg 300).getColourAttr .fg = -212 := by decide +kernel

/-! ### whole histories

The property quantifies over "every sequence of set/clear/copy/clone operations".  `PenOp` is one operation
on pens numbered by `Nat` (aliased operands allowed), `runOps` runs the model of pen.c, `specOps` runs the
dictionary specification, in which a stored value is `store width signed v` (= `v` when representable,
`representable_iff_store_exact`) and a description is what `descParse` extracts. -/

/-- Every history, from any well-formed state (in particular from new pens), refines the dictionary history —
    aliased `copy` and aliased `copy_attr` included: after any sequence of operations every pen denotes exactly the
    dictionary the specification computes, so every getter, `has_attr` and `equiv` answer as the dictionary says. -/
theorem history_full (sc : Scanf) (ops : List PenOp) (st : Nat → Pen) (h : ∀ i, (st i).WF) :
    (fun i => (runOps sc st ops i).abs) = specOps sc (fun i => (st i).abs) ops ∧ ∀ i, (runOps sc st ops i).WF :=
  runOps_refines sc ops st h

/-- `history_full` from new pens. -/
theorem history_from_new (sc : Scanf) (ops : List PenOp) :
    (fun i => (runOps sc (fun _ => Pen.new) ops i).abs) = specOps sc (fun _ => PenDict.empty) ops := by
  have := (history_full sc ops (fun _ => Pen.new) (fun _ => wf_new)).1
  rw [this]; simp [abs_new]

/-- `copy_attr` gives the destination what the source reads as, also for source = destination (since /repo
    8cce03b; before that fix the call lost the RGB8 secondary of a colour attribute). -/
theorem copy_attr_self_full (p : Pen) (a : PenAttr) (hp : p.WF) :
    (p.copyAttrSelf a).abs = PenDict.copyAttr p.abs p.abs a ∧
    (p.copyAttrSelf a).hasColourAttrRgb8 a = p.hasColourAttrRgb8 a := by
  have habs : (p.copyAttrSelf a).abs = _ := abs_copyAttr p p a hp
  exact ⟨habs, hasColourAttrRgb8_congr (by rw [← abs_read, ← abs_read, habs, PenDict.read_copyAttr])⟩

/-- The history of the regression probe corpus/C19/copyattr_self_drops_rgb8.ops (it lost the RGB8 before /repo 8cce03b). -/
example :
    (runOps glibcScanf (fun _ => Pen.new) [.setColour 0 .fg 5, .setRgb8 0 .fg ⟨16, 32, 48⟩, .copyAttr 0 0 .fg] 0).typedRead .fg
      = .c 5 (some ⟨16, 32, 48⟩) := by decide +kernel

end Tickit.Props.C19
