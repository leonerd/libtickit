import Tickit.Proof.Rect
import Tickit.Gen.Caps
import Tickit.Gen.Leaf
/-
  C06 — Rectangle intersection, union-split and subtraction are exact for all pairs.

  Every theorem is universally quantified over `Int` coordinates (all relative orderings of the
  edges, at any translation).  Cells are pairs `(l, c) : Int × Int`; `Rect.Mem r l c` is the
  cell-wise definition of membership.
-/
namespace Tickit.Props.C06
open Tickit Tickit.Rect

theorem intersect_some (a b r : Rect) (h : intersect a b = some r) :
    r.Nonempty ∧ ∀ l c, r.Mem l c ↔ (a.Mem l c ∧ b.Mem l c) := Rect.intersect_some a b r h

theorem intersect_none (a b : Rect) (h : intersect a b = none) :
    ∀ l c, ¬ (a.Mem l c ∧ b.Mem l c) := Rect.intersect_none a b h

/-- `intersect` reports "none" exactly when no cell is shared (the non-emptiness hypotheses are not needed:
    `Rect.intersect_none_iff`). -/
theorem intersect_none_iff (a b : Rect) (ha : a.Nonempty) (hb : b.Nonempty) :
    intersect a b = none ↔ ∀ l c, ¬ (a.Mem l c ∧ b.Mem l c) := Rect.intersect_none_iff a b

theorem contains_iff (large small : Rect) (hs : small.Nonempty) :
    contains large small = true ↔ ∀ l c, small.Mem l c → large.Mem l c := Rect.contains_iff large small hs

theorem intersects_iff (a b : Rect) (ha : a.Nonempty) (hb : b.Nonempty) :
    intersects a b = true ↔ ∃ l c, a.Mem l c ∧ b.Mem l c := Rect.intersects_iff a b ha hb

theorem add_spec (a b : Rect) (ha : a.Nonempty) (hb : b.Nonempty) :
    (add a b).length ≤ 3 ∧
    (∀ p ∈ add a b, p.Nonempty) ∧
    (add a b).Pairwise Disjoint ∧
    ∀ l c, Covered (add a b) l c ↔ (a.Mem l c ∨ b.Mem l c) := Rect.add_spec a b ha hb

theorem subtract_spec (a b : Rect) (ha : a.Nonempty) (hb : b.Nonempty) :
    (subtract a b).length ≤ 4 ∧
    (∀ p ∈ subtract a b, p.Nonempty) ∧
    (subtract a b).Pairwise Disjoint ∧
    ∀ l c, Covered (subtract a b) l c ↔ (a.Mem l c ∧ ¬ b.Mem l c) := Rect.subtract_spec a b ha hb

/-! ### "at any translation": every operation commutes with translation -/

theorem mem_translate (r : Rect) (d k l c : Int) :
    (r.translate d k).Mem l c ↔ r.Mem (l - d) (c - k) := Rect.mem_translate r d k l c

theorem intersect_translate (a b : Rect) (d k : Int) :
    intersect (a.translate d k) (b.translate d k) = (intersect a b).map (·.translate d k) :=
  Rect.intersect_translate a b d k

theorem contains_translate (a b : Rect) (d k : Int) :
    contains (a.translate d k) (b.translate d k) = contains a b := Rect.contains_translate a b d k

theorem intersects_translate (a b : Rect) (d k : Int) :
    intersects (a.translate d k) (b.translate d k) = intersects a b := Rect.intersects_translate a b d k

/-! ### the callers' fixed arrays are large enough (capacities regenerated from the source) -/

theorem add_fits_caller_array (a b : Rect) (ha : a.Nonempty) (hb : b.Nonempty) :
    (add a b).length ≤ Gen.Caps.rectset_to_add ∧ (add a b).length ≤ Gen.Caps.rect_add_ret :=
  ⟨Nat.le_trans (add_spec a b ha hb).1 (by decide), Nat.le_trans (add_spec a b ha hb).1 (by decide)⟩

theorem subtract_fits_caller_array (a b : Rect) (ha : a.Nonempty) (hb : b.Nonempty) :
    (subtract a b).length ≤ Gen.Caps.rectset_remains ∧ (subtract a b).length ≤ Gen.Caps.rect_subtract_ret :=
  ⟨Nat.le_trans (subtract_spec a b ha hb).1 (by decide), Nat.le_trans (subtract_spec a b ha hb).1 (by decide)⟩

/-! ### the leaf functions regenerated from the C source are the model's -/

theorem leaf_bottom : Gen.Leaf.tickit_rect_bottom = Rect.bottom := by
  funext r; rfl

theorem leaf_right : Gen.Leaf.tickit_rect_right = Rect.right := by
  funext r; rfl

theorem leaf_minint (a b : Int) : Gen.Leaf.minint a b = min a b := by
  unfold Gen.Leaf.minint; simp only [decide_eq_true_eq]; omega

theorem leaf_maxint (a b : Int) : Gen.Leaf.maxint a b = max a b := by
  unfold Gen.Leaf.maxint; simp only [decide_eq_true_eq]; omega

theorem leaf_intersects : Gen.Leaf.tickit_rect_intersects = Rect.intersects := by
  funext a b; rfl

theorem leaf_contains : Gen.Leaf.tickit_rect_contains = Rect.contains := by
  funext a b
  unfold Gen.Leaf.tickit_rect_contains Rect.contains Gen.Leaf.tickit_rect_bottom Gen.Leaf.tickit_rect_right bottom right
  rfl

/-! ### non-vacuity: the hypotheses are met by concrete, interacting rectangles -/

example : (⟨0, 0, 2, 3⟩ : Rect).Nonempty ∧ (⟨1, 2, 3, 3⟩ : Rect).Nonempty ∧
    add ⟨0, 0, 2, 3⟩ ⟨1, 2, 3, 3⟩ = [⟨0, 0, 1, 3⟩, ⟨1, 0, 1, 5⟩, ⟨2, 2, 2, 3⟩] ∧
    subtract ⟨0, 0, 3, 3⟩ ⟨1, 1, 1, 1⟩ = [⟨0, 0, 1, 3⟩, ⟨1, 0, 1, 1⟩, ⟨1, 2, 1, 1⟩, ⟨2, 0, 1, 3⟩] ∧
    intersect ⟨0, 0, 2, 3⟩ ⟨1, 2, 3, 3⟩ = some ⟨1, 2, 1, 1⟩ := by decide

end Tickit.Props.C06
