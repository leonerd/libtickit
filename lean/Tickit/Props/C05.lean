import Tickit.Proof.RectSet
import Tickit.Proof.RectSetInv
import Tickit.Proof.RectSetTerm
import Tickit.Gen.Leaf
/-
  C05 — A rectangle set is exactly the union of what was added minus what was subtracted.

  `RectSet.add`, `subtract`, `contains` take a `fuel` (the C loops restart and recurse on data they
  rewrite); every correctness theorem holds for *every* fuel: "whenever the function returns, …", and the
  termination theorems at the end show that on arrays that have the invariant they do return.  Cells range
  over all of `Int × Int`; histories over all finite lists of operations (`Valid`, `Op.Valid`: Proof/RectSet.lean).

  Clauses of the property and where they are proved:
    exact region after any history ............ `history_exact_full` (with `history_terminates`)
    non-empty, pairwise disjoint, sorted ...... `Inv` in `history_exact_full` (`inv_def` spells it out)
    contains / intersects exact ............... `contains_iff_full`, `intersects_iff`, `history_queries`
    single operations ......................... `add_spec`+`add_inv`, `subtract_spec`, `translate_spec`+`translate_inv`, `clear_spec`
-/
namespace Tickit.Props.C05
open Tickit Tickit.Rect Tickit.RectSet

/-- `add` covers exactly the old region plus the new rectangle, and stores only non-empty rectangles. -/
theorem add_spec (fuel : Nat) (s s' : List Rect) (r : Rect)
    (h : RectSet.add fuel s r = some s') (hr : r.Nonempty) (hs : ∀ x ∈ s, x.Nonempty) :
    (∀ x ∈ s', x.Nonempty) ∧ ∀ l c, Covered s' l c ↔ (Covered s l c ∨ r.Mem l c) :=
  add_region h hr hs

/-- `subtract`, whatever the shape of the array: nothing outside the hole is lost, nothing is invented,
    stored rectangles stay non-empty.  (No cell of the hole stays covered: `subtract_removes` below, which
    needs the invariant.) -/
theorem subtract_bounds (fuel : Nat) (s s' : List Rect) (r : Rect)
    (h : RectSet.subtract fuel s r = some s') (hr : r.Nonempty) (hs : ∀ x ∈ s, x.Nonempty) :
    (∀ x ∈ s', x.Nonempty) ∧
    (∀ l c, Covered s' l c → Covered s l c) ∧
    (∀ l c, Covered s l c → ¬ r.Mem l c → Covered s' l c) :=
  RectSet.subtract_bounds fuel s s' r h hr hs

theorem translate_spec (s : List Rect) (d k : Int) (hs : ∀ x ∈ s, x.Nonempty) :
    (∀ x ∈ RectSet.translate s d k, x.Nonempty) ∧
    ∀ l c, Covered (RectSet.translate s d k) l c ↔ Covered s (l - d) (c - k) :=
  ⟨nonempty_translate s d k hs, fun l c => covered_translate s d k l c⟩

theorem clear_spec (s : List Rect) : ∀ l c, ¬ Covered (RectSet.clear s) l c :=
  fun l c => covered_nil l c

/-- `intersects` answers exactly "some cell of the query is covered". -/
theorem intersects_iff (s : List Rect) (q : Rect) (hq : q.Nonempty) (hs : ∀ x ∈ s, x.Nonempty) :
    RectSet.intersects s q = true ↔ ∃ l c, q.Mem l c ∧ Covered s l c :=
  RectSet.intersects_iff s q hq hs

/-- `contains` answering "yes" is always right: every cell of the query is covered. -/
theorem contains_sound (fuel : Nat) (s : List Rect) (q : Rect) (hq : q.Nonempty)
    (h : RectSet.contains fuel s q = some true) : ∀ l c, q.Mem l c → Covered s l c :=
  RectSet.contains_sound fuel s q h hq

/-- `contains` terminates: fuel proportional to the height of the query suffices. -/
theorem contains_terminates (s : List Rect) (q : Rect) :
    ∀ fuel : Nat, 0 < fuel → q.lines < (fuel : Int) → RectSet.contains fuel s q ≠ none :=
  RectSet.contains_terminates s q

/-- Generalised history statement: running `ops` from a state that covers a superset of `reg` ends in a
    state covering a superset of the region `ops` makes out of `reg` — **no cell is ever lost**. -/
theorem run_nothing_lost (fuel : Nat) : ∀ (ops : List Op) (s s' : List Rect) (reg : Int → Int → Prop),
    runOps fuel s ops = some s' → Valid ops → (∀ x ∈ s, x.Nonempty) →
    (∀ l c, reg l c → Covered s l c) →
    (∀ x ∈ s', x.Nonempty) ∧ ∀ l c, ops.foldl Op.apply reg l c → Covered s' l c := by
  intro ops s s' reg h hv hs hreg
  refine runOps_induct (P := fun s reg => (∀ x ∈ s, x.Nonempty) ∧ ∀ l c, reg l c → Covered s l c)
    ?_ ?_ ?_ ?_ ops s s' reg h hv ⟨hs, hreg⟩
  · intro s r s1 reg hr h1 hP
    obtain ⟨a1, a2⟩ := add_region h1 hr hP.1
    exact ⟨a1, fun l c hh => (a2 l c).2 (hh.imp_left (hP.2 l c))⟩
  · intro s r s1 reg hr h1 hP
    obtain ⟨a1, _, a3⟩ := subtract_bounds fuel s s1 r h1 hr hP.1
    exact ⟨a1, fun l c hh => a3 l c (hP.2 l c hh.1) hh.2⟩
  · exact fun s d k reg hP =>
      ⟨nonempty_translate s d k hP.1, fun l c hh => (covered_translate s d k l c).2 (hP.2 _ _ hh)⟩
  · exact fun s reg _ => ⟨by simp [RectSet.clear], fun l c hh => hh.elim⟩

/-- **Nothing is lost**: after any history of add/subtract/translate/clear from the empty set, every
    cell of the reference region is covered by the stored rectangles, which are all non-empty. -/
theorem history_nothing_lost (fuel : Nat) (ops : List Op) (s : List Rect)
    (h : runOps fuel [] ops = some s) (hv : Valid ops) :
    (∀ x ∈ s, x.Nonempty) ∧ ∀ l c, refRegion ops l c → Covered s l c :=
  run_nothing_lost fuel ops [] s (fun _ _ => False) h hv (by simp) (by intro l c h; exact h.elim)

/-- A history without subtraction. -/
def NoSub (ops : List Op) : Prop := ∀ o ∈ ops, ∀ r, o ≠ .sub r

theorem run_exact_noSub (fuel : Nat) : ∀ (ops : List Op) (s s' : List Rect) (reg : Int → Int → Prop),
    runOps fuel s ops = some s' → Valid ops → NoSub ops → (∀ x ∈ s, x.Nonempty) →
    (∀ l c, Covered s l c ↔ reg l c) →
    ∀ l c, Covered s' l c ↔ ops.foldl Op.apply reg l c := by
  intro ops s s' reg h hv hn hs hreg
  refine (runOps_induct (P := fun s reg => (∀ x ∈ s, x.Nonempty) ∧ ∀ l c, Covered s l c ↔ reg l c)
    (ok := fun o => Op.Valid o ∧ ∀ r, o ≠ .sub r) ?_ ?_ ?_ ?_ ops s s' reg h
    (fun o ho => ⟨hv o ho, hn o ho⟩) ⟨hs, hreg⟩).2
  · intro s r s1 reg hr h1 hP
    obtain ⟨a1, a2⟩ := add_region h1 hr.1 hP.1
    exact ⟨a1, fun l c => by rw [a2, hP.2]; rfl⟩
  · exact fun s r s1 reg hr _ _ => absurd rfl (hr.2 r)
  · exact fun s d k reg hP =>
      ⟨nonempty_translate s d k hP.1, fun l c => by rw [covered_translate, hP.2]; rfl⟩
  · exact fun s reg _ => ⟨by simp [RectSet.clear], fun l c => ⟨fun h => (covered_nil l c h).elim, False.elim⟩⟩

/-- **Exactness without subtract** (does not need the invariant): for histories of add/translate/clear the
    covered cells are exactly the reference region.  The full statement is `history_exact_full` below. -/
theorem history_exact_partial (fuel : Nat) (ops : List Op) (s : List Rect)
    (h : runOps fuel [] ops = some s) (hv : Valid ops) (hn : NoSub ops) :
    ∀ l c, Covered s l c ↔ refRegion ops l c :=
  run_exact_noSub fuel ops [] s (fun _ _ => False) h hv hn (by simp)
    (fun l c => ⟨fun h => (covered_nil l c h).elim, fun h => h.elim⟩)

/-! ### the invariant of the stored array

`RectSet.Inv s` (defined in `Proof/RectSetInv.lean`, restated by `inv_def`): members non-empty, pairwise
disjoint, strictly sorted by (top, left), no two members share a vertical edge segment of positive length
(`NoVEdge`), and no two members with equal columns are vertically adjacent (`NoStack`).  The last clause
is needed: without it `subtract` is wrong (`subtract_needs_noStack`), and `add` maintains it. -/

theorem inv_def (s : List Rect) :
    Inv s ↔ ((∀ x ∈ s, x.Nonempty) ∧ s.Pairwise Rect.Disjoint ∧
      s.Pairwise (fun a b => a.top < b.top ∨ (a.top = b.top ∧ a.left < b.left)) ∧
      (∀ a ∈ s, ∀ b ∈ s, a ≠ b →
        ¬ ((a.right = b.left ∨ b.right = a.left) ∧ a.top < b.bottom ∧ b.top < a.bottom)) ∧
      (∀ a ∈ s, ∀ b ∈ s, ¬ (a.left = b.left ∧ a.right = b.right ∧ a.bottom = b.top))) := Iff.rfl

theorem add_inv (fuel : Nat) (s s' : List Rect) (r : Rect)
    (h : RectSet.add fuel s r = some s') (hr : r.Nonempty) (hs : Inv s) : Inv s' :=
  RectSet.add_inv fuel s s' r h hr hs

theorem addMany_inv (fuel : Nat) (s ps s' : List Rect)
    (h : RectSet.addMany fuel s ps = some s') (hps : ∀ p ∈ ps, p.Nonempty) (hs : Inv s) : Inv s' :=
  RectSet.addMany_inv fuel s ps s' h hps hs

theorem translate_inv (s : List Rect) (d k : Int) (hs : Inv s) : Inv (RectSet.translate s d k) :=
  RectSet.translate_inv s d k hs

theorem clear_inv (s : List Rect) : Inv (RectSet.clear s) := RectSet.inv_nil

/-- **`contains` is exact**: it answers "yes" exactly when every cell of the query is covered. -/
theorem contains_iff_full (fuel : Nat) (s : List Rect) (q : Rect) (b : Bool) (hs : Inv s) (hq : q.Nonempty)
    (h : RectSet.contains fuel s q = some b) : (b = true ↔ ∀ l c, q.Mem l c → Covered s l c) :=
  RectSet.contains_iff fuel s q b hs hq h

/-- Without `NoVEdge` the shortcut of `contains` is wrong (DESIGN §7): the answer is "no" on an array that covers the
    query.  (The statement is the evaluation; that the array is disjoint, sorted, non-empty and covers the query is
    read off the literals.) -/
theorem contains_needs_noVEdge :
    RectSet.contains 10 [⟨0, 5, 6, 5⟩, ⟨2, 0, 4, 5⟩] ⟨2, 0, 2, 10⟩ = some false := by decide +kernel

/-- Without `NoStack` the index loop of `subtract` skips a member: `(3,3,1,1)` survives the subtraction of `(2,2,2,2)`.
    (The statement is the evaluation; that the array is disjoint, sorted, non-empty and has no shared vertical edge
    is read off the literals.  Not reachable through the API: `add` never leaves two stackable members, see `add_inv`.) -/
theorem subtract_needs_noStack :
    RectSet.subtract 100 [⟨0, 0, 1, 2⟩, ⟨1, 0, 1, 2⟩, ⟨2, 0, 1, 4⟩, ⟨3, 3, 1, 1⟩] ⟨2, 2, 2, 2⟩ =
      some [⟨0, 0, 3, 2⟩, ⟨3, 3, 1, 1⟩] := by decide +kernel

/-! ### subtract, and the full history statement -/

/-- **`subtract` is exact and preserves the invariant**: the index loop of `tickit_rectset_subtract` visits
    every member that meets the hole, although re-adding the remains rearranges the array under it. -/
theorem subtract_removes (fuel : Nat) (s s' : List Rect) (r : Rect) (hs : Inv s) (hr : r.Nonempty)
    (h : RectSet.subtract fuel s r = some s') : Inv s' ∧ ∀ l c, Covered s' l c → ¬ r.Mem l c :=
  RectSet.subtract_removes fuel s s' r hs hr h

theorem subtract_spec (fuel : Nat) (s s' : List Rect) (r : Rect) (hs : Inv s) (hr : r.Nonempty)
    (h : RectSet.subtract fuel s r = some s') :
    Inv s' ∧ ∀ l c, Covered s' l c ↔ (Covered s l c ∧ ¬ r.Mem l c) :=
  RectSet.subtract_spec fuel s s' r hs hr h

theorem run_exact (fuel : Nat) : ∀ (ops : List Op) (s s' : List Rect) (reg : Int → Int → Prop),
    runOps fuel s ops = some s' → Valid ops → Inv s → (∀ l c, Covered s l c ↔ reg l c) →
    Inv s' ∧ ∀ l c, Covered s' l c ↔ ops.foldl Op.apply reg l c := by
  intro ops s s' reg h hv hs hreg
  refine runOps_induct (P := fun s reg => Inv s ∧ ∀ l c, Covered s l c ↔ reg l c)
    ?_ ?_ ?_ ?_ ops s s' reg h hv ⟨hs, hreg⟩
  · exact fun s r s1 reg hr h1 hP =>
      ⟨add_inv fuel s s1 r h1 hr hP.1, fun l c => by rw [(add_region h1 hr hP.1.1).2, hP.2]; rfl⟩
  · intro s r s1 reg hr h1 hP
    obtain ⟨a1, a2⟩ := subtract_spec fuel s s1 r hP.1 hr h1
    exact ⟨a1, fun l c => by rw [a2, hP.2]; rfl⟩
  · exact fun s d k reg hP => ⟨translate_inv s d k hP.1, fun l c => by rw [covered_translate, hP.2]; rfl⟩
  · exact fun s reg _ => ⟨clear_inv s, fun l c => ⟨fun h => (covered_nil l c h).elim, False.elim⟩⟩

/-- **The property**: after any history of add/subtract/translate/clear from the empty set, the stored
    rectangles are non-empty, pairwise disjoint, sorted by top then left (`Inv`), and cover exactly the
    reference region. -/
theorem history_exact_full (fuel : Nat) (ops : List Op) (s : List Rect)
    (h : runOps fuel [] ops = some s) (hv : Valid ops) :
    Inv s ∧ ∀ l c, Covered s l c ↔ refRegion ops l c :=
  run_exact fuel ops [] s (fun _ _ => False) h hv (clear_inv [])
    (fun l c => ⟨fun h => (covered_nil l c h).elim, fun h => h.elim⟩)

/-- The queries after any history: exact answers. -/
theorem history_queries (fuel : Nat) (ops : List Op) (s : List Rect) (q : Rect)
    (h : runOps fuel [] ops = some s) (hv : Valid ops) (hq : q.Nonempty) :
    (RectSet.intersects s q = true ↔ ∃ l c, q.Mem l c ∧ refRegion ops l c) ∧
    ∀ fuel' b, RectSet.contains fuel' s q = some b → (b = true ↔ ∀ l c, q.Mem l c → refRegion ops l c) := by
  obtain ⟨hinv, hreg⟩ := history_exact_full fuel ops s h hv
  refine ⟨?_, fun fuel' b hb => ?_⟩
  · rw [intersects_iff s q hq hinv.1]
    simp only [hreg]
  · rw [contains_iff_full fuel' s q b hinv hq hb]
    simp only [hreg]

/-! ### termination: the fuel is only a proof device

On arrays that have the invariant, `add` and `subtract` return for every sufficiently large fuel (and, by
`add_mono`/`subtractFrom_mono`, with the same result for every larger fuel); so does every valid history.
The measure of a call of `add` is (cells of the rectangle, and cells just outside its vertical edges, already
covered; length of the array), lexicographically. -/

theorem add_terminates (s : List Rect) (r : Rect) (hs : Inv s) (hr : r.Nonempty) :
    ∃ N, ∀ fuel, N ≤ fuel → RectSet.add fuel s r ≠ none :=
  have ⟨N, h⟩ := RectSet.add_terminates ((inv_iff s).1 hs) hr
  ⟨N, fun fuel hf => have ⟨s', e⟩ := h fuel hf; e ▸ Option.some_ne_none s'⟩

theorem subtract_terminates (s : List Rect) (r : Rect) (hs : Inv s) (hr : r.Nonempty) :
    ∃ N, ∀ fuel, N ≤ fuel → RectSet.subtract fuel s r ≠ none :=
  have ⟨N, h⟩ := RectSet.subtract_terminates ((inv_iff s).1 hs) hr
  ⟨N, fun fuel hf => have ⟨s', e⟩ := h fuel hf; e ▸ Option.some_ne_none s'⟩

theorem run_terminates : ∀ (ops : List Op) (s : List Rect), Inv s → Valid ops →
    ∃ N, ∀ fuel, N ≤ fuel → ∃ s', runOps fuel s ops = some s' :=
  fun ops s hs => run_terminates_invS ops s ((inv_iff s).1 hs)

/-- **Every valid history runs to completion** (for every sufficiently large fuel), and then
    `history_exact_full` and `history_queries` apply to its result. -/
theorem history_terminates (ops : List Op) (hv : Valid ops) :
    ∃ N, ∀ fuel, N ≤ fuel → ∃ s, runOps fuel [] ops = some s ∧
      Inv s ∧ ∀ l c, Covered s l c ↔ refRegion ops l c := by
  obtain ⟨N, hN⟩ := run_terminates ops [] (clear_inv []) hv
  refine ⟨N, fun fuel hf => ?_⟩
  obtain ⟨s, hs⟩ := hN fuel hf
  exact ⟨s, hs, history_exact_full fuel ops s hs hv⟩

/-! ### the generated leaf function is the model's -/

theorem leaf_cmprect : Gen.Leaf.cmprect = RectSet.cmprect := by
  funext a b
  unfold Gen.Leaf.cmprect RectSet.cmprect
  simp only [decide_eq_true_eq]

/-! ### non-vacuity -/

/-- The history that lost cells before the repair in /repo: the model, like the repaired code, keeps every
    cell; all hypotheses of the theorems above are met by it. -/
example :
    runOps 100 [] [.add ⟨0, 0, 1, 2⟩, .add ⟨0, 4, 3, 2⟩, .add ⟨0, 2, 1, 2⟩] =
      some [⟨0, 0, 1, 6⟩, ⟨1, 4, 2, 2⟩] := by decide +kernel

example : Valid [.add ⟨0, 0, 1, 2⟩, .add ⟨0, 4, 3, 2⟩, .sub ⟨0, 1, 2, 4⟩, .xl 1 1] := by
  intro o ho; simp at ho; rcases ho with rfl | rfl | rfl | rfl <;> simp [Op.Valid, Rect.Nonempty]

example : runOps 100 [] [.add ⟨0, 0, 3, 3⟩, .sub ⟨1, 1, 1, 1⟩, .xl 1 1] =
    some [⟨1, 1, 1, 3⟩, ⟨2, 1, 1, 1⟩, ⟨2, 3, 1, 1⟩, ⟨3, 1, 1, 3⟩] := by decide +kernel

example : RectSet.contains 10 [⟨0, 0, 1, 6⟩, ⟨1, 4, 2, 2⟩] ⟨0, 4, 3, 2⟩ = some true := by decide +kernel

/-- `subtract` on an array that has the invariant, in a case where the remains of the split member merge
    with the member before it (the array is rearranged under the loop index). -/
example : Inv [⟨0, 0, 1, 2⟩, ⟨1, 0, 1, 4⟩, ⟨2, 3, 1, 1⟩] ∧
    RectSet.subtract 100 [⟨0, 0, 1, 2⟩, ⟨1, 0, 1, 4⟩, ⟨2, 3, 1, 1⟩] ⟨1, 2, 2, 2⟩ = some [⟨0, 0, 2, 2⟩] :=
  ⟨(inv_iff _).2 (by decide +kernel), by decide +kernel⟩

/-- Fuel matters and a small amount suffices: the overlapping add below splits into three bands and needs
    five levels of nesting (hypotheses of `add_terminates` met: the array has the invariant). -/
example : Inv [⟨0, 0, 2, 2⟩] ∧ RectSet.add 4 [⟨0, 0, 2, 2⟩] ⟨1, 1, 2, 2⟩ = none ∧
    RectSet.add 5 [⟨0, 0, 2, 2⟩] ⟨1, 1, 2, 2⟩ = some [⟨0, 0, 1, 2⟩, ⟨1, 0, 1, 3⟩, ⟨2, 1, 1, 2⟩] :=
  ⟨(inv_iff _).2 (by decide +kernel), by decide +kernel, by decide +kernel⟩

/-- The invariant holds of a concrete array with touching members, and `contains` answers "no" on it. -/
example : Inv [⟨0, 0, 1, 6⟩, ⟨1, 4, 2, 2⟩] ∧
    RectSet.contains 10 [⟨0, 0, 1, 6⟩, ⟨1, 4, 2, 2⟩] ⟨0, 3, 2, 2⟩ = some false :=
  ⟨(inv_iff _).2 (by decide +kernel), by decide +kernel⟩

end Tickit.Props.C05
