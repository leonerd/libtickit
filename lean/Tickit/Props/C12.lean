import Tickit.Proof.Modes
import Tickit.Proof.ModesW
import Tickit.Gen.ModeLayout
/-
  C12 — Every terminal mode switched on is switched off again by pause/teardown.

  A *history* is a list of `Modes.Op` (control settings, pens, text, the terminal's replies, pause,
  resume, teardown, the toplevel instance's tick) performed on a freshly built terminal, directly
  (`toplevel = false`) or owned by a toplevel instance.  `validFrom .running ops = some ph` says that the
  history keeps the documented contract (`Modes.phaseNext`, `Modes.opOk`) and ends in phase `ph`.
  The terminal is the byte-level VT mode-state interpreter `Modes.VT`, started in any mode state `m0`
  in which the four listed modes are off (`VModes.standard`; blink, shape, DECLRMM are arbitrary); the last
  section takes the hand-over state as a parameter (`VModes.handover`: the cursor may be hidden).

  The model is parameterised by `Modes.Cfg`: which of the five repair sites the working tree has
  (read from the source on every run into `Gen.ModeLayout`).  Every theorem is stated for every `Cfg` with hypotheses on
  its flags; the counterexample theorems show `keypadRecorded` and `repliesGuarded` necessary for the mode statements,
  `resumeResendsPen` for the pen, `rgb8Guarded` for `GetctlLastSet`.  The other full statements of the documented protocol
  carry `rgb8Guarded` without needing it (`teardown_restores_w` has none).
-/
namespace Tickit.Props.C12
open Tickit Tickit.Modes Tickit.Gen

/-! ### facts read from the C source (obligations that break when the source changes) -/

theorem mode_for_mouse_agrees (k : Int) :
    modeForMouse k = (ModeLayout.mode_for_mouse_cases.lookup k).getD ModeLayout.mode_for_mouse_default := by
  unfold modeForMouse
  simp only [ModeLayout.mode_for_mouse_cases, ModeLayout.mode_for_mouse_default, List.lookup]
  by_cases h1 : k = 1
  · subst h1; rfl
  · by_cases h2 : k = 2
    · subst h2; rfl
    · by_cases h3 : k = 3
      · subst h3; rfl
      · simp [h1, h2, h3, beq_eq_false_iff_ne.mpr h1, beq_eq_false_iff_ne.mpr h2, beq_eq_false_iff_ne.mpr h3]

theorem sgr_onoff_agrees :
    ModeLayout.sgr_on = [0, 30, 40, 1, 4, 3, 7, 9, 10, 5, 70] ∧
    ModeLayout.sgr_off = [0, 39, 49, 22, 24, 23, 27, 29, 10, 25, 75] := by decide

theorem pen_attr_order :
    [ModeLayout.pen_fg, ModeLayout.pen_bg, ModeLayout.pen_bold, ModeLayout.pen_under, ModeLayout.pen_italic,
     ModeLayout.pen_reverse, ModeLayout.pen_strike, ModeLayout.pen_altfont, ModeLayout.pen_blink,
     ModeLayout.pen_sizepos, ModeLayout.n_pen_attrs] = [1, 2, 3, 4, 5, 6, 7, 8, 9, 10, 11] ∧
    [ModeLayout.sizepos_normal, ModeLayout.sizepos_superscript, ModeLayout.sizepos_subscript] = [0, 2, 3] ∧
    [ModeLayout.under_none, ModeLayout.under_single, ModeLayout.under_double] = [0, 1, 2] := by decide

theorem mouse_enum :
    [ModeLayout.mouse_off, ModeLayout.mouse_click, ModeLayout.mouse_drag, ModeLayout.mouse_move] = [0, 1, 2, 3] := by decide

theorem ctl_numbers_distinct :
    [ModeLayout.ctl_altscreen, ModeLayout.ctl_cursorvis, ModeLayout.ctl_mouse, ModeLayout.ctl_cursorblink,
     ModeLayout.ctl_cursorshape, ModeLayout.ctl_icon_text, ModeLayout.ctl_title_text, ModeLayout.ctl_icontitle_text,
     ModeLayout.ctl_keypad_app, ModeLayout.ctl_colors, ModeLayout.ctl_cap_cursorshape, ModeLayout.ctl_cap_slrm,
     ModeLayout.ctl_cap_csi_sub_colon, ModeLayout.ctl_cap_rgb8].Nodup := by decide

/-- The shadow's bit-fields are wide enough for the values the documented API admits. -/
theorem shadow_widths :
    1 ≤ ModeLayout.w_mode_altscreen ∧ 1 ≤ ModeLayout.w_mode_cursorvis ∧ 1 ≤ ModeLayout.w_mode_cursorblink ∧
    2 ≤ ModeLayout.w_mode_cursorshape ∧ 2 ≤ ModeLayout.w_mode_mouse ∧ 1 ≤ ModeLayout.w_mode_keypad := by decide

/-- **shadow_inv** (full statement). While the terminal is running (in particular after every resume), the
    terminal's alternate-screen, cursor-visibility, mouse-reporting (with its SGR encoding) and keypad modes
    are exactly the values last set through the control interface. -/
def ShadowInv (cfg : Cfg) : Prop :=
  ∀ (toplevel : Bool) (m0 : VModes) (ops : List Op), m0.standard = true →
    validFrom .running ops = some .running →
    modesShown (vtAfter cfg toplevel m0 ops).modes (ghostAfter cfg toplevel ops) = true

theorem shadow_inv_partial (cfg : Cfg) (toplevel : Bool) (m0 : VModes) (ops : List Op)
    (hm0 : m0.standard = true) (hv : validFrom .running ops = some .running) (hnt : TriggerFree cfg toplevel ops) :
    modesShown (vtAfter cfg toplevel m0 ops).modes (ghostAfter cfg toplevel ops) = true := by
  have h := after_inv cfg toplevel m0 ops .running hm0 hv hnt
  exact modesShown_of cfg _ _ _ (h.shown rfl) h.ghost

theorem shadow_inv (cfg : Cfg) (hk : cfg.keypadRecorded = true) (hr : cfg.repliesGuarded = true) (hq : cfg.rgb8Guarded = true) : ShadowInv cfg :=
  fun toplevel m0 ops hm0 hv =>
    shadow_inv_partial cfg toplevel m0 ops hm0 hv (triggerFree_of_repaired cfg hk hr hq toplevel ops)

/-- **resume_reestablishes.** A pause/resume cycle appended to a history that left the terminal running
    ends with the terminal's modes equal to the values last set before the pause: resume re-establishes
    exactly the logical modes. -/
def ResumeReestablishes (cfg : Cfg) : Prop :=
  ∀ (toplevel : Bool) (m0 : VModes) (ops : List Op), m0.standard = true →
    validFrom .running ops = some .running →
    modesShown (vtAfter cfg toplevel m0 (ops ++ [.pause, .resume])).modes (ghostAfter cfg toplevel ops) = true

theorem resume_reestablishes_partial (cfg : Cfg) (toplevel : Bool) (m0 : VModes) (ops : List Op)
    (hm0 : m0.standard = true) (hv : validFrom .running ops = some .running)
    (hnt : TriggerFree cfg toplevel ops) :
    modesShown (vtAfter cfg toplevel m0 (ops ++ [.pause, .resume])).modes (ghostAfter cfg toplevel ops) = true := by
  have h := run_inv cfg [.pause, .resume] _ _ .running .running _ (after_inv cfg toplevel m0 ops .running hm0 hv hnt) rfl rfl
  rw [(after_append cfg toplevel m0 ops _).2]
  exact modesShown_of cfg _ _ _ (h.shown rfl) h.ghost

theorem resume_reestablishes (cfg : Cfg) (hk : cfg.keypadRecorded = true) (hr : cfg.repliesGuarded = true) (hq : cfg.rgb8Guarded = true) :
    ResumeReestablishes cfg :=
  fun toplevel m0 ops hm0 hv =>
    resume_reestablishes_partial cfg toplevel m0 ops hm0 hv (triggerFree_of_repaired cfg hk hr hq toplevel ops)

/-- **teardown_restores** (full statement). For every history inside the contract: if it ends paused or
    torn down the terminal is back in the modes it started in, with the default rendition; and
    destruction (from any phase) leaves it so. -/
def TeardownRestores (cfg : Cfg) : Prop :=
  ∀ (toplevel : Bool) (m0 : VModes) (ops : List Op) (ph : Phase), m0.standard = true →
    validFrom .running ops = some ph →
    (ph ≠ .running → restoredOk (vtAfter cfg toplevel m0 ops) m0 = true) ∧
    restoredOk (VT.feed (vtAfter cfg toplevel m0 ops) (sysAfter cfg toplevel ops).destroy) m0 = true

theorem teardown_restores_partial (cfg : Cfg) (toplevel : Bool) (m0 : VModes) (ops : List Op) (ph : Phase)
    (hm0 : m0.standard = true) (hv : validFrom .running ops = some ph) (hnt : TriggerFree cfg toplevel ops) :
    (ph ≠ .running → restoredOk (vtAfter cfg toplevel m0 ops) m0 = true) ∧
    restoredOk (VT.feed (vtAfter cfg toplevel m0 ops) (sysAfter cfg toplevel ops).destroy) m0 = true :=
  (after_inv cfg toplevel m0 ops ph hm0 hv hnt).restored (off_of_standard m0 hm0)

theorem teardown_restores (cfg : Cfg) (hk : cfg.keypadRecorded = true) (hr : cfg.repliesGuarded = true) (hq : cfg.rgb8Guarded = true) :
    TeardownRestores cfg :=
  fun toplevel m0 ops ph hm0 hv =>
    teardown_restores_partial cfg toplevel m0 ops ph hm0 hv (triggerFree_of_repaired cfg hk hr hq toplevel ops)

/-- **getctl_last_set** (full statement). After every history inside the contract, every control reads
    back the value last successfully set (booleans as 0/1). -/
def GetctlLastSet (cfg : Cfg) : Prop :=
  ∀ (toplevel : Bool) (ops : List Op) (ph : Phase), validFrom .running ops = some ph →
    getctlOk (sysAfter cfg toplevel ops).term.drv (ghostAfter cfg toplevel ops) = true

theorem getctl_last_set_partial (cfg : Cfg) (toplevel : Bool) (ops : List Op) (ph : Phase)
    (hv : validFrom .running ops = some ph) (hnt : TriggerFree cfg toplevel ops) :
    getctlOk (sysAfter cfg toplevel ops).term.drv (ghostAfter cfg toplevel ops) = true :=
  getctlOk_of cfg _ _ (after_inv cfg toplevel {} ops ph rfl hv hnt).ghost

theorem getctl_last_set (cfg : Cfg) (hk : cfg.keypadRecorded = true) (hr : cfg.repliesGuarded = true) (hq : cfg.rgb8Guarded = true) :
    GetctlLastSet cfg :=
  fun toplevel ops ph hv => getctl_last_set_partial cfg toplevel ops ph hv (triggerFree_of_repaired cfg hk hr hq toplevel ops)

/-! ### the unrepaired tree: counterexamples (the hypotheses above are necessary) -/

/-- Keypad application mode not recorded (the working tree as found; `t/60tickit-setup.c` expects the teardown
    bytes without `ESC >`, so the repair would fail it): `ctl keypad_app 1; unref` leaves the terminal in
    application-keypad mode. -/
def keypadHistory : List Op := [.ctl (some .keypadApp) 1]

theorem teardown_restores_counterexample_keypad (p u r q : Bool) : ¬ TeardownRestores ⟨false, p, u, r, q⟩ :=
  fun h => Bool.false_ne_true ((keypad_not_restored p u r q).symm.trans (h false {} keypadHistory .running rfl rfl).2)

/-- … and through the toplevel instance: `tick; unref` (the sequence `t/60tickit-setup.c` tests). -/
theorem teardown_restores_counterexample_setup (p u r q : Bool) : ¬ TeardownRestores ⟨false, p, u, r, q⟩ := by
  intro h
  have h1 := (h true {} [.tick false] .running rfl rfl).2
  clear h
  -- a finite run: all sixteen variants of the other flags in one evaluation
  revert p u r q
  decide +kernel

theorem getctl_last_set_counterexample_keypad (p u r q : Bool) : ¬ GetctlLastSet ⟨false, p, u, r, q⟩ := by
  intro h
  have h1 := h false keypadHistory .running rfl
  clear h
  revert p u r q
  decide +kernel

/-- Replies not guarded: `ctl cursorvis 0; <DECRPM ?25;1$y arrives>; unref` leaves the cursor hidden,
    and the control reads 1 after 0 was set. -/
def lateReplyHistory : List Op := [.ctl (some .cursorvis) 0, .replyMode 25 1]

theorem teardown_restores_counterexample_late_reply (k p u q : Bool) : ¬ TeardownRestores ⟨k, p, u, false, q⟩ :=
  fun h => Bool.false_ne_true ((late_reply_not_restored k p u q).symm.trans (h false {} lateReplyHistory .running rfl rfl).2)

/-- After the late reply the shadow says "visible" while the terminal's cursor is hidden: the next
    `ctl cursorvis 1` is taken for redundant and writes nothing, so the terminal and the value last set differ
    while running. -/
theorem shadow_inv_counterexample_late_reply (k p u q : Bool) : ¬ ShadowInv ⟨k, p, u, false, q⟩ := by
  intro h
  have h1 := h false {} (lateReplyHistory ++ [.ctl (some .cursorvis) 1]) rfl rfl
  clear h
  revert k p u q
  decide +kernel

theorem getctl_last_set_counterexample_late_reply (k p u q : Bool) : ¬ GetctlLastSet ⟨k, p, u, false, q⟩ := by
  intro h
  have h1 := h false lateReplyHistory .running rfl
  clear h
  revert k p u q
  decide +kernel

/-- Forced RGB8 capability not guarded (the working tree as found): the program switches 24-bit colours off
    through `xterm.cap_rgb8` ("the calling program has a better idea than our probing"), then the terminal's
    answer to the start-up SGR query arrives and switches them on again; the control reads 1 after 0 was set. -/
def forcedRgb8History : List Op := [.ctl (some .capRgb8) 0, .replySgr false true]

theorem getctl_last_set_counterexample_forced_rgb8 (k p u r : Bool) : ¬ GetctlLastSet ⟨k, p, u, r, false⟩ := by
  intro h
  have h1 := h false forcedRgb8History .running rfl
  clear h
  revert k p u r
  decide +kernel

example : validFrom .running forcedRgb8History = some .running ∧
    ¬ TriggerFree ⟨true, true, true, true, false⟩ false forcedRgb8History ∧
    TriggerFree ⟨true, true, true, true, true⟩ false forcedRgb8History := by decide +kernel

/-- **forced_rgb8_survives_late_reply.** With the guard, whatever the driver's state: the capability the
    program has forced is what the control reads after the terminal's SGR report has arrived. -/
theorem forced_rgb8_survives_late_reply (cfg : Cfg) (hq : cfg.rgb8Guarded = true) (d : XDrv) (v : Int) (colon rgb : Bool) :
    getctlInt (onDecrqssSgr cfg (setctlInt cfg d (some .capRgb8) v).1 colon rgb) (some .capRgb8) = some (bool01 v) := by
  have hw : ((wrapU ModeLayout.w_cap_rgb8 (bool01 v) : Nat) : Int) = bool01 v := wrapU1_bool_int v
  simp [setctlInt, onDecrqssSgr, getctlInt, hq, hw]

/-- The triggers are exactly what the partial theorems exclude: both counterexample histories are
    inside the contract and are *not* trigger-free for the unrepaired variants. -/
example : validFrom .running keypadHistory = some .running ∧ ¬ TriggerFree ⟨false, true, true, true, true⟩ false keypadHistory := by
  decide +kernel
example : validFrom .running lateReplyHistory = some .running ∧ ¬ TriggerFree ⟨true, true, true, false, true⟩ false lateReplyHistory := by
  decide +kernel

/-! ### non-vacuity: a non-trivial history inside the contract, for both kinds of terminal -/

/-- Replies, every listed control, a pen, text, two pause/resume cycles, redundant settings. -/
def sampleHistory : List Op :=
  [.replyMode 25 1, .replyMode 12 2, .replyShape 2, .await 50, .ctl (some .altscreen) 1, .ctl (some .cursorvis) 0,
   .ctl (some .mouse) 2, .ctl (some .mouse) 2, .ctl (some .keypadApp) 1, .ctl (some .cursorshape) 3,
   .setpen (fun a => if a = .bold then some 1 else if a = .fg then some 200 else none), .print [104, 105],
   .pause, .resume, .ctl (some .mouse) 3, .setstr (some .titleText) [116], .pause, .resume, .ctl (some .altscreen) 0]

example : validFrom .running sampleHistory = some .running := by decide +kernel
example : validFrom .running (sampleHistory ++ [.pause]) = some .paused := by decide +kernel
example : validFrom .running ([.tick false, .usealt 0] ++ sampleHistory ++ [.teardown]) = some .stopped := by decide +kernel

set_option maxRecDepth 8000 in
/-- The history really switches modes on (so the theorems are not about an idle terminal) … -/
example : (vtAfter Cfg.repaired false {} sampleHistory).modes.mouse = 1003 ∧
    (vtAfter Cfg.repaired false {} sampleHistory).modes.keypadApp = true ∧
    (vtAfter Cfg.repaired false {} sampleHistory).modes.cursorVisible = false := by decide +kernel

/-- … and the theorems apply to it. -/
example : modesShown (vtAfter Cfg.repaired false {} sampleHistory).modes (ghostAfter Cfg.repaired false sampleHistory) = true :=
  shadow_inv Cfg.repaired rfl rfl rfl false {} sampleHistory rfl (by decide +kernel)
example : restoredOk (VT.feed (vtAfter Cfg.repaired true {} sampleHistory) (sysAfter Cfg.repaired true sampleHistory).destroy) {} = true :=
  (teardown_restores Cfg.repaired rfl rfl rfl true {} sampleHistory .running rfl (by decide +kernel)).2
example : getctlOk (sysAfter Cfg.repaired false sampleHistory).term.drv (ghostAfter Cfg.repaired false sampleHistory) = true :=
  getctl_last_set Cfg.repaired rfl rfl rfl false sampleHistory .running (by decide +kernel)
/-- The partial theorems are not vacuous on the tree as found: a history with mouse, cursor and
    alternate screen but no keypad and prompt replies is trigger-free. -/
example : TriggerFree ⟨false, false, false, false, false⟩ false
    [.replyMode 25 1, .ctl (some .altscreen) 1, .ctl (some .cursorvis) 0, .ctl (some .mouse) 1, .pause, .resume] := by decide +kernel

/-- **pen_survives_pause** (full statement). After every history inside the contract that leaves the
    terminal running - whatever pause/resume cycles it contains - the terminal renders with the pen the
    program asked for: every attribute named by `setpen`/`chpen` since the terminal was built has, on the
    terminal, the value last asked for (`Modes.logicalPen`), so that is what later drawing is rendered with.
    Colours may carry RGB8 refinements: on a terminal whose RGB8 capability is on (probed or forced) the
    terminal renders the 24-bit colour, otherwise the palette index (`Modes.sem`).  `CapKept`: the capability
    is not changed while the pen holds a colour that depends on it. -/
def PenSurvivesPause (cfg : Cfg) : Prop :=
  ∀ (toplevel : Bool) (m0 : VModes) (ops : List Op), validFrom .running ops = some .running →
    CapKept cfg toplevel ops →
    penShown (sysAfter cfg toplevel ops).term.drv.rgbOn (vtAfter cfg toplevel m0 ops).attrs (ghostAfter cfg toplevel ops).pen = true

theorem pen_survives_pause_partial (cfg : Cfg) (toplevel : Bool) (m0 : VModes) (ops : List Op)
    (hv : validFrom .running ops = some .running) (hck : CapKept cfg toplevel ops) (hnt : PenTriggerFree cfg toplevel ops) :
    penShown (sysAfter cfg toplevel ops).term.drv.rgbOn (vtAfter cfg toplevel m0 ops).attrs (ghostAfter cfg toplevel ops).pen = true :=
  penShown_of _ _ _ (prun_inv cfg ops _ _ .running .running {} (build_pinv toplevel m0) hv hnt hck)

theorem pen_survives_pause (cfg : Cfg) (hr : cfg.resumeResendsPen = true) : PenSurvivesPause cfg :=
  fun toplevel m0 ops hv hck =>
    pen_survives_pause_partial cfg toplevel m0 ops hv hck (noPenTrigger_of_repaired cfg hr ops _)

/-- The cached pen *is* the logical pen, RGB8 refinements included (so "rendered with the cached pen" - what
    `tickit_term_resume` sends again - and "rendered with the pen asked for" are the same statement). -/
theorem cached_pen_is_logical (cfg : Cfg) (toplevel : Bool) (m0 : VModes) (ops : List Op) (ph : Phase)
    (hv : validFrom .running ops = some ph) (hck : CapKept cfg toplevel ops) (hnt : PenTriggerFree cfg toplevel ops) :
    (sysAfter cfg toplevel ops).term.pen = (ghostAfter cfg toplevel ops).pen :=
  (prun_inv cfg ops _ _ .running ph {} (build_pinv toplevel m0) hv hnt hck).pen

/-- `setpen bold; pause; resume`: the terminal renders plain, the pen asked for (and cached) is bold; a
    following `setpen bold` writes nothing. -/
def pausePenHistory : List Op := [.setpen (fun a => if a = .bold then some 1 else none), .pause, .resume]

theorem pen_survives_pause_counterexample (k u r q : Bool) : ¬ PenSurvivesPause ⟨k, false, u, r, q⟩ := by
  intro h
  have hck : ∀ k u r q, CapKept ⟨k, false, u, r, q⟩ false pausePenHistory := by decide +kernel
  have h1 := h false {} pausePenHistory rfl (hck k u r q)
  clear h hck
  revert k u r q
  decide +kernel

/-- … and the next `setpen bold` indeed emits no byte on the unrepaired variant. -/
theorem pause_pen_next_setpen_silent :
    ((sysAfter ⟨true, false, true, true, true⟩ false pausePenHistory).step ⟨true, false, true, true, true⟩
      (.setpen (fun a => if a = .bold then some 1 else none))).out = [] := by decide +kernel

example : validFrom .running pausePenHistory = some .running ∧ ¬ PenTriggerFree ⟨true, false, true, true, true⟩ false pausePenHistory := by
  decide +kernel

set_option maxRecDepth 8000 in
example : penShown (sysAfter Cfg.repaired true sampleHistory).term.drv.rgbOn (vtAfter Cfg.repaired true {} sampleHistory).attrs
    (ghostAfter Cfg.repaired true sampleHistory).pen = true :=
  pen_survives_pause Cfg.repaired rfl true {} sampleHistory (by decide +kernel) (by decide +kernel)

set_option maxRecDepth 8000 in
/-- The sample history's pen is visible on the terminal after two pause/resume cycles (bold, palette 200). -/
example : (vtAfter Cfg.repaired false {} sampleHistory).attrs .bold = 1 ∧
    (vtAfter Cfg.repaired false {} sampleHistory).attrs .fg = 200 := by decide +kernel

/-- The partial theorem is not vacuous on the tree as found: pens with pause/resume are fine as long as the
    pen cached at resume is a default one. -/
example : PenTriggerFree ⟨false, false, false, false, false⟩ false
    [.setpen (fun a => if a = .bold then some 1 else none), .setpen PenMap.empty, .pause, .resume,
     .setpen (fun a => if a = .bold then some 1 else none)] := by decide +kernel

/-- **resume_reestablishes_pen.** A pause/resume cycle appended to a history that left the terminal running
    ends with the terminal rendering the pen asked for before the pause - RGB8 refinements included: resume
    re-establishes the logical pen, and that is what later drawing is rendered with. -/
theorem resume_reestablishes_pen (cfg : Cfg) (hr : cfg.resumeResendsPen = true) (toplevel : Bool) (m0 : VModes)
    (ops : List Op) (hv : validFrom .running ops = some .running) (hck : CapKept cfg toplevel ops) :
    penShown (sysAfter cfg toplevel (ops ++ [.pause, .resume])).term.drv.rgbOn
      (vtAfter cfg toplevel m0 (ops ++ [.pause, .resume])).attrs (ghostAfter cfg toplevel ops).pen = true := by
  have h0 := prun_inv cfg ops _ _ .running .running {} (build_pinv toplevel m0) hv (noPenTrigger_of_repaired cfg hr ops _) hck
  have h := prun_inv cfg [.pause, .resume] _ _ .running .running _ h0 rfl (noPenTrigger_of_repaired cfg hr _ _)
    (by simp [capKeptRun, capKept, Sys.step, Term.pause, Term.resume])
  obtain ⟨e1, e2⟩ := after_append cfg toplevel m0 ops [.pause, .resume]
  rw [e1, e2]
  exact penShown_of _ _ _ h

def fgPen (v : Int) : PenMap := fun a => if a = .fg then some v else none

/-- The terminal reports 24-bit colours; the program draws with palette colour 5 refined to `#112233`, pauses
    and resumes. -/
def rgbHistory : List Op :=
  [.replySgr true true, .setpen (fgPen (rgbEnc 5 0x11 0x22 0x33)), .print [104], .pause, .resume]

/-- … then replaces the colour by the plain palette colour 5, and pauses and resumes again. -/
def rgbDroppedHistory : List Op := rgbHistory ++ [.setpen (fgPen 5), .pause, .resume]

set_option maxRecDepth 20000 in
example : validFrom .running rgbDroppedHistory = some .running ∧ CapKept Cfg.repaired false rgbDroppedHistory := by decide +kernel

set_option maxRecDepth 20000 in
/-- The theorem is about something: after the first cycle the terminal renders the 24-bit colour, after the
    second the palette colour that replaced it (not the stale 24-bit one). -/
example : (vtAfter Cfg.repaired false {} rgbHistory).attrs .fg = rgbCode 0x11 0x22 0x33 ∧
    (vtAfter Cfg.repaired false {} rgbDroppedHistory).attrs .fg = 5 := by decide +kernel

set_option maxRecDepth 20000 in
example : penShown (sysAfter Cfg.repaired false rgbDroppedHistory).term.drv.rgbOn
    (vtAfter Cfg.repaired false {} rgbDroppedHistory).attrs (ghostAfter Cfg.repaired false rgbDroppedHistory).pen = true :=
  pen_survives_pause Cfg.repaired rfl false {} rgbDroppedHistory (by decide +kernel) (by decide +kernel)

set_option maxRecDepth 20000 in
/-- Without the capability the same pen is rendered with its palette index, before and after the cycle. -/
example : (vtAfter Cfg.repaired false {} (rgbHistory.drop 1)).attrs .fg = 5 := by decide +kernel

set_option maxRecDepth 20000 in
/-- `CapKept` excludes exactly this: the capability is forced on while an RGB8 colour is in use; the terminal
    goes on rendering the palette index the colour was sent as. -/
example : ¬ CapKept Cfg.repaired false [.setpen (fgPen (rgbEnc 5 0x11 0x22 0x33)), .ctl (some .capRgb8) 1] ∧
    CapKept Cfg.repaired false [.ctl (some .capRgb8) 1, .setpen (fgPen (rgbEnc 5 0x11 0x22 0x33)), .ctl (some .capRgb8) 1] := by
  decide +kernel

/-! ### the output buffer: pause, teardown and destruction leave nothing pending -/

/-- The bytes that have reached the output function after building a terminal with an output buffer of `cap`
    bytes (`0`: none) and performing `ops` (the start-up queries are written before the buffer exists). -/
def deliveredAfter (cfg : Cfg) (toplevel : Bool) (cap : Nat) (ops : List Op) : Out :=
  (Sys.build toplevel).2 ++ (Sys.runB cfg (Sys.build toplevel).1 { cap := cap } ops).2.2

/-- **nothing_pending_after_pause.** Whatever the size of the output buffer: when the last call of a history
    inside the contract that ends paused or torn down returns, the buffer is empty and every byte written so
    far has reached the output function. -/
theorem nothing_pending_after_pause (cfg : Cfg) (toplevel : Bool) (cap : Nat) (ops : List Op) (ph : Phase)
    (hv : validFrom .running ops = some ph) (hne : ph ≠ .running) :
    (Sys.runB cfg (Sys.build toplevel).1 { cap := cap } ops).2.1.pend = [] ∧
    deliveredAfter cfg toplevel cap ops = (Sys.build toplevel).2 ++ (Sys.run cfg (Sys.build toplevel).1 ops).2 := by
  obtain ⟨h1, h2⟩ := runB_nothing_pending cfg ops ph (Sys.build toplevel).1 cap hv hne
  exact ⟨h1, by unfold deliveredAfter; rw [h2]⟩

/-- **teardown_restores_buffered.** … so the terminal, reading only what has been delivered at that moment, is
    back in the modes it started in with the default rendition. -/
theorem teardown_restores_buffered (cfg : Cfg) (hk : cfg.keypadRecorded = true) (hr : cfg.repliesGuarded = true) (hq : cfg.rgb8Guarded = true)
    (toplevel : Bool) (m0 : VModes) (cap : Nat) (ops : List Op) (ph : Phase) (hm0 : m0.standard = true)
    (hv : validFrom .running ops = some ph) (hne : ph ≠ .running) :
    restoredOk (VT.feed ⟨.ground, m0, Attrs.default⟩ (deliveredAfter cfg toplevel cap ops)) m0 = true := by
  rw [(nothing_pending_after_pause cfg toplevel cap ops ph hv hne).2, feed_append]
  exact (teardown_restores cfg hk hr hq toplevel m0 ops ph hm0 hv).1 hne

theorem teardown_restores_buffered_partial (cfg : Cfg) (toplevel : Bool) (m0 : VModes) (cap : Nat) (ops : List Op) (ph : Phase)
    (hm0 : m0.standard = true) (hv : validFrom .running ops = some ph) (hne : ph ≠ .running)
    (hnt : TriggerFree cfg toplevel ops) :
    restoredOk (VT.feed ⟨.ground, m0, Attrs.default⟩ (deliveredAfter cfg toplevel cap ops)) m0 = true := by
  rw [(nothing_pending_after_pause cfg toplevel cap ops ph hv hne).2, feed_append]
  exact (teardown_restores_partial cfg toplevel m0 ops ph hm0 hv hnt).1 hne

/-- Destruction (of the terminal, or of the toplevel instance while `extra` other holders keep the terminal)
    ends with a flush: nothing stays in the buffer, whatever it held. -/
theorem destruction_leaves_nothing_pending (b : OBuf) (s : Sys) (extra : Nat) :
    (b.call (s.dropOwner extra).2 true).1.pend = [] ∧ (b.call (s.dropOwner extra).2 true).2 = b.pend ++ (s.dropOwner extra).2 :=
  (OBuf.call_stream b _ true).2 rfl

/-- Non-vacuity: with a buffer of 8 bytes, a mode setting stays in the buffer; pause delivers it together with
    the resets. -/
example : (Sys.runB Cfg.repaired (Sys.build false).1 { cap := 8 } [.ctl (some .cursorvis) 0]).2.1.pend = visOff ∧
    (Sys.runB Cfg.repaired (Sys.build false).1 { cap := 8 } [.ctl (some .cursorvis) 0, .pause]).2.2 = visOff ++ visOn ++ sgrReset ∧
    (Sys.runB Cfg.repaired (Sys.build false).1 { cap := 8 } [.ctl (some .cursorvis) 0, .pause]).2.1.pend = [] := by decide +kernel

/-! ### a terminal shared between the toplevel instance and another holder -/

/-- **destroy_shared_restores.** Destroying the toplevel instance restores the terminal whether or not the
    terminal object survives it (`extra` references held by others): the bytes are those of the exclusive case. -/
theorem destroy_shared_restores_partial (cfg : Cfg) (m0 : VModes) (ops : List Op) (ph : Phase) (extra : Nat)
    (hm0 : m0.standard = true) (hv : validFrom .running ops = some ph) (hnt : TriggerFree cfg true ops) :
    restoredOk (VT.feed (vtAfter cfg true m0 ops) ((sysAfter cfg true ops).dropOwner extra).2) m0 = true := by
  have ht : (sysAfter cfg true ops).top.isSome = true := by
    unfold sysAfter; rw [run_top]; rfl
  rw [dropOwner_top _ extra ht]
  exact (teardown_restores_partial cfg true m0 ops ph hm0 hv hnt).2

theorem destroy_shared_restores (cfg : Cfg) (hk : cfg.keypadRecorded = true) (hr : cfg.repliesGuarded = true) (hq : cfg.rgb8Guarded = true)
    (m0 : VModes) (ops : List Op) (ph : Phase) (extra : Nat) (hm0 : m0.standard = true)
    (hv : validFrom .running ops = some ph) :
    restoredOk (VT.feed (vtAfter cfg true m0 ops) ((sysAfter cfg true ops).dropOwner extra).2) m0 = true :=
  destroy_shared_restores_partial cfg m0 ops ph extra hm0 hv (triggerFree_of_repaired cfg hk hr hq true ops)

/-- The terminal that survives is torn down; dropping its last reference later writes nothing more. -/
theorem shared_terminal_left_torn_down (cfg : Cfg) (ops : List Op) (extra : Nat) (left : Sys)
    (h : ((sysAfter cfg true ops).dropOwner extra).1 = some left) :
    left.term.state = .unstarted ∧ left.destroy = [] ∧ left.top = none :=
  dropOwner_left _ extra (by unfold sysAfter; rw [run_top]; rfl) left h

set_option maxRecDepth 8000 in
/-- Non-vacuity: after the setup the shared terminal is in the alternate screen with mouse reporting, and
    destroying the instance while one other reference exists leaves a terminal object (torn down). -/
example : (vtAfter Cfg.repaired true {} [.tick false]).modes.altscreen = true ∧
    (vtAfter Cfg.repaired true {} [.tick false]).modes.mouse = 1002 ∧
    (((sysAfter Cfg.repaired true [.tick false]).dropOwner 1).1.map fun l => l.term.state) = some .unstarted ∧
    ((sysAfter Cfg.repaired true [.tick false]).dropOwner 0).1.isNone = true := by decide +kernel

/-! ### a control set before the terminal's reply to the start-up query arrives -/

/-- **shape_survives_late_reply.** Whatever the driver knows about the terminal so far (in particular before
    it has learnt that the terminal has DECSCUSR at all): a cursor shape the program sets is what the control
    reads after the terminal's DECSCUSR report has arrived. -/
theorem shape_survives_late_reply (cfg : Cfg) (hr : cfg.repliesGuarded = true) (d : XDrv) (v r : Int)
    (hv : 0 ≤ v ∧ v ≤ 3) :
    getctlInt (onDecrqssShape cfg (setctlInt cfg d (some .cursorshape) v).1 r) (some .cursorshape) = some v := by
  have hw : ModeLayout.w_mode_cursorshape = 2 ∧ ModeLayout.w_initialised_cursorshape = 2 := by decide
  have h2 : ((wrapU 2 v : Nat) : Int) = v := by rw [wrapU2_small v hv]; omega
  unfold setctlInt
  simp only [hr, hw.1, hw.2, if_true]
  split
  · rename_i hc
    simp [getctlInt, onDecrqssShape, hr, hc.1, hc.2]
  · simp [getctlInt, onDecrqssShape, hr, wrapU_w2, h2]

/-- Non-vacuity, as a history: shape 2 is set before any reply, then the terminal reports shape 1 (and that it
    blinks); the control still reads 2. -/
example : getctlInt (sysAfter Cfg.repaired false [.ctl (some .cursorshape) 2, .replyShape 1, .replyMode 12 1]).term.drv
    (some .cursorshape) = some 2 ∧
    validFrom .running [.ctl (some .cursorshape) 2, .replyShape 1, .replyMode 12 1] = some .running := by decide +kernel

/-! ### the mode state at hand-over as a parameter: a terminal handed over with its cursor hidden -/

/-- **handover_restores** (full statement: `handover_restores`, `handover_restores_history_partial`;
    `handover_restores_partial` is the form per ending, for a hidden cursor).  The mode
    state the terminal is handed over in is a parameter of the history, not a constant: for every such state
    (`VModes.handover`: cursor visible or hidden), every history inside the contract whose replies are those of
    that terminal and which leaves cursor visibility alone when the cursor was handed over hidden
    (`handoverOk`), the terminal reading the whole stream is back in *that* state after pause / teardown, and
    after destruction. -/
def HandoverRestores (cfg : Cfg) : Prop :=
  ∀ (toplevel : Bool) (m0 : VModes) (ops : List Op) (ph : Phase), m0.handover = true →
    validFrom .running ops = some ph → ops.all (handoverOk m0) = true →
    (ph ≠ .running → restoredOk (vtAfter cfg toplevel m0 ops) m0 = true) ∧
    restoredOk (VT.feed (vtAfter cfg toplevel m0 ops) (sysAfter cfg toplevel ops).destroy) m0 = true

/-- A DECRPM reply for mode 25 other than "set" leaves the driver's shadow alone. -/
theorem modereport_reset_keeps_shadow (cfg : Cfg) (d : XDrv) (v : Int) (hv : v ≠ 1) :
    (onModereport cfg d 25 v).mode = d.mode := by
  simp [onModereport, hv]

/-- What the driver's shadow says while the program leaves cursor visibility alone. -/
structure VisUntouched (d : XDrv) : Prop where
  vis : d.mode.cursorvis = 1
  mouse : d.mode.mouse ≤ 3

theorem wrapU_mouse_le (v : Int) : wrapU ModeLayout.w_mode_mouse v ≤ 3 := wrapU2_le v

theorem applyReply_untouched (cfg : Cfg) (d : XDrv) (r : Reply) (h : VisUntouched d) : VisUntouched (applyReply cfg d r) := by
  obtain ⟨_, e3, _, _, e2 | ⟨e2, _⟩⟩ := applyReply_mode cfg d r
  · exact ⟨e2.trans h.vis, e3 ▸ h.mouse⟩
  · exact ⟨e2, e3 ▸ h.mouse⟩

theorem foldl_untouched (cfg : Cfg) : ∀ (rs : List Reply) (d : XDrv), VisUntouched d → VisUntouched (rs.foldl (applyReply cfg) d)
  | [], _, h => h
  | r :: rs, d, h => foldl_untouched cfg rs _ (applyReply_untouched cfg d r h)

theorem setctl_untouched (cfg : Cfg) (d : XDrv) (c : Option Ctl) (v : Int) (hc : c ≠ some .cursorvis)
    (h : VisUntouched d) : VisUntouched (setctlInt cfg d c v).1 :=
  ⟨((setctl_frame cfg d c v).1 hc).1.trans h.vis, (setctl_frame cfg d c v).2 h.mouse⟩

theorem step_untouched (cfg : Cfg) (s : Sys) (op : Op) (ht : touchesVis op = false) (h : VisUntouched s.term.drv) :
    VisUntouched (s.step cfg op).sys.term.drv := by
  have hreply : ∀ r, VisUntouched (Term.reply cfg s.term r).drv := fun r => by
    unfold Term.reply; split
    · exact foldl_untouched cfg _ _ h
    · exact h
  cases op with
  | ctl c v =>
    have hc : c ≠ some .cursorvis := by intro e; subst e; simp [touchesVis] at ht
    exact setctl_untouched cfg _ c v hc h
  | replyMode _ _ | replyShape _ | replySgr _ _ => exact hreply _
  | setpen _ | chpen _ | setstr _ _ | print _ | clear | flush | pause | resume => exact h
  | await m => exact (Term.await_fields s.term m).1 ▸ h
  | teardown => simp only [Sys.step, Term.teardown]; split <;> exact h
  | tick nosetup =>
    -- no setup: `touchesVis` excludes the tick that runs it
    rcases step_tick cfg s nosetup with ⟨_, _, hcond, _⟩ | ⟨_, e, _⟩
    · simp [show nosetup = true by simpa [touchesVis] using ht] at hcond
    · rw [e]; exact h
  | usealt v => simp only [Sys.step]; split <;> exact h

/-- **the shadow is not the hand-over state.**  As long as the program leaves cursor visibility alone, the
    driver's shadow keeps saying "visible", whatever the terminal replies. -/
theorem run_untouched (cfg : Cfg) : ∀ (ops : List Op) (s : Sys), ops.all (fun op => !touchesVis op) = true →
    VisUntouched s.term.drv → VisUntouched (Sys.run cfg s ops).1.term.drv
  | [], _, _, h => h
  | op :: rest, s, ht, h => by
    simp only [List.all_cons, Bool.and_eq_true, Bool.not_eq_true'] at ht
    exact run_untouched cfg rest _ ht.2 (step_untouched cfg s op ht.1 h)

theorem build_untouched (toplevel : Bool) : VisUntouched (Sys.build toplevel).1.term.drv := ⟨rfl, by cases toplevel <;> decide⟩

/-- On a terminal handed over with a hidden cursor, the contract makes every operation leave visibility alone. -/
theorem handoverOk_hidden (m0 : VModes) (h0 : m0.cursorVisible = false) (ops : List Op)
    (h : ops.all (handoverOk m0) = true) : ops.all (fun op => !touchesVis op) = true := by
  rw [List.all_eq_true] at h ⊢
  intro op hop
  have := h op hop
  simp [handoverOk, h0] at this
  simp [this.2]

/-- **handover_restores_partial.**  A terminal handed over with its cursor hidden, any history inside the hand-over
    contract (of which only "the operations leave cursor visibility alone" is used; replies are not looked at): the bytes
    of pause, of teardown, of destruction and of the driver's resume leave the cursor visibility of a terminal that reads
    them as it is - "only modes the library switched on are switched back". -/
theorem handover_restores_partial (cfg : Cfg) (toplevel : Bool) (m0 : VModes) (ops : List Op)
    (h0 : m0.cursorVisible = false) (hok : ops.all (handoverOk m0) = true) (m : VModes) (A : Attrs) :
    let s := sysAfter cfg toplevel ops
    (VT.feed ⟨.ground, m, A⟩ (Term.pause s.term).2).modes.cursorVisible = m.cursorVisible ∧
    (VT.feed ⟨.ground, m, A⟩ (Term.teardown s.term).2).modes.cursorVisible = m.cursorVisible ∧
    (VT.feed ⟨.ground, m, A⟩ s.destroy).modes.cursorVisible = m.cursorVisible ∧
    (VT.feed ⟨.ground, m, A⟩ (drvResume (Term.pause s.term).1.drv)).modes.cursorVisible = m.cursorVisible := by
  intro s
  obtain ⟨hv, hm⟩ : VisUntouched s.term.drv :=
    run_untouched cfg ops _ (handoverOk_hidden m0 h0 ops hok) (build_untouched toplevel)
  -- the shadow says "visible": neither `stop` nor `resume` writes DECTCEM
  have hT : (VT.feed ⟨.ground, m, A⟩ (drvTeardown s.term.drv)).modes.cursorVisible = m.cursorVisible := by
    rw [feed_drvTeardown _ _ _ hm]; simp [hv]
  refine ⟨hT, ?_, ?_, ?_⟩
  · simp only [Term.teardown]; split
    · exact hT
    · rfl
  · rw [Sys.destroy_eq]; split
    · exact hT
    · rfl
  · show (VT.feed ⟨.ground, m, A⟩ (drvResume s.term.drv)).modes.cursorVisible = _
    rw [feed_drvResume _ _ _ hm]; simp [hv]

/-- A terminal handed over with its cursor hidden (blink, shape arbitrary). -/
def hiddenM0 : VModes := { cursorVisible := false }

/-- The terminal says so, the program switches other modes on, pauses, resumes, tears down, is destroyed. -/
def hiddenHistory : List Op :=
  [.replyMode 25 2, .ctl (some .altscreen) 1, .ctl (some .mouse) 2, .pause, .resume, .teardown]

/-- Non-vacuity, and the whole statement on a concrete history of the working tree: inside the contract, and the
    terminal that reads the whole stream ends hidden, as it started - after the pause, after the teardown and
    after destruction. -/
theorem handover_restores_example :
    hiddenM0.handover = true ∧ validFrom .running hiddenHistory = some .stopped ∧
    hiddenHistory.all (handoverOk hiddenM0) = true ∧
    restoredOk (vtAfter Cfg.tree false hiddenM0 (hiddenHistory.take 4)) hiddenM0 = true ∧
    restoredOk (vtAfter Cfg.tree false hiddenM0 hiddenHistory) hiddenM0 = true ∧
    restoredOk (VT.feed (vtAfter Cfg.tree false hiddenM0 hiddenHistory) (sysAfter Cfg.tree false hiddenHistory).destroy) hiddenM0 = true := by
  decide +kernel

/-- The contract clause is necessary: the shadow has one bit and no record of the hand-over state, so a program
    that hides the (already hidden) cursor through the control gets it shown by destruction - whatever the
    repairs. -/
theorem handover_hide_not_restored (k p u r q : Bool) :
    restoredOk (VT.feed (vtAfter ⟨k, p, u, r, q⟩ false hiddenM0 [.ctl (some .cursorvis) 0])
      (sysAfter ⟨k, p, u, r, q⟩ false [.ctl (some .cursorvis) 0]).destroy) hiddenM0 = false := by
  revert k p u r q
  decide +kernel

/-- … and one that asks for a visible cursor gets none: the driver takes the setting for redundant. -/
theorem handover_show_not_shown (k p u r q : Bool) :
    (vtAfter ⟨k, p, u, r, q⟩ false hiddenM0 [.ctl (some .cursorvis) 1]).modes.cursorVisible = false := by
  revert k p u r q
  decide +kernel

/-! ## Operations between pause and resume (wide protocol `phaseNextW`)

  The property quantifies over control settings, pen changes and pause/resume cycles in any order: a program may go on
  setting controls and pens while the terminal is paused, and end without a resume.  What it switched on then is on
  the terminal; teardown / destruction has to switch it back, resume has to re-establish the values last set. -/

theorem covered_of_off (sh : Shadow) (m : VModes) (h : Off m) : Covered sh m :=
  (covH_of_offH true sh m h.offH nofun).covered

theorem covered_of_shown (sh : Shadow) (m : VModes) (h : Shown sh m) : Covered sh m :=
  (covH_of_shown sh m h).covered

/-- `stop` / `pause` read by a terminal whose modes are covered by the shadow: every listed mode is off and the
    rendition is the default one - whatever was set, in whatever order, since the last pause. -/
theorem teardown_off_covered (d : XDrv) (m : VModes) (A : Attrs) (hm : d.mode.mouse ≤ 3) (h : Covered d.mode m) :
    ∃ m', VT.feed ⟨.ground, m, A⟩ (drvTeardown d) = ⟨.ground, m', Attrs.default⟩ ∧ Off m' := by
  obtain ⟨m', hf, ho, _⟩ := teardown_offH true d m A hm h.covH
  exact ⟨m', hf, ho.off⟩

/-- `resume` read by such a terminal: the listed modes show what the shadow holds. -/
theorem resume_shown_covered (d : XDrv) (m : VModes) (A : Attrs) (hm : d.mode.mouse ≤ 3) (h : Covered d.mode m) :
    ∃ m', VT.feed ⟨.ground, m, A⟩ (drvResume d) = ⟨.ground, m', A⟩ ∧ Shown d.mode m' :=
  resume_shown d m A hm h.covH

/-- `setctl_int` keeps the terminal covered by the shadow - in any phase, in particular between pause and resume. -/
theorem setctl_covered (cfg : Cfg) (d : XDrv) (c : Option Ctl) (v : Int) (m : VModes) (A : Attrs)
    (hc : Covered d.mode m) (hm : d.mode.mouse ≤ 3)
    (hkz : cfg.keypadRecorded = false → d.mode.keypad = 0)
    (hmouse : c = some .mouse → 0 ≤ v ∧ v ≤ 3)
    (hkp : c = some .keypadApp → cfg.keypadRecorded = true ∨ v = 0) :
    ∃ m', VT.feed ⟨.ground, m, A⟩ (setctlInt cfg d c v).2.1 = ⟨.ground, m', A⟩ ∧
      Covered (setctlInt cfg d c v).1.mode m' ∧ (setctlInt cfg d c v).1.mode.mouse ≤ 3 ∧
      (cfg.keypadRecorded = false → (setctlInt cfg d c v).1.mode.keypad = 0) := by
  obtain ⟨m', hf, u, hk'⟩ := setctl_upd cfg d c v m A hm hkz hmouse hkp
  exact ⟨m', hf, (hc.covH.upd u fun _ => rfl).covered, (setctl_frame cfg d c v).2 hm, hk'⟩

/-- The clause for settings made while paused: the terminal has been paused (its listed modes are off), the program
    sets any control to any admissible value, and the terminal is torn down / destroyed without a resume: every
    listed mode is off again and the rendition is the default one. -/
theorem paused_setctl_teardown_restores (cfg : Cfg) (hk : cfg.keypadRecorded = true) (d : XDrv) (c : Option Ctl) (v : Int)
    (m : VModes) (A : Attrs) (hoff : Off m) (hm : d.mode.mouse ≤ 3) (hmouse : c = some .mouse → 0 ≤ v ∧ v ≤ 3) :
    ∃ m', VT.feed ⟨.ground, m, A⟩ ((setctlInt cfg d c v).2.1 ++ drvTeardown (setctlInt cfg d c v).1) = ⟨.ground, m', Attrs.default⟩ ∧ Off m' := by
  obtain ⟨m1, hf, hc, hm1, _⟩ := setctl_covered cfg d c v m A (covered_of_off d.mode m hoff) hm (by simp [hk]) hmouse (fun _ => Or.inl hk)
  obtain ⟨m2, hf2, ho⟩ := teardown_off_covered _ m1 A hm1 hc
  exact ⟨m2, by rw [feed_append, hf, hf2], ho⟩

/-- Any number of control settings, one after the other (what a program does between pause and the end). -/
def setctls (cfg : Cfg) (d : XDrv) : List (Option Ctl × Int) → XDrv × Out
  | [] => (d, [])
  | cv :: rest => ((setctls cfg (setctlInt cfg d cv.1 cv.2).1 rest).1,
                   (setctlInt cfg d cv.1 cv.2).2.1 ++ (setctls cfg (setctlInt cfg d cv.1 cv.2).1 rest).2)

theorem setctls_covered (cfg : Cfg) (hk : cfg.keypadRecorded = true) : ∀ (cs : List (Option Ctl × Int)) (d : XDrv) (m : VModes) (A : Attrs),
    Covered d.mode m → d.mode.mouse ≤ 3 → (∀ cv ∈ cs, cv.1 = some .mouse → 0 ≤ cv.2 ∧ cv.2 ≤ 3) →
    ∃ m', VT.feed ⟨.ground, m, A⟩ (setctls cfg d cs).2 = ⟨.ground, m', A⟩ ∧
      Covered (setctls cfg d cs).1.mode m' ∧ (setctls cfg d cs).1.mode.mouse ≤ 3
  | [], d, m, A, hc, hm, _ => ⟨m, rfl, hc, hm⟩
  | cv :: rest, d, m, A, hc, hm, hv => by
    obtain ⟨m1, hf, hc1, hm1, _⟩ := setctl_covered cfg d cv.1 cv.2 m A hc hm (by simp [hk]) (hv cv (by simp)) (fun _ => Or.inl hk)
    obtain ⟨m2, hf2, hc2, hm2⟩ := setctls_covered cfg hk rest _ m1 A hc1 hm1 (fun x hx => hv x (by simp [hx]))
    exact ⟨m2, by simp only [setctls]; rw [feed_append, hf, hf2], hc2, hm2⟩

/-- The clause the property states for settings made while paused, over all such histories: the terminal is
    paused (its listed modes are off; any rendition), the program sets any controls to any admissible values in any
    order, any number of times, and the terminal is then stopped (teardown / destruction) without a resume: the
    terminal reading all those bytes has every listed mode off and renders with the default rendition. -/
theorem paused_settings_teardown_restores (cfg : Cfg) (hk : cfg.keypadRecorded = true) (cs : List (Option Ctl × Int))
    (d : XDrv) (m : VModes) (A : Attrs) (hoff : Off m) (hm : d.mode.mouse ≤ 3)
    (hv : ∀ cv ∈ cs, cv.1 = some .mouse → 0 ≤ cv.2 ∧ cv.2 ≤ 3) :
    ∃ m', VT.feed ⟨.ground, m, A⟩ ((setctls cfg d cs).2 ++ drvTeardown (setctls cfg d cs).1) = ⟨.ground, m', Attrs.default⟩ ∧ Off m' := by
  obtain ⟨m1, hf, hc, hm1⟩ := setctls_covered cfg hk cs d m A (covered_of_off d.mode m hoff) hm hv
  obtain ⟨m2, hf2, ho⟩ := teardown_off_covered _ m1 A hm1 hc
  exact ⟨m2, by rw [feed_append, hf, hf2], ho⟩

/-- ... and resumed instead, the terminal shows exactly what the shadow (the values last set) holds. -/
theorem paused_settings_resume_shows (cfg : Cfg) (hk : cfg.keypadRecorded = true) (cs : List (Option Ctl × Int))
    (d : XDrv) (m : VModes) (A : Attrs) (hoff : Off m) (hm : d.mode.mouse ≤ 3)
    (hv : ∀ cv ∈ cs, cv.1 = some .mouse → 0 ≤ cv.2 ∧ cv.2 ≤ 3) :
    ∃ m', VT.feed ⟨.ground, m, A⟩ ((setctls cfg d cs).2 ++ drvResume (setctls cfg d cs).1) = ⟨.ground, m', A⟩ ∧
      Shown (setctls cfg d cs).1.mode m' := by
  obtain ⟨m1, hf, hc, hm1⟩ := setctls_covered cfg hk cs d m A (covered_of_off d.mode m hoff) hm hv
  obtain ⟨m2, hf2, ho⟩ := resume_shown_covered _ m1 A hm1 hc
  exact ⟨m2, by rw [feed_append, hf, hf2], ho⟩

-- non-vacuity: the settings do switch a mode on at the terminal before the stop
example : (VT.feed ⟨.ground, {}, Attrs.default⟩ (setctls Cfg.repaired {} [(some .mouse, 1), (some .altscreen, 1)]).2).modes.mouse = 1000 ∧
    (setctls Cfg.repaired {} [(some .mouse, 1), (some .altscreen, 1)]).1.mode.altscreen = 1 := by decide +kernel

/-- The wide protocol extends the documented one. -/
theorem phaseNextW_extends (ph ph' : Phase) (op : Op) (h : phaseNext ph op = some ph') :
    phaseNextW (PhaseW.ofPhase ph) op = some (PhaseW.ofPhase ph') := by
  cases ph <;> cases op <;> simp [phaseNext] at h <;> subst h <;> rfl

theorem validFromW_extends : ∀ (ops : List Op) (ph ph' : Phase), validFrom ph ops = some ph' →
    validFromW (PhaseW.ofPhase ph) ops = some (PhaseW.ofPhase ph')
  | [], ph, ph', h => by cases h; rfl
  | op :: rest, ph, ph', h => by
    obtain ⟨hok, p1, hp, h⟩ := validFrom_cons h
    simp only [validFromW]
    rw [if_pos hok, phaseNextW_extends ph p1 op hp]
    exact validFromW_extends rest p1 ph' h

/-- The full clause over the wide protocol (operations between pause and resume admitted): `teardown_restores_w`,
    `teardown_restores_w_partial`. -/
def TeardownRestoresW (cfg : Cfg) : Prop :=
  ∀ (toplevel : Bool) (m0 : VModes) (ops : List Op) (ph : PhaseW), m0.standard = true →
    validFromW .running ops = some ph →
    ((ph = .paused ∨ ph = .stopped) → restoredOk (vtAfter cfg toplevel m0 ops) m0 = true) ∧
    restoredOk (VT.feed (vtAfter cfg toplevel m0 ops) (sysAfter cfg toplevel ops).destroy) m0 = true

/-- Two example histories: a control switched on / a pen changed and text drawn while paused, no resume. -/
def pausedMouseHistory : List Op := [.ctl (some .altscreen) 1, .ctl (some .cursorvis) 0, .pause, .ctl (some .mouse) 1]
def pausedPenHistory : List Op :=
  [.ctl (some .mouse) 2, .pause, .resume, .pause,
   .setpen (fun a => if a = .bold then some 1 else if a = .bg then some 4 else none), .print [91, 115, 93]]

example : validFrom .running pausedMouseHistory = none ∧ validFromW .running pausedMouseHistory = some .pausedOps := by decide +kernel
example : validFromW .running (pausedPenHistory ++ [.teardown]) = some .stopped := by decide +kernel
-- the mode is on / the pen in force before the ending ...
set_option maxRecDepth 16000 in
example : (vtAfter Cfg.repaired false {} pausedMouseHistory).modes.mouse = 1000 ∧
    (vtAfter Cfg.repaired false {} pausedPenHistory).attrs .bold = 1 ∧
    (vtAfter Cfg.repaired false {} pausedPenHistory).attrs .bg = 4 := by decide +kernel
-- ... and switched back by destruction / teardown
theorem paused_ops_restored_example :
    restoredOk (VT.feed (vtAfter Cfg.repaired false {} pausedMouseHistory) (sysAfter Cfg.repaired false pausedMouseHistory).destroy) {} = true ∧
    restoredOk (vtAfter Cfg.repaired false {} (pausedPenHistory ++ [.teardown])) {} = true ∧
    restoredOk (vtAfter Cfg.tree false {} (pausedPenHistory ++ [.teardown])) {} = true := by decide +kernel
-- resume after settings made while paused shows the values last set
set_option maxRecDepth 16000 in
example : modesShown (vtAfter Cfg.repaired false {} (pausedMouseHistory ++ [.ctl (some .altscreen) 0, .resume])).modes
    (ghostAfter Cfg.repaired false (pausedMouseHistory ++ [.ctl (some .altscreen) 0, .resume])) = true := by decide +kernel

/-! ## `TeardownRestoresW` and `HandoverRestores` (`Proof/ModesW.lean`)

  From the invariant `WInv` of the wide protocol (every listed mode that is on at the terminal is on in the shadow,
  relative to the hand-over cursor visibility): kept by every operation in every phase, by replies whenever libtermkey
  hands them on (also those buffered while it was stopped), and by the toplevel instance's setup run while paused. -/

theorem handover_of_standard (m0 : VModes) (h : m0.standard = true) : m0.handover = true ∧ m0.cursorVisible = true := by
  simp only [VModes.standard, Bool.and_eq_true, Bool.not_eq_true', beq_iff_eq] at h
  simp only [VModes.handover, Bool.and_eq_true, Bool.not_eq_true', beq_iff_eq]
  exact ⟨⟨⟨⟨h.1.1.1.1, h.1.1.2⟩, h.1.2⟩, h.2⟩, h.1.1.1.2⟩

/-- **teardown_restores_w_partial.**  `TeardownRestoresW`, with guarded replies (`hr`; needed:
    `teardown_restores_w_counterexample_late_reply`), for every history that does not switch the application keypad
    on where the tree does not record it (`KeypadTriggerFree`; the RGB8 guard is not needed for restoration). -/
theorem teardown_restores_w_partial (cfg : Cfg) (hr : cfg.repliesGuarded = true) (toplevel : Bool) (m0 : VModes)
    (ops : List Op) (ph : PhaseW) (hm0 : m0.standard = true) (hv : validFromW .running ops = some ph)
    (hnt : KeypadTriggerFree cfg toplevel ops) :
    ((ph = .paused ∨ ph = .stopped) → restoredOk (vtAfter cfg toplevel m0 ops) m0 = true) ∧
    restoredOk (VT.feed (vtAfter cfg toplevel m0 ops) (sysAfter cfg toplevel ops).destroy) m0 = true := by
  obtain ⟨h1, h2⟩ := handover_of_standard m0 hm0
  exact restoresW cfg toplevel m0 ops ph h1 (fun _ => hr) hv hnt (fun hc => by rw [h2] at hc; cases hc)

/-- **teardown_restores_w** (the full statement): whatever the program does between pause and resume, or between pause
    and an ending without resume, pause / teardown / destruction leave the terminal in the modes it started in. -/
theorem teardown_restores_w (cfg : Cfg) (hk : cfg.keypadRecorded = true) (hr : cfg.repliesGuarded = true) :
    TeardownRestoresW cfg :=
  fun toplevel m0 ops ph hm0 hv =>
    teardown_restores_w_partial cfg hr toplevel m0 ops ph hm0 hv (noKeypadTrigger_of_recorded cfg hk ops _)

/-- The hand-over statement over the wide protocol: both generalisations at once. -/
def HandoverRestoresW (cfg : Cfg) : Prop :=
  ∀ (toplevel : Bool) (m0 : VModes) (ops : List Op) (ph : PhaseW), m0.handover = true →
    validFromW .running ops = some ph → ops.all (handoverOk m0) = true →
    ((ph = .paused ∨ ph = .stopped) → restoredOk (vtAfter cfg toplevel m0 ops) m0 = true) ∧
    restoredOk (VT.feed (vtAfter cfg toplevel m0 ops) (sysAfter cfg toplevel ops).destroy) m0 = true

theorem handover_restores_w_partial (cfg : Cfg) (hr : cfg.repliesGuarded = true) (toplevel : Bool) (m0 : VModes)
    (ops : List Op) (ph : PhaseW) (hm0 : m0.handover = true) (hv : validFromW .running ops = some ph)
    (hok : ops.all (handoverOk m0) = true) (hnt : KeypadTriggerFree cfg toplevel ops) :
    ((ph = .paused ∨ ph = .stopped) → restoredOk (vtAfter cfg toplevel m0 ops) m0 = true) ∧
    restoredOk (VT.feed (vtAfter cfg toplevel m0 ops) (sysAfter cfg toplevel ops).destroy) m0 = true :=
  restoresW cfg toplevel m0 ops ph hm0 (fun _ => hr) hv hnt (fun h0 => handoverOk_hidden m0 h0 ops hok)

theorem handover_restores_w (cfg : Cfg) (hk : cfg.keypadRecorded = true) (hr : cfg.repliesGuarded = true) :
    HandoverRestoresW cfg :=
  fun toplevel m0 ops ph hm0 hv hok =>
    handover_restores_w_partial cfg hr toplevel m0 ops ph hm0 hv hok (noKeypadTrigger_of_recorded cfg hk ops _)

/-- On a terminal handed over with its cursor hidden the reply guard is not needed either: whatever the terminal
    replies, the shadow keeps saying "visible". -/
theorem handover_hidden_restores_w (cfg : Cfg) (toplevel : Bool) (m0 : VModes) (ops : List Op) (ph : PhaseW)
    (hm0 : m0.handover = true) (h0 : m0.cursorVisible = false) (hv : validFromW .running ops = some ph)
    (hok : ops.all (handoverOk m0) = true) (hnt : KeypadTriggerFree cfg toplevel ops) :
    ((ph = .paused ∨ ph = .stopped) → restoredOk (vtAfter cfg toplevel m0 ops) m0 = true) ∧
    restoredOk (VT.feed (vtAfter cfg toplevel m0 ops) (sysAfter cfg toplevel ops).destroy) m0 = true :=
  restoresW cfg toplevel m0 ops ph hm0 (fun hc => by rw [h0] at hc; cases hc) hv hnt
    (fun h0 => handoverOk_hidden m0 h0 ops hok)

theorem phaseW_of_not_running (ph : Phase) (h : ph ≠ .running) : PhaseW.ofPhase ph = .paused ∨ PhaseW.ofPhase ph = .stopped := by
  cases ph
  · exact absurd rfl h
  · exact Or.inl rfl
  · exact Or.inr rfl

/-- **handover_restores_history_partial.**  `HandoverRestores` (history level, documented protocol), with guarded replies
    (`hr`), for every history that does not switch the application keypad on where the tree does not record it. -/
theorem handover_restores_history_partial (cfg : Cfg) (hr : cfg.repliesGuarded = true) (toplevel : Bool) (m0 : VModes)
    (ops : List Op) (ph : Phase) (hm0 : m0.handover = true) (hv : validFrom .running ops = some ph)
    (hok : ops.all (handoverOk m0) = true) (hnt : KeypadTriggerFree cfg toplevel ops) :
    (ph ≠ .running → restoredOk (vtAfter cfg toplevel m0 ops) m0 = true) ∧
    restoredOk (VT.feed (vtAfter cfg toplevel m0 ops) (sysAfter cfg toplevel ops).destroy) m0 = true := by
  have h := handover_restores_w_partial cfg hr toplevel m0 ops (PhaseW.ofPhase ph) hm0
    (validFromW_extends ops .running ph hv) hok hnt
  exact ⟨fun hne => h.1 (phaseW_of_not_running ph hne), h.2⟩

/-- **handover_restores** (the full statement): for every hand-over state - cursor visible or hidden -, every history
    inside the contract, the terminal reading the whole stream is back in *that* state after pause / teardown, and
    after destruction. -/
theorem handover_restores (cfg : Cfg) (hk : cfg.keypadRecorded = true) (hr : cfg.repliesGuarded = true) :
    HandoverRestores cfg :=
  fun toplevel m0 ops ph hm0 hv hok =>
    handover_restores_history_partial cfg hr toplevel m0 ops ph hm0 hv hok (noKeypadTrigger_of_recorded cfg hk ops _)

theorem teardown_restores_w_counterexample_keypad (p u r q : Bool) : ¬ TeardownRestoresW ⟨false, p, u, r, q⟩ :=
  fun h => Bool.false_ne_true ((keypad_not_restored p u r q).symm.trans (h false {} keypadHistory .running rfl rfl).2)

theorem teardown_restores_w_counterexample_late_reply (k p u q : Bool) : ¬ TeardownRestoresW ⟨k, p, u, false, q⟩ :=
  fun h => Bool.false_ne_true ((late_reply_not_restored k p u q).symm.trans (h false {} lateReplyHistory .running rfl rfl).2)

theorem handover_restores_counterexample_keypad (p u r q : Bool) : ¬ HandoverRestores ⟨false, p, u, r, q⟩ :=
  fun h => Bool.false_ne_true
    ((keypad_not_restored p u r q).symm.trans (h false {} keypadHistory .running rfl rfl (by decide)).2)

/-- The late reply is one a terminal handed over visible does send (`replyConsistent`). -/
theorem handover_restores_counterexample_late_reply (k p u q : Bool) : ¬ HandoverRestores ⟨k, p, u, false, q⟩ :=
  fun h => Bool.false_ne_true
    ((late_reply_not_restored k p u q).symm.trans (h false {} lateReplyHistory .running rfl rfl (by decide)).2)

/-- Hidden at hand-over; replies (one while paused, read later), modes switched on while running and while paused, a
    pen and text while paused, the toplevel's tick without setup, resume, more settings, pause, and no resume. -/
def hiddenPausedHistory : List Op :=
  [.replyMode 25 2, .ctl (some .altscreen) 1, .pause, .ctl (some .mouse) 3, .replyMode 12 1,
   .setpen (fun a => if a = .bold then some 1 else none), .print [104], .tick true, .resume, .replyShape 2,
   .ctl (some .altscreen) 0, .pause, .ctl (some .altscreen) 1, .ctl (some .mouse) 1,
   .chpen (fun a => if a = .italic then some 1 else none)]

set_option maxRecDepth 16000 in
example : hiddenM0.handover = true ∧ validFrom .running hiddenPausedHistory = none ∧
    validFromW .running hiddenPausedHistory = some .pausedOps ∧
    hiddenPausedHistory.all (handoverOk hiddenM0) = true ∧ KeypadTriggerFree Cfg.tree true hiddenPausedHistory ∧
    (vtAfter Cfg.tree true hiddenM0 hiddenPausedHistory).modes.altscreen = true ∧
    (vtAfter Cfg.tree true hiddenM0 hiddenPausedHistory).modes.mouse = 1000 ∧
    (vtAfter Cfg.tree true hiddenM0 hiddenPausedHistory).attrs .italic = 1 ∧
    (vtAfter Cfg.tree true hiddenM0 hiddenPausedHistory).modes.cursorVisible = false := by decide +kernel

/-- The theorem applies to it on the working tree: destruction leaves the terminal on the primary screen, without
    mouse reporting, in the default rendition - and with the cursor hidden, as it was handed over. -/
example : restoredOk (VT.feed (vtAfter Cfg.tree true hiddenM0 hiddenPausedHistory)
    (sysAfter Cfg.tree true hiddenPausedHistory).destroy) hiddenM0 = true :=
  (handover_hidden_restores_w Cfg.tree true hiddenM0 hiddenPausedHistory .pausedOps rfl rfl (by decide +kernel) (by decide +kernel) (by decide +kernel)).2

example : restoredOk (VT.feed (vtAfter Cfg.repaired false {} pausedMouseHistory) (sysAfter Cfg.repaired false pausedMouseHistory).destroy) {} = true :=
  (teardown_restores_w Cfg.repaired rfl rfl false {} pausedMouseHistory .pausedOps rfl (by decide +kernel)).2

example : restoredOk (vtAfter Cfg.repaired false {} (pausedPenHistory ++ [.teardown])) {} = true := by
  have hv : validFromW .running (pausedPenHistory ++ [.teardown]) = some .stopped := by decide +kernel
  exact (teardown_restores_w Cfg.repaired rfl rfl false {} _ .stopped rfl hv).1 (Or.inr rfl)

/-- … on the working tree (keypad not recorded) through the partial theorem: the history leaves the keypad alone. -/
example : restoredOk (vtAfter Cfg.tree false {} (pausedPenHistory ++ [.teardown])) {} = true := by
  have hv : validFromW .running (pausedPenHistory ++ [.teardown]) = some .stopped := by decide +kernel
  have hk : KeypadTriggerFree Cfg.tree false (pausedPenHistory ++ [.teardown]) := by decide +kernel
  exact (teardown_restores_w_partial Cfg.tree (by decide +kernel) false {} _ .stopped rfl hv hk).1 (Or.inr rfl)

example : restoredOk (vtAfter Cfg.tree false hiddenM0 hiddenHistory) hiddenM0 = true :=
  (handover_restores_history_partial Cfg.tree (by decide +kernel) false hiddenM0 hiddenHistory .stopped rfl (by decide +kernel) (by decide +kernel) (by decide +kernel)).1 (by decide +kernel)

example : restoredOk (VT.feed (vtAfter Cfg.repaired true hiddenM0 hiddenHistory) (sysAfter Cfg.repaired true hiddenHistory).destroy) hiddenM0 = true :=
  (handover_restores Cfg.repaired rfl rfl true hiddenM0 hiddenHistory .stopped rfl (by decide +kernel) (by decide +kernel)).2

/-- `KeypadTriggerFree` excludes exactly the keypad counterexamples. -/
example : ¬ KeypadTriggerFree ⟨false, true, true, true, true⟩ false keypadHistory ∧
    ¬ KeypadTriggerFree ⟨false, true, true, true, true⟩ true [.pause, .tick false] ∧
    KeypadTriggerFree ⟨false, true, true, true, true⟩ true [.pause, .tick true, .ctl (some .keypadApp) 0] := by decide +kernel

end Tickit.Props.C12
