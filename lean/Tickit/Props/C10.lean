import Tickit.Proof.Sgr
import Tickit.Proof.SgrFrame
import Tickit.Proof.SgrSuspend
import Tickit.Proof.SgrStrict
import Tickit.Proof.SgrBuf
import Tickit.Model.Modes
import Tickit.Gen.TermBuf
/-
  C10 — Terminal rendering attributes always equal the logical pen after setpen/chpen.

  Vocabulary (all from `Model/TermPen.lean`, `Model/Sgr.lean`):
    `runOps cfg ops {}`      the modelled library (term.c's cached pen and delta, the xterm driver's SGR encoder) applied to a
                             history of requests on a fresh terminal, *together with* the reference VT that reads every byte it emits;
                             `none` = the encoder wrote past `int params[cfg.cap]`
    `logical ops`            the logical pen: `setpen p` makes it `total p` (p, everything else default), `chpen p` overlays p
    `expected cfg l`         the rendering attributes the logical pen `l` asks for on a terminal with `cfg.colors` colours and the
                             capabilities `cfg.caps` (palette approximation, RGB only with `rgb8`); `faint` off, nothing not understood
    `st.vt.attrs`            the rendering attributes in force, as determined by the SGR bytes emitted so far

  The xterm driver's `start` leaves the terminal in ground state with default attributes (`start_resets`), which is where
  `runOps … {}` starts.

  Three defects of the tree as found are repaired in /repo, and the model mirrors the repaired code: `int params[16]` is
  `params[20]` (`params_fit` is stated for every capacity); underline style 2 without `:` sub-parameters, sent as `4;2` =
  underline + faint, is sent as SGR 21; a colour beyond the palette, compared unconverted and therefore sent again by every
  request, is compared after conversion (`noop_silent` needs no palette hypothesis).  Their probes are in `corpus/C10/` as
  regressions.  Two things are false of the code and of the model, are kept as the full statement `sgr_inv_full`, refuted by
  kernel-checked witnesses, and excluded from `sgr_inv` by `PenOk`:
    * an underline style ≥ 3 (curly) on a terminal without `:` sub-parameters has no encoding and is drawn single (`DeltaOk.under`);
    * `TICKIT_PEN_SIZEPOS_SMALL` has no encoding (`DeltaOk.sizepos`).
  What remains true when such values ARE requested is stated without `PenOk` (section "without PenOk" below): every other
  rendering attribute still equals the logical pen after every history (`sgr_inv_unrestricted`), an unencodable request
  disturbs nothing else (`chpen_frame`, `unencodable_change_is_silent`), and the size/position is right again as soon as the
  logical pen asks for a value that has a parameter.
-/
namespace Tickit.Props.C10
open Tickit Tickit.TermPen Tickit.Sgr Tickit.Proof.Sgr

/-- `Proof.Sgr.DeltaOk` under the name the property uses: underline style ≥ 3 only with `:` sub-parameters, size/position
    one of normal, superscript, subscript. -/
abbrev PenOk := DeltaOk

/-- "any values in range": colour −1…255 with 8-bit RGB, underline 0…3, altfont −1…9, size/position 0…3 (tickit.h lists
    `TICKIT_PEN_SIZEPOS_SMALL` among the values). -/
def PenInRange (p : Pen) : Prop :=
  (∀ c, (p.fg = some c ∨ p.bg = some c) → -1 ≤ c.idx ∧ c.idx ≤ 255 ∧ ∀ x, c.rgb = some x → x.r < 256 ∧ x.g < 256 ∧ x.b < 256) ∧
  (∀ v, p.under = some v → 0 ≤ v ∧ v ≤ 3) ∧ (∀ v, p.altfont = some v → -1 ≤ v ∧ v ≤ 9) ∧
  (∀ v, p.sizepos = some v → 0 ≤ v ∧ v ≤ 3)

/-- `PenOk` excludes exactly the two triggers: a pen with values in range is `PenOk` unless it asks for an underline
    style ≥ 3 on a terminal without `:` sub-parameters or for `TICKIT_PEN_SIZEPOS_SMALL`. -/
theorem penOk_of_inRange (caps : Caps) (p : Pen) (hr : PenInRange p)
    (hu : caps.colon = true ∨ ∀ v, p.under = some v → v ≤ 2)
    (hs : p.sizepos ≠ some Tickit.Gen.Sgr.sizeposSmall) : PenOk caps p := by
  obtain ⟨_, hunder, _, hsize⟩ := hr
  constructor
  · intro v hv
    refine ⟨(hunder v hv).1, ?_⟩
    rcases hu with hu | hu
    · exact Or.inl hu
    · exact Or.inr (hu v hv)
  · intro v hv
    have h03 := hsize v hv
    have hne : v ≠ 1 := by
      intro h1
      apply hs
      rw [hv, h1]
      rfl
    simp only [Tickit.Gen.Sgr.sizeposSuperscript, Tickit.Gen.Sgr.sizeposSubscript]
    omega

/-- After the bytes the xterm driver writes when it starts, the terminal is in ground state with default rendering
    attributes: the state every history below starts from. -/
theorem start_resets : run xtermStart {} = {} := by decide +kernel

/-- Every entry of the table generated from `src/xterm-palette.inc` lies inside the palette it approximates into, and the
    approximation is the identity on the colours that palette already has. -/
theorem palette_table :
    Tickit.Gen.Palette.as16.size = 256 ∧ Tickit.Gen.Palette.as8.size = 256 ∧
    (∀ i : Fin 256, Tickit.Gen.Palette.as16.getD i.val 0 < 16 ∧ Tickit.Gen.Palette.as8.getD i.val 0 < 8) ∧
    (∀ i : Fin 16, Tickit.Gen.Palette.as16.getD i.val 0 = i.val) ∧ (∀ i : Fin 8, Tickit.Gen.Palette.as8.getD i.val 0 = i.val) :=
  ⟨by decide +kernel, by decide +kernel, fun i => palette_entry i.val, by decide +kernel, by decide +kernel⟩

/-- The hand model of `convert_colour` equals the translation of the function's source text (regenerated on every run);
    nothing is claimed when the extractor could not translate it. -/
theorem convertColour_leaf_agrees :
    Tickit.Gen.Sgr.convertColourLeafOk = true → Tickit.Gen.Sgr.convertColourLeaf = convertColour := by
  intro h
  first
    | (funext i c; rfl)
    | exact absurd h (by decide)

/-- "Colours beyond the terminal's palette are replaced by their 8/16-colour approximation": the colour the cached pen
    holds is inside the palette; an index ≥ `colors` became the generated `as16` entry (`colors ≥ 16`) or `as8` entry
    (otherwise) without RGB, anything else is kept as it is. -/
theorem palette_conv (colors : Int) (h8 : 8 ≤ colors) (c : Colour) :
    (convColour colors c).idx < colors ∧
    (c.idx < colors → convColour colors c = c) ∧
    (colors ≤ c.idx → convColour colors c =
        ⟨if colors ≥ 16 then (Tickit.Gen.Palette.as16.getD c.idx.toNat 0 : Nat) else (Tickit.Gen.Palette.as8.getD c.idx.toNat 0 : Nat), none⟩) := by
  refine ⟨convColour_lt colors c h8, convColour_of_lt colors c, ?_⟩
  intro h
  unfold convColour convertColour
  rw [if_pos (by omega)]

example : convColour 8 ⟨200, some ⟨1, 2, 3⟩⟩ = ⟨5, none⟩ ∧ convColour 16 ⟨200, none⟩ = ⟨13, none⟩ ∧
    convColour 256 ⟨200, some ⟨1, 2, 3⟩⟩ = ⟨200, some ⟨1, 2, 3⟩⟩ := by decide +kernel

/-- **sgr_inv.** After any history of set-pen and change-pen requests (that does not overflow `params[]`), on a terminal
    with at least 8 colours, every pen satisfying `PenOk`: the terminal is between control sequences, the cached pen is the
    palette-converted logical pen, and the rendering attributes in force — as determined by the bytes emitted so far — are
    exactly what the logical pen asks for, every attribute the logical pen does not mention being default. -/
theorem sgr_inv (cfg : Cfg) (ops : List Op) (st : TState) (h8 : 8 ≤ cfg.colors)
    (hok : ∀ op ∈ ops, PenOk cfg.caps op.pen) (h : runOps cfg ops {} = some st) :
    st.vt.st = .ground ∧ st.cache = convPen cfg.colors (logical ops) ∧ st.vt.attrs = expected cfg (logical ops) :=
  (runOps_inv cfg ops {} st hok (inv_init cfg.caps) h).expected (runOps_cache cfg h8 ops {} st {} rfl h)

def cfgEx : Cfg := { colors := 256, caps := ⟨true, true⟩, cap := 16 }
def opsEx : List Op :=
  [.set { fg := some ⟨200, some ⟨10, 0, 255⟩⟩, bold := some true, under := some 2 },
   .ch { bg := some ⟨12, none⟩, bold := some false, altfont := some 3 },
   .ch { fg := some ⟨-1, none⟩, sizepos := some 2 }]

/-- non-vacuity: a three-request history with RGB, double underline and the 90–97 range runs, and ends where the theorem says -/
example : ∃ st, runOps cfgEx opsEx {} = some st ∧ (∀ op ∈ opsEx, PenOk cfgEx.caps op.pen) ∧
    st.vt.attrs = { bg := .idx 12, under := 2, font := 3, sizepos := .super } := by
  refine exists_of_isSome (by decide +kernel) ⟨?_, by decide +kernel⟩
  intro op hop
  simp only [opsEx, List.mem_cons, List.not_mem_nil, or_false] at hop
  rcases hop with h | h | h <;> subst h <;> constructor <;> intro v hv <;> cases hv <;> decide

/-- The full statement of the invariant: every pen with values in range. -/
def sgr_inv_full : Prop :=
  ∀ (cfg : Cfg) (ops : List Op) (st : TState), 8 ≤ cfg.colors → (∀ op ∈ ops, PenInRange op.pen) →
    runOps cfg ops {} = some st → st.vt.attrs = expected cfg (logical ops)

/-- Curly underline on a terminal without `:` sub-parameters: there is no way to say it, the driver sends `CSI 4 m` and the
    terminal underlines once. -/
theorem sgr_inv_counterexample_under : ¬ sgr_inv_full := by
  intro h
  have := h { colors := 256, caps := ⟨false, false⟩, cap := 20 } [.ch { under := some 3 }]
    { cache := { under := some 3 }, vt := { attrs := { under := 1 } } } (by decide)
    (by
      intro op hop
      simp only [List.mem_cons, List.not_mem_nil, or_false] at hop
      subst hop
      -- no colour, no font, no size/position; the underline style is in range
      exact ⟨fun c hc => hc.elim nofun nofun, fun v hv => (by cases hv; decide), nofun, nofun⟩)
    (by decide +kernel)
  exact absurd this (by decide +kernel)

/-- Regression for the repaired `4;2`: double underline without `:` sub-parameters is sent as `CSI 21 m` and read back as
    double, nothing else switched on. -/
theorem under_double_without_colon :
    ∃ st, runOps { colors := 256, caps := ⟨false, false⟩, cap := 20 } [.ch { under := some 2 }] {} = some st ∧
      st.vt.attrs = { under := 2 } :=
  exists_of_isSome (by decide +kernel) (by decide +kernel)

/-- `TICKIT_PEN_SIZEPOS_SMALL` after superscript: nothing is sent, the terminal stays in superscript. -/
theorem sgr_inv_counterexample_small : ¬ sgr_inv_full := by
  intro h
  have := h { colors := 256, caps := ⟨true, true⟩, cap := 16 } [.ch { sizepos := some 2 }, .ch { sizepos := some 1 }]
    { cache := { sizepos := some 1 }, vt := { attrs := { sizepos := .super } } } (by decide)
    (by
      intro op hop
      simp only [List.mem_cons, List.not_mem_nil, or_false] at hop
      -- no colour, no underline, no font; the size/position is in range
      rcases hop with rfl | rfl <;>
        exact ⟨fun c hc => hc.elim nofun nofun, nofun, nofun, fun v hv => by cases hv; decide⟩)
    (by decide +kernel)
  exact absurd this (by decide +kernel)

def AllPresent (p : Pen) : Prop :=
  p.fg.isSome ∧ p.bg.isSome ∧ p.bold.isSome ∧ p.under.isSome ∧ p.italic.isSome ∧ p.reverse.isSome ∧ p.strike.isSome ∧
  p.altfont.isSome ∧ p.blink.isSome ∧ p.sizepos.isSome

/-- **setpen_total.** After `setpen p`, whatever came before: every attribute is present in the cached pen, the cached pen
    is the palette-converted `p` with everything else default, and the terminal renders exactly that. -/
theorem setpen_total (cfg : Cfg) (ops : List Op) (p : Pen) (st st' : TState) (h8 : 8 ≤ cfg.colors)
    (hok : ∀ op ∈ ops, PenOk cfg.caps op.pen) (hp : PenOk cfg.caps p)
    (h : runOps cfg ops {} = some st) (h' : step cfg st (.set p) = some st') :
    AllPresent st'.cache ∧ st'.cache = convPen cfg.colors (total p) ∧ st'.vt.attrs = expected cfg (total p) := by
  have := sgr_inv cfg _ st' h8 (forall_mem_snoc hok (.set p) hp) (runOps_snoc h h')
  rw [logical_snoc] at this
  refine ⟨?_, this.2.1, this.2.2⟩
  rw [this.2.1]
  simp [AllPresent, logicalStep, total, convPen]

example : ∃ st', step cfgEx { cache := { bold := some true, fg := some ⟨3, none⟩ } } (.set { italic := some true }) = some st' ∧
    st'.cache = total { italic := some true } := exists_of_isSome (by decide +kernel) (by decide +kernel)

/-- **chpen_overlay.** `chpen p` overlays only the attributes present in `p`: in the cached pen, and on the terminal —
    `ovAttrs caps q a` is `a` with exactly the attributes present in `q` replaced by what `q` asks for. -/
theorem chpen_overlay (cfg : Cfg) (ops : List Op) (p : Pen) (st st' : TState) (h8 : 8 ≤ cfg.colors)
    (hok : ∀ op ∈ ops, PenOk cfg.caps op.pen) (hp : PenOk cfg.caps p)
    (h : runOps cfg ops {} = some st) (h' : step cfg st (.ch p) = some st') :
    st'.cache = overlay st.cache (convPen cfg.colors p) ∧
    st'.vt.attrs = ovAttrs cfg.caps (convPen cfg.colors p) st.vt.attrs := by
  have h1 := sgr_inv cfg ops st h8 hok h
  have h2 := sgr_inv cfg _ st' h8 (forall_mem_snoc hok (.ch p) hp) (runOps_snoc h h')
  rw [logical_snoc] at h2
  simp only [logicalStep] at h2
  refine ⟨?_, ?_⟩
  · rw [h2.2.1, h1.2.1, convPen_overlay]
  · rw [h2.2.2, h1.2.2]
    simp only [expected]
    rw [convPen_overlay, expect_overlay]

theorem ovAttrs_absent (caps : Caps) (q : Pen) (a : Attrs) :
    (q.fg = none → (ovAttrs caps q a).fg = a.fg) ∧ (q.bg = none → (ovAttrs caps q a).bg = a.bg) ∧
    (q.bold = none → (ovAttrs caps q a).bold = a.bold) ∧ (q.under = none → (ovAttrs caps q a).under = a.under) ∧
    (q.italic = none → (ovAttrs caps q a).italic = a.italic) ∧ (q.reverse = none → (ovAttrs caps q a).reverse = a.reverse) ∧
    (q.strike = none → (ovAttrs caps q a).strike = a.strike) ∧ (q.altfont = none → (ovAttrs caps q a).font = a.font) ∧
    (q.blink = none → (ovAttrs caps q a).blink = a.blink) ∧ (q.sizepos = none → (ovAttrs caps q a).sizepos = a.sizepos) ∧
    (ovAttrs caps q a).faint = a.faint ∧ (ovAttrs caps q a).junk = a.junk := by
  refine ⟨?_, ?_, ?_, ?_, ?_, ?_, ?_, ?_, ?_, ?_, rfl, rfl⟩ <;> intro h <;> simp only [ovAttrs] <;> rw [h] <;> rfl

example : ∃ st', step cfgEx { cache := { bold := some true }, vt := { attrs := { bold := true } } } (.ch { italic := some true }) = some st' ∧
    st'.vt.attrs = { bold := true, italic := true } := exists_of_isSome (by decide +kernel) (by decide +kernel)

/-! ### without PenOk: every history, every value in range -/

/-- Underline style and size/position not negative (part of "values in range"; implied by `PenInRange`). -/
abbrev PenNonneg := Tickit.Proof.Sgr.PenNonneg

theorem penNonneg_of_inRange (p : Pen) (h : PenInRange p) : PenNonneg p :=
  ⟨fun v hv => (h.2.1 v hv).1, fun v hv => (h.2.2.2 v hv).1⟩

/-- **sgr_inv_unrestricted.** After ANY history of set-pen and change-pen requests — including requests for a curly underline
    on a terminal without `:` sub-parameters and for `TICKIT_PEN_SIZEPOS_SMALL`, which `sgr_inv` excludes —: the terminal is
    between control sequences, the cached pen is the palette-converted logical pen, and every rendering attribute other than
    underline and size/position is exactly what the logical pen asks for (nothing faint, nothing not understood); the
    underline style is the logical one as far as the terminal can be told (`encUnder`: above double without `:` ⇒ single);
    the size/position is the logical one whenever that has an SGR parameter (normal, superscript, subscript).  So the two
    unencodable values are the ONLY way in which the terminal can differ from the logical pen, and only in their own attribute. -/
theorem sgr_inv_unrestricted (cfg : Cfg) (ops : List Op) (st : TState) (h8 : 8 ≤ cfg.colors)
    (hok : ∀ op ∈ ops, PenNonneg op.pen) (h : runOps cfg ops {} = some st) :
    st.vt.st = .ground ∧ st.cache = convPen cfg.colors (logical ops) ∧
    st.vt.attrs.fg = (expected cfg (logical ops)).fg ∧ st.vt.attrs.bg = (expected cfg (logical ops)).bg ∧
    st.vt.attrs.bold = (expected cfg (logical ops)).bold ∧ st.vt.attrs.faint = false ∧
    st.vt.attrs.italic = (expected cfg (logical ops)).italic ∧ st.vt.attrs.blink = (expected cfg (logical ops)).blink ∧
    st.vt.attrs.reverse = (expected cfg (logical ops)).reverse ∧ st.vt.attrs.strike = (expected cfg (logical ops)).strike ∧
    st.vt.attrs.font = (expected cfg (logical ops)).font ∧ st.vt.attrs.junk = 0 ∧
    st.vt.attrs.under = encUnder cfg.caps.colon (getInt (logical ops).under) ∧
    (sizeEnc (getInt (logical ops).sizepos) → st.vt.attrs.sizepos = (expected cfg (logical ops)).sizepos) := by
  have hinv := runOps_rinv cfg ops {} st hok (rinv_init cfg.caps) h
  have hc := runOps_cache cfg h8 ops {} st {} rfl h
  have hc' : st.cache = convPen cfg.colors (logical ops) := hc
  obtain ⟨f, g, b, t, i, k, r, s, n, j⟩ := mask_eq_fields hinv.others
  have hu := hinv.under
  have hs := hinv.sizepos
  rw [hc'] at f g b t i k r s n j hu hs
  exact ⟨hinv.ground, hc', f, g, b, t, i, k, r, s, n, j, hu, hs⟩

/-- … and the underline style is exact whenever it can be said: with `:` sub-parameters, or up to double. -/
theorem under_exact (colon : Bool) (v : Int) (h0 : 0 ≤ v) (h : colon = true ∨ v ≤ 2) : encUnder colon v = v.toNat :=
  encUnder_ok colon v h0 h

/-- bold and a colour, then italic, then only size/position = small -/
def opsSmall : List Op :=
  [.set { bold := some true, fg := some ⟨2, none⟩ }, .ch { italic := some true }, .ch { sizepos := some Tickit.Gen.Sgr.sizeposSmall }]

/-- non-vacuity, and the concrete case: after `setpen bold,fg=2; chpen italic; chpen sizepos=small` the terminal still has
    bold, italic and colour 2 (only the size/position is not what the logical pen says), and the last request sent nothing. -/
example : ∃ st, runOps cfgEx opsSmall {} = some st ∧ (∀ op ∈ opsSmall, PenNonneg op.pen) ∧
    st.vt.attrs = { bold := true, italic := true, fg := .idx 2 } ∧ (logical opsSmall).sizepos = some 1 ∧
    ¬ sizeEnc (getInt (logical opsSmall).sizepos) := by
  refine exists_of_isSome (by decide +kernel) ⟨?_, by decide +kernel⟩
  intro op hop
  simp only [opsSmall, List.mem_cons, List.not_mem_nil, or_false] at hop
  rcases hop with h | h | h <;> subst h <;> constructor <;> intro v hv <;> cases hv <;> decide

/-- **chpen_frame.** "change-pen overlays ONLY the attributes present in its argument", for every history and every request
    with values in range — no `PenOk`: the bytes of `chpen p` leave every rendering attribute whose pen attribute is absent
    from `p` exactly as it was on the terminal (also the ones the terminal could not be told about earlier), never switch
    `faint` on and contain nothing the reference interpreter does not understand. -/
theorem chpen_frame (cfg : Cfg) (ops : List Op) (p : Pen) (st st' : TState)
    (hok : ∀ op ∈ ops, PenNonneg op.pen) (hp : PenNonneg p)
    (h : runOps cfg ops {} = some st) (h' : step cfg st (.ch p) = some st') :
    (p.fg = none → st'.vt.attrs.fg = st.vt.attrs.fg) ∧ (p.bg = none → st'.vt.attrs.bg = st.vt.attrs.bg) ∧
    (p.bold = none → st'.vt.attrs.bold = st.vt.attrs.bold) ∧ (p.under = none → st'.vt.attrs.under = st.vt.attrs.under) ∧
    (p.italic = none → st'.vt.attrs.italic = st.vt.attrs.italic) ∧
    (p.reverse = none → st'.vt.attrs.reverse = st.vt.attrs.reverse) ∧
    (p.strike = none → st'.vt.attrs.strike = st.vt.attrs.strike) ∧ (p.altfont = none → st'.vt.attrs.font = st.vt.attrs.font) ∧
    (p.blink = none → st'.vt.attrs.blink = st.vt.attrs.blink) ∧
    (p.sizepos = none → st'.vt.attrs.sizepos = st.vt.attrs.sizepos) ∧
    st'.vt.attrs.faint = st.vt.attrs.faint ∧ st'.vt.attrs.junk = st.vt.attrs.junk :=
  step_frame cfg st st' p hp (runOps_rinv cfg ops {} st hok (rinv_init cfg.caps) h) h'

example : ∃ st st', runOps cfgEx (opsSmall.take 2) {} = some st ∧ step cfgEx st (.ch { sizepos := some 1 }) = some st' ∧
    st'.vt.attrs = st.vt.attrs ∧ st.vt.attrs.bold = true :=
  ⟨_, _, rfl, rfl, by decide +kernel, by decide +kernel⟩

/-- **unencodable_change_is_silent.** A request whose delta produces no SGR parameter (nothing changes; or, as in the example
    below, only the size/position changes, to `SMALL`, which has no parameter) emits no byte at all; in particular not the
    empty SGR, which would reset every other attribute. -/
theorem unencodable_change_is_silent (cfg : Cfg) (cache : Pen) (op : Op)
    (h : comps cfg.caps (termDelta op.isSet cfg.colors cache op.pen) = []) : emit cfg cache op = .bytes [] :=
  xtermChpen_of_comps_nil h

/-- the delta of `chpen sizepos=small` on a terminal with other attributes in force has exactly this shape -/
example : comps cfgEx.caps (termDelta false 256 (total { bold := some true }) { sizepos := some 1 }) = [] ∧
    termDelta false 256 (total { bold := some true }) { sizepos := some 1 } ≠ {} := by decide +kernel

/-- **setpen_total_unrestricted.** The same for set-pen: after `setpen p`, whatever came before and whatever `p` asks for in range,
    every rendering attribute other than underline and size/position is what `p` says, everything `p` does not mention
    default. -/
theorem setpen_total_unrestricted (cfg : Cfg) (ops : List Op) (p : Pen) (st st' : TState) (h8 : 8 ≤ cfg.colors)
    (hok : ∀ op ∈ ops, PenNonneg op.pen) (hp : PenNonneg p)
    (h : runOps cfg ops {} = some st) (h' : step cfg st (.set p) = some st') :
    st'.cache = convPen cfg.colors (total p) ∧
    st'.vt.attrs.fg = (expected cfg (total p)).fg ∧ st'.vt.attrs.bg = (expected cfg (total p)).bg ∧
    st'.vt.attrs.bold = getBool p.bold ∧ st'.vt.attrs.faint = false ∧ st'.vt.attrs.italic = getBool p.italic ∧
    st'.vt.attrs.blink = getBool p.blink ∧ st'.vt.attrs.reverse = getBool p.reverse ∧
    st'.vt.attrs.strike = getBool p.strike ∧ st'.vt.attrs.font = expectFont (getInt p.altfont) ∧ st'.vt.attrs.junk = 0 ∧
    st'.vt.attrs.under = encUnder cfg.caps.colon (getInt p.under) ∧
    (sizeEnc (getInt p.sizepos) → st'.vt.attrs.sizepos = expectSizepos (getInt p.sizepos)) := by
  have := sgr_inv_unrestricted cfg _ st' h8 (forall_mem_snoc hok (.set p) hp) (runOps_snoc h h')
  rw [logical_snoc] at this
  simpa [logicalStep, total, expected, expectAttrs, convPen, getBool, getInt] using this.2

/-- **noop_silent.** A request that leaves the logical pen unchanged emits no byte — whatever the palette. -/
theorem noop_silent (cfg : Cfg) (ops : List Op) (op : Op) (st : TState) (h8 : 8 ≤ cfg.colors)
    (h : runOps cfg ops {} = some st)
    (hnoop : logicalStep (logical ops) op = logical ops) : emit cfg st.cache op = .bytes [] := by
  have hl : st.cache = convPen cfg.colors (logical ops) := runOps_cache cfg h8 ops {} st {} rfl h
  rw [hl]
  exact emit_noop cfg h8 _ op hnoop

example : logicalStep (logical opsEx) (.ch { bg := some ⟨12, none⟩, sizepos := some 2 }) = logical opsEx := by decide +kernel

/-- Regression for the repaired re-emission: on an 8-colour terminal `setpen fg=200` twice — the second request is silent. -/
theorem noop_beyond_palette :
    ∃ st, runOps { colors := 8, caps := ⟨false, false⟩, cap := 20 } [.set { fg := some ⟨200, none⟩ }] {} = some st ∧
      st.cache.fg = some ⟨5, none⟩ ∧
      emit { colors := 8, caps := ⟨false, false⟩, cap := 20 } st.cache (.set { fg := some ⟨200, none⟩ }) = .bytes [] :=
  exists_of_isSome (by decide +kernel) (by decide +kernel)

/-- "RGB is used only when the terminal supports it": without `rgb8` the terminal never ends up with an RGB colour. -/
theorem rgb_only_when_supported (cfg : Cfg) (ops : List Op) (st : TState) (h8 : 8 ≤ cfg.colors)
    (hok : ∀ op ∈ ops, PenOk cfg.caps op.pen) (h : runOps cfg ops {} = some st) (hr : cfg.caps.rgb8 = false) :
    (∀ r g b, st.vt.attrs.fg ≠ .rgb r g b) ∧ (∀ r g b, st.vt.attrs.bg ≠ .rgb r g b) := by
  rw [(sgr_inv cfg ops st h8 hok h).2.2]
  constructor <;> intro r g b <;> simp only [expected, expectAttrs, hr] <;> exact expectColour_ne_rgb _ r g b

/-- The pen that needs the most: both colours RGB, curly underline, everything else present. -/
def witnessPen : Pen :=
  { fg := some ⟨200, some ⟨1, 2, 3⟩⟩, bg := some ⟨100, some ⟨4, 5, 6⟩⟩, bold := some true, under := some 3, italic := some true,
    reverse := some true, strike := some true, altfont := some 3, blink := some true, sizepos := some 2 }

/-- `maxParams = 19`: no delta needs more than 19 elements of `params[]`, and `witnessPen` needs all 19. -/
theorem params_max : (∀ caps d, (flatten (comps caps d)).length ≤ 19) ∧
    (flatten (comps ⟨true, true⟩ witnessPen)).length = 19 :=
  ⟨length_flatten_comps, by decide +kernel⟩

/-- **params_fit.** The encoder stays inside `int params[cap]` for every delta exactly when `cap ≥ 19`. -/
theorem params_fit (cap : Nat) :
    (∀ caps delta final n, xtermChpen caps cap delta final ≠ .overflow n) ↔ 19 ≤ cap := by
  refine ⟨fun h => Nat.le_of_not_lt fun hc => ?_, fun hc caps delta final n hn => ?_⟩
  · exact h ⟨true, true⟩ witnessPen witnessPen _ (xtermChpen_overflow (params_max.2 ▸ hc))
  · obtain ⟨bs, hb⟩ := xtermChpen_fits_cap (caps := caps) delta final hc
    cases hb ▸ hn

/-- `params_fit` at the capacity found in the working tree (`Gen.Sgr.paramsCap`, regenerated from
    `src/termdriver-xterm.c` on every run).  An equivalence: it says on which side the tree is only together with the value
    of `paramsCap`; no theorem here states `19 ≤ paramsCap`. -/
theorem params_fit_tree :
    (∀ caps delta final n, xtermChpen caps Tickit.Gen.Sgr.paramsCap delta final ≠ .overflow n) ↔ 19 ≤ Tickit.Gen.Sgr.paramsCap :=
  params_fit _

/-- **requests_total.** With room for 19 parameters no request is undefined: every history runs to the end. -/
theorem requests_total (cfg : Cfg) (hcap : 19 ≤ cfg.cap) (ops : List Op) (st : TState) : runOps cfg ops st ≠ none := by
  induction ops generalizing st with
  | nil => simp [runOps]
  | cons op ops ih =>
    obtain ⟨bs, hb⟩ : ∃ bs, emit cfg st.cache op = .bytes bs := xtermChpen_fits_cap _ _ hcap
    simp only [runOps, step, hb]
    exact ih _

/-- With the capacity of the working tree: a fresh RGB-capable terminal and `setpen witnessPen` is an overflow if the array
    is shorter than 19, and fine otherwise (this holds of both the unchanged and the repaired tree). -/
theorem params_witness :
    (Tickit.Gen.Sgr.paramsCap < 19 →
      runOps { colors := 256, caps := ⟨true, true⟩, cap := Tickit.Gen.Sgr.paramsCap } [.set witnessPen] {} = none) ∧
    (19 ≤ Tickit.Gen.Sgr.paramsCap →
      runOps { colors := 256, caps := ⟨true, true⟩, cap := Tickit.Gen.Sgr.paramsCap } [.set witnessPen] {} ≠ none) := by
  refine ⟨fun h => ?_, fun h => requests_total _ h _ _⟩
  -- on a fresh terminal the delta of `setpen witnessPen` is `witnessPen` itself
  have hd : termDelta true 256 {} witnessPen = witnessPen := by decide +kernel
  have := xtermChpen_overflow (caps := ⟨true, true⟩) (delta := witnessPen) (final := termCache true 256 {} witnessPen)
    (params_max.2 ▸ h)
  simp only [runOps, step, emit, Op.isSet, Op.pen, hd, this]

/-! ### pause + resume (`Model/TermSuspend.lean`)

  `tickit_term_pause` lets the xterm driver write its teardown bytes, which end with `ESC [ m`: the terminal's rendering
  attributes are default from then on, while the cached (and the logical) pen are what they were.  `tickit_term_resume`
  therefore has to send the cached pen again; `resend` says whether it does (`src_resume_resends`: the tree does). -/

/-- **suspend_restores.** If the terminal renders with what the cached pen says, it does so again after the program was stopped
    and continued — every attribute, not only those a later request happens to mention — and the cached pen is untouched. -/
theorem suspend_restores (cfg : Cfg) (st st' : TState) (hok : PenOk cfg.caps st.cache)
    (hg : st.vt.st = .ground) (ha : st.vt.attrs = expectAttrs cfg.caps st.cache)
    (h : suspendStep cfg true st = some st') :
    st'.vt.st = .ground ∧ st'.vt.attrs = st.vt.attrs ∧ st'.cache = st.cache := by
  have := suspend_inv cfg st st' ⟨hg, ha⟩ hok h
  exact ⟨this.1.1, by rw [this.1.2, this.2, ha], this.2⟩

/-- **sgr_inv_suspend.** `sgr_inv` over histories in which the program is also stopped and continued (any number of times,
    anywhere): the rendering attributes in force, as determined by ALL bytes emitted so far — those of pause and resume
    included —, equal the logical pen; a suspension does not change the logical pen. -/
theorem sgr_inv_suspend (cfg : Cfg) (es : List Ev) (st : TState) (h8 : 8 ≤ cfg.colors)
    (hok : ∀ op, Ev.req op ∈ es → PenOk cfg.caps op.pen) (h : runEvs cfg true es {} = some st) :
    st.vt.st = .ground ∧ st.cache = convPen cfg.colors (logicalEvs es) ∧ st.vt.attrs = expected cfg (logicalEvs es) := by
  have hok' : ∀ e ∈ es, EvOk cfg.caps e := by
    intro e he
    cases e with
    | req op => exact hok op he
    | suspend => trivial
  obtain ⟨hinv, hc⟩ := runEvs_sinv cfg h8 es {} st {} hok' (sinv_init cfg.caps) rfl h
  exact hinv.1.expected hc

/-- **noop_after_suspend.** After a suspension, a request that leaves the logical pen unchanged
    is still silent — so nothing but the bytes of resume can have restored the attributes. -/
theorem noop_after_suspend (cfg : Cfg) (es : List Ev) (op : Op) (st : TState) (h8 : 8 ≤ cfg.colors)
    (hok : ∀ op, Ev.req op ∈ es → PenOk cfg.caps op.pen) (h : runEvs cfg true es {} = some st)
    (hnoop : logicalStep (logicalEvs es) op = logicalEvs es) : emit cfg st.cache op = .bytes [] := by
  rw [(sgr_inv_suspend cfg es st h8 hok h).2.1]
  exact emit_noop cfg h8 _ op hnoop

/-- **suspend_total.** Re-sending the whole cached pen fits `params[]` exactly when a request does (19). -/
theorem suspend_total (cfg : Cfg) (resend : Bool) (hcap : 19 ≤ cfg.cap) (st : TState) : suspendStep cfg resend st ≠ none := by
  unfold suspendStep resumeChpen
  cases resend with
  | false => simp
  | true =>
    obtain ⟨bs, hb⟩ := xtermChpen_fits_cap (caps := cfg.caps) st.cache st.cache hcap
    simp [hb]

/-- **suspend_without_resend.** Were the cached pen NOT sent again, the terminal would be left with default attributes whatever
    the logical pen says: the clause fails for every pen that asks for anything non-default … -/
theorem suspend_without_resend (cfg : Cfg) (st : TState) (hg : st.vt.st = .ground) (ha : st.vt.attrs = expectAttrs cfg.caps st.cache)
    (hnd : expectAttrs cfg.caps st.cache ≠ {}) :
    ∃ st', suspendStep cfg false st = some st' ∧ st'.cache = st.cache ∧ st'.vt.attrs ≠ expectAttrs cfg.caps st'.cache := by
  refine ⟨_, suspend_no_resend cfg st hg, rfl, ?_⟩
  simp only
  rw [ha, reset_of_junk0 _ (by rfl)]
  exact fun h => hnd h.symm

def evsEx : List Ev :=
  [.req (.set { bold := some true, fg := some ⟨3, none⟩ }), .req (.ch { italic := some true }), .suspend,
   .req (.ch { italic := some true }), .req (.ch { under := some 1 })]

/-- … and a later request for what the pen already has does not repair it (bold, yellow,
    italic in force; pause; resume; `chpen {i}`; `chpen {u}`): with the pen re-sent the terminal ends with all four attributes,
    without it only with the underline. -/
theorem suspend_resend_needed :
    (∃ st, runEvs cfgEx true evsEx {} = some st ∧
      st.vt.attrs = { fg := .idx 3, bold := true, italic := true, under := 1 } ∧ st.vt.attrs = expected cfgEx (logicalEvs evsEx)) ∧
    (∃ st, runEvs cfgEx false evsEx {} = some st ∧
      st.vt.attrs = { under := 1 } ∧ st.vt.attrs ≠ expected cfgEx (logicalEvs evsEx)) := by
  exact ⟨exists_of_isSome (by decide +kernel) (by decide +kernel), exists_of_isSome (by decide +kernel) (by decide +kernel)⟩

/-- non-vacuity of `sgr_inv_suspend`: the history above satisfies its hypotheses -/
example : ∀ op, Ev.req op ∈ evsEx → PenOk cfgEx.caps op.pen := by
  intro op hop
  simp only [evsEx, List.mem_cons, List.not_mem_nil, or_false, Ev.req.injEq, reduceCtorEq, false_or, or_false] at hop
  rcases hop with h | h | h | h <;> subst h <;> constructor <;> intro v hv <;> cases hv <;> decide

/-- The working tree re-sends the cached pen through the driver (`bin/extract.d/20_termbuf.py` reads `tickit_term_resume`). -/
theorem src_resume_resends : Tickit.Gen.TermBuf.term_resume_resends_pen = true := rfl

/-- The bytes of pause and resume used here are what C12's model of the xterm driver (`Model/Modes.lean`: `teardown`, `resume`,
    every mode) writes when no mode has been changed since construction, and the reset is the literal the extractor reads from
    `teardown`. -/
theorem suspend_bytes_tie :
    (∀ d : Tickit.Modes.XDrv, d.mode = {} → Tickit.Modes.drvTeardown d = xtermPauseBytes ∧ Tickit.Modes.drvResume d = xtermResumeBytes) ∧
    Tickit.Gen.TermBuf.teardown_pen_reset.map (·.toNat) = xtermPauseBytes := by
  refine ⟨?_, by decide +kernel⟩
  intro d hd
  simp [Tickit.Modes.drvTeardown, Tickit.Modes.drvResume, hd, xtermPauseBytes, xtermResumeBytes, Tickit.Modes.sgrReset]

/-! ### nothing but SGR sequences

  "The rendering state of the terminal is determined by the SGR bytes emitted for setpen/chpen": a pen request puts SGR sequences on
  the terminal and nothing else (`Model/SgrStrict.lean`) — no byte outside a control sequence (the terminal would print it at the
  cursor or execute it as a control: the pen request would have drawn something), no sequence other than an unmarked `CSI … m`,
  and the last sequence is complete.  The correspondence harness judges the same predicate on the bytes of the implementation. -/

/-- Every request emits SGR sequences only, from every cached pen and to every terminal in ground state, for every capability
    combination, colour count and capacity of `params[]` (no hypothesis on the values). -/
theorem pen_request_sgr_only (cfg : Cfg) (st : TState) (op : Op) (bs : List Byte) (hg : st.vt.st = .ground)
    (h : emit cfg st.cache op = .bytes bs) : SgrOnly bs st.vt :=
  Tickit.Proof.SgrStrict.xtermChpen_sgrOnly _ _ _ _ bs st.vt h hg

/-- Everything a history of requests puts on the terminal, request after request. -/
def historyBytes (cfg : Cfg) : List Op → Pen → List Byte
  | [], _ => []
  | op :: ops, cache =>
    (match emit cfg cache op with
      | .bytes bs => bs
      | .overflow _ => []) ++ historyBytes cfg ops (termCache op.isSet cfg.colors cache op.pen)

/-- … and so does every history of requests. -/
theorem history_sgr_only (cfg : Cfg) (ops : List Op) (cache : Pen) (vt : VT) (hg : vt.st = .ground) :
    SgrOnly (historyBytes cfg ops cache) vt := by
  induction ops generalizing cache vt with
  | nil => exact sgrOnly_nil vt hg
  | cons op ops ih =>
    simp only [historyBytes]
    cases he : emit cfg cache op with
    | overflow n => simpa using ih _ vt hg
    | bytes bs =>
      have h1 : SgrOnly bs vt := Tickit.Proof.SgrStrict.xtermChpen_sgrOnly _ _ _ _ bs vt he hg
      exact sgrOnly_append _ _ _ h1 (ih _ _ h1.2.2)

/-- Pause + resume (every mode at its construction value) puts SGR sequences only on the terminal as well. -/
theorem suspend_sgr_only (cfg : Cfg) (resend : Bool) (st : TState) (bs : List Byte) (hg : st.vt.st = .ground)
    (h : resumeChpen cfg.caps cfg.cap resend st.cache = .bytes bs) :
    SgrOnly (xtermPauseBytes ++ xtermResumeBytes ++ bs) st.vt := by
  -- the bytes of pause are the empty SGR as `chpen` renders it
  have hp : SgrOnly (xtermPauseBytes ++ xtermResumeBytes) st.vt :=
    vt_eta hg ▸ Tickit.Proof.SgrStrict.renderSgr_sgrOnly false [] _
  exact sgrOnly_append _ _ _ hp (Tickit.Proof.SgrStrict.resumeChpen_sgrOnly h hp.2.2)

/-- non-vacuity: a 256-colour foreground on a fresh terminal is `ESC [ 3 8 : 5 : 2 0 0 m` (`cfgEx` has `:` sub-parameters) … -/
example : emit cfgEx {} (.ch { fg := some ⟨200, none⟩ }) = .bytes [27, 91, 51, 56, 58, 53, 58, 50, 48, 48, 109] := by decide +kernel

/-- … and the predicate is not vacuous: the same sequence followed by its NUL terminator and left-overs of a scratch buffer
    (the text `ab`) is rejected — three bytes reach the terminal outside any sequence, two of them are drawn; so is a pen request
    that sends a cursor movement. -/
theorem sgr_only_rejects :
    strays [27, 91, 51, 56, 58, 53, 58, 50, 48, 48, 109, 0, 97, 98] {} = [0, 97, 98] ∧
    ¬ SgrOnly [27, 91, 51, 56, 58, 53, 58, 50, 48, 48, 109, 0, 97, 98] {} ∧
    ¬ SgrOnly [27, 91, 49, 109, 27, 91, 50, 67] {} ∧ ¬ SgrOnly [27, 91, 49] {} := by
  refine ⟨by decide +kernel, by decide +kernel, by decide +kernel, by decide +kernel⟩

/-- Text drawn between pen requests (no ESC in it) reaches the terminal in ground state and changes nothing the pen is about:
    what the harness's `print` step demands of the implementation's bytes. -/
theorem print_keeps_attrs (text : List Byte) (h : ∀ b ∈ text, b ≠ 27) (vt : VT) (hg : vt.st = .ground) : run text vt = vt := by
  induction text with
  | nil => rfl
  | cons b bs ih =>
    rw [run, List.foldl_cons, feed_ground hg (h b List.mem_cons_self)]
    exact ih fun x hx => h x (List.mem_cons_of_mem _ hx)

/-! ### the output buffer (`tickit_term_set_output_buffer`): the terminal reads the requests' bytes in the order emitted -/

/-- The SGR string of every request of a history, one `write_str` each. -/
def historyStrings (cfg : Cfg) : List Op → Pen → List (List Byte)
  | [], _ => []
  | op :: ops, cache =>
    (match emit cfg cache op with
      | .bytes bs => bs
      | .overflow _ => []) :: historyStrings cfg ops (termCache op.isSet cfg.colors cache op.pen)

theorem xtermChpen_byte_range (caps : Caps) (cap : Nat) (delta final : Pen) (bs : List Byte)
    (h : xtermChpen caps cap delta final = .bytes bs) : ∀ b ∈ bs, b < 256 := by
  rw [xtermChpen_bytes h]
  split
  · intro b hb; cases hb
  · exact Tickit.Proof.SgrStrict.renderSgr_range _ _

theorem historyStrings_byte_range (cfg : Cfg) (ops : List Op) (cache : Pen) :
    ∀ b ∈ (historyStrings cfg ops cache).flatten, b < 256 := by
  induction ops generalizing cache with
  | nil => intro b hb; simp [historyStrings] at hb
  | cons op ops ih =>
    intro b hb
    simp only [historyStrings, List.flatten_cons, List.mem_append] at hb
    rcases hb with hb | hb
    · cases he : emit cfg cache op with
      | bytes bs =>
        rw [he] at hb
        exact xtermChpen_byte_range _ _ _ _ bs he b hb
      | overflow n => rw [he] at hb; cases hb
    · exact ih _ b hb

theorem runOps_strings (cfg : Cfg) (ops : List Op) (st st' : TState) (h : runOps cfg ops st = some st') :
    st'.vt = (historyStrings cfg ops st.cache).foldl (fun v bs => run bs v) st.vt := by
  induction ops generalizing st with
  | nil => cases h; rfl
  | cons op ops ih =>
    obtain ⟨s1, hs, h1⟩ := runOps_cons_eq_some.1 h
    obtain ⟨bs, he, rfl⟩ := step_eq_some.1 hs
    simp only [historyStrings, he, List.foldl_cons]
    exact ih _ h1

/-- **sgr_inv_buffered.** The invariant with an output buffer of ANY size `n` (0 = none) between the driver and the output
    function: every request's SGR string goes through `write_str` of `src/term.c` (`Model/TermBuf.lean`), then
    `tickit_term_flush`; the terminal reads what the output function received, in the order it received it.  The rendering
    attributes in force are then exactly what the logical pen asks for — a request's bytes can neither overtake earlier ones
    nor be lost, whatever their length relative to the buffer. -/
theorem sgr_inv_buffered (cfg : Cfg) (ops : List Op) (st : TState) (n : Nat) (h8 : 8 ≤ cfg.colors)
    (hok : ∀ op ∈ ops, PenOk cfg.caps op.pen) (h : runOps cfg ops {} = some st) :
    let tb := Tickit.TermBuf.flush (Tickit.Proof.SgrBuf.writeAll (Tickit.TermBuf.setOutputBuffer Tickit.SgrBuf.init n)
                (historyStrings cfg ops {}))
    let vt := run (Tickit.SgrBuf.received tb) {}
    tb.buf = [] ∧ vt.st = .ground ∧ vt.attrs = expected cfg (logical ops) := by
  intro tb vt
  have hv : vt = st.vt := by
    show run (Tickit.SgrBuf.received tb) {} = st.vt
    rw [runOps_strings cfg ops {} st h]
    exact Tickit.Proof.SgrBuf.buffered_reads_in_order n _ (historyStrings_byte_range cfg ops {}) {}
  have hi := sgr_inv cfg ops st h8 hok h
  refine ⟨Tickit.TermBuf.flush_buf _, ?_, ?_⟩
  · rw [hv]; exact hi.1
  · rw [hv]; exact hi.2.2

/-- non-vacuity, and what an out-of-order delivery does: with a 16-byte buffer `ESC[3m` (italic on) stays pending while the
    23 bytes of `setpen {fg=123,bg=200}` follow; delivered in order the terminal ends with italic off … -/
example : (run ([27, 91, 51, 109] ++ [27, 91, 51, 56, 59, 53, 59, 49, 50, 51, 59, 52, 56, 59, 53, 59, 50, 48, 48, 59, 50, 51, 109]) {}).attrs.italic = false := by
  decide +kernel

/-- … delivered with the long string first (a write that bypasses the buffer without flushing it) italic stays on although the
    logical pen has none: the reference interpreter tells the two orders apart. -/
theorem out_of_order_breaks :
    (run ([27, 91, 51, 56, 59, 53, 59, 49, 50, 51, 59, 52, 56, 59, 53, 59, 50, 48, 48, 59, 50, 51, 109] ++ [27, 91, 51, 109]) {}).attrs.italic = true := by
  decide +kernel

end Tickit.Props.C10
