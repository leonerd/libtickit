import Tickit.Proof.TermBuf
/-
  C11 — Output buffering is transparent: same bytes, same order, drained by flush.

  Vocabulary (Tickit/Model/TermBuf.lean, Tickit/Proof/TermBuf.lean):
    `State`       output side of a `TickitTerm`: output method(s), `bufLen` = buffer size n (0 = none),
                  `buf` = the bytes accepted but not yet delivered (pending; fill level = `buf.length`),
                  `out` = every chunk handed to the output function / to write(2) so far, in order
    `step`/`run`  the public calls (`Op`), statement-by-statement models of src/term.c and of the xterm driver
    `stream out`  concatenation of the delivered chunks
    `requested m o`, `written m ops`   the bytes a call / a history asks to be output — a function of the
                  driver mode only, never of the buffer: the unbuffered stream
    `WF st`       fill level < n (and nothing pending without a buffer)
    `ChunkOK n d c`  chunk `c` goes to output method `d` and, if n > 0, is neither empty nor longer than n
    `Admissible st ops`  the property's provisos: the buffer size changes only while nothing is pending, and
                  bytes are written only while an output method is attached

  Every theorem is universally quantified over the buffer size, the output method(s), the driver mode,
  the pending bytes and the whole history; nothing is bounded.
-/
namespace Tickit.Props.C11
open Tickit.TermBuf Tickit.Gen.TermBuf

/-! ### 1. nothing lost, duplicated or reordered -/

/-- Transparency, general form.  From any state with fill level < n, along any admissible history of public
    calls (writes of any length, formatted writes, mode changes, flushes, pause/resume/teardown/destroy,
    changes of the buffer size while idle, attaching output methods):
    `delivered ++ pending` grows by exactly the bytes the history requests, in order. -/
theorem transparent (st st' : State) (ops : List Op) (hwf : WF st) (hadm : Admissible st ops)
    (hrun : run st ops = .ok st') :
    stream st'.out ++ st'.buf = stream st.out ++ st.buf ++ written st.mode ops :=
  run_mode_total ops st st' hwf hadm hrun

/-- The calls of the property's core: a write of caller-chosen bytes, or an explicit flush. -/
inductive Call where
  | write (mem : Bytes) (len : Nat)     -- `tickit_term_printn(tt, mem, len)`
  | flush
deriving Repr, DecidableEq

def Call.op : Call → Op
  | .write mem len => .printn mem len
  | .flush => .flush

/-- `concat written`: what the writes ask for (a zero-length `printn` asks for nothing, as in the code). -/
def concatWritten : List Call → Bytes
  | [] => []
  | .write mem len :: r => printnBytes mem len ++ concatWritten r
  | .flush :: r => concatWritten r

/-- A terminal with buffer size `n`, an output function (`func`) and/or an output descriptor number `fd`
    (-1 = none; any other number, 0 included, is a descriptor), nothing delivered and nothing pending. -/
def fresh (n : Nat) (func : Bool) (fd : Int) (m : Mode) : State :=
  { hasFunc := func, outfd := fd, bufLen := n, mode := m }

/-- Non-vacuity: an admissible history with a straddling write, a flush, a change of the buffer size while
    idle, a mode change, a formatted write and a teardown — and something still pending in the middle. -/
example : ∃ st' mid,
    Admissible (fresh 4 true (-1) { started := true })
      [.printn [1, 2, 3, 4, 5, 6, 0] 6, .flush, .setbuf 3, .ctl .altscreen true, .title [65, 66, 0], .teardown] ∧
    run (fresh 4 true (-1) { started := true }) [.printn [1, 2, 3, 4, 5, 6, 0] 6] = .ok mid ∧ mid.buf = [5, 6] ∧
    run (fresh 4 true (-1) { started := true })
      [.printn [1, 2, 3, 4, 5, 6, 0] 6, .flush, .setbuf 3, .ctl .altscreen true, .title [65, 66, 0], .teardown] = .ok st' ∧
    st'.buf = [] ∧ st'.out.length = 11 :=
  ⟨_, _, admissibleB_sound _ _ (by decide +kernel), Outcome.eq_ok (by decide +kernel), by decide +kernel, Outcome.eq_ok (by decide +kernel), by decide +kernel⟩

/-- The statement of DESIGN.md §7 C11.  For every buffer size `n` (0 = none), either output method, and every
    sequence of writes and flushes: `concat delivered ++ pending = concat written`; every delivered chunk goes
    to the output method and, when `n > 0`, is non-empty and at most `n` bytes; and the fill level is `< n`
    when the sequence is over. -/
theorem write_flush_transparent (n : Nat) (func : Bool) (fd : Int) (hsink : func = true ∨ fd ≠ -1) (m : Mode)
    (calls : List Call) (st' : State) (hrun : run (fresh n func fd m) (calls.map Call.op) = .ok st') :
    stream st'.out ++ st'.buf = concatWritten calls ∧
    (∀ c ∈ st'.out, ChunkOK n (sink (fresh n func fd m)) c) ∧
    (0 < n → st'.buf.length < n) ∧ (n = 0 → st'.buf = []) := by
  have written_calls : ∀ calls : List Call, written m (calls.map Call.op) = concatWritten calls := by
    intro calls
    induction calls with
    | nil => rfl
    | cons c r ih => cases c <;> simp [written, concatWritten, Call.op, requested, nextMode, ih]
  have hnc : ∀ o ∈ calls.map Call.op, ¬ IsConfig o := by
    intro o ho
    obtain ⟨c, _, rfl⟩ := List.mem_map.1 ho
    cases c <;> exact id
  -- the history is one extension of the fresh terminal: the clauses are its fields
  obtain ⟨_, e⟩ := run_extM _ _ _ (show WF (fresh n func fd m) from ⟨fun _ => rfl, fun _ => ‹_›⟩) hnc hrun
  obtain ⟨new, ho, hc⟩ := e.out
  have hn : st'.bufLen = n := e.bufLen
  refine ⟨(e.eqn hsink).trans (written_calls calls), ?_, ?_, ?_⟩
  · rw [ho]; exact fun c hcm => hc c (by simpa [fresh] using hcm)
  · exact fun hp => hn ▸ e.wf.2 (hn ▸ hp)
  · exact fun h0 => e.wf.1 (hn.trans h0)

/-- Non-vacuity: buffer of 4, writes of 3 and 7 bytes (the second straddles the buffer end twice). -/
example : ∃ st', run (fresh 4 true (-1) {}) ([Call.write [1, 2, 3, 0] 3, .write [4, 5, 6, 7, 8, 9, 10, 0] 7].map Call.op) = .ok st' ∧
    st'.out = [.data .func [1, 2, 3, 4], .data .func [5, 6, 7, 8]] ∧ st'.buf = [9, 10] := Outcome.exists_ok (by decide +kernel)

/-! ### 2. identical to the unbuffered stream -/

/-- The same history run on a buffered and on an unbuffered terminal (same mode, each with an output method;
    no change of buffer size): both streams grow by the same bytes — for the buffered one counting what is
    still pending — and nothing is ever pending on the unbuffered one. -/
theorem same_as_unbuffered (s r s' r' : State) (ops : List Op)
    (hs : WF s) (hr : WF r) (hsa : Attached s) (hra : Attached r) (hmode : s.mode = r.mode) (hr0 : r.bufLen = 0)
    (hns : NoSetbuf ops) (hnd : NoDetach ops) (hsrun : run s ops = .ok s') (hrrun : run r ops = .ok r') :
    ∃ w, stream s'.out ++ s'.buf = stream s.out ++ s.buf ++ w ∧ stream r'.out = stream r.out ++ w ∧ r'.buf = [] := by
  refine ⟨written s.mode ops, ?_, ?_, ?_⟩
  · exact run_mode_total _ _ _ hs (admissible_of_noSetbuf _ _ hs hsa hns hnd) hsrun
  · have h := run_mode_total _ _ _ hr (admissible_of_noSetbuf _ _ hr hra hns hnd) hrrun
    rw [hr.1 hr0, run_unbuffered hr hr0 hns hrrun, hmode.symm] at h
    simpa using h
  · exact run_unbuffered hr hr0 hns hrrun

/-- Once the history ends with a flush (or teardown, or destroy — see section 4) the delivered streams
    themselves are equal. -/
theorem flushed_same_as_unbuffered (s r s' r' : State) (ops : List Op)
    (hs : WF s) (hr : WF r) (hsa : Attached s) (hra : Attached r) (hmode : s.mode = r.mode) (hr0 : r.bufLen = 0)
    (hs0 : stream s.out ++ s.buf = stream r.out)
    (hns : NoSetbuf ops) (hnd : NoDetach ops) (hsrun : run s (ops ++ [.flush]) = .ok s')
    (hrrun : run r (ops ++ [.flush]) = .ok r') :
    stream s'.out = stream r'.out := by
  obtain ⟨w, h1, h2, _⟩ := same_as_unbuffered s r s' r' _ hs hr hsa hra hmode hr0 hns.flush hnd.flush hsrun hrrun
  obtain ⟨s1, _, hf⟩ := run_append.1 hsrun
  obtain ⟨_, hf, h⟩ := run_cons hf
  cases h
  rw [step_flush_buf hf, hs0] at h1
  rw [h2]; simpa using h1

/-- Non-vacuity for both: buffer sizes 3 and 0, same calls. -/
example : ∃ s' r', run (fresh 3 true (-1) {}) [.printn [1, 2, 3, 4, 5, 0] 5, .title [65, 0], .flush] = .ok s' ∧
    run (fresh 0 true (-1) {}) [.printn [1, 2, 3, 4, 5, 0] 5, .title [65, 0], .flush] = .ok r' ∧
    stream s'.out = stream r'.out ∧ s'.out ≠ r'.out :=
  Outcome.exists_ok₂ (by decide +kernel)

/-- End to end, as the correspondence harness builds its terminals (`new <n> <func|fd|both> <late|early>`,
    i.e. `buildOps`: `tickit_term_build` with the buffer installed after or before the output method):
    for every buffer size, output method(s), construction order and every later history that leaves the
    buffer size alone, `delivered ++ pending` is the driver's start-up strings followed by what the history
    requests. -/
theorem built_terminal_transparent (n : Nat) (f d early : Bool) (fd : Int) (hfd : fd ≠ -1) (hsink : f = true ∨ d = true)
    (ops : List Op) (hns : NoSetbuf ops) (hnd : NoDetach ops) (s' : State)
    (h : run init (buildOps n f d early fd ++ ops) = .ok s') :
    stream s'.out ++ s'.buf = startBytes ++ written { started := true } ops := by
  have hadm : Admissible init (buildOps n f d early fd ++ ops) := by
    apply admissible_append _ _ _ (admissible_build n f d early fd hfd)
    intro s1 h1
    obtain ⟨hwf1, hat1⟩ := build_attached n f d early fd hfd hsink s1 h1
    exact admissible_of_noSetbuf _ _ hwf1 hat1 hns hnd
  have := run_mode_total _ _ _ init_wf hadm h
  have hm : init.mode = {} := rfl
  rw [this, hm, written_build n f d early fd hsink]
  simp [init]

/-- Hence the terminal under test and the never-buffered reference terminal of the harness, given the same
    calls, satisfy `delivered ++ pending = delivered_ref` after every call. -/
theorem built_same_as_unbuffered (n : Nat) (f d early : Bool) (fdm fdr : Int) (hfdm : fdm ≠ -1) (hfdr : fdr ≠ -1)
    (hsink : f = true ∨ d = true) (ops : List Op) (hns : NoSetbuf ops) (hnd : NoDetach ops) (s' r' : State)
    (hs : run init (buildOps n f d early fdm ++ ops) = .ok s')
    (hr : run init (buildOps 0 f d early fdr ++ ops) = .ok r') :
    stream s'.out ++ s'.buf = stream r'.out ∧ r'.buf = [] := by
  have h1 := built_terminal_transparent n f d early fdm hfdm hsink ops hns hnd s' hs
  have h2 := built_terminal_transparent 0 f d early fdr hfdr hsink ops hns hnd r' hr
  obtain ⟨r0, hr0, hr1⟩ := run_append.1 hr
  have hb : r'.buf = [] := run_unbuffered (run_wf _ _ _ init_wf hr0) (build_bufLen 0 f d early fdr r0 hr0) hns hr1
  rw [hb] at h2
  exact ⟨by rw [h1]; simpa using h2.symm, hb⟩

/-- Non-vacuity: `new 3 func early` and `new 0 func early`, then a 5-byte write. -/
example : ∃ s' r', run init (buildOps 3 true false true ++ [.printn [1, 2, 3, 4, 5, 0] 5]) = .ok s' ∧
    run init (buildOps 0 true false true ++ [.printn [1, 2, 3, 4, 5, 0] 5]) = .ok r' ∧
    s'.buf = [4, 5] ∧ stream s'.out ++ s'.buf = stream r'.out :=
  Outcome.exists_ok₂ (by decide +kernel)

/-- The `len == 0 ⇒ strlen` convention of `write_str` is still there (the xterm driver uses it for its own
    literals), but since the fix 6b09beb `tickit_term_printn(tt, str, 0)` no longer reaches it: a zero-length
    print requests nothing, whatever is at `str` (`printn_zero_len_returns` is read from the source). -/
theorem printn_len0_prints_nothing (m : Mode) (mem : Bytes) (st : State) :
    requested m (.printn mem 0) = [] ∧ step st (.printn mem 0) = .ok st := by
  simp [requested, printnBytes, step, termPrintn, printn_zero_len_returns]

example : effective [97, 98, 0] 0 = [97, 98] ∧ printnBytes [97, 98, 0] 0 = [] ∧ printnBytes [97, 98, 0] 2 = [97, 98] := by
  decide

/-! ### 3. no delivered chunk is larger than the buffer; the fill level stays below it -/

/-- One call, any call: whatever it delivers goes to the output method in force and — with a buffer of `n`
    bytes in force when the call is made — is neither empty nor longer than `n`. -/
theorem chunk_bound_call (st st' : State) (o : Op) (hwf : WF st) (h : step st o = .ok st') :
    ∃ new, st'.out = st.out ++ new ∧ ∀ c ∈ new, ChunkOK st.bufLen (sink st') c :=
  step_chunks hwf h

/-- Non-vacuity: 2 bytes pending in a buffer of 4, a write of 7: two full chunks go out, 1 byte stays. -/
example : ∃ st', step { (fresh 4 false 0 {}) with buf := [1, 2] } (.printn [3, 4, 5, 6, 7, 8, 9, 0] 7) = .ok st' ∧
    st'.out = [.data .fd [1, 2, 3, 4], .data .fd [5, 6, 7, 8]] ∧ st'.buf = [9] := Outcome.exists_ok (by decide +kernel)

/-- A whole history with the buffer size fixed. -/
theorem chunk_bound_history (st st' : State) (ops : List Op) (hwf : WF st) (hns : NoSetbuf ops)
    (h : run st ops = .ok st') :
    st'.bufLen = st.bufLen ∧ ∃ new, st'.out = st.out ++ new ∧ ∀ c ∈ new, ChunkFits st.bufLen c :=
  ⟨run_bufLen ops st st' hwf hns h, run_chunks ops st st' hwf hns h⟩

/-- "Fill level < n between calls" is an invariant of every call — including a change of the buffer size
    with output pending, which the property excludes. -/
theorem fill_level_invariant (st st' : State) (ops : List Op) (hwf : WF st) (h : run st ops = .ok st') : WF st' :=
  run_wf ops st st' hwf h

example : WF (fresh 4 true (-1) {}) ∧ ¬ WF { (fresh 4 true (-1) {}) with buf := [1, 2, 3, 4] } := by
  unfold WF fresh; decide

/-! ### 4. after a flush nothing remains pending — and where the library flushes by itself -/

theorem flush_drains (st st' : State) (h : step st .flush = .ok st') : st'.buf = [] :=
  step_flush_buf h

/-- `tickit_term_teardown` ends with a flush (`term_teardown_flushes` is read from the source). -/
theorem teardown_drains (st st' : State) (hwf : WF st) (h : step st .teardown = .ok st') : st'.buf = [] :=
  bind_flush_buf (b := term_teardown_flushes) h rfl

/-- `tickit_term_destroy` (last `unref`): teardown, then a flush of its own. -/
theorem destroy_drains (st st' : State) (hwf : WF st) (h : step st .destroy = .ok st') : st'.buf = [] := by
  obtain ⟨s1, _, h⟩ := bind_eq_ok.1 h
  cases h
  split <;> exact flush_buf s1

/-- Attaching the first output method starts the driver, and the xterm driver's `start` ends with a flush
    (`start_ends_with_flush` is read from the source): the probing strings are never left in the buffer. -/
theorem start_drains (st st' : State) (hns : st.mode.started = false)
    (h : step st .setFunc = .ok st' ∨ ∃ fd, step st (.setFd fd) = .ok st') : st'.buf = [] := by
  have key (o : Op) : startIfUnstarted (prep st o) = .ok st' → st'.buf = [] :=
    startIfUnstarted_buf ((prep_facts st o).mode ▸ hns)
  exact h.elim (key .setFunc) fun ⟨fd, h⟩ => key (.setFd fd) h

/-- Non-vacuity of the three: something is pending and the mode makes the driver write on the way out. -/
example : ∃ a b, step { (fresh 16 true (-1) { started := true, altscreen := true }) with buf := [1, 2, 3] } .teardown = .ok a ∧
    step { (fresh 16 true (-1) { started := true, altscreen := true }) with buf := [1, 2, 3] } .destroy = .ok b ∧
    a.buf = [] ∧ b.buf = [] ∧ a.out.length = 1 ∧ b.out.length = 2 ∧
    stream a.out = [1, 2, 3] ++ teardown_altscreen ++ teardown_pen_reset :=
  Outcome.exists_ok₂ (by decide +kernel)

example : ∃ st', step { init with bufLen := 5 } .setFunc = .ok st' ∧ st'.buf = [] ∧ stream st'.out = startBytes ∧
    st'.out.length = 15 := Outcome.exists_ok (by decide +kernel)

/-- `tickit_term_pause` ends with a flush (`term_pause_flushes` is read from the source; the fix 41ef6f9 added
    it — before, the mode-reset sequences stayed in the buffer while the caller stopped the process). -/
theorem pause_drains (st st' : State) (h : step st .pause = .ok st') : st'.buf = [] :=
  bind_flush_buf (b := term_pause_flushes) h rfl

example : ∃ st', step { (fresh 64 true (-1) { started := true, cursorvis := false }) with buf := [1, 2] } .pause = .ok st' ∧
    st'.buf = [] ∧ stream st'.out = [1, 2] ++ teardown_cursorvis ++ teardown_pen_reset :=
  Outcome.exists_ok (by decide +kernel)

example : ∃ st', step { (fresh 8 true (-1) {}) with buf := [1, 2, 3] } .flush = .ok st' ∧
    st'.out = [.data .func [1, 2, 3]] ∧ st'.buf = [] := Outcome.exists_ok (by decide +kernel)

/-! ### 5. "fixed while output is pending": what the proviso buys -/

/-- Changing the buffer size while nothing is pending is harmless (it is an admissible call of `transparent`; here
    for one call, directly from the model, and without assuming `WF`). -/
theorem resize_when_idle (st st' : State) (n : Nat) (hidle : st.buf = []) (h : step st (.setbuf n) = .ok st') :
    stream st'.out ++ st'.buf = stream st.out ++ st.buf ∧ st'.bufLen = n ∧ WF st' := by
  simp only [step] at h
  injection h with h; subst h
  refine ⟨by simp [setOutputBuffer, hidle], rfl, ?_⟩
  unfold WF setOutputBuffer; simp

example : ∃ st', step { (fresh 4 true (-1) {}) with out := [.data .func [1, 2, 3, 4]] } (.setbuf 9) = .ok st' ∧
    st'.bufLen = 9 ∧ stream st'.out = [1, 2, 3, 4] := Outcome.exists_ok (by decide +kernel)

/-- The proviso is needed: `tickit_term_set_output_buffer` drops whatever is pending
    (`outbuffer_cur = 0` without a flush).  Two bytes written, buffer resized, flushed: nothing is ever
    delivered. -/
theorem resize_while_pending_loses :
    ∃ st', run (fresh 4 true (-1) {}) [.printn [97, 98, 0] 2, .setbuf 8, .flush] = .ok st' ∧
      stream st'.out ++ st'.buf = [] ∧ written {} [.printn [97, 98, 0] 2, .setbuf 8, .flush] = [97, 98] :=
  Outcome.exists_ok (by decide +kernel)

/-! ### 6. no undefined behaviour -/

/-- Provided the caller's pointers are good (`OpOK`: `len` bytes readable, NUL-terminated where `strlen` or
    `%s` is applied), no history reads outside its arguments, lets `outbuffer_cur` exceed `outbuffer_len`
    (the `size_t` subtraction in `write_str` never wraps, `memcpy` stays inside the buffer) or fails to
    terminate. -/
theorem no_ub (st : State) (ops : List Op) (hwf : WF st) (hok : ∀ o ∈ ops, OpOK o) : ∃ st', run st ops = .ok st' :=
  run_ok ops st hwf hok

example : OpOK (.printn [1, 2, 0] 0) ∧ ¬ OpOK (.printn [1, 2] 0) ∧ ¬ OpOK (.printn [1, 2] 3) := by
  unfold OpOK ReqOK; decide

/-! ### 7. write_vstrf / tickit_term_vprintf: the two formatting passes and the caller's buffers -/

/-- First pass: `vsnprintf(buffer, sizeof buffer, …)` never stores more than the stack buffer holds. -/
theorem vstrf_stack_buffer_fits (s : Bytes) : (vsnprintfStore strf_stack_buffer s).length ≤ strf_stack_buffer := by
  unfold vsnprintfStore
  split
  · simp
  · simp; omega

/-- Second pass (taken exactly when the result does not fit, `len ≥ sizeof buffer`): the tmpbuffer handed
    out by `get_tmpbuffer(tt, len + 1)` is at least as large as what `vsnprintf(morebuffer, len + 1, …)` stores. -/
theorem vstrf_tmpbuffer_fits (st : State) (s : Bytes) :
    (vsnprintfStore (s.length + 1) s).length ≤ (getTmpbuffer st (s.length + 1)).tmpLen := by
  unfold vsnprintfStore getTmpbuffer
  simp only [Nat.add_eq_zero_iff, Nat.succ_ne_self, and_false, if_false, Nat.add_sub_cancel]
  split <;> simp <;> omega

/-- Either way exactly the formatted result is written: no truncation at the 63/64-byte edge, no stray NUL,
    and the `len == 0 ⇒ strlen` quirk is harmless here because the buffer holds an empty C string then. -/
theorem vstrf_transparent (st st' : State) (s : Bytes) (hwf : WF st) (hat : Attached st)
    (h : writeVstrf st s = .ok st') :
    stream st'.out ++ st'.buf = stream st.out ++ st.buf ++ s ∧ WF st' :=
  have e := (writeVstrf_okExt hwf s).ext h
  ⟨e.eqn hat, e.wf⟩

/-- The same for `tickit_term_vprintf` (size pass with a NULL buffer, then the tmpbuffer). -/
theorem vprintf_transparent (st st' : State) (s : Bytes) (hwf : WF st) (hat : Attached st)
    (h : termVprintf st s = .ok st') :
    stream st'.out ++ st'.buf = stream st.out ++ st.buf ++ s ∧ WF st' :=
  have e := termVprintf_ext hwf h
  ⟨e.eqn hat, e.wf⟩

/-- Non-vacuity at the edge: a 64-byte result takes the second pass and arrives complete. -/
example : ∃ st', writeVstrf (fresh 0 true (-1) {}) (List.replicate 64 65) = .ok st' ∧
    st'.out = [.data .func (List.replicate 64 65)] ∧ st'.tmpLen = 65 := Outcome.exists_ok (by decide +kernel)

example : ∃ st', writeVstrf (fresh 0 true (-1) {}) (List.replicate 63 65) = .ok st' ∧
    st'.out = [.data .func (List.replicate 63 65)] ∧ st'.tmpLen = 0 := Outcome.exists_ok (by decide +kernel)

/-! ### 8. the output descriptor: every number other than -1 is a descriptor, 0 included -/

/-- The test that guards `write(2)` is the same in `tickit_term_flush` (buffered output) and in the unbuffered arm
    of `write_str`, and it is "`tt->outfd` is not -1" (both read from the source): whatever descriptor number the
    unbuffered stream goes to, the buffered stream goes to as well — descriptor 0, which `TICKIT_OPEN_STDTTY` picks
    when stdin is the terminal, is not special. -/
theorem descriptor_test_same_buffered_unbuffered (fd : Int) :
    flush_fd_guard fd = write_str_fd_guard fd ∧ (flush_fd_guard fd = true ↔ fd ≠ -1) :=
  ⟨by rw [fd_guards_agree], flush_fd_guard_iff fd⟩

/-- Without an output function, a flush hands everything pending to the descriptor as one chunk, for every
    descriptor number; the unbuffered write does the same with its argument. -/
theorem flush_writes_every_descriptor (st : State) (b : Bytes) (hnf : st.hasFunc = false) (hfd : st.outfd ≠ -1) :
    deliver st b = { st with out := st.out ++ [.data .fd b] } ∧ deliverWith write_str_fd_guard st b = deliver st b ∧
    (st.buf ≠ [] → (flush st).out = st.out ++ [.data .fd st.buf] ∧ (flush st).buf = []) := by
  have hd : ∀ b, deliver st b = { st with out := st.out ++ [.data .fd b] } := fun b => by
    rw [deliver_attached b (Or.inr hfd), sink, hnf]; rfl
  refine ⟨hd b, deliverWith_write_str st b, fun hp => ⟨?_, flush_buf st⟩⟩
  rw [flush, if_neg fun h => hp (List.eq_nil_of_length_eq_zero h)]
  exact congrArg State.out (hd st.buf)

/-- With both an output function and a descriptor the function wins, whatever the descriptor number. -/
theorem function_wins (st : State) (b : Bytes) (hf : st.hasFunc = true) :
    deliver st b = { st with out := st.out ++ [.data .func b] } ∧
    deliverWith write_str_fd_guard st b = { st with out := st.out ++ [.data .func b] } := by
  rw [deliverWith_write_str, and_self, deliver_attached b (Or.inl hf), sink, hf]; rfl

/-- The property on descriptor 0 (an instance of `write_flush_transparent`, spelled out because descriptor 0 is
    what `TICKIT_OPEN_STDTTY` uses): nothing lost, chunks within the buffer, fill level below it. -/
theorem descriptor_zero_transparent (n : Nat) (m : Mode) (calls : List Call) (st' : State)
    (hrun : run (fresh n false 0 m) (calls.map Call.op) = .ok st') :
    stream st'.out ++ st'.buf = concatWritten calls ∧ (∀ c ∈ st'.out, ChunkOK n .fd c) ∧
    (0 < n → st'.buf.length < n) ∧ (n = 0 → st'.buf = []) :=
  write_flush_transparent n false 0 (Or.inr (by decide)) m calls st' hrun

/-- Non-vacuity: descriptor 0, buffer of 4, 6 bytes and a flush: both chunks arrive at the descriptor; the same
    on descriptor 7 and unbuffered on descriptor 0; with no descriptor (-1) and no function nothing is delivered. -/
example : ∃ a b c d, run (fresh 4 false 0 {}) [.printn [1, 2, 3, 4, 5, 6, 0] 6, .flush] = .ok a ∧
    run (fresh 4 false 7 {}) [.printn [1, 2, 3, 4, 5, 6, 0] 6, .flush] = .ok b ∧
    run (fresh 0 false 0 {}) [.printn [1, 2, 3, 4, 5, 6, 0] 6, .flush] = .ok c ∧
    run (fresh 4 false (-1) {}) [.printn [1, 2, 3, 4, 5, 6, 0] 6, .flush] = .ok d ∧
    a.out = [.data .fd [1, 2, 3, 4], .data .fd [5, 6]] ∧ b.out = a.out ∧ c.out = [.data .fd [1, 2, 3, 4, 5, 6]] ∧
    d.out = [] ∧ a.buf = [] :=
  ⟨_, _, _, _, Outcome.eq_ok (by decide +kernel), Outcome.eq_ok (by decide +kernel), Outcome.eq_ok (by decide +kernel), Outcome.eq_ok (by decide +kernel), by decide +kernel⟩

/-- Non-vacuity: the harness's `new 3 both early 0 …`: the descriptor is attached first, so the driver's start-up
    strings go through the buffer to descriptor 0; later output goes to the function. -/
example : ∃ s, run init (buildOps 3 true true true 0 ++ [.printn [1, 2, 3, 0] 3]) = .ok s ∧
    s.out.getLast? = some (.data .func [1, 2, 3]) ∧ s.out.head? = some (.data .fd [27, 91, 63]) ∧
    stream s.out = startBytes ++ [1, 2, 3] :=
  Outcome.exists_ok (by decide +kernel)

end Tickit.Props.C11
