import Tickit.Proof.RBRefine
import Tickit.Proof.RBUtf8
import Tickit.Proof.RBSpan
/-
  C03 — render-buffer cells follow last-writer-wins under clip, mask and translation.

  The concrete model `Tickit.RB` (Model/RB.lean) is a statement-by-statement transcription of
  src/renderbuffer.c; the specification is `Tickit.RBAbs` (Model/RBAbs.lean).  Every theorem is universally
  quantified over buffers, coordinates (all of `Int`), texts and pens.
-/
namespace Tickit.Props.C03
open Tickit Tickit.RB Tickit.RBAbs

/-! ### cursor-relative operations advance the cursor by the columns requested, visible or not -/

/-- `skip n`, `erase n`: the cursor moves right by exactly `n` columns, on the same line, whatever the clip,
    the masks and the translation are (there is no hypothesis about them), and stays set. -/
theorem cursor_advances_skip (rb : RB) (n : Int) (h : rb.vcSet = true) :
    (RB.skip rb n).vcSet = true ∧ (RB.skip rb n).vcLine = rb.vcLine ∧ (RB.skip rb n).vcCol = rb.vcCol + n :=
  cursorOp_vc (skipRun_aux rb _ _ n) h

theorem cursor_advances_erase (rb : RB) (n : Int) (h : rb.vcSet = true) :
    (RB.erase rb n).vcSet = true ∧ (RB.erase rb n).vcLine = rb.vcLine ∧ (RB.erase rb n).vcCol = rb.vcCol + n :=
  cursorOp_vc (eraseRun_aux rb _ _ n) h

/-- `skip_to c`, `erase_to c`: the cursor ends at column `c` (also when `c` is to the left: nothing is drawn). -/
theorem cursor_advances_skipTo (rb : RB) (c : Int) (h : rb.vcSet = true) :
    (RB.skipTo rb c).vcSet = true ∧ (RB.skipTo rb c).vcLine = rb.vcLine ∧ (RB.skipTo rb c).vcCol = c :=
  cursorOp_vc (ite_aux _ (skipRun_aux rb _ _ _)) h

theorem cursor_advances_eraseTo (rb : RB) (c : Int) (h : rb.vcSet = true) :
    (RB.eraseTo rb c).vcSet = true ∧ (RB.eraseTo rb c).vcLine = rb.vcLine ∧ (RB.eraseTo rb c).vcCol = c :=
  cursorOp_vc (ite_aux _ (eraseRun_aux rb _ _ _)) h

/-- `char`: one column (the code's own TODO: also for a double-width code point). -/
theorem cursor_advances_char (rb : RB) (cp : Int) (h : rb.vcSet = true) :
    (RB.char rb cp).vcSet = true ∧ (RB.char rb cp).vcLine = rb.vcLine ∧ (RB.char rb cp).vcCol = rb.vcCol + 1 :=
  cursorOp_vc (putChar_aux rb _ _ cp) h

/-- `text s` for a text the width counter accepts with `n` columns: the cursor advances by `n` and `n` is
    returned, however much of the text is clipped or masked away. -/
theorem cursor_advances_text (rb : RB) (s : List UInt8) (n : Int) (h : rb.vcSet = true)
    (hs : Utf8.stringColumns s = some n) :
    (RB.text rb s).vcSet = true ∧ (RB.text rb s).vcLine = rb.vcLine ∧ (RB.text rb s).vcCol = rb.vcCol + n ∧
    RB.textRet rb s = n := by
  have hr : putStringRet s = n := by unfold putStringRet; rw [hs]
  have e := cursorOp_vc (x := rb.vcCol + putStringRet s) (putString_aux rb rb.vcLine rb.vcCol s) h
  unfold RB.textRet
  rw [h, ← hr]
  exact ⟨e.1, e.2.1, e.2.2, rfl⟩

/-- Without a cursor position the cursor-relative operations do nothing at all. -/
theorem cursor_unset_noop (rb : RB) (n : Int) (s : List UInt8) (h : rb.vcSet = false) :
    RB.skip rb n = rb ∧ RB.erase rb n = rb ∧ RB.skipTo rb n = rb ∧ RB.eraseTo rb n = rb ∧ RB.char rb n = rb ∧
    RB.text rb s = rb ∧ RB.textRet rb s = -1 := by
  unfold RB.skip RB.erase RB.skipTo RB.eraseTo RB.char RB.text RB.textRet
  simp [h]

/-- Non-vacuity: a 1×1 buffer with everything clipped away still advances the cursor by 5. -/
example : (RB.skip (RB.goto (RB.clip (RB.new 1 1 0 0) ⟨0, 0, 0, 0⟩) 0 0) 5).vcCol = 5 := by decide

/-! ### clipping can only shrink -/

/-- `clip` intersects: a cell inside the clipping region afterwards was inside before, and is inside the
    (translated) rectangle asked for — exactly. -/
theorem clip_shrinks (rb : RB) (wf : WF rb) (r : Rect) (L C : Int) :
    absClipRect (RB.clip rb r).clip L C = (absClipRect rb.clip L C && r.memb (L - rb.xlLine) (C - rb.xlCol)) :=
  (clip_spec wf r).2 L C

theorem clip_only_shrinks (rb : RB) (wf : WF rb) (r : Rect) (L C : Int)
    (h : absClipRect (RB.clip rb r).clip L C = true) : absClipRect rb.clip L C = true := by
  rw [clip_shrinks rb wf r L C, Bool.and_eq_true] at h; exact h.1

/-- No drawing operation, no cursor movement, translation, mask, pen change or `save` touches the clipping
    rectangle (only `clip` shrinks it; `restore` brings a saved one back; `reset` starts over). -/
theorem clip_untouched (rb : RB) (o : Op) (h : RBAbs.stackKind o = .keep ∨ RBAbs.stackKind o = .push) (hc : ∀ r, o ≠ .clip r) :
    (RB.step rb o).clip = rb.clip := by
  cases o with
  | textAt l c s => exact congrArg Aux.clip (putString_aux rb l c s)
  | text s => exact congrArg Aux.clip (cursorOp_aux rb _ _ (putString_aux rb _ _ s))
  | eraseAt l c n => exact congrArg Aux.clip (eraseRun_aux rb l c n)
  | erase n => exact congrArg Aux.clip (cursorOp_aux rb _ _ (eraseRun_aux rb _ _ n))
  | eraseTo c => exact congrArg Aux.clip (cursorOp_aux rb _ _ (ite_aux _ (eraseRun_aux rb _ _ _)))
  | skipAt l c n => exact congrArg Aux.clip (skipRun_aux rb l c n)
  | skip n => exact congrArg Aux.clip (cursorOp_aux rb _ _ (skipRun_aux rb _ _ n))
  | skipTo c => exact congrArg Aux.clip (cursorOp_aux rb _ _ (ite_aux _ (skipRun_aux rb _ _ _)))
  | charAt l c cp => exact congrArg Aux.clip (putChar_aux rb l c cp)
  | char cp => exact congrArg Aux.clip (cursorOp_aux rb _ _ (putChar_aux rb _ _ cp))
  | hlineAt l c1 c2 st caps => exact congrArg Aux.clip (hlineAt_aux rb l c1 c2 st caps)
  | vlineAt l1 l2 c st caps => exact congrArg Aux.clip (vlineAt_aux rb l1 l2 c st caps)
  | clear => exact congrArg Aux.clip (clear_aux rb)
  | eraserect r => exact congrArg Aux.clip (eraserect_aux rb r)
  | skiprect r => exact congrArg Aux.clip (skiprect_aux rb r)
  | goto l c => rfl
  | ungoto => rfl
  | translate d r => rfl
  | clip r => exact absurd rfl (hc r)
  | mask r => rfl
  | setpen p => rfl
  | save => rfl
  | savepen => rfl
  | restore => rcases h with h | h <;> simp [RBAbs.stackKind] at h
  | reset => rcases h with h | h <;> simp [RBAbs.stackKind] at h

/-- A new buffer (at least one column) is well-formed, whatever the uninitialised cursor fields hold. -/
theorem wf_new (lines cols g1 g2 : Int) (hl : 0 ≤ lines) (hc : 0 < cols) : WF (RB.new lines cols g1 g2) :=
  (new_refines lines cols g1 g2 hl hc).1

/-- Every operation preserves well-formedness: runs tile every line, CONT cells point at their start, LINE and
    CHAR cells are one column wide, mask depths lie in `[-1, depth]`, the clip stays inside the buffer, and
    neither `abort()` nor the fuel limit of the model is ever reached. -/
theorem wf_step (rb : RB) (wf : WF rb) (o : Op) : WF (RB.step rb o) := (step_refines wf (refines_absOf rb) o).1

theorem wf_run (rb : RB) (wf : WF rb) (prog : List Op) : WF (RB.run rb prog) := (run_refines prog wf (refines_absOf rb)).1

/-- In particular no program reaches `abort()` in `make_span`. -/
theorem never_aborts (lines cols g1 g2 : Int) (hl : 0 ≤ lines) (hc : 0 < cols) (prog : List Op) :
    (RB.run (RB.new lines cols g1 g2) prog).aborted = false ∧ (RB.run (RB.new lines cols g1 g2) prog).fuelOut = false :=
  ⟨(run_new_refines lines cols g1 g2 hl hc prog).1.aborted, (run_new_refines lines cols g1 g2 hl hc prog).1.fuelOut⟩

example : WF (RB.run (RB.new 2 5 7 7) [.textAt 0 1 [65, 66, 67], .mask ⟨0, 2, 1, 1⟩, .eraseAt 0 0 5]) :=
  wf_run _ (wf_new 2 5 7 7 (by decide) (by decide)) _

/-- **`make_span_spec`**: on a well-formed line, `make_span(col, cols)` followed by the caller's assignment of
    a non-CONT state to the returned cell (a) leaves the line well-formed, (b) resets the mask depth of exactly
    the cells of the span, (c) changes the content of exactly the cells of the span: they show the new cell's
    content, every other column shows what it showed before — including the columns of a run that was cut at
    either end (the text of a cut TEXT run keeps its column alignment). -/
theorem make_span_spec (n : Int) (row : Row) (col cols : Int) (v : Cell) (h : RowWF n row) (h0 : 0 ≤ col)
    (hc : 0 < cols) (he : col + cols ≤ n) (hv1 : v.state ≠ .cont) (hv2 : v.cols = cols)
    (hv3 : (v.state = .line ∨ v.state = .char) → cols = 1) :
    RowWF n (spanRow n row col cols v) ∧
    (∀ k, k ≠ col → ((spanRow n row col cols v).get k).maskdepth = if col ≤ k ∧ k < col + cols then -1 else (row.get k).maskdepth) ∧
    (∀ k, 0 ≤ k → k < n → rowContent (spanRow n row col cols v) k =
      if col ≤ k ∧ k < col + cols then cellContent v (k - col) else rowContent row k) ∧
    makeSpanAborts n row col cols = false :=
  ⟨spanRow_wf v h h0 hc he hv1 hv2 hv3, fun _ => spanRow_maskdepth v hc, fun k a b => spanRow_content v h h0 hc he hv1 k a b,
    makeSpanAborts_false h h0 hc he⟩

/-- **Refinement, one operation**: on a well-formed buffer `rb` implementing the abstract state `a`, every
    operation yields a well-formed buffer implementing what the cell-wise specification says. -/
theorem refinement_step (rb : RB) (a : AState) (wf : WF rb) (R : Refines rb a) (o : Op) :
    WF (RB.step rb o) ∧ Refines (RB.step rb o) (RBAbs.step a o) := step_refines wf R o

theorem refinement_run (rb : RB) (a : AState) (wf : WF rb) (R : Refines rb a) (prog : List Op) :
    WF (RB.run rb prog) ∧ Refines (RB.run rb prog) (RBAbs.run a prog) := run_refines prog wf R

theorem refinement_new (lines cols g1 g2 : Int) (hl : 0 ≤ lines) (hc : 0 < cols) (prog : List Op) :
    Refines (RB.run (RB.new lines cols g1 g2) prog) (RBAbs.run (AState.new lines cols) prog) :=
  (run_new_refines lines cols g1 g2 hl hc prog).2

/-- **Last writer wins.**  After any program the content of *every* cell `(L, C) ∈ Int × Int` of the buffer is
    what the cell-wise specification computes: there, each drawing operation overwrites exactly the cells it
    covers — in coordinates shifted by the translation in force at that moment — that are inside the clipping
    region and unmasked at that moment, with its own content and the pen of that moment (`RBAbs.paint`), line
    segments OR into line cells (`mergeLine`), and nothing else ever changes a cell; so a cell shows what the
    last such operation put there, and a cell never so covered still shows `skip`. -/
theorem last_writer_wins (lines cols g1 g2 : Int) (hl : 0 ≤ lines) (hc : 0 < cols) (prog : List Op) (L C : Int) :
    absContent (RB.run (RB.new lines cols g1 g2) prog) L C = (RBAbs.run (AState.new lines cols) prog).content L C :=
  ((refinement_new lines cols g1 g2 hl hc prog).content L C).symm

/-- **Last writer wins, as a statement about histories.**  Split any program as `pre ++ o :: post`.  If no
    operation of `post` writes the cell `(L, C)` — i.e. covers it, in the coordinates shifted by the translation
    then in force, while it is inside the clip and unmasked (`Writes`, `opCovers`) — then after the whole program
    the real buffer's cell holds exactly what `o` left in it (by `erase_cellwise`, `text_cellwise`, `paint`:
    `o`'s own content with the pen of that moment if `o` wrote it). -/
theorem last_writer_wins_trace (lines cols g1 g2 : Int) (hl : 0 ≤ lines) (hc : 0 < cols) (pre post : List Op) (o : Op)
    (L C : Int)
    (hnw : NeverWritten (RBAbs.step (RBAbs.run (AState.new lines cols) pre) o) post L C) :
    absContent (RB.run (RB.new lines cols g1 g2) (pre ++ o :: post)) L C =
      (RBAbs.step (RBAbs.run (AState.new lines cols) pre) o).content L C := by
  rw [last_writer_wins lines cols g1 g2 hl hc _ L C, absrun_append]
  exact neverWritten_unchanged post _ L C hnw

/-- **Cells never covered stay skipped**: if no operation of a program writes the cell, the real buffer's cell
    is still `skip` (in particular every cell outside the buffer, outside every clip, or always masked). -/
theorem never_written_stays_skip (lines cols g1 g2 : Int) (hl : 0 ≤ lines) (hc : 0 < cols) (prog : List Op)
    (L C : Int) (hnw : NeverWritten (AState.new lines cols) prog L C) :
    absContent (RB.run (RB.new lines cols g1 g2) prog) L C = .skip := by
  rw [last_writer_wins lines cols g1 g2 hl hc _ L C]
  exact neverWritten_unchanged prog _ L C hnw

/-- An operation changes no cell it does not write (specification level; with `last_writer_wins` this is a
    fact about the real cells). -/
theorem unwritten_unchanged (a : AState) (o : Op) (L C : Int) (h : ¬ Writes a o L C) :
    (RBAbs.step a o).content L C = a.content L C := not_writes_unchanged a o L C h

/-- Non-vacuity: a text cut in the middle by an erase — the right-hand remainder still shows *its* column
    of the string (`D` is column 3), the cut cells show the erase, and a cell never covered is `skip`. -/
example :
    let rb := RB.run (RB.new 1 6 0 0) [.textAt 0 0 [65, 66, 67, 68], .eraseAt 0 1 2]
    absContent rb 0 3 = .text Pen.empty [65, 66, 67, 68] 3 ∧ absContent rb 0 1 = .erase Pen.empty ∧
    absContent rb 0 0 = .text Pen.empty [65, 66, 67, 68] 0 ∧ absContent rb 0 5 = .skip := by
  decide +kernel

/-- The single-step form, from any well-formed buffer: an absolute erase writes exactly the covered, clipped,
    unmasked cells and leaves the rest of the grid as it was. -/
theorem erase_cellwise (rb : RB) (wf : WF rb) (l c n : Int) (L C : Int) :
    absContent (RB.eraseAt rb l c n) L C =
      if (L = l + rb.xlLine ∧ c + rb.xlCol ≤ C ∧ C < c + rb.xlCol + n) ∧ absClipRect rb.clip L C = true ∧ absMasked rb L C = false
      then .erase rb.pen else absContent rb L C :=
  (eraseRun_drew wf.runsOK l c n).content L C

/-- The same for text: column `C` shows column `C − (c + xlCol)` of the string, wherever the run boundaries,
    the clip edge and the mask edges fall (also inside a double-width character). -/
theorem text_cellwise (rb : RB) (wf : WF rb) (l c : Int) (s : List UInt8) (n : Int) (hs : Utf8.stringColumns s = some n)
    (L C : Int) :
    absContent (RB.textAt rb l c s) L C =
      if (L = l + rb.xlLine ∧ c + rb.xlCol ≤ C ∧ C < c + rb.xlCol + n) ∧ absClipRect rb.clip L C = true ∧ absMasked rb L C = false
      then .text rb.pen s (C - (c + rb.xlCol)) else absContent rb L C :=
  (textAt_drew wf.runsOK l c hs).content L C

/-- Line segments accumulate: drawing a segment ORs its bits into the cell's mask, so two segments leave the
    same mask in either order.  (That the cell's pen is the current pen up to the library's pen equivalence is
    `RBAbs.mergeLine_pen`.) -/
theorem line_accumulates (p1 p2 : Pen) (b1 b2 : Nat) (old : Content) :
    lineMaskOf (mergeLine p1 b1 old) = lineMaskOf old ||| b1 ∧
    lineMaskOf (mergeLine p2 b2 (mergeLine p1 b1 old)) = lineMaskOf (mergeLine p1 b1 (mergeLine p2 b2 old)) :=
  ⟨mergeLine_lineMask p1 b1 old, mergeLine_comm_mask p1 p2 b1 b2 old⟩

/-- **Confinement.**  No drawing operation changes a cell that is outside the clipping region or under a mask
    (stated for the concrete buffer; `RBAbs.draw_step` is the same fact about the specification). -/
theorem confined (rb : RB) (wf : WF rb) (o : Op) (hd : isDraw o = true) (L C : Int)
    (h : (absClipRect rb.clip L C && !absMasked rb L C) = false) :
    absContent (RB.step rb o) L C = absContent rb L C := by
  have R := (step_refines wf (refines_absOf rb) o).2
  rw [← R.content L C]
  exact (draw_step (absOf rb) o hd).confined L C h

/-- ... and none of them touches the translation, the clip, the pen, the masks or the stack. -/
theorem draw_keeps_aux (rb : RB) (wf : WF rb) (o : Op) (hd : isDraw o = true) :
    (RB.step rb o).xlLine = rb.xlLine ∧ (RB.step rb o).xlCol = rb.xlCol ∧ (RB.step rb o).pen = rb.pen ∧
    (∀ L C, absMasked (RB.step rb o) L C = absMasked rb L C) ∧
    (∀ L C, absClipRect (RB.step rb o).clip L C = absClipRect rb.clip L C) := by
  have F := (draw_step (absOf rb) o hd).frame
  obtain ⟨x, y, c, p, m⟩ := (refines_absOf rb).regs (step_refines wf (refines_absOf rb) o).2 F.xlLine F.xlCol F.clip F.pen F.masked
  exact ⟨x, y, p, m, c⟩

/-- **Save/restore** (the full clause of C03; false of the code before the repair 85271b4 — `save` did not record
    whether the virtual cursor was set —, true of the repaired code): for every well-formed
    buffer and every balanced program `p` (restores exactly what it saves, no `reset`) between `save` and
    `restore`, translation, clip, pen, masks and the virtual cursor — set or unset, and where — are back at their
    saved values, and the stored content is what `p` left. -/
def SaveRestoreFull : Prop :=
  ∀ (rb : RB) (p : List Op), WF rb → Balanced p →
    (RB.restore (RB.run (RB.save rb) p)).xlLine = rb.xlLine ∧ (RB.restore (RB.run (RB.save rb) p)).xlCol = rb.xlCol ∧
    (∀ L C, absClipRect (RB.restore (RB.run (RB.save rb) p)).clip L C = absClipRect rb.clip L C) ∧
    (RB.restore (RB.run (RB.save rb) p)).pen = rb.pen ∧
    (∀ L C, absMasked (RB.restore (RB.run (RB.save rb) p)) L C = absMasked rb L C) ∧
    getCursor (RB.restore (RB.run (RB.save rb) p)) = getCursor rb ∧
    (∀ L C, absContent (RB.restore (RB.run (RB.save rb) p)) L C = absContent (RB.run (RB.save rb) p) L C)

theorem save_restore : SaveRestoreFull := by
  intro rb p wf hb
  obtain ⟨w0, R0⟩ := save_refines wf (refines_absOf rb)
  obtain ⟨w1, R1⟩ := run_refines p w0 R0
  have R := (restore_refines w1 R1).2
  obtain ⟨s1, s2, s3, s4, s5, s6, s8⟩ := save_restore_abs (absOf rb) p hb
  obtain ⟨x, y, c, q, m⟩ := (refines_absOf rb).regs R s1 s2 s3 s4 s5
  exact ⟨x, y, c, q, m, by rw [← R.vc, s6]; rfl, fun L C => by rw [← R.content L C, s8, R1.content L C]⟩

/-- Regression for the repaired defect (`vc_pos_set_not_saved`, fixed by 85271b4):
    `save; goto 0 0; restore` on a fresh buffer leaves the cursor unset again, and `goto; save; ungoto; restore`
    brings it back. -/
theorem save_goto_restore_cursor :
    getCursor (RB.restore (RB.goto (RB.save (RB.new 1 1 0 0)) 0 0)) = none ∧
    getCursor (RB.restore (RB.ungoto (RB.save (RB.goto (RB.new 1 1 7 7) 0 3)))) = some (0, 3) := by
  decide

/-- Non-vacuity: a balanced program with a nested pair, cursor moved and unset in between. -/
example : Balanced [.goto 1 1, .save, .ungoto, .translate 1 1, .restore, .mask ⟨0, 0, 1, 1⟩, .eraseAt 0 0 3] := rfl

/-! ### the text widths are C07's -/

/-- The width function the render-buffer model uses is the verified one of C07 (`Width.wcwidth`), hence equal
    to the search-free reading of the tables (`Props.C07.wcwidth_eq_spec`). -/
theorem width_is_c07 (cp : Nat) : RB.Utf8.wcwidth cp = Width.wcwidth cp ∧ RB.Utf8.wcwidth cp = Width.wcwidthSpec cp :=
  ⟨RB.Utf8.wcwidth_eq cp, (RB.Utf8.wcwidth_eq cp).trans (Props.C07.wcwidth_eq_spec cp)⟩

/-- **The columns of `text_cellwise` and `cursor_advances_text` are C07's columns.**  The string can be scanned
    into characters `cs` in the sense of C07 (`Props.C07.Scans`; by `Props.C07.scans_sound` each `c ∈ cs` is what
    the decoder finds at its offset, with `c.w = wcwidth c.cp ≥ 0`); the render buffer accepts the text exactly if
    that scan reaches the end of the string, and then `n` in `Utf8.stringColumns s = some n` is the sum of the
    widths of its characters. -/
theorem text_columns_are_c07 (s : List UInt8) :
    ∃ cs t, Props.C07.Scans (RB.Utf8.memOf s) (s.length + 1) (some s.length) Tickit.Utf8.Pos.zero cs t ∧
      RB.Utf8.stringColumns s = (if t = .eof then some ((cs.map (·.w)).sum) else none) :=
  RB.Utf8.stringColumns_c07 s

/-- **`get_cell_text` answers from the abstract content.**  On a well-formed buffer
    `tickit_renderbuffer_get_cell_text(rb, l, c, buffer, len)` returns `-1` exactly for cells outside the clipping
    region (after translation), and otherwise what `contentText` says about the abstract content of the cell
    `(l + xlLine, c + xlCol)` — independent of how the runs around it were split, shortened or re-pointed. -/
theorem get_cell_text_spec (rb : RB) (wf : WF rb) (l c : Int) (len : Nat) :
    getCellText rb l c len =
      if absClipRect rb.clip (l + rb.xlLine) (c + rb.xlCol) = true
      then contentText (absContent rb (l + rb.xlLine) (c + rb.xlCol)) len else (-1, []) :=
  getCellText_abs wf l c len

/-- Skipped and erased cells have no text; a CHAR cell yields the UTF-8 encoding of its code point and a LINE cell
    that of its glyph (`-1` if the buffer is too short). -/
theorem cell_text_simple (p : Pen) (m : Nat) (cp : Int) (len : Nat) :
    contentText .skip len = (0, []) ∧ contentText (.erase p) len = (0, []) ∧
    contentText (.char p cp) len =
      (if len < (RB.Utf8.put cp.toNat).length then ((-1 : Int), []) else (((RB.Utf8.put cp.toNat).length : Int), RB.Utf8.put cp.toNat)) ∧
    contentText (.line p m) len =
      (if len < (RB.Utf8.put (Gen.RBWidth.linemaskToChar.getD m 0)).length then ((-1 : Int), [])
       else (((RB.Utf8.put (Gen.RBWidth.linemaskToChar.getD m 0)).length : Int), RB.Utf8.put (Gen.RBWidth.linemaskToChar.getD m 0))) :=
  ⟨rfl, rfl, rfl, rfl⟩

/-- **The text of a text cell is a grapheme of its string, in C07's terms**: for a cell showing column `k` of
    `s`, with `st` = where C07's specification (`specRun`) stops counting whole graphemes of `s` under the limit
    "`k` columns" and `en` = one grapheme further, the query returns the bytes `s[st.bytes, en.bytes)`. -/
theorem cell_text_of_text (p : Pen) (s : List UInt8) (k : Int) (len : Nat) :
    ∃ cs1 t1 cs2 t2 st en,
      Props.C07.Scans (RB.Utf8.memOf s) (s.length + 1) none Tickit.Utf8.Pos.zero cs1 t1 ∧
      st = (Tickit.Utf8.specRun (some ⟨none, -1, -1, k⟩) (Props.C07.graphemes cs1) t1 Tickit.Utf8.Pos.zero).pos ∧
      Props.C07.Scans (RB.Utf8.memOf s) (s.length + 1) none st cs2 t2 ∧
      en = (Tickit.Utf8.specRun (some ⟨none, -1, st.graphemes + 1, -1⟩) (Props.C07.graphemes cs2) t2 st).pos ∧
      contentText (.text p s k) len =
        (if (len : Int) < (en.bytes : Int) - st.bytes then (-1, [])
         else ((en.bytes : Int) - st.bytes, (s.drop st.bytes).take (en.bytes - st.bytes))) :=
  cellText_text_c07 p s k len

/-- Non-vacuity: `a`, combining acute, fullwidth `A`, `b` drawn at column 0; the cell at column 0 yields
    `a` + the combining mark (3 bytes), column 1 the wide character, column 3 `b`; a cell outside the clip `-1`. -/
example :
    let rb := RB.run (RB.new 1 6 0 0) [.textAt 0 0 [0x61, 0xcc, 0x81, 0xef, 0xbc, 0xa1, 0x62]]
    getCellText rb 0 0 255 = (3, [0x61, 0xcc, 0x81]) ∧ getCellText rb 0 1 255 = (3, [0xef, 0xbc, 0xa1]) ∧
    getCellText rb 0 3 255 = (1, [0x62]) ∧ getCellText rb 0 9 255 = (-1, []) := by
  decide +kernel

/-- The single-cell query with any buffer (`getcell` of the harness: also a NULL buffer, and the terminator)
    returns the value and the bytes of `get_cell_text_spec`'s `getCellText`. -/
theorem get_cell_text_query (rb : RB) (l c : Int) (len : Nat) :
    (getCellTextQ rb l c (some len)).ret = (getCellText rb l c len).1 ∧
    (getCellTextQ rb l c (some len)).bytes = (getCellText rb l c len).2 := getCellTextQ_eq rb l c len

/-- **`textf`, `textf_at`, `vtextf`, `vtextf_at` draw exactly the formatted result, whatever its length.**
    `put_vtextf` of the working tree (stack buffer, `tmp_alloc`, second `vsnprintf` into the scratch area; constants
    regenerated from the source) hands the complete result `s` of the formatting to `put_text` — nothing is lost to the
    terminator at 64 bytes or at the size of the scratch area (256, 512, …) —, never reads past the area, and the
    area only grows (so its size stays positive, from `tickit_renderbuffer_new` on).  Hence these functions are
    `text`/`text_at` on `s`, and every theorem above about `Op.textAt`/`Op.text` applies to them. -/
theorem textf_formats_exactly (tmpsize : Nat) (h : 0 < tmpsize) (s : List UInt8) :
    (∃ size, vtextf tmpsize s = some (s, size) ∧ tmpsize ≤ size) ∧ 0 < Gen.RBSpan.c_TMPSIZE_INIT :=
  ⟨vtextfWith_exact _ (by decide) tmpsize h s, by decide⟩

/-- Non-vacuity (and the boundary the seeded regression `tmp_alloc(rb, len)` breaks): a result exactly as long as
    the scratch area is passed on whole, and the area doubles; without the extra byte it would lose its last
    character. -/
example : vtextf 4 (List.replicate 300 65) = some (List.replicate 300 65, 512) ∧
    vtextfWith ⟨2, 0⟩ 4 [65, 66, 67, 68] = some ([65, 66, 67, 0], 4) := by decide +kernel

/-! ### the span query

  `tickit_renderbuffer_get_span` is an observation API that no clause of C03 speaks about: the statements below are a
  record of how its answer relates to the abstract content (they are not part of the property, the check gives no
  SPEC verdict on the answers, and the repair is a note that is not applied). -/

/-- The specification of `tickit_renderbuffer_get_span` for a reading `cfg` of its two critical statements: on a
    well-formed buffer the query for user coordinates `(l, c)` fails (`-1`, nothing stored) exactly for cells outside
    the clipping region (after translation); otherwise it reports a piece of `n ≥ 1` columns, inside the buffer, that
    is homogeneous in the abstract content (`homogeneous`: every cell of it shows the continuation of the first
    one's content; a line or character cell is a piece of its own) — however the runs were split, shortened or
    re-pointed — and answers what `specSpanOut` says about the content of the cell and that `n`: inactive and empty
    for a skipped piece; otherwise active, with the content's pen, the text of the `n` columns (`specSpanBytes`),
    NUL-terminated if there is room, its length in `info->len` and as the return value, `-1` if it does not fit. -/
def GetSpanSpec (cfg : SpanCfg) : Prop :=
  ∀ (rb : RB), WF rb → ∀ (l c : Int) (info infoPen buf : Bool) (len : Nat),
    if absClipRect rb.clip (l + rb.xlLine) (c + rb.xlCol) = true then
      ∃ n, homogeneous (absOf rb) (l + rb.xlLine) (c + rb.xlCol) n = true ∧
        getSpanQ cfg rb l c info infoPen buf len =
          specSpanOut (absContent rb (l + rb.xlLine) (c + rb.xlCol)) n info infoPen buf len
    else getSpanQ cfg rb l c info infoPen buf len = { ret := -1 }

/-- **`get_span` answers from the abstract content** — for the repaired text (fixes/C03_get_span.patch:
    `return retlen;`, column limit `offs + cols`; a note, not applied). -/
theorem get_span_spec : GetSpanSpec ⟨true, true⟩ :=
  fun _ wf l c info infoPen buf len => getSpanQ_abs wf l c info infoPen buf len

/-- The model of the working tree is the repaired one exactly when the extractor reads both repaired statements;
    then the specification holds of it.  (The repair is a note that is not applied: on the tree as it is the extractor
    reads neither, the hypothesis fails, and `get_span_found_counterexample` is what holds.) -/
theorem get_span_spec_tree (h : spanCfg = ⟨true, true⟩) : GetSpanSpec spanCfg := h ▸ get_span_spec

/-- A text run after an overwrite: `abcdef`, then `A` over column 2. -/
def spanExample : RB := RB.run (RB.new 1 6 0 0) [.textAt 0 0 [0x61, 0x62, 0x63, 0x64, 0x65, 0x66], .charAt 0 2 0x41]

/-- **The text as found does not satisfy that statement** (recorded, not acted upon; correspondence regressions
    corpus/C03/get_span_returns_buflen.ops, get_span_text_limit.ops): with `return len;` the query at column 0 of
    `ab│A│def` with a 16-byte buffer returns 16, not the 2 bytes of `ab`; with the column limit `span->cols` the piece
    `def` (3 columns from column 3 of its string) yields an empty text.  Either statement alone breaks it. -/
theorem get_span_found_counterexample :
    ¬ GetSpanSpec ⟨false, false⟩ ∧ ¬ GetSpanSpec ⟨false, true⟩ ∧ ¬ GetSpanSpec ⟨true, false⟩ := by
  -- a query that reports `n0` columns but does not answer what the specification says about `n0` columns refutes it
  have aux : ∀ (cfg : SpanCfg) (rb : RB), WF rb → ∀ (l c : Int) (len : Nat) (n0 : Int),
      absClipRect rb.clip (l + rb.xlLine) (c + rb.xlCol) = true →
      (getSpanQ cfg rb l c true true true len).nColumns = some n0 →
      getSpanQ cfg rb l c true true true len ≠ specSpanOut (absContent rb (l + rb.xlLine) (c + rb.xlCol)) n0 true true true len →
      ¬ GetSpanSpec cfg := by
    intro cfg rb wf l c len n0 hclip hn hne h
    have := h rb wf l c true true true len
    rw [if_pos hclip] at this
    obtain ⟨n, _, e⟩ := this
    have e2 : some n0 = some n := by rw [← hn, e, specSpanOut_nColumns]; rfl
    cases e2
    exact hne e
  have spanExample_wf : WF spanExample := wf_run _ (wf_new 1 6 0 0 (by decide) (by decide)) _
  refine ⟨?_, ?_, ?_⟩
  · exact aux _ spanExample spanExample_wf 0 0 16 2 (by decide +kernel) (by decide +kernel) (by decide +kernel)
  · exact aux _ spanExample spanExample_wf 0 0 16 2 (by decide +kernel) (by decide +kernel) (by decide +kernel)
  · exact aux _ spanExample spanExample_wf 0 3 16 3 (by decide +kernel) (by decide +kernel) (by decide +kernel)

/-- Non-vacuity of `get_span_spec`: the three pieces of `ab│A│def` as the repaired query reports them — length,
    activity, pen, text and terminator; a buffer that is too short; a NULL buffer; a cell outside the clip. -/
example :
    getSpanQ ⟨true, true⟩ spanExample 0 3 true true true 16 =
      { ret := 3, nColumns := some 3, isActive := some true, pen := some Pen.empty, len := some 3, textSet := true,
        bytes := [0x64, 0x65, 0x66], term := true } ∧
    getSpanQ ⟨true, true⟩ spanExample 0 4 true false true 2 =
      { ret := 2, nColumns := some 2, isActive := some true, len := some 2, textSet := true, bytes := [0x65, 0x66] } ∧
    (getSpanQ ⟨true, true⟩ spanExample 0 2 true false true 8).bytes = [0x41] ∧
    (getSpanQ ⟨true, true⟩ spanExample 0 0 true false true 1).ret = -1 ∧
    (getSpanQ ⟨true, true⟩ spanExample 0 0 false false false 0).ret = 2 ∧
    getSpanQ ⟨true, true⟩ spanExample 0 6 true true true 16 = { ret := -1 } ∧
    homogeneous (absOf spanExample) 0 3 3 = true := by
  decide +kernel

/-- **The text of a piece of a text run, in C07's terms**: for `n` columns of the string `s` from column `k` on, with
    `st` = where C07's specification (`specRun`) stops counting whole graphemes of `s` under the limit "`k` columns"
    and `en` = where it stops, continuing from `st`, under the limit "`k + n` columns", the text is the bytes
    `s[st.bytes, en.bytes)` and its length `en.bytes − st.bytes`. -/
theorem span_text_of_text (p : Pen) (s : List UInt8) (k n : Int) :
    ∃ cs1 t1 cs2 t2 st en,
      Props.C07.Scans (RB.Utf8.memOf s) (s.length + 1) none Tickit.Utf8.Pos.zero cs1 t1 ∧
      st = (Tickit.Utf8.specRun (some ⟨none, -1, -1, k⟩) (Props.C07.graphemes cs1) t1 Tickit.Utf8.Pos.zero).pos ∧
      Props.C07.Scans (RB.Utf8.memOf s) (s.length + 1) none st cs2 t2 ∧
      en = (Tickit.Utf8.specRun (some ⟨none, -1, -1, k + n⟩) (Props.C07.graphemes cs2) t2 st).pos ∧
      specSpanBytes (.text p s k) n = (s.drop st.bytes).take (en.bytes - st.bytes) ∧
      specSpanLen (.text p s k) n = (en.bytes : Int) - st.bytes :=
  spanText_text_c07 p s k n

/-- **… which is what lies between two counts from the start of the string.**  For `0 ≤ k`, `0 ≤ n`, scanning the
    characters of `s` once: the text of the `n` columns from column `k` on is `s[st.bytes, en.bytes)` with `st` /
    `en` the positions where C07's specification stops counting whole graphemes under the limits "`k` columns" /
    "`k + n` columns" (the code resumes the second count at `st`; `Props.C07.count_resumable` makes that the same). -/
theorem span_text_between_counts (p : Pen) (s : List UInt8) (k n : Int) (hk : 0 ≤ k) (hn : 0 ≤ n) :
    ∃ cs t st en,
      Props.C07.Scans (RB.Utf8.memOf s) (s.length + 1) none Tickit.Utf8.Pos.zero cs t ∧
      st = (Tickit.Utf8.specRun (some ⟨none, -1, -1, k⟩) (Props.C07.graphemes cs) t Tickit.Utf8.Pos.zero).pos ∧
      en = (Tickit.Utf8.specRun (some ⟨none, -1, -1, k + n⟩) (Props.C07.graphemes cs) t Tickit.Utf8.Pos.zero).pos ∧
      st.bytes ≤ en.bytes ∧
      specSpanBytes (.text p s k) n = (s.drop st.bytes).take (en.bytes - st.bytes) ∧
      specSpanLen (.text p s k) n = (en.bytes : Int) - st.bytes :=
  spanText_between_counts p s k n hk hn

/-- Non-vacuity: `a`, combining acute, fullwidth `A`, `b`: the two columns from column 1 on are the wide character
    (3 bytes); one column from column 1 on ends inside it and is empty; one column from column 2 on begins inside it
    and takes it whole together with nothing else. -/
example :
    specSpanBytes (.text Pen.empty [0x61, 0xcc, 0x81, 0xef, 0xbc, 0xa1, 0x62] 1) 2 = [0xef, 0xbc, 0xa1] ∧
    specSpanBytes (.text Pen.empty [0x61, 0xcc, 0x81, 0xef, 0xbc, 0xa1, 0x62] 1) 1 = [] ∧
    specSpanBytes (.text Pen.empty [0x61, 0xcc, 0x81, 0xef, 0xbc, 0xa1, 0x62] 2) 1 = [0xef, 0xbc, 0xa1] ∧
    specSpanLen (.text Pen.empty [0x61, 0xcc, 0x81, 0xef, 0xbc, 0xa1, 0x62] 0) 4 = 7 := by
  decide +kernel

/-- The other contents: nothing for skipped and erased pieces, the glyph of a line cell, the character of a
    character cell. -/
theorem span_text_simple (p : Pen) (m : Nat) (cp n : Int) :
    specSpanBytes .skip n = [] ∧ specSpanBytes (.erase p) n = [] ∧
    specSpanBytes (.line p m) n = RB.Utf8.put (Gen.RBWidth.linemaskToChar.getD m 0) ∧
    specSpanBytes (.char p cp) n = RB.Utf8.put cp.toNat := ⟨rfl, rfl, rfl, rfl⟩

/-! ### facts regenerated from the C source on every run (`bin/extract.d/25_rbwidth.py` → `Gen/RBWidth.lean`) -/

open Tickit.Gen.RBWidth in
/-- The model's cell states carry the values of `enum TickitRenderBufferCellState`. -/
theorem gen_cell_states :
    CState.toNat .skip = c_SKIP ∧ CState.toNat .text = c_TEXT ∧ CState.toNat .erase = c_ERASE ∧
    CState.toNat .cont = c_CONT ∧ CState.toNat .line = c_LINE ∧ CState.toNat .char = c_CHAR := by decide

open Tickit.Gen.RBWidth in
/-- The four directions of a line mask are disjoint two-bit fields inside one byte (so OR-accumulation of one
    direction never disturbs another), the line styles fit in two bits, and the caps are two distinct bits. -/
theorem gen_linemask_layout :
    [c_NORTH_SHIFT, c_EAST_SHIFT, c_SOUTH_SHIFT, c_WEST_SHIFT].Pairwise (fun x y => x + 2 ≤ y ∨ y + 2 ≤ x) ∧
    (∀ s ∈ [c_NORTH_SHIFT, c_EAST_SHIFT, c_SOUTH_SHIFT, c_WEST_SHIFT], s + 2 ≤ 8) ∧
    c_TICKIT_LINE_SINGLE < 4 ∧ c_TICKIT_LINE_DOUBLE < 4 ∧ c_TICKIT_LINE_THICK < 4 ∧
    c_TICKIT_LINECAP_START &&& c_TICKIT_LINECAP_END = 0 ∧ c_TICKIT_LINECAP_START ≠ 0 ∧ c_TICKIT_LINECAP_END ≠ 0 ∧
    linemaskToChar.size = 256 := by decide +kernel

/-- A table `bisearch` may be used on: intervals well-formed, strictly increasing, not touching. -/
def sortedIntervals (t : Array (Nat × Nat)) : Bool :=
  (List.range t.size).all fun i =>
    decide ((t.getD i (0, 0)).1 ≤ (t.getD i (0, 0)).2) &&
    (decide (i + 1 ≥ t.size) || decide ((t.getD i (0, 0)).2 < (t.getD (i + 1) (0, 0)).1))

open Tickit.Gen.RBWidth in
/-- The two width tables of the working tree are sorted and non-overlapping (the precondition of the binary
    search the width lookup uses), and not empty. -/
theorem gen_width_tables_sorted :
    sortedIntervals combining = true ∧ sortedIntervals fullwidth = true ∧ 0 < combining.size ∧ 0 < fullwidth.size := by
  -- they are the tables of C07, which are sorted
  have key : ∀ t : Width.Table, Width.Sorted t → sortedIntervals t = true := fun t hs => by
    unfold sortedIntervals
    rw [List.all_eq_true]
    intro i hi
    have nb := RB.Utf8.sorted_neighbours hs i (List.mem_range.1 hi)
    simp only [Bool.and_eq_true, Bool.or_eq_true, decide_eq_true_eq]
    exact ⟨nb.1, if h : i + 1 < t.size then Or.inr (nb.2 h) else Or.inl (by omega)⟩
  rw [RB.Utf8.tables_eq.1, RB.Utf8.tables_eq.2]
  exact ⟨key _ Props.C07.combining_sorted, key _ Props.C07.fullwidth_sorted, by decide +kernel, by decide +kernel⟩

/-- Widths of the characters the generator uses most: ASCII 1, combining acute 0, fullwidth A 2, CJK 2,
    an emoji from `fullwidth.inc` 2 (a test of the tables above, not a theorem about all of Unicode). -/
example : Utf8.wcwidth 0x41 = 1 ∧ Utf8.wcwidth 0x301 = 0 ∧ Utf8.wcwidth 0xff21 = 2 ∧ Utf8.wcwidth 0x4e00 = 2 ∧
    Utf8.wcwidth 0x1f600 = 2 := by decide +kernel

end Tickit.Props.C03
