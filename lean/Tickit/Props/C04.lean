import Tickit.Proof.RBFlushWhole
import Tickit.Proof.RBFlushReach
import Tickit.Proof.RBFlushX
import Tickit.Proof.RBFlushSuspend
import Tickit.Proof.RBFlushSim
/-
  C04 — flushing a render buffer reproduces its content on the terminal exactly once.

  The model (Model/RBFlush.lean) mirrors the code *with* the two repairs fixes/C04_flush_wide_cut.patch and
  fixes/C04_linechars_fallback.patch; the code before them is kept (`textReqsOld`, `linemaskToCharOld`) for the
  counterexample theorems.  Two known findings remain: a CHAR cell holding a code point that is not one column wide
  (`flush_spec` carries the hypothesis `CharOK` that excludes exactly that) and content of the buffer beyond the
  terminal's size, which the flush does not clip (`flush_spec_screen`: any buffer size, any screen size, under the
  hypothesis that the content lies within the screen; `FlushSpec` is the special case of a terminal at least as wide as
  the buffer on a plane unbounded downwards).
-/
namespace Tickit.Props.C04
open Tickit Tickit.RB Tickit.RBFlush

/-- The statement about a glyph table: for every mask 1 … 255 the glyph is a box-drawing character with an arm in
    exactly the directions in which the mask has a style, and it is *the* character with exactly the mask's four
    styles whenever Unicode has such a character. -/
def GlyphArms (table : Array Nat) : Prop :=
  ∀ mask, 1 ≤ mask → mask < 256 →
    ∃ a : Arms, armsOf (table.getD mask 0) = some a ∧
      ((a.1 ≠ 0 ↔ (maskArms mask).1 ≠ 0) ∧ (a.2.1 ≠ 0 ↔ (maskArms mask).2.1 ≠ 0) ∧
       (a.2.2.1 ≠ 0 ↔ (maskArms mask).2.2.1 ≠ 0) ∧ (a.2.2.2 ≠ 0 ↔ (maskArms mask).2.2.2 ≠ 0)) ∧
      (∀ cp, armsOf cp = some (maskArms mask) → table.getD mask 0 = cp)

/-- The boolean form decided over the whole table implies the statement. -/
theorem glyphArms_of_glyphOK (table : Array Nat)
    (h : ∀ m, m < 256 → 1 ≤ m → glyphOK m (table.getD m 0) = true) : GlyphArms table := by
  intro mask h1 h2
  obtain ⟨a, ha, hd, hex⟩ := (glyphOK_iff _ _).1 (h mask h2 h1)
  refine ⟨a, ha, (sameDirs_iff _ _).1 hd, fun cp hcp => ?_⟩
  exact armsOf_inj (by rw [ha, hex (hasExact_of_armsOf hcp)]) hcp

/-- **glyph_arms**: the table of the working tree (`src/linechars.inc`, regenerated into `Gen.LineChars` on every
    run) satisfies the statement — decided by the kernel over all 255 masks. -/
theorem glyph_arms : GlyphArms Tickit.Gen.LineChars.linemaskToChar :=
  glyphArms_of_glyphOK _ glyph_table_ok

/-- Non-vacuity: mask 0x12 (north double, south single) has no exact character; the table gives U+2502 (both arms). -/
example : Tickit.Gen.LineChars.linemaskToChar.getD 0x12 0 = 0x2502 ∧ maskArms 0x12 = (2, 0, 1, 0) ∧
    armsOf 0x2502 = some (1, 0, 1, 0) := by decide +kernel

/-- `src/linechars.inc` before the repair of `linechars.inc.PL` (fallback `$mask & 0xAA`). -/
def linemaskToCharOld : Array Nat := #[
  0x0000, 0x2575, 0x2575, 0x2579, 0x2576, 0x2514, 0x2559, 0x2516, 0x2576, 0x2558, 0x255a, 0x255a, 0x257a, 0x2515, 0x255a, 0x2517,
  0x2577, 0x2502, 0x2575, 0x257f, 0x250c, 0x251c, 0x2575, 0x251e, 0x2552, 0x255e, 0x255a, 0x255a, 0x250d, 0x251d, 0x255a, 0x2521,
  0x2577, 0x2577, 0x2551, 0x2551, 0x2553, 0x2577, 0x255f, 0x2551, 0x2554, 0x2554, 0x2560, 0x2560, 0x2554, 0x2554, 0x2560, 0x2560,
  0x257b, 0x257d, 0x2551, 0x2503, 0x250e, 0x251f, 0x2551, 0x2520, 0x2554, 0x2554, 0x2560, 0x2560, 0x250f, 0x2522, 0x2560, 0x2523,
  0x2574, 0x2518, 0x255c, 0x251a, 0x2500, 0x2534, 0x2568, 0x2538, 0x2576, 0x2576, 0x255a, 0x255a, 0x257c, 0x2536, 0x255a, 0x253a,
  0x2510, 0x2524, 0x2575, 0x2526, 0x252c, 0x253c, 0x2575, 0x2540, 0x2576, 0x2576, 0x255a, 0x255a, 0x252e, 0x253e, 0x255a, 0x2544,
  0x2556, 0x2577, 0x2562, 0x2551, 0x2565, 0x2577, 0x256b, 0x2551, 0x2554, 0x2554, 0x2560, 0x2560, 0x2554, 0x2554, 0x2560, 0x2560,
  0x2512, 0x2527, 0x2551, 0x2528, 0x2530, 0x2541, 0x2551, 0x2542, 0x2554, 0x2554, 0x2560, 0x2560, 0x2532, 0x2546, 0x2560, 0x254a,
  0x2574, 0x255b, 0x255d, 0x255d, 0x2574, 0x2574, 0x255d, 0x255d, 0x2550, 0x2567, 0x2569, 0x2569, 0x2550, 0x2550, 0x2569, 0x2569,
  0x2555, 0x2561, 0x255d, 0x255d, 0x2574, 0x2574, 0x255d, 0x255d, 0x2564, 0x256a, 0x2569, 0x2569, 0x2550, 0x2550, 0x2569, 0x2569,
  0x2557, 0x2557, 0x2563, 0x2563, 0x2557, 0x2557, 0x2563, 0x2563, 0x2566, 0x2566, 0x256c, 0x256c, 0x2566, 0x2566, 0x256c, 0x256c,
  0x2557, 0x2557, 0x2563, 0x2563, 0x2557, 0x2557, 0x2563, 0x2563, 0x2566, 0x2566, 0x256c, 0x256c, 0x2566, 0x2566, 0x256c, 0x256c,
  0x2578, 0x2519, 0x255d, 0x251b, 0x257e, 0x2535, 0x255d, 0x2539, 0x2550, 0x2550, 0x2569, 0x2569, 0x2501, 0x2537, 0x2569, 0x253b,
  0x2511, 0x2525, 0x255d, 0x2529, 0x252d, 0x253d, 0x255d, 0x2543, 0x2550, 0x2550, 0x2569, 0x2569, 0x252f, 0x253f, 0x2569, 0x2547,
  0x2557, 0x2557, 0x2563, 0x2563, 0x2557, 0x2557, 0x2563, 0x2563, 0x2566, 0x2566, 0x256c, 0x256c, 0x2566, 0x2566, 0x256c, 0x256c,
  0x2513, 0x252a, 0x2563, 0x252b, 0x2531, 0x2545, 0x2563, 0x2549, 0x2566, 0x2566, 0x256c, 0x256c, 0x2533, 0x2548, 0x256c, 0x254b
]

/-- Counterexample (before the repair): mask 0x12 was drawn as U+2575 "light up": the south arm is lost. -/
theorem glyph_arms_old_counterexample : ¬ GlyphArms linemaskToCharOld := by
  intro h
  obtain ⟨a, ha, ⟨_, _, hs, _⟩, _⟩ := h 0x12 (by omega) (by omega)
  have h1 : armsOf (linemaskToCharOld.getD 0x12 0) = some (1, 0, 0, 0) := by decide +kernel
  rw [h1] at ha
  cases ha
  exact absurd (hs.mpr (by decide +kernel)) (by decide)

/-- 92 of the 255 entries were wrong before the repair. -/
theorem glyph_arms_old_bad_count :
    ((List.range 256).filter fun m => decide (1 ≤ m) && !glyphOK m (linemaskToCharOld.getD m 0)).length = 92 := by
  have h : (linemaskToCharOld.toList.zipIdx.filter fun q => decide (1 ≤ q.2) && !glyphOKc q.2 q.1).length = 92 := by
    decide +kernel
  have hs : linemaskToCharOld.size = 256 := by decide +kernel
  rw [zipIdx_toList _ 0, List.filter_map, List.length_map, hs] at h
  refine (congrArg List.length (List.filter_congr fun m hm => ?_)).trans h
  rw [Function.comp_apply, glyphOK_eq (List.mem_range.1 hm)]

/-- **flush_resets**: whenever the flush completes, the buffer afterwards has its size, every line is a single SKIP
    run without mask (so nothing is pending: the specification asks nothing of any terminal cell), the virtual cursor
    is unset, translation zero, clip the whole buffer, pen empty, the save stack empty, and the depth 0 (for a buffer
    whose depth counts its stack frames). -/
theorem flush_resets (rb : RB) (h : (flushToTerm rb).out = .ok) :
    let rb' := (flushToTerm rb).rb
    rb'.lines = rb.lines ∧ rb'.cols = rb.cols ∧ IsEmpty rb' ∧ (∀ l c, want rb' l c = .keep) ∧
    rb'.vcSet = false ∧ rb'.xlLine = 0 ∧ rb'.xlCol = 0 ∧ rb'.clip = ⟨0, 0, rb.lines, rb.cols⟩ ∧
    rb'.pen = Pen.empty ∧ rb'.stack = [] ∧ (rb.depth = rb.stack.length → rb'.depth = 0) := by
  have hr : (flushToTerm rb).rb = reset rb := flushWith_rb_of_ok _ rb h
  simp only [hr]
  exact ⟨rfl, rfl, reset_isEmpty rb, want_of_isEmpty _ (reset_isEmpty rb), rfl, rfl, rfl, rfl, rfl, rfl, reset_depth rb⟩

/-- "Exactly once", second half: flushing again right away sends nothing to the terminal. -/
theorem flush_again_silent (rb : RB) (h : (flushToTerm rb).out = .ok) :
    (flushToTerm (flushToTerm rb).rb).reqs = [] ∧ (flushToTerm (flushToTerm rb).rb).out = .ok := by
  have hr : (flushToTerm rb).rb = reset rb := flushWith_rb_of_ok _ rb h
  rw [hr]
  unfold flushToTerm flushWith
  simp only [flushLines_isEmpty textReqs (reset rb) (reset_isEmpty rb), and_self]

/-- Non-vacuity: a 1×3 buffer holding the text "ab" at column 1 flushes (`out = ok`) with four requests. -/
example :
    let rb := textAt (RB.new 1 3 0 0) 0 1 [0x61, 0x62]
    (flushToTerm rb).out = .ok ∧ (flushToTerm rb).reqs = [.goto 0 1, .setpen Pen.empty, .print [0x61, 0x62] 0 2] := by
  decide +kernel

/-- The statement of `flush_spec` for a buffer `rb`: the flush completes and, whatever the terminal showed before
    (`t`: any grid, any cursor position *including the pending-wrap state* `col = cols`, pen, cursor oracle, print path),
    provided the terminal is at least as wide as the buffer — the one assumption about the right edge: `GridTerm` has the
    VT behaviour there (printing into the last column leaves pending wrap, the next character would wrap, `erasech` in
    that state acts on the last column, cursor movements clamp and end it), and the theorem shows the flush never relies
    on it: every line starts with a goto and nothing is printed past the buffer's width —
    every terminal cell afterwards satisfies `cellOK` against
    the content of the buffer: skipped cells and cells outside the buffer are untouched (glyph, pen and write count),
    erase cells are blank, char cells show their code point, line cells a box-drawing glyph with the arms of the mask,
    text cells the grapheme of their column (a half of a cut double-width character: blank), each with a rendition
    equivalent to its pen and written exactly once. -/
def FlushSpec (rb : RB) : Prop :=
  ∀ t : GridTerm, rb.cols ≤ t.cols →
    (flushToTerm rb).out = .ok ∧
    ∀ l c, cellOK (want rb l c) (t.cells l c) ((t.run (flushToTerm rb).reqs).cells l c) = true

/-- **flush_spec**: `FlushSpec` for every well-formed buffer (`FlushWF`: every line is tiled by runs, LINE and CHAR runs
    have one column, line masks are 1 … 255, every TEXT run lies inside a text the width counter accepts, and — the one
    hypothesis that excludes a known finding — every CHAR cell holds a code point that is one column wide).  Texts may
    mix single-width, double-width and zero-width characters and a run may begin or end at *any* column of its text,
    including the middle of a double-width character (its visible half is blanked).  Every prior grid, cursor
    position, terminal pen, oracle for the cursor after `erasech(…, MAYBE)` and print path. -/
theorem flush_spec (rb : RB) (hwf : FlushWF rb) : FlushSpec rb :=
  fun t hcw => let h := flush_spec_within hwf (FitsIn.self rb) t hcw; ⟨h.ok, fun l c => h.inside l c trivial⟩

/-- **flush_spec_reachable**: `FlushSpec` for the buffer any drawing program (the operations of C03, engine `rb`)
    leaves behind on a fresh buffer, given that what it drew is presentable (`ContentOK`: line styles 1 … 3 so that masks
    are 1 … 255, CHAR code points one column wide, texts accepted by the width counter).  The run structure is C03's
    invariant `WF` (`run_new_refines`); `ContentOK` is not tracked by that invariant and stays a hypothesis. -/
theorem flush_spec_reachable (lines cols g1 g2 : Int) (hl : 0 ≤ lines) (hc : 0 < cols) (prog : List Op)
    (hcont : ContentOK (RB.run (RB.new lines cols g1 g2) prog)) :
    FlushSpec (RB.run (RB.new lines cols g1 g2) prog) :=
  flush_spec _ (flushWF_of_WF (run_new_refines lines cols g1 g2 hl hc prog).1 hcont)

/-- **flush_spec_program**: the quantifier of the property — "every buffer content reachable by drawing programs".
    For every program over the operations of C03 (texts accepted or rejected, cursor-relative and absolute drawing,
    erase, skip, lines, rectangles, clips, masks, translations, pens, save/savepen/restore, reset, in any order) run on
    a fresh buffer, provided it draws only one-column CHAR code points (the known finding otherwise) and line styles
    single/double/thick: the flush of the resulting buffer satisfies `FlushSpec`.  The run structure comes from C03's
    invariant and refinement; the presentability of the content (`ContentOK`) is proved at the level of C03's cell-wise
    specification (`flushWF_of_program`, Proof/RBFlushReach.lean); the acceptance test of `put_string`
    (`tickit_utf8_ncount` with the length) implies the NUL-terminated decoding the flush relies on. -/
theorem flush_spec_program (lines cols g1 g2 : Int) (hl : 0 ≤ lines) (hc : 0 < cols) (prog : List Op)
    (hok : ∀ o ∈ prog, OpOK o) : FlushSpec (RB.run (RB.new lines cols g1 g2) prog) :=
  flush_spec _ (flushWF_of_program lines cols g1 g2 hl hc prog hok)

/-- Non-vacuity: a program with a clip, a translation, a mask under `save`, a text cut inside double-width characters, a
    line across it and a `restore`. -/
example : FlushSpec (RB.run (RB.new 2 8 7 7)
    [.clip ⟨0, 1, 2, 6⟩, .translate 0 1, .save, .mask ⟨0, 3, 1, 1⟩,
     .textAt 0 (-1) [0x78, 0xef, 0xbc, 0xa1, 0x79, 0xe4, 0xb8, 0x80, 0x7a], .vlineAt 0 1 2 2 3, .charAt 1 0 0x51,
     .restore, .eraseAt 1 4 9]) :=
  flush_spec_program 2 8 7 7 (by decide) (by decide) _ (by
    intro o ho
    simp only [List.mem_cons, List.mem_nil_iff, or_false] at ho
    rcases ho with rfl | rfl | rfl | rfl | rfl | rfl | rfl | rfl | rfl
    all_goals first
      | exact trivial
      | exact (by decide : (1 : Nat) ≤ 2 ∧ 2 ≤ 3)
      | exact (by unfold CharOK; decide +kernel : CharOK 0x51))

def blankTerm : GridTerm := { cells := fun _ _ => {}, line := 0, col := 0, cols := 80 }

/-! ## Every buffer and terminal size: a screen of `L` lines and `t.cols` columns

  `FlushSpec` speaks of a terminal at least as wide as the buffer, on a plane unbounded downwards.  The statement below
  drops both: the terminal is a screen of `L` lines (`GridTerm.runL`: a cursor movement below the last line is clamped,
  the deferred wrap on the last line scrolls) and `t.cols` columns, of *any* size, and the buffer may be larger than the
  screen in either direction as long as what it holds lies within the screen — said with the specification itself: no
  cell outside the screen is owed anything. -/

/-- The flush of `rb` on a screen of `L` lines and `t.cols` columns that contains the content of the buffer: it
    completes; it never has a cursor movement clamped and never wraps or scrolls (the screen does exactly what the
    unbounded plane does); and every cell satisfies `cellOK` against the content of the buffer. -/
def FlushSpecScreen (rb : RB) : Prop :=
  ∀ (t : GridTerm) (L : Int), (∀ l c, L ≤ l ∨ t.cols ≤ c → want rb l c = .keep) →
    (flushToTerm rb).out = .ok ∧
    t.runL L (flushToTerm rb).reqs = t.run (flushToTerm rb).reqs ∧
    ∀ l c, cellOK (want rb l c) (t.cells l c) ((t.runL L (flushToTerm rb).reqs).cells l c) = true

/-- **flush_spec_screen**: `FlushSpecScreen` for every well-formed buffer (same hypotheses as `flush_spec`). -/
theorem flush_spec_screen (rb : RB) (hwf : FlushWF rb) : FlushSpecScreen rb := by
  intro t L hout
  have h := flush_spec_within (L := L) hwf (FitsIn.of_want hout) t (Int.le_refl _)
  have he := GridTerm.runL_eq_of_calm L _ t h.calm
  exact ⟨h.ok, he, fun l c => by rw [he]; exact h.inside l c trivial⟩

/-- `FlushSpec` (the plane, a terminal at least as wide as the buffer) is the special case `L = rb.lines`. -/
theorem flushSpec_of_screen (rb : RB) (h : FlushSpecScreen rb) : FlushSpec rb := by
  intro t hcw
  obtain ⟨h1, h2, h3⟩ := h t rb.lines fun l c ho => want_outside (by unfold RB.inGrid; omega)
  exact ⟨h1, by rw [h2] at h3; exact h3⟩

/-- **flush_spec_screen_program**: the same for the buffer any drawing program leaves behind (`flush_spec_program`). -/
theorem flush_spec_screen_program (lines cols g1 g2 : Int) (hl : 0 ≤ lines) (hc : 0 < cols) (prog : List Op)
    (hok : ∀ o ∈ prog, OpOK o) : FlushSpecScreen (RB.run (RB.new lines cols g1 g2) prog) :=
  flush_spec_screen _ (flushWF_of_program lines cols g1 g2 hl hc prog hok)

/-- A 3×6 buffer holding `ab` at (0,0) and `c` at (1,1): its content lies within 2 lines and 2 columns. -/
def smallContentRB : RB := textAt (textAt (RB.new 3 6 0 0) 0 0 [0x61, 0x62]) 1 1 [0x63]

/-- Non-vacuity: the buffer is larger than the 2×2 screen in both directions, its content is not, and the hypothesis of
    `FlushSpecScreen` holds of it. -/
example : ∀ l c, (2 : Int) ≤ l ∨ ({ cells := fun _ _ => {}, line := 0, col := 0, cols := 2 } : GridTerm).cols ≤ c →
    want smallContentRB l c = .keep :=
  want_keep_of_contentWithinB (W := 2) (L := 2) (by decide +kernel)

example : FlushSpecScreen smallContentRB := flush_spec_screen _ (flushWF_of_flushWFb (by decide +kernel))

/-- The statement without the hypothesis "the content lies within the screen": whatever the sizes, the cells of the
    screen show what the buffer holds there. -/
def C04_anysize : Prop :=
  ∀ rb : RB, FlushWF rb → ∀ (t : GridTerm) (L : Int),
    ∀ l c, 0 ≤ l → l < L → 0 ≤ c → c < t.cols →
      cellOK (want rb l c) (t.cells l c) ((t.runL L (flushToTerm rb).reqs).cells l c) = true

/-- `abcd` on the first line of a 2×4 buffer. -/
def wideRB : RB := textAt (RB.new 2 4 0 0) 0 0 [0x61, 0x62, 0x63, 0x64]

/-- Counterexample (width): on a screen of 3 columns the `d` wraps to column 0 of the second line, a cell the buffer
    skips.  `tickit_renderbuffer_flush_to_term` does not clip to the terminal's size: the hypothesis of
    `FlushSpecScreen` (equivalently `rb.cols ≤ t.cols` in `FlushSpec`) cannot be dropped. -/
theorem C04_anysize_counterexample_width : ¬ C04_anysize := by
  intro h
  have := h wideRB (flushWF_of_flushWFb (by decide +kernel))
    { cells := fun _ _ => {}, line := 0, col := 0, cols := 3 } 2 1 0 (by omega) (by omega) (by omega) (by decide)
  revert this
  decide +kernel

/-- `a` at (0,0) and `b` at (1,0) of a 2×2 buffer. -/
def tallRB : RB := textAt (textAt (RB.new 2 2 0 0) 0 0 [0x61]) 1 0 [0x62]

/-- Counterexample (height): on a screen of one line the cursor movement to the second line is clamped and `b`
    overwrites `a`. -/
theorem C04_anysize_counterexample_height : ¬ C04_anysize := by
  intro h
  have := h tallRB (flushWF_of_flushWFb (by decide +kernel))
    { cells := fun _ _ => {}, line := 0, col := 0, cols := 80 } 1 0 0 (by omega) (by omega) (by omega) (by decide)
  revert this
  decide +kernel

/-! ## Line styles outside `TickitLineStyle`

  `flush_spec_program` asks of `hline_at`/`vline_at` a style among `TICKIT_LINE_SINGLE/DOUBLE/THICK` (1 … 3), the values
  of the enumeration the parameter is declared with.  The condition is sharp at both ends: style 0 makes LINE cells with
  mask 0, for which the glyph table holds U+0000, and style 4 shifted to the west arm leaves the 256-entry table. -/

/-- Style 0: `hline_at(0, 0, 1, 0, CAP_BOTH)` on a 1×2 buffer makes LINE cells with mask 0; the flush prints the table's
    entry 0, the NUL character, which is no picture of a line segment. -/
theorem line_style_zero_counterexample :
    ((RB.run (RB.new 1 2 0 0) [.hlineAt 0 0 1 0 3]).cell 0 0).lmask = 0 ∧
    ¬ FlushSpec (RB.run (RB.new 1 2 0 0) [.hlineAt 0 0 1 0 3]) := by
  refine ⟨by decide +kernel, ?_⟩
  intro h
  have := (h blankTerm (by decide +kernel)).2 0 0
  revert this
  decide +kernel

/-- Style 4: the west arm `4 << WEST_SHIFT` is 256: the mask indexes past the end of `linemask_to_char`. -/
theorem line_style_four_mask_out_of_table :
    ((RB.run (RB.new 1 2 0 0) [.hlineAt 0 0 1 4 3]).cell 0 1).lmask = 272 ∧
    Tickit.Gen.LineChars.linemaskToChar.size = 256 := by
  decide +kernel

/-- Everything to the right of a text lands in its own column: after the requests of a TEXT run the terminal cursor
    has advanced by exactly the run's columns, whatever part of the text the run shows (with a column to spare
    behind the run: `hroom`). -/
theorem text_run_advances (rb : RB) (line col : Int) (hl : 0 ≤ line ∧ line < rb.lines) (h0 : 0 ≤ col)
    (hr : RunAt rb line col) (hs : (rb.cell line col).state = .text) (t : GridTerm) (hcw : rb.cols ≤ t.cols)
    (ht : t.line = line ∧ t.col = col) (hroom : col + (rb.cell line col).cols < t.cols) :
    (t.run (textReqs (rb.cell line col))).col = col + (rb.cell line col).cols :=
  (text_run hl h0 hr hs t (by have := hr.fits; omega) ht).2 trivial hroom

/-! ### Non-vacuity: a buffer with a text cut inside a double-width character on both sides -/

/-- `"x" U+FF21 "yz" U+4E00` at column 0 of a 1×8 buffer, then `Q` over column 1 (left half of U+FF21) and an erase over
    columns 6-7 (right half of U+4E00 and beyond): runs `T1 H1 T4 E2`, the text run at columns 2-5 starts inside a
    double-width character and ends inside another. -/
def exampleRB : RB :=
  eraseAt (charAt (textAt (RB.new 1 8 0 0) 0 0 [0x78, 0xef, 0xbc, 0xa1, 0x79, 0x7a, 0xe4, 0xb8, 0x80]) 0 1 0x51) 0 6 2

theorem exampleRB_requests :
    (flushToTerm exampleRB).reqs =
      [.goto 0 0, .setpen Pen.empty, .print [0x78, 0xef, 0xbc, 0xa1, 0x79, 0x7a, 0xe4, 0xb8, 0x80] 0 1,
       .setpen Pen.empty, .print [0x51] 0 1,
       .setpen Pen.empty, .erasech 1 .yes, .print [0x78, 0xef, 0xbc, 0xa1, 0x79, 0x7a, 0xe4, 0xb8, 0x80] 4 2,
       .erasech 1 .yes,
       .setpen Pen.empty, .erasech 2 .maybe] := by
  decide +kernel

/-- The hypotheses of `flush_spec` hold of the example (decided by `flushWFb`). -/
theorem exampleRB_wf : FlushWF exampleRB := flushWF_of_flushWFb (by decide +kernel)

/-- … so `flush_spec` applies to it: a text cut inside double-width characters on both sides is flushed correctly. -/
example : FlushSpec exampleRB := flush_spec exampleRB exampleRB_wf

/-- A second instance: erase followed by content (`moveend = YES`), an erase before a skip (`MAYBE`, any oracle), a
    one-column char and a batch of line cells. -/
example : FlushSpec (hlineAt (eraseAt (eraseAt (charAt (RB.new 2 6 0 0) 0 2 0x41) 0 0 2) 0 3 1) 1 1 4 1 3) :=
  flush_spec _ (flushWF_of_flushWFb (by decide +kernel))

/-- **text_columns**: for every text the width counter accepts (`decode s = some cs`: its characters, each with the
    library's `tickit_utf8_wcwidth` as width), the library's own counting (`tickit_utf8_count` without limit) finds
    `Σ width` columns, and the terminal advances by exactly as many when the text is printed with room for it on the
    line (zero-width characters do not move it, double-width ones move it by two; `col = cols` afterwards is the
    pending-wrap state).  The columns a *run* of the text advances the terminal by are
    the run's columns: `text_run_advances`. -/
theorem text_columns (s : List UInt8) (cs : List Ch) (hdec : decode s = some cs) (t : GridTerm) :
    (RB.Utf8.ncountmore s none {} (some ⟨-1, -1, -1, -1⟩)).pos.columns = chCols cs ∧
    (∀ c ∈ cs, c.width = RB.Utf8.wcwidth c.cp) ∧
    (t.col + chCols cs ≤ t.cols → (t.printBytes (s.take (bytesLen cs))).col = t.col + chCols cs) := by
  have hp := decodeFrom_props s cs _ 0 hdec
  refine ⟨?_, fun c hc => (hp c hc).width_eq, fun hroom => ?_⟩
  · rw [count_all s cs hdec fun c hc => (hp c hc).width_nonneg]
    exact advance_zero_columns cs
  · have hb := decodeFrom_bytes s cs [] _ 0 (by rw [List.append_nil]; exact hdec)
    rw [List.drop_zero] at hb
    rw [hb, printBytes_chars cs hp, putChs_col cs (fun c hc => (hp c hc).width_nonneg) t hroom]

/-- The same for the number `put_string` goes by (`tickit_utf8_ncount` over the whole string, the columns the text
    occupies in the buffer and the virtual cursor advances by — C03 `cursor_advances_text`): it is the sum of the widths, and
    the terminal advances by exactly that number. -/
theorem text_columns_put_string (s : List UInt8) (n : Int) (h : RB.Utf8.stringColumns s = some n) (t : GridTerm)
    (hroom : t.col + n ≤ t.cols) :
    ∃ cs, decode s = some cs ∧ chCols cs = n ∧ (t.printBytes (s.take (bytesLen cs))).col = t.col + n := by
  obtain ⟨cs, hcs, hn⟩ := decode_of_stringColumns s n h
  exact ⟨cs, hcs, hn, by rw [(text_columns s cs hcs t).2.2 (by rw [hn]; exact hroom), hn]⟩

/-- Non-vacuity: `a`, U+0301 (zero-width), U+FF21 (double-width), `b` occupy 1 + 0 + 2 + 1 = 4 columns. -/
example : (decode [0x61, 0xcc, 0x81, 0xef, 0xbc, 0xa1, 0x62]).map (fun cs => (cs.length, chCols cs, bytesLen cs)) =
    some (4, 4, 7) := by decide +kernel

/-- The full statement of C04: `FlushSpec` for every well-formed buffer, *whatever* code point a CHAR cell holds.
    `flush_spec` is this statement under the hypothesis (`CharOK` in `FlushWF`) that excludes exactly the trigger of
    the known finding `char_not_one_column`. -/
def C04_full : Prop := ∀ rb : RB, FlushWFP (fun _ => True) rb → FlushSpec rb

/-- `tickit_renderbuffer_char_at(rb, 0, 1, 0xFF21)` on an empty 1×4 buffer. -/
def charWideRB : RB := charAt (RB.new 1 4 0 0) 0 1 0xff21

/-- Counterexample (known finding): the double-width U+FF21 in a CHAR cell spills into column 2, a skipped cell. -/
theorem C04_full_counterexample : ¬ C04_full := by
  intro h
  have hwf : FlushWFP (fun _ => True) charWideRB :=
    flushWFP_of_flushWFPb (okb := fun _ => true) (fun _ _ => trivial) (by decide +kernel)
  have := (h charWideRB hwf blankTerm (by decide +kernel)).2 0 2
  revert this
  decide +kernel

/-- … and the hypothesis of `flush_spec` is what rules it out. -/
theorem charWide_not_charOK : ¬ CharOK 0xff21 := by
  unfold CharOK; decide +kernel

/-- `FlushSpec` of the flush as it was before the repair. -/
def FlushSpecOld (rb : RB) : Prop :=
  ∀ t : GridTerm, rb.cols ≤ t.cols →
    (flushToTermOld rb).out = .ok ∧
    ∀ l c, cellOK (want rb l c) (t.cells l c) ((t.run (flushToTermOld rb).reqs).cells l c) = true

/-- `"x" U+FF21 "yz"` at column 0, then `Q` over column 2 (the right half of U+FF21). -/
def cutRB : RB := charAt (textAt (RB.new 1 6 0 0) 0 0 [0x78, 0xef, 0xbc, 0xa1, 0x79, 0x7a]) 0 2 0x51

/-- Before the repair the three runs were printed back to back without a goto: `x`, `Q`, `yz` — the terminal shows
    `xQyz` in columns 0-3 although `Q` belongs in column 2 and `yz` in columns 3-4. -/
theorem flush_old_requests :
    (flushToTermOld cutRB).reqs =
      [.goto 0 0, .setpen Pen.empty, .print [0x78, 0xef, 0xbc, 0xa1, 0x79, 0x7a] 0 1,
       .setpen Pen.empty, .print [0x51] 0 1,
       .setpen Pen.empty, .print [0x78, 0xef, 0xbc, 0xa1, 0x79, 0x7a] 4 2] := by
  decide +kernel

/-- Counterexample (repaired): a well-formed buffer on which the old flush violates the specification (column 2 shows
    `y`, not `Q`). -/
theorem flush_old_wide_cut_counterexample : FlushWF cutRB ∧ ¬ FlushSpecOld cutRB := by
  refine ⟨flushWF_of_flushWFb (by decide +kernel), ?_⟩
  intro h
  have := (h blankTerm (by decide +kernel)).2 0 2
  revert this
  decide +kernel

/-- The repaired flush is correct on it (an instance of `flush_spec`). -/
example : FlushSpec cutRB := flush_spec cutRB flush_old_wide_cut_counterexample.1

/-- U+231A `z` at column 4 of a 1×5 buffer: only the left half of the double-width character is inside. -/
def edgeRB : RB := textAt (RB.new 1 5 0 0) 0 4 [0xe2, 0x8c, 0x9a, 0x7a]

/-- Counterexample (repaired): before the repair the slice was empty and was printed all the same — a request of length
    0, which `write_str` takes as "use strlen": through that path the terminal receives the whole rest of the string and
    column 5, outside the buffer, is overwritten. -/
theorem flush_old_zero_length_counterexample :
    (flushToTermOld edgeRB).reqs = [.goto 0 4, .setpen Pen.empty, .print [0xe2, 0x8c, 0x9a, 0x7a] 0 0] ∧
    (({ blankTerm with viaWriteStr := true }).run (flushToTermOld edgeRB).reqs).cells 0 5 ≠ blankTerm.cells 0 5 := by
  decide +kernel

/-! ## Below the render buffer: the UTF-8 encoder, the xterm driver, the output buffer (third configuration)

  The flush hands its requests to a terminal object.  With the library's real xterm driver each request becomes
  `write_str` calls (`RBFlushX.reqCalls`: goto / SGR / the text / ECH + CUF or spaces), which pass through the output
  buffer of src/term.c to the output function.  The statements below are about those layers; the differential check
  drives them with the real code (harness configuration `termx`) and evaluates `xcellOK` - the property's words - on the
  screen a VT shows after reading the bytes. -/

open Tickit.RBFlushX

/-- **utf8_seqlen_source**: the model's `tickit_utf8_seqlen` is the function of the working tree (`Gen.Width`, translated
    from src/utf8.c on every run). -/
theorem utf8_seqlen_source (cp : Int) :
    ((Tickit.RB.Utf8.seqlen cp : Nat) : Int) = Tickit.Gen.Width.tickit_utf8_seqlen cp := by
  unfold Tickit.RB.Utf8.seqlen Tickit.Gen.Width.tickit_utf8_seqlen
  -- with the cast moved into the branches the two are the same chain of tests
  simp only [decide_eq_true_eq, apply_ite (Nat.cast (R := Int))]
  rfl

/-- **char_encoding**: for every code point `1 … 0x1FFFFF` (every one- to four-byte form, the edges U+7F/U+80,
    U+7FF/U+800, U+FFFF/U+10000 included) `tickit_utf8_put` writes the UTF-8 form of the Unicode Standard, and the
    library's own decoder reads it back as that code point, all bytes consumed. -/
theorem char_encoding (cp : Nat) (h0 : 0 < cp) (h : cp < 0x200000) :
    Tickit.RB.Utf8.put cp = stdUtf8 cp ∧
    Tickit.RB.Utf8.nextUtf8 (Tickit.RB.Utf8.put cp) 0 (some (Tickit.RB.Utf8.put cp).length) =
      some ⟨(Tickit.RB.Utf8.put cp).length, cp⟩ :=
  ⟨put_eq_stdUtf8 cp h, RB.Utf8.nextUtf8_put cp h0 h⟩

/-- Non-vacuity, at the boundary between the three- and the four-byte form. -/
example : Tickit.RB.Utf8.put 0xFFFF = [0xEF, 0xBF, 0xBF] ∧ Tickit.RB.Utf8.put 0x10000 = [0xF0, 0x90, 0x80, 0x80] ∧
    Tickit.RBFlushX.stdUtf8 0x10000 = [0xF0, 0x90, 0x80, 0x80] := by decide

/-- **charOK_iff_width**: the hypothesis `CharOK` of `flush_spec` is exactly "the library's width of the code point is
    1" - the encoding half holds for every code point. -/
theorem charOK_iff_width (cp : Int) (h0 : 0 < cp) (h : cp < 0x200000) :
    CharOK cp ↔ Tickit.RB.Utf8.wcwidth cp.toNat = 1 := by
  constructor
  · exact fun hc => hc.2
  · exact fun hw => ⟨(char_encoding cp.toNat (by omega) (by omega)).2, hw⟩

/-- **char_cell_requests**: what the flush does at a CHAR cell: (a goto unless the cursor is there,) the cell's pen, and
    one print request whose bytes are the UTF-8 form of the cell's code point. -/
theorem char_cell_requests (txt : Cell → List Req) (rb : RB) (line col phycol : Int) (fuel : Nat)
    (hc : col < rb.cols) (hs : (rb.cell line col).state = .char) (hcp : (rb.cell line col).cp.toNat < 0x200000) :
    flushCols txt rb line (fuel + 1) col phycol =
      andThen (gotoIf phycol line col ++
          [.setpen (rb.cell line col).pen,
           .print (stdUtf8 (rb.cell line col).cp.toNat) 0 (stdUtf8 (rb.cell line col).cp.toNat).length])
        (flushCols txt rb line fuel (col + (rb.cell line col).cols) (col + (rb.cell line col).cols)) := by
  have hn : ¬ ¬ col < rb.cols := fun h => h hc
  simp only [flushCols, if_neg hn, hs, put_eq_stdUtf8 _ hcp]

/-- **char_cell_on_vt**: that print request reaches the xterm driver's `write_str` as exactly those bytes, and a VT
    in its ground state that reads them prints the code point (`putCp`: at the cursor, in the current rendition, one or
    two columns by the width tables) - "every character cell appears … as that character". -/
theorem char_cell_on_vt (caps : TermPen.Caps) (cache : Pen) (cp : Nat) (hp : Printable cp) (s : XScreen)
    (hg : s.ps = .ground) :
    reqCalls caps cache (.print (Tickit.RB.Utf8.put cp) 0 (Tickit.RB.Utf8.put cp).length) = [stdUtf8 cp] ∧
    s.interp (stdUtf8 cp) = s.putCp cp := by
  refine ⟨?_, XScreen.interp_stdUtf8 s hg cp hp⟩
  rw [put_eq_stdUtf8 cp (by unfold Printable at hp; omega), reqCalls_print_whole,
    call_of_ne fun h => stdUtf8_length_ne cp (by rw [h]; rfl)]

/-- Non-vacuity: U+10000 is printable; the screen shows it in one column. -/
example : Tickit.RBFlushX.Printable 0x10000 ∧ Tickit.RB.Utf8.wcwidth 0x10000 = 1 := by decide +kernel

/-- **goto_on_vt**: the bytes the xterm driver writes for a goto request of the flush are read by the VT as "cursor to
    that line and column" (clamped to the screen, ending a pending wrap) and nothing else. -/
theorem goto_on_vt (caps : TermPen.Caps) (cache : Pen) (s : XScreen) (hg : s.ps = .ground) (line col : Int)
    (hl : 0 ≤ line) (hc : 0 ≤ col) :
    s.interp (reqCalls caps cache (.goto line col)).flatten = s.moveTo line col :=
  interp_goto caps cache s hg line col hl hc

/-- **erase_on_vt**: outside reverse video an erase request of `n ≥ 1` cells is read as ECH - `n` cells from the
    cursor blank in the current background, cursor and pending wrap untouched - followed by "cursor right by `n`"
    exactly when the flush asked for the cursor to move (`TICKIT_YES`); with `TICKIT_MAYBE` the cursor stays, which is
    the outcome the flush allows for by sending a goto before the next run. -/
theorem erase_on_vt (caps : TermPen.Caps) (cache : Pen) (hrv : Pen.getBool cache.reverse = false) (s : XScreen)
    (hg : s.ps = .ground) (n : Int) (hn : 1 ≤ n) (m : MaybeBool) :
    s.interp (reqCalls caps cache (.erasech n m)).flatten =
      if m = .yes then (s.ech n).moveTo s.row (s.col + n) else s.ech n :=
  interp_erasech caps cache hrv s hg n hn m

/-- **text_on_vt**: a print request whose bytes are well-formed UTF-8 of printable code points is read as those code
    points printed one after the other (`putCp`: one or two columns by the width tables, zero-width characters joining
    the previous one): the columns the terminal advances by are the widths the library counted. -/
theorem text_on_vt (caps : TermPen.Caps) (cache : Pen) (cps : List Nat) (hp : ∀ cp ∈ cps, Printable cp) (s : XScreen)
    (hg : s.ps = .ground) :
    s.interp (reqCalls caps cache (.print (cps.flatMap stdUtf8) 0 (cps.flatMap stdUtf8).length)).flatten =
      cps.foldl XScreen.putCp s := by
  rw [reqCalls_print_whole, call_flatten]
  exact XScreen.interp_text cps hp s hg

/-- Non-vacuity: goto (2, 5) on a 4 x 10 screen; an erase of three cells with the cursor moving on. -/
example : ((Tickit.RBFlushX.XScreen.fresh 4 10).interp
      (Tickit.RBFlushX.reqCalls ⟨false, false⟩ {} (.goto 2 5)).flatten).row = 2 ∧
    ((Tickit.RBFlushX.XScreen.fresh 4 10).interp
      (Tickit.RBFlushX.reqCalls ⟨false, false⟩ {} (.erasech 3 .yes)).flatten).col = 3 := by decide +kernel

/-- **flush_stream_any_buffer**: with the real xterm driver, the bytes the output function receives from a flush
    followed by `tickit_term_flush` - through an output buffer of *any* size `n` (`0`: none), starting with nothing
    pending - are the driver's writes in the order the flush made them: the output buffer neither drops, repeats nor
    reorders a byte (in particular a run longer than the whole buffer comes after the goto and the SGR sequence written
    before it), and the model of `write_str` never leaves the buffer's bounds (`ok`). -/
theorem flush_stream_any_buffer (caps : TermPen.Caps) (n : Nat) (cache : Pen) (rb : RB) :
    (xflush caps n cache (flushToTerm rb).reqs).ok = true ∧
    (xflush caps n cache (flushToTerm rb).reqs).stream = (reqsCalls caps cache (flushToTerm rb).reqs).flatten :=
  xflush_stream caps n cache _

/-- **flush_stream_buffer_independent**: what the terminal receives does not depend on the size of the output buffer. -/
theorem flush_stream_buffer_independent (caps : TermPen.Caps) (n m : Nat) (cache : Pen) (rb : RB) :
    (xflush caps n cache (flushToTerm rb).reqs).stream = (xflush caps m cache (flushToTerm rb).reqs).stream := by
  rw [(xflush_stream caps n cache _).2, (xflush_stream caps m cache _).2]

open Tickit.RBFlushX in
/-- Non-vacuity: `exampleRB` through a 4-byte output buffer - seven full chunks during the flush, the rest on
    `tickit_term_flush` - and without a buffer: the same bytes. -/
example :
    ((xflush ⟨false, false⟩ 4 {} (flushToTerm exampleRB).reqs).during.all (·.length == 4)) = true ∧
    (xflush ⟨false, false⟩ 4 {} (flushToTerm exampleRB).reqs).stream =
      (xflush ⟨false, false⟩ 0 {} (flushToTerm exampleRB).reqs).stream ∧
    (xflush ⟨false, false⟩ 4 {} (flushToTerm exampleRB).reqs).stream.length > 4 := by decide +kernel

open Tickit.RBFlushX in
/-- The statement about the end result in the third configuration (**open**, evaluated by the differential check on
    every flush of the `termx` configuration): for a well-formed buffer whose content lies within the screen, whose pens
    the driver can say in SGR, whose texts are well-formed UTF-8 and whose CHAR cells are printable, flushed through an
    output buffer of any size to a VT whose rendition is in step with `tt->pen`, every screen cell satisfies the
    obligation of the buffer's content (`xcellOK`: glyph, all rendering attributes, written exactly once; untouched
    where the buffer skips).  Proved: each layer on its own (the theorems of this section), on the grid terminal the
    whole statement (`flush_spec_screen`), and the statement itself under two extra hypotheses
    (`C04_xterm_screen_partial` below, which also says what is still missing). -/
def C04_xterm_screen : Prop :=
  ∀ (caps : TermPen.Caps) (n : Nat) (rb : RB) (s : XScreen) (cache : Pen),
    FlushWF rb → (∀ l c, s.lines ≤ l ∨ s.cols ≤ c → want rb l c = .keep) →
    (∀ l c, PenEncodable caps (rb.cell l c).pen) → TextsStrict rb → CharsPrintable rb →
    s.ps = .ground → PenTotal cache → PenEncodable caps cache → s.attrs = expectAttrs caps cache →
    ∀ l c, 0 ≤ l → l < s.lines → 0 ≤ c → c < s.cols →
      xcellOK caps (want rb l c) (s.cells l c)
        ((s.interp (xflush caps n cache (flushToTerm rb).reqs).stream).cells l c) = true


/-- **sgr_on_vt**: the VT screen's tokenizer reads `ESC [ params m` as the xterm driver's `chpen` renders it (either
    separator) as one SGR control sequence with exactly the parameter groups C10's parser sees; only the rendition
    changes, by C10's SGR interpreter applied to those groups. -/
theorem sgr_on_vt (colon : Bool) (ps : List TermPen.Param) (s : XScreen) (hg : s.ps = .ground) :
    s.interp (toBytes (TermPen.renderSgr colon ps)) =
      { s with attrs := Sgr.sgrApply (Tickit.Proof.Sgr.groupsFlat colon ps [] []) s.attrs } :=
  XScreen.interp_renderSgr colon ps s hg

/-- **setpen_on_vt**: a setpen request of the flush reaches the VT as the delta of `tickit_term_setpen` against
    `tt->pen`, rendered by the driver's `chpen`; a VT screen whose rendition is in step with `tt->pen` reads it as
    "rendition := what `tt->pen` asks for afterwards" and nothing else - every cached pen and requested pen the driver
    can say in SGR, both separators, with and without RGB (C10's `chpen_expect` carried over to the VT screen). -/
theorem setpen_on_vt (caps : TermPen.Caps) (cache p : Pen) (s : XScreen) (hg : s.ps = .ground)
    (ha : s.attrs = expectAttrs caps cache) (hc : PenEncodable caps cache) (hp : PenEncodable caps p) :
    s.interp (reqCalls caps cache (.setpen p)).flatten = { s with attrs := expectAttrs caps (termSetpen cache p) } ∧
    PenEncodable caps (termSetpen cache p) ∧ PenTotal (termSetpen cache p) :=
  ⟨interp_setpen caps cache p s hg ha hc hp, penEncodable_termSetpen caps cache p hc hp, penTotal_termSetpen cache p⟩

/-- Non-vacuity: bold red requested of a terminal whose `tt->pen` is still empty: every attribute is sent, and the VT
    screen renders bold red afterwards. -/
example :
    (Tickit.RBFlushX.reqCalls ⟨false, false⟩ {} (.setpen { fg := some ⟨1, none⟩, bold := some true })).flatten.length > 7 ∧
    ((Tickit.RBFlushX.XScreen.fresh 2 4).interp
      (Tickit.RBFlushX.reqCalls ⟨false, false⟩ {} (.setpen { fg := some ⟨1, none⟩, bold := some true })).flatten).attrs =
      { fg := .idx 1, bold := true } := by decide +kernel

/-- **request_on_vt_is_grid_step**: one request of the flush that the simulation covers (`ReqOK`: a goto, a setpen
    with a pen the driver can say, an erase outside reverse video, a print of well-formed UTF-8 of printable characters
    of two, one or no columns that fit on the line - CHAR cells, TEXT runs, LINE batches), read by the VT screen as
    the bytes the xterm driver writes for it, does what the request does on the grid terminal of `flush_spec_screen`:
    the two terminals stay in step (`Sim`: same glyphs, same write counts, each written VT cell in the rendition its
    grid cell's pen asks for, VT rendition = `tt->pen`), the cursors agree once a goto has been seen (`Cur`). -/
theorem request_on_vt_is_grid_step {caps : TermPen.Caps} {t0 t : GridTerm} {s0 s : XScreen} (h : Sim caps t0 s0 t s)
    (moved : Bool) (hcur : moved = true → Cur t0 t s) (r : Req) (hr : ReqOK caps moved t r) :
    Sim caps t0 s0 (t.stepL s.lines r) (s.interp (reqCalls caps t.pen r).flatten) ∧
    (movedAfter moved r = true → Cur t0 (t.stepL s.lines r) (s.interp (reqCalls caps t.pen r).flatten)) :=
  ⟨(req_sim h moved hcur r hr).1, (req_sim h moved hcur r hr).2.1⟩

/-- **xterm_screen_of_runOK**: `C04_xterm_screen` under two extra hypotheses - the requests of the flush are ones
    the simulation covers (`RunOK`, evaluated along the grid terminal's run: gotos at non-negative positions, pens the
    driver can say, erases outside reverse video, print requests whose bytes are well-formed UTF-8 of printable
    characters that fit on the line)
    and no erase cell asks for reverse video.  Then, through an output buffer of any size, every cell of the VT screen
    (inside and outside the buffer's area) meets the obligation of the buffer's content: glyph, the rendition its own
    pen asks for, written exactly once; untouched where the buffer skips.  The composition: `flush_stream_any_buffer`
    (the bytes are the driver's writes in order), `reqs_sim` (the VT screen stays in step with the grid terminal),
    `flush_spec_screen` (the grid terminal meets `cellOK`), `sim_xcellOK`. -/
theorem xterm_screen_of_runOK (caps : TermPen.Caps) (n : Nat) (rb : RB) (s : XScreen) (cache : Pen)
    (hwf : FlushWF rb) (hin : ∀ l c, s.lines ≤ l ∨ s.cols ≤ c → want rb l c = .keep)
    (hl : 0 < s.lines) (hc : 0 < s.cols) (hg : s.ps = .ground) (he : PenEncodable caps cache)
    (ha : s.attrs = expectAttrs caps cache)
    (hrun : RunOK caps s.lines false (gridOf s cache) (flushToTerm rb).reqs)
    (hrv : ∀ l c p, want rb l c = .glyph .blank p → Pen.getBool p.reverse = false) :
    ∀ l c, xcellOK caps (want rb l c) (s.cells l c)
      ((s.interp (xflush caps n cache (flushToTerm rb).reqs).stream).cells l c) = true := by
  intro l c
  rw [(flush_stream_any_buffer caps n cache rb).2]
  have h0 := sim_init caps s cache hl hc hg ha he
  have hs : Sim caps (gridOf s cache) s ((gridOf s cache).runL s.lines (flushToTerm rb).reqs)
      (s.interp (reqsCalls caps cache (flushToTerm rb).reqs).flatten) :=
    reqs_sim (flushToTerm rb).reqs (gridOf s cache) s false h0 (by intro h; cases h) hrun
  obtain ⟨_, _, hcell⟩ := flush_spec_screen rb hwf (gridOf s cache) s.lines hin
  exact sim_xcellOK hs l c _ rfl (hrv l c) (hcell l c)

/-- **C04_xterm_screen_partial**: `C04_xterm_screen` under two extra hypotheses, both about the buffer's requests and
    content alone: `StaticOK` of the flush's request list (every erase and print comes after a goto; erases have at
    least one cell, are not `TICKIT_NO` and come when the last pen set has no reverse video; the bytes of every print
    request are well-formed UTF-8 of printable code points that have a width; pens the driver can say; columns not
    negative) and no erase cell asking for reverse video.  That the requests fit the screen (no wrap, no clamped
    movement) is not assumed: it follows from "the content lies within the screen" (`Calm`, the by-product of
    `flush_spec_screen`'s proof; `runOK_of_calm`).  Conclusion as in `C04_xterm_screen`, for every cell of the screen
    (`xterm_screen_of_runOK`: also for the cells outside it): through an
    output buffer of any size the VT screen shows the buffer's content over the prior screen, each cell in the rendition
    its own pen asks for, written exactly once.  Still missing for `C04_xterm_screen` itself: `StaticOK` from `FlushWF`,
    `TextsStrict`, `CharsPrintable` and the pens of the cells (an induction over `flushCols`: the slices of TEXT runs, the
    glyphs of LINE batches), and erases under reverse video (the driver prints spaces: the VT cell then holds a space in
    full rendition, and the cursors part until the next goto - `Sim`/`Cur` would have to be weakened to `glyphSame`). -/
theorem C04_xterm_screen_partial (caps : TermPen.Caps) (n : Nat) (rb : RB) (s : XScreen) (cache : Pen)
    (hwf : FlushWF rb) (hin : ∀ l c, s.lines ≤ l ∨ s.cols ≤ c → want rb l c = .keep)
    (hg : s.ps = .ground) (he : PenEncodable caps cache) (ha : s.attrs = expectAttrs caps cache)
    (hst : StaticOK caps false (Pen.getBool cache.reverse) (flushToTerm rb).reqs)
    (hrv : ∀ l c p, want rb l c = .glyph .blank p → Pen.getBool p.reverse = false) :
    ∀ l c, 0 ≤ l → l < s.lines → 0 ≤ c → c < s.cols →
      xcellOK caps (want rb l c) (s.cells l c)
        ((s.interp (xflush caps n cache (flushToTerm rb).reqs).stream).cells l c) = true := by
  intro l c hl0 hl1 hc0 hc1
  have hl : 0 < s.lines := by omega
  have hc : 0 < s.cols := by omega
  have hcalm := (flush_spec_within (L := s.lines) hwf (FitsIn.of_want hin) (gridOf s cache) (Int.le_refl _)).calm
  exact xterm_screen_of_runOK caps n rb s cache hwf hin hl hc hg he ha
    (runOK_of_calm caps s.lines _ (gridOf s cache) false hcalm hst) hrv l c

/-- U+00E9 in a CHAR cell at (0,1) and an erase run of three cells on line 1 of a 2×4 buffer. -/
def simXRB : RB := eraseAt (charAt (RB.new 2 4 0 0) 0 1 0xe9) 1 0 3

theorem simXRB_requests :
    (flushToTerm simXRB).reqs =
      [.goto 0 1, .setpen Pen.empty, .print [0xc3, 0xa9] 0 2, .goto 1 0, .setpen Pen.empty, .erasech 3 .maybe] := by
  decide +kernel

open Tickit.RBFlushX in
/-- Non-vacuity: the hypothesis `RunOK` of `xterm_screen_of_runOK` holds of `simXRB` on a fresh 2×4 screen; below, the
    hypothesis `StaticOK` of `C04_xterm_screen_partial`, and the VT screen shows `é` at (0,1) after reading the bytes
    that came through a 3-byte output buffer. -/
example : RunOK ⟨false, false⟩ (XScreen.fresh 2 4).lines false (gridOf (XScreen.fresh 2 4) {}) (flushToTerm simXRB).reqs := by
  rw [simXRB_requests]
  refine ⟨⟨by decide, by decide⟩, by unfold ReqOK PenEncodable; decide,
    ⟨rfl, by decide, [0xe9], by decide +kernel, by decide, by simp only [Fits]; decide +kernel⟩,
    ⟨by decide, by decide⟩, by unfold ReqOK PenEncodable; decide,
    ⟨rfl, by decide, by decide, by decide +kernel⟩, trivial⟩

open Tickit.RBFlushX in
/-- Non-vacuity of `C04_xterm_screen_partial`: its hypothesis about the requests holds of `simXRB`. -/
example : StaticOK ⟨false, false⟩ false (Pen.getBool ({} : Pen).reverse) (flushToTerm simXRB).reqs := by
  rw [simXRB_requests]
  refine ⟨by decide, by unfold PenEncodable; decide,
    ⟨rfl, by decide, [0xe9], by decide +kernel, by decide⟩,
    by decide, by unfold PenEncodable; decide, ⟨rfl, by decide, by decide, by decide⟩, trivial⟩

example :
    (((Tickit.RBFlushX.XScreen.fresh 2 4).interp
      (Tickit.RBFlushX.xflush ⟨false, false⟩ 3 {} (flushToTerm simXRB).reqs).stream).cells 0 1).glyph =
      .chars [0xc3, 0xa9] := by decide +kernel

/-! ### Pause and resume between two flushes ("for every prior terminal pen") -/

/-- `tickit_term_pause` + `tickit_term_resume` keep the terminal's rendition in step with `tt->pen` - the counterpart,
    on C10's SGR terminal (`Sgr.run`, `TermPen.expectAttrs` at `toTP cache`: the flush's `expectAttrs` for colour indices
    below 256, `expectAttrs_toTP`), of the hypothesis `s.attrs = expectAttrs caps cache` under which `C04_xterm_screen`
    gives every cell of the next flush its own pen: whatever the terminal rendered with before (`a`, no unknown SGR
    parameter pending: `junk = 0`), after the `CSI m` of the pause and the bytes `bs` of the
    `chpen(driver, tt->pen, tt->pen)` that ends `tickit_term_resume` it renders with what the cached pen asks for, for
    every cached pen the driver can say in SGR and either separator.  (`junk` counts SGR parameters unknown to the
    terminal; the driver sends none.) -/
theorem suspend_keeps_rendition_in_step (caps : TermPen.Caps) (cache : Pen) (bs : List Nat)
    (hok : Tickit.Proof.Sgr.DeltaOk caps (toTP cache))
    (h : TermPen.xtermChpen caps Tickit.Gen.Sgr.paramsCap (toTP cache) (toTP cache) = .bytes bs)
    (a : Sgr.Attrs) (hj : a.junk = 0) :
    resumePenCalls true caps cache = call (bs.map UInt8.ofNat) ∧
    Sgr.run (TermPen.renderSgr caps.colon [] ++ bs) ⟨.ground, a⟩ = ⟨.ground, TermPen.expectAttrs caps (toTP cache)⟩ := by
  refine ⟨by simp [resumePenCalls, drvChpenCalls, h], ?_⟩
  exact Tickit.Proof.RBFlushSuspend.resume_restores_pen caps _ (toTP cache) bs hok h a hj

/-- The pen reset of the pause as the working tree has it (regenerated literal) is the `CSI m` of the statement. -/
theorem pause_reset_source (colon : Bool) :
    Tickit.Gen.TermBuf.teardown_pen_reset = (TermPen.renderSgr colon []).map UInt8.ofNat := by
  cases colon <;> decide

open Tickit.RBFlushX in
/-- Non-vacuity: a bold green pen is sent again in full; and the last statement of `tickit_term_resume` is needed -
    without it (`resumePenCalls false`) nothing follows the reset, and the terminal renders a bold green pen's cells
    with the default attributes. -/
example :
    TermPen.xtermChpen ⟨false, false⟩ Tickit.Gen.Sgr.paramsCap (toTP { fg := some ⟨2, none⟩, bold := some true })
      (toTP { fg := some ⟨2, none⟩, bold := some true }) = .bytes [27, 91, 51, 50, 59, 49, 109] ∧
    resumePenCalls false ⟨false, false⟩ { fg := some ⟨2, none⟩, bold := some true } = [] ∧
    Sgr.run (TermPen.renderSgr false [])
        ⟨.ground, TermPen.expectAttrs ⟨false, false⟩ (toTP { fg := some ⟨2, none⟩, bold := some true })⟩ ≠
      ⟨.ground, TermPen.expectAttrs ⟨false, false⟩ (toTP { fg := some ⟨2, none⟩, bold := some true })⟩ := by
  decide +kernel

end Tickit.Props.C04
