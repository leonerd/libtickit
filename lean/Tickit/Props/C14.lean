import Tickit.Proof.WinInputOn
import Tickit.Proof.WinInputExt
import Tickit.Proof.WinInputOrder
import Tickit.Proof.WinInputSafe
import Tickit.Proof.WinInputDeliver
import Tickit.Proof.WinInputBind
import Tickit.Proof.WinInputMove
import Tickit.Proof.WinInputRun
import Tickit.Gen.WinInputCfg
/-
  C14 — Input reaches the front-most eligible window first, in its own coordinates.

  Model: `Model/WinInput.lean` (`_handle_key`, `_handle_mouse`, `on_term_key`, `on_term_mouse` of src/window.c on the
  shared window store), in the variant the extractor finds in the working tree (`Gen.WinInputCfg.cfg`;
  `code_is_repaired` below pins it to the repaired code).  Handlers are behaviour tables; `Static` tables only claim
  or decline, tables with actions mutate the tree from inside the handler.

  Clauses of the property and where they are proved:
    key: stealing front-most child, focus chain innermost first, own handlers, other children; stop at the first
         claim; first occurrences ................................ `key_order`, `key_order_reference`
    mouse: front-most visible window under the pointer (or stealing) before anything behind or around it
         ........................................................... `mouse_target`, `mouse_target_reference`,
                                                                     `mouse_target_owner` (= the painter's-model owner)
    position relative to the receiving window ...................... `mouse_relative`, `mouse_relative_absGeometry`
    hidden windows and their descendants never receive input ....... `hidden_never` (every handler behaviour, every
         outcome), `reference_orders_visible`
    drag start / outside / drop / stop consistent with the press ... `press_recorded`, `drag_start_event`,
         `drag_start_first`, `drag_release_events`, `drag_drop_stop_order`, `drag_outside_iff`
    closing / unreferencing inside a handler neither derails delivery nor crashes
         the unrepaired code does both ............................. `next_closed_derails_counterexample`,
                                                                     `next_freed_ub_counterexample`, `claim_withdrawn_counterexample`,
                                                                     `hidden_descendant_counterexample`
         the repaired code on the same histories ................... `repaired_*` below
         the repaired code, every state that satisfies the store invariant and every behaviour table (handlers that
         close, unref, ref, hide, show, change steal-input, restack, take focus; restack requests may be pending)
         ........................................................... `mutation_safe` (no undefined behaviour, and the
                                                                     store invariant `AInv` is re-established)
         every state the engine can reach (window creation, bindings, application actions, flushes, events)
         ........................................................... `reachable_good`, `mutation_safe_full`
         delivery to the windows a mutation does not affect: handlers that close, unref, hide, show or change
         steal-input of windows of a set `A` closed under descendants (and restack or ref anything, and take the
         focus inside `A` when `A` is a union of top-level subtrees that holds the focus chain): the windows
         outside `A` are offered the event in the reference order of the tree as it was when the dispatch began
         ........................................................... `delivery_unaffected_key`, `delivery_unaffected_mouse`,
                                                                     `delivery_unaffected_persists` (whole events, histories)
    the window's own handlers, when earlier ones are one-shot or unbind themselves and mutate the tree / hand the focus
         over from inside the walk (FOCUS events are then emitted on the list being walked): every handler still
         bound is invoked, in binding order, up to the first claim ... `own_handlers_under_mutation`,
                                                                     `own_handlers_all_when_declined`,
                                                                     `gone_handler_never_invoked`, `oneshot_at_most_once`
    position relative to the receiving window when handlers MOVE windows from inside the dispatch
         (`tickit_window_set_geometry`, action `geom`): the windows the handlers do not act on are given the position
         relative to themselves, whatever was moved, resized, closed … before they were offered the event
         ........................................................... `mouse_relative_under_moves`,
                                                                     `mouse_relative_under_moves_origin`, `geom_is_confined_action`
    mouse input that arrives as X10 bytes (libtermkey's decoding modelled: `x10Key`; `got_key` = the C20 model): the
         events of a report, the held-button record, the button of a button-less release, and with it DRAG_DROP /
         DRAG_STOP consistent with the press that began the drag .... `x10_report_events`, `x10_wheel_keeps_held`,
                                                                     `x10_gesture_holds_pressed_button`,
                                                                     `x10_release_names_held_button`,
                                                                     `x10_drag_release_consistent`
-/
namespace Tickit.Props.C14
open Tickit Tickit.WinTree Tickit.WinInput

/-! ### the tie to the source: which code is modelled -/

/-- The working tree contains the three repairs (sibling snapshot, counted claim, whole-chain visibility). -/
theorem code_is_repaired : Tickit.Gen.WinInputCfg.cfg = Cfg.repaired := by decide

/-- `_focus_gained` is the code the model's `take_focus` action mirrors (/repo commit 7a99ce0). -/
theorem focus_code_is_current : Tickit.Gen.WinInputCfg.focusLossRepaired = true := by decide

/-- Two of the event-type constants the drag synthesis uses (PRESS, DRAG_START) are read from the header and are the model's;
    the others are not extracted. -/
theorem event_constants : Tickit.Gen.WinInputCfg.mouseevPress = evPress ∧
    Tickit.Gen.WinInputCfg.mouseevDragStart = evDragStart := by decide

/-- **key_order.**  With handlers that only claim or decline, a key event is offered exactly to the windows of the
    reference visiting order `keyVisits` (stealing front-most child, focus chain innermost first, the window itself,
    the other children), in that order, up to and including the first window that claims (`offerAll`); nothing
    else is offered it, the invocation counters advance accordingly, and the event counts as handled iff a window
    claimed.  For every tree, every behaviour table, every fuel for which model and reference return. -/
theorem key_order (fuel F : Nat) (st st' : St) (ev : Ev) (claimed : Bool) (ws : List WinTree.Id)
    (hs : Static st.binds) (hwf : WF st.tree)
    (h : onTermKey Cfg.repaired fuel st ev = Out.ok (st', claimed))
    (hv : keyVisits st.tree F 0 = some ws) :
    offers st'.log = offers st.log ++
        ((offerAll st.binds .key (ws.map (·, ev))).2.1).map (fun p => (Kind.key, p.1, p.2)) ∧
      st'.binds = (offerAll st.binds .key (ws.map (·, ev))).1 ∧
      claimed = (offerAll st.binds .key (ws.map (·, ev))).2.2.isSome := by
  obtain ⟨_, sp⟩ := handleKey_static fuel st 0 ev st' claimed hs hwf h
  have sg := sp F ws hv
  exact ⟨sg.log, sg.binds, sg.ret⟩

/-- The same in the property's words: the windows offered the key are a prefix of the visiting order; their first
    occurrences are a prefix of the reference order `keyOrder` (so a stealing first child that is visited twice is
    no alarm); all of it is offered when nobody claims; and when somebody claims, it is the last window offered. -/
theorem key_order_reference (fuel F : Nat) (st st' : St) (ev : Ev) (claimed : Bool) (ws : List WinTree.Id)
    (hs : Static st.binds) (hwf : WF st.tree)
    (h : onTermKey Cfg.repaired fuel st ev = Out.ok (st', claimed))
    (hv : keyVisits st.tree F 0 = some ws) :
    ∃ offered : List WinTree.Id,
      offers st'.log = offers st.log ++ offered.map (fun w => (Kind.key, w, ev)) ∧
      offered <+: ws ∧ firstOcc offered <+: firstOcc ws ∧ keyOrder st.tree F 0 = some (firstOcc ws) ∧
      (claimed = false → offered = ws) ∧
      (claimed = true → ∃ pre w post, ws = pre ++ w :: post ∧ offered = pre ++ [w]) := by
  obtain ⟨hl, _, hc⟩ := key_order fuel F st st' ev claimed ws hs hwf h hv
  obtain ⟨offered, he, hpre, hn, hsome⟩ := offerAll_reference_const .key ev ws st.binds
  exact ⟨offered, by rw [hl, he, List.map_map]; rfl, hpre, firstOcc_prefix hpre, by simp [keyOrder, hv],
    fun hcl => hn (hc ▸ hcl), fun hcl => hsome (hc ▸ hcl)⟩

/-- **mouse_target.**  With handlers that only claim or decline, a mouse event dispatched to `win` (the root for the
    event itself, the drag source for DRAG_STOP / DRAG_OUTSIDE) is offered exactly to the windows of `mouseVisits`:
    the children under the pointer or stealing input, front-most first and depth first — so the front-most visible
    window under the pointer comes before anything behind or around it — then the window itself; each with the event
    as `mouseVisits` says it sees it; up to and including the first claim.  The result is the window that claimed. -/
theorem mouse_target (fuel F : Nat) (st st' : St) (win : WinTree.Id) (ev : Ev) (r : Option WinTree.Id)
    (ws : List (WinTree.Id × Ev)) (hs : Static st.binds) (hwf : WF st.tree)
    (h : handleMouse Cfg.repaired fuel st win ev = Out.ok (st', r))
    (hv : mouseVisits st.tree F win ev = some ws) :
    offers st'.log = offers st.log ++ ((offerAll st.binds .mouse ws).2.1).map (fun p => (Kind.mouse, p.1, p.2)) ∧
      st'.binds = (offerAll st.binds .mouse ws).1 ∧ r = (offerAll st.binds .mouse ws).2.2 := by
  obtain ⟨_, sp⟩ := handleMouse_static fuel st win ev st' r hs hwf h
  have sg := sp F ws hv
  exact ⟨sg.log, sg.binds, sg.ret⟩

/-- In the property's words: what is offered is a prefix of the reference order; the whole of it when nobody claims;
    and the window that handled the event is the last one offered. -/
theorem mouse_target_reference (fuel F : Nat) (st st' : St) (win : WinTree.Id) (ev : Ev) (r : Option WinTree.Id)
    (ws : List (WinTree.Id × Ev)) (hs : Static st.binds) (hwf : WF st.tree)
    (h : handleMouse Cfg.repaired fuel st win ev = Out.ok (st', r))
    (hv : mouseVisits st.tree F win ev = some ws) :
    ∃ offered : List (WinTree.Id × Ev),
      offers st'.log = offers st.log ++ offered.map (fun p => (Kind.mouse, p.1, p.2)) ∧ offered <+: ws ∧
      (r = none → offered = ws) ∧
      (∀ w, r = some w → ∃ pre e post, ws = pre ++ (w, e) :: post ∧ offered = pre ++ [(w, e)]) := by
  obtain ⟨hl, _, hr⟩ := mouse_target fuel F st st' win ev r ws hs hwf h hv
  obtain ⟨hp, hn, hsome⟩ := offerAll_reference .mouse ws st.binds
  exact ⟨_, hl, hp, fun h0 => hn (hr.symm.trans h0), fun w hw => hsome w (hr.symm.trans hw)⟩

/-- **mouse_target, in the painter's model.**  When no window steals input, the first window a mouse event is offered
    to is the window that owns the terminal cell under the pointer in the composition of the tree (`WinTree.owner`:
    front-most visible window covering the cell, children over their parent, earlier siblings over later ones,
    hidden subtrees ignored). -/
theorem mouse_target_owner (t : Tree) (hwf : WF t)
    (hns : ∀ (i : WinTree.Id) (w : Win), t.wins[i]? = some w → w.stealInput = false)
    (w0 : Win) (hw0 : t.wins[0]? = some w0) (hf0 : w0.freed = false) (hv0 : w0.isVisible = true) (hp0 : w0.parent = none)
    (l c : Int) (hin : w0.rect.memb l c = true) (ev : Ev) (hl : ev.line = l - w0.rect.top) (hc : ev.col = c - w0.rect.left)
    (ws : List (WinTree.Id × Ev)) (hv : mouseVisits t (t.wins.size + 1) 0 ev = some ws) :
    headWin ws = owner t l c := by
  exact mouseVisits_owner_root hwf hns hw0 hf0 hv0 hp0 hin hl hc hv

/-- **mouse_relative.**  Every window that is offered the event gets it with the kind (type, button, modifiers) of
    the event dispatched and with the position made relative to itself: the position dispatched to `win` minus the
    receiver's absolute origin relative to `win`'s (`OriginSum` adds up the offsets along the parent chain). -/
theorem mouse_relative (fuel F : Nat) (st st' : St) (win : WinTree.Id) (ev : Ev) (r : Option WinTree.Id)
    (ws : List (WinTree.Id × Ev)) (a b : Int) (hs : Static st.binds) (hwf : WF st.tree)
    (h : handleMouse Cfg.repaired fuel st win ev = Out.ok (st', r))
    (hv : mouseVisits st.tree F win ev = some ws) (ho : OriginSum st.tree (some win) a b) :
    ∃ offered : List (WinTree.Id × Ev),
      offers st'.log = offers st.log ++ offered.map (fun p => (Kind.mouse, p.1, p.2)) ∧
      ∀ x e, (x, e) ∈ offered → e.type = ev.type ∧ e.button = ev.button ∧ e.mod = ev.mod ∧
        ∃ a' b', OriginSum st.tree (some x) a' b' ∧ e.line = ev.line - (a' - a) ∧ e.col = ev.col - (b' - b) := by
  obtain ⟨offered, hl, hp, _, _⟩ := mouse_target_reference fuel F st st' win ev r ws hs hwf h hv
  refine ⟨offered, hl, ?_⟩
  intro x e hx
  obtain ⟨_, hk, hrel⟩ := mouseVisits_relative hwf F win ev ws a b hv ho x e (hp.subset hx)
  exact ⟨hk.type, hk.button, hk.mod, hrel⟩

/-- The origin used above is what `tickit_window_get_abs_geometry` returns: a window `x` that is offered the event
    dispatched to the root at terminal cell `(ev.line, ev.col)` sees it at that cell minus its absolute geometry. -/
theorem mouse_relative_absGeometry (t : Tree) (hwf : WF t) (F f f0 : Nat) (ev : Ev) (ws : List (WinTree.Id × Ev))
    (g0 g : Rect) (x : WinTree.Id) (e : Ev) (hv : mouseVisits t F 0 ev = some ws) (hx : (x, e) ∈ ws)
    (h0 : absGeometry t f0 0 = Res.ok g0) (hg : absGeometry t f x = Res.ok g) :
    e.line = ev.line - (g.top - g0.top) ∧ e.col = ev.col - (g.left - g0.left) := by
  obtain ⟨_, _, a', b', ho, h1, h2⟩ :=
    mouseVisits_relative hwf F 0 ev ws g0.top g0.left hv (absGeometry_origin h0) x e hx
  obtain ⟨e1, e2⟩ := OriginSum.unique ho (absGeometry_origin hg)
  rw [h1, h2, e1, e2]; exact ⟨rfl, rfl⟩

/-- The reference orders contain only windows that are visible together with all their ancestors. -/
theorem reference_orders_visible (t : Tree) (hwf : WF t) (F : Nat) (win : WinTree.Id) :
    (∀ ws, keyVisits t F win = some ws → ∀ x ∈ ws, visibleChain t (treeFuel t) x = true) ∧
    (∀ ev ws a b, mouseVisits t F win ev = some ws → OriginSum t (some win) a b →
      ∀ x e, (x, e) ∈ ws → visibleChain t (treeFuel t) x = true) :=
  ⟨keyVisits_visible t F win, fun ev ws a b hv ho x e hx => (mouseVisits_relative hwf F win ev ws a b hv ho x e hx).1⟩

/-- A PRESS is remembered: button and cell go into the root's press memory, nothing is dispatched for it. -/
theorem press_recorded (cfg : Cfg) (fuel : Nat) (st : St) (ev : Ev) (hp : ev.type = evPress) :
    dragPrelude cfg fuel st ev = Out.ok { st with tree := { st.tree with root := { st.tree.root with
      mouseLastButton := ev.button, mouseLastLine := ev.line, mouseLastCol := ev.col } } } := by
  unfold dragPrelude; rw [if_pos hp]; rfl

/-- The first DRAG after a press: DRAG_START is dispatched from the root with the button and the cell of the press,
    before the DRAG itself; the window that claims it becomes the drag source (`dragSourceSet`: if it is still in
    the tree), and the root is dragging from then on. -/
theorem drag_start_event (cfg : Cfg) (fuel : Nat) (st : St) (ev : Ev) (hd : ev.type = evDrag)
    (hnd : st.tree.root.mouseDragging = false) :
    dragPrelude cfg fuel st ev = (do
      let (st1, src) ← handleMouse cfg fuel st 0
        { type := evDragStart, button := st.tree.root.mouseLastButton, line := st.tree.root.mouseLastLine,
          col := st.tree.root.mouseLastCol }
      let st2 ← dragSourceSet cfg st1 src
      pure { st2 with tree := { st2.tree with root := { st2.tree.root with mouseDragging := true } } }) := by
  unfold dragPrelude
  have h1 : ¬ (ev.type = evPress) := by rw [hd]; decide
  have h2 : (ev.type = evDrag && !st.tree.root.mouseDragging) = true := by rw [hd, hnd]; decide
  rw [if_neg h1, if_pos h2]

/-- The RELEASE that ends a drag: DRAG_DROP is dispatched from the root at the release cell, then DRAG_STOP to the
    drag source (position relative to it), then dragging ends — all before the RELEASE itself. -/
theorem drag_release_events (cfg : Cfg) (fuel : Nat) (st : St) (ev : Ev) (hr : ev.type = evRelease)
    (hdr : st.tree.root.mouseDragging = true) :
    dragPrelude cfg fuel st ev = (do
      let (st1, dropped) ← handleMouse cfg fuel st 0 { type := evDragDrop, button := ev.button, line := ev.line, col := ev.col }
      let st2 ← dropResult cfg st1 dropped
      let st3 ← dragStop cfg fuel st2 ev
      pure { st3 with tree := { st3.tree with root := { st3.tree.root with mouseDragging := false } } }) := by
  unfold dragPrelude
  have h1 : ¬ (ev.type = evPress) := by rw [hr]; decide
  have h2 : ¬ ((ev.type = evDrag && !st.tree.root.mouseDragging) = true) := by rw [hr]; intro h; cases h
  have h3 : (ev.type = evRelease && st.tree.root.mouseDragging) = true := by rw [hr, hdr]; decide
  rw [if_neg h1, if_neg h2, if_pos h3]

/-- DRAG_STOP goes to the drag source if there is one. -/
theorem drag_stop_target (cfg : Cfg) (fuel : Nat) (st : St) (ev : Ev) :
    dragStop cfg fuel st ev =
      match st.tree.root.dragSource with
      | none => pure st
      | some src => toDragSource cfg fuel st src evDragStop ev := rfl

/-- DRAG_STOP and DRAG_OUTSIDE go to the drag source, with the event's button and the position relative to the
    source's absolute geometry. -/
theorem to_drag_source (cfg : Cfg) (fuel : Nat) (st : St) (src : WinTree.Id) (type : Int) (ev : Ev) (geom : Rect)
    (hal : isAlive st.tree src = true) (hg : absGeometry st.tree (treeFuel st.tree) src = Res.ok geom) :
    toDragSource cfg fuel st src type ev = (do
      let (st1, r) ← handleMouse cfg fuel st src
        { type := type, button := ev.button, line := ev.line - geom.top, col := ev.col - geom.left }
      dropResult cfg st1 r) := by
  unfold toDragSource; rw [hal, hg]; rfl

/-- DRAG_OUTSIDE is sent exactly when the event is a DRAG, there is a drag source, and the DRAG was not handled by
    that window. -/
theorem drag_outside_iff (cfg : Cfg) (fuel : Nat) (st : St) (ev : Ev) (handled : Option WinTree.Id) :
    dragOutside cfg fuel st ev handled =
      match st.tree.root.dragSource with
      | some src => if ev.type = evDrag ∧ handled ≠ some src then toDragSource cfg fuel st src evDragOutside ev else pure st
      | none => pure st := by
  unfold dragOutside
  cases st.tree.root.dragSource with
  | none => rfl
  | some src => simp only [Bool.and_eq_true, decide_eq_true_eq]

/-- **hidden_never.**  Whatever the handlers do (claim, decline, mutate the tree), and for every event: every offer
    made during `on_term_key` / `on_term_mouse` by the code with the visibility repair goes to a window that is
    visible, together with all its ancestors, at the moment of the offer.  (Before the repair: `hidden_descendant_counterexample`.) -/
theorem hidden_never (cfg : Cfg) (hc : cfg.shown = true) (fuel : Nat) (st st' : St) (ev : Ev) (r : Bool)
    (h : onTermKey cfg fuel st ev = Out.ok (st', r) ∨ onTermMouse cfg fuel st ev = Out.ok (st', r)) :
    ∃ new, st'.log = new ++ st.log ∧ ∀ k w e b, LogItem.offer k w e b ∈ new → b = true := by
  have key : Ext ShownOffer st st' :=
    onTerm_ext (shownOffer_routed cfg hc .key ev) (shownOffer_routed cfg hc .mouse) h
  obtain ⟨⟨new, hl, hp⟩, _⟩ := key
  exact ⟨new, hl, fun k w e b hm => hp _ hm⟩

/-- **drag_consistent (order and content of the first DRAG).**  Whatever the handlers do: in the log of a DRAG event
    received while no drag is in progress, everything that belongs to DRAG_START — carrying the remembered button
    of the press — comes before everything that belongs to the DRAG itself and to DRAG_OUTSIDE, which carry the
    event's button. -/
theorem drag_start_first (cfg : Cfg) (fuel : Nat) (st st' : St) (ev : Ev) (r : Bool)
    (h : onTermMouse cfg fuel st ev = Out.ok (st', r)) (hd : ev.type = evDrag)
    (hnd : st.tree.root.mouseDragging = false) :
    ∃ newS newD, st'.log = newD ++ newS ++ st.log ∧
      (∀ i ∈ newS, Carries (fun e => e.type = evDragStart ∧ e.button = st.tree.root.mouseLastButton ∧ e.mod = 0) i) ∧
      (∀ i ∈ newD, Carries (fun e => (e.type = evDrag ∧ e.mod = ev.mod ∨ e.type = evDragOutside ∧ e.mod = 0) ∧
        e.button = ev.button) i) := by
  have nr : ev.type ≠ evRelease := by rw [hd]; decide
  obtain ⟨newS, n2, newD, hl, pS, p2, pD⟩ := onTermMouse_logs (r := r) (P2 := fun _ => False)
    (P1 := Carries fun e => e.type = evDragStart ∧ e.button = st.tree.root.mouseLastButton ∧ e.mod = 0)
    (P3 := Carries fun e => (e.type = evDrag ∧ e.mod = ev.mod ∨ e.type = evDragOutside ∧ e.mod = 0) ∧ e.button = ev.button)
    ⟨fun _ _ => carries_routed cfg _ _ fun e hk => ⟨hk.type, hk.button, hk.mod⟩, fun hr => absurd hr nr, fun hr => absurd hr nr⟩
    (carries_routed cfg ev _ fun e hk => ⟨Or.inl ⟨by rw [hk.type, hd], hk.mod⟩, hk.button⟩)
    (fun _ => carries_routed cfg _ _ fun e hk => ⟨Or.inr ⟨hk.type, hk.mod⟩, hk.button⟩) h
  cases n2 with
  | cons i _ => exact (p2 i (List.mem_cons_self ..)).elim
  | nil => exact ⟨newS, newD, by rw [hl, List.append_nil], pS, pD⟩

/-- **drag_consistent (the release).**  Whatever the handlers do: in the log of a RELEASE received while a drag is in
    progress, DRAG_DROP comes first, then DRAG_STOP, then the RELEASE itself; all carry the button of the release. -/
theorem drag_drop_stop_order (cfg : Cfg) (fuel : Nat) (st st' : St) (ev : Ev) (r : Bool)
    (h : onTermMouse cfg fuel st ev = Out.ok (st', r)) (hr : ev.type = evRelease)
    (hdr : st.tree.root.mouseDragging = true) :
    ∃ newDrop newStop newRel, st'.log = newRel ++ newStop ++ newDrop ++ st.log ∧
      (∀ i ∈ newDrop, Carries (fun e => e.type = evDragDrop ∧ e.button = ev.button) i) ∧
      (∀ i ∈ newStop, Carries (fun e => e.type = evDragStop ∧ e.button = ev.button) i) ∧
      (∀ i ∈ newRel, Carries (fun e => e.type = evRelease ∧ e.button = ev.button ∧ e.mod = ev.mod) i) := by
  have nd : ev.type ≠ evDrag := by rw [hr]; decide
  exact onTermMouse_logs (r := r)
    ⟨fun hd => absurd hd nd, fun _ _ => carries_routed cfg _ _ fun e hk => ⟨hk.type, hk.button⟩,
      fun _ _ => carries_routed cfg _ _ fun e hk => ⟨hk.type, hk.button⟩⟩
    (carries_routed cfg ev _ fun e hk => ⟨by rw [hk.type, hr], hk.button, hk.mod⟩) (fun hd => absurd hd nd) h

/-! ### mutations from inside handlers

  Concrete histories (the same as corpus/C14/*.ops), run on the model of the code before and after the repairs.
  They are evaluated by the kernel (`decide +kernel`): each is a single, complete computation. -/

namespace Scenario

def build (ops : List (St → Option St)) (st : St) : Option St := ops.foldl (fun s f => s.bind f) (some st)

def opWin (p : WinTree.Id) (r : Rect) (flags : Nat := 0) : St → Option St := fun s =>
  match newWin s p r (flags &&& 4 != 0) (flags &&& 1 != 0) (flags &&& 2 != 0) (flags &&& 8 != 0) with
  | .ok (s', _) => some s'
  | .ub _ => none

def opBind (w : WinTree.Id) (k : Kind) (es : List Entry) (oneshot : Bool := false) : St → Option St :=
  fun s => some (addBinding s w k es oneshot).1

def opAct (a : Act) (w : WinTree.Id) : St → Option St := fun s =>
  match doAction s ⟨a, w⟩ with
  | .ok s' => some s'
  | .ub _ => none

def opKey (cfg : Cfg) (ev : Ev) : St → Option St := fun s =>
  match emitKey cfg s ev with
  | .ok s' => some s'
  | _ => none

def opMouse (cfg : Cfg) (ev : Ev) : St → Option St := fun s =>
  match emitMouse cfg s ev with
  | .ok s' => some s'
  | _ => none

def opFlush : St → Option St := fun s =>
  match flushSt s with
  | .ok s' => some s'
  | .ub _ => none

def decl : Entry := { ret := false }
def claim : Entry := { ret := true }
def doing (ret : Bool) (a : Act) (w : WinTree.Id) : Entry := { ret := ret, actions := [⟨a, w⟩] }

def offered (o : Option (Out St)) : Option (List WinTree.Id) :=
  o.bind fun r => match r with
    | .ok s => some ((offers s.log).map (·.2.1))
    | _ => none

def isUb (o : Option (Out St)) : Option Bool := o.map Out.isUb

/-- Three siblings in a row (3 in front, then 2, then 1), all with a declining key handler; the front-most one
    also performs `a` on window 2, the next sibling.  (corpus/C14/key_next_closed.ops, key_next_freed.ops) -/
def threeSiblingsKey (a : Act) : Option St :=
  build [opWin 0 ⟨0, 0, 1, 1⟩, opWin 0 ⟨0, 1, 1, 1⟩, opWin 0 ⟨0, 2, 1, 1⟩,
         opBind 3 .key [doing false a 2], opBind 2 .key [decl], opBind 1 .key [decl]] (newSt 5 8)

/-- Three windows over the same cell, mouse handlers.  (mouse_next_closed.ops, mouse_next_freed.ops) -/
def threeStackedMouse (a : Act) : Option St :=
  build [opWin 0 ⟨0, 0, 2, 2⟩, opWin 0 ⟨0, 0, 2, 2⟩, opWin 0 ⟨0, 0, 2, 2⟩,
         opBind 3 .mouse [doing false a 2], opBind 2 .mouse [decl], opBind 1 .mouse [decl], opBind 0 .mouse [decl]] (newSt 5 8)

/-- A popup (2) over a window (1): the popup claims the press and closes itself.  (claim_withdrawn_click_through.ops) -/
def popupClosesItself : Option St :=
  build [opWin 0 ⟨0, 0, 2, 2⟩, opWin 0 ⟨0, 0, 2, 2⟩,
         opBind 2 .mouse [doing true .close 2], opBind 1 .mouse [claim], opBind 0 .mouse [decl]] (newSt 5 8)

/-- Window 1 hides itself in its key handler; its child 2 has a handler too.  (hidden_midway_key.ops) -/
def hidesItself : Option St :=
  build [opWin 0 ⟨0, 0, 3, 3⟩, opWin 1 ⟨0, 0, 2, 2⟩,
         opBind 1 .key [doing false .hide 1], opBind 2 .key [decl]] (newSt 5 8)

/-- A drag that starts in window 2 (child of 1); then 1 is hidden; then the drag goes on elsewhere.
    (drag_source_hidden_parent.ops) -/
def dragThenHideParent (cfg : Cfg) : Option St :=
  build [opWin 0 ⟨0, 0, 3, 3⟩, opWin 1 ⟨0, 0, 2, 2⟩, opBind 2 .mouse [claim],
         opMouse cfg { type := evPress, button := 1, line := 0, col := 0 },
         opMouse cfg { type := evDrag, button := 1, line := 0, col := 1 },
         opAct .hide 1] (newSt 5 8)

/-- Did some offer in the log go to a window that was hidden (itself or an ancestor) at that moment? -/
def hiddenOffer (o : Option (Out St)) : Option Bool :=
  o.bind fun r => match r with
    | .ok s => some (s.log.any fun i => match i with | .offer _ _ _ b => !b | _ => false)
    | _ => none

def key : Ev := { type := 2 }
def press : Ev := { type := evPress, button := 1, line := 0, col := 0 }

end Scenario

open Scenario in
/-- Before the repair: the front-most sibling closes the next one; the closed window is still offered the key and
    window 1 behind it never is.  The reference order is 0, 3, 2, 1; with window 2 gone, 0, 3, 1. -/
theorem next_closed_derails_counterexample :
    offered ((threeSiblingsKey .close).map fun s => emitKey Cfg.legacy s key) = some [0, 3, 2] ∧
    offered ((threeStackedMouse .close).map fun s => emitMouse Cfg.legacy s press) = some [3, 2, 0] := by
  decide +kernel

open Scenario in
/-- After the repair the same histories offer the event to every window that is still there, in order. -/
theorem repaired_next_closed :
    offered ((threeSiblingsKey .close).map fun s => emitKey Cfg.repaired s key) = some [0, 3, 1] ∧
    offered ((threeStackedMouse .close).map fun s => emitMouse Cfg.repaired s press) = some [3, 1, 0] := by
  decide +kernel

open Scenario in
/-- Before the repair: the front-most sibling drops the last reference of the next one; the loop then reads
    `child->next` from freed memory. -/
theorem next_freed_ub_counterexample :
    isUb ((threeSiblingsKey .unref).map fun s => emitKey Cfg.legacy s key) = some true ∧
    isUb ((threeStackedMouse .unref).map fun s => emitMouse Cfg.legacy s press) = some true := by
  decide +kernel

open Scenario in
/-- After the repair the snapshot's reference keeps window 2 alive until the walk is over: everybody is offered the
    event, nothing undefined happens. -/
theorem repaired_next_freed :
    offered ((threeSiblingsKey .unref).map fun s => emitKey Cfg.repaired s key) = some [0, 3, 2, 1] ∧
    offered ((threeStackedMouse .unref).map fun s => emitMouse Cfg.repaired s press) = some [3, 2, 1, 0] := by
  decide +kernel

open Scenario in
/-- With the rule of commit 443f8da (`is_closed || refcount == 1 → ret = NULL`): the popup's claim is withdrawn and the
    window behind it is offered the same press.  With the counted reference the claim stands. -/
theorem claim_withdrawn_counterexample :
    offered (popupClosesItself.map fun s => emitMouse ⟨true, false, true⟩ s press) = some [2, 1] ∧
    offered (popupClosesItself.map fun s => emitMouse Cfg.repaired s press) = some [2] := by
  decide +kernel

open Scenario in
/-- Before the visibility repair: a window that hides itself still has its children offered the key, and a drag
    source whose parent was hidden still receives DRAG_OUTSIDE; after it, neither happens (`hidden_never`). -/
theorem hidden_descendant_counterexample :
    hiddenOffer (hidesItself.map fun s => emitKey ⟨true, true, false⟩ s key) = some true ∧
    hiddenOffer (hidesItself.map fun s => emitKey Cfg.repaired s key) = some false ∧
    hiddenOffer ((dragThenHideParent ⟨true, true, false⟩).map fun s =>
      emitMouse ⟨true, true, false⟩ s { type := evDrag, button := 1, line := 4, col := 4 }) = some true ∧
    hiddenOffer ((dragThenHideParent Cfg.repaired).map fun s =>
      emitMouse Cfg.repaired s { type := evDrag, button := 1, line := 4, col := 4 }) = some false := by
  decide +kernel

/-- The application states the engine can reach: a fresh root, new windows, bindings, the application's actions,
    flushes, and events — all on the repaired code. -/
inductive Reachable : St → Prop where
  | fresh (lines cols : Int) : Reachable (newSt lines cols)
  | win {st st' : St} {id : WinTree.Id} (p : WinTree.Id) (r : Rect) (a b c d : Bool) :
      Reachable st → newWin st p r a b c d = Res.ok (st', id) → Reachable st'
  | bind {st : St} (w : WinTree.Id) (k : Kind) (es : List Entry) (oneshot : Bool) :
      Reachable st → Reachable (addBinding st w k es oneshot).1
  | act {st st' : St} (a : Action) : Reachable st → doAction st a = Res.ok st' → Reachable st'
  | flush {st st' : St} : Reachable st → flushSt st = Res.ok st' → Reachable st'
  | key {st st' : St} (ev : Ev) : Reachable st → emitKey Cfg.repaired st ev = Out.ok st' → Reachable st'
  | mouse {st st' : St} (ev : Ev) : Reachable st → emitMouse Cfg.repaired st ev = Out.ok st' → Reachable st'

/-- **mutation_safe** (any state satisfying the invariant).  Take any application state that satisfies the store
    invariant `AInv` with no dispatcher reference outstanding — children and parent pointers agree, focus pointers
    point to children, no duplicates, closed windows are detached, the drag source is live, every live window's
    reference count is what the application owns, a window the application let go of has no children, every queued
    restack request names a live window that still hangs below the root — and any behaviour tables (`TableOK` holds of
    every table: `tableOK_all`; the actions are subject to the application rules of the harness).  Then a key or mouse event never makes the repaired
    routing touch freed memory, dereference NULL or abort: the only non-returning outcomes are the model's own fuel
    running out (`FuelMsg`, `Out.fuel`); and when it returns, the state satisfies the invariant again, so the next
    event is covered too. -/
theorem mutation_safe (st : St) (ev : Ev) (hinv : AInv st []) (htab : TableOK st.binds) :
    (∀ w, emitKey Cfg.repaired st ev = Out.ub w → FuelMsg w) ∧
    (∀ w, emitMouse Cfg.repaired st ev = Out.ub w → FuelMsg w) ∧
    (∀ st', emitKey Cfg.repaired st ev = Out.ok st' → AInv st' [] ∧ TableOK st'.binds) ∧
    (∀ st', emitMouse Cfg.repaired st ev = Out.ok st' → AInv st' [] ∧ TableOK st'.binds) := by
  obtain ⟨hk, hm⟩ := emit_safe (st := st) ⟨hinv, htab⟩ ev
  exact ⟨fun _ => safeO_ub hk, fun _ => safeO_ub hm, fun _ => safeO_ok hk, fun _ => safeO_ok hm⟩

/-- The application's own covered operations keep the invariant as well (here: outside any dispatch). -/
theorem mutation_safe_actions (st : St) (a : Action) (hinv : AInv st []) (ha : ActOK a) :
    (∀ w, doAction st a = Res.ub w → FuelMsg w) ∧ (∀ st', doAction st a = Res.ok st' → AInv st' []) := by
  have h := doAction_safe (a := a) hinv
  exact ⟨fun _ => safeR_ub h, fun _ hs => (safeR_ok h hs).1⟩

/-- Every state the engine can reach satisfies the invariant of `mutation_safe`, with no dispatcher reference outstanding. -/
theorem reachable_good {st : St} (h : Reachable st) : AInv st [] := by
  have key : Good [] st := by
    induction h with
    | fresh l c => exact newSt_good l c
    | @win st st' id p r a b c d _ hn ih =>
      exact safeR_ok (a := (st', id)) (newWin_good ih (newWin_alive hn) r a b c d) hn
    | bind w k es os _ ih => exact addBinding_good ih w k es os
    | act a _ hd ih => exact .of (safeR_ok (doAction_safe ih.1) hd).1
    | flush _ hf ih => exact safeR_ok (flushSt_good ih) hf
    | key ev _ he ih => exact safeO_ok (emit_safe ih ev).1 he
    | mouse ev _ he ih => exact safeO_ok (emit_safe ih ev).2 he
  exact key.1

/-- The application states reached through: a fresh root, new windows (any flags, any live parent), bindings,
    actions of the application itself, and key and mouse events on the repaired code.  (A sub-family of `Reachable`:
    no flushes, live parents and covered actions spelt out; `mutation_safe_full` subsumes what is proved of it.) -/
inductive ReachableCovered : St → Prop where
  | fresh (lines cols : Int) : ReachableCovered (newSt lines cols)
  | win {st st' : St} {id : WinTree.Id} (p : WinTree.Id) (r : Rect) (a b c d : Bool) :
      ReachableCovered st → isAlive st.tree p = true → newWin st p r a b c d = Res.ok (st', id) → ReachableCovered st'
  | bind {st : St} (w : WinTree.Id) (k : Kind) (es : List Entry) :
      ReachableCovered st → (∀ e ∈ es, ∀ a ∈ e.actions, ActOK a) → ReachableCovered (addBinding st w k es).1
  | act {st st' : St} (a : Action) : ReachableCovered st → ActOK a → doAction st a = Res.ok st' → ReachableCovered st'
  | key {st st' : St} (ev : Ev) : ReachableCovered st → emitKey Cfg.repaired st ev = Out.ok st' → ReachableCovered st'
  | mouse {st st' : St} (ev : Ev) : ReachableCovered st → emitMouse Cfg.repaired st ev = Out.ok st' → ReachableCovered st'

/-- Every such state satisfies the hypotheses of `mutation_safe`. -/
theorem reachable_invariant {st : St} (h : ReachableCovered st) : AInv st [] ∧ TableOK st.binds := by
  have incl : Reachable st := by
    induction h with
    | fresh l c => exact .fresh l c
    | win p r a b c d _ _ hn ih => exact .win p r a b c d ih hn
    | bind w k es _ _ ih => exact .bind w k es false ih
    | act a _ _ hd ih => exact .act a ih hd
    | key ev _ he ih => exact .key ev ih he
    | mouse ev _ he ih => exact .mouse ev ih he
  exact ⟨reachable_good incl, tableOK_all _⟩

/-- **mutation_safe over histories.**  Along every history of window creations, bindings with covered handlers,
    covered application actions and key / mouse events, no event ever makes the repaired routing touch freed memory,
    dereference NULL or abort. -/
theorem mutation_safe_histories {st : St} (h : ReachableCovered st) (ev : Ev) :
    (∀ w, emitKey Cfg.repaired st ev = Out.ub w → FuelMsg w) ∧
    (∀ w, emitMouse Cfg.repaired st ev = Out.ub w → FuelMsg w) := by
  obtain ⟨hinv, htab⟩ := reachable_invariant h
  obtain ⟨hk, hm, _⟩ := mutation_safe st ev hinv htab
  exact ⟨hk, hm⟩

/-- **mutation_safe**, the full statement: in no reachable state does a key or mouse event make the repaired code
    touch freed memory, dereference NULL or abort — whatever the handlers close, unref, hide, restack, focus or
    steal, whatever restack requests are pending, whatever was flushed in between.  The only `ub` outcomes the model
    can still produce are the five messages of `FuelMsg`, which the model emits when its *own* recursion fuel runs
    out (parent chain, focus chain, destroy recursion, the two rectangle-set loops on the damage set): artefacts of
    the model, not behaviours of the C code.  (Delivery to the windows a mutation does not affect:
    `delivery_unaffected_key`, `delivery_unaffected_mouse` below and the run-time oracle of Driver/Input.lean.) -/
theorem mutation_safe_full : ∀ (st : St), Reachable st → ∀ (ev : Ev),
    (∀ w, emitKey Cfg.repaired st ev = Out.ub w → FuelMsg w) ∧
    (∀ w, emitMouse Cfg.repaired st ev = Out.ub w → FuelMsg w) := by
  intro st h ev
  obtain ⟨hk, hm, _⟩ := mutation_safe st ev (reachable_good h) (tableOK_all _)
  exact ⟨hk, hm⟩

/-- The application's own operations never reach an undefined behaviour either, in any reachable state: every
    action of the vocabulary (subject to the harness rules of `allowed`) and `tickit_window_flush`. -/
theorem mutation_safe_full_operations : ∀ (st : St), Reachable st →
    (∀ (a : Action) (w : String), doAction st a = Res.ub w → FuelMsg w) ∧ (∀ w, flushSt st = Res.ub w → FuelMsg w) := by
  intro st h
  have hinv := reachable_good h
  exact ⟨fun a _ => safeR_ub (doAction_safe hinv), fun _ => safeR_ub (flushSt_good (.of hinv))⟩


/-- **delivery_unaffected (keys).**  Let `A` be a set of windows closed under descendants (`Base`: the store is
    consistent, children of windows of `A` are in `A`, and no stealing window outside `A` has a front-most sibling
    in `A`), not containing the root, and let every handler action be confined to `A` (`Conf`: close, unref, hide,
    show and steal-input act on windows of `A`; restack requests and extra references are unrestricted; `take_focus`
    acts on a window of `A` and then `A` must be a union of whole top-level subtrees that also holds the root's
    present focus chain, `FocusOK` — the windows the run-time monitor exempts), in a state that satisfies the store invariant (outside any dispatch).  Then, whatever the handlers do and claim, the windows *outside `A`* are offered a key event in
    the reference order `keyVisits` of the tree **as it was when the dispatch began**: what is offered outside `A` is a
    prefix of the reference order outside `A` (also on first occurrences, i.e. against `keyOrder`), and all of it when
    nobody claims the event.  The store invariant holds again afterwards. -/
theorem delivery_unaffected_key (A : Aff) (fuel F : Nat) (st st' : St) (ev : Ev) (claimed : Bool) (vs : List WinTree.Id)
    (hu : Unaffected A st) (hroot : A 0 = false)
    (h : onTermKey Cfg.repaired fuel st ev = Out.ok (st', claimed)) (hv : keyVisits st.tree F 0 = some vs) :
    ∃ offered : List WinTree.Id,
      offWins st'.log = offWins st.log ++ offered ∧
      fA A offered <+: fA A vs ∧
      keyOrder st.tree F 0 = some (firstOcc vs) ∧ fA A (firstOcc offered) <+: fA A (firstOcc vs) ∧
      (claimed = false → fA A offered = fA A vs) ∧ AInv st' [] := by
  unfold onTermKey at h
  have p := handleKey_sim hu.base fuel st 0 ev [] st' claimed hu.dinv hu.inv.tree.alive_root h
  obtain ⟨ws, o⟩ := p.offered
  have m := o.agree hroot F vs hv
  refine ⟨ws, o.off, m.prefix, by simp [keyOrder, hv], ?_, m.2, p.inv.ainv⟩
  rw [← firstOcc_fA, ← firstOcc_fA]
  exact firstOcc_prefix m.prefix

/-- In every state the engine can reach the invariant part of the hypotheses holds by itself (`reachable_good`): what
    remains to be checked is the closure of `A` under descendants, the side condition on stealing windows, and that
    the handlers' actions are confined to `A`. -/
theorem unaffected_of_reachable (A : Aff) {st : St} (h : Reachable st) (hd : Down A st.tree)
    (hs : ∀ (p : WinTree.Id) (w0 : Win) (a : WinTree.Id) (rest : List WinTree.Id), A p = false → st.tree.wins[p]? = some w0 →
      w0.freed = false → w0.children = a :: rest → A a = true → ∀ c ∈ rest, A c = false → stealAt st.tree c = false)
    (hc : Conf A st.tree st.binds) : Unaffected A st :=
  ⟨reachable_good h, ⟨(reachable_good h).tree, hd, hs⟩, hc⟩

/-- **delivery_unaffected (mouse).**  Under the same hypotheses a mouse event dispatched to a window `win` outside
    `A` (the root for the event itself, the drag source for DRAG_STOP / DRAG_OUTSIDE) is offered to the windows
    outside `A` in the order of `mouseVisits` on the tree as it was when the dispatch began — front-most window under
    the pointer (or stealing) first — up to the first claim, and to all of them when nobody claims. -/
theorem delivery_unaffected_mouse (A : Aff) (fuel F : Nat) (st st' : St) (win : WinTree.Id) (ev : Ev) (r : Option WinTree.Id)
    (vs : List (WinTree.Id × Ev)) (hu : Unaffected A st) (hwin : A win = false) (hal : Alive st.tree win)
    (h : handleMouse Cfg.repaired fuel st win ev = Out.ok (st', r)) (hv : mouseVisits st.tree F win ev = some vs) :
    ∃ offered : List WinTree.Id,
      offWins st'.log = offWins st.log ++ offered ∧
      fA A offered <+: fA A (vs.map (·.1)) ∧
      (r = none → fA A offered = fA A (vs.map (·.1))) ∧ AInv st' (heldR r []) := by
  have p := handleMouse_sim hu.base fuel st win ev [] st' r hu.dinv hal h
  obtain ⟨ws, o⟩ := p.offered
  have m := o.agree hwin F _ ⟨vs, hv, rfl⟩
  refine ⟨ws, o.off, m.prefix, ?_, p.inv.ainv⟩
  intro hr; subst hr; exact m.all

/-- **The hypotheses persist.**  After a whole key event, and after a whole mouse event — with all the dispatches
    `on_term_mouse` makes for it: DRAG_START, DRAG_DROP, DRAG_STOP, the event itself, DRAG_OUTSIDE — the hypotheses of
    the delivery theorems hold again, of the store as it is then and the same set `A`: every dispatch of a history of
    events is covered, each against the tree as it was when that dispatch began. -/
theorem delivery_unaffected_persists (A : Aff) (st st' : St) (ev : Ev) (hu : Unaffected A st) :
    (emitKey Cfg.repaired st ev = Out.ok st' → Unaffected A st') ∧
    (emitMouse Cfg.repaired st ev = Out.ok st' → Unaffected A st') := by
  -- after the dispatch, at most the note that nobody claimed the event
  have fin : ∀ {s : St} (handled : Bool), Unaffected A s → Unaffected A (if handled then s else s.say .unhandled) :=
    fun handled g => by cases handled with | true => exact g | false => exact g.say _
  constructor
  · intro h
    obtain ⟨s, handled, h1, rfl⟩ := emitKey_ok h
    exact fin handled ((handleKey_sim hu.base _ st 0 ev [] s handled hu.dinv hu.inv.tree.alive_root h1).inv.unaffected hu.base)
  · intro h
    obtain ⟨s, handled, h1, rfl⟩ := emitMouse_ok h
    exact fin handled (DInv.unaffected hu.base (onTermMouse_dinv hu.base hu.dinv h1))

/-! ### the hypotheses of the theorems above are met by real histories (non-vacuity) -/

namespace Scenario

/-- A tree with overlap, nesting, a hidden subtree, a stealing front-most child and a focused window. -/
def rich : Option St :=
  build [opWin 0 ⟨1, 1, 3, 4⟩, opWin 0 ⟨2, 3, 3, 4⟩, opWin 1 ⟨0, 1, 2, 2⟩, opWin 0 ⟨0, 0, 2, 2⟩ 1, opWin 4 ⟨0, 0, 1, 1⟩,
         opWin 0 ⟨0, 5, 2, 3⟩ 8,
         opBind 0 .key [decl], opBind 1 .key [decl, claim], opBind 2 .key [decl], opBind 3 .key [decl], opBind 5 .key [decl],
         opBind 6 .key [decl],
         opBind 0 .mouse [decl], opBind 1 .mouse [decl], opBind 2 .mouse [decl], opBind 3 .mouse [claim], opBind 6 .mouse [decl],
         opAct .focus 3] (newSt 6 9)

def richSt : St := rich.getD (newSt 0 0)

/-- The press of button 1 at terminal cell (2,3): inside window 1 (at 1,1), inside its child 3 (at 1,2 absolute),
    inside window 2 (at 2,3) which is in front of 1; the stealing window 6 is in front of everything. -/
def pressAt : Ev := { type := evPress, button := 1, line := 2, col := 3, mod := 4 }

end Scenario

open Scenario in
/-- `key_order`, `key_order_reference`: a state with the hypotheses (`Static`, `WF`) in which the dispatch returns and
    the reference order is defined — and is not trivial: the stealing child 6 comes first and is visited twice, then
    the focus chain (3 inside 1), then the root, then 2; the hidden subtree 4, 5 is absent; nobody claims. -/
example : Static richSt.binds ∧ WF richSt.tree ∧
    (∃ st', onTermKey Cfg.repaired (routeFuel richSt.tree) richSt key = Out.ok (st', false)) ∧
    keyVisits richSt.tree (routeFuel richSt.tree) 0 = some [6, 3, 1, 0, 6, 2] ∧
    keyOrder richSt.tree (routeFuel richSt.tree) 0 = some [6, 3, 1, 0, 2] :=
  and_of_tests staticCheck_sound (and_of_tests wfCheck_sound (and_of_tests key_returns
    (and_of_tests of_decide_eq_true of_decide_eq_true))) (by decide +kernel)

open Scenario in
/-- `mouse_target`, `mouse_relative`: same state; the press at (2,3) is offered to the stealing window 6 (at 0,5:
    position (2,-2)), then to window 2 (position (0,0)), then to 3 inside 1 (position (1,1)), which claims; window 1
    and the root behind it are not offered it.  The origins are those of `tickit_window_get_abs_geometry`. -/
example : (∃ st', handleMouse Cfg.repaired (routeFuel richSt.tree) richSt 0 pressAt = Out.ok (st', some 3)) ∧
    (mouseVisits richSt.tree (routeFuel richSt.tree) 0 pressAt).map (·.map fun p => (p.1, p.2.line, p.2.col)) =
      some [(6, 2, -2), (2, 0, 0), (3, 1, 1), (1, 1, 2), (0, 2, 3)] ∧
    OriginSum richSt.tree (some 3) 1 2 ∧ OriginSum richSt.tree (some 0) 0 0 :=
  and_of_tests mouse_returns (and_of_tests of_decide_eq_true (and_of_tests (origin_of_test (f := treeFuel richSt.tree))
    (origin_of_test (f := treeFuel richSt.tree)))) (by decide +kernel)

open Scenario in
/-- `mouse_target_owner`: three windows stacked over cell (0,0), none stealing: the reference order starts with the
    front-most one, 3, and that is the owner of the cell in the painter's model. -/
example : ∃ st, threeStackedMouse .close = some st ∧ WF st.tree ∧
    (∀ (i : WinTree.Id) (w : Win), st.tree.wins[i]? = some w → w.stealInput = false) ∧
    (mouseVisits st.tree (st.tree.wins.size + 1) 0 press).map headWin = some (some 3) ∧ owner st.tree 0 0 = some 3 :=
  some_of_test (fun _ => and_of_tests wfCheck_sound (and_of_tests noStealCheck_sound
    (and_of_tests of_decide_eq_true of_decide_eq_true))) (by decide +kernel)

open Scenario in
/-- `hidden_never`, `drag_start_first`, `drag_drop_stop_order`: histories with the hypotheses — a handler that hides
    its own window in the middle of a dispatch (and the dispatch returns), a DRAG while nothing is being dragged,
    and a RELEASE while a drag is in progress (both return, with handlers running). -/
example :
    (∃ st st', hidesItself = some st ∧ onTermKey Cfg.repaired (routeFuel st.tree) st key = Out.ok (st', false)) ∧
    (∃ st st' r, dragThenHideParent Cfg.repaired = some st ∧ st.tree.root.mouseDragging = true ∧
      onTermMouse Cfg.repaired (routeFuel st.tree) st { type := evRelease, button := 1, line := 4, col := 4 } = Out.ok (st', r)) ∧
    (∃ st st' r, popupClosesItself = some st ∧ st.tree.root.mouseDragging = false ∧
      onTermMouse Cfg.repaired (routeFuel st.tree) st { type := evDrag, button := 1, line := 0, col := 0 } = Out.ok (st', r)) := by
  refine ⟨?_, ?_, ?_⟩
  · obtain ⟨st, e, st', hs⟩ := some_of_test (o := hidesItself) (fun s => key_returns (b := false)
      (x := onTermKey Cfg.repaired (routeFuel s.tree) s key)) (by decide +kernel)
    exact ⟨st, st', e, hs⟩
  · obtain ⟨st, e, hd, p, hs, _⟩ := some_of_test (o := dragThenHideParent Cfg.repaired)
      (fun s => and_of_tests (P := s.tree.root.mouseDragging = true) id (out_of_test (c := fun _ => true) (fun _ _ => trivial)
        (x := onTermMouse Cfg.repaired (routeFuel s.tree) s { type := evRelease, button := 1, line := 4, col := 4 })))
      (by decide +kernel)
    exact ⟨st, p.1, p.2, e, hd, hs⟩
  · obtain ⟨st, e, hd, p, hs, _⟩ := some_of_test (o := popupClosesItself)
      (fun s => and_of_tests (of_decide_eq_true (p := s.tree.root.mouseDragging = false))
        (out_of_test (c := fun _ => true) (fun _ _ => trivial)
          (x := onTermMouse Cfg.repaired (routeFuel s.tree) s { type := evDrag, button := 1, line := 0, col := 0 })))
      (by decide +kernel)
    exact ⟨st, p.1, p.2, e, hd, hs⟩

open Scenario in
/-- `mutation_safe`: the histories that broke the unrepaired code start from states that satisfy its hypotheses
    (`AInv` by its decidable version, which is proved sound; `TableOK` holds of every table). -/
example :
    (∃ st, threeSiblingsKey .unref = some st ∧ AInv st [] ∧ TableOK st.binds) ∧
    (∃ st, threeStackedMouse .close = some st ∧ AInv st [] ∧ TableOK st.binds) ∧
    (∃ st, popupClosesItself = some st ∧ AInv st [] ∧ TableOK st.binds) ∧
    (∃ st, dragThenHideParent Cfg.repaired = some st ∧ AInv st [] ∧ TableOK st.binds) := by
  have key : ∀ (o : Option St), o.any (fun s => ainvCheck s && tableCheck s.binds) = true →
      ∃ st, o = some st ∧ AInv st [] ∧ TableOK st.binds :=
    fun _ => some_of_test fun _ => and_of_tests ainvCheck_sound tableCheck_sound
  exact ⟨key _ (by decide +kernel), key _ (by decide +kernel), key _ (by decide +kernel), key _ (by decide +kernel)⟩

/-- `mutation_safe_full`: reachable states exist, beyond the fresh one, and events return in them. -/
example : ∃ st, Reachable st ∧ st.tree.wins.size = 2 :=
  ⟨_, Reachable.win (id := 1) 0 ⟨0, 0, 2, 2⟩ false false false false (Reachable.fresh 5 8) rfl, rfl⟩

namespace Scenario

def StepR (f : St → Option St) : Prop := ∀ s s', Reachable s → f s = some s' → Reachable s'

theorem stepR_win (p : WinTree.Id) (r : Rect) (flags : Nat) : StepR (opWin p r flags) := by
  intro s s' hs h
  unfold opWin at h
  split at h
  · next s1 id hn => cases h; exact Reachable.win p r _ _ _ _ hs hn
  · cases h

theorem stepR_bind (w : WinTree.Id) (k : Kind) (es : List Entry) (os : Bool := false) : StepR (opBind w k es os) := by
  intro s s' hs h
  cases h; exact Reachable.bind w k es os hs

theorem stepR_act (a : Act) (w : WinTree.Id) : StepR (opAct a w) := by
  intro s s' hs h
  unfold opAct at h
  split at h
  · next s1 hd => cases h; exact Reachable.act _ hs hd
  · cases h

theorem stepR_key (ev : Ev) : StepR (opKey Cfg.repaired ev) := by
  intro s s' hs h
  unfold opKey at h
  split at h
  · next s1 hd => cases h; exact Reachable.key ev hs hd
  · cases h

theorem stepR_mouse (ev : Ev) : StepR (opMouse Cfg.repaired ev) := by
  intro s s' hs h
  unfold opMouse at h
  split at h
  · next s1 hd => cases h; exact Reachable.mouse ev hs hd
  · cases h

theorem stepR_flush : StepR opFlush := by
  intro s s' hs h
  unfold opFlush at h
  split at h
  · next s1 hd => cases h; exact Reachable.flush hs hd
  · cases h

theorem build_reachable : ∀ (ops : List (St → Option St)) (s s' : St), (∀ f ∈ ops, StepR f) → Reachable s →
    build ops s = some s' → Reachable s' := by
  intro ops
  induction ops with
  | nil => intro s s' _ hs h; cases h; exact hs
  | cons f rest ih =>
    intro s s' hall hs h
    unfold build at h
    simp only [List.foldl_cons, Option.bind_some] at h
    cases hf : f s with
    | none =>
      rw [hf] at h
      have : ∀ (l : List (St → Option St)), l.foldl (fun s f => s.bind f) (none : Option St) = none := by
        intro l; induction l with
        | nil => rfl
        | cons _ _ ih' => simpa using ih'
      rw [this] at h; cases h
    | some s1 =>
      rw [hf] at h
      exact ih s1 s' (fun g hg => hall g (List.mem_cons_of_mem _ hg)) (hall f (List.mem_cons_self ..) s s1 hs hf) h

/-- Windows 1 and 2 on the root, 3 inside 1.  The key handler of 3 restacks 1 and 3 and gives 3 the focus; the mouse
    handler of 2 claims the press and closes 1 — while the requests for 1 and 3 are still queued. -/
def restackOps : List (St → Option St) :=
  [opWin 0 ⟨0, 0, 2, 2⟩, opWin 0 ⟨2, 2, 2, 2⟩, opWin 1 ⟨0, 0, 1, 1⟩,
   opBind 3 .key [{ ret := false, actions := [⟨.lower, 1⟩, ⟨.focus, 3⟩, ⟨.raiseFront, 3⟩, ⟨.lowerBack, 2⟩] }],
   opBind 2 .mouse [doing true .close 1],
   opKey Cfg.repaired key]

theorem restackOps_stepR : ∀ f ∈ restackOps, StepR f := by
  simp only [restackOps, List.forall_mem_cons, List.not_mem_nil, false_imp_iff, implies_true, and_true]
  exact ⟨stepR_win _ _ _, stepR_win _ _ _, stepR_win _ _ _, stepR_bind _ _ _, stepR_bind _ _ _, stepR_key _⟩

def pressOn2 : Ev := { type := evPress, button := 1, line := 2, col := 2 }

end Scenario

open Scenario in
/-- `mutation_safe_full` is about states like this one: reachable, three restack requests pending (queued by a key
    handler, which also moved the focus); the next press makes a handler close a queued window together with its queued
    child, the event returns, and so does the flush that applies what is left of the queue. -/
example : ∃ st, Reachable st ∧ st.tree.root.changes.length = 3 ∧
    ∃ st', emitMouse Cfg.repaired st pressOn2 = Out.ok st' ∧ st'.tree.root.changes.length = 1 ∧
      ∃ st'', flushSt st' = Res.ok st'' ∧ st''.tree.root.changes = [] := by
  obtain ⟨st, hb, rest⟩ := some_of_test (o := build restackOps (newSt 5 8)) (fun st =>
    and_of_tests (of_decide_eq_true (p := st.tree.root.changes.length = 3))
      (out_of_test (x := emitMouse Cfg.repaired st pressOn2) fun st' =>
        and_of_tests (of_decide_eq_true (p := st'.tree.root.changes.length = 1))
          (ok_of_check (x := flushSt st') (P := fun st'' => st''.tree.root.changes = []))))
    (by decide +kernel)
  exact ⟨st, build_reachable _ _ _ restackOps_stepR (Reachable.fresh 5 8) hb, rest⟩

open Scenario in
/-- `delivery_unaffected_*`: the hypotheses hold of the states of the corpus histories with `A` = {window 2} (the
    window the front-most sibling closes or unreferences from inside its handler), checked by the decidable version
    `unaffectedCheck`, which is proved sound; and the conclusion is not empty there: the key is offered to 0, 3, 1 —
    the reference order 0, 3, 2, 1 without window 2. -/
example :
    (∃ st, threeSiblingsKey .close = some st ∧ Unaffected (fun x => x == 2) st) ∧
    (∃ st, threeSiblingsKey .unref = some st ∧ Unaffected (fun x => x == 2) st) ∧
    (∃ st, threeStackedMouse .close = some st ∧ Unaffected (fun x => x == 2) st) ∧
    ((threeSiblingsKey .close).map fun s => (keyVisits s.tree 5 0).map (fA (fun x => x == 2))) = some (some [0, 3, 1]) := by
  obtain ⟨st, e, hu, hv⟩ := some_of_test (o := threeSiblingsKey .close) (fun s =>
    and_of_tests (unaffectedCheck_sound (A := fun x => x == 2) (st := s)) (of_decide_eq_true (p := (keyVisits s.tree 5 0).map (fA (fun x => x == 2)) = some [0, 3, 1]))) (by decide +kernel)
  exact ⟨⟨st, e, hu⟩, some_of_test (fun _ => unaffectedCheck_sound) (by decide +kernel),
    some_of_test (fun _ => unaffectedCheck_sound) (by decide +kernel), by rw [e]; exact congrArg some hv⟩

namespace Scenario

/-- Windows 1 and 2 on the root, 3 inside 2; the key handler of 1 gives 3 the focus and hides 2. -/
def focusInsideA : Option St :=
  build [opWin 0 ⟨0, 0, 2, 2⟩, opWin 0 ⟨2, 2, 2, 2⟩, opWin 2 ⟨0, 0, 1, 1⟩,
         opBind 1 .key [{ ret := false, actions := [⟨.focus, 3⟩, ⟨.hide, 2⟩, ⟨.raise, 1⟩] }],
         opBind 2 .key [decl], opBind 3 .key [decl], opBind 0 .key [decl]] (newSt 5 8)

end Scenario

open Scenario in
/-- `delivery_unaffected_key` with `take_focus` inside a handler: `A` = {2, 3}, a whole top-level subtree. -/
example : ∃ st, focusInsideA = some st ∧ Unaffected (fun x => x == 2 || x == 3) st :=
  some_of_test (fun _ => unaffectedCheck_sound) (by decide +kernel)

/-! ### handlers that leave the list they are run from: one-shot and self-unbinding handlers

  A binding made with `TICKIT_BIND_ONESHOT`, or a handler that unbinds its own binding while it runs, turns into a
  tombstone of the list that `run_events_whilefalse` is walking.  What the handler does besides — close, hide, restack,
  hand the focus over, which makes the window emit FOCUS events from inside the walk, on the same list — must not
  derail the rest of the walk. -/

/-- **own handlers under mutation** (the clause "then to the window's own handlers … stopping at the first handler
    that claims it", for every tree mutation performed from inside handlers).  Whatever the handlers of a window do
    (`runHandlers` returned at all), the calls made by one offer are exactly: every handler that is still bound, in
    binding order, up to and including the first whose table says "claim" (`untilClaim (liveOf …)`) — handlers that
    are gone (fired one-shot, unbound themselves) are passed over, nobody is skipped because an earlier handler
    mutated the tree or left the list; and the bindings afterwards and the claim are those of the pure reference
    `offerOne` (the one `key_order` / `mouse_target` are stated with). -/
theorem own_handlers_under_mutation (st st' : St) (kind : Kind) (win : WinTree.Id) (ev : Ev) (c : Bool)
    (h : runHandlers st kind win ev = Res.ok (st', c)) :
    callsOf st'.log = callsOf st.log ++ untilClaim kind win ev (liveOf st.binds (bindingsOf st.binds kind win)) ∧
    (st'.binds, c) = offerOne st.binds kind win := by
  unfold runHandlers at h
  obtain ⟨h1, h2⟩ := runBindings_calls kind win ev _ _ _ _ h
  rw [callsOf_say_offer] at h1
  refine ⟨?_, h2⟩
  rw [h1]
  exact congrArg _ (walkCalls_eq kind win ev _ _ (bindingsOf_nodup _ _ _))

/-- …in particular, when no bound handler claims, every one of them is called, in order. -/
theorem own_handlers_all_when_declined (kind : Kind) (win : WinTree.Id) (ev : Ev) :
    ∀ (l : List Binding), (∀ b ∈ l, b.entry.ret = false) →
      untilClaim kind win ev l = l.map fun b => LogItem.call kind win b.idx (entryIndex b) false ev := by
  intro l
  induction l with
  | nil => intro _; rfl
  | cons b rest ih =>
    intro hd
    have hb := hd b (List.mem_cons_self ..)
    simp only [untilClaim, List.map_cons, hb, Bool.false_eq_true, if_false]
    rw [ih (fun x hx => hd x (List.mem_cons_of_mem _ hx))]

/-- A binding that is gone is never invoked again: a whole key or mouse event leaves it exactly as it was. -/
theorem gone_handler_never_invoked (cfg : Cfg) (st st' : St) (ev : Ev)
    (h : emitKey cfg st ev = Out.ok st' ∨ emitMouse cfg st ev = Out.ok st')
    (i : Nat) (x : Binding) (hx : st.binds[i]? = some x) (hg : x.gone = true) : st'.binds[i]? = some x := by
  obtain ⟨x', hx', s⟩ := (emit_bmono h).2 i x hx
  rw [hx', s.gone hg]

/-- **A one-shot handler runs at most once**, in every history: in every state the engine can reach, a one-shot
    binding has either never been invoked and is bound, or has been invoked exactly once and is gone. -/
theorem oneshot_at_most_once {st : St} (h : Reachable st) : OneShotInv st.binds := by
  induction h with
  | fresh l c => intro i x hx; simp [newSt] at hx
  | win p r a b c d _ hn ih => rw [newWin_binds hn]; exact ih
  | bind w k es os _ ih => exact ih.push _ rfl rfl
  | act a _ ha ih => rw [doAction_binds ha]; exact ih
  | flush _ hf ih => rw [flushSt_binds hf]; exact ih
  | key ev _ hk ih => exact ih.mono (emit_bmono (Or.inl hk))
  | mouse ev _ hm ih => exact ih.mono (emit_bmono (Or.inr hm))

namespace Scenario

/-- A dialog: window 1 is unrelated, 2 is a dialog that holds the focus, 3 its entry
    field.  The dialog's first key handler is a one-shot hook that hands the focus to the entry field (the dialog is
    told it lost the focus while its key handlers are being walked) and declines; its second handler claims. -/
def dialog : Option St :=
  build [opWin 0 ⟨0, 0, 2, 8⟩, opWin 0 ⟨2, 1, 3, 6⟩, opWin 2 ⟨1, 1, 1, 4⟩,
         opBind 1 .key [claim],
         opBind 2 .key [doing false .focus 3] true, opBind 2 .key [claim],
         opBind 3 .key [decl],
         opAct .focus 2] (newSt 6 8)

/-- The handler calls (window, handler index, claimed) of an event, oldest first. -/
def called (o : Option (Out St)) : Option (List (WinTree.Id × Nat × Bool)) :=
  o.bind fun r => match r with
    | .ok s => some ((callsOf s.log).filterMap fun i => match i with | .call _ w i _ r _ => some (w, i, r) | _ => none)
    | _ => none

end Scenario

open Scenario in
/-- Non-vacuity: first key — the hook fires (and moves the focus), then the dialog's second handler claims; second key —
    the hook is gone: the entry field (innermost on the focus chain) declines, the dialog's remaining handler claims. -/
example :
    called (dialog.map fun s => emitKey Cfg.repaired s key) = some [(2, 0, false), (2, 1, true)] ∧
    called (dialog.bind fun s => match emitKey Cfg.repaired s key with
      | .ok s1 => some (emitKey Cfg.repaired { s1 with log := [] } key) | _ => none) = some [(3, 0, false), (2, 1, true)] := by
  decide +kernel

open Scenario in
/-- …and the state after the first key is reachable, with the hook invoked once and gone. -/
example : ∃ st, Reachable st ∧ ∃ x, st.binds[1]? = some x ∧ x.oneshot = true ∧ x.count = 1 ∧ x.gone = true := by
  obtain ⟨s, hs, s1, he, x, hx, h1, h2, h3⟩ := some_of_test (o := dialog) (fun s =>
    out_of_test (x := emitKey Cfg.repaired s key) fun s1 => some_of_test (o := s1.binds[1]?) fun x =>
      and_of_tests (P := x.oneshot = true) id (and_of_tests (of_decide_eq_true (p := x.count = 1)) (Q := x.gone = true) id))
    (by decide +kernel)
  have hr : Reachable s := by
    apply build_reachable _ _ _ _ (Reachable.fresh 6 8) hs
    simp only [List.forall_mem_cons, List.not_mem_nil, false_imp_iff, implies_true, and_true]
    exact ⟨stepR_win _ _ _, stepR_win _ _ _, stepR_win _ _ _, stepR_bind _ _ _, stepR_bind _ _ _ true, stepR_bind _ _ _,
      stepR_bind _ _ _, stepR_act _ _⟩
  exact ⟨s1, Reachable.key key hr he, x, hx, h1, h2, h3⟩

/-! ### mouse input that arrives as X10 bytes: the button of a button-less release

  `ESC [ M …` reports go through libtermkey (modelled: `x10Key`), `got_key` of src/term.c (`InputXlate.gotKey`, the
  C20 model) and `on_term_mouse`.  An X10 release does not say which button was released: the terminal names the
  buttons it recorded as held.  For the drag clause that record has to be right: exactly the buttons pressed or
  dragged and not released since — a wheel report (a libtermkey "press" of button 4 / 5) is not one of them. -/

open InputXlate in
/-- Every X10 report, in every state of the held record that satisfies the mask invariant (`MaskInv`, kept by every
    report): `got_key` returns (no undefined shift, the release loop terminates), keeps the invariant, its record
    holds exactly the specification's set of held buttons, and — with the `default:` arm repaired, or for a report of
    a known kind — it emits exactly the specification's events. -/
theorem x10_report_events (xcfg : InputXlate.Cfg) (hcb : xcfg.onModereport = true ∧ xcfg.onDecrqss = true)
    (held : Nat) (hinv : MaskInv held) (code line col : Nat) :
    ∃ held' evs, gotKey xcfg x10Fuel held (x10Key code line col) = .ok (held', evs) ∧ MaskInv held' ∧
      heldButtons held' = (Spec.keyEvents (heldButtons held) (x10Key code line col)).1 ∧
      ((xcfg.dropUnknownMouse = true ∨ (x10Key code line col).KnownKind) →
        evs = (Spec.keyEvents (heldButtons held) (x10Key code line col)).2) :=
  gotKey_refines xcfg x10Fuel (by decide) held hinv _ (x10Key_wf code line col) hcb

open InputXlate in
/-- **A wheel report does not mark a button as held**: the record is unchanged, and exactly one WHEEL event (up = 1,
    down = 2) is emitted, at the reported cell. -/
theorem x10_wheel_keeps_held (xcfg : InputXlate.Cfg) (held code line col : Nat)
    (hw : code &&& 0xc3 = 64 ∨ code &&& 0xc3 = 65) (hm : code &&& 0x20 = 0) :
    gotKey xcfg x10Fuel held (x10Key code line col) =
      .ok (held, [Event.mouse MOUSEEV_WHEEL (x10Button code - 3) line col (x10Mods code)]) := by
  rw [(x10Key_wheel line col hw hm).1, gotKey_mouse_wheel xcfg x10Fuel held _ _ _ _ (x10Key_wheel line col hw hm).2]
  simp

open InputXlate in
/-- **The button-less release is given the button that is held**: with exactly button `b` held, an X10 release is
    reported as one RELEASE of button `b` at the reported cell, and nothing is held afterwards. -/
theorem x10_release_names_held_button (xcfg : InputXlate.Cfg) (hcb : xcfg.onModereport = true ∧ xcfg.onDecrqss = true)
    (held : Nat) (hinv : MaskInv held) (b : Nat) (hb : heldButtons held = [b]) (code line col : Nat)
    (hr : code &&& 0xc3 = 3) :
    ∃ held', gotKey xcfg x10Fuel held (x10Key code line col) =
      .ok (held', [Event.mouse MOUSEEV_RELEASE b line col (x10Mods code)]) ∧ heldButtons held' = [] := by
  obtain ⟨held', evs, hg, _, hh, he⟩ := x10_report_events xcfg hcb held hinv code line col
  -- a release that names no button: the specification releases what is held
  rw [x10Key_release line col hr, hb] at hh he
  rw [hg, he (Or.inr (by simp [Key.KnownKind, TERMKEY_MOUSE_RELEASE, TERMKEY_MOUSE_PRESS, TERMKEY_MOUSE_DRAG]))]
  exact ⟨held', by simp [Spec.keyEvents, TERMKEY_MOUSE_RELEASE, TERMKEY_MOUSE_PRESS, TERMKEY_MOUSE_DRAG], hh⟩

open InputXlate in
/-- **drag drop / stop consistent with the press, for a release that cannot name its button.**  With exactly button
    `b` held (the button of the press that began the drag: `x10_gesture_holds_pressed_button`) and a drag in progress,
    an X10 release — whatever the handlers do — logs DRAG_DROP first, then DRAG_STOP, then the RELEASE itself, all
    carrying button `b`, then at most the note that no window claimed the release; and nothing is held afterwards. -/
theorem x10_drag_release_consistent (cfg : WinInput.Cfg) (xcfg : InputXlate.Cfg)
    (hcb : xcfg.onModereport = true ∧ xcfg.onDecrqss = true) (ts ts' : TSt) (hinv : MaskInv ts.held) (b : Nat)
    (hb : heldButtons ts.held = [b]) (hdr : ts.st.tree.root.mouseDragging = true) (code line col : Nat)
    (hr : code &&& 0xc3 = 3) (h : pushX10 cfg xcfg ts code line col = Out.ok ts') :
    heldButtons ts'.held = [] ∧
    ∃ newDrop newStop newRel tail, ts'.st.log = tail ++ newRel ++ newStop ++ newDrop ++ ts.st.log ∧
      (∀ i ∈ newDrop, Carries (fun e => e.type = evDragDrop ∧ e.button = b) i) ∧
      (∀ i ∈ newStop, Carries (fun e => e.type = evDragStop ∧ e.button = b) i) ∧
      (∀ i ∈ newRel, Carries (fun e => e.type = evRelease ∧ e.button = b ∧ e.mod = x10Mods code) i) ∧
      (∀ i ∈ tail, i = LogItem.unhandled) := by
  obtain ⟨held', hg, hh⟩ := x10_release_names_held_button xcfg hcb ts.held hinv b hb code line col hr
  -- the one event `got_key` made goes through `tickit_term_emit_mouse`
  unfold pushX10 at h
  rw [hg] at h
  simp only [deliver] at h
  obtain ⟨s1, hA, h⟩ := out_bind_eq_ok.1 h
  obtain ⟨s0, hB, hC⟩ := out_bind_eq_ok.1 hA
  cases hC; cases h
  obtain ⟨s2, handled, h2, rfl⟩ := emitMouse_ok hB
  obtain ⟨n1, n2, n3, hl, p1, p2, p3⟩ := drag_drop_stop_order cfg _ ts.st s2 _ handled h2 (by rfl) hdr
  refine ⟨hh, n1, n2, n3, if handled then [] else [LogItem.unhandled], ?_, p1, p2, p3, ?_⟩ <;> cases handled <;> simp [St.say, hl]

open InputXlate in
/-- **What is held during a drag is the button of the press that began it**: from a fresh terminal, after the press of
    button `p + 1` (X10 code `p`, any modifiers) followed by any number of drags of that button and turns of the wheel,
    `got_key` has returned every time and its record holds exactly that button. -/
theorem x10_gesture_holds_pressed_button (xcfg : InputXlate.Cfg) (hcb : xcfg.onModereport = true ∧ xcfg.onDecrqss = true)
    (p : Nat) (hp : p < 3) (c0 l0 k0 : Nat) (hc0 : c0 &&& 0xc3 = p ∧ c0 &&& 0x20 = 0)
    (more : List (Nat × Nat × Nat)) (hm : ∀ r ∈ more, KeepsHeld p r.1) :
    ∃ held evs, runKeys xcfg x10Fuel 0 (x10Key c0 l0 k0 :: more.map fun r => x10Key r.1 r.2.1 r.2.2) = .ok (held, evs) ∧
      MaskInv held ∧ heldButtons held = [p + 1] := by
  obtain ⟨held, evs, hrun, hinv, hh, _⟩ := runKeys_refines xcfg x10Fuel (by decide) hcb
    (x10Key c0 l0 k0 :: more.map fun r => x10Key r.1 r.2.1 r.2.2) 0 maskInv_zero (by
      simp only [List.mem_cons, List.mem_map]
      rintro k (rfl | ⟨r, _, rfl⟩) <;> exact x10Key_wf _ _ _)
  exact ⟨held, evs, hrun, hinv, by rw [hh, heldButtons_zero]; exact spec_gesture_held p hp c0 l0 k0 hc0 more hm⟩

namespace Scenario

/-- Two windows side by side, both claiming every mouse event . -/
def twoPanes : Option St :=
  build [opWin 0 ⟨0, 0, 3, 8⟩, opWin 0 ⟨3, 0, 3, 8⟩, opBind 1 .mouse [claim], opBind 2 .mouse [claim]] (newSt 6 8)

/-- The X10 reports of a history, pushed one after the other: the handler calls (window, event type, button), oldest first. -/
def x10Calls (reports : List (Nat × Nat × Nat)) : Option (List (WinTree.Id × Int × Int)) :=
  twoPanes.bind fun s =>
    let r := reports.foldl (fun (acc : Option TSt) rp => acc.bind fun ts =>
      match pushX10 Cfg.repaired {} ts rp.1 rp.2.1 rp.2.2 with
      | .ok ts' => some ts'
      | _ => none) (some { st := s })
    r.map fun ts => (callsOf ts.st.log).filterMap fun i => match i with | .call _ w _ _ _ e => some (w, e.type, e.button) | _ => none

end Scenario

open Scenario in
/-- Non-vacuity: the wheel is turned over window 1, then button 3 is pressed in window
    1, dragged inside it and on into window 2, and released there with the button-less X10 release: WHEEL up to 1;
    PRESS 3, DRAG_START 3 and DRAG 3 to 1; DRAG 3 to 2 and DRAG_OUTSIDE 3 to 1; DRAG_DROP 3 to 2, DRAG_STOP 3 to 1,
    RELEASE 3 to 2 — every synthesised event carries the button of the press, nothing is reported twice. -/
example : x10Calls [(64, 1, 2), (2, 1, 2), (34, 2, 2), (34, 4, 2), (3, 4, 2)] =
    some [(1, 4, 1), (1, 1, 3), (1, 257, 3), (1, 2, 3), (2, 2, 3), (1, 258, 3), (2, 259, 3), (1, 260, 3), (2, 3, 3)] := by
  decide +kernel

/-! ### windows that are moved from inside the dispatch

  A mouse handler may call `tickit_window_set_geometry` (action `geom`): a marker that follows the pointer and lets the
  event through, a window that is dragged along.  The window behind it, its parent, the drag source must still be given
  the position relative to *themselves*: `_handle_mouse` hands every child a translated copy of the event, so what a
  child's subtree does to the child's rectangle cannot reach the event the next sibling and the parent see. -/

/-- A `geom` action is confined to `A` exactly when its target is a window of `A` (so `Conf`, `Unaffected` and the
    delivery theorems above cover handlers that move windows of `A`). -/
theorem geom_is_confined_action (A : Aff) (w : WinTree.Id) (dt dl dn dc : Int) :
    ActConf A ⟨.geom dt dl dn dc, w⟩ ↔ A w = true := Iff.rfl

/-- **mouse_relative under moves.**  Let the handlers act on windows of `A` only (`Unaffected`: close, unref, hide,
    show, steal-input and **set_geometry** — move / resize — of windows of `A`; restack and ref anything), and let a
    mouse event that stands for the terminal cell `(L, C)` be dispatched to `win` (`RelTo`: its position is `(L, C)`
    minus `win`'s origin).  Then, whatever the handlers do and claim, every offer to and every handler call of a window
    **outside `A`** carries the position of `(L, C)` relative to that window (`PosItem`: the cell minus the sum of the
    offsets along its parent chain, in the tree as it was when the dispatch began — these windows and their ancestors
    were not moved). -/
theorem mouse_relative_under_moves (A : Aff) (fuel : Nat) (st st' : St) (win : WinTree.Id) (ev : Ev) (r : Option WinTree.Id)
    (L C : Int) (hu : Unaffected A st) (hal : Alive st.tree win) (hpos : A win = false → RelTo st.tree L C win ev)
    (h : handleMouse Cfg.repaired fuel st win ev = Out.ok (st', r)) :
    ∃ new, st'.log = new ++ st.log ∧ ∀ i ∈ new, PosItem A st.tree L C i :=
  (handleMouse_pos hu.base L C fuel st win ev [] st' r hu.dinv hal hpos h).1

/-- The hypothesis `RelTo` for the dispatches `on_term_mouse` makes to the drag source: DRAG_STOP / DRAG_OUTSIDE go there
    with the cell minus `tickit_window_get_abs_geometry` (`toDragSource`).  (The event itself goes to the root with the
    terminal cell; `RelTo` then asks that the root lie at offset (0,0), which is so in the states the engine builds — the
    example below — but is not proved of every reachable state.) -/
theorem mouse_relative_under_moves_origin (t : Tree) (f : Nat) (src : WinTree.Id) (g : Rect) (ev : Ev) (type : Int)
    (hg : absGeometry t f src = Res.ok g) :
    RelTo t ev.line ev.col src { type := type, button := ev.button, line := ev.line - g.top, col := ev.col - g.left } :=
  ⟨g.top, g.left, absGeometry_origin hg, rfl, rfl⟩

namespace Scenario

/-- A marker that follows the pointer, scaled down: a back window 1 that claims, a marker 2 in front of it whose handler moves
    the marker by (1,2) and declines; the root declines. -/
def markerMoves : Option St :=
  build [opWin 0 ⟨2, 2, 5, 12⟩, opWin 0 ⟨4, 4, 3, 3⟩,
         opBind 1 .mouse [claim], opBind 2 .mouse [{ ret := false, actions := [⟨.geom 1 2 0 0, 2⟩] }],
         opBind 0 .mouse [decl]] (newSt 10 20)

/-- The handler calls of a press at terminal cell (5,5): (window, line, col), oldest first; and where the marker is then. -/
def markerRun : Option (List (WinTree.Id × Int × Int) × Option (Int × Int)) :=
  markerMoves.bind fun s =>
    match emitMouse Cfg.repaired s { type := evPress, button := 1, line := 5, col := 5 } with
    | .ok s' => some ((callsOf s'.log).filterMap (fun i => match i with | .call _ w _ _ _ e => some (w, e.line, e.col) | _ => none),
        (s'.tree.wins[2]?).map fun w => (w.rect.top, w.rect.left))
    | _ => none

end Scenario

open Scenario in
/-- Non-vacuity: the marker (window 2, at (4,4)) is given (1,1), moves itself to (5,6) and declines; the window behind it
    (window 1, at (2,2)) is given (3,3) — its own coordinates, not displaced by the move — and claims.  The hypotheses of
    `mouse_relative_under_moves` hold of this state with `A` = {2}. -/
example : markerRun = some ([(2, 1, 1), (1, 3, 3)], some (5, 6)) ∧
    ∃ st, markerMoves = some st ∧ Unaffected (fun x => x == 2) st :=
  and_of_tests of_decide_eq_true (some_of_test fun _ => unaffectedCheck_sound) (by decide +kernel)

end Tickit.Props.C14
