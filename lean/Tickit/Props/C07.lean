import Tickit.Proof.Utf8Oracle
/-
  C07 — UTF-8 counting is grapheme-atomic, limit-respecting, resumable and bounded.

  `Tickit.Utf8` is the statement-by-statement model of src/utf8.c, `Tickit.Width` of src/unicode.h; the
  interval tables and three leaf functions are regenerated from the C source (`Tickit.Gen.Width`).
  The counting theorems are stated for `ncountmore` (the other three entry points are instances:
  `count`, `countmore`, `ncount`), for every memory, length/terminator mode, start position, limit and
  fuel.  `scan mem fuel str len = some (cs, t)` names the characters `cs` the loop meets from `str` on
  when no limit stops it, and how they end (`t`); `clusters cs` groups them into graphemes.
-/
namespace Tickit.Props.C07
open Tickit Tickit.Utf8 Tickit.Width

/-- The generated `combining` table is sorted and non-overlapping (complete table, kernel-checked). -/
theorem combining_sorted : Sorted Gen.Width.combining := by unfold Sorted; decide +kernel

/-- The generated `fullwidth` table is sorted and non-overlapping. -/
theorem fullwidth_sorted : Sorted Gen.Width.fullwidth := by unfold Sorted; decide +kernel

/-- Neither table is empty (an empty table would make the C `bisearch` read `table[-1]`). -/
theorem tables_nonempty : 0 < Gen.Width.combining.size ∧ 0 < Gen.Width.fullwidth.size := by decide +kernel

/-- `bisearch` answers membership: for every sorted non-overlapping table and every code point,
    `bisearch t c = true ↔ ∃ (a, b) ∈ t, a ≤ c ≤ b`. -/
theorem bisearch_iff (t : Table) (hs : Sorted t) (c : Nat) :
    bisearch t c = true ↔ ∃ e ∈ t.toList, e.1 ≤ c ∧ c ≤ e.2 :=
  bisearch_iff_inTable hs c

/-- The fuel of the model's `bisearch` loop never runs out on a sorted table. -/
theorem bisearch_fuel (t : Table) (hs : Sorted t) (h : 0 < t.size) (c : Nat) :
    bisearchLoop t c (t.size + 1) 0 ((t.size : Int) - 1) ≠ none :=
  bisearchLoop_fuel hs c

example : bisearch Gen.Width.combining 0x301 = true ∧ bisearch Gen.Width.combining 0x41 = false ∧
    bisearch Gen.Width.fullwidth 0x5f61 = true := by decide +kernel

/-- The width the library computes is the search-free reading of its tables (the runtime oracle's width). -/
theorem wcwidth_eq_spec (c : Nat) : wcwidth c = wcwidthSpec c := by
  -- the same ladder over the same tests; only the last arm is written differently
  have last : ∀ b : Bool, (1 + (if b then 1 else 0) : Int) = if b then 2 else 1 := by intro b; cases b <;> rfl
  unfold wcwidth wcwidthSpec mkWcwidth
  rw [bisearch_eq_lin fullwidth_sorted, bisearch_eq_lin combining_sorted, last]

example : wcwidth 0x5f61 = 2 ∧ wcwidth 0x301 = 0 ∧ wcwidth 0x41 = 1 ∧ wcwidth 0x9b = -1 ∧ wcwidth 0x302a = 2 := by
  decide +kernel

/-! ### leaf functions regenerated from the C source agree with the hand model -/

/- The generated functions are the hand model's ladders with every test read over `Int`: pushing the cast
   of the argument into the tests (and, for `seqlen`, of the result into the arms) makes the two sides the
   same term. -/

theorem leaf_seqlen (c : Nat) : Gen.Width.tickit_utf8_seqlen (c : Int) = (seqlen c : Nat) := by
  unfold Gen.Width.tickit_utf8_seqlen seqlen
  simp only [decide_eq_true_eq, apply_ite (Nat.cast : Nat → Int), ← Int.ofNat_lt]
  rfl

theorem leaf_mk_wcwidth (c : Nat) :
    Gen.Width.mk_wcwidth (fun u => bisearch Gen.Width.combining u.toNat) (c : Int) = mkWcwidth c := by
  unfold Gen.Width.mk_wcwidth mkWcwidth isWideRange
  simp only [Int.toNat_natCast, ge_iff_le, ← Int.ofNat_lt, ← Int.ofNat_le, ← Int.ofNat_inj, ne_eq,
    Bool.or_eq_true, Bool.and_eq_true, decide_eq_true_eq]
  rfl

theorem leaf_wcwidth (c : Nat) :
    Gen.Width.tickit_utf8_wcwidth (fun u => bisearch Gen.Width.fullwidth u.toNat)
      (fun u => bisearch Gen.Width.combining u.toNat) (c : Int) = wcwidth c := by
  unfold Gen.Width.tickit_utf8_wcwidth wcwidth
  simp only [Int.toNat_natCast]
  split
  · rfl
  · exact leaf_mk_wcwidth c

/-! ### counting

`Scans mem fuel len pos cs t`: with no limit, the loop of `tickit_utf8_ncountmore(str, len, pos, _)` meets the
characters `cs` and then the end of the input (`t = eof`) or an error (`t = err`); `fuel` is enough for that.
`scans_sound` says what these characters are; `scan_terminates_*` that enough fuel exists for every
terminated input. -/

def Scans (mem : Mem) (fuel : Nat) (len : Option Nat) (pos : Pos) (cs : List Ch) (t : Tail) : Prop :=
  scan mem fuel pos.bytes (lenSub len pos.bytes) = some (cs, t)

/-- The graphemes of the scanned characters and how many of them a call with limit `L` counts. -/
abbrev graphemes (cs : List Ch) : List (List Ch) := clusters cs
abbrev taken (L : Option Limit) (cs : List Ch) (t : Tail) (pos : Pos) : Nat := specTaken L (clusters cs) t pos

/-- What the scanned characters are: character `c` after the prefix `a` is what the decoder finds at that
    offset — `c.n` bytes, code point `c.cp`, width `c.w = wcwidth c.cp ≥ 0`; and after all of them the loop
    guard fails (`eof`) or one of the `return -1` is taken (`err`). -/
theorem scans_sound (mem : Mem) (fuel : Nat) (len : Option Nat) (pos : Pos) (cs : List Ch) (t : Tail)
    (hs : Scans mem fuel len pos cs t) :
    (∀ a c b, cs = a ++ c :: b →
      ∃ hi, stepAt mem (pos.bytes + bytesOf a) (lenDec (lenSub len pos.bytes) (bytesOf a)) = .ch c.n c.cp c.w hi ∧
        c.w = wcwidth c.cp ∧ 0 ≤ c.w) ∧
    (t = .eof → ∃ hi, stepAt mem (pos.bytes + bytesOf cs) (lenDec (lenSub len pos.bytes) (bytesOf cs)) = .stop hi) ∧
    (t = .err → ∃ hi, stepAt mem (pos.bytes + bytesOf cs) (lenDec (lenSub len pos.bytes) (bytesOf cs)) = .err hi) := by
  refine ⟨?_, scan_end mem fuel _ _ cs t hs⟩
  intro a c b hsplit
  unfold Scans at hs
  rw [hsplit] at hs
  obtain ⟨_, hi, _, hst, _⟩ := scan_cons_inv (scan_append mem a fuel _ _ (c :: b) t hs)
  obtain ⟨h1, h2⟩ := stepAt_ch_nonneg hst
  exact ⟨hi, hst, h2, h1⟩

/-- The graphemes: every group is one character of width ≥ 0 followed by zero-width characters, every
    group but the first starts with a spacing character, and together they are exactly the characters. -/
theorem graphemes_wf (mem : Mem) (fuel : Nat) (len : Option Nat) (pos : Pos) (cs : List Ch) (t : Tail)
    (hs : Scans mem fuel len pos cs t) :
    (∀ g ∈ graphemes cs, IsCluster g) ∧ (∀ g ∈ (graphemes cs).tail, Spacing g) ∧ (graphemes cs).flatten = cs :=
  ⟨(clusters_wf cs (scan_nonneg mem _ _ _ _ _ hs)).cluster, (clusters_wf cs (scan_nonneg mem _ _ _ _ _ hs)).spacing,
   clusters_flatten cs⟩

/-- **Model = executable specification.**  `tickit_utf8_ncountmore` returns what `specRun` computes
    grapheme by grapheme (this is the function the runtime oracle evaluates). -/
theorem count_spec (mem : Mem) (fuel : Nat) (len : Option Nat) (pos : Pos) (L : Option Limit)
    (cs : List Ch) (t : Tail) (hs : Scans mem fuel len pos cs t) :
    ∃ hi, ncountmore mem fuel len pos L =
      .ret ((specRun L (graphemes cs) t pos).ret pos.bytes) (specRun L (graphemes cs) t pos).pos hi :=
  ncountmore_eq_spec mem fuel len pos L cs t hs

/-- **Grapheme-atomic.**  The returned position is the position after a whole number `j` of graphemes;
    it is the initial position (`j = 0`), the end of the scanned input, or the start of a grapheme that
    begins with a spacing character. -/
theorem count_grapheme_atomic (mem : Mem) (fuel : Nat) (len : Option Nat) (pos : Pos) (L : Option Limit)
    (cs : List Ch) (t : Tail) (hs : Scans mem fuel len pos cs t) (r : Int) (p : Pos) (hi : Nat)
    (h : ncountmore mem fuel len pos L = .ret r p hi) :
    taken L cs t pos ≤ (graphemes cs).length ∧
    p = sumPos pos ((graphemes cs).take (taken L cs t pos)).flatten ∧
    (taken L cs t pos = 0 ∨ taken L cs t pos = (graphemes cs).length ∨
      ∃ g rest, (graphemes cs).drop (taken L cs t pos) = g :: rest ∧ Spacing g) := by
  obtain ⟨h1, h2⟩ := specRun_pos L t (clusters cs) pos
  exact ⟨h2, (ncountmore_ret hs h).2.trans h1, (clusters_wf cs (scan_nonneg mem _ _ _ _ _ hs)).drop_spacing h2⟩

example : Scans (memOfBytes [0x65, 0xcc, 0x81, 0x62]) 10 none Pos.zero [⟨1, 0x65, 1⟩, ⟨2, 0x301, 0⟩, ⟨1, 0x62, 1⟩] .eof ∧
    graphemes [⟨1, 0x65, 1⟩, ⟨2, 0x301, 0⟩, ⟨1, 0x62, 1⟩] = [[⟨1, 0x65, 1⟩, ⟨2, 0x301, 0⟩], [⟨1, 0x62, 1⟩]] ∧
    -- "e´b" with a limit of 2 code points… and of 1 code point: the combining accent is never split off
    count (memOfBytes [0x65, 0xcc, 0x81, 0x62]) 10 (some ⟨none, 2, -1, -1⟩) = .ret 3 ⟨3, 2, 1, 1⟩ 4 ∧
    count (memOfBytes [0x65, 0xcc, 0x81, 0x62]) 10 (some ⟨none, 1, -1, -1⟩) = .ret 0 ⟨0, 0, 0, 0⟩ 3 := by
  unfold Scans; decide +kernel

/-- **Consistent counters.**  The returned counters are the initial ones plus sums over the counted
    characters (a prefix of the scanned ones): bytes = Σ encoded lengths, codepoints = their number,
    graphemes = number of spacing ones, columns = Σ `wcwidth`. -/
theorem count_consistent (mem : Mem) (fuel : Nat) (len : Option Nat) (pos : Pos) (L : Option Limit)
    (cs : List Ch) (t : Tail) (hs : Scans mem fuel len pos cs t) (r : Int) (p : Pos) (hi : Nat)
    (h : ncountmore mem fuel len pos L = .ret r p hi) :
    ∃ counted rest, cs = counted ++ rest ∧
      counted = ((graphemes cs).take (taken L cs t pos)).flatten ∧
      p.bytes = pos.bytes + (counted.map (·.n)).sum ∧
      p.codepoints = pos.codepoints + counted.length ∧
      p.graphemes = pos.graphemes + (counted.filter (fun c => decide (wcwidth c.cp > 0))).length ∧
      p.columns = pos.columns + (counted.map (fun c => wcwidth c.cp)).sum ∧
      (r ≠ -1 → r = (counted.map (·.n)).sum) := by
  obtain ⟨hr, hp⟩ := ncountmore_ret hs h
  have hsplit := clusters_split cs (specTaken L (clusters cs) t pos)
  -- a counted character is a scanned one, so its width is `wcwidth`
  obtain ⟨b, c, g, w⟩ := sumPos_counters pos _ fun c hc =>
    scan_width mem _ _ _ _ _ hs c (by rw [hsplit]; exact List.mem_append_left _ hc)
  rw [← (specRun_pos L t (clusters cs) pos).1, ← hp] at b c g w
  refine ⟨_, _, hsplit, rfl, b, c, g, w, fun hne => ?_⟩
  rw [hr] at hne ⊢
  rw [(specRun_ret_of_ne L _ t pos hne).2, ← hp, b]; omega

/-- **Limits respected.**  Unless nothing was counted, the returned counters are within every limit —
    and so are the counters after each counted grapheme on the way. -/
theorem count_limits (mem : Mem) (fuel : Nat) (len : Option Nat) (pos : Pos) (L : Option Limit)
    (cs : List Ch) (t : Tail) (hs : Scans mem fuel len pos cs t) (r : Int) (p : Pos) (hi : Nat)
    (h : ncountmore mem fuel len pos L = .ret r p hi) :
    (p = pos ∨ Within L p) ∧
    ∀ i, 0 < i → i ≤ taken L cs t pos → Within L (sumPos pos ((graphemes cs).take i).flatten) := by
  obtain ⟨_, hp⟩ := ncountmore_ret hs h
  rw [hp]
  exact ⟨specRun_within L t (clusters cs) pos, specRun_prefix_within L t (clusters cs) pos⟩

/-- **Maximal.**  When the call does not return the error value: if a grapheme remains after the returned
    position, counting it too would put some counter above its limit; if none remains, the input ended at
    the terminator / length. -/
theorem count_maximal (mem : Mem) (fuel : Nat) (len : Option Nat) (pos : Pos) (L : Option Limit)
    (cs : List Ch) (t : Tail) (hs : Scans mem fuel len pos cs t) (r : Int) (p : Pos) (hi : Nat)
    (h : ncountmore mem fuel len pos L = .ret r p hi) (hne : r ≠ -1) :
    (∀ g rest, (graphemes cs).drop (taken L cs t pos) = g :: rest → ¬ Within L (sumPos p g)) ∧
    ((graphemes cs).drop (taken L cs t pos) = [] → t = .eof) := by
  obtain ⟨hr, hp⟩ := ncountmore_ret hs h
  have herr := (specRun_ret_of_ne L _ t pos (hr ▸ hne)).1
  exact ⟨hp ▸ specRun_maximal L t (clusters cs) pos herr, specRun_all_eof L t (clusters cs) pos herr⟩

/-- **Error value.**  The call returns `-1` exactly when every scanned grapheme fits (the scan is not stopped
    by a limit before the end of the decodable characters) and what follows them is — declaratively, `ErrAt` —
    a C0 control or DEL, an invalid lead byte, a sequence truncated by the length or the terminator, or a
    sequence encoding a C0/C1 control or DEL. -/
theorem count_error_iff (mem : Mem) (fuel : Nat) (len : Option Nat) (pos : Pos) (L : Option Limit)
    (cs : List Ch) (t : Tail) (hs : Scans mem fuel len pos cs t) (r : Int) (p : Pos) (hi : Nat)
    (h : ncountmore mem fuel len pos L = .ret r p hi) :
    r = -1 ↔ (AllFit L pos (graphemes cs) ∧
      ErrAt mem (pos.bytes + bytesOf cs) (lenDec (lenSub len pos.bytes) (bytesOf cs))) := by
  rw [ncountmore_neg_iff hs h, ← stepAt_err_iff, scan_err_iff hs]
  exact and_comm

example : count (memOfBytes [0x61, 0x1b]) 5 none = .ret (-1) ⟨0, 0, 0, 0⟩ 2 ∧
    count (memOfBytes [0x61, 0x1b]) 5 (some ⟨some 1, -1, -1, -1⟩) = .ret (-1) ⟨0, 0, 0, 0⟩ 2 ∧
    count (memOfBytes [0x61, 0x62, 0x1b]) 5 (some ⟨some 1, -1, -1, -1⟩) = .ret 1 ⟨1, 1, 1, 1⟩ 2 ∧
    ncount (memOfBytes [0x61, 0xe5, 0xbd]) 5 (some 3) none = .ret (-1) ⟨0, 0, 0, 0⟩ 2 := by decide +kernel

/-- **Reads are bounded (length-bounded entry points).**  With `pos->bytes ≤ len`, every index read is `< len`. -/
theorem reads_bounded_len (mem : Mem) (fuel l : Nat) (pos : Pos) (L : Option Limit) (hpre : pos.bytes ≤ l)
    (r : Int) (p : Pos) (hi : Nat) (h : ncountmore mem fuel (some l) pos L = .ret r p hi) : hi ≤ l :=
  ncountmore_bound (by rw [lenSub, if_pos hpre]; show _ + _ ≤ _; omega) h

/-- **Reads are bounded (NUL-terminated entry points).**  If `nul` is the first NUL at or after `pos->bytes`,
    every index read is `≤ nul`. -/
theorem reads_bounded_nul (mem : Mem) (fuel : Nat) (pos : Pos) (L : Option Limit) (nul : Nat)
    (hn : FirstNul mem pos.bytes nul)
    (r : Int) (p : Pos) (hi : Nat) (h : ncountmore mem fuel none pos L = .ret r p hi) : hi ≤ nul + 1 :=
  ncountmore_bound (show ReadBound mem pos.bytes none (nul + 1) from ⟨nul, hn, Nat.le_refl _⟩) h

example : FirstNul (memOfBytes [0x61, 0xe5, 0xbd]) 0 3 ∧
    count (memOfBytes [0x61, 0xe5, 0xbd]) 5 none = .ret (-1) ⟨0, 0, 0, 0⟩ 4 :=
  ⟨firstNul_memOfBytes [0x61, 0xe5, 0xbd] (by decide), by decide +kernel⟩

/-- **Resumable.**  For limits `L₁ ≤ L₂`: counting with `L₁` and then continuing from the returned position
    with `L₂` ends at the same position, with the same error outcome, as counting once with `L₂`.  (The
    length-bounded form needs the documented precondition `pos->bytes ≤ len`.) -/
theorem count_resumable (mem : Mem) (fuel : Nat) (len : Option Nat) (pos : Pos) (L1 L2 : Option Limit)
    (cs : List Ch) (t : Tail) (hs : Scans mem fuel len pos cs t) (hle : LimitLe L1 L2)
    (hpre : ∀ l, len = some l → pos.bytes ≤ l)
    (r1 : Int) (p1 : Pos) (h1 : Nat) (hc1 : ncountmore mem fuel len pos L1 = .ret r1 p1 h1) :
    ∃ r2 r3 p h2 h3,
      ncountmore mem fuel len p1 L2 = .ret r2 p h2 ∧
      ncountmore mem fuel len pos L2 = .ret r3 p h3 ∧
      (r2 = -1 ↔ r3 = -1) ∧ (r3 ≠ -1 → r3 = (p1.bytes - pos.bytes : Int) + r2) := by
  obtain ⟨_, hp1⟩ := ncountmore_ret hs hc1
  obtain ⟨h2, he2⟩ := ncountmore_resume mem fuel len pos L1 L2 cs t hle hpre hs
  obtain ⟨h3, he3⟩ := ncountmore_eq_spec mem fuel len pos L2 cs t hs
  rw [← hp1] at he2
  refine ⟨_, _, _, h2, h3, he2, he3, Res.ret_resume _ ?_ ?_⟩
  · rw [hp1]; exact specRun_bytes_ge L1 t _ pos
  · rw [← specRun_resume L1 L2 hle t (clusters cs) pos, hp1]; exact specRun_bytes_ge L2 t _ _

example : LimitLe (some ⟨none, -1, -1, 3⟩) (some ⟨none, -1, -1, 4⟩) ∧
    count (memOfBytes [0x63, 0x61, 0x66, 0x65, 0xcc, 0x81]) 9 (some ⟨none, -1, -1, 3⟩) = .ret 3 ⟨3, 3, 3, 3⟩ 4 ∧
    countmore (memOfBytes [0x63, 0x61, 0x66, 0x65, 0xcc, 0x81]) 9 ⟨3, 3, 3, 3⟩ (some ⟨none, -1, -1, 4⟩) = .ret 3 ⟨6, 5, 4, 4⟩ 7 := by
  refine ⟨?_, by decide +kernel, by decide +kernel⟩
  intro p h
  simp [Within, leOpt] at h ⊢
  omega

/-- Enough fuel always exists for a length-bounded input. -/
theorem scan_terminates_len (mem : Mem) (l : Nat) (str : Nat) : ∃ cs t, scan mem (l + 1) str (some l) = some (cs, t) :=
  scan_terminates mem (str + l) l str (some l) (Nat.le_refl _) (Nat.le_refl _)

/-- Enough fuel always exists for a NUL-terminated input. -/
theorem scan_terminates_nul (mem : Mem) (nul : Nat) :
    ∀ (k str : Nat), FirstNul mem str nul → nul - str ≤ k → ∃ cs t, scan mem (k + 1) str none = some (cs, t) :=
  fun k str hn hk => scan_terminates mem (nul + 1) k str none ⟨nul, hn, Nat.le_refl _⟩ (by have := hn.1; show nul + 1 ≤ str + k + 1; omega)

/-- **Fuel is irrelevant.**  Whenever a call returns with some fuel, it returns the same with any larger
    fuel — so every theorem above, stated for a fuel that is enough to scan the input, describes the
    result of the call for *every* fuel with which it returns. -/
theorem count_fuel_irrelevant (mem : Mem) (f g : Nat) (len : Option Nat) (pos : Pos) (L : Option Limit)
    (r : Int) (p : Pos) (hi : Nat) (hfg : f ≤ g) (h : ncountmore mem f len pos L = .ret r p hi) :
    ncountmore mem g len pos L = .ret r p hi ∧
    ∀ cs t, Scans mem f len pos cs t → Scans mem g len pos cs t :=
  ⟨ncountmore_mono mem f g len pos L r p hi hfg h, fun cs t hs => scan_mono_le mem f g _ _ (cs, t) hfg hs⟩

/-- Whenever a call returns (any fuel) on an input that can be scanned (any fuel), the result is the
    specification's. -/
theorem count_spec_any_fuel (mem : Mem) (f F : Nat) (len : Option Nat) (pos : Pos) (L : Option Limit)
    (cs : List Ch) (t : Tail) (hs : Scans mem F len pos cs t) (r : Int) (p : Pos) (hi : Nat)
    (h : ncountmore mem f len pos L = .ret r p hi) :
    r = (specRun L (graphemes cs) t pos).ret pos.bytes ∧ p = (specRun L (graphemes cs) t pos).pos := by
  have h' := ncountmore_mono mem f (max f F) len pos L r p hi (Nat.le_max_left _ _) h
  have hs' : Scans mem (max f F) len pos cs t := scan_mono_le mem F (max f F) _ _ (cs, t) (Nat.le_max_right _ _) hs
  exact ncountmore_ret hs' h'

/-- **Round trip.**  For every code point below `0x200000` that is not a C0/C1 control or DEL:
    `tickit_utf8_put` writes `seqlen cp` bytes; decoding them gives `(seqlen cp, cp)` back; counting them gives
    `bytes = seqlen cp`, `codepoints = 1`, `graphemes = [wcwidth cp > 0]`, `columns = wcwidth cp`, reading
    exactly the bytes and the terminator. -/
theorem put_count_roundtrip (cp : Nat) (h0 : 0x20 ≤ cp) (hc : ¬ (0x7f ≤ cp ∧ cp < 0xa0)) (h1 : cp < 0x200000)
    (buflen : Nat) (hb : seqlen cp ≤ buflen) (fuel : Nat) :
    put false buflen cp = (((seqlen cp : Nat) : Int), putBytes cp) ∧
    (putBytes cp).length = seqlen cp ∧
    nextUtf8 (memOfBytes (putBytes cp)) 0 none = .ok (seqlen cp) cp (seqlen cp) ∧
    count (memOfBytes (putBytes cp)) (fuel + 2) none =
      .ret (seqlen cp) ⟨seqlen cp, 1, if wcwidth cp > 0 then 1 else 0, wcwidth cp⟩ (seqlen cp + 1) ∧
    0 ≤ wcwidth cp := by
  refine ⟨?_, putBytes_length cp, nextUtf8_putBytes cp (by omega) h1, count_putBytes cp h0 hc h1 fuel,
    wcwidth_nonneg (by unfold IsControl; omega)⟩
  unfold put; rw [if_neg (Nat.not_lt.2 hb)]; rfl

example : put false 4 0x1f3e0 = (4, [0xf0, 0x9f, 0x8f, 0xa0]) ∧ wcwidth 0x1f3e0 = 2 ∧
    count (memOfBytes (putBytes 0x1f3e0)) 2 none = .ret 4 ⟨4, 1, 1, 2⟩ 5 := by decide +kernel

/-- A buffer that is too short is left alone and `-1` is returned. -/
theorem put_short (cp buflen : Nat) (h : buflen < seqlen cp) : put false buflen cp = (-1, []) := by
  unfold put; simp [h]

/-! ### the known finding `lax_continuation`

The property lists "a truncated sequence" among the errors.  `next_utf8` notices a sequence cut short by the
length or by the terminator, but accepts *any* non-NUL byte where a continuation byte (`0x80…0xBF`) is
required.  `scanStrict` is the scan under the reading in which such a sequence is truncated. -/

/-- The full statement of the error clause under the strict reading. -/
def C07_error_full : Prop :=
  ∀ (mem : Mem) (fuel : Nat) (len : Option Nat) (pos : Pos) (L : Option Limit) (cs : List Ch) (t : Tail)
    (r : Int) (p : Pos) (hi : Nat),
    scanStrict mem fuel pos.bytes (lenSub len pos.bytes) = some (cs, t) →
    ncountmore mem fuel len pos L = .ret r p hi →
    (r = -1 ↔ (t = .err ∧ AllFit L pos (graphemes cs)))

/-- `C3 41 00`: the strict reading sees a truncated sequence at offset 0; the code returns 2 (it counts
    U+00C1, swallowing the `A`). -/
theorem count_error_counterexample : ¬ C07_error_full := by
  intro h
  have := h (memOfBytes [0xc3, 0x41]) 10 none Pos.zero none [] .err 2 ⟨2, 1, 1, 1⟩ 3
    (by decide +kernel) (by decide +kernel)
  have h2 := this.2 ⟨rfl, trivial⟩
  exact absurd h2 (by decide)

/-- The error clause under the strict reading holds whenever no offset is the trigger
    (`badCont`: a non-NUL, non-continuation byte inside a sequence). -/
theorem count_error_iff_partial (mem : Mem) (hno : ∀ p len, badCont mem p len = false)
    (fuel : Nat) (len : Option Nat) (pos : Pos) (L : Option Limit) (cs : List Ch) (t : Tail)
    (r : Int) (p : Pos) (hi : Nat)
    (hs : scanStrict mem fuel pos.bytes (lenSub len pos.bytes) = some (cs, t))
    (h : ncountmore mem fuel len pos L = .ret r p hi) :
    r = -1 ↔ (t = .err ∧ AllFit L pos (graphemes cs)) :=
  ncountmore_neg_iff (scanStrict_eq_scan hno _ _ _ ▸ hs) h

example : (∀ p len, badCont (memOfBytes [0x61, 0xc3, 0xa9]) p len = false) :=
  badCont_memOfBytes _ (by decide +kernel)

/-! ### the runtime oracle is the specification of the theorems

The `SPEC` verdict of `bin/check` is computed by `Driver/Utf8.lean` as
`specRun limit (clusters (refScan wcwidthSpec _ bs).1) (refScan wcwidthSpec _ bs).2.1 start` on the effective
bytes `bs` of the input, with an independently written list decoder (`refScan`) and search-free widths
(`wcwidthSpec`).  These theorems say that this is the same function the theorems above talk about. -/

/-- The bytes the driver hands to the oracle (`effectiveOf`: the buffer from the start offset, cut at the
    length and at the first NUL; `none` = precondition of the call violated) are the effective input. -/
theorem oracle_input (a : Array UInt8) (len : Option Nat) (start : Nat) (bs : List Nat)
    (h : effectiveOf a len start = some bs) : Effective (memOfArray a) start (lenSub len start) bs :=
  effectiveOf_sound a len start bs h

/-- The oracle's decoder over the effective bytes finds exactly the characters and the ending of the strict
    scan over memory. -/
theorem oracle_decoder (mem : Mem) (fuel str : Nat) (len : Option Nat) (bs : List Nat) (cs : List Ch) (t : Tail)
    (hE : Effective mem str len bs) (hs : scanStrict mem fuel str len = some (cs, t)) :
    (refScan wcwidthSpec (bs.length + 1) bs).1 = cs ∧ (refScan wcwidthSpec (bs.length + 1) bs).2.1 = t := by
  have hw : wcwidthSpec = wcwidth := funext (fun c => (wcwidth_eq_spec c).symm)
  rw [hw]
  exact refScan_eq_scanStrict mem fuel str len bs cs t hE hs (bs.length + 1) (Nat.lt_succ_self _)

/-- Whenever no offset holds the trigger of the known finding, the value the oracle expects is the value
    `tickit_utf8_ncountmore` returns (so a `SPEC fail` on such an input is a disagreement with the model). -/
theorem oracle_expects_model (mem : Mem) (hno : ∀ p len, badCont mem p len = false)
    (fuel : Nat) (len : Option Nat) (pos : Pos) (L : Option Limit) (bs : List Nat) (cs : List Ch) (t : Tail)
    (hE : Effective mem pos.bytes (lenSub len pos.bytes) bs)
    (hs : scanStrict mem fuel pos.bytes (lenSub len pos.bytes) = some (cs, t)) :
    ∃ hi, ncountmore mem fuel len pos L =
      .ret ((specRun L (clusters (refScan wcwidthSpec (bs.length + 1) bs).1)
              (refScan wcwidthSpec (bs.length + 1) bs).2.1 pos).ret pos.bytes)
           (specRun L (clusters (refScan wcwidthSpec (bs.length + 1) bs).1)
              (refScan wcwidthSpec (bs.length + 1) bs).2.1 pos).pos hi := by
  obtain ⟨h1, h2⟩ := oracle_decoder mem fuel _ _ bs cs t hE hs
  rw [h1, h2]
  rw [scanStrict_eq_scan hno] at hs
  exact ncountmore_eq_spec mem fuel len pos L cs t hs

example : Effective (memOfBytes [0x61, 0xc3, 0xa9]) 0 none [0x61, 0xc3, 0xa9] ∧
    refScan wcwidthSpec 4 [0x61, 0xc3, 0xa9] = ([⟨1, 0x61, 1⟩, ⟨2, 0xe9, 1⟩], .eof, "") :=
  ⟨effective_memOfBytes _ (by decide), by decide +kernel⟩

end Tickit.Props.C07
