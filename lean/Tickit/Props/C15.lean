import Tickit.Proof.WinFocus
import Tickit.Proof.WinFocusReq
import Tickit.Proof.WinFocusHist
import Tickit.Proof.WinFocusStep
import Tickit.Proof.WinFocusRestack
import Tickit.Proof.WinFocusResize
import Tickit.Proof.WinFocusMock
import Tickit.Proof.WinFocusMockHist
import Tickit.Proof.WinFocusRelink
import Tickit.Proof.WinFocusOrder
import Tickit.Gen.WinFocusSrc
/-
  C15 — After a flush the terminal cursor reflects the focused window, or is hidden.

  "After a flush the terminal cursor is visible exactly when the window at the end of the focus chain is focused, it
   and all its ancestors are visible, its cursor is enabled and its cursor cell is inside the window and every
   ancestor and not covered by another window - and then it sits at that cell's absolute position with that window's
   shape; in every other case it is hidden.  When focus moves, the window losing it is told before the window gaining
   it, and parents that asked for child notifications are told about both."

  The model (`Model/WinFocus.lean`, on the shared `Model/WinTree.lean`) transcribes `_do_restore`, `_cell_visible`,
  `_focus_gained`, `_focus_lost`, the cursor setters and the restore part of `tickit_window_flush`; it is parametrised by
  `fx : Fixes`, the repairs (fixes/C15_*.patch) the working tree carries — `Fixes.none` is the unchanged library.
  `cursorSpec` is the property's own definition (painter's-model `owner` for "not covered by another window").

  Trees are quantified over all stores satisfying `wfB` (parents have smaller ids and list their children, children
  point back, a `focused_child` link goes to a live *visible* child — DESIGN's `chain_visible`); the driver evaluates
  `wfB` on every tree the real library is observed in.

  Some clauses of the property are false of the unchanged library (and of `Fixes.none`): `restore_spec_full`,
  `loser_told_full`, `link_parent_told_full`, `hide_requests_full`, and `resize_requests_full` without its repair.  Each
  has its full statement as a `def … : Prop`, a kernel-checked counterexample, the theorem under the hypothesis excluding
  the trigger, and — where proved — the full theorem for the repaired code.
-/
namespace Tickit.Props.C15
open Tickit Tickit.WinTree Tickit.WinFocus

/-- For every well-formed tree: the calls `_do_restore` makes leave the terminal cursor exactly as the property
    says — provided the root window is visible, or the source carries the repair `hiddenRoot`. -/
theorem restore_spec (fx : Fixes) (t : Tree) (hwf : wfB t = true)
    (hroot : fx.hiddenRoot = true ∨ rootVisible t = true)
    (calls : List TermCall) (hd : doRestore fx t = .ok calls) (c0 : TermCursor) :
    (c0.applyAll calls).matches (cursorSpec t) = true :=
  doRestore_spec hwf fx hroot hd c0

/-- The clause in full, for a given state of the source. -/
def restore_spec_full (fx : Fixes) : Prop :=
  ∀ (t : Tree), wfB t = true → ∀ (calls : List TermCall), doRestore fx t = .ok calls →
    ∀ c0 : TermCursor, (c0.applyAll calls).matches (cursorSpec t) = true

/-- The repaired `_do_restore` satisfies the clause in full. -/
theorem restore_spec_repaired (fx : Fixes) (hfx : fx.hiddenRoot = true) : restore_spec_full fx :=
  fun t hwf calls hd c0 => restore_spec fx t hwf (.inl hfx) calls hd c0

/-- The unchanged `_do_restore` satisfies it on every tree whose root window is visible. -/
theorem restore_spec_partial (t : Tree) (hwf : wfB t = true) (hroot : rootVisible t = true)
    (calls : List TermCall) (hd : doRestore Fixes.none t = .ok calls) (c0 : TermCursor) :
    (c0.applyAll calls).matches (cursorSpec t) = true :=
  restore_spec Fixes.none t hwf (.inr hroot) calls hd c0

/-- A hidden, focused root window (history: `new 6 10; hide 0; focus 0`). -/
def hiddenRootTree : Tree :=
  { wins := #[{ rect := ⟨0, 0, 6, 10⟩, isRoot := true, isVisible := false, isFocused := true }] }

/-- The unchanged library shows the cursor of a focused root window that is hidden. -/
theorem restore_spec_counterexample : ¬ restore_spec_full Fixes.none := by
  intro h
  obtain ⟨calls, hd, hbad⟩ : ∃ calls, doRestore Fixes.none hiddenRootTree = .ok calls ∧
      ¬ (({} : TermCursor).applyAll calls).matches (cursorSpec hiddenRootTree) = true := ok_of_check (by decide +kernel)
  exact hbad (h hiddenRootTree (by decide) calls hd {})

/-- After a flush that had a restore or an expose pending (and hence was not skipped), the terminal cursor is what the
    property demands of the tree as the flush leaves it (queued restacking applied) — whatever the terminal cursor was
    before. -/
theorem flush_cursor (fx : Fixes) (t : Tree) (out : FlushOut) (hf : flush fx t = .ok out)
    (hl : t.root.needsLater = true) (hr : t.root.needsRestore = true ∨ t.root.needsExpose = true)
    (hwf : wfB out.tree = true) (hroot : fx.hiddenRoot = true ∨ rootVisible out.tree = true) (c0 : TermCursor) :
    (c0.applyAll out.calls).matches (cursorSpec out.tree) = true :=
  flush_spec fx hf hl hr hwf hroot c0

/-- The same on the library's own mock terminal (src/mockterm.c — the engine's second configuration, `newmock`), which
    clamps a goto to its screen and stores `!!value` for CURSORVIS and CURSORBLINK (`TermCall.onMock`): when the root
    window sits at the origin and fits the `L × C` screen (which `on_term_resize` maintains), what the mock reports
    after the flush is `cursorSpec`. -/
theorem flush_cursor_mock (fx : Fixes) (t : Tree) (out : FlushOut) (hf : flush fx t = .ok out)
    (hl : t.root.needsLater = true) (hr : t.root.needsRestore = true ∨ t.root.needsExpose = true)
    (hwf : wfB out.tree = true) (hroot : fx.hiddenRoot = true ∨ rootVisible out.tree = true)
    (L C : Int) (r : Win) (hr0 : out.tree.wins[0]? = some r)
    (htop : r.rect.top = 0) (hleft : r.rect.left = 0) (hL : r.rect.lines ≤ L) (hC : r.rect.cols ≤ C) (c0 : TermCursor) :
    (c0.applyAllMock L C out.calls).matches (cursorSpec out.tree) = true :=
  flush_spec_mock fx hf hl hr hwf hroot hr0 htop hleft hL hC c0

theorem restore_spec_mock (fx : Fixes) (t : Tree) (hwf : wfB t = true)
    (hroot : fx.hiddenRoot = true ∨ rootVisible t = true)
    (calls : List TermCall) (hd : doRestore fx t = .ok calls)
    (L C : Int) (r : Win) (hr0 : t.wins[0]? = some r)
    (htop : r.rect.top = 0) (hleft : r.rect.left = 0) (hL : r.rect.lines ≤ L) (hC : r.rect.cols ≤ C) (c0 : TermCursor) :
    (c0.applyAllMock L C calls).matches (cursorSpec t) = true :=
  doRestore_spec_mock hwf fx hroot hd hr0 htop hleft hL hC c0

/-- A flush with nothing requested touches neither the terminal nor the tree (so what `restore_requested` must
    guarantee is that nothing *needed* to be requested). -/
theorem flush_idle (fx : Fixes) (t : Tree) (hl : t.root.needsLater = false) :
    flush fx t = .ok { tree := t, exposed := [], calls := [] } :=
  flush_skipped hl

/-- OUT before IN: every `take_focus` delivers a block of OUT events followed by a block of IN events, and the last
    event tells the window that took the focus IN — for every tree, every window, every state of the source. -/
theorem focus_out_before_in (fx : Fixes) (t : Tree) (win : Nat) (r : Tree × List Event)
    (h : takeFocus fx t win = .ok r) :
    ∃ outs ins, r.2 = outs ++ ins ++ [⟨win, .focusIn, win⟩] ∧
      (∀ e ∈ outs, e.type = .focusOut) ∧ (∀ e ∈ ins, e.type = .focusIn) := by
  obtain ⟨outs, ins, h1, h2, h3, h4⟩ := focusGained_out_in fx _ _ _ _ _ h
  obtain ⟨ins', h5⟩ := h4 rfl
  subst h5
  refine ⟨outs, ins', by rw [h1, List.append_assoc], h2, ?_⟩
  intro e he; exact h3 e (List.mem_append.mpr (.inl he))

/-- "The window losing it is told": when a `take_focus` changes the holder (`holder`, Proof/WinFocus.lean: the window at
    the end of the focus chain, when it is focused), the old holder gets an OUT event. -/
def loser_told_full (fx : Fixes) : Prop :=
  ∀ (t : Tree) (win b : Nat) (r : Tree × List Event), wfB t = true → takeFocus fx t win = .ok r →
    holder t = some b → holder r.1 ≠ some b → (⟨b, .focusOut, b⟩ : Event) ∈ r.2

/-- The loser is told: when a window attached to the root through a visible path (`VisPath`, `Anc … 0`) takes the
    focus from another window `b`, `b` receives an OUT event (before every IN event, by `focus_out_before_in`) —
    for every well-formed tree; for the repaired `_focus_gained` always, for the unchanged one unless one of the two
    windows is an ancestor of the other. -/
theorem loser_told (fx : Fixes) (t : Tree) (win b : Nat) (r : Tree × List Event) (hwf : wfB t = true)
    (h : takeFocus fx t win = .ok r) (hp : VisPath t win) (h0 : Anc t win 0) (hb : holder t = some b) (hne : win ≠ b)
    (hex : fx.focusEvents = true ∨ (¬ Anc t b win ∧ ¬ Anc t win b)) :
    (⟨b, .focusOut, b⟩ : Event) ∈ r.2 := by
  exact gained_tells_loser fx _ t win none r b h hwf hp h0 hb (fun _ => hne) (fun c hc => by cases hc)
    (hex.imp id fun h => ⟨fun _ => h.1, h.2⟩)

/-- The repaired `_focus_gained` (fixes/C15_focus_events.patch) always tells the loser. -/
theorem loser_told_repaired (fx : Fixes) (hfx : fx.focusEvents = true) (t : Tree) (win b : Nat)
    (r : Tree × List Event) (hwf : wfB t = true) (h : takeFocus fx t win = .ok r) (hp : VisPath t win)
    (h0 : Anc t win 0) (hb : holder t = some b) (hne : win ≠ b) : (⟨b, .focusOut, b⟩ : Event) ∈ r.2 :=
  loser_told fx t win b r hwf h hp h0 hb hne (.inl hfx)

/-- The unchanged `_focus_gained` tells the loser whenever neither window is an ancestor of the other. -/
theorem loser_told_partial (t : Tree) (win b : Nat) (r : Tree × List Event) (hwf : wfB t = true)
    (h : takeFocus Fixes.none t win = .ok r) (hp : VisPath t win) (h0 : Anc t win 0) (hb : holder t = some b)
    (hne : win ≠ b) (h1 : ¬ Anc t b win) (h2 : ¬ Anc t win b) : (⟨b, .focusOut, b⟩ : Event) ∈ r.2 :=
  loser_told Fixes.none t win b r hwf h hp h0 hb hne (.inr ⟨h1, h2⟩)

/-- "The window losing it is told", in full, for the repaired `_focus_gained`: whenever a `take_focus` changes the holder
    of the focus — any tree, any window, visible path or not — the old holder is told OUT.  (Below an invisible ancestor
    nothing on the focus chain moves, so the holder does not change.) -/
theorem loser_told_full_repaired (fx : Fixes) (hfx : fx.focusEvents = true) : loser_told_full fx := by
  intro t win b r hwf h hb hnb
  rcases gained_tells_or_keeps fx hfx _ t win none r b h hwf hb with hm | hk
  · exact hm
  · exact absurd (holder_kept hwf hk hb) hnb

/-- root 0 with child 1; window 1 holds the focus (history: `win 1 0 1 1 3 3 0; focus 1`). -/
def childFocusedTree : Tree :=
  { wins := #[{ rect := ⟨0, 0, 6, 10⟩, isRoot := true, children := [1], focusedChild := some 1 },
              { rect := ⟨1, 1, 3, 3⟩, parent := some 0, isFocused := true }] }

/-- root 0 with child 1; the root holds the focus (history: `win 1 0 1 1 3 3 0; focus 0`). -/
def rootFocusedTree : Tree :=
  { wins := #[{ rect := ⟨0, 0, 6, 10⟩, isRoot := true, children := [1], isFocused := true },
              { rect := ⟨1, 1, 3, 3⟩, parent := some 0 }] }

/-- Unchanged library, focus taken by an ancestor: `focus 1; focus 0` never tells window 1 OUT. -/
theorem loser_told_counterexample_ancestor : ¬ loser_told_full Fixes.none := by
  intro h
  obtain ⟨r, hr, hnb, hbad⟩ : ∃ r, takeFocus Fixes.none childFocusedTree 0 = .ok r ∧
      holder r.1 ≠ some 1 ∧ (⟨1, .focusOut, 1⟩ : Event) ∉ r.2 := ok_of_check (by decide +kernel)
  exact hbad (h childFocusedTree 0 1 r (by decide) hr (by decide +kernel) hnb)

/-- Unchanged library, focus taken by a descendant: `focus 0; focus 1` never tells the root OUT. -/
theorem loser_told_counterexample_descendant : ¬ loser_told_full Fixes.none := by
  intro h
  obtain ⟨r, hr, hnb, hbad⟩ : ∃ r, takeFocus Fixes.none rootFocusedTree 1 = .ok r ∧
      holder r.1 ≠ some 0 ∧ (⟨0, .focusOut, 0⟩ : Event) ∉ r.2 := ok_of_check (by decide +kernel)
  exact hbad (h rootFocusedTree 1 0 r (by decide) hr (by decide +kernel) hnb)

/-- "Parents that asked are told about both": a window with `focus_child_notify` whose `focused_child` link is moved by
    a `take_focus` from child `c` to another child is told OUT for `c` (and IN for the new one). -/
def link_parent_told_full (fx : Fixes) : Prop :=
  ∀ (t : Tree) (win p c c' : Nat) (pw pw' : Win) (r : Tree × List Event), wfB t = true →
    takeFocus fx t win = .ok r → t.wins[p]? = some pw → r.1.wins[p]? = some pw' → pw.focusChildNotify = true →
    pw.focusedChild = some c → pw'.focusedChild = some c' → c ≠ c' →
    (⟨p, .focusOut, c⟩ : Event) ∈ r.2 ∧ (⟨p, .focusIn, c'⟩ : Event) ∈ r.2

/-- The IN half of "told about both", for every tree and every state of the source: every window on the visible
    path above the window that takes the focus (`Reaches t win p c`: the climb of `_focus_gained` arrives at `p` from
    its child `c`) that asked for child notifications is told IN for `c`. -/
theorem parents_told_in (fx : Fixes) (t : Tree) (win p c : Nat) (pw : Win) (r : Tree × List Event)
    (h : takeFocus fx t win = .ok r) (hre : Reaches t win p c) (hpw : t.wins[p]? = some pw)
    (hn : pw.focusChildNotify = true) : (⟨p, .focusIn, c⟩ : Event) ∈ r.2 :=
  gained_parents_in fx _ t win none r p c pw h hre hpw hn

/-- "Parents that asked are told about both", in full, for the repaired `_focus_gained`: a notification-asking window
    whose `focused_child` link a `take_focus` moves from `c` to `c'` is told OUT for `c` and IN for `c'`. -/
theorem link_parent_told_full_repaired (fx : Fixes) (hfx : fx.focusEvents = true) : link_parent_told_full fx := by
  intro t win p c c' pw pw' r _ h hp hp' hn hfc hfc' hne
  exact gained_link_told fx hfx _ t win none r p c c' pw pw' h hp hp' hn hfc hfc' hne

/-- The OUT half for the branch that loses the focus, for every tree and every state of the source: when the climb of
    `_focus_gained` arrives at `p` from its child `c` (`Reaches`) and `p`'s `focused_child` is another child `f`, every
    window `q` on the chain below `f` (`FcChain`) that asked for child notifications is told OUT for its focused
    child — the parents of the window losing the focus are told. -/
theorem branch_told_out (fx : Fixes) (t : Tree) (win p c f q d : Nat) (pw qw : Win) (r : Tree × List Event)
    (h : takeFocus fx t win = .ok r) (hre : Reaches t win p c) (hp : Live t p pw) (hpfc : pw.focusedChild = some f)
    (hfc : f ≠ c) (hch : FcChain t f q) (hq : Live t q qw) (hqfc : qw.focusedChild = some d)
    (hn : qw.focusChildNotify = true) : (⟨q, .focusOut, d⟩ : Event) ∈ r.2 :=
  gained_reach_branch_out fx _ t win none r p c f q d pw qw h hre hp hpfc hfc hch hq hqfc hn

/-- The same when the window itself takes the focus from a branch below it (repaired `_focus_gained` only: the
    unchanged one does not run `_focus_lost` there — `loser_told_counterexample_ancestor`). -/
theorem branch_told_out_self (fx : Fixes) (hfx : fx.focusEvents = true) (t : Tree) (win f q d : Nat) (w qw : Win)
    (r : Tree × List Event) (h : takeFocus fx t win = .ok r) (hw : Live t win w) (hwfc : w.focusedChild = some f)
    (hch : FcChain t f q) (hq : Live t q qw) (hqfc : qw.focusedChild = some d) (hn : qw.focusChildNotify = true) :
    (⟨q, .focusOut, d⟩ : Event) ∈ r.2 :=
  gained_level_branch_out fx h hw hwfc ⟨.inr hfx, nofun⟩ hch hq hqfc hn

/-- root 0 (asking for notifications) with children 1 and 2; window 1 holds the focus. -/
def twoChildrenTree : Tree :=
  { wins := #[{ rect := ⟨0, 0, 6, 10⟩, isRoot := true, children := [2, 1], focusedChild := some 1, focusChildNotify := true },
              { rect := ⟨1, 1, 2, 2⟩, parent := some 0, isFocused := true },
              { rect := ⟨3, 3, 2, 2⟩, parent := some 0 }] }

/-- Unchanged library: `notify 0 1; focus 1; focus 2` tells the root IN for 2 but not OUT for 1. -/
theorem link_parent_told_counterexample : ¬ link_parent_told_full Fixes.none := by
  intro h
  obtain ⟨r, hr, ⟨pw', hp', hfc'⟩, hbad⟩ : ∃ r, takeFocus Fixes.none twoChildrenTree 2 = .ok r ∧
      (∃ pw' ∈ r.1.wins[0]?, pw'.focusedChild = some 2) ∧ (⟨0, .focusOut, 1⟩ : Event) ∉ r.2 := ok_of_check (by decide +kernel)
  exact hbad (h twoChildrenTree 2 0 1 2 _ pw' r (by decide) hr rfl hp' rfl rfl hfc' (by decide)).1

/-! `Requests t t'` (Proof/WinFocus.lean): after the operation a restore or an expose is pending and the flush will not
    be skipped, or the operation did not change what the cursor has to be. -/

/-- The setters of the cursor record request what the property needs — for every tree, window and value. -/
theorem restore_requested_cursor_position (t t' : Tree) (win : Nat) (line col : Int)
    (h : setCursorPosition t win line col = .ok t') : Requests t t' :=
  cursor_setter_requests (fun c => { c with line := line, col := col }) h

theorem restore_requested_cursor_visible (t t' : Tree) (win : Nat) (value : Int)
    (h : setCursorVisible t win value = .ok t') : Requests t t' :=
  cursor_setter_requests (fun c => { c with visible := bit1 value }) h

theorem restore_requested_cursor_shape (t t' : Tree) (win : Nat) (value : Int)
    (h : setCursorShape t win value = .ok t') : Requests t t' :=
  cursor_setter_requests (fun c => { c with shape := value }) h

theorem restore_requested_cursor_blink (t t' : Tree) (win : Nat) (value : Int)
    (h : setCursorBlink t win value = .ok t') : Requests t t' :=
  cursor_setter_requests (fun c => { c with blink := if value ≠ 0 then 1 else 0 }) h

/-- `take_focus` on a window whose parent chain is visible up to the top (`VisPath`) always leaves a restore
    requested — for every tree and every state of the source. -/
theorem restore_requested_take_focus (fx : Fixes) (t : Tree) (win : Nat) (r : Tree × List Event)
    (h : takeFocus fx t win = .ok r) (hp : VisPath t win) :
    r.1.root.needsRestore = true ∧ r.1.root.needsLater = true :=
  focusGained_requests fx _ _ _ _ _ h hp

/-- The clause for `take_focus` in full: also below an invisible ancestor, where nothing is requested and nothing has
    to be (the focus chain from the root and the composition are untouched). -/
def take_focus_requests_full (fx : Fixes) : Prop :=
  ∀ (t : Tree) (win : Nat) (r : Tree × List Event), wfB t = true → takeFocus fx t win = .ok r → Requests t r.1

/-- The clause for `take_focus` holds in full, for every state of the source (`Proof/WinFocusReq.lean`: once the climb of `_focus_gained` touches
    the focus chain it reaches the root and requests the restore; otherwise it writes only windows off the chain, and
    never a field the composition reads). -/
theorem take_focus_requests (fx : Fixes) : take_focus_requests_full fx :=
  fun _ _ _ hwf h => takeFocus_requests hwf h

/-! `Good15 t` (Proof/WinFocusReq.lean): the store invariant `wfB`, the structural invariants of the window engine
    (C01: parent pointers agree with child lists, no repeated children, one root window at the origin, positive size),
    non-empty damage rectangles, and the flag discipline (recorded damage is flagged; a pending expose or restore keeps
    the flush from being skipped).  `good15B` is its executable form (checked by the driver on every observed tree). -/

/-- `hide`, `show`, `close` and a geometry change request what the property needs (full statement; false of the
    unrepaired model when the window exposes nothing). -/
def hide_requests_full (fx : Fixes) : Prop :=
  ∀ (t t' : Tree) (win : Nat), Good15 t → hideWin fx t win = .ok t' → Requests t t'

/-- `restore_requested` for `hide`, `show`, `close` (repaired source) and for a geometry change followed by the exposes
    of the old and the new area (C01's proviso; any window but the root): afterwards a restore or an expose is pending
    and the flush will not be skipped, or `cursorSpec` is what it was.  Built on the window engine's damage
    specification (C01 `hide_step`, `show_step`, `close_step`, `geom_step`: `WinFlush.Recorded`): every terminal cell whose
    owner changes is covered by the damage the operation records. -/
theorem restore_requested_hide (fx : Fixes) (hfx1 : fx.hiddenRoot = true) (hfx2 : fx.chainRestore = true) :
    hide_requests_full fx :=
  fun _ _ _ hg h => hide_requests hfx1 hfx2 hg h

theorem restore_requested_show (fx : Fixes) (hfx2 : fx.chainRestore = true) (t t' : Tree) (win : Nat)
    (hg : Good15 t) (h : showWin fx t win = .ok t') : Requests t t' :=
  show_requests hfx2 hg h

theorem restore_requested_close (fx : Fixes) (hfx2 : fx.chainRestore = true) (t t' : Tree) (win : Nat)
    (hg : Good15 t) (h : closeWin fx t win = .ok t') : Requests t t' :=
  close_requests hfx2 hg h

theorem restore_requested_move (t t' : Tree) (win : Nat) (rect : Rect) (hg : Good15 t) (h0 : win ≠ 0)
    (h : WinFlush.setGeometryExposed t (treeFuel t) win rect = .ok t') : Requests t t' :=
  (move_step (fx := Fixes.all) hg h0 h).requests rfl rfl

/-- A restacking request only queues: the tree, hence `cursorSpec`, is untouched (its effect comes with the flush). -/
theorem restore_requested_restack (t t' : Tree) (ch : Change) (win : Nat)
    (h : requestHierarchyChange t (treeFuel t) ch win = .ok t') : Requests t t' := by
  obtain ⟨_, _, ⟨_, rfl⟩ | ⟨_, _, rfl⟩⟩ := request_cases h <;> exact .inr (cursorSpec_wins rfl)

/-- root 0, child 1 (focused itself, then its child took the focus), grandchild 2 lying outside window 1;
    nothing pending.  History: `win 1 0 1 1 3 3 0; win 2 1 5 5 1 1 0; focus 1; focus 2; flush`. -/
def outsideChildTree : Tree :=
  { wins := #[{ rect := ⟨0, 0, 6, 10⟩, isRoot := true, children := [1], focusedChild := some 1 },
              { rect := ⟨1, 1, 3, 3⟩, parent := some 0, children := [2], focusedChild := some 2, isFocused := true },
              { rect := ⟨5, 5, 1, 1⟩, parent := some 1, isFocused := true }] }

/-- Unchanged library: hiding the grandchild that lies outside its parent hands the focus chain back to window 1
    (still `is_focused`), exposes nothing and requests nothing — the cursor stays hidden although it should now sit
    at window 1's cursor cell. -/
theorem hide_requests_counterexample : ¬ hide_requests_full Fixes.none := by
  intro h
  obtain ⟨t', ht', hno, hspec⟩ : ∃ t', hideWin Fixes.none outsideChildTree 2 = .ok t' ∧
      t'.root.needsLater = false ∧ cursorSpec t' ≠ cursorSpec outsideChildTree := ok_of_check (by decide +kernel)
  rcases h _ t' 2 (good15_of_B (by decide)) ht' with ⟨_, h2⟩ | h3
  · rw [hno] at h2; cases h2
  · exact hspec h3

/-! ### the focus chain through `hide` / `show`, and the reposition of the focused window

    The "focus chain" of the property is maintained by `show`, `hide` and REMOVE, not only by `take_focus`; these are the
    rules (the driver evaluates them on the implementation's links before and after every show / hide / close). -/

/-- `show` relinks: a window whose parent has no focused child is linked in whenever it carries a link or is focused
    itself — in particular when the branch below it ends, however deep, in the focused window. -/
theorem show_relinks (fx : Fixes) (t t' : Tree) (win p : Nat) (w pw : Win) (hwf : wfB t = true) (hw : Live t win w)
    (hp : w.parent = some p) (hpw : Live t p pw) (hnone : pw.focusedChild = none)
    (hlat : w.focusedChild.isSome = true ∨ w.isFocused = true) (hh : showWin fx t win = .ok t') :
    ∃ pw', t'.wins[p]? = some pw' ∧ pw'.focusedChild = some win :=
  showWin_relinks hwf hw hp hpw hnone hlat hh

/-- `hide` then `show` of a visible window the focus chain runs through: every window is as before — every link and
    flag — so the terminal cursor has to be what it had to be (and `restore_requested_show` makes the flush put it
    there). -/
theorem hide_show_roundtrip (fx : Fixes) (t t1 t2 : Tree) (win p : Nat) (w pw : Win) (hwf : wfB t = true)
    (hwf1 : wfB t1 = true) (hw : Live t win w) (hv : w.isVisible = true) (hp : w.parent = some p) (hpw : Live t p pw)
    (hl : pw.focusedChild = some win) (hlat : w.focusedChild.isSome = true ∨ w.isFocused = true)
    (h1 : hideWin fx t win = .ok t1) (h2 : showWin fx t1 win = .ok t2) :
    t2.wins = t.wins ∧ cursorSpec t2 = cursorSpec t :=
  have h := WinFocus.hide_show_roundtrip hwf hwf1 hw hv hp hpw hl hlat h1 h2
  ⟨h, cursorSpec_wins h⟩

/-- `tickit_window_reposition` of a focused window requests the restore itself, wherever the cursor cell ends up (under a
    sibling, outside the parent, in the open): no expose is needed for the cursor to follow the window. -/
theorem restore_requested_reposition (t t' : Tree) (win : Nat) (w : Win) (top left : Int) (hw : Live t win w)
    (hf : w.isFocused = true) (h : reposition t win top left = .ok t') : Requests t t' :=
  have h := reposition_requests hw hf h
  .inl ⟨.inl h.1, h.2⟩

/-- root 0 → 1 → 2 → 3, window 3 focused (history: three nested windows, `focus 3`, `flush`). -/
def deepChainTree : Tree :=
  { wins := #[{ rect := ⟨0, 0, 12, 30⟩, isRoot := true, children := [1], focusedChild := some 1 },
              { rect := ⟨1, 2, 10, 28⟩, parent := some 0, children := [2], focusedChild := some 2 },
              { rect := ⟨0, 0, 10, 27⟩, parent := some 1, children := [3], focusedChild := some 3 },
              { rect := ⟨0, 0, 9, 26⟩, parent := some 2, isFocused := true }] }

/-! ### the terminal changes its size

    `termResize` (Model/WinFocus.lean) transcribes `on_term_resize`, the root window's handler of the terminal's resize
    event: the root window takes the new size and the lines and columns *gained* are exposed.  About an area *lost*
    the unchanged handler does nothing: a cursor cell of the focused window that now lies outside the root window —
    "inside the window and every ancestor" fails — stays shown.  fixes/C15_resize_restore.patch ends the handler with
    `_request_restore(root)`; the extractor reads `Fixes.resizeRestore` off the source. -/

/-- The resize event requests what the property needs (full statement). -/
def resize_requests_full (fx : Fixes) : Prop :=
  ∀ (t t' : Tree) (l c : Int), Good15 t → 0 < l → 0 < c → termResize fx t l c = .ok t' → Requests t t'

/-- With the repair a restore is pending after every resize event. -/
theorem restore_requested_term_resize (fx : Fixes) (hfx : fx.resizeRestore = true) : resize_requests_full fx :=
  fun _ _ _ _ hg hl hc h => .inl ((termResize_step hg hl hc h).pending hfx)

/-- root 0 (6 × 10) with child 1 at 1,1 (3 × 3), focused, cursor cell 1,1 (absolute 2,2), nothing pending.
    History: `new 6 10; win 1 0 1 1 3 3 0; curpos 1 1 1; focus 1; flush`. -/
def shrinkTree : Tree :=
  { wins := #[{ rect := ⟨0, 0, 6, 10⟩, isRoot := true, children := [1], focusedChild := some 1 },
              { rect := ⟨1, 1, 3, 3⟩, parent := some 0, isFocused := true, cursor := { line := 1, col := 1 } }] }

/-- The library without the repair — every other repair in place: the terminal shrinks to 2 × 2, the cursor cell 2,2 of
    the focused window lies outside the root window now (`cursorSpec` goes from `some (2, 2, 1)` to `none`), nothing is
    exposed and nothing requested.  Replayed on the real code (both terminal configurations):
    corpus/C15/cursor_kept_after_terminal_shrink.ops. -/
theorem resize_requests_counterexample : ¬ resize_requests_full { Fixes.all with resizeRestore := false } := by
  intro h
  obtain ⟨t', ht', hno, hspec⟩ : ∃ t', termResize { Fixes.all with resizeRestore := false } shrinkTree 2 2 = .ok t' ∧
      t'.root.needsLater = false ∧ cursorSpec t' ≠ cursorSpec shrinkTree := ok_of_check (by decide +kernel)
  rcases h _ t' 2 2 (good15_of_B (by decide)) (by decide) (by decide) ht' with ⟨_, h2⟩ | h3
  · rw [hno] at h2; cases h2
  · exact hspec h3

/-- The resize event (terminal of at least one cell) preserves the invariants, for every state of the source. -/
theorem resize_preserves_good (fx : Fixes) (t t' : Tree) (l c : Int) (hg : Good15 t) (hl : 0 < l) (hc : 0 < c)
    (h : termResize fx t l c = .ok t') : Good15 t' :=
  (termResize_step hg hl hc h).good

/-! ### the property over histories

    `Op`, `HSt`, `stepOp`, `runOps` (Proof/WinFocusRestack.lean): the operations the property quantifies over — window
    creation, take-focus, the cursor setters, the notification switch, show, hide, close, restacking requests, a geometry
    change with the exposes of the old and the new area (C01's proviso), expose, flush — run on a tree and a terminal
    cursor. -/

/-- C15 over histories: from a fresh root window on an `l × c` terminal, after any history that ends in a flush and
    that the library survives, the terminal cursor is what `cursorSpec` says of the tree.
    Not claimed of `Fixes.none`: the trees of `restore_spec_counterexample` and `hide_requests_counterexample` above are
    reached by such histories.
    For the repaired source it is proved (`history_cursor` below) for every history of the library's operations that does
    not move the root window; such a move is outside C01's proviso (the root has no parent to expose in; its geometry
    follows the terminal), and with it the statement is false (`history_full_root_move_counterexample`) — that is all
    that keeps this a `def`. -/
def history_full (fx : Fixes) : Prop :=
  ∀ (l c : Int) (ops : List Op) (s : HSt), 0 < l → 0 < c →
    runOps fx { tree := newRoot l c } (ops ++ [.flush]) = .ok s → s.term.matches (cursorSpec s.tree) = true

/-- After every flush the cursor equals `cursorSpec`, over whole histories, for the source as repaired in /repo:
    every history of window creation, take-focus, cursor position / visibility / shape / blink changes, notification
    switches, show, hide, close, raise, raise-to-front, lower, lower-to-back (queued, and applied by the next flush
    together with their exposes), geometry changes of any window but the root (with the proviso's exposes), expose and
    flush, in any order and of any length, from a fresh root window on any terminal, that ends in a flush.
    (`Op.plain`: a restacking request is one of the four kinds the API offers; the root window is not moved.)  The
    composition of `restore_spec`, `flush_cursor`, `restore_requested` for every operation (C01's damage specification
    underneath), the step lemma for `_do_hierarchy_change` inside the flush (`restack_apply`: a reordered child list
    changes ownership only inside the exposed rectangle), the flag discipline, and the preservation of `Good15`. -/
theorem history_cursor (fx : Fixes) (hfx1 : fx.hiddenRoot = true) (hfx2 : fx.chainRestore = true)
    (l c : Int) (hl : 0 < l) (hc : 0 < c) (ops : List Op) (hplain : ∀ op ∈ ops, op.plain) (s : HSt)
    (h : runOps fx { tree := newRoot l c } (ops ++ [.flush]) = .ok s) :
    s.term.matches (cursorSpec s.tree) = true :=
  (flush_last hfx1 (fun s1 h1 => runOps_inv hfx1 hfx2 ops _ s1 hplain (hinv_newRoot l c hl hc) h1) h).2.2

/-- Why `history_full` keeps the restriction: `tickit_window_set_geometry` on the *root* window (which has no parent in
    which the proviso's exposes could be made) changes every absolute position and requests nothing; the next flush
    leaves the cursor where it was.  Replayed on the library: `new 6 10; win 1 0 1 1 3 3 0; curpos 1 1 1; focus 1; flush;
    geom 0 1 0 6 10; flush` — the cursor stays at 2,2 where `cursorSpec` says 3,2.  (The library itself only resizes the
    root, from the terminal's resize event, keeping it at 0,0.) -/
theorem history_full_root_move_counterexample : ¬ history_full Fixes.all := by
  intro h
  obtain ⟨s, hs, hbad⟩ : ∃ s, runOps Fixes.all { tree := newRoot 6 10 }
      ([.newWin 0 ⟨1, 1, 3, 3⟩ false false false false, .curpos 1 1 1, .focus 1, .flush, .move 0 ⟨1, 0, 6, 10⟩] ++ [.flush])
        = .ok s ∧ ¬ s.term.matches (cursorSpec s.tree) = true := ok_of_check (by decide +kernel)
  exact hbad (h 6 10 _ s (by decide) (by decide) hs)

/-- The cursor is right at every flush in the middle of such a history too: the invariant `HInv` (store and flags in order, only
    restacking requests queued, cursor right or a restore pending) holds after every operation, and after a flush the
    cursor is right. -/
theorem history_every_flush (fx : Fixes) (hfx1 : fx.hiddenRoot = true) (hfx2 : fx.chainRestore = true)
    (l c : Int) (hl : 0 < l) (hc : 0 < c) (ops : List Op) (hplain : ∀ op ∈ ops, op.plain) (s s' : HSt)
    (h : runOps fx { tree := newRoot l c } ops = .ok s) (hf : stepOp fx s .flush = .ok s') :
    s'.term.matches (cursorSpec s'.tree) = true :=
  (flush_step hfx1 (runOps_inv hfx1 hfx2 ops _ s hplain (hinv_newRoot l c hl hc) h) hf).2

/-- C15 over histories in which the terminal also changes its size (`Op.plainR`: as `Op.plain`, plus resize events
    to any size of at least one cell). -/
def history_resize_full (fx : Fixes) : Prop :=
  ∀ (l c : Int) (ops : List Op) (s : HSt), 0 < l → 0 < c → (∀ op ∈ ops, op.plainR) →
    runOps fx { tree := newRoot l c } (ops ++ [.flush]) = .ok s → s.term.matches (cursorSpec s.tree) = true

/-- After every flush the cursor equals `cursorSpec`, terminal resizes included, for a source that carries the three
    repairs `hiddenRoot`, `chainRestore` and `resizeRestore` (fixes/C15_resize_restore.patch): every history of
    `history_cursor` with any number of resize events in it, to any sizes of at least one cell. -/
theorem history_cursor_resize (fx : Fixes) (hfx1 : fx.hiddenRoot = true) (hfx2 : fx.chainRestore = true)
    (hfx3 : fx.resizeRestore = true) : history_resize_full fx :=
  fun l c ops _ hl hc hplain h =>
    (flush_last hfx1 (fun s1 h1 => runOps_invR hfx1 hfx2 hfx3 ops _ s1 hplain (hinv_newRoot l c hl hc) h1) h).2.2

/-- Without `resizeRestore` it is false, all other repairs in place: `new 6 10; win 1 0 1 1 3 3 0; curpos 1 1 1; focus 1;
    flush; termsize 2 2; flush` leaves the cursor shown at 2,2 where `cursorSpec` says hidden.  This is the library
    without fixes/C15_resize_restore.patch (finding `cursor_kept_after_terminal_shrink`, replayed on the real code). -/
theorem history_resize_counterexample : ¬ history_resize_full { Fixes.all with resizeRestore := false } := by
  intro h
  obtain ⟨s, hs, hbad⟩ : ∃ s, runOps { Fixes.all with resizeRestore := false } { tree := newRoot 6 10 }
      ([.newWin 0 ⟨1, 1, 3, 3⟩ false false false false, .curpos 1 1 1, .focus 1, .flush, .termResize 2 2] ++ [.flush])
        = .ok s ∧ ¬ s.term.matches (cursorSpec s.tree) = true := ok_of_check (by decide +kernel)
  refine hbad (h 6 10 _ s (by decide) (by decide) ?_ hs)
  intro op hop; simp at hop; rcases hop with rfl | rfl | rfl | rfl | rfl <;> simp [Op.plainR, Op.plain]

/-- The cursor is right at every flush in the middle of a history with resize events too. -/
theorem history_every_flush_resize (fx : Fixes) (hfx1 : fx.hiddenRoot = true) (hfx2 : fx.chainRestore = true)
    (hfx3 : fx.resizeRestore = true)
    (l c : Int) (hl : 0 < l) (hc : 0 < c) (ops : List Op) (hplain : ∀ op ∈ ops, op.plainR) (s s' : HSt)
    (h : runOps fx { tree := newRoot l c } ops = .ok s) (hf : stepOp fx s .flush = .ok s') :
    s'.term.matches (cursorSpec s'.tree) = true :=
  (flush_step hfx1 (runOps_invR hfx1 hfx2 hfx3 ops _ s hplain (hinv_newRoot l c hl hc) h) hf).2

/-- The same on the library's own mock terminal (`MSt`, `stepOpMock`, `runOpsMock`, Proof/WinFocusMockHist.lean: the
    flush's calls are executed by the mock — goto clamped to the screen, `!!value` for visibility and blink —, a resize
    is `tickit_mockterm_resize`): from `tickit_mockterm_new(l, c)` and a fresh root window, after any such history that
    ends in a flush, the cursor the mock terminal *reports* is `cursorSpec` of the tree.  The extra invariant: the root
    window always covers exactly the screen (no operation but the resize event touches its rectangle), so the clamp
    never bites.  This is the specification the engine evaluates in its second configuration (`newmock`). -/
theorem history_cursor_mock (fx : Fixes) (hfx1 : fx.hiddenRoot = true) (hfx2 : fx.chainRestore = true)
    (hfx3 : fx.resizeRestore = true)
    (l c : Int) (hl : 0 < l) (hc : 0 < c) (ops : List Op) (hplain : ∀ op ∈ ops, op.plainR) (s : MSt)
    (h : runOpsMock fx { tree := newRoot l c, lines := l, cols := c } (ops ++ [.flush]) = .ok s) :
    s.term.matches (cursorSpec s.tree) = true :=
  flush_last_mock hfx1 (fun s1 h1 => runOpsMock_inv hfx1 hfx2 hfx3 ops _ s1 hplain (minv_newRoot l c hl hc) h1) h

/-- Every operation preserves the invariants (full statement: `Good15`, which contains the store invariant `wfB`). -/
def wf_preserved_full (fx : Fixes) : Prop :=
  ∀ (s s' : HSt) (op : Op), Good15 s.tree → stepOp fx s op = .ok s' → Good15 s'.tree

/-- `Good15` — `wfB` with `chain_visible`, the window engine's structural invariants, the flag discipline — survives
    window creation, take-focus, the cursor setters, the notification switch, show, hide, close, restacking requests,
    geometry changes of any window but the root with their exposes, expose, and the terminal's resize event (to at
    least one cell), for every tree and every state of the source.  (The flush: `flush_preserves_good` below.) -/
theorem wf_preserved (fx : Fixes) (s s' : HSt) (op : Op) (hop : op ≠ .flush) (hmv : ∀ w r, op = .move w r → w ≠ 0)
    (hrs : ∀ l c, op = .termResize l c → 0 < l ∧ 0 < c)
    (hg : Good15 s.tree) (hs : stepOp fx s op = .ok s') : Good15 s'.tree := by
  cases op with
  | flush => exact absurd rfl hop
  | termResize l c =>
    obtain ⟨x, hx, rfl⟩ := step_inv hs
    exact (termResize_step hg (hrs l c rfl).1 (hrs l c rfl).2 hx).good
  | restack ch w =>
    obtain ⟨x, hx, rfl⟩ := step_inv hs; exact restack_request_good hg hx
  | move w r => exact (op_step (by exact hmv w r rfl) (fun _ _ h => by cases h) hop hg hs).good
  | _ => exact (op_step (by exact trivial) (fun _ _ h => by cases h) hop hg hs).good

/-- Why `wf_preserved_full` keeps its restrictions: a move of the root window by the application takes it off the
    origin, which `Good15` (C01's `RootWin`: the root window sits at 0,0 — its geometry is the terminal's) forbids.
    So the unrestricted statement is false of every state of the source; `wf_preserved` is the whole truth for the
    operations the property's proviso admits. -/
theorem wf_preserved_full_counterexample (fx : Fixes) : ¬ wf_preserved_full fx := by
  intro h
  have hg := h { tree := newRoot 6 10 } { tree := WinTree.set (newRoot 6 10) 0 { rect := ⟨1, 0, 6, 10⟩, isRoot := true } }
    (.move 0 ⟨1, 0, 6, 10⟩) (hinv_newRoot 6 10 (by decide) (by decide)).good rfl
  obtain ⟨w, hw⟩ := hg.rootWin.record
  cases (show _ = some w from hw.slot : some ({ rect := ⟨1, 0, 6, 10⟩, isRoot := true } : Win) = some w)
  exact absurd hw.top (by decide)

/-- A flush whose queue holds restacking requests only (all the public API can put there) preserves the invariant. -/
theorem flush_preserves_wf (fx : Fixes) (t : Tree) (out : FlushOut) (hwf : wfB t = true)
    (hq : ∀ r ∈ t.root.changes, r.change.isRestack = true) (hf : flush fx t = .ok out) : wfB out.tree = true :=
  flush_wf hwf hq hf

/-- A flush preserves all of `Good15`: the queued restacking is applied (child lists reordered, the windows' areas exposed), the
    damage handed out, the flags cleared. -/
theorem flush_preserves_good (fx : Fixes) (t : Tree) (out : FlushOut) (hg : Good15 t)
    (hq : ∀ r ∈ t.root.changes, r.change.isRestack = true) (hf : flush fx t = .ok out) : Good15 out.tree :=
  (flush_good hg hq hf).1

/-- `restore_requested` for the *application* of a queued restacking request inside the flush: afterwards an expose is
    pending (which makes this very flush restore the cursor) or `cursorSpec` is what it was. -/
theorem restore_requested_restack_applied (t t' : Tree) (ch : Change) (p c : Nat) (hg : Good15 t)
    (hch : ch.isRestack = true) (hd : doHierarchyChange t (treeFuel t) ch p c = .ok t') :
    t'.root.needsExpose = true ∨ cursorSpec t' = cursorSpec t :=
  (restack_apply (goodF_of_good hg) hch hd).spec

/-- `flush_cursor` for the repaired `_do_restore`, with every hypothesis on the state *before* the flush. -/
theorem flush_cursor_repaired (fx : Fixes) (hfx : fx.hiddenRoot = true) (t : Tree) (out : FlushOut)
    (hf : flush fx t = .ok out) (hwf : wfB t = true) (hq : ∀ r ∈ t.root.changes, r.change.isRestack = true)
    (hl : t.root.needsLater = true) (hr : t.root.needsRestore = true ∨ t.root.needsExpose = true) (c0 : TermCursor) :
    (c0.applyAll out.calls).matches (cursorSpec out.tree) = true :=
  flush_cursor fx t out hf hl hr (flush_wf hwf hq hf) (.inl hfx) c0

/-! ### restacking requests take effect in the order they were made

  `raise` / `raise_to_front` / `lower` / `lower_to_back` only queue a request; the flush applies the queue.  "Not covered by
  another window" in the cursor clause therefore depends on *which order* the flush applies them in.  The specification
  (`Model/WinFocus.lean`): `stackSpec` — what one request asks of its parent's sibling list (one place towards the front /
  back, to the front, to the back; nothing for a window that is not in the list), `stackApplied t reqs` — the requests
  applied oldest first, `cursorSpecReq before after reqs` — the cursor clause on `after` stacked as `stackApplied before
  reqs`.  The engine evaluates `cursorSpecReq` on the library's observations at every flush, with the requests read from
  the operation lines since the last flush. -/

/-- `_request_hierarchy_change` touches no window; a window without a parent (the root, a closed window) gets nothing
    queued, any other gets its request appended *behind* those already waiting. -/
theorem request_queued_last (t t' : Tree) (F : Nat) (ch : Change) (w : Nat)
    (h : requestHierarchyChange t F ch w = .ok t') :
    t'.wins = t.wins ∧
    ((parentOf t w = some none ∧ t'.root.changes = t.root.changes) ∨
     (∃ p, ParentIs t ⟨ch, p, w⟩ ∧ t'.root.changes = t.root.changes ++ [⟨ch, p, w⟩])) :=
  request_step h

/-- `_do_hierarchy_change` for a restacking request does to the tree exactly what the request asks for: the parent's
    sibling list becomes `stackSpec` of it, and no other field of any window changes. -/
theorem restack_applied_exact (t t' : Tree) (F p c : Nat) (ch : Change) (hch : ch.isRestack = true)
    (hd : doHierarchyChange t F ch p c = .ok t') :
    ∃ pw, t.wins[p]? = some pw ∧
      t'.wins = t.wins.setIfInBounds p { pw with children := stackSpec ch pw.children c } :=
  restack_exact hch hd

/-- The flush applies the queue oldest first: whatever is queued (restacking requests, each naming its window's
    parent — all the API can queue), after `tickit_window_flush` the windows are those of `stackApplied`: the sibling
    lists found at the flush with the requests applied in the order they were made; nothing else about any window
    changes. -/
theorem flush_applies_requests_in_order (fx : Fixes) (t : Tree) (out : FlushOut)
    (hq : ∀ q ∈ t.root.changes, q.change.isRestack = true ∧ ParentIs t q)
    (hl : t.root.changes ≠ [] → t.root.needsLater = true) (hf : flush fx t = .ok out) :
    out.tree.wins = (stackApplied t (t.root.changes.map Req.pair)).wins :=
  flush_order hq hl hf

/-- The cursor clause over bursts of requests (repaired source).  From any state a history reaches (`HInv`) in which
    the waiting requests name their windows' parents: after any number of restacking requests `rs` and a flush, the
    windows are stacked as the waiting requests and then `rs`, applied oldest first, say — and the terminal cursor is
    visible exactly when the cursor clause holds on the tree *stacked that way* (the focused window's cursor cell not
    covered by another window after the requests took effect in request order), at that cell, with that shape; hidden
    in every other case. -/
theorem restack_burst_cursor (fx : Fixes) (hfx1 : fx.hiddenRoot = true) (hfx2 : fx.chainRestore = true)
    (s1 : HSt) (hi : HInv s1) (hq0 : ∀ q ∈ s1.tree.root.changes, ParentIs s1.tree q)
    (rs : List (Change × Nat)) (hrs : ∀ r ∈ rs, r.1.isRestack = true) (s2 : HSt)
    (h : runOps fx s1 (reqOps rs ++ [.flush]) = .ok s2) :
    s2.tree.wins = (stackApplied s1.tree (s1.tree.root.changes.map Req.pair ++ rs)).wins ∧
    s2.term.matches (cursorSpecReq s1.tree s2.tree (s1.tree.root.changes.map Req.pair ++ rs)) = true ∧
    s2.tree.root.changes = [] :=
  restack_burst_order hfx1 hfx2 hi hq0 rs hrs s2 h

/-- The cursor clause over bursts of requests, over whole histories: any history of the API's operations from a fresh root window that ends in a flush, then
    any burst of restacking requests, then a flush: the stacking is the burst applied in request order to the stacking
    of the first flush, and the cursor is `cursorSpecReq` — the property's first sentence with "restack" in the
    quantifier read as "requests take effect at the flush in the order they were made". -/
theorem history_restack_order (fx : Fixes) (hfx1 : fx.hiddenRoot = true) (hfx2 : fx.chainRestore = true)
    (l c : Int) (hl : 0 < l) (hc : 0 < c) (ops : List Op) (hplain : ∀ op ∈ ops, op.plain) (s1 : HSt)
    (h1 : runOps fx { tree := newRoot l c } (ops ++ [.flush]) = .ok s1)
    (rs : List (Change × Nat)) (hrs : ∀ r ∈ rs, r.1.isRestack = true) (s2 : HSt)
    (h2 : runOps fx s1 (reqOps rs ++ [.flush]) = .ok s2) :
    s2.tree.wins = (stackApplied s1.tree rs).wins ∧ s2.term.matches (cursorSpecReq s1.tree s2.tree rs) = true := by
  obtain ⟨hi1, hq1, _⟩ :=
    flush_last hfx1 (fun s0 h0 => runOps_inv hfx1 hfx2 ops _ s0 hplain (hinv_newRoot l c hl hc) h0) h1
  obtain ⟨a, b, _⟩ := restack_burst_order hfx1 hfx2 hi1 (by rw [hq1]; intro q hq; cases hq) rs hrs s2 h2
  rw [hq1] at a b
  exact ⟨a, b⟩

/-- The order matters, and the specification tells the orders apart: two overlapping siblings, window 1 focused with its
    cursor cell in the overlap.  "2 to the front, then 1 to the front" leaves the cursor visible at 2,2; "1 to the front,
    then 2 to the front" leaves it hidden; `raise 1; lower 1` nets out (hidden as before), `lower 1; raise 1` does not
    when window 1 is already at the back … — a flush that applied its queue youngest first would be judged wrong on
    each of these. -/
theorem request_order_matters :
    ∃ s, runOps Fixes.all { tree := newRoot 6 10 }
        [.newWin 0 ⟨1, 1, 3, 3⟩ false false false false, .newWin 0 ⟨2, 2, 3, 3⟩ false false false false,
         .curpos 1 1 1, .focus 1, .flush] = .ok s ∧
      cursorSpecReq s.tree s.tree [(.raiseFront, 2), (.raiseFront, 1)] = some (2, 2, 1) ∧
      cursorSpecReq s.tree s.tree [(.raiseFront, 1), (.raiseFront, 2)] = none ∧
      cursorSpecReq s.tree s.tree [(.raise, 1), (.lower, 1)] = none ∧
      cursorSpecReq s.tree s.tree [(.lower, 1), (.raise, 1)] = some (2, 2, 1) := by
  exact ok_of_check (by decide +kernel)

/-! ### the source is as the model assumes (regenerated from the working tree on every run) -/

/-- The harness reads `focused_child` and the cursor position through a mirror of this prefix of `struct TickitWindow`. -/
theorem src_window_fields :
    Tickit.Gen.WinFocusSrc.windowFields.map (fun f => (f.1, f.2.2)) =
      [("parent", 0), ("first_child", 0), ("next", 0), ("focused_child", 0), ("pen", 0), ("rect", 0),
       ("cursor.line", 0), ("cursor.col", 0), ("cursor.shape", 0), ("cursor.visible", 1), ("cursor.blink", 2),
       ("is_root", 1), ("is_visible", 1), ("is_focused", 1), ("is_closed", 1), ("steal_input", 1),
       ("focus_child_notify", 1), ("refcount", 0)] := rfl

/-- `init_window` establishes the cursor record the model starts windows with. -/
theorem src_init_cursor :
    ({} : WinTree.Cursor) =
      { line := Tickit.Gen.WinFocusSrc.initCursorLine, col := Tickit.Gen.WinFocusSrc.initCursorCol,
        shape := Tickit.Gen.WinFocusSrc.initCursorShape, visible := Tickit.Gen.WinFocusSrc.initCursorVisible,
        blink := Tickit.Gen.WinFocusSrc.initCursorBlink } := by decide

/-- `on_term_resize` resizes the root window and exposes the lines and the columns gained, as `termResize` transcribes. -/
theorem src_term_resize : Tickit.Gen.WinFocusSrc.termResizeAsModelled = true := by decide

/-- The mock terminal's cursor controls are as `TermCall.onMock` transcribes them: `!!value` for visibility and blink,
    the raw value for the shape, every case closed by its `break`. -/
theorem src_mock_setctl : Tickit.Gen.WinFocusSrc.mockSetctlAsModelled = true := by decide

/-- The mock terminal clamps a goto (and, on a resize, its stored position) to the screen with the two-`if` `BOUND`, and
    starts at -1,-1 with visibility, blink and shape 0 (`TermCursor.mockInit`, `bound`, `TermCursor.mockResize`). -/
theorem src_mock_cursor : Tickit.Gen.WinFocusSrc.mockCursorAsModelled = true := by decide

/-- `_do_restore` still walks `focused_child` from the root, stopping at the first invisible window. -/
theorem src_restore_walk : Tickit.Gen.WinFocusSrc.restoreWalkAsModelled = true := by decide

/-- The condition under which `_do_restore` shows the cursor is the one the model transcribes. -/
theorem src_restore_condition :
    Tickit.Gen.WinFocusSrc.restoreCondition =
      (if Tickit.Gen.WinFocusSrc.fixes.hiddenRoot then
         ["win", "win->is_visible", "win->is_focused", "win->cursor.visible",
          "_cell_visible(win,win->cursor.line,win->cursor.col)"]
       else
         ["win", "win->is_focused", "win->cursor.visible", "_cell_visible(win,win->cursor.line,win->cursor.col)"]) :=
  rfl

/-- A three-level tree with an overlapping sibling, a hidden window and a focus chain: the hypotheses of the theorems
    above are inhabited by a non-trivial state, and the conclusion is not the trivial "hidden". -/
def demoTree : Tree :=
  { wins := #[{ rect := ⟨0, 0, 8, 16⟩, isRoot := true, children := [2, 1], focusedChild := some 1 },
              { rect := ⟨1, 1, 5, 8⟩, parent := some 0, children := [3], focusedChild := some 3, isFocused := true },
              { rect := ⟨4, 6, 3, 6⟩, parent := some 0 },
              { rect := ⟨1, 1, 3, 5⟩, parent := some 1, isFocused := true,
                cursor := { line := 1, col := 2, shape := 2, visible := true, blink := 1 } }],
    root := { needsRestore := true, needsLater := true } }

example : wfB demoTree = true := by decide +kernel
example : rootVisible demoTree = true := by decide +kernel
example : cursorSpec demoTree = some (3, 4, 2) := by decide +kernel
example : ∃ calls, doRestore Fixes.none demoTree = .ok calls ∧
    (({} : TermCursor).applyAll calls).matches (cursorSpec demoTree) = true ∧ calls.length = 4 := by
  exact ok_of_check (by decide +kernel)
/-- the same cell covered by the front sibling: hidden -/
example : cursorSpec { demoTree with wins := demoTree.wins.modify 3 (fun w => { w with cursor := { w.cursor with line := 2, col := 4 } }) } = none := by
  decide +kernel
example : ∃ out, flush Fixes.none demoTree = .ok out ∧ out.calls = [.goto 3 4, .shape 2, .blink 1, .vis 1] := by
  exact ok_of_check (by decide +kernel)
example : ∃ r, takeFocus Fixes.none demoTree 2 = .ok r ∧
    r.2 = [⟨3, .focusOut, 3⟩, ⟨1, .focusOut, 1⟩, ⟨2, .focusIn, 2⟩] := by
  exact ok_of_check (by decide +kernel)
example : holder childFocusedTree = some 1 := by decide +kernel
/-- `loser_told_partial` is not vacuous: in `demoTree` window 3 holds the focus and its cousin 2 can take it -/
example : holder demoTree = some 3 ∧ VisPath demoTree 2 ∧ Anc demoTree 2 0 ∧ ¬ Anc demoTree 3 2 ∧ ¬ Anc demoTree 2 3 := by
  refine ⟨by decide +kernel, .step rfl rfl rfl rfl (.top rfl rfl rfl),
    .step ⟨rfl, rfl⟩ rfl (.refl 0), ?_, ?_⟩
  · intro h
    cases h with
    | step hw hp hrest =>
      have hw3 := Live.unique hw ⟨rfl, rfl⟩
      subst hw3
      cases hp
      have := anc_le (by decide +kernel : wfB demoTree = true) hrest
      omega
  · intro h
    have := anc_le (by decide +kernel : wfB demoTree = true) h
    omega
/-- `branch_told_out` is not vacuous: window 1 (asking) sits above the holder 3; its cousin 2 takes the focus -/
def demoTreeNotify : Tree :=
  { demoTree with wins := demoTree.wins.modify 1 (fun w => { w with focusChildNotify := true }) }
example : Reaches demoTreeNotify 2 0 2 ∧ FcChain demoTreeNotify 1 1 ∧
    (∃ r, takeFocus Fixes.all demoTreeNotify 2 = .ok r ∧
      r.2 = [⟨3, .focusOut, 3⟩, ⟨1, .focusOut, 3⟩, ⟨1, .focusOut, 1⟩, ⟨2, .focusIn, 2⟩]) :=
  ⟨.here rfl rfl rfl rfl, .here 1, ok_of_check (by decide +kernel)⟩
example : Reaches demoTree 3 0 1 :=
  .up rfl rfl rfl rfl (.here rfl rfl rfl rfl)
example : VisPath demoTree 3 :=
  .step rfl rfl rfl rfl (.step rfl rfl rfl rfl (.top rfl rfl rfl))
/-- a short history through the history-level vocabulary: create, focus, flush -/
example : ∃ s, runOps Fixes.none { tree := newRoot 6 10 }
    [.newWin 0 ⟨1, 1, 3, 3⟩ false false false false, .curpos 1 1 2, .focus 1, .flush] = .ok s ∧
    s.term.matches (cursorSpec s.tree) = true ∧ cursorSpec s.tree = some (2, 3, 1) := by
  exact ok_of_check (by decide +kernel)
/-- a history with restacking: two overlapping siblings, the focused one's cursor cell lies in the overlap; behind its
    sibling the cursor is hidden, raised to the front it shows, lowered again it is hidden (repaired source) -/
def restackOps1 : List Op :=
  [.newWin 0 ⟨1, 1, 3, 3⟩ false false false false, .newWin 0 ⟨2, 2, 3, 3⟩ false false false false,
   .curpos 1 1 1, .focus 1, .flush]
example : (∀ op ∈ restackOps1 ++ [.restack .raiseFront 1], op.plain) := by
  intro op h; simp [restackOps1] at h; rcases h with h | h | h | h | h | h <;> subst h <;> simp [Op.plain, Change.isRestack]
example : ∃ s, runOps Fixes.all { tree := newRoot 6 10 } restackOps1 = .ok s ∧ cursorSpec s.tree = none ∧
    s.term.matches none = true := by
  exact ok_of_check (by decide +kernel)
example : ∃ s, runOps Fixes.all { tree := newRoot 6 10 } (restackOps1 ++ [.restack .raiseFront 1, .flush]) = .ok s ∧
    cursorSpec s.tree = some (2, 2, 1) ∧ s.term.matches (some (2, 2, 1)) = true := by
  exact ok_of_check (by decide +kernel)
example : ∃ s, runOps Fixes.all { tree := newRoot 6 10 }
      (restackOps1 ++ [.restack .raiseFront 1, .flush, .restack .lower 1, .flush]) = .ok s ∧
    cursorSpec s.tree = none ∧ s.term.matches none = true := by
  exact ok_of_check (by decide +kernel)

/-- the mock terminal: a window with an explicit blink mode and a bar cursor; the mock reports shape 2 (not the blink
    value), position 3,4, visible -/
example : ∃ out, flush Fixes.none demoTree = .ok out ∧
    TermCursor.mockInit.applyAllMock 8 12 out.calls = { vis := 1, line := 3, col := 4, shape := 2, blink := 1 } := by
  exact ok_of_check (by decide +kernel)
/-- the terminal shrinks through the focused window: the hypotheses of `resize_preserves_good` and of the resize
    theorems hold of `shrinkTree`, and the event changes what the cursor has to be -/
example : Good15 shrinkTree := good15_of_B (by decide)
example : cursorSpec shrinkTree = some (2, 2, 1) := by decide +kernel
example : ∃ t', termResize Fixes.all shrinkTree 2 2 = .ok t' ∧ cursorSpec t' = none ∧ t'.root.needsRestore = true := by
  exact ok_of_check (by decide +kernel)
/-- a history with a resize through the focused window and back: hidden after the first flush, shown again after the second -/
example : ∃ s, runOps Fixes.all { tree := newRoot 6 10 }
    [.newWin 0 ⟨1, 1, 3, 3⟩ false false false false, .curpos 1 1 1, .focus 1, .flush, .termResize 2 2, .flush] = .ok s ∧
    s.term.vis = 0 := by
  exact ok_of_check (by decide +kernel)
example : ∃ s, runOps Fixes.all { tree := newRoot 6 10 }
    [.newWin 0 ⟨1, 1, 3, 3⟩ false false false false, .curpos 1 1 1, .focus 1, .flush, .termResize 2 2, .flush,
     .termResize 6 10, .flush] = .ok s ∧ s.term = { vis := 1, line := 2, col := 2, shape := 1, blink := -1 } := by
  exact ok_of_check (by decide +kernel)

/-- a history on the mock terminal: blink mode set explicitly, bar cursor, a resize through the window and back -/
example : ∃ s, runOpsMock Fixes.all { tree := newRoot 6 10, lines := 6, cols := 10 }
    [.newWin 0 ⟨1, 1, 3, 3⟩ false false false false, .curshape 1 3, .curblink 1 1, .curpos 1 1 1, .focus 1, .flush] = .ok s ∧
    s.term = { vis := 1, line := 2, col := 2, shape := 3, blink := 1 } := by
  exact ok_of_check (by decide +kernel)
example : ∃ s, runOpsMock Fixes.all { tree := newRoot 6 10, lines := 6, cols := 10 }
    [.newWin 0 ⟨1, 1, 3, 3⟩ false false false false, .curshape 1 3, .curblink 1 1, .curpos 1 1 1, .focus 1, .flush,
     .termResize 2 2, .flush] = .ok s ∧ s.term = { vis := 0, line := 1, col := 1, shape := 3, blink := 1 } := by
  exact ok_of_check (by decide +kernel)

/-- `hide_show_roundtrip` is not vacuous: the focused window sits two levels below the window that is hidden and shown -/
example : wfB deepChainTree = true := by decide +kernel
example : cursorSpec deepChainTree = some (1, 2, 1) := by decide +kernel
example : ∃ t1 t2, hideWin Fixes.all deepChainTree 1 = .ok t1 ∧ wfB t1 = true ∧ cursorSpec t1 = none ∧
    showWin Fixes.all t1 1 = .ok t2 ∧ cursorSpec t2 = some (1, 2, 1) ∧ t2.root.needsRestore = true := by
  refine ⟨_, _, rfl, ?_, ?_, rfl, ?_, ?_⟩ <;> decide +kernel
/-- `restore_requested_reposition`: the focused window moves outside its parent; a restore is pending and the cursor has
    to go -/
example : ∃ t', reposition deepChainTree 3 20 40 = .ok t' ∧ t'.root.needsRestore = true ∧ cursorSpec t' = none := by
  exact ok_of_check (by decide +kernel)

/-- bursts of restacking requests through the history-level vocabulary: the hypotheses of `history_restack_order` are
    satisfiable, and the library (model) does what `cursorSpecReq` says in both orders -/
example : (∀ r ∈ [(Change.raiseFront, 2), (Change.raiseFront, 1)], r.1.isRestack = true) := by decide +kernel
example : ∃ s, runOps Fixes.all { tree := newRoot 6 10 }
      (restackOps1 ++ reqOps [(.raiseFront, 2), (.raiseFront, 1)] ++ [.flush]) = .ok s ∧
    cursorSpec s.tree = some (2, 2, 1) ∧ s.term.matches (some (2, 2, 1)) = true := by
  exact ok_of_check (by decide +kernel)
example : ∃ s, runOps Fixes.all { tree := newRoot 6 10 }
      (restackOps1 ++ reqOps [(.raiseFront, 1), (.raiseFront, 2)] ++ [.flush]) = .ok s ∧
    cursorSpec s.tree = none ∧ s.term.matches none = true := by
  exact ok_of_check (by decide +kernel)
example : stackSpec .raise [3, 1, 2] 2 = [3, 2, 1] ∧ stackSpec .lower [3, 1, 2] 3 = [1, 3, 2] ∧
    stackSpec .raiseFront [3, 1, 2] 2 = [2, 3, 1] ∧ stackSpec .lowerBack [3, 1, 2] 3 = [1, 2, 3] ∧
    stackSpec .raise [3, 1, 2] 3 = [3, 1, 2] ∧ stackSpec .lower [3, 1, 2] 2 = [3, 1, 2] ∧ stackSpec .raise [3, 1, 2] 7 = [3, 1, 2] := by
  decide +kernel

end Tickit.Props.C15
