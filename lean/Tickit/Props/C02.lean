import Tickit.Proof.WinExpose
import Tickit.Proof.WinFlush
import Tickit.Proof.WinHanded
import Tickit.Proof.RectSetInv
import Tickit.Gen.Win
import Tickit.Proof.WinRB
import Tickit.Proof.XTermDrv
import Tickit.Model.WinTextf
/-
  C02 — A window's drawing is confined to the cells it owns, in its own coordinates.

  Everything is about `WinFlush.flushRender beh st t`, the rendering half of `tickit_window_flush` (the model of the code
  after the `fix:` commits 7086a82, which cuts every damage rectangle down to the root window's current area, and
  1032b01, which renders nothing for a hidden root): it
  renders the damage set `t.root.damage` of tree `t` through `_do_expose` and flushes the buffer to the terminal.
  `beh w rect` is the drawing program window `w`'s expose handler runs when handed `rect`; the theorems hold for
  *every* `beh`, and `confinement` in addition for every program whatsoever run in the handler's place.
  Each handler invocation is a `Shot`: the window, the rectangle handed to it and the render buffer as the handler
  finds it.  Cells `(L, C)` are terminal cells.
-/
namespace Tickit.Props.C02
open Tickit WinTree WinRB WinFlush WinSpec

/-- **The rectangle handed to a handler always lies within the window's bounds** (and is not empty) — for the root
    window too, whatever the pending damage is (this is what failed after a terminal shrink before the fix). -/
theorem handed_rect_in_bounds (beh : Id → Rect → List DrawOp) (st st' : St) (t : Tree) (shots : List Shot)
    (h : flushRender beh st t = .ok (st', shots)) :
    ∀ sh ∈ shots, InB st'.tree sh.win sh.rect :=
  flushRender_inB beh st st' t shots h

/-- **Ownership**: a cell the buffer lets the handler of window `w` touch is a damaged cell that `w` owns in the
    painter's-model composition (within `w`'s bounds and every ancestor's, not covered by a visible child or by a
    higher sibling of `w` or of an ancestor), and the buffer's translation is `w`'s top-left corner: the cell is
    `(L - xl, C - xc)` in `w`'s coordinates. -/
theorem do_expose_ownership (beh : Id → Rect → List DrawOp) (st st' : St) (t : Tree) (shots : List Shot)
    (h : flushRender beh st t = .ok (st', shots)) (hroot : RootOk t) :
    ∀ sh ∈ shots, ∀ L C, sh.rb.writable L C = true →
      Covered t.root.damage L C ∧ ownerAt st'.tree L C = some (sh.win, L - sh.rb.xl, C - sh.rb.xc) :=
  fun sh hsh L C hw => (flushRender_shots beh st st' t shots h hroot).1 sh hsh L C hw

/-- … and conversely every damaged cell inside the root window is offered to some handler (by `do_expose_ownership`, its
    owner's). -/
theorem do_expose_ownership_complete (beh : Id → Rect → List DrawOp) (st st' : St) (t : Tree) (shots : List Shot)
    (h : flushRender beh st t = .ok (st', shots)) (hroot : RootOk t) (hflag : t.root.needsExpose = true) :
    ∀ L C, Covered t.root.damage L C → (ownerAt st'.tree L C).isSome = true →
      ∃ sh ∈ shots, sh.rb.writable L C = true :=
  fun L C hc ho => (flushRender_shots beh st st' t shots h hroot).2 hflag L C hc ho

/-- **Confinement**: whatever drawing program runs in the place of a handler — text, erase, characters, line segments,
    skips, clears, copies and moves of rectangles at any coordinates, with any translation, clip and pen changes, saved and
    restored (`save` / `savepen` / `restore`) in any nesting — the only buffer cells that change are damaged cells owned
    by that handler's window; positions are relative to the window's top-left corner. -/
theorem confinement (beh : Id → Rect → List DrawOp) (st st' : St) (t : Tree) (shots : List Shot)
    (h : flushRender beh st t = .ok (st', shots)) (hroot : RootOk t) :
    ∀ sh ∈ shots, ∀ (prog : List DrawOp) (L C : Int), (sh.rb.run prog).cells L C ≠ sh.rb.cells L C →
      Covered t.root.damage L C ∧ ownerAt st'.tree L C = some (sh.win, L - sh.rb.xl, C - sh.rb.xc) := by
  intro sh hsh prog L C hne
  cases hw : sh.rb.writable L C with
  | true => exact do_expose_ownership beh st st' t shots h hroot sh hsh L C hw
  | false => exact absurd (run_cells_of_not_writable prog sh.rb (flushRender_shots_masksLe beh st st' t shots h sh hsh) L C hw) hne

/-- The same on the terminal: whatever all the handlers draw, a terminal cell that the flush changes is a damaged
    cell inside the root window. -/
theorem screen_change_confined (beh : Id → Rect → List DrawOp) (st st' : St) (t : Tree) (shots : List Shot)
    (h : flushRender beh st t = .ok (st', shots)) :
    ∀ L C, st'.screen L C ≠ st.screen L C → Covered t.root.damage L C :=
  flushRender_frame beh st st' t shots h

/-- A hidden root window is not painted (what failed before the fix 1032b01): no handler runs, no cell changes. -/
theorem hidden_root_not_painted (beh : Id → Rect → List DrawOp) (st st' : St) (t : Tree) (shots : List Shot)
    (h : flushRender beh st t = .ok (st', shots)) (root : Win) (hr : t.wins[0]? = some root)
    (hv : root.isVisible = false) : shots = [] ∧ st'.screen = st.screen :=
  flushRender_hidden_root beh st st' t shots h root hr hv

/-- Terminal 4 × 8; window 1 at (1,1) 2 × 4; window 2 at (0,3) 3 × 4 in front of it; window 3, child of 1, at (0,2)
    2 × 4 (sticking out); window 4 hidden. -/
def exampleState : Res St := do
  let st := St.init 4 8 (some { fg := some 1 })
  let (st, _) ← newWin st 0 ⟨1, 1, 2, 4⟩ false false false false (some { fg := some 2 })
  let (st, _) ← newWin st 0 ⟨0, 3, 3, 4⟩ false false false false (some { fg := some 3 })
  let (st, _) ← newWin st 1 ⟨0, 2, 2, 4⟩ false false false false none
  let (st, _) ← newWin st 0 ⟨2, 0, 2, 8⟩ false true false false none
  pure st

/-- An adversarial behaviour: every handler erases a huge rectangle and writes far outside its window. -/
def wild : Id → Rect → List DrawOp :=
  fun _ _ => [.eraseRect ⟨-50, -50, 100, 100⟩, .textAt (-1) (-3) [65, 66, 67, 68, 69, 70, 71, 72], .clear]

def eventsOf (r : Res (St × List Shot)) : Option (List Ev) :=
  match r with
  | .ok (_, shots) => some (shots.map Shot.ev)
  | .ub _ => none

/-- The hypotheses of the theorems are inhabited: the flush of that state succeeds and runs four handlers, front-most
    first, children before their parent; window 3 is handed only the part of it inside window 1; the hidden window 4
    is not asked. -/
example : eventsOf (exampleState >>= fun st => flush wild st) =
    some [(2, ⟨0, 0, 3, 4⟩), (3, ⟨0, 0, 2, 2⟩), (1, ⟨0, 0, 2, 4⟩), (0, ⟨0, 0, 4, 8⟩)] := by
  decide +kernel

/-- The terminal-shrink scenario after the fix: the 3 × 5 root is handed its own area, not the old 6 × 12 one. -/
theorem root_shrink_regression :
    eventsOf (termResize (St.init 6 12 none) 3 5 >>= fun st => flush (fun _ _ => []) st) = some [(0, ⟨0, 0, 3, 5⟩)] := by
  decide +kernel

/-- The rectangles handed to one window during one flush are pairwise disjoint, provided the
    damage set holds pairwise disjoint rectangles (C05's invariant of the stored set) and no window occurs twice in
    the tree (`visitIds`: the windows reachable from the root through the child lists, with multiplicity). -/
theorem handed_rects_disjoint (beh : Id → Rect → List DrawOp) (st st' : St) (t : Tree) (shots : List Shot)
    (h : flushRender beh st t = .ok (st', shots))
    (hdis : t.root.damage.Pairwise Rect.Disjoint)
    (hnd : (visitIds st'.tree (st'.tree.wins.size + 1) 0).Nodup) :
    ∀ w, ((shots.map Shot.ev).filter (fun e => e.1 = w)).Pairwise (fun a b => Rect.Disjoint a.2 b.2) :=
  flushRender_handed_disjoint beh st st' t shots h hdis hnd

/-- The same with the invariant of the rectangle set as C05 proves it (`RectSet.Inv`: kept by every `add`, `subtract`,
    `translate`, `clear`, hence by every window operation, all of which change the damage set only through those):
    the disjointness hypothesis is discharged. -/
theorem handed_rects_disjoint_of_inv (beh : Id → Rect → List DrawOp) (st st' : St) (t : Tree) (shots : List Shot)
    (h : flushRender beh st t = .ok (st', shots))
    (hinv : RectSet.Inv t.root.damage)
    (hnd : (visitIds st'.tree (st'.tree.wins.size + 1) 0).Nodup) :
    ∀ w, ((shots.map Shot.ev).filter (fun e => e.1 = w)).Pairwise (fun a b => Rect.Disjoint a.2 b.2) :=
  handed_rects_disjoint beh st st' t shots h hinv.2.1 hnd

/-- Non-vacuity: in the example tree no window occurs twice and the damage set is a single rectangle. -/
example : (match exampleState with
    | .ok st => decide ((visitIds st.tree (st.tree.wins.size + 1) 0).Nodup) && decide (st.tree.root.damage = [⟨0, 0, 4, 8⟩])
    | .ub _ => false) = true := by
  decide +kernel

/-! ### the wider drawing vocabulary: line segments, copies and moves of rectangles, save / savepen / restore

  `confinement`, `do_expose_ownership` and `screen_change_confined` above hold for every behaviour `beh`, hence for handlers
  that draw line segments, copy and move rectangles and save and restore the buffer's state in any nesting.  The theorems
  of this section state, operation by operation, the three facts those proofs rest on — each is the clause one seeded
  change of the library broke. -/

/-- **Line segments stop at a mask**: a cell the buffer does not let the handler touch — covered by a visible child or by
    a higher sibling, or outside the clip — keeps what it holds, also when it already holds line segments (the border the
    covering window drew) and the new segment runs straight through it: nothing is merged into a LINE cell under a mask. -/
theorem line_segments_confined (rb : RB) (L C : Int) (h : rb.writable L C = false) :
    (∀ line c0 c1 style caps, (rb.hlineAt line c0 c1 style caps).cells L C = rb.cells L C) ∧
    (∀ l0 l1 col style caps, (rb.vlineAt l0 l1 col style caps).cells L C = rb.cells L C) :=
  ⟨fun line c0 c1 style caps => (paints_hlineAt rb line c0 c1 style caps).cells L C h,
   fun l0 l1 col style caps => (paints_vlineAt rb l0 l1 col style caps).cells L C h⟩

/-- … in particular a masked LINE cell keeps its segments and its pen. -/
theorem masked_line_cell_kept (rb : RB) (L C : Int) (pen : Pen) (mask : Nat) (hm : rb.masked L C = true)
    (hc : rb.cells L C = some (.line pen mask)) (line c0 c1 : Int) (style caps : Nat) :
    (rb.hlineAt line c0 c1 style caps).cells L C = some (.line pen mask) := by
  rw [(line_segments_confined rb L C (by simp [RB.writable, hm])).1, hc]

/-- **A copy or a move of a rectangle is confined like any other drawing and leaves the buffer's frame alone**: cells the
    buffer does not let the handler touch keep their value, and the save/restore stack (with the frame
    `tickit_window_flush` / `_do_expose` pushed for the window: damage clip, window bounds, translation), the masks of the
    windows in front, the clip, the translation and the pen are what they were — whatever the two rectangles are and
    whatever runs of cells the copy walks over or overwrites. -/
theorem copy_move_confined (rb : RB) (dest src : Rect) :
    (∀ L C, rb.writable L C = false →
      (rb.copyRect dest src).cells L C = rb.cells L C ∧ (rb.moveRect dest src).cells L C = rb.cells L C) ∧
    ((rb.copyRect dest src).stack = rb.stack ∧ (rb.copyRect dest src).masks = rb.masks ∧
     (rb.copyRect dest src).clip = rb.clip ∧ (rb.copyRect dest src).xl = rb.xl ∧ (rb.copyRect dest src).xc = rb.xc ∧
     (rb.copyRect dest src).pen = rb.pen) ∧
    ((rb.moveRect dest src).stack = rb.stack ∧ (rb.moveRect dest src).masks = rb.masks ∧
     (rb.moveRect dest src).clip = rb.clip ∧ (rb.moveRect dest src).xl = rb.xl ∧ (rb.moveRect dest src).xc = rb.xc ∧
     (rb.moveRect dest src).pen = rb.pen) := by
  have c := copyRect_spec rb dest src
  have m := moveRect_spec rb dest src
  exact ⟨fun L C h => ⟨c.paints.cells L C h, m.paints.cells L C h⟩,
    ⟨c.paints.stack, c.paints.masks, c.paints.clip, c.xl, c.xc, c.pen⟩,
    ⟨m.paints.stack, m.paints.masks, m.paints.clip, m.xl, m.xc, m.pen⟩⟩

/-- What a copy inside its domain (`RB.copyDomain`: source inside the buffer, the walk of `copyrect` safe for the real
    displacement) leaves in a cell: a cell the buffer lets the handler touch whose pre-image lies in the source
    rectangle takes the source cell's content *as it was before the call* (its pen completed from the current pen, line
    segments merged); every other cell is untouched.  The source rectangle is in buffer coordinates, the destination goes
    through the translation (`copyRect_source_is_absolute` below). -/
theorem copyRect_cells (rb : RB) (dest src : Rect) (hne : ¬ (dest.top - src.top = 0 ∧ dest.left - src.left = 0))
    (hd : rb.copyDomain dest src = true) (L C : Int) :
    (rb.copyRect dest src).cells L C =
      if src.memb (L - (dest.top - src.top + rb.xl)) (C - (dest.left - src.left + rb.xc)) ∧ rb.writable L C then
        (rb.transfer rb.nextId (rb.cells (L - (dest.top - src.top + rb.xl)) (C - (dest.left - src.left + rb.xc)))
          (rb.cpen (L - (dest.top - src.top + rb.xl)) (C - (dest.left - src.left + rb.xc))) (rb.cells L C)).1
      else rb.cells L C := by
  unfold RB.copyRect
  simp only [hne, if_false, hd, Bool.not_true]
  rfl

/-- **`savepen` … `restore` (and `save` … `restore`) closes exactly the level it opened**: the masks of the windows in
    front — made at levels not above the current one — are still there afterwards, so what the buffer lets the handler
    (and every handler after it) touch is unchanged. -/
theorem save_restore_keeps_masks (rb : RB) (hm : MasksLe rb) :
    rb.savepen.restore.masks = rb.masks ∧ rb.save.restore.masks = rb.masks ∧
    (∀ L C, rb.savepen.restore.writable L C = rb.writable L C) ∧ (∀ L C, rb.save.restore.writable L C = rb.writable L C) := by
  have hf : rb.masks.filter (fun m => decide (m.2 ≤ rb.stack.length)) = rb.masks := filter_masks (m := []) nofun hm
  have h1 : rb.savepen.restore.masks = rb.masks := by simp [RB.savepen, RB.restore, hf]
  have h2 : rb.save.restore.masks = rb.masks := by simp [RB.save, RB.restore, hf]
  have c1 : rb.savepen.restore.clip = rb.clip := by simp [RB.savepen, RB.restore]
  have c2 : rb.save.restore.clip = rb.clip := by simp [RB.save, RB.restore]
  exact ⟨h1, h2, fun L C => writable_congr c1 h1 L C, fun L C => writable_congr c2 h2 L C⟩

/-- The same for a whole handler program, whatever it saves and restores: the stack, the masks and the size of the
    buffer are as the handler found them, it could only narrow what the buffer lets it touch, and no cell outside that
    changed.  (`MasksLe`: every mask was made at a level not above the current one — true of every buffer a handler is
    handed, `flushRender_shots_masksLe`.) -/
theorem program_keeps_frame (prog : List DrawOp) (rb : RB) (hm : MasksLe rb) :
    (rb.run prog).stack = rb.stack ∧ (rb.run prog).masks = rb.masks ∧
    (∀ L C, (rb.run prog).writable L C = true → rb.writable L C = true) ∧
    (∀ L C, rb.writable L C = false → (rb.run prog).cells L C = rb.cells L C) :=
  ⟨(run_sameFrame prog rb hm).stack, (run_sameFrame prog rb hm).masks, run_writable_sub prog rb hm,
   run_cells_of_not_writable prog rb hm⟩

theorem handler_buffers_masksLe (beh : Id → Rect → List DrawOp) (st st' : St) (t : Tree) (shots : List Shot)
    (h : flushRender beh st t = .ok (st', shots)) : ∀ sh ∈ shots, MasksLe sh.rb :=
  flushRender_shots_masksLe beh st st' t shots h

/-- Why the mask levels matter (the seeded change `savepen` without a level of its own): were a mask recorded one level
    *above* the stack it lives under, a `savepen` … `restore` pair would drop it. -/
theorem mask_above_level_dropped :
    let rb : RB := { (RB.new 1 2) with masks := [(⟨0, 1, 1, 1⟩, 1)] }
    rb.masked 0 1 = true ∧ rb.savepen.restore.masked 0 1 = false := by
  decide

/-- `copyrect` reads its source rectangle in *buffer* coordinates: under a translation (any window not at the terminal's
    origin) the text a handler has just drawn at its own `(0, 0)` is not what `copyRect ⟨0, 1, 1, 1⟩ ⟨0, 0, 1, 1⟩` copies —
    the buffer's `(0, 0)` is.  (src/renderbuffer.c, `copyrect`: "TODO: consider how this works in the presence of a
    translation offset"; property C13 is stated for "no translation in force".)  The destination is confined all the
    same (`copy_move_confined`): the quirk concerns where the copied content comes from, not which cells change. -/
theorem copyRect_source_is_absolute :
    let rb := ((RB.new 2 3).translate 1 0).textAt 0 0 [65]
    (match rb.cells 1 0 with | some (.plain x) => x.glyph | _ => 0) = 65 ∧
    (match (rb.copyRect ⟨0, 1, 1, 1⟩ ⟨0, 0, 1, 1⟩).cells 1 1 with | none => true | _ => false) = true := by
  decide +kernel

/-- **Both paths of `put_vtextf` hand `put_text` the formatted bytes** — results of fewer than 64 bytes from the array on the
    stack, longer ones from the buffer's scratch area — and **neither touches the count of valid scratch bytes**
    (`rb->tmplen`), which `flush_to_term` takes to be 0 when it starts collecting the bytes of a LINE run or a CHAR cell:
    so the bytes a flush prints for such a cell are that cell's own, whatever was formatted before in the same flush. -/
theorem putVtextf_text_and_scratch (sc : Scratch) (formatted : List Nat) :
    (putVtextf sc formatted).1 = formatted ∧ (putVtextf sc formatted).2.tmplen = sc.tmplen := by
  unfold putVtextf
  split <;> exact ⟨rfl, rfl⟩

/-- The formatted result of `"%*s"`: at least `pad` bytes and at least the text's, ending in the text. -/
theorem formatPad_length (pad : Nat) (bytes : List Nat) :
    (formatPad pad bytes).length = max pad bytes.length ∧ (formatPad pad bytes).drop (pad - bytes.length) = bytes := by
  unfold formatPad
  refine ⟨?_, ?_⟩
  · simp only [List.length_append, List.length_replicate]; omega
  · rw [List.drop_append]
    simp

theorem textfAt_eq_textAt (rb : RB) (decode : List Nat → List Nat) (l c : Int) (pad : Nat) (bytes : List Nat) :
    rb.textfAt decode l c pad bytes = rb.textAt l c (decode (formatPad pad bytes)) := by
  unfold RB.textfAt
  rw [(putVtextf_text_and_scratch {} _).1]

/-- **A printf-style text is confined like any other drawing**, however long the formatted result is (in particular 64
    bytes and more, the scratch-area path) and however small the window it is clipped to: a cell the buffer does not let
    the handler touch keeps its value, and the frame (`save` stack, masks, size, clip) is what it was. -/
theorem textf_confined (rb : RB) (decode : List Nat → List Nat) (l c : Int) (pad : Nat) (bytes : List Nat) :
    Paints rb (rb.textfAt decode l c pad bytes) := by
  rw [textfAt_eq_textAt]
  exact paints_textAt rb l c _

theorem textf_cells_of_not_writable (rb : RB) (decode : List Nat → List Nat) (l c : Int) (pad : Nat) (bytes : List Nat)
    (L C : Int) (h : rb.writable L C = false) : (rb.textfAt decode l c pad bytes).cells L C = rb.cells L C :=
  (textf_confined rb decode l c pad bytes).cells L C h

/-- Glyph and foreground of the cells `0 … n - 1` of screen row `l` after `r`. -/
def rowOf (r : Res (St × List Shot)) (l : Int) (n : Nat) : Option (List (Nat × Int)) :=
  match r with
  | .ok (st, _) => some ((List.range n).map fun (c : Nat) => ((st.screen l (c : Int)).glyph, (st.screen l (c : Int)).fg))
  | .ub _ => none

/-- Terminal 3 × 8, root (foreground 1) with a child (foreground 2) at (0, 5) of 2 × 3. -/
def twoWindows : Res St := do
  let st := St.init 3 8 (some { fg := some 1 })
  let (st, _) ← newWin st 0 ⟨0, 5, 2, 3⟩ false false false false (some { fg := some 2 })
  pure st

/-- The root's handler writes a short text, pulls the empty rest of the line two columns to the left over the text's end
    (`copyRect`: the copy moves a SKIP run over the start of that very run), and then clears "everything"; the child
    blanks itself.  Rows 0 and 1: the child's three cells are still the child's. -/
def pullLeft : Id → Rect → List DrawOp := fun w rect =>
  if w = 0 then [.textAt 1 0 [82, 82, 82], .copyRect ⟨1, 2, 1, 2⟩ ⟨1, 3, 1, 2⟩, .clear] else [.eraseRect rect]

example : rowOf (twoWindows >>= fun st => flush pullLeft st) 1 8 =
    some [(32, 1), (32, 1), (32, 1), (32, 1), (32, 1), (32, 2), (32, 2), (32, 2)] := by
  decide +kernel

/-- The child draws a border of line segments around itself; the root rules a horizontal line along row 0 and a vertical
    line down column 5, straight through the child's border: the child's cells keep their corners and edges
    (`┌ ─ ┐` / `└ ─ ┘`, foreground 2), the root's horizontal line (foreground 1) stops at the child and of its vertical
    line only the end below the child (`╵`) is there. -/
def ruledBox : Id → Rect → List DrawOp := fun w rect =>
  if w = 0 then [.eraseRect rect, .hline 0 0 7 1 0, .vline 0 2 5 1 0]
  else [.eraseRect rect, .hline 0 0 2 1 0, .hline 1 0 2 1 0, .vline 0 1 0 1 0, .vline 0 1 2 1 0]

example : rowOf (twoWindows >>= fun st => flush ruledBox st) 0 8 =
    some [(0x2576, 1), (0x2500, 1), (0x2500, 1), (0x2500, 1), (0x2500, 1), (0x250c, 2), (0x2500, 2), (0x2510, 2)] ∧
    rowOf (twoWindows >>= fun st => flush ruledBox st) 1 8 =
    some [(32, 1), (32, 1), (32, 1), (32, 1), (32, 1), (0x2514, 2), (0x2500, 2), (0x2518, 2)] ∧
    rowOf (twoWindows >>= fun st => flush ruledBox st) 2 8 =
    some [(32, 1), (32, 1), (32, 1), (32, 1), (32, 1), (0x2575, 1), (32, 1), (32, 1)] := by
  decide +kernel

/-- The child (3 columns wide) draws a label of 70 formatted bytes (`"%*s"`, pad 70: 67 blanks and `xyz`, moved left so that
    its end falls into the window) and a single character below it; the root blanks itself, rules a line along row 2 and
    writes a 70-byte label of its own from far left of the screen: rows 0 and 1 show the root's blanks up to the child and
    then the child's `xyz` / `*`, row 2 the root's line — nothing of either label anywhere else. -/
def longLabels : Id → Rect → List DrawOp := fun w rect =>
  if w = 0 then [.eraseRect rect, .hline 2 0 7 1 0, .textAt 1 (-66) ((putVtextf {} (formatPad 70 [113])).1)]
  else [.eraseRect rect, .textAt 0 (-67) ((putVtextf {} (formatPad 70 [120, 121, 122])).1), .charAt 1 1 42]

example : rowOf (twoWindows >>= fun st => flush longLabels st) 0 8 =
    some [(32, 1), (32, 1), (32, 1), (32, 1), (32, 1), (120, 2), (121, 2), (122, 2)] ∧
    rowOf (twoWindows >>= fun st => flush longLabels st) 1 8 =
    some [(32, 1), (32, 1), (32, 1), (113, 1), (32, 1), (32, 2), (42, 2), (32, 2)] ∧
    rowOf (twoWindows >>= fun st => flush longLabels st) 2 8 =
    some [(0x2576, 1), (0x2500, 1), (0x2500, 1), (0x2500, 1), (0x2500, 1), (0x2500, 1), (0x2500, 1), (0x2574, 1)] := by
  decide +kernel

/-- The root's handler draws a label under `savepen` … `restore` (and leaves a `save` open), then clears "everything":
    the child's cells are still the child's. -/
def labelled : Id → Rect → List DrawOp := fun w rect =>
  if w = 0 then [.savepen, .setPen { fg := some 1, b := some true }, .textAt 2 0 [98, 98], .restore, .save, .clear]
  else [.eraseRect rect]

example : rowOf (twoWindows >>= fun st => flush labelled st) 0 8 =
    some [(32, 1), (32, 1), (32, 1), (32, 1), (32, 1), (32, 2), (32, 2), (32, 2)] := by
  decide +kernel

/-! ### below the render buffer: a blank run in reverse video on the reference terminal

  In the xterm configuration of the check the window tree is flushed through the library's xterm driver and the bytes are
  interpreted by the VT reference interpreter (`Model/VT.lean`); the clauses above are judged on the screen it arrives at.
  Under reverse video the driver cannot use ECH (an erased cell does not take the reverse attribute) and writes the blanks
  of an ERASE run as literal spaces, in slices of 64 (`XTermDrv.erasech`; `Props.C09.erasech_effect` proves for every
  count that exactly `count` cells are blanked).  What the terminal does with them: -/

/-- **`n` spaces blank exactly `n` cells**: on the reference terminal, a run of `n` blanks that fits in the row, written
    as `n` literal spaces from the cursor, leaves every cell outside `[col, col + n)` of the cursor's row as it was — for
    every `n` (64, 128, … included) — and the cells inside take the current background and reverse attribute. -/
theorem spaces_blank_exactly (vt : VT.VTState) (n : Nat) (hn : 0 < n) (hg : vt.ps = .ground) (hpw : vt.pendingWrap = false)
    (hfit : vt.col + n ≤ vt.cols) (l c : Int) :
    (VT.run (List.replicate n (0x20 : UInt8)) vt).grid l c =
      if l = vt.row ∧ vt.col ≤ c ∧ c < vt.col + n then ⟨32, vt.bg, vt.rv⟩ else vt.grid l c := by
  have := XTermDrv.run_spaces vt hg hpw n (by omega) hfit
  rw [Int.toNat_natCast] at this
  rw [this]
  rfl

/-! ### facts regenerated from the C source on every run -/

/-- The window creation flags are four distinct bits (the harness and the model decode them one by one). -/
theorem gen_window_flags :
    [Gen.Win.flagHidden, Gen.Win.flagLowest, Gen.Win.flagRootParent, Gen.Win.flagStealInput] = [1, 2, 4, 8] := by
  decide

/-- The numbers the handler programs pass for line style and caps, and the position of each direction in a line mask, are
    the library's (`TICKIT_LINE_*`, `TICKIT_LINECAP_*`, the `*_SHIFT` enumerators of renderbuffer.c): `WinRB.lineCalls`
    tests `caps &&& 1` / `caps &&& 2`, `hlineAt` / `vlineAt` shift the style by them. -/
theorem gen_line_constants :
    [Gen.Win.linecapStart, Gen.Win.linecapEnd, Gen.LineChars.lineSingle, Gen.LineChars.lineDouble, Gen.LineChars.lineThick,
     Gen.LineChars.shiftNorth, Gen.LineChars.shiftEast, Gen.LineChars.shiftSouth, Gen.LineChars.shiftWest] =
    [1, 2, 1, 2, 3, 0, 2, 4, 6] ∧ Gen.LineChars.linemaskToChar.size = 256 := by
  decide +kernel

end Tickit.Props.C02
