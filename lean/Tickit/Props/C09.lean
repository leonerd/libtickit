import Tickit.Proof.XTermDrv
import Tickit.Proof.XTermOut
import Tickit.Model.XTermPenRgb
import Tickit.Gen.XTermFacts
import Tickit.Gen.TermBuf
/-
  C09 — xterm driver output has exactly the requested effect on a VT-conformant screen.

  `VT.run bytes vt` is the VT reference interpreter (Model/VT.lean, DESIGN.md Appendix C) applied to a byte string;
  `XTermDrv.*` is the byte-exact model of the driver's requests (Model/XTermDrv.lean).  Every theorem about a request is quantified
  over all screens `vt` satisfying `Spec.WF` (tokenizer in the ground state, cursor on the screen, no margins set),
  hence over every terminal size and content, over all in-range arguments, over the capability bits and over the
  reverse-video state.
-/
namespace Tickit.Props.C09
open Tickit Tickit.VT Tickit.XTermDrv

/-- What the driver prints with `%d` is read back as the same number. -/
theorem readInt_showInt (i : Int) : readInt (showInt i) = some i := by
  unfold showInt
  by_cases h : i < 0
  · simp only [h, if_true, readInt, readNat_showNat]
    congr 1; simp only [Int.ofNat_eq_natCast]; omega
  · simp only [h, if_false]
    cases hs : showNat i.toNat with
    | nil => exact absurd hs (showNat_ne_nil _)
    | cons b rest =>
      have hb := showNat_head_ne_minus i.toNat b rest hs
      simp only [readInt, hb, if_false]
      rw [← hs, readNat_showNat]
      simp only [Int.ofNat_eq_natCast, Int.toNat_of_nonneg (Int.not_lt.mp h)]

example : readInt (showInt (-1048576)) = some (-1048576) := readInt_showInt _

/-- `goto`: the cursor is exactly where requested (`-1` keeps a coordinate), the screen is untouched. -/
theorem goto_effect (vt : VTState) (hw : Spec.WF vt) (line col : Int)
    (hl : line = -1 ∨ (0 ≤ line ∧ line < vt.lines)) (hc : col = -1 ∨ (0 ≤ col ∧ col < vt.cols)) :
    run (gotoAbs line col) vt = Spec.goto line col vt := by
  rw [run_gotoAbs vt hw.ground line col (by omega) (by omega), Spec.goto]
  by_cases h : line = -1 ∧ col = -1
  · rw [if_pos h, if_pos h]
  · rw [if_neg h, if_neg h, moveTo_in vt _ _ (goto_coord_in ⟨hw.row_lo, hw.row_hi⟩ hl)
      (goto_coord_in ⟨hw.col_lo, hw.col_hi⟩ hc)]

example := goto_effect exScreen exScreen_wf 3 (-1) (by decide) (by decide)
example := goto_effect exScreen exScreen_wf 0 5 (by decide) (by decide)

/-- `move`: the cursor moves by exactly the requested offsets, the screen is untouched. -/
theorem move_effect (vt : VTState) (hw : Spec.WF vt) (downward rightward : Int)
    (hr : 0 ≤ vt.row + downward ∧ vt.row + downward < vt.lines)
    (hc : 0 ≤ vt.col + rightward ∧ vt.col + rightward < vt.cols) :
    run (moveRel downward rightward) vt = Spec.move downward rightward vt := by
  have hg := hw.ground
  rw [moveRel, run_append, run_signedSeq_vmove vt hg, Spec.move]
  by_cases hd : downward = 0
  · subst hd
    rw [if_pos rfl, run_signedSeq_hmove vt hg]
    by_cases hr0 : rightward = 0
    · rw [if_pos hr0, if_pos ⟨rfl, hr0⟩]
    · rw [if_neg hr0, if_neg (fun h => hr0 h.2), moveTo_in vt _ _ ⟨hw.row_lo, hw.row_hi⟩ hc, Int.add_zero]
  · rw [if_neg hd, if_neg (fun h => hd h.1), moveTo_in vt _ _ hr ⟨hw.col_lo, hw.col_hi⟩, run_signedSeq_hmove _ (by exact hg)]
    by_cases hr0 : rightward = 0
    · rw [if_pos hr0, hr0, Int.add_zero]
    · rw [if_neg hr0, moveTo_in _ _ _ (by exact hr) (by exact hc)]

example := move_effect exScreen exScreen_wf (-1) 3 (by decide) (by decide)

/-- `print` of printable ASCII text that fits in the row: exactly the cells under the text change, to the text's
    glyphs with the current attributes; the cursor ends after the text (on the last column with the wrap pending if
    the text ends exactly at the right edge). -/
theorem print_effect (fx : Fixes) (vt : VTState) (hw : Spec.WF vt) (hpw : vt.pendingWrap = false) (text : List UInt8)
    (hp : ∀ b ∈ text, 0x20 ≤ b ∧ b < 0x7f) (hne : text ≠ []) (hfit : vt.col + text.length ≤ vt.cols) :
    run (print fx text text.length) vt =
    { vt with
      grid := Spec.printGrid (text.map UInt8.toNat) vt,
      col := if vt.col + text.length < vt.cols then vt.col + text.length else vt.cols - 1,
      pendingWrap := decide (vt.col + text.length = vt.cols) } := by
  rw [print_all, run_ascii text hp hne vt hw.ground hpw hfit, Spec.placeCells, List.length_map]
  rfl

/-- four characters from column 2 of 6: the text ends exactly at the right edge -/
example := print_effect Fixes.none exScreen exScreen_wf rfl [0x68, 0x65, 0x79, 0x21] (by decide) (by decide) (by decide)

/-- The cells a printable character occupies are as many as the library's width counter says
    (`tickit_utf8_wcwidth`, and `tickit_utf8_count` of its encoding: C07 `put_count_roundtrip`). -/
theorem cells_are_library_width (cp : Nat) (hp : Spec.Printable cp) (fuel : Nat) :
    ((Spec.cellsOf cp).length : Int) = Width.wcwidth cp ∧
    Utf8.count (Utf8.memOfBytes (Utf8.putBytes cp)) (fuel + 2) none =
      .ret (Utf8.seqlen cp) ⟨Utf8.seqlen cp, 1, if Width.wcwidth cp > 0 then 1 else 0, Width.wcwidth cp⟩
        (Utf8.seqlen cp + 1) := by
  obtain ⟨p1, p2, p3⟩ := hp
  refine ⟨?_, Utf8.count_putBytes cp p1 p2 (by omega) fuel⟩
  have hnn : 0 ≤ Width.wcwidth cp := Utf8.wcwidth_nonneg (by unfold Utf8.IsControl; omega)
  rcases cellsOf_cases cp with ⟨hw, hc⟩ | ⟨hw, hc⟩ | ⟨hw, hc⟩ <;>
    (rw [hc]; unfold width at hw; simp only [List.length_cons, List.length_nil]; omega)

/-- `print` of any printable UTF-8 text — multi-byte, double-width and combining characters included — that fits
    in the row: exactly the cells under the text change, each character taking as many cells as the library's
    width counter gives it (glyph, glyph + continuation cell, or none for a combining character), with the current
    attributes; the cursor advances by the sum of the widths, or stays on the last column with the wrap pending
    when the text ends exactly at the right edge.  The text is given by its code points; the bytes are the
    library's own encoding of them. -/
theorem print_utf8_effect (fx : Fixes) (vt : VTState) (hw : Spec.WF vt) (hpw : vt.pendingWrap = false)
    (cps : List Nat) (hp : ∀ cp ∈ cps, Spec.Printable cp)
    (hfit : vt.col + (Spec.textCells cps).length ≤ vt.cols) :
    run (print fx (Spec.utf8 cps) (Spec.utf8 cps).length) vt = Spec.placeCells (Spec.textCells cps) vt := by
  rw [print_all, run_utf8 cps hp vt hw.ground, foldl_putGlyph cps vt hpw hw.col_hi hfit]

/-- "é", "一" (double width), "e" + combining acute, "€": 1 + 2 + 1 + 0 + 1 = 5 cells from column 1 of 6 -/
example := print_utf8_effect Fixes.none { exScreen with col := 1 } (by constructor <;> decide) rfl
  [0xe9, 0x4e00, 0x65, 0x301, 0x20ac] (by decide) (by decide +kernel)

/-- `printn(str, len)` sends exactly the first `len` bytes (the full clause for the byte count). -/
def C09_print_len (fx : Fixes) : Prop :=
  ∀ (str : List UInt8) (len : Nat), len ≤ str.length → print fx str len = str.take len

/-- The byte-count clause holds for every non-zero length. -/
theorem print_len_partial (fx : Fixes) (str : List UInt8) (len : Nat) (h : len ≠ 0) :
    print fx str len = str.take len := by
  simp [print, h]

/-- DEFECT (unchanged tree): `tickit_term_printn(tt, "abc", 0)` sends `abc`: `write_str` takes `len == 0` for
    "use `strlen`". -/
theorem print_zero_len_counterexample : ¬ C09_print_len Fixes.none := by
  intro h
  have h1 := h [0x61, 0x62, 0x63] 0 (by decide)
  revert h1
  decide

/-- With the guard of `fixes/C09_printn_zero_len.patch` the clause holds in full. -/
theorem print_len_of_guard (fx : Fixes) (hfx : fx.printnGuard = true) : C09_print_len fx := by
  intro str len _
  by_cases h : len = 0
  · subst h; simp [print, hfx]
  · exact print_len_partial fx str len h

/-- `clear`: every cell of the screen is blank with the current background; cursor and everything else unchanged. -/
theorem clear_effect (vt : VTState) (hw : Spec.WF vt) :
    run clear vt = { vt with grid := Spec.clearGrid vt } := by
  have e : clear = csi (showInt 2 ++ [0x4a]) := by decide
  rw [e, vtR.run_csi_n vt hw.ground 2 (by decide) 0x4a, dispatch_ed, VTState.ed]
  congr 1; funext l c
  simp [Spec.clearGrid, param, VTState.blank]

example := clear_effect exScreen exScreen_wf

/-- A request with `count < 1` emits nothing. -/
theorem erasech_noop (fx : Fixes) (rv : Bool) (count : Int) (me : MoveEnd) (h : count < 1) :
    erasech fx rv count me = [] := by
  simp [erasech, h]

/-- `erasech`, both strategies (ECH when the pen is not reverse video, spaces when it is), every `moveend`:
    exactly `count` cells from the cursor become blank with the current background (and the current reverse state),
    nothing else changes, and the cursor ends where `moveend` demands.
    `rv` is the reverse attribute of the driver's current pen, assumed equal to the terminal's.
    Hypotheses `h64` and `hlast` exclude exactly the two defects `erase_over_64_counterexample` and
    `erase_last_col_counterexample` below. -/
theorem erasech_effect (fx : Fixes) (vt : VTState) (hw : Spec.WF vt) (hpw : vt.pendingWrap = false)
    (rv : Bool) (hrv : vt.rv = rv)
    (count : Int) (me : MoveEnd) (h1 : 1 ≤ count) (hfit : vt.col + count ≤ vt.cols)
    (h64 : fx.eraseKeepsCount = false → rv = true → me = .no → count ≤ 64)
    (hlast : rv = true → me = .no → vt.col + count = vt.cols → vt.col = 0) :
    Spec.EraseOK count me vt (run (erasech fx rv count me) vt) :=
  run_erasech fx vt hw hpw rv hrv count me h1 hfit h64 hlast

/-- reverse video (spaces), `YES`, ending exactly at the last column; and `NO` in the middle of the row -/
example := erasech_effect Fixes.none exScreen exScreen_wf rfl true rfl 4 .yes (by decide) (by decide) (by intro _ _ h; cases h)
  (by intro _ h; cases h)
example := erasech_effect Fixes.none exScreen exScreen_wf rfl true rfl 2 .no (by decide) (by decide) (by intro _ _ _; decide)
  (by intro _ _ h; revert h; decide)
/-- ECH strategy -/
example := erasech_effect Fixes.none { exScreen with rv := false } (by constructor <;> decide) rfl false rfl 4 .yes
  (by decide) (by decide) (by intro _ h; cases h) (by intro h; cases h)

/-- A scroll that reports failure emits nothing. -/
theorem scroll_failure_silent (fx : Fixes) (caps : Caps) (termCols : Int) (rect : Rect) (downward rightward : Int)
    (h : (scrollrect fx caps termCols rect downward rightward).1 = false) :
    (scrollrect fx caps termCols rect downward rightward).2 = [] := by
  revert h
  exact scrollrect_elim fx caps termCols rect downward rightward (P := fun x => x.1 = false → x.2 = [])
    (fun _ _ h => by cases h) (fun _ _ _ _ h => by cases h) (fun _ _ _ _ h => by cases h) (fun _ => rfl)

example : (scrollrect Fixes.none ⟨false, false, false⟩ 80 ⟨3, 10, 5, 60⟩ 1 0) = (false, []) := by decide

/-- The scroll clause for a non-empty rectangle on the screen and offsets of ANY size, for either version of each of
    the two guards of `scrollrect`: a bound on an offset is needed only where the corresponding guard is missing from
    the source (`|downward| < lines` without the margin guard, `|rightward| < cols` without the margin guard or without
    the one-cell guard).  A scroll that reports success moves exactly the cells of the rectangle by the given offsets,
    blanks the vacated cells (all of them when an offset is at least the size), touches nothing outside and leaves no
    margins set. -/
theorem scroll_effect_general (fx : Fixes) (vt : VTState) (hw : Spec.WF vt) (caps : Caps) (hcaps : Spec.CapsOK caps vt)
    (rect : Rect) (downward rightward : Int)
    (hl1 : 1 ≤ rect.lines) (hc1 : 1 ≤ rect.cols) (htop : 0 ≤ rect.top) (hbot : rect.bottom ≤ vt.lines)
    (hleft : 0 ≤ rect.left) (hright : rect.right ≤ vt.cols)
    (hd : fx.scrollGuard = false → -rect.lines < downward ∧ downward < rect.lines)
    (hr : fx.scrollGuard = false ∨ fx.scrollCellGuard = false → -rect.cols < rightward ∧ rightward < rect.cols)
    (hone : fx.scrollGuard = false → ¬ OneColumnTrigger caps vt.cols rect downward)
    (hret : (scrollrect fx caps vt.cols rect downward rightward).1 = true) :
    Spec.ScrollOK rect downward rightward vt (run (scrollrect fx caps vt.cols rect downward rightward).2 vt) :=
  run_scrollrect fx vt hw caps hcaps rect downward rightward ⟨hl1, hc1, htop, hbot, hleft, hright⟩ hd hr hone hret

/-- A scroll that reports success moves exactly the cells of the rectangle by the given offsets, blanks the vacated
    cells (current background), touches nothing outside and leaves no margins set — for every screen, every in-range
    rectangle and offsets, both values of the DECSLRM capability, whichever of the strategies the driver picks (without the
    margin guard, the one-column trigger apart: `hone`). -/
theorem scroll_success_effect (fx : Fixes) (vt : VTState) (hw : Spec.WF vt) (caps : Caps) (hcaps : Spec.CapsOK caps vt)
    (rect : Rect) (downward rightward : Int) (hin : ScrollInRange vt rect downward rightward)
    (hone : fx.scrollGuard = false → ¬ OneColumnTrigger caps vt.cols rect downward)
    (hret : (scrollrect fx caps vt.cols rect downward rightward).1 = true) :
    Spec.ScrollOK rect downward rightward vt (run (scrollrect fx caps vt.cols rect downward rightward).2 vt) := by
  obtain ⟨hl1, hc1, htop, hbot, hleft, hright, hd, hr⟩ := hin
  exact scroll_effect_general fx vt hw caps hcaps rect downward rightward hl1 hc1 htop hbot hleft hright
    (fun _ => hd) (fun _ => hr) hone hret

/-- margins on all four sides, both offsets non-zero -/
example := scroll_success_effect Fixes.none exScreen exScreen_wf ⟨true, false, false⟩ (fun _ => rfl) ⟨1, 1, 2, 3⟩ 1 (-1)
  (by constructor <;> decide) (by intro _ h; revert h; decide) (by decide)
/-- ICH/DCH on three lines reaching the right edge, no DECSLRM capability -/
example := scroll_success_effect Fixes.none exScreen exScreen_wf ⟨false, true, true⟩ (by intro h; cases h) ⟨0, 2, 3, 4⟩ 0 2
  (by constructor <;> decide) (by intro _ h; revert h; decide) (by decide)
/-- one line between DECSLRM margins -/
example := scroll_success_effect Fixes.none exScreen exScreen_wf ⟨true, true, false⟩ (fun _ => rfl) ⟨2, 1, 1, 4⟩ 0 (-3)
  (by constructor <;> decide) (by intro _ h; revert h; decide) (by decide)

/-- The contract of a scroll request follows from the classical in-range contract (offsets smaller than the
    rectangle) for every version of the source … -/
theorem inContract_scroll_of_inRange (fx : Fixes) (d : Drv) (vt : VTState) (r : Rect) (dn rt : Int)
    (hin : ScrollInRange vt r dn rt) (hone : fx.scrollGuard = false → ¬ OneColumnTrigger d.caps vt.cols r dn) :
    InContract fx d vt (.scroll r dn rt) :=
  ⟨⟨hin.lines_pos, hin.cols_pos, hin.top, hin.bottom, hin.left, hin.right⟩, fun h => ⟨hin.down, hone h⟩, fun _ => hin.rightw⟩

/-- For the repaired source the contract of a scroll request follows from the rectangle being on the screen alone:
    offsets of ANY size are in range. -/
theorem inContract_scroll_any_offset (fx : Fixes) (hfx : fx.scrollGuard = true) (hcell : fx.scrollCellGuard = true)
    (d : Drv) (vt : VTState) (r : Rect) (dn rt : Int) (hon : RectOnScreen vt r) :
    InContract fx d vt (.scroll r dn rt) :=
  ⟨hon, fun h => absurd (hfx.symm.trans h) (by decide),
    fun h => h.elim (fun h => absurd (hfx.symm.trans h) (by decide)) (fun h => absurd (hcell.symm.trans h) (by decide))⟩

/-- One request, in range on a well-formed screen, has exactly its effect and leaves a well-formed screen on which
    the assumptions about the driver-side state still hold. -/
theorem request_effect (fx : Fixes) (d : Drv) (vt : VTState) (hw : Spec.WF vt) (hcaps : Spec.CapsOK d.caps vt)
    (hcols : d.cols = vt.cols) (hrv : vt.rv = d.pen.reverse) (q : Request) (hq : InContract fx d vt q) :
    StepOK fx d vt (run (request fx d q).2 vt) q ∧ Spec.WF (run (request fx d q).2 vt) ∧
    Spec.CapsOK d.caps (run (request fx d q).2 vt) ∧ d.cols = (run (request fx d q).2 vt).cols ∧
    (run (request fx d q).2 vt).rv = d.pen.reverse ∧ (run (request fx d q).2 vt).bg = vt.bg := by
  -- each request has its effect by the theorem about it (`run_erasech`, `run_scrollrect`: the general forms of
  -- `erasech_effect`, `scroll_effect_general`); what it leaves for the next one follows from the effect
  have hs : StepOK fx d vt (run (request fx d q).2 vt) q := by
    cases q with
    | goto line col => exact goto_effect vt hw line col hq.1 hq.2
    | move dn rt => exact move_effect vt hw dn rt hq.1 hq.2
    | print s n =>
      obtain ⟨hpw, rfl, -⟩ := hq
      exact fun cps hs hp hfit => hs ▸ print_utf8_effect fx vt hw hpw cps hp hfit
    | erasech n me =>
      obtain ⟨hpw, h1, hfit, h64, hlast⟩ := hq
      exact run_erasech fx vt hw hpw _ hrv n me h1 hfit h64 hlast
    | clear => exact clear_effect vt hw
    | scroll r dn rt =>
      obtain ⟨hon, hdn, hrt⟩ := hq
      simp only [request, StepOK]
      rw [hcols]
      cases hret : (scrollrect fx d.caps vt.cols r dn rt).1 with
      | false => rw [scroll_failure_silent fx d.caps vt.cols r dn rt hret, if_neg (by decide)]; rfl
      | true =>
        rw [if_pos rfl]
        exact run_scrollrect fx vt hw d.caps hcaps r dn rt hon (fun h => (hdn h).1) hrt (fun h => (hdn h).2) hret
  exact ⟨hs, (hs.redraw hw hq).keeps hw hcaps hcols hrv⟩

/-- THE PROPERTY, for sequences: starting from any well-formed screen of any size and content, with any capability
    combination and either state of reverse video, every request of a sequence of drawing requests that are in range
    when their turn comes has exactly the requested effect on the VT-conformant screen, and the screen stays well
    formed (no margins left set, tokenizer in the ground state, cursor on the screen). -/
theorem sequence_effect (fx : Fixes) (d : Drv) (qs : List Request) (vt : VTState) (hw : Spec.WF vt)
    (hcaps : Spec.CapsOK d.caps vt) (hcols : d.cols = vt.cols) (hrv : vt.rv = d.pen.reverse)
    (hq : AllInContract fx d vt qs) :
    AllStepsOK fx d vt qs ∧ Spec.WF (runRequests fx d vt qs) := by
  induction qs generalizing vt with
  | nil => exact ⟨trivial, hw⟩
  | cons q rest ih =>
    obtain ⟨hq1, hq2⟩ := hq
    obtain ⟨a, b, c, e, f, _⟩ := request_effect fx d vt hw hcaps hcols hrv q hq1
    have := ih _ b c e f hq2
    exact ⟨⟨a, this.1⟩, this.2⟩

/-- a goto, a print up to the right edge, a column-only goto back and a reverse-video erase, on `exScreen` -/
example : AllInContract Fixes.none ⟨⟨true, false, false⟩, 4, 6, ⟨true, some 3, some true⟩⟩ exScreen
    [.goto 2 3, .print [0x61, 0x62, 0x63] 3, .goto (-1) 1, .erasech 4 .no] :=
  ⟨⟨by decide, by decide⟩, ⟨by decide +kernel, rfl, [0x61, 0x62, 0x63], by decide, by decide, by decide +kernel⟩,
   ⟨by decide, by decide +kernel⟩,
   (by show _ ∧ _ ∧ _ ∧ _ ∧ _; decide +kernel), trivial⟩

/-! ### Pen changes: the SGR bytes keep the terminal's reverse video and background equal to the cached pen -/

theorem with_bg_rv_self (vt : VTState) : { vt with bg := vt.bg, rv := vt.rv } = vt := by cases vt; rfl

/-- `setpen` (pens carrying a background index and/or reverse video): the emitted SGR bytes change nothing but the
    rendering attributes, and afterwards the terminal's reverse video and background are the cached pen's — this
    is what `erasech_effect` assumes as `hrv`. -/
theorem setpen_effect (caps : Caps) (cache : PenCache) (pen : PenReq) (vt : VTState) (hw : Spec.WF vt)
    (hinv : Spec.PenInv cache vt) (hok : Spec.PenOK pen) :
    ∃ bg' rv', run (setpen caps cache pen).2 vt = { vt with bg := bg', rv := rv' } ∧
      Spec.PenInv (setpen caps cache pen).1 { vt with bg := bg', rv := rv' } := by
  -- an attribute that is not part of the change is one the cache holds with the value asked for
  refine penChange_penInv vt hw.ground caps.colon _ _ _ pen.bg _ hok hinv ?_ ?_ <;>
    (split; · rfl
     · next h => exact (by simpa using h : _ = some _).symm)

/-- `chpen`: likewise; attributes the pen does not mention keep their cached values. -/
theorem chpen_effect (caps : Caps) (cache : PenCache) (pen : PenReq) (vt : VTState) (hw : Spec.WF vt)
    (hinv : Spec.PenInv cache vt) (hok : Spec.PenOK pen) :
    ∃ bg' rv', run (chpen caps cache pen).2 vt = { vt with bg := bg', rv := rv' } ∧
      Spec.PenInv (chpen caps cache pen).1 { vt with bg := bg', rv := rv' } := by
  -- an attribute is part of the change only if the pen has it
  have some_of : ∀ {α : Type} [DecidableEq α] (c p : Option α) (d : α), changedBy c p = true → p = some (p.getD d) := by
    intro α _ c p d h; cases p with
    | none => cases h
    | some v => rfl
  refine penChange_penInv vt hw.ground caps.colon _ _ _ pen.bg _ hok hinv ?_ ?_ <;>
    (dsimp only [chpen]; split
     · next h => exact some_of _ _ _ h
     · rfl)

/-- A window resize (`VTState.resize`) leaves a well-formed screen well formed: the cursor is clamped into the new
    screen, the margins are those of the new screen, the tokenizer is untouched. -/
theorem resize_wf (vt : VTState) (hw : Spec.WF vt) (l c : Int) (fresh : Int → Int → Cell) (hl : 1 ≤ l) (hc : 1 ≤ c) :
    Spec.WF (vt.resize l c fresh) := by
  obtain ⟨g, r1, r2, c1, c2, m1, m2, m3, m4⟩ := hw
  refine ⟨g, ?_, ?_, ?_, ?_, rfl, rfl, rfl, rfl⟩ <;> simp only [VTState.resize] <;> omega

/-- A resize changes only the cells that were not on the old screen; everything the requests' specifications depend
    on besides size, cursor and margins (DECLRMM, rendering attributes) is kept. -/
theorem resize_keeps (vt : VTState) (l c : Int) (fresh : Int → Int → Cell) :
    (vt.resize l c fresh).lines = l ∧ (vt.resize l c fresh).cols = c ∧
    (vt.resize l c fresh).declrmm = vt.declrmm ∧ (vt.resize l c fresh).bg = vt.bg ∧ (vt.resize l c fresh).rv = vt.rv ∧
    ∀ l' c', l' < vt.lines → c' < vt.cols → (vt.resize l c fresh).grid l' c' = vt.grid l' c' := by
  refine ⟨rfl, rfl, rfl, rfl, rfl, ?_⟩
  intro l' c' h1 h2
  simp only [VTState.resize, h1, h2, and_self, if_true]

example := resize_wf exScreen exScreen_wf 2 9 (freshGrid 9) (by decide) (by decide)

/-- THE PROPERTY for whole histories, with the pen assumption discharged: starting from a well-formed screen whose
    reverse video and background agree with the driver's cached pen (as after start-up: `CSI m`, empty cache), every
    drawing request of a history of requests and pen changes, each in range at its turn, has exactly the requested
    effect; pen changes touch nothing but the rendering attributes; the screen stays well formed and the pen
    agreement is maintained — so the erase strategy is always chosen for the terminal's actual reverse state. -/
theorem ops_effect (fx : Fixes) (ops : List Op) (d : Drv) (vt : VTState) (hw : Spec.WF vt)
    (hcaps : Spec.CapsOK d.caps vt) (hcols : d.cols = vt.cols) (hpen : Spec.PenInv d.pen vt)
    (hc : AllOpsInContract fx (d, vt) ops) :
    AllOpsOK fx (d, vt) ops ∧ Spec.WF (runOps fx (d, vt) ops).2 ∧
    Spec.PenInv (runOps fx (d, vt) ops).1.pen (runOps fx (d, vt) ops).2 := by
  induction ops generalizing d vt with
  | nil => exact ⟨trivial, hw, hpen⟩
  | cons o rest ih =>
    obtain ⟨hc1, hc2⟩ := hc
    have step : ∀ s', s' = stepOp fx (d, vt) o → OpOK fx (d, vt) s' o ∧ Spec.WF s'.2 ∧ Spec.CapsOK s'.1.caps s'.2 ∧
        s'.1.cols = s'.2.cols ∧ Spec.PenInv s'.1.pen s'.2 := by
      rintro _ rfl
      cases o with simp only [stepOp]
      | req q =>
        obtain ⟨a, b, c, e, f, gbg⟩ := request_effect fx d vt hw hcaps hcols hpen.1 q hc1
        exact ⟨a, b, c, e, f, fun v hv => gbg.trans (hpen.2 v hv)⟩
      | setpen p => exact penChange_keeps hw hcaps hcols (setpen_effect d.caps d.pen p vt hw hpen hc1)
      | chpen p => exact penChange_keeps hw hcaps hcols (chpen_effect d.caps d.pen p vt hw hpen hc1)
      | resize l c => exact ⟨⟨rfl, rfl, rfl, rfl, rfl⟩, resize_wf vt hw l c (freshGrid c) hc1.1 hc1.2, hcaps, rfl, hpen⟩
      | suspend =>
        obtain ⟨a, r⟩ := penChange_keeps hw hcaps hcols (run_suspendBytes fx hc1.1 d.caps d.pen hc1.2 vt hw.ground)
        exact ⟨⟨a, rfl⟩, r⟩
    obtain ⟨a, b, c, e, f⟩ := step _ rfl
    have := ih _ _ b c e f hc2
    exact ⟨⟨a, this.1⟩, this.2⟩

/-- non-vacuity of the resize step of `ops_effect`: a scroll on the left half, the window grows from 6 to 9 columns,
    and the same rectangle (whose right edge is where the screen used to end) is scrolled again -/
example : AllOpsInContract Fixes.none (⟨⟨false, false, false⟩, 4, 6, PenCache.empty⟩, cexScreen 4 6)
    [.req (.scroll ⟨0, 0, 4, 6⟩ 1 0), .resize 4 9, .req (.scroll ⟨0, 0, 4, 6⟩ 1 0)] :=
  ⟨inContract_scroll_of_inRange _ _ _ _ _ _
     (by constructor <;> decide) (fun _ h => absurd h.1 (by decide)),
   ⟨by decide, by decide⟩,
   inContract_scroll_of_inRange _ _ _ _ _ _
     (by constructor <;> decide +kernel)
     (fun _ h => absurd h.1 (by decide)), trivial⟩

/-- non-vacuity of `ops_effect` / `buffered_history_effect` for the repaired source, where offsets of ANY size are in
    contract: a rectangle with margins on all four sides scrolled by more than its size in both directions (blanked),
    the single cell at the origin scrolled horizontally (refused: nothing sent), a one-line rectangle scrolled
    vertically (refused) -/
example : AllOpsInContract ⟨true, true, true, true, true⟩
    (⟨⟨true, false, false⟩, 4, 6, PenCache.empty⟩, { cexScreen 4 6 with declrmm := true })
    [.req (.scroll ⟨1, 1, 2, 3⟩ 5 (-3)), .req (.scroll ⟨0, 0, 1, 1⟩ 0 2), .req (.scroll ⟨2, 0, 1, 6⟩ 3 0)] :=
  ⟨inContract_scroll_any_offset _ rfl rfl _ _ _ _ _ (by constructor <;> decide),
   inContract_scroll_any_offset _ rfl rfl _ _ _ _ _
     (by constructor <;> decide +kernel),
   inContract_scroll_any_offset _ rfl rfl _ _ _ _ _
     (by constructor <;> decide +kernel), trivial⟩

/-- after start-up: `CSI m` has been sent and the cache is empty -/
example : Spec.PenInv PenCache.empty (cexScreen 4 6) := ⟨rfl, fun _ h => by cases h⟩

/-! ### Pause and resume: the terminal comes back as the driver takes it for -/

/-- `tickit_term_pause` resets the rendition and touches nothing else: no cell, not the cursor, not the margins —
    and not DECLRMM, the mode `start()` switched on and every `CSI Pl ; Pr s` of `scrollrect` relies on. -/
theorem pause_effect (vt : VTState) (hw : Spec.WF vt) :
    run pauseBytes vt = { vt with bg := -1, rv := false } := run_pauseBytes vt hw.ground

/-- `tickit_term_pause` followed by `tickit_term_resume` — for every screen, every capability combination and every
    cached pen: nothing but the rendering attributes is touched, they are the cached pen's again afterwards
    (`Spec.PenInv`, what selects the erase strategy), the screen is still well formed and the probed DECSLRM
    capability is still truthful (`Spec.CapsOK`: DECLRMM is as it was). -/
theorem suspend_effect (fx : Fixes) (hfx : fx.resumeResendsPen = true) (caps : Caps) (cache : PenCache)
    (hok : CacheOK cache) (vt : VTState) (hw : Spec.WF vt) (hcaps : Spec.CapsOK caps vt) :
    (∃ bg' rv', run (suspendBytes fx caps cache) vt = { vt with bg := bg', rv := rv' }) ∧
    Spec.PenInv cache (run (suspendBytes fx caps cache) vt) ∧ Spec.WF (run (suspendBytes fx caps cache) vt) ∧
    Spec.CapsOK caps (run (suspendBytes fx caps cache) vt) ∧
    (run (suspendBytes fx caps cache) vt).declrmm = vt.declrmm := by
  obtain ⟨e, w, c, -, p⟩ := penChange_keeps hw hcaps rfl (run_suspendBytes fx hfx caps cache hok vt hw.ground)
  exact ⟨⟨_, _, e⟩, p, w, c, by rw [e]⟩

/-- cached pen: background 3 + reverse video; the screen of the examples has DECLRMM set -/
example := suspend_effect ⟨false, false, false, true, false⟩ rfl ⟨true, false, false⟩ ⟨true, some 3, some true⟩
  (by intro v h; cases h; decide) exScreen exScreen_wf (fun _ => rfl)

/-- THE CLAUSE about scrolling, after a pause and a resume: a scroll that reports success still moves exactly the
    cells of the rectangle, blanks the vacated cells and touches nothing outside — the left/right margins it sets are
    still margins, because the pause did not switch DECLRMM off behind the driver's back. -/
theorem scroll_after_suspend (fx : Fixes) (hfx : fx.resumeResendsPen = true) (caps : Caps) (cache : PenCache)
    (hok : CacheOK cache) (vt : VTState) (hw : Spec.WF vt) (hcaps : Spec.CapsOK caps vt)
    (rect : Rect) (downward rightward : Int) (hin : ScrollInRange vt rect downward rightward)
    (hone : fx.scrollGuard = false → ¬ OneColumnTrigger caps vt.cols rect downward)
    (hret : (scrollrect fx caps vt.cols rect downward rightward).1 = true) :
    Spec.ScrollOK rect downward rightward (run (suspendBytes fx caps cache) vt)
      (run (scrollrect fx caps vt.cols rect downward rightward).2 (run (suspendBytes fx caps cache) vt)) := by
  obtain ⟨bg', rv', hrun, _⟩ := run_suspendBytes fx hfx caps cache hok vt hw.ground
  rw [hrun]
  exact scroll_success_effect fx { vt with bg := bg', rv := rv' } (hw.with_pen bg' rv') caps hcaps rect downward rightward
    ⟨hin.lines_pos, hin.cols_pos, hin.top, hin.bottom, hin.left, hin.right, hin.down, hin.rightw⟩ hone hret

/-- a partial-width rectangle (columns 1..3 of 6) scrolled down and left with DECSLRM, right after pause + resume -/
example := scroll_after_suspend ⟨false, false, false, true, false⟩ rfl ⟨true, false, false⟩ ⟨true, some 3, some true⟩
  (by intro v h; cases h; decide) exScreen exScreen_wf (fun _ => rfl) ⟨1, 1, 2, 3⟩ 1 (-1)
  (by constructor <;> decide)
  (fun _ h => absurd h.2.1 (by decide)) (by decide)

/-- Why the repair of `tickit_term_resume` (found by C12) is a hypothesis: in a tree without it the pen reset of the
    pause is not undone, and the terminal's reverse video no longer agrees with the cached pen that `erasech` reads. -/
theorem suspend_without_resend_counterexample :
    ¬ ∀ (caps : Caps) (cache : PenCache) (vt : VTState), CacheOK cache → Spec.WF vt → Spec.PenInv cache vt →
      Spec.PenInv cache (run (suspendBytes Fixes.none caps cache) vt) := by
  intro h
  have := (h ⟨true, false, false⟩ ⟨true, some 3, some true⟩ exScreen (by intro v h; cases h; decide) exScreen_wf
    ⟨rfl, fun v hv => by cases hv; rfl⟩).1
  revert this
  decide +kernel

/-- An in-range pen leaves the cache with an in-range background, and the empty cache has one: step by step, the
    contract of `Op.suspend` along a history. -/
theorem cache_stays_ok (caps : Caps) (cache : PenCache) (pen : PenReq) (hc : CacheOK cache) (hok : Spec.PenOK pen) :
    CacheOK (setpen caps cache pen).1 ∧ CacheOK (chpen caps cache pen).1 ∧ CacheOK PenCache.empty :=
  ⟨cacheOK_setpen caps cache pen hok, cacheOK_chpen caps cache pen hc hok, cacheOK_empty⟩

/-- non-vacuity of the `suspend` step of `ops_effect`: reverse-video pen, a partial-width scroll, pause + resume, the
    same scroll again, then an erase under the re-sent pen -/
example : AllOpsInContract ⟨false, false, false, true, false⟩ (⟨⟨true, false, false⟩, 4, 6, PenCache.empty⟩, { cexScreen 4 6 with declrmm := true })
    [.setpen ⟨some 3, some true⟩, .req (.scroll ⟨1, 1, 2, 3⟩ 1 0), .suspend, .req (.scroll ⟨1, 1, 2, 3⟩ 1 0),
     .req (.goto 0 0), .req (.erasech 2 .no)] := by
  refine ⟨by intro v h; cases h; decide, inContract_scroll_of_inRange _ _ _ _ _ _
    (by constructor <;> decide)
    (fun _ h => absurd h.2.1 (by decide)), ⟨rfl, by intro v h; cases h; decide⟩, ?_⟩
  refine ⟨inContract_scroll_of_inRange _ _ _ _ _ _
    (by constructor <;> decide +kernel)
    (fun _ h => absurd h.2.1 (by decide)), by show _ ∧ _; decide +kernel, ?_⟩
  exact ⟨by show _ ∧ _ ∧ _ ∧ _ ∧ _; decide +kernel, trivial⟩

/-! ### Formatted output: `tickit_term_printf` / `tickit_term_vprintf` -/

open Tickit.XTermOut in
/-- `tickit_term_printf` hands the driver exactly the formatted result — whatever its length (0, 63, 64, 65, … bytes:
    the two formatting passes of `tickit_term_vprintf` are sized by the first) and whatever the output buffer holds:
    delivered ++ pending grows by exactly those bytes, and the call always returns. -/
theorem printf_delivers (o : OutState) (hwf : TermBuf.WF o) (s : List UInt8) :
    ∃ o', XTermOut.printf o s = .ok o' ∧ TermBuf.Ext o o' s :=
  TermBuf.termVprintf_okExt hwf s

open Tickit.XTermOut in
/-- `tickit_term_printf` of any printable UTF-8 text that fits in the row, of any length in bytes: the terminal
    receives exactly the text (unbuffered terminal: at once), and the text has the effect of `print`: exactly the
    cells under it change, the cursor ends after it (`print_utf8_effect`). -/
theorem printf_effect (vt : VTState) (hw : Spec.WF vt) (hpw : vt.pendingWrap = false)
    (cps : List Nat) (hp : ∀ cp ∈ cps, Spec.Printable cp) (hfit : vt.col + (Spec.textCells cps).length ≤ vt.cols) :
    ∃ o', XTermOut.printf (fresh 0) (Spec.utf8 cps) = .ok o' ∧ delivered o' = Spec.utf8 cps ∧ o'.buf = [] ∧
      run (delivered o') vt = Spec.placeCells (Spec.textCells cps) vt := by
  obtain ⟨o', h, e⟩ := printf_delivers (fresh 0) (fresh_wf 0) (Spec.utf8 cps)
  have hb : o'.buf = [] := e.wf.nil (by rw [e.bufLen]; rfl)
  have hd := delivered_of_ext e hb
  refine ⟨o', h, hd, hb, ?_⟩
  rw [hd, run_utf8 cps hp vt hw.ground, foldl_putGlyph cps vt hpw hw.col_hi hfit]

/-- a formatted result of exactly 64 bytes (the size of `write_vstrf`'s stack buffer) on an 80-column row: all 64
    cells are written and the cursor ends on column 64 -/
example := printf_effect (cexScreen 2 80) (by constructor <;> decide) rfl (List.replicate 64 0x41)
  (by intro cp h; rw [List.eq_of_mem_replicate h]; decide) (by decide +kernel)

/-! ### The output buffer: the terminal sees the driver's bytes in the order they were written -/

open Tickit.XTermOut in
/-- THE PROPERTY behind an output buffer of any size `n` (0 = none), for whole histories of drawing requests,
    formatted prints, pen changes, pause + resume and flushes at any points, once the history ends with a flush:
    the byte stream the OUTPUT FUNCTION has received — `write_str` copies every string into the buffer piecewise and
    flushes it whenever it is full, a string longer than the whole buffer included — is, byte for byte and in order,
    what the driver wrote; interpreted by the reference terminal it therefore gives every request of the history
    exactly its requested effect (`ops_effect`), whatever was still pending in the buffer when a long text followed.
    (A resize while requested output may still be buffered is outside the contract: flush first.) -/
theorem buffered_history_effect (fx : Fixes) (n : Nat) (ts : List TOp) (hnr : ∀ t ∈ ts, ¬ IsResize t)
    (d : Drv) (vt : VTState) (hw : Spec.WF vt) (hcaps : Spec.CapsOK d.caps vt) (hcols : d.cols = vt.cols)
    (hpen : Spec.PenInv d.pen vt) (hc : AllOpsInContract fx (d, vt) (ts.flatMap plain)) :
    ∃ s', runT fx ⟨d, fresh n⟩ (ts ++ [.flush]) = some s' ∧ s'.o.buf = [] ∧
      delivered s'.o = tWritten fx d ts ∧
      run (delivered s'.o) vt = (runOps fx (d, vt) (ts.flatMap plain)).2 ∧
      AllOpsOK fx (d, vt) (ts.flatMap plain) ∧ Spec.WF (run (delivered s'.o) vt) := by
  obtain ⟨s1, h1, e1⟩ := runT_total fx ts ⟨d, fresh n⟩ (fresh_wf n) ⟨rfl, rfl⟩
  have hrun := runT_append_flush fx ts _ s1 h1
  obtain ⟨hs, hb⟩ := e1.flushed (Or.inl rfl)
  have hd : delivered (TermBuf.flush s1.o) = tWritten fx d ts := (delivered_eq _).trans hs
  have hops := ops_effect fx (ts.flatMap plain) d vt hw hcaps hcols hpen hc
  have hscreen := runOps_written fx ts d vt hnr
  refine ⟨_, hrun, hb, hd, ?_, hops.1, ?_⟩
  · rw [hd, hscreen]
  · rw [hd, ← hscreen]; exact hops.2.1

/-! ### The start-up probe: where the hypothesis `Spec.CapsOK` of the scroll theorems comes from -/

/-- The probe clause: whatever DECRPM value the terminal reports for mode 69, a claimed DECSLRM capability means that
    DECLRMM is set (`accept` = the values `on_modereport` takes for support). -/
def C09_probe_truthful (accept : List Nat) : Prop := ∀ v : Nat, ProbeTruthful accept v

/-- Exactly the accept lists made of "set" (1) and "permanently set" (3) are truthful. -/
theorem probe_truthful_iff (accept : List Nat) : C09_probe_truthful accept ↔ ∀ v ∈ accept, v = 1 ∨ v = 3 := by
  constructor
  · intro h v hv
    have := h v (by simpa [slrmCap] using hv)
    simpa [declrmmOfReply] using this
  · intro h v hv
    have hm : v ∈ accept := by simpa [slrmCap] using hv
    simpa [declrmmOfReply] using h v hm

/-- The unchanged tree (`value == 1 || value == 2`) claims DECSLRM for the reply "reset" (known finding
    slrm_probe_reset). -/
theorem probe_reset_counterexample : ¬ C09_probe_truthful [1, 2] := by
  intro h
  exact absurd (h 2 (by decide)) (by decide)

/-- With `fixes/C09_slrm_probe_reset.patch` (`value == 1 || value == 3`) the probe is truthful. -/
theorem probe_truthful_of_fix : C09_probe_truthful [1, 3] :=
  (probe_truthful_iff [1, 3]).2 (by intro v hv; simp at hv; omega)

/-- Accepting "permanently reset" (4) as well is not. -/
example : ¬ C09_probe_truthful [1, 2, 3, 4] := fun h => absurd (h 4 (by decide)) (by decide)

/-- A truthful probe gives `Spec.CapsOK` on the screen the reply describes, for the capabilities the driver then
    works with. -/
theorem probe_capsOK (accept : List Nat) (v : Nat) (colon rgb : Bool) (vt : VTState)
    (hvt : vt.declrmm = declrmmOfReply v) (h : ProbeTruthful accept v) :
    Spec.CapsOK ⟨slrmCap accept v, colon, rgb⟩ vt := by
  intro hs
  rw [hvt]
  exact h hs

example := probe_capsOK [1, 3] 1 false false { exScreen with declrmm := true } rfl (probe_truthful_of_fix 1)

/-! ### The full clauses, and the defects that refute them on the unchanged tree -/

/-- The scroll clause with no side condition beyond the in-range contract. -/
def C09_scroll_full (fx : Fixes) : Prop :=
  ∀ (vt : VTState), Spec.WF vt → ∀ (caps : Caps), Spec.CapsOK caps vt →
    ∀ (rect : Rect) (downward rightward : Int), ScrollInRange vt rect downward rightward →
      (scrollrect fx caps vt.cols rect downward rightward).1 = true →
      Spec.ScrollOK rect downward rightward vt (run (scrollrect fx caps vt.cols rect downward rightward).2 vt)

/-- The erase clause with no side condition beyond the in-range contract. -/
def C09_erase_full (fx : Fixes) : Prop :=
  ∀ (vt : VTState), Spec.WF vt → vt.pendingWrap = false → ∀ (rv : Bool), vt.rv = rv →
    ∀ (count : Int) (me : MoveEnd), 1 ≤ count → vt.col + count ≤ vt.cols →
      Spec.EraseOK count me vt (run (erasech fx rv count me) vt)

/-- The erase clause except for a reverse-video erase with `moveend = NO` ending exactly at the last column. -/
def C09_erase_upto_last_col (fx : Fixes) : Prop :=
  ∀ (vt : VTState), Spec.WF vt → vt.pendingWrap = false → ∀ (rv : Bool), vt.rv = rv →
    ∀ (count : Int) (me : MoveEnd), 1 ≤ count → vt.col + count ≤ vt.cols →
      (rv = true → me = .no → vt.col + count = vt.cols → vt.col = 0) →
      Spec.EraseOK count me vt (run (erasech fx rv count me) vt)

/-- DEFECT (unchanged tree): on a 5x4 terminal with DECSLRM available, `scrollrect((3,0) 2x1, +1, 0)` reports success
    but sends `CSI 4;5 r  CSI 1;1 s  CSI 4 H  CSI M  CSI r  CSI s`; a conformant terminal ignores the degenerate
    `CSI 1;1 s`, so `CSI M` deletes the whole of row 3 and cell (3,1), outside the rectangle, changes. -/
theorem scroll_one_column_counterexample : ¬ C09_scroll_full Fixes.none := by
  intro h
  have h1 := h { cexScreen 5 4 with declrmm := true } (by constructor <;> decide) ⟨true, false, false⟩ (fun _ => rfl)
    ⟨3, 0, 2, 1⟩ 1 0 (by constructor <;> decide) (by decide)
  have h2 := congrFun (congrFun h1.grid 3) 1
  revert h2
  decide +kernel

/-- With the guard of `fixes/C09_scroll_one_column.patch` the scroll clause holds in full. -/
theorem scroll_full_of_guard (fx : Fixes) (hfx : fx.scrollGuard = true) : C09_scroll_full fx := by
  intro vt hw caps hcaps rect d r hin hret
  exact scroll_success_effect fx vt hw caps hcaps rect d r hin (fun h => by rw [hfx] at h; cases h) hret

/-- DEFECT (unchanged tree): under reverse video `erasech(65, NO)` at column 0 of an 80-column terminal prints 65
    spaces and then `CSI D` (one column back): the chunk loop has reduced `count` to 1.  The cursor ends on column 64
    instead of 0. -/
theorem erase_over_64_counterexample : ¬ C09_erase_upto_last_col Fixes.none := by
  intro h
  have h1 := h { cexScreen 1 80 with rv := true } (by constructor <;> decide) rfl true rfl 65 .no (by decide) (by decide)
    (by decide)
  have h2 := h1.col_no
  revert h2
  decide +kernel

/-- With `fixes/C09_rv_erase_over_64.patch` only the last-column case remains excluded. -/
theorem erase_upto_last_col_of_fix (fx : Fixes) (hfx : fx.eraseKeepsCount = true) : C09_erase_upto_last_col fx := by
  intro vt hw hpw rv hrv count me h1 hfit hlast
  exact erasech_effect fx vt hw hpw rv hrv count me h1 hfit (fun h => by rw [hfx] at h; cases h) hlast

/-- DEFECT (with or without the proposed repairs): under reverse video `erasech(1, NO)` on the last column of a
    2-column terminal prints a space — the cursor stays on the last column with the wrap pending — and then `CSI D`,
    which lands on column 0: one cell left of the requested position. -/
theorem erase_last_col_counterexample (fx : Fixes) : ¬ C09_erase_full fx := by
  intro h
  -- one cell: the chunk loop does not run, so the bytes are those of the unchanged tree
  have e : erasech fx true 1 .no = erasech Fixes.none true 1 .no := by
    unfold erasech; cases fx.eraseKeepsCount <;> rfl
  have h1 := h { cexScreen 1 2 with rv := true, col := 1 } (by constructor <;> decide) rfl true rfl 1 .no (by decide)
    (by decide)
  have h2 := h1.col_no
  rw [e] at h2
  revert h2
  decide +kernel

/-! ### Offsets as large as the rectangle -/

/-- The scroll clause for a rectangle on the screen and offsets of ANY size: a cell whose source falls outside the
    rectangle is vacated, so an offset as large as the rectangle (in particular any vertical offset of a one-line
    rectangle) must leave all of it blank - or the scroll must be refused. -/
def C09_scroll_any_offset (fx : Fixes) : Prop :=
  ∀ (vt : VTState), Spec.WF vt → ∀ (caps : Caps), Spec.CapsOK caps vt →
    ∀ (rect : Rect) (downward rightward : Int),
      1 ≤ rect.lines → 1 ≤ rect.cols → 0 ≤ rect.top → rect.bottom ≤ vt.lines → 0 ≤ rect.left → rect.right ≤ vt.cols →
      (scrollrect fx caps vt.cols rect downward rightward).1 = true →
      Spec.ScrollOK rect downward rightward vt (run (scrollrect fx caps vt.cols rect downward rightward).2 vt)

/-- A one-line rectangle cannot be scrolled vertically by insert/delete line (DECSTBM needs two lines): the driver
    refuses, with or without DECSLRM, whatever the horizontal offset - it reports failure and sends nothing. -/
theorem scroll_oneline_vertical_refused (fx : Fixes) (hfx : fx.scrollGuard = true) (caps : Caps) (termCols : Int)
    (rect : Rect) (downward rightward : Int) (h1 : rect.lines = 1) (hd : downward ≠ 0) :
    scrollrect fx caps termCols rect downward rightward = (false, []) :=
  scrollrect_elim fx caps termCols rect downward rightward (P := fun x => x = (false, []))
    (fun h _ => absurd h hd) (fun h _ _ _ => absurd h hd)
    (fun _ _ _ hg => absurd ⟨hfx, Or.inl (by omega)⟩ hg) rfl

/-- Hence the any-offset clause holds for every one-line rectangle scrolled vertically (alone or diagonally): success
    is never reported for it, so nothing is claimed that the bytes do not do. -/
theorem scroll_oneline_vertical_partial (fx : Fixes) (hfx : fx.scrollGuard = true) (vt : VTState) (caps : Caps)
    (rect : Rect) (downward rightward : Int) (h1 : rect.lines = 1) (hd : downward ≠ 0) :
    (scrollrect fx caps vt.cols rect downward rightward).1 = false ∧
    run (scrollrect fx caps vt.cols rect downward rightward).2 vt = vt := by
  rw [scroll_oneline_vertical_refused fx hfx caps vt.cols rect downward rightward h1 hd]
  exact ⟨rfl, rfl⟩

example : scrollrect ⟨true, true, true, true, true⟩ ⟨true, false, false⟩ 6 ⟨2, 1, 1, 3⟩ (-1) 0 = (false, []) :=
  scroll_oneline_vertical_refused _ rfl _ _ _ _ _ rfl (by decide)
example : scrollrect ⟨true, true, true, true, true⟩ ⟨true, false, false⟩ 6 ⟨2, 1, 1, 3⟩ 1 2 = (false, []) := by decide
-- the same rectangle scrolled horizontally only is accepted (ICH/DCH between DECSLRM margins)
example : (scrollrect ⟨true, true, true, true, true⟩ ⟨true, false, false⟩ 6 ⟨2, 1, 1, 3⟩ 0 2).1 = true := by decide

/-- What the clause demands of a success that the one-line path would report for a vertical offset: had the bytes of
    the horizontal-only strategy (`scrollrect … 0 r`) been sent for `(d, r)` with `d ≠ 0`, the rectangle would have had
    to end up blank.  On a 3x6 screen the cell (1,2) keeps a glyph: such a success would violate the clause. -/
theorem oneline_horizontal_bytes_do_not_scroll_vertically :
    ¬ Spec.ScrollOK ⟨1, 1, 1, 3⟩ 1 1 { cexScreen 3 6 with declrmm := true }
        (run (scrollrect ⟨true, true, true, true, true⟩ ⟨true, false, false⟩ 6 ⟨1, 1, 1, 3⟩ 0 1).2 { cexScreen 3 6 with declrmm := true }) := by
  intro h
  have h2 := congrFun (congrFun h.grid 1) 1
  revert h2
  decide +kernel

/-- DEFECT (the tree before `fixes/C09_scroll_one_cell.patch`, with every other repair or none): on a 2x5 terminal with
    DECSLRM available, `scrollrect((1,0) 1x1, 0, -1)` reports success and sends `CSI ;1 s  CSI 2 H  CSI @  CSI s`;
    `CSI ;1 s` asks for left = right margin and is ignored, so ICH shifts the whole of row 1 and cell (1,1), outside
    the rectangle, changes. -/
theorem scroll_one_cell_counterexample (fx : Fixes) (hfx : fx.scrollCellGuard = false) : ¬ C09_scroll_any_offset fx := by
  intro h
  rcases fx with ⟨a, b, c, d, e⟩
  simp only at hfx
  subst hfx
  -- the one-line path is taken whatever the other flags say
  have e : ∀ S : VTState, S.cols = 5 → scrollrect ⟨a, b, c, d, false⟩ ⟨true, false, false⟩ S.cols ⟨1, 0, 1, 1⟩ 0 (-1) =
      scrollrect Fixes.none ⟨true, false, false⟩ S.cols ⟨1, 0, 1, 1⟩ 0 (-1) := fun S h => by rw [h]; rfl
  have h1 := h { cexScreen 2 5 with declrmm := true } (by constructor <;> decide) ⟨true, false, false⟩ (fun _ => rfl)
    ⟨1, 0, 1, 1⟩ 0 (-1) (by decide) (by decide) (by decide) (by decide) (by decide) (by decide) (by rw [e _ rfl]; decide)
  have h2 := congrFun (congrFun h1.grid 1) 1
  rw [e _ rfl] at h2
  revert h2
  decide +kernel

/-- The unrepaired flag value is the unchanged tree's. -/
example : ¬ C09_scroll_any_offset Fixes.none := scroll_one_cell_counterexample _ rfl

/-- With the one-cell guard the same request is refused: nothing is sent. -/
example : scrollrect ⟨true, true, true, true, true⟩ ⟨true, false, false⟩ 5 ⟨1, 0, 1, 1⟩ 0 (-1) = (false, []) := by decide

/-- The margin guard alone does not suffice either: without it a vertical offset as large as a one-line rectangle is
    sent as DECSTBM `CSI 2;2 r` (ignored) + DL on the whole screen. -/
theorem scroll_any_offset_needs_margin_guard (fx : Fixes) (hfx : fx.scrollGuard = false) : ¬ C09_scroll_any_offset fx := by
  intro h
  rcases fx with ⟨a, b, c, d, e⟩
  simp only at hfx
  subst hfx
  -- the margin path is taken, unguarded, whatever the other flags say
  have e' : ∀ S : VTState, S.cols = 2 → scrollrect ⟨false, b, c, d, e⟩ ⟨false, false, false⟩ S.cols ⟨1, 0, 1, 2⟩ 1 0 =
      scrollrect Fixes.none ⟨false, false, false⟩ S.cols ⟨1, 0, 1, 2⟩ 1 0 := fun S h => by rw [h]; rfl
  have h1 := h (cexScreen 3 2) (by constructor <;> decide) ⟨false, false, false⟩ (fun h => by cases h)
    ⟨1, 0, 1, 2⟩ 1 0 (by decide) (by decide) (by decide) (by decide) (by decide) (by decide) (by rw [e' _ rfl]; decide)
  have h2 := congrFun (congrFun h1.grid 2) 0
  rw [e' _ rfl] at h2
  revert h2
  decide +kernel

/-- THE CLAUSE for the repaired source (both guards of `scrollrect` present: `fixes/C09_scroll_one_column.patch` and
    `fixes/C09_scroll_one_cell.patch`): for every screen, every non-empty rectangle on it, EVERY offset pair (also
    `|downward| ≥ lines` or `|rightward| ≥ cols`), both values of the DECSLRM capability and whichever strategy the
    driver picks, a scroll that reports success moves exactly the cells of the rectangle by the offsets, blanks the
    vacated cells (all of them when an offset is at least the size), touches nothing outside and leaves no margins
    set. -/
theorem scroll_any_offset_of_guards (fx : Fixes) (hfx : fx.scrollGuard = true) (hcell : fx.scrollCellGuard = true) :
    C09_scroll_any_offset fx := by
  intro vt hw caps hcaps rect d r hl1 hc1 htop hbot hleft hright hret
  exact scroll_effect_general fx vt hw caps hcaps rect d r hl1 hc1 htop hbot hleft hright
    (fun h => by rw [hfx] at h; cases h) (fun h => by rcases h with h | h <;> simp_all)
    (fun h => by rw [hfx] at h; cases h) hret

/-- The two halves of the clause together: a scroll that reports success has its effect, one that reports failure emits
    nothing (`scroll_failure_silent`, for every offset pair). -/
theorem scroll_any_offset_both (fx : Fixes) (hfx : fx.scrollGuard = true) (hcell : fx.scrollCellGuard = true)
    (vt : VTState) (hw : Spec.WF vt) (caps : Caps) (hcaps : Spec.CapsOK caps vt) (rect : Rect) (downward rightward : Int)
    (hl1 : 1 ≤ rect.lines) (hc1 : 1 ≤ rect.cols) (htop : 0 ≤ rect.top) (hbot : rect.bottom ≤ vt.lines)
    (hleft : 0 ≤ rect.left) (hright : rect.right ≤ vt.cols) :
    if (scrollrect fx caps vt.cols rect downward rightward).1 = true
    then Spec.ScrollOK rect downward rightward vt (run (scrollrect fx caps vt.cols rect downward rightward).2 vt)
    else (scrollrect fx caps vt.cols rect downward rightward).2 = [] ∧
      run (scrollrect fx caps vt.cols rect downward rightward).2 vt = vt := by
  cases hret : (scrollrect fx caps vt.cols rect downward rightward).1 with
  | true =>
    simp only [if_true]
    exact scroll_any_offset_of_guards fx hfx hcell vt hw caps hcaps rect downward rightward hl1 hc1 htop hbot hleft hright hret
  | false =>
    simp only [Bool.false_eq_true, if_false]
    rw [scroll_failure_silent fx caps vt.cols rect downward rightward hret]
    exact ⟨rfl, rfl⟩

/-- non-vacuity: a 2x3 rectangle inside `exScreen` (4x6) with margins on all four sides, scrolled down by 5 (more than
    its 2 lines) and left by 3 (its width): success is reported and the whole rectangle ends up blank -/
example : (scrollrect ⟨true, true, true, true, true⟩ ⟨true, false, false⟩ exScreen.cols ⟨1, 1, 2, 3⟩ 5 (-3)).1 = true := by
  decide
example := scroll_any_offset_of_guards ⟨true, true, true, true, true⟩ rfl rfl exScreen exScreen_wf ⟨true, false, false⟩
  (fun _ => rfl) ⟨1, 1, 2, 3⟩ 5 (-3) (by decide) (by decide) (by decide) (by decide) (by decide) (by decide) (by decide)
example : (run (scrollrect ⟨true, true, true, true, true⟩ ⟨true, false, false⟩ 6 ⟨1, 1, 2, 3⟩ 5 (-3)).2 exScreen).grid 2 3 =
    Cell.blank 3 := by decide +kernel
/-- ICH/DCH on full-width lines without DECSLRM, offset larger than the width: three blank lines -/
example := scroll_any_offset_of_guards ⟨true, true, true, true, true⟩ rfl rfl exScreen exScreen_wf ⟨false, false, false⟩
  (by intro h; cases h) ⟨0, 2, 3, 4⟩ 0 7 (by decide) (by decide) (by decide) (by decide) (by decide) (by decide) (by decide)
/-- one line between DECSLRM margins, offset far larger than the width -/
example := scroll_any_offset_of_guards ⟨true, true, true, true, true⟩ rfl rfl exScreen exScreen_wf ⟨true, false, false⟩
  (fun _ => rfl) ⟨2, 1, 1, 4⟩ 0 (-1000) (by decide) (by decide) (by decide) (by decide) (by decide) (by decide) (by decide)

/-! ### Tie to the source: constants and format strings regenerated from `termdriver-xterm.c` on every run -/

open Tickit.Gen.XTermFacts in
/-- The chunk size `h64` of `erasech_effect` speaks about is the one in the source. -/
theorem erase_chunk_is_64 : eraseChunk = 64 := by decide

open Tickit.Gen.XTermFacts in
/-- `goto_abs` is `printf` of the source's format strings. -/
theorem gotoAbs_printf (line col : Int) :
    gotoAbs line col =
      if line ≠ -1 ∧ col > 0 then fmt (goto_abs_formats.getD 0 []) [line + 1, col + 1]
      else if line ≠ -1 ∧ col = 0 then fmt (goto_abs_formats.getD 1 []) [line + 1]
      else if line ≠ -1 then fmt (goto_abs_formats.getD 2 []) [line + 1]
      else if col > 0 then fmt (goto_abs_formats.getD 3 []) [col + 1]
      else if col ≠ -1 then fmt (goto_abs_formats.getD 4 []) []
      else [] := by
  -- `fmt` evaluates on the literal format strings; only `++` has to be re-associated where two numbers are printed
  unfold gotoAbs
  rw [List.append_assoc, List.append_assoc]
  rfl

/-- The `n / 1 / -1 / -n` ladder as `printf` of four format strings. -/
def ladder (n : Int) (f : List (List UInt8)) (i : Nat) : List UInt8 :=
  if n > 1 then fmt (f.getD i []) [n]
  else if n = 1 then fmt (f.getD (i + 1) []) []
  else if n = -1 then fmt (f.getD (i + 2) []) []
  else if n < -1 then fmt (f.getD (i + 3) []) [-n]
  else []

open Tickit.Gen.XTermFacts in
theorem moveRel_printf (downward rightward : Int) :
    moveRel downward rightward = ladder downward move_rel_formats 0 ++ ladder rightward move_rel_formats 4 := by
  unfold moveRel signedSeq ladder
  simp only [List.append_nil]
  rfl

open Tickit.Gen.XTermFacts in
/-- The indices are the positions of the format strings in `scrollrect` of termdriver-xterm.c, in the order in which
    the extractor lists them (Gen/XTermFacts.lean). -/
theorem scrollrect_printf :
    (∀ r, signedSeq r [] 0x50 0x40 = ladder r scrollrect_formats 1) ∧
    (∀ d, signedSeq d [] 0x4d 0x4c = ladder d scrollrect_formats 8) ∧
    (∀ r, signedSeq r [0x27] 0x7e 0x7d = ladder r scrollrect_formats 12) ∧
    (∀ right, csi ([0x3b] ++ showInt right ++ [0x73]) = fmt (scrollrect_formats.getD 0 []) [right]) ∧
    (∀ t b, csi (showInt t ++ [0x3b] ++ showInt b ++ [0x72]) = fmt (scrollrect_formats.getD 6 []) [t, b]) ∧
    (∀ l r, csi (showInt l ++ [0x3b] ++ showInt r ++ [0x73]) = fmt (scrollrect_formats.getD 7 []) [l, r]) ∧
    csi [0x73] = fmt (scrollrect_formats.getD 5 []) [] ∧
    csi [0x72] = fmt (scrollrect_formats.getD 16 []) [] ∧
    csi [0x73] = fmt (scrollrect_formats.getD 17 []) [] := by
  -- a ladder is `printf` of four consecutive format strings
  have lad : ∀ (n : Int) (inter : List UInt8) (pos neg : UInt8) (i : Nat),
      csi (inter ++ [pos]) = fmt (scrollrect_formats.getD (i + 1) []) [] →
      csi (inter ++ [neg]) = fmt (scrollrect_formats.getD (i + 2) []) [] →
      (∀ k, csi (showInt k ++ (inter ++ [pos])) = fmt (scrollrect_formats.getD i []) [k]) →
      (∀ k, csi (showInt k ++ (inter ++ [neg])) = fmt (scrollrect_formats.getD (i + 3) []) [k]) →
      signedSeq n inter pos neg = ladder n scrollrect_formats i := by
    intro n inter pos neg i h1 h2 h3 h4
    unfold signedSeq ladder
    rw [List.append_assoc, List.append_assoc, h1, h2, h3, h4]
  refine ⟨fun _ => lad _ _ _ _ 1 rfl rfl (fun _ => rfl) (fun _ => rfl),
    fun _ => lad _ _ _ _ 8 rfl rfl (fun _ => rfl) (fun _ => rfl),
    fun _ => lad _ _ _ _ 12 rfl rfl (fun _ => rfl) (fun _ => rfl), fun _ => rfl, fun _ _ => ?_, fun _ _ => ?_, rfl, rfl, rfl⟩ <;>
  (rw [List.append_assoc, List.append_assoc]; rfl)

open Tickit.Gen.XTermFacts in
theorem erasech_clear_printf :
    csi [0x58] = fmt (erasech_formats.getD 0 []) [] ∧
    (∀ n, csi (showInt n ++ [0x58]) = fmt (erasech_formats.getD 1 []) [n]) ∧
    clear = fmt (clear_formats.getD 0 []) [] :=
  ⟨rfl, fun _ => rfl, rfl⟩

open Tickit.Gen.TermBuf in
/-- The bytes of a pause are the ones in the source: `teardown()` (which is both `.stop` and `.pause` of the driver's
    vtable) ends with the pen-reset literal the extractor of the C11 engine reads from `termdriver-xterm.c`, and
    `tickit_term_pause` ends with a flush; nothing in `teardown()` / `resume()` mentions DECLRMM. -/
theorem pauseBytes_from_source :
    pauseBytes = teardown_pen_reset ∧ pause_is_teardown = true ∧ stop_is_teardown = true ∧ term_pause_flushes = true := by
  decide

/-! ### Backgrounds with an RGB8 secondary value (`Model/XTermPenRgb.lean`) -/

theorem bgParamsX_none (cap : Bool) (v : Int) : bgParamsX cap v none = bgParams v := by
  unfold bgParamsX bgParams
  by_cases h : v < 0 <;> simp [h]

theorem setpenParamsX_eq (o cb cr : Bool) (v : Int) (rvv : Bool) :
    setpenParamsX o cb cr (bgParams v) rvv = setpenParams o cb cr v rvv := rfl

/-- Without RGB8 values the extended pen model is the proved one. -/
theorem setpenX_plain (caps : Caps) (cache : PenCache) (pen : PenReq) :
    setpenX caps ⟨cache, none⟩ ⟨pen, none⟩ = (⟨(setpen caps cache pen).1, none⟩, (setpen caps cache pen).2) := by
  cases hb : pen.bg <;>
    simp [setpenX, setpen, PenReqX.rgb, hb, bgParamsX_none, setpenParamsX_eq]

theorem chpenX_plain (caps : Caps) (cache : PenCache) (pen : PenReq) :
    chpenX caps ⟨cache, none⟩ ⟨pen, none⟩ = (⟨(chpen caps cache pen).1, none⟩, (chpen caps cache pen).2) := by
  cases hb : pen.bg <;>
    simp [chpenX, chpen, PenReqX.rgb, hb, bgParamsX_none, setpenParamsX_eq, changedBy]

/-- The five SGR parameters of an RGB8 background, interpreted (colon and semicolon form). -/
theorem rgb_params_fold (colon : Bool) (c : RGB8) (bg : Int) (rv : Bool) :
    pfinish (([⟨48, true⟩, ⟨2, true⟩, ⟨c.r, true⟩, ⟨c.g, true⟩, ⟨c.b, false⟩] : List SgrParam).foldl (pstep colon)
      (⟨bg, rv, .none⟩, [])) = ⟨rgbColour c.r c.g c.b, rv, .none⟩ := by
  exact congrArg pfinish (piece_rgb8 colon c bg rv)

/-- The clause "… using the current background" for RGB8 backgrounds: on a terminal that shows RGB8 colours, a `chpen`
    asking for index `v` + RGB8 value `c` - whatever the cache holds, unless it holds exactly that (in particular when
    it holds the same index `v` without an RGB8 value, or with another one: the index+RGB8, plain index, index+RGB8
    sequence) - sends bytes after which the terminal's background IS that RGB8 colour; nothing else on the screen
    changes, and the cached pen asks for the same colour.  Every later `erasech` / `clear` / `print` blanks with
    `vt.bg` (`erasech_effect`, `clear_effect`, `print_effect`). -/
theorem chpen_rgb_effect (caps : Caps) (hcap : caps.rgb8 = true) (cache : PenCacheX) (v : Int) (c : RGB8)
    (h0 : 0 ≤ v) (hdiff : ¬ (cache.base.bg = some v ∧ cache.bgRgb = some c)) (vt : VTState) (hg : vt.ps = .ground) :
    run (chpenX caps cache ⟨⟨some v, none⟩, some c⟩).2 vt = { vt with bg := rgbColour c.r c.g c.b } ∧
    (chpenX caps cache ⟨⟨some v, none⟩, some c⟩).1.wantBg caps = some (rgbColour c.r c.g c.b) ∧
    (chpenX caps cache ⟨⟨some v, none⟩, some c⟩).1.base.rv = cache.base.rv := by
  have hv : ¬ v < 0 := by omega
  have hnd := nondefault_of_bg cache.base.others v cache.base.rv (by omega)
  refine ⟨?_, ?_, ?_⟩
  · simp only [chpenX, PenReqX.rgb, Option.isSome_some, if_true, hdiff, not_false_eq_true, decide_true, changedBy,
      Option.getD_some, Option.getD_none, hcap, bgParamsX_rgb v c h0, Bool.false_eq_true, if_false]
    rw [run_chpenBytes_rgb vt hg caps.colon false true false c false]
    simp [hnd]
  · simp [chpenX, PenReqX.rgb, hdiff, PenCacheX.wantBg, hv, hcap]
  · simp [chpenX, PenReqX.rgb, hdiff, changedBy]

/-- The middle step of the sequence: a `chpen` asking for the plain index `v` on a cache that holds `v` WITH an RGB8
    value is not a no-op - the index form is sent, the terminal's background becomes palette colour `v`, and the
    cache forgets the RGB8 value (`tickit_pen_copy_attr` sets the index, which drops the destination's RGB8). -/
theorem chpen_plain_after_rgb (caps : Caps) (cache : PenCacheX) (v : Int) (c : RGB8) (h0 : 0 ≤ v) (h1 : v ≤ 255)
    (hb : cache.base.bg = some v) (hc : cache.bgRgb = some c) (vt : VTState) (hg : vt.ps = .ground) :
    run (chpenX caps cache ⟨⟨some v, none⟩, none⟩).2 vt = { vt with bg := v } ∧
    (chpenX caps cache ⟨⟨some v, none⟩, none⟩).1 = ⟨cache.base, none⟩ := by
  have hnd := nondefault_of_bg cache.base.others v cache.base.rv (by omega)
  refine ⟨?_, ?_⟩
  · simp only [chpenX, PenReqX.rgb, Option.isSome_some, if_true, hb, hc, changedBy, Option.getD_some, Option.getD_none,
      bgParamsX_none, setpenParamsX_eq]
    simp only [reduceCtorEq, and_false, not_false_eq_true, decide_true, if_true]
    rw [run_chpenBytes vt hg caps.colon false true false v false (by omega) h1]
    simp [hnd]
  · cases hcb : cache.base with
    | mk o b r =>
      rw [hcb] at hb; simp only at hb
      simp [chpenX, PenReqX.rgb, hcb, hb, hc, changedBy]

/-- Non-vacuity: bg=3 + RGB8 (10,20,30), then plain bg=3, then bg=3 + RGB8 again on a
    terminal with the RGB8 capability - the third request sends `CSI 48:2:10:20:30 m`. -/
example :
    let caps : Caps := ⟨false, true, true⟩
    let c1 := (chpenX caps PenCacheX.empty ⟨⟨some 3, none⟩, some ⟨10, 20, 30⟩⟩).1
    let c2 := (chpenX caps c1 ⟨⟨some 3, none⟩, none⟩).1
    (chpenX caps c2 ⟨⟨some 3, none⟩, some ⟨10, 20, 30⟩⟩).2 = csi "48:2:10:20:30m".toUTF8.toList ∧
    (chpenX caps c1 ⟨⟨some 3, none⟩, none⟩).2 = csi "43m".toUTF8.toList := by
  decide +kernel

theorem piece_rgb (colon : Bool) (c : RGB8) (bg : Int) (rv : Bool) :
    (rgbParams c).foldl (pstep colon) (⟨bg, rv, .none⟩, []) = (⟨rgbColour c.r c.g c.b, rv, .none⟩, []) :=
  piece_rgb8 colon c bg rv

theorem setpenParamsX_nonneg (o cb cr : Bool) (ps : List SgrParam) (rvv : Bool) (hps : ∀ p ∈ ps, 0 ≤ p.val) :
    ∀ p ∈ setpenParamsX o cb cr ps rvv, 0 ≤ p.val :=
  XTermDrv.setpenParamsX_nonneg o cb cr ps rvv hps

theorem setpenParamsX_fold (colon o cb cr : Bool) (ps : List SgrParam) (nb : Int) (rvv : Bool)
    (hpiece : ∀ bg rv, ps.foldl (pstep colon) (⟨bg, rv, .none⟩, []) = (⟨nb, rv, .none⟩, [])) (bg : Int) (rv : Bool) :
    (setpenParamsX o cb cr ps rvv).foldl (pstep colon) (⟨bg, rv, .none⟩, []) =
      (⟨if cb = true then nb else bg, if cr = true then rvv else rv, .none⟩, []) :=
  XTermDrv.setpenParamsX_fold colon o cb cr ps nb rvv hpiece bg rv

theorem rgbParams_nonneg (c : RGB8) : ∀ p ∈ rgbParams c, 0 ≤ p.val :=
  rgb8_nonneg c

/-- `setpen` with an RGB8 background on a terminal that shows RGB8 colours: unless the cache holds exactly that index
    and RGB8 value, the bytes sent make the terminal's background that RGB8 colour (and set reverse video as asked,
    if it differs from the cached value); nothing else on the screen changes. -/
theorem setpen_rgb_effect (caps : Caps) (hcap : caps.rgb8 = true) (cache : PenCacheX) (v : Int) (c : RGB8)
    (rvq : Option Bool) (h0 : 0 ≤ v) (hdiff : ¬ (cache.base.bg = some v ∧ cache.bgRgb = some c))
    (vt : VTState) (hg : vt.ps = .ground) :
    run (setpenX caps cache ⟨⟨some v, rvq⟩, some c⟩).2 vt =
      { vt with bg := rgbColour c.r c.g c.b,
                rv := if cache.base.rv ≠ some (rvq.getD false) then rvq.getD false else vt.rv } ∧
    (setpenX caps cache ⟨⟨some v, rvq⟩, some c⟩).1.wantBg caps = some (rgbColour c.r c.g c.b) := by
  have hv : ¬ v < 0 := by omega
  have hnd := nondefault_of_bg true v (some (rvq.getD false)) (by omega)
  refine ⟨?_, ?_⟩
  · simp only [setpenX, PenReqX.rgb, Option.isSome_some, if_true, hdiff, not_false_eq_true, decide_true,
      Option.getD_some, hcap, bgParamsX_rgb v c h0]
    rw [run_chpenBytes_rgb vt hg caps.colon _ true _ c]
    simp [hnd]
  · simp [setpenX, PenReqX.rgb, PenCacheX.wantBg, hv, hcap]

/-- After a `chpen` asking for index `v` + RGB8 `c` the cache holds exactly that. -/
theorem chpenX_rgb_cache (caps : Caps) (cache : PenCacheX) (v : Int) (c : RGB8) :
    (chpenX caps cache ⟨⟨some v, none⟩, some c⟩).1.base.bg = some v ∧
    (chpenX caps cache ⟨⟨some v, none⟩, some c⟩).1.bgRgb = some c := by
  by_cases h : cache.base.bg = some v ∧ cache.bgRgb = some c
  · simp [chpenX, PenReqX.rgb, h]
  · simp [chpenX, PenReqX.rgb, h]

/-- The whole sequence the property's clause is about, for every palette index, RGB8 value, starting cache and
    screen: index+RGB8, plain index, index+RGB8 again (three `chpen`s on a terminal with the RGB8 capability).  The
    second request leaves the terminal's background at palette colour `v`, the third brings the RGB8 colour back -
    it is never taken for a no-op - so the blanks of a following `erasech` / `clear` / `print` (which use `vt.bg`)
    have the background asked for. -/
theorem rgb_plain_rgb_sequence (caps : Caps) (hcap : caps.rgb8 = true) (cache : PenCacheX) (v : Int) (c : RGB8)
    (h0 : 0 ≤ v) (h1 : v ≤ 255) (vt : VTState) (hg : vt.ps = .ground) :
    let rgb : PenReqX := ⟨⟨some v, none⟩, some c⟩
    let plain : PenReqX := ⟨⟨some v, none⟩, none⟩
    let c1 := (chpenX caps cache rgb).1
    let c2 := (chpenX caps c1 plain).1
    run (chpenX caps c1 plain).2 vt = { vt with bg := v } ∧
    run (chpenX caps c2 rgb).2 { vt with bg := v } = { vt with bg := rgbColour c.r c.g c.b } ∧
    (chpenX caps c2 rgb).1.wantBg caps = some (rgbColour c.r c.g c.b) := by
  intro rgb plain c1 c2
  obtain ⟨hb1, hr1⟩ := chpenX_rgb_cache caps cache v c
  obtain ⟨hrun2, hc2⟩ := chpen_plain_after_rgb caps c1 v c h0 h1 hb1 hr1 vt hg
  have hdiff : ¬ (c2.base.bg = some v ∧ c2.bgRgb = some c) := by
    show ¬ ((chpenX caps c1 plain).1.base.bg = some v ∧ (chpenX caps c1 plain).1.bgRgb = some c)
    rw [hc2]; simp
  obtain ⟨hrun3, hw3, _⟩ := chpen_rgb_effect caps hcap c2 v c h0 hdiff { vt with bg := v } hg
  exact ⟨hrun2, hrun3, hw3⟩

end Tickit.Props.C09
