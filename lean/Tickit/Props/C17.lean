import Tickit.Proof.EvLoopWF
import Tickit.Proof.EvLoopOnceB
import Tickit.Proof.EvLoopOnceIter
import Tickit.Proof.EvLoopOnceOps
import Tickit.Gen.EvLoop
import Tickit.Proof.EvLoopUnbind
import Tickit.Proof.EvLoopUnbindOnce
/-
  C17 — Timers and deferred callbacks run once, on time, in order, unless cancelled.

  The model (`Tickit.EvLoop`, Model/EvLoop.lean) transcribes src/tickit.c and src/evloop-default.c
  statement by statement; `Config` selects the variant of the eleven places that have been repaired
  (`Config.shipped` = the tree as first shipped, `Config.repaired` = every patch of fixes/ applied, which is the text of /repo);
  the driver takes the variant from `Gen/EvLoop.lean`, which is regenerated from the C source.

  Every theorem below is universally quantified: over *all* states (arbitrary heap, queues, behaviour
  tables of the callbacks, clock), all fuel, or over all histories (`runOps cfg ops`), as stated.
  Callback behaviours are data in the state, so "whatever callbacks do" is part of the quantifier.

  Proved for the tree as first shipped *and* repaired: `queue_order_invariant`, `sorted_insert`,
  `never_early_shipped`/`never_early`, `order_shipped`/`order`, `cancel_exact`, `destroy_notifies_list`.
  Proved for the repaired timer loop: `no_due_timer_left`, `cancelled_never_runs`,
  `registered_in_callback_runs_in_order`.
  Proved for the repaired source (the text of /repo), across the iterations of every history
  (Proof/EvLoopOnce*.lean): `invocation_count_is_per_watch`, `exactly_once` (stated over the harness's per-slot count of
  FIRE invocations, `SlotRec.fires`, incremented by `fireUser` together with the log entry, and over `St.cancelReq`, a
  ghost the model's `doCancel` keeps), and for one whole iteration `exactly_once_iteration`.
  Defects of the tree as first shipped: the `*_counterexample` theorems (kernel-checked runs of the model on the
  minimal histories of corpus/C17; the same histories are replayed against the real library on every check); all are
  repaired in /repo.  Statements not proved: `no_ub_full`, `unbind_handler_registration_is_performed` (engines.d/C17.json).
-/
namespace Tickit.Props.C17
open Tickit Tickit.EvLoop

/-! ### ties to the source (regenerated on every run) -/

theorem gen_bind_flags : Gen.EvLoop.TICKIT_BIND_FIRST = BIND_FIRST ∧ Gen.EvLoop.TICKIT_BIND_UNBIND = BIND_UNBIND ∧
    Gen.EvLoop.TICKIT_BIND_DESTROY = BIND_DESTROY := by decide

theorem gen_event_flags : Gen.EvLoop.TICKIT_EV_FIRE = EV_FIRE ∧ Gen.EvLoop.TICKIT_EV_UNBIND = EV_UNBIND ∧
    Gen.EvLoop.TICKIT_EV_DESTROY = EV_DESTROY := by decide

/-- Timers, deferred callbacks, signal and process watches keep UNBIND and DESTROY of the flags they are given. -/
theorem gen_constructor_masks : Gen.EvLoop.timerFlagMask = BIND_UNBIND ||| BIND_DESTROY ∧
    Gen.EvLoop.laterFlagMask = BIND_UNBIND ||| BIND_DESTROY ∧ Gen.EvLoop.signalFlagMask = BIND_UNBIND ||| BIND_DESTROY ∧
    Gen.EvLoop.processFlagMask = BIND_UNBIND ||| BIND_DESTROY := by decide

/-- The io constructor's mask is one of the two variants the model knows. -/
theorem gen_io_mask : Gen.EvLoop.ioFlagMask = Config.shipped.ioFlagMask ∨ Gen.EvLoop.ioFlagMask = Config.repaired.ioFlagMask := by
  decide

/-- Flags handed to callbacks and the tests that guard the notifications. -/
theorem gen_call_flags : Gen.EvLoop.timerCallFlags = EV_FIRE ||| EV_UNBIND ∧ Gen.EvLoop.laterCallFlags = EV_FIRE ||| EV_UNBIND ∧
    Gen.EvLoop.destroyTestMask = BIND_UNBIND ||| BIND_DESTROY ∧ Gen.EvLoop.destroyCallFlags = EV_UNBIND ||| EV_DESTROY ∧
    Gen.EvLoop.cancelTestMask = BIND_UNBIND ∧ Gen.EvLoop.cancelCallFlags = EV_UNBIND := by decide

/-- The sorted insert skips while `!(queued > new)`, the loop stops at `deadline > now`. -/
theorem gen_comparisons : Gen.EvLoop.insertCmp = ">" ∧ Gen.EvLoop.dueCmp = ">" := by decide

/-- The sorted insert of `tickit_watch_timer_at_tv`: a new timer (fresh, hence largest, address) goes
    behind every queued timer whose deadline is earlier *or equal*, and the queue stays strictly
    increasing in (deadline, registration). -/
theorem sorted_insert (st : St) (new : Nat) (due : TV) (l l' : List Nat)
    (hnew : dueOf st new = due) (hfresh : ∀ a ∈ l, a < new)
    (hord : l.Pairwise (keyLt st)) (h : insTimer st new due l = some l') :
    l'.Pairwise (keyLt st) ∧ (∀ x, x ∈ l' ↔ (x = new ∨ x ∈ l)) :=
  ⟨insTimer_ordered st new due l l' hnew hfresh hord h, insTimer_mem st new due l l' h⟩

example : insTimer ({ cfg := .shipped, heap := [{ due := ⟨5, 0⟩ }, { due := ⟨7, 0⟩ }, { due := ⟨5, 0⟩ }] } : St) 2 ⟨5, 0⟩ [0, 1]
    = some [0, 2, 1] := by decide

/-- In every state that any history reaches — under any variant of the source, whatever the
    callbacks do — the timer queue is strictly increasing in (deadline, registration order). -/
theorem queue_order_invariant (cfg : Config) (ops : List Op) : QInv (runOps cfg ops) :=
  qinv_runOps cfg ops

example : (runOps .shipped [.act (.timer 0 10 0), .act (.timer 1 5 0), .act (.timer 2 10 0)]).timers = [3, 2, 4] := by
  decide +kernel

/-- A registration or a cancel from inside a callback, or anything else a callback does, keeps the
    queue ordered (`Pres` also says that deadlines never change and only fresh addresses enter). -/
theorem callback_keeps_queue_ordered (st : St) (k : Int) (flags : Nat) (info : Info) :
    Pres st (fireUser st k flags info) := pres_closed.fireUser st k flags info

/-- `tickit_evloop_invoke_timers` as shipped: no timer is invoked whose deadline is later than `now`. -/
theorem never_early_shipped (fuel : Nat) (st : St) (now : TV) (this : Option Nat) :
    ∀ f ∈ (timerLoopT fuel st now this).2.2, f.due.gt now = false :=
  timerLoopT_never_early fuel st now this

/-- The repaired loop: the same. -/
theorem never_early (fuel : Nat) (st : St) (now : TV) :
    ∀ f ∈ (timerLoopPopT fuel st now).2, f.due.gt now = false :=
  timerLoopPopT_never_early fuel st now

/-- Callbacks due in one iteration run in deadline order, equal deadlines in registration order:
    whenever `x` is invoked before `y` and `y` was queued when the iteration began, `x` has the smaller
    key — *whatever* `x` and the callbacks between them registered or cancelled.  (The statement holds
    from every state, so also for every later "beginning": each suffix of the run is a run.) -/
theorem order (fuel : Nat) (st : St) (now : TV) (q : QInv st) :
    (timerLoopPopT fuel st now).2.Pairwise (fun x y => y.a ∈ st.timers → Fired.lt x y) :=
  (timerLoopPopT_trace fuel st now q).2.2

/-- The loop as shipped (`this = t->timers` on entry): the timers one run invokes are strictly increasing
    in (deadline, registration order), whatever the callbacks register or cancel. -/
theorem order_shipped (fuel : Nat) (st : St) (now : TV) (q : QInv st) :
    (timerLoopT fuel st now st.timers.head?).2.2.Pairwise Fired.lt :=
  (timerLoopT_ordered fuel st now st.timers.head? q (fun _ hb => List.mem_of_mem_head? hb)).1

/-- A timer registered from inside a callback has a fresh address: every invoked timer was queued at the start or was
    allocated afterwards (`order` places it among the others), … -/
theorem registered_in_callback_runs_in_order (fuel : Nat) (st : St) (now : TV) (q : QInv st) :
    ∀ f ∈ (timerLoopPopT fuel st now).2, f.a ∈ st.timers ∨ st.heap.length ≤ f.a :=
  (timerLoopPopT_trace fuel st now q).1

/-- … and when the loop returns normally nothing that is due is left in the queue: a timer registered
    from a callback — whatever its deadline — has been invoked, or is still queued with a deadline in
    the future (so it runs in a later iteration). -/
theorem no_due_timer_left (fuel : Nat) (st : St) (now : TV) (q : QInv st)
    (hok : (timerLoopPopT fuel st now).1.status = .ok) :
    ∀ b ∈ (timerLoopPopT fuel st now).1.timers, (dueOf (timerLoopPopT fuel st now).1 b).gt now = true :=
  timerLoopPopT_none_due fuel st now q hok

example : ((timerLoopPopT 10 (runOps .repaired [.beh ⟨0, 0, [.timerAt 1 999 0 0]⟩, .act (.timer 0 0 0)]) ⟨1000, 0⟩).2.map (·.slot))
    = [0, 1] := by decide +kernel

/-- The batch of deferred callbacks queued when the iteration began (`later = t->laters; t->laters = NULL`):
    the loop over it invokes its members at most once each, in queue order (each with FIRE|UNBIND: `laterCb`),
    whatever they and the timers before them did — either variant of the source.  (Which members: with the
    repaired cancel, those not cancelled meanwhile — `cancelled_later_never_runs_repaired`; as shipped, all of them —
    `later_cancel_detached_counterexample`; that none is lost across iterations: `exactly_once`.) -/
theorem deferred_batch_runs_once_in_order (l : List Nat) (st : St) : (laterLoopT st l).2.Sublist l := laterLoopT_sub l st

example : (laterLoopT { runOps .shipped [.act (.later 0 0), .act (.later 1 1), .act (.later 2 0)] with laters := [] } [3, 2, 4]).2
    = [3, 2, 4] := by decide +kernel

/-- `tickit_watch_cancel` of a queued timer or deferred callback: it leaves its list, is freed, and gets
    exactly the UNBIND notification it asked for (one if its flags contain UNBIND, none otherwise). -/
theorem cancel_exact (st : St) (a : Nat) (hok : st.status = .ok) (hl : st.live a = true)
    (ht : (st.getW a).type = .timer ∨ (st.getW a).type = .later)
    (hall : st.allLive (listOf st (st.getW a).type) = true) (hnd : (listOf st (st.getW a).type).Nodup)
    (hin : a ∈ listOf st (st.getW a).type) :
    (watchCancel st a).status = .ok ∧ (watchCancel st a).live a = false ∧
    listOf (watchCancel st a) (st.getW a).type = (listOf st (st.getW a).type).erase a ∧
    (watchCancel st a).log = (if (st.getW a).flags &&& BIND_UNBIND ≠ 0 ∧ (st.getW a).slot ≥ 0
               then [Ev.cb (st.getW a).slot EV_UNBIND .none] else []) ++ st.log :=
  watchCancel_exact st a hok hl ht hall hnd hin

example : (runOps .shipped [.act (.timer 0 10 2), .act (.cancel 0)]).log = [.cb 0 2 .none] := by decide +kernel

/-- A cancelled timer never runs: an allocated address that is not in the queue is never invoked by
    the (repaired) loop — only fresh addresses enter the queue. -/
theorem cancelled_never_runs (fuel : Nat) (st : St) (now : TV) (q : QInv st) (a : Nat)
    (halloc : a < st.heap.length) (hout : a ∉ st.timers) :
    ∀ f ∈ (timerLoopPopT fuel st now).2, f.a ≠ a := by
  intro f hf h
  cases (timerLoopPopT_trace fuel st now q).1 f hf with
  | inl hin => exact hout (h ▸ hin)
  | inr hge => omega

/-- `destroy_watchlist` over a list of distinct live watches that runs to completion: exactly one
    UNBIND|DESTROY notification for every watch whose stored flags ask for one, none for the others. -/
theorem destroy_notifies_list (t : WType) (l : List Nat) (st : St) (hnd : l.Nodup) (hlive : st.allLive l = true)
    (hok : (destroyList st t l).status = .ok) :
    (destroyList st t l).log = (l.filterMap (destroyNote st)).reverse ++ st.log :=
  destroyList_log t l st hnd hlive hok

/-- With the repaired timer loop, in every reachable state whose status is ok each of the five watch lists
    holds distinct, live watches of the list's own type (so the lists are disjoint). -/
theorem watch_lists_well_formed (cfg : Config) (hc : cfg.timersPop = true) (ops : List Op)
    (hok : (runOps cfg ops).status = .ok) : WF (runOps cfg ops) := wf_runOps cfg hc ops hok

/-- When the instance is destroyed (and `tickit_destroy` runs to completion) every remaining watch of every
    kind gets exactly the notification its stored flags ask for, exactly once: after the SIGCHLD watch has been
    cancelled, the log gains one UNBIND|DESTROY entry per flagged watch — io watches, timers, deferred
    callbacks, signal watches, process watches, each list in order — and nothing else.  (Which flags are
    *stored* is `repaired_masks_keep_destroy` / `io_destroy_mask_counterexample`.) -/
theorem destroy_notifies_all_kinds (cfg : Config) (hc : cfg.timersPop = true) (ops : List Op)
    (hok : (runOps cfg ops).status = .ok) (hd : (destroy (runOps cfg ops)).status = .ok) :
    (destroy (runOps cfg ops)).log =
      ((listOf (cancelSigchld (runOps cfg ops)) .io ++ listOf (cancelSigchld (runOps cfg ops)) .timer ++
        listOf (cancelSigchld (runOps cfg ops)) .later ++ listOf (cancelSigchld (runOps cfg ops)) .signal ++
        listOf (cancelSigchld (runOps cfg ops)) .process).filterMap (destroyNote (cancelSigchld (runOps cfg ops)))).reverse
      ++ (cancelSigchld (runOps cfg ops)).log :=
  destroy_log_reachable cfg hc ops hok hd

example : (destroy (runOps .repaired [.act (.io 0 100 1 4), .act (.timer 1 5 6), .act (.later 2 0), .act (.signal 3 23 2),
    .act (.process 4 1000000000 4)])).log.reverse = [.cb 0 6 .none, .cb 1 6 .none, .cb 3 6 .none, .cb 4 6 .none] := by decide +kernel

/-- The stored flags keep DESTROY for every kind of watch when the io mask is the repaired one … -/
theorem repaired_masks_keep_destroy (f : Nat) :
    (f &&& (BIND_UNBIND ||| BIND_DESTROY)) &&& BIND_DESTROY = f &&& BIND_DESTROY ∧
    (f &&& Config.repaired.ioFlagMask) &&& BIND_DESTROY = f &&& BIND_DESTROY := by
  constructor <;> (rw [Nat.and_assoc]; rfl)

/-- … and lose it for io watches in the tree as shipped: `flags & (UNBIND|UNBIND)`. -/
theorem io_destroy_mask_counterexample : (BIND_DESTROY &&& Config.shipped.ioFlagMask) &&& BIND_DESTROY = 0 := by decide

/-! ### defects of the tree as shipped (corpus/C17/*.ops), and the same histories repaired -/

def probeIoDestroy : List Op := [.act (.io 0 100 1 4), .destroy]

/-- An io watch that asked for DESTROY only: nothing at destruction. -/
theorem io_destroy_counterexample : (runOps .shipped probeIoDestroy).log = [] := by decide +kernel
theorem io_destroy_repaired : (runOps .repaired probeIoDestroy).log = [.cb 0 6 .none] := by decide +kernel

def probeStaleHead : List Op :=
  [.beh ⟨1, 0, [.timer 2 5 0]⟩, .act (.timer 0 0 0), .act (.timer 1 0 0), .tick]

/-- The second due timer's callback registers a timer: the walk starts at the freed first timer. -/
theorem timer_stale_head_counterexample : (runOps .shipped probeStaleHead).status = .ub .timerInsertWalk := by
  decide +kernel
theorem timer_stale_head_repaired : (runOps .repaired probeStaleHead).status = .ok ∧
    (runOps .repaired probeStaleHead).timers.length = 1 := by decide +kernel

def probePastDropped : List Op :=
  [.beh ⟨0, 0, [.timerAt 1 999 0 0]⟩, .act (.timer 0 0 0), .tick, .tick]

/-- A timer registered from the first due timer's callback with an earlier deadline: after two
    iterations it has not run, is in no queue, and is still allocated (leaked). -/
theorem timer_past_dropped_counterexample :
    (runOps .shipped probePastDropped).status = .ok ∧ (runOps .shipped probePastDropped).timers = [] ∧
    leaked (runOps .shipped probePastDropped) = [3] ∧
    ((runOps .shipped probePastDropped).slots.map (·.fires)) = [1, 0] := by decide +kernel
theorem timer_past_dropped_repaired :
    leaked (runOps .repaired probePastDropped) = [] ∧
    ((runOps .repaired probePastDropped).slots.map (·.fires)) = [1, 1] := by decide +kernel

def probeLaterCancel : List Op :=
  [.beh ⟨0, 0, [.cancel 1]⟩, .act (.later 0 0), .act (.later 1 2), .tick]

/-- A deferred callback cancelled by an earlier one of the same batch, as shipped: no UNBIND notification, and it
    still runs. -/
theorem later_cancel_detached_counterexample :
    (runOps .shipped probeLaterCancel).log.reverse =
      [.poll (some 0) [(-1, 1)] (some 0), .cb 0 3 .none, .a, .cb 1 3 .none] := by decide +kernel

/-- Repaired (`tickit_watch_cancel` marks an entry of the detached batch, the loop skips marked entries): the
    cancelled callback gets the UNBIND notification it asked for, at once, and never runs; nothing is leaked. -/
theorem cancelled_later_never_runs_repaired :
    (runOps .repaired probeLaterCancel).log.reverse =
      [.poll (some 0) [(-1, 1)] (some 0), .cb 0 3 .none, .a, .cb 1 2 .none] ∧
    leaked (runOps .repaired probeLaterCancel) = [] ∧
    ((runOps .repaired probeLaterCancel).slots.map (·.fires)) = [1, 0] := by decide +kernel

/-- … also when a due timer cancels it (the batch is detached before the timers run), and a deferred callback
    that cancels itself from its own callback is not notified a second time. -/
theorem cancelled_later_by_timer_repaired :
    (runOps .repaired [.beh ⟨0, 0, [.cancel 1]⟩, .beh ⟨2, 0, [.cancel 2]⟩, .act (.timer 0 0 0), .act (.later 1 6), .act (.later 2 2),
      .tick]).log.reverse =
      [.poll (some 0) [(-1, 1)] (some 0), .g, .cb 0 3 .none, .a, .cb 1 2 .none, .cb 2 3 .none, .a] := by decide +kernel

def cbLogOf (st : St) : List Ev := st.log.reverse.filter fun e => match e with | .cb .. => true | _ => false

def probePreExited : List Op := [.act (.exit 1000000000 0), .act (.process 0 1000000000 6), .destroy]

/-- A watch on a child that has already exited is linked nowhere: no notification at destruction, leaked. -/
theorem process_preexited_counterexample :
    (runOps .shipped probePreExited).log = [] ∧ leaked (runOps .shipped probePreExited) = [2] := by decide +kernel

/-- Repaired (`tickit_watch_process` links the watch and remembers its deferred callback in `process.notify`):
    destruction notifies it, nothing is leaked … -/
theorem process_preexited_repaired :
    (runOps .repaired probePreExited).log = [.cb 0 6 .none] ∧ leaked (runOps .repaired probePreExited) = [] := by decide +kernel

/-- … it fires once, from the next iteration, and is released; and a cancel before that takes effect: the UNBIND
    notification it asked for, no invocation, nothing leaked. -/
theorem process_preexited_cancel_repaired :
    cbLogOf (runOps .repaired [.act (.exit 1000000000 7), .act (.process 0 1000000000 6), .tick]) = [.cb 0 1 (.proc 1000000000 7)] ∧
    leaked (runOps .repaired [.act (.exit 1000000000 7), .act (.process 0 1000000000 6), .tick]) = [] ∧
    (runOps .repaired [.act (.exit 1000000000 7), .act (.process 0 1000000000 6), .act (.cancel 0)]).log = [.cb 0 2 .none] ∧
    cbLogOf (runOps .repaired [.act (.exit 1000000000 7), .act (.process 0 1000000000 6), .act (.cancel 0), .tick]) = [] ∧
    leaked (runOps .repaired [.act (.exit 1000000000 7), .act (.process 0 1000000000 6), .act (.cancel 0), .tick]) = [] := by
  decide +kernel

def probeSigchldNext : List Op :=
  [.beh ⟨0, 0, [.cancel 1]⟩, .act (.process 0 1000000000 0), .act (.process 1 1000000001 0),
   .act (.exit 1000000000 0), .act (.raise 17), .tick]

/-- `on_sigchld` keeps `next` across a callback that cancels it. -/
theorem sigchld_next_cancelled_counterexample : (runOps .shipped probeSigchldNext).status = .ub .procLoopThis := by
  decide +kernel
theorem sigchld_next_cancelled_repaired : (runOps .repaired probeSigchldNext).status = .ok := by decide +kernel

theorem repaired_is_rep : Rep Config.repaired := ⟨rfl, rfl, rfl, rfl⟩

/-- The count the harness keeps for watch slot `k` is the count of FIRE invocations of one watch: every watch
    with a slot number has its record, slot numbers are not shared, and the record's handle is the watch that
    carries its number (`fireUser st k …`, the only place that logs a FIRE entry `cb:k:…` and the only place
    that increments `fires`, increments the records whose number is `k`). -/
theorem invocation_count_is_per_watch (ops : List Op) (hok : (runOps .repaired ops).status = .ok) :
    (∀ a, a < (runOps .repaired ops).heap.length → ((runOps .repaired ops).getW a).slot ≥ 0 →
        ∃ r ∈ (runOps .repaired ops).slots, r.k = ((runOps .repaired ops).getW a).slot ∧ r.handle = a) ∧
    ((runOps .repaired ops).slots.map (·.k)).Nodup ∧
    (∀ r ∈ (runOps .repaired ops).slots, r.handle < (runOps .repaired ops).heap.length ∧
        ((runOps .repaired ops).getW r.handle).slot = r.k) :=
  have b := b_runOps _ repaired_is_rep ops hok
  ⟨b.k.s1, b.k.s2, b.k.s3⟩

/-- Exactly once.  In every state a history of valid usage reaches under the repaired source, for every timer
    and every deferred callback the harness registered (record `r`, watch `r.handle`):
    * it has been invoked at most once, over all iterations so far — whatever was registered, cancelled or
      invoked in between, from outside or from inside callbacks;
    * while it is allocated it has not been invoked, and (in a live instance) it is still in its queue, where
      the next iteration that finds it due (`no_due_timer_left`) or the next iteration at all
      (`deferred_batch_runs_once_in_order`) takes it;
    * once it is gone from a live instance and no cancel was ever asked for it, it has been invoked exactly once.
    (A deferred callback cancelled while its batch is detached still runs: `later_cancel_detached_counterexample`.) -/
theorem exactly_once (ops : List Op) (hok : (runOps .repaired ops).status = .ok) :
    ∀ r ∈ (runOps .repaired ops).slots, isOneShot ((runOps .repaired ops).getW r.handle).type = true →
      r.fires ≤ 1 ∧
      ((runOps .repaired ops).live r.handle = true → r.fires = 0) ∧
      ((runOps .repaired ops).alive = true → (runOps .repaired ops).live r.handle = true →
        (((runOps .repaired ops).getW r.handle).type = .timer → r.handle ∈ (runOps .repaired ops).timers) ∧
        (((runOps .repaired ops).getW r.handle).type = .later → r.handle ∈ (runOps .repaired ops).laters)) ∧
      ((runOps .repaired ops).alive = true → r.k ∉ (runOps .repaired ops).cancelReq →
        (runOps .repaired ops).live r.handle = false → r.fires = 1) := by
  intro r hr ho
  have b := b_runOps _ repaired_is_rep ops hok
  have hok' := (St.isOk_iff _).mpr hok
  exact ⟨b.o.le_one hr ho, fun hl => b.o.fires_zero hr ho hok' hl, fun hal hl => b.li.queued hok' hal (b.k.s3 r hr).1 hl,
    fun hal hnc hd => b.g hal r hr ho hnc hd⟩

/-- No timer or deferred callback of a live instance is lost: as long as it is allocated it is in its queue
    (internal ones — `process_notify` — included). -/
theorem no_watch_lost (ops : List Op) (hok : (runOps .repaired ops).status = .ok) (hal : (runOps .repaired ops).alive = true) :
    ∀ a, a < (runOps .repaired ops).heap.length → (runOps .repaired ops).live a = true →
      (((runOps .repaired ops).getW a).type = .timer → a ∈ (runOps .repaired ops).timers) ∧
      (((runOps .repaired ops).getW a).type = .later → a ∈ (runOps .repaired ops).laters) :=
  fun _ ha hl => (b_runOps _ repaired_is_rep ops hok).li.queued ((St.isOk_iff _).mpr hok) hal ha hl

/-- Three timers and a deferred callback over four iterations, one timer registered from a callback with a
    deadline in the past, one cancelled: the counts. -/
example : ((runOps .repaired [.beh ⟨0, 0, [.timerAt 3 999 0 0, .cancel 2]⟩, .act (.timer 0 0 0), .act (.timer 1 5 0), .act (.timer 2 7 0),
      .act (.later 4 0), .tick, .tick, .clock 5000, .tick, .tick]).slots.map (fun r => (r.k, r.fires))) =
    [(0, 1), (1, 1), (2, 0), (4, 1), (3, 1)] ∧
    (runOps .repaired [.beh ⟨0, 0, [.timerAt 3 999 0 0, .cancel 2]⟩, .act (.timer 0 0 0), .act (.timer 1 5 0), .act (.timer 2 7 0),
      .act (.later 4 0), .tick, .tick, .clock 5000, .tick, .tick]).cancelReq = [2] := by decide +kernel

/-- Exactly once, for one iteration (`tickit_tick`, non-blocking or blocking) begun in any state a history of valid
    usage reaches under the repaired source: a timer of the harness that is queued when the iteration begins and is due
    when its timer phase starts (by the clock after the wait, `phaseClock`), and a deferred callback that is queued when
    the iteration begins — if no cancel has been asked for it by the time the iteration ends — has not been invoked
    before, is gone (released) when the iteration ends, and its count of FIRE invocations is then exactly 1: whatever the
    other timers, deferred callbacks, io, signal and process callbacks of the iteration registered, cancelled or raised. -/
theorem exactly_once_iteration (ops : List Op) (op : Op) (nohang : Bool)
    (hop : (op = .tick ∧ nohang = true) ∨ (op = .tickhang ∧ nohang = false))
    (hok0 : (runOps .repaired ops).status = .ok) (hal : (runOps .repaired ops).alive = true)
    (hok : (runOps .repaired (ops ++ [op])).status = .ok) :
    ∀ r ∈ (runOps .repaired ops).slots, r.k ∉ (runOps .repaired (ops ++ [op])).cancelReq →
      ((r.handle ∈ (runOps .repaired ops).timers ∧
          ((runOps .repaired ops).getW r.handle).due.gt
            (TV.ofUs (phaseClock { runOps .repaired ops with stillRunning := true, log := [] } nohang)) = false) ∨
        r.handle ∈ (runOps .repaired ops).laters) →
      r.fires = 0 ∧ (runOps .repaired (ops ++ [op])).live r.handle = false ∧
      ∃ r' ∈ (runOps .repaired (ops ++ [op])).slots, r'.k = r.k ∧ r'.handle = r.handle ∧ r'.fires = 1 := by
  rw [runOps_snoc, applyOp_tick _ op nohang hop ((St.isOk_iff _).mpr hok0) hal] at hok ⊢
  exact queued_once_in_iteration defaultFuel _ nohang (b_runOps _ repaired_is_rep ops hok0).tickStart
    (qinv_runOps .repaired ops).tickStart hal hok

/-- In a non-blocking iteration the clock of the timer phase is the clock the iteration began with. -/
theorem phase_clock_of_tick (st : St) :
    phaseClock { st with stillRunning := true, log := [] } true = st.clockUs := phaseClock_nohang _

/-- The hypotheses are met and the conclusion is not vacuous: a due timer, a timer whose deadline lies in the past, a
    deferred callback, and a timer that is not yet due, over one iteration. -/
example : ((runOps .repaired [.act (.timer 0 0 0), .act (.timerAt 1 999 0 0), .act (.later 2 0), .act (.timer 3 5 0)]).slots.map
      (fun r => (r.k, r.handle, r.fires))) = [(0, 2, 0), (1, 3, 0), (2, 4, 0), (3, 5, 0)] ∧
    (runOps .repaired [.act (.timer 0 0 0), .act (.timerAt 1 999 0 0), .act (.later 2 0), .act (.timer 3 5 0)]).timers = [3, 2, 5] ∧
    (runOps .repaired [.act (.timer 0 0 0), .act (.timerAt 1 999 0 0), .act (.later 2 0), .act (.timer 3 5 0)]).laters = [4] ∧
    (runOps .repaired ([.act (.timer 0 0 0), .act (.timerAt 1 999 0 0), .act (.later 2 0), .act (.timer 3 5 0)] ++ [.tick])).status = .ok ∧
    (runOps .repaired ([.act (.timer 0 0 0), .act (.timerAt 1 999 0 0), .act (.later 2 0), .act (.timer 3 5 0)] ++ [.tick])).cancelReq = [] ∧
    ((runOps .repaired ([.act (.timer 0 0 0), .act (.timerAt 1 999 0 0), .act (.later 2 0), .act (.timer 3 5 0)] ++ [.tick])).slots.map
      (fun r => (r.k, r.fires))) = [(0, 1), (1, 1), (2, 1), (3, 0)] := by decide +kernel

/-! ### statements of the property that are not proved (engines.d/C17.json: open_statements) -/

/-- No undefined behaviour on valid usage under the repaired source (every use-after-free found so far is repaired in
    /repo: known/C17.json, known/C18.json list them as fixed; the statement for all histories is not proved). -/
def no_ub_full : Prop :=
  ∀ (ops : List Op), (∀ w, (runOps .repaired ops).status ≠ .ub w)

/-! ### unbind handlers that act (Model/EvLoopUnbind.lean): registered from inside a notification, still runs -/

/-- Once the unbind handler of a cancelled timer / deferred callback has returned, `tickit_watch_cancel` never writes
    the queue again: what the handler queued — wherever it landed, also immediately in front of the place the
    cancelled watch had — is still queued when the cancel returns (every state, every handler). -/
theorem cancel_keeps_what_unbind_handler_queued (ub : List Beh) (st : St) (a : Nat) (w : Watch) (l : List Nat) :
    (w.type = .timer → (cancelFoundU ub st a w l).timers = (cancelUnlinkedU ub st a w l).timers) ∧
    (w.type = .later → (cancelFoundU ub st a w l).laters = (cancelUnlinkedU ub st a w l).laters) :=
  ⟨cancel_keeps_what_handler_queued_timers ub st a w l, cancel_keeps_what_handler_queued_laters ub st a w l⟩

/-- The watch is out of its queue before the handler runs. -/
theorem cancel_unlinks_before_unbind_handler (ub : List Beh) (st : St) (a : Nat) (w : Watch) (l : List Nat)
    (ht : w.type = .timer) (hu : unbindActs ub (st.getW a).slot = []) :
    (cancelUnlinkedU ub st a w l).timers = l.erase a := cancel_unlinks_before_handler ub st a w l ht hu

/-- Non-vacuity: a timer the handler registers between the cancelled timer's predecessor and the cancelled timer is
    queued, runs in deadline order; a BIND_FIRST deferred callback queued while the cancelled one is the head runs. -/
theorem unbind_handler_registrations_run :
    (applyCancelU ubBetween probeUnbindBetween 1).timers = [2, 5, 4] ∧
    cbsOf ([Op.clock 10000, .tick].foldl applyOp (applyCancelU ubBetween probeUnbindBetween 1)) =
      [.cb 0 3 .none, .cb 5 3 .none, .cb 2 3 .none] ∧
    cbsOf ([Op.tick].foldl applyOp (applyCancelU [⟨0, 0, [.later 5 1]⟩] probeUnbindFirst 0)) =
      [.cb 5 3 .none, .cb 1 3 .none] := by decide +kernel

/-- A top-level cancel whose unbind handler acts keeps everything the exactly-once theorems rest on: the five watch
    lists well formed, the slot table, at-most-once, "allocated ⇒ queued", "gone ⇒ invoked or cancel asked" (the bundle
    `B []`) and the order of the timer queue — from every state that has them, for every handler. -/
theorem cancel_with_acting_unbind_handler_keeps_invariants (ub : List Beh) (st : St) (k : Int) (b : B [] st) (q : QInv st) :
    B [] (applyCancelU ub st k) ∧ QInv (applyCancelU ub st k) :=
  ⟨b_applyCancelU ub st k b, qinv_applyCancelU ub st k q⟩

/-- … so every state of every history in which top-level cancels find acting unbind handlers (`UOp`, `runUOps`:
    Model/EvLoopUnbind.lean) has them, under the repaired source. -/
theorem invariants_with_acting_unbind_handlers (ops : List UOp) (hok : (runUOps .repaired ops).status = .ok) :
    B [] (runUOps .repaired ops) ∧ QInv (runUOps .repaired ops) :=
  ⟨b_runUOps _ repaired_is_rep ops hok, qinv_runUOps _ ops⟩

/-- When `tickit_watch_cancel` (made from outside any callback) returns, every timer and every deferred callback its
    unbind handler registered is allocated, has not been invoked, and is in its queue — for every history, every handler
    (`ub`: any list of actions — registrations of every kind, also `BIND_FIRST`, raises, errno), wherever in the queue
    the new watch landed. -/
theorem unbind_handler_registration_is_queued (ops : List UOp) (ub : List Beh) (k : Int)
    (hok0 : (runUOps .repaired ops).status = .ok) (hal : (runUOps .repaired ops).alive = true)
    (hok1 : (runUOps .repaired (ops ++ [.cancelU ub k])).status = .ok) :
    ∀ r ∈ (runUOps .repaired (ops ++ [.cancelU ub k])).slots, (runUOps .repaired ops).heap.length ≤ r.handle →
      r.k ∉ (runUOps .repaired (ops ++ [.cancelU ub k])).cancelReq →
      isOneShot ((runUOps .repaired (ops ++ [.cancelU ub k])).getW r.handle).type = true →
      (runUOps .repaired (ops ++ [.cancelU ub k])).live r.handle = true ∧ r.fires = 0 ∧
      (((runUOps .repaired (ops ++ [.cancelU ub k])).getW r.handle).type = .timer →
        r.handle ∈ (runUOps .repaired (ops ++ [.cancelU ub k])).timers) ∧
      (((runUOps .repaired (ops ++ [.cancelU ub k])).getW r.handle).type = .later →
        r.handle ∈ (runUOps .repaired (ops ++ [.cancelU ub k])).laters) := by
  rw [runUOps_snoc] at hok1 ⊢
  exact unbind_registered_is_queued ub _ k (b_runUOps _ repaired_is_rep ops hok0) hal hok1

/-- Exactly once.  A timer registered by the unbind handler of a watch cancelled from outside any callback that is due
    when the timer phase of the next iteration starts, and a deferred callback registered by such a handler — if no cancel
    is asked for it by the time that iteration ends — has not been invoked when the cancel returns, is in its queue
    then, is gone (released) when the iteration ends, and its count of FIRE invocations is then exactly 1: for every
    history (earlier cancels with acting handlers included), every handler, whatever the other callbacks of the
    iteration do. -/
theorem unbind_handler_registration_runs_once (ops : List UOp) (ub : List Beh) (k : Int) (op : Op) (nohang : Bool)
    (hop : (op = .tick ∧ nohang = true) ∨ (op = .tickhang ∧ nohang = false))
    (hok0 : (runUOps .repaired ops).status = .ok) (hal : (runUOps .repaired ops).alive = true)
    (hok1 : (runUOps .repaired (ops ++ [.cancelU ub k])).status = .ok)
    (hok2 : (runUOps .repaired ((ops ++ [.cancelU ub k]) ++ [.op op])).status = .ok) :
    ∀ r ∈ (runUOps .repaired (ops ++ [.cancelU ub k])).slots, (runUOps .repaired ops).heap.length ≤ r.handle →
      r.k ∉ (runUOps .repaired ((ops ++ [.cancelU ub k]) ++ [.op op])).cancelReq →
      ((((runUOps .repaired (ops ++ [.cancelU ub k])).getW r.handle).type = .timer ∧
          ((runUOps .repaired (ops ++ [.cancelU ub k])).getW r.handle).due.gt
            (TV.ofUs (phaseClock (afterCancelU ub (runUOps .repaired ops) k) nohang)) = false) ∨
        ((runUOps .repaired (ops ++ [.cancelU ub k])).getW r.handle).type = .later) →
      r.fires = 0 ∧
      (r.handle ∈ (runUOps .repaired (ops ++ [.cancelU ub k])).timers ∨
        r.handle ∈ (runUOps .repaired (ops ++ [.cancelU ub k])).laters) ∧
      (runUOps .repaired ((ops ++ [.cancelU ub k]) ++ [.op op])).live r.handle = false ∧
      ∃ r' ∈ (runUOps .repaired ((ops ++ [.cancelU ub k]) ++ [.op op])).slots, r'.k = r.k ∧ r'.handle = r.handle ∧ r'.fires = 1 := by
  have b := b_runUOps _ repaired_is_rep ops hok0
  simp only [runUOps_snoc] at hok1 hok2 ⊢
  rw [applyUOp_tick_afterCancelU ub _ k op nohang hop b.k hal hok1] at hok2 ⊢
  exact unbind_registered_runs_once defaultFuel ub _ k nohang b (qinv_runUOps _ ops) hal hok1 hok2

def probeUnbindOnce : List UOp :=
  [.op (.act (.timerAt 0 1000 1000 6)), .op (.act (.timerAt 1 1000 5000 2)), .op (.act (.timerAt 2 1000 10000 0)), .op (.clock 5000)]
def ubOnce : List Beh := [⟨1, 0, [.timerAt 5 1000 4999 2, .later 6 0]⟩]

/- The hypotheses of `unbind_handler_registration_runs_once` are met and its conclusion is not vacuous: timers 0, 1
   (UNBIND), 2; the clock passes the first two deadlines; `cancel 1` from outside, the handler of 1 registers timer 5
   immediately in front of the place timer 1 had and the deferred callback 6; one iteration: 5 and 6 (and 0) have run
   once, 2 is not due, 1 was cancelled. -/
example : (runUOps .repaired probeUnbindOnce).heap.length = 5 ∧ (runUOps .repaired probeUnbindOnce).alive = true ∧
    ((runUOps .repaired (probeUnbindOnce ++ [.cancelU ubOnce 1])).slots.map (fun r => (r.k, r.handle, r.fires))) =
      [(0, 2, 0), (1, 3, 0), (2, 4, 0), (5, 5, 0), (6, 6, 0)] ∧
    (runUOps .repaired (probeUnbindOnce ++ [.cancelU ubOnce 1])).timers = [2, 5, 4] ∧
    (runUOps .repaired (probeUnbindOnce ++ [.cancelU ubOnce 1])).laters = [6] ∧
    (runUOps .repaired ((probeUnbindOnce ++ [.cancelU ubOnce 1]) ++ [.op .tick])).status = .ok ∧
    (runUOps .repaired ((probeUnbindOnce ++ [.cancelU ubOnce 1]) ++ [.op .tick])).cancelReq = [1] ∧
    ((runUOps .repaired ((probeUnbindOnce ++ [.cancelU ubOnce 1]) ++ [.op .tick])).slots.map (fun r => (r.k, r.handle, r.fires))) =
      [(0, 2, 1), (1, 3, 0), (2, 4, 0), (5, 5, 1), (6, 6, 1)] := by decide +kernel

/-- Membership of the handler's timer in the queue claimed for *every* state `st`, not only for reachable ones, is
    false: a state whose slot table points at a freed watch makes `tickit_watch_cancel` read
    freed memory before any handler runs.  (Kernel-checked; the theorems above quantify over the states histories reach.) -/
theorem unbind_registration_needs_a_reachable_state :
    ¬ (∀ (ub : List Beh) (st : St) (k n : Int) (sec usec : Int) (f : Nat),
      st.isOk = true → unbindActs ub k = [.timerAt n sec usec f] → findSlot st n = none → 0 ≤ n → n < MAXW → 0 ≤ usec →
      (∃ r, findSlot st k = some r ∧ st.timers.contains r.handle = true ∧ (st.getW r.handle).flags &&& BIND_UNBIND ≠ 0 ∧
            (st.getW r.handle).slot = k) →
      (doCancelU ub st k).timers.contains st.heap.length = true) := by
  intro h
  have := h [⟨0, 0, [.timerAt 1 0 0 0]⟩]
    { cfg := .repaired, alive := true, heap := [{ freed := true, type := .timer, flags := 2, slot := 0 }], timers := [0],
      slots := [⟨0, 0, 0⟩] } 0 1 0 0 0 (by decide) (by decide) (by decide) (by decide) (by decide) (by decide)
    ⟨⟨0, 0, 0⟩, by decide, by decide, by decide, by decide⟩
  revert this
  decide

/-- Open: that the handler's registration is *performed* — from a reachable state, `tickit_watch_cancel` of a queued
    timer whose stored flags contain UNBIND reaches the handler without reading freed memory, and a handler whose one
    action is `timerAt n …` (slot `n` unused) leaves a record for `n` whose watch is the fresh address, a timer.  (With
    it, `unbind_handler_registration_is_queued` / `…_runs_once` apply to that record.  It is the no-UB statement of
    this path: `no_ub_full` restricted to `tickit_watch_cancel` and `tickit_watch_timer_at_tv`.) -/
def unbind_handler_registration_is_performed : Prop :=
  ∀ (ops : List UOp) (ub : List Beh) (k n : Int) (sec usec : Int) (f : Nat),
    (runUOps .repaired ops).status = .ok → (runUOps .repaired ops).alive = true →
    unbindActs ub k = [.timerAt n sec usec f] → findSlot (runUOps .repaired ops) n = none → 0 ≤ n → n < MAXW → 0 ≤ usec →
    (∃ r, findSlot (runUOps .repaired ops) k = some r ∧ r.handle ∈ (runUOps .repaired ops).timers ∧
          ((runUOps .repaired ops).getW r.handle).flags &&& BIND_UNBIND ≠ 0) →
    (runUOps .repaired (ops ++ [.cancelU ub k])).status = .ok ∧
    ∃ r' ∈ (runUOps .repaired (ops ++ [.cancelU ub k])).slots, r'.k = n ∧ r'.handle = (runUOps .repaired ops).heap.length ∧
      ((runUOps .repaired (ops ++ [.cancelU ub k])).getW r'.handle).type = .timer

/-- `.tv_sec = msec / 1000, .tv_usec = (msec % 1000) * 1000` is exactly `msec` milliseconds and a normalised timeval,
    for EVERY `msec ≥ 0` - there is no bound above which the product `msec * 1000` matters, because it is never formed. -/
theorem after_msec_delay_exact (msec : Int) (_h : 0 ≤ msec) :
    (msec / 1000) * 1000000 + (msec % 1000) * 1000 = msec * 1000 ∧
    0 ≤ (msec % 1000) * 1000 ∧ (msec % 1000) * 1000 < 1000000 := by omega

/-- `timeradd` of two normalised timevals is their exact sum, normalised. -/
theorem tv_add_exact (a b : TV) (ha : 0 ≤ a.usec ∧ a.usec < 1000000) (hb : 0 ≤ b.usec ∧ b.usec < 1000000) :
    (a.add b).sec * 1000000 + (a.add b).usec = (a.sec * 1000000 + a.usec) + (b.sec * 1000000 + b.usec) ∧
    0 ≤ (a.add b).usec ∧ (a.add b).usec < 1000000 := by
  unfold TV.add
  split <;> (simp only []; omega)

/-- The deadline `tickit_watch_timer_after_msec` hands to `tickit_watch_timer_at_tv` is the clock reading plus exactly
    `msec` milliseconds, for every state and every `msec ≥ 0` (36 minutes, 24 days, …): together with
    `never_early` above (no timer is invoked while its stored deadline is in the future)
    a relative timer never runs before `msec` milliseconds have passed on the clock. -/
theorem after_msec_deadline_exact (st : St) (msec : Int) (flags : Nat) (slot : Int) (h : 0 ≤ msec) :
    watchTimerAfterMsec st msec flags slot =
      watchTimerAt (st.emit .g) ((TV.ofUs st.clockUs).add ⟨msec / 1000, (msec % 1000) * 1000⟩) flags slot ∧
    ((TV.ofUs st.clockUs).add ⟨msec / 1000, (msec % 1000) * 1000⟩).sec * 1000000 +
      ((TV.ofUs st.clockUs).add ⟨msec / 1000, (msec % 1000) * 1000⟩).usec = st.clockUs + msec * 1000 := by
  have hn := TV.ofUs_exact st.clockUs
  have hd := after_msec_delay_exact msec h
  refine ⟨rfl, ?_⟩
  rw [(tv_add_exact (TV.ofUs st.clockUs) ⟨msec / 1000, (msec % 1000) * 1000⟩ hn.2 hd.2).1, hn.1]
  exact congrArg _ hd.1

/-- Non-vacuity: forty minutes (40*60*1000 ms, above INT_MAX/1000) is a deadline 2400 s after the clock reading. -/
theorem after_msec_forty_minutes :
    (watchTimerAfterMsec (build .repaired) 2400000 0 0).1.timers.map
      (fun a => ((watchTimerAfterMsec (build .repaired) 2400000 0 0).1.getW a).due) =
    [⟨(build .repaired).clockUs / 1000000 + 2400, 0⟩] := by decide +kernel

end Tickit.Props.C17
