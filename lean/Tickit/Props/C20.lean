import Tickit.Proof.InputXlateLexer
import Tickit.Gen.InputXlate
/-
  C20 — Decoded input events do not depend on how the byte stream is fragmented.

  The model (`Model/InputXlate.lean`) is `got_key`, `get_keys`, `tickit_term_input_push_bytes` and the
  timeout functions of src/term.c over an abstract `Tokenizer` (libtermkey is modelled, not verified: the
  property itself trusts it).  Every theorem is universally quantified (all tokenizers obeying the law, all
  key sequences, all masks, all cuttings); the `example`s show that hypotheses are inhabited.

  Two clauses are false of the unchanged code.  For each: the full statement as a `def … : Prop`, the
  counterexample theorem for the unrepaired shape of the code, the theorem under the hypothesis that
  excludes the trigger, and the full theorem for the repaired shape.  Which shape the working tree has is
  read from the source on every run (`Gen.InputXlate.pushLoops`, `.dropUnknownMouse`); all four theorems are
  stated for an arbitrary `cfg`, so they stay valid whichever way the source goes.
-/
namespace Tickit.Props.C20
open Tickit Tickit.InputXlate

/-! ### the constants and literals of the source are the ones the model uses -/

theorem constants_agree :
    Gen.InputXlate.MOUSEEV_PRESS = MOUSEEV_PRESS ∧ Gen.InputXlate.MOUSEEV_DRAG = MOUSEEV_DRAG ∧
    Gen.InputXlate.MOUSEEV_RELEASE = MOUSEEV_RELEASE ∧ Gen.InputXlate.MOUSEEV_WHEEL = MOUSEEV_WHEEL ∧
    Gen.InputXlate.MOUSEWHEEL_UP = MOUSEWHEEL_UP ∧ Gen.InputXlate.MOUSEWHEEL_DOWN = MOUSEWHEEL_UP + 1 ∧
    Gen.InputXlate.KEYEV_KEY = KEYEV_KEY ∧ Gen.InputXlate.KEYEV_TEXT = KEYEV_TEXT ∧
    Gen.InputXlate.TERMKEY_MOUSE_UNKNOWN = TERMKEY_MOUSE_UNKNOWN ∧
    Gen.InputXlate.TERMKEY_MOUSE_PRESS = TERMKEY_MOUSE_PRESS ∧
    Gen.InputXlate.TERMKEY_MOUSE_DRAG = TERMKEY_MOUSE_DRAG ∧
    Gen.InputXlate.TERMKEY_MOUSE_RELEASE = TERMKEY_MOUSE_RELEASE ∧
    Gen.InputXlate.wheelFirstButton = WHEEL_FIRST_BUTTON ∧ Gen.InputXlate.wheelOffsetBase = WHEEL_FIRST_BUTTON ∧
    Gen.InputXlate.releaseLoopStart = RELEASE_LOOP_START ∧ Gen.InputXlate.positionDecrement = 1 ∧
    Gen.InputXlate.heldMaskShiftLimit = INT_SHIFT_LIMIT ∧
    Gen.InputXlate.MSEC = MSEC ∧ Gen.InputXlate.SECOND = SECOND := by decide

/-- `info.mod = key->modifiers` is copied unchanged: the two libraries number the modifiers alike. -/
theorem modifiers_agree :
    Gen.InputXlate.MOD_SHIFT = Gen.InputXlate.TERMKEY_KEYMOD_SHIFT ∧
    Gen.InputXlate.MOD_ALT = Gen.InputXlate.TERMKEY_KEYMOD_ALT ∧
    Gen.InputXlate.MOD_CTRL = Gen.InputXlate.TERMKEY_KEYMOD_CTRL := by decide

/-- The model instantiated with what the extractor read in the working tree. -/
def sourceCfg : Cfg :=
  { pushLoops := Gen.InputXlate.pushLoops, dropUnknownMouse := Gen.InputXlate.dropUnknownMouse }

/-- Printable text arrives as a text event carrying exactly its UTF-8. -/
theorem text_event_exact (cfg : Cfg) (fuel held : Nat) (utf8 name : List UInt8) :
    gotKey cfg fuel held (.unicode 0 utf8 name) = .ok (held, [Event.key KEYEV_TEXT 0 utf8]) := by
  simp [gotKey]

/-- Named and modified keys arrive as key events carrying the tokenizer's name and modifiers. -/
theorem key_event_exact (cfg : Cfg) (fuel held : Nat) (mods : Int) (utf8 name : List UInt8) :
    gotKey cfg fuel held (.function mods name) = .ok (held, [Event.key KEYEV_KEY mods name]) ∧
    gotKey cfg fuel held (.keysym mods name) = .ok (held, [Event.key KEYEV_KEY mods name]) ∧
    (mods ≠ 0 → gotKey cfg fuel held (.unicode mods utf8 name) = .ok (held, [Event.key KEYEV_KEY mods name])) := by
  refine ⟨by simp [gotKey], by simp [gotKey], fun h => by simp [gotKey, h]⟩

example : gotKey {} 64 0 (.unicode 0 [0xc4, 0x89] [0xc4, 0x89]) = .ok (0, [Event.key 2 0 [0xc4, 0x89]]) := by decide +kernel

/-- Every event emitted for a mouse report (also each of the releases of a button-less release) carries
    the reported position minus one — the tokenizer is 1-based, the events 0-based — and the report's
    modifiers. -/
theorem positions_zero_based (cfg : Cfg) (fuel held : Nat) (ev button line col mods : Int) (r : Nat × List Event)
    (h : gotKey cfg fuel held (.mouse ev button line col mods) = .ok r) :
    ∀ e ∈ r.2, ∃ t b, e = Event.mouse t b (line - 1) (col - 1) mods := by
  intro e he
  obtain ⟨t, b, hb, _⟩ := gotKey_mouse_events cfg fuel held ev button line col mods r h e he
  exact ⟨t, b, hb⟩

example : gotKey {} 64 0 (.mouse TERMKEY_MOUSE_PRESS 1 24 80 4) = .ok (2, [Event.mouse MOUSEEV_PRESS 1 23 79 4]) := by
  decide +kernel

/-- The clause "mouse reports arrive as press/drag/release/wheel", in full. -/
def MouseKindsFull (cfg : Cfg) : Prop :=
  ∀ (fuel held : Nat) (ev button line col mods : Int) (r : Nat × List Event),
    gotKey cfg fuel held (.mouse ev button line col mods) = .ok r →
    ∀ e ∈ r.2, ∃ t b l c m, e = Event.mouse t b l c m ∧
      (t = MOUSEEV_PRESS ∨ t = MOUSEEV_DRAG ∨ t = MOUSEEV_RELEASE ∨ t = MOUSEEV_WHEEL)

/-- It fails while the `default:` arm of `switch(ev)` falls through: a report the tokenizer cannot
    classify (SGR button code 66) becomes an event of type −1. -/
theorem mouse_kinds_counterexample (cfg : Cfg) (h : cfg.dropUnknownMouse = false) : ¬ MouseKindsFull cfg := by
  intro hfull
  have hg : gotKey cfg 0 0 (.mouse TERMKEY_MOUSE_UNKNOWN 0 2 2 0) = .ok (0, [Event.mouse (-1) 0 1 1 0]) := by
    rw [gotKey_mouse, h]
    rfl
  obtain ⟨t, b, l, c, m, he, ht⟩ := hfull 0 0 _ 0 2 2 0 _ hg _ (List.mem_singleton.2 rfl)
  cases he
  revert ht
  decide

/-- It holds for every report the tokenizer does classify … -/
theorem mouse_kinds_partial (cfg : Cfg) (fuel held : Nat) (ev button line col mods : Int) (r : Nat × List Event)
    (hk : (Key.mouse ev button line col mods).KnownKind)
    (h : gotKey cfg fuel held (.mouse ev button line col mods) = .ok r) :
    ∀ e ∈ r.2, ∃ t b l c m, e = Event.mouse t b l c m ∧
      (t = MOUSEEV_PRESS ∨ t = MOUSEEV_DRAG ∨ t = MOUSEEV_RELEASE ∨ t = MOUSEEV_WHEEL) :=
  gotKey_mouse_kinds cfg fuel held ev button line col mods r (.inr hk) h

/-- … and in full once the `default:` arm returns (fixes/C20_unknown_mouse_event.patch). -/
theorem mouse_kinds_fixed (cfg : Cfg) (h : cfg.dropUnknownMouse = true) : MouseKindsFull cfg :=
  fun fuel held ev button line col mods r => gotKey_mouse_kinds cfg fuel held ev button line col mods r (.inl h)

/-- The clause holds of the working tree exactly when it has the repair (the flag is read from the source on every run). -/
theorem mouse_kinds_source : MouseKindsFull sourceCfg ↔ Gen.InputXlate.dropUnknownMouse = true :=
  iff_of_flag (mouse_kinds_counterexample sourceCfg) (mouse_kinds_fixed sourceCfg)

/-- A release that names no button is reported once for each button currently held (ascending), for no
    other, and the record is empty afterwards.  (`MaskInv`: the mask fits an `int` and bit 0 is clear —
    invariant, see `held_mask_inv`.) -/
theorem release_all_held (cfg : Cfg) (fuel held : Nat) (hfuel : 30 ≤ fuel) (hinv : MaskInv held)
    (line col mods : Int) :
    gotKey cfg fuel held (.mouse TERMKEY_MOUSE_RELEASE 0 line col mods) =
      .ok (0, (heldButtons held).map fun (b : Nat) => Event.mouse MOUSEEV_RELEASE (Int.ofNat b) (line - 1) (col - 1) mods) ∧
    (∀ b, b ∈ heldButtons held ↔ held.testBit b = true) ∧
    (heldButtons held).Pairwise (· < ·) := by
  refine ⟨?_, fun b => hinv.fits.mem_heldButtons, ?_⟩
  · rw [gotKey_mouse_release_all, releaseLoop_held _ _ _ hinv hfuel]
    rfl
  · unfold heldButtons
    exact List.Pairwise.filter _ (List.pairwise_lt_range' 1)

example : MaskInv 0b1010 ∧
    gotKey {} 30 0b1010 (.mouse TERMKEY_MOUSE_RELEASE 0 1 1 0) =
      .ok (0, [Event.mouse MOUSEEV_RELEASE 1 0 0 0, Event.mouse MOUSEEV_RELEASE 3 0 0 0]) := by
  refine ⟨⟨by unfold Fits; decide, by decide⟩, by decide +kernel⟩

/-- From a fresh terminal, for every sequence of keys the tokenizer may deliver (`Key.WF`: buttons 0..30,
    a press or drag names a button): `got_key` never shifts out of range and the X10 loop never runs out
    (no `ub`, no `outOfFuel`); the mask fits an `int`, bit 0 is never set, and the buttons recorded in
    it are exactly the specification's set — those pressed or dragged and not released since; and the
    events are exactly the specification's unless a report of unknown kind meets the unrepaired
    `default:` arm. -/
theorem held_mask_inv (cfg : Cfg) (fuel : Nat) (hfuel : 30 ≤ fuel)
    (hcb : cfg.onModereport = true ∧ cfg.onDecrqss = true) (keys : List Key) (hwf : ∀ k ∈ keys, k.WF) :
    ∃ held evs, runKeys cfg fuel 0 keys = .ok (held, evs) ∧
      MaskInv held ∧ heldButtons held = (Spec.run [] keys).1 ∧
      ((cfg.dropUnknownMouse = true ∨ ∀ k ∈ keys, k.KnownKind) → evs = (Spec.run [] keys).2) := by
  have := runKeys_refines cfg fuel hfuel hcb keys 0 maskInv_zero hwf
  rw [heldButtons_zero] at this
  exact this

/-- The record returns to empty when all buttons are released: an empty set is the mask 0. -/
theorem mask_empty_when_all_released (held : Nat) (hinv : MaskInv held) (h : heldButtons held = []) : held = 0 := by
  apply eq_zero_of_testBit
  intro i
  cases hb : held.testBit i
  · rfl
  · have : i ∈ heldButtons held := hinv.fits.mem_heldButtons.2 hb
    rw [h] at this
    cases this

example :
    let keys := [Key.mouse TERMKEY_MOUSE_PRESS 1 5 5 0, Key.mouse TERMKEY_MOUSE_DRAG 3 5 6 0,
                 Key.mouse TERMKEY_MOUSE_RELEASE 1 5 6 0, Key.mouse TERMKEY_MOUSE_PRESS 4 5 6 0]
    (∀ k ∈ keys, k.WF) ∧ (Spec.run [] keys).1 = [3] ∧ (runKeys {} 30 0 keys).map (·.1) = .ok 8 := by
  refine ⟨by decide, by decide +kernel, by decide +kernel⟩

/-- The loop `for(info.button = 1; tt->mouse_buttons_held; info.button++)` terminates, with the mask
    empty, for every mask that fits an `int` and has bit 0 clear — with at most 30 iterations. -/
theorem release_loop_terminates (line col mods : Int) (fuel held : Nat) (hfuel : 30 ≤ fuel)
    (hinv : MaskInv held) :
    ∃ evs, releaseLoop line col mods fuel RELEASE_LOOP_START held = .ok (0, evs) :=
  ⟨_, releaseLoop_held line col mods hinv hfuel⟩

/-- If bit 0 were ever set the loop could not terminate: the mask never becomes empty and the shift count
    runs into `1 << 31` (undefined) … -/
theorem release_loop_diverges_if_bit0 (line col mods : Int) (fuel held : Nat) (h0 : held.testBit 0 = true) :
    (∀ r, releaseLoop line col mods fuel RELEASE_LOOP_START held ≠ .ok r) ∧
    (31 ≤ fuel → ∃ w, releaseLoop line col mods fuel RELEASE_LOOP_START held = .ub w) :=
  match releaseLoop_bit0 line col mods fuel RELEASE_LOOP_START held h0 (Nat.le_refl 1) with
  | .inl ⟨w, hw⟩ => ⟨fun r h => (by rw [hw] at h; cases h), fun _ => ⟨w, hw⟩⟩
  | .inr ⟨ho, hf⟩ => ⟨fun r h => (by rw [ho] at h; cases h),
      fun h31 => absurd hf (by unfold RELEASE_LOOP_START INT_SHIFT_LIMIT; omega)⟩

example : releaseLoop 0 0 0 64 RELEASE_LOOP_START 1 =
    .ub "1 << info.button with info.button >= 31 in the X10 release loop" := by decide +kernel

/-- … but bit 0 cannot be set: only a press or drag of button 0 would, and the tokenizer never reports
    one (`Key.WF`, checked on every key the harness logs).  Stated for one key; `held_mask_inv` is the
    induction. -/
theorem bit0_never_set (cfg : Cfg) (fuel held : Nat) (hfuel : 30 ≤ fuel) (hinv : MaskInv held) (k : Key) (hwf : k.WF)
    (hcb : cfg.onModereport = true ∧ cfg.onDecrqss = true) :
    ∃ held' evs, gotKey cfg fuel held k = .ok (held', evs) ∧ held'.testBit 0 = false := by
  obtain ⟨h', e', hg, hinv', _⟩ := gotKey_refines cfg fuel hfuel held hinv k hwf hcb
  exact ⟨h', e', hg, hinv'.bit0⟩

/-- The hypothesis `Key.WF` cannot be dropped: a (hypothetical) press of button 0 sets bit 0, and the next
    button-less release runs into the undefined shift. -/
theorem press_of_button_zero_counterexample :
    ¬ (Key.mouse TERMKEY_MOUSE_PRESS 0 1 1 0).WF ∧
    runKeys {} 64 0 [Key.mouse TERMKEY_MOUSE_PRESS 0 1 1 0, Key.mouse TERMKEY_MOUSE_RELEASE 0 1 1 0] =
      .ub "1 << info.button with info.button >= 31 in the X10 release loop" := by
  refine ⟨by decide, by decide +kernel⟩

/-- C20's main clause over an abstract tokenizer obeying `Incremental`: pushing a stream in any pieces
    (no timeout forced in between) gives the same events, the same held-button mask, the same tokenizer
    state and the same armed-ness of the inter-byte timeout as pushing it whole, *provided the whole is
    accepted by one `termkey_push_bytes`* — the unchanged `tickit_term_input_push_bytes` does not look at
    the count (`cfg.pushLoops = false`).  Outcomes are compared as outcomes: if `got_key` runs into
    undefined behaviour for one way of cutting it does so for all. -/
theorem fragmentation_independent (T : Tokenizer) (hI : T.Incremental) (cfg : Cfg) (hc : cfg.pushLoops = false)
    (fuel : Nat) (now : TimeVal) (hnow : 0 ≤ now.sec) (tt : Term T) (p : List UInt8) (ps : List (List UInt8))
    (hacc : T.Accepts tt.tk (p :: ps).flatten) :
    (pushPieces T cfg fuel now tt (p :: ps)).map pushObs =
      (inputPushBytes T cfg fuel now tt (p :: ps).flatten).map pushObs := by
  -- both sides are runs of the unchanged push over accepted cuttings of one stream: the pieces, and the one piece that is
  -- the whole
  rw [pushPieces_eq_once T cfg fuel now hc, inputPushBytes, hc, if_neg Bool.false_ne_true,
    ← seq_singleton (inputPushBytesOnce T cfg fuel now)]
  exact pushPiecesOnce_agree T cfg fuel now hI hnow tt (List.flatten_singleton ..).symm
    (acceptedList_of_whole T hI _ _ hacc) ⟨hacc, trivial⟩

/-- Any two ways of cutting the same stream into non-empty pieces agree, as long as every single push is
    accepted in full — the whole need not fit the tokenizer's buffer. -/
theorem any_two_fragmentations_agree (T : Tokenizer) (hI : T.Incremental) (cfg : Cfg) (hc : cfg.pushLoops = false)
    (fuel : Nat) (now : TimeVal) (hnow : 0 ≤ now.sec) (tt : Term T)
    (c : List UInt8) (cs : List (List UInt8)) (d : List UInt8) (ds : List (List UInt8))
    (hflat : (c :: cs).flatten = (d :: ds).flatten)
    (hnc : ∀ p ∈ c :: cs, p ≠ []) (hnd : ∀ p ∈ d :: ds, p ≠ [])
    (hac : AcceptedRun T tt.tk c cs) (had : AcceptedRun T tt.tk d ds) :
    (pushPieces T cfg fuel now tt (c :: cs)).map pushObs = (pushPieces T cfg fuel now tt (d :: ds)).map pushObs := by
  rw [pushPieces_eq_once T cfg fuel now hc, pushPieces_eq_once T cfg fuel now hc]
  exact pushPiecesOnce_agree T cfg fuel now hI hnow tt hflat
    ((acceptedRun_iff T cs tt.tk c).1 hac) ((acceptedRun_iff T ds tt.tk d).1 had)

/-! #### the law is satisfiable: a concrete CSI / SGR-mouse tokenizer with libtermkey's 256-byte buffer -/

/-- Text bytes, ESC, CSI sequences and SGR-1006 mouse reports over a 256-byte buffer. -/
abbrev exampleTokenizer : Tokenizer := Csi.lexer.tokenizer 256

theorem exampleTokenizer_incremental : exampleTokenizer.Incremental := Csi.lexer.incremental 256

def freshTerm : Term exampleTokenizer := { tk := [], held := 0, timeoutAt := ⟨-1, 0⟩ }

/-- `ESC [ < 0 ; 5 ; 7 M`, `ESC [ < 3 ; 5 ; 7 M`, `a` — cut inside both mouse reports. -/
def examplePieces : List (List UInt8) :=
  [[0x1b, 0x5b, 0x3c, 0x30], [0x3b, 0x35, 0x3b, 0x37, 0x4d, 0x1b], [0x5b, 0x3c, 0x33, 0x3b, 0x35, 0x3b, 0x37, 0x4d, 0x61]]

example : exampleTokenizer.Accepts freshTerm.tk examplePieces.flatten := by decide +kernel

example :
    (pushPieces exampleTokenizer {} 64 ⟨1000, 0⟩ freshTerm examplePieces).map pushObs =
      .ok ([], 0, false, [Event.mouse MOUSEEV_PRESS 1 6 4 0, Event.mouse MOUSEEV_RELEASE 1 6 4 0,
                          Event.key KEYEV_TEXT 0 [0x61]]) := by decide +kernel

example :
    (pushPieces exampleTokenizer {} 64 ⟨1000, 0⟩ freshTerm examplePieces).map pushObs =
      (inputPushBytes exampleTokenizer {} 64 ⟨1000, 0⟩ freshTerm examplePieces.flatten).map pushObs :=
  fragmentation_independent exampleTokenizer exampleTokenizer_incremental {} rfl 64 ⟨1000, 0⟩ (by decide) freshTerm
    _ _ (by decide +kernel)

/-! #### the clause in full: it fails for the unchanged `tickit_term_input_push_bytes`, holds for the repaired one -/

/-- Fragmentation independence without the proviso that the whole fits one `termkey_push_bytes`: for every
    tokenizer obeying `Incremental` and `PartialPush`, every cutting of a stream into non-empty pieces
    gives the same observation as the whole.  `runChunks … .isSome` says that a hand-over loop would never
    stall (the tokenizer never refuses everything while bytes are left: no unfinished sequence as long
    as its whole buffer) — for the unchanged code a proviso without effect, for the repaired code the
    condition under which it hands over every byte. -/
def FragmentationFull (cfg : Cfg) : Prop :=
  ∀ (T : Tokenizer), T.Incremental → T.PartialPush → ∀ (fuel : Nat) (now : TimeVal), 0 ≤ now.sec →
    ∀ (tt : Term T) (p : List UInt8) (ps : List (List UInt8)), (∀ q ∈ p :: ps, q ≠ []) →
      (runChunks T tt.tk [(p :: ps).flatten]).isSome → (runChunks T tt.tk (p :: ps)).isSome →
      (pushPieces T cfg fuel now tt (p :: ps)).map pushObs =
        (inputPushBytes T cfg fuel now tt (p :: ps).flatten).map pushObs

/-- A tokenizer with a 4-byte buffer (libtermkey's has 256): `abc`, `def` pushed one after the other all
    arrive; `abcdef` pushed whole loses `ef`. -/
theorem fragmentation_counterexample (cfg : Cfg) (hc : cfg.pushLoops = false) : ¬ FragmentationFull cfg := by
  intro hfull
  -- the two observations differ whatever the other three switches of `cfg` say
  have key : ∀ cfg' : Cfg, cfg'.pushLoops = false →
      (pushPieces (Csi.lexer.tokenizer 4) cfg' 64 ⟨1000, 0⟩ { tk := [], held := 0, timeoutAt := ⟨-1, 0⟩ }
        [[0x61, 0x62, 0x63], [0x64, 0x65, 0x66]]).map pushObs ≠
      (inputPushBytes (Csi.lexer.tokenizer 4) cfg' 64 ⟨1000, 0⟩ { tk := [], held := 0, timeoutAt := ⟨-1, 0⟩ }
        [[0x61, 0x62, 0x63], [0x64, 0x65, 0x66]].flatten).map pushObs := by
    intro cfg' hc'
    obtain ⟨a, b, c, d⟩ := cfg'
    subst hc'
    cases a <;> cases b <;> cases d <;> decide +kernel
  exact key cfg hc (hfull (Csi.lexer.tokenizer 4) (Csi.lexer.incremental 4) (Csi.lexer.partialPush 4) 64 ⟨1000, 0⟩
    (by decide) _ _ _ (by decide) (by decide +kernel) (by decide +kernel))

/-- Under the hypothesis that excludes exactly the trigger — the whole is accepted by one
    `termkey_push_bytes` — the clause holds for the unchanged code (this is `fragmentation_independent`). -/
theorem fragmentation_partial (cfg : Cfg) (hc : cfg.pushLoops = false) (T : Tokenizer) (hI : T.Incremental)
    (fuel : Nat) (now : TimeVal) (hnow : 0 ≤ now.sec) (tt : Term T) (p : List UInt8) (ps : List (List UInt8))
    (hwhole : T.Accepts tt.tk (p :: ps).flatten) :
    (pushPieces T cfg fuel now tt (p :: ps)).map pushObs =
      (inputPushBytes T cfg fuel now tt (p :: ps).flatten).map pushObs :=
  fragmentation_independent T hI cfg hc fuel now hnow tt p ps hwhole

/-- With fixes/C20_push_bytes_short_count.patch (`cfg.pushLoops = true`: the push hands over what
    `termkey_push_bytes` did not accept, after draining) the clause holds in full. -/
theorem fragmentation_fixed (cfg : Cfg) (hc : cfg.pushLoops = true) : FragmentationFull cfg := by
  intro T hI hP fuel now hnow tt p ps _ hw hp
  -- a single looped push is `pushPieces` of one piece
  rw [← seq_singleton (inputPushBytes T cfg fuel now), ← pushPieces_eq_seq]
  exact pushPieces_loop_agree T cfg fuel now hI hP hc hnow tt (List.flatten_singleton ..).symm (List.cons_ne_nil _ _)
    (List.cons_ne_nil _ _) hp hw

/-- The clause holds of the working tree exactly when it has the repair (the flag is read from the source on every run). -/
theorem fragmentation_source : FragmentationFull sourceCfg ↔ Gen.InputXlate.pushLoops = true :=
  iff_of_flag (fragmentation_counterexample sourceCfg) (fragmentation_fixed sourceCfg)

/-- The hypotheses of `FragmentationFull` are inhabited: the example tokenizer obeys both laws, and a
    300-byte stream of text (more than its 256-byte buffer) pushed whole or in two halves never stalls. -/
example : exampleTokenizer.Incremental ∧ exampleTokenizer.PartialPush ∧
    (runChunks exampleTokenizer freshTerm.tk [List.replicate 300 0x61]).isSome = true ∧
    (runChunks exampleTokenizer freshTerm.tk [List.replicate 150 0x61, List.replicate 150 0x61]).isSome = true :=
  ⟨exampleTokenizer_incremental, Csi.lexer.partialPush 256, by decide +kernel, by decide +kernel⟩

/-- … and there the repaired push delivers all 300 events where the unchanged one delivers 256. -/
example :
    (inputPushBytes exampleTokenizer { pushLoops := true } 64 ⟨1000, 0⟩ freshTerm (List.replicate 300 0x61)).map
      (fun r => r.2.length) = .ok 300 ∧
    (inputPushBytes exampleTokenizer { pushLoops := false } 64 ⟨1000, 0⟩ freshTerm (List.replicate 300 0x61)).map
      (fun r => r.2.length) = .ok 256 := by
  constructor <;> decide +kernel

/-! ### the inter-byte timeout deadline (`TickitTerm.input_timeout_at`) -/

/-- absolute microseconds of a `struct timeval` -/
def us (t : TimeVal) : Int := t.sec * 1000000 + t.usec

/-- After a drain that ends in `TERMKEY_RES_AGAIN`, the deadline is the clock reading plus the tokenizer's
    wait time, as a normalised `timeval`; after any other result it is cleared. -/
theorem timeout_armed_at (t now : TimeVal) (w : Int) (hn : 0 ≤ now.usec ∧ now.usec < 1000000)
    (hw : 0 ≤ w ∧ w * 1000 < 1000000) :
    us (armTimeout t now w Res.again) = us now + w * 1000 ∧
    0 ≤ (armTimeout t now w Res.again).usec ∧ (armTimeout t now w Res.again).usec < 1000000 ∧
    ∀ r, r ≠ Res.again → (armTimeout t now w r).sec = -1 := by
  unfold armTimeout us MSEC SECOND
  simp only [if_true]
  -- the three arithmetic facts go to `omega` together, once per arm of the carry
  refine (and_assoc.1 (and_assoc.1 ⟨?_, fun r hr => by simp [hr]⟩))
  split <;> simp only <;> omega

/-- `get_timeout` never fires early: it is 0 (force the pending bytes) exactly when the clock has reached
    the deadline, otherwise the time left rounded up to whole milliseconds; −1 when no deadline is armed. -/
theorem timeout_never_early (d now : TimeVal) (hdn : 0 ≤ d.usec ∧ d.usec < 1000000)
    (hn : 0 ≤ now.usec ∧ now.usec < 1000000) :
    (d.sec = -1 → getTimeout d now = -1) ∧
    (d.sec ≠ -1 → us d ≤ us now → getTimeout d now = 0) ∧
    (d.sec ≠ -1 → us now < us d → getTimeout d now = (us d - us now + 999) / 1000 ∧ 0 < getTimeout d now) := by
  refine ⟨fun h => by simp [getTimeout, h], ?_, ?_⟩
  · intro hd h
    unfold getTimeout us MSEC SECOND at *
    rw [if_neg hd]
    simp only
    by_cases hneg : d.usec - now.usec < 0
    · simp only [hneg, if_true]; rw [if_neg (by omega)]
    · simp only [hneg, if_false]; rw [if_neg (by omega)]
  · intro hd h
    unfold getTimeout us MSEC SECOND at *
    rw [if_neg hd]
    simp only
    by_cases hneg : d.usec - now.usec < 0
    · simp only [hneg, if_true]
      rw [if_pos (by omega), Int.tdiv_eq_ediv_of_nonneg (by omega)]
      omega
    · simp only [hneg, if_false]
      rw [if_pos (by omega), Int.tdiv_eq_ediv_of_nonneg (by omega)]
      omega

example : getTimeout (armTimeout ⟨-1, 0⟩ ⟨1000, 999000⟩ 50 Res.again) ⟨1001, 48999⟩ = 1 ∧
    getTimeout (armTimeout ⟨-1, 0⟩ ⟨1000, 999000⟩ 50 Res.again) ⟨1001, 49000⟩ = 0 := by decide +kernel

end Tickit.Props.C20
