import Tickit.Proof.BindingsOrder
import Tickit.Proof.BindingsRoot
import Tickit.Gen.Bindings
/-
  C16 — Handlers fire once per event, in order, never after unbind, even re-entrantly.

  The model (`Tickit/Model/Bindings.lean`) transcribes `src/bindings.c`; `Cfg.original` is the code of
  the unchanged tree, `Cfg.repaired` the code with `fixes/C16_oneshot.patch` and
  `fixes/C16_unbind_reentrant.patch` applied.  Handlers are arbitrary behaviour tables
  (`Behaviour`: handler → invocation number → actions to perform and value to return), interpreted
  at any nesting depth; `fuel` bounds the recursion and every theorem holds for every fuel.

  A *history* is a list of top-level operations run from the empty binding list (`Runs`).  The
  property's clauses are statements about the trace `st.log` of a history (newest event first):
    `Ev.bound k id ev first flags`   a bind created binding `k` (k = its slot) with identifier `id`
    `Ev.enter k h n flags occ`       handler `h` entered for binding `k` with `TickitEventFlags` `flags`
    `Ev.unbindReq k`                 `unbind_event_id` found binding `k`                     (ghost)
    `Ev.fire k occ`                  the walker of occurrence `occ` decided to deliver to `k` (ghost)

  Each clause is a `def …Stmt (cfg : Cfg) : Prop`, proved for `Cfg.repaired` and — where the unchanged
  code violates it — refuted for `Cfg.original` by a concrete history (`…_counterexample`).

  Hypotheses common to the theorems:
    `Safe own beh`   the owner's emitters hold a reference while they run the handlers (`own.holdsRef`, the code since
                     fix 4d40c98), or no behaviour drops the last reference to the owner from inside a handler (`NoDestroy`);
    `ValidOps ops`   `unbind` is never handed `BINDING_ID_TOMBSTONE` (-1), which is not an identifier;
    handlers take no action when called with `TICKIT_EV_DESTROY` (built into the model's `call`).
-/
namespace Tickit.Props.C16
open Tickit.Bindings

/-! ### constants read from the source agree with the model -/

/-- `BINDING_ID_TOMBSTONE` and the event-flag bits the model uses are the source's. -/
theorem gen_constants :
    Tickit.Gen.Bindings.BINDING_ID_TOMBSTONE = TOMBSTONE ∧
    Tickit.Gen.Bindings.TICKIT_EV_FIRE = EV_FIRE ∧ Tickit.Gen.Bindings.TICKIT_EV_UNBIND = EV_UNBIND ∧
    Tickit.Gen.Bindings.TICKIT_EV_DESTROY = EV_DESTROY := by decide +kernel

/-- `bind_event` keeps exactly the three flags of `BFlags`; `unbind_event_id` tests `bind->flags` against
    `TICKIT_EV_UNBIND`, which has the value of `TICKIT_BIND_UNBIND`; the destroy loop tests
    `TICKIT_EV_UNBIND|TICKIT_EV_DESTROY` = `TICKIT_BIND_UNBIND|TICKIT_BIND_DESTROY` and event index 0; a one-shot
    delivery adds `TICKIT_EV_UNBIND`; the bits are distinct powers of two (so `Driver.flagsOf` decodes them). -/
theorem gen_flag_layout :
    Tickit.Gen.Bindings.keptMask =
      Tickit.Gen.Bindings.TICKIT_BIND_UNBIND + Tickit.Gen.Bindings.TICKIT_BIND_DESTROY + Tickit.Gen.Bindings.TICKIT_BIND_ONESHOT ∧
    Tickit.Gen.Bindings.unbindTest = Tickit.Gen.Bindings.TICKIT_BIND_UNBIND ∧
    Tickit.Gen.Bindings.unbindCallFlags = EV_UNBIND ∧
    Tickit.Gen.Bindings.destroyTest = Tickit.Gen.Bindings.TICKIT_BIND_UNBIND + Tickit.Gen.Bindings.TICKIT_BIND_DESTROY ∧
    Tickit.Gen.Bindings.destroyCallFlags = EV_UNBIND + EV_DESTROY ∧
    Tickit.Gen.Bindings.destroyEvindex = 0 ∧
    Tickit.Gen.Bindings.oneshotAdds = EV_UNBIND ∧
    (Tickit.Gen.Bindings.TICKIT_BIND_FIRST, Tickit.Gen.Bindings.TICKIT_BIND_UNBIND,
     Tickit.Gen.Bindings.TICKIT_BIND_DESTROY, Tickit.Gen.Bindings.TICKIT_BIND_ONESHOT) = (1, 2, 4, 8) ∧
    Tickit.Gen.Bindings.TICKIT_PEN_ON_DESTROY = 0 ∧ Tickit.Gen.Bindings.TICKIT_TERM_ON_DESTROY = 0 ∧
    Tickit.Gen.Bindings.TICKIT_WINDOW_ON_DESTROY = 0 ∧
    Tickit.Gen.Bindings.TICKIT_PEN_ON_CHANGE = 1 ∧ Tickit.Gen.Bindings.TICKIT_TERM_ON_RESIZE = 1 ∧
    Tickit.Gen.Bindings.TICKIT_TERM_ON_KEY = 2 ∧ Tickit.Gen.Bindings.TICKIT_TERM_ON_MOUSE = 3 := by decide +kernel

/-- a complete history from the empty binding list -/
def Runs (cfg : Cfg) (own : Owner) (beh : Behaviour) (fuel : Nat) (ops : List Op) (st : St) : Prop :=
  execOps cfg own beh fuel ops St.init = .ok st

def ValidOps (ops : List Op) : Prop := ∀ op ∈ ops, OpOk op

instance : DecidablePred OpOk := fun op => by
  cases op <;> simp only [OpOk] <;> infer_instance

instance (ops : List Op) : Decidable (ValidOps ops) := by unfold ValidOps; infer_instance

/-- No history dereferences a freed binding, writes through a stale `bindp` or calls a NULL handler. -/
def NoUbStmt (cfg : Cfg) : Prop :=
  ∀ own beh, Safe own beh → ∀ fuel ops, ValidOps ops → ∀ w, execOps cfg own beh fuel ops St.init ≠ .ub w

theorem no_ub : NoUbStmt Cfg.repaired := by
  intro own beh hb fuel ops hops w
  exact (execOps_good hb fuel ops St.init hops Top.init (RefOk.init own)).ne_ub w

/-- The same for every single task started in a state satisfying the invariant (any nesting depth).  `TaskOk` is `False` of
    `.unref`, `.destroyLoop` and `.unbindLoopOrig`, which are never started as tasks of their own on the repaired code. -/
theorem no_ub_task (own : Owner) (beh : Behaviour) (hb : Safe own beh) (fuel : Nat) (task : Task) (st : St)
    (h : Tickit.Bindings.Inv st) (hro : RefOk own st) (hok : TaskOk own beh task st) (w : String) :
    exec Cfg.repaired own beh fuel task st ≠ .ub w :=
  (exec_good hb fuel task st h hro hok).ne_ub w

/-- After any history the live bindings have pairwise different identifiers, all positive. -/
def LiveIdsUniqueStmt (cfg : Cfg) : Prop :=
  ∀ own beh, Safe own beh → ∀ fuel ops st, ValidOps ops → Runs cfg own beh fuel ops st → Op.destroy ∉ ops → st.dead = false →
    ∀ b1 ∈ st.list, ∀ b2 ∈ st.list, b1.id ≠ TOMBSTONE → b1.id = b2.id → b1 = b2

theorem live_ids_unique : LiveIdsUniqueStmt Cfg.repaired := by
  intro own beh hb fuel ops st hops hr hnd hal b1 h1 b2 h2 hl heq
  have := runs_good hb hops hr
  have hinv := (this.2 hnd hal).1.1
  exact eq_of_key_eq hinv.keysNodup h1 h2 (hinv.idsUnique b1 h1 b2 h2 hl heq)

/-- …and at every bind, top-level or inside a handler at any depth: the identifier returned is positive and
    differs from the identifier of every binding live at that moment. -/
def BindFreshStmt (cfg : Cfg) : Prop :=
  ∀ own beh, Safe own beh → ∀ fuel ops st, ValidOps ops → Runs cfg own beh fuel ops st →
    ∀ post pre k id ev first fl, st.log = post ++ Ev.bound k id ev first fl :: pre →
      1 ≤ id ∧ ∀ k' id' ev' first' fl', Ev.bound k' id' ev' first' fl' ∈ pre → liveAt pre k' → id' ≠ id

theorem bind_returns_fresh_id : BindFreshStmt Cfg.repaired := by
  intro own beh hb fuel ops st hops hr post pre k id ev first fl hsplit
  have := runs_good hb hops hr
  have ht := this.1
  rw [hsplit] at ht
  have := TraceOk.at ht
  exact ⟨this.2.1, this.2.2⟩

/-- Over a whole history the handler of a `TICKIT_BIND_ONESHOT` binding is entered with `TICKIT_EV_FIRE`
    at most once, whichever walker delivers. -/
def OneshotStmt (cfg : Cfg) : Prop :=
  ∀ own beh, Safe own beh → ∀ fuel ops st, ValidOps ops → Runs cfg own beh fuel ops st →
    ∀ k fl, boundIn st.log k fl → fl.oneshot = true → st.log.countP (isEnterFire k) ≤ 1

theorem oneshot_at_most_once : OneshotStmt Cfg.repaired := by
  intro own beh hb fuel ops st hops hr k fl hbound ho
  have := runs_good hb hops hr
  exact Nat.le_trans (enterFire_le_fire this.1 k) (fire_le_one this.1 hbound ho)

/-- Once `unbind_event_id` has found a binding, its handler is never entered with `TICKIT_EV_FIRE` again —
    not even from inside its own unbind notification. -/
def NoFireAfterUnbindStmt (cfg : Cfg) : Prop :=
  ∀ own beh, Safe own beh → ∀ fuel ops st, ValidOps ops → Runs cfg own beh fuel ops st →
    ∀ post pre k, st.log = post ++ Ev.unbindReq k :: pre → post.countP (isEnterFire k) = 0

theorem no_fire_after_unbind : NoFireAfterUnbindStmt Cfg.repaired := by
  intro own beh hb fuel ops st hops hr post pre k hsplit
  have := runs_good hb hops hr
  have ht := this.1
  rw [hsplit] at ht
  exact (no_fire_after_req ht).2

/-- A binding receives the pure unbind notification (`TICKIT_EV_UNBIND` alone) at most once, never more often
    than it was unbound (which is at most once), and only if it was bound with `TICKIT_BIND_UNBIND`. -/
def UnbindNotifyAtMostStmt (cfg : Cfg) : Prop :=
  ∀ own beh, Safe own beh → ∀ fuel ops st, ValidOps ops → Runs cfg own beh fuel ops st → ∀ k,
    st.log.countP (isNotif k) ≤ st.log.countP (isReq k) ∧ st.log.countP (isReq k) ≤ 1 ∧
    (∀ h n occ, Ev.enter k h n EV_UNBIND occ ∈ st.log → ∃ fl, boundIn st.log k fl ∧ fl.unbind = true)

theorem unbind_notify_at_most_once : UnbindNotifyAtMostStmt Cfg.repaired := by
  intro own beh hb fuel ops st hops hr k
  have := runs_good hb hops hr
  exact ⟨notif_le_req this.1 k, req_le_one this.1 k, fun h n occ hm => notif_asked this.1 hm⟩

/-- …and exactly once when it asked: every completed call of `unbind_event_id` (top-level or nested, from any
    state satisfying the invariant) that finds a live binding bound with `TICKIT_BIND_UNBIND` has entered its
    handler with `TICKIT_EV_UNBIND` right after the request; if the binding did not ask, nothing is called. -/
def UnbindNotifiesStmt (cfg : Cfg) : Prop :=
  ∀ own beh, Safe own beh → ∀ fuel id st st' r b, Tickit.Bindings.Inv st → RefOk own st → id ≠ TOMBSTONE → findId st.list id = some b →
    exec cfg own beh fuel (.unbindId id) st = .ok (st', r) →
    (b.flags.unbind = true → ∃ h n seg, st'.log = seg ++ Ev.enter b.key h n EV_UNBIND 0 :: Ev.unbindReq b.key :: st.log) ∧
    (b.flags.unbind = false → st'.log = Ev.unbindReq b.key :: st.log)

theorem unbind_notifies : UnbindNotifiesStmt Cfg.repaired := by
  intro own beh hb fuel id st st' r b hinv hro hid hf hex
  exact exec_unbindId_log hb hinv hro hid hf hex

/-- Destroying the object (from outside its handlers) calls, with `TICKIT_EV_UNBIND|TICKIT_EV_DESTROY`, exactly the
    remaining bindings that asked — bound to the destroy event (index 0) or with `TICKIT_BIND_UNBIND` or
    `TICKIT_BIND_DESTROY` — each exactly once, in reverse list order (newest first; bindings bound `FIRST`
    last), and calls nothing else.  Every remaining binding is live: there is no tombstone between operations. -/
def DestroyNotifiesStmt (cfg : Cfg) : Prop :=
  ∀ own beh, Safe own beh → ∀ fuel ops st st', ValidOps ops → Op.destroy ∉ ops → Runs cfg own beh fuel ops st →
    st.dead = false → execOp cfg own beh fuel .destroy st = .ok st' →
    (∀ b ∈ st.list, b.id ≠ TOMBSTONE) ∧ st'.list = [] ∧
    ∃ seg, st'.log = seg ++ st.log ∧
      enters seg = ((st.list.reverse.filter asked).map fun b => (b.key, EV_UNBIND + EV_DESTROY))

theorem destroy_notifies : DestroyNotifiesStmt Cfg.repaired := by
  intro own beh hb fuel ops st st' hops hnd hr hal hd
  have htop := ((runs_good hb hops hr).2 hnd hal).1
  obtain ⟨h1, _, h3⟩ := (htop.execOp_destroy fuel).of_ok hd
  exact ⟨htop.no_tombstones, h1, h3⟩

/-- Between operations no walker runs and the list holds no tombstone: "destroy with a tombstone pending" needs the owner
    to be destroyed from inside a handler. -/
theorem no_tombstone_between_operations (own : Owner) (beh : Behaviour) (hb : Safe own beh) (fuel : Nat) (ops : List Op) (st : St)
    (hops : ValidOps ops) (hnd : Op.destroy ∉ ops) (hr : Runs Cfg.repaired own beh fuel ops st) (hal : st.dead = false) :
    st.isIter = false ∧ ∀ b ∈ st.list, b.id ≠ TOMBSTONE := by
  have := runs_good hb hops hr
  exact ⟨(this.2 hnd hal).1.2, (this.2 hnd hal).1.no_tombstones⟩


/-- **One occurrence**: a call of `tickit_bindings_run_event` (`wf = false`) or `…_whilefalse` (`wf = true`) for event
    `ev`, in any state `st` satisfying the invariant (so: at top level or from inside handlers at any depth), that
    returns `r` in state `st'`.  Its occurrence number is `o = st.nextOcc`; `seg` is what it appended to the trace
    between its `occBegin` and `occEnd`; `A` are the bindings appended to the chain meanwhile.  Then
    1. the chain it walked, `keys st.list ++ A`, has no repetition, and the bindings it delivered to
       (`firesOf o seg`, in time order) form a sub-sequence of it: *list order, each at most once* — also for bindings
       bound during the occurrence;
    2. every delivery went to a binding that was, at that moment, live and bound to `ev`;
    3. a binding of the chain that got no delivery was not live-and-bound-to-`ev` at the moment any binding *after* it
       in the chain got one (i.e. when the walker passed it), nor — unless a handler claimed the event
       (`wf ∧ r ≠ 0`) — at the end of the occurrence;
    4. stop at the first claim (`wf`): a handler of this occurrence (`Ev.leave c o r'`) returning non-zero is the last
       thing of the occurrence and its value is the walker's result; a non-zero result arises only so.
    So the bindings live for `ev` at the start and still live when reached are delivered to exactly once, in chain
    order (`fire_exactly_once`); and the chain is in binding order, `FIRST` binds ahead (`chain_in_binding_order`). -/
def FireOrderStmt (cfg : Cfg) : Prop :=
  ∀ own beh, Safe own beh → ∀ fuel wf ev st st' r, Tickit.Bindings.Inv st → RefOk own st →
    (own.holdsRef = true → b2n st.userRef + st.frozenRefs + 1 ≤ st.refs) → 1 ≤ st.nextOcc →
    exec cfg own beh fuel (.runEvent wf ev) st = .ok (st', r) →
    ∃ seg A, st'.log = Ev.occEnd st.nextOcc :: (seg ++ Ev.occBegin st.nextOcc ev wf :: st.log) ∧
      (keys st.list ++ A).Nodup ∧
      (firesOf st.nextOcc seg).Sublist (keys st.list ++ A) ∧
      (∀ c s1 s2, seg = s2 ++ Ev.fire c st.nextOcc :: s1 → evLive ev (s1 ++ Ev.occBegin st.nextOcc ev wf :: st.log) c) ∧
      (∀ b ∈ keys st.list ++ A, b ∉ firesOf st.nextOcc seg →
        (∀ c s1 s2, seg = s2 ++ Ev.fire c st.nextOcc :: s1 → c ∈ afterK b (keys st.list ++ A) →
            ¬ evLive ev (s1 ++ Ev.occBegin st.nextOcc ev wf :: st.log) b) ∧
        (¬ (wf = true ∧ r ≠ 0) → ¬ evLive ev (seg ++ Ev.occBegin st.nextOcc ev wf :: st.log) b)) ∧
      (∀ s2 s1 c r', seg = s2 ++ Ev.leave c st.nextOcc r' :: s1 → wf = true → r' ≠ 0 → s2 = [] ∧ r = r') ∧
      (r ≠ 0 → wf = true ∧ ∃ c s1, seg = Ev.leave c st.nextOcc r :: s1)

theorem fire_order : FireOrderStmt Cfg.repaired := by
  intro own beh hb fuel wf ev st st' r h hro hrefs hocc hex
  exact runEvent_spec hb h hro hrefs hocc hex

/-- Occurrence numbers start at 1 (0 marks notifications): the hypothesis `1 ≤ st.nextOcc` of `fire_order` holds after
    every history, and `Step.occMono` carries it into every nested call. -/
theorem occurrence_numbers_positive (own : Owner) (beh : Behaviour) (hb : Safe own beh) (fuel : Nat) (ops : List Op) (st : St)
    (hops : ValidOps ops) (hnd : Op.destroy ∉ ops) (hr : Runs Cfg.repaired own beh fuel ops st) (hal : st.dead = false) :
    1 ≤ st.nextOcc := by
  have := runs_good hb hops hr
  exact (this.2 hnd hal).2.1

/-- Exactly once: a binding live for the event when the occurrence starts and still live for it when the occurrence
    ends (no handler having claimed the event) was delivered to exactly once in it. -/
theorem fire_exactly_once (own : Owner) (beh : Behaviour) (hb : Safe own beh) (fuel : Nat) (wf : Bool) (ev : Int)
    (st st' : St) (r : Int) (h : Tickit.Bindings.Inv st) (hro : RefOk own st)
    (hrefs : own.holdsRef = true → b2n st.userRef + st.frozenRefs + 1 ≤ st.refs) (hocc : 1 ≤ st.nextOcc)
    (hex : exec Cfg.repaired own beh fuel (.runEvent wf ev) st = .ok (st', r)) :
    ∃ seg, st'.log = Ev.occEnd st.nextOcc :: (seg ++ Ev.occBegin st.nextOcc ev wf :: st.log) ∧
      ∀ b, evLive ev st.log b → evLive ev (seg ++ Ev.occBegin st.nextOcc ev wf :: st.log) b → ¬ (wf = true ∧ r ≠ 0) →
        (firesOf st.nextOcc seg).count b = 1 := by
  obtain ⟨seg, A, hlog, hnd, hsub, _, hcomp, _⟩ := runEvent_spec hb h hro hrefs hocc hex
  refine ⟨seg, hlog, fun b hl0 hl1 hncl => ?_⟩
  have hbk : b ∈ keys st.list := by
    obtain ⟨x, hx, hxk, _⟩ := (h.liveIff b).2 hl0.1
    exact mem_keys.2 ⟨x, hx, hxk⟩
  have hmem : b ∈ firesOf st.nextOcc seg := by
    apply Classical.byContradiction
    intro hnf
    exact (hcomp b (List.mem_append_left _ hbk) hnf).2 hncl hl1
  rw [List.Nodup.count (hsub.nodup hnd), if_pos hmem]

/-- The chain is in binding order: it is a sub-sequence of the sequence obtained from the bind events by putting
    `TICKIT_BIND_FIRST` binds at the front and the others at the back (which has no repetition). -/
theorem chain_in_binding_order (own : Owner) (beh : Behaviour) (hb : Safe own beh) (fuel : Nat) (ops : List Op) (st : St)
    (hops : ValidOps ops) (hnd : Op.destroy ∉ ops) (hr : Runs Cfg.repaired own beh fuel ops st) (hal : st.dead = false) :
    (keys st.list).Sublist (bindOrder st.log) ∧ (bindOrder st.log).Nodup := by
  have := runs_good hb hops hr
  exact ⟨(this.2 hnd hal).1.1.order, bindOrder_nodup this.1⟩

/-- …and this holds in every state a task runs in (any nesting depth), being part of the invariant. -/
theorem chain_in_binding_order_inv (st : St) (h : Tickit.Bindings.Inv st) :
    (keys st.list).Sublist (bindOrder st.log) ∧ (bindOrder st.log).Nodup :=
  ⟨h.order, bindOrder_nodup h.trace⟩

/-! ### destruction from inside a handler (owners whose emitters hold a reference: the code since fix 4d40c98)

`Safe own beh` is `own.holdsRef = true ∨ NoDestroy beh`: every theorem above therefore holds for *all* behaviours —
including those that drop the owner's last reference from inside a handler, at any depth — when the owner's emitters hold
a reference, as `pen.c` and `term.c` now do (`Gen.Bindings.penEmitterRef/termEmitterRef`).  The handler interpreter
drops the handlers' reference once (`St.userRef`) and takes no action on an owner that is gone. -/

/-- `no_ub` without any hypothesis on the behaviours. -/
theorem no_ub_holding_ref (own : Owner) (hh : own.holdsRef = true) (beh : Behaviour) (fuel : Nat) (ops : List Op)
    (hops : ValidOps ops) (w : String) : execOps Cfg.repaired own beh fuel ops St.init ≠ .ub w :=
  no_ub own beh (Or.inl hh) fuel ops hops w

/-- The owner is never destroyed under a walker: an occurrence — and any task started while a walker runs — ends
    with the owner alive, whatever the handlers do.  (Destruction waits for the end of the outermost emission.) -/
theorem owner_outlives_the_walk (own : Owner) (beh : Behaviour) (hb : Safe own beh) (fuel : Nat) (task : Task) (st st' : St) (r : Int)
    (h : Tickit.Bindings.Inv st) (hro : RefOk own st) (hok : TaskOk own beh task st)
    (hwalk : st.isIter = true ∨ canDie task = false)
    (hex : exec Cfg.repaired own beh fuel task st = .ok (st', r)) : st'.dead = false ∧ Tickit.Bindings.Inv st' := by
  obtain ⟨h', _, _⟩ := exec_ok_alive hb hex h hro hok hwalk
  exact ⟨h'.alive.2, h'⟩

/-- **Deferred destruction** (`destroy_notifies` for a destruction requested from inside a handler): an emission, with
    no walker running around it, that ends with the owner destroyed has first run its occurrence to completion — the
    walker returned in a state `st2` in which the owner lives, the invariant holds (so `fire_order` applies to that
    very occurrence), the sweep is done and every binding of the chain is live — and only then notified the remaining
    bindings that asked, in reverse chain order, each exactly once, and freed the chain. -/
def DeferredDestroyStmt (cfg : Cfg) : Prop :=
  ∀ own beh, own.holdsRef = true → ∀ fuel wf ev st st' r, Tickit.Bindings.Inv st → RefOk own st → st.isIter = false →
    exec cfg own beh fuel (.emitter wf ev) st = .ok (st', r) → st'.dead = true →
    ∃ st2 fuel', exec cfg own beh fuel' (.runEvent wf ev) { st with refs := st.refs + 1 } = .ok (st2, r) ∧
      Tickit.Bindings.Inv st2 ∧ st2.isIter = false ∧ (∀ b ∈ st2.list, b.id ≠ TOMBSTONE) ∧ st'.list = [] ∧
      ∃ seg, st'.log = seg ++ st2.log ∧
        enters seg = (st2.list.reverse.filter asked).map (fun b => (b.key, EV_UNBIND + EV_DESTROY))

theorem destroy_from_handler_notifies : DeferredDestroyStmt Cfg.repaired := by
  intro own beh hh fuel wf ev st st' r h hro hni hex hd
  exact emitter_destroys (Or.inl hh) hh h hro hni hex hd

/-- Without the emitters' reference the hypothesis on the behaviours is needed: on a pen that holds none
    (the code before fix 4d40c98) a handler dropping the last reference frees the chain under the walker. -/
theorem destroy_in_handler_counterexample :
    ¬ (∀ (own : Owner) (beh : Behaviour) (fuel : Nat) (ops : List Op), ValidOps ops → ∀ w,
        execOps Cfg.repaired own beh fuel ops St.init ≠ .ub w) := by
  intro h
  obtain ⟨w, hc⟩ := ub_of_isUb (r := execOps Cfg.repaired Owner.pen behDropRef 30 [.bind 1 false plain 0, .emit 1] St.init)
    (by decide +kernel)
  exact h Owner.pen behDropRef 30 _ (by decide +kernel) w hc

/-- …and with it a history of the same kind (two bindings that ask to be notified) completes: handler 0 drops the reference and emits again (the nested occurrence
    delivers to both bindings), the outer walk goes on to binding 1, and only after the outermost emission has ended are
    the two askers notified, newest first; the owner is then gone. -/
example :
    (match execOps Cfg.repaired penHoldingRef behDropRef 40
        [.bind 1 false ⟨false, true, false⟩ 0, .bind 1 false wantsUnbind 1, .emit 1] St.init with
     | .ok st => some (st.dead, firesOf 1 st.log, firesOf 2 st.log)
     | _ => none) = some (true, [0, 1], [0, 1]) := by decide +kernel

example :
    (match execOps Cfg.repaired penHoldingRef behDropRef 40
        [.bind 1 false ⟨false, true, false⟩ 0, .bind 1 false wantsUnbind 1, .emit 1] St.init with
     | .ok st => some (enters (st.log.take 4), (st.log.drop 4).head?)
     | _ => none) = some ([(1, 6), (0, 6)], some (Ev.occEnd 1)) := by decide +kernel

/-! ### the pen as emitter: freeze..thaw regions (`tickit_pen_copy`, `copy_attr` of a colour, a colour description)

The pen's change event is emitted by `changed()` — at once, or remembered while a region is frozen and delivered as one
batched occurrence by the outermost `thaw()` — and by `tickit_pen_set_colour_attr`, at once.  The model's pen owner
(`PenSt`, `Task.pen`, `Task.penRegion`) transcribes this; handler actions may run such operations on the owner pen
(`Action.pen`).  All theorems above quantify over these behaviours too; the invariant `RefOk` carries, besides the
reference accounting of open regions, that a change is remembered only inside a frozen region. -/

/-- Re-applying a template the pen already satisfies (`tickit_pen_copy` with nothing to copy) is not an occurrence of the
    change event: no handler is called, nothing is recorded, in any state the invariant allows — in particular from
    inside a change handler that is itself being delivered the batched occurrence of an enclosing region (`thaw` clears
    `changed` before it emits). -/
theorem satisfied_template_is_no_occurrence (own : Owner) (beh : Behaviour) (fuel : Nat) (st st' : St) (r : Int) (t : Tmpl) (ow : Bool)
    (h : Tickit.Bindings.Inv st) (hro : RefOk own st)
    (hfg : loopCopiesFg st.pen t ow = false) (hbd : loopCopiesBold st.pen t ow = false)
    (hex : exec Cfg.repaired own beh fuel (.penRegion (PenOp.copy t ow).body) st = .ok (st', r)) :
    st'.log = st.log ∧ st'.dead = false ∧ st'.list = st.list ∧ st'.pen = st.pen := by
  obtain ⟨a, b, c, d, _⟩ := region_idle own beh h hro (fun s hs => by
    simp only [PenOp.body, List.mem_cons, List.not_mem_nil, or_false] at hs
    rcases hs with rfl | rfl <;> simp [PenStep.idle, hfg, hbd]) hex
  exact ⟨a, b, c, d⟩

/-- A change is remembered only inside a frozen region: after any history `changed` is clear and no region is open. -/
theorem no_change_pending_between_operations (own : Owner) (beh : Behaviour) (hb : Safe own beh) (fuel : Nat) (ops : List Op) (st : St)
    (hops : ValidOps ops) (hnd : Op.destroy ∉ ops) (hr : Runs Cfg.repaired own beh fuel ops st) (hal : st.dead = false) :
    st.pen.freeze = 0 → st.pen.changed = false := by
  have := runs_good hb hops hr
  exact (this.2 hnd hal).2.2.1.2

/-- Not vacuous: handler 0 re-applies the satisfied template {bold} from inside
    the batched occurrence that `tickit_pen_copy(pen, {bold}, overwrite)` delivers; each of the two handlers runs once
    for that one change, and a second copy of the same template delivers nothing. -/
example :
    (match execOps Cfg.repaired penHoldingRef (fun h n => if h = 0 ∧ n = 0 then ⟨[.pen (.copy ⟨some true, none, none⟩ true)], 0⟩ else ⟨[], 0⟩) 60
        [.bind 1 false plain 0, .bind 1 false plain 1, .pen (.copy ⟨some true, none, none⟩ true), .pen (.copy ⟨some true, none, none⟩ true)]
        St.init with
     | .ok st => some (st.log.countP (isEnterFire 0), st.log.countP (isEnterFire 1), st.pen.bold)
     | _ => none) = some (1, 1, some true) := by decide +kernel

/-- After any history, the bindings the trace says are live — bound, not unbound since, not a delivered one-shot —
    are exactly the live nodes of the chain: no bind is lost, no unbound binding lingers. -/
def LiveInChainStmt (cfg : Cfg) : Prop :=
  ∀ own beh, Safe own beh → ∀ fuel ops st, ValidOps ops → Runs cfg own beh fuel ops st → Op.destroy ∉ ops → st.dead = false →
    ∀ k, liveAt st.log k ↔ liveKey st.list k

theorem live_bindings_are_in_chain : LiveInChainStmt Cfg.repaired := by
  intro own beh hb fuel ops st hops hr hnd hal k
  have := runs_good hb hops hr
  exact ((this.2 hnd hal).1.1.liveIff k).symm

/-! ### a library client of the bindings: the root window on its terminal (`src/window.c`)

`tickit_window_new_root2` binds three handlers on the terminal and keeps the identifiers; `tickit_window_destroy` hands them
to `tickit_term_unbind_event_id`.  The clauses "run exactly once per occurrence" and "exactly one unbind notification, if it
asked" for the *application's* handlers on that terminal depend on these identifiers still denoting the root window's own
bindings when it lets go of them: identifiers are `max + 1` over the live bindings, so an identifier that is unbound twice
with a bind in between removes somebody else's binding.  `Model/BindingsRoot.lean` transcribes the root window's side
(`rootNew`, `rootRef`, `rootClose`, `rootUnref`, `unbindAll`); the library's handlers are handlers `LIB_H + i` of the
behaviour table. -/

/-- What the model assumes of window.c is what the source says: the root window binds the terminal's resize, key and mouse
    events, in this order, with flags 0, into `event_ids[0..2]`; it unbinds `event_ids[0..2]`; and no other function of
    window.c binds or unbinds anything on the terminal. -/
theorem gen_root_client :
    Tickit.Gen.Bindings.rootBinds = rootEvents.map (fun ev => (ev, 0)) ∧
    Tickit.Gen.Bindings.rootBindIdx = [0, 1, 2] ∧ Tickit.Gen.Bindings.rootUnbindIdx = [0, 1, 2] ∧
    Tickit.Gen.Bindings.rootBindSites = ["tickit_window_new_root2"] ∧
    Tickit.Gen.Bindings.rootUnbindSites = ["tickit_window_destroy"] := by decide +kernel

/-- …and the window's event numbers are those of `Owner.win`: GEOMCHANGE, EXPOSE, FOCUS by `run_events`; KEY, MOUSE by
    `run_events_whilefalse`. -/
theorem gen_window_events :
    (Tickit.Gen.Bindings.TICKIT_WINDOW_ON_GEOMCHANGE, Tickit.Gen.Bindings.TICKIT_WINDOW_ON_EXPOSE,
     Tickit.Gen.Bindings.TICKIT_WINDOW_ON_FOCUS, Tickit.Gen.Bindings.TICKIT_WINDOW_ON_KEY,
     Tickit.Gen.Bindings.TICKIT_WINDOW_ON_MOUSE) = (1, 2, 3, 4, 5) ∧
    (∀ ev, Owner.win.canEmit ev = true → (Owner.win.wf ev = true ↔ ev = 4 ∨ ev = 5)) := by
  refine ⟨by decide +kernel, fun ev h => ?_⟩
  simp only [Owner.win, decide_eq_true_eq] at h ⊢
  omega

/-- **An identifier denotes its binding.**  After any history, the identifier `bind_event` returned for binding `k` —
    however many bindings were made and unbound since, by handlers at any depth — is found by `unbind_event_id` at exactly
    that binding, for as long as `k` is live (not unbound, not a delivered one-shot). -/
def IdDenotesStmt (cfg : Cfg) : Prop :=
  ∀ own beh, Safe own beh → ∀ fuel ops st, ValidOps ops → Runs cfg own beh fuel ops st → Op.destroy ∉ ops → st.dead = false →
    ∀ k id ev first fl, Ev.bound k id ev first fl ∈ st.log → liveAt st.log k →
      ∃ b, findId st.list id = some b ∧ b.key = k ∧ b.flags = fl

theorem id_denotes_its_binding : IdDenotesStmt Cfg.repaired := by
  intro own beh hb fuel ops st hops hr hnd hal k id ev first fl hbd hl
  have := runs_good hb hops hr
  obtain ⟨b, hf, _, hk, _, hfl, _⟩ := id_denotes_binding (this.2 hnd hal).1.1 hbd hl
  exact ⟨b, hf, hk, hfl⟩

/-- …in every state a task runs in (any nesting depth), being a consequence of the invariant. -/
theorem id_denotes_its_binding_inv (st : St) (h : Tickit.Bindings.Inv st) (k : Nat) (id ev : Int) (first : Bool) (fl : BFlags)
    (hbd : Ev.bound k id ev first fl ∈ st.log) (hl : liveAt st.log k) :
    ∃ b, findId st.list id = some b ∧ b.key = k ∧ b.flags = fl := by
  obtain ⟨b, hf, _, hk, _, hfl, _⟩ := id_denotes_binding h hbd hl
  exact ⟨b, hf, hk, hfl⟩

/-- a history of a terminal on which root windows come and go, from the empty binding list -/
def RunsW (cfg : Cfg) (own : Owner) (beh : Behaviour) (fuel : Nat) (ops : List WOp) (w : WSt) : Prop :=
  execWOps cfg own beh fuel ops WSt.init = .ok w

def ValidWOps (ops : List WOp) : Prop := ∀ op ∈ ops, WOpOk op

/-- **Histories with a root window.**  For every history of binds, unbinds, emissions (all behaviours, any depth) and
    root-window operations on a terminal, *as long as nobody but the root window unbinds the root window's three bindings*
    (`Intact`: the application hands `unbind` identifiers of its own bindings only): no undefined behaviour, and between
    operations the terminal's state satisfies the invariant all clauses above rest on (`Top`: `fire_order`,
    `unbind_notifies`, `live_ids_unique`, … apply to it), the root window's identifiers are those its binds returned, and
    the reference it holds on the terminal is accounted for. -/
def RootHistoryStmt (cfg : Cfg) : Prop :=
  ∀ own beh, Safe own beh → ∀ fuel ops, ValidWOps ops → Intact own beh fuel ops WSt.init →
    (∀ x, execWOps cfg own beh fuel ops WSt.init ≠ .ub x) ∧
    ∀ w, RunsW cfg own beh fuel ops w → WOp.base .destroy ∉ ops → w.st.dead = false → WInv own w

theorem root_history_good : RootHistoryStmt Cfg.repaired := by
  intro own beh hs fuel ops hops hint
  have := execWOps_good own beh hs fuel ops WSt.init hops (WInv.init own) hint
  exact ⟨this.ne_ub, fun w hr => this.of_ok hr⟩

/-- **The root window unbinds its own bindings and nothing else** (the last `tickit_window_unref`: `tickit_window_destroy`).
    In any state the invariant allows, with the root window's bindings not unbound by anybody else: the three
    `tickit_term_unbind_event_id(root->term, root->event_ids[i])` complete; what they record is exactly the three unbind
    requests for the root window's own bindings — no handler is entered, so no binding of the application receives an
    unbind notification; the chain loses exactly these three nodes; and every other binding is live afterwards iff it was
    before (it goes on being delivered every occurrence: `fire_order` applies to the state reached). -/
theorem root_window_unbinds_only_its_own (own : Owner) (beh : Behaviour) (hs : Safe own beh) (w : WSt) (h : WInv own w)
    (hi : RootIntact w) (r : Root) (hr : w.root = some r) (hlast : r.refs = 1) (fuel : Nat) :
    ∃ st1, unbindAll Cfg.repaired own beh (fuel + 1) r.ids w.st = .ok st1 ∧
      st1.log = (r.keys.reverse.map Ev.unbindReq) ++ w.st.log ∧
      st1.list = w.st.list.filter (fun b => !r.keys.contains b.key) ∧
      Tickit.Bindings.Inv st1 ∧ st1.isIter = false ∧
      (∀ k, k ∉ r.keys → (liveAt st1.log k ↔ liveAt w.st.log k)) ∧
      (∀ k hh n fl occ, Ev.enter k hh n fl occ ∈ st1.log → Ev.enter k hh n fl occ ∈ w.st.log) :=
  have ⟨he, h1, _, _⟩ := rootUnref_spec own beh h hi hr hlast fuel
  ⟨_, he, rfl, rfl, h1, h.top.2, fun _ => liveAt_unboundSt, fun _ _ _ _ _ => enter_of_unboundSt⟩

/-- **The application's handlers go on running.**  After the root window has gone, an occurrence of any event of the
    terminal (the walker as the emitter calls it, holding its reference) is delivered exactly once to every binding of the
    application's that was live for the event before the root window went and is still live when the occurrence ends, no
    handler having claimed it: none of them was lost to the root window's unbinds. -/
theorem app_bindings_run_after_root_window_left (own : Owner) (beh : Behaviour) (hs : Safe own beh) (w : WSt) (h : WInv own w)
    (hi : RootIntact w) (r : Root) (hr : w.root = some r) (hlast : r.refs = 1) (fuel : Nat) :
    ∃ st1, unbindAll Cfg.repaired own beh (fuel + 1) r.ids w.st = .ok st1 ∧
      ∀ fuel' wf ev st' ret,
        exec Cfg.repaired own beh fuel' (.runEvent wf ev) { st1 with refs := st1.refs + 1 } = .ok (st', ret) →
        ∃ seg, st'.log = Ev.occEnd st1.nextOcc :: (seg ++ Ev.occBegin st1.nextOcc ev wf :: st1.log) ∧
          ∀ k, k ∉ r.keys → evLive ev w.st.log k → evLive ev (seg ++ Ev.occBegin st1.nextOcc ev wf :: st1.log) k →
            ¬ (wf = true ∧ ret ≠ 0) → (firesOf st1.nextOcc seg).count k = 1 := by
  obtain ⟨he, h1, hro1, _⟩ := rootUnref_spec own beh h hi hr hlast fuel
  refine ⟨_, he, fun fuel' wf ev st' ret hex => ?_⟩
  have hrefs : own.holdsRef = true → b2n w.st.userRef + w.st.frozenRefs + 1 ≤ w.st.refs + 1 := fun hh => by
    have := hro1.held hh
    simp only [unboundSt, h.top.2, b2n_false, Nat.add_zero] at this
    omega
  obtain ⟨seg, hseg, hall⟩ := fire_exactly_once own beh hs fuel' wf ev _ st' ret (h1.of_refs _ (Nat.le_add_left 1 _))
    (hro1.of_more_refs _ (Nat.le_add_right _ 1)) hrefs h.occ hex
  refine ⟨seg, hseg, fun k hk hl0 hl1 hncl => hall k ?_ hl1 hncl⟩
  obtain ⟨hla, id, first, fl, hb⟩ := hl0
  exact ⟨(liveAt_unboundSt hk).2 hla, id, first, fl, List.mem_append_right _ hb⟩

/-- …and the whole `tickit_window_unref`: the root window is gone, the terminal has one reference less (or, if that was
    the last one, is destroyed with the usual notifications), never undefined behaviour. -/
theorem root_window_release (own : Owner) (beh : Behaviour) (hs : Safe own beh) (w : WSt) (h : WInv own w)
    (hi : RootIntact w) (fuel : Nat) :
    match rootUnref Cfg.repaired own beh fuel w with
    | .ok w' => w'.st.dead = false → WInv own w'
    | .ub _ => False
    | .outOfFuel => True := by
  exact (rootUnref_good own beh fuel h hi).cases trivial fun w' _ hw => hw.1

/-- `tickit_window_new_root2` gets identifiers no live binding has, and they are the ones the root window keeps. -/
theorem root_window_ids_fresh (own : Owner) (w : WSt) (h : WInv own w) (hn : w.root = none) :
    ∃ r, (rootNew w).root = some r ∧ r.ids.length = 3 ∧ r.keys.length = 3 ∧
      Owns (rootNew w).st r.pairs ∧ (∀ id ∈ r.ids, ∀ b ∈ w.st.list, b.id ≠ id) :=
  rootNew_fresh own h hn

/-- On the repaired model: a root window is created, closed while still
    referenced, the application then binds a key handler that asks for an unbind notification, a key arrives, the root
    window's last reference goes, a second key arrives.  The handler (binding 3) ran for both keys and got no notification;
    the root window had identifiers 1, 2, 3 and the new binding got 4, because closing a root window unbinds nothing. -/
example :
    (match execWOps Cfg.repaired { Owner.term with holdsRef := true } behNone 40
        [.rootNew, .rootRef, .rootClose, .rootUnref, .base (.bind 2 false wantsUnbind 0), .base (.emit 2), .rootUnref, .base (.emit 2)]
        WSt.init with
     | .ok w => some (w.st.log.countP (isEnterFire 3), w.st.log.countP (isNotif 3), keys w.st.list, w.st.slotIds, w.root.isNone)
     | _ => none) = some (2, 0, [3], [0, 0, 0, 4], true) := by decide +kernel

/-- …the three unbind requests it recorded are those of the root window's bindings 0, 1, 2, and the terminal is back to the
    application's one reference. -/
example :
    (match execWOps Cfg.repaired { Owner.term with holdsRef := true } behNone 40
        [.rootNew, .rootRef, .rootClose, .rootUnref, .base (.bind 2 false wantsUnbind 0), .base (.emit 2), .rootUnref, .base (.emit 2)]
        WSt.init with
     | .ok w => some (w.st.log.countP (isReq 0), w.st.log.countP (isReq 1), w.st.log.countP (isReq 2), w.st.log.countP (isReq 3), w.st.refs)
     | _ => none) = some (1, 1, 1, 0, 1) := by decide +kernel

/-- `Intact` is inhabited (nobody else unbinds the root window's bindings in this history)… -/
example : Intact { Owner.term with holdsRef := true } behNone 40
    [.rootNew, .rootClose, .base (.bind 2 false wantsUnbind 0), .rootUnref, .base (.emit 2)] WSt.init :=
  intact_of_B _ _ _ _ _ (by decide +kernel)

/-- The hypothesis excludes exactly this: an application that unbinds an identifier it has already unbound, after the root
    window was given the same identifier (`max + 1`), removes the root window's resize binding. -/
example : intactB { Owner.term with holdsRef := true } behNone 40
    [.base (.bind 1 false plain 0), .base (.unbind 0), .rootNew, .base (.unbind 0), .rootUnref] WSt.init = false := by decide +kernel

/-- …and why it matters that the identifiers are unbound *once*: unbinding the same three identifiers a second time, after
    the application has bound a handler in between (which got identifier 1 again), removes the application's binding and
    sends it an unbind notification nobody asked for.  (`Owns` fails for the second round: the identifiers no longer denote
    the root window's bindings.) -/
example :
    (match unbindAll Cfg.repaired Owner.term behNone 20 [1, 2, 3] (rootNew WSt.init).st with
     | .ok st1 =>
        (match unbindAll Cfg.repaired Owner.term behNone 20 [1, 2, 3] (bindEvent st1 2 false wantsUnbind 0) with
         | .ok st2 => some ((bindEvent st1 2 false wantsUnbind 0).slotIds, keys st2.list, st2.log.countP (isNotif 3))
         | _ => none)
     | _ => none) = some ([0, 0, 0, 1], [], 1) := by decide +kernel

/-! ### the unchanged code violates the clauses: counterexample theorems

Each history below is the minimal replay stored under `corpus/C16/`; the library before the repairs (commits 9bad489,
52df01f) reproduced every one of them through the harness (`known/C16.json`, the entries `fixed:`). -/

/-- `corpus/C16/oneshot_reentrant.ops`: handler 0 re-emits; the one-shot binding after it runs in the nested
    occurrence and again when the outer walker reaches its tombstone (which kept `evindex`). -/
theorem oneshot_counterexample : ¬ OneshotStmt Cfg.original := by
  intro h
  obtain ⟨st, hr, hb, hp⟩ := runs_and (cfg := Cfg.original) (own := Owner.pen) (beh := behReemit) (fuel := 30)
    (ops := [.bind 1 false plain 0, .bind 1 false oneshot 1, .emit 1])
    (P := fun st => Ev.bound 1 2 1 false oneshot ∈ st.log ∧ ¬ st.log.countP (isEnterFire 1) ≤ 1) (by decide +kernel)
  exact hp (h Owner.pen behReemit (Or.inr noDestroy_behReemit) 30 _ st (by decide +kernel) hr 1 oneshot ⟨2, 1, false, hb⟩ rfl)

/-- `corpus/C16/whilefalse_oneshot.ops`: a one-shot key handler of a terminal (`run_event_whilefalse`) runs for
    every key event. -/
theorem oneshot_whilefalse_counterexample : ¬ OneshotStmt Cfg.original := by
  intro h
  obtain ⟨st, hr, hb, hp⟩ := runs_and (cfg := Cfg.original) (own := Owner.term) (beh := behNone) (fuel := 30)
    (ops := [.bind 2 false oneshot 0, .emit 2, .emit 2])
    (P := fun st => Ev.bound 0 1 2 false oneshot ∈ st.log ∧ ¬ st.log.countP (isEnterFire 0) ≤ 1) (by decide +kernel)
  exact hp (h Owner.term behNone (Or.inr noDestroy_behNone) 30 _ st (by decide +kernel) hr 0 oneshot ⟨1, 2, false, hb⟩ rfl)

/-- `corpus/C16/unbind_reentrant_uaf.ops`: the unbind notification unbinds its own binding again; the outer
    `unbind_event_id` then writes to and frees a freed node. -/
theorem no_ub_counterexample : ¬ NoUbStmt Cfg.original := by
  intro h
  obtain ⟨w, hc⟩ := ub_of_isUb
    (r := execOps Cfg.original Owner.pen behSelfTwice 30 [.bind 1 false wantsUnbind 0, .unbind 0] St.init) (by decide +kernel)
  exact h Owner.pen behSelfTwice (Or.inr noDestroy_behSelfTwice) 30 _ (by decide +kernel) w hc

/-- `corpus/C16/unbind_reentrant_notified_twice.ops`: while a walker runs, a handler unbinds itself from inside
    its own unbind notification: found (and notified) twice. -/
theorem unbind_notify_counterexample : ¬ UnbindNotifyAtMostStmt Cfg.original := by
  intro h
  obtain ⟨st, hr, hp⟩ := runs_and (cfg := Cfg.original) (own := Owner.pen) (beh := behSelfTwice) (fuel := 30)
    (ops := [.bind 1 false wantsUnbind 0, .emit 1]) (P := fun st => ¬ st.log.countP (isReq 0) ≤ 1) (by decide +kernel)
  exact hp (h Owner.pen behSelfTwice (Or.inr noDestroy_behSelfTwice) 30 _ st (by decide +kernel) hr 0).2.1

/-- `corpus/C16/unbind_reentrant_fires_unbound.ops`: the unbind notification emits the event; the binding being
    unbound is delivered it. -/
theorem no_fire_after_unbind_counterexample : ¬ NoFireAfterUnbindStmt Cfg.original := by
  intro h
  obtain ⟨st, hr, hlog⟩ := runs_and (cfg := Cfg.original) (own := Owner.pen) (beh := behReemit) (fuel := 30)
    (ops := [.bind 1 false wantsUnbind 0, .unbind 0])
    (P := fun st => st.log =
      [.leave 0 0 0, .actEnd, .occEnd 1, .leave 0 1 0, .enter 0 0 1 1 1, .fire 0 1, .occBegin 1 1 false, .actBegin 0, .enter 0 0 0 2 0] ++
        Ev.unbindReq 0 :: [.bound 0 1 1 false wantsUnbind]) (by decide +kernel)
  have := h Owner.pen behReemit (Or.inr noDestroy_behReemit) 30 _ st (by decide +kernel) hr _ _ 0 hlog
  revert this; decide +kernel

/-- `corpus/C16/unbind_reentrant_lost_binding.ops`: the unbind notification of the head binding binds `FIRST`; the
    stale `*bindp = bind->next` unlinks the new binding again. -/
theorem lost_binding_counterexample : ¬ LiveInChainStmt Cfg.original := by
  intro h
  obtain ⟨st, hr, hb, hnr, hdead, hnil⟩ := runs_and (cfg := Cfg.original) (own := Owner.pen) (beh := behBindFirst) (fuel := 30)
    (ops := [.bind 1 false wantsUnbind 0, .unbind 0])
    (P := fun st => Ev.bound 1 2 1 true plain ∈ st.log ∧ Ev.unbindReq 1 ∉ st.log ∧ st.dead = false ∧ st.list = [])
    (by decide +kernel)
  have hlive : liveAt st.log 1 := ⟨plain, ⟨2, 1, true, hb⟩, hnr, fun ho => by cases ho⟩
  obtain ⟨b, hbm, _, _⟩ := (h Owner.pen behBindFirst (Or.inr noDestroy_behBindFirst) 30 _ st (by decide +kernel) hr (by decide +kernel) hdead 1).1 hlive
  rw [hnil] at hbm
  cases hbm

/-! ### the theorems are not vacuous: concrete histories of the repaired code that exercise them -/

/-- The re-entrant history of `oneshot_counterexample` runs to completion on the repaired code, the one-shot
    binding 1 is bound and delivered exactly once, although event 1 occurred twice. -/
example : ∃ st, Runs Cfg.repaired Owner.pen behReemit 30 [.bind 1 false plain 0, .bind 1 false oneshot 1, .emit 1] st ∧
    boundIn st.log 1 oneshot ∧ st.log.countP (isEnterFire 1) = 1 ∧ st.log.countP (isEnterFire 0) = 2 := by
  obtain ⟨st, hr, hb, hp⟩ := runs_and (cfg := Cfg.repaired) (own := Owner.pen) (beh := behReemit) (fuel := 30)
    (ops := [.bind 1 false plain 0, .bind 1 false oneshot 1, .emit 1])
    (P := fun st => Ev.bound 1 2 1 false oneshot ∈ st.log ∧ st.log.countP (isEnterFire 1) = 1 ∧ st.log.countP (isEnterFire 0) = 2)
    (by decide +kernel)
  exact ⟨st, hr, ⟨2, 1, false, hb⟩, hp⟩

/-- A one-shot key handler on a terminal: two key events, one delivery. -/
example : ∃ st, Runs Cfg.repaired Owner.term behNone 30 [.bind 2 false oneshot 0, .emit 2, .emit 2] st ∧
    st.log.countP (isEnterFire 0) = 1 :=
  runs_and (by decide +kernel)

/-- The self-unbinding notification of `no_ub_counterexample` / `unbind_notify_counterexample` on the repaired
    code: no undefined behaviour, one request, one notification, both from the top level and under a walker. -/
example : ∃ st, Runs Cfg.repaired Owner.pen behSelfTwice 30 [.bind 1 false wantsUnbind 0, .unbind 0] st ∧
    st.log.countP (isReq 0) = 1 ∧ st.log.countP (isNotif 0) = 1 :=
  runs_and (by decide +kernel)

example : ∃ st, Runs Cfg.repaired Owner.pen behSelfTwice 30 [.bind 1 false wantsUnbind 0, .emit 1] st ∧
    st.log.countP (isReq 0) = 1 ∧ st.log.countP (isNotif 0) = 1 ∧ st.log.countP (isEnterFire 0) = 1 :=
  runs_and (by decide +kernel)

/-- The notification that re-emits (`no_fire_after_unbind_counterexample`) on the repaired code: an unbind
    request followed by an occurrence of the event, and no delivery to the unbound binding. -/
example : ∃ st, Runs Cfg.repaired Owner.pen behReemit 30 [.bind 1 false wantsUnbind 0, .unbind 0] st ∧
    Ev.unbindReq 0 ∈ st.log ∧ Ev.occBegin 1 1 false ∈ st.log ∧ st.log.countP (isEnterFire 0) = 0 :=
  runs_and (by decide +kernel)

/-- Destruction with three askers of different kinds and one binding that did not ask: the history and the
    destroy both complete, and the handlers are entered in reverse list order (the `FIRST`-bound one last). -/
example :
    (match execOps Cfg.repaired Owner.pen behNone 30
        [.bind 0 false plain 0, .bind 1 false wantsUnbind 1, .bind 1 false plain 2, .bind 1 true ⟨false, true, false⟩ 3] St.init with
     | .ok st => (match execOp Cfg.repaired Owner.pen behNone 30 .destroy st with
        | .ok st' => some (keys st.list, enters (st'.log.take (st'.log.length - st.log.length)))
        | _ => none)
     | _ => none) = some ([3, 0, 1, 2], [(1, 6), (0, 6), (3, 6)]) := by decide +kernel

/-- `fire_order` is not vacuous: from the chain [2, 0, 1] an occurrence whose second handler unbinds the third binding
    and appends a fourth delivers to 2, 0 and the new binding 3 — not to 1. -/
example :
    (match exec Cfg.repaired Owner.pen behMutate 50 (.runEvent false 1) stThree with
     | .ok (st', _) => some (keys stThree.list, firesOf stThree.nextOcc st'.log, keys st'.list)
     | _ => none) = some ([2, 0, 1], [2, 0, 3], [2, 0, 3]) := by decide +kernel

/-- The claim clause is not vacuous: three key handlers on a terminal, the second one claims (returns 1): the walker
    returns 1 after two deliveries and the third binding, though live, is not delivered to. -/
example :
    (match exec Cfg.repaired Owner.term (fun h _ => if h = 1 then ⟨[], 1⟩ else ⟨[], 0⟩) 50 (.runEvent true 2)
        (bindEvent (bindEvent (bindEvent St.init 2 false plain 0) 2 false plain 1) 2 false plain 2) with
     | .ok (st', r) => some (firesOf 1 st'.log, r, st'.log.head?, (st'.log.drop 1).head?)
     | _ => none) = some ([0, 1], 1, some (Ev.occEnd 1), some (Ev.leave 1 1 1)) := by decide +kernel

end Tickit.Props.C16
