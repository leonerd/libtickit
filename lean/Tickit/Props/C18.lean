import Tickit.Proof.EvLoopPend
import Tickit.Proof.EvLoopPoll
import Tickit.Proof.EvLoopMulti
import Tickit.Gen.EvLoop
import Tickit.Model.EvLoopFb
import Tickit.Proof.EvLoopFbEnd
import Tickit.Proof.EvLoopTerm
/-
  C18 — A delivered signal or ready descriptor always reaches its watchers.   (claimed: partial)

  Hypothesis `OsPpoll` (trusted base, not proved): the kernel keeps a blocked signal pending; `ppoll`
  reports ready descriptors before it looks at signals; otherwise it delivers every pending signal
  under the mask it is given and fails with EINTR; `raise` on an unblocked signal runs the handler or
  the default action.  In the model this is `raiseSig` and `ppoll`; in the harness it is the real
  kernel (raise(), sigprocmask, a zero-timeout ppoll with the loop's mask) plus scripted readiness.

  Proved for all states, all behaviour tables of the callbacks and all fuel: an interrupted wait has recorded every
  pending signal and, under the repaired `evloop_run`, is followed by `dispatch_signals` whatever the callbacks did to
  `errno`; the walk of `tickit_evloop_invoke_sigwatches` skips nobody and goes in list order; one repaired iteration end to
  end, from the wait to the callback log (`signal_reaches_watchers_end_to_end`) and to the io callbacks with exactly the
  reported conditions (`io_exact_conditions`); with several toplevel instances in one process (Model/EvLoopMulti.lean),
  where `signal_observer` points — the end-to-end theorem applies to every iteration of the observer instance.
  Defects of the tree as first shipped: the `*_counterexample` theorems (corpus/C18); all are repaired in /repo.
  No statement of the property is left open; `OsPpoll` is assumed.  The default loop serves ONE toplevel instance with
  signals (its own TODO): `second_instance_*_counterexample` (known findings).

  The self-pipe configuration (event hooks without signal members: tickit.c's sigaction + self-pipe fallback;
  Model/EvLoopFb.lean), for every history of one instance and any variant of the rest of the source: the pipe watch and its
  poll entry stay intact and a recorded signal has its wake-up byte in the pipe (`fb_signal_bookkeeping_invariant`); a signal
  recorded while a watch is linked leads to that watch's callback in the very next iteration unless the watch is cancelled
  meanwhile (`fb_signal_reaches_watchers`).  The walk of the repaired `tickit_evloop_invoke_sigwatches` is one function of
  the model for both configurations (`sigSnapLoopG`).
-/
namespace Tickit.Props.C18
open Tickit Tickit.EvLoop

/-! ### ties to the source (`Gen/EvLoop.lean` is regenerated from the C text on every run) -/

theorem gen_io_conditions : Gen.EvLoop.TICKIT_IO_IN = IO_IN ∧ Gen.EvLoop.TICKIT_IO_OUT = IO_OUT ∧
    Gen.EvLoop.TICKIT_IO_HUP = IO_HUP ∧ Gen.EvLoop.TICKIT_IO_ERR = IO_ERR ∧ Gen.EvLoop.TICKIT_IO_INVAL = IO_INVAL := by decide

/-- `if(revents & POLLx) cond |= TICKIT_IO_y;` — the five lines of evloop_run, as the model has them. -/
theorem gen_revents_table : Gen.EvLoop.reventsToCond =
    [(POLLIN, IO_IN), (POLLOUT, IO_OUT), (POLLHUP, IO_HUP), (POLLERR, IO_ERR), (POLLNVAL, IO_INVAL)] := by decide

/-- `if(cond & TICKIT_IO_y) events |= POLLx;` — the three lines of evloop_io. -/
theorem gen_events_table : Gen.EvLoop.condToEvents = [(IO_IN, POLLIN), (IO_OUT, POLLOUT), (IO_HUP, POLLHUP)] := by decide

theorem gen_signal_call_flags : Gen.EvLoop.sigCallFlags = EV_FIRE := by decide

theorem gen_run_flags : Gen.EvLoop.TICKIT_RUN_ONCE = 1 ∧ Gen.EvLoop.TICKIT_RUN_NOHANG = 2 ∧ Gen.EvLoop.TICKIT_RUN_NOSETUP = 4 := by decide

/-- `raise` while the loop keeps the signal blocked: it stays pending in the kernel (hypothesis OsPpoll, as modelled). -/
theorem raise_while_blocked_stays_pending (st : St) (s : Int) (hok : st.isOk = true) (hb : st.blocked.contains s = true) :
    s ∈ (raiseSig st s).kpending ∧ (raiseSig st s).pendingSig = st.pendingSig := by
  rw [raiseSig_blocked st s hok hb]
  exact ⟨mem_setInsert.mpr (.inl rfl), rfl⟩

/-- An interrupted wait: `errno` is EINTR, nothing stays pending in the kernel, and every signal that was
    pending — raised before the iteration, from a callback of an earlier one, or inside the wait — has
    been recorded by the loop's handler. -/
theorem wait_interrupted_records_signals (st : St) (t : Option Int) (ho : st.observer = .self) (h : (ppoll st t).2 = none) :
    (ppoll st t).1.errno = EINTR ∧ (ppoll st t).1.kpending = [] ∧
    ∀ s ∈ (pollRaise (pollScan st)).kpending, s ∈ (ppoll st t).1.pendingSig :=
  ppoll_eintr st t ho h

example : (ppoll (runOps .shipped [.act (.signal 0 23 0), .act (.raise 23)]) (some 0)).2 = none := by decide +kernel

/-- Repaired `evloop_run` (errno read right after the wait): an interrupted wait is always followed by
    `dispatch_signals`, whatever the timer and deferred callbacks of the iteration did. -/
theorem signal_dispatch_not_suppressed (fuel : Nat) (st : St) (nohang : Bool) (hs : st.cfg.errnoSaved = true)
    (hok0 : st.isOk = true) (hok1 : (nextTimerMsec st).1.isOk = true)
    (hok2 : (ppoll (nextTimerMsec st).1 (tickTimeout nohang (nextTimerMsec st).2)).1.isOk = true)
    (hint : (ppoll (nextTimerMsec st).1 (tickTimeout nohang (nextTimerMsec st).2)).2 = none)
    (hok3 : (invokeTimers fuel (ppoll (nextTimerMsec st).1 (tickTimeout nohang (nextTimerMsec st).2)).1).isOk = true) :
    tick fuel st nohang =
      dispatchSignals fuel (invokeTimers fuel (ppoll (nextTimerMsec st).1 (tickTimeout nohang (nextTimerMsec st).2)).1) :=
  tick_eintr_dispatches fuel st nohang hs hok0 hok1 hok2 hint hok3

/-- As shipped the decision is taken on whatever the callbacks left in `errno`. -/
theorem signal_dispatch_depends_on_errno (fuel : Nat) (st : St) (hs : st.cfg.errnoSaved = false)
    (hok : (invokeTimers fuel st).isOk = true) :
    tickAfterPoll fuel st none =
      if (invokeTimers fuel st).errno = EINTR then dispatchSignals fuel (invokeTimers fuel st) else invokeTimers fuel st :=
  tickAfterPoll_eintr_shipped fuel st hs hok

/-- In every reachable state, under any variant of the source, the list of signal watches holds
    distinct allocated watches. -/
theorem signal_watch_list_invariant (cfg : Config) (ops : List Op) : SInv (runOps cfg ops) := sinv_runOps cfg ops

/-- Whatever a signal callback does (register, cancel, raise, set errno, …; `on_sigchld` included), only
    fresh watches enter the list, a watch leaves it only by being freed, and the others keep their order. -/
theorem signal_callback_respects_list (fuel : Nat) (st : St) (a : Nat) (s : Int) : SigStep st (sigCb fuel st a s) :=
  step_closed.sigCb fuel st a s

/-- `tickit_evloop_invoke_sigwatches` skips nobody: a walk from the head of the list that returns normally
    has visited — i.e. has evaluated `if(this->signal.signum == signum) (*this->fn)(…)` for — every watch
    that was in the list when it started and is still in the list when it returns (was not cancelled
    meanwhile), whatever the callbacks it ran registered or cancelled. -/
theorem signal_reaches_watchers (fuel : Nat) (st : St) (s : Int) (i : SInv st)
    (hok : (sigwatchLoopT fuel st s st.signals.head?).1.status = .ok) :
    ∀ b ∈ st.signals, b ∈ (sigwatchLoopT fuel st s st.signals.head?).1.signals →
      b ∈ (sigwatchLoopT fuel st s st.signals.head?).2 :=
  fun b hb hfin => sigwalk_complete fuel st s _ i hok b hfin (head_or_aft hb)

/-- … and in list order (registration order, BIND_FIRST registrations first): of two watches of the
    original list the one visited first is the one that stood first. -/
theorem signal_watchers_in_order (fuel : Nat) (st : St) (s : Int) (i : SInv st) :
    (sigwatchLoopT fuel st s st.signals.head?).2.Pairwise
      (fun x y => x ∈ st.signals → y ∈ st.signals → y ∈ aft x st.signals) :=
  (sigwalk_ordered fuel st s st.signals.head? i (fun a ha => List.mem_of_mem_head? ha)).2.2

example : (sigwatchLoopT 100 (runOps .repaired [.beh ⟨0, 0, [.cancel 1, .signal 3 23 0]⟩, .act (.signal 0 23 0),
      .act (.signal 1 23 0), .act (.signal 2 23 1)]) 23 (some 4)).2 = [4, 1, 2, 5] := by decide +kernel

/-- The repaired walk (a snapshot of the list, entries checked with `watch_is_linked`): every watch of the
    snapshot that is still in the list when the walk returns normally has been visited … -/
theorem signal_reaches_watchers_repaired (fuel : Nat) (st : St) (s : Int) (i : SInv st)
    (hok : (sigSnapLoopT fuel st s st.signals).1.status = .ok) :
    ∀ b ∈ st.signals, b ∈ (sigSnapLoopT fuel st s st.signals).1.signals → b ∈ (sigSnapLoopT fuel st s st.signals).2 :=
  fun b hb hfin => sigsnap_complete fuel s st.signals st i hok b hb (i.alloc b hb) hfin

/-- … and the visited watches are a sub-sequence of the list as it was when the walk began (registration
    order, BIND_FIRST registrations first). -/
theorem signal_watchers_in_order_repaired (fuel : Nat) (st : St) (s : Int) :
    (sigSnapLoopT fuel st s st.signals).2.Sublist st.signals := sigsnap_sublist fuel s st.signals st

/-- On the callback log: every harness watch of signal `s` that was in the list when the walk (as shipped)
    started and is still in the list when it returns normally has its FIRE entry in the log, whatever the
    callbacks did in between. -/
theorem signal_reaches_watchers_logged (fuel : Nat) (st : St) (s : Int) (i : SInv st)
    (hok : (sigwatchLoopT fuel st s st.signals.head?).1.status = .ok) :
    ∀ b ∈ st.signals, b ∈ (sigwatchLoopT fuel st s st.signals.head?).1.signals →
      (st.getW b).signum = s → (st.getW b).slot ≥ 0 →
      Ev.cb (st.getW b).slot EV_FIRE .none ∈ (sigwatchLoopT fuel st s st.signals.head?).1.log :=
  fun b hb hfin => sigwalk_logged fuel st s _ i hok b hfin (head_or_aft hb)

theorem signal_reaches_watchers_logged_repaired (fuel : Nat) (st : St) (s : Int) (i : SInv st)
    (hok : (sigSnapLoopT fuel st s st.signals).1.status = .ok) :
    ∀ b ∈ st.signals, b ∈ (sigSnapLoopT fuel st s st.signals).1.signals →
      (st.getW b).signum = s → (st.getW b).slot ≥ 0 →
      Ev.cb (st.getW b).slot EV_FIRE .none ∈ (sigSnapLoopT fuel st s st.signals).1.log :=
  fun b hb hfin hsig hslot => sigsnap_logged fuel s st.signals st i hok b hb (i.alloc b hb) hfin hsig hslot

/-- In every reachable state whose status is ok, under any variant of the source, the loop's `watched_signals`
    and `signums[]` agree with the list of signal watches (every listed watch's number is watched, sits in
    its own slot, and slots are not shared). -/
theorem signal_bookkeeping_invariant (cfg : Config) (ops : List Op) (hok : (runOps cfg ops).status = .ok) :
    KInv (runOps cfg ops) := kinv_runOps cfg ops hok

/-- `dispatch_signals`: for every recorded signal, every harness watch of it that is in the list when the
    dispatch starts and still there when it ends has its FIRE entry in the log — whatever the callbacks of
    this and of the other signals did (either variant of the walk). -/
theorem dispatch_reaches_watchers (fuel : Nat) (st : St) (k : KInv st) (hok : (dispatchSignals fuel st).status = .ok) :
    ∀ s ∈ signalRange, s ∈ st.pendingSig → ∀ b ∈ st.signals, b ∈ (dispatchSignals fuel st).signals →
      (st.getW b).signum = s → (st.getW b).slot ≥ 0 →
      Ev.cb (st.getW b).slot EV_FIRE .none ∈ (dispatchSignals fuel st).log :=
  dispatchSignals_logged fuel st k hok

/-- One iteration under the repaired `evloop_run`, from the wait to the log: every signal that was pending in
    the kernel when the wait looked at signals — raised before the iteration, from a callback of an earlier
    one, or inside the wait — reaches every harness watch of it that is listed after the timers and deferred
    callbacks have run and is not cancelled before the iteration ends: its FIRE entry is in the log of this
    iteration, whatever timers, deferred callbacks and the other signal callbacks did (errno included).
    (`hok0` … `hok3` follow from `hok`: `tick_ok`.) -/
theorem signal_reaches_watchers_end_to_end (fuel : Nat) (st : St) (nohang : Bool) (k : KInv st) (hs : st.cfg.errnoSaved = true)
    (ho : st.observer = .self) (hok0 : st.isOk = true) (hok1 : (nextTimerMsec st).1.isOk = true)
    (hok2 : (ppoll (nextTimerMsec st).1 (tickTimeout nohang (nextTimerMsec st).2)).1.isOk = true)
    (hint : (ppoll (nextTimerMsec st).1 (tickTimeout nohang (nextTimerMsec st).2)).2 = none)
    (hok3 : (invokeTimers fuel (ppoll (nextTimerMsec st).1 (tickTimeout nohang (nextTimerMsec st).2)).1).isOk = true)
    (hok : (tick fuel st nohang).status = .ok) :
    ∀ s ∈ signalRange, s ∈ (pollRaise (pollScan (nextTimerMsec st).1)).kpending →
      ∀ b ∈ (invokeTimers fuel (ppoll (nextTimerMsec st).1 (tickTimeout nohang (nextTimerMsec st).2)).1).signals,
        b ∈ (tick fuel st nohang).signals →
        ((invokeTimers fuel (ppoll (nextTimerMsec st).1 (tickTimeout nohang (nextTimerMsec st).2)).1).getW b).signum = s →
        ((invokeTimers fuel (ppoll (nextTimerMsec st).1 (tickTimeout nohang (nextTimerMsec st).2)).1).getW b).slot ≥ 0 →
        Ev.cb ((invokeTimers fuel (ppoll (nextTimerMsec st).1 (tickTimeout nohang (nextTimerMsec st).2)).1).getW b).slot EV_FIRE .none
          ∈ (tick fuel st nohang).log :=
  tick_signal_reaches_logged fuel st nohang k hs ho hint hok

example : Ev.cb 1 EV_FIRE .none ∈ (runOps .repaired [.beh ⟨0, 0, [.errno 11, .stop]⟩, .act (.signal 1 23 0), .act (.signal 2 10 0),
    .act (.timer 0 0 0), .act (.raise 23), .act (.raise 10), .tick]).log := by decide +kernel

/-- In every reachable world the state operated on sees `signal_observer` as the world has it. -/
theorem observer_invariant (cfg : Config) (ops : List WOp) : (World.run cfg ops).Consistent :=
  World.consistent_run cfg ops

/-- Nothing but building and destroying an instance moves `signal_observer`: switching instances and every
    operation other than `destroy` — iterations and `tickit_run` with whatever their callbacks do — leave it. -/
theorem observer_moves_only_on_build_and_destroy (cfg : Config) (ops : List WOp) (op : WOp)
    (hop : (∃ i, op = .use i) ∨ (∃ o, op = .op o ∧ o ≠ .destroy)) :
    ((World.run cfg ops).step op).observer = (World.run cfg ops).observer :=
  World.observer_step_other (World.consistent_run cfg ops) op hop

/-- Destroying an instance that is not the signal observer leaves the observer in place: the first instance
    keeps receiving its signals when a second, short-lived one goes away. -/
theorem destroying_another_instance_keeps_observer (cfg : Config) (ops : List WOp) (o : Nat)
    (ho : (World.run cfg ops).observer = some o) (hne : o ≠ (World.run cfg ops).cur) :
    ((World.run cfg ops).step (.op .destroy)).observer = some o :=
  World.observer_destroy_other (World.consistent_run cfg ops) o ho hne

/-- Destroying the observer itself clears the pointer (`if(signal_observer == evdata) signal_observer = NULL;`). -/
theorem destroying_the_observer_clears_it (cfg : Config) (ops : List WOp)
    (ho : (World.run cfg ops).observer = some (World.run cfg ops).cur) (ha : (World.run cfg ops).st.alive = true)
    (hok : (destroy { (World.run cfg ops).st with log := [] }).isOk = true) :
    ((World.run cfg ops).step (.op .destroy)).observer = none :=
  World.observer_destroy_self (World.consistent_run cfg ops) ho ha hok

/-- `evloop_init`: an instance built while nobody observes becomes the observer; otherwise the observer stays. -/
theorem instance_built_observes_iff_nobody_does (w : World) (i : Nat) (hok : w.st.isOk = true) (hi : i < NINST)
    (hna : (w.load i).st.alive = false) :
    (w.step (.inst i)).observer = match w.observer with | none => some i | some o => some o :=
  World.observer_build i hok hi hna

/-- Whenever the instance operated on is the observer, the state is one `wait_interrupted_records_signals`
    and `signal_reaches_watchers_end_to_end` speak about (`observer = .self`). -/
theorem observer_instance_records_signals (cfg : Config) (ops : List WOp)
    (ho : (World.run cfg ops).observer = some (World.run cfg ops).cur) : (World.run cfg ops).st.observer = .self :=
  (World.consistent_run cfg ops).self ho

def wact (a : Act) : WOp := .op (.act a)

/-- A second instance is built and destroyed; the first one's watcher still gets its signal. -/
example : (World.run .repaired [wact (.signal 0 10 0), .inst 1, .op .destroy, .use 0]).observer = some 0 ∧
    Ev.cb 0 EV_FIRE .none ∈ (World.run .repaired [wact (.signal 0 10 0), .inst 1, .op .destroy, .use 0,
      wact (.raise 10), .op .tick]).st.log := by decide +kernel

/-- The observer is destroyed while another instance lives on; the next instance built takes over. -/
example : (World.run .repaired [.inst 1, .use 0, .op .destroy]).observer = none ∧
    (World.run .repaired [.inst 1, .use 0, .op .destroy, .inst 2]).observer = some 2 := by decide +kernel

def wcbLog (w : World) : List Ev := w.st.log.reverse.filter fun e => match e with | .cb .. => true | _ => false

def probeSecondInstance : List WOp := [.inst 1, wact (.signal 0 23 0), wact (.raise 23), .op .tick]

/-- A watcher on an instance that is not the observer: the wait of its own loop is interrupted, the handler
    records the signal in the *observer's* `pending_signals`, nothing is dispatched — now or later. -/
theorem second_instance_watcher_counterexample :
    wcbLog (World.run .repaired probeSecondInstance) = [] ∧
    ((World.run .repaired probeSecondInstance).saved.getD 0 {}).pendingSig.contains 23 = true ∧
    wcbLog (World.run .repaired (probeSecondInstance ++ [.op .tick, .op .tickhang])) = [] := by decide +kernel

def probeForeignWait : List WOp := [wact (.signal 0 23 0), wact (.raise 23), .inst 1, .op .tick, .use 0, .op .tick]

/-- The signal is delivered inside the wait of another instance: it is recorded for the observer, whose next
    wait is not interrupted, so `dispatch_signals` does not run — the watcher waits for a further signal. -/
theorem second_instance_foreign_wait_counterexample :
    wcbLog (World.run .repaired probeForeignWait) = [] ∧
    (World.run .repaired probeForeignWait).st.pendingSig.contains 23 = true := by decide +kernel

def probeSharedMask : List WOp := [wact (.signal 0 23 0), .inst 1, wact (.signal 1 23 0), wact (.cancel 1), .use 0]

/-- The signal mask and dispositions are process wide but kept per loop: the second instance drops its last
    watcher of the signal and restores the default action although the first instance still watches it. -/
theorem second_instance_shared_mask_counterexample :
    (World.run .repaired probeSharedMask).st.watched.contains 23 = true ∧
    (World.run .repaired probeSharedMask).st.blocked.contains 23 = false ∧
    (World.run .repaired probeSharedMask).st.handled.contains 23 = false := by decide +kernel

/-- The translation `revents → cond` is exact, bit for bit. -/
theorem io_exact_conditions_bits (r : Nat) :
    (condOfRevents r &&& IO_IN ≠ 0 ↔ r &&& POLLIN ≠ 0) ∧ (condOfRevents r &&& IO_OUT ≠ 0 ↔ r &&& POLLOUT ≠ 0) ∧
    (condOfRevents r &&& IO_HUP ≠ 0 ↔ r &&& POLLHUP ≠ 0) ∧ (condOfRevents r &&& IO_ERR ≠ 0 ↔ r &&& POLLERR ≠ 0) ∧
    (condOfRevents r &&& IO_INVAL ≠ 0 ↔ r &&& POLLNVAL ≠ 0) :=
  condOfRevents_bits r

/-- The kernel's report is stored exactly (hypothesis OsPpoll, as modelled). -/
theorem io_exact_conditions_report (st : St) (idx : Nat) (h : idx < st.pfd.length) :
    ((pollScan st).pfd.getD idx default).revents = some (pollRevents st (st.pfd.getD idx default)) :=
  by rw [pollScan_entry st idx h]

/-- The descriptor loop invokes the watch of an entry with exactly the translation of the entry's revents. -/
theorem io_exact_conditions_dispatch (fuel : Nat) (st : St) (idx : Nat) (a : Nat) (hok : st.isOk = true)
    (hlt : idx < st.pfd.length) (hfd : (st.pfd.getD idx default).fd ≠ -1)
    (hr : slotRevents (st.pfd.getD idx default) ≠ 0) (hw : (st.pfd.getD idx default).watch = some a) (hl : st.live a = true) :
    ioLoop (fuel + 1) st idx =
      ioLoop fuel (invokeWatch st a EV_FIRE (.io (st.getW a).fd (condOfRevents (slotRevents (st.pfd.getD idx default))))) (idx + 1) :=
  ioLoop_invokes fuel st idx a hok hlt hfd hr hw hl

/-- Repaired `evloop_io`: the entry handed to a new watch reports nothing until the next wait, so a watch
    registered by a callback of the running iteration is not invoked with somebody else's conditions. -/
theorem io_exact_conditions_new_slot (st : St) (fd : Int) (cond : Nat) (w : Nat) (h : st.cfg.reventsCleared = true) :
    ((evloopIo st fd cond w).1.pfd.getD (evloopIo st fd cond w).2 default).revents = some 0 :=
  evloopIo_clears st fd cond w h

/-- An entry that reports nothing is passed over. -/
theorem io_quiet_entry_skipped (fuel : Nat) (st : St) (idx : Nat) (hok : st.isOk = true) (hlt : idx < st.pfd.length)
    (hfd : (st.pfd.getD idx default).fd ≠ -1) (hr : (st.pfd.getD idx default).revents = some 0) :
    ioLoop (fuel + 1) st idx = ioLoop fuel st (idx + 1) :=
  ioLoop_skips_quiet fuel st idx hok hlt hfd hr

/-- A watch cancelled by another callback of the same iteration is not invoked afterwards: its entry
    has `fd == -1` and the loop skips it. -/
theorem cancelled_not_invoked (fuel : Nat) (st : St) (idx : Nat) (hok : st.isOk = true) (hlt : idx < st.pfd.length)
    (hfd : (st.pfd.getD idx default).fd = -1) : ioLoop (fuel + 1) st idx = ioLoop fuel st (idx + 1) :=
  ioLoop_skips_cancelled fuel st idx hok hlt hfd

example : ((evloopCancelIo (runOps .shipped [.act (.io 0 100 1 0)]) 0).pfd.getD 0 default).fd = -1 := by decide +kernel

/-- One iteration under the repaired `evloop_io`, from the wait to the callbacks: every io watch the iteration
    invokes is the watch of an entry the wait scanned, is invoked at most once (entries are taken in index
    order), and with exactly `condOfRevents (pollRevents …)` of *that* entry — whatever timers, deferred
    callbacks and the io callbacks before it registered or cancelled. -/
theorem io_exact_conditions (fuel : Nat) (st : St) (t : Option Int) (hc : st.cfg.reventsCleared = true) :
    (∀ e ∈ (ioLoopT fuel (invokeTimers fuel (ppoll st t).1) 0).2,
        e.1 < st.pfd.length ∧ (st.pfd.getD e.1 default).fd ≠ -1 ∧ e.2.1 = (st.pfd.getD e.1 default).watch ∧
        e.2.2 = condOfRevents (pollRevents st (st.pfd.getD e.1 default))) ∧
    (ioLoopT fuel (invokeTimers fuel (ppoll st t).1) 0).2.Pairwise (fun x y => x.1 < y.1) :=
  io_exact_end_to_end fuel st t hc

example : (ioLoopT 100 (invokeTimers 100 (ppoll (runOps .repaired [.beh ⟨0, 0, [.cancel 1, .io 2 102 1 0]⟩, .act (.io 0 100 1 0),
    .act (.io 1 101 1 0), .ready 100 1, .ready 101 1, .ready 102 1]) (some 0)).1) 0).2 = [(0, some 2, 1)] := by decide +kernel

def cbLog (st : St) : List Ev := st.log.reverse.filter fun e => match e with | .cb .. => true | _ => false

def probeErrno : List Op :=
  [.beh ⟨1, 0, [.errno 11]⟩, .act (.signal 0 23 0), .act (.timer 1 0 0), .act (.raise 23), .tick]

/-- The signal is delivered during the wait; the timer callback sets errno; the watcher is not invoked
    and the signal stays recorded, waiting for an unrelated interruption. -/
theorem errno_after_callbacks_counterexample :
    cbLog (runOps .shipped probeErrno) = [.cb 1 3 .none] ∧ (runOps .shipped probeErrno).pendingSig.contains 23 = true := by
  decide +kernel
theorem errno_after_callbacks_repaired : cbLog (runOps .repaired probeErrno) = [.cb 1 3 .none, .cb 0 1 .none] := by
  decide +kernel

def probePendingUninit : List Op :=
  [.act (.signal 0 10 0), .act (.signal 1 23 0), .act (.raise 23), .tick]

/-- `pending_signals` is never initialised (0xbe… in the sanitizer build): the watcher of signal 10 is
    invoked although only 23 was raised. -/
theorem pending_uninit_counterexample : cbLog (runOps .shipped probePendingUninit) = [.cb 0 1 .none, .cb 1 1 .none] := by
  decide +kernel
theorem pending_uninit_repaired : cbLog (runOps .repaired probePendingUninit) = [.cb 1 1 .none] := by decide +kernel

def probeReventsStale : List Op :=
  [.beh ⟨0, 0, [.io 1 101 1 0]⟩, .act (.io 0 100 1 0), .ready 100 1, .tick]

/-- An io watch registered from a callback of the running iteration is invoked with uninitialised revents. -/
theorem revents_stale_counterexample :
    cbLog (runOps .shipped probeReventsStale) = [.cb 0 1 (.io 100 1), .cb 1 1 (.io 101 30)] := by decide +kernel
theorem revents_stale_repaired : cbLog (runOps .repaired probeReventsStale) = [.cb 0 1 (.io 100 1)] := by decide +kernel

def probeIoSelfCancel : List Op := [.beh ⟨0, 0, [.cancel 0]⟩, .act (.io 0 100 1 0), .ready 100 1, .tick]
def probeSigSelfCancel : List Op := [.beh ⟨0, 0, [.cancel 0]⟩, .act (.signal 0 23 0), .act (.raise 23), .tick]

/-- An io watch that cancels itself from its own callback: `invoke_watch` reads it afterwards. -/
theorem io_self_cancel_counterexample : (runOps .shipped probeIoSelfCancel).status = .ub .invokeWatchType := by
  decide +kernel
theorem io_self_cancel_repaired : (runOps .repaired probeIoSelfCancel).status = .ok ∧
    cbLog (runOps .repaired probeIoSelfCancel) = [.cb 0 1 (.io 100 1)] := by decide +kernel

/-- A signal watch that cancels itself: `tickit_evloop_invoke_sigwatches` reads `this->next` afterwards. -/
theorem signal_self_cancel_counterexample : (runOps .shipped probeSigSelfCancel).status = .ub .sigLoopThis := by
  decide +kernel
theorem signal_self_cancel_repaired : (runOps .repaired probeSigSelfCancel).status = .ok ∧
    cbLog (runOps .repaired probeSigSelfCancel) = [.cb 0 1 .none] := by decide +kernel

/-- `sighandler` of tickit.c: a watched signal that reaches the process of the observing instance is recorded in
    `t->signal.pending` *and* leaves a wake-up byte in the pipe — whenever it arrives (nothing is blocked). -/
theorem fb_handler_records_and_wakes (st : St) (s : Int) (hok : st.isOk = true) (hh : st.handled.contains s = true)
    (ho : st.observer = .self) :
    (Fb.raiseSig st s).pendingSig.contains s = true ∧ (Fb.raiseSig st s).pipeBytes = st.pipeBytes + 1 ∧
    (Fb.raiseSig st s).isOk = true := by
  unfold Fb.raiseSig Fb.sigRecord
  rw [if_neg (by rw [hok]; decide), if_pos hh, ho]
  exact ⟨contains_setInsert_self s _, rfl, hok⟩

example : (Fb.raiseSig (Fb.runOps .repaired [.act (.signal 0 10 0)]) 10).pipeBytes = 1 := by decide +kernel

/-- `on_sigpipe_readable` consumes one byte and empties `t->signal.pending` together with taking the snapshot,
    *before* any watcher runs: what a callback's `raise` records afterwards is kept for the next iteration. -/
theorem fb_dispatch_starts_from_empty_pending (fuel : Nat) (st : St) (h : st.cfg.sigpipeViaInvoke = true) :
    Fb.onSigpipeReadable fuel st =
      Fb.sigpipeInvoke fuel { st with pipeBytes := st.pipeBytes - 1, pendingSig := [] } st.pendingSig signalRange := by
  unfold Fb.onSigpipeReadable
  simp [h]

def fbProbeSelfCancel : List Op := [.beh ⟨0, 0, [.cancel 0]⟩, .act (.signal 0 10 0), .act (.raise 10), .tick]

/-- Defect (repaired in /repo: fixes/C18_sigpipe_dispatch.patch): as found,
    `on_sigpipe_readable` reads `this->next` of a signal watch that cancelled itself from its own callback. -/
theorem fb_self_cancel_counterexample :
    (Fb.runOps { Config.repaired with sigpipeViaInvoke := false } fbProbeSelfCancel).status = .ub .sigLoopThis := by
  decide +kernel
theorem fb_self_cancel_repaired : (Fb.runOps .repaired fbProbeSelfCancel).status = .ok ∧
    cbLog (Fb.runOps .repaired fbProbeSelfCancel) = [.cb 0 1 .none] := by decide +kernel

/-- Arrival while signal callbacks run: watcher 0 (signal 10) raises signal 12 — resp. signal 10 again — from its
    callback; the watchers of the new arrival run in the next iteration, without a further signal (both texts). -/
theorem fb_arrival_during_dispatch_other :
    cbLog (Fb.runOps .repaired [.beh ⟨0, 0, [.raise 12]⟩, .act (.signal 0 10 0), .act (.signal 1 12 0), .act (.raise 10), .tick, .tick])
      = [.cb 1 1 .none] ∧
    cbLog (Fb.runOps { Config.repaired with sigpipeViaInvoke := false }
      [.beh ⟨0, 0, [.raise 12]⟩, .act (.signal 0 10 0), .act (.signal 1 12 0), .act (.raise 10), .tick, .tick]) = [.cb 1 1 .none] := by
  decide +kernel
theorem fb_arrival_during_dispatch_same :
    cbLog (Fb.runOps .repaired [.beh ⟨0, 0, [.raise 10]⟩, .act (.signal 0 10 0), .act (.signal 1 10 0), .act (.raise 10), .tick, .tick])
      = [.cb 0 1 .none, .cb 1 1 .none] := by
  decide +kernel

/-- The bookkeeping of tickit.c's signal fallback in every state a history reaches (instance alive, behaviour
    defined), the analogue of `signal_bookkeeping_invariant`: `t->signal.pipewatch` is the third watch `tickit_build`
    made; it is live, its callback is `on_sigpipe_readable`, its poll entry names the read end of the pipe with POLLIN;
    nothing a callback can reach names one of the three watches of `tickit_build`; a recorded signal has its wake-up
    byte in the pipe. -/
theorem fb_signal_bookkeeping_invariant (cfg : Config) (ops : List Op) (hok : (Fb.runOps cfg ops).isOk = true)
    (hal : (Fb.runOps cfg ops).alive = true) : Fb.FInv 3 2 (Fb.runOps cfg ops) :=
  (Fb.freach_runOps cfg ops hok hal).1

/-- … in particular: a signal is never left recorded without a byte in the pipe to wake the loop. -/
theorem fb_recorded_signal_has_wakeup_byte (cfg : Config) (ops : List Op) (hok : (Fb.runOps cfg ops).isOk = true)
    (hal : (Fb.runOps cfg ops).alive = true) (h : (Fb.runOps cfg ops).pendingSig ≠ []) : (Fb.runOps cfg ops).pipeBytes > 0 :=
  (fb_signal_bookkeeping_invariant cfg ops hok hal).bytes h

example : (Fb.runOps .repaired [.act (.signal 0 10 0), .act (.raise 10)]).pendingSig = [10] ∧
    (Fb.runOps .repaired [.act (.signal 0 10 0), .act (.raise 10)]).pipeBytes = 1 := by decide +kernel

/-- One iteration of `evloop_run` begun in a reachable state (repaired `on_sigpipe_readable` and
    `tickit_evloop_invoke_sigwatches`; any variant of the rest): every signal the handler has recorded reaches every
    harness watch of it that is linked when the iteration begins and is still linked when it ends — its FIRE entry is in
    the log of this iteration, whatever timers, deferred callbacks, io callbacks and the other signal callbacks did.
    The wait cannot time out or be passed over: the recorded signal's byte makes the pipe readable. -/
theorem fb_signal_reaches_watchers_iteration (cfg : Config) (ops : List Op) (fuel : Nat) (nohang run : Bool)
    (hv : cfg.sigpipeViaInvoke = true) (hsn : cfg.sigSnapshot = true)
    (hok0 : (Fb.runOps cfg ops).isOk = true) (hal : (Fb.runOps cfg ops).alive = true)
    (hok : (Fb.tick fuel { Fb.runOps cfg ops with stillRunning := run, log := [] } nohang).status = .ok) :
    ∀ s ∈ signalRange, s ∈ (Fb.runOps cfg ops).pendingSig → ∀ b ∈ (Fb.runOps cfg ops).signals,
      b ∈ (Fb.tick fuel { Fb.runOps cfg ops with stillRunning := run, log := [] } nohang).signals →
      ((Fb.runOps cfg ops).getW b).signum = s → ((Fb.runOps cfg ops).getW b).slot ≥ 0 →
      Ev.cb ((Fb.runOps cfg ops).getW b).slot EV_FIRE .none ∈
        (Fb.tick fuel { Fb.runOps cfg ops with stillRunning := run, log := [] } nohang).log := by
  obtain ⟨fi, hc⟩ := Fb.freach_runOps cfg ops hok0 hal
  exact fun s hs hp => Fb.tick_reaches fuel { Fb.runOps cfg ops with stillRunning := run, log := [] } nohang
    (fi.of_same (by same_rfl)) (SInv.of_same (st := Fb.runOps cfg ops) rfl rfl (Fb.sinv_runOps cfg ops))
    ((congrArg (·.sigpipeViaInvoke) hc).trans hv) ((congrArg (·.sigSnapshot) hc).trans hsn) s hs hp hok

/-- On histories: a signal recorded by tickit.c's handler while watch `b` is linked leads to `b`'s callback in the
    very next iteration (`tickit_tick`, blocking or not) — without a further signal — unless `b` is cancelled meanwhile
    (a cancelled watch is freed: it is not live when the iteration ends). -/
theorem fb_signal_reaches_watchers (cfg : Config) (ops : List Op) (op : Op) (hop : op = .tick ∨ op = .tickhang)
    (hv : cfg.sigpipeViaInvoke = true) (hsn : cfg.sigSnapshot = true)
    (hok0 : (Fb.runOps cfg ops).isOk = true) (hal : (Fb.runOps cfg ops).alive = true)
    (hok : (Fb.runOps cfg (ops ++ [op])).status = .ok) :
    ∀ s ∈ signalRange, s ∈ (Fb.runOps cfg ops).pendingSig → ∀ b ∈ (Fb.runOps cfg ops).signals,
      (Fb.runOps cfg (ops ++ [op])).live b = true →
      ((Fb.runOps cfg ops).getW b).signum = s → ((Fb.runOps cfg ops).getW b).slot ≥ 0 →
      Ev.cb ((Fb.runOps cfg ops).getW b).slot EV_FIRE .none ∈ (Fb.runOps cfg (ops ++ [op])).log := by
  obtain ⟨nohang, hop⟩ : ∃ nohang, (op = .tick ∧ nohang = true) ∨ (op = .tickhang ∧ nohang = false) :=
    hop.elim (fun h => ⟨true, .inl ⟨h, rfl⟩⟩) fun h => ⟨false, .inr ⟨h, rfl⟩⟩
  obtain ⟨fi, hc⟩ := Fb.freach_runOps cfg ops hok0 hal
  rw [Fb.runOps_snoc, Fb.applyOp_tick _ op nohang hop hok0 hal] at hok ⊢
  exact fun s hs hp => Fb.tick_reaches_live defaultFuel { Fb.runOps cfg ops with stillRunning := true, log := [] } nohang
    (fi.of_same (by same_rfl)) (SInv.of_same (st := Fb.runOps cfg ops) rfl rfl (Fb.sinv_runOps cfg ops))
    ((congrArg (·.sigpipeViaInvoke) hc).trans hv) ((congrArg (·.sigSnapshot) hc).trans hsn) s hs hp hok

/-- The hypotheses are met and the conclusion is not vacuous: watch 0 is linked, signal 10 has been recorded, the next
    iteration is defined, leaves the watch live, and logs its callback. -/
example : (10 : Int) ∈ signalRange ∧ (10 : Int) ∈ (Fb.runOps .repaired [.act (.signal 0 10 0), .act (.raise 10)]).pendingSig ∧
    3 ∈ (Fb.runOps .repaired [.act (.signal 0 10 0), .act (.raise 10)]).signals ∧
    ((Fb.runOps .repaired [.act (.signal 0 10 0), .act (.raise 10)]).getW 3).signum = 10 ∧
    ((Fb.runOps .repaired [.act (.signal 0 10 0), .act (.raise 10)]).getW 3).slot = 0 ∧
    (Fb.runOps .repaired ([.act (.signal 0 10 0), .act (.raise 10)] ++ [.tick])).status = .ok ∧
    (Fb.runOps .repaired ([.act (.signal 0 10 0), .act (.raise 10)] ++ [.tick])).live 3 = true ∧
    Ev.cb 0 EV_FIRE .none ∈ (Fb.runOps .repaired ([.act (.signal 0 10 0), .act (.raise 10)] ++ [.tick])).log := by decide +kernel

/-- … also when a timer callback of the same iteration raised another watched signal and cancelled a second watcher
    of the first: the theorem speaks about that iteration too (watchers 0 and 3 are reached, 4 was cancelled). -/
example : cbLog (Fb.runOps .repaired [.beh ⟨1, 0, [.raise 12, .cancel 4]⟩, .act (.signal 0 10 0), .act (.timer 1 0 0),
    .act (.io 2 100 1 0), .act (.signal 3 12 0), .act (.signal 4 10 0), .ready 100 1, .act (.raise 10), .tick]) =
    [.cb 1 3 .none, .cb 0 1 .none, .cb 3 1 .none, .cb 2 1 (.io 100 1)] := by decide +kernel

/-- `tickit_term_observe_sigwinch` leaves the signal mask as it found it, whatever the observer list, the terminal
    and the direction: a signal the loop keeps blocked outside its wait stays blocked. -/
theorem term_observe_keeps_watched_signals_blocked (obs : List Nat) (st : St) (tt : Nat) (observe : Bool) :
    (termObserve obs st tt observe).2.blocked = st.blocked := termObserve_restores_mask obs st tt observe

/-- While the loop watches SIGWINCH (keeps it blocked) and the observer list stays non-empty, a terminal joining or
    leaving the observers changes nothing: the next iteration is the iteration it would have been, so a SIGWINCH
    raised afterwards stays pending (raise_while_blocked_stays_pending) and reaches its watchers
    (signal_reaches_watchers_end_to_end) exactly as without the call. -/
theorem term_observe_then_iteration_unchanged (fuel : Nat) (obs : List Nat) (st : St) (tt : Nat) (observe nohang : Bool) (s : Int)
    (hb : st.blocked.contains SIGWINCH = true) (hp : ∀ s ∈ st.kpending, st.blocked.contains s = true)
    (h1 : obs.isEmpty = false) (h2 : (obs.erase tt).isEmpty = false) :
    tick fuel (raiseSig (termObserve obs st tt observe).2 s) nohang = tick fuel (raiseSig st s) nohang := by
  rw [termObserve_transparent obs st tt observe hb hp h1 h2]

/-- Non-vacuity: the instance as built blocks SIGWINCH; a second terminal joins the first one's list. -/
theorem term_observe_example :
    (termObserve [0] (build .repaired) 1 true).1 = [0, 1] ∧
    (termObserve [0] (build .repaired) 1 true).2.blocked = [28] ∧
    (raiseSig (termObserve [0] (build .repaired) 1 true).2 28).kpending = [28] := by decide +kernel

/-- `evloop_init` starts the mask it hands to `ppoll` empty (`sigemptyset(&evdata->defmask)`) and nothing adds to it:
    whatever the process-wide mask holds - signals the loop blocked for its watchers, signals the application had
    blocked itself before it built the instance - a wait that finds no descriptor ready is interrupted by every signal
    pending in the kernel; it fails with EINTR, the handler has recorded the signal in this loop's pending set and
    nothing stays pending.  No hypothesis about `st.blocked`. -/
theorem ppoll_delivers_whatever_is_blocked (st : St) (t : Option Int)
    (hok : st.isOk = true) (hin : st.inpoll = []) (hc : pollCount st = 0) (ho : st.observer = .self)
    (s : Int) (hs : s ∈ st.kpending) :
    (ppoll st t).2 = none ∧ (ppoll st t).1.errno = EINTR ∧ s ∈ (ppoll st t).1.pendingSig ∧ (ppoll st t).1.kpending = [] := by
  have hr : pollRaise (pollScan st) = pollScan st := pollRaise_of_inpoll_nil _ hin
  have h2 : (ppoll st t).2 = none :=
    ppoll_interrupted st t (by rw [hr]; exact hok) hc (by rw [hr]; exact List.ne_nil_of_mem hs)
  have h := ppoll_eintr st t ho h2
  exact ⟨h2, h.1, h.2.2 s (by rw [hr]; exact hs), h.2.1⟩

/-- Non-vacuity: the application had SIGUSR1 (10) blocked when the instance was built, then watches it; a delivery
    before the iteration stays pending, meets the hypotheses above and reaches the watcher in that iteration. -/
theorem blocked_by_application_example :
    let st0 : St := { build .repaired with blocked := [10, 28] }
    let st := applyOp (applyOp st0 (.act (.signal 0 10 0))) (.act (.raise 10))
    st.blocked = [10, 28] ∧ st.kpending = [10] ∧ st.inpoll = [] ∧ pollCount st = 0 ∧ st.observer = .self ∧ st.isOk = true ∧
    cbLog (applyOp st .tick) = [.cb 0 1 .none] := by decide +kernel

end Tickit.Props.C18
