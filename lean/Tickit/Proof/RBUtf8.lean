import Tickit.Proof.RBRefine
import Tickit.Proof.Utf8
import Tickit.Props.C07
/-
  The render buffer's private text-width code (`Tickit.RB.Utf8` in Model/RB.lean) is the C07 model
  (`Tickit.Utf8`, `Tickit.Width`): same tables, same width function, same decoder, same counting loop, same encoder.
  So what the render-buffer theorems say about text is about the columns, graphemes and errors of `Props/C07.lean`.
  Second half (namespace `Tickit.RB`): `get_span` finds the run of a cell (`getSpan_spec`) and `get_cell_text` answers
  from the abstract content, in C07's terms (`getCellText_abs`).
-/
namespace Tickit.RB.Utf8
open Tickit

/-- Both pairs of tables are regenerated from the C source on every run. -/
theorem tables_eq : Gen.RBWidth.combining = Gen.Width.combining ∧ Gen.RBWidth.fullwidth = Gen.Width.fullwidth :=
  ⟨rfl, rfl⟩

theorem sorted_neighbours {t : Width.Table} (hs : Width.Sorted t) (i : Nat) (hi : i < t.size) :
    (t.getD i (0, 0)).1 ≤ (t.getD i (0, 0)).2 ∧ (i + 1 < t.size → (t.getD i (0, 0)).2 < (t.getD (i + 1) (0, 0)).1) := by
  have e : ∀ j : Nat, t.getD j (0, 0) = t.at (j : Int) := fun j => by unfold Width.Table.at; rw [Int.toNat_natCast]
  rw [e, e]
  exact ⟨Width.sorted_wf hs i (by omega) (by omega),
    fun h => Width.sorted_lt hs i (i + 1 : Nat) (by omega) (by omega) (by omega)⟩

theorem bisearchLoop_eq (t : Array (Nat × Nat)) (u : Nat) : ∀ (fuel : Nat) (a b : Int),
    bisearchLoop t u fuel a b = (Width.bisearchLoop t u fuel a b).getD false := by
  intro fuel
  induction fuel with
  | zero => intro a b; rfl
  | succ n ih =>
    intro a b
    unfold bisearchLoop Width.bisearchLoop Width.Table.at
    simp only
    by_cases h1 : b ≥ a
    · rw [if_pos h1, if_pos h1]
      by_cases h2 : u > (t.getD ((a + b) / 2).toNat (0, 0)).2
      · rw [if_pos h2, if_pos h2]; exact ih _ _
      · rw [if_neg h2, if_neg h2]
        by_cases h3 : u < (t.getD ((a + b) / 2).toNat (0, 0)).1
        · rw [if_pos h3, if_pos h3]; exact ih _ _
        · rw [if_neg h3, if_neg h3]; rfl
    · rw [if_neg h1, if_neg h1]; rfl

theorem bisearch_eq (t : Array (Nat × Nat)) (u : Nat) : bisearch t u = Width.bisearch t u := by
  unfold bisearch Width.bisearch Width.Table.at
  simp only
  by_cases h0 : t.size = 0
  · rw [if_pos h0]
    have e : t = #[] := Array.eq_empty_of_size_eq_zero h0
    subst e
    first | rfl | simp [bisearchLoop]
  · rw [if_neg h0, bisearchLoop_eq]
    simp only [Int.toNat_zero, Bool.or_eq_true, decide_eq_true_eq]

theorem wideExpr_eq (u : Nat) : Gen.RBWidth.wideExpr u = Width.isWideRange u := by
  unfold Gen.RBWidth.wideExpr Width.isWideRange
  rw [Bool.eq_iff_iff]
  all_goals
    (simp only [Bool.and_eq_true, Bool.or_eq_true, decide_eq_true_eq]
     omega)

theorem ctrlExpr_iff (u : Nat) : Gen.RBWidth.ctrlExpr u = true ↔ (u < 32 ∨ (u ≥ 0x7f ∧ u < 0xa0)) := by
  unfold Gen.RBWidth.ctrlExpr
  simp only [Bool.and_eq_true, Bool.or_eq_true, decide_eq_true_eq]

theorem wcwidth_eq (cp : Nat) : wcwidth cp = Width.wcwidth cp := by
  unfold wcwidth Width.wcwidth mkWcwidth Width.mkWcwidth
  rw [tables_eq.1, tables_eq.2, bisearch_eq, bisearch_eq, wideExpr_eq]
  by_cases h : Gen.RBWidth.ctrlExpr cp = true
  · rw [if_pos h, if_pos ((ctrlExpr_iff cp).1 h)]
  · rw [if_neg h, if_neg (fun x => h ((ctrlExpr_iff cp).2 x))]

/-- The bytes of a `TickitString` as C07's memory: the bytes, then NUL. -/
def memOf (s : List UInt8) : Tickit.Utf8.Mem := fun i => s.getD i 0

theorem contBytes_eq (s : List UInt8) : ∀ (k i cp : Nat),
    contBytes s k i cp = (Tickit.Utf8.contLoop (memOf s) k i cp).1 := by
  intro k
  induction k with
  | zero => intro i cp; rfl
  | succ k ih =>
    intro i cp
    unfold contBytes Tickit.Utf8.contLoop byteAt memOf
    simp only
    split
    · rfl
    · rw [Tickit.Utf8.contAcc_eq]; exact ih _ _

def decOf : Tickit.Utf8.Dec → Option Dec
  | .err _ => none
  | .ok n cp _ => some ⟨n, cp⟩

theorem nextUtf8_eq (s : List UInt8) (i : Nat) (len : Option Nat) :
    nextUtf8 s i len = decOf (Tickit.Utf8.nextUtf8 (memOf s) i len) := by
  unfold nextUtf8 Tickit.Utf8.nextUtf8 byteAt
  simp only
  show _ = decOf (if len = some 0 then _ else if ((memOf s) i).toNat = 0 then _ else _)
  have hm : ((memOf s) i).toNat = (s.getD i 0).toNat := rfl
  rw [hm]
  generalize (s.getD i 0).toNat = b0
  by_cases h1 : len = some 0
  · rw [if_pos h1, if_pos h1]; rfl
  · rw [if_neg h1, if_neg h1]
    by_cases h2 : b0 = 0
    · rw [if_pos h2, if_pos h2]; rfl
    · rw [if_neg h2, if_neg h2]
      by_cases h3 : b0 < 0x80
      · rw [if_pos h3, if_pos h3]; rfl
      · rw [if_neg h3, if_neg h3]
        by_cases h4 : b0 < 0xc0
        · rw [if_pos h4, if_pos (by unfold Tickit.Utf8.leadLen; rw [if_pos h4])]; rfl
        · rw [if_neg h4]
          by_cases h5 : b0 < 0xf8
          · rw [if_pos h5]
            have hl : Tickit.Utf8.leadLen b0 = (if b0 < 0xe0 then 2 else if b0 < 0xf0 then 3 else 4) := by
              unfold Tickit.Utf8.leadLen; rw [if_neg h4, if_pos h5]
            have hl0 : Tickit.Utf8.leadLen b0 ≠ 0 := by
              rw [hl]; intro x; split at x <;> (try split at x) <;> cases x
            rw [if_neg hl0, hl, Tickit.Utf8.leadBits_eq]
            generalize (if b0 < 0xe0 then 2 else if b0 < 0xf0 then 3 else 4 : Nat) = nb
            generalize (if b0 < 0xe0 then b0 % 32 else if b0 < 0xf0 then b0 % 16 else b0 % 8 : Nat) = cp0
            rw [contBytes_eq]
            unfold Tickit.Utf8.lenLt
            cases len with
            | none =>
              simp only [Bool.false_eq_true, if_false]
              generalize Tickit.Utf8.contLoop (memOf s) (nb - 1) (i + 1) cp0 = r
              obtain ⟨a, b⟩ := r
              cases a <;> rfl
            | some l =>
              simp only
              by_cases h6 : decide (l < nb) = true
              · rw [if_pos h6, if_pos h6]; rfl
              · rw [if_neg h6, if_neg h6]
                generalize Tickit.Utf8.contLoop (memOf s) (nb - 1) (i + 1) cp0 = r
                obtain ⟨a, b⟩ := r
                cases a <;> rfl
          · rw [if_neg h5, if_pos (by unfold Tickit.Utf8.leadLen; rw [if_neg h4, if_neg (by omega), if_neg (by omega), if_neg h5])]; rfl

def toPos (p : StrPos) : Tickit.Utf8.Pos := ⟨p.bytes.toNat, p.codepoints, p.graphemes, p.columns⟩
def ofPos (p : Tickit.Utf8.Pos) : StrPos := ⟨p.bytes, p.codepoints, p.graphemes, p.columns⟩
/-- A limit: `bytes = -1` is `(size_t)-1`. -/
def toLimit (l : StrPos) : Tickit.Utf8.Limit :=
  ⟨if l.bytes = -1 then none else some l.bytes.toNat, l.codepoints, l.graphemes, l.columns⟩

theorem ofPos_toPos (p : StrPos) (h : 0 ≤ p.bytes) : ofPos (toPos p) = p := by
  unfold ofPos toPos
  cases p with
  | mk b c g k => simp only at h ⊢; congr 1; omega

/-- The C07 outcome of a counting call that began at byte `start` against the render buffer's: same position, and the
    value returned is the bytes advanced or `-1`. -/
def Agree (start : Nat) (o : Tickit.Utf8.Outcome) (r : CountRes) : Prop :=
  match o with
  | .outOfFuel => r.status = .fuel
  | .ret x p _ => r.pos = ofPos p ∧
      ((x = -1 ∧ r.status = .err) ∨ (x = (p.bytes : Int) - start ∧ x ≠ -1 ∧ r.status = .ok))

theorem exceeds_some (l : StrPos) (hl' : -1 ≤ l.bytes) (here : StrPos) (hb : 0 ≤ here.bytes) (n : Nat) (w : Int) :
    ((decide (l.bytes ≠ -1) && decide (here.bytes + n > l.bytes)) ||
     (decide (l.codepoints ≠ -1) && decide (here.codepoints + 1 > l.codepoints)) ||
     (decide (l.graphemes ≠ -1) && decide (here.graphemes + (if w > 0 then 1 else 0 : Int) > l.graphemes)) ||
     (decide (l.columns ≠ -1) && decide (here.columns + w > l.columns))) =
    Tickit.Utf8.exceeds (some (toLimit l)) (toPos here) n w := by
  unfold Tickit.Utf8.exceeds toLimit toPos
  simp only
  rw [Bool.eq_iff_iff]
  by_cases hm : l.bytes = -1
  · simp only [hm, if_true, Bool.or_eq_true, Bool.and_eq_true, decide_eq_true_eq, ne_eq, not_true_eq_false,
      false_and, false_or, Bool.false_eq_true, decide_false]
  · simp only [hm, if_false, Bool.or_eq_true, Bool.and_eq_true, decide_eq_true_eq, ne_eq, not_false_eq_true,
      true_and, decide_true]
    exact or_congr (or_congr (or_congr (by omega) Iff.rfl) Iff.rfl) Iff.rfl

theorem Agree.ok {start : Nat} {q : StrPos} (h0 : 0 ≤ q.bytes) (hs : (start : Int) ≤ q.bytes) (h : Nat) :
    Agree start (.ret (((toPos q).bytes : Int) - start) (toPos q) h) ⟨.ok, q⟩ := by
  refine ⟨(ofPos_toPos q h0).symm, Or.inr ⟨rfl, ?_, rfl⟩⟩
  show ((q.bytes.toNat : Nat) : Int) - start ≠ -1
  omega

theorem Agree.err {start : Nat} {q : StrPos} (h0 : 0 ≤ q.bytes) (h : Nat) :
    Agree start (.ret (-1) (toPos q) h) ⟨.err, q⟩ :=
  ⟨(ofPos_toPos q h0).symm, Or.inl ⟨rfl, rfl⟩⟩

theorem Agree.ite {start : Nat} {b c : Bool} (h : b = c) {o1 o2 : Tickit.Utf8.Outcome} {r1 r2 : CountRes}
    (h1 : Agree start o1 r1) (h2 : Agree start o2 r2) :
    Agree start (if c = true then o1 else o2) (if b = true then r1 else r2) := by
  subst h; cases b
  · exact h2
  · exact h1

theorem countLoop_agree (s : List UInt8) (limit : Option StrPos) (hl : ∀ l, limit = some l → -1 ≤ l.bytes) (start : Nat) :
    ∀ (fuel off : Nat) (len : Option Nat) (pos here : StrPos) (hi : Nat),
      0 ≤ pos.bytes → (start : Int) ≤ pos.bytes → pos.bytes ≤ here.bytes →
      Agree start (Tickit.Utf8.loop (memOf s) (limit.map toLimit) start fuel off len (toPos here) (toPos pos) hi)
        (countLoop s limit fuel off len pos here) := by
  intro fuel
  induction fuel with
  | zero => intro off len pos here hi _ _ _; rfl
  | succ fuel ih =>
    intro off len pos here hi hp hs hh
    have hhb : 0 ≤ here.bytes := by omega
    unfold Tickit.Utf8.loop Tickit.Utf8.stepAt countLoop
    have hm : ((memOf s) off).toNat = byteAt s off := rfl
    rw [hm]
    by_cases h1 : len = some 0
    · simp only [h1, if_true, Bool.true_or, decide_true]
      exact Agree.ok hhb (by omega) _
    · by_cases h2 : byteAt s off = 0
      · simp only [h1, h2, if_false, if_true, decide_true, Bool.or_true, decide_false]
        exact Agree.ok hhb (by omega) _
      · simp only [h1, h2, if_false, decide_false, Bool.or_self, Bool.false_eq_true]
        rw [nextUtf8_eq]
        cases hd : Tickit.Utf8.nextUtf8 (memOf s) off len with
        | err h => exact Agree.err hp _
        | ok n cp h =>
          simp only [decOf]
          have hctrl : ((decide (cp < 0x20) || (decide (cp ≥ 0x80) && decide (cp < 0xa0))) = true) ↔
              (cp < 0x20 ∨ (cp ≥ 0x80 ∧ cp < 0xa0)) := by
            simp only [Bool.or_eq_true, Bool.and_eq_true, decide_eq_true_eq]
          rw [wcwidth_eq]
          generalize Width.wcwidth cp = w
          by_cases h3 : cp < 0x20 ∨ (cp ≥ 0x80 ∧ cp < 0xa0)
          · simp only [if_pos h3, if_pos (hctrl.2 h3)]
            exact Agree.err hp _
          · simp only [if_neg h3, if_neg (fun x => h3 (hctrl.1 x))]
            by_cases h4 : w = -1
            · simp only [if_pos h4]
              exact Agree.err hp _
            · simp only [if_neg h4]
              have hadv : (toPos here).adv n w =
                  toPos (StrPos.mk (here.bytes + n) (here.codepoints + 1) (here.graphemes + (if w > 0 then 1 else 0)) (here.columns + w)) := by
                unfold Tickit.Utf8.Pos.adv toPos
                simp only
                congr 1
                omega
              rw [← apply_ite toPos, hadv]
              have hq : 0 ≤ (if w > 0 then here else pos).bytes ∧ (start : Int) ≤ (if w > 0 then here else pos).bytes ∧
                  (if w > 0 then here else pos).bytes ≤ here.bytes := by split <;> omega
              generalize (if w > 0 then here else pos) = q at hq ⊢
              refine Agree.ite ?_ (Agree.ok hq.1 hq.2.1 _)
                (ih _ _ q _ _ hq.1 hq.2.1 (by show _ ≤ here.bytes + n; omega))
              cases limit with
              | none => rfl
              | some l => exact exceeds_some l (hl l rfl) here hhb n w

theorem exists_firstNul (mem : Tickit.Utf8.Mem) : ∀ (d str e : Nat), e - str ≤ d → str ≤ e → (mem e).toNat = 0 →
    ∃ nul, Tickit.Utf8.FirstNul mem str nul ∧ nul ≤ e := by
  intro d
  induction d with
  | zero =>
    intro str e hd hle hz
    have : e = str := by omega
    subst this
    exact ⟨e, ⟨Nat.le_refl _, hz, fun i a b => by omega⟩, Nat.le_refl _⟩
  | succ d ih =>
    intro str e hd hle hz
    by_cases h0 : (mem str).toNat = 0
    · exact ⟨str, ⟨Nat.le_refl _, h0, fun i a b => by omega⟩, hle⟩
    · have hne : str ≠ e := by intro x; rw [x] at h0; exact h0 hz
      obtain ⟨nul, ⟨a, b, c⟩, hn⟩ := ih (str + 1) e (by omega) (by omega) hz
      refine ⟨nul, ⟨by omega, b, fun i x y => ?_⟩, hn⟩
      by_cases hi : i = str
      · rw [hi]; exact h0
      · exact c i (by omega) y

theorem memOf_zero (s : List UInt8) (i : Nat) (h : s.length ≤ i) : ((memOf s) i).toNat = 0 := by
  unfold memOf
  rw [List.getD_eq_getElem?_getD, List.getElem?_eq_none h]; rfl

open Tickit.Utf8 (specRun) in
open Tickit.Props.C07 (Scans graphemes) in
/-- A counting call of the render-buffer model, by C07's specification.  `hlen` is the two ways the render
    buffer calls the counter: NUL-terminated from any committed position, or with the explicit string length
    from the start. -/
theorem ncountmore_c07 (s : List UInt8) (len : Option Nat) (pos : StrPos) (limit : Option StrPos)
    (hp : 0 ≤ pos.bytes) (hlen : len = none ∨ (len = some s.length ∧ pos.bytes = 0))
    (hl : ∀ l, limit = some l → -1 ≤ l.bytes) :
    ∃ cs t, Scans (memOf s) (s.length + 1) len (toPos pos) cs t ∧
      (ncountmore s len pos limit).pos = ofPos (specRun (limit.map toLimit) (graphemes cs) t (toPos pos)).pos ∧
      (ncountmore s len pos limit).status =
        (if (specRun (limit.map toLimit) (graphemes cs) t (toPos pos)).err then .err else .ok) := by
  have hscan : ∃ cs t, Scans (memOf s) (s.length + 1) len (toPos pos) cs t := by
    unfold Scans
    rcases hlen with h | ⟨h, h0⟩
    · subst h
      show ∃ cs t, Tickit.Utf8.scan (memOf s) (s.length + 1) pos.bytes.toNat none = some (cs, t)
      obtain ⟨nul, hn, hle⟩ := exists_firstNul (memOf s) (max pos.bytes.toNat s.length - pos.bytes.toNat) pos.bytes.toNat
        (max pos.bytes.toNat s.length) (Nat.le_refl _) (Nat.le_max_left _ _) (memOf_zero s _ (Nat.le_max_right _ _))
      obtain ⟨cs, t, h⟩ := Props.C07.scan_terminates_nul (memOf s) nul (nul - pos.bytes.toNat) pos.bytes.toNat hn (Nat.le_refl _)
      refine ⟨cs, t, Tickit.Utf8.scan_mono_le _ _ _ _ _ _ ?_ h⟩
      have := hn.1
      omega
    · subst h
      have e : (toPos pos).bytes = 0 := by show pos.bytes.toNat = 0; omega
      rw [e]
      exact Props.C07.scan_terminates_len (memOf s) s.length 0
  obtain ⟨cs, t, hs⟩ := hscan
  refine ⟨cs, t, hs, ?_⟩
  obtain ⟨hi, hc⟩ := Props.C07.count_spec (memOf s) (s.length + 1) len (toPos pos) (limit.map toLimit) cs t hs
  have hA := countLoop_agree s limit hl pos.bytes.toNat (s.length + 1) pos.bytes.toNat (len.map (· - pos.bytes.toNat)) pos pos 0
    hp (by omega) (Int.le_refl _)
  have hlen' : Tickit.Utf8.lenSub len (toPos pos).bytes = len.map (· - pos.bytes.toNat) := by
    rcases hlen with h | ⟨h, h0⟩
    · subst h; rfl
    · subst h
      have e : pos.bytes.toNat = 0 := by omega
      show Tickit.Utf8.lenSub (some s.length) pos.bytes.toNat = _
      rw [e]; simp [Tickit.Utf8.lenSub]
  have hc' : Tickit.Utf8.loop (memOf s) (limit.map toLimit) pos.bytes.toNat (s.length + 1) pos.bytes.toNat
      (len.map (· - pos.bytes.toNat)) (toPos pos) (toPos pos) 0 =
      .ret ((specRun (limit.map toLimit) (graphemes cs) t (toPos pos)).ret (toPos pos).bytes)
        (specRun (limit.map toLimit) (graphemes cs) t (toPos pos)).pos hi := by
    rw [← hlen']; exact hc
  rw [hc'] at hA
  unfold Agree at hA
  simp only at hA
  refine ⟨hA.1, ?_⟩
  unfold Tickit.Utf8.Res.ret at hA
  by_cases he : (specRun (limit.map toLimit) (graphemes cs) t (toPos pos)).err = true
  · rw [if_pos he] at hA ⊢
    rcases hA.2 with h | h
    · exact h.2
    · exact absurd rfl h.2.1
  · rw [if_neg he] at hA ⊢
    rcases hA.2 with h | h
    · exfalso
      have := h.1
      have hb := Tickit.Utf8.specRun_bytes_ge (limit.map toLimit) t (graphemes cs) (toPos pos)
      omega
    · exact h.2.2

theorem allFit_none : ∀ (gs : List (List Tickit.Utf8.Ch)) (here : Tickit.Utf8.Pos), Tickit.Utf8.AllFit none here gs := by
  intro gs
  induction gs with
  | nil => intro here; trivial
  | cons g gs ih => intro here; exact ⟨trivial, ih _⟩

theorem specRun_none_eof : ∀ (gs : List (List Tickit.Utf8.Ch)) (here : Tickit.Utf8.Pos),
    Tickit.Utf8.specRun none gs .eof here = ⟨false, Tickit.Utf8.sumPos here gs.flatten⟩ := by
  intro gs
  induction gs with
  | nil => intro here; rfl
  | cons g gs ih =>
    intro here
    unfold Tickit.Utf8.specRun
    rw [if_pos (by trivial : Tickit.Utf8.Within none _), if_neg (by simp), ih, List.flatten_cons, Tickit.Utf8.sumPos_append]

open Tickit.Props.C07 (Scans graphemes) in
/-- The columns of a text handed to `put_string`, in C07's terms (`c.w = wcwidth c.cp` by
    `Props.C07.scans_sound`): accepted exactly if the scan ends at the end of the string (no control character,
    no truncated or NUL-cut sequence), and then it occupies the sum of the widths. -/
theorem stringColumns_c07 (s : List UInt8) :
    ∃ cs t, Scans (memOf s) (s.length + 1) (some s.length) Tickit.Utf8.Pos.zero cs t ∧
      stringColumns s = (if t = .eof then some ((cs.map (·.w)).sum) else none) := by
  obtain ⟨cs, t, hs, hp, hst⟩ := ncountmore_c07 s (some s.length) {} none (Int.le_refl _) (Or.inr ⟨rfl, rfl⟩) (fun l h => by cases h)
  refine ⟨cs, t, hs, ?_⟩
  unfold stringColumns
  simp only [Option.map_none] at hp hst
  have hz : toPos {} = Tickit.Utf8.Pos.zero := rfl
  rw [hz] at hp hst
  cases t with
  | eof =>
    simp only [specRun_none_eof, Bool.false_eq_true, if_false] at hp hst
    simp only [hst, hp, if_true]
    simp only [ofPos]
    unfold graphemes
    rw [Tickit.Utf8.clusters_flatten, Tickit.Utf8.sumPos_columns]
    simp [Tickit.Utf8.Pos.zero]
  | err =>
    have he : (Tickit.Utf8.specRun none (graphemes cs) .err Tickit.Utf8.Pos.zero).err = true :=
      (Tickit.Utf8.specRun_err_iff none .err _ _).2 ⟨rfl, allFit_none _ _⟩
    simp only [he, if_true] at hst
    simp [hst]

theorem seqlen_eq (cp : Nat) : seqlen cp = Tickit.Utf8.seqlen cp := by
  unfold seqlen Tickit.Utf8.seqlen
  simp only [show (0x80 : Int) = ((0x80 : Nat) : Int) from rfl, show (0x800 : Int) = ((0x800 : Nat) : Int) from rfl,
    show (0x10000 : Int) = ((0x10000 : Nat) : Int) from rfl, show (0x200000 : Int) = ((0x200000 : Nat) : Int) from rfl,
    show (0x4000000 : Int) = ((0x4000000 : Nat) : Int) from rfl, Int.ofNat_lt]

/-- The render buffer's transcription of `tickit_utf8_put` (`/`, `%`) writes the bytes of C07's (shifts and masks). -/
theorem put_eq_putBytes (cp : Nat) (h : cp < 0x200000) : put cp = (Tickit.Utf8.putBytes cp).map UInt8.ofNat := by
  unfold put
  rw [seqlen_eq]
  rcases Nat.lt_or_ge cp 0x80 with hA | hA
  · rw [Tickit.Utf8.putBytes_1 cp hA, Tickit.Utf8.seqlen_1 hA]
    simp only
    exact congrArg (fun v => [UInt8.ofNat v]) (by omega)
  rcases Nat.lt_or_ge cp 0x800 with hB | hB
  · rw [Tickit.Utf8.putBytes_2 cp hA hB, Tickit.Utf8.seqlen_2 hA hB]
    simp only [putTail]
    exact congrArg (fun v => [UInt8.ofNat (0xc0 + v), _]) (by omega)
  rcases Nat.lt_or_ge cp 0x10000 with hC | hC
  · rw [Tickit.Utf8.putBytes_3 cp hB hC, Tickit.Utf8.seqlen_3 hB hC]
    simp only [putTail]
    exact congrArg (fun v => [UInt8.ofNat (0xe0 + v), _, _]) (by omega)
  · rw [Tickit.Utf8.putBytes_4 cp hC h, Tickit.Utf8.seqlen_4 hC h]
    simp only [putTail]
    rw [show cp / 64 ^ (4 - 1) = cp / 262144 from rfl, show cp / 64 / 64 = cp / 4096 from Nat.div_div_eq_div_mul _ _ _,
      Nat.mod_eq_of_lt (show cp / 262144 < 8 from Nat.div_lt_of_lt_mul h)]
    rfl

theorem nextUtf8_put (cp : Nat) (h0 : 0 < cp) (h : cp < 0x200000) :
    nextUtf8 (put cp) 0 (some (put cp).length) = some ⟨(put cp).length, cp⟩ := by
  have f := Tickit.Utf8.putBytes_form cp h
  have hl : (put cp).length = (Tickit.Utf8.putBytes cp).length := by rw [put_eq_putBytes cp h, List.length_map]
  rw [nextUtf8_eq, hl, f.nextUtf8 h0 _ 0 _ (by simp [Tickit.Utf8.lenLt])]
  · rfl
  · intro i b hb
    have hb' := (f.range h0 b (List.mem_of_getElem? hb)).2
    show ((put cp).getD (0 + i) 0).toNat = b
    rw [Nat.zero_add, put_eq_putBytes cp h, List.getD_eq_getElem?_getD, List.getElem?_map, hb]
    exact UInt8.toNat_ofNat_of_lt' hb'

end Tickit.RB.Utf8

namespace Tickit.RB
open Tickit.RBAbs

def contentCell : Content → Cell
  | .skip => { state := .skip, cols := 1 }
  | .text p s k => { state := .text, cols := 1, pen := p, text := s, offs := k }
  | .erase p => { state := .erase, cols := 1, pen := p }
  | .line p m => { state := .line, cols := 1, pen := p, lmask := m }
  | .char p cp => { state := .char, cols := 1, pen := p, cp := cp }

/-- What `tickit_renderbuffer_get_cell_text` answers for a cell with the given abstract content (buffer of
    `len` bytes). -/
def contentText (ct : Content) (len : Nat) : Int × List UInt8 := getSpanText1 ⟨contentCell ct, 0⟩ len

theorem getSpanText1_content (start : Cell) (off : Int) (len : Nat) (h : start.state ≠ .cont) :
    getSpanText1 ⟨start, off⟩ len = contentText (cellContent start off) len := by
  unfold contentText cellContent getSpanText1
  cases hs : start.state <;> simp [contentCell, hs] at h ⊢ <;> rfl

theorem getSpan_spec {rb : RB} (wf : WF rb) (l c : Int) :
    if absClipRect rb.clip (l + rb.xlLine) (c + rb.xlCol) = true then
      ∃ sc off, getSpan rb l c = some ⟨(rb.cells (l + rb.xlLine)).get sc, off⟩ ∧
        0 ≤ l + rb.xlLine ∧ l + rb.xlLine < rb.lines ∧ 0 ≤ sc ∧ sc < rb.cols ∧
        ((rb.cells (l + rb.xlLine)).get sc).state ≠ .cont ∧ 0 ≤ off ∧
        off < ((rb.cells (l + rb.xlLine)).get sc).cols ∧ sc + off = c + rb.xlCol
    else getSpan rb l c = none := by
  unfold getSpan
  cases hx : xlateAndClip rb l c 1 with
  | none => rw [if_neg (fun x => xlateAndClip_none hx (c + rb.xlCol) ⟨by omega, by omega, x⟩)]
  | some r =>
    obtain ⟨r1, r2, r3, r4, r5, r6, r7, r8⟩ := xlateAndClip_one wf.runsOK hx
    rw [← r1, ← r2, if_pos r8]
    simp only
    obtain ⟨s0, sk, ss, sin⟩ := (wf.rows r.line r4 r5).run_of r.col r6 r7
    refine ⟨runStart (rb.cells r.line) r.col, r.col - runStart (rb.cells r.line) r.col, ?_, r4, r5, s0, by omega, ss,
      by omega, by omega, by omega⟩
    unfold runStart RB.cell
    split
    · rfl
    · rw [Int.sub_self]

/-- `get_cell_text` is answered from the abstract content of the cell alone, whatever run the cell belongs to
    and wherever that run was cut. -/
theorem getCellText_abs {rb : RB} (wf : WF rb) (l c : Int) (len : Nat) :
    getCellText rb l c len =
      if absClipRect rb.clip (l + rb.xlLine) (c + rb.xlCol) = true
      then contentText (absContent rb (l + rb.xlLine) (c + rb.xlCol)) len else (-1, []) := by
  have S := getSpan_spec wf l c
  unfold getCellText
  by_cases hcl : absClipRect rb.clip (l + rb.xlLine) (c + rb.xlCol) = true
  · rw [if_pos hcl] at S ⊢
    obtain ⟨sc, off, e, a1, a2, a3, a4, hs, o0, o1, eq⟩ := S
    rw [e]
    simp only
    rw [if_neg hs, ← eq, absContent_run wf.runsOK a1 a2 a3 a4 hs o0 o1]
    exact getSpanText1_content _ _ _ hs
  · rw [if_neg hcl] at S ⊢
    rw [S]

theorem toPos_ofPos (p : Tickit.Utf8.Pos) : Utf8.toPos (Utf8.ofPos p) = p := by
  unfold Utf8.toPos Utf8.ofPos
  cases p; simp

theorem bytes_between (s : List UInt8) (st en : Tickit.Utf8.Pos) :
    (s.drop (Utf8.ofPos st).bytes.toNat).take ((Utf8.ofPos en).bytes - (Utf8.ofPos st).bytes).toNat =
      (s.drop st.bytes).take (en.bytes - st.bytes) := by
  show (s.drop (((st.bytes : Nat) : Int)).toNat).take (((en.bytes : Nat) : Int) - ((st.bytes : Nat) : Int)).toNat = _
  rw [Int.toNat_natCast, show ((en.bytes : Int) - st.bytes).toNat = en.bytes - st.bytes by omega]

open Tickit.Utf8 (specRun) in
open Tickit.Props.C07 (Scans graphemes) in
/-- A count to `k` columns, then a second one from where it stopped (`st`) under a limit that may depend on `st`: `l2`
    in the render buffer's vocabulary, `L2` the same in C07's. -/
theorem two_counts (s : List UInt8) (k : Int) (l2 : Tickit.Utf8.Pos → Utf8.StrPos) (L2 : Tickit.Utf8.Pos → Tickit.Utf8.Limit)
    (hl2 : ∀ st, -1 ≤ (l2 st).bytes) (hL : ∀ st, Utf8.toLimit (l2 st) = L2 st) :
    ∃ cs1 t1 cs2 t2 st en,
      Scans (Utf8.memOf s) (s.length + 1) none Tickit.Utf8.Pos.zero cs1 t1 ∧
      st = (specRun (some ⟨none, -1, -1, k⟩) (graphemes cs1) t1 Tickit.Utf8.Pos.zero).pos ∧
      Scans (Utf8.memOf s) (s.length + 1) none st cs2 t2 ∧
      en = (specRun (some (L2 st)) (graphemes cs2) t2 st).pos ∧
      (Utf8.ncountmore s none {} (some (Utf8.limitColumns k))).pos = Utf8.ofPos st ∧
      (Utf8.ncountmore s none (Utf8.ofPos st) (some (l2 st))).pos = Utf8.ofPos en := by
  obtain ⟨cs1, t1, hs1, hp1, _⟩ := Utf8.ncountmore_c07 s none {} (some (Utf8.limitColumns k)) (Int.le_refl _) (Or.inl rfl)
    (fun l h => by cases h; simp [Utf8.limitColumns])
  have hz : Utf8.toPos {} = Tickit.Utf8.Pos.zero := rfl
  have hl1 : (some (Utf8.limitColumns k)).map Utf8.toLimit = some (⟨none, -1, -1, k⟩ : Tickit.Utf8.Limit) := by
    simp [Utf8.limitColumns, Utf8.toLimit]
  rw [hz] at hs1
  rw [hz, hl1] at hp1
  generalize hst : (specRun (some ⟨none, -1, -1, k⟩) (graphemes cs1) t1 Tickit.Utf8.Pos.zero).pos = st at hp1
  obtain ⟨cs2, t2, hs2, hp2, _⟩ := Utf8.ncountmore_c07 s none (Utf8.ofPos st) (some (l2 st))
    (by show (0 : Int) ≤ (st.bytes : Int); omega) (Or.inl rfl) (fun l h => by cases h; exact hl2 st)
  rw [toPos_ofPos] at hs2
  rw [toPos_ofPos, Option.map_some, hL] at hp2
  exact ⟨cs1, t1, cs2, t2, st, _, hs1, hst.symm, hs2, rfl, hp1, hp2⟩

open Tickit.Utf8 (specRun) in
open Tickit.Props.C07 (Scans graphemes) in
/-- The text of a text cell showing column `k` of `s`, in C07's terms: `st` is where whole graphemes stop
    fitting into `k` columns, `en` one grapheme further, and `get_cell_text` returns `s[st.bytes, en.bytes)`.
    A double-width character answers for both of its columns: at its second column it does not fit into `k`
    columns, so `st` is before it. -/
theorem cellText_text_c07 (p : Pen) (s : List UInt8) (k : Int) (len : Nat) :
    ∃ cs1 t1 cs2 t2 st en,
      Scans (Utf8.memOf s) (s.length + 1) none Tickit.Utf8.Pos.zero cs1 t1 ∧
      st = (specRun (some ⟨none, -1, -1, k⟩) (graphemes cs1) t1 Tickit.Utf8.Pos.zero).pos ∧
      Scans (Utf8.memOf s) (s.length + 1) none st cs2 t2 ∧
      en = (specRun (some ⟨none, -1, st.graphemes + 1, -1⟩) (graphemes cs2) t2 st).pos ∧
      contentText (.text p s k) len =
        (if (len : Int) < (en.bytes : Int) - st.bytes then (-1, [])
         else ((en.bytes : Int) - st.bytes, (s.drop st.bytes).take (en.bytes - st.bytes))) := by
  obtain ⟨cs1, t1, cs2, t2, st, en, hs1, hst, hs2, hen, hp1, hp2⟩ :=
    two_counts s k (fun st => Utf8.limitGraphemes (st.graphemes + 1)) (fun st => ⟨none, -1, st.graphemes + 1, -1⟩)
      (fun _ => by simp [Utf8.limitGraphemes]) (fun _ => by simp [Utf8.limitGraphemes, Utf8.toLimit])
  refine ⟨cs1, t1, cs2, t2, st, en, hs1, hst, hs2, hen, ?_⟩
  unfold contentText getSpanText1 contentCell
  simp only [Int.add_zero]
  rw [hp1]
  have hg : (Utf8.ofPos st).graphemes = st.graphemes := rfl
  rw [hg, hp2]
  show (if (len : Int) < ((en.bytes : Nat) : Int) - ((st.bytes : Nat) : Int) then _ else _) = _
  split
  · rfl
  · exact congrArg (Prod.mk _) (bytes_between s st en)

end Tickit.RB
