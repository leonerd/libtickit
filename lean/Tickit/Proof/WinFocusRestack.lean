import Tickit.Proof.WinFocusResize
/-
  C15 over histories: queued restacking requests applied by the flush; the operations of a history (`Op`, `stepOp`,
  `runOps`), their invariant `HInv`, and the flush that re-establishes the cursor.
-/
namespace Tickit
namespace WinFocus
open WinTree WinSpec WinFlush

theorem listRaise_spec : ∀ (cs : List Nat) (w : Nat) (cs' : List Nat), listRaise cs w = .ok cs' →
    cs' = swapPrev cs w ∧ w ∈ cs := by
  intro cs
  induction cs with
  | nil => intro w cs' h; cases h
  | cons x rest ih =>
    intro w cs' h
    cases rest with
    | nil =>
      rw [listRaise] at h
      split at h
      · next hx => cases h; exact ⟨rfl, hx ▸ List.mem_cons_self⟩
      · cases h
    | cons y rest' =>
      rw [listRaise] at h
      rw [swapPrev]
      split at h
      · next hx => cases h; exact ⟨(if_pos hx).symm, hx ▸ List.mem_cons_self⟩
      · next hxw =>
        rw [if_neg hxw]
        split at h
        · next hyw =>
          cases h
          exact ⟨(if_pos hyw).symm, hyw ▸ List.mem_cons_of_mem _ List.mem_cons_self⟩
        · next hyw =>
          rw [if_neg hyw]
          obtain ⟨r, hr, h⟩ := bind_ok_iff.mp h
          cases pure_ok_iff.mp h
          obtain ⟨he, hm⟩ := ih w r hr
          exact ⟨by rw [he], List.mem_cons_of_mem _ hm⟩

theorem listLower_spec : ∀ (cs : List Nat) (w : Nat), listLower cs w = swapNext cs w := by
  intro cs
  induction cs with
  | nil => intro w; simp [listLower, swapNext]
  | cons x rest ih =>
    intro w
    cases rest with
    | nil => simp [listLower, swapNext]
    | cons y rest' =>
      simp only [listLower, swapNext]
      split
      · rfl
      · rw [ih w]

theorem swapNext_notin : ∀ (cs : List Nat) (w : Nat), w ∉ cs → swapNext cs w = cs := by
  intro cs
  induction cs with
  | nil => intro w _; simp [swapNext]
  | cons x rest ih =>
    intro w hw
    cases rest with
    | nil => simp [swapNext]
    | cons y rest' =>
      have hx : x ≠ w := fun h => hw (by simp [h])
      simp only [swapNext, hx, if_false]
      rw [ih w (fun h => hw (List.mem_cons_of_mem _ h))]

theorem stackSpec_in {ch : Change} {cs : List Nat} {w : Nat} (hw : w ∈ cs) :
    stackSpec ch cs w = match ch with
      | .raise => swapPrev cs w
      | .raiseFront => w :: cs.erase w
      | .lower => swapNext cs w
      | .lowerBack => cs.erase w ++ [w]
      | _ => cs := by
  unfold stackSpec
  have : cs.contains w = true := by simpa using hw
  simp only [this, Bool.not_true, Bool.false_eq_true, if_false]
  cases ch <;> rfl

theorem stackSpec_notin {ch : Change} {cs : List Nat} {w : Nat} (hw : w ∉ cs) : stackSpec ch cs w = cs := by
  unfold stackSpec
  have : cs.contains w = false := by simpa using hw
  simp only [this, Bool.not_false, if_true]

theorem relist_stackSpec {ch : Change} (hk : ch.isRestack = true) {cs cs' : List Nat} {w : Nat}
    (h : relist ch cs w = .ok cs') : cs' = stackSpec ch cs w := by
  cases ch with
  | insertFirst => cases hk
  | insertLast => cases hk
  | remove => cases hk
  | raise =>
    obtain ⟨a, b⟩ := listRaise_spec _ _ _ h
    exact a.trans (stackSpec_in (ch := .raise) b).symm
  | raiseFront =>
    obtain ⟨cs1, h1, h2⟩ := bind_ok_iff.1 h
    obtain ⟨hm, rfl⟩ := listRemove_ok_iff.1 h1
    cases h2
    exact (stackSpec_in (ch := .raiseFront) hm).symm
  | lower =>
    cases h
    rw [listLower_spec]
    by_cases hin : w ∈ cs
    · exact (stackSpec_in (ch := .lower) hin).symm
    · rw [stackSpec_notin hin, swapNext_notin _ _ hin]
  | lowerBack =>
    obtain ⟨cs1, h1, h2⟩ := bind_ok_iff.1 h
    obtain ⟨hm, rfl⟩ := listRemove_ok_iff.1 h1
    cases h2
    exact (stackSpec_in (ch := .lowerBack) hm).symm

theorem restack_pieces {t t' : Tree} {F p c : Nat} {ch : Change} (hch : ch.isRestack = true)
    (hd : doHierarchyChange t F ch p c = .ok t') :
    ∃ pw cw, Live t p pw ∧ Live t c cw ∧
      exposeIf cw.isVisible (WinTree.set t p { pw with children := stackSpec ch pw.children c }) F p cw.rect = .ok t' := by
  obtain ⟨pw, cw, cs, hp, hc, hcs, h⟩ := doHierarchyChange_restack_ok hch hd
  cases relist_stackSpec hch hcs
  exact ⟨pw, cw, hp, hc, h⟩

/-- `Good15` without the clause about `needs_later_processing`, which the flush clears before it works off the queue. -/
structure GoodF (t : Tree) : Prop where
  wf : wfB t = true
  wfp : WFp t
  rootWin : RootWin t
  onlyRoot : OnlyRoot t
  nodup : ChildrenNodup t
  noSelf : NoSelfParent t
  pos : RootsPositive t
  nonempty : ∀ x ∈ t.root.damage, x.Nonempty
  flagged : t.root.damage ≠ [] → t.root.needsExpose = true

theorem goodF_of_good {t : Tree} (hg : Good15 t) : GoodF t :=
  ⟨hg.wf, hg.wfp, hg.rootWin, hg.onlyRoot, hg.nodup, hg.noSelf, hg.pos, hg.nonempty, hg.flagged⟩

theorem GoodF.struct {t : Tree} (hg : GoodF t) : Struct t :=
  ⟨⟨hg.wfp, hg.nodup, hg.noSelf, hg.onlyRoot, hg.rootWin⟩, hg.pos⟩

theorem goodF_mk {t : Tree} (hs : Struct t) (hwf : wfB t = true) (hne : ∀ x ∈ t.root.damage, x.Nonempty)
    (hfl : t.root.damage ≠ [] → t.root.needsExpose = true) : GoodF t :=
  ⟨hwf, hs.wf, hs.rootWin, hs.onlyRoot, hs.nodup, hs.noSelf, hs.pos, hne, hfl⟩

theorem goodF_wins {t t' : Tree} (hg : GoodF t) (hw : t'.wins = t.wins) (hne : ∀ x ∈ t'.root.damage, x.Nonempty)
    (hfl : t'.root.damage ≠ [] → t'.root.needsExpose = true) : GoodF t' :=
  goodF_mk (struct_congr (fun x => by rw [hw]) hg.struct) (by rw [wfB_wins hw]; exact hg.wf) hne hfl

/-- What the queued restacking requests do when the flush applies them (it has cleared `needs_later_processing` before,
    hence `GoodF`). -/
structure Restacked (t t' : Tree) : Prop where
  good : GoodF t'
  keeps : RootKeeps t.root t'.root
  rect : rootRect t' = rootRect t
  spec : t'.root.needsExpose = true ∨ cursorSpec t' = cursorSpec t

theorem Restacked.trans {a b c : Tree} (h1 : Restacked a b) (h2 : Restacked b c) : Restacked a c :=
  ⟨h2.good, rootKeeps_trans h1.keeps h2.keeps, h2.rect.trans h1.rect,
    h1.spec.elim (fun h => .inl (h2.keeps.expose h)) fun h => h2.spec.imp id (·.trans h)⟩

/-- A step of the window engine that keeps the store invariant and the focus chain, after the flush has cleared
    `needs_later_processing` (`FocusStep.of_step` for `GoodF`). -/
theorem Restacked.of_step {t t' : Tree} (hg : GoodF t) (hs : WinFlush.Step t t') (hwf' : wfB t' = true)
    (hcs : ChainSame t t') (hrect : rootRect t' = rootRect t) : Restacked t t' :=
  have hfl := hs.root.flagged
  ⟨goodF_mk ⟨hs.ok, hs.pos⟩ hwf' (hs.recorded.nonempty hg.nonempty) (hs.root.pending hg.flagged),
    rootKeeps_of_move hs.root hs.recorded.restore,
    hrect, spec_of_cover hg.wf hg.flagged hwf' hs.recorded.cov hfl hcs⟩

/-- A queued restacking request applied by the flush is a step of the window engine (`WinFlush.restack_step`); it rewrites
    the parent's child list only. -/
theorem restack_apply {t t' : Tree} {ch : Change} {p c : Nat} (hg : GoodF t) (hch : ch.isRestack = true)
    (hd : doHierarchyChange t (treeFuel t) ch p c = .ok t') : Restacked t t' := by
  obtain ⟨hs, _⟩ := WinFlush.restack_step (by cases ch <;> first | rfl | cases hch) hg.struct.toTreeOk hg.pos hg.nonempty hd
  obtain ⟨pw, cw, hpw, _, htail⟩ := restack_pieces hch hd
  have hw := exposeIf_wins htail
  exact .of_step hg hs (doHierarchyChange_restack_wf hg.wf hch hd)
    (chainSame_trans (chainSame_set (w' := { pw with children := stackSpec ch pw.children c }) hpw hpw.2 (.inr ⟨rfl, rfl, rfl⟩))
      (chainSame_wins hw))
    ((rootRect_wins hw).trans (rootRect_set hpw.1 rfl))

theorem applyChanges_good (reqs : List Req) (t t' : Tree) (hg : GoodF t) (hq : ∀ r ∈ reqs, r.change.isRestack = true)
    (h : applyChanges t reqs = .ok t') : Restacked t t' :=
  applyChanges_keeps (P := Restacked t) reqs t t' (fun r hr a b ha hd => ha.trans (restack_apply ha.good (hq r hr) hd))
    ⟨hg, rootKeeps_refl _, rfl, .inr rfl⟩ h

/-- The operations the property quantifies over.  A geometry change comes with the exposes of the old and the new area
    in the parent (C01's proviso, adopted by the property's design). -/
inductive Op where
  | newWin (parent : Nat) (rect : Rect) (rootParent hidden lowest steal : Bool)
  | focus (win : Nat)
  | curpos (win : Nat) (line col : Int)
  | curvis (win : Nat) (v : Int)
  | curshape (win : Nat) (v : Int)
  | curblink (win : Nat) (v : Int)
  | notify (win : Nat) (v : Int)
  | showW (win : Nat)
  | hideW (win : Nat)
  | closeW (win : Nat)
  | restack (ch : Change) (win : Nat)
  | move (win : Nat) (rect : Rect)
  | exposeW (win : Nat) (rect : Option Rect)
  | flush
  /-- the terminal's resize event (`tickit_term_set_size` with a new size): `on_term_resize` -/
  | termResize (lines cols : Int)

structure HSt where
  tree : Tree
  term : TermCursor := {}

def stepOp (fx : Fixes) (s : HSt) : Op → Res HSt
  | .newWin p r a b c d => do
    -- fuel: enough for the store with the new window in it
    let x ← newWindow s.tree (treeFuel s.tree + 1) p r a b c d
    pure { s with tree := x.1 }
  | .focus w => do let x ← takeFocus fx s.tree w; pure { s with tree := x.1 }
  | .curpos w l c => do let t ← setCursorPosition s.tree w l c; pure { s with tree := t }
  | .curvis w v => do let t ← setCursorVisible s.tree w v; pure { s with tree := t }
  | .curshape w v => do let t ← setCursorShape s.tree w v; pure { s with tree := t }
  | .curblink w v => do let t ← setCursorBlink s.tree w v; pure { s with tree := t }
  | .notify w v => do let t ← setFocusChildNotify s.tree w v; pure { s with tree := t }
  | .showW w => do let t ← showWin fx s.tree w; pure { s with tree := t }
  | .hideW w => do let t ← hideWin fx s.tree w; pure { s with tree := t }
  | .closeW w => do let t ← closeWin fx s.tree w; pure { s with tree := t }
  | .restack ch w => do let t ← requestHierarchyChange s.tree (treeFuel s.tree) ch w; pure { s with tree := t }
  | .move w r => do
    let t ← setGeometryExposed s.tree (treeFuel s.tree) w r
    pure { s with tree := t }
  | .exposeW w r => do let t ← expose s.tree (treeFuel s.tree) w r; pure { s with tree := t }
  | .flush => do
    let o ← WinFocus.flush fx s.tree
    pure { tree := o.tree, term := s.term.applyAll o.calls }
  | .termResize l c => do let t ← termResize fx s.tree l c; pure { s with tree := t }

def runOps (fx : Fixes) (s : HSt) : List Op → Res HSt
  | [] => pure s
  | op :: rest => do
    let s' ← stepOp fx s op
    runOps fx s' rest

/-- Histories the composition theorem covers: a restacking operation is one of the four the library offers (raise, raise
    to front, lower, lower to back), and the root window is not moved (its geometry follows the terminal). -/
def Op.plain : Op → Prop
  | .restack ch _ => ch.isRestack = true
  | .move w _ => w ≠ 0
  | .termResize _ _ => False
  | _ => True

/-- `Op.plain`, or a resize of the terminal to at least one cell. -/
def Op.plainR : Op → Prop
  | .termResize l c => 0 < l ∧ 0 < c
  | op => op.plain

/-- The invariant of a history: the store and the flags are in order, the queue holds restacking requests only, and the
    terminal cursor is what the property says — or something is pending that will make the next flush re-establish it. -/
structure HInv (s : HSt) : Prop where
  good : Good15 s.tree
  queue : ∀ q ∈ s.tree.root.changes, q.change.isRestack = true
  /-- a queued request keeps the flush from being skipped (`_request_hierarchy_change` asks for later processing when it
      queues the first request; only the flush clears the flag, and it empties the queue) -/
  qlater : s.tree.root.changes ≠ [] → s.tree.root.needsLater = true
  sync : Pending s.tree ∨ s.term.matches (cursorSpec s.tree) = true

theorem hinv_mk {s : HSt} {t' : Tree} (hi : HInv s) (hg' : Good15 t')
    (hq' : ∀ q ∈ t'.root.changes, q.change.isRestack = true)
    (hql : t'.root.changes ≠ [] → t'.root.needsLater = true) (hpk : Pending s.tree → Pending t')
    (hr : Requests s.tree t') : HInv { s with tree := t' } := by
  refine ⟨hg', hq', hql, ?_⟩
  rcases hi.sync with hp | hm
  · exact .inl (hpk hp)
  · rcases hr with hp | he
    · exact .inl hp
    · exact .inr (by show s.term.matches (cursorSpec t') = true; rw [he]; exact hm)

theorem qlater_keeps {s : HSt} {t' : Tree} (hi : HInv s) (hk : RootKeeps s.tree.root t'.root) :
    t'.root.changes ≠ [] → t'.root.needsLater = true := by
  intro hne
  cases hc : t'.root.changes with
  | nil => exact absurd hc hne
  | cons q qs =>
    have hq : q ∈ s.tree.root.changes := hk.queue q (by rw [hc]; simp)
    exact hk.later (hi.qlater (fun h0 => by rw [h0] at hq; cases hq))

theorem hinv_of_step {s s' : HSt} (hi : HInv s) (ht : s'.term = s.term) (hg' : Good15 s'.tree)
    (hk : RootKeeps s.tree.root s'.tree.root) (hr : Requests s.tree s'.tree) : HInv s' := by
  have h := hinv_mk hi hg' (fun q hq => hi.queue q (hk.queue q hq)) (qlater_keeps hi hk) (pending_keeps hk) hr
  rw [← ht] at h; exact h

/-- The hypothesis on the queue (restacking requests only) is all the public API can put there. -/
theorem flush_good {fx : Fixes} {t : Tree} {out : FlushOut} (hg : Good15 t)
    (hq : ∀ q ∈ t.root.changes, q.change.isRestack = true) (hf : flush fx t = .ok out) :
    Good15 out.tree ∧ rootRect out.tree = rootRect t := by
  cases hl : t.root.needsLater with
  | false => cases (flush_skipped hl).symm.trans hf; exact ⟨hg, rfl⟩
  | true =>
    obtain ⟨t1, F⟩ := flush_pieces hf hl
    have hwins := F.wins
    have hg0 : GoodF { t with root := { t.root with needsLater := false } } :=
      goodF_wins (goodF_of_good hg) rfl hg.nonempty hg.flagged
    have R := applyChanges_good _ _ _ hg0 hq F.applied
    have g1 := R.good
    have hdmg : out.tree.root.damage = [] := by
      rcases F.damage with hd | ⟨he, hd⟩
      · exact hd
      · rw [hd]
        cases hdd : t1.root.damage with
        | nil => rfl
        | cons x xs =>
          have := g1.flagged (by rw [hdd]; simp)
          rw [he] at this; cases this
    exact ⟨good15_mk (struct_congr (fun x => by rw [hwins]) g1.struct) (by rw [wfB_wins hwins]; exact g1.wf)
      (by rw [hdmg]; intro x hx; cases hx) (fun hne => absurd hdmg hne)
      (by rw [F.expose, F.restore]; intro h; rcases h with h | h <;> cases h), (rootRect_wins hwins).trans R.rect⟩

theorem flush_step {fx : Fixes} (hfx : fx.hiddenRoot = true) {s s' : HSt} (hi : HInv s)
    (hs : stepOp fx s .flush = .ok s') : HInv s' ∧ s'.term.matches (cursorSpec s'.tree) = true := by
  simp only [stepOp, bind_ok_iff, pure_ok_iff] at hs
  obtain ⟨o, hf, hs⟩ := hs
  subst hs
  cases hl : s.tree.root.needsLater with
  | false =>
    cases (flush_skipped hl).symm.trans hf
    have hm : s.term.matches (cursorSpec s.tree) = true := by
      rcases hi.sync with ⟨_, h2⟩ | hm
      · rw [hl] at h2; cases h2
      · exact hm
    exact ⟨⟨hi.good, hi.queue, hi.qlater, .inr hm⟩, hm⟩
  | true =>
    obtain ⟨t1, F⟩ := flush_pieces hf hl
    have hg0 : GoodF { s.tree with root := { s.tree.root with needsLater := false } } :=
      goodF_wins (goodF_of_good hi.good) rfl hi.good.nonempty hi.good.flagged
    have R := applyChanges_good _ _ _ hg0 hi.queue F.applied
    have hg' : Good15 o.tree := (flush_good hi.good hi.queue hf).1
    have hm' : (s.term.applyAll o.calls).matches (cursorSpec o.tree) = true := by
      rcases F.calls with ⟨e1, e2, hc⟩ | ⟨c1, c2, hc, hd⟩
      · -- nothing was pending: no call is made, and the cursor was in order already
        have hsame : cursorSpec t1 = cursorSpec s.tree := by
          rcases R.spec with r1 | r1
          · rw [e2] at r1; cases r1
          · exact r1.trans (cursorSpec_wins rfl)
        rw [hc, cursorSpec_wins F.wins, hsame]
        rcases hi.sync with ⟨h3, _⟩ | hm
        · exfalso
          rcases h3 with h3 | h3
          · have := R.keeps.restore h3; rw [e1] at this; cases this
          · have := R.keeps.expose h3; rw [e2] at this; cases this
        · exact hm
      · rw [hc, applyAll_append]; exact doRestore_spec hg'.wf fx (.inl hfx) hd _
    exact ⟨⟨hg', (by rw [F.queue]; intro q hq; cases hq), (by rw [F.queue]; intro h; exact absurd rfl h), .inr hm'⟩, hm'⟩

/-- The shape every branch of `stepOp` but the flush has: run something on the tree, put the new tree into the state. -/
theorem step_inv {α : Type} {x : Res α} {f : α → Tree} {s s' : HSt}
    (h : (x >>= fun a => pure { s with tree := f a }) = .ok s') : ∃ a, x = .ok a ∧ s' = { s with tree := f a } := by
  obtain ⟨a, ha, h⟩ := bind_ok_iff.mp h
  exact ⟨a, ha, (pure_ok_iff.mp h).symm⟩

theorem stepOp_term {fx : Fixes} {s s' : HSt} {op : Op} (hop : op ≠ .flush) (hs : stepOp fx s op = .ok s') :
    s'.term = s.term := by
  cases op with
  | flush => exact absurd rfl hop
  | _ => obtain ⟨_, _, rfl⟩ := step_inv hs; rfl

theorem op_step {fx : Fixes} {s s' : HSt} {op : Op} (hop : op.plain) (hnr : ∀ ch w, op ≠ .restack ch w)
    (hnf : op ≠ .flush) (hg : Good15 s.tree) (hs : stepOp fx s op = .ok s') : FocusStep fx s.tree s'.tree := by
  cases op with
  | restack ch w => exact absurd rfl (hnr ch w)
  | flush => exact absurd rfl hnf
  | termResize l c => exact absurd hop id
  | newWin p r a b c d => obtain ⟨⟨t', id⟩, hx, rfl⟩ := step_inv hs; exact newWindow_step hg hx
  | focus w => obtain ⟨x, hx, rfl⟩ := step_inv hs; exact takeFocus_step hg hx
  | curpos w l c =>
    obtain ⟨x, hx, rfl⟩ := step_inv hs
    exact cursor_setter_step (fun cu => { cu with line := l, col := c }) hg hx
  | curvis w v =>
    obtain ⟨x, hx, rfl⟩ := step_inv hs
    exact cursor_setter_step (fun cu => { cu with visible := bit1 v }) hg hx
  | curshape w v =>
    obtain ⟨x, hx, rfl⟩ := step_inv hs
    exact cursor_setter_step (fun cu => { cu with shape := v }) hg hx
  | curblink w v =>
    obtain ⟨x, hx, rfl⟩ := step_inv hs
    exact cursor_setter_step (fun cu => { cu with blink := if v ≠ 0 then 1 else 0 }) hg hx
  | notify w v => obtain ⟨x, hx, rfl⟩ := step_inv hs; exact notify_step hg hx
  | showW w => obtain ⟨x, hx, rfl⟩ := step_inv hs; exact showWin_step hg hx
  | hideW w => obtain ⟨x, hx, rfl⟩ := step_inv hs; exact hideWin_step hg hx
  | closeW w => obtain ⟨x, hx, rfl⟩ := step_inv hs; exact closeWin_step hg hx
  | move w r => obtain ⟨x, hx, rfl⟩ := step_inv hs; exact move_step hg hop hx
  | exposeW w r => obtain ⟨x, hx, rfl⟩ := step_inv hs; exact expose_step hg hx

theorem plain_step {fx : Fixes} (hfx1 : fx.hiddenRoot = true) (hfx2 : fx.chainRestore = true) {s s' : HSt} {op : Op}
    (hop : op.plain) (hi : HInv s) (hs : stepOp fx s op = .ok s') :
    HInv s' ∧ rootRect s'.tree = rootRect s.tree := by
  by_cases hf : op = .flush
  · subst hf
    refine ⟨(flush_step hfx1 hi hs).1, ?_⟩
    simp only [stepOp, bind_ok_iff, pure_ok_iff] at hs
    obtain ⟨o, ho, rfl⟩ := hs
    exact (flush_good hi.good hi.queue ho).2
  by_cases hr : ∃ ch w, op = .restack ch w
  · -- a restacking request only queues, with the later-flag when it is the first
    obtain ⟨ch, w, rfl⟩ := hr
    obtain ⟨x, hx, rfl⟩ := step_inv hs
    have hg' := restack_request_good hi.good hx
    have hch : ch.isRestack = true := hop
    obtain ⟨_, _, ⟨_, rfl⟩ | ⟨p, _, rfl⟩⟩ := request_cases hx
    · exact ⟨hinv_mk hi hi.good hi.queue hi.qlater id (.inr rfl), rfl⟩
    · refine ⟨hinv_mk hi hg' ?_ ?_ ?_ (.inr (cursorSpec_wins rfl)), rfl⟩
      · intro q hq
        simp only [List.mem_append, List.mem_singleton] at hq
        rcases hq with hq | hq
        · exact hi.queue q hq
        · subst hq; exact hch
      · intro _
        show (s.tree.root.needsLater || s.tree.root.changes.isEmpty) = true
        cases hc : s.tree.root.changes with
        | nil => simp
        | cons q qs => rw [hi.qlater (by rw [hc]; simp)]; rfl
      · rintro ⟨h1, h2⟩
        exact ⟨h1, by show (s.tree.root.needsLater || _) = true; rw [h2]; rfl⟩
  · have st := op_step hop (fun ch w h => hr ⟨ch, w, h⟩) hf hi.good hs
    exact ⟨hinv_of_step hi (stepOp_term hf hs) st.good st.keeps (st.requests hfx1 hfx2), st.rect⟩

theorem runOps_preserves {fx : Fixes} {I : HSt → Prop} {P : Op → Prop}
    (hstep : ∀ {s s' : HSt} {op : Op}, P op → I s → stepOp fx s op = .ok s' → I s') :
    ∀ (ops : List Op) (s s' : HSt), (∀ op ∈ ops, P op) → I s → runOps fx s ops = .ok s' → I s' := by
  intro ops
  induction ops with
  | nil => intro s s' _ hi h; simp only [runOps, pure_ok_iff] at h; subst h; exact hi
  | cons op rest ih =>
    intro s s' hp hi h
    simp only [runOps, bind_ok_iff] at h
    obtain ⟨s1, h1, h2⟩ := h
    exact ih s1 s' (fun o ho => hp o (by simp [ho])) (hstep (hp op (by simp)) hi h1) h2

theorem runOps_inv {fx : Fixes} (hfx1 : fx.hiddenRoot = true) (hfx2 : fx.chainRestore = true) :
    ∀ (ops : List Op) (s s' : HSt), (∀ op ∈ ops, op.plain) → HInv s → runOps fx s ops = .ok s' → HInv s' :=
  runOps_preserves fun hp hi hs => (plain_step hfx1 hfx2 hp hi hs).1

theorem plainR_cases {op : Op} (h : op.plainR) : op.plain ∨ ∃ l c, op = .termResize l c ∧ 0 < l ∧ 0 < c := by
  cases op with
  | termResize l c => exact .inr ⟨l, c, rfl, h⟩
  | _ => exact .inl h

theorem plainR_step {fx : Fixes} (hfx1 : fx.hiddenRoot = true) (hfx2 : fx.chainRestore = true)
    (hfx3 : fx.resizeRestore = true) {s s' : HSt} {op : Op}
    (hop : op.plainR) (hi : HInv s) (hs : stepOp fx s op = .ok s') : HInv s' := by
  rcases plainR_cases hop with hp | ⟨l, c, rfl, hl, hc⟩
  · exact (plain_step hfx1 hfx2 hp hi hs).1
  · obtain ⟨x, hx, rfl⟩ := step_inv hs
    have R := termResize_step hi.good hl hc hx
    exact hinv_of_step hi rfl R.good R.keeps (.inl (R.pending hfx3))

theorem runOps_invR {fx : Fixes} (hfx1 : fx.hiddenRoot = true) (hfx2 : fx.chainRestore = true)
    (hfx3 : fx.resizeRestore = true) :
    ∀ (ops : List Op) (s s' : HSt), (∀ op ∈ ops, op.plainR) → HInv s → runOps fx s ops = .ok s' → HInv s' :=
  runOps_preserves (plainR_step hfx1 hfx2 hfx3)

theorem runOps_append (fx : Fixes) : ∀ (a b : List Op) (s s' : HSt), runOps fx s (a ++ b) = .ok s' →
    ∃ s1, runOps fx s a = .ok s1 ∧ runOps fx s1 b = .ok s' := by
  intro a
  induction a with
  | nil => intro b s s' h; exact ⟨s, rfl, h⟩
  | cons op rest ih =>
    intro b s s' h
    simp only [List.cons_append, runOps, bind_ok_iff] at h ⊢
    obtain ⟨s0, h0, h⟩ := h
    obtain ⟨s1, h1, h2⟩ := ih b s0 s' h
    exact ⟨s1, ⟨s0, h0, h1⟩, h2⟩

/-- A fresh root window on an `l × c` terminal is in order, with the first flush pending whatever the terminal shows. -/
theorem hinv_newRoot (l c : Int) (hl : 0 < l) (hc : 0 < c) (tc : TermCursor := {}) :
    HInv { tree := newRoot l c, term := tc } := by
  have hroot := WinFlush.newRoot_root hl hc
  have hok := WinFlush.treeOk_newRoot l c
  have hwf : wfB (newRoot l c) = true := by
    apply wfB_of
    · exact ⟨{ rect := ⟨0, 0, l, c⟩, isRoot := true }, ⟨rfl, rfl⟩, rfl, rfl⟩
    · intro j x hx _
      obtain ⟨_, rfl⟩ := WinFlush.newRoot_win_some hx
      exact winOk_iff.mpr ⟨fun p hp => (by cases hp), fun ch hch => (by cases hch), fun ch hch => (by cases hch)⟩
  refine ⟨?_, (by rw [hroot]; intro q hq; cases hq), (by rw [hroot]; intro _; rfl), .inl ⟨.inr (by rw [hroot]), by rw [hroot]⟩⟩
  exact { wf := hwf, wfp := hok.wf, rootWin := hok.rootWin, onlyRoot := hok.onlyRoot, nodup := hok.nodup, noSelf := hok.noSelf
          pos := WinFlush.rootsPositive_newRoot hl hc
          nonempty := by rw [hroot]; intro x hx; cases List.mem_singleton.1 hx; exact ⟨hl, hc⟩
          flagged := by rw [hroot]; intro _; rfl
          later := by rw [hroot]; intro _; rfl }

theorem queue_nil_of_no_later {t : Tree} (hl : t.root.changes ≠ [] → t.root.needsLater = true)
    (hn : t.root.needsLater = false) : t.root.changes = [] :=
  Decidable.by_contra fun hc => by rw [hl hc] at hn; cases hn

theorem flush_empties_queue {fx : Fixes} {t : Tree} {out : FlushOut}
    (hl : t.root.changes ≠ [] → t.root.needsLater = true) (hf : flush fx t = .ok out) : out.tree.root.changes = [] := by
  cases hn : t.root.needsLater with
  | false => cases (flush_skipped hn).symm.trans hf; exact queue_nil_of_no_later hl hn
  | true => obtain ⟨t1, F⟩ := flush_pieces hf hn; exact F.queue

theorem flush_last {fx : Fixes} (hfx1 : fx.hiddenRoot = true) {s0 s : HSt} {ops : List Op}
    (hinv : ∀ s1, runOps fx s0 ops = .ok s1 → HInv s1) (h : runOps fx s0 (ops ++ [.flush]) = .ok s) :
    HInv s ∧ s.tree.root.changes = [] ∧ s.term.matches (cursorSpec s.tree) = true := by
  obtain ⟨s1, h1, h2⟩ := runOps_append fx ops [.flush] _ s h
  simp only [runOps, bind_ok_iff, pure_ok_iff] at h2
  obtain ⟨s2, h2, rfl⟩ := h2
  obtain ⟨hi, hm⟩ := flush_step hfx1 (hinv s1 h1) h2
  refine ⟨hi, ?_, hm⟩
  simp only [stepOp, bind_ok_iff, pure_ok_iff] at h2
  obtain ⟨o, hf, rfl⟩ := h2
  exact flush_empties_queue (hinv s1 h1).qlater hf

end WinFocus
end Tickit
