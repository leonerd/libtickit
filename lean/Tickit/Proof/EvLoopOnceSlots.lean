import Tickit.Proof.EvLoopOnceStep
/-
  What a step does to the harness's table of slots and to the pointers the loop keeps to watches (`K`, `Once` of
  Proof/EvLoopOnce.lean are carried along these).  `Q0`: a step that neither counts an invocation nor registers a slot;
  `Reg st st' k`: a constructor handed slot number `k`, before its record exists; `Q`: everything a callback can do.  The
  count itself is `bump` (Proof/EvLoopOnce.lean: `K.bump`, `Once.bump`, `Gone.bump`); a `Q` step keeps every record.
-/
namespace Tickit.EvLoop

/-- Besides `MH`: a watch a poll slot points at, and the process watch an internal deferred callback (slot -4,
    `process_notify`) carries, are old ones or new ones that are not timers / deferred callbacks; a `notify` pointer is an
    old one or points at an internal watch (`pno`). -/
structure QB (st st' : St) : Prop where
  h : MH st st'
  pfd : ∀ s ∈ st'.pfd, ∀ a, s.watch = some a →
    (∃ s0 ∈ st.pfd, s0.watch = some a) ∨ (a < st'.heap.length ∧ isOneShot (st'.getW a).type = false)
  pus : ∀ l, st.heap.length ≤ l → l < st'.heap.length → (st'.getW l).slot = -4 →
    (st'.getW l).puser < st'.heap.length ∧ isOneShot (st'.getW (st'.getW l).puser).type = false
  pno : ∀ x, x < st'.heap.length → ∀ l, (st'.getW x).notify = some l →
    (x < st.heap.length ∧ (st.getW x).notify = some l) ∨ (l < st'.heap.length ∧ (st'.getW l).slot < 0)

theorem QB.refl (st : St) : QB st st :=
  ⟨MH.refl st, fun s hs a ha => Or.inl ⟨s, hs, ha⟩, fun l h1 h2 => by omega, fun x hx l hl => Or.inl ⟨hx, hl⟩⟩

theorem QB.trans {a b c : St} (h1 : QB a b) (h2 : QB b c) : QB a c := by
  refine ⟨h1.h.trans h2.h, ?_, ?_, ?_⟩
  rotate_right
  · intro x hx l hl
    rcases h2.pno x hx l hl with e | e
    · rcases h1.pno x e.1 l e.2 with e1 | e1
      · exact Or.inl e1
      · exact Or.inr ⟨Nat.lt_of_lt_of_le e1.1 h2.h.len, by rw [h2.h.slot l e1.1]; exact e1.2⟩
    · exact Or.inr e
  · intro s hs x hx
    cases h2.pfd s hs x hx with
    | inl e =>
      obtain ⟨s0, hs0, hx0⟩ := e
      cases h1.pfd s0 hs0 x hx0 with
      | inl e1 => exact Or.inl e1
      | inr e1 => exact Or.inr ⟨Nat.lt_of_lt_of_le e1.1 h2.h.len, h2.h.notOneShot e1.1 e1.2⟩
    | inr e => exact Or.inr e
  · intro l hl1 hl2 hs
    by_cases hb : l < b.heap.length
    · have hsb : (b.getW l).slot = -4 := by rw [← h2.h.slot l hb]; exact hs
      obtain ⟨p1, p2⟩ := h1.pus l hl1 hb hsb
      rw [h2.h.puser l hb]
      exact ⟨Nat.lt_of_lt_of_le p1 h2.h.len, h2.h.notOneShot p1 p2⟩
    · exact h2.pus l (by omega) hl2 hs

theorem QB.of_heap {st st' : St} (hh : st'.heap = st.heap) (hok : st'.isOk = true → st.isOk = true)
    (hp : ∀ s ∈ st'.pfd, ∀ a, s.watch = some a → ∃ s0 ∈ st.pfd, s0.watch = some a) : QB st st' :=
  ⟨MH.of_heap hh hok, fun s hs a ha => Or.inl (hp s hs a ha), fun l h1 h2 => by rw [hh] at h2; omega,
   fun x hx l hl => Or.inl ⟨by rw [hh] at hx; exact hx, by rw [getW_of_heap_eq hh] at hl; exact hl⟩⟩

/-- No record is added and none is needed: the new watches are internal. -/
structure Q0 (st st' : St) : Prop where
  b : QB st st'
  slots : st'.slots = st.slots
  neg : ∀ x, st.heap.length ≤ x → x < st'.heap.length → (st'.getW x).slot < 0

theorem Q0.refl (st : St) : Q0 st st := ⟨QB.refl st, rfl, fun x h1 h2 => by omega⟩

theorem Q0.trans {a b c : St} (h1 : Q0 a b) (h2 : Q0 b c) : Q0 a c := by
  refine ⟨h1.b.trans h2.b, by rw [h2.slots, h1.slots], ?_⟩
  intro x hx1 hx2
  by_cases hb : x < b.heap.length
  · rw [h2.b.h.slot x hb]; exact h1.neg x hx1 hb
  · exact h2.neg x (by omega) hx2

theorem Inert.q0 {st st' : St} (i : Inert st st') : Q0 st st' :=
  ⟨QB.of_heap i.heap i.ok i.pfd, i.slots, fun x h1 h2 => by rw [i.heap] at h2; omega⟩

theorem Q0.of_eq {st st' : St} (hh : st'.heap = st.heap) (hst : st'.status = st.status) (hs : st'.slots = st.slots)
    (hp : st'.pfd = st.pfd) : Q0 st st' :=
  ⟨QB.of_heap hh (fun h => by unfold St.isOk at *; rw [← hst]; exact h) (fun s h _ ha => ⟨s, by rw [← hp]; exact h, ha⟩), hs,
   fun x h1 h2 => by rw [hh] at h2; omega⟩

theorem q0_setListOf (st : St) (t : WType) (l : List Nat) : Q0 st (setListOf st t l) := by
  cases t <;> exact Q0.of_eq rfl rfl rfl rfl
theorem q0_with_timers (st : St) (l : List Nat) : Q0 st { st with timers := l } := Q0.of_eq rfl rfl rfl rfl
theorem q0_with_laters (st : St) (l : List Nat) : Q0 st { st with laters := l } := Q0.of_eq rfl rfl rfl rfl
theorem q0_with_cancelReq (st : St) (l : List Int) : Q0 st { st with cancelReq := l } := Q0.of_eq rfl rfl rfl rfl

theorem q0_setW (st : St) (a : Nat) (w : Watch) (h : okMH (st.getW a) w)
    (h5 : ∀ l, w.notify = some l → (st.getW a).notify = some l ∨ (l < st.heap.length ∧ (st.getW l).slot < 0)) : Q0 st (st.setW a w) := by
  have hm := mh_setW st a w h
  have hlen := St.length_setW st a w
  refine ⟨⟨hm, fun s hs' x hx => Or.inl ⟨s, hs', hx⟩, fun l h1 h2 => by omega, ?_⟩, rfl, fun x h1 h2 => by omega⟩
  intro x hx l hl
  rw [hlen] at hx
  by_cases hax : a = x
  · subst hax
    rw [St.getW_setW_self st a w hx] at hl
    rcases h5 l hl with e | e
    · exact Or.inl ⟨hx, e⟩
    · exact Or.inr ⟨by rw [hlen]; exact e.1, by rw [hm.slot l e.1]; exact e.2⟩
  · rw [St.getW_setW_ne st a x w hax] at hl
    exact Or.inl ⟨hx, hl⟩

theorem q0_setEvi (st : St) (a idx : Nat) : Q0 st (st.setW a { st.getW a with evi := idx }) :=
  q0_setW st a _ (mh_admits.evi _ _) (fun _ h => Or.inl h)
theorem q0_setWstatus (st : St) (a : Nat) (ws : Int) : Q0 st (st.setW a { st.getW a with wstatus := ws }) :=
  q0_setW st a _ (mh_admits.wstatus _ _) (fun _ h => Or.inl h)
theorem q0_setNone (st : St) (a : Nat) : Q0 st (st.setW a { st.getW a with type := .none }) :=
  q0_setW st a _ (mh_admits.typeNone _) (fun _ h => Or.inl h)
theorem q0_free (st : St) (a : Nat) : Q0 st (st.free a) :=
  of_ite (q0_setW st a _ (mh_admits.freed _) (fun _ h => Or.inl h)) (inert_fail st _).q0

theorem q0_evloopIo (st : St) (fd : Int) (cond : Nat) (w : Nat) (hw : w < st.heap.length)
    (ht : isOneShot (st.getW w).type = false) : Q0 st (evloopIo st fd cond w).1 := by
  obtain ⟨p, e, hp⟩ := evloopIo_eq st fd cond w
  rw [e]
  refine ⟨⟨MH.of_heap rfl id, fun s hs a ha => ?_, fun l h1 h2 => absurd h2 (Nat.not_lt.mpr h1), fun x hx l hl => Or.inl ⟨hx, hl⟩⟩, rfl,
    fun x h1 h2 => absurd h2 (Nat.not_lt.mpr h1)⟩
  rcases hp s hs with h | h
  · exact Or.inl ⟨s, h, ha⟩
  · rw [h] at ha
    cases ha
    exact Or.inr ⟨hw, ht⟩

theorem q0_cancelFound (st : St) (a : Nat) (w : Watch) (l : List Nat) : Q0 st (cancelFound st a w l) :=
  ((((q0_setListOf st _ _).trans (inert_cancelNotify _ _ _).q0).trans (inert_cancelHook _ _ _).q0).trans (q0_free _ _)).trans
    (inert_cancelRest _ _).q0

theorem q0_cancelDetached (st : St) (a : Nat) : Q0 st (cancelDetached st a) :=
  (inert_cancelNotify st a _).q0.trans (q0_setNone _ a)

theorem q0_laterPre (st : St) (a : Nat) : Q0 st (laterPre st a) :=
  of_ite (q0_setW _ a _ (mh_admits.flags _ _) (fun _ h => Or.inl h)) (.refl _)

theorem q0_watchCancel0 (st : St) (a : Nat) : Q0 st (watchCancel0 st a) :=
  watchCancel0_cases st a (.refl st) (fun _ => (inert_fail st _).q0) (fun _ _ _ => q0_cancelDetached st a)
    (fun _ _ => q0_cancelFound _ _ _ _)

theorem q0_watchCancel (st : St) (a : Nat) : Q0 st (watchCancel st a) :=
  watchCancel_cases st a (q0_watchCancel0 st a) (fun _ _ _ => (q0_watchCancel0 st a).trans (q0_watchCancel0 _ _))

/-- `w`: the watch as its caller has read it (`unlinkFound` reads it before it writes the list). -/
theorem q0_setNoneFree (st : St) (a : Nat) {w : Watch} (hw : st.getW a = w) : Q0 st ((st.setW a { w with type := .none }).free a) :=
  hw ▸ (q0_setNone st a).trans (q0_free _ _)

theorem q0_unlinkOneshotSaved (st : St) (a : Nat) (t : WType) : Q0 st (unlinkOneshotSaved st a t) :=
  unlinkOneshotSaved_cases st a t (.refl st) (fun _ => (inert_fail st _).q0) fun _ _ _ _ =>
    (q0_setListOf st t _).trans (q0_setNoneFree _ a (getW_setListOf ..))

/-- A constructor handed `k`: the first watch it allocates carries `k`, the others are internal; its record is not yet made. -/
structure Reg (st st' : St) (k : Int) : Prop where
  b : QB st st'
  slots : st'.slots = st.slots
  lt : st.heap.length < st'.heap.length
  first : (st'.getW st.heap.length).slot = k
  rest : ∀ x, st.heap.length < x → x < st'.heap.length → (st'.getW x).slot < 0

theorem Reg.andThen {a b c : St} {k : Int} (h1 : Reg a b k) (h2 : Q0 b c) : Reg a c k := by
  refine ⟨h1.b.trans h2.b, by rw [h2.slots, h1.slots], Nat.lt_of_lt_of_le h1.lt h2.b.h.len, ?_, ?_⟩
  · rw [h2.b.h.slot _ h1.lt]; exact h1.first
  · intro x hx1 hx2
    by_cases hb : x < b.heap.length
    · rw [h2.b.h.slot x hb]; exact h1.rest x hx1 hb
    · exact h2.neg x (by omega) hx2

theorem Reg.after {a b c : St} {k : Int} (h1 : Q0 a b) (hl : b.heap.length = a.heap.length) (h2 : Reg b c k) : Reg a c k := by
  refine ⟨h1.b.trans h2.b, by rw [h2.slots, h1.slots], by rw [← hl]; exact h2.lt, by rw [← hl]; exact h2.first, ?_⟩
  intro x hx1 hx2
  exact h2.rest x (by rw [hl]; exact hx1) hx2

theorem Reg.q0 {a b : St} {k : Int} (h : Reg a b k) (hk : k < 0) : Q0 a b := by
  refine ⟨h.b, h.slots, ?_⟩
  intro x hx1 hx2
  by_cases e : x = a.heap.length
  · subst e; rw [h.first]; exact hk
  · exact h.rest x (by omega) hx2

theorem reg_alloc (st : St) (w : Watch)
    (hp : w.slot = -4 → w.puser < st.heap.length ∧ isOneShot (st.getW w.puser).type = false) (hn : w.notify = none := by rfl) :
    Reg st (st.alloc w).1 w.slot := by
  have hlen := alloc_len st w
  have hpno : ∀ x, x < (st.alloc w).1.heap.length → ∀ l, ((st.alloc w).1.getW x).notify = some l →
      (x < st.heap.length ∧ (st.getW x).notify = some l) ∨ (l < (st.alloc w).1.heap.length ∧ ((st.alloc w).1.getW l).slot < 0) := by
    intro x hx l hl
    rw [hlen] at hx
    by_cases e : x < st.heap.length
    · rw [getW_alloc_old st w x e] at hl; exact Or.inl ⟨e, hl⟩
    · have : x = st.heap.length := by omega
      subst this
      rw [getW_alloc_new, hn] at hl; cases hl
  refine ⟨⟨mh_alloc st w, fun s hs a ha => Or.inl ⟨s, hs, ha⟩, ?_, hpno⟩, rfl, by rw [hlen]; omega, by rw [getW_alloc_new], ?_⟩
  · intro l h1 h2 hs
    rw [hlen] at h2
    have : l = st.heap.length := by omega
    subst this
    rw [getW_alloc_new] at hs ⊢
    obtain ⟨p1, p2⟩ := hp hs
    exact ⟨by rw [hlen]; omega, by rw [getW_alloc_old st w _ p1]; exact p2⟩
  · intro x h1 h2; rw [hlen] at h2; omega

theorem reg_watchTimerAt (st : St) (due : TV) (flags : Nat) (slot : Int) (hs : slot ≠ -4) :
    Reg st (watchTimerAt st due flags slot).1 slot := by
  unfold watchTimerAt
  simp only []
  have hA := reg_alloc st { type := .timer, flags := flags &&& (BIND_UNBIND ||| BIND_DESTROY), slot := slot, due := due }
    (fun h => absurd h hs)
  split
  · exact hA.andThen (q0_with_timers _ _)
  · exact hA.andThen (inert_fail _ _).q0

theorem reg_watchTimerAfterMsec (st : St) (msec : Int) (flags : Nat) (slot : Int) (hs : slot ≠ -4) :
    Reg st (watchTimerAfterMsec st msec flags slot).1 slot :=
  Reg.after (inert_emit st _).q0 rfl (reg_watchTimerAt _ _ _ _ hs)

theorem reg_watchLater (st : St) (flags : Nat) (slot : Int) (puser : Nat)
    (hp : slot = -4 → puser < st.heap.length ∧ isOneShot (st.getW puser).type = false) :
    Reg st (watchLater st flags slot puser).1 slot :=
  ((reg_alloc st { type := .later, flags := flags &&& (BIND_UNBIND ||| BIND_DESTROY), slot := slot, puser := puser } hp).andThen
    (inert_insertWatch _ _ _ _).q0).andThen (q0_with_laters _ _)

theorem reg_watchIo (st : St) (fd : Int) (cond flags : Nat) (slot : Int) (hs : slot ≠ -4) :
    Reg st (watchIo st fd cond flags slot).1 slot :=
  ((((reg_alloc st { type := .io, flags := flags &&& st.cfg.ioFlagMask, slot := slot, fd := fd, cond := cond } (fun h => absurd h hs)).andThen
    (q0_evloopIo _ fd cond st.heap.length (by rw [alloc_len]; omega) (by rw [getW_alloc_new]; rfl))).andThen (q0_setEvi _ _ _)).andThen
    (inert_insertWatch _ _ _ _).q0).andThen (inert_with_iow _ _).q0

theorem reg_watchSignalPre (st : St) (signum : Int) (flags : Nat) (slot : Int) (hs : slot ≠ -4) :
    Reg st (watchSignalPre st signum flags slot) slot :=
  ((reg_alloc st { type := .signal, flags := flags &&& (BIND_UNBIND ||| BIND_DESTROY), slot := slot, signum := signum }
    (fun h => absurd h hs)).andThen (inert_evloopSignal _ _).q0).andThen (q0_setEvi _ _ _)

theorem reg_watchSignal (st : St) (signum : Int) (flags : Nat) (slot : Int) (hs : slot ≠ -4) :
    Reg st (watchSignal st signum flags slot).1 slot :=
  ((reg_watchSignalPre st signum flags slot hs).andThen (inert_insertWatch _ _ _ _).q0).andThen (inert_with_signals _ _).q0

theorem q0_ensureSigchld (st : St) : Q0 st (ensureSigchld st) := by
  unfold ensureSigchld
  cases st.sigchldwatch with
  | some _ => exact .refl _
  | none => exact ((reg_watchSignal st SIGCHLD 0 (-3) (by decide)).q0 (by decide)).trans (inert_with_sigchldwatch _ _).q0

theorem q0_setNotify (st : St) (a : Nat) (n : Option Nat)
    (hn : ∀ l, n = some l → l < st.heap.length ∧ (st.getW l).slot < 0) : Q0 st (setNotify st a n) :=
  q0_setW st a _ (mh_admits.notify _ n) (fun l hl => Or.inr (hn l hl))

theorem q0_linkNotified (r : St × Nat) (a : Nat) (flags : Nat) (h1 : r.2 < r.1.heap.length) (h2 : (r.1.getW r.2).slot = -4) :
    Q0 r.1 (linkNotified r a flags) :=
  ((q0_setNotify r.1 a (some r.2) (fun l hl => by cases hl; exact ⟨h1, by rw [h2]; decide⟩)).trans (inert_insertWatch _ _ _ _).q0).trans
    (inert_with_procs _ _).q0

theorem q0_clearNotify (st : St) (a : Nat) : Q0 st (clearNotify st a) :=
  of_ite (q0_setNotify st a none (fun l hl => by cases hl)) (.refl _)

theorem q0_linkProcess (st : St) (a : Nat) (pid : Int) (flags : Nat) (ha : a < st.heap.length)
    (ht : isOneShot (st.getW a).type = false) : Q0 st (linkProcess st a pid flags) :=
  have gW := (inert_waitpid st pid).q0
  have gS := gW.trans (q0_setWstatus (waitpid st pid).st a (waitpid st pid).wstatus)
  have hR := reg_watchLater _ 0 (-4) a (fun _ => ⟨Nat.lt_of_lt_of_le ha gS.b.h.len, gS.b.h.notOneShot ha ht⟩)
  have hL := gS.trans (hR.q0 (by decide))
  of_ite (of_ite (hL.trans (q0_linkNotified _ a flags hR.lt hR.first)) hL)
    ((gW.trans (inert_insertWatch _ _ _ _).q0).trans (inert_with_procs _ _).q0)

theorem reg_watchProcess (st : St) (pid : Int) (flags : Nat) (slot : Int) (hs : slot ≠ -4) :
    Reg st (watchProcess st pid flags slot).1 slot :=
  have hB := q0_ensureSigchld (st.alloc { type := .process, flags := flags &&& (BIND_UNBIND ||| BIND_DESTROY), slot := slot, pid := pid }).1
  have hlt : st.heap.length < (st.alloc { type := .process, flags := flags &&& (BIND_UNBIND ||| BIND_DESTROY), slot := slot, pid := pid }).1.heap.length := by
    rw [alloc_len]; omega
  ((reg_alloc st _ (fun h => absurd h hs)).andThen hB).andThen
    (q0_linkProcess _ _ _ _ (Nat.lt_of_lt_of_le hlt hB.b.h.len) (hB.b.h.notOneShot hlt (by rw [getW_alloc_new]; rfl)))

/-- A record the step has added: not yet counted, of a watch the step allocated, which carries its number. -/
structure NewRec (st st' : St) (r : SlotRec) : Prop where
  fires : r.fires = 0
  new : st.heap.length ≤ r.handle
  lt : r.handle < st'.heap.length
  slot : (st'.getW r.handle).slot = r.k
  nonneg : 0 ≤ r.k

/-- `keys`: slot numbers stay unshared (`K.s2`); `newc`: every new watch with a slot number has its record (`K.s1`). -/
structure Q (st st' : St) : Prop where
  b : QB st st'
  old : ∀ r ∈ st.slots, r ∈ st'.slots
  new : ∀ r ∈ st'.slots, r ∈ st.slots ∨ NewRec st st' r
  keys : (st.slots.map (·.k)).Nodup → (st'.slots.map (·.k)).Nodup
  newc : ∀ x, st.heap.length ≤ x → x < st'.heap.length → (st'.getW x).slot ≥ 0 →
    ∃ r ∈ st'.slots, r.k = (st'.getW x).slot ∧ r.handle = x

theorem Q.refl (st : St) : Q st st :=
  ⟨QB.refl st, fun _ h => h, fun _ h => Or.inl h, fun h => h, fun x h1 h2 => by omega⟩

theorem Q.of_q0 {st st' : St} (h : Q0 st st') : Q st st' :=
  ⟨h.b, fun _ hr => h.slots ▸ hr, fun _ hr => Or.inl (h.slots ▸ hr), fun hn => by rw [h.slots]; exact hn,
   fun x h1 h2 h3 => by have := h.neg x h1 h2; omega⟩

theorem Inert.q {st st' : St} (i : Inert st st') : Q st st' := Q.of_q0 i.q0

theorem Q.trans {a b c : St} (h1 : Q a b) (h2 : Q b c) : Q a c := by
  refine ⟨h1.b.trans h2.b, fun r hr => h2.old r (h1.old r hr), fun r hr => ?_, fun hn => h2.keys (h1.keys hn), ?_⟩
  · rcases h2.new r hr with hr | n
    · exact (h1.new r hr).imp id fun n =>
        ⟨n.fires, n.new, Nat.lt_of_lt_of_le n.lt h2.b.h.len, by rw [h2.b.h.slot _ n.lt]; exact n.slot, n.nonneg⟩
    · exact Or.inr ⟨n.fires, Nat.le_trans h1.b.h.len n.new, n.lt, n.slot, n.nonneg⟩
  · intro x hx1 hx2 hs
    by_cases hb : x < b.heap.length
    · have hsb : (b.getW x).slot ≥ 0 := by rw [← h2.b.h.slot x hb]; exact hs
      obtain ⟨r, hr, hk, hh⟩ := h1.newc x hx1 hb hsb
      exact ⟨r, h2.old r hr, by rw [h2.b.h.slot x hb]; exact hk, hh⟩
    · exact h2.newc x (by omega) hx2 hs

theorem Q.of_reg {st s1 : St} {k : Int} (hr : Reg st s1 k) (hk0 : 0 ≤ k) (hkeys : ∀ r ∈ st.slots, r.k ≠ k) :
    Q st { s1 with slots := s1.slots ++ [{ k := k, handle := st.heap.length, fires := 0 }] } := by
  refine ⟨hr.b.trans (QB.of_heap rfl id (fun s hs _ ha => ⟨s, hs, ha⟩)), fun r h => List.mem_append_left _ (hr.slots ▸ h), ?_, ?_, ?_⟩
  · intro r hrr
    rcases List.mem_append.mp hrr with h | h
    · exact Or.inl (hr.slots ▸ h)
    · rw [List.mem_singleton.mp h]
      exact Or.inr ⟨rfl, Nat.le_refl _, hr.lt, hr.first, hk0⟩
  · intro hn
    show ((s1.slots ++ [({ k := k, handle := st.heap.length, fires := 0 } : SlotRec)]).map (·.k)).Nodup
    rw [hr.slots, List.map_append, List.nodup_append]
    refine ⟨hn, by simp, fun x hx y hy e => ?_⟩
    simp only [List.map_cons, List.map_nil, List.mem_singleton] at hy
    obtain ⟨r, hrm, hrk⟩ := List.mem_map.mp hx
    exact hkeys r hrm (hrk.trans (e.trans hy))
  · intro x hx1 hx2 hs
    by_cases e : x = st.heap.length
    · subst e
      exact ⟨_, List.mem_append_right _ List.mem_cons_self, hr.first.symm, rfl⟩
    · have := hr.rest x (by omega) hx2
      have hs' : (s1.getW x).slot ≥ 0 := hs
      omega

theorem q_doRegister (st : St) (k : Int) (reg : St → St × Nat)
    (hreg : k ≠ -4 → ∀ s, Reg s (reg s).1 k ∧ (reg s).2 = s.heap.length) : Q st (doRegister st k reg) := by
  unfold doRegister
  refine iteInduction (fun _ => (inert_emit _ _).q) fun hk => ?_
  cases hnone : findSlot st k with
  | some _ => exact (inert_emit _ _).q
  | none =>
    have hk0 : 0 ≤ k := by
      simp only [Bool.or_eq_true, decide_eq_true_eq, not_or, Int.not_lt] at hk
      exact hk.1
    obtain ⟨hr, h2⟩ := hreg (by omega) st
    show Q st { (reg st).1 with slots := (reg st).1.slots ++ [{ k := k, handle := (reg st).2, fires := 0 }] }
    rw [h2]
    exact Q.of_reg hr hk0 (findSlot_none hnone)

theorem reg_ctor {k : Int} {f : St → St × Nat} (c : Ctor k f) (hk : k ≠ -4) (s : St) : Reg s (f s).1 k ∧ (f s).2 = s.heap.length := by
  cases c with
  | timer ms flags => exact ⟨reg_watchTimerAfterMsec s ms flags k hk, snd_watchTimerAt _ _ _ _⟩
  | timerAt sec usec flags => exact ⟨reg_watchTimerAt s ⟨sec, usec⟩ flags k hk, snd_watchTimerAt _ _ _ _⟩
  | later flags => exact ⟨reg_watchLater s flags k 0 (fun h => absurd h hk), rfl⟩
  | io fd cond flags => exact ⟨reg_watchIo s fd cond flags k hk, rfl⟩
  | signal sig flags _ => exact ⟨reg_watchSignal s sig flags k hk, rfl⟩
  | process pid flags => exact ⟨reg_watchProcess s pid flags k hk, rfl⟩

theorem q0_doCancel (st : St) (k : Int) : Q0 st (doCancel st k) :=
  doCancel_cases watchCancel st k (inert_emit _ _).q0 fun _ _ _ => (q0_with_cancelReq _ _).trans (q0_watchCancel _ _)

theorem q_runAct (st : St) (act : Act) : Q st (runAct st act) :=
  runAct_cases st act (.refl st) (fun k _ c => q_doRegister st k _ (reg_ctor c)) (fun k => .of_q0 (q0_doCancel st k))
    (fun _ => (inert_with_errno st _).q) (fun s => (inert_raiseSig st s).q) (fun _ => (inert_with_children st _).q)
    (inert_with_stillRunning st _).q

theorem q_runActs (acts : List Act) (st : St) :
    Q st (acts.foldl (fun st act => if st.isOk then runAct (st.emit .a) act else st) st) :=
  foldActs_cases runAct (I := fun _ => True) Q.refl Q.trans (fun s act _ => ⟨(inert_emit s _).q.trans (q_runAct _ act), trivial⟩) acts st trivial

end Tickit.EvLoop
