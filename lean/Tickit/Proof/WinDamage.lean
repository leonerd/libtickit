import Tickit.Proof.WinTree
import Tickit.Proof.RectSet
import Tickit.Proof.RectSetInv
import Tickit.Proof.Rect
/-
  `tickit_window_expose`: the damage it adds is exactly the exposed area, clipped to the window and to every ancestor, in
  root coordinates — provided every window on the way is visible.  `Exposed t R t'` is the one statement about what
  exposes do to a tree (`Exposed.of_expose`, by induction over the walk up).
-/
namespace Tickit
namespace WinTree
open Tickit.Rect

/-- Cell `(l, c)` of window `id` (in `id`'s coordinates) lies inside `id` and inside every ancestor, all of them visible,
    and the parent chain ends in a root window, in whose coordinates the cell is `(L, C)`. -/
def ExposedAt (t : Tree) : Nat → Id → Int → Int → Int → Int → Prop
  | 0, _, _, _, _, _ => False
  | fuel + 1, id, l, c, L, C =>
    ∃ w : Win, t.wins[id]? = some w ∧ w.freed = false ∧ 0 ≤ l ∧ l < w.rect.lines ∧ 0 ≤ c ∧ c < w.rect.cols ∧ w.isVisible = true ∧
      ((w.isRoot = true ∧ l = L ∧ c = C) ∨
       (w.isRoot = false ∧ ∃ p, w.parent = some p ∧ ExposedAt t fuel p (l + w.rect.top) (c + w.rect.left) L C))

/-- Root windows have a positive size (a terminal has at least one cell). -/
def RootsPositive (t : Tree) : Prop :=
  ∀ (id : Id) (w : Win), t.wins[id]? = some w → w.isRoot = true → 0 < w.rect.lines ∧ 0 < w.rect.cols

/-- The region a call `expose id e` is about, in root coordinates. -/
def ExposedRegion (t : Tree) (fuel : Nat) (id : Id) (e : Option Rect) (L C : Int) : Prop :=
  ∃ l c, (∀ r, e = some r → r.Mem l c) ∧ ExposedAt t fuel id l c L C

theorem damagedOf_mem (w : Win) (e : Option Rect) (l c : Int) :
    (∃ d, damagedOf w e = some d ∧ d.Mem l c) ↔
      ((∀ r, e = some r → r.Mem l c) ∧ 0 ≤ l ∧ l < w.rect.lines ∧ 0 ≤ c ∧ c < w.rect.cols) := by
  cases e with
  | none => simp [damagedOf, Rect.mem_origin]
  | some r =>
    simp only [damagedOf]
    cases hi : Rect.intersect ⟨0, 0, w.rect.lines, w.rect.cols⟩ r with
    | none =>
      have := Rect.intersect_none _ _ hi l c
      rw [Rect.mem_origin] at this
      exact ⟨fun ⟨d, hd, _⟩ => (nomatch hd), fun ⟨h1, h2⟩ => absurd ⟨h2, h1 r rfl⟩ this⟩
    | some d =>
      have := (Rect.intersect_some _ _ _ hi).2 l c
      rw [Rect.mem_origin] at this
      constructor
      · rintro ⟨d', hd', hm⟩
        cases hd'
        have := this.1 hm
        exact ⟨fun r' hr' => by cases hr'; exact this.2, this.1⟩
      · rintro ⟨h1, h2⟩
        exact ⟨d, rfl, this.2 ⟨h2, h1 r rfl⟩⟩

theorem exposedRegion_some {t : Tree} {fuel : Nat} {id : Id} {e : Rect} {l c L C : Int} (hm : e.Mem l c)
    (hex : ExposedAt t fuel id l c L C) : ExposedRegion t fuel id (some e) L C :=
  ⟨l, c, fun r hr => by cases hr; exact hm, hex⟩

/-- The region of a call, one window up: what `tickit_window_expose` does with `damaged` — hand it to the root's damage
    set, or translate it and expose it in the parent. -/
theorem exposedRegion_succ {t : Tree} {n : Nat} {id : Id} {w : Win} (hw : t.wins[id]? = some w) (hf : w.freed = false)
    (e : Option Rect) (L C : Int) :
    ExposedRegion t (n + 1) id e L C ↔ ∃ d, damagedOf w e = some d ∧ w.isVisible = true ∧
      ((w.isRoot = true ∧ d.Mem L C) ∨
       (w.isRoot = false ∧ ∃ p, w.parent = some p ∧
          ExposedRegion t n p (some (d.translate w.rect.top w.rect.left)) L C)) := by
  constructor
  · rintro ⟨l, c, he, w', hw', _, h1, h2, h3, h4, hv, hrest⟩
    rw [hw] at hw'
    cases hw'
    obtain ⟨d, hd, hm⟩ := (damagedOf_mem w e l c).2 ⟨he, h1, h2, h3, h4⟩
    refine ⟨d, hd, hv, hrest.imp (fun ⟨hr, hl, hc⟩ => ⟨hr, hl ▸ hc ▸ hm⟩) fun ⟨hr, p, hp, hx⟩ =>
      ⟨hr, p, hp, l + w.rect.top, c + w.rect.left, ?_, hx⟩⟩
    intro r hr'
    cases hr'
    exact (Rect.mem_translate _ _ _ _ _).2 (by rwa [Int.add_sub_cancel, Int.add_sub_cancel])
  · rintro ⟨d, hd, hv, ⟨hr, hm⟩ | ⟨hr, p, hp, l', c', he', hx⟩⟩
    · obtain ⟨he, hb⟩ := (damagedOf_mem w e L C).1 ⟨d, hd, hm⟩
      exact ⟨L, C, he, w, hw, hf, hb.1, hb.2.1, hb.2.2.1, hb.2.2.2, hv, Or.inl ⟨hr, rfl, rfl⟩⟩
    · have hm : d.Mem (l' - w.rect.top) (c' - w.rect.left) := (Rect.mem_translate _ _ _ _ _).1 (he' _ rfl)
      obtain ⟨he, hb⟩ := (damagedOf_mem w e _ _).1 ⟨d, hd, hm⟩
      refine ⟨_, _, he, w, hw, hf, hb.1, hb.2.1, hb.2.2.1, hb.2.2.2, hv, Or.inr ⟨hr, p, hp, ?_⟩⟩
      rw [Int.sub_add_cancel, Int.sub_add_cancel]
      exact hx

end WinTree

namespace WinFlush
open WinTree Tickit.Rect

theorem get_ok {t : Tree} {id : Id} {w : Win} (h : WinTree.get t id = .ok w) : t.wins[id]? = some w ∧ w.freed = false :=
  get_ok_iff.1 h

/-- What an operation that only records damage does to the root's bookkeeping: nothing, or both flags raised. -/
def RootStep (t t' : Tree) : Prop :=
  t'.root = t.root ∨ (t'.root.needsExpose = true ∧ t'.root.needsLater = true ∧ t'.root.changes = t.root.changes)

/-- `t'` is `t` after exposes whose regions together are `R`: the store is the same and the damage has grown by exactly `R`. -/
structure Exposed (t : Tree) (R : Int → Int → Prop) (t' : Tree) : Prop where
  wins : t'.wins = t.wins
  nonempty : ∀ x ∈ t'.root.damage, x.Nonempty
  dinv : RectSet.Inv t.root.damage → RectSet.Inv t'.root.damage
  root : RootStep t t'
  restore : t'.root.needsRestore = t.root.needsRestore
  cov : ∀ L C, Covered t'.root.damage L C ↔ (Covered t.root.damage L C ∨ R L C)

theorem Exposed.same {t : Tree} {R : Int → Int → Prop} (hne : ∀ x ∈ t.root.damage, x.Nonempty)
    (hsub : ∀ L C, R L C → Covered t.root.damage L C) : Exposed t R t :=
  ⟨rfl, hne, fun hi => hi, Or.inl rfl, rfl, fun L C => ⟨Or.inl, fun hh => hh.elim (fun x => x) (hsub L C)⟩⟩

theorem Exposed.of_expose : ∀ {fuel : Nat} {t t' : Tree} {id : Id} {e : Option Rect}, expose t fuel id e = .ok t' →
    (∀ x ∈ t.root.damage, x.Nonempty) → RootsPositive t → Exposed t (ExposedRegion t fuel id e) t' := by
  intro fuel
  induction fuel with
  | zero => intro t t' id e h; cases h
  | succ n ih =>
    intro t t' id e h hne hpos
    rw [expose_succ] at h
    obtain ⟨w, hg, h⟩ := bind_ok_iff.1 h
    have hw := get_ok hg
    have hreg := fun L C => exposedRegion_succ (n := n) hw.1 hw.2 e L C
    cases hd : damagedOf w e with
    | none =>
      rw [hd] at h; cases h
      exact .same hne fun L C hr => by obtain ⟨d, hd', _⟩ := (hreg L C).1 hr; rw [hd] at hd'; cases hd'
    | some d =>
      rw [hd] at h
      simp only [hd, Option.some.injEq, exists_eq_left'] at hreg
      unfold exposeTail at h
      cases hv : w.isVisible with
      | false =>
        simp only [hv, Bool.not_false, if_true] at h; cases h
        exact .same hne fun L C hr => by have := ((hreg L C).1 hr).1; rw [hv] at this; cases this
      | true =>
      cases hr : w.isRoot with
      | false =>
        simp only [hv, hr, Bool.not_true, Bool.not_false, Bool.false_eq_true, if_false, if_true] at h
        cases hp : w.parent with
        | none =>
          rw [hp] at h; cases h
          refine .same hne fun L C hx => ?_
          rcases ((hreg L C).1 hx).2 with ⟨hr', _⟩ | ⟨_, p, hp', _⟩
          · rw [hr] at hr'; cases hr'
          · rw [hp] at hp'; cases hp'
        | some p =>
          rw [hp] at h
          have hE := ih h hne hpos
          refine ⟨hE.wins, hE.nonempty, hE.dinv, hE.root, hE.restore, fun L C => ?_⟩
          rw [hE.cov L C, hreg L C]
          refine or_congr Iff.rfl ⟨fun hx => ⟨hv, Or.inr ⟨hr, p, hp, hx⟩⟩, fun hx => ?_⟩
          rcases hx.2 with ⟨hr', _⟩ | ⟨_, p', hp', hx⟩
          · rw [hr] at hr'; cases hr'
          · rw [hp] at hp'; cases hp'; exact hx
      | true =>
        simp only [hv, hr, Bool.not_true, Bool.false_eq_true, if_false] at h
        have hdne : d.Nonempty := by
          cases e with
          | none => cases hd; exact hpos id w hw.1 hr
          | some r => exact (Rect.intersect_some _ _ _ hd).1
        have hroot : ∀ L C, ExposedRegion t (n + 1) id e L C ↔ d.Mem L C := fun L C => by
          rw [hreg L C]
          exact ⟨fun hx => hx.2.elim (fun hh => hh.2) fun hh => absurd (hr ▸ hh.1) Bool.noConfusion, fun hm => ⟨hv, Or.inl ⟨hr, hm⟩⟩⟩
        cases hc : RectSet.contains rsFuel t.root.damage d with
        | none => rw [hc] at h; cases h
        | some b =>
          rw [hc] at h
          cases b with
          | true =>
            cases h
            exact .same hne fun L C hx => RectSet.contains_sound rsFuel _ _ hc hdne L C ((hroot L C).1 hx)
          | false =>
            cases ha : RectSet.add rsFuel t.root.damage d with
            | none => rw [ha] at h; cases h
            | some dmg =>
              rw [ha] at h
              cases h
              obtain ⟨hne', hcov⟩ := RectSet.add_region ha hdne hne
              refine ⟨rfl, hne', RectSet.add_inv _ _ _ _ ha hdne, Or.inr ⟨rfl, rfl, rfl⟩, rfl, fun L C => ?_⟩
              rw [hroot L C]
              exact hcov L C

end WinFlush
end Tickit
