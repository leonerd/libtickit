import Tickit.Proof.EvLoopLog
import Tickit.Proof.EvLoopFbStep
/-
  The self-pipe configuration: what a step does to the list of signal watches (`SigStep`, Proof/EvLoopSig.lean) and to
  the log (`LogExt`, Proof/EvLoopLog.lean).  Either fact about a function is read off the same walk through its text,
  so the two are proved together: `SLStep` is an instance of `Steps` (Proof/EvLoopFbStep.lean), its leaves about the
  shared functions being those of the two files named.
-/
namespace Tickit.EvLoop.Fb
open Tickit.EvLoop

structure SLStep (st st' : St) : Prop where
  sig : SigStep st st'
  log : LogExt st st'

theorem SLStep.refl (st : St) : SLStep st st := ⟨SigStep.refl st, LogExt.refl st⟩
theorem SLStep.trans {a b c : St} (h1 : SLStep a b) (h2 : SLStep b c) : SLStep a c :=
  ⟨h1.sig.trans h2.sig, h1.log.trans h2.log⟩
theorem SLStep.of {st st' : St} (g : G2 st st') (l : LogExt st st') : SLStep st st' := ⟨g.step, l⟩
theorem SLStep.of_eq {st st' : St} (hh : st'.heap = st.heap) (hs : st'.signals = st.signals) (hl : st'.log = st.log) :
    SLStep st st' := .of (G2.of_eq hh hs) (LogExt.of_eq hl)

theorem sl_fail (st : St) (w : Ub) : SLStep st (st.fail w) := .of (g2_base.fail _ _) (lg_low.fail _ _)
theorem sl_emit (st : St) (e : Ev) : SLStep st (st.emit e) := .of (g2_base.emit _ _) (lg_low.emit _ _)
theorem sl_free (st : St) (a : Nat) : SLStep st (st.free a) := .of (g2_free _ _) (lg_timers.free _ _)
theorem sl_watchIo (st : St) (fd : Int) (cond flags : Nat) (slot : Int) : SLStep st (watchIo st fd cond flags slot).1 :=
  .of (g2_watchIo _ _ _ _ _) (lg_closed.watchIo _ _ _ _ _)
theorem sl_destroyNotify (st : St) (a : Nat) : SLStep st (destroyNotify st a) := .of (g2_base.destroyNotify _ _) (lg_low.destroyNotify _ _)

theorem sl_sigRecord (st : St) (s : Int) : SLStep st (sigRecord st s) := by
  unfold sigRecord
  split
  · exact .of_eq rfl rfl rfl
  · exact SLStep.refl _

/-- The two facts at the level of `G2` (heap and list untouched or grown), which is what `sigfacts_insert` and
    `sigfacts_erase` (Proof/EvLoopSig.lean) ask of the steps around linking and unlinking a signal watch. -/
structure GLStep (st st' : St) : Prop where
  g2 : G2 st st'
  log : LogExt st st'

theorem GLStep.refl (st : St) : GLStep st st := ⟨G2.refl st, LogExt.refl st⟩
theorem GLStep.trans {a b c : St} (h1 : GLStep a b) (h2 : GLStep b c) : GLStep a c :=
  ⟨h1.g2.trans h2.g2, h1.log.trans h2.log⟩
theorem GLStep.of_eq {st st' : St} (hh : st'.heap = st.heap) (hs : st'.signals = st.signals) (hl : st'.log = st.log) :
    GLStep st st' := ⟨G2.of_eq hh hs, LogExt.of_eq hl⟩

theorem gl_ensurePipe (st : St) : GLStep st (ensurePipe st) := by
  unfold ensurePipe
  split
  · exact GLStep.refl _
  · have h := (GLStep.of_eq rfl rfl rfl : GLStep st { st with pipesMade := st.pipesMade + 1, pipeBytes := 0 }).trans
      ⟨g2_watchIo _ (PIPE0 + 2 * (st.pipesMade : Int)) IO_IN 0 (-6), lg_closed.watchIo _ _ _ _ _⟩
    generalize watchIo _ _ _ _ _ = r at h ⊢
    exact h.trans (.of_eq rfl rfl rfl)

theorem gl_installHandler (st : St) (signum : Int) : GLStep st (installHandler st signum) := by
  unfold installHandler
  split
  · exact GLStep.refl _
  · exact .of_eq rfl rfl rfl

theorem gl_unwatchSignal (st : St) (signum : Int) : GLStep st (unwatchSignal st signum) := by
  unfold unwatchSignal
  split
  · exact ⟨g2_base.fail _ _, lg_low.fail _ _⟩
  · split
    · exact GLStep.refl _
    · exact .of_eq rfl rfl rfl

theorem gl_cancelHook (st : St) (w : Watch) : GLStep st (cancelHook st w) := by
  unfold cancelHook
  split
  · exact ⟨g2_evloopCancelIo _ _, lg_low.evloopCancelIo _ _⟩
  · exact gl_unwatchSignal _ _
  · exact GLStep.refl _

theorem sl_watchSignal (st : St) (signum : Int) (flags : Nat) (slot : Int) : SLStep st (watchSignal st signum flags slot).1 := by
  have gl := (gl_ensurePipe (st.alloc { type := .signal, flags := flags &&& (BIND_UNBIND ||| BIND_DESTROY), slot := slot, signum := signum }).1).trans
    (gl_installHandler _ signum)
  have hlen := Nat.lt_of_lt_of_le (Nat.lt_of_lt_of_eq (Nat.lt_succ_self _) (alloc_len st _).symm) gl.g2.ext.len
  have g := (g2_alloc st _).trans gl.g2
  have l := (lg_low.alloc st _).trans gl.log
  unfold watchSignal
  generalize installHandler _ signum = s1 at g l hlen ⊢
  exact ⟨fun i => sigfacts_insert flags i g hlen, (l.trans (lg_low.insertWatch _ _ _ _)).trans (lg_with_signals _ _)⟩

theorem sl_cancelFound (st : St) (a : Nat) (w : Watch) (l : List Nat) (hl : l = listOf st w.type) (ha : a ∈ l) :
    SLStep st (cancelFound st a w l) := by
  unfold cancelFound
  have tail : ∀ s : St, GLStep s (cancelRest ((cancelHook (cancelNotify s a w) w).free a) ((l.dropWhile (· ≠ a)).drop 1)) ∧
      (s.heap.length ≤ ((cancelHook (cancelNotify s a w) w).free a).heap.length) := fun s =>
    have h := (GLStep.trans ⟨g2_base.cancelNotify s a w, lg_low.cancelNotify s a w⟩ (gl_cancelHook _ w)).trans ⟨g2_free _ a, lg_timers.free _ a⟩
    ⟨h.trans ⟨g2_base.cancelRest _ _, lg_low.cancelRest _ _⟩, h.g2.ext.len⟩
  refine ⟨?_, (lg_low.setList st _ _).trans (tail _).1.log⟩
  by_cases ht : w.type = .signal
  · intro i
    rw [ht] at hl ⊢
    subst hl
    have t := tail { st with signals := st.signals.erase a }
    -- the watch stays dead from `free` on
    exact sigfacts_erase i t.1.g2 ((g2_base.cancelRest _ _).ext.dead a (Nat.lt_of_lt_of_le (i.alloc a ha) t.2) (live_free_false _ a))
  · exact ((g2_setListOf_ne st w.type _ ht).trans (tail _).1.g2).step

theorem sl_steps : Steps (fun _ => True) SLStep where
  refl := SLStep.refl
  trans := SLStep.trans
  same := fun h => .of_eq h.heap h.signals h.log
  emit := sl_emit
  sigRecord := sl_sigRecord
  own := fun _ _ h => h fun _ _ => trivial
  free := fun s a _ => sl_free s a
  setTimers := fun _ _ _ => .of_eq rfl rfl rfl
  detach := fun _ => .of_eq rfl rfl rfl
  bump := fun _ _ => .of_eq rfl rfl rfl
  noteCancel := fun _ _ => .of_eq rfl rfl rfl
  doRegister := fun s k reg h _ => ⟨step_closed.doRegister s k reg fun s => (h s).sig, lg_closed.doRegister s k reg fun s => (h s).log⟩
  watchTimerAt := fun s d f k => .of (g2_watchTimerAt s d f k) (lg_closed.watchTimerAt s d f k)
  watchLater := fun s f k u => .of (g2_watchLater s f k u) (lg_closed.watchLater s f k u)
  watchIo := sl_watchIo
  watchSignal := sl_watchSignal
  alloc := fun s w _ _ => .of (g2_alloc s w) (lg_low.alloc s w)
  linkProcess := fun s a pid f _ => .of (g2_linkProcess s a pid f) (lg_low.linkProcess s a pid f)
  cancelDetached := fun s a _ => .of (g2_cancelDetached s a) (lg_low.cancelDetached s a)
  cancelFound := fun s a _ _ h => sl_cancelFound s a _ _ rfl h
  unlinkFound := fun s a t ht _ => .of (g2_unlinkFound s a t ht) (lg_low.unlinkFound s a t)
  clearNotify := fun s a => .of (g2_clearNotify s a) (lg_closed.clearNotify s a)
  laterPre := fun s a => .of (g2_laterPre s a) (lg_timers.laterPre s a)

theorem sl_iter : IterLeaves SLStep := ⟨fun _ => .of_eq rfl rfl rfl, fun _ => .of_eq rfl rfl rfl⟩

theorem step_tick (fuel : Nat) (st : St) (nohang : Bool) : SigStep st (tick fuel st nohang) := (sl_steps.tick sl_iter fuel st nohang).sig

theorem sl_destroyList (t : WType) (l : List Nat) : ∀ st : St, SLStep st (destroyList st t l) := by
  induction l with
  | nil => intro st; exact SLStep.refl st
  | cons a rest ih =>
    intro st
    unfold destroyList
    split
    · exact SLStep.refl _
    · split
      · exact sl_fail _ _
      · split
        · exact (((sl_destroyNotify _ _).trans (.of (g2_evloopCancelIo _ _) (lg_low.evloopCancelIo _ _))).trans (sl_free _ a)).trans (ih _)
        · exact ((sl_destroyNotify _ _).trans (sl_free _ a)).trans (ih _)

theorem sinv_destroy (st : St) (i : SInv st) : SInv (destroy st) := by
  unfold destroy
  refine iteInduction (fun _ => i) fun _ => ?_
  have hc : SigStep st (cancelSigchld st) := by
    unfold cancelSigchld
    split
    · exact (sl_steps.watchCancel _ _ trivial).sig
    · exact SigStep.refl _
  have hp : ∀ s : St, SigStep s (cancelPipewatch s) := by
    intro s
    unfold cancelPipewatch
    split
    · exact (sl_steps.watchCancel _ _ trivial).sig
    · exact SigStep.refl _
  have hr : ∀ s : St, SigStep s (restoreDefaults s) := fun s =>
    iteInduction (fun _ => G2.step (G2.of_eq rfl rfl)) fun _ => SigStep.refl s
  have hd : ∀ (t : WType) (s : St), SigStep s (destroyOf t s) := fun t s => (sl_destroyList t _ s).sig
  have i5 := (((((((hc.trans (hp _)).trans (hr _)).trans (hd .io _)).trans (hd .timer _)).trans (hd .later _)).trans
    (hd .signal _)).trans (hd .process _) i).inv
  exact iteInduction (fun _ => ⟨List.nodup_nil, fun x hx => by cases hx⟩) fun _ => i5

theorem sinv_applyOp (st : St) (op : Op) (i : SInv st) : SInv (applyOp st op) :=
  have i0 : SInv { st with log := [] } := SInv.of_same (st := st) rfl rfl i
  sl_steps.applyOp'_keeps sl_iter _ op i0 (fun _ _ _ h => (h.sig i0).inv) fun _ => sinv_destroy _ i0

theorem sinv_build (cfg : Config) : SInv (build cfg) := by
  have h0 : SInv (build0 cfg) := ⟨List.nodup_nil, fun x hx => (by cases hx)⟩
  unfold build
  exact (((sl_watchIo _ _ _ _ _).trans (sl_watchSignal _ _ _ _)).sig.trans (still_with_log _ _).g2.step h0).inv

theorem sinv_runOps (cfg : Config) (ops : List Op) : SInv (runOps cfg ops) :=
  List.foldlRecOn ops applyOp (sinv_build cfg) fun st i op _ => sinv_applyOp st op i

theorem sigsnap_sublist (fuel : Nat) (s : Int) (l : List Nat) : ∀ st : St, (sigSnapLoopT fuel st s l).2.Sublist l := by
  intro st
  unfold sigSnapLoopT
  exact sigsnapG_sublist _ l st

theorem sigsnap_complete (fuel : Nat) (s : Int) (l : List Nat) : ∀ st : St, SInv st →
    (sigSnapLoopT fuel st s l).1.status = .ok →
    ∀ b ∈ l, b < st.heap.length → b ∈ (sigSnapLoopT fuel st s l).1.signals → b ∈ (sigSnapLoopT fuel st s l).2 := by
  intro st
  unfold sigSnapLoopT
  exact sigsnapG_complete _ (fun st a => (sl_steps.sigCb fuel st a s).sig) l st

end Tickit.EvLoop.Fb
