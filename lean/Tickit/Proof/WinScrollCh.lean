import Tickit.Proof.WinScrollStep
/-
  The invariant step of `tickit_window_scroll_with_children` followed by the application moving the children
  (`WinFlush.scrollWithChildrenMoved`).

  `_scroll` without masking the children scrolls, on the terminal, every cell the painter's model gives to the *subtree*
  of the scrolled window.  Afterwards the application moves every child by the same offsets; in the tree so changed the
  owner of a cell inside the region is the owner, in the old tree, of the cell `(downward, rightward)` away
  (`subOwn_moved`), and outside the region nothing changes (`ownerAt_moved_back`).  So the scrolled cells are right for
  the new tree; the vacated strips and the rectangles the terminal refused are exposed by `_scrollrectset` itself.
-/
namespace Tickit
namespace WinFlush
open WinTree WinRB WinSpec

/-- `t'` is `t` with the windows `cs` moved by `(-d, -r)` and nothing else changed: what the application's
    `tickit_window_reposition` calls after `tickit_window_scroll_with_children` come to. -/
structure Moved (t t' : Tree) (cs : List Id) (d r : Int) : Prop where
  size : t'.wins.size = t.wins.size
  other : ∀ x, x ∉ cs → t'.wins[x]? = t.wins[x]?
  moved : ∀ ch ∈ cs, ∀ cw, t.wins[ch]? = some cw →
    t'.wins[ch]? = some { cw with rect := { cw.rect with top := cw.rect.top - d, left := cw.rect.left - r } }

theorem wstruct_sameButG {t t' : Tree} {id : Id} (h : SameButG t t' id) (hid : id ≠ 0) (hs : WStruct t) : WStruct t' :=
  { ok := hs.ok.of_links h.links (rootWin_sameButG h hid hs.ok.rootWin)
    ord := ordered_agree h.links hs.ord
    pos := rootsPositive_sameButG h hid hs.ok.onlyRoot hs.pos
    pc := parentListed_agree h.links hs.pc }

theorem moveChildren_spec (d r : Int) : ∀ (cs : List Id) (t t' : Tree), moveChildren d r t cs = .ok t' → cs.Nodup →
    (∀ c ∈ cs, c ≠ 0) → WStruct t → Moved t t' cs d r ∧ t'.root = t.root ∧ WStruct t' := by
  intro cs
  induction cs with
  | nil =>
    intro t t' h _ _ hs
    simp only [moveChildren] at h
    cases h
    exact ⟨⟨rfl, fun _ _ => rfl, fun _ h => by cases h⟩, rfl, hs⟩
  | cons ch cs ih =>
    intro t t' h hnd hnz hs
    simp only [moveChildren] at h
    obtain ⟨cw, hg, h⟩ := bind_ok_iff.1 h
    obtain ⟨⟨t1, b⟩, hsg, h⟩ := bind_ok_iff.1 h
    obtain ⟨cw', hcw', _, hsb, h1r, h1s, h1o⟩ := setGeometry_ok hsg
    rw [(get_ok hg).1] at hcw'; cases hcw'
    have hnd' := List.nodup_cons.1 hnd
    obtain ⟨hm, hr, hs'⟩ := ih t1 t' h hnd'.2 (fun c hc => hnz c (List.mem_cons_of_mem _ hc))
      (wstruct_sameButG hsb (hnz ch List.mem_cons_self) hs)
    refine ⟨⟨hm.size.trans hsb.size, ?_, ?_⟩, hr.trans h1r, hs'⟩
    · intro x hx
      have hx1 : x ≠ ch := fun e => hx (by rw [e]; exact List.mem_cons_self)
      have hx2 : x ∉ cs := fun e => hx (List.mem_cons_of_mem _ e)
      rw [hm.other x hx2, h1o x hx1]
    · intro c hc cw0 hcw0
      rcases List.mem_cons.1 hc with rfl | hc
      · have := get_ok hg
        rw [this.1] at hcw0; cases hcw0
        rw [hm.other c hnd'.1, h1s]
      · have hne : c ≠ ch := fun e => hnd'.1 (by rw [← e]; exact hc)
        exact hm.moved c hc cw0 (by rw [h1o c hne]; exact hcw0)

theorem ownerLoc_zero (t : Tree) (id : Id) (l c : Int) : ownerLoc t 0 id l c = none := rfl

theorem ownerLoc_moved_off (t0 t1 : Tree) (cs : List Id) (d r : Int) (hmv : Moved t0 t1 cs d r) (hs : WStruct t0)
    (n : Nat) (a : Id) (ha : ∀ k, Anc t0 a k → k ∉ cs) (x y : Int) : ownerLoc t1 n a x y = ownerLoc t0 n a x y :=
  ownerLoc_congr_on (fun a => ∀ k, Anc t0 a k → k ∉ cs)
    (fun a aw ha haw s hsm k hk => by
      obtain ⟨sw, hsw, hsp, _⟩ := hs.ok.wf.child a aw haw s hsm
      exact ha k (hs.up hk hsw hsp))
    (fun a ha => by rw [hmv.other a (ha a (Anc.refl a))]) n a x y ha

theorem ownerLoc_moved_child (t0 t1 : Tree) (n : Nat) (ch : Id) (cw : Win) (d r : Int) (h0 : t0.wins[ch]? = some cw)
    (h1 : t1.wins[ch]? = some { cw with rect := { cw.rect with top := cw.rect.top - d, left := cw.rect.left - r } })
    (hkids : ∀ s ∈ cw.children, ∀ x y, ownerLoc t1 n s x y = ownerLoc t0 n s x y) (x y : Int) :
    ownerLoc t1 (n + 1) ch x y = ownerLoc t0 (n + 1) ch (x + d) (y + r) := by
  rw [ownerLoc_rec h0, ownerLoc_rec h1]
  have hm : Rect.memb { cw.rect with top := cw.rect.top - d, left := cw.rect.left - r } x y = cw.rect.memb (x + d) (y + r) := by
    show (cw.rect.translate (-d) (-r)).memb x y = _
    rw [memb_translate, Int.sub_neg, Int.sub_neg]
  have e1 : x - (cw.rect.top - d) = x + d - cw.rect.top := by rw [Int.sub_eq_add_neg, Int.neg_sub, ← Int.add_sub_assoc]
  have e2 : y - (cw.rect.left - r) = y + r - cw.rect.left := by rw [Int.sub_eq_add_neg, Int.neg_sub, ← Int.add_sub_assoc]
  dsimp only
  rw [hm, e1, e2, findSome?_congr_mem _ _ _ fun s hs => hkids s hs _ _]

theorem above_not_child {t : Tree} (hs : WStruct t) {win a : Id} {ww : Win} (hww : t.wins[win]? = some ww)
    (h : Anc t a win) : a ∉ ww.children :=
  fun hc => Nat.not_lt.2 (Anc.le h) (hs.ord win ww hww a hc)

theorem chain_off_children {t0 t1 : Tree} (hs0 : WStruct t0) {win : Id} {ww : Win} (hww : t0.wins[win]? = some ww)
    (hsame : ∀ x, x ∉ ww.children → t1.wins[x]? = t0.wins[x]?) :
    (∀ a, Anc t0 a win → t1.wins[a]? = t0.wins[a]?) ∧
    ∀ a w p, Anc t0 a win → t0.wins[a]? = some w → w.parent = some p →
      Anc t0 p win ∧ ∀ pw, t0.wins[p]? = some pw → ∀ s ∈ pw.children, t1.wins[s]? = t0.wins[s]? := by
  refine ⟨fun a ha => hsame a (above_not_child hs0 hww ha), fun a w p ha haw hp => ⟨hs0.up ha haw hp, fun pw hpw s hs => ?_⟩⟩
  refine hsame s fun hc => ?_
  -- a window listed with `a` has the parent `p`, a strict ancestor of `win`
  obtain ⟨_, hsw, hsp, _⟩ := hs0.ok.wf.child p pw hpw s hs
  obtain ⟨_, hsw', hsp', _⟩ := hs0.ok.wf.child win ww hww s hc
  rw [hsw] at hsw'; cases hsw'
  rw [hsp] at hsp'; cases hsp'
  exact Nat.lt_irrefl _ (Nat.lt_of_lt_of_le (parent_lt hs0.ord hs0.pc haw hp) (Anc.le ha))

theorem ownerAt_moved_back {t0 t1 : Tree} {win : Id} {ww : Win} {d r : Int} (hmv : Moved t0 t1 ww.children d r)
    (hs0 : WStruct t0) (hs1 : WStruct t1) (hww1 : t1.wins[win]? = some ww) {L C : Int} {o : Id × Int × Int}
    (ho : ownerAt t1 L C = some o) (hno : ¬ Anc t1 win o.1) : ownerAt t0 L C = some o := by
  obtain ⟨a, l, c⟩ := o
  have hex := owner_exposedAt hs1 ho
  obtain ⟨aw, haw, hfa⟩ : ∃ aw, t1.wins[a]? = some aw ∧ aw.freed = false := by
    simp only [ExposedAt] at hex
    obtain ⟨aw, haw, hfa, _⟩ := hex
    exact ⟨aw, haw, hfa⟩
  obtain ⟨hff, hs⟩ := (hs1.chain _ a aw l c L C (a, l, c) haw hex (Anc.refl a)).1 ho
  -- a window whose parent is a window above `a` is not a child of `win`
  have hoff : ∀ (x : Id) (xw : Win) (p : Id), t1.wins[x]? = some xw → xw.parent = some p → Anc t1 p a →
      t0.wins[x]? = t1.wins[x]? := by
    intro x xw p hxw hxp hpa
    refine (hmv.other x fun hc => hno ?_).symm
    obtain ⟨xw', hxw', hxp', _⟩ := hs1.ok.wf.child win ww hww1 x hc
    rw [hxw] at hxw'; cases hxw'
    rw [hxp] at hxp'; cases hxp'
    exact hpa
  have hS : ∀ x : Id, Anc t1 x a → t0.wins[x]? = t1.wins[x]? := fun x hx =>
    (hmv.other x fun hc => hno (by
      obtain ⟨xw, hxw, hxp, _⟩ := hs1.ok.wf.child win ww hww1 x hc
      exact (Anc.step hxw hxp (parent_lt hs1.ord hs1.pc hxw hxp) (Anc.refl win)).trans hx)).symm
  have hex0 := (exposedAt_congr_on (fun x => Anc t1 x a) hS (fun x w p hx hxw hp => hs1.up hx hxw hp) _ a l c L C
    (Anc.refl a)).2 hex
  have hff0 := (frontFree_congr_on (fun x => Anc t1 x a) hS (fun x w p hx hxw hp =>
    ⟨hs1.up hx hxw hp, fun pw hpw s hs => by
      obtain ⟨sw, hsw, hsp, _⟩ := hs1.ok.wf.child p pw hpw s hs
      exact hoff s sw p hsw hsp (hs1.up hx hxw hp)⟩) _ a l c (Anc.refl a)).2 hff
  rw [hmv.size] at hex0 hff0
  refine (hs0.chain _ a aw l c L C (a, l, c) ((hS a (Anc.refl a)).trans haw) hex0 (Anc.refl a)).2
    ⟨hff0, ?_⟩
  rw [subOwn_self_iff hs1.links ⟨haw, hfa⟩] at hs
  rw [subOwn_self_iff hs0.links ⟨(hS a (Anc.refl a)).trans haw, hfa⟩]
  intro ch hch hcin
  obtain ⟨cw, hcw, hcp, _⟩ := hs1.ok.wf.child a aw haw ch hch
  refine hs ch hch ?_
  unfold Claims at hcin ⊢
  rw [← hoff ch cw a hcw hcp (Anc.refl a)]
  exact hcin

theorem below_exposed {t : Tree} (hs : WStruct t) {win : Id} {L C : Int} {o : Id × Int × Int}
    (h : ownerAt t L C = some o) (hwo : Anc t win o.1) : ∃ l c, ExposedAt t (t.wins.size + 1) win l c L C :=
  exposedAt_anc hs.ok hwo _ _ _ _ _ (owner_exposedAt hs h)

theorem moved_facts {content : Id → Int → Int → Cell} {st st_s : St} {win : Id} {ww w2 : Win} {d r : Int} {t1 : Tree}
    (hg : GoodQ content st) (hgw : WinTree.get st.tree win = .ok ww) (hwins : st_s.tree.wins = st.tree.wins)
    (hg2 : WinTree.get st_s.tree win = .ok w2) (hmc : moveChildren d r st_s.tree w2.children = .ok t1) :
    Moved st.tree t1 ww.children d r ∧ t1.root = st_s.tree.root ∧ WStruct t1 ∧ t1.wins[win]? = some ww ∧
      t1.wins[0]? = st.tree.wins[0]? := by
  have hw := get_ok hgw
  have hw2 := get_ok hg2
  have e : w2 = ww := by
    have := hw2.1
    rw [hwins, hw.1] at this
    exact (Option.some.inj this).symm
  subst e
  have hs0 := hg.struct
  have hlt : ∀ ch ∈ w2.children, win < ch := hg.tinv.ord win w2 hw.1
  obtain ⟨hm, hr, hs1⟩ := moveChildren_spec d r w2.children st_s.tree t1 hmc (hg.tinv.ok.nodup win w2 hw.1)
    (fun c hc e => by have := hlt c hc; rw [e] at this; exact Nat.not_lt_zero _ this) (wstruct_congr hwins hs0)
  have hm' : Moved st.tree t1 w2.children d r :=
    ⟨by rw [hm.size, hwins], fun x hx => by rw [hm.other x hx, hwins], fun ch hch cw hcw => hm.moved ch hch cw (by rw [hwins]; exact hcw)⟩
  have hnw : win ∉ w2.children := fun hc => Nat.lt_irrefl _ (hlt win hc)
  have hn0 : (0 : Id) ∉ w2.children := fun hc => Nat.not_lt_zero _ (hlt 0 hc)
  exact ⟨hm', hr, hs1, by rw [hm'.other win hnw]; exact hw.1, hm'.other 0 hn0⟩

theorem scrollch_finish {content content' : Id → Int → Int → Cell} {st st_s : St} {win : Id} {ww : Win} {d r : Int} {t1 : Tree}
    (V : Int → Int → Prop) (hg : GoodQ content st) (hloop : SLoopOk st.tree st st_s)
    (hmv : Moved st.tree t1 ww.children d r) (hroot : t1.root = st_s.tree.root) (hs1 : WStruct t1)
    (hww1 : t1.wins[win]? = some ww) (h0 : t1.wins[0]? = st.tree.wins[0]?)
    (hM : Mixed (compose st.tree content) (compose t1 content') V st_s)
    (hV2 : ∀ L C o, ownerAt t1 L C = some o → Anc t1 win o.1 → V L C)
    (hc : ∀ w' l c, w' ≠ win → content' w' l c = content w' l c) :
    GoodQ content' { st_s with tree := t1 } := by
  refine goodQ_of_sLoopOk hg hloop hroot hs1 h0 fun L C w l c ho => ?_
  show Covered t1.root.damage L C ∨ st_s.screen L C = content' w l c
  rw [hroot]
  refine invC_of_mixed hM (fun L C o hnv ho => ?_) L C w l c ho
  have hno : ¬ Anc t1 win o.1 := fun ha => hnv (hV2 L C _ ho ha)
  rw [compose_some content (ownerAt_moved_back hmv hg.struct hs1 hww1 ho hno),
    hc o.1 _ _ fun e => hno (by rw [e]; exact Anc.refl win)]

theorem subOwn_moved {t0 t1 : Tree} {win : Id} {ww : Win} {d r : Int} (hmv : Moved t0 t1 ww.children d r) (hs0 : WStruct t0)
    (hww : t0.wins[win]? = some ww) (l c : Int) :
    (∀ o, ww.children.findSome? (fun ch => own t0 ch (l + d) (c + r)) = some o → subOwn t1 win ww.children l c = o) ∧
    (ww.children.findSome? (fun ch => own t0 ch (l + d) (c + r)) = none → subOwn t1 win ww.children l c = (win, l, c)) := by
  unfold subOwn
  have hall : ∀ ch ∈ ww.children, own t1 ch l c = own t0 ch (l + d) (c + r) := by
    intro ch hch
    unfold own
    rw [hmv.size]
    obtain ⟨cw, hcw, hcp, _⟩ := hs0.ok.wf.child win ww hww ch hch
    have hwc : win < ch := hs0.ord win ww hww ch hch
    refine ownerLoc_moved_child t0 t1 _ ch cw d r hcw (hmv.moved ch hch cw hcw) (fun s hs x y => ?_) l c
    refine ownerLoc_moved_off t0 t1 ww.children d r hmv hs0 _ s (fun k hk hkc => ?_) x y
    -- a window below a grandchild is not a child
    obtain ⟨sw, hsw, hsp, _⟩ := hs0.ok.wf.child ch cw hcw s hs
    obtain ⟨kw, hkw, hkp, _⟩ := hs0.ok.wf.child win ww hww k hkc
    have hcs : ch < s := hs0.ord ch cw hcw s hs
    by_cases hsk : s = k
    · subst hsk
      rw [hsw] at hkw; cases hkw
      rw [hsp] at hkp
      have : ch = win := by cases hkp; rfl
      exact Nat.lt_irrefl _ (this ▸ hwc)
    · exact Nat.not_lt.2 (Anc.le (Anc.parent_down hk hsk hkw hkp)) (Nat.lt_trans hwc hcs)
  rw [findSome?_congr_mem _ _ _ hall]
  exact ⟨fun o h => by rw [h], fun h => by rw [h]⟩

theorem scrollch_step {oracle : Oracle} {content content' : Id → Int → Int → Cell} {st st' : St} {win : Id} {ww : Win}
    {d r : Int} {ret : Bool} (hg : GoodQ content st) (hgw : WinTree.get st.tree win = .ok ww)
    (h : scrollWithChildrenMoved oracle st win d r = .ok (st', ret))
    (hc : ∀ w l c, content' w l c =
      if w = win ∧ (⟨0, 0, ww.rect.lines, ww.rect.cols⟩ : Rect).memb l c = true then content w (l + d) (c + r)
      else content w l c) :
    GoodQ content' st' := by
  have hs0 := hg.struct
  have hok := hs0.ok
  have hw := get_ok hgw
  have hcne : ∀ w' l c, w' ≠ win → content' w' l c = content w' l c := fun w' l c hne => by
    rw [hc w' l c, if_neg (fun hx => hne hx.1)]
  unfold scrollWithChildrenMoved at h
  obtain ⟨⟨st_s, ret_s⟩, hs, h⟩ := bind_ok_iff.1 h
  obtain ⟨w2, hg2, h⟩ := bind_ok_iff.1 h
  obtain ⟨t1, hmc, h⟩ := bind_ok_iff.1 h
  simp only [pure, Pure.pure, Res.ok.injEq, Prod.mk.injEq] at h
  rw [← h.1]
  unfold scrollWithChildren at hs
  simp only [bind, Bind.bind, hgw] at hs
  obtain ⟨w', vis', T', L', hsc⟩ := scroll_region hg hs
  cases hgw.symm.trans hsc.get
  -- the region, in the tree as it is: cells the subtree of `win` owns
  have v1 : ∀ L C, Covered vis' L C → ownerAt st.tree L C = some (subOwn st.tree win ww.children (L - T') (C - L')) :=
    fun L C hcv => (hs0.chain _ win ww _ _ L C _ hw.1 (hsc.sound L C hcv).exposed (subOwn_anc hs0.links hw _ _)).2
      ⟨(hsc.sound L C hcv).front, rfl⟩
  obtain ⟨hmv, hroot, hs1, hww1, h00⟩ := moved_facts hg hgw hsc.loop.wins hg2 hmc
  -- exposure and what is in front of the chain are the same in the tree with the children moved
  obtain ⟨hS, hup⟩ := chain_off_children hs0 hw.1 hmv.other
  have hexT := fun x y L C => exposedAt_congr_on (fun a => Anc st.tree a win) hS (fun a w p ha haw hp => (hup a w p ha haw hp).1)
    (st.tree.wins.size + 1) win x y L C (Anc.refl win)
  have hffT := fun x y => frontFree_congr_on (fun a => Anc st.tree a win) hS hup (st.tree.wins.size + 1) win x y (Anc.refl win)
  rw [← hmv.size] at hexT hffT
  have v1' : ∀ L C, Covered vis' L C → ownerAt t1 L C = some (subOwn t1 win ww.children (L - T') (C - L')) :=
    fun L C hcv => (hs1.chain _ win ww _ _ L C _ hww1 ((hexT _ _ L C).2 (hmv.size ▸ (hsc.sound L C hcv).exposed))
      (subOwn_anc hs1.links ⟨hww1, hw.2⟩ _ _)).2 ⟨(hffT _ _).2 (hmv.size ▸ (hsc.sound L C hcv).front), rfl⟩
  have hsh : ∀ ρ ∈ vis', ∀ L C, ρ.Mem L C → ρ.Mem (L + d) (C + r) →
      ∀ v, compose t1 content' L C = some v → compose st.tree content (L + d) (C + r) = some v := by
    intro ρ hρ L C hm hm2 v hv
    have p2 := (hsc.sound L C ⟨ρ, hρ, hm⟩).inside
    have q1 := v1 (L + d) (C + r) ⟨ρ, hρ, hm2⟩
    have e1 : L + d - T' = L - T' + d := by rw [Int.sub_eq_add_neg, Int.add_right_comm, ← Int.sub_eq_add_neg]
    have e2 : C + r - L' = C - L' + r := by rw [Int.sub_eq_add_neg, Int.add_right_comm, ← Int.sub_eq_add_neg]
    rw [e1, e2] at q1
    rw [compose_some _ (v1' L C ⟨ρ, hρ, hm⟩)] at hv
    rw [compose_some _ q1, ← hv]
    obtain ⟨m1, m2⟩ := subOwn_moved hmv hs0 hw.1 (L - T') (C - L')
    cases hfs : ww.children.findSome? (fun ch => own st.tree ch (L - T' + d) (C - L' + r)) with
    | some o =>
      have e0 : subOwn st.tree win ww.children (L - T' + d) (C - L' + r) = o := by
        unfold subOwn; rw [hfs]
      rw [m1 o hfs, e0, hcne o.1 _ _ (subOwn_child_ne hs0.links hw hfs)]
    | none =>
      have e0 : subOwn st.tree win ww.children (L - T' + d) (C - L' + r) = (win, L - T' + d, C - L' + r) := by
        unfold subOwn; rw [hfs]
      rw [m2 hfs, e0, hc win _ _, if_pos ⟨rfl, (Rect.memb_iff _ _ _).2 p2⟩]
  refine scrollch_finish (fun L C => Covered vis' L C) hg hsc.loop hmv hroot hs1 hww1 h00 (hsc.mixed _ hsh)
    (fun L C o ho ha => ?_) hcne
  -- a cell the moved subtree owns is exposed through `win` with nothing in front: it is in the region
  obtain ⟨l, c, hex⟩ := below_exposed hs1 ho ha
  obtain ⟨hff, _⟩ := (hs1.chain _ win ww _ _ L C o hww1 hex ha).1 ho
  exact (hsc.complete L C l c ⟨hmv.size ▸ (hexT _ _ L C).1 hex, (exposedAt_up hs1.ok hex hww1).inside,
    hmv.size ▸ (hffT _ _).1 hff, nofun⟩).1

end WinFlush
end Tickit
