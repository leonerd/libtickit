import Tickit.Proof.WinLocal
/-
  The structural invariants of the window store (`TreeOk`, `ParentListed`) read only `links` of the windows (and the
  record of window 0), the composition only `view`: they carry over between stores that agree on these readings, which is how every operation
  keeps them.  Also the root's bookkeeping across an operation: `RootStep` for one that only records damage, and the
  weaker `RootMove` that every step of the tree has.
-/
namespace Tickit
namespace WinFlush
open WinTree WinRB WinSpec

/-- The structural half of what holds of window 0 (live, flagged as root, no parent, at the origin); `RootOk`
    (Proof/WinFlush.lean) is the rendering half: shown instead of flagged and parentless. -/
structure RootWin (t : Tree) : Prop where
  ex : ∃ w : Win, t.wins[0]? = some w ∧ w.freed = false ∧ w.isRoot = true ∧ w.parent = none ∧
    w.rect.top = 0 ∧ w.rect.left = 0

/-- The root record of a `RootWin` store, with names for its parts. -/
structure RootRec (t : Tree) (w : Win) : Prop where
  slot : t.wins[0]? = some w
  live : w.freed = false
  isRoot : w.isRoot = true
  parent : w.parent = none
  top : w.rect.top = 0
  left : w.rect.left = 0

theorem RootWin.record {t : Tree} (h : RootWin t) : ∃ w, RootRec t w :=
  h.ex.imp fun _ ⟨a, b, c, d, e, f⟩ => ⟨a, b, c, d, e, f⟩

theorem RootRec.rootWin {t : Tree} {w : Win} (h : RootRec t w) : RootWin t :=
  ⟨⟨w, h.slot, h.live, h.isRoot, h.parent, h.top, h.left⟩⟩

theorem RootWin.parentless {t : Tree} (h : RootWin t) (w : Win) (hw : t.wins[0]? = some w) : w.parent = none := by
  obtain ⟨w0, r⟩ := h.record
  cases r.slot.symm.trans hw
  exact r.parent

def OnlyRoot (t : Tree) : Prop := ∀ (x : Id) (w : Win), t.wins[x]? = some w → w.isRoot = true → x = 0

theorem RootStep.refl (t : Tree) : RootStep t t := Or.inl rfl

theorem RootStep.trans {a b c : Tree} (h1 : RootStep a b) (h2 : RootStep b c) : RootStep a c := by
  rcases h2 with h2 | ⟨x, y, z⟩
  · rcases h1 with h1 | ⟨x, y, z⟩
    · exact Or.inl (h2.trans h1)
    · exact Or.inr ⟨by rw [h2]; exact x, by rw [h2]; exact y, by rw [h2]; exact z⟩
  · rcases h1 with h1 | ⟨_, _, z'⟩
    · exact Or.inr ⟨x, y, by rw [z, h1]⟩
    · exact Or.inr ⟨x, y, by rw [z, z']⟩

theorem RootStep.changes {a b : Tree} (h : RootStep a b) : b.root.changes = a.root.changes := by
  rcases h with h | ⟨_, _, z⟩
  · rw [h]
  · exact z

/-- Recorded damage is flagged for the next flush (`needs_expose`, `needs_later_processing`). -/
def Flags (t : Tree) : Prop := t.root.damage ≠ [] → t.root.needsExpose = true ∧ t.root.needsLater = true

/-- The root's damage and its two flags after an operation that may record damage. -/
def Flagged (r r' : Root) : Prop :=
  (r'.damage = r.damage ∧ r'.needsExpose = r.needsExpose ∧ r'.needsLater = r.needsLater) ∨
  (r'.needsExpose = true ∧ r'.needsLater = true)

/-- What a step of the tree does to the root's bookkeeping.  Every `RootStep` is one; `tickit_window_close`, whose purge
    takes requests off the queue, is one too. -/
structure RootMove (t t' : Tree) : Prop where
  flagged : Flagged t.root t'.root
  queue : ∀ r ∈ t'.root.changes, r ∈ t.root.changes

theorem RootStep.move {t t' : Tree} (h : RootStep t t') : RootMove t t' :=
  ⟨h.imp (fun e => by rw [e]; exact ⟨rfl, rfl, rfl⟩) fun e => ⟨e.1, e.2.1⟩, fun r hr => by rw [h.changes] at hr; exact hr⟩

theorem RootMove.trans {a b c : Tree} (h1 : RootMove a b) (h2 : RootMove b c) : RootMove a c :=
  ⟨h2.flagged.elim (fun e => h1.flagged.imp (fun e1 => ⟨e.1.trans e1.1, e.2.1.trans e1.2.1, e.2.2.trans e1.2.2⟩)
      fun e1 => ⟨e.2.1.trans e1.1, e.2.2.trans e1.2⟩) Or.inr, fun r hr => h1.queue r (h2.queue r hr)⟩

theorem RootMove.flags {a b : Tree} (h : RootMove a b) (hf : Flags a) : Flags b := by
  rcases h.flagged with ⟨e1, e2, e3⟩ | e
  · unfold Flags; rw [e1, e2, e3]; exact hf
  · exact fun _ => e

theorem RootMove.pending {a b : Tree} (h : RootMove a b) (hf : a.root.damage ≠ [] → a.root.needsExpose = true) :
    b.root.damage ≠ [] → b.root.needsExpose = true := by
  rcases h.flagged with ⟨e1, e2, _⟩ | e
  · rw [e1, e2]; exact hf
  · exact fun _ => e.1

theorem RootMove.queueEmpty {a b : Tree} (h : RootMove a b) (hq : a.root.changes = []) : b.root.changes = [] :=
  List.eq_nil_iff_forall_not_mem.2 fun r hr => by have := h.queue r hr; rw [hq] at this; cases this

/-- A request left in the queue was there before. -/
theorem RootMove.queueLater {a b : Tree} (h : RootMove a b) (hq : a.root.changes ≠ [] → a.root.needsLater = true) :
    b.root.changes ≠ [] → b.root.needsLater = true :=
  fun hb => h.flagged.elim (fun e => e.2.2.trans (hq fun ha => hb (h.queueEmpty ha))) fun e => e.2

theorem set_size (t : Tree) (id : Id) (w' : Win) : (WinTree.set t id w').wins.size = t.wins.size :=
  WinTree.set_size t id w'

theorem rootWin_of_noVis {t t' : Tree} (h : (t'.wins[0]?).map coreNoVis = (t.wins[0]?).map coreNoVis) (hr : RootWin t) :
    RootWin t' := by
  obtain ⟨w, r⟩ := hr.record
  obtain ⟨w', hw', hc⟩ := map_eq_some h r.slot
  simp only [coreNoVis, Prod.mk.injEq] at hc
  obtain ⟨cf, crect, _, cpar, croot⟩ := hc
  exact ⟨⟨w', hw', cf.trans r.live, croot.trans r.isRoot, cpar.trans r.parent, by rw [crect]; exact r.top, by rw [crect]; exact r.left⟩⟩

theorem rootOk_congr_core {t t' : Tree} (h : (t'.wins[0]?).map core = (t.wins[0]?).map core) (hr : RootOk t) : RootOk t' := by
  obtain ⟨w, hw, hf, hv, htop, hleft⟩ := hr.ex
  obtain ⟨w', hw', hc⟩ := map_eq_some h hw
  simp only [core, Prod.mk.injEq] at hc
  exact ⟨⟨w', hw', hc.2.1.trans hf, hc.1.trans hv, by rw [hc.2.2.1]; exact htop, by rw [hc.2.2.1]; exact hleft⟩⟩

theorem rootsPositive_agree {t t' : Tree} (h : SameBy coreNoVis t t') (hp : RootsPositive t) : RootsPositive t' := by
  intro x w' hw' hr
  obtain ⟨w, hw, hc⟩ := sameBy_some (sameBy_symm h) hw'
  simp only [coreNoVis, Prod.mk.injEq] at hc
  rw [← hc.2.1]
  exact hp x w hw (hc.2.2.2.2.trans hr)

theorem onlyRoot_agree {t t' : Tree} (h : SameBy links t t') (ho : OnlyRoot t) : OnlyRoot t' := by
  intro x w' hw' hr
  obtain ⟨w, hw, hc⟩ := sameBy_some (sameBy_symm h) hw'
  simp only [links, Prod.mk.injEq] at hc
  exact ho x w hw (by rw [hc.2.2]; exact hr)

theorem sameBut_set (t : Tree) (id x : Id) (w w' : Win) (h : t.wins[x]? = some w)
    (hc : if x = id then coreNoVis w' = coreNoVis w else core w' = core w) : SameBut t (WinTree.set t x w') id := by
  refine ⟨?_, ?_, set_size t x w'⟩
  · intro y hy
    by_cases hyx : y = x
    · subst hyx
      rw [set_wins_self h, h]
      simp only [if_neg hy] at hc
      simp [hc]
    · rw [set_wins_ne _ (Ne.symm hyx)]
  · by_cases hxi : x = id
    · subst hxi
      rw [set_wins_self h, h]
      simp only [if_true] at hc
      simp [hc]
    · rw [set_wins_ne _ hxi]

theorem sameBut_refl (t : Tree) (id : Id) : SameBut t t id := ⟨fun _ _ => rfl, rfl, rfl⟩

theorem sameBut_trans {t1 t2 t3 : Tree} {id : Id} (h1 : SameBut t1 t2 id) (h2 : SameBut t2 t3 id) : SameBut t1 t3 id :=
  ⟨fun x hx => (h2.other x hx).trans (h1.other x hx), h2.self.trans h1.self, h2.size.trans h1.size⟩

theorem sameBut_noVis {t t' : Tree} {id : Id} (h : SameBut t t' id) (x : Id) :
    (t'.wins[x]?).map coreNoVis = (t.wins[x]?).map coreNoVis := by
  by_cases hx : x = id
  · subst hx; exact h.self
  · exact noVis_of_core (h.other x hx)

theorem rootWin_sameButG {t t' : Tree} {id : Id} (h : SameButG t t' id) (hid : id ≠ 0) (hr : RootWin t) : RootWin t' :=
  rootWin_of_noVis (noVis_of_core (h.other 0 (Ne.symm hid))) hr

theorem rootOk_sameButG {t t' : Tree} {id : Id} (h : SameButG t t' id) (hid : id ≠ 0) (hr : RootOk t) : RootOk t' :=
  rootOk_congr_core (h.other 0 (Ne.symm hid)) hr

theorem rootsPositive_sameButG {t t' : Tree} {id : Id} (h : SameButG t t' id) (hid : id ≠ 0) (ho : OnlyRoot t)
    (hpos : RootsPositive t) : RootsPositive t' := by
  intro x w' hw' hr
  have hx := onlyRoot_agree h.links ho x w' hw' hr
  subst hx
  obtain ⟨w, hw, hc⟩ := map_eq_some (h.other 0 (Ne.symm hid)).symm hw'
  simp only [core, Prod.mk.injEq] at hc
  have := hpos 0 w hw (by rw [hc.2.2.2.2.2]; exact hr)
  rw [hc.2.2.1] at this
  exact this

theorem wfp_sameBut {t t' : Tree} {id : Id} (h : SameBut t t' id) (hwf : WFp t) : WFp t' := wfp_agree h.toG.links hwf

theorem rootWin_sameBut {t t' : Tree} {id : Id} (h : SameBut t t' id) (hr : RootWin t) : RootWin t' :=
  rootWin_of_noVis (sameBut_noVis h 0) hr

theorem rootsPositive_sameBut {t t' : Tree} {id : Id} (h : SameBut t t' id) (hpos : RootsPositive t) : RootsPositive t' :=
  rootsPositive_agree (sameBut_noVis h) hpos

theorem rootsPositive_congr {t t' : Tree} (h : t'.wins = t.wins) (hp : RootsPositive t) : RootsPositive t' :=
  rootsPositive_agree (sameBy_of_wins h) hp

/-- The structural invariants of every reachable store; but for `rootWin` they read `links` of the windows only
    (`TreeOk.of_links`). -/
structure TreeOk (t : Tree) : Prop where
  wf : WFp t
  nodup : ∀ (cur : Id) (w : Win), t.wins[cur]? = some w → w.children.Nodup
  noSelf : ∀ (x : Id) (w : Win), t.wins[x]? = some w → w.parent ≠ some x
  onlyRoot : OnlyRoot t
  rootWin : RootWin t

def ChildrenNodup (t : Tree) : Prop := ∀ (cur : Id) (w : Win), t.wins[cur]? = some w → w.children.Nodup
def NoSelfParent (t : Tree) : Prop := ∀ (x : Id) (w : Win), t.wins[x]? = some w → w.parent ≠ some x

theorem struct_agree {t t' : Tree} (h : SameBy links t t') (h1 : ChildrenNodup t) (h2 : NoSelfParent t) :
    ChildrenNodup t' ∧ NoSelfParent t' := by
  constructor <;> intro x w' hw' <;> obtain ⟨w, hw, hc⟩ := sameBy_some (sameBy_symm h) hw' <;> simp only [links, Prod.mk.injEq] at hc
  · rw [← hc.1]; exact h1 x w hw
  · rw [← hc.2.1]; exact h2 x w hw

/-- The root's record is given apart: its rectangle may have changed. -/
theorem TreeOk.of_links {t t' : Tree} (hl : SameBy links t t') (hok : TreeOk t) (hrw : RootWin t') : TreeOk t' :=
  have hst := struct_agree hl hok.nodup hok.noSelf
  ⟨wfp_agree hl hok.wf, hst.1, hst.2, onlyRoot_agree hl hok.onlyRoot, hrw⟩

theorem treeOk_congr_core {t t' : Tree} (h : SameBy core t t') (hok : TreeOk t) : TreeOk t' :=
  hok.of_links (links_of_core h) (rootWin_of_noVis (noVis_of_core (h 0)) hok.rootWin)

theorem treeOk_congr {t t' : Tree} (h : t'.wins = t.wins) (hok : TreeOk t) : TreeOk t' :=
  treeOk_congr_core (fun x => by rw [h]) hok

theorem rootsPositive_congr_core {t t' : Tree} (h : SameBy core t t')
    (hp : RootsPositive t) : RootsPositive t' :=
  rootsPositive_agree (fun x => noVis_of_core (h x)) hp

theorem TreeOk.listed {t : Tree} (hok : TreeOk t) {p c : Id} {pw w0 : Win} (hpw : t.wins[p]? = some pw)
    (hmem : c ∈ pw.children) (hw0 : t.wins[c]? = some w0) :
    w0.parent = some p ∧ w0.isRoot = false ∧ p ≠ c ∧ c ≠ 0 ∧
      ∀ (x : Id) (w : Win), x ≠ p → t.wins[x]? = some w → c ∉ w.children := by
  obtain ⟨cw, hcw, hcpar, hcr⟩ := hok.wf.child p pw hpw c hmem
  rw [hw0] at hcw; cases hcw
  refine ⟨hcpar, hcr, fun hx => hok.noSelf c w0 hw0 (by rw [hcpar, hx]), fun hx => ?_, fun x w hx hw hm => ?_⟩
  · subst hx
    obtain ⟨rw0, r⟩ := hok.rootWin.record
    cases hw0.symm.trans r.slot
    exact nomatch hcr.symm.trans r.isRoot
  · obtain ⟨cw, hcw, hcp, _⟩ := hok.wf.child x w hw c hm
    rw [hw0] at hcw; cases hcw
    rw [hcpar] at hcp
    exact hx (Option.some.inj hcp).symm

theorem purge_spec {t t2 : Tree} {fuel : Nat} {win : Id} (h : purgeHierarchyChanges t fuel win = .ok t2) :
    t2.wins = t.wins ∧ t2.root.damage = t.root.damage ∧ t2.root.needsExpose = t.root.needsExpose ∧
    t2.root.needsLater = t.root.needsLater ∧ t2.root.needsRestore = t.root.needsRestore ∧
    ∀ r ∈ t2.root.changes, r ∈ t.root.changes := by
  rcases purge_cases h with rfl | rfl
  · exact ⟨rfl, rfl, rfl, rfl, rfl, fun _ hr => hr⟩
  · exact ⟨rfl, rfl, rfl, rfl, rfl, fun _ hr => (List.mem_filter.1 hr).1⟩

theorem ownerAt_congr_view {t t' : Tree} (h : SameBy view t t')
    (hs : t'.wins.size = t.wins.size) (L C : Int) : ownerAt t' L C = ownerAt t L C := by
  unfold ownerAt
  rw [hs]
  exact ownerLoc_congr_on (fun _ => True) (fun _ _ _ _ _ _ => trivial) (fun x _ => h x) _ _ _ _ trivial

theorem ownerAt_congr (t1 t2 : Tree) (h : t1.wins = t2.wins) (L C : Int) : ownerAt t1 L C = ownerAt t2 L C :=
  ownerAt_congr_view (fun x => by rw [h]) (by rw [h]) L C

theorem map_core_view {a b : Option Win} (h : a.map core = b.map core) : a.map view = b.map view :=
  map_eq_of_map_eq (fun p => (p.1, p.2.1, p.2.2.1, p.2.2.2.1)) (fun _ => rfl) h

theorem core_set_closed (t : Tree) (id : Id) (w : Win) (hw : t.wins[id]? = some w) :
    SameBy core t (WinTree.set t id { w with isClosed := true }) := sameBy_set hw rfl

/-- The root window is shown (with `TreeOk.rootWin` this is `RootOk`). -/
def RootVisible (t : Tree) : Prop := ∀ w, t.wins[0]? = some w → w.isVisible = true

theorem rootOk_of_visible {t : Tree} (hok : TreeOk t) (hv : RootVisible t) : RootOk t := by
  obtain ⟨w, r⟩ := hok.rootWin.record
  exact ⟨⟨w, r.slot, r.live, hv w r.slot, r.top, r.left⟩⟩

theorem root_vis_cases (t : Tree) (hok : TreeOk t) :
    RootVisible t ∨ ∃ w, t.wins[0]? = some w ∧ w.isVisible = false := by
  obtain ⟨w, hw, _⟩ := hok.rootWin.ex
  cases hv : w.isVisible with
  | true => exact Or.inl (fun w' hw' => by rw [hw] at hw'; cases hw'; exact hv)
  | false => exact Or.inr ⟨w, hw, hv⟩

/-- A window that names a parent is listed by it (a closed window names none). -/
def ParentListed (t : Tree) : Prop :=
  ∀ (x : Nat) (w : Win) (p : Id), t.wins[x]? = some w → w.parent = some p → ∃ pw, t.wins[p]? = some pw ∧ x ∈ pw.children

def ParentListedBut (t : Tree) (c : Id) : Prop :=
  ∀ (x : Nat) (w : Win) (p : Id), x ≠ c → t.wins[x]? = some w → w.parent = some p → ∃ pw, t.wins[p]? = some pw ∧ x ∈ pw.children

theorem ParentListed.but {t : Tree} (h : ParentListed t) (c : Id) : ParentListedBut t c :=
  fun x w p _ hw hp => h x w p hw hp

theorem parentListed_agree {t t' : Tree} (h : SameBy links t t') (hp : ParentListed t) : ParentListed t' := by
  intro x w' p hw' hpar
  obtain ⟨w, hw, hc⟩ := sameBy_some (sameBy_symm h) hw'
  simp only [links, Prod.mk.injEq] at hc
  obtain ⟨pw, hpw, hmem⟩ := hp x w p hw (by rw [hc.2.1]; exact hpar)
  obtain ⟨pw', hpw', hc'⟩ := sameBy_some h hpw
  have hcs : pw'.children = pw.children := congrArg Prod.fst hc'
  exact ⟨pw', hpw', by rw [hcs]; exact hmem⟩

theorem parentListed_congr {t t' : Tree} (h : t'.wins = t.wins) (hp : ParentListed t) : ParentListed t' :=
  parentListed_agree (sameBy_of_wins h) hp

theorem newRoot_win_some {l c : Int} {x : Nat} {w : Win} (h : (newRoot l c).wins[x]? = some w) :
    x = 0 ∧ w = { rect := ⟨0, 0, l, c⟩, isRoot := true } := by
  have hw : (newRoot l c).wins = #[{ rect := ⟨0, 0, l, c⟩, isRoot := true }] := rfl
  rw [hw] at h
  cases x with
  | zero => exact ⟨rfl, (Option.some.inj h).symm⟩
  | succ k => simp at h

theorem newRoot_root {l c : Int} (hl : 0 < l) (hc : 0 < c) :
    (newRoot l c).root = { damage := [⟨0, 0, l, c⟩], needsExpose := true, needsLater := true } := by
  simp [newRoot, hl, hc]

theorem treeOk_newRoot (l c : Int) : TreeOk (newRoot l c) where
  wf := ⟨fun _ w hw ch hch => by obtain ⟨_, rfl⟩ := newRoot_win_some hw; cases hch⟩
  nodup := fun _ w hw => by obtain ⟨_, rfl⟩ := newRoot_win_some hw; exact List.nodup_nil
  noSelf := fun _ w hw => by obtain ⟨_, rfl⟩ := newRoot_win_some hw; exact fun hx => nomatch hx
  onlyRoot := fun _ w hw _ => (newRoot_win_some hw).1
  rootWin := ⟨⟨_, rfl, rfl, rfl, rfl, rfl, rfl⟩⟩

theorem parentListed_newRoot (l c : Int) : ParentListed (newRoot l c) :=
  fun _ w p hw hp => by obtain ⟨_, rfl⟩ := newRoot_win_some hw; cases hp

theorem rootsPositive_newRoot {l c : Int} (hl : 0 < l) (hc : 0 < c) : RootsPositive (newRoot l c) :=
  fun _ w hw _ => by obtain ⟨_, rfl⟩ := newRoot_win_some hw; exact ⟨hl, hc⟩

end WinFlush
end Tickit
