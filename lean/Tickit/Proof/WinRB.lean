import Tickit.Model.WinRB
import Tickit.Proof.Rect
/-
  The abstract render buffer (`Model/WinRB.lean`): which cells clip, masks, save and restore leave writable, and that
  every drawing operation (`Paints`, `Draws`) and a whole handler program, whatever it saves and restores (`Mid`), changes
  writable cells only.
-/
namespace Tickit
namespace WinRB
open Tickit.Rect

/-- `Rect.mem_translate` for the executable membership test, as a rewrite rule. -/
theorem memb_translate (r : Rect) (d k l c : Int) :
    (r.translate d k).memb l c = r.memb (l - d) (c - k) :=
  Bool.eq_iff_iff.mpr (by rw [Rect.memb_iff, Rect.memb_iff]; exact Rect.mem_translate r d k l c)

theorem memb_false_iff (r : Rect) (l c : Int) : r.memb l c = false ↔ ¬ r.Mem l c := by
  rw [← Rect.memb_iff]; cases r.memb l c <;> simp

theorem writable_congr {a b : RB} (hc : b.clip = a.clip) (hm : b.masks = a.masks) (L C : Int) :
    b.writable L C = a.writable L C := by
  simp only [RB.writable, RB.inClip, RB.masked, hc, hm]

@[simp] theorem writable_translate (rb : RB) (d r : Int) (L C : Int) :
    (rb.translate d r).writable L C = rb.writable L C := rfl

@[simp] theorem writable_save (rb : RB) (L C : Int) : rb.save.writable L C = rb.writable L C := rfl

@[simp] theorem writable_setpen (rb : RB) (p : Option Pen) (L C : Int) : (rb.setpen p).writable L C = rb.writable L C := rfl

/-- `tickit_renderbuffer_clip` intersects the clip with the rectangle (an empty intersection is the marker `lines = 0`). -/
theorem inClip_clipTo (rb : RB) (r : Rect) (L C : Int) :
    (rb.clipTo r).inClip L C = (rb.inClip L C && (r.translate rb.xl rb.xc).memb L C) := by
  unfold RB.clipTo
  apply Bool.eq_iff_iff.mpr
  cases hi : Rect.intersect rb.clip (r.translate rb.xl rb.xc) with
  | none =>
    have hn := Rect.intersect_none _ _ hi L C
    simp only [RB.inClip, Bool.and_eq_true, bne_iff_ne, ne_eq, Rect.memb_iff]
    exact ⟨fun hh => (hh.1 trivial).elim, fun hh => absurd ⟨hh.1.2, hh.2⟩ hn⟩
  | some c =>
    have hs := Rect.intersect_some _ _ _ hi
    have hne := hs.1
    simp only [RB.inClip, Bool.and_eq_true, bne_iff_ne, ne_eq, Rect.memb_iff]
    unfold Rect.Nonempty at hne
    constructor
    · intro hh
      have := (hs.2 L C).1 hh.2
      have hm := this.1
      unfold Rect.Mem Rect.bottom at hm
      exact ⟨⟨by omega, this.1⟩, this.2⟩
    · intro hh
      exact ⟨by omega, (hs.2 L C).2 ⟨hh.1.2, hh.2⟩⟩

theorem writable_mask (rb : RB) (r : Rect) (L C : Int) :
    (rb.mask r).writable L C = (rb.writable L C && !(r.translate rb.xl rb.xc).memb L C) := by
  simp only [RB.writable, RB.mask, RB.inClip, RB.masked, List.any_cons]
  cases (rb.clip.lines != 0 && rb.clip.memb L C) <;> cases (r.translate rb.xl rb.xc).memb L C <;> simp

@[simp] theorem clipTo_xl (rb : RB) (r : Rect) : (rb.clipTo r).xl = rb.xl := by unfold RB.clipTo; split <;> rfl
@[simp] theorem clipTo_xc (rb : RB) (r : Rect) : (rb.clipTo r).xc = rb.xc := by unfold RB.clipTo; split <;> rfl
@[simp] theorem clipTo_stack (rb : RB) (r : Rect) : (rb.clipTo r).stack = rb.stack := by unfold RB.clipTo; split <;> rfl
@[simp] theorem clipTo_masks (rb : RB) (r : Rect) : (rb.clipTo r).masks = rb.masks := by unfold RB.clipTo; split <;> rfl
@[simp] theorem clipTo_cells (rb : RB) (r : Rect) : (rb.clipTo r).cells = rb.cells := by unfold RB.clipTo; split <;> rfl
@[simp] theorem clipTo_pen (rb : RB) (r : Rect) : (rb.clipTo r).pen = rb.pen := by unfold RB.clipTo; split <;> rfl
@[simp] theorem clipTo_lines (rb : RB) (r : Rect) : (rb.clipTo r).lines = rb.lines := by unfold RB.clipTo; split <;> rfl
@[simp] theorem clipTo_cols (rb : RB) (r : Rect) : (rb.clipTo r).cols = rb.cols := by unfold RB.clipTo; split <;> rfl

theorem writable_clipTo (rb : RB) (r : Rect) (L C : Int) :
    (rb.clipTo r).writable L C = (rb.writable L C && (r.translate rb.xl rb.xc).memb L C) := by
  simp only [RB.writable, RB.masked, clipTo_masks, inClip_clipTo, Bool.and_right_comm]

/-- The part of a buffer's state a handler's drawing program cannot change. -/
structure SameFrame (a b : RB) : Prop where
  stack : b.stack = a.stack
  masks : b.masks = a.masks
  lines : b.lines = a.lines
  cols : b.cols = a.cols

theorem SameFrame.refl (a : RB) : SameFrame a a := ⟨rfl, rfl, rfl, rfl⟩

theorem SameFrame.trans {a b c : RB} (h1 : SameFrame a b) (h2 : SameFrame b c) : SameFrame a c :=
  ⟨h2.stack.trans h1.stack, h2.masks.trans h1.masks, h2.lines.trans h1.lines, h2.cols.trans h1.cols⟩

/-- Every mask was made at a depth not exceeding the current one. -/
def MasksLe (rb : RB) : Prop := ∀ m ∈ rb.masks, m.2 ≤ rb.stack.length

/-- `b` is `a` after drawing: the frame (stack, masks, size, clip) is the same and only cells `a` lets a drawing
    operation touch can differ. -/
structure Paints (a b : RB) : Prop where
  stack : b.stack = a.stack
  masks : b.masks = a.masks
  lines : b.lines = a.lines
  cols : b.cols = a.cols
  clip : b.clip = a.clip
  cells : ∀ L C, a.writable L C = false → b.cells L C = a.cells L C

theorem Paints.refl (a : RB) : Paints a a := ⟨rfl, rfl, rfl, rfl, rfl, fun _ _ _ => rfl⟩

theorem Paints.writable {a b : RB} (h : Paints a b) (L C : Int) : b.writable L C = a.writable L C :=
  writable_congr h.clip h.masks L C

theorem Paints.trans {a b c : RB} (h1 : Paints a b) (h2 : Paints b c) : Paints a c :=
  ⟨h2.stack.trans h1.stack, h2.masks.trans h1.masks, h2.lines.trans h1.lines, h2.cols.trans h1.cols,
   h2.clip.trans h1.clip, fun L C h => by
     rw [h2.cells L C (by rw [h1.writable]; exact h), h1.cells L C h]⟩

theorem paints_putRun (rb : RB) (line col n : Int) (f : Int → Option CellV) : Paints rb (rb.putRun line col n f) :=
  ⟨rfl, rfl, rfl, rfl, rfl, fun L C h => if_neg fun hh => by rw [h] at hh; exact Bool.noConfusion hh.2.2.2⟩

theorem paints_putRect (rb : RB) (rect : Rect) (v : Option CellV) : Paints rb (rb.putRect rect v) :=
  ⟨rfl, rfl, rfl, rfl, rfl, fun L C h => if_neg fun hh => by rw [h] at hh; exact Bool.noConfusion hh.2⟩

theorem paints_textAt (rb : RB) (l c : Int) (s : List Nat) : Paints rb (rb.textAt l c s) := by
  unfold RB.textAt
  refine iteInduction (motive := Paints rb) (fun _ => paints_putRun rb l c _ _) fun _ => ?_
  have := paints_putRun rb l c (textCols s) (fun k => some (CellV.text rb.nextId rb.pen s k))
  exact ⟨this.stack, this.masks, this.lines, this.cols, this.clip, this.cells⟩

theorem paints_linecell (rb : RB) (line col : Int) (bits : Nat) : Paints rb (rb.linecell line col bits) := by
  unfold RB.linecell
  refine iteInduction (motive := Paints rb) (fun hw => ⟨rfl, rfl, rfl, rfl, rfl, fun L C h => if_neg ?_⟩) fun _ => Paints.refl rb
  rintro ⟨h1, h2⟩
  rw [h1, h2, hw] at h
  exact Bool.noConfusion h

theorem paints_foldl {α : Type} (f : RB → α → RB) (hf : ∀ rb x, Paints rb (f rb x)) :
    ∀ (xs : List α) (rb : RB), Paints rb (xs.foldl f rb) := by
  intro xs
  induction xs with
  | nil => intro rb; exact Paints.refl rb
  | cons x rest ih => intro rb; exact (hf rb x).trans (ih (f rb x))

theorem paints_hlineAt (rb : RB) (line c0 c1 : Int) (style caps : Nat) : Paints rb (rb.hlineAt line c0 c1 style caps) := by
  unfold RB.hlineAt
  exact paints_foldl (fun rb (x : Int × Nat) => rb.linecell line x.1 x.2) (fun rb x => paints_linecell rb line x.1 x.2) _ rb

theorem paints_vlineAt (rb : RB) (l0 l1 col : Int) (style caps : Nat) : Paints rb (rb.vlineAt l0 l1 col style caps) := by
  unfold RB.vlineAt
  exact paints_foldl (fun rb (x : Int × Nat) => rb.linecell x.1 col x.2) (fun rb x => paints_linecell rb x.1 col x.2) _ rb

/-- `Paints`, and the translation and the pen are kept too: what `copyrect` and `moverect` do. -/
structure PaintsOnly (a b : RB) : Prop where
  paints : Paints a b
  xl : b.xl = a.xl
  xc : b.xc = a.xc
  pen : b.pen = a.pen

theorem PaintsOnly.refl (a : RB) : PaintsOnly a a := ⟨Paints.refl a, rfl, rfl, rfl⟩

theorem copyRect_spec (rb : RB) (dest src : Rect) : PaintsOnly rb (rb.copyRect dest src) := by
  unfold RB.copyRect
  refine iteInduction (motive := PaintsOnly rb) (fun _ => .refl rb) fun _ =>
    iteInduction (motive := PaintsOnly rb) (fun _ => .refl rb) fun _ => ?_
  exact ⟨⟨rfl, rfl, rfl, rfl, rfl, fun L C h => if_neg fun hh => by rw [h] at hh; exact Bool.noConfusion hh.2⟩, rfl, rfl, rfl⟩

theorem moveRect_spec (rb : RB) (dest src : Rect) : PaintsOnly rb (rb.moveRect dest src) := by
  obtain ⟨h1, hxl, hxc, hpen⟩ := copyRect_spec rb dest src
  unfold RB.moveRect
  refine iteInduction (motive := PaintsOnly rb) (fun _ => .refl rb) fun _ =>
    iteInduction (motive := PaintsOnly rb) (fun _ => .refl rb) fun _ => ?_
  exact ⟨h1.trans ⟨rfl, rfl, rfl, rfl, rfl, fun L C h => if_neg fun hh => by rw [h] at hh; exact Bool.noConfusion hh.2.2⟩,
    hxl, hxc, hpen⟩

/-- `b` is `a` after a drawing operation that may also narrow the clip. -/
structure Draws (a b : RB) : Prop where
  stack : b.stack = a.stack
  masks : b.masks = a.masks
  lines : b.lines = a.lines
  cols : b.cols = a.cols
  clip : ∀ L C, b.inClip L C = true → a.inClip L C = true
  cells : ∀ L C, a.writable L C = false → b.cells L C = a.cells L C

theorem Paints.draws {a b : RB} (h : Paints a b) : Draws a b :=
  ⟨h.stack, h.masks, h.lines, h.cols, fun L C hh => by simpa [RB.inClip, h.clip] using hh, h.cells⟩

theorem Draws.writable {a b : RB} (h : Draws a b) (L C : Int) (hw : b.writable L C = true) : a.writable L C = true := by
  simp only [RB.writable, RB.masked, h.masks, Bool.and_eq_true] at hw ⊢
  exact ⟨h.clip L C hw.1, hw.2⟩

def DrawOp.isStack : DrawOp → Bool
  | .save => true
  | .savepen => true
  | .restore => true
  | _ => false

theorem draw_draws (rb : RB) (op : DrawOp) (hns : op.isStack = false) : Draws rb (rb.draw op) := by
  cases op with
  | eraseRect r => exact (paints_putRect rb r _).draws
  | skipRect r => exact (paints_putRect rb r _).draws
  | textAt l c s => exact (paints_textAt rb l c s).draws
  | charAt l c cp => exact (paints_putRun rb l c 1 (fun _ => some (.plain (Cell.ofPen rb.pen cp)))).draws
  | clear => exact (paints_putRect rb _ _).draws
  | setPen p => exact (Paints.draws ⟨rfl, rfl, rfl, rfl, rfl, fun _ _ _ => rfl⟩)
  | translate d r => exact (Paints.draws ⟨rfl, rfl, rfl, rfl, rfl, fun _ _ _ => rfl⟩)
  | clip r =>
    refine ⟨by simp [RB.draw], by simp [RB.draw], by simp [RB.draw], by simp [RB.draw], ?_, by simp [RB.draw]⟩
    intro L C h
    simp only [RB.draw, inClip_clipTo, Bool.and_eq_true] at h
    exact h.1
  | hline l c0 c1 st caps => exact (paints_hlineAt rb l c0 c1 st caps).draws
  | vline l0 l1 c st caps => exact (paints_vlineAt rb l0 l1 c st caps).draws
  | copyRect d s => exact (copyRect_spec rb d s).1.draws
  | moveRect d s => exact (moveRect_spec rb d s).1.draws
  | save => cases hns
  | savepen => cases hns
  | restore => cases hns

def clipHas (clip : Rect) (L C : Int) : Bool := clip.lines != 0 && clip.memb L C

/-- The buffer in the middle of a handler's program: `n` frames of the handler's own on top of the stack the handler
    found (`rb0`), each of whose clips lies inside the clip the handler found; masks untouched; nothing outside what
    `rb0` lets the handler touch has changed. -/
structure Mid (rb0 : RB) (n : Nat) (rb : RB) : Prop where
  stack : ∃ extra, rb.stack = extra ++ rb0.stack ∧ extra.length = n ∧
    ∀ f ∈ extra, f.penOnly = false → ∀ L C, clipHas f.clip L C = true → rb0.inClip L C = true
  masks : rb.masks = rb0.masks
  lines : rb.lines = rb0.lines
  cols : rb.cols = rb0.cols
  clip : ∀ L C, rb.inClip L C = true → rb0.inClip L C = true
  cells : ∀ L C, rb0.writable L C = false → rb.cells L C = rb0.cells L C

theorem Mid.start (rb0 : RB) : Mid rb0 0 rb0 :=
  ⟨⟨[], rfl, rfl, fun _ h => by cases h⟩, rfl, rfl, rfl, fun _ _ h => h, fun _ _ _ => rfl⟩

theorem Mid.writable {rb0 rb : RB} {n : Nat} (h : Mid rb0 n rb) (L C : Int) (hw : rb.writable L C = true) :
    rb0.writable L C = true := by
  simp only [RB.writable, RB.masked, h.masks, Bool.and_eq_true] at hw ⊢
  exact ⟨h.clip L C hw.1, hw.2⟩

theorem Mid.draw {rb0 rb rb' : RB} {n : Nat} (h : Mid rb0 n rb) (hd : Draws rb rb') : Mid rb0 n rb' := by
  refine ⟨?_, hd.masks.trans h.masks, hd.lines.trans h.lines, hd.cols.trans h.cols,
    fun L C hh => h.clip L C (hd.clip L C hh), ?_⟩
  · obtain ⟨extra, he, hl, hc⟩ := h.stack
    exact ⟨extra, by rw [hd.stack, he], hl, hc⟩
  · intro L C hw
    rw [hd.cells L C (Bool.eq_false_iff.2 fun hh => by rw [h.writable L C hh] at hw; cases hw), h.cells L C hw]

theorem Mid.push {rb0 rb rb' : RB} {n : Nat} (h : Mid rb0 n rb) (f : Frame) (hf : f.clip = rb.clip)
    (hs : rb'.stack = f :: rb.stack) (hmk : rb'.masks = rb.masks) (hl : rb'.lines = rb.lines) (hc : rb'.cols = rb.cols)
    (hcl : rb'.clip = rb.clip) (hce : rb'.cells = rb.cells) : Mid rb0 (n + 1) rb' := by
  obtain ⟨extra, he, hlen, hcs⟩ := h.stack
  refine ⟨⟨f :: extra, by rw [hs, he]; rfl, by simp [hlen], ?_⟩, hmk.trans h.masks, hl.trans h.lines, hc.trans h.cols,
    fun L C hh => h.clip L C (by simpa only [RB.inClip, hcl] using hh), fun L C hw => by rw [hce]; exact h.cells L C hw⟩
  intro g hg hp L C hh
  rcases List.mem_cons.1 hg with rfl | hg
  · exact h.clip L C (by simpa only [clipHas, RB.inClip, hf] using hh)
  · exact hcs g hg hp L C hh

theorem Mid.save {rb0 rb : RB} {n : Nat} (h : Mid rb0 n rb) : Mid rb0 (n + 1) rb.save :=
  h.push _ rfl rfl rfl rfl rfl rfl rfl

/-- `restore`'s filter: the masks made above level `n` go, those made at or below it stay. -/
theorem filter_masks {m old : List (Rect × Nat)} {n : Nat}
    (hm : ∀ x ∈ m, n + 1 ≤ x.2) (ho : ∀ x ∈ old, x.2 ≤ n) :
    (m ++ old).filter (fun x => decide (x.2 ≤ n)) = old := by
  rw [List.filter_append, List.filter_eq_nil_iff.mpr, List.filter_eq_self.mpr, List.nil_append]
  · intro x hx; simpa using ho x hx
  · intro x hx; have := hm x hx; simp; omega

theorem Mid.savepen {rb0 rb : RB} {n : Nat} (h : Mid rb0 n rb) : Mid rb0 (n + 1) rb.savepen :=
  h.push _ rfl rfl rfl rfl rfl rfl rfl

theorem Mid.restore {rb0 rb : RB} {n : Nat} (hm : MasksLe rb0) (h : Mid rb0 (n + 1) rb) : Mid rb0 n rb.restore := by
  obtain ⟨extra, he, hl, hc⟩ := h.stack
  cases extra with
  | nil => simp at hl
  | cons f extra' =>
    have hstack : rb.stack = f :: (extra' ++ rb0.stack) := by simpa using he
    have hmasks : rb.masks.filter (fun m => decide (m.2 ≤ (extra' ++ rb0.stack).length)) = rb0.masks := by
      rw [h.masks]
      exact filter_masks (m := []) nofun fun m hmm => by have := hm m hmm; rw [List.length_append]; omega
    have hc' : ∀ g ∈ extra', g.penOnly = false → ∀ L C, clipHas g.clip L C = true → rb0.inClip L C = true :=
      fun g hg => hc g (List.mem_cons_of_mem _ hg)
    unfold RB.restore
    rw [hstack]
    simp only
    cases hp : f.penOnly with
    | true =>
      simp only [if_true]
      exact ⟨⟨extra', rfl, by simpa using hl, hc'⟩, hmasks, h.lines, h.cols, h.clip, h.cells⟩
    | false =>
      simp only [Bool.false_eq_true, if_false]
      refine ⟨⟨extra', rfl, by simpa using hl, hc'⟩, hmasks, h.lines, h.cols, ?_, h.cells⟩
      intro L C hh
      exact hc f (List.mem_cons_self ..) hp L C hh

theorem runAux_draw (n : Nat) (rb : RB) (op : DrawOp) (rest : List DrawOp) (h : op.isStack = false) :
    RB.runAux n rb (op :: rest) = RB.runAux n (rb.draw op) rest := by
  cases op <;> first | rfl | cases h

theorem unwind_induction {P : Nat → RB → Prop} (hrestore : ∀ n rb, P (n + 1) rb → P n rb.restore) :
    ∀ (n : Nat) (rb : RB), P n rb → P 0 (RB.unwind n rb) := by
  intro n
  induction n with
  | zero => intro rb h; exact h
  | succ n ih => intro rb h; exact ih rb.restore (hrestore n rb h)

/-- Induction over a handler's program.  `P n rb`: the buffer is `rb` and the program has `n` frames of its own open.
    `P 0` holds when the program has run because `runAux` skips a `restore` with none open and closes at the end what is
    left open. -/
theorem runAux_induction {P : Nat → RB → Prop} (hdraw : ∀ n rb op, op.isStack = false → P n rb → P n (rb.draw op))
    (hsave : ∀ n rb, P n rb → P (n + 1) rb.save) (hsavepen : ∀ n rb, P n rb → P (n + 1) rb.savepen)
    (hrestore : ∀ n rb, P (n + 1) rb → P n rb.restore) :
    ∀ (prog : List DrawOp) (n : Nat) (rb : RB), P n rb → P 0 (RB.runAux n rb prog) := by
  intro prog
  induction prog with
  | nil => exact unwind_induction hrestore
  | cons op rest ih =>
    intro n rb h
    cases hs : op.isStack with
    | false => rw [runAux_draw n rb op rest hs]; exact ih n _ (hdraw n rb op hs h)
    | true =>
      cases op with
      | save => exact ih (n + 1) rb.save (hsave n rb h)
      | savepen => exact ih (n + 1) rb.savepen (hsavepen n rb h)
      | restore =>
        cases n with
        | zero => exact ih 0 rb h
        | succ n => exact ih n rb.restore (hrestore n rb h)
      | _ => cases hs

theorem Mid.unwind (rb0 : RB) (hm : MasksLe rb0) : ∀ (n : Nat) (rb : RB), Mid rb0 n rb → Mid rb0 0 (RB.unwind n rb) :=
  unwind_induction fun _ _ h => h.restore hm

theorem Mid.runAux (rb0 : RB) (hm : MasksLe rb0) :
    ∀ (prog : List DrawOp) (n : Nat) (rb : RB), Mid rb0 n rb → Mid rb0 0 (RB.runAux n rb prog) :=
  runAux_induction (fun _ rb op hs h => h.draw (draw_draws rb op hs)) (fun _ _ h => h.save) (fun _ _ h => h.savepen)
    fun _ _ h => h.restore hm

theorem restore_stack {rb : RB} {f : Frame} {rest : List Frame} (h : rb.stack = f :: rest) : rb.restore.stack = rest := by
  unfold RB.restore
  rw [h]

theorem run_stack (prog : List DrawOp) (rb : RB) : (rb.run prog).stack = rb.stack := by
  obtain ⟨extra, he, hl⟩ := runAux_induction (P := fun n rb' => ∃ extra, rb'.stack = extra ++ rb.stack ∧ extra.length = n)
    (fun _ rb' op hs ⟨extra, he, hl⟩ => ⟨extra, by rw [(draw_draws rb' op hs).stack, he], hl⟩)
    (fun _ _ ⟨extra, he, hl⟩ => ⟨_ :: extra, congrArg (List.cons _) he, congrArg Nat.succ hl⟩)
    (fun _ _ ⟨extra, he, hl⟩ => ⟨_ :: extra, congrArg (List.cons _) he, congrArg Nat.succ hl⟩)
    (fun _ _ ⟨extra, he, hl⟩ => by
      cases extra with
      | nil => cases hl
      | cons f extra' => exact ⟨extra', restore_stack he, Nat.succ.inj hl⟩)
    prog 0 rb ⟨[], rfl, rfl⟩
  rw [List.eq_nil_of_length_eq_zero hl] at he
  exact he

theorem run_mid (prog : List DrawOp) (rb : RB) (hm : MasksLe rb) : Mid rb 0 (rb.run prog) :=
  Mid.runAux rb hm prog 0 rb (Mid.start rb)

theorem run_sameFrame (prog : List DrawOp) (rb : RB) (hm : MasksLe rb) : SameFrame rb (rb.run prog) :=
  have h := run_mid prog rb hm
  ⟨run_stack prog rb, h.masks, h.lines, h.cols⟩

theorem run_writable_sub (prog : List DrawOp) (rb : RB) (hm : MasksLe rb) (L C : Int) :
    (rb.run prog).writable L C = true → rb.writable L C = true :=
  (run_mid prog rb hm).writable L C

/-- **Confinement of a drawing program**, whatever it draws and however it nests `save` and `restore`. -/
theorem run_cells_of_not_writable (prog : List DrawOp) (rb : RB) (hm : MasksLe rb) (L C : Int) :
    rb.writable L C = false → (rb.run prog).cells L C = rb.cells L C :=
  (run_mid prog rb hm).cells L C

theorem resolve_none {rb : RB} {L C : Int} (h : rb.cells L C = none) : rb.resolve L C = none := by
  simp [RB.resolve, h]

theorem resolve_plain {rb : RB} {L C : Int} {x : Cell} (h : rb.cells L C = some (.plain x)) : rb.resolve L C = some x := by
  simp [RB.resolve, h]

theorem restore_of_save_frame (rb0 rb : RB) (rest : List Frame)
    (hs : rb.stack = { xl := rb0.xl, xc := rb0.xc, clip := rb0.clip, pen := rb0.pen, penOnly := false } :: rest) :
    rb.restore.xl = rb0.xl ∧ rb.restore.xc = rb0.xc ∧ rb.restore.clip = rb0.clip ∧ rb.restore.pen = rb0.pen ∧
    rb.restore.stack = rest ∧ rb.restore.cells = rb.cells ∧ rb.restore.lines = rb.lines ∧ rb.restore.cols = rb.cols ∧
    rb.restore.masks = rb.masks.filter (fun m => m.2 ≤ rest.length) := by
  unfold RB.restore
  rw [hs]
  simp

theorem eraseRect_cell {rb : RB} {rect : Rect} {L C : Int} (hw : rb.writable L C = true)
    (hm : rect.memb (L - rb.xl) (C - rb.xc) = true) :
    (rb.eraseRect rect).cells L C = some (.plain (Cell.blank rb.pen)) :=
  if_pos ⟨(memb_translate rect rb.xl rb.xc L C).trans hm, hw⟩

end WinRB
end Tickit
