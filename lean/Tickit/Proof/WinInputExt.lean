import Tickit.Proof.WinInput
/-
  C14, whatever the handlers do and for every variant of the code: the log only grows by items of the kind the event
  allows and the bindings change only by being invoked (`Ext`; `Routed`: the class of items a dispatch of an event may
  log), followed through the dispatcher's `do` blocks by `ExtO`; then `on_term_mouse` with the events it synthesises
  around a drag (`onTermMouse_seg`).
-/
namespace Tickit
namespace WinInput
open WinTree

/-- What may happen to one binding while events are dispatched: it is the same binding (window, kind, index,
    behaviour table, one-shot flag); it changes only by being invoked (`count` grows); once it is gone (a fired
    one-shot binding, or one that unbound itself) nothing about it changes any more — it is never invoked again; a
    one-shot binding is invoked at most once more, and is gone as soon as it has been. -/
structure BStep (x x' : Binding) : Prop where
  win : x'.win = x.win
  kind : x'.kind = x.kind
  idx : x'.idx = x.idx
  entries : x'.entries = x.entries
  oneshot : x'.oneshot = x.oneshot
  count : x.count ≤ x'.count
  same : x'.count = x.count → x' = x
  gone : x.gone = true → x' = x
  once : x.oneshot = true → x'.count ≤ x.count + 1 ∧ (x.count < x'.count → x'.gone = true)

theorem BStep.refl (x : Binding) : BStep x x :=
  ⟨rfl, rfl, rfl, rfl, rfl, Nat.le_refl _, fun _ => rfl, fun _ => rfl, fun _ => ⟨Nat.le_succ _, fun h => absurd h (Nat.lt_irrefl _)⟩⟩

theorem BStep.trans {x y z : Binding} (h1 : BStep x y) (h2 : BStep y z) : BStep x z := by
  refine ⟨h2.win.trans h1.win, h2.kind.trans h1.kind, h2.idx.trans h1.idx, h2.entries.trans h1.entries,
    h2.oneshot.trans h1.oneshot, Nat.le_trans h1.count h2.count, ?_, ?_, ?_⟩
  · intro hc
    have c1 := h1.count
    have c2 := h2.count
    have e1 : y = x := h1.same (by omega)
    have e2 : z = y := h2.same (by omega)
    rw [e2, e1]
  · intro hg
    have e1 := h1.gone hg
    have e2 := h2.gone (by rw [e1]; exact hg)
    rw [e2, e1]
  · intro ho
    obtain ⟨a1, b1⟩ := h1.once ho
    obtain ⟨a2, b2⟩ := h2.once (by rw [h1.oneshot]; exact ho)
    by_cases hc : x.count < y.count
    · have e2 := h2.gone (b1 hc)
      rw [e2]; exact ⟨a1, fun _ => b1 hc⟩
    · have c1 := h1.count
      have e1 : y = x := h1.same (by omega)
      rw [e1] at a2 b2
      exact ⟨a2, b2⟩

/-- the table of bindings keeps its size and every entry moves by `BStep` -/
def BMono (b b' : Array Binding) : Prop :=
  b'.size = b.size ∧ ∀ (i : Nat) (x : Binding), b[i]? = some x → ∃ x', b'[i]? = some x' ∧ BStep x x'

theorem BMono.refl (b : Array Binding) : BMono b b := ⟨rfl, fun _ x h => ⟨x, h, BStep.refl x⟩⟩

theorem BMono.of_eq {b b' : Array Binding} (h : b' = b) : BMono b b' := by rw [h]; exact BMono.refl b

theorem BMono.trans {a b c : Array Binding} (h1 : BMono a b) (h2 : BMono b c) : BMono a c := by
  refine ⟨h2.1.trans h1.1, ?_⟩
  intro i x hx
  obtain ⟨y, hy, s1⟩ := h1.2 i x hx
  obtain ⟨z, hz, s2⟩ := h2.2 i y hy
  exact ⟨z, hz, s1.trans s2⟩

theorem BStep.fired {b : Binding} (hg : b.gone = false) : BStep b b.fired := by
  refine ⟨rfl, rfl, rfl, rfl, rfl, Nat.le_succ _, ?_, ?_, ?_⟩
  · intro h; simp only [Binding.fired] at h; omega
  · intro h; rw [hg] at h; cases h
  · intro ho
    refine ⟨Nat.le_refl _, fun _ => ?_⟩
    simp only [Binding.fired, ho, Bool.true_or]

theorem BMono.fired {binds : Array Binding} {i : Nat} {b : Binding} (h : binds[i]? = some b) (hg : b.gone = false) :
    BMono binds (binds.setIfInBounds i b.fired) := by
  refine ⟨by simp, ?_⟩
  intro j x hx
  rw [Array.getElem?_setIfInBounds]
  by_cases hij : i = j
  · subst hij
    rw [h] at hx; cases hx
    have hlt : i < binds.size := (Array.getElem?_eq_some_iff.1 h).1
    simp only [if_true, hlt]
    exact ⟨_, rfl, BStep.fired hg⟩
  · simp only [hij, if_false]
    exact ⟨x, hx, BStep.refl x⟩

/-- The log grew by items of class `P` and the bindings moved by `BMono`; nothing is said of the store. -/
def Ext (P : LogItem → Prop) (st st' : St) : Prop :=
  (∃ new, st'.log = new ++ st.log ∧ ∀ i ∈ new, P i) ∧ BMono st.binds st'.binds

theorem Ext.refl (P : LogItem → Prop) (st : St) : Ext P st st := ⟨⟨[], rfl, by simp⟩, BMono.refl _⟩

theorem Ext.of_log {P : LogItem → Prop} {st st' : St} (h : st'.log = st.log) (hb : st'.binds = st.binds := by rfl) :
    Ext P st st' := ⟨⟨[], by simpa using h, by simp⟩, BMono.of_eq hb⟩

theorem Ext.trans {P : LogItem → Prop} {a b c : St} (h1 : Ext P a b) (h2 : Ext P b c) : Ext P a c := by
  obtain ⟨⟨n1, e1, p1⟩, b1⟩ := h1
  obtain ⟨⟨n2, e2, p2⟩, b2⟩ := h2
  refine ⟨⟨n2 ++ n1, by rw [e2, e1, List.append_assoc], ?_⟩, b1.trans b2⟩
  intro i hi
  rcases List.mem_append.1 hi with h | h
  · exact p2 i h
  · exact p1 i h

theorem Ext.say {P : LogItem → Prop} (st : St) {i : LogItem} (h : P i) : Ext P st (st.say i) :=
  ⟨⟨[i], rfl, by simpa using h⟩, BMono.refl _⟩

theorem Ext.of_pure {P : LogItem → Prop} {α : Type} {st st' : St} {a b : α}
    (h : (pure (st, a) : Out (St × α)) = Out.ok (st', b)) : Ext P st st' := by
  cases h; exact Ext.refl _ _

/-- The items every class must admit: any `unref` may log `destroyed`, any action of a handler `refused`. -/
structure Quiet (P : LogItem → Prop) : Prop where
  destroyed : ∀ w, P (.destroyed w)
  refused : ∀ a, P (.refused a)

theorem unrefLogged_frame {P : LogItem → Prop} (hq : Quiet P) {st st' : St} {win : WinTree.Id}
    (h : unrefLogged st win = Res.ok st') : Ext P st st' ∧ st'.binds = st.binds := by
  unfold unrefLogged at h
  obtain ⟨w, _, h⟩ := WinTree.bind_ok_iff.1 h
  obtain ⟨t, _, h⟩ := WinTree.bind_ok_iff.1 h
  split at h <;> cases h
  · rw [foldl_destroyed]
    refine ⟨⟨⟨_, rfl, fun i hi => ?_⟩, BMono.refl _⟩, rfl⟩
    obtain ⟨g, _, rfl⟩ := List.mem_map.1 (List.mem_reverse.1 hi)
    exact hq.destroyed g
  · exact ⟨Ext.of_log rfl, rfl⟩

theorem unrefLogged_ext {P : LogItem → Prop} (hq : Quiet P) {st st' : St} {win : WinTree.Id}
    (h : unrefLogged st win = Res.ok st') : Ext P st st' := (unrefLogged_frame hq h).1

theorem refWin_ext {P : LogItem → Prop} {st st' : St} {win : WinTree.Id} (h : refWin st win = Res.ok st') : Ext P st st' := by
  obtain ⟨w, _, e⟩ := refWin_eq_ok h
  subst e; exact Ext.of_log rfl

theorem refAll_ext {P : LogItem → Prop} : ∀ (cs : List WinTree.Id) (st st' : St), refAll st cs = Res.ok st' → Ext P st st'
  | [], _, _, h => by cases h; exact Ext.refl _ _
  | c :: rest, _, _, h => by
    obtain ⟨st1, h1, h2⟩ := WinTree.bind_ok_iff.1 h
    exact (refWin_ext h1).trans (refAll_ext rest _ _ h2)

theorem unrefAll_ext {P : LogItem → Prop} (hq : Quiet P) : ∀ (cs : List WinTree.Id) (st st' : St),
    unrefAll st cs = Res.ok st' → Ext P st st' := by
  intro cs
  induction cs with
  | nil => intro st st' h; simp only [unrefAll, res_pure, Res.ok.injEq] at h; subst h; exact Ext.refl _ _
  | cons c rest ih =>
    intro st st' h
    simp only [unrefAll] at h
    obtain ⟨st1, h1, h2⟩ := WinTree.bind_ok_iff.1 h
    exact (unrefLogged_ext hq h1).trans (ih _ _ h2)

theorem tree_update_ext {P : LogItem → Prop} {st : St} {r : Res Tree} {f : Tree → St} {st' : St}
    (hf : ∀ t, (f t).log = st.log) (hfb : ∀ t, (f t).binds = st.binds) (h : (r >>= fun t => pure (f t)) = Res.ok st') :
    Ext P st st' := by
  obtain ⟨t, _, h⟩ := WinTree.bind_ok_iff.1 h
  simp only [res_pure, Res.ok.injEq] at h
  subst h; exact Ext.of_log (hf t) (hfb t)

theorem doAction_frame {P : LogItem → Prop} (hq : Quiet P) {st st' : St} {a : Action}
    (h : doAction st a = Res.ok st') : Ext P st st' ∧ st'.binds = st.binds := by
  unfold doAction at h
  split at h
  · cases h; exact ⟨Ext.say _ (hq.refused a), rfl⟩
  · cases hact : a.act <;> simp only [hact] at h
    case unref =>
      obtain ⟨e, b⟩ := unrefLogged_frame hq h
      exact ⟨(Ext.of_log (st' := { st with owned := st.owned.setIfInBounds a.win (st.owned.getD a.win 0 - 1) }) rfl).trans e, b⟩
    all_goals
      obtain ⟨t, _, h⟩ := WinTree.bind_ok_iff.1 h
      cases h; exact ⟨Ext.of_log rfl, rfl⟩

theorem doAction_ext {P : LogItem → Prop} (hq : Quiet P) {st st' : St} {a : Action}
    (h : doAction st a = Res.ok st') : Ext P st st' := (doAction_frame hq h).1

theorem doActions_frame {P : LogItem → Prop} (hq : Quiet P) : ∀ (as : List Action) (st st' : St),
    doActions st as = Res.ok st' → Ext P st st' ∧ st'.binds = st.binds := by
  intro as
  induction as with
  | nil => intro st st' h; cases h; exact ⟨Ext.refl _ _, rfl⟩
  | cons a rest ih =>
    intro st st' h
    simp only [doActions] at h
    obtain ⟨st1, h1, h2⟩ := WinTree.bind_ok_iff.1 h
    obtain ⟨e1, b1⟩ := doAction_frame hq h1
    obtain ⟨e2, b2⟩ := ih _ _ h2
    exact ⟨e1.trans e2, b2.trans b1⟩

theorem runBindings_cons_ok {st st' : St} {kind : Kind} {win : WinTree.Id} {ev : Ev} {bi : Nat} {rest : List Nat} {c : Bool}
    (h : runBindings st kind win ev (bi :: rest) = Res.ok (st', c)) :
    ((∀ b, st.binds[bi]? = some b → b.gone = true) ∧ runBindings st kind win ev rest = Res.ok (st', c)) ∨
    ∃ b st1, st.binds[bi]? = some b ∧ b.gone = false ∧
      doActions (({ st with binds := st.binds.setIfInBounds bi b.fired } : St).say
        (.call kind win b.idx (entryIndex b) b.entry.ret ev)) b.entry.actions = Res.ok st1 ∧
      ((b.entry.ret = true ∧ st' = st1 ∧ c = true) ∨
       (b.entry.ret = false ∧ runBindings st1 kind win ev rest = Res.ok (st', c))) := by
  unfold runBindings at h
  cases hb : st.binds[bi]? with
  | none => simp only [hb] at h; exact Or.inl ⟨fun _ e => (nomatch e), h⟩
  | some b =>
    simp only [hb] at h
    cases hg : b.gone with
    | true => rw [hg, if_pos rfl] at h; exact Or.inl ⟨fun _ e => by cases e; exact hg, h⟩
    | false =>
      rw [hg, if_neg Bool.false_ne_true] at h
      obtain ⟨st1, h1, h⟩ := WinTree.bind_ok_iff.1 h
      refine Or.inr ⟨b, st1, rfl, hg, h1, ?_⟩
      cases hr : b.entry.ret with
      | true => rw [hr, if_pos rfl] at h; cases h; exact Or.inl ⟨rfl, rfl, rfl⟩
      | false => rw [hr, if_neg Bool.false_ne_true] at h; exact Or.inr ⟨rfl, h⟩

theorem runBindings_ext {P : LogItem → Prop} (hq : Quiet P) (kind : Kind) (win : WinTree.Id) (ev : Ev)
    (hcall : ∀ i n r, P (.call kind win i n r ev)) :
    ∀ (idxs : List Nat) (st st' : St) (c : Bool), runBindings st kind win ev idxs = Res.ok (st', c) → Ext P st st' := by
  intro idxs
  induction idxs with
  | nil => intro st st' c h; simp only [runBindings, res_pure, Res.ok.injEq, Prod.mk.injEq] at h; rw [← h.1]; exact Ext.refl _ _
  | cons bi rest ih =>
    intro st st' c h
    rcases runBindings_cons_ok h with ⟨_, h⟩ | ⟨b, st1, hb, hg, h1, hc⟩
    · exact ih _ _ _ h
    · have e0 : Ext P st (({ st with binds := st.binds.setIfInBounds bi b.fired } : St).say
          (.call kind win b.idx (entryIndex b) b.entry.ret ev)) :=
        Ext.trans (b := { st with binds := st.binds.setIfInBounds bi b.fired })
          ⟨⟨[], rfl, by simp⟩, BMono.fired hb hg⟩ (Ext.say _ (hcall _ _ _))
      have e1 := e0.trans (doActions_frame hq _ _ _ h1).1
      rcases hc with ⟨_, rfl, _⟩ | ⟨_, h⟩
      · exact e1
      · exact e1.trans (ih _ _ _ h)

theorem runHandlers_ext {P : LogItem → Prop} (hq : Quiet P) (kind : Kind) (win : WinTree.Id) (ev : Ev)
    (hcall : ∀ i n r, P (.call kind win i n r ev)) {st st' : St} {c : Bool}
    (hoffer : P (.offer kind win ev (visibleChain st.tree (treeFuel st.tree) win)))
    (h : runHandlers st kind win ev = Res.ok (st', c)) : Ext P st st' := by
  unfold runHandlers at h
  exact (Ext.say st hoffer).trans (runBindings_ext hq kind win ev hcall _ _ _ _ h)

/-- A predicate on log items that holds of everything a dispatch of `ev` may log: bookkeeping items, calls and
    offers of events of the same kind — for an offer only if, with the visibility repair, its ghost bit is set. -/
structure Routed (cfg : Cfg) (kind : Kind) (ev : Ev) (P : LogItem → Prop) : Prop extends Quiet P where
  call : ∀ w i n r e, sameKind ev e → P (.call kind w i n r e)
  offer : ∀ w e b, sameKind ev e → (cfg.shown = true → b = true) → P (.offer kind w e b)

theorem shownOffer_routed (cfg : Cfg) (hc : cfg.shown = true) (kind : Kind) (ev : Ev) : Routed cfg kind ev ShownOffer :=
  { destroyed := fun _ => trivial, refused := fun _ => trivial, call := fun _ _ _ _ _ _ => trivial,
    offer := fun _ _ _ _ h => h hc }

theorem carries_quiet (Q : Ev → Prop) : Quiet (Carries Q) :=
  ⟨fun _ _ h => (by cases h), fun _ _ h => (by cases h)⟩

theorem carries_routed (cfg : Cfg) (ev : Ev) (Q : Ev → Prop) (hQ : ∀ e, sameKind ev e → Q e) :
    Routed cfg .mouse ev (Carries Q) :=
  { toQuiet := carries_quiet Q,
    call := fun _ _ _ _ e hk e' h => by simp only [evOf, Option.some.injEq] at h; subst h; exact hQ e hk,
    offer := fun _ e _ hk _ e' h => by simp only [evOf, Option.some.injEq] at h; subst h; exact hQ e hk }

theorem trivial_routed (cfg : Cfg) (kind : Kind) (ev : Ev) : Routed cfg kind ev (fun _ => True) :=
  { destroyed := fun _ => trivial, refused := fun _ => trivial, call := fun _ _ _ _ _ _ => trivial,
    offer := fun _ _ _ _ _ => trivial }

theorem ownHandlers_ext {cfg : Cfg} {kind : Kind} {ev e : Ev} {P : LogItem → Prop} (hp : Routed cfg kind ev P)
    (he : sameKind ev e) {st st' : St} {win : WinTree.Id} {own c : Bool}
    (hown : ownVisible cfg st.tree win = Res.ok own) (ho : own = true)
    (h : runHandlers st kind win e = Res.ok (st', c)) : Ext P st st' := by
  apply runHandlers_ext hp.toQuiet kind win e (fun i n r => hp.call win i n r e he) _ h
  apply hp.offer win e _ he
  intro hs
  unfold ownVisible at hown
  simp only [hs, if_true] at hown
  subst ho
  exact isShown_ok _ _ _ _ hown

/-- `Ext` of whatever state `x` returns, if it returns: the form that composes along a `do` block (`ExtO.bind`, `.read`,
    `.step`, `.ite`). -/
def ExtO (P : LogItem → Prop) (st : St) {α : Type} (x : Out (St × α)) : Prop :=
  ∀ st' a, x = Out.ok (st', a) → Ext P st st'

theorem ExtO.pure {P : LogItem → Prop} {st : St} {α : Type} {a : α} : ExtO P st (pure (st, a) : Out (St × α)) :=
  fun _ _ h => Ext.of_pure h

theorem ExtO.bind {P : LogItem → Prop} {st : St} {α β : Type} {x : Out (St × α)} {f : St × α → Out (St × β)}
    (hx : ExtO P st x) (hf : ∀ st1 a, ExtO P st1 (f (st1, a))) : ExtO P st (x >>= f) := by
  intro st' b h
  obtain ⟨⟨st1, a⟩, h1, h2⟩ := out_bind_eq_ok.1 h
  exact (hx st1 a h1).trans (hf st1 a st' b h2)

theorem ExtO.read {P : LogItem → Prop} {st : St} {α β : Type} {r : Res α} {f : α → Out (St × β)}
    (hf : ∀ a, ExtO P st (f a)) : ExtO P st ((liftM r : Out α) >>= f) := by
  intro st' b h
  obtain ⟨a, _, h2⟩ := lift_bind_eq_ok.1 h
  exact hf a st' b h2

theorem ExtO.step {P : LogItem → Prop} {st : St} {β : Type} {r : Res St} {f : St → Out (St × β)}
    (hr : ∀ st1, r = Res.ok st1 → Ext P st st1) (hf : ∀ st1, ExtO P st1 (f st1)) :
    ExtO P st ((liftM r : Out St) >>= f) := by
  intro st' b h
  obtain ⟨st1, h1, h2⟩ := lift_bind_eq_ok.1 h
  exact (hr st1 h1).trans (hf st1 st' b h2)

theorem ExtO.ite {P : LogItem → Prop} {st : St} {α : Type} {c : Prop} [Decidable c] {x y : Out (St × α)}
    (hx : ExtO P st x) (hy : ExtO P st y) : ExtO P st (if c then x else y) := by
  split
  · exact hx
  · exact hy

theorem ExtO.handlers {cfg : Cfg} {kind : Kind} {ev e : Ev} {P : LogItem → Prop} (hp : Routed cfg kind ev P)
    (he : sameKind ev e) {st : St} {win : WinTree.Id} {own : Bool}
    (hown : ownVisible cfg st.tree win = Res.ok own) (ho : own = true) :
    ExtO P st (liftM (runHandlers st kind win e) : Out (St × Bool)) :=
  fun _ _ h => ownHandlers_ext hp he hown ho (lift_eq_ok.1 h)

def KeyRecExt (P : LogItem → Prop) (ev : Ev) (rec : KeyRec) : Prop :=
  ∀ (st : St) (c : WinTree.Id) (st' : St) (d : Bool), rec st c ev = Out.ok (st', d) → Ext P st st'

theorem firstClaim_ext {P : LogItem → Prop} {a : Out (St × Bool)} {k : St → Out (St × Bool)} {st : St}
    (ha : ExtO P st a) (hk : ∀ st1, ExtO P st1 (k st1)) : ExtO P st (firstClaim a k) :=
  ha.bind fun st1 d1 => by
    cases d1 with
    | true => exact .pure
    | false => exact hk st1

theorem keySteal_ext {P : LogItem → Prop} {ev : Ev} {rec : KeyRec} (hrec : KeyRecExt P ev rec) (st : St)
    (win : WinTree.Id) : ExtO P st (keySteal rec st win ev) :=
  .read fun w => by
    cases w.children.head? with
    | none => exact .pure
    | some fc => exact .read fun fw => .ite (hrec st fc) .pure

theorem keyFocus_ext {P : LogItem → Prop} {ev : Ev} {rec : KeyRec} (hrec : KeyRecExt P ev rec) (st : St)
    (win : WinTree.Id) : ExtO P st (keyFocus rec st win ev) :=
  .read fun w => by
    cases w.focusedChild with
    | none => exact .pure
    | some fc => exact hrec st fc

theorem keyOwn_ext {cfg : Cfg} {P : LogItem → Prop} {ev : Ev} (hp : Routed cfg .key ev P) (st : St)
    (win : WinTree.Id) : ExtO P st (keyOwn cfg st win ev) := by
  intro st' d h
  obtain ⟨own, hown, h⟩ := lift_bind_eq_ok.1 h
  cases own with
  | false => exact Ext.of_pure h
  | true => exact ExtO.handlers hp (sameKind.rfl' ev) hown rfl st' d h

theorem keySnap_ext {P : LogItem → Prop} {ev : Ev} {rec : KeyRec} (hrec : KeyRecExt P ev rec) (win : WinTree.Id) :
    ∀ (cs : List WinTree.Id) (st : St), ExtO P st (keySnap rec st win cs ev)
  | [], _ => .pure
  | c :: rest, st => by
    rw [keySnap]
    refine .read fun cw => .ite (keySnap_ext hrec win rest st) (.read fun w => .ite (keySnap_ext hrec win rest st) ?_)
    refine ExtO.bind (hrec st c) fun st1 d1 => ?_
    cases d1 with
    | true => exact .pure
    | false => exact keySnap_ext hrec win rest st1

theorem keyLoop_ext {P : LogItem → Prop} {ev : Ev} {rec : KeyRec} (hrec : KeyRecExt P ev rec) (win : WinTree.Id) :
    ∀ (f : Nat) (child : Option WinTree.Id) (st : St), ExtO P st (keyLoop rec f st win child ev)
  | _, none, _ => by unfold keyLoop; exact .pure
  | 0, some _, _ => fun _ _ h => by cases h
  | f + 1, some c, st => by
    rw [keyLoop]
    -- the saved next sibling is dereferenced: `ub` if a handler freed it
    refine .ite (fun _ _ h => by cases h) ?_
    refine .read fun next => .read fun _ => .ite (keyLoop_ext hrec win f next st) ?_
    refine ExtO.bind (hrec st c) fun st1 d1 => ?_
    cases d1 with
    | true => exact .pure
    | false => exact keyLoop_ext hrec win f next st1

theorem keyChildren_ext {cfg : Cfg} {P : LogItem → Prop} {ev : Ev} (hq : Quiet P) {rec : KeyRec}
    (hrec : KeyRecExt P ev rec) (fuel : Nat) (st : St) (win : WinTree.Id) :
    ExtO P st (keyChildren cfg rec fuel st win ev) :=
  .read fun _ => .ite
    (.step (refAll_ext _ _) fun st4 => ExtO.bind (keySnap_ext hrec win _ st4) fun _ _ =>
      .step (unrefAll_ext hq _ _) fun _ => .pure)
    (keyLoop_ext hrec win _ _ st)

theorem handleKeyBody_ext {cfg : Cfg} {P : LogItem → Prop} {ev : Ev} (hp : Routed cfg .key ev P) {rec : KeyRec}
    (hrec : KeyRecExt P ev rec) (fuel : Nat) : KeyRecExt P ev (handleKeyBody cfg rec fuel) := fun _ win =>
  ExtO.read fun _ => .ite .pure <| .step (fun _ => refWin_ext) fun st1 =>
    ExtO.bind
      (firstClaim_ext (keySteal_ext hrec st1 win) fun stA => firstClaim_ext (keyFocus_ext hrec stA win) fun stB =>
        firstClaim_ext (keyOwn_ext hp stB win) fun stC => keyChildren_ext hp.toQuiet hrec fuel stC win)
      fun _ _ => .step (fun _ => unrefLogged_ext hp.toQuiet) fun _ => .pure

theorem handleKey_ext {cfg : Cfg} {P : LogItem → Prop} {ev : Ev} (hp : Routed cfg .key ev P) :
    ∀ (f : Nat), KeyRecExt P ev (handleKey cfg f)
  | 0 => fun _ _ _ _ h => by cases h
  | f + 1 => handleKeyBody_ext hp (handleKey_ext hp f) f

def MouseRecExt (P : LogItem → Prop) (ev : Ev) (rec : MouseRec) : Prop :=
  ∀ (st : St) (c : WinTree.Id) (e : Ev) (st' : St) (r : Option WinTree.Id), sameKind ev e →
    rec st c e = Out.ok (st', r) → Ext P st st'

theorem mouseSnap_ext {P : LogItem → Prop} {ev : Ev} {rec : MouseRec} (hrec : MouseRecExt P ev rec) (win : WinTree.Id)
    {e : Ev} (he : sameKind ev e) : ∀ (cs : List WinTree.Id) (st : St), ExtO P st (mouseSnap rec st win cs e)
  | [], _ => .pure
  | c :: rest, st => by
    rw [mouseSnap]
    refine .read fun cw => .ite (mouseSnap_ext hrec win he rest st) (.ite (mouseSnap_ext hrec win he rest st) ?_)
    refine ExtO.bind (fun st' r => hrec st c _ st' r (he.toChild cw)) fun st1 r1 => ?_
    cases r1 with
    | some x => exact .pure
    | none => exact mouseSnap_ext hrec win he rest st1

theorem mouseLoop_ext {P : LogItem → Prop} {ev : Ev} {rec : MouseRec} (hrec : MouseRecExt P ev rec) {e : Ev}
    (he : sameKind ev e) : ∀ (f : Nat) (child : Option WinTree.Id) (st : St), ExtO P st (mouseLoop rec f st child e)
  | _, none, _ => by unfold mouseLoop; exact .pure
  | 0, some _, _ => fun _ _ h => by cases h
  | f + 1, some c, st => by
    rw [mouseLoop]
    -- the saved next sibling is dereferenced: `ub` if a handler freed it
    refine .ite (fun _ _ h => by cases h) ?_
    refine .read fun next => .read fun cw => .ite (mouseLoop_ext hrec he f next st) ?_
    refine ExtO.bind (fun st' r => hrec st c _ st' r (he.toChild cw)) fun st1 r1 => ?_
    cases r1 with
    | some x => exact .pure
    | none => exact mouseLoop_ext hrec he f next st1

theorem mouseChildren_ext {cfg : Cfg} {P : LogItem → Prop} {ev e : Ev} (hq : Quiet P) {rec : MouseRec}
    (hrec : MouseRecExt P ev rec) (he : sameKind ev e) (fuel : Nat) (st : St) (win : WinTree.Id) :
    ExtO P st (mouseChildren cfg rec fuel st win e) :=
  .read fun _ => .ite
    (.step (refAll_ext _ _) fun st4 => ExtO.bind (mouseSnap_ext hrec win he _ st4) fun _ _ =>
      .step (unrefAll_ext hq _ _) fun _ => .pure)
    (mouseLoop_ext hrec he _ _ st)

theorem mouseOwn_ext {cfg : Cfg} {P : LogItem → Prop} {ev e : Ev} (hp : Routed cfg .mouse ev P) (he : sameKind ev e)
    (st : St) (win : WinTree.Id) : ExtO P st (mouseOwn cfg st win e) := by
  intro st' r h
  obtain ⟨own, hown, h⟩ := lift_bind_eq_ok.1 h
  cases own with
  | false => exact Ext.of_pure h
  | true =>
    simp only [Bool.not_true, Bool.false_eq_true, if_false] at h
    refine (ExtO.bind (ExtO.handlers hp he hown rfl) fun st1 d1 => .ite .pure ?_) st' r h
    exact .step (fun st2 h2 => by split at h2; exact refWin_ext h2; cases h2; exact Ext.refl _ _) fun _ => .pure

theorem handleMouseBody_ext {cfg : Cfg} {P : LogItem → Prop} {ev : Ev} (hp : Routed cfg .mouse ev P) {rec : MouseRec}
    (hrec : MouseRecExt P ev rec) (fuel : Nat) : MouseRecExt P ev (handleMouseBody cfg rec fuel) := fun st win e st' r he =>
  (ExtO.read fun _ => .ite .pure <| .step (fun _ => refWin_ext) fun st1 =>
    ExtO.bind (mouseChildren_ext hp.toQuiet hrec he fuel st1 win) fun st2 r2 =>
    ExtO.bind (by cases r2 with
        | some x => exact .pure
        | none => exact mouseOwn_ext hp he st2 win) fun _ _ =>
    .read fun _ => .step (fun _ => unrefLogged_ext hp.toQuiet) fun _ => .pure) st' r

theorem handleMouse_ext {cfg : Cfg} {P : LogItem → Prop} {ev : Ev} (hp : Routed cfg .mouse ev P) :
    ∀ (f : Nat), MouseRecExt P ev (handleMouse cfg f)
  | 0 => fun _ _ _ _ _ _ h => by cases h
  | f + 1 => handleMouseBody_ext hp (handleMouse_ext hp f) f

theorem dropResult_ext {cfg : Cfg} {P : LogItem → Prop} (hq : Quiet P) {st st' : St} {r : Option WinTree.Id}
    (h : dropResult cfg st r = Res.ok st') : Ext P st st' := by
  unfold dropResult at h
  cases r with
  | none => simp only [res_pure, Res.ok.injEq] at h; subst h; exact Ext.refl _ _
  | some x =>
    simp only at h
    by_cases hc : cfg.counted = true
    · simp only [hc, if_true] at h; exact unrefLogged_ext hq h
    · simp only [hc, Bool.false_eq_true, if_false, res_pure, Res.ok.injEq] at h; subst h; exact Ext.refl _ _

theorem dragSourceSet_ext {cfg : Cfg} {P : LogItem → Prop} (hq : Quiet P) {st st' : St} {src : Option WinTree.Id}
    (h : dragSourceSet cfg st src = Res.ok st') : Ext P st st' := by
  unfold dragSourceSet at h
  by_cases hc : cfg.counted = true
  · simp only [hc, Bool.not_true, Bool.false_eq_true, if_false] at h
    cases src with
    | none => simp only [res_pure, Res.ok.injEq] at h; subst h; exact Ext.of_log rfl
    | some x =>
      simp only at h
      have e2 := unrefLogged_ext (P := P) hq h
      exact (Ext.of_log (P := P) (st := st) rfl).trans e2
  · simp only [hc, Bool.not_false, if_true, res_pure, Res.ok.injEq] at h; subst h; exact Ext.of_log rfl

/-- `hp`: the class of the synthesised event, whatever cell it is given. -/
theorem toDragSource_ext {cfg : Cfg} {P : LogItem → Prop} {fuel : Nat} {st st' : St} {src : WinTree.Id} {type : Int} {ev : Ev}
    (hp : Routed cfg .mouse { type := type, button := ev.button } P)
    (h : toDragSource cfg fuel st src type ev = Out.ok st') : Ext P st st' := by
  unfold toDragSource at h
  by_cases hal : (!isAlive st.tree src) = true
  · simp [hal] at h
  rw [if_neg hal] at h
  simp only at h
  obtain ⟨geom, _, h⟩ := lift_bind_eq_ok.1 h
  obtain ⟨⟨st1, r⟩, h1, h⟩ := out_bind_eq_ok.1 h
  exact (handleMouse_ext hp fuel _ _ _ _ _ (by exact ⟨rfl, rfl, rfl⟩) h1).trans (dropResult_ext hp.toQuiet (lift_eq_ok.1 h))

theorem dragStop_ext {cfg : Cfg} {P : LogItem → Prop} {fuel : Nat} {st st' : St} {ev : Ev}
    (hp : Routed cfg .mouse { type := evDragStop, button := ev.button } P)
    (h : dragStop cfg fuel st ev = Out.ok st') : Ext P st st' := by
  unfold dragStop at h
  cases hs : st.tree.root.dragSource with
  | none => rw [hs] at h; cases h; exact Ext.refl _ _
  | some src => rw [hs] at h; exact toDragSource_ext hp h

theorem dragOutside_ext {cfg : Cfg} {P : LogItem → Prop} {fuel : Nat} {st st' : St} {ev : Ev} {handled : Option WinTree.Id}
    (hp : ev.type = evDrag → Routed cfg .mouse { type := evDragOutside, button := ev.button } P)
    (h : dragOutside cfg fuel st ev handled = Out.ok st') : Ext P st st' := by
  unfold dragOutside at h
  cases hs : st.tree.root.dragSource with
  | none => rw [hs] at h; cases h; exact Ext.refl _ _
  | some src =>
    simp only [hs] at h
    by_cases hc : (ev.type = evDrag && handled ≠ some src) = true
    · rw [if_pos hc] at h
      simp only [Bool.and_eq_true, decide_eq_true_eq] at hc
      exact toDragSource_ext (hp hc.1) h
    · rw [if_neg hc] at h; cases h; exact Ext.refl _ _

/-- The classes of log items of the events `on_term_mouse` synthesises in front of `ev`, given the root's press memory:
    DRAG_START (button of the press) and DRAG_DROP log in `P1`, DRAG_STOP in `P2`; each is asked for only under the test
    that makes the dispatch happen. -/
structure DragClasses (cfg : Cfg) (root : Root) (ev : Ev) (P1 P2 : LogItem → Prop) : Prop where
  start : ev.type = evDrag → root.mouseDragging = false →
    Routed cfg .mouse { type := evDragStart, button := root.mouseLastButton } P1
  drop : ev.type = evRelease → root.mouseDragging = true → Routed cfg .mouse { type := evDragDrop, button := ev.button } P1
  stop : ev.type = evRelease → root.mouseDragging = true → Routed cfg .mouse { type := evDragStop, button := ev.button } P2

/-- A press logs nothing; the first DRAG logs DRAG_START; the RELEASE that ends a drag logs DRAG_DROP and then DRAG_STOP. -/
theorem dragPrelude_seg {cfg : Cfg} {P1 P2 : LogItem → Prop} {fuel : Nat} {st st' : St} {ev : Ev}
    (hc : DragClasses cfg st.tree.root ev P1 P2) (h : dragPrelude cfg fuel st ev = Out.ok st') :
    ∃ mid, Ext P1 st mid ∧ Ext P2 mid st' := by
  unfold dragPrelude at h
  by_cases c1 : ev.type = evPress
  · rw [if_pos c1] at h; cases h; exact ⟨st, Ext.refl _ _, Ext.of_log rfl⟩
  rw [if_neg c1] at h
  by_cases c2 : (ev.type = evDrag && !st.tree.root.mouseDragging) = true
  · rw [if_pos c2] at h
    obtain ⟨⟨sa, src⟩, ha, h⟩ := out_bind_eq_ok.1 h
    obtain ⟨sb, hb, h⟩ := lift_bind_eq_ok.1 h
    cases h
    simp only [Bool.and_eq_true, decide_eq_true_eq, Bool.not_eq_true'] at c2
    have hs := hc.start c2.1 c2.2
    exact ⟨_, ((handleMouse_ext hs fuel _ _ _ _ _ (by exact ⟨rfl, rfl, rfl⟩) ha).trans (dragSourceSet_ext hs.toQuiet hb)).trans
      (Ext.of_log rfl), Ext.refl _ _⟩
  rw [if_neg c2] at h
  by_cases c3 : (ev.type = evRelease && st.tree.root.mouseDragging) = true
  · rw [if_pos c3] at h
    obtain ⟨⟨sa, dropped⟩, ha, h⟩ := out_bind_eq_ok.1 h
    obtain ⟨sb, hb, h⟩ := lift_bind_eq_ok.1 h
    obtain ⟨sc, hcc, h⟩ := out_bind_eq_ok.1 h
    cases h
    simp only [Bool.and_eq_true, decide_eq_true_eq] at c3
    have hd := hc.drop c3.1 c3.2
    exact ⟨sb, (handleMouse_ext hd fuel _ _ _ _ _ (by exact ⟨rfl, rfl, rfl⟩) ha).trans (dropResult_ext hd.toQuiet hb),
      (dragStop_ext (hc.stop c3.1 c3.2) hcc).trans (Ext.of_log rfl)⟩
  · rw [if_neg c3] at h; cases h; exact ⟨st, Ext.refl _ _, Ext.refl _ _⟩

theorem onTermMouse_ok {cfg : Cfg} {fuel : Nat} {st st' : St} {ev : Ev} {r : Bool}
    (h : onTermMouse cfg fuel st ev = Out.ok (st', r)) :
    ∃ st0 st1 st2 handled st3 st4, refWin st 0 = Res.ok st0 ∧ dragPrelude cfg fuel st0 ev = Out.ok st1 ∧
      handleMouse cfg fuel st1 0 ev = Out.ok (st2, handled) ∧ dragOutside cfg fuel st2 ev handled = Out.ok st3 ∧
      dropResult cfg st3 handled = Res.ok st4 ∧ unrefLogged st4 0 = Res.ok st' ∧ r = handled.isSome := by
  unfold onTermMouse at h
  obtain ⟨st0, h0, h⟩ := lift_bind_eq_ok.1 h
  obtain ⟨st1, h1, h⟩ := out_bind_eq_ok.1 h
  obtain ⟨⟨st2, handled⟩, h2, h⟩ := out_bind_eq_ok.1 h
  obtain ⟨st3, h3, h⟩ := out_bind_eq_ok.1 h
  obtain ⟨st4, h4, h⟩ := lift_bind_eq_ok.1 h
  obtain ⟨st5, h5, h⟩ := lift_bind_eq_ok.1 h
  simp only [out_pure, Out.ok.injEq, Prod.mk.injEq] at h
  obtain ⟨rfl, rfl⟩ := h
  exact ⟨st0, st1, st2, handled, st3, st4, h0, h1, h2, h3, h4, h5, rfl⟩

/-- What `on_term_mouse` logs, one stretch per dispatch: the synthesised events in front (`dragPrelude_seg`), then the
    event itself with DRAG_OUTSIDE behind it, `P3`. -/
theorem onTermMouse_seg {cfg : Cfg} {P1 P2 P3 : LogItem → Prop} {fuel : Nat} {st st' : St} {ev : Ev} {r : Bool}
    (hc : DragClasses cfg st.tree.root ev P1 P2) (hev : Routed cfg .mouse ev P3)
    (hout : ev.type = evDrag → Routed cfg .mouse { type := evDragOutside, button := ev.button } P3)
    (h : onTermMouse cfg fuel st ev = Out.ok (st', r)) :
    ∃ s1 s2, Ext P1 st s1 ∧ Ext P2 s1 s2 ∧ Ext P3 s2 st' := by
  obtain ⟨st0, st1, st2, handled, st3, st4, h0, h1, h2, h3, h4, h5, _⟩ := onTermMouse_ok h
  obtain ⟨w0, _, e0⟩ := refWin_eq_ok h0
  subst e0
  -- `tickit_window_ref` leaves the root record alone (`root_set`): `hc` speaks of the state the prelude starts in
  obtain ⟨mid, e1, e2⟩ := dragPrelude_seg (st := { st with tree := WinTree.set st.tree 0 _ }) hc h1
  exact ⟨mid, st1, (Ext.of_log rfl).trans e1, e2,
    ((handleMouse_ext hev fuel _ _ _ _ _ (sameKind.rfl' _) h2).trans (dragOutside_ext hout h3)).trans
      ((dropResult_ext hev.toQuiet h4).trans (unrefLogged_ext hev.toQuiet h5))⟩

/-- …as a log: the three stretches, newest first. -/
theorem onTermMouse_logs {cfg : Cfg} {P1 P2 P3 : LogItem → Prop} {fuel : Nat} {st st' : St} {ev : Ev} {r : Bool}
    (hc : DragClasses cfg st.tree.root ev P1 P2) (hev : Routed cfg .mouse ev P3)
    (hout : ev.type = evDrag → Routed cfg .mouse { type := evDragOutside, button := ev.button } P3)
    (h : onTermMouse cfg fuel st ev = Out.ok (st', r)) :
    ∃ n1 n2 n3, st'.log = n3 ++ n2 ++ n1 ++ st.log ∧ (∀ i ∈ n1, P1 i) ∧ (∀ i ∈ n2, P2 i) ∧ (∀ i ∈ n3, P3 i) := by
  obtain ⟨s1, s2, e1, e2, e3⟩ := onTermMouse_seg hc hev hout h
  obtain ⟨n1, l1, p1⟩ := e1.1
  obtain ⟨n2, l2, p2⟩ := e2.1
  obtain ⟨n3, l3, p3⟩ := e3.1
  exact ⟨n1, n2, n3, by rw [l3, l2, l1]; simp only [List.append_assoc], p1, p2, p3⟩

theorem onTerm_ext {cfg : Cfg} {P : LogItem → Prop} {fuel : Nat} {st st' : St} {ev : Ev} {r : Bool}
    (hk : Routed cfg .key ev P) (hm : ∀ e, Routed cfg .mouse e P)
    (h : onTermKey cfg fuel st ev = Out.ok (st', r) ∨ onTermMouse cfg fuel st ev = Out.ok (st', r)) : Ext P st st' := by
  rcases h with h | h
  · exact handleKey_ext hk fuel st 0 st' r h
  · obtain ⟨s1, s2, e1, e2, e3⟩ := onTermMouse_seg ⟨fun _ _ => hm _, fun _ _ => hm _, fun _ _ => hm _⟩ (hm ev) (fun _ => hm _) h
    exact (e1.trans e2).trans e3

/-- `tickit_term_emit_mouse`: the dispatch of `on_term_mouse`, then the note that nobody claimed the event, if so. -/
theorem emitMouse_ok {cfg : Cfg} {st st' : St} {ev : Ev} (h : emitMouse cfg st ev = Out.ok st') :
    ∃ s handled, onTermMouse cfg (routeFuel st.tree) st ev = Out.ok (s, handled) ∧
      st' = if handled then s else s.say .unhandled := by
  unfold emitMouse at h
  obtain ⟨⟨s, handled⟩, h1, h2⟩ := out_bind_eq_ok.1 h
  exact ⟨s, handled, h1, (Out.ok.inj h2).symm⟩

theorem emitKey_ok {cfg : Cfg} {st st' : St} {ev : Ev} (h : emitKey cfg st ev = Out.ok st') :
    ∃ s handled, onTermKey cfg (routeFuel st.tree) st ev = Out.ok (s, handled) ∧
      st' = if handled then s else s.say .unhandled := by
  unfold emitKey at h
  obtain ⟨⟨s, handled⟩, h1, h2⟩ := out_bind_eq_ok.1 h
  exact ⟨s, handled, h1, (Out.ok.inj h2).symm⟩

end WinInput
end Tickit
