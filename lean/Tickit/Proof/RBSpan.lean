import Tickit.Model.RBSpan
import Tickit.Proof.RBUtf8
/-
  Proofs about `Model/RBSpan.lean`: the formatted-text path never truncates, and the span query answers from the
  abstract content when the two statements of `get_span` read as repaired (fixes/C03_get_span.patch).
-/
namespace Tickit.RB
open Tickit.RBAbs

theorem tmpGrow_ge : ∀ (fuel size need : Nat), 0 < size → need ≤ size + fuel → need ≤ tmpGrow fuel size need := by
  intro fuel
  induction fuel with
  | zero => intro size need _ h; unfold tmpGrow; omega
  | succ f ih =>
    intro size need h0 h
    unfold tmpGrow
    split
    · exact ih (size * 2) need (by omega) (by omega)
    · omega

theorem tmpGrow_mono : ∀ (fuel size need : Nat), size ≤ tmpGrow fuel size need := by
  intro fuel
  induction fuel with
  | zero => intro size need; unfold tmpGrow; exact Nat.le_refl _
  | succ f ih =>
    intro size need
    unfold tmpGrow
    split
    · exact Nat.le_trans (by omega) (ih (size * 2) need)
    · exact Nat.le_refl _

theorem tmpAlloc_ge (tmpsize need : Nat) (h : 0 < tmpsize) : need ≤ tmpAlloc tmpsize need ∧ tmpsize ≤ tmpAlloc tmpsize need :=
  ⟨tmpGrow_ge _ _ _ h (by omega), tmpGrow_mono _ _ _⟩

/-- `put_vtextf` hands the whole formatted result to `put_text` whenever the scratch area is requested with
    room for the terminator (`slack ≥ 1`). -/
theorem vtextfWith_exact (cfg : VtextfCfg) (hs : 1 ≤ cfg.slack) (tmpsize : Nat) (h : 0 < tmpsize) (s : List UInt8) :
    ∃ size, vtextfWith cfg tmpsize s = some (s, size) ∧ tmpsize ≤ size := by
  unfold vtextfWith
  split
  · exact ⟨tmpsize, rfl, Nat.le_refl _⟩
  · obtain ⟨a, b⟩ := tmpAlloc_ge tmpsize (s.length + cfg.slack) h
    refine ⟨tmpAlloc tmpsize (s.length + cfg.slack), ?_, b⟩
    simp only
    rw [if_neg (by omega)]
    have e1 : s.take (tmpAlloc tmpsize (s.length + cfg.slack) - 1) = s := List.take_of_length_le (by omega)
    rw [e1, List.take_append_of_le_length (Nat.le_refl _), List.take_length]

/-- With no slack a result exactly as long as the scratch area loses its last byte to the terminator. -/
theorem vtextfWith_noslack_truncates :
    vtextfWith ⟨2, 0⟩ 4 [65, 66, 67, 68] = some ([65, 66, 67, 0], 4) := by decide

theorem shiftContent_cell (start : Cell) (off i : Int) :
    shiftContent (cellContent start off) i = cellContent start (off + i) := by
  unfold cellContent shiftContent
  cases start.state <;> simp only [Int.add_assoc]

theorem run_homogeneous {rb : RB} (wf : WF rb) (L sc off : Int) (hL0 : 0 ≤ L) (hL : L < rb.lines) (h0 : 0 ≤ sc) (hn : sc < rb.cols)
    (hs : ((rb.cells L).get sc).state ≠ .cont) (ho0 : 0 ≤ off) (ho : off < ((rb.cells L).get sc).cols) :
    homogeneous (absOf rb) L (sc + off) (((rb.cells L).get sc).cols - off) = true ∧
    absContent rb L (sc + off) = cellContent ((rb.cells L).get sc) off := by
  have hrow := wf.rows L hL0 hL
  have hlen := hrow.start_len sc h0 hn hs
  have hhere := absContent_run wf.runsOK hL0 hL h0 hn hs ho0 ho
  refine ⟨?_, hhere⟩
  unfold homogeneous
  have ec : (absOf rb).content = absContent rb := rfl
  have ecols : (absOf rb).cols = rb.cols := rfl
  rw [ec, ecols, hhere]
  simp only [Bool.and_eq_true, decide_eq_true_eq, List.all_eq_true, List.mem_range]
  refine ⟨⟨⟨⟨by omega, by omega⟩, by omega⟩, ?_⟩, ?_⟩
  · unfold cellContent
    cases hst : ((rb.cells L).get sc).state <;> simp only [decide_eq_true_eq]
    · have := hrow.one sc h0 hn (Or.inl hst); omega
    · have := hrow.one sc h0 hn (Or.inr hst); omega
  · intro i hi
    rw [Int.add_assoc, absContent_run wf.runsOK hL0 hL h0 hn hs (by omega : 0 ≤ off + (i : Int)) (by omega), shiftContent_cell]
    exact beq_self_eq_true _

/-- The answer of `tickit_renderbuffer_get_span` once the run (`start`, `off`) has been found. -/
def spanOutOf (cfg : SpanCfg) (sp : SpanRef) (info infoPen buf : Bool) (len : Nat) : SpanOut :=
  let ncols : Option Int := if info then some (sp.cell.cols - sp.offset) else none
  if sp.cell.state = .skip then
    { ret := 0, nColumns := ncols, isActive := if info then some false else none }
  else
    let t := getSpanText cfg sp false (if buf then some len else none)
    { ret := if cfg.returnsTextLen then t.ret else len
      nColumns := ncols
      isActive := if info then some true else none
      pen := if info && infoPen then some (Pen.copy Pen.empty sp.cell.pen true) else none
      len := if info then some t.ret else none
      textSet := info
      bytes := t.bytes, term := t.term }

theorem getSpanQ_eq (cfg : SpanCfg) (rb : RB) (line col : Int) (info infoPen buf : Bool) (len : Nat) :
    getSpanQ cfg rb line col info infoPen buf len =
      match getSpan rb line col with
      | none => { ret := -1 }
      | some sp => if sp.cell.state = .cont then { ret := -1 } else spanOutOf cfg sp info infoPen buf len := by
  unfold getSpanQ spanOutOf
  rfl

theorem putOut_spec (buf : Bool) (len : Nat) (cp : Nat) :
    putOut (if buf then some len else none) cp =
      ⟨if (!buf || decide (((Utf8.put cp).length : Int) ≤ (len : Int))) then ((Utf8.put cp).length : Int) else -1,
       if (buf && (!buf || decide (((Utf8.put cp).length : Int) ≤ (len : Int)))) then Utf8.put cp else [],
       buf && decide ((len : Int) > ((Utf8.put cp).length : Int))⟩ := by
  unfold putOut textFin
  cases buf
  · simp
  · simp only [if_true, Bool.not_true, Bool.false_or, Bool.true_and]
    by_cases h : len < (Utf8.put cp).length
    · rw [if_pos h]
      have h1 : ¬ (((Utf8.put cp).length : Int) ≤ (len : Int)) := by omega
      have h2 : ¬ ((len : Int) > ((Utf8.put cp).length : Int)) := by omega
      simp [h1, h2]
    · rw [if_neg h]
      have h1 : ((Utf8.put cp).length : Int) ≤ (len : Int) := by omega
      simp [h1]

theorem specSpanOut_nColumns (ct : Content) (n : Int) (info infoPen buf : Bool) (len : Nat) :
    (specSpanOut ct n info infoPen buf len).nColumns = if info then some n else none := by
  unfold specSpanOut
  simp only
  split <;> rfl

/-- `⟨true, true⟩`: both statements of `get_span` read as repaired. -/
theorem spanOutOf_spec (start : Cell) (off : Int) (hs : start.state ≠ .cont) (info infoPen buf : Bool) (len : Nat) :
    spanOutOf ⟨true, true⟩ ⟨start, off⟩ info infoPen buf len =
      specSpanOut (cellContent start off) (start.cols - off) info infoPen buf len := by
  unfold spanOutOf specSpanOut
  simp only
  cases hst : start.state with
  | cont => exact absurd hst hs
  | skip => simp [cellContent, hst, contentPen]
  | erase =>
    simp only [cellContent, hst, contentPen, getSpanText, specSpanLen, specSpanBytes, Pen.copy_empty, if_true,
      reduceCtorEq, if_false]
    cases buf <;> simp [textFin]
  | line =>
    simp only [cellContent, hst, contentPen, getSpanText, specSpanLen, specSpanBytes, Pen.copy_empty, if_true,
      reduceCtorEq, if_false, putOut_spec]
  | char =>
    simp only [cellContent, hst, contentPen, getSpanText, specSpanLen, specSpanBytes, Pen.copy_empty, if_true,
      reduceCtorEq, if_false, putOut_spec]
  | text =>
    have e : start.offs + off + (start.cols - off) = start.offs + start.cols := by omega
    simp only [cellContent, hst, contentPen, getSpanText, specSpanLen, specSpanBytes, Pen.copy_empty, if_true,
      reduceCtorEq, if_false, Bool.false_eq_true, e]
    generalize (Utf8.ncountmore start.text none {} (some (Utf8.limitColumns (start.offs + off)))).pos = st
    generalize (Utf8.ncountmore start.text none st (some (Utf8.limitColumns (start.offs + start.cols)))).pos = en
    cases buf
    · simp [textFin]
    · simp only [if_true, Bool.not_true, Bool.false_or, Bool.true_and]
      by_cases h : (len : Int) < en.bytes - st.bytes
      · rw [if_pos h]
        have h1 : ¬ (en.bytes - st.bytes ≤ (len : Int)) := by omega
        have h2 : ¬ ((len : Int) > en.bytes - st.bytes) := by omega
        simp [h1, h2]
      · rw [if_neg h]
        have h1 : en.bytes - st.bytes ≤ (len : Int) := by omega
        simp [h1, textFin]

/-- With a buffer and `one_grapheme = 1` the general text function is `getSpanText1`, the model of `get_cell_text`,
    whichever way the two statements of the span query read. -/
theorem getSpanText_one (cfg : SpanCfg) (sp : SpanRef) (len : Nat) :
    (getSpanText cfg sp true (some len)).ret = (getSpanText1 sp len).1 ∧
    (getSpanText cfg sp true (some len)).bytes = (getSpanText1 sp len).2 := by
  unfold getSpanText getSpanText1
  cases sp.cell.state with
  | cont => exact ⟨rfl, rfl⟩
  | skip => exact ⟨rfl, rfl⟩
  | erase => exact ⟨rfl, rfl⟩
  | text =>
    simp only [if_true]
    split <;> exact ⟨rfl, rfl⟩
  | line =>
    simp only [putOut]
    split <;> exact ⟨rfl, rfl⟩
  | char =>
    simp only [putOut]
    split <;> exact ⟨rfl, rfl⟩

theorem getCellTextQ_eq (rb : RB) (l c : Int) (len : Nat) :
    (getCellTextQ rb l c (some len)).ret = (getCellText rb l c len).1 ∧
    (getCellTextQ rb l c (some len)).bytes = (getCellText rb l c len).2 := by
  unfold getCellTextQ getCellText
  cases getSpan rb l c with
  | none => exact ⟨rfl, rfl⟩
  | some sp =>
    simp only
    split
    · exact ⟨rfl, rfl⟩
    · exact getSpanText_one _ _ _

/-- `tickit_renderbuffer_get_span`, by the abstract content (repaired text): `-1` and nothing stored exactly for cells
    outside the clipping region; otherwise a piece of `n` columns that is homogeneous in the abstract content, however
    the runs around it were split, shortened or re-pointed. -/
theorem getSpanQ_abs {rb : RB} (wf : WF rb) (l c : Int) (info infoPen buf : Bool) (len : Nat) :
    if absClipRect rb.clip (l + rb.xlLine) (c + rb.xlCol) = true then
      ∃ n, homogeneous (absOf rb) (l + rb.xlLine) (c + rb.xlCol) n = true ∧
        getSpanQ ⟨true, true⟩ rb l c info infoPen buf len =
          specSpanOut (absContent rb (l + rb.xlLine) (c + rb.xlCol)) n info infoPen buf len
    else getSpanQ ⟨true, true⟩ rb l c info infoPen buf len = { ret := -1 } := by
  rw [getSpanQ_eq]
  have S := getSpan_spec wf l c
  by_cases hcl : absClipRect rb.clip (l + rb.xlLine) (c + rb.xlCol) = true
  · rw [if_pos hcl] at S ⊢
    obtain ⟨sc, off, e, a1, a2, a3, a4, hs, o0, o1, eq⟩ := S
    rw [e]
    simp only
    rw [if_neg hs]
    obtain ⟨hh, hcnt⟩ := run_homogeneous wf _ sc off a1 a2 a3 a4 hs o0 o1
    rw [eq] at hh hcnt
    exact ⟨_, hh, by rw [hcnt]; exact spanOutOf_spec _ _ hs _ _ _ _⟩
  · rw [if_neg hcl] at S ⊢
    rw [S]

open Tickit.Utf8 (specRun) in
open Tickit.Props.C07 (Scans graphemes) in
/-- The text of `n` columns of a string from column `k` on, in C07's terms.  A double-width character straddling
    column `k` starts at `st` and is included; one straddling column `k + n` does not fit and is not. -/
theorem spanText_text_c07 (p : Pen) (s : List UInt8) (k n : Int) :
    ∃ cs1 t1 cs2 t2 st en,
      Scans (Utf8.memOf s) (s.length + 1) none Tickit.Utf8.Pos.zero cs1 t1 ∧
      st = (specRun (some ⟨none, -1, -1, k⟩) (graphemes cs1) t1 Tickit.Utf8.Pos.zero).pos ∧
      Scans (Utf8.memOf s) (s.length + 1) none st cs2 t2 ∧
      en = (specRun (some ⟨none, -1, -1, k + n⟩) (graphemes cs2) t2 st).pos ∧
      specSpanBytes (.text p s k) n = (s.drop st.bytes).take (en.bytes - st.bytes) ∧
      specSpanLen (.text p s k) n = (en.bytes : Int) - st.bytes := by
  obtain ⟨cs1, t1, cs2, t2, st, en, hs1, hst, hs2, hen, hp1, hp2⟩ :=
    two_counts s k (fun _ => Utf8.limitColumns (k + n)) (fun _ => ⟨none, -1, -1, k + n⟩)
      (fun _ => by simp [Utf8.limitColumns]) (fun _ => by simp [Utf8.limitColumns, Utf8.toLimit])
  refine ⟨cs1, t1, cs2, t2, st, en, hs1, hst, hs2, hen, ?_, ?_⟩
  · unfold specSpanBytes
    simp only
    rw [hp1, hp2]
    exact bytes_between s st en
  · unfold specSpanLen
    simp only
    rw [hp1, hp2]
    rfl

open Tickit.Utf8 (specRun) in
open Tickit.Props.C07 (Scans graphemes) in
/-- Both counts taken from the start of the string.  The code counts the second time from `st`;
    `Props.C07.count_resumable` says that this ends where a single count would. -/
theorem spanText_between_counts (p : Pen) (s : List UInt8) (k n : Int) (hk : 0 ≤ k) (hn : 0 ≤ n) :
    ∃ cs t st en,
      Scans (Utf8.memOf s) (s.length + 1) none Tickit.Utf8.Pos.zero cs t ∧
      st = (specRun (some ⟨none, -1, -1, k⟩) (graphemes cs) t Tickit.Utf8.Pos.zero).pos ∧
      en = (specRun (some ⟨none, -1, -1, k + n⟩) (graphemes cs) t Tickit.Utf8.Pos.zero).pos ∧
      st.bytes ≤ en.bytes ∧
      specSpanBytes (.text p s k) n = (s.drop st.bytes).take (en.bytes - st.bytes) ∧
      specSpanLen (.text p s k) n = (en.bytes : Int) - st.bytes := by
  obtain ⟨cs1, t1, cs2, t2, st, en, hs1, hst, hs2, hen, hb, hl⟩ := spanText_text_c07 p s k n
  have hle : Tickit.Utf8.LimitLe (some ⟨none, -1, -1, k⟩) (some ⟨none, -1, -1, k + n⟩) := by
    intro q h
    simp [Tickit.Utf8.Within, Tickit.Utf8.leOpt] at h ⊢
    omega
  obtain ⟨h1, hc1⟩ := Props.C07.count_spec (Utf8.memOf s) (s.length + 1) none Tickit.Utf8.Pos.zero (some ⟨none, -1, -1, k⟩) cs1 t1 hs1
  rw [← hst] at hc1
  obtain ⟨r2, r3, q, h2, h3, e2, e3, _, _⟩ := Props.C07.count_resumable (Utf8.memOf s) (s.length + 1) none Tickit.Utf8.Pos.zero
    (some ⟨none, -1, -1, k⟩) (some ⟨none, -1, -1, k + n⟩) cs1 t1 hs1 hle (fun l h => by cases h) _ st h1 hc1
  obtain ⟨h4, hc4⟩ := Props.C07.count_spec (Utf8.memOf s) (s.length + 1) none st (some ⟨none, -1, -1, k + n⟩) cs2 t2 hs2
  rw [← hen] at hc4
  obtain ⟨h5, hc5⟩ := Props.C07.count_spec (Utf8.memOf s) (s.length + 1) none Tickit.Utf8.Pos.zero (some ⟨none, -1, -1, k + n⟩) cs1 t1 hs1
  have q1 : q = en := by
    rw [e2] at hc4
    injection hc4 with _ a _
  have q2 : q = (specRun (some ⟨none, -1, -1, k + n⟩) (graphemes cs1) t1 Tickit.Utf8.Pos.zero).pos := by
    rw [e3] at hc5
    injection hc5 with _ a _
  have hge : st.bytes ≤ en.bytes := by
    rw [hen]
    exact Tickit.Utf8.specRun_bytes_ge _ t2 _ st
  exact ⟨cs1, t1, st, en, hs1, hst, by rw [← q1, q2], hge, hb, hl⟩

end Tickit.RB
