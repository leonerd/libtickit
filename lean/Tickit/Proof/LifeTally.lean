import Tickit.Proof.LifeKeys
/-
  C08: under `Tally` (Proof/LifeState.lean: what `tickit_window_unref`, with its cascade and the release of what the dead
  windows owned, leaves of pens, strings, buffers and the terminal) a pen, string, buffer or terminal the application
  does not hold stays so; with `WLater` (what was freed stays freed, the application takes no window reference) that is
  `EndRel`, what holds between the states before and after something that only releases.
-/
namespace Tickit.Life
open WinTree (Id Win Req Change Tree)

theorem Tally.heldP {a b : St} (T : Tally a b) {k : Nat} (h : heldP a k = false) : heldP b k = false := by
  unfold Life.heldP at h ⊢
  cases ha : a.pens[k]? with
  | none =>
    have : b.pens[k]? = none := Option.eq_none_iff_forall_ne_some.2 fun q hb => by
      obtain ⟨p, hp⟩ := get_of_size_eq T.psize hb
      rw [ha] at hp; cases hp
    rw [this]
  | some p =>
    obtain ⟨p', hp', hap, hfp⟩ := T.pens k p ha
    rw [ha] at h
    rw [hp']
    simp only [Bool.and_eq_false_iff, Bool.not_eq_false', decide_eq_false_iff_not, Nat.not_lt, Nat.le_zero_eq] at h ⊢
    rcases h with h | h
    · exact .inl (hfp h)
    · exact .inr (by rw [hap]; exact h)

theorem Tally.heldS {a b : St} (T : Tally a b) {k : Nat} (h : heldS a k = false) : heldS b k = false := by
  unfold Life.heldS at h ⊢; rw [T.strs]; exact h

theorem Tally.heldB {a b : St} (T : Tally a b) {k : Nat} (h : heldB a k = false) : heldB b k = false := by
  unfold Life.heldB at h ⊢; rw [T.rbs]; exact h

theorem Tally.heldT {a b : St} (T : Tally a b) (h : heldT a = false) : heldT b = false := by
  unfold Life.heldT at h ⊢
  simp only [Bool.and_eq_false_iff, Bool.not_eq_false', decide_eq_false_iff_not, Nat.not_lt, Nat.le_zero_eq] at h ⊢
  rcases h with h | h
  · exact .inl (T.tfreed h)
  · exact .inr (by rw [T.tapp]; exact h)

structure EndRel (a b : St) : Prop where
  tally : Tally a b
  later : WLater a b

theorem EndRel.refl (a : St) : EndRel a a := ⟨Tally.refl a, WLater.refl a⟩
theorem EndRel.trans {a b c : St} (h1 : EndRel a b) (h2 : EndRel b c) : EndRel a c := ⟨h1.tally.trans h2.tally, h1.later.trans h2.later⟩

theorem EndRel.noneHeld {a b : St} (h : EndRel a b) (H : NoneHeld a) : NoneHeld b :=
  ⟨fun i => not_heldW_later h.later (H.w i), fun k => h.tally.heldP (H.p k), fun k => h.tally.heldS (H.s k),
   fun k => h.tally.heldB (H.b k), h.tally.heldT H.t⟩

theorem EndRel.of_term (st : St) (tm : Obj) (ha : tm.appRefs = st.term.appRefs) (hf : st.term.freed = true → tm.freed = true) :
    EndRel st { st with term := tm } :=
  ⟨⟨rfl, fun _ p hp => ⟨p, hp, rfl, id⟩, rfl, rfl, ha, hf⟩, ⟨rfl, fun _ w h hf => ⟨w, h, hf⟩, fun _ => Nat.le_refl _⟩⟩

end Tickit.Life
