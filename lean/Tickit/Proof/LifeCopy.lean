import Tickit.Model.LifeRB
/-
  C08, copy-out calls: every store of `get_span_text` (after the repair), `tickit_utf8_put` and the common tail
  lands inside the caller's buffer; `tickit_mockterm_get_display_text` stays within `len + 1` bytes.
-/
namespace Tickit.Life

def CopyOut.Bounded (c : CopyOut) (len : Nat) : Prop := ∀ p ∈ c.stores, p.1 < len

theorem mem_storesAt {s : Nat} {bs : List UInt8} {p : Nat × UInt8} (h : p ∈ storesAt s bs) :
    s ≤ p.1 ∧ p.1 < s + bs.length := by
  unfold storesAt at h
  simp only [List.mem_map] at h
  obtain ⟨⟨i, b⟩, hz, rfl⟩ := h
  have hi := (List.of_mem_zip hz).1
  simp only [List.mem_range] at hi
  constructor <;> simp <;> omega

theorem le_ite {c : Prop} [Decidable c] {n a b : Nat} (ha : n ≤ a) (hb : n ≤ b) : n ≤ if c then a else b := by
  split <;> assumption

/-- Arm by arm (`split` on the chain of six costs forty times as much). -/
theorem seqlen_pos (cp : Nat) : 1 ≤ seqlen cp :=
  le_ite (Nat.le_refl 1) (le_ite (by decide) (le_ite (by decide) (le_ite (by decide) (le_ite (by decide) (by decide)))))

theorem utf8Bytes_length (cp : Nat) : (utf8Bytes cp).length = seqlen cp := by
  have := seqlen_pos cp
  unfold utf8Bytes
  simp only [List.length_cons, List.length_map, List.length_reverse, List.length_range]
  omega

theorem bounded_nil (ret : Int) (len : Nat) : (CopyOut.mk ret []).Bounded len := by
  intro p hp; simp at hp

theorem bounded_utf8Put (hasBuf : Bool) (len cp : Nat) : (utf8Put hasBuf len cp).Bounded len := by
  unfold utf8Put
  by_cases hb : hasBuf = true
  · simp only [hb, Bool.not_true, Bool.false_eq_true, if_false]
    by_cases hl : len < seqlen cp
    · simp only [hl, if_true]; exact bounded_nil _ _
    · simp only [hl, if_false]
      intro p hp
      simp only [List.mem_append, List.mem_filter, List.mem_reverse] at hp
      have hm : p ∈ storesAt 0 (utf8Bytes cp) := by
        rcases hp with h | h <;> exact h.1
      have := mem_storesAt hm
      rw [utf8Bytes_length] at this
      omega
  · simp only [Bool.not_eq_true] at hb
    simp only [hb, Bool.not_false, if_true]
    exact bounded_nil _ _

theorem bounded_spanTail {c : CopyOut} {len : Nat} (hasBuf : Bool) (h : c.Bounded len) :
    (spanTail hasBuf len c).Bounded len := by
  unfold spanTail
  split
  · exact h
  · split
    · rename_i hcond
      simp only [Bool.and_eq_true, decide_eq_true_eq] at hcond
      intro p hp
      simp only [List.mem_append, List.mem_singleton] at hp
      rcases hp with hp | rfl
      · exact h p hp
      · exact hcond.2
    · exact h

theorem bounded_spanTextBranch {hasBuf : Bool} {len : Nat} {bs : List UInt8} {c : CopyOut}
    (h : spanTextBranch true hasBuf len bs = some c) : c.Bounded len := by
  unfold spanTextBranch at h
  by_cases hb : hasBuf = true
  · simp only [hb, Bool.not_true, Bool.false_eq_true, if_false] at h
    by_cases hl : len < bs.length
    · simp [hl] at h
    · simp only [hl, if_false, if_true, Option.some.injEq] at h
      subst h
      intro p hp
      have := mem_storesAt hp
      omega
  · simp only [Bool.not_eq_true] at hb
    simp only [hb, Bool.not_false, if_true, Option.some.injEq] at h
    subst h
    exact bounded_nil _ _

theorem bounded_textResult (hasBuf : Bool) (len : Nat) (sel : List UInt8) :
    (textResult true hasBuf len sel).Bounded len := by
  unfold textResult
  split
  · exact bounded_nil _ _
  · rename_i hbr
    exact bounded_spanTail _ (bounded_spanTextBranch hbr)

theorem bounded_getSpanText {span : Cell} {offset : Int} {og hasBuf : Bool} {len : Nat} {c : CopyOut}
    (h : getSpanText true span offset og hasBuf len = some c) : c.Bounded len := by
  unfold getSpanText at h
  split at h
  · cases h; exact bounded_nil _ _
  · cases h; exact bounded_spanTail _ (bounded_nil _ _)
  · cases h; exact bounded_spanTail _ (bounded_nil _ _)
  · simp only [Option.map_eq_some_iff] at h
    obtain ⟨chars, _, rfl⟩ := h
    exact bounded_textResult _ _ _
  · cases h; exact bounded_spanTail _ (bounded_utf8Put _ _ _)
  · cases h; exact bounded_spanTail _ (bounded_utf8Put _ _ _)

theorem displayText_go_le (L : Nat) :
    ∀ (cells : List (List UInt8)) (buf : Bool) (pos len ret : Nat) (acc : List (Nat × UInt8)),
      (∀ p ∈ acc, p.1 ≤ L) → pos + len = L →
      ∀ p ∈ (displayText.go cells buf pos len ret acc).stores, p.1 ≤ L := by
  intro cells
  induction cells with
  | nil => intro buf pos len ret acc hacc _ p hp; simpa [displayText.go] using hacc p (by simpa [displayText.go] using hp)
  | cons s rest ih =>
    intro buf pos len ret acc hacc hpl p hp
    unfold displayText.go at hp
    simp only at hp
    split at hp
    · rename_i hc
      have hlen : s.length ≤ len := by
        simp only [Bool.and_eq_true, decide_eq_true_eq] at hc; exact hc.2
      refine ih _ _ _ _ _ ?_ ?_ p hp
      · intro q hq
        simp only [List.mem_append] at hq
        rcases hq with hq | hq
        · exact hacc q hq
        · have := mem_storesAt hq
          simp only [List.length_append, List.length_singleton] at this
          omega
      · omega
    · exact ih _ _ _ _ _ hacc hpl p hp

/-- `tickit_mockterm_get_display_text`: all stores are at indices `≤ len` (one byte past the length given:
    the terminator of the last cell that fits exactly). -/
theorem displayText_le (hasBuf : Bool) (len : Nat) (cells : List (List UInt8)) :
    ∀ p ∈ (displayText hasBuf len cells).stores, p.1 ≤ len := by
  unfold displayText
  exact displayText_go_le len cells hasBuf 0 len 0 [] (by intro p hp; simp at hp) (by omega)

end Tickit.Life
