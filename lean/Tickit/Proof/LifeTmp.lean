import Tickit.Model.LifeTmp
import Tickit.Proof.LifeCopy
/-
  Property C08, proofs about the scratch block of a render buffer (Model/LifeTmp.lean): for runs of every length the block
  `tmp_cat_utf8` grows keeps what was written, `tmplen ≤ tmpsize` is invariant, and `tickit_term_printn` is handed
  nothing but bytes written before.  Of the encoder `utf8Bytes` (Model/LifeRB.lean) only the length is used
  (`utf8Bytes_length`): which bytes a code point becomes does not matter here.
-/
namespace Tickit
namespace Life

theorem seqlen_le (cp : Nat) : seqlen cp ≤ 6 := by
  have ite {c : Prop} [Decidable c] {a b : Nat} (ha : a ≤ 6) (hb : b ≤ 6) : (if c then a else b) ≤ 6 := by
    split <;> assumption
  unfold seqlen
  repeat' apply ite
  all_goals decide

theorem allSome_map_some (bs : List UInt8) : allSome (bs.map some) = some bs := by
  induction bs with
  | nil => rfl
  | cons b r ih => simp only [List.map_cons, allSome, ih, Option.map_some]

/-- What `flush_to_term` relies on between two `tmp_cat_utf8` calls; `big`: the block has room for any one sequence once
    it is doubled; `written`: the first `tmplen` cells hold the bytes `bs`, every one of them stored. -/
structure Tmp.Holds (t : Tmp) (bs : List UInt8) : Prop where
  big : 6 ≤ t.size
  fits : t.len ≤ t.size
  written : t.mem.take t.len = bs.map some

/-- `rb->tmplen = 0` establishes the invariant whatever the block holds. -/
theorem Tmp.Holds.reset {t : Tmp} (h : 6 ≤ t.size) : ({ t with len := 0 } : Tmp).Holds [] :=
  ⟨h, Nat.zero_le _, rfl⟩

theorem store_take (mem : List (Option UInt8)) (len n : Nat) (bytes : List UInt8) (hn : bytes.length = n)
    (hroom : len + n ≤ mem.length) :
    (mem.take len ++ bytes.map some ++ mem.drop (len + n)).length = mem.length ∧
    (mem.take len ++ bytes.map some ++ mem.drop (len + n)).take (len + n) = mem.take len ++ bytes.map some := by
  have hl : (mem.take len ++ bytes.map some).length = len + n := by
    rw [List.length_append, List.length_take, List.length_map, hn, Nat.min_eq_left (by omega)]
  refine ⟨?_, List.take_left' hl⟩
  rw [List.length_append, hl, List.length_drop]
  omega

/-- The block after the `realloc` of `tmp_cat_utf8`, if there was one: the contents kept, the added half fresh. -/
def Tmp.grown (t : Tmp) (cp : Nat) : List (Option UInt8) :=
  if t.size < t.len + seqlen cp then t.mem ++ List.replicate t.size none else t.mem

theorem Tmp.grown_length (t : Tmp) (cp : Nat) :
    (t.grown cp).length = if t.size < t.len + seqlen cp then 2 * t.size else t.size := by
  unfold Tmp.grown
  rw [apply_ite List.length, List.length_append, List.length_replicate, Nat.two_mul]; rfl

theorem Tmp.grown_take (t : Tmp) (cp : Nat) (h : t.len ≤ t.size) : (t.grown cp).take t.len = t.mem.take t.len := by
  unfold Tmp.grown
  split
  · exact List.take_append_of_le_length h
  · rfl

theorem Tmp.catUtf8_eq (t : Tmp) (cp : Nat) : t.catUtf8 cp =
    { mem := if (t.grown cp).length - t.len < seqlen cp then t.grown cp
        else (t.grown cp).take t.len ++ (utf8Bytes cp).map some ++ (t.grown cp).drop (t.len + seqlen cp),
      len := t.len + seqlen cp } := rfl

theorem Tmp.catUtf8_size (t : Tmp) (cp : Nat) :
    (t.catUtf8 cp).size = if t.size < t.len + seqlen cp then 2 * t.size else t.size := by
  have := seqlen_pos cp
  rw [← t.grown_length, t.catUtf8_eq]
  show (if _ then _ else _ : List (Option UInt8)).length = _
  split
  · rfl
  · exact (store_take _ t.len _ _ (utf8Bytes_length cp) (by omega)).1

theorem Tmp.size_le_catUtf8 (t : Tmp) (cp : Nat) : t.size ≤ (t.catUtf8 cp).size := by
  rw [t.catUtf8_size]; split <;> omega

theorem Tmp.Holds.cat {t : Tmp} {bs : List UInt8} (h : t.Holds bs) (cp : Nat) : (t.catUtf8 cp).Holds (bs ++ utf8Bytes cp) := by
  have hb := seqlen_le cp
  have hbig := h.big
  have hfit := h.fits
  have hroom : t.len + seqlen cp ≤ (t.grown cp).length := by rw [t.grown_length]; split <;> omega
  refine ⟨Nat.le_trans hbig (t.size_le_catUtf8 cp), ?_, ?_⟩
  · show t.len + seqlen cp ≤ (t.catUtf8 cp).size
    rw [t.catUtf8_size, ← t.grown_length]; exact hroom
  · rw [t.catUtf8_eq]
    show (if _ then _ else _ : List (Option UInt8)).take (t.len + seqlen cp) = _
    rw [if_neg (by omega), (store_take _ t.len _ _ (utf8Bytes_length cp) hroom).2, t.grown_take cp hfit, h.written, List.map_append]

/-- `(tmpsize, tmplen)` after one `tmp_cat_utf8`: the sizes of a long run are computed without the memory. -/
def Tmp.grow (d : Nat × Nat) (cp : Nat) : Nat × Nat :=
  (if d.1 < d.2 + seqlen cp then 2 * d.1 else d.1, d.2 + seqlen cp)

theorem Tmp.foldl_catUtf8_dims (cps : List Nat) (t : Tmp) :
    ((cps.foldl Tmp.catUtf8 t).size, (cps.foldl Tmp.catUtf8 t).len) = cps.foldl Tmp.grow (t.size, t.len) := by
  induction cps generalizing t with
  | nil => rfl
  | cons cp r ih => rw [List.foldl_cons, List.foldl_cons, ih, t.catUtf8_size]; rfl

theorem Tmp.foldl_catUtf8_size (cps : List Nat) (t : Tmp) :
    (cps.foldl Tmp.catUtf8 t).size = (cps.foldl Tmp.grow (t.size, t.len)).1 :=
  congrArg Prod.fst (Tmp.foldl_catUtf8_dims cps t)

theorem Tmp.size_le_foldl (cps : List Nat) (t : Tmp) : t.size ≤ (cps.foldl Tmp.catUtf8 t).size := by
  induction cps generalizing t with
  | nil => exact Nat.le_refl _
  | cons cp r ih => exact Nat.le_trans (t.size_le_catUtf8 cp) (ih _)

theorem Tmp.Holds.run {t : Tmp} {bs : List UInt8} (h : t.Holds bs) (cps : List Nat) :
    (cps.foldl Tmp.catUtf8 t).Holds (bs ++ cps.flatMap utf8Bytes) := by
  induction cps generalizing t bs with
  | nil => rw [List.flatMap_nil, List.append_nil]; exact h
  | cons cp r ih =>
    rw [List.foldl_cons, List.flatMap_cons, ← List.append_assoc]
    exact ih (h.cat cp)

/-- `tickit_term_printn(tt, rb->tmp, rb->tmplen)` under the invariant: inside the block, written bytes only. -/
theorem Tmp.Holds.read {t : Tmp} {bs : List UInt8} (h : t.Holds bs) : t.read = .ok bs := by
  unfold Tmp.read
  rw [if_neg (Nat.not_lt.2 h.fits), h.written, allSome_map_some]
  rfl

theorem Tmp.lineRun_eq (t : Tmp) (cps : List Nat) (h : 6 ≤ t.size) :
    t.lineRun cps = .ok (cps.foldl Tmp.catUtf8 { t with len := 0 }, cps.flatMap utf8Bytes) := by
  unfold Tmp.lineRun
  show (Tmp.read _ >>= _) = _
  rw [((Tmp.Holds.reset h).run cps).read]
  rfl

/-- Run after run through one block, as `tickit_renderbuffer_flush_to_term` does for all LINE runs of a buffer; `g` reads
    the characters off a run as the model has it (`List.map glyph`). -/
theorem lineRuns_ok {α : Type} (g : α → List Nat) (runs : List α) (t : Tmp) (acc : List UInt8) (h : 6 ≤ t.size) :
    ∃ t', runs.foldlM (fun (a : Tmp × List UInt8) run => do
        let (t, bs) ← a.1.lineRun (g run)
        pure (t, a.2 ++ bs)) (t, acc) = Out.ok (t', acc ++ runs.flatMap (fun r => (g r).flatMap utf8Bytes)) := by
  induction runs generalizing t acc with
  | nil => exact ⟨t, by rw [List.flatMap_nil, List.append_nil]; rfl⟩
  | cons r rs ih =>
    have h1 := Tmp.lineRun_eq t (g r) h
    obtain ⟨t', h2⟩ := ih _ (acc ++ (g r).flatMap utf8Bytes) (Nat.le_trans h (Tmp.size_le_foldl (g r) { t with len := 0 }))
    refine ⟨t', ?_⟩
    rw [List.foldlM_cons]
    show (Tmp.lineRun t (g r) >>= _) >>= _ = _
    rw [h1]
    show List.foldlM _ (_, acc ++ (g r).flatMap utf8Bytes) rs = _
    rw [h2, List.flatMap_cons, List.append_assoc]

end Life
end Tickit
