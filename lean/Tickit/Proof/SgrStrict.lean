import Tickit.Model.SgrStrict
import Tickit.Model.TermSuspend
import Tickit.Proof.Sgr
/-
  The modelled xterm encoder sends SGR sequences and nothing else (`SgrOnly`, `Model/SgrStrict.lean`): `xtermChpen_sgrOnly`
  for a request, `resumeChpen_sgrOnly` for what resume re-sends.
-/
namespace Tickit.Proof.SgrStrict
open Tickit Tickit.TermPen Tickit.Sgr Tickit.Proof.Sgr

/-- digits, `:` and `;` inside an unmarked CSI are neither stray nor foreign -/
theorem body_clean (a : Attrs) : ∀ (body : List Byte) (acc : Csi.Acc), (∀ b ∈ body, 48 ≤ b ∧ b ≤ 59) →
    strays body ⟨.csi false acc.done acc.sub acc.cur false, a⟩ = [] ∧
      foreign body ⟨.csi false acc.done acc.sub acc.cur false, a⟩ = 0
  | [], _, _ => ⟨rfl, rfl⟩
  | b :: bs, acc, hb => by
    have hb0 := hb b List.mem_cons_self
    obtain ⟨h1, h2⟩ := body_clean a bs (acc.byte b) fun x hx => hb x (List.mem_cons_of_mem _ hx)
    have hf : feed ⟨.csi false acc.done acc.sub acc.cur false, a⟩ b =
        ⟨.csi false (acc.byte b).done (acc.byte b).sub (acc.byte b).cur false, a⟩ := reads false false a acc b hb0.1 hb0.2
    have hnf : isForeign ⟨.csi false acc.done acc.sub acc.cur false, a⟩ b = false := by simp [isForeign, hb0.1, hb0.2]
    exact ⟨by rw [strays, hf, h1]; rfl, by rw [foreign, hf, h2, hnf]; rfl⟩

theorem renderSgr_sgrOnly (colon : Bool) (ps : List Param) (a : Attrs) : SgrOnly (renderSgr colon ps) ⟨.ground, a⟩ := by
  unfold renderSgr
  have h1 : run [27, 91] ⟨.ground, a⟩ = ⟨.csi false [] [] none false, a⟩ := rfl
  obtain ⟨b1, b2⟩ := body_clean a (renderBody colon ps) ⟨[], [], none⟩ (renderBody_range colon ps)
  obtain ⟨gs', cur', num', b3, _⟩ := run_renderBody colon ps false [] [] false a
  have h2 : run ([27, 91] ++ renderBody colon ps) ⟨.ground, a⟩ = ⟨.csi false gs' cur' num' false, a⟩ := by
    rw [run_append, h1, b3]
  refine ⟨?_, ?_, ?_⟩
  · rw [strays_append, strays_append, h1, h2, b1]
    rfl
  · rw [foreign_append, foreign_append, h1, h2, b2]
    rfl
  · rw [run_append, h2]
    rfl

theorem renderSgr_range (colon : Bool) (ps : List Param) : ∀ b ∈ renderSgr colon ps, b < 256 := by
  intro b hb
  simp only [renderSgr, List.mem_append, List.mem_cons, List.mem_nil_iff, or_false] at hb
  rcases hb with ((rfl | rfl) | hb) | rfl
  · decide
  · decide
  · exact Nat.lt_of_le_of_lt (renderBody_range colon ps b hb).2 (by decide)
  · decide

theorem xtermChpen_sgrOnly (caps : Caps) (cap : Nat) (delta final : Pen) (bs : List Byte) (vt : VT)
    (h : xtermChpen caps cap delta final = .bytes bs) (hg : vt.st = .ground) : SgrOnly bs vt := by
  rw [xtermChpen_bytes h, vt_eta hg]
  split
  · exact sgrOnly_nil _ rfl
  · exact renderSgr_sgrOnly _ _ _

theorem resumeChpen_sgrOnly {caps : Caps} {cap : Nat} {resend : Bool} {cache : Pen} {bs : List Byte} {vt : VT}
    (h : resumeChpen caps cap resend cache = .bytes bs) (hg : vt.st = .ground) : SgrOnly bs vt := by
  unfold resumeChpen at h
  split at h
  · exact xtermChpen_sgrOnly _ _ _ _ bs _ h hg
  · cases h; exact sgrOnly_nil _ hg

end Tickit.Proof.SgrStrict
