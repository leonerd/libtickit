import Tickit.Model.WinInput
import Tickit.Proof.WinTreeStore
/-
  C14 (input routing in window.c), the common ground of the files about the dispatcher: stores that differ in reference
  counts only (`Le`) agree on visibility and on the reference orders; handlers that do not mutate the tree (`Static`);
  the reference orders unfolded one level; the `do` blocks of `_handle_key` and `_handle_mouse` turned inside out (`*_ok`).
  That the offers follow the reference order is in Proof/WinInputOn.lean, that log and bindings only grow in
  Proof/WinInputExt.lean, what the reference orders say in Proof/WinInputOrder.lean.
-/
namespace Tickit
namespace WinInput
open WinTree

@[simp] theorem res_pure {α : Type} (a : α) : (pure a : Res α) = Res.ok a := rfl
@[simp] theorem res_bind_ok {α β : Type} (a : α) (f : α → Res β) : (Res.ok a >>= f) = f a := rfl
@[simp] theorem res_bind_ub {α β : Type} (w : String) (f : α → Res β) : (Res.ub w >>= f) = Res.ub w := rfl

@[simp] theorem out_pure {α : Type} (a : α) : (pure a : Out α) = Out.ok a := rfl
@[simp] theorem out_bind_ok {α β : Type} (a : α) (f : α → Out β) : (Out.ok a >>= f) = f a := rfl
@[simp] theorem out_bind_ub {α β : Type} (w : String) (f : α → Out β) : (Out.ub w >>= f) = Out.ub w := rfl
@[simp] theorem out_bind_fuel {α β : Type} (f : α → Out β) : ((Out.fuel : Out α) >>= f) = Out.fuel := rfl

theorem out_bind_eq_ok {α β : Type} {x : Out α} {f : α → Out β} {b : β} :
    (x >>= f) = Out.ok b ↔ ∃ a, x = Out.ok a ∧ f a = Out.ok b := by
  cases x with
  | ok a => simp
  | ub w => simp
  | fuel => simp

@[simp] theorem lift_ok {α : Type} (a : α) : (liftM (Res.ok a : Res α) : Out α) = Out.ok a := rfl
@[simp] theorem lift_ub {α : Type} (w : String) : (liftM (Res.ub w : Res α) : Out α) = Out.ub w := rfl
@[simp] theorem mlift_ok {α : Type} (a : α) : (monadLift (Res.ok a : Res α) : Out α) = Out.ok a := rfl
@[simp] theorem mlift_ub {α : Type} (w : String) : (monadLift (Res.ub w : Res α) : Out α) = Out.ub w := rfl

theorem lift_eq_ok {α : Type} {x : Res α} {a : α} : (liftM x : Out α) = Out.ok a ↔ x = Res.ok a := by
  cases x with
  | ok b => simp
  | ub w => simp

theorem lift_bind_eq_ok {α β : Type} {x : Res α} {f : α → Out β} {b : β} :
    ((liftM x : Out α) >>= f) = Out.ok b ↔ ∃ a, x = Res.ok a ∧ f a = Out.ok b := by
  cases x with
  | ok a => simp
  | ub w => simp

theorem getElem?_of_size_eq {α : Type} {a b : Array α} (hs : b.size = a.size) {j : Nat} {y : α} (h : b[j]? = some y) :
    ∃ x, a[j]? = some x :=
  ⟨a[j]'(hs ▸ (Array.getElem?_eq_some_iff.1 h).1), Array.getElem?_eq_getElem _⟩

@[simp] theorem root_set (t : Tree) (i : WinTree.Id) (w : Win) : (WinTree.set t i w).root = t.root := rfl

def noRc (w : Win) : Win := { w with refcount := 0 }

structure Le (t t' : Tree) : Prop where
  root : t'.root = t.root
  size : t'.wins.size = t.wins.size
  win : ∀ (i : WinTree.Id) (w : Win), t.wins[i]? = some w → ∃ w', t'.wins[i]? = some w' ∧ noRc w' = noRc w ∧ w.refcount ≤ w'.refcount

theorem Le.refl (t : Tree) : Le t t := ⟨rfl, rfl, fun _ w h => ⟨w, h, rfl, Int.le_refl _⟩⟩

theorem Le.trans {a b c : Tree} (h1 : Le a b) (h2 : Le b c) : Le a c := by
  refine ⟨by rw [h2.root, h1.root], by rw [h2.size, h1.size], ?_⟩
  intro i w hw
  obtain ⟨w1, hw1, e1, l1⟩ := h1.win i w hw
  obtain ⟨w2, hw2, e2, l2⟩ := h2.win i w1 hw1
  exact ⟨w2, hw2, e2.trans e1, Int.le_trans l1 l2⟩

theorem Le.lift {t t' : Tree} (h : Le t t') : Lift (fun _ w w' => noRc w' = noRc w ∧ w.refcount ≤ w'.refcount) t t' :=
  ⟨h.size, h.win⟩

/-- `hf` holds by `rfl` for every field but the count: `noRc_eq e Win.parent`, `noRc_eq e Win.freed`, … -/
theorem noRc_eq {w w' : Win} (h : noRc w' = noRc w) {α : Type} (f : Win → α)
    (hf : ∀ x, f (noRc x) = f x := by intro _; rfl) : f w' = f w := by
  rw [← hf w', ← hf w, h]

theorem Le.get {t t' : Tree} (h : Le t t') {i : WinTree.Id} {w : Win} (hg : WinTree.get t i = Res.ok w) :
    ∃ w', WinTree.get t' i = Res.ok w' ∧ noRc w' = noRc w ∧ w.refcount ≤ w'.refcount :=
  let ⟨w', hl, r⟩ := h.lift.live (fun _ _ _ r => noRc_eq r.1 Win.freed) (WinTree.get_ok_iff.1 hg)
  ⟨w', WinTree.get_ok_iff.2 hl, r⟩

theorem Le.get' {t t' : Tree} (h : Le t t') {i : WinTree.Id} {w' : Win} (hg : WinTree.get t' i = Res.ok w') :
    ∃ w, WinTree.get t i = Res.ok w ∧ noRc w' = noRc w ∧ w.refcount ≤ w'.refcount :=
  let ⟨w, hl, r⟩ := h.lift.live_back (fun _ _ _ r => noRc_eq r.1 Win.freed) (WinTree.get_ok_iff.1 hg)
  ⟨w, WinTree.get_ok_iff.2 hl, r⟩

theorem unref_nd (onD : Tree → WinTree.Id → Res Tree) (n : Nat) (t : Tree) (i : WinTree.Id) (w : Win)
    (hg : WinTree.get t i = Res.ok w) (h2 : 2 ≤ w.refcount) :
    WinTree.unref onD (n + 1) t i = Res.ok (WinTree.set t i { w with refcount := w.refcount - 1 }) := by
  rw [WinTree.unref]
  simp only [hg, res_bind_ok]
  have h1 : ¬ (w.refcount < 1) := by omega
  have h0 : ¬ (w.refcount - 1 = 0) := by omega
  simp [h1, h0]

theorem refWin_eq_ok {st st1 : St} {i : WinTree.Id} (h : refWin st i = Res.ok st1) :
    ∃ w, WinTree.get st.tree i = Res.ok w ∧
      st1 = { st with tree := WinTree.set st.tree i { w with refcount := w.refcount + 1 } } := by
  unfold refWin WinTree.ref WinTree.modify at h
  cases hg : WinTree.get st.tree i with
  | ub m => simp [hg] at h
  | ok w =>
    simp [hg] at h
    exact ⟨w, rfl, h.symm⟩

theorem unrefLogged_nd {st : St} {i : WinTree.Id} {w : Win} (hg : WinTree.get st.tree i = Res.ok w)
    (h2 : 2 ≤ w.refcount) :
    unrefLogged st i = Res.ok { st with tree := WinTree.set st.tree i { w with refcount := w.refcount - 1 } } := by
  unfold unrefLogged
  have hf : destroyFuel st.tree = (3 * st.tree.wins.size + 5) + 1 := rfl
  rw [hf]
  simp only [hg, res_bind_ok, unref_nd _ _ _ _ _ hg h2]
  have h1 : ¬ (w.refcount = 1) := by omega
  simp [h1]

theorem getD_mem_or {α : Type} (l : List α) (i : Nat) (d : α) : l.getD i d ∈ l ∨ l.getD i d = d := by
  rw [List.getD_eq_getElem?_getD]
  cases h : l[i]? with
  | none => right; rfl
  | some x => left; simpa using List.mem_of_getElem? h

theorem Static.entry {binds : Array Binding} (hs : Static binds) {i : Nat} {b : Binding} (h : binds[i]? = some b) :
    b.entry.actions = [] := by
  unfold Binding.entry
  rcases getD_mem_or b.entries (entryIndex b) { ret := false } with hm | hd
  · exact hs i b h _ hm
  · rw [hd]

theorem Static.replace {binds : Array Binding} (hs : Static binds) {i : Nat} {b : Binding} (h : binds[i]? = some b)
    (b' : Binding) (he : b'.entries = b.entries) : Static (binds.setIfInBounds i b') := by
  intro j x hx e hm
  rw [Array.getElem?_setIfInBounds] at hx
  by_cases hij : i = j
  · subst hij
    simp only [if_true] at hx
    split at hx
    · cases hx; rw [he] at hm; exact hs i b h e hm
    · cases hx
  · simp only [hij, if_false] at hx
    exact hs j x hx e hm

theorem Static.bump {binds : Array Binding} (hs : Static binds) {i : Nat} {b : Binding} (h : binds[i]? = some b) (k : Nat) :
    Static (binds.setIfInBounds i { b with count := k }) := hs.replace h _ rfl

theorem Static.fired {binds : Array Binding} (hs : Static binds) {i : Nat} {b : Binding} (h : binds[i]? = some b) :
    Static (binds.setIfInBounds i b.fired) := hs.replace h _ rfl

@[simp] theorem offers_say_offer (st : St) (k : Kind) (w : WinTree.Id) (e : Ev) (b : Bool) :
    offers (st.say (.offer k w e b)).log = offers st.log ++ [(k, w, e)] := rfl

@[simp] theorem offers_say_call (st : St) (k : Kind) (w : WinTree.Id) (i j : Nat) (r : Bool) (e : Ev) :
    offers (st.say (.call k w i j r e)).log = offers st.log := rfl

theorem Le.wins_none {t t' : Tree} (h : Le t t') {i : WinTree.Id} (hn : t.wins[i]? = none) : t'.wins[i]? = none := by
  rw [Array.getElem?_eq_none_iff] at hn ⊢
  rw [h.size]; exact hn

theorem Le.treeFuel {t t' : Tree} (h : Le t t') : treeFuel t' = treeFuel t := by
  unfold WinInput.treeFuel; rw [h.size]

theorem visibleChain_le {t t' : Tree} (h : Le t t') : ∀ (f : Nat) (i : WinTree.Id), visibleChain t' f i = visibleChain t f i := by
  intro f
  induction f with
  | zero => intro i; rfl
  | succ f ih =>
    intro i
    unfold visibleChain
    cases hw : t.wins[i]? with
    | none => simp [h.wins_none hw]
    | some w =>
      obtain ⟨w', hw', e, _⟩ := h.win i w hw
      simp only [hw', noRc_eq e Win.parent, noRc_eq e Win.isVisible, noRc_eq e Win.freed]
      cases w.parent with
      | none => rfl
      | some p => simp only [ih p]

theorem visibleChain_alive {t : Tree} : ∀ {f : Nat} {i : WinTree.Id}, visibleChain t f i = true →
    ∃ w, t.wins[i]? = some w ∧ w.freed = false ∧ w.isVisible = true := by
  intro f i h
  cases f with
  | zero => simp [visibleChain] at h
  | succ f =>
    unfold visibleChain at h
    cases hw : t.wins[i]? with
    | none => simp [hw] at h
    | some w =>
      simp only [hw] at h
      split at h
      · cases h
      · rename_i hc
        rw [Bool.or_eq_true, Bool.not_eq_true', not_or, Bool.not_eq_true, Bool.not_eq_false] at hc
        exact ⟨w, rfl, hc.1, hc.2⟩

theorem isShown_ok (t : Tree) : ∀ (f : Nat) (i : WinTree.Id) (b : Bool), isShown t f i = Res.ok b → visibleChain t f i = b := by
  intro f
  induction f with
  | zero => intro i b h; simp [isShown] at h
  | succ f ih =>
    intro i b h
    unfold isShown at h
    obtain ⟨w, hg, h⟩ := WinTree.bind_ok_iff.1 h
    obtain ⟨hw, hf⟩ := WinTree.get_ok_iff.1 hg
    unfold visibleChain
    simp only [hw, hf, Bool.false_or]
    by_cases hv : w.isVisible = true
    · simp only [hv, Bool.not_true, Bool.false_eq_true, if_false] at h ⊢
      cases hp : w.parent with
      | none => simp only [hp] at h; cases h; rfl
      | some p => simp only [hp] at h; exact ih p b h
    · have hv' : w.isVisible = false := by simpa using hv
      simp only [hv', Bool.not_false, if_true] at h ⊢
      cases h; rfl

theorem visibleChain_mono {t : Tree} : ∀ (f : Nat) (i : WinTree.Id), visibleChain t f i = true →
    visibleChain t (f + 1) i = true := by
  intro f
  induction f with
  | zero => intro i h; simp [visibleChain] at h
  | succ f ih =>
    intro i h
    unfold visibleChain at h ⊢
    cases hw : t.wins[i]? with
    | none => simp [hw] at h
    | some w =>
      simp only [hw] at h ⊢
      split at h
      · cases h
      · rename_i hc
        simp only [hc]
        cases hp : w.parent with
        | none => rfl
        | some p => simp only [hp] at h ⊢; exact ih p h

theorem visibleChain_mono' {t : Tree} {i : WinTree.Id} : ∀ (k f : Nat), visibleChain t f i = true →
    visibleChain t (f + k) i = true := by
  intro k
  induction k with
  | zero => intro f h; exact h
  | succ k ih => intro f h; exact visibleChain_mono _ _ (ih f h)

theorem visibleChain_of_hidden {t : Tree} {i : WinTree.Id} {w : Win} (hw : t.wins[i]? = some w)
    (h : (!w.isVisible || w.freed) = true) (f : Nat) : visibleChain t f i = false := by
  cases f with
  | zero => rfl
  | succ f =>
    have : (w.freed || !w.isVisible) = true := by rw [Bool.or_comm]; exact h
    simp only [visibleChain, hw, this, if_true]

theorem visibleChain_child {t : Tree} {i p : WinTree.Id} {w : Win} (hw : t.wins[i]? = some w)
    (h : (!w.isVisible || w.freed) = false) (hp : w.parent = some p) {g : Nat} (hg : visibleChain t g p = true) :
    visibleChain t (g + 1) i = true := by
  have : (w.freed || !w.isVisible) = false := by rw [Bool.or_comm]; exact h
  simp only [visibleChain, hw, this, Bool.false_eq_true, if_false, hp]; exact hg

/-- On the repaired code the visibility tests are `_is_shown`, and on a store that is `t0` up to counts that computes
    `visibleChain` of `t0`. -/
theorem shown_vis {t0 t : Tree} (hle : Le t0 t) {win : WinTree.Id} {b : Bool}
    (h : isShown t (treeFuel t) win = Res.ok b) : visibleChain t0 (treeFuel t0) win = b := by
  rw [← isShown_ok _ _ _ _ h, visibleChain_le hle, hle.treeFuel]

/-- What the facts about the reference orders ask of a tree: live windows are counted, and a child knows its parent.  The
    examples get it from `wfCheck` (Proof/WinInputOrder.lean). -/
structure WF (t : Tree) : Prop where
  rc : ∀ (i : WinTree.Id) (w : Win), t.wins[i]? = some w → w.freed = false → 1 ≤ w.refcount
  parent : ∀ (i c : WinTree.Id) (w cw : Win), t.wins[i]? = some w → w.freed = false → c ∈ w.children →
    t.wins[c]? = some cw → cw.parent = some i

theorem firstClaim_ok {a : Out (St × Bool)} {k : St → Out (St × Bool)} {st2 : St} {d2 : Bool}
    (h : firstClaim a k = Out.ok (st2, d2)) :
    ∃ st1 d1, a = Out.ok (st1, d1) ∧ ((d1 = true ∧ st2 = st1 ∧ d2 = true) ∨ (d1 = false ∧ k st1 = Out.ok (st2, d2))) := by
  unfold firstClaim at h
  obtain ⟨⟨st1, d1⟩, ha, h⟩ := out_bind_eq_ok.1 h
  refine ⟨st1, d1, ha, ?_⟩
  cases d1 with
  | true => simp at h; exact Or.inl ⟨rfl, h.1.symm, h.2⟩
  | false => simp at h; exact Or.inr ⟨rfl, h⟩

theorem visitList_cons_some {α : Type} {g : WinTree.Id → Option (List α)} {c : WinTree.Id} {cs : List WinTree.Id} {ws : List α}
    (h : visitList g (c :: cs) = some ws) : ∃ a b, g c = some a ∧ visitList g cs = some b ∧ ws = a ++ b := by
  simp only [visitList, Option.bind_eq_bind, Option.bind_eq_some_iff, Option.pure_def, Option.some.injEq] at h
  obtain ⟨a, ha, b, hb, e⟩ := h
  exact ⟨a, b, ha, hb, e.symm⟩

theorem keyVisits_hidden {t : Tree} {F : Nat} {win : WinTree.Id} {ws : List WinTree.Id}
    (hv : visibleChain t (treeFuel t) win = false) (h : keyVisits t F win = some ws) : ws = [] := by
  cases F with
  | zero => cases h
  | succ F =>
    unfold keyVisits at h
    split at h
    · exact (Option.some.inj h).symm
    · simp only [hv, Bool.not_false, if_true, Option.some.injEq] at h; exact h.symm

theorem keyVisits_shown {t : Tree} {F : Nat} {win : WinTree.Id} {w : Win} {ws : List WinTree.Id}
    (hw : t.wins[win]? = some w) (hv : visibleChain t (treeFuel t) win = true) (h : keyVisits t F win = some ws) :
    ∃ F' a b c, F = F' + 1 ∧ stealVisits t (keyVisits t F') w = some a ∧ focusVisits (keyVisits t F') w = some b ∧
      restVisits (keyVisits t F') w = some c ∧ ws = a ++ b ++ [win] ++ c := by
  cases F with
  | zero => cases h
  | succ F =>
    unfold keyVisits at h
    simp only [hw, hv, Bool.not_true, Bool.false_eq_true, if_false, Option.bind_eq_bind, Option.bind_eq_some_iff,
      Option.pure_def, Option.some.injEq] at h
    obtain ⟨a, ha, b, hb, c, hc, e⟩ := h
    exact ⟨F, a, b, c, rfl, ha, hb, hc, e.symm⟩

theorem mouseVisits_hidden {t : Tree} {F : Nat} {win : WinTree.Id} {ev : Ev} {ws : List (WinTree.Id × Ev)}
    (hv : visibleChain t (treeFuel t) win = false) (h : mouseVisits t F win ev = some ws) : ws = [] := by
  cases F with
  | zero => cases h
  | succ F =>
    unfold mouseVisits at h
    split at h
    · exact (Option.some.inj h).symm
    · simp only [hv, Bool.not_false, if_true, Option.some.injEq] at h; exact h.symm

theorem mouseVisits_shown {t : Tree} {F : Nat} {win : WinTree.Id} {ev : Ev} {w : Win} {ws : List (WinTree.Id × Ev)}
    (hw : t.wins[win]? = some w) (hv : visibleChain t (treeFuel t) win = true) (h : mouseVisits t F win ev = some ws) :
    ∃ F' below, F = F' + 1 ∧ visitList (childVisits t (mouseVisits t F') ev) w.children = some below ∧
      ws = below ++ [(win, ev)] := by
  cases F with
  | zero => cases h
  | succ F =>
    unfold mouseVisits at h
    simp only [hw, hv, Bool.not_true, Bool.false_eq_true, if_false, Option.bind_eq_bind, Option.bind_eq_some_iff,
      Option.pure_def, Option.some.injEq] at h
    obtain ⟨below, hb, e⟩ := h
    exact ⟨F, below, rfl, hb, e.symm⟩

/-- A child is left out of the reference order exactly when the loop of `_handle_mouse` skips it. -/
theorem childVisits_eq {t : Tree} {c : WinTree.Id} {cw : Win} (h : t.wins[c]? = some cw)
    (g : WinTree.Id → Ev → Option (List (WinTree.Id × Ev))) (ev : Ev) :
    childVisits t g ev c = if !cw.stealInput && outsideChild cw ev.line ev.col then some [] else g c (ev.toChild cw) := by
  unfold childVisits inChild
  simp only [h]
  cases cw.stealInput <;> cases outsideChild cw ev.line ev.col <;> rfl

theorem childVisits_none {t : Tree} {c : WinTree.Id} (h : t.wins[c]? = none)
    (g : WinTree.Id → Ev → Option (List (WinTree.Id × Ev))) (ev : Ev) : childVisits t g ev c = some [] := by
  unfold childVisits; rw [h]

theorem noRc_mouse {w' w : Win} (h : noRc w' = noRc w) (ev : Ev) :
    (!w'.stealInput && outsideChild w' ev.line ev.col) = (!w.stealInput && outsideChild w ev.line ev.col) ∧
    ev.toChild w' = ev.toChild w := by
  unfold outsideChild Ev.toChild
  rw [noRc_eq h Win.rect, noRc_eq h Win.stealInput]; exact ⟨rfl, rfl⟩

theorem stealAt_of_get {t : Tree} {i : WinTree.Id} {w : Win} (h : WinTree.get t i = Res.ok w) : stealAt t i = w.stealInput := by
  unfold stealAt; rw [(WinTree.get_ok_iff.1 h).1]

theorem visitList_mem {α : Type} {g : WinTree.Id → Option (List α)} : ∀ {cs : List WinTree.Id} {ws : List α} {x : α},
    visitList g cs = some ws → x ∈ ws → ∃ c ∈ cs, ∃ l, g c = some l ∧ x ∈ l := by
  intro cs
  induction cs with
  | nil => intro ws x h hx; simp only [visitList, Option.some.injEq] at h; subst h; cases hx
  | cons c rest ih =>
    intro ws x h hx
    obtain ⟨a, b, ha, hb, rfl⟩ := visitList_cons_some h
    rcases List.mem_append.1 hx with h1 | h2
    · exact ⟨c, List.mem_cons_self .., a, ha, h1⟩
    · obtain ⟨c', hc', l, hl, hxl⟩ := ih hb h2
      exact ⟨c', List.mem_cons_of_mem _ hc', l, hl, hxl⟩

theorem foldl_destroyed (gone : List WinTree.Id) (s0 : St) :
    gone.foldl (fun st i => st.say (.destroyed i)) s0 = { s0 with log := (gone.map LogItem.destroyed).reverse ++ s0.log } := by
  induction gone generalizing s0 with
  | nil => rfl
  | cons g rest ih => rw [List.foldl_cons, ih]; simp [St.say]

/-- `e'` is `e` up to the cell: what a window further down sees of the event. -/
structure sameKind (e e' : Ev) : Prop where
  type : e'.type = e.type
  button : e'.button = e.button
  mod : e'.mod = e.mod

theorem sameKind.rfl' (e : Ev) : sameKind e e := ⟨rfl, rfl, rfl⟩

theorem sameKind.toChild {e e' : Ev} (h : sameKind e e') (cw : Win) : sameKind e (e'.toChild cw) := ⟨h.type, h.button, h.mod⟩

/-- The references held after a `_handle_mouse` call: the claim it returned is a counted reference. -/
def heldR (r : Option WinTree.Id) (held : List WinTree.Id) : List WinTree.Id :=
  match r with
  | some h => h :: held
  | none => held

theorem heldR_cons (r : Option WinTree.Id) (w : WinTree.Id) (held : List WinTree.Id) :
    (heldR r (w :: held)).Perm (w :: heldR r held) := by
  cases r with
  | none => exact .refl _
  | some x => exact List.Perm.swap _ _ _

theorem heldR_append (r : Option WinTree.Id) (cs held : List WinTree.Id) : (heldR r (cs ++ held)).Perm (cs ++ heldR r held) := by
  cases r with
  | none => exact .refl _
  | some x => exact List.perm_middle.symm

theorem keyDone_ok {st st' : St} {win : WinTree.Id} {d d' : Bool} (h : keyDone st win d = Out.ok (st', d')) :
    unrefLogged st win = Res.ok st' ∧ d' = d := by
  unfold keyDone at h
  obtain ⟨st1, h1, h⟩ := lift_bind_eq_ok.1 h
  simp only [out_pure, Out.ok.injEq, Prod.mk.injEq] at h
  obtain ⟨rfl, rfl⟩ := h
  exact ⟨h1, rfl⟩

/-- The children loop runs over a counted snapshot of the children list. -/
theorem keyChildren_ok {rec : KeyRec} {fuel : Nat} {st st' : St} {win : WinTree.Id} {ev : Ev} {d : Bool} {w : Win}
    (hg : WinTree.get st.tree win = Res.ok w) (h : keyChildren Cfg.repaired rec fuel st win ev = Out.ok (st', d)) :
    ∃ st4 st5, refAll st w.children = Res.ok st4 ∧ keySnap rec st4 win w.children ev = Out.ok (st5, d) ∧
      unrefAll st5 w.children = Res.ok st' := by
  unfold keyChildren at h
  simp only [hg, lift_ok, out_bind_ok, Cfg.repaired, if_true] at h
  obtain ⟨st4, h4, h⟩ := lift_bind_eq_ok.1 h
  obtain ⟨⟨st5, d5⟩, h5, h⟩ := out_bind_eq_ok.1 h
  obtain ⟨st6, h6, h⟩ := lift_bind_eq_ok.1 h
  cases h
  exact ⟨st4, st5, h4, h5, h6⟩

/-- `_handle_key` on a window that is not shown does nothing; otherwise it holds a reference on the window around the
    `goto done` chain. -/
theorem handleKeyBody_ok {rec : KeyRec} {fuel : Nat} {st st' : St} {win : WinTree.Id} {ev : Ev} {d : Bool}
    (h : handleKeyBody Cfg.repaired rec fuel st win ev = Out.ok (st', d)) :
    ∃ vis, isShown st.tree (treeFuel st.tree) win = Res.ok vis ∧ ((vis = false ∧ st' = st ∧ d = false) ∨
      (vis = true ∧ ∃ st1 st5, refWin st win = Res.ok st1 ∧
        (firstClaim (keySteal rec st1 win ev) fun st => firstClaim (keyFocus rec st win ev) fun st =>
          firstClaim (keyOwn Cfg.repaired st win ev) fun st => keyChildren Cfg.repaired rec fuel st win ev) = Out.ok (st5, d) ∧
        unrefLogged st5 win = Res.ok st')) := by
  unfold handleKeyBody at h
  obtain ⟨vis, hvis, h⟩ := lift_bind_eq_ok.1 h
  refine ⟨vis, hvis, ?_⟩
  cases vis with
  | false => cases h; exact Or.inl ⟨rfl, rfl, rfl⟩
  | true =>
    simp only [Bool.not_true, Bool.false_eq_true, if_false] at h
    obtain ⟨st1, h1, h⟩ := lift_bind_eq_ok.1 h
    obtain ⟨⟨st5, d5⟩, h5, h⟩ := out_bind_eq_ok.1 h
    obtain ⟨hu, rfl⟩ := keyDone_ok h
    exact Or.inr ⟨rfl, st1, st5, h1, h5, hu⟩

theorem handleMouseBody_ok {rec : MouseRec} {fuel : Nat} {st st' : St} {win : WinTree.Id} {ev : Ev} {r : Option WinTree.Id}
    (h : handleMouseBody Cfg.repaired rec fuel st win ev = Out.ok (st', r)) :
    ∃ vis, isShown st.tree (treeFuel st.tree) win = Res.ok vis ∧ ((vis = false ∧ st' = st ∧ r = none) ∨
      (vis = true ∧ ∃ st1 st2 r2 st3, refWin st win = Res.ok st1 ∧
        mouseChildren Cfg.repaired rec fuel st1 win ev = Out.ok (st2, r2) ∧
        mouseSelf Cfg.repaired st2 win ev r2 = Out.ok (st3, r) ∧ unrefLogged st3 win = Res.ok st')) := by
  unfold handleMouseBody at h
  obtain ⟨vis, hvis, h⟩ := lift_bind_eq_ok.1 h
  refine ⟨vis, hvis, ?_⟩
  cases vis with
  | false => cases h; exact Or.inl ⟨rfl, rfl, rfl⟩
  | true =>
    simp only [Bool.not_true, Bool.false_eq_true, if_false] at h
    obtain ⟨st1, h1, h⟩ := lift_bind_eq_ok.1 h
    obtain ⟨⟨st2, r2⟩, h2, h⟩ := out_bind_eq_ok.1 h
    obtain ⟨⟨st3, r3⟩, h3, h⟩ := out_bind_eq_ok.1 h
    unfold mouseDone at h
    obtain ⟨w3, _, h⟩ := lift_bind_eq_ok.1 h
    simp only [Cfg.repaired, Bool.not_true, Bool.false_and, Bool.false_eq_true, if_false] at h
    obtain ⟨st4, hu, h⟩ := lift_bind_eq_ok.1 h
    cases h
    exact Or.inr ⟨rfl, st1, st2, r2, st3, h1, h2, h3, hu⟩

theorem mouseChildren_ok {rec : MouseRec} {fuel : Nat} {st st' : St} {win : WinTree.Id} {ev : Ev} {r : Option WinTree.Id}
    {w : Win} (hg : WinTree.get st.tree win = Res.ok w)
    (h : mouseChildren Cfg.repaired rec fuel st win ev = Out.ok (st', r)) :
    ∃ st4 st5, refAll st w.children = Res.ok st4 ∧ mouseSnap rec st4 win w.children ev = Out.ok (st5, r) ∧
      unrefAll st5 w.children = Res.ok st' := by
  unfold mouseChildren at h
  simp only [hg, lift_ok, out_bind_ok, Cfg.repaired, if_true] at h
  obtain ⟨st4, h4, h⟩ := lift_bind_eq_ok.1 h
  obtain ⟨⟨st5, r5⟩, h5, h⟩ := out_bind_eq_ok.1 h
  obtain ⟨st6, h6, h⟩ := lift_bind_eq_ok.1 h
  cases h
  exact ⟨st4, st5, h4, h5, h6⟩

/-- The window's own handlers: not run if the window is not shown; a claim comes back as a counted reference. -/
theorem mouseOwn_ok {st st' : St} {win : WinTree.Id} {ev : Ev} {r : Option WinTree.Id}
    (h : mouseOwn Cfg.repaired st win ev = Out.ok (st', r)) :
    ∃ own, isShown st.tree (treeFuel st.tree) win = Res.ok own ∧ ((own = false ∧ st' = st ∧ r = none) ∨
      (own = true ∧ ∃ st1 done, runHandlers st .mouse win ev = Res.ok (st1, done) ∧
        ((done = false ∧ st' = st1 ∧ r = none) ∨ (done = true ∧ refWin st1 win = Res.ok st' ∧ r = some win)))) := by
  unfold mouseOwn ownVisible at h
  simp only [Cfg.repaired, if_true] at h
  obtain ⟨own, hown, h⟩ := lift_bind_eq_ok.1 h
  refine ⟨own, hown, ?_⟩
  cases own with
  | false => cases h; exact Or.inl ⟨rfl, rfl, rfl⟩
  | true =>
    simp only [Bool.not_true, Bool.false_eq_true, if_false] at h
    obtain ⟨⟨st1, done⟩, hrh, h⟩ := lift_bind_eq_ok.1 h
    refine Or.inr ⟨rfl, st1, done, hrh, ?_⟩
    cases done with
    | false => cases h; exact Or.inl ⟨rfl, rfl, rfl⟩
    | true =>
      simp only [Bool.not_true, Bool.false_eq_true, if_false] at h
      obtain ⟨st2, h2, h⟩ := lift_bind_eq_ok.1 h
      cases h
      exact Or.inr ⟨rfl, h2, rfl⟩

end WinInput
end Tickit
