import Tickit.Proof.WinGeom
/-
  `_do_hierarchy_change` for every kind that re-lists one child `c` of a window `p`: the four restacking kinds applied
  from the queue at the head of `tickit_window_flush`, the two insertions of `tickit_window_new`, the removal of
  `tickit_window_close`.  `Relisted` relates the two stores: the child list of `p` changes only in where (and whether) `c`
  occurs, so by locality an owner can change only under `c`'s rectangle, which the trailing
  `tickit_window_expose(parent, &win->rect)` records (a hidden `c` changes no owner).  The queue loop of the flush is a
  composition of such steps.
-/
namespace Tickit
namespace WinFlush
open WinTree WinRB WinSpec

theorem filter_ne_self_singleton (c : Id) : [c].filter (fun x => decide (x ≠ c)) = [] := by simp

theorem mem_of_filter_eq {cs cs' : List Id} {c x : Id}
    (h : cs'.filter (fun x => decide (x ≠ c)) = cs.filter (fun x => decide (x ≠ c))) (hx : x ∈ cs') (hxc : x ≠ c) : x ∈ cs := by
  have : x ∈ cs'.filter (fun x => decide (x ≠ c)) := List.mem_filter.2 ⟨hx, by simpa using hxc⟩
  rw [h] at this
  exact (List.mem_filter.1 this).1

structure ParentRelisted (pw pw' : Win) (cs : List Id) : Prop where
  visible : pw'.isVisible = pw.isVisible
  freed : pw'.freed = pw.freed
  rect : pw'.rect = pw.rect
  parent : pw'.parent = pw.parent
  isRoot : pw'.isRoot = pw.isRoot
  children : pw'.children = cs

structure ChildRelisted (w0 w0' : Win) : Prop where
  visible : w0'.isVisible = w0.isVisible
  freed : w0'.freed = w0.freed
  rect : w0'.rect = w0.rect
  isRoot : w0'.isRoot = w0.isRoot
  children : w0'.children = w0.children
  parent : w0'.parent = w0.parent ∨ w0'.parent = none

/-- What `Relisted … p c pw … cs` says of the record `wb` of a window `x` after the re-listing against its record `w`
    before. -/
structure RelistedAt (p c : Id) (pw : Win) (cs : List Id) (x : Id) (w wb : Win) : Prop where
  isRoot : wb.isRoot = w.isRoot
  parent : wb.parent = w.parent ∨ (x = c ∧ wb.parent = none)
  freed : wb.freed = w.freed
  rect : wb.rect = w.rect
  visible : wb.isVisible = w.isVisible
  kids : x ≠ p → wb.children = w.children
  atP : x = p → wb.children = cs ∧ w = pw

/-- `tb` is `t` with the child `c` re-listed in `p`: `p`'s child list has become `cs`, which differs from the old one
    only in the occurrences of `c`; `c` itself may have lost its parent pointer (`_do_hierarchy_change(REMOVE)` of
    `tickit_window_close`); nothing else differs. -/
structure Relisted (t tb : Tree) (p c : Id) (pw pw' w0 w0' : Win) (cs : List Id) : Prop where
  hpw : t.wins[p]? = some pw
  hw0 : t.wins[c]? = some w0
  only : ∀ (x : Id) (w : Win), x ≠ p → x ≠ c → t.wins[x]? = some w → c ∉ w.children
  filter : cs.filter (fun x => decide (x ≠ c)) = pw.children.filter (fun x => decide (x ≠ c))
  nodup : cs.Nodup
  par : tb.wins[p]? = some pw'
  parF : ParentRelisted pw pw' cs
  child : tb.wins[c]? = some w0'
  childF : ChildRelisted w0 w0'
  other : ∀ x : Id, x ≠ p → x ≠ c → tb.wins[x]? = t.wins[x]?
  size : tb.wins.size = t.wins.size
  listed : c ∈ cs → w0'.parent = some p ∧ w0'.isRoot = false

namespace Relisted
variable {t tb : Tree} {p c : Id} {pw pw' w0 w0' : Win} {cs : List Id}

theorem sameButC (h : Relisted t tb p c pw pw' w0 w0' cs) : SameButC t tb c :=
  ⟨fun x hxc => by
    by_cases hxp : x = p
    · subst hxp
      rw [h.par, h.hpw]
      simp only [Option.map_some, viewBut, h.parF.visible, h.parF.freed, h.parF.rect, h.parF.children, h.filter]
    · rw [h.other x hxp hxc]⟩

theorem rel (h : Relisted t tb p c pw pw' w0 w0' cs) (x : Id) (wb : Win) (hwb : tb.wins[x]? = some wb) :
    ∃ w, t.wins[x]? = some w ∧ RelistedAt p c pw cs x w wb := by
  by_cases hxp : x = p
  · subst hxp
    rw [h.par] at hwb; cases hwb
    exact ⟨pw, h.hpw, h.parF.isRoot, Or.inl h.parF.parent, h.parF.freed, h.parF.rect, h.parF.visible, fun hx => absurd rfl hx,
      fun _ => ⟨h.parF.children, rfl⟩⟩
  · by_cases hxc : x = c
    · subst hxc
      rw [h.child] at hwb; cases hwb
      exact ⟨w0, h.hw0, h.childF.isRoot, h.childF.parent.imp (fun e => e) fun e => ⟨rfl, e⟩, h.childF.freed, h.childF.rect,
        h.childF.visible, fun _ => h.childF.children, fun hx => absurd hx hxp⟩
    · rw [h.other x hxp hxc] at hwb
      exact ⟨wb, hwb, rfl, Or.inl rfl, rfl, rfl, rfl, fun _ => rfl, fun hx => absurd hx hxp⟩

theorem ex (h : Relisted t tb p c pw pw' w0 w0' cs) (x : Id) (w : Win) (hw : t.wins[x]? = some w) : ∃ wb, tb.wins[x]? = some wb := by
  by_cases hxp : x = p
  · exact ⟨_, hxp ▸ h.par⟩
  · by_cases hxc : x = c
    · exact ⟨_, hxc ▸ h.child⟩
    · exact ⟨w, by rw [h.other x hxp hxc]; exact hw⟩

theorem childOf (h : Relisted t tb p c pw pw' w0 w0' cs) (hok : TreeOk t) (x : Id) (wb : Win) (hwb : tb.wins[x]? = some wb)
    (ch : Id) (hch : ch ∈ wb.children) :
    (∃ w, t.wins[x]? = some w ∧ ch ∈ w.children ∧ ch ≠ c) ∨ (x = p ∧ ch = c ∧ c ∈ cs) := by
  obtain ⟨w, hw, r⟩ := h.rel x wb hwb
  by_cases hxp : x = p
  · obtain ⟨hcs, hwp⟩ := r.atP hxp
    rw [hcs] at hch
    by_cases hcc : ch = c
    · exact Or.inr ⟨hxp, hcc, hcc ▸ hch⟩
    · subst hwp
      exact Or.inl ⟨w, hw, mem_of_filter_eq h.filter hch hcc, hcc⟩
  · rw [r.kids hxp] at hch
    refine Or.inl ⟨w, hw, hch, fun hcc => ?_⟩
    subst hcc
    by_cases hxc : x = ch
    · subst hxc
      obtain ⟨cw, hcw, hcp, _⟩ := hok.wf.child x w hw x hch
      exact hok.noSelf x cw hcw hcp
    · exact h.only x w hxp hxc hw hch

theorem treeOk (h : Relisted t tb p c pw pw' w0 w0' cs) (hok : TreeOk t) : TreeOk tb := by
  refine ⟨⟨?_⟩, ?_, ?_, ?_, ?_⟩
  · intro cur wb hwb ch hch
    rcases h.childOf hok cur wb hwb ch hch with ⟨w, hw, hmem, hne⟩ | ⟨hxp, hcc, hcm⟩
    · obtain ⟨cw, hcw, hcpar, hcr⟩ := hok.wf.child cur w hw ch hmem
      obtain ⟨cwb, hcwb⟩ := h.ex ch cw hcw
      obtain ⟨cw2, hcw2, r⟩ := h.rel ch cwb hcwb
      rw [hcw] at hcw2; cases hcw2
      rcases r.parent with hp2 | ⟨hx, _⟩
      · exact ⟨cwb, hcwb, by rw [hp2]; exact hcpar, by rw [r.isRoot]; exact hcr⟩
      · exact absurd hx hne
    · subst hcc hxp
      exact ⟨w0', h.child, h.listed hcm⟩
  · intro cur wb hwb
    obtain ⟨w, hw, r⟩ := h.rel cur wb hwb
    by_cases hcp : cur = p
    · rw [(r.atP hcp).1]; exact h.nodup
    · rw [r.kids hcp]; exact hok.nodup cur w hw
  · intro x wb hwb
    obtain ⟨w, hw, r⟩ := h.rel x wb hwb
    rcases r.parent with hp1 | ⟨_, hp1⟩
    · rw [hp1]; exact hok.noSelf x w hw
    · rw [hp1]; exact fun hx => nomatch hx
  · intro x wb hwb hr
    obtain ⟨w, hw, r⟩ := h.rel x wb hwb
    exact hok.onlyRoot x w hw (by rw [← r.isRoot]; exact hr)
  · obtain ⟨w, r⟩ := hok.rootWin.record
    obtain ⟨wb, hwb⟩ := h.ex 0 w r.slot
    obtain ⟨w2, hw2, rb⟩ := h.rel 0 wb hwb
    cases r.slot.symm.trans hw2
    refine ⟨⟨wb, hwb, by rw [rb.freed]; exact r.live, by rw [rb.isRoot]; exact r.isRoot, ?_, by rw [rb.rect]; exact r.top,
      by rw [rb.rect]; exact r.left⟩⟩
    rcases rb.parent with hp2 | ⟨_, hp2⟩
    · rw [hp2]; exact r.parent
    · exact hp2

theorem rootOk (h : Relisted t tb p c pw pw' w0 w0' cs) (hro : RootOk t) : RootOk tb := by
  obtain ⟨w, hw, hf, hv, htop, hleft⟩ := hro.ex
  obtain ⟨wb, hwb⟩ := h.ex 0 w hw
  obtain ⟨w2, hw2, r⟩ := h.rel 0 wb hwb
  rw [hw] at hw2; cases hw2
  exact ⟨⟨wb, hwb, by rw [r.freed]; exact hf, by rw [r.visible]; exact hv, by rw [r.rect]; exact htop, by rw [r.rect]; exact hleft⟩⟩

theorem ordered (h : Relisted t tb p c pw pw' w0 w0' cs) (hok : TreeOk t) (ho : Ordered t) (hlt : c ∈ cs → p < c) :
    Ordered tb := by
  intro x wb hwb ch hch
  rcases h.childOf hok x wb hwb ch hch with ⟨w, hw, hmem, _⟩ | ⟨hxp, hcc, hcm⟩
  · exact ho x w hw ch hmem
  · subst hcc hxp
    exact hlt hcm

theorem rootsPositive (h : Relisted t tb p c pw pw' w0 w0' cs) (hpos : RootsPositive t) : RootsPositive tb := by
  intro x wb hwb hr
  obtain ⟨w, hw, r⟩ := h.rel x wb hwb
  rw [r.rect]; exact hpos x w hw (by rw [← r.isRoot]; exact hr)

/-- A cell whose owner a re-listing changes lies under `c`'s rectangle in `p`, `c` being shown.  The walk leaves one level of
    fuel for `c` itself, so the region is that of an expose with any fuel not below the size of the store. -/
theorem changed (h : Relisted t tb p c pw pw' w0 w0' cs) (hokb : TreeOk tb) (hc0 : c ≠ 0) {fe : Nat} (hfe : t.wins.size ≤ fe)
    {L C : Int} (hne : ownerAt tb L C ≠ ownerAt t L C) :
    w0.isVisible = true ∧ ExposedRegion tb fe p (some w0.rect) L C := by
  unfold ownerAt at hne
  rw [h.size] at hne
  obtain ⟨p', x, y, k, ⟨hpc, hl⟩, hP, hk, hex⟩ := h.sameButC.changed hc0 hokb.wf hokb.rootWin hne
  -- only `p` lists `c`
  have hp : p' = p := Classical.byContradiction fun hpp => hl.elim
    (fun ⟨w, hw, hm⟩ => h.only p' w hpp hpc hw hm) fun ⟨w, hw, hm⟩ => h.only p' w hpp hpc (h.other p' hpp hpc ▸ hw) hm
  subst hp
  have hvis : w0.isVisible = true ∧ w0.rect.memb x y = true := by
    rcases hP with ⟨cw, hcw, hv, _, hm⟩ | ⟨cw, hcw, hv, _, hm⟩
    · rw [h.hw0] at hcw; cases hcw; exact ⟨hv, hm⟩
    · rw [h.child] at hcw; cases hcw
      exact ⟨by rw [← h.childF.visible]; exact hv, by rw [← h.childF.rect]; exact hm⟩
  exact ⟨hvis.1, exposedRegion_some ((Rect.memb_iff _ _ _).1 hvis.2) (exposedAt_mono_le tb (by omega) hex)⟩

theorem parentListed (h : Relisted t tb p c pw pw' w0 w0' cs) (hpl : ParentListedBut t c)
    (hcq : ∀ q, w0'.parent = some q → q = p ∧ c ∈ cs) : ParentListed tb := by
  intro x wb q hwb hq
  by_cases hxc : x = c
  · subst hxc
    rw [h.child] at hwb; cases hwb
    obtain ⟨hqp, hcm⟩ := hcq q hq
    subst hqp
    exact ⟨pw', h.par, by rw [h.parF.children]; exact hcm⟩
  · obtain ⟨w, hw, r⟩ := h.rel x wb hwb
    rcases r.parent with hp2 | ⟨hx, _⟩
    · rw [hp2] at hq
      obtain ⟨qw, hqw, hmem⟩ := hpl x w q hxc hw hq
      by_cases hqp : q = p
      · subst hqp
        rw [h.hpw] at hqw; cases hqw
        exact ⟨pw', h.par, by rw [h.parF.children]; exact mem_of_filter_eq h.filter.symm hmem hxc⟩
      · by_cases hqc : q = c
        · subst hqc
          rw [h.hw0] at hqw; cases hqw
          exact ⟨w0', h.child, by rw [h.childF.children]; exact hmem⟩
        · exact ⟨qw, by rw [h.other q hqp hqc]; exact hqw, hmem⟩
    · exact absurd hx hxc

theorem rootRect (h : Relisted t tb p c pw pw' w0 w0' cs) (w : Win) (hw : t.wins[0]? = some w) :
    ∃ wb, tb.wins[0]? = some wb ∧ wb.rect = w.rect := by
  obtain ⟨wb, hwb⟩ := h.ex 0 w hw
  obtain ⟨w2, hw2, r⟩ := h.rel 0 wb hwb
  rw [hw] at hw2; cases hw2
  exact ⟨wb, hwb, r.rect⟩

theorem recorded (hR : Relisted t tb p c pw pw' w0 w0' cs) {t' : Tree} (hokb : TreeOk tb) (hposb : RootsPositive tb) (hc0 : c ≠ 0)
    (hdmg : tb.root.damage = t.root.damage) (hres : tb.root.needsRestore = t.root.needsRestore)
    (hne : ∀ x ∈ t.root.damage, x.Nonempty) {fe : Nat} (hfe : t.wins.size ≤ fe)
    (h : (if w0.isVisible then expose tb fe p (some w0.rect) else pure tb) = .ok t') :
    Recorded t t' ∧ RootStep tb t' ∧ t'.wins = tb.wins :=
  have hE := Exposed.of_ite h (by rw [hdmg]; exact hne) hposb
  ⟨hE.recorded hdmg hres fun _ _ hd => hR.changed hokb hc0 hfe hd, hE.root, hE.wins⟩

/-- `hlt`: a new child has a larger id than its parent; `hcq`: `c` names a parent only if that lists it. -/
theorem step (hR : Relisted t tb p c pw pw' w0 w0' cs) {t' : Tree} (hok : TreeOk t) (hpos : RootsPositive t)
    (hne : ∀ x ∈ t.root.damage, x.Nonempty) (hc0 : c ≠ 0) (hroot : tb.root = t.root) {fe : Nat} (hfe : t.wins.size ≤ fe)
    (hlt : Ordered t → c ∈ cs → p < c) (hcq : ∀ q, w0'.parent = some q → q = p ∧ c ∈ cs)
    (h : (if w0.isVisible then expose tb fe p (some w0.rect) else pure tb) = .ok t') : Step t t' ∧ t'.wins = tb.wins :=
  have hokb := hR.treeOk hok
  have hposb := hR.rootsPositive hpos
  have ⟨hrec, hrs, hw⟩ := hR.recorded hokb hposb hc0 (by rw [hroot]) (by rw [hroot]) hne hfe h
  ⟨⟨treeOk_congr hw hokb, rootsPositive_congr hw hposb, hrec, (RootStep.trans (Or.inl hroot) hrs).move,
    fun ho => ordered_congr hw (hR.ordered hok ho (hlt ho)),
    fun hpl => parentListed_congr hw (hR.parentListed (hpl.but c) hcq),
    fun w hw0 => (hR.rootRect w hw0).imp fun _ hx => ⟨by rw [hw]; exact hx.1, hx.2⟩⟩, hw⟩

/-- The re-listing that only rewrites the parent's child list (the restacking kinds and the insertions). -/
theorem of_set {t : Tree} {p c : Id} {pw w0 : Win} {cs : List Id} (hpw : t.wins[p]? = some pw)
    (hw0 : t.wins[c]? = some w0) (hpc : p ≠ c)
    (honly : ∀ (x : Id) (w : Win), x ≠ p → x ≠ c → t.wins[x]? = some w → c ∉ w.children)
    (hfilter : cs.filter (fun x => decide (x ≠ c)) = pw.children.filter (fun x => decide (x ≠ c))) (hnodup : cs.Nodup)
    (hlisted : c ∈ cs → w0.parent = some p ∧ w0.isRoot = false) :
    Relisted t (WinTree.set t p { pw with children := cs }) p c pw { pw with children := cs } w0 w0 cs :=
  { hpw := hpw, hw0 := hw0, only := honly, filter := hfilter, nodup := hnodup
    par := set_wins_self hpw _, parF := ⟨rfl, rfl, rfl, rfl, rfl, rfl⟩
    child := by rw [set_wins_ne _ hpc]; exact hw0, childF := ⟨rfl, rfl, rfl, rfl, rfl, Or.inl rfl⟩
    other := fun x hxp _ => set_wins_ne _ (Ne.symm hxp), size := set_size _ _ _, listed := hlisted }

end Relisted

/-- The kinds `_request_hierarchy_change` queues. -/
def isRestack : Change → Bool
  | .raise => true
  | .raiseFront => true
  | .lower => true
  | .lowerBack => true
  | _ => false

theorem restack_step {t t' : Tree} {ch : Change} {p c : Id} (hch : isRestack ch = true) (hok : TreeOk t)
    (hpos : RootsPositive t) (hne : ∀ x ∈ t.root.damage, x.Nonempty)
    (h : doHierarchyChange t (t.wins.size + 1) ch p c = .ok t') :
    Step t t' ∧ t'.wins.size = t.wins.size ∧ SameBy (fun w => w.parent) t t' := by
  have hk : ch.isRestack = true := by cases ch <;> first | rfl | cases hch
  obtain ⟨pw, w0, cs, hpw, hw0, hrl, hh⟩ := doHierarchyChange_restack_ok hk h
  obtain ⟨hperm, hfilter, hcase⟩ := relist_ok hk hrl
  rcases hcase with hmem | rfl
  · obtain ⟨hcpar, hcr, hpc, hc0, honly⟩ := hok.listed hpw.1 hmem hw0.1
    obtain ⟨hs, hw⟩ := (Relisted.of_set hpw.1 hw0.1 hpc (fun x w hx _ => honly x w hx) hfilter
      ((List.Perm.nodup_iff hperm).2 (hok.nodup p pw hpw.1)) fun _ => ⟨hcpar, hcr⟩).step hok hpos hne hc0 rfl (Nat.le_succ _)
      (fun ho _ => ho p pw hpw.1 c hmem)
      (fun q hq => ⟨(Option.some.inj (hcpar.symm.trans hq)).symm, (List.Perm.mem_iff hperm).2 hmem⟩) hh
    refine ⟨hs, by rw [hw, set_size], fun x => ?_⟩
    rw [hw]
    by_cases hx : x = p
    · rw [hx, set_wins_self hpw.1, hpw.1]; rfl
    · rw [set_wins_ne _ (Ne.symm hx)]
  · -- the store is unchanged, and no owner changes
    rw [show ({ pw with children := pw.children } : Win) = pw from rfl, set_self hpw.1] at hh
    have hE := Exposed.of_ite hh hne hpos
    exact ⟨hE.step hok hpos, by rw [hE.wins], sameBy_of_wins hE.wins⟩

/-- The queue loop at the head of `tickit_window_flush`. -/
theorem applyChanges_step : ∀ (q : List Req) (t t' : Tree), (∀ r ∈ q, isRestack r.change = true) → TreeOk t →
    RootsPositive t → (∀ x ∈ t.root.damage, x.Nonempty) → applyChanges (t.wins.size + 1) t q = .ok t' →
    Step t t' ∧ t'.wins.size = t.wins.size ∧ SameBy (fun w => w.parent) t t' := by
  intro q
  induction q with
  | nil =>
    intro t t' _ hok hpos _ h
    cases h
    exact ⟨.refl hok hpos, rfl, sameBy_of_wins rfl⟩
  | cons r rest ih =>
    intro t t' hk hok hpos hne h
    obtain ⟨t1, h1, h⟩ := bind_ok_iff.1 h
    obtain ⟨a1, a2, a4⟩ := restack_step (hk r List.mem_cons_self) hok hpos hne h1
    rw [← a2] at h
    obtain ⟨b1, b2, b4⟩ := ih t1 t' (fun x hx => hk x (List.mem_cons_of_mem _ hx)) a1.ok a1.pos (a1.recorded.nonempty hne) h
    exact ⟨a1.trans b1, b2.trans a2, fun x => (b4 x).trans (a4 x)⟩

end WinFlush
end Tickit
