import Tickit.Proof.LifeStep
import Tickit.Proof.LifeCount
/-
  C08: the pen operations with internal reference traffic — `tickit_pen_set_colour_attr`,
  `tickit_pen_set_colour_attr_desc`, `tickit_pen_copy`, `tickit_pen_copy_attr` with `TICKIT_PEN_ON_CHANGE` handlers
  that take and drop references to pens, `freeze`/`thaw`, `emit_change`.

  The account: a pen's count is the application's references plus the windows holding it plus the references the
  library itself holds at that moment (`e k`: one per `freeze`, one per running `emit_change`, one for the source of
  a running `tickit_pen_copy`).  A pen with `e k ≥ 1` is alive, whatever the handlers drop.  The account itself, `PX st e`,
  is stated in Proof/LifeState.lean over `Obj.At`; here are the operations during which `e` is not 0.
-/
namespace Tickit.Life
open WinTree (Id Win Req Change Tree)
variable {gh : Ghost}

structure PenFrame (st st' : St) : Prop where
  tree : st'.tree = st.tree
  wx : st'.wx = st.wx
  strs : st'.strs = st.strs
  rbs : st'.rbs = st.rbs
  term : st'.term = st.term

theorem PenFrame.refl (st : St) : PenFrame st st := ⟨rfl, rfl, rfl, rfl, rfl⟩
theorem PenFrame.trans {a b c : St} (h1 : PenFrame a b) (h2 : PenFrame b c) : PenFrame a c :=
  ⟨h2.tree.trans h1.tree, h2.wx.trans h1.wx, h2.strs.trans h1.strs, h2.rbs.trans h1.rbs, h2.term.trans h1.term⟩

theorem PenFrame.holders {st st' : St} (F : PenFrame st st') (k : Nat) : holders st' k = holders st k :=
  holders_congr F.wx k

/-- `x`, started in `st`, runs to its end, changes pens only, and leaves the account with the library's references `e'`. -/
abbrev PenRun (e' : Nat → Nat) (st : St) (x : Out St) : Prop := ∃ st', x = .ok st' ∧ PX st' e' ∧ PenFrame st st'

theorem PenRun.ok {st : St} {e : Nat → Nat} (P : PX st e) : PenRun e st (.ok st) := ⟨st, rfl, P, PenFrame.refl st⟩

theorem PenRun.bind {e1 e2 : Nat → Nat} {st : St} {x : Out St} {f : St → Out St} (hx : PenRun e1 st x)
    (hf : ∀ st1, PX st1 e1 → PenRun e2 st1 (f st1)) : PenRun e2 st (x >>= f) := by
  obtain ⟨st1, h1, P1, F1⟩ := hx
  obtain ⟨st2, h2, P2, F2⟩ := hf st1 P1
  exact ⟨st2, by rw [h1]; exact h2, P2, F1.trans F2⟩

theorem PenRun.of_frame {e' : Nat → Nat} {st st0 : St} {x : Out St} (F : PenFrame st st0) (h : PenRun e' st0 x) : PenRun e' st x :=
  let ⟨st', h1, P1, F1⟩ := h
  ⟨st', h1, P1, F.trans F1⟩

/-- The pen `k` is alive: what the harness has checked when the application names a pen, and what the library's own
    reference guarantees while it works (`PX.live_of_pos`). -/
def PenLive (st : St) (k : Nat) : Prop := ∃ p, st.pens[k]? = some p ∧ p.freed = false

theorem PX.at_pos {st : St} {e : Nat → Nat} (P : PX st e) {k : Nat} (h : 1 ≤ e k) :
    ∃ p, st.pens[k]? = some p ∧ p.At (holders st k + (e k - 1) + 1) := by
  have hk := P k
  have e1 : holders st k + e k = holders st k + (e k - 1) + 1 := by omega
  cases hp : st.pens[k]? with
  | none => rw [hp] at hk; have : holders st k + e k = 0 := hk; omega
  | some p => rw [hp, e1] at hk; exact ⟨p, rfl, hk⟩

theorem PX.live_of_pos {st : St} {e : Nat → Nat} (P : PX st e) {k : Nat} (h : 1 ≤ e k) : PenLive st k :=
  let ⟨p, hp, H⟩ := P.at_pos h; ⟨p, hp, H.live⟩

theorem frame_set_pens (st : St) (pens : Array Obj) : PenFrame st { st with pens := pens } := ⟨rfl, rfl, rfl, rfl, rfl⟩

theorem penRef_X {st : St} {e : Nat → Nat} (P : PX st e) {k : Nat} (hl : PenLive st k) : PenRun (bump e k) st (penRef st k) := by
  obtain ⟨p, hp, hf⟩ := hl
  rw [penRef_eq hp hf]
  exact ⟨_, rfl, P.set hp _ (fun _ => bump_ne e) (by rw [bump_at]; exact (P.at hp).ref hf), frame_set_pens _ _⟩

/-- A read of a live pen (the model's `penRef st k >>= fun _ => pure ()`) passes; to be used with `pure_ok`. -/
theorem penRead_ok {st : St} {k : Nat} (hl : PenLive st k) : (penRef st k >>= fun _ => (Out.ok () : Out Unit)) = .ok () := by
  obtain ⟨p, hp, hf⟩ := hl
  rw [penRef_eq hp hf]; rfl

theorem penUnref_X {st : St} {e : Nat → Nat} (P : PX st e) {k : Nat} (hk : 1 ≤ e k) :
    PenRun (unbump e k) st (penUnref st k) := by
  obtain ⟨p, hp, H⟩ := P.at_pos hk
  obtain ⟨hf, hpos, H', _⟩ := H.unref
  rw [penUnref_eq hp hf hpos]
  exact ⟨_, rfl, P.set hp _ (fun _ => unbump_ne e) (by simpa [unbump] using H'), frame_set_pens _ _⟩

theorem penUnref_bump {st : St} {e : Nat → Nat} {k : Nat} (P : PX st (bump e k)) : PenRun e st (penUnref st k) := by
  have := penUnref_X P (bump_self e k)
  rwa [unbump_bump] at this

theorem penAct_X {st : St} {e : Nat → Nat} (P : PX st e) (a : PAct) :
    penAct st a = none ∨ ∃ st', penAct st a = some (.ok st') ∧ PX st' e ∧ PenFrame st st' := by
  cases a with
  | unref k =>
    refine act_guard fun hh => ?_
    obtain ⟨p, hp, _, hu, P'⟩ := app_unref_X P hh
    simp only [hp, Option.getD_some]
    exact ⟨_, hu, P', frame_set_pens _ _⟩
  | ref k =>
    refine act_guard fun hh => ?_
    obtain ⟨p, hp, hu, P'⟩ := app_ref_X P hh
    simp only [hp, Option.getD_some]
    exact ⟨_, hu, P', frame_set_pens _ _⟩

theorem runPenActs_X : ∀ (acts : List PAct) {st : St} {e : Nat → Nat}, PX st e → PenRun e st (runPenActs st acts)
  | [], _, _, P => .ok P
  | a :: rest, st, e, P => by
    unfold runPenActs
    rcases penAct_X P a with h | ⟨st1, h, P1, F1⟩
    · simp only [h]
      exact runPenActs_X rest P
    · simp only [h, bind_ok]
      exact (runPenActs_X rest P1).of_frame F1

theorem PX.of_pens_wx {st st' : St} {e : Nat → Nat} (P : PX st e) (hp : st'.pens = st.pens) (hw : st'.wx = st.wx) : PX st' e := by
  intro k; rw [holders_congr hw, hp]; exact P k

theorem PX.setPX {st : St} {e : Nat → Nat} (P : PX st e) (k : Nat) (x : PenX) : PX (setPX st k x) e := P.of_pens_wx rfl rfl
theorem frame_setPX (st : St) (k : Nat) (x : PenX) : PenFrame st (setPX st k x) := ⟨rfl, rfl, rfl, rfl, rfl⟩
@[simp] theorem setPX_pens (st : St) (k : Nat) (x : PenX) : (setPX st k x).pens = st.pens := rfl

theorem runPenEvents_go_X (k : Nat) : ∀ (bs : List PBind) {st : St} {e : Nat → Nat}, PX st e →
    PenRun e st (runPenEvents.go k st bs)
  | [], _, _, P => .ok P
  | b :: rest, st, e, P => by
    unfold runPenEvents.go
    have F0 : PenFrame st { st with log := st.log ++ [s!"P{k}c"] } := ⟨rfl, rfl, rfl, rfl, rfl⟩
    have P0 : PX { st with log := st.log ++ [s!"P{k}c"] } e := P.of_pens_wx rfl rfl
    exact PenRun.of_frame F0 ((runPenActs_X b.acts P0).bind fun _ P1 => runPenEvents_go_X k rest P1)

theorem runPenEvents_X {st : St} {e : Nat → Nat} (P : PX st e) {k : Nat} (hk : 1 ≤ e k) : PenRun e st (runPenEvents st k) := by
  unfold runPenEvents
  simp only [pure_ok, penRead_ok (P.live_of_pos hk), bind_ok]
  refine (runPenEvents_go_X k (getPX st k).binds P).bind fun st1 P1 => ?_
  simp only [penRead_ok (P1.live_of_pos hk), bind_ok]
  exact .ok P1

theorem emitChange_X {st : St} {e : Nat → Nat} (P : PX st e) {k : Nat} (hl : PenLive st k) : PenRun e st (emitChange st k) := by
  unfold emitChange
  exact (penRef_X P hl).bind fun _ P1 => (runPenEvents_X P1 (bump_self e k)).bind fun _ P2 => penUnref_bump P2

theorem penChanged_X {st : St} {e : Nat → Nat} (P : PX st e) {k : Nat} (hl : PenLive st k) : PenRun e st (penChanged st k) := by
  unfold penChanged
  simp only [pure_ok, penRead_ok hl, bind_ok]
  split
  · exact emitChange_X P hl
  · exact ⟨_, rfl, P.setPX _ _, frame_setPX _ _ _⟩

theorem penFreeze_X {st : St} {e : Nat → Nat} (P : PX st e) {k : Nat} (hl : PenLive st k) : PenRun (bump e k) st (penFreeze st k) := by
  unfold penFreeze
  exact (penRef_X P hl).bind fun _ P1 => ⟨_, rfl, P1.setPX _ _, frame_setPX _ _ _⟩

theorem penThaw_X {st : St} {e : Nat → Nat} (P : PX st e) {k : Nat} (hk : 1 ≤ e k) : PenRun (unbump e k) st (penThaw st k) := by
  unfold penThaw
  simp only [pure_ok, penRead_ok (P.live_of_pos hk), bind_ok]
  have P1 := P.setPX k { getPX st k with freeze := (getPX st k).freeze - 1 }
  refine PenRun.of_frame (frame_setPX st k { getPX st k with freeze := (getPX st k).freeze - 1 }) ?_
  split
  · exact PenRun.of_frame (frame_setPX _ _ _) ((runPenEvents_X (P1.setPX k _) hk).bind fun _ P2 => penUnref_X P2 hk)
  · exact penUnref_X P1 hk

theorem penThaw_bump {st : St} {e : Nat → Nat} {k : Nat} (P : PX st (bump e k)) : PenRun e st (penThaw st k) := by
  have := penThaw_X P (bump_self e k)
  rwa [unbump_bump] at this

theorem penSetColour_X {st : St} {e : Nat → Nat} (P : PX st e) {k : Nat} (hl : PenLive st k) (val : Int) :
    PenRun e st (penSetColour st k val) := by
  unfold penSetColour
  simp only [pure_ok, penRead_ok hl, bind_ok]
  exact (emitChange_X (P.setPX k _) hl).of_frame (frame_setPX _ _ _)

theorem penSetRgb_X {st : St} {e : Nat → Nat} (P : PX st e) {k : Nat} (hl : PenLive st k) (rgb : Nat × Nat × Nat) :
    PenRun e st (penSetRgb st k rgb) := by
  unfold penSetRgb
  simp only [pure_ok, penRead_ok hl, bind_ok]
  split
  · exact .ok P
  · exact (penChanged_X (P.setPX k _) hl).of_frame (frame_setPX _ _ _)

theorem penCopyAttr_X {st : St} {e : Nat → Nat} (P : PX st e) {dst src : Nat} (hd : PenLive st dst) (hs : PenLive st src) :
    PenRun e st (penCopyAttr st dst src) := by
  unfold penCopyAttr
  simp only [pure_ok, penRead_ok hs, bind_ok]
  have hk := bump_self e dst
  refine (penFreeze_X P hd).bind fun st1 P1 => (penSetColour_X P1 (P1.live_of_pos hk) _).bind fun st2 P2 => ?_
  split
  · exact (penSetRgb_X P2 (P2.live_of_pos hk) _).bind fun _ P3 => penThaw_bump P3
  · exact penThaw_bump P2

/-- `tickit_pen_copy(dst, src, overwrite)` after the repair: the source is kept alive while the handlers of the
    destination run. -/
theorem penCopy_X {st : St} {e : Nat → Nat} (P : PX st e) {dst src : Nat} (hd : PenLive st dst) (hs : PenLive st src)
    (overwrite : Bool) : PenRun e st (penCopy true st dst src overwrite) := by
  unfold penCopy
  simp only [if_true]
  obtain ⟨st1, h1, P1, F1⟩ := penRef_X P hs
  have hsrc1 := bump_self e src
  simp only [h1, bind_ok]
  have hd1 : PenLive st1 dst := by
    by_cases hsd : dst = src
    · subst hsd; exact P1.live_of_pos hsrc1
    · obtain ⟨ps, hs, hfs⟩ := hs
      obtain ⟨pd, hd, hfd⟩ := hd
      rw [penRef_eq hs hfs] at h1
      cases h1
      exact ⟨pd, by rw [Array.getElem?_setIfInBounds_ne (Ne.symm hsd)]; exact hd, hfd⟩
  refine PenRun.of_frame F1 ((penFreeze_X P1 hd1).bind fun st2 P2 => ?_)
  have hdst2 := bump_self (bump e src) dst
  have hsrc2 : 1 ≤ bump (bump e src) dst src := Nat.le_trans hsrc1 (bump_ge _ _ _)
  simp only [pure_ok, penRead_ok (P2.live_of_pos hsrc2), bind_ok]
  -- what follows the copy proper, whichever way was taken through it
  have after {st3 : St} (P3 : PX st3 (bump (bump e src) dst)) : PenRun e st3 (penThaw st3 dst >>= fun st => penUnref st src) :=
    (penThaw_bump P3).bind fun _ P4 => penUnref_bump P4
  split
  · exact after P2
  · split
    · exact after P2
    · refine (penCopyAttr_X P2 (P2.live_of_pos hdst2) (P2.live_of_pos hsrc2)).bind fun st3 P3 => ?_
      simp only [penRead_ok (P3.live_of_pos hsrc2), bind_ok]
      exact after P3

theorem penSetDesc_X {st : St} {e : Nat → Nat} (P : PX st e) {k : Nat} (hl : PenLive st k) (desc : List UInt8) :
    penSetDesc st k desc = none ∨ ∃ st' acc, penSetDesc st k desc = some (.ok (st', acc)) ∧ PX st' e ∧ PenFrame st st' := by
  unfold penSetDesc
  split
  · left; rfl
  · right; exact ⟨st, false, rfl, P, PenFrame.refl st⟩
  · right
    rename_i val rgb _
    obtain ⟨st1, h1, P1, F1⟩ := penFreeze_X P hl
    simp only [h1, bind_ok]
    have hk := bump_self e k
    obtain ⟨st2, h2, P2, F2⟩ := penSetColour_X P1 (P1.live_of_pos hk) val
    simp only [h2, bind_ok]
    cases rgb with
    | some c =>
      obtain ⟨st3, h3, P3, F3⟩ := penSetRgb_X P2 (P2.live_of_pos hk) c
      simp only [h3, bind_ok]
      obtain ⟨st4, h4, P4, F4⟩ := penThaw_bump P3
      simp only [h4, bind_ok, pure_ok]
      exact ⟨st4, true, rfl, P4, ((F1.trans F2).trans F3).trans F4⟩
    | none =>
      simp only [pure_ok, bind_ok]
      obtain ⟨st4, h4, P4, F4⟩ := penThaw_bump P2
      simp only [h4, bind_ok]
      exact ⟨st4, true, rfl, P4, (F1.trans F2).trans F4⟩

theorem SInv.of_PX {st st' : St} (inv : SInv gh st) (F : PenFrame st st') (P : PX st' (fun _ => 0)) : SInv gh st' := by
  have hg : ∀ j, getX st' j = getX st j := fun j => by unfold getX; rw [F.wx]
  refine ⟨⟨by rw [F.tree]; exact inv.tinv, by rw [F.wx, F.tree]; exact inv.wx_size, by rw [F.tree]; exact inv.rc,
    List.nodup_nil, by intro i hi; simp at hi, ?_, pensOk_iff.2 P, ?_, ?_, ?_,
    ⟨by rw [F.rbs]; exact inv.simple.1, by rw [F.strs]; exact inv.simple.2⟩⟩, ?_, by rw [F.tree]; exact inv.glive⟩
  · intro i w hw hf hi; rw [hg]; rw [F.tree] at hw; exact inv.dead_pen i w hw hf hi
  · rw [F.term, F.tree]; exact inv.term_held
  · rw [F.term, F.tree]; exact inv.term_free
  · rw [F.term, F.tree]; exact inv.term_dead
  · intro j w hl; rw [hg]; rw [F.tree] at hl; exact inv.wref j w hl

theorem SInv.skip_or {st : St} (inv : SInv gh st) {c : Bool} {x : Out (St × String)}
    (hx : c = false → ∃ st' r, x = .ok (st', r) ∧ SInv gh st' ∧ st'.wx = st.wx) :
    ∃ st' r, (if c = true then skipR st else x) = .ok (st', r) ∧ SInv gh st' ∧ st'.wx = st.wx := by
  cases c
  · exact hx rfl
  · exact ⟨st, _, rfl, inv, rfl⟩

theorem heldP_of_not {st : St} {k : Nat} (h : (!heldP st k) = false) : PenLive st k := by
  obtain ⟨p, hp, hf, _⟩ := heldP_spec (st := st) (k := k) (by cases hh : heldP st k <;> simp_all)
  exact ⟨p, hp, hf⟩

theorem heldP_of_not2 {st : St} {d s : Nat} (h : (!heldP st d || !heldP st s) = false) : PenLive st d ∧ PenLive st s := by
  have h2 : (!heldP st d) = false ∧ (!heldP st s) = false := by
    cases hd : heldP st d <;> cases hs : heldP st s <;> simp_all
  exact ⟨heldP_of_not h2.1, heldP_of_not h2.2⟩

/-- Every pen operation with change events keeps the invariant and never fails: whatever the handlers take and
    drop, the library's own references keep alive what it goes on using. -/
theorem step_pen_ok {cfg : Cfg} (R : Repaired cfg) {st : St} (inv : SInv gh st) (op : Op) (hp : op.penEvent = true) :
    ∃ st' r, step cfg st op = .ok (st', r) ∧ SInv gh st' ∧ st'.wx = st.wx := by
  have P0 := pensOk_iff.1 inv.pens
  have done {x : Out St} (h : ∃ st', x = .ok st' ∧ PX st' (fun _ => 0) ∧ PenFrame st st') :
      ∃ st' r, okR x = .ok (st', r) ∧ SInv gh st' ∧ st'.wx = st.wx := by
    obtain ⟨st1, h1, P1, F1⟩ := h
    exact ⟨st1, "ok", by rw [h1]; rfl, inv.of_PX F1 P1, F1.wx⟩
  cases op <;> cases hp
  case pset k val =>
    exact inv.skip_or fun hc => done (penSetColour_X P0 (heldP_of_not hc) val)
  case pdesc k desc =>
    refine inv.skip_or fun hc => ?_
    rcases penSetDesc_X P0 (heldP_of_not hc) desc with h | ⟨st1, acc, h1, P1, F1⟩
    · simp only [h, pure_ok]; exact ⟨_, _, rfl, inv, rfl⟩
    · simp only [h1, bind_ok, pure_ok]
      exact ⟨_, _, rfl, inv.of_PX F1 P1, F1.wx⟩
  case pcopy d s ow =>
    refine inv.skip_or fun hc => ?_
    rw [R.penCopyKeepsSrc]
    exact done (penCopy_X P0 (heldP_of_not2 hc).1 (heldP_of_not2 hc).2 ow)
  case pcopyattr d s =>
    exact inv.skip_or fun hc => done (penCopyAttr_X P0 (heldP_of_not2 hc).1 (heldP_of_not2 hc).2)
  case pbind k acts =>
    exact inv.skip_or fun _ => ⟨_, _, rfl, inv.of_PX (frame_setPX _ _ _) (P0.setPX _ _), rfl⟩
  case punbind k id =>
    exact inv.skip_or fun _ => ⟨_, _, rfl, inv.of_PX (frame_setPX _ _ _) (P0.setPX _ _), rfl⟩

end Tickit.Life
