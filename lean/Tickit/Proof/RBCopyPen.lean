import Tickit.Model.RBCopy
/-
  C13, pens of merged line cells: `tickit_pen_equiv` (`Pen.equiv`, what `linecell` asks before it replaces the pen of a
  line cell already there) holds exactly of pens with the same look (`penLook`: every getter of src/pen.c, the RGB8
  values included), so the cell a line is merged into always *looks* like the incoming pen.
-/
namespace Tickit.RBCopy
open Tickit Tickit.RB

theorem equivColour_iff_look (a b : Option Colour) :
    Pen.equivColour a b = true ↔ Pen.getColour a = Pen.getColour b ∧ Pen.getRgb a = Pen.getRgb b := by
  unfold Pen.equivColour
  by_cases h : Pen.getColour a = Pen.getColour b
  · rw [if_neg (fun hn => hn h)]
    cases ha : Pen.getRgb a with
    | none => cases hb : Pen.getRgb b <;> simp [h]
    | some x =>
      cases hb : Pen.getRgb b with
      | none => simp
      | some y =>
        cases x; cases y
        simp [h, and_assoc]
  · rw [if_pos h]; simp [h]

theorem equivBool_iff_look (a b : Option Bool) : Pen.equivBool a b = true ↔ Pen.getBool a = Pen.getBool b := by
  unfold Pen.equivBool; simp

theorem equivInt_iff_look (a b : Option Int) : Pen.equivInt a b = true ↔ Pen.getInt a = Pen.getInt b := by
  unfold Pen.equivInt; simp

theorem equiv_iff_penLook (a b : Pen) : Pen.equiv a b = true ↔ penLook a = penLook b := by
  unfold Pen.equiv penLook
  simp only [Bool.and_eq_true, equivColour_iff_look, equivBool_iff_look, equivInt_iff_look, PenLook.mk.injEq]
  constructor
  · intro h; simp_all
  · intro h; simp_all

theorem equiv_false_of_look_ne {a b : Pen} (h : penLook a ≠ penLook b) : Pen.equiv a b = false :=
  Bool.eq_false_iff.2 (mt (equiv_iff_penLook a b).1 h)

/-- The segments a cell holds when `bits` are merged into it. -/
def mergedMask (bits : Nat) (old : Content) : Nat :=
  match old with
  | .line _ m => m ||| bits
  | _ => bits

theorem mergeLine_look (pen : Pen) (bits : Nat) (old : Content) :
    ∃ q, mergeLine pen bits old = .line q (mergedMask bits old) ∧ penLook q = penLook pen ∧
      (∀ p m, old = .line p m → Pen.equiv p pen = false → q = pen) ∧ ((∀ p m, old ≠ .line p m) → q = pen) := by
  unfold mergeLine mergedMask
  cases old with
  | line p m =>
    by_cases h : Pen.equiv p pen = true
    · refine ⟨p, by simp only [h, if_true], (equiv_iff_penLook p pen).1 h, ?_, fun hn => absurd rfl (hn p m)⟩
      intro p' m' he hf
      cases he
      rw [h] at hf; cases hf
    · exact ⟨pen, by simp [h], rfl, fun _ _ _ _ => rfl, fun _ => rfl⟩
  | skip => exact ⟨pen, rfl, rfl, fun _ _ h => (by cases h), fun _ => rfl⟩
  | text p s k => exact ⟨pen, rfl, rfl, fun _ _ h => (by cases h), fun _ => rfl⟩
  | erase p => exact ⟨pen, rfl, rfl, fun _ _ h => (by cases h), fun _ => rfl⟩
  | char p cp => exact ⟨pen, rfl, rfl, fun _ _ h => (by cases h), fun _ => rfl⟩

end Tickit.RBCopy
