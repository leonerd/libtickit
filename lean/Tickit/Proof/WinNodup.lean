import Tickit.Proof.WinChain
import Tickit.Proof.WinHanded
/-
  In every reachable store no window occurs twice in the traversal from the root (`visitIds`): the hypothesis of C02's
  `handed_rects_disjoint` is an invariant.  Then the flush whose handlers call `tickit_window_expose` (`flushX`).
-/
namespace Tickit
namespace WinFlush
open WinTree WinRB WinSpec

theorem visit_anc (t : Tree) (hwf : WFp t) (ho : Ordered t) (hpl : ParentListed t) : ∀ (n : Nat) (a x : Id), x ∈ visitIds t n a → Anc t a x := by
  intro n
  induction n with
  | zero => intro a x h; cases h
  | succ m ih =>
    intro a x h
    simp only [visitIds, List.mem_cons] at h
    rcases h with rfl | h
    · exact Anc.refl _
    · cases hw : t.wins[a]? with
      | none => rw [hw] at h; cases h
      | some w =>
        rw [hw] at h
        simp only [List.mem_flatMap] at h
        obtain ⟨ch, hch, hx⟩ := h
        obtain ⟨cw, hcw, hcp, _⟩ := hwf.child a w hw ch hch
        exact (ih ch x hx).parent_up hcw hcp (parent_lt ho hpl hcw hcp)

theorem visitIds_nodup (t : Tree) (hok : TreeOk t) (ho : Ordered t) (hpl : ParentListed t) :
    ∀ (n : Nat) (a : Id), (visitIds t n a).Nodup := by
  intro n
  induction n with
  | zero => intro a; simp [visitIds]
  | succ m ih =>
    intro a
    simp only [visitIds]
    cases hw : t.wins[a]? with
    | none => simp
    | some w =>
      simp only
      refine List.nodup_cons.2 ⟨?_, ?_⟩
      · intro hm
        obtain ⟨ch, hch, hx⟩ := List.mem_flatMap.1 hm
        have h1 := Anc.le (visit_anc t hok.wf ho hpl m ch a hx)
        -- spelt over `Nat`: `omega` does not see `<` on `Id`
        have h2 : @LT.lt Nat _ a ch := ho a w hw ch hch
        omega
      · show List.Pairwise (· ≠ ·) _
        rw [List.pairwise_flatMap]
        refine ⟨fun ch _ => ih ch, ?_⟩
        refine List.Pairwise.imp_of_mem ?_ (hok.nodup a w hw)
        intro c1 c2 hc1 hc2 hne x hx1 y hx2 hxy
        subst hxy
        obtain ⟨w1, hw1, hp1, _⟩ := hok.wf.child a w hw c1 hc1
        obtain ⟨w2, hw2, hp2, _⟩ := hok.wf.child a w hw c2 hc2
        exact hne (Anc.unique (visit_anc t hok.wf ho hpl m c1 x hx1) (visit_anc t hok.wf ho hpl m c2 x hx2) hw1 hw2 hp1 hp2 (ho a w hw c1 hc1) (ho a w hw c2 hc2))

theorem applyExposes_good (content : Id → Int → Int → Cell) (st : St) :
    ∀ (l : List (Id × Option Rect)) (t t' : Tree), applyExposes (t.wins.size + 1) t l = .ok t' →
    GoodQ content { st with tree := t } → GoodQ content { st with tree := t' } ∧ t'.wins = t.wins := by
  intro l
  induction l with
  | nil => intro t t' h hg; simp only [applyExposes] at h; cases h; exact ⟨hg, rfl⟩
  | cons x rest ih =>
    intro t t' h hg
    obtain ⟨w, e⟩ := x
    simp only [applyExposes] at h
    obtain ⟨t1, he, h⟩ := bind_ok_iff.1 h
    have hw1 : t1.wins = t.wins := expose_wins he
    rw [← hw1] at h
    obtain ⟨a, b⟩ := ih t1 t' h (goodQ_expose (st := { st with tree := t }) he hg)
    exact ⟨a, b.trans hw1⟩

theorem flushX_cases {beh : Id → Rect → List DrawOp} {behExp : Id → Rect → List (Id × Option Rect)} {st st' : St}
    {shots : List Shot} (h : flushX beh behExp st = .ok (st', shots)) :
    ∃ st1 t', WinFlush.flush beh st = .ok (st1, shots) ∧
      applyExposes st.fuel st1.tree (shots.flatMap fun sh => behExp sh.win sh.rect) = .ok t' ∧ st' = { st1 with tree := t' } := by
  unfold flushX at h
  obtain ⟨r, hf, h⟩ := bind_ok_iff.1 h
  obtain ⟨t', ha, h⟩ := bind_ok_iff.1 h
  simp only [pure, Pure.pure, Res.ok.injEq, Prod.mk.injEq] at h
  obtain ⟨h1, h2⟩ := h
  subst h2
  exact ⟨r.1, t', hf, ha, h1.symm⟩

/-- The exposes the handlers request are for the *next* flush: the screen is exact for the tree as flushed. -/
theorem goodQ_flushX_at {beh : Id → Rect → List DrawOp} {behExp : Id → Rect → List (Id × Option Rect)}
    {content : Id → Int → Int → Cell} {st st' : St} {shots : List Shot}
    (h : flushX beh behExp st = .ok (st', shots)) (hrep : ∀ sh ∈ shots, RepaintsAt content beh sh) (hg : GoodQ content st) :
    GoodQ content st' ∧ ExactC content st'.tree st'.screen := by
  obtain ⟨st1, t', hf, ha, e⟩ := flushX_cases h
  obtain ⟨g1, hex, _, _⟩ := goodQ_flush_at hf hrep hg
  have hsz : st1.tree.wins.size = st.tree.wins.size := by
    rcases flush_decompose hf hg with ⟨_, e1, _⟩ | ⟨t0, t, h0w, _, hr, _, _, _, a3, _⟩
    · rw [e1]
    · rw [(flushRender_tree beh st st1 t shots hr).1, a3, h0w]
  obtain ⟨g2, hw⟩ := applyExposes_good content st1 _ st1.tree t' (by rw [hsz]; exact ha) g1
  rw [e]
  exact ⟨g2, fun L C w l c ho => hex L C w l c (by rw [← ownerAt_congr t' st1.tree hw]; exact ho)⟩

theorem goodQ_flushX {beh : Id → Rect → List DrawOp} {behExp : Id → Rect → List (Id × Option Rect)}
    {content : Id → Int → Int → Cell} {st st' : St} {shots : List Shot}
    (h : flushX beh behExp st = .ok (st', shots)) (hrep : Repaints content beh) (hg : GoodQ content st) :
    GoodQ content st' ∧ ExactC content st'.tree st'.screen :=
  goodQ_flushX_at h (fun sh _ => repaintsAt_of_repaints hrep sh) hg

end WinFlush
end Tickit
