import Tickit.Model.EvLoopUnbind
import Tickit.Proof.EvLoopOnceStep
/-
  `tickit_watch_cancel` with an unbind handler that acts (Model/EvLoopUnbind.lean).

  The clause: a timer or deferred callback registered from inside a callback — here the unbind notification of a
  watch being cancelled — still runs.  What that needs of `tickit_watch_cancel`: the watch is out of its list before
  the handler runs, and once the handler has returned the function never writes the list again — whatever the
  handler linked in (in front of the place the cancelled watch had, or anywhere else) stays linked.  The two concrete
  states at the end are the ones Props/C17 `unbind_handler_registrations_run` runs.
-/
namespace Tickit.EvLoop

theorem cancel_keeps_what_handler_queued_timers (ub : List Beh) (st : St) (a : Nat) (w : Watch) (l : List Nat)
    (ht : w.type = .timer) :
    (cancelFoundU ub st a w l).timers = (cancelUnlinkedU ub st a w l).timers := by
  unfold cancelFoundU
  rw [(grow_base.cancelRest _ _).timers, lists_free_timers, ht]
  rfl

theorem cancel_keeps_what_handler_queued_laters (ub : List Beh) (st : St) (a : Nat) (w : Watch) (l : List Nat)
    (ht : w.type = .later) :
    (cancelFoundU ub st a w l).laters = (cancelUnlinkedU ub st a w l).laters := by
  unfold cancelFoundU
  rw [(inert_cancelRest _ _).laters, show (St.free _ a).laters = _ from lists_free _ a .later, ht]
  rfl

theorem cancel_unlinks_before_handler (ub : List Beh) (st : St) (a : Nat) (w : Watch) (l : List Nat)
    (ht : w.type = .timer) (hu : unbindActs ub (st.getW a).slot = []) :
    (cancelUnlinkedU ub st a w l).timers = l.erase a := by
  unfold cancelUnlinkedU cancelNotifyU
  rw [ht]
  split
  · unfold notifyU
    have e : ((setListOf st WType.timer (l.erase a)).getW a).slot = (st.getW a).slot := rfl
    rw [e, hu]
    split
    · unfold runUActs notify
      dsimp only [List.foldl_nil]
      split <;> rfl
    · rfl
  · rfl

/-- timers 0 (+1 ms), 1 (+5 ms, UNBIND), 2 (+10 ms); the unbind handler of 1 registers timer 5 at +4.999 ms —
    immediately in front of the place timer 1 had. -/
def probeUnbindBetween : St :=
  [Op.act (.timerAt 0 1000 1000 6), .act (.timerAt 1 1000 5000 2), .act (.timerAt 2 1000 10000 0)].foldl applyOp (build .repaired)

def ubBetween : List Beh := [⟨1, 0, [.timerAt 5 1000 4999 2]⟩]

def cbsOf (st : St) : List Ev := st.log.reverse.filter fun e => match e with | .cb .. => true | _ => false

/-- Deferred callbacks 0 (UNBIND, head of the queue) and 1; the handler of 0 queues 5 with BIND_FIRST. -/
def probeUnbindFirst : St :=
  [Op.act (.later 0 2), .act (.later 1 0)].foldl applyOp (build .repaired)

end Tickit.EvLoop
