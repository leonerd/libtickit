import Tickit.Model.EvLoopFb
import Tickit.Proof.EvLoopState
/-
  The self-pipe configuration (Model/EvLoopFb.lean) restates its functions as other constants, so they are followed
  again: `Steps F R` is the counterpart of `Closed` (Proof/EvLoopStep.lean) over the same `Base0`.  Freeing or cancelling
  a watch is a step only for the watches `F` admits, and `own` says that `F` admits every watch a callback can reach
  (`Named`): for `SLStep` (Proof/EvLoopFbSig.lean) `F` is trivial, for `FStep m N p` (Proof/EvLoopFbPipe.lean) it is
  `N ≤ ·`, which that relation's invariant provides.

  Statements about a restated function keep the name of their twin in the main configuration, in the namespace `Fb`
  (`Fb.IterLeaves`, `Fb.step_tick`, `Fb.sinv_runOps`, `Fb.lg_tick`, `Fb.sigDispatch_logged`, …).  Two relations are called `Same`: `Tickit.EvLoop.Same` (every field some relation reads) is what `Base0.same` asks for;
  `Fb.Same`, below, is coarser (what `FInv` reads: not the log, `iow`, `signals`, `watched`).
-/
namespace Tickit.EvLoop.Fb
open Tickit.EvLoop

/-- Equal on what the self-pipe bookkeeping invariant (`FInv`, Proof/EvLoopFbPipe.lean) reads. -/
structure Same (st st' : St) : Prop where
  heap : st'.heap = st.heap
  timers : st'.timers = st.timers
  laters : st'.laters = st.laters
  procs : st'.procs = st.procs
  slots : st'.slots = st.slots
  pfd : st'.pfd = st.pfd
  pipewatch : st'.pipewatch = st.pipewatch
  pendingSig : st'.pendingSig = st.pendingSig
  pipeBytes : st'.pipeBytes = st.pipeBytes
  pipesMade : st'.pipesMade = st.pipesMade
  alive : st'.alive = st.alive
  cfg : st'.cfg = st.cfg

macro "same_rfl" : tactic => `(tactic| exact ⟨rfl, rfl, rfl, rfl, rfl, rfl, rfl, rfl, rfl, rfl, rfl, rfl⟩)

theorem Same.refl (st : St) : Same st st := by same_rfl

theorem Same.trans {a b c : St} (h1 : Same a b) (h2 : Same b c) : Same a c :=
  ⟨h2.heap.trans h1.heap, h2.timers.trans h1.timers, h2.laters.trans h1.laters, h2.procs.trans h1.procs,
   h2.slots.trans h1.slots, h2.pfd.trans h1.pfd, h2.pipewatch.trans h1.pipewatch, h2.pendingSig.trans h1.pendingSig,
   h2.pipeBytes.trans h1.pipeBytes, h2.pipesMade.trans h1.pipesMade, h2.alive.trans h1.alive, h2.cfg.trans h1.cfg⟩

theorem _root_.Tickit.EvLoop.Same.fb {st st' : St} (h : EvLoop.Same st st') : Same st st' :=
  ⟨h.heap, h.timers, h.laters, h.procs, h.slots, h.pfd, h.pipewatch, h.pendingSig, h.pipeBytes, h.pipesMade, h.alive, h.cfg⟩

/- Over a variable: at a large state (`(watchSignal st …).1`) the same `rfl`s make the unifier unfold the state. -/
theorem same_with_iow (st : St) (l : List Nat) : Same st { st with iow := l } := by same_rfl
theorem same_with_signals (st : St) (l : List Nat) : Same st { st with signals := l } := by same_rfl

/-- So the shared functions can be followed with `Fb.Same` itself. -/
theorem same_base0 : Base0 Same := ⟨Same.refl, @Same.trans, EvLoop.Same.fb, fun _ _ => by same_rfl⟩

theorem same_waitpid (st : St) (pid : Int) : Same st (waitpid st pid).st := (EvLoop.same_waitpid st pid).fb

/-- What a callback can reach names the watch `a`, or `a` is not allocated yet. -/
inductive Named (st : St) (a : Nat) : Prop
  | timer (h : a ∈ st.timers)
  | later (h : a ∈ st.laters)
  | proc (h : a ∈ st.procs)
  | slot {r : SlotRec} (h : r ∈ st.slots) (e : r.handle = a)
  | notify {b : Nat} (h : (st.getW b).notify = some a)
  | fresh (h : st.heap.length ≤ a)

/-- The lists `invoke_watch` unlinks a one-shot watch from. -/
theorem Named.of_list {st : St} {t : WType} {a : Nat} (h1 : t ≠ .none) (h2 : t ≠ .io) (h3 : t ≠ .signal)
    (h : a ∈ listOf st t) : Named st a := by
  cases t
  · exact absurd rfl h1
  · exact absurd rfl h2
  · exact .timer h
  · exact .later h
  · exact absurd rfl h3
  · exact .proc h

structure Steps (F : Nat → Prop) (R : St → St → Prop) : Prop extends Base0 R where
  sigRecord : ∀ s x, R s (sigRecord s x)
  /-- To show a step from `s` one may assume that `F` admits what a callback can reach in `s` (in this form a relation
      that holds under an invariant, like `FStep`, can supply the fact from its invariant). -/
  own : ∀ s s', ((∀ a, Named s a → F a) → R s s') → R s s'
  free : ∀ s a, F a → R s (s.free a)
  setTimers : ∀ s l, l ⊆ s.timers → R s { s with timers := l }
  detach : ∀ s, R s { s with laters := [] }
  bump : ∀ s k, R s (bump s k)
  noteCancel : ∀ s k, R s { s with cancelReq := k :: s.cancelReq }
  doRegister : ∀ s k reg, (∀ s, R s (reg s).1) → (∀ s, (reg s).2 = s.heap.length) → R s (doRegister s k reg)
  watchTimerAt : ∀ s due flags slot, R s (watchTimerAt s due flags slot).1
  watchLater : ∀ s flags slot puser, R s (watchLater s flags slot puser).1
  watchIo : ∀ s fd cond flags slot, R s (watchIo s fd cond flags slot).1
  watchSignal : ∀ s signum flags slot, R s (watchSignal s signum flags slot).1
  alloc : ∀ s w, w.type ≠ .io → w.notify = none → R s (s.alloc w).1
  linkProcess : ∀ s a pid flags, F a → R s (linkProcess s a pid flags)
  cancelDetached : ∀ s a, F a → R s (cancelDetached s a)
  cancelFound : ∀ s a, F a → s.live a = true → a ∈ listOf s (s.getW a).type →
    R s (cancelFound s a (s.getW a) (listOf s (s.getW a).type))
  unlinkFound : ∀ s a t, t ≠ .signal → F a → R s (unlinkFound s a t)
  clearNotify : ∀ s a, R s (clearNotify s a)
  laterPre : ∀ s a, R s (laterPre s a)

/-- Only the `revents` of the wait and the first act of `on_sigpipe_readable`: nothing is blocked in this configuration,
    so the wait hands over no pending signal, and the timer phase follows from `Steps` (`free` is a field of it). -/
structure IterLeaves (R : St → St → Prop) : Prop where
  pollScan : ∀ s, R s (pollScan s)
  takePending : ∀ s, R s { s with pipeBytes := s.pipeBytes - 1, pendingSig := [] }

namespace Steps
variable {F : Nat → Prop} {R : St → St → Prop} (C : Steps F R)
include C

theorem raiseSig (st : St) (s : Int) : R st (raiseSig st s) := by
  unfold Fb.raiseSig
  refine iteInduction (fun _ => C.refl st) fun _ => ?_
  refine iteInduction (fun _ => C.sigRecord st s) fun _ => ?_
  exact iteInduction (fun _ => C.same (.of_bad rfl rfl)) fun _ => C.refl st

theorem foldl_raiseSig (l : List Int) : ∀ st : St, R st (l.foldl Fb.raiseSig st) := by
  induction l with
  | nil => intro st; exact C.refl st
  | cons s rest ih => intro st; exact C.trans (C.raiseSig st s) (ih _)

theorem pollRaise (st : St) : R st (pollRaise st) :=
  C.trans (C.same (by exact .of_eq rfl rfl)) (C.foldl_raiseSig _ _)

theorem watchTimerAfterMsec (st : St) (msec : Int) (flags : Nat) (slot : Int) :
    R st (watchTimerAfterMsec st msec flags slot).1 :=
  C.trans (C.emit st .g) (C.watchTimerAt _ _ _ _)

theorem ensureSigchld (st : St) : R st (ensureSigchld st) := by
  unfold Fb.ensureSigchld
  split
  · exact C.refl _
  · exact C.trans (C.watchSignal _ _ _ _) (C.same (same_sigchldwatch _ _))

theorem watchProcess (st : St) (pid : Int) (flags : Nat) (slot : Int) : R st (watchProcess st pid flags slot).1 :=
  C.own st _ fun hm => C.trans (C.trans (C.alloc st _ (by intro h; cases h) rfl) (C.ensureSigchld _))
    (C.linkProcess _ _ _ _ (hm _ (.fresh (Nat.le_refl _))))

theorem watchCancel0 (st : St) (a : Nat) (ha : F a) : R st (watchCancel0 st a) := by
  unfold Fb.watchCancel0
  refine iteInduction (fun _ => C.refl st) fun _ => ?_
  refine iteInduction (fun _ => C.fail st _) fun hl => ?_
  refine iteInduction (fun _ => C.refl st) fun _ => ?_
  refine iteInduction (fun _ => C.fail st _) fun _ => ?_
  refine iteInduction (fun _ => iteInduction (fun _ => C.cancelDetached st a ha) fun _ => C.refl st) fun hc => ?_
  exact C.cancelFound st a ha (by simpa using hl) (by simpa using hc)

theorem watchCancel (st : St) (a : Nat) (ha : F a) : R st (watchCancel st a) := by
  refine C.own st _ fun hm => ?_
  unfold Fb.watchCancel
  split
  · split
    · rename_i l hl
      exact C.trans (C.watchCancel0 st a ha) (C.watchCancel0 _ l (hm l (.notify hl)))
    · exact C.watchCancel0 st a ha
  · exact C.watchCancel0 st a ha

theorem doCancel (st : St) (k : Int) : R st (doCancel st k) := by
  refine C.own st _ fun hm => ?_
  unfold Fb.doCancel
  split
  · exact C.emit _ _
  · rename_i r hr
    exact C.trans (C.noteCancel _ _) (C.watchCancel _ _ (hm _ (.slot (findSlot_some hr).1 rfl)))

theorem runAct (st : St) (act : Act) : R st (runAct st act) := by
  unfold Fb.runAct
  refine iteInduction (fun _ => C.refl _) fun _ => ?_
  cases act <;> dsimp only
  case timer =>
    exact iteInduction (fun _ => C.doRegister _ _ _ (fun s => C.watchTimerAfterMsec s _ _ _) fun _ => snd_watchTimerAt _ _ _ _)
      fun _ => C.refl _
  case timerAt =>
    exact iteInduction (fun _ => C.doRegister _ _ _ (fun s => C.watchTimerAt s _ _ _) fun _ => snd_watchTimerAt _ _ _ _)
      fun _ => C.refl _
  case later => exact C.doRegister _ _ _ (fun s => C.watchLater s _ _ _) fun _ => rfl
  case io => exact C.doRegister _ _ _ (fun s => C.watchIo s _ _ _ _) fun _ => rfl
  case signal => exact iteInduction (fun _ => C.doRegister _ _ _ (fun s => C.watchSignal s _ _ _) fun _ => rfl) fun _ => C.refl _
  case process => exact iteInduction (fun _ => C.doRegister _ _ _ (fun s => C.watchProcess s _ _ _) fun _ => rfl) fun _ => C.refl _
  case cancel => exact C.doCancel _ _
  case errno => exact C.same (.of_eq rfl rfl)
  case raise => exact iteInduction (fun _ => C.raiseSig _ _) fun _ => C.refl _
  case exit =>
    refine iteInduction (fun _ => ?_) fun _ => C.refl _
    exact iteInduction (fun _ => C.refl _) fun _ => C.same (.of_eq rfl rfl)
  case stop => exact C.same (.of_eq rfl rfl)
  case nop => exact C.refl _

theorem runActs (acts : List Act) : ∀ st : St,
    R st (acts.foldl (fun st act => if st.isOk then Fb.runAct (st.emit .a) act else st) st) := by
  induction acts with
  | nil => intro st; exact C.refl st
  | cons a rest ih =>
    intro st
    exact C.trans (iteInduction (fun _ => C.trans (C.emit _ _) (C.runAct _ _)) fun _ => C.refl _) (ih _)

theorem fireUser (st : St) (k : Int) (flags : Nat) (info : Info) : R st (fireUser st k flags info) := by
  unfold Fb.fireUser
  simp only []
  split
  · exact C.emit _ _
  · split
    · exact C.trans (C.emit _ _) (C.bump _ _)
    · exact C.trans (C.trans (C.emit _ _) (C.bump _ _)) (C.runActs _ _)

theorem unlinkOneshotSaved (st : St) (a : Nat) (t : WType) : R st (unlinkOneshotSaved st a t) :=
  C.own st _ fun hm => C.toBase0.unlinkOneshotSaved st a t fun h1 h2 h3 h =>
    C.unlinkFound st a t h3 (hm a (.of_list h1 h2 h3 h))

theorem unlinkOneshot (st : St) (a : Nat) : R st (unlinkOneshot st a) :=
  C.own st _ fun hm => C.toBase0.unlinkOneshot st a fun t h1 h2 h3 h => C.unlinkFound st a t h3 (hm a (.of_list h1 h2 h3 h))

theorem invokeWatch (st : St) (a : Nat) (flags : Nat) (info : Info) : R st (invokeWatch st a flags info) := by
  unfold Fb.invokeWatch
  have hf : R st (if (st.getW a).slot ≥ 0 then Fb.fireUser st (st.getW a).slot flags info else st) :=
    iteInduction (fun _ => C.fireUser _ _ _ _) fun _ => C.refl st
  generalize (if (st.getW a).slot ≥ 0 then Fb.fireUser st (st.getW a).slot flags info else st) = s1 at hf ⊢
  refine iteInduction (fun _ => C.refl _) fun _ => ?_
  refine iteInduction (fun _ => C.fail _ _) fun _ => ?_
  refine iteInduction (fun _ => hf) fun _ => ?_
  exact iteInduction (fun _ => C.trans hf (C.unlinkOneshotSaved _ a _)) fun _ => C.trans hf (C.unlinkOneshot _ a)

theorem procStep (st : St) (a : Nat) : R st (procStep st a) := by
  have hw := C.same (same_waitpidV st (st.getW a).pid)
  unfold Fb.procStep
  exact iteInduction (fun _ => hw) fun _ => C.trans hw (C.invokeWatch _ _ _ _)

theorem onSigchld (fuel : Nat) : ∀ (st : St) (this : Option Nat), R st (onSigchld fuel st this) := by
  induction fuel with
  | zero => intro st this; exact C.outOfFuel st
  | succ n ih =>
    intro st this
    unfold Fb.onSigchld
    refine iteInduction (fun _ => C.refl st) fun _ => ?_
    cases this with
    | none => exact C.refl st
    | some a => exact iteInduction (fun _ => C.fail st _) fun _ => C.trans (C.procStep _ _) (ih _ _)

theorem procSnapLoop (l : List Nat) : ∀ st : St, R st (procSnapLoop st l) := by
  induction l with
  | nil => intro st; exact C.refl st
  | cons a rest ih =>
    intro st
    unfold Fb.procSnapLoop
    refine iteInduction (fun _ => C.refl st) fun _ => ?_
    refine iteInduction (fun _ => C.fail st _) fun _ => ?_
    refine iteInduction (fun _ => ih st) fun _ => ?_
    exact iteInduction (fun _ => C.fail st _) fun _ => C.trans (C.procStep _ _) (ih _)

theorem onSigchldAny (fuel : Nat) (st : St) : R st (onSigchldAny fuel st) := by
  unfold Fb.onSigchldAny
  refine iteInduction (fun _ => ?_) fun _ => C.onSigchld _ _ _
  exact iteInduction (fun _ => C.fail _ _) fun _ => C.procSnapLoop _ _

theorem sigCb (fuel : Nat) (st : St) (a : Nat) (s : Int) : R st (sigCb fuel st a s) := by
  unfold Fb.sigCb
  refine iteInduction (fun _ => ?_) fun _ => C.refl _
  refine iteInduction (fun _ => C.fireUser _ _ _ _) fun _ => ?_
  refine iteInduction (fun _ => C.onSigchldAny _ _) fun _ => ?_
  exact iteInduction (fun _ => C.same (.of_eq rfl rfl)) fun _ => C.refl _

theorem sigwatchLoopT (fuel : Nat) : ∀ (st : St) (s : Int) (this : Option Nat), R st (sigwatchLoopT fuel st s this).1 := by
  induction fuel with
  | zero => intro st s this; exact C.outOfFuel st
  | succ n ih =>
    intro st s this
    unfold Fb.sigwatchLoopT
    refine ite_fst (fun _ => C.refl st) fun _ => ?_
    cases this with
    | none => exact C.refl st
    | some a =>
      refine ite_fst (fun _ => C.fail st _) fun _ => ?_
      refine ite_fst (fun _ => C.sigCb _ _ _ _) fun _ => ?_
      exact ite_fst (fun _ => C.trans (C.sigCb _ _ _ _) (C.fail _ _)) fun _ => C.trans (C.sigCb _ _ _ _) (ih _ _ _)

theorem sigDispatch (fuel : Nat) (st : St) (s : Int) : R st (sigDispatch fuel st s) := by
  unfold Fb.sigDispatch
  refine iteInduction (fun _ => ?_) fun _ => C.sigwatchLoopT _ _ _ _
  exact iteInduction (fun _ => C.fail _ _) fun _ => C.on_sigSnapLoopG _ (fun st a _ _ => C.sigCb fuel st a s) _ _

theorem sigpipeInvoke (fuel : Nat) (pending : List Int) (l : List Int) : ∀ st : St, R st (sigpipeInvoke fuel st pending l) := by
  induction l with
  | nil => intro st; exact C.refl st
  | cons s rest ih =>
    intro st
    unfold Fb.sigpipeInvoke
    exact C.trans (iteInduction (fun _ => C.sigDispatch _ _ _) fun _ => C.refl st) (ih _)

theorem sigpipeLoop (fuel : Nat) : ∀ (st : St) (pending : List Int) (this : Option Nat), R st (sigpipeLoop fuel st pending this) := by
  induction fuel with
  | zero => intro st pending this; exact C.outOfFuel st
  | succ n ih =>
    intro st pending this
    unfold Fb.sigpipeLoop
    refine iteInduction (fun _ => C.refl st) fun _ => ?_
    cases this with
    | none => exact C.refl st
    | some a =>
      refine iteInduction (fun _ => C.fail st _) fun _ => ?_
      refine iteInduction (fun _ => ih _ _ _) fun _ => ?_
      refine iteInduction (fun _ => C.sigCb _ _ _ _) fun _ => ?_
      exact iteInduction (fun _ => C.trans (C.sigCb _ _ _ _) (C.fail _ _)) fun _ => C.trans (C.sigCb _ _ _ _) (ih _ _ _)

theorem processNotify (st : St) (a : Nat) : R st (processNotify st a) := by
  unfold Fb.processNotify
  exact iteInduction (fun _ => C.fail _ _) fun _ => C.trans (C.clearNotify _ _) (C.invokeWatch _ _ _ _)

theorem laterCb (st : St) (a : Nat) : R st (laterCb st a) := by
  unfold Fb.laterCb
  refine iteInduction (fun _ => C.fireUser _ _ _ _) fun _ => ?_
  exact iteInduction (fun _ => C.processNotify _ _) fun _ => C.refl _

theorem laterLoop (l : List Nat) (hl : ∀ a ∈ l, F a) : ∀ st : St, R st (laterLoop st l) := by
  induction l with
  | nil => intro st; exact C.refl st
  | cons a rest ih =>
    have ha := hl a List.mem_cons_self
    have ih := ih fun x hx => hl x (List.mem_cons_of_mem _ hx)
    intro st
    unfold Fb.laterLoop
    refine iteInduction (fun _ => C.refl st) fun _ => ?_
    refine iteInduction (fun _ => C.fail st _) fun _ => ?_
    refine iteInduction (fun _ => C.trans (C.free _ a ha) (ih _)) fun _ => ?_
    have h1 := C.trans (C.laterPre st a) (C.laterCb _ a)
    generalize Fb.laterCb (EvLoop.laterPre st a) a = s1 at h1 ⊢
    refine iteInduction (fun _ => h1) fun _ => ?_
    exact iteInduction (fun _ => C.trans h1 (C.fail _ _)) fun _ => C.trans (C.trans h1 (C.free _ a ha)) (ih _)

/-- As first shipped: the watch invoked and freed is the one `this` names, a member of `t->timers`. -/
theorem timerLoop (fuel : Nat) : ∀ (st : St) (now : TV) (this : Option Nat), (∀ a, this = some a → a ∈ st.timers) →
    R st (timerLoop fuel st now this).1 := by
  induction fuel with
  | zero => intro st now this _; exact C.outOfFuel st
  | succ n ih =>
    intro st now this hthis
    refine C.own st _ fun hm => ?_
    unfold Fb.timerLoop
    refine ite_fst (fun _ => C.refl st) fun _ => ?_
    split
    · exact C.refl st
    · rename_i a
      have h1 := C.fireUser st (st.getW a).slot (EV_FIRE ||| EV_UNBIND) .none
      generalize Fb.fireUser st (st.getW a).slot (EV_FIRE ||| EV_UNBIND) .none = s1 at h1 ⊢
      refine ite_fst (fun _ => C.fail st _) fun _ => ?_
      refine ite_fst (fun _ => C.refl st) fun _ => ?_
      refine ite_fst (fun _ => h1) fun _ => ?_
      exact ite_fst (fun _ => C.trans h1 (C.fail _ _)) fun _ =>
        C.trans (C.trans h1 (C.free _ a (hm a (.timer (hthis a rfl)))))
          (ih _ _ _ fun b hb => (congrArg (b ∈ ·) (lists_free _ a .timer)).mpr (succOf_mem a b _ hb))

theorem timerLoopPop (fuel : Nat) : ∀ (st : St) (now : TV), R st (timerLoopPop fuel st now) := by
  induction fuel with
  | zero => intro st now; exact C.outOfFuel st
  | succ n ih =>
    intro st now
    refine C.own st _ fun hm => ?_
    unfold Fb.timerLoopPop
    refine iteInduction (fun _ => C.refl st) fun _ => ?_
    split
    · exact C.refl _
    · rename_i a rest hq
      have h1 := C.trans (C.setTimers st rest (hq ▸ List.subset_cons_self a rest))
        (C.fireUser _ (st.getW a).slot (EV_FIRE ||| EV_UNBIND) .none)
      generalize Fb.fireUser { st with timers := rest } (st.getW a).slot (EV_FIRE ||| EV_UNBIND) .none = s1 at h1 ⊢
      refine iteInduction (fun _ => C.fail st _) fun _ => ?_
      refine iteInduction (fun _ => C.refl st) fun _ => ?_
      refine iteInduction (fun _ => h1) fun _ => ?_
      exact iteInduction (fun _ => C.trans h1 (C.fail _ _)) fun _ =>
        C.trans (C.trans h1 (C.free _ a (hm a (.timer (hq ▸ List.mem_cons_self))))) (ih _ _)

theorem timerPhaseShipped (fuel : Nat) (st : St) (now : TV) : R st (timerPhaseShipped fuel st now) := by
  have h0 := C.timerLoop fuel st now st.timers.head? fun _ => List.mem_of_mem_head?
  unfold Fb.timerPhaseShipped
  exact iteInduction (fun _ => C.trans h0 (C.setTimers _ _ (suffixFrom_sublist _ _).subset)) fun _ => h0

theorem timerPhase (fuel : Nat) (st : St) : R st (timerPhase fuel st) := by
  unfold Fb.timerPhase
  refine iteInduction (fun _ => C.refl _) fun _ => ?_
  exact iteInduction (fun _ => C.trans (C.emit _ _) (C.timerLoopPop _ _ _)) fun _ =>
    C.trans (C.emit _ _) (C.timerPhaseShipped _ _ _)

theorem invokeTimers (fuel : Nat) (st : St) : R st (invokeTimers fuel st) := by
  refine C.own st _ fun hm => ?_
  unfold Fb.invokeTimers
  refine iteInduction (fun _ => C.refl _) fun _ => ?_
  exact C.trans (C.trans (C.detach st) (C.timerPhase _ _)) (C.laterLoop _ (fun a ha => hm a (.later ha)) _)

variable (I : IterLeaves R)
include I

theorem onSigpipeReadable (fuel : Nat) (st : St) : R st (onSigpipeReadable fuel st) := by
  unfold Fb.onSigpipeReadable
  exact iteInduction (fun _ => C.trans (I.takePending st) (C.sigpipeInvoke _ _ _ _)) fun _ =>
    C.trans (I.takePending st) (C.sigpipeLoop _ _ _ _)

theorem ioCb (fuel : Nat) (st : St) (s : PollSlot) : R st (ioCb fuel st s) := by
  unfold Fb.ioCb
  split
  · refine iteInduction (fun _ => C.fail _ _) fun _ => ?_
    exact iteInduction (fun _ => C.onSigpipeReadable I _ _) fun _ => C.invokeWatch _ _ _ _
  · exact C.refl _

theorem ioLoop (fuel : Nat) : ∀ (st : St) (idx : Nat), R st (ioLoop fuel st idx) := by
  induction fuel with
  | zero => intro st idx; exact C.outOfFuel st
  | succ n ih =>
    intro st idx
    unfold Fb.ioLoop
    refine iteInduction (fun _ => C.refl st) fun _ => ?_
    refine iteInduction (fun _ => C.refl st) fun _ => ?_
    refine iteInduction (fun _ => ih _ _) fun _ => ?_
    exact iteInduction (fun _ => ih _ _) fun _ => C.trans (C.ioCb I _ _ _) (ih _ _)

theorem ppoll (st : St) (t : Option Int) : R st (ppoll st t).1 := by
  have h := C.trans (I.pollScan st) (C.pollRaise _)
  unfold Fb.ppoll
  generalize Fb.pollRaise (Fb.pollScan st) = s1 at h ⊢
  refine ite_fst (fun _ => h) fun _ => ?_
  refine ite_fst (fun _ => C.trans h (C.emit _ _)) fun _ => ?_
  exact ite_fst (fun _ => C.trans (C.trans h (C.same (same_errno _ _))) (C.emit _ _)) fun _ =>
    C.trans (C.trans h (C.same (same_pollTimeout _ _))) (C.emit _ _)

theorem ppollRun (st : St) (t : Option Int) : R st (ppollRun st t).1 := by
  have h := C.ppoll I st t
  unfold Fb.ppollRun
  generalize Fb.ppoll st t = r at h ⊢
  refine ite_fst (fun _ => h) fun _ => ?_
  exact ite_fst (fun _ => C.trans (C.trans h (C.same (same_runFlags _ _ _ _))) (C.emit _ _)) fun _ =>
    C.trans h (C.same (same_runFlags _ _ _ _))

/-- `dispatch_signals` invokes nobody in this configuration. -/
theorem tickAfterPoll (fuel : Nat) (st : St) (ret : Option Nat) : R st (tickAfterPoll fuel st ret) := by
  have h := C.invokeTimers fuel st
  unfold Fb.tickAfterPoll dispatchSignals
  refine iteInduction (fun _ => h) fun _ => ?_
  split
  · exact iteInduction (fun _ => C.trans h (C.ioLoop I _ _ _)) fun _ => h
  · exact iteInduction (fun _ => h) fun _ => h

theorem tick (fuel : Nat) (st : St) (nohang : Bool) : R st (tick fuel st nohang) := by
  have h := C.trans (C.nextTimerMsec st) (C.ppoll I _ (tickTimeout nohang (EvLoop.nextTimerMsec st).2))
  unfold Fb.tick
  refine iteInduction (fun _ => C.refl _) fun _ => ?_
  refine iteInduction (fun _ => C.nextTimerMsec _) fun _ => ?_
  exact iteInduction (fun _ => h) fun _ => C.trans h (C.tickAfterPoll I _ _ _)

theorem runIter (fuel : Nat) (st : St) : R st (runIter fuel st) := by
  have h := C.trans (C.nextTimerMsec st) (C.ppollRun I _ (tickTimeout false (EvLoop.nextTimerMsec st).2))
  unfold Fb.runIter
  refine iteInduction (fun _ => C.refl _) fun _ => ?_
  refine iteInduction (fun _ => C.nextTimerMsec _) fun _ => ?_
  exact iteInduction (fun _ => h) fun _ => C.trans h (C.tickAfterPoll I _ _ _)

theorem runLoop (fuel : Nat) (n : Nat) : ∀ st : St, R st (runLoop fuel n st) := by
  induction n with
  | zero => intro st; exact C.outOfFuel st
  | succ k ih =>
    intro st
    unfold Fb.runLoop
    refine iteInduction (fun _ => C.refl st) fun _ => ?_
    exact iteInduction (fun _ => C.refl st) fun _ => C.trans (C.runIter I _ _) (ih _)

/-- `tickit_run`: the SIGINT watch it cancels at the end is the one it registered, at an address new then. -/
theorem run (fuel : Nat) (st : St) : R st (run fuel st) := by
  refine C.own st _ fun hm => ?_
  have h := C.trans (C.trans (C.watchSignal st 2 0 (-5)) (C.same (same_runFlags _ true true 0)))
    (C.runLoop I fuel (maxRunPolls + 2) _)
  unfold Fb.run
  refine iteInduction (fun _ => C.refl _) fun _ => ?_
  exact iteInduction (fun _ => h) fun _ =>
    C.trans (C.trans h (C.same (same_inRun _ _))) (C.watchCancel _ _ (hm _ (.fresh (Nat.le_refl _))))

/-- The counterpart of `Closed.applyOp_keeps` (Proof/EvLoopState.lean), after the log was reset. -/
theorem applyOp'_keeps {P : St → Prop} (st : St) (op : Op) (h0 : P st)
    (hstep : st.isOk = true → st.alive = true → ∀ s', R st s' → P s') (hd : st.isOk = true → P (destroy st)) :
    P (applyOp' st op) := by
  unfold Fb.applyOp'
  refine iteInduction (fun _ => h0) fun hok => ?_
  split
  · exact h0
  · exact h0
  · exact h0
  · refine iteInduction (fun _ => h0) fun hal => ?_
    have step := hstep (by simpa using hok) (by simpa using hal)
    split
    · exact step _ (C.same (.of_eq rfl rfl))
    · exact step _ (C.runAct _ _)
    · exact step _ (C.same (.of_eq rfl rfl))
    · exact step _ (C.same (.of_eq rfl rfl))
    · exact step _ (C.same (.of_eq rfl rfl))
    · exact step _ (C.trans (C.same (by exact .of_eq rfl rfl)) (C.tick I _ _ _))
    · exact step _ (C.trans (C.same (by exact .of_eq rfl rfl)) (C.tick I _ _ _))
    · exact step _ (C.run I _ _)
    · exact hd (by simpa using hok)
    · exact h0

end Steps

end Tickit.EvLoop.Fb
