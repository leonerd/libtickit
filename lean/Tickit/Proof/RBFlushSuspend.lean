import Tickit.Proof.SgrSuspend
/-
  C04, pause and resume between two flushes (xterm-driver configuration): whatever the terminal rendered with before,
  after the `CSI m` of the pause and the bytes `tickit_term_resume` makes the driver send for `chpen(tt->pen, tt->pen)`
  it renders with what `tt->pen` asks for - the premise under which `tickit_term_setpen`'s "send only what changed"
  gives every cell of the next flush its pen.
-/
namespace Tickit.Proof.RBFlushSuspend
open Tickit.Sgr Tickit.TermPen Tickit.Proof.Sgr

/-- `bs` are the bytes of the driver's `chpen(tt->pen, tt->pen)`. -/
theorem resume_restores_pen (caps : Caps) (cap : Nat) (cache : Pen) (bs : List Byte) (hok : DeltaOk caps cache)
    (h : xtermChpen caps cap cache cache = .bytes bs) (a : Attrs) (hj : a.junk = 0) :
    run (renderSgr caps.colon [] ++ bs) ⟨.ground, a⟩ = ⟨.ground, expectAttrs caps cache⟩ := by
  -- `CSI m` is what the driver's teardown writes: C10's `run_pause`, then its `run_resend`
  rw [run_append, show renderSgr caps.colon [] = xtermPauseBytes from rfl, run_pause, reset_of_junk0 a hj]
  exact run_resend caps cap cache hok bs h

end Tickit.Proof.RBFlushSuspend
