import Tickit.Proof.WinExpose
/-
  `flushRender` (the rendering half of `tickit_window_flush`) taken apart once (`flushRender_cases`: `Idle` or `Rendered`)
  and, through `exposeRects_ok` on the fresh buffer, what it does to shots, frame, content and tree
  (`flushRender_shots`, `_frame`, `_content_at`, `_tree`), under a shown root window (`RootOk`).
-/
namespace Tickit
namespace WinFlush
open WinTree WinRB WinSpec

/-- Visibility is part of it because a hidden root renders nothing (`flushRender_hidden_root`); callers split with
    `root_vis_cases` (Proof/WinTreeOk.lean). -/
structure RootOk (t : Tree) : Prop where
  ex : ∃ w, t.wins[0]? = some w ∧ w.freed = false ∧ w.isVisible = true ∧ w.rect.top = 0 ∧ w.rect.left = 0

theorem rootOk_congr {t1 t2 : Tree} (h : t2.wins = t1.wins) (hr : RootOk t1) : RootOk t2 := by
  obtain ⟨w, hw⟩ := hr.ex
  exact ⟨⟨w, by rw [h]; exact hw⟩⟩

theorem flushRender_eq {beh : Id → Rect → List DrawOp} {st st' : St} {t : Tree} {shots : List Shot}
    (h : flushRender beh st t = .ok (st', shots)) :
    (t.root.needsExpose = false ∧ shots = [] ∧
      st' = { st with tree := { t with root := { t.root with needsRestore := false } } }) ∨
    (t.root.needsExpose = true ∧ ∃ root s', WinTree.get t 0 = .ok root ∧
      exposeRects beh (rendered t) st.pens (t.wins.size + 1) ⟨0, 0, root.rect.lines, root.rect.cols⟩
        (if root.isVisible then t.root.damage else [])
        (RB.new root.rect.lines root.rect.cols, []) = .ok s' ∧
      shots = s'.2 ∧ st' = { st with tree := rendered t, screen := s'.1.flushToGrid st.screen }) := by
  unfold flushRender at h
  rcases ite_ok h with ⟨hne, h⟩ | ⟨hne, h⟩
  · obtain ⟨root, hg, h⟩ := bind_ok_iff.1 h
    obtain ⟨s', he, h⟩ := bind_ok_iff.1 h
    cases h
    exact Or.inr ⟨hne, root, s', hg, he, rfl, rfl⟩
  · cases h
    exact Or.inl ⟨Bool.eq_false_iff.2 hne, rfl, rfl⟩

/-- Nothing was pending. -/
structure Idle (st st' : St) (t : Tree) (shots : List Shot) : Prop where
  shots : shots = []
  screen : st'.screen = st.screen
  tree : st'.tree = { t with root := { t.root with needsRestore := false } }
  flag : t.root.needsExpose = false

/-- The damage was rendered: `s'` is what the loop over the damage rectangles (none under a hidden root) left of the fresh
    buffer; its handler invocations are the flush's, and it was flushed to the grid. -/
structure Rendered (beh : Id → Rect → List DrawOp) (st st' : St) (t : Tree) (shots : List Shot) (root : Win)
    (s' : RB × List Shot) : Prop where
  slot : t.wins[0]? = some root
  flag : t.root.needsExpose = true
  run : exposeRects beh (rendered t) st.pens (t.wins.size + 1) ⟨0, 0, root.rect.lines, root.rect.cols⟩
    (if root.isVisible then t.root.damage else []) (RB.new root.rect.lines root.rect.cols, []) = .ok s'
  shots : shots = s'.2
  tree : st'.tree = rendered t
  screen : st'.screen = s'.1.flushToGrid st.screen

theorem flushRender_cases (beh : Id → Rect → List DrawOp) (st st' : St) (t : Tree) (shots : List Shot)
    (h : flushRender beh st t = .ok (st', shots)) :
    Idle st st' t shots ∨ ∃ root s', Rendered beh st st' t shots root s' := by
  rcases flushRender_eq h with ⟨hne, rfl, rfl⟩ | ⟨hne, root, s', hg, he, rfl, rfl⟩
  · exact Or.inl ⟨rfl, rfl, rfl, hne⟩
  · exact Or.inr ⟨root, s', (get_ok hg).1, hne, he, rfl, rfl, rfl⟩

theorem Rendered.rectsOk {beh : Id → Rect → List DrawOp} {st st' : St} {t : Tree} {shots : List Shot} {root : Win}
    {s' : RB × List Shot} (r : Rendered beh st st' t shots root s') (content : Id → Int → Int → Cell) :
    RectsOk (rendered t) beh content (t.wins.size + 1) (if root.isVisible then t.root.damage else [])
      (RB.new root.rect.lines root.rect.cols, []) s' :=
  exposeRects_ok (rendered t) beh st.pens content _ _ _ _ s' r.run (neutral_new _ _) rfl

/-- Every handler finds a buffer whose masks were made at levels not above the current one: a `restore` that closes a
    level the handler opened itself leaves them alone. -/
theorem flushRender_shots_masksLe (beh : Id → Rect → List DrawOp) (st st' : St) (t : Tree) (shots : List Shot)
    (h : flushRender beh st t = .ok (st', shots)) : ∀ sh ∈ shots, MasksLe sh.rb := by
  rcases flushRender_cases beh st st' t shots h with i | ⟨root, s', r⟩
  · rw [i.shots]; exact fun sh hsh => nomatch hsh
  · rw [r.shots]; exact (r.rectsOk fun _ _ _ => Cell.never).shotsMasks fun sh hsh => nomatch hsh

theorem covered_iff_memb (rs : List Rect) (L C : Int) : Covered rs L C ↔ ∃ ρ ∈ rs, ρ.memb L C = true := by
  unfold Covered
  constructor
  · rintro ⟨r, hr, hm⟩; exact ⟨r, hr, (Rect.memb_iff _ _ _).2 hm⟩
  · rintro ⟨r, hr, hm⟩; exact ⟨r, hr, (Rect.memb_iff _ _ _).1 hm⟩

theorem ownerAt_eq {t : Tree} (hro : RootOk t) {root : Win} (hroot : t.wins[0]? = some root) (L C : Int) :
    ownerAt t L C =
      if (⟨0, 0, root.rect.lines, root.rect.cols⟩ : Rect).memb L C = true then some (ownerSub t (t.wins.size + 1) 0 L C)
      else none := by
  obtain ⟨w, hw, hf, hv, htop, hleft⟩ := hro.ex
  cases hw.symm.trans hroot
  have hm : root.rect.memb L C = (⟨0, 0, root.rect.lines, root.rect.cols⟩ : Rect).memb L C := by
    simp only [Rect.memb, Rect.bottom, Rect.right, htop, hleft]
    rfl
  rw [← hm]
  unfold ownerAt
  cases hmb : root.rect.memb L C with
  | true => rw [ownerLoc_in hroot (Nat.succ_ne_zero _) hv hf hmb, htop, hleft, Int.sub_zero, Int.sub_zero]; rfl
  | false => rw [ownerLoc_out hroot (Or.inr hmb)]; rfl

theorem bounds_of_owner {t : Tree} (hro : RootOk t) {root : Win} (hroot : t.wins[0]? = some root) {L C : Int}
    (ho : (ownerAt t L C).isSome = true) :
    (⟨0, 0, root.rect.lines, root.rect.cols⟩ : Rect).memb L C = true ∧
      ownerAt t L C = some (ownerSub t (t.wins.size + 1) 0 L C) := by
  rw [ownerAt_eq hro hroot L C] at ho ⊢
  cases hh : (⟨0, 0, root.rect.lines, root.rect.cols⟩ : Rect).memb L C with
  | true => exact ⟨rfl, rfl⟩
  | false => rw [hh] at ho; cases ho

theorem ownerAt_some_memb (t : Tree) (hro : RootOk t) (L C : Int) (o : Id × Int × Int) (h : ownerAt t L C = some o) :
    ∃ w, t.wins[0]? = some w ∧ 0 ≤ L ∧ L < w.rect.lines ∧ 0 ≤ C ∧ C < w.rect.cols := by
  obtain ⟨w, hw, _⟩ := hro.ex
  exact ⟨w, hw, (Rect.mem_origin _ _ _ _).1 ((Rect.memb_iff _ _ _).1 (bounds_of_owner hro hw (by rw [h]; rfl)).1)⟩

/-- `RootOk` read off an evaluated view of slot 0: how a concrete run meets it. -/
theorem rootOk_of_view {t : Tree} {r : Rect}
    (h : (t.wins[0]?).map (fun w => (w.freed, w.isVisible, w.rect)) = some (false, true, r)) (ht : r.top = 0)
    (hl : r.left = 0) : ∃ root, t.wins[0]? = some root ∧ root.rect = r ∧ RootOk t := by
  cases hw : t.wins[0]? with
  | none => rw [hw] at h; cases h
  | some root =>
    rw [hw] at h
    simp only [Option.map_some, Option.some.injEq, Prod.mk.injEq] at h
    obtain ⟨hf, hv, rfl⟩ := h
    exact ⟨root, rfl, rfl, ⟨⟨root, hw, hf, hv, ht, hl⟩⟩⟩

theorem ownerAt_none_of_hidden (t : Tree) (w : Win) (hw : t.wins[0]? = some w) (hv : w.isVisible = false) (L C : Int) :
    ownerAt t L C = none :=
  ownerLoc_out hw (Or.inl hv)

theorem flushRender_shots (beh : Id → Rect → List DrawOp) (st st' : St) (t : Tree) (shots : List Shot)
    (h : flushRender beh st t = .ok (st', shots)) (hroot : RootOk t) :
    (∀ sh ∈ shots, ∀ L C, sh.rb.writable L C = true →
      Covered t.root.damage L C ∧ ownerAt st'.tree L C = some (sh.win, L - sh.rb.xl, C - sh.rb.xc)) ∧
    (t.root.needsExpose = true →
      ∀ L C, Covered t.root.damage L C → (ownerAt st'.tree L C).isSome = true → ∃ sh ∈ shots, sh.rb.writable L C = true) := by
  obtain ⟨root0, hr0, _, hv0, _⟩ := hroot.ex
  rcases flushRender_cases beh st st' t shots h with i | ⟨root, s', r⟩
  · rw [i.shots]
    exact ⟨fun sh hsh => (nomatch hsh), fun hflag => by rw [i.flag] at hflag; cases hflag⟩
  · have hok := r.rectsOk fun _ _ _ => Cell.never
    have hr := r.slot
    have ht := r.tree
    rw [r.shots]
    have hrr : root0 = root := Option.some.inj (hr0.symm.trans hr)
    subst hrr
    rw [hv0, if_pos rfl] at hok
    obtain ⟨new, hnew, hsound, hcomp⟩ := hok.shots
    rw [List.nil_append] at hnew
    rw [ht, hnew]
    constructor
    · intro sh hsh L C hw
      obtain ⟨hb, hρ, ho⟩ := hsound sh hsh L C hw
      have hb' : (⟨0, 0, root0.rect.lines, root0.rect.cols⟩ : Rect).memb L C = true := hb
      refine ⟨(covered_iff_memb _ _ _).2 hρ, ?_⟩
      rw [ownerAt_eq (t := rendered t) (rootOk_congr (t1 := t) rfl hroot) hr L C, if_pos hb', ← ho]
      rfl
    · intro _ L C hc ho
      exact hcomp L C (bounds_of_owner (t := rendered t) (rootOk_congr (t1 := t) rfl hroot) hr ho).1 ((covered_iff_memb _ _ _).1 hc)

theorem flushRender_frame (beh : Id → Rect → List DrawOp) (st st' : St) (t : Tree) (shots : List Shot)
    (h : flushRender beh st t = .ok (st', shots)) :
    ∀ L C, st'.screen L C ≠ st.screen L C → Covered t.root.damage L C := by
  intro L C hne
  rcases flushRender_cases beh st st' t shots h with i | ⟨root, s', r⟩
  · rw [i.screen] at hne; exact absurd rfl hne
  · have hok := r.rectsOk fun _ _ _ => Cell.never
    have hscr := r.screen
    apply Classical.byContradiction
    intro hnc
    have := hok.frame L C (Or.inr fun ρ hρ => Bool.eq_false_iff.2 fun hh => by
      split at hρ
      · exact hnc ((covered_iff_memb _ _ _).2 ⟨ρ, hρ, hh⟩)
      · cases hρ)
    rw [hscr] at hne
    simp only [RB.flushToGrid, resolve_none this] at hne
    exact absurd rfl hne

theorem flushRender_content_at (beh : Id → Rect → List DrawOp) (content : Id → Int → Int → Cell)
    (st st' : St) (t : Tree) (shots : List Shot)
    (h : flushRender beh st t = .ok (st', shots)) (hroot : RootOk t) (hflag : t.root.needsExpose = true)
    (hrep : ∀ sh ∈ shots, RepaintsAt content beh sh) :
    ∀ L C, Covered t.root.damage L C → ∀ w l c, ownerAt st'.tree L C = some (w, l, c) →
      st'.screen L C = content w l c := by
  obtain ⟨root0, hr0, _, hv0, _⟩ := hroot.ex
  rcases flushRender_cases beh st st' t shots h with i | ⟨root, s', r⟩
  · rw [i.flag] at hflag; cases hflag
  · have hok := r.rectsOk content
    have hr := r.slot
    have ht := r.tree
    have hscr := r.screen
    rw [r.shots] at hrep
    have hrr : root0 = root := Option.some.inj (hr0.symm.trans hr)
    subst hrr
    rw [hv0, if_pos rfl] at hok
    intro L C hc w l c ho
    rw [ht] at ho
    obtain ⟨hb, (ho' : _ = some (ownerSub (rendered t) (t.wins.size + 1) 0 L C))⟩ :=
      bounds_of_owner (t := rendered t) (rootOk_congr (t1 := t) rfl hroot) hr (by rw [ho]; rfl)
    have := hok.contentAt hrep L C hb ((covered_iff_memb _ _ _).1 hc)
    rw [Option.some.inj (ho'.symm.trans ho)] at this
    rw [hscr]
    simp only [RB.flushToGrid, resolve_plain this]

theorem flushRender_tree (beh : Id → Rect → List DrawOp) (st st' : St) (t : Tree) (shots : List Shot)
    (h : flushRender beh st t = .ok (st', shots)) :
    st'.tree.wins = t.wins ∧ st'.tree.root.changes = t.root.changes ∧ st'.pens = st.pens ∧
    st'.tlines = st.tlines ∧ st'.tcols = st.tcols := by
  rcases flushRender_eq h with ⟨_, _, rfl⟩ | ⟨_, _, _, _, _, _, rfl⟩ <;> exact ⟨rfl, rfl, rfl, rfl, rfl⟩

theorem flushRender_hidden_root (beh : Id → Rect → List DrawOp) (st st' : St) (t : Tree) (shots : List Shot)
    (h : flushRender beh st t = .ok (st', shots)) (root : Win) (hr : t.wins[0]? = some root)
    (hv : root.isVisible = false) : shots = [] ∧ st'.screen = st.screen := by
  rcases flushRender_cases beh st st' t shots h with i | ⟨root', s', r⟩
  · exact ⟨i.shots, i.screen⟩
  · have hr' := r.slot
    have he := r.run
    have hs := r.shots
    have hscr := r.screen
    have : root' = root := by rw [hr] at hr'; exact (Option.some.inj hr').symm
    subst this
    simp only [hv, Bool.false_eq_true, if_false, exposeRects] at he
    cases he
    refine ⟨hs, ?_⟩
    rw [hscr]
    funext L C
    simp [RB.flushToGrid, RB.new, RB.resolve]

end WinFlush
end Tickit
