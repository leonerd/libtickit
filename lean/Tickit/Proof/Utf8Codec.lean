import Tickit.Model.Utf8
/-
  utf8.c, the two directions of the encoding.  `next_utf8`: its outcomes inside the input as one case principle
  (`nextUtf8_cases`), what it reads (`Reads`) and that it looks at nothing else (`nextUtf8_congr`).  What UTF-8 is, is
  said once (`Form`): `tickit_utf8_put` writes a form (`putBytes_form`) and the decoder reads every form back, from any
  memory and offset (`Form.nextUtf8`); the other encoders and decoders of the development are measured against `Form`.
-/
namespace Tickit
namespace Utf8

theorem and_3f (x : Nat) : x &&& 0x3f = x % 64 := Nat.and_two_pow_sub_one_eq_mod x 6
theorem and_1f (x : Nat) : x &&& 0x1f = x % 32 := Nat.and_two_pow_sub_one_eq_mod x 5
theorem and_0f (x : Nat) : x &&& 0x0f = x % 16 := Nat.and_two_pow_sub_one_eq_mod x 4
theorem and_07 (x : Nat) : x &&& 0x07 = x % 8 := Nat.and_two_pow_sub_one_eq_mod x 3
theorem and_03 (x : Nat) : x &&& 0x03 = x % 4 := Nat.and_two_pow_sub_one_eq_mod x 2
theorem and_01 (x : Nat) : x &&& 0x01 = x % 2 := Nat.and_two_pow_sub_one_eq_mod x 1
theorem and_7f (x : Nat) : x &&& 0x7f = x % 128 := Nat.and_two_pow_sub_one_eq_mod x 7
theorem shr_6 (x : Nat) : x >>> 6 = x / 64 := Nat.shiftRight_eq_div_pow x 6

theorem or_80 (x : Nat) : 0x80 ||| x % 64 = 128 + x % 64 := by
  have := Nat.two_pow_add_eq_or_of_lt (i := 7) (b := x % 64) (by omega) 1
  simpa using this.symm
theorem or_c0 (y : Nat) (h : y < 32) : 0xc0 ||| y = 192 + y := by
  have := Nat.two_pow_add_eq_or_of_lt (i := 5) (b := y) (by omega) 6
  simpa using this.symm
theorem or_e0 (y : Nat) (h : y < 16) : 0xe0 ||| y = 224 + y := by
  have := Nat.two_pow_add_eq_or_of_lt (i := 4) (b := y) (by omega) 14
  simpa using this.symm
theorem or_f0 (y : Nat) (h : y < 8) : 0xf0 ||| y = 240 + y := by
  have := Nat.two_pow_add_eq_or_of_lt (i := 3) (b := y) (by omega) 30
  simpa using this.symm

theorem or_f8 (y : Nat) (h : y < 4) : 0xf8 ||| y = 248 + y := by
  have := Nat.two_pow_add_eq_or_of_lt (i := 2) (b := y) (by omega) 62
  simpa using this.symm
theorem or_fc (y : Nat) (h : y < 2) : 0xfc ||| y = 252 + y := by
  have := Nat.two_pow_add_eq_or_of_lt (i := 1) (b := y) (by omega) 126
  simpa using this.symm

theorem contAcc_eq (cp b : Nat) : contAcc cp b = cp * 64 + b % 64 := by
  unfold contAcc
  rw [Nat.shiftLeft_eq, and_3f]
  have := Nat.two_pow_add_eq_or_of_lt (i := 6) (b := b % 64) (by omega) cp
  rw [Nat.mul_comm] at this
  simpa using this.symm

theorem leadBits_eq (b0 : Nat) :
    leadBits b0 = if b0 < 0xe0 then b0 % 32 else if b0 < 0xf0 then b0 % 16 else b0 % 8 := by
  unfold leadBits; rw [and_1f, and_0f, and_07]

theorem leadLen_spec (b : Nat) :
    ((b < 0xc0 ∨ 0xf8 ≤ b) ∧ leadLen b = 0) ∨ ((0xc0 ≤ b ∧ b < 0xe0) ∧ leadLen b = 2) ∨
    ((0xe0 ≤ b ∧ b < 0xf0) ∧ leadLen b = 3) ∨ ((0xf0 ≤ b ∧ b < 0xf8) ∧ leadLen b = 4) := by
  unfold leadLen
  by_cases h1 : b < 0xc0
  · exact .inl ⟨.inl h1, if_pos h1⟩
  · rw [if_neg h1]
    by_cases h2 : b < 0xe0
    · exact .inr (.inl ⟨⟨Nat.le_of_not_lt h1, h2⟩, if_pos h2⟩)
    · rw [if_neg h2]
      by_cases h3 : b < 0xf0
      · exact .inr (.inr (.inl ⟨⟨Nat.le_of_not_lt h2, h3⟩, if_pos h3⟩))
      · rw [if_neg h3]
        by_cases h4 : b < 0xf8
        · exact .inr (.inr (.inr ⟨⟨Nat.le_of_not_lt h3, h4⟩, if_pos h4⟩))
        · exact .inl ⟨.inr (Nat.le_of_not_lt h4), if_neg h4⟩

theorem leadLen_ne_zero {b : Nat} (h : leadLen b ≠ 0) : 0xc0 ≤ b := Nat.le_of_not_lt fun hb => h (if_pos hb)

theorem nextUtf8_ascii (mem : Mem) (p : Nat) (len : Option Nat) (hl : len ≠ some 0)
    (h0 : (mem p).toNat ≠ 0) (h1 : (mem p).toNat < 0x80) :
    nextUtf8 mem p len = .ok 1 (mem p).toNat (p + 1) := by
  unfold nextUtf8; rw [if_neg hl, if_neg h0, if_pos h1]

theorem nextUtf8_ok_inv {mem : Mem} {p : Nat} {len : Option Nat} {n cp hi : Nat}
    (h : nextUtf8 mem p len = .ok n cp hi) : len ≠ some 0 ∧ (mem p).toNat ≠ 0 := by
  have hl : len ≠ some 0 := fun hl => by rw [nextUtf8, if_pos hl] at h; cases h
  exact ⟨hl, fun h0 => by rw [nextUtf8, if_neg hl, if_pos h0] at h; cases h⟩

theorem lenLt_ne_zero {len : Option Nat} {n : Nat} (hn : n ≠ 0) (hlt : lenLt len n = false) : len ≠ some 0 := by
  rintro rfl; simp [lenLt] at hlt; omega

theorem nextUtf8_invalid {mem : Mem} {p : Nat} {len : Option Nat} (hl : len ≠ some 0)
    (h8 : 0x80 ≤ (mem p).toNat) (hn : leadLen (mem p).toNat = 0) : nextUtf8 mem p len = .err (p + 1) := by
  unfold nextUtf8; rw [if_neg hl, if_neg (by omega), if_neg (by omega), if_pos hn]

theorem nextUtf8_short {mem : Mem} {p : Nat} {len : Option Nat} (hl : len ≠ some 0)
    (hn : leadLen (mem p).toNat ≠ 0) (hlt : lenLt len (leadLen (mem p).toNat) = true) :
    nextUtf8 mem p len = .err (p + 1) := by
  have hb := leadLen_ne_zero hn
  unfold nextUtf8; rw [if_neg hl, if_neg (by omega), if_neg (by omega), if_neg hn, if_pos hlt]

theorem nextUtf8_lead (mem : Mem) (p : Nat) (len : Option Nat) (hn : leadLen (mem p).toNat ≠ 0)
    (hlt : lenLt len (leadLen (mem p).toNat) = false) :
    nextUtf8 mem p len =
      match contLoop mem (leadLen (mem p).toNat - 1) (p + 1) (leadBits (mem p).toNat) with
      | (none, hi) => .err hi
      | (some cp, hi) => .ok (leadLen (mem p).toNat) cp hi := by
  have hb := leadLen_ne_zero hn
  unfold nextUtf8
  rw [if_neg (lenLt_ne_zero hn hlt), if_neg (by omega), if_neg (by omega), if_neg hn, hlt]
  rfl

theorem nextUtf8_complete (mem : Mem) (p : Nat) (len : Option Nat)
    (hn : leadLen (mem p).toNat ≠ 0) (hlt : lenLt len (leadLen (mem p).toNat) = false)
    (hnz : ∀ i, 1 ≤ i → i < leadLen (mem p).toNat → (mem (p + i)).toNat ≠ 0) :
    nextUtf8 mem p len = .ok (leadLen (mem p).toNat) (seqValue mem p (leadLen (mem p).toNat))
      (p + leadLen (mem p).toNat) := by
  rw [nextUtf8_lead mem p len hn hlt, leadBits_eq]
  have p1 : p + 1 + 1 = p + 2 := rfl
  have p2 : p + 2 + 1 = p + 3 := rfl
  have p3 : p + 3 + 1 = p + 4 := rfl
  rcases leadLen_spec (mem p).toNat with ⟨_, h⟩ | ⟨hr, h⟩ | ⟨hr, h⟩ | ⟨hr, h⟩
  · exact absurd h hn
  · rw [h] at hnz ⊢
    simp only [contLoop, contAcc_eq, hnz 1 (by omega) (by omega), if_false, seqValue, if_pos hr.2]
  · rw [h] at hnz ⊢
    simp only [contLoop, contAcc_eq, p1, p2, hnz 1 (by omega) (by omega), hnz 2 (by omega) (by omega), if_false,
      seqValue, if_neg (Nat.not_lt.2 hr.1), if_pos hr.2]
  · rw [h] at hnz ⊢
    simp only [contLoop, contAcc_eq, p1, p2, p3, hnz 1 (by omega) (by omega), hnz 2 (by omega) (by omega),
      hnz 3 (by omega) (by omega), if_false, seqValue, if_neg (Nat.not_lt.2 hr.1),
      if_neg (show ¬ (mem p).toNat < 224 by omega)]

theorem ne_zero_from {mem : Mem} {q : Nat} (h0 : (mem q).toNat ≠ 0) (i : Nat) (h1 : q ≤ i)
    (h : q < i → (mem i).toNat ≠ 0) : (mem i).toNat ≠ 0 := by
  rcases Nat.eq_or_lt_of_le h1 with rfl | h2
  · exact h0
  · exact h h2

theorem contLoop_spec (mem : Mem) : ∀ (k q cp : Nat),
    (∃ cp', contLoop mem k q cp = (some cp', q + k) ∧ ∀ i, q ≤ i → i < q + k → (mem i).toNat ≠ 0) ∨
    (∃ z, q ≤ z ∧ z < q + k ∧ contLoop mem k q cp = (none, z + 1) ∧ (mem z).toNat = 0 ∧
      ∀ i, q ≤ i → i < z → (mem i).toNat ≠ 0)
  | 0, q, cp => .inl ⟨cp, rfl, fun i h1 h2 => absurd h2 (Nat.not_lt.2 h1)⟩
  | k + 1, q, cp => by
    rw [contLoop]
    by_cases h0 : (mem q).toNat = 0
    · rw [if_pos h0]
      exact .inr ⟨q, Nat.le_refl q, by omega, rfl, h0, fun i h1 h2 => absurd h2 (Nat.not_lt.2 h1)⟩
    · rw [if_neg h0]
      have first := @ne_zero_from mem q h0
      rcases contLoop_spec mem k (q + 1) (contAcc cp (mem q).toNat) with ⟨cp', h, hnz⟩ | ⟨z, hz1, hz2, h, hz, hnz⟩
      · exact .inl ⟨cp', h.trans (congrArg _ (Nat.add_right_comm q 1 k)),
          fun i h1 h2 => first i h1 (fun h3 => hnz i h3 (by omega))⟩
      · exact .inr ⟨z, by omega, by omega, h, hz, fun i h1 h2 => first i h1 (fun h3 => hnz i h3 h2)⟩

theorem nextUtf8_cases {motive : Dec → Prop} (mem : Mem) (p : Nat) (len : Option Nat) (hl : len ≠ some 0)
    (h0 : (mem p).toNat ≠ 0)
    (ascii : (mem p).toNat < 0x80 → motive (.ok 1 (mem p).toNat (p + 1)))
    (invalid : 0x80 ≤ (mem p).toNat → leadLen (mem p).toNat = 0 → motive (.err (p + 1)))
    (short : leadLen (mem p).toNat ≠ 0 → lenLt len (leadLen (mem p).toNat) = true → motive (.err (p + 1)))
    (nul : leadLen (mem p).toNat ≠ 0 → lenLt len (leadLen (mem p).toNat) = false →
      ∀ z, p < z → z < p + leadLen (mem p).toNat → (mem z).toNat = 0 → (∀ i, p < i → i < z → (mem i).toNat ≠ 0) →
      motive (.err (z + 1)))
    (complete : leadLen (mem p).toNat ≠ 0 → lenLt len (leadLen (mem p).toNat) = false →
      (∀ i, 1 ≤ i → i < leadLen (mem p).toNat → (mem (p + i)).toNat ≠ 0) →
      motive (.ok (leadLen (mem p).toNat) (seqValue mem p (leadLen (mem p).toNat)) (p + leadLen (mem p).toNat))) :
    motive (nextUtf8 mem p len) := by
  by_cases ha : (mem p).toNat < 0x80
  · rw [nextUtf8_ascii mem p len hl h0 ha]; exact ascii ha
  by_cases hn : leadLen (mem p).toNat = 0
  · rw [nextUtf8_invalid hl (Nat.le_of_not_lt ha) hn]; exact invalid (Nat.le_of_not_lt ha) hn
  by_cases hlt : lenLt len (leadLen (mem p).toNat) = true
  · rw [nextUtf8_short hl hn hlt]; exact short hn hlt
  have hlt' := Bool.eq_false_iff.2 hlt
  rcases contLoop_spec mem (leadLen (mem p).toNat - 1) (p + 1) (leadBits (mem p).toNat) with
    ⟨_, _, hnz⟩ | ⟨z, hz1, hz2, h, hz, hnz⟩
  · have hnz' : ∀ i, 1 ≤ i → i < leadLen (mem p).toNat → (mem (p + i)).toNat ≠ 0 :=
      fun i h1 h2 => hnz (p + i) (by omega) (by omega)
    rw [nextUtf8_complete mem p len hn hlt' hnz']; exact complete hn hlt' hnz'
  · rw [nextUtf8_lead mem p len hn hlt', h]; exact nul hn hlt' z hz1 (by omega) hz hnz

/-- What a result of `next_utf8` at `p` says about the bytes read: up to `hi`, never past the length, and every
    byte before the last one read is non-NUL (for a decoded character: all of its bytes). -/
def Reads (mem : Mem) (p : Nat) (len : Option Nat) : Dec → Prop
  | .err hi => p < hi ∧ (∀ l, len = some l → hi ≤ p + l) ∧ ∀ i, p ≤ i → i + 1 < hi → (mem i).toNat ≠ 0
  | .ok n _ hi => hi = p + n ∧ 0 < n ∧ (∀ l, len = some l → n ≤ l) ∧ ∀ i, p ≤ i → i < p + n → (mem i).toNat ≠ 0

theorem nextUtf8_reads (mem : Mem) (p : Nat) (len : Option Nat) (hl : len ≠ some 0) (h0 : (mem p).toNat ≠ 0) :
    Reads mem p len (nextUtf8 mem p len) := by
  have hl1 : ∀ l, len = some l → 1 ≤ l := fun l h => Nat.pos_of_ne_zero (fun h' => hl (h' ▸ h))
  have one : p < p + 1 ∧ (∀ l, len = some l → p + 1 ≤ p + l) ∧ ∀ i, p ≤ i → i + 1 < p + 1 → (mem i).toNat ≠ 0 :=
    ⟨by omega, fun l h => by have := hl1 l h; omega, fun i h1 h2 => by omega⟩
  have hN : lenLt len (leadLen (mem p).toNat) = false → ∀ l, len = some l → leadLen (mem p).toNat ≤ l := by
    rintro h l rfl; simpa [lenLt] using h
  have first := @ne_zero_from mem p h0
  refine nextUtf8_cases (motive := Reads mem p len) mem p len hl h0 (fun _ => ⟨rfl, Nat.one_pos, hl1, fun i h1 h2 => first i h1 (by omega)⟩)
    (fun _ _ => one) (fun _ _ => one) ?_ ?_
  · intro _ hlt z hz1 hz2 _ hnz
    exact ⟨by omega, fun l h => by have := hN hlt l h; omega, fun i h1 h2 => first i h1 (fun h => hnz i h (by omega))⟩
  · intro hn hlt hnz
    refine ⟨rfl, Nat.pos_of_ne_zero hn, hN hlt, fun i h1 h2 => first i h1 (fun h => ?_)⟩
    have := hnz (i - p) (by omega) (by omega)
    rwa [Nat.add_sub_cancel' h1] at this

theorem seqlen_1 {cp : Nat} (h : cp < 0x80) : seqlen cp = 1 := if_pos h
theorem seqlen_2 {cp : Nat} (h0 : 0x80 ≤ cp) (h1 : cp < 0x800) : seqlen cp = 2 := by
  unfold seqlen; rw [if_neg (by omega), if_pos h1]
theorem seqlen_3 {cp : Nat} (h0 : 0x800 ≤ cp) (h1 : cp < 0x10000) : seqlen cp = 3 := by
  unfold seqlen; rw [if_neg (by omega), if_neg (by omega), if_pos h1]
theorem seqlen_4 {cp : Nat} (h0 : 0x10000 ≤ cp) (h1 : cp < 0x200000) : seqlen cp = 4 := by
  unfold seqlen; rw [if_neg (by omega), if_neg (by omega), if_neg (by omega), if_pos h1]

theorem putBytes_1 (cp : Nat) (h : cp < 0x80) : putBytes cp = [cp] := by
  unfold putBytes; rw [seqlen_1 h]
  show [cp &&& 0x7f] = [cp]
  rw [and_7f, Nat.mod_eq_of_lt h]

theorem putBytes_2 (cp : Nat) (h0 : 0x80 ≤ cp) (h1 : cp < 0x800) :
    putBytes cp = [192 + cp / 64, 128 + cp % 64] := by
  unfold putBytes; rw [seqlen_2 h0 h1]
  simp only [putTail, putLead, shr_6, and_3f, and_1f]
  rw [or_80, or_c0 _ (Nat.mod_lt _ (by decide)), Nat.mod_eq_of_lt (by omega)]

theorem putBytes_3 (cp : Nat) (h0 : 0x800 ≤ cp) (h1 : cp < 0x10000) :
    putBytes cp = [224 + cp / 4096, 128 + cp / 64 % 64, 128 + cp % 64] := by
  unfold putBytes; rw [seqlen_3 h0 h1]
  simp only [putTail, putLead, shr_6, and_3f, and_0f, Nat.div_div_eq_div_mul]
  rw [or_80, or_80, or_e0 _ (Nat.mod_lt _ (by decide)), Nat.mod_eq_of_lt (by omega)]

theorem putBytes_4 (cp : Nat) (h0 : 0x10000 ≤ cp) (h1 : cp < 0x200000) :
    putBytes cp = [240 + cp / 262144, 128 + cp / 4096 % 64, 128 + cp / 64 % 64, 128 + cp % 64] := by
  unfold putBytes; rw [seqlen_4 h0 h1]
  simp only [putTail, putLead, shr_6, and_3f, and_07, Nat.div_div_eq_div_mul]
  rw [or_80, or_80, or_80, or_f0 _ (Nat.mod_lt _ (by decide)), Nat.mod_eq_of_lt (by omega)]

theorem leadLen_2 {b : Nat} (h0 : 0xc0 ≤ b) (h1 : b < 0xe0) : leadLen b = 2 := by
  unfold leadLen; rw [if_neg (by omega), if_pos h1]
theorem leadLen_3 {b : Nat} (h0 : 0xe0 ≤ b) (h1 : b < 0xf0) : leadLen b = 3 := by
  unfold leadLen; rw [if_neg (by omega), if_neg (by omega), if_pos h1]
theorem leadLen_4 {b : Nat} (h0 : 0xf0 ≤ b) (h1 : b < 0xf8) : leadLen b = 4 := by
  unfold leadLen; rw [if_neg (by omega), if_neg (by omega), if_neg (by omega), if_pos h1]

/-- UTF-8 by its four length classes (Unicode Standard, Table 3-6, without the surrogate gap and up to the 21 bits
    the four-byte form holds): the bytes by their ranges, the code point as the polynomial in their payloads,
    shortest form only.  An encoder is right when it writes a form, a decoder when it reads every form back; the
    arithmetic on the code point is done once, in `putBytes_form`. -/
inductive Form : Nat → List Nat → Prop
  | one {a : Nat} (ha : a < 0x80) : Form a [a]
  | two {a b : Nat} (ha : a < 32) (hb : b < 64) (hmin : 0x80 ≤ a * 64 + b) : Form (a * 64 + b) [192 + a, 128 + b]
  | three {a b c : Nat} (ha : a < 16) (hb : b < 64) (hc : c < 64) (hmin : 0x800 ≤ (a * 64 + b) * 64 + c) :
      Form ((a * 64 + b) * 64 + c) [224 + a, 128 + b, 128 + c]
  | four {a b c d : Nat} (ha : a < 8) (hb : b < 64) (hc : c < 64) (hd : d < 64)
      (hmin : 0x10000 ≤ ((a * 64 + b) * 64 + c) * 64 + d) :
      Form (((a * 64 + b) * 64 + c) * 64 + d) [240 + a, 128 + b, 128 + c, 128 + d]

theorem putBytes_form (cp : Nat) (h : cp < 0x200000) : Form cp (putBytes cp) := by
  -- the payloads are the base-64 digits of `cp`, which `Nat.div_add_mod'` puts together again
  have dm : ∀ x, x / 64 * 64 + x % 64 = x := fun x => Nat.div_add_mod' x 64
  have m64 : ∀ x, x % 64 < 64 := fun x => Nat.mod_lt _ (by decide)
  rcases Nat.lt_or_ge cp 0x80 with hA | hA
  · rw [putBytes_1 cp hA]; exact .one hA
  rcases Nat.lt_or_ge cp 0x800 with hB | hB
  · rw [putBytes_2 cp hA hB]
    have := Form.two (a := cp / 64) (b := cp % 64) (Nat.div_lt_of_lt_mul hB) (m64 _)
    rw [dm] at this; exact this hA
  rcases Nat.lt_or_ge cp 0x10000 with hC | hC
  · rw [putBytes_3 cp hB hC, ← Nat.div_div_eq_div_mul cp 64 64]
    have := Form.three (a := cp / 64 / 64) (b := cp / 64 % 64) (c := cp % 64)
      (by rw [Nat.div_div_eq_div_mul]; exact Nat.div_lt_of_lt_mul hC) (m64 _) (m64 _)
    rw [dm, dm] at this; exact this hB
  · rw [putBytes_4 cp hC h, ← Nat.div_div_eq_div_mul cp 4096 64, ← Nat.div_div_eq_div_mul cp 64 64]
    have := Form.four (a := cp / 64 / 64 / 64) (b := cp / 64 / 64 % 64) (c := cp / 64 % 64) (d := cp % 64)
      (by rw [Nat.div_div_eq_div_mul, Nat.div_div_eq_div_mul]; exact Nat.div_lt_of_lt_mul h) (m64 _) (m64 _) (m64 _)
    rw [dm, dm, dm] at this; exact this hC

theorem Form.seqlen {cp : Nat} {bs : List Nat} (h : Form cp bs) : seqlen cp = bs.length := by
  cases h with
  | one ha => exact seqlen_1 ha
  | two ha hb hm => exact seqlen_2 hm (by omega)
  | three ha hb hc hm => exact seqlen_3 hm (by omega)
  | four ha hb hc hd hm => exact seqlen_4 hm (by omega)

theorem Form.range {cp : Nat} {bs : List Nat} (h : Form cp bs) (h0 : 0 < cp) : ∀ x ∈ bs, 0 < x ∧ x < 256 := by
  cases h <;> simp only [List.mem_cons, List.not_mem_nil, or_false] <;> omega

theorem Form.nextUtf8 {cp : Nat} {bs : List Nat} (h : Form cp bs) (h0 : 0 < cp) (mem : Mem) (p : Nat) (len : Option Nat)
    (hlt : lenLt len bs.length = false) (hm : ∀ i b, bs[i]? = some b → (mem (p + i)).toNat = b) :
    nextUtf8 mem p len = .ok bs.length cp (p + bs.length) := by
  have hnz : ∀ i, i < bs.length → (mem (p + i)).toNat ≠ 0 := fun i hi => by
    rw [hm i _ (List.getElem?_eq_getElem hi)]
    exact Nat.ne_of_gt (h.range h0 _ (List.getElem_mem hi)).1
  have lead : ∀ n, bs.length = n → leadLen (mem p).toNat = n → 2 ≤ n → seqValue mem p n = cp →
      Utf8.nextUtf8 mem p len = .ok bs.length cp (p + bs.length) := by   -- `Utf8.`: here the bare name is this theorem
    intro n hs hn h2 hv
    rw [hs, ← hn] at hlt
    rw [nextUtf8_complete mem p len (by omega) hlt (fun i _ hi => hnz i (by omega)), hn, hv, hs]
  have md : ∀ (m k : Nat) {x : Nat}, x < m → (m * k + x) % m = x := fun m k _ hx => (Nat.mul_add_mod ..).trans (Nat.mod_eq_of_lt hx)
  cases h with
  | one ha =>
    have m0 : (mem p).toNat = cp := hm 0 _ rfl
    rw [nextUtf8_ascii mem p len (lenLt_ne_zero Nat.one_ne_zero hlt) (by omega) (by omega), m0]; rfl
  | two ha hb _ =>
    have m0 : (mem p).toNat = _ := hm 0 _ rfl
    refine lead 2 rfl (leadLen_2 (m0 ▸ Nat.le_add_right 192 _) (m0 ▸ Nat.add_lt_add_left ha 192)) (by decide) ?_
    simp only [seqValue, m0, hm 1 _ rfl, md 64 2 hb, md 32 6 ha]
  | three ha hb hc _ =>
    have m0 : (mem p).toNat = _ := hm 0 _ rfl
    refine lead 3 rfl (leadLen_3 (m0 ▸ Nat.le_add_right 224 _) (m0 ▸ Nat.add_lt_add_left ha 224)) (by decide) ?_
    simp only [seqValue, m0, hm 1 _ rfl, hm 2 _ rfl, md 64 2 hb, md 64 2 hc, md 16 14 ha]
  | four ha hb hc hd _ =>
    have m0 : (mem p).toNat = _ := hm 0 _ rfl
    refine lead 4 rfl (leadLen_4 (m0 ▸ Nat.le_add_right 240 _) (m0 ▸ Nat.add_lt_add_left ha 240)) (by decide) ?_
    simp only [seqValue, m0, hm 1 _ rfl, hm 2 _ rfl, hm 3 _ rfl, md 64 2 hb, md 64 2 hc, md 64 2 hd, md 8 30 ha]

theorem seqlen_pos (cp : Nat) : 1 ≤ seqlen cp := by
  have arm : ∀ {c : Prop} [Decidable c] {a b : Nat}, 1 ≤ a → 1 ≤ b → 1 ≤ (if c then a else b) :=
    fun ha hb => by split <;> assumption
  exact arm (by decide) (arm (by decide) (arm (by decide) (arm (by decide) (arm (by decide) (by decide)))))

theorem putTail_length : ∀ (k cp : Nat) (acc : List Nat), (putTail k cp acc).2.length = k + acc.length
  | 0, _, _ => (Nat.zero_add _).symm
  | k + 1, cp, acc => by rw [putTail, putTail_length k, List.length_cons]; omega

theorem putBytes_length (cp : Nat) : (putBytes cp).length = seqlen cp := by
  have := seqlen_pos cp
  rw [putBytes, List.length_cons, putTail_length, List.length_nil]; omega

theorem leadLen_le (b : Nat) : leadLen b ≤ 4 := by
  rcases leadLen_spec b with ⟨_, e⟩ | ⟨_, e⟩ | ⟨_, e⟩ | ⟨_, e⟩ <;> omega

theorem nextUtf8_ok_le {mem : Mem} {p : Nat} {len : Option Nat} {n cp hi : Nat} (h : nextUtf8 mem p len = .ok n cp hi) :
    n ≤ 4 := by
  obtain ⟨hl0, h0⟩ := nextUtf8_ok_inv h
  revert h
  exact nextUtf8_cases (motive := fun d => d = .ok n cp hi → _) mem p len hl0 h0 (fun _ e => by cases e; decide) nofun nofun
    (fun _ _ _ _ _ _ _ => nofun) (fun _ _ _ e => by cases e; exact leadLen_le _)

theorem seqValue_congr {mem mem' : Mem} {p p' : Nat} : ∀ {n : Nat}, 0 < n → n ≤ 4 →
    (∀ k, k < n → (mem' (p' + k)).toNat = (mem (p + k)).toNat) → seqValue mem' p' n = seqValue mem p n
  | 1, _, _, hb => hb 0 (by decide)
  | 2, _, _, hb => by simp only [seqValue, show (mem' p').toNat = (mem p).toNat from hb 0 (by decide), hb 1 (by decide)]
  | 3, _, _, hb => by
    simp only [seqValue, show (mem' p').toNat = (mem p).toNat from hb 0 (by decide), hb 1 (by decide), hb 2 (by decide)]
  | 4, _, _, hb => by
    simp only [seqValue, show (mem' p').toNat = (mem p).toNat from hb 0 (by decide), hb 1 (by decide), hb 2 (by decide),
      hb 3 (by decide)]

theorem nextUtf8_congr {mem mem' : Mem} {p p' : Nat} {len len' : Option Nat} {n cp hi : Nat}
    (h : nextUtf8 mem p len = .ok n cp hi)
    (hb : ∀ k, k < n → (mem' (p' + k)).toNat = (mem (p + k)).toNat)
    (hl : ∀ l, len' = some l → n ≤ l) : nextUtf8 mem' p' len' = .ok n cp (p' + n) := by
  obtain ⟨hl0, h0⟩ := nextUtf8_ok_inv h
  revert h
  refine nextUtf8_cases (motive := fun d => d = .ok n cp hi → _) mem p len hl0 h0 ?_ nofun nofun (fun _ _ _ _ _ _ _ => nofun) ?_
  · intro ha e; cases e
    have e0 : (mem' p').toNat = (mem p).toNat := hb 0 Nat.one_pos
    rw [nextUtf8_ascii mem' p' len' (fun hz => by have := hl 0 hz; omega) (e0 ▸ h0) (e0 ▸ ha), e0]
  · intro hn hlt hnz e; cases e
    have e0 : (mem' p').toNat = (mem p).toNat := hb 0 (Nat.pos_of_ne_zero hn)
    have := nextUtf8_complete mem' p' len' (e0 ▸ hn)
      (by rw [e0]; cases len' with | none => rfl | some l => simpa [lenLt] using hl l rfl)
      (fun i h1 h2 => by rw [e0] at h2; rw [hb i h2]; exact hnz i h1 h2)
    rw [this, e0, seqValue_congr (Nat.pos_of_ne_zero hn) (leadLen_le _) hb]

theorem memOfBytes_toNat (l : List Nat) (i : Nat) (h : ∀ x ∈ l, x < 256) :
    (memOfBytes l i).toNat = l.getD i 0 := by
  unfold memOfBytes
  rw [UInt8.toNat_ofNat', List.getD_eq_getElem?_getD]
  cases hh : l[i]? with
  | none => rfl
  | some x => exact Nat.mod_eq_of_lt (h x (List.mem_of_getElem? hh))

theorem memOfBytes_end {l : List Nat} {i : Nat} (h : l.length ≤ i) : (memOfBytes l i).toNat = 0 := by
  rw [memOfBytes, List.getD_eq_getElem?_getD, List.getElem?_eq_none h]; rfl

theorem nextUtf8_putBytes (cp : Nat) (h0 : 0 < cp) (h1 : cp < 0x200000) :
    nextUtf8 (memOfBytes (putBytes cp)) 0 none = .ok (seqlen cp) cp (seqlen cp) := by
  have f := putBytes_form cp h1
  have := f.nextUtf8 h0 (memOfBytes (putBytes cp)) 0 none rfl (fun i b hb => by
    rw [Nat.zero_add, memOfBytes_toNat _ _ (fun x hx => (f.range h0 x hx).2), List.getD_eq_getElem?_getD, hb]; rfl)
  rwa [Nat.zero_add, ← f.seqlen] at this

end Utf8
end Tickit
