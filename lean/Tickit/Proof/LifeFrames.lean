import Tickit.Proof.LifeMouse
import Tickit.Proof.LifeTally
import Tickit.Proof.LifeGhost
import Tickit.Proof.LifeRun
/-
  C08: key events delivered to window handlers with any actions (`tickit_window_unref` included), and `_handle_mouse`
  with handlers that may do anything but claim the event.

  The references the frames of `_handle_key` hold are carried as part of what the library holds (`Ghost`; with the
  frames' tally `t` of Proof/LifeRoute.lean the ghost is `g.plus t`, as in Proof/LifeKeys.lean): `FK g st` says that every
  live window's count is exactly the application's tally plus `g.win`, that a window the frames hold is alive, and that the
  frames obey the stack discipline - a frame that holds a child holds its parent.  A destroy cascade therefore never
  touches a window a frame holds: what it frees or drops lies below its start (`Unrefd.reach`), a held window strictly below
  the start would lie below a held child of it (`FK.child_held`), and a start that dies has no held child (`ChildFree`).
-/
namespace Tickit.Life
open WinTree (Id Win Req Change Tree)

/-- `g` is everything the library holds, the frames' references included (`g.plus t` where their tally `t` matters; `KInv gh st int`
    of Proof/LifeKeys.lean takes the tally apart). -/
structure FK (g : Ghost) (st : St) : Prop where
  inv : SInv g st
  /-- with `SInv.wref` the count is exact: nobody but the application and the library holds a window -/
  ex : ∀ (i : Nat) (w : Win), LiveW st.tree i w → ((getX st i).appRefs : Int) + (g.win i : Int) ≤ w.refcount
  held : ∀ (i : Nat), 0 < g.win i → ∃ w, LiveW st.tree i w
  /-- the stack discipline -/
  disc : ∀ (c : Nat) (cw : Win) (p : Nat), LiveW st.tree c cw → cw.parent = some p → 0 < g.win c → 0 < g.win p

theorem FK.exact {g : Ghost} {st : St} (K : FK g st) {i : Nat} {w : Win} (hl : LiveW st.tree i w) :
    w.refcount = ((getX st i).appRefs : Int) + (g.win i : Int) := by
  have h1 := (K.inv.wref i w hl).1
  have h2 := K.ex i w hl
  omega

/-- A held window strictly below `x` lies below a held child of `x`: the stack discipline along the parent chain. -/
theorem FK.child_held {g : Ghost} {st : St} (K : FK g st) {h x : Nat} (hr : Reach st.tree h x) :
    ∀ (hw : Win), LiveW st.tree h hw → h ≠ x → 0 < g.win h → ∃ c cw, LiveW st.tree c cw ∧ cw.parent = some x ∧ 0 < g.win c := by
  induction hr with
  | refl => intro _ _ hne; exact absurd rfl hne
  | @step i p a w hwi hp _ ih =>
    intro hw hl _ hg
    rw [hl.1] at hwi; cases hwi
    obtain ⟨_, pw, hpl, _⟩ := K.inv.tinv.parent_ok i w hl p hp
    by_cases hpa : p = a
    · subst hpa; exact ⟨i, w, hl, hp, hg⟩
    · exact ih pw hpl hpa (K.disc i w p hl hp hg)

theorem PSub.parent {t t' : Tree} (h : PSub t t') {c p : Nat} {cw w : Win} (hc' : t'.wins[c]? = some cw) (hp : cw.parent = some p)
    (hc : LiveW t c w) : w.parent = some p := by
  obtain ⟨w0, hw0, hp0⟩ := h c cw p hc' hp
  rw [hc.1] at hw0; cases hw0
  exact hp0

theorem FK.of_tree {g : Ghost} {st : St} (K : FK g st) {t' : Tree} (inv' : SInv g { st with tree := t' })
    (hlive : ∀ (i : Nat) (w : Win), LiveW st.tree i w → ∃ w', LiveW t' i w' ∧ w'.refcount = w.refcount)
    (hback : ∀ (i : Nat) (w' : Win), LiveW t' i w' → ∃ w, LiveW st.tree i w ∧ w'.refcount = w.refcount)
    (hps : PSub st.tree t') : FK g { st with tree := t' } := by
  refine ⟨inv', ?_, ?_, ?_⟩
  · intro i w' hl'
    obtain ⟨w, hl, hr⟩ := hback i w' hl'
    rw [hr]; exact K.ex i w hl
  · intro i hg
    obtain ⟨w, hl⟩ := K.held i hg
    obtain ⟨w', hl', _⟩ := hlive i w hl
    exact ⟨w', hl'⟩
  · intro c cw p hl' hp hg
    obtain ⟨w, hl, _⟩ := hback c cw hl'
    exact K.disc c w p hl (hps.parent hl'.1 hp hl) hg

theorem FK.of_calm {g : Ghost} {st : St} (K : FK g st) {t' : Tree} (C : Calm st.tree t') : FK g { st with tree := t' } :=
  K.of_tree (K.inv.of_calm C) (fun _ _ => C.live) (fun _ _ => C.live_back) C.psub

theorem FK.setX_same {g : Ghost} {st : St} (K : FK g st) (i : Nat) (x : WinX) (hp : x.pen = (getX st i).pen)
    (ha : x.appRefs = (getX st i).appRefs) : FK g (setX st i x) := by
  have hget : ∀ j, (getX (setX st i x) j).appRefs = (getX st j).appRefs := by
    intro j
    rw [getX_setX]
    split
    · rename_i h; rw [ha, h.1]
    · rfl
  refine ⟨K.inv.setX_same i x hp ha, ?_, K.held, K.disc⟩
  intro j w hl
  rw [hget]; exact K.ex j w hl

/-- `_handle_mouse` then returns no window. -/
def NoClaim (st : St) : Prop := ∀ (i : Nat) (b : Bind), b ∈ (getX st i).binds → b.ev = some .mouse → b.ret = false

/-- `unbindSelf` leaves a handler's answer alone and blanks its event at most. -/
theorem NoClaim.from {st st' : St} (H : NoClaim st) (F : BindsFrom (fun _ => False) st st') : NoClaim st' :=
  fun i b hb he => let ⟨b0, hb0, _, hr, hev⟩ := (F i b hb).resolve_right id
    hr ▸ H i b0 hb0 ((hev.resolve_right fun h => by rw [h] at he; cases he) ▸ he)

/-- What every step of the routing does to a state when handlers may free: nothing comes back to life and parent links only
    go (`back`, `psub`), the application's references to the terminal stay (`tapp`), nothing is bound (`bf`). -/
structure Shr (st st' : St) : Prop where
  size : st'.tree.wins.size = st.tree.wins.size
  psub : PSub st.tree st'.tree
  back : ∀ (i : Nat) (w' : Win), LiveW st'.tree i w' → ∃ w, LiveW st.tree i w
  tapp : st'.term.appRefs = st.term.appRefs
  /-- no step binds anything -/
  bf : BindsFrom (fun _ => False) st st'

theorem Shr.nc {st st' : St} (S : Shr st st') (h : NoClaim st) : NoClaim st' := h.from S.bf

theorem Shr.refl (st : St) : Shr st st := ⟨rfl, PSub.refl _, fun _ w h => ⟨w, h⟩, rfl, .refl _ st⟩

theorem Shr.trans {a b c : St} (h1 : Shr a b) (h2 : Shr b c) : Shr a c :=
  ⟨h2.size.trans h1.size, h1.psub.trans h2.psub, fun i w' hl' => by
    obtain ⟨w, hl⟩ := h2.back i w' hl'
    exact h1.back i w hl, h2.tapp.trans h1.tapp, h1.bf.trans h2.bf⟩

theorem Shr.of_tree {st st' : St} (h : st'.tree = st.tree) (ht : st'.term.appRefs = st.term.appRefs)
    (hb : BindsFrom (fun _ => False) st st') : Shr st st' :=
  ⟨by rw [h], by rw [h]; exact PSub.refl _, fun i w hl => ⟨w, by rw [← h]; exact hl⟩, ht, hb⟩

theorem Shr.of_trel {st st' : St} (hrel : TRel st.tree st'.tree) (ht : st'.term.appRefs = st.term.appRefs)
    (hb : BindsFrom (fun _ => False) st st') : Shr st st' :=
  ⟨hrel.1, fun i w' p hw' hp' => by obtain ⟨w0, hw0, hr⟩ := hrel.back hw'; exact ⟨w0, hw0, by rw [← hr.1]; exact hp'⟩,
    fun i w' hl' => by obtain ⟨w0, hl0, _⟩ := hrel.live_back hl'; exact ⟨w0, hl0⟩, ht, hb⟩

theorem Shr.of_calm {st : St} {t' : Tree} (C : Calm st.tree t') : Shr st { st with tree := t' } :=
  ⟨C.size, C.psub, fun _ _ hl' => (C.live_back hl').imp fun _ h => h.1, rfl, .of_wx rfl⟩

theorem Shr.parent {st st' : St} (S : Shr st st') {c p : Nat} {cw : Win} (hl' : LiveW st'.tree c cw) (hp : cw.parent = some p) :
    ∃ w, LiveW st.tree c w ∧ w.parent = some p :=
  let ⟨w, hl⟩ := S.back c cw hl'; ⟨w, hl, S.psub.parent hl'.1 hp hl⟩

/-- Holds of the window of a frame when the frame starts: no child of it is held - hence, by the stack discipline, nothing
    below it -, which is what makes it safe for the frame to give its reference back. -/
def ChildFree (g : Ghost) (st : St) (win : Nat) : Prop :=
  ∀ (c : Nat) (cw : Win), LiveW st.tree c cw → cw.parent = some win → g.win c = 0

theorem ChildFree.later {g : Ghost} {st st' : St} {win : Nat} (h : ChildFree g st win) (S : Shr st st') : ChildFree g st' win :=
  fun c cw hl hp => let ⟨w, hlw, hpw⟩ := S.parent hl hp; h c w hlw hpw

theorem FK.free_below {g : Ghost} {st : St} (K : FK g st) {c d : Nat} {dw : Win} (hc : g.win c = 0) (hd : LiveW st.tree d dw)
    (hp : dw.parent = some c) : g.win d = 0 :=
  Classical.byContradiction fun hg => by have := K.disc d dw c hd hp (Nat.pos_of_ne_zero hg); omega

theorem ChildFree.child {g : Ghost} {st : St} {win c : Nat} {cw : Win} (K : FK g st) (h : ChildFree g st win)
    (hc : LiveW st.tree c cw) (hp : cw.parent = some win) : ChildFree g st c :=
  fun _ _ hd hpd => K.free_below (h c cw hc hp) hd hpd

/-- `tickit_window_unref(x)` while frames hold references, by whoever holds the reference dropped (`unrefW_gen`: a handler,
    the application, a frame): a cascade there is only if nobody holds `x` afterwards, and then no child of `x` is held
    (`hch`), so it touches no window a frame holds. -/
theorem unrefW_FK_gen {cfg : Cfg} (R : Repaired cfg) {g g' : Ghost} {st : St} (K : FK g st) {x : Nat} {xw : Win} (hl : LiveW st.tree x xw)
    (a' : Nat) (hterm : g'.term = g.term) (hoth : ∀ j, j ≠ x → g'.win j = g.win j)
    (hbal : (a' : Int) + (g'.win x : Int) + 1 = ((getX st x).appRefs : Int) + (g.win x : Int)) (hge : g'.win x ≤ g.win x)
    (hch : g'.win x = 0 → ChildFree g st x) :
    ∃ st', unrefW cfg (setX st x { getX st x with appRefs := a' }) x = .ok st' ∧ FK g' st' ∧ Shr st st' := by
  obtain ⟨st', dead, dropped, hu, W⟩ := unrefW_gen (new := fun _ => False) R K.inv hl a' hterm hoth hbal fun _ => K.ex x xw hl
  have U := W.tree
  refine ⟨st', hu, ?_, ⟨U.size, U.psub, fun i w' hl' => (U.count i w' hl').imp fun _ h => h.1, W.tally.tapp, W.binds⟩⟩
  have hex := K.exact hl
  -- a cascade there is only if nobody holds `x` afterwards
  have hgx : (dead ≠ [] ∨ dropped ≠ []) → g'.win x = 0 := fun hne => by
    have h1 := U.last hne xw hl
    have h3 : (g'.win x : Int) = 0 := by omega
    exact_mod_cast h3
  -- what it frees or drops lies strictly below `x` or is `x`, hence is held by no frame
  have hfree : ∀ (i : Nat) (w : Win), LiveW st.tree i w → (i ∈ dead ∨ i ∈ dropped) → g'.win i = 0 := by
    intro i w hli hi
    have hx0 := hgx (hi.elim (fun h => .inl (List.ne_nil_of_mem h)) fun h => .inr (List.ne_nil_of_mem h))
    rcases U.reach i hi with ⟨hr, hne⟩ | ⟨he, _⟩
    · rw [hoth i hne]
      apply Classical.byContradiction
      intro hg
      obtain ⟨c, cw, hcl, hcp, hgc⟩ := K.child_held hr w hli hne (Nat.pos_of_ne_zero hg)
      have := hch hx0 c cw hcl hcp
      omega
    · rw [he]; exact hx0
  have hxd : x ∉ dropped := fun hd => by have := U.above x hd; omega
  refine ⟨W.inv, ?_, ?_, ?_⟩
  · intro i w' hl'
    obtain ⟨w, hli, hrc⟩ := U.count i w' hl'
    have happi := W.apps i (by rw [K.inv.wx_size]; exact hli.lt)
    have hexi := K.exact hli
    have hrc1 := W.inv.rc i w' hl'
    by_cases hix : i = x
    · subst hix
      cases WinTree.Live.unique hli hl
      simp only [if_true, hxd, if_false] at hrc happi
      omega
    · simp only [hix, if_false] at hrc happi
      by_cases hd : i ∈ dropped
      · simp only [hd, if_true] at hrc happi
        -- the child had two references at least, both the application's
        have hg0 := hfree i w hli (.inr hd)
        rw [hoth i hix] at hg0 ⊢
        rw [hg0] at hexi ⊢
        omega
      · simp only [hd, if_false] at hrc happi
        rw [hoth i hix]; omega
  · intro i hg
    have hgi : 0 < g.win i := by
      by_cases hix : i = x
      · subst hix; omega
      · rw [hoth i hix] at hg; exact hg
    obtain ⟨w, hli⟩ := K.held i hgi
    exact U.survive i w hli fun hd => by have := hfree i w hli (.inl hd); omega
  · intro c cw p hl' hp hg
    obtain ⟨w, hlc, _⟩ := U.count c cw hl'
    have hpc := U.psub.parent hl'.1 hp hlc
    have hgc : 0 < g.win c := by
      by_cases hcx : c = x
      · subst hcx; omega
      · rw [hoth c hcx] at hg; exact hg
    have hgp := K.disc c w p hlc hpc hgc
    by_cases hpx : p = x
    · subst hpx
      apply Classical.byContradiction
      intro h0
      have := hch (by omega) c w hlc hpc
      omega
    · rw [hoth p hpx]; exact hgp

/-- `tickit_window_unref` by a handler (or the application): if `x` dies no frame holds it, hence none holds a child of it. -/
theorem unrefW_FK {cfg : Cfg} (R : Repaired cfg) {g : Ghost} {st : St} (K : FK g st) {x : Nat} (hh : heldW st x = true) :
    ∃ st', unrefW cfg (setX st x { getX st x with appRefs := (getX st x).appRefs - 1 }) x = .ok st' ∧ FK g st' ∧
      Shr st st' := by
  obtain ⟨xw, hxl, hpos⟩ := heldW_spec hh
  exact unrefW_FK_gen R K hxl _ rfl (fun _ _ => rfl) (by omega) (Nat.le_refl _) fun h0 _ _ hcl hcp => K.free_below h0 hcl hcp

theorem FK.of_set {g g' : Ghost} {st st' : St} (K : FK g st) (inv' : SInv g' st') {win : Nat} {ww : Win} (hw : LiveW st.tree win ww)
    {r : Int} (htree : st'.tree = WinTree.set st.tree win { ww with refcount := r })
    (hg : ∀ j, j ≠ win → g'.win j = g.win j) (hx : ∀ j, j ≠ win → (getX st' j).appRefs = (getX st j).appRefs)
    (hex : ((getX st' win).appRefs : Int) + (g'.win win : Int) ≤ r) (hge : g.win win ≤ g'.win win)
    (hpar : g.win win = 0 → 0 < g'.win win → ∀ p, ww.parent = some p → 0 < g.win p) : FK g' st' := by
  have live : ∀ {i : Nat} {w' : Win}, LiveW st'.tree i w' ↔ (i = win ∧ w' = { ww with refcount := r }) ∨ (i ≠ win ∧ LiveW st.tree i w') := by
    rw [htree]; exact liveW_set hw r
  refine ⟨inv', ?_, ?_, ?_⟩
  · intro i w' hl'
    rcases live.1 hl' with ⟨rfl, rfl⟩ | ⟨hi, hl⟩
    · exact hex
    · rw [hg i hi, hx i hi]; exact K.ex i w' hl
  · intro i hgi
    by_cases hi : i = win
    · exact ⟨_, live.2 (.inl ⟨hi, rfl⟩)⟩
    · rw [hg i hi] at hgi
      obtain ⟨w, hl⟩ := K.held i hgi
      exact ⟨w, live.2 (.inr ⟨hi, hl⟩)⟩
  · intro c cw p hl' hp hgc
    have hgp : 0 < g.win p := by
      rcases live.1 hl' with ⟨rfl, rfl⟩ | ⟨hc, hl⟩
      · by_cases h0 : g.win c = 0
        · exact hpar h0 hgc p hp
        · exact K.disc c ww p hw hp (Nat.pos_of_ne_zero h0)
      · rw [hg c hc] at hgc
        exact K.disc c cw p hl hp hgc
    by_cases hpw : p = win
    · subst hpw; omega
    · rw [hg p hpw]; exact hgp

theorem FK.refI {g : Ghost} {t : Nat → Nat} {st : St} (K : FK (g.plus t) st) {win : Nat} {ww : Win} (hw : LiveW st.tree win ww)
    (hpar : ∀ p, ww.parent = some p → 0 < (g.plus t).win p) :
    ∃ st', refW st win = .ok st' ∧ FK (g.plus (bump t win)) st' ∧ Shr st st' := by
  have hs : (g.plus (bump t win)).win win = (g.plus t).win win + 1 := by simp only [Ghost.plus_win, bump, if_true]; omega
  have hn : ∀ j, j ≠ win → (g.plus (bump t win)).win j = (g.plus t).win j := fun j hj => by simp [bump, hj]
  rw [refW_eq hw]
  have hex := K.exact hw
  refine ⟨_, rfl, K.of_set (K.inv.ref_plus hw) hw rfl hn (fun _ _ => rfl) ?_ (by rw [hs]; omega) (fun _ _ => hpar),
    Shr.of_trel (K.inv.tinv.set_refcount hw _).2 rfl (.of_wx rfl)⟩
  show ((getX st win).appRefs : Int) + ((g.plus (bump t win)).win win : Int) ≤ ww.refcount + 1
  rw [hs]; push_cast; omega

/-- A frame gives a reference back; if it was the last one the window is destroyed, which needs `hch`. -/
theorem FK.unrefI {cfg : Cfg} (R : Repaired cfg) {g : Ghost} {t : Nat → Nat} {st : St} (K : FK (g.plus t) st) {win : Nat} (ht : 1 ≤ t win)
    (hch : (g.plus t).win win = 1 → ChildFree (g.plus t) st win) :
    ∃ st', unrefW cfg st win = .ok st' ∧ FK (g.plus (unbump t win)) st' ∧ Shr st st' := by
  have hs : (g.plus (unbump t win)).win win + 1 = (g.plus t).win win := by simp only [Ghost.plus_win, unbump, if_true]; omega
  obtain ⟨ww, hw⟩ := K.held win (by omega)
  have := unrefW_FK_gen (cfg := cfg) R K hw (getX st win).appRefs (g' := g.plus (unbump t win)) rfl (fun j hj => by simp [unbump, hj])
    (by omega) (by omega) fun h0 => hch (by omega)
  rwa [setX_appRefs_self] at this

theorem FK.set_log {g : Ghost} {st : St} (K : FK g st) (l : List String) : FK g { st with log := l } :=
  ⟨K.inv.of_log l, K.ex, K.held, K.disc⟩

theorem simpleOp_FK {cfg : Cfg} (R : Repaired cfg) {g : Ghost} {st : St} (K : FK g st) (a : Act) (self : Option (Id × Int)) :
    simpleOp cfg st a self = none ∨ ∃ st', simpleOp cfg st a self = some (.ok st') ∧ FK g st' ∧ Shr st st' := by
  refine simpleOp_cases R K.inv.tinv K.inv.wx_size self a (fun t' C => ⟨K.of_calm C, Shr.of_calm C⟩)
    (fun w x hxp hxa hxb => ⟨K.setX_same w x hxp hxa, Shr.of_tree rfl rfl (.upd_stems w x hxb)⟩)
    (fun w ww _ hw => ?_) (fun w _ hh => unrefW_FK R K hh)
  · have hlt : w < st.wx.size := by rw [K.inv.wx_size]; exact hw.lt
    have inv1 := refW_ok K.inv hw
    obtain ⟨st1, hst1⟩ : ∃ st1, st1 = setW (setX st w { getX st w with appRefs := (getX st w).appRefs + 1 }) w
      { ww with refcount := ww.refcount + 1 } := ⟨_, rfl⟩
    rw [← hst1] at inv1 ⊢
    have hx : ∀ j, getX st1 j = if w = j ∧ w < st.wx.size then { getX st w with appRefs := (getX st w).appRefs + 1 } else getX st j := by
      intro j; rw [hst1]; exact getX_setX _ _ _ _
    refine ⟨K.of_set inv1 hw (by rw [hst1]; rfl) (fun _ _ => rfl) (fun j hj => by rw [hx, if_neg (fun h => hj h.1.symm)]) ?_
      (Nat.le_refl _) (fun h0 hg => absurd hg (by omega)), Shr.of_trel (by rw [hst1]; exact (K.inv.tinv.set_refcount hw _).2) (by rw [hst1]; rfl)
      (by rw [hst1]; exact (BindsFrom.upd_sub w { getX st w with appRefs := (getX st w).appRefs + 1 } fun _ h => h).trans (.of_wx rfl))⟩
    rw [hx, if_pos ⟨rfl, hlt⟩]
    have := K.ex w ww hw
    show (((getX st w).appRefs + 1 : Nat) : Int) + (g.win w : Int) ≤ ww.refcount + 1
    omega

theorem refW_same {st st' : St} {win : Nat} {ww : Win} (hw : LiveW st.tree win ww) (h : refW st win = .ok st') (i : Nat) (w : Win)
    (hl : LiveW st.tree i w) : ∃ w', LiveW st'.tree i w' ∧ w'.parent = w.parent := by
  rw [refW_eq hw] at h; cases h
  by_cases hi : i = win
  · subst hi; cases WinTree.Live.unique hl hw
    exact ⟨_, (liveW_set hw _).2 (.inl ⟨rfl, rfl⟩), rfl⟩
  · exact ⟨w, (liveW_set hw _).2 (.inr ⟨hi, hl⟩), rfl⟩

theorem foldl_refW_FK {g : Ghost} : ∀ (cs : List Nat) {st : St} {t : Nat → Nat}, FK (g.plus t) st →
    (∀ c ∈ cs, ∃ cw, LiveW st.tree c cw ∧ ∀ p, cw.parent = some p → 0 < (g.plus t).win p) →
    ∃ st', cs.foldlM refW st = .ok st' ∧ FK (g.plus fun j => t j + cs.count j) st' ∧ Shr st st'
  | [], st, t, K, _ => ⟨st, rfl, by simpa using K, Shr.refl st⟩
  | c :: rest, st, t, K, hl => by
    obtain ⟨cw, hc, hpar⟩ := hl c (by simp)
    obtain ⟨st1, h1, K1, S1⟩ := K.refI hc hpar
    have hsame1 := refW_same hc h1
    simp only [List.foldlM_cons, h1, bind_ok]
    obtain ⟨st2, h2, K2, S2⟩ := foldl_refW_FK rest K1 (fun x hx => by
      obtain ⟨xw, hxl, hxp⟩ := hl x (by simp [hx])
      obtain ⟨xw', hxl', hpe⟩ := hsame1 x xw hxl
      exact ⟨xw', hxl', fun p hp =>
        Nat.lt_of_lt_of_le (hxp p (by rw [← hpe]; exact hp)) (Nat.add_le_add_left (bump_ge t c p) _)⟩)
    rw [bump_add_count] at K2
    exact ⟨st2, h2, K2, S1.trans S2⟩

/-- The snapshot is given back; the last reference of a member a handler has dropped meanwhile destroys it, no child
    of it being held. -/
theorem foldl_unrefW_FK {cfg : Cfg} (R : Repaired cfg) {g : Ghost} : ∀ (cs : List Nat) {st : St} {t : Nat → Nat},
    FK (g.plus fun j => t j + cs.count j) st →
    (∀ c ∈ cs, ∀ (d : Nat) (dw : Win), LiveW st.tree d dw → dw.parent = some c → (g.plus t).win d = 0 ∧ d ∉ cs) →
    ∃ st', cs.foldlM (unrefW cfg) st = .ok st' ∧ FK (g.plus t) st' ∧ Shr st st'
  | [], st, t, K, _ => ⟨st, rfl, by simpa using K, Shr.refl st⟩
  | c :: rest, st, t, K, hfree => by
    obtain ⟨st1, h1, K1, S1⟩ := K.unrefI R (win := c) (by simp; omega) (by
      intro _ d dw hld hpd
      obtain ⟨h0, hni⟩ := hfree c (by simp) d dw hld hpd
      simp only [Ghost.plus_win] at h0 ⊢
      rw [List.count_eq_zero.2 hni]; omega)
    rw [unbump_add_count] at K1
    simp only [List.foldlM_cons, h1, bind_ok]
    obtain ⟨st2, h2, K2, S2⟩ := foldl_unrefW_FK R rest K1 (by
      intro c' hc' d dw hld hpd
      obtain ⟨w1, hl0, hp1⟩ := S1.parent hld hpd
      obtain ⟨h0, hni⟩ := hfree c' (by simp [hc']) d w1 hl0 hp1
      exact ⟨h0, fun hm => hni (by simp [hm])⟩)
    exact ⟨st2, h2, K2, S1.trans S2⟩

/-- The snapshot of the children that `_handle_key` takes: whatever the routing has done to the tree meanwhile, it can
    be given back. -/
theorem snapshot_FK {cfg : Cfg} (R : Repaired cfg) {g : Ghost} {t : Nat → Nat} {st : St} {win : Nat} {w : Win} (K : FK (g.plus t) st)
    (hgw : 0 < (g.plus t).win win) (hwl : LiveW st.tree win w) (hbf : ChildFree (g.plus t) st win) :
    ∃ st1, w.children.foldlM refW st = .ok st1 ∧ FK (g.plus fun j => t j + w.children.count j) st1 ∧ Shr st st1 ∧
      (∀ c ∈ w.children, ChildFree (g.plus fun j => t j + w.children.count j) st1 c) ∧
      ∀ st2, FK (g.plus fun j => t j + w.children.count j) st2 → Shr st1 st2 →
        ∃ st3, w.children.foldlM (unrefW cfg) st2 = .ok st3 ∧ FK (g.plus t) st3 ∧ Shr st2 st3 := by
  have hch : ∀ c ∈ w.children, ∃ cw, LiveW st.tree c cw ∧ cw.parent = some win := K.inv.tinv.child_ok win w hwl
  obtain ⟨st1, h1, K1, S1⟩ := foldl_refW_FK w.children K fun c hc =>
    let ⟨cw, hcl, hcp⟩ := hch c hc; ⟨cw, hcl, fun p hp => by rw [hcp] at hp; cases hp; exact hgw⟩
  -- a child of a member, in whatever later state, was one when the snapshot was taken: no frame held it, and it is no member
  have below : ∀ {s : St}, Shr st s → ∀ c ∈ w.children, ∀ (d : Nat) (dw : Win), LiveW s.tree d dw → dw.parent = some c →
      (g.plus t).win d = 0 ∧ d ∉ w.children := by
    intro s S c hc d dw hld hpd
    obtain ⟨cw, hcl, hcp⟩ := hch c hc
    obtain ⟨d0, hd0, hp0⟩ := S.parent hld hpd
    refine ⟨K.free_below (hbf c cw hcl hcp) hd0 hp0, fun hdm => ?_⟩
    obtain ⟨dw', hdl', hdp⟩ := hch d hdm
    cases WinTree.Live.unique hd0 hdl'
    have e : c = win := Option.some.inj (hp0.symm.trans hdp)
    have := (K.inv.tinv.parent_ok c cw hcl win hcp).1
    rw [e] at this
    exact Nat.lt_irrefl _ this
  refine ⟨st1, h1, K1, S1, fun c hc d dw hld hpd => ?_, fun st2 K2 S2 => foldl_unrefW_FK R w.children K2 (below (S1.trans S2))⟩
  obtain ⟨h0, hni⟩ := below S1 c hc d dw hld hpd
  simp only [Ghost.plus_win] at h0 ⊢
  rw [List.count_eq_zero.2 hni]; omega

theorem FK.refFrame {g : Ghost} {t : Nat → Nat} {st : St} (K : FK (g.plus t) st) {win : Nat} {ww : Win} (hw : LiveW st.tree win ww)
    (hpar : ∀ p, ww.parent = some p → 0 < (g.plus t).win p) (hbf : ChildFree (g.plus t) st win) :
    ∃ st', refW st win = .ok st' ∧ FK (g.plus (bump t win)) st' ∧ Shr st st' ∧ ChildFree (g.plus (bump t win)) st' win := by
  obtain ⟨st1, h1, K1, S1⟩ := K.refI hw hpar
  refine ⟨st1, h1, K1, S1, fun c cw hl hp => ?_⟩
  have hne : c ≠ win := by have := (K1.inv.tinv.parent_ok c cw hl win hp).1; omega
  have := (hbf.later S1) c cw hl hp
  simpa [bump, hne] using this

theorem FK.unrefFrame {cfg : Cfg} (R : Repaired cfg) {win : Nat} {st : St} {g : Ghost} {t : Nat → Nat} (K : FK (g.plus (bump t win)) st)
    (hbf : ChildFree (g.plus (bump t win)) st win) : ∃ st', unrefW cfg st win = .ok st' ∧ FK (g.plus t) st' ∧ Shr st st' := by
  have := K.unrefI R (win := win) (bump_self t win) fun _ => hbf
  rwa [unbump_bump] at this

/-- The pair `I ∧ R` the fields of `anyFrames` return, from the step's `FK` (`A`) and `Shr`. -/
theorem Shr.acct {st st' : St} (S : Shr st st') {M A : Prop} (hn : M → NoClaim st) (K : A) :
    (A ∧ (M → NoClaim st')) ∧ Shr st st' := ⟨⟨K, fun m => S.nc (hn m)⟩, S⟩

/-- Handlers that may do anything: the frames' references are booked with the library's (`g.plus t`) and obey the stack
    discipline; `_handle_mouse` is covered when no handler claims (`M`). -/
def anyFrames {cfg : Cfg} (R : Repaired cfg) (g : Ghost) (M : Prop) : Frames cfg where
  I t st := FK (g.plus t) st ∧ (M → NoClaim st)
  R := Shr
  B t st w := ChildFree (g.plus t) st w
  E t st w := (∀ ww p, LiveW st.tree w ww → ww.parent = some p → 0 < (g.plus t).win p) ∧ ChildFree (g.plus t) st w
  C r := r = none
  Ok _ := True
  M := M
  refl := Shr.refl
  trans := Shr.trans
  size h := h.size
  tinv h := h.1.inv.tinv
  held h hi := h.1.held _ (Nat.lt_of_lt_of_le hi (Nat.le_add_left _ _))
  later h S := h.later S
  child h hb hc hp := hb.child h.1 hc hp
  enter {_ _ _ _ _} hg hb hc hp := ⟨fun ww p hl hpp => by
    cases WinTree.Live.unique hl hc; rw [hp] at hpp; cases hpp
    exact Nat.lt_of_lt_of_le hg (Nat.le_add_left _ _), hb⟩
  ref {_ _ _ ww} h hw he := Post.mono (h.1.refFrame hw (he.1 ww · hw) he.2) fun _ ⟨K1, S1, hb1⟩ => ⟨(S1.acct h.2 K1).1, S1, hb1⟩
  unref {_ _ _ _} h hr hb := by
    subst hr
    exact Post.mono (FK.unrefFrame R h.1 hb) fun _ ⟨K1, S1⟩ => S1.acct h.2 K1
  claim _ _ hc := nomatch hc
  snap {_ _ _ _} h hg hwl hb :=
    Post.mono (snapshot_FK (cfg := cfg) R h.1 (Nat.lt_of_lt_of_le hg (Nat.le_add_left _ _)) hwl hb) fun _ ⟨K1, S1, hbc, back⟩ =>
      ⟨(S1.acct h.2 K1).1, S1, hbc, fun s2 r hr K2 S2 => by
        subst hr
        exact Post.mono (back s2 K2.1 S2) fun _ ⟨K3, S3⟩ => S3.acct K2.2 K3⟩
  cnone := rfl
  ok _ _ _ := trivial
  act a self K _ := (simpleOp_FK R K.1 a self).imp_right fun ⟨s, e, K1, S1⟩ => ⟨s, e, S1.acct K.2 K1⟩
  log {_ st} l K := (Shr.of_tree (st := st) (st' := { st with log := l }) rfl rfl (.of_wx rfl)).acct K.2 (K.1.set_log l)
  setx {_ st} i x K hp ha hb := (Shr.of_tree (st := st) (st' := setX st i x) rfl rfl (.upd_sub i x hb)).acct K.2 (K.1.setX_same i x hp ha)
  answer Ks hc hce hcr m := by rw [Ks.2 m _ _ hc hce] at hcr; cases hcr

theorem handleKey_FK {cfg : Cfg} (R : Repaired cfg) (fuel : Nat) {st : St} {g : Ghost} {win : Nat} {ww : Win}
    (K : FK g st) (hw : LiveW st.tree win ww) (hpar : ∀ p, ww.parent = some p → 0 < g.win p) (hbf : ChildFree g st win)
    (hsz : st.tree.wins.size ≤ win + fuel) : ∃ st' b, handleKey cfg fuel st win = .ok (st', b) ∧ FK g st' ∧ Shr st st' := by
  have e : g.plus (fun _ => 0) = g := g.plus_zero
  refine Post.pair (Q := fun r => FK g r.1 ∧ Shr st r.1) <| (handleKey_walk (anyFrames R g False) fuel (t := fun _ => 0) (st := st)
    ⟨e.symm ▸ K, False.elim⟩ hw ⟨fun ww' p hl hp => by cases WinTree.Live.unique hl hw; rw [e]; exact hpar p hp, e.symm ▸ hbf⟩ hsz).mono
    fun _ ⟨⟨K', _⟩, S'⟩ => ⟨e ▸ K', S'⟩

/-- `_handle_mouse` with handlers that may do anything but claim: it returns no window, so the only references in flight are
    the frames' own and their snapshots' - the stack discipline. -/
theorem handleMouse_FK {cfg : Cfg} (R : Repaired cfg) (fuel : Nat) {st : St} {g : Ghost} {win : Nat} {ww : Win} (info : Mouse)
    (K : FK g st) (H : NoClaim st) (hw : LiveW st.tree win ww) (hpar : ∀ p, ww.parent = some p → 0 < g.win p) (hbf : ChildFree g st win)
    (hsz : st.tree.wins.size ≤ win + fuel) : ∃ st', handleMouse cfg fuel st win info = .ok (st', none) ∧ FK g st' ∧ Shr st st' := by
  have e : g.plus (fun _ => 0) = g := g.plus_zero
  obtain ⟨⟨s, r⟩, h, G⟩ := handleMouse_walk (anyFrames R g True) trivial fuel info (t := fun _ => 0) (st := st)
    ⟨e.symm ▸ K, fun _ => H⟩ hw ⟨fun ww' p hl hp => by cases WinTree.Live.unique hl hw; rw [e]; exact hpar p hp, e.symm ▸ hbf⟩ hsz
  cases (G.claim : r = none)
  exact ⟨s, h, e ▸ G.inv.1, G.rel⟩

/-- Between two operations no frame holds anything, the library at most the root window. -/
theorem FK.of_inv {g : Ghost} {st : St} (inv : SInv g st) (hcov : ∀ i, g.covers i) : FK g st := by
  refine ⟨inv, fun i w hl => (inv.wref i w hl).2 (hcov i), ?_, ?_⟩
  · intro i hg
    rcases hcov i with h0 | h0
    · subst h0; exact inv.glive hg
    · omega
  · intro c cw p hl hp hg
    rcases hcov c with h0 | h0
    · subst h0
      obtain ⟨r, hr, _, hrp⟩ := inv.tinv.root_ex
      rw [hl.1] at hr; cases hr
      rw [hrp] at hp; cases hp
    · omega

theorem childFree_root {g : Ghost} {st : St} (inv : TInv st.tree) (hcov : ∀ i, g.covers i) : ChildFree g st 0 := by
  intro c cw hl hp
  rcases hcov c with h0 | h0
  · have := (inv.parent_ok c cw hl 0 hp).1; omega
  · exact h0

theorem handleMouse_root {cfg : Cfg} (R : Repaired cfg) {g : Ghost} {st : St} (inv : SInv g st) (hcov : ∀ i, g.covers i) (info : Mouse)
    (H : NoClaim st) {r : Win} (hr : LiveW st.tree 0 r) :
    ∃ st', handleMouse cfg (routeFuel st) st 0 info = .ok (st', none) ∧ FK g st' ∧ Shr st st' :=
  handleMouse_FK R (routeFuel st) info (FK.of_inv inv hcov) H hr (fun p hp => by rw [inv.tinv.root_parent hr] at hp; cases hp)
    (childFree_root inv.tinv hcov) (by simp only [routeFuel]; omega)

/-- `tickit_term_emit_key` with window handlers that may do anything, between two operations: the library holds no
    window but the root window then (`hcov`), which is what `FK.of_inv` and `childFree_root` start from. -/
theorem emitKeyNew_any {cfg : Cfg} (R : Repaired cfg) {g : Ghost} {st : St} (inv : SInv g st) (hcov : ∀ i, g.covers i)
    (hT : heldT st = true) : ∃ st', emitKeyNew cfg st = .ok st' ∧ SInv g st' := by
  rw [emitKeyNew_eq]
  refine emitVia_ok inv.tinv hT inv fun r hrl => ?_
  have K := FK.of_inv inv hcov
  obtain ⟨st1, b1, h1, K1, S1⟩ := handleKey_FK R (routeFuel { st with termIter := true })
    (⟨inv.set_termIter true, K.ex, K.held, K.disc⟩ : FK g { st with termIter := true }) (ww := r) hrl
    (fun p hp => by rw [inv.tinv.root_parent hrl] at hp; cases hp)
    (childFree_root inv.tinv hcov) (by simp only [routeFuel]; omega)
  refine ⟨st1, b1, h1, ?_, K1.inv.set_termIter false⟩
  -- the application still holds the terminal: the library has not freed it
  cases hf : st1.term.freed with
  | false => rfl
  | true =>
    have h2 : st.term.appRefs = 0 := by rw [← S1.tapp]; exact (K1.inv.term_dead hf).2.1
    have := (heldT_spec hT).2
    omega

theorem step_key_any {cfg : Cfg} (R : Repaired cfg) {g : Ghost} {st : St} (inv : SInv g st) (hcov : ∀ i, g.covers i) :
    ∃ st' r, step cfg st .key = .ok (st', r) ∧ SInv g st' :=
  guard_keeps inv fun hT => okR_keeps <| by
    rw [emitKey, if_pos R.snapshotRouting]; exact emitKeyNew_any R inv hcov hT

/-- Operations that run no window handler, pen operations with their change handlers, key events delivered to window
    handlers with any actions, `end`: after every such history the invariant holds again. -/
theorem runOps_keys_ok {cfg : Cfg} (R : Repaired cfg) : ∀ (ops : List Op) (st : St), SInv .none st →
    (∀ op ∈ ops, op.plain = true ∨ op.penEvent = true ∨ op = .key ∨ op = .«end») →
    ∃ st', runOps cfg st ops = .ok st' ∧ SInv .none st' :=
  runOps_inv (I := SInv .none) (P := fun op => op.plain = true ∨ op.penEvent = true ∨ op = .key ∨ op = .«end») fun st op inv h => by
    rcases h with hp | hpe | rfl | rfl
    · exact step_plain_ok R inv op hp (fun _ _ _ _ => ⟨rfl, rfl⟩)
    · obtain ⟨st1, r, hs, inv1, _⟩ := step_pen_ok R inv op hpe
      exact ⟨st1, r, hs, inv1⟩
    · exact step_key_any R inv Ghost.none_covers
    · obtain ⟨st1, hd, inv1, _⟩ := dropAll_ok R inv
      exact ⟨st1, _, step_end hd, inv1⟩

/-- With handlers that free nothing bound on key and mouse events: operations that run no window handler, pen operations, key
    and mouse events (`end` is added by `runOps_end_released`). -/
theorem runOps_keeping_ok {cfg : Cfg} (R : Repaired cfg) : ∀ (ops : List Op) (st : St), SInv .none st → KeepingHandlers st →
    (∀ op ∈ ops, (op.plain = true ∨ op.penEvent = true ∨ op = .key ∨ ∃ m, op = .mouse m) ∧
      (∀ w ev ret acts, op = .bind w ev ret acts → ∀ a ∈ acts, a.keeps = true)) →
    ∃ st', runOps cfg st ops = .ok st' ∧ SInv .none st' ∧ KeepingHandlers st' :=
  fun ops st inv H h =>
  runOps_inv (I := fun st => SInv .none st ∧ KeepingHandlers st)
    (P := fun op => (op.plain = true ∨ op.penEvent = true ∨ op = .key ∨ ∃ m, op = .mouse m) ∧
      (∀ w ev ret acts, op = .bind w ev ret acts → ∀ a ∈ acts, a.keeps = true))
    (fun st op ⟨inv, H⟩ ⟨hkind, hbind⟩ => by
      rcases hkind with hp | hpe | rfl | ⟨m, rfl⟩
      · exact step_plain_keeps R inv H op hp (fun _ _ _ _ => ⟨rfl, rfl⟩) hbind
      · obtain ⟨st1, r, hs, inv1, hwx⟩ := step_pen_ok R inv op hpe
        exact ⟨st1, r, hs, inv1, H.of_wx hwx⟩
      · exact step_key_ok R inv H
      · exact step_mouse_ok R inv H m) ops st ⟨inv, H⟩ h

theorem runOps_end_released {cfg : Cfg} (R : Repaired cfg) {op : Op} {ops : List Op} {s s0 st1 : St} {r : String}
    (h0 : step cfg s op = .ok (s0, r)) (hr : runOps cfg s0 ops = .ok st1) (inv : SInv .none st1) :
    ∃ st, runOps cfg s (op :: ops ++ [.«end»]) = .ok st ∧ anythingLeft st = false := by
  obtain ⟨st2, hd, inv2, H⟩ := dropAll_ok R inv
  exact ⟨st2, runOps_cons_end h0 hr hd, nothing_left inv2 H rfl fun _ => rfl⟩

end Tickit.Life
