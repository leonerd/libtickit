import Tickit.Proof.EvLoopSig
/-
  The log only grows: every step of the model prepends events to `St.log` (one operation of the harness
  resets it first).  `LogExt st st'`: `st'.log = new ++ st.log`.  With it, "the walk visited watch `a`"
  becomes "the callback of `a` has its entry in the log" (C18: `sigwalk_logged`, `sigsnap_logged`).
-/
namespace Tickit.EvLoop

def LogExt (st st' : St) : Prop := ∃ new, st'.log = new ++ st.log

theorem LogExt.refl (st : St) : LogExt st st := ⟨[], rfl⟩
theorem LogExt.trans {a b c : St} (h1 : LogExt a b) (h2 : LogExt b c) : LogExt a c := by
  obtain ⟨n1, e1⟩ := h1
  obtain ⟨n2, e2⟩ := h2
  exact ⟨n2 ++ n1, by rw [e2, e1, List.append_assoc]⟩
theorem LogExt.of_eq {st st' : St} (h : st'.log = st.log) : LogExt st st' := ⟨[], by rw [h]; rfl⟩
theorem LogExt.mem {st st' : St} (h : LogExt st st') {e : Ev} (he : e ∈ st.log) : e ∈ st'.log := by
  obtain ⟨n, hn⟩ := h
  rw [hn]; exact List.mem_append_right _ he

theorem lg_low : Low LogExt where
  refl := LogExt.refl
  trans := LogExt.trans
  same := fun h => LogExt.of_eq h.log
  emit := fun _ e => ⟨[e], rfl⟩
  alloc := fun _ _ => LogExt.of_eq rfl
  setW := fun _ _ _ => LogExt.of_eq rfl
  setList := fun _ t _ => by cases t <;> exact LogExt.of_eq rfl
  evloopIo := fun _ _ _ _ => by unfold evloopIo; split <;> exact LogExt.of_eq rfl
  evloopCancelIo := fun _ _ => LogExt.of_eq rfl
  sameSig := fun h => LogExt.of_eq h.log
  sigRecord := fun _ _ => by unfold sigRecord; split <;> exact LogExt.of_eq rfl
  harness := fun _ _ _ => LogExt.of_eq rfl

theorem lg_closed : Closed LogExt := lg_low.closed
theorem lg_timers : TimerLeaves LogExt := lg_low.timers
theorem lg_iter : IterLeaves LogExt :=
  .of_timers lg_closed lg_timers ⟨fun _ => LogExt.of_eq rfl, fun _ => by unfold deliverPending; split <;> exact LogExt.of_eq rfl⟩
    fun _ => LogExt.of_eq rfl

theorem mem_emit (st : St) (e : Ev) : e ∈ (st.emit e).log := List.mem_cons_self
theorem lg_with_signals (st : St) (l : List Nat) : LogExt st { st with signals := l } := LogExt.of_eq rfl

theorem lg_tick (fuel : Nat) (st : St) (nohang : Bool) : LogExt st (tick fuel st nohang) :=
  lg_closed.tick lg_iter fuel st nohang

theorem lg_run (fuel : Nat) (st : St) : LogExt st (run fuel st) := lg_closed.run lg_iter fuel st

theorem lg_destroyList (t : WType) (l : List Nat) : ∀ st : St, LogExt st (destroyList st t l) := lg_low.destroyList t l

theorem mem_fireUser (st : St) (k : Int) (flags : Nat) (info : Info) : Ev.cb k flags info ∈ (fireUser st k flags info).log :=
  fireUser_cases (P := fun s => Ev.cb k flags info ∈ s.log) st k flags info (fun _ => mem_emit _ _)
    fun acts => (lg_closed.runActs acts _).mem (mem_emit st _)

theorem mem_sigCb (fuel : Nat) (st : St) (a : Nat) (s : Int) (hs : (st.getW a).signum = s) (hk : (st.getW a).slot ≥ 0) :
    Ev.cb (st.getW a).slot EV_FIRE .none ∈ (sigCb fuel st a s).log := by
  unfold sigCb
  rw [if_pos hs, if_pos hk]
  exact mem_fireUser _ _ _ _

theorem sigwalk_visited_logged (fuel : Nat) : ∀ (st : St) (s : Int) (this : Option Nat), SInv st →
    ∀ b ∈ (sigwatchLoopT fuel st s this).2, b < st.heap.length → (st.getW b).signum = s → (st.getW b).slot ≥ 0 →
      Ev.cb (st.getW b).slot EV_FIRE .none ∈ (sigwatchLoopT fuel st s this).1.log := by
  induction fuel with
  | zero => intro st s this _ b hb; simp [sigwatchLoopT] at hb
  | succ n ih =>
    intro st s this i b hb hblt hsig hslot
    rcases sigwatchLoopT_succ n st s this with ⟨h, -⟩ | ⟨a, -, ⟨s', h, -, hs'⟩ | ⟨-, h⟩⟩
    · rw [h] at hb; cases hb
    · -- the walk stopped at `a`: its result is the state after the callback, possibly marked as failed
      rw [h] at hb ⊢
      simp only [List.mem_singleton] at hb
      subst hb
      rcases hs' with rfl | rfl
      · exact mem_sigCb n st b s hsig hslot
      · exact (lg_low.fail _ _).mem (mem_sigCb n st b s hsig hslot)
    · rw [h] at hb ⊢
      have f1 := step_closed.sigCb n st a s i
      rcases List.mem_cons.mp hb with rfl | hb
      · exact (lg_closed.sigwatchLoopT n _ s _).mem (mem_sigCb n st b s hsig hslot)
      · have hsame := f1.ext.same b hblt
        rw [← hsame.2]
        exact ih _ s _ f1.inv b hb (Nat.lt_of_lt_of_le hblt f1.ext.len) (by rw [hsame.1]; exact hsig) (by rw [hsame.2]; exact hslot)

theorem sigwalk_logged (fuel : Nat) : ∀ (st : St) (s : Int) (this : Option Nat), SInv st →
    (sigwatchLoopT fuel st s this).1.status = .ok →
    ∀ b, b ∈ (sigwatchLoopT fuel st s this).1.signals →
      (∃ a, this = some a ∧ a ∈ st.signals ∧ (b = a ∨ b ∈ aft a st.signals)) →
      (st.getW b).signum = s → (st.getW b).slot ≥ 0 →
      Ev.cb (st.getW b).slot EV_FIRE .none ∈ (sigwatchLoopT fuel st s this).1.log := by
  intro st s this i hok b hbfin hb hsig hslot
  have hblt : b < st.heap.length := by
    obtain ⟨a, -, hain, hba⟩ := hb
    rcases hba with rfl | hba
    · exact i.alloc _ hain
    · exact i.alloc _ (mem_of_mem_aft hba)
  exact sigwalk_visited_logged fuel st s this i b (sigwalk_complete fuel st s this i hok b hbfin hb) hblt hsig hslot

theorem sigsnapG_visited_logged (cb : St → Nat → St) (s : Int) (hcb : ∀ st a, SigStep st (cb st a)) (hlg : ∀ st a, LogExt st (cb st a))
    (hmem : ∀ st a, (st.getW a).signum = s → (st.getW a).slot ≥ 0 → Ev.cb (st.getW a).slot EV_FIRE .none ∈ (cb st a).log)
    (l : List Nat) : ∀ st : St, SInv st →
    ∀ b ∈ (sigSnapLoopG cb st l).2, b < st.heap.length → (st.getW b).signum = s → (st.getW b).slot ≥ 0 →
      Ev.cb (st.getW b).slot EV_FIRE .none ∈ (sigSnapLoopG cb st l).1.log := by
  induction l with
  | nil => intro st _ b hb; simp [sigSnapLoopG] at hb
  | cons a rest ih =>
    intro st i
    rcases sigSnapLoopG_cons cb st a rest with ⟨h, -⟩ | ⟨-, h⟩ | h <;> rw [h]
    · intro b hb; cases hb
    · exact ih st i
    · intro b hb hblt hsig hslot
      have f1 := hcb st a i
      rcases List.mem_cons.mp hb with rfl | hb
      · exact (lg_closed.sigSnapLoopG cb hlg rest (cb st b)).mem (hmem st b hsig hslot)
      · have hsame := f1.ext.same b hblt
        rw [← hsame.2]
        exact ih _ f1.inv b hb (Nat.lt_of_lt_of_le hblt f1.ext.len) (by rw [hsame.1]; exact hsig) (by rw [hsame.2]; exact hslot)

theorem sigsnapG_logged (cb : St → Nat → St) (s : Int) (hcb : ∀ st a, SigStep st (cb st a)) (hlg : ∀ st a, LogExt st (cb st a))
    (hmem : ∀ st a, (st.getW a).signum = s → (st.getW a).slot ≥ 0 → Ev.cb (st.getW a).slot EV_FIRE .none ∈ (cb st a).log)
    (l : List Nat) : ∀ st : St, SInv st →
    (sigSnapLoopG cb st l).1.status = .ok →
    ∀ b ∈ l, b < st.heap.length → b ∈ (sigSnapLoopG cb st l).1.signals →
      (st.getW b).signum = s → (st.getW b).slot ≥ 0 →
      Ev.cb (st.getW b).slot EV_FIRE .none ∈ (sigSnapLoopG cb st l).1.log :=
  fun st i hok b hb hblt hbfin hsig hslot =>
    sigsnapG_visited_logged cb s hcb hlg hmem l st i b (sigsnapG_complete cb hcb l st i hok b hb hblt hbfin) hblt hsig hslot

theorem sigsnap_logged (fuel : Nat) (s : Int) (l : List Nat) : ∀ st : St, SInv st →
    (sigSnapLoopT fuel st s l).1.status = .ok →
    ∀ b ∈ l, b < st.heap.length → b ∈ (sigSnapLoopT fuel st s l).1.signals →
      (st.getW b).signum = s → (st.getW b).slot ≥ 0 →
      Ev.cb (st.getW b).slot EV_FIRE .none ∈ (sigSnapLoopT fuel st s l).1.log := by
  intro st
  rw [sigSnapLoopT_eq_G]
  exact sigsnapG_logged _ s (fun st a => step_closed.sigCb fuel st a s) (fun st a => lg_closed.sigCb fuel st a s)
    (fun st a hs hk => mem_sigCb fuel st a s hs hk) l st

/-- Signal `s` has reached, in `st'`, every harness watch of it that was linked in `st` and still is in `st'`: the
    watch's FIRE entry is in the log.  Either variant of `tickit_evloop_invoke_sigwatches` achieves it between its start
    and its return (`sigDispatch_logged`, Proof/EvLoopPend.lean); steps before and after do not undo it. -/
def Reached (s : Int) (st st' : St) : Prop :=
  ∀ b ∈ st.signals, b ∈ st'.signals → (st.getW b).signum = s → (st.getW b).slot ≥ 0 →
    Ev.cb (st.getW b).slot EV_FIRE .none ∈ st'.log

theorem Reached.followed {s : Int} {st s1 s2 : St} (h : Reached s st s1) (sv : SInv st) (f1 : SigFacts st s1)
    (f2 : SigStep s1 s2) (l2 : LogExt s1 s2) : Reached s st s2 :=
  fun b hb hfin hsig hslot => l2.mem (h b hb (f1.between (f2 f1.inv) (sv.alloc b hb) hfin) hsig hslot)

theorem Reached.preceded {s : Int} {st s1 s2 : St} (h : Reached s s1 s2) (sv : SInv st) (f1 : SigFacts st s1)
    (f2 : SigStep s1 s2) : Reached s st s2 := by
  intro b hb hfin hsig hslot
  have hsame := f1.ext.same b (sv.alloc b hb)
  rw [← hsame.2]
  exact h b (f1.between (f2 f1.inv) (sv.alloc b hb) hfin) hfin (hsame.1.trans hsig) (by rw [hsame.2]; exact hslot)

end Tickit.EvLoop
