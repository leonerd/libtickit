import Tickit.Model.Utf8
/-
  unicode.h: what `bisearch` decides on a sorted, non-overlapping table of intervals; the values `tickit_utf8_wcwidth`
  takes (`wcwidth_range`) and where it is −1 (`ctl_iff`: on the control characters, of which only DEL is left to it).
-/
namespace Tickit
namespace Width

theorem chainOk_spec : ∀ (l : List (Nat × Nat)), chainOk l = true →
    (∀ e ∈ l, e.1 ≤ e.2) ∧ l.Pairwise (fun a b => a.2 < b.1)
  | [], _ => ⟨nofun, .nil⟩
  | [e], h => ⟨by simpa [chainOk] using h, List.pairwise_singleton _ _⟩
  | e :: f :: rest, h => by
    simp only [chainOk, Bool.and_eq_true, decide_eq_true_eq] at h
    obtain ⟨wf, pw⟩ := chainOk_spec (f :: rest) h.2
    refine ⟨List.forall_mem_cons.2 ⟨h.1.1, wf⟩, List.pairwise_cons.2 ⟨fun x hx => ?_, pw⟩⟩
    rcases List.mem_cons.1 hx with rfl | hx
    · exact h.1.2
    · have := (List.pairwise_cons.1 pw).1 x hx
      have := wf f (List.mem_cons_self ..)
      omega

/-- A table is sorted and non-overlapping. -/
def Sorted (t : Table) : Prop := chainOk t.toList = true

theorem at_eq (t : Table) (i : Int) (h0 : 0 ≤ i) (h1 : i < t.size) :
    ∃ h : i.toNat < t.size, t.at i = t[i.toNat] := by
  have h : i.toNat < t.size := by omega
  exact ⟨h, by simp [Table.at, Array.getD, h]⟩

theorem sorted_wf {t : Table} (hs : Sorted t) (i : Int) (h0 : 0 ≤ i) (h1 : i < t.size) :
    (t.at i).1 ≤ (t.at i).2 := by
  obtain ⟨h, he⟩ := at_eq t i h0 h1
  rw [he]
  exact (chainOk_spec _ hs).1 _ (by simp [Array.mem_toList_iff])

theorem sorted_lt {t : Table} (hs : Sorted t) (i j : Int) (h0 : 0 ≤ i) (hij : i < j) (h1 : j < t.size) :
    (t.at i).2 < (t.at j).1 := by
  obtain ⟨hi, hei⟩ := at_eq t i h0 (by omega)
  obtain ⟨hj, hej⟩ := at_eq t j (by omega) h1
  rw [hei, hej]
  have hp := (chainOk_spec _ hs).2
  rw [List.pairwise_iff_getElem] at hp
  have := hp i.toNat j.toNat (by simpa using hi) (by simpa using hj) (by omega)
  simpa using this

/-- `ucs` lies in interval `k` of the table. -/
def Hit (t : Table) (ucs : Nat) (k : Int) : Prop := (t.at k).1 ≤ ucs ∧ ucs ≤ (t.at k).2

theorem Hit.le_snd {t : Table} (hs : Sorted t) {c : Nat} {k m : Int} (h : Hit t c k) (h0 : 0 ≤ k) (hkm : k ≤ m)
    (hm : m < t.size) : c ≤ (t.at m).2 := by
  rcases Int.lt_or_eq_of_le hkm with hlt | rfl
  · have := sorted_lt hs k m h0 hlt hm
    have := sorted_wf hs m (by omega) hm
    have := h.2
    omega
  · exact h.2

theorem Hit.fst_le {t : Table} (hs : Sorted t) {c : Nat} {k m : Int} (h : Hit t c k) (h0 : 0 ≤ m) (hmk : m ≤ k)
    (hk : k < t.size) : (t.at m).1 ≤ c := by
  rcases Int.lt_or_eq_of_le hmk with hlt | rfl
  · have := sorted_lt hs m k h0 hlt hk
    have := sorted_wf hs m h0 (by omega)
    have := h.1
    omega
  · exact h.1

theorem bisearchLoop_spec {t : Table} (hs : Sorted t) (ucs : Nat) :
    ∀ (fuel : Nat) (min max : Int), 0 ≤ min → max < t.size → min ≤ max + 1 → max + 2 - min ≤ fuel →
      ∃ b, bisearchLoop t ucs fuel min max = some b ∧
        (b = true ↔ ∃ k, min ≤ k ∧ k ≤ max ∧ Hit t ucs k) := by
  intro fuel
  induction fuel with
  | zero => intro min max h0 h1 hr hf; omega
  | succ n ih =>
    intro min max h0 h1 hr hf
    unfold bisearchLoop
    by_cases hmm : max ≥ min
    · rw [if_pos hmm]
      have hmid0 : min ≤ (min + max) / 2 := by omega
      have hmid1 : (min + max) / 2 ≤ max := by omega
      generalize (min + max) / 2 = mid at *
      by_cases hgt : ucs > (t.at mid).2
      · -- a hit at `k ≤ mid` would put `ucs` at or below the end of interval `mid`
        obtain ⟨b, hb, hiff⟩ := ih (mid + 1) max (by omega) h1 (by omega) (by omega)
        refine ⟨b, by simpa only [if_pos hgt] using hb, hiff.trans ⟨?_, ?_⟩⟩
        · rintro ⟨k, h2, h3, h4⟩; exact ⟨k, by omega, h3, h4⟩
        · rintro ⟨k, h2, h3, h4⟩
          refine ⟨k, ?_, h3, h4⟩
          rcases Int.lt_or_le mid k with h | h
          · omega
          · have := h4.le_snd hs (by omega) h (by omega); omega
      · by_cases hlt : ucs < (t.at mid).1
        · obtain ⟨b, hb, hiff⟩ := ih min (mid - 1) h0 (by omega) (by omega) (by omega)
          refine ⟨b, by simpa only [if_neg hgt, if_pos hlt] using hb, hiff.trans ⟨?_, ?_⟩⟩
          · rintro ⟨k, h2, h3, h4⟩; exact ⟨k, h2, by omega, h4⟩
          · rintro ⟨k, h2, h3, h4⟩
            refine ⟨k, h2, ?_, h4⟩
            rcases Int.lt_or_le k mid with h | h
            · omega
            · have := h4.fst_le hs (by omega) h (by omega); omega
        · exact ⟨true, by simp only [if_neg hgt, if_neg hlt],
            iff_of_true rfl ⟨mid, hmid0, hmid1, by unfold Hit; omega⟩⟩
    · exact ⟨false, by rw [if_neg hmm], iff_of_false (by simp) (fun ⟨k, h2, h3, _⟩ => by omega)⟩

theorem inTable_iff_hit (t : Table) (c : Nat) :
    InTable t c ↔ ∃ k : Int, 0 ≤ k ∧ k ≤ (t.size : Int) - 1 ∧ Hit t c k := by
  constructor
  · rintro ⟨e, he, h1, h2⟩
    obtain ⟨i, hi, rfl⟩ := List.getElem_of_mem he
    have hi' : i < t.size := by simpa using hi
    refine ⟨(i : Int), by omega, by omega, ?_⟩
    obtain ⟨_, hat⟩ := at_eq t (i : Int) (by omega) (by omega)
    unfold Hit; rw [hat]; simpa using ⟨h1, h2⟩
  · rintro ⟨k, h0, h1, hh⟩
    obtain ⟨hk, hat⟩ := at_eq t k h0 (by omega)
    unfold Hit at hh; rw [hat] at hh
    exact ⟨t[k.toNat], by simp [Array.mem_toList_iff], hh.1, hh.2⟩

theorem bisearch_iff_inTable {t : Table} (hs : Sorted t) (c : Nat) :
    bisearch t c = true ↔ InTable t c := by
  rw [inTable_iff_hit]
  unfold bisearch
  by_cases h0 : t.size = 0
  · rw [if_pos h0]
    exact iff_of_false (by simp) (fun ⟨k, h1, h2, _⟩ => by omega)
  · rw [if_neg h0]
    by_cases hout : c < (t.at 0).1 ∨ c > (t.at ((t.size : Int) - 1)).2
    · -- the early exit: a hit anywhere lies between the first start and the last end
      rw [if_pos hout]
      refine iff_of_false (by simp) (fun ⟨k, h1, h2, h3⟩ => ?_)
      have := h3.fst_le hs (Int.le_refl 0) h1 (by omega)
      have := h3.le_snd hs h1 h2 (by omega)
      omega
    · rw [if_neg hout]
      obtain ⟨b, hb, hiff⟩ := bisearchLoop_spec hs c (t.size + 1) 0 ((t.size : Int) - 1) (by omega) (by omega) (by omega) (by omega)
      rw [hb]
      simpa using hiff

/-- Fuel `size + 1` is always enough: the `none` (out of fuel) arm of `bisearch` is dead. -/
theorem bisearchLoop_fuel {t : Table} (hs : Sorted t) (c : Nat) :
    bisearchLoop t c (t.size + 1) 0 ((t.size : Int) - 1) ≠ none := by
  obtain ⟨b, hb, _⟩ := bisearchLoop_spec hs c (t.size + 1) 0 ((t.size : Int) - 1) (by omega) (by omega) (by omega) (by omega)
  rw [hb]; simp

theorem inTableLin_iff (t : Table) (c : Nat) : inTableLin t c = true ↔ InTable t c := by
  simp only [inTableLin, InTable, List.any_eq_true, Bool.and_eq_true, decide_eq_true_eq]

theorem bisearch_eq_lin {t : Table} (hs : Sorted t) (c : Nat) : bisearch t c = inTableLin t c := by
  rw [Bool.eq_iff_iff, bisearch_iff_inTable hs, inTableLin_iff]

end Width
end Tickit

namespace Tickit
namespace Utf8

theorem wcwidth_range (cp : Nat) :
    Width.wcwidth cp = -1 ∨ Width.wcwidth cp = 0 ∨ Width.wcwidth cp = 1 ∨ Width.wcwidth cp = 2 := by
  have arm : ∀ {c : Prop} [Decidable c] {a b : Int}, (a = -1 ∨ a = 0 ∨ a = 1 ∨ a = 2) → (b = -1 ∨ b = 0 ∨ b = 1 ∨ b = 2) →
      ((if c then a else b) = -1 ∨ (if c then a else b) = 0 ∨ (if c then a else b) = 1 ∨ (if c then a else b) = 2) :=
    fun ha hb => by split <;> assumption
  exact arm (by decide) (arm (by decide) (arm (by decide) (arm (by decide) (by split <;> decide))))

theorem wcwidth_ne_neg_one (cp : Nat) (hz : cp ≠ 0) (hc : ¬ (cp < 32 ∨ (0x7f ≤ cp ∧ cp < 0xa0))) :
    Width.wcwidth cp ≠ -1 := by
  unfold Width.wcwidth
  split
  · decide
  · unfold Width.mkWcwidth
    simp only [hz, if_false]
    have : ¬ (cp < 32 ∨ cp ≥ 0x7f ∧ cp < 0xa0) := by omega
    simp only [this, if_false]
    split
    · decide
    · split <;> omega

theorem wcwidth_nonneg {cp : Nat} (h : ¬ IsControl cp) : 0 ≤ Width.wcwidth cp := by
  unfold IsControl at h
  have := wcwidth_ne_neg_one cp (by omega) (by omega)
  have := wcwidth_range cp
  omega

/-- The three error tests on a decoded code point (`cp < 0x20`, `0x80 ≤ cp < 0xa0`, `wcwidth = -1`)
    together say: C0 control, DEL or C1 control.  Only DEL is left to the width. -/
theorem ctl_iff (cp : Nat) :
    ((cp < 0x20 ∨ (cp ≥ 0x80 ∧ cp < 0xa0)) ∨ Width.wcwidth cp = -1) ↔ IsControl cp := by
  constructor
  · rintro (h | h)
    · unfold IsControl; omega
    · by_cases hc : IsControl cp
      · exact hc
      · have := wcwidth_nonneg hc; omega
  · intro h
    by_cases h7 : cp = 0x7f
    · subst h7; exact .inr (by decide +kernel)
    · unfold IsControl at h; left; omega

end Utf8
end Tickit
