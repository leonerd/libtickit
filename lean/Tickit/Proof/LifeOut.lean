import Tickit.Model.LifeOut
import Tickit.Proof.LifeTop
import Tickit.Proof.TermBuf
import Tickit.Proof.Sgr
/-
  C08: the output side of the main terminal (`Model/LifeOut.lean`).

  The invariant of this layer is the one of the layer below (`TopInv`) together with the well-formedness of the output
  buffer as engine `termbuf` states it (`TermBuf.WF`: without a buffer nothing is pending, with a buffer of `n` bytes
  fewer than `n` bytes are pending between two calls).  Under it every `memcpy` of `write_str` stays inside the buffer,
  `tickit_term_set_output_buffer` restores it whatever was pending (the fill level is reset together with the length), and
  the xterm driver's `chpen` never needs more than 19 elements of `params[]` (`Tickit.Proof.Sgr.xtermChpen_fits_cap`).
  The state of this layer also has the slot tables of the default event loop's I/O watches (`IoInv`, `IoSt.dispatch_ok`).
-/
namespace Tickit.Life
open TermBuf (WF)

/-- The slot tables of the default event loop between two calls; `slots`: one slot per watch handed out, plus the
    terminal's. -/
structure IoInv (io : IoSt) : Prop where
  rev : io.revents.size = io.slots.size
  cap : io.slots.size ≤ io.alloc
  pos : 0 < io.alloc
  recs : io.recs.size ≤ ioCap
  slots : io.slots.size ≤ io.recs.size + 1

theorem ioInv_init : IoInv {} := ⟨rfl, by decide, by decide, by decide, by decide⟩

/-- `evloop_io`: the tables are doubled before they overflow. -/
theorem IoInv.register {io : IoSt} (I : IoInv io) (k : Nat) (h : io.slots.size ≤ io.recs.size) : IoInv (io.register k) := by
  unfold IoSt.register
  split
  · exact ⟨by simp [I.rev], by simpa using I.cap, I.pos, I.recs, by simpa using I.slots⟩
  · by_cases he : io.slots.size = io.alloc
    · simp only [he, if_true]
      refine ⟨by simp [I.rev], ?_, ?_, I.recs, ?_⟩
      · have := I.pos; simp only [Array.size_push]; omega
      · have := I.pos; show 0 < io.alloc * 2; omega
      · simp only [Array.size_push]; omega
    · simp only [he, if_false]
      refine ⟨by simp [I.rev], ?_, I.pos, I.recs, ?_⟩
      · have := I.cap; simp only [Array.size_push]; omega
      · simp only [Array.size_push]; omega

theorem IoInv.cancel {io : IoSt} (I : IoInv io) (k : Nat) : IoInv (io.cancel k) := by
  unfold IoSt.cancel
  exact ⟨by simp [I.rev], by simpa using I.cap, I.pos, I.recs, by simpa using I.slots⟩

theorem IoInv.watch {io : IoSt} (I : IoInv io) (r : IoRec) : IoInv (io.watch r) := by
  unfold IoSt.watch
  split
  · exact I
  · rename_i hlt
    have hlt : io.recs.size < ioCap := by omega
    have I' : IoInv { io with recs := io.recs.push r } :=
      ⟨I.rev, I.cap, I.pos, by simp only [Array.size_push]; omega, by have := I.slots; simp only [Array.size_push]; omega⟩
    have hs : ({ io with recs := io.recs.push r } : IoSt).slots.size ≤ ({ io with recs := io.recs.push r } : IoSt).recs.size := by
      have := I.slots; simp only [Array.size_push]; omega
    exact IoInv.register I' _ hs

theorem IoInv.act {io : IoSt} (I : IoInv io) (self : Nat) (a : IAct) : IoInv (io.act self a) := by
  cases a with
  | reg ready => exact IoInv.watch I _
  | cancel k => exact IoInv.cancel I k
  | cancelSelf => exact IoInv.cancel I self

theorem IoInv.acts (self : Nat) : ∀ (acts : List IAct) {io : IoSt}, IoInv io → IoInv (acts.foldl (fun io a => io.act self a) io)
  | [], _, I => I
  | a :: rest, _, I => IoInv.acts self rest (IoInv.act I self a)

theorem IoInv.poll {io : IoSt} (I : IoInv io) : IoInv io.poll := by
  unfold IoSt.poll
  exact ⟨by simp, I.cap, I.pos, I.recs, I.slots⟩

theorem IoInv.log {io : IoSt} (I : IoInv io) (l : List String) : IoInv { io with log := l } :=
  ⟨I.rev, I.cap, I.pos, I.recs, I.slots⟩

/-- The dispatch loop of `evloop_run`, whatever the callbacks register and cancel: every read of `pollfds[idx]` goes to
    the block `evdata->pollfds` points to at that moment and lies inside it, and the loop ends. -/
theorem IoSt.dispatch_ok : ∀ (fuel idx : Nat) {io : IoSt}, IoInv io → ioCap + 2 ≤ idx + fuel → idx ≤ ioCap + 1 →
    Post (IoSt.dispatch fuel idx io) IoInv
  | 0, idx, io, _, h, hle => by omega
  | fuel + 1, idx, io, I, h, _ => by
    unfold IoSt.dispatch
    by_cases hd : io.slots.size ≤ idx
    · rw [if_pos hd]; exact .ok I
    · rw [if_neg hd]
      have hrd : io.rd io.gen idx = .ok () := by
        unfold IoSt.rd
        rw [if_neg (by simp)]
        have := I.cap
        rw [if_neg (by omega)]
        rfl
      have hidx : idx + 1 ≤ ioCap + 1 := by have := I.slots; have := I.recs; omega
      simp only [hrd, bind_ok]
      split
      · split
        · exact IoSt.dispatch_ok fuel (idx + 1) (IoInv.acts _ _ (IoInv.log I _)) (by omega) hidx
        · exact IoSt.dispatch_ok fuel (idx + 1) I (by omega) hidx
      · exact IoSt.dispatch_ok fuel (idx + 1) I (by omega) hidx

structure OInv (o : OTop) : Prop where
  top : TopInv o.top
  wf : WF o.o.tb
  io : IoInv o.io

/-- `tickit_term_printn` of an empty text is left out: `TermBuf.OpOK` asks for a non-empty one. -/
def YOp.covered : YOp → Prop
  | .x op => op.covered
  | .tprint bytes => bytes ≠ []
  | _ => True

theorem OutSt.fresh_wf (known : Bool) : WF (OutSt.fresh known).tb := .of_buf_nil rfl

/-- The outcome of the buffer's step becomes the outcome of the operation; the bytes that reached the descriptor go into
    the reply and are cleared, which `WF` does not speak of. -/
theorem withTb_ok {o : OTop} {r : TermBuf.Outcome} (T : TopInv o.top) (J : IoInv o.io) (tail : String)
    (h : ∃ tb, r = .ok tb ∧ WF tb) : Post (withTb o r tail) fun p => OInv p.1 := by
  obtain ⟨tb, rfl, hwf⟩ := h
  exact .ok ⟨T, hwf, J⟩

theorem ioAfter_ok (top : Top) (op : XOp) (r : String) {io : IoSt} (I : IoInv io) : Post (ioAfter top op r io) IoInv := by
  have I0 : IoInv (if (!instAlive top) = true then ({} : IoSt) else io) := by
    split
    · exact ioInv_init
    · exact I
  unfold ioAfter
  cases op with
  | itick toks =>
    dsimp only
    split
    · exact IoSt.dispatch_ok ioFuel 0 (IoInv.poll I0) (by unfold ioFuel; omega) (by omega)
    · exact .ok I0
  | _ => exact .ok I0

theorem ystepIo_ok {o : OTop} (I : OInv o) (c : Bool) {io : IoSt} (J : IoInv io) : Post (ystepIo o c io) fun p => OInv p.1 := by
  cases c with
  | false => exact .ok I
  | true => exact .ok ⟨I.top, I.wf, J⟩

/-- The xterm driver's `chpen` with room for 19 parameters: the array is never overrun, and what it writes goes
    through `write_str` within the buffer. -/
theorem drvChpen_ok {tb : TermBuf.State} (hwf : WF tb) (hcap : 19 ≤ Gen.Sgr.paramsCap) (caps : TermPen.Caps) (delta final : TermPen.Pen) :
    ∃ tb', drvChpen tb caps delta final = .ok tb' ∧ WF tb' := by
  unfold drvChpen
  obtain ⟨bs, hx⟩ := Tickit.Proof.Sgr.xtermChpen_fits_cap (caps := caps) delta final hcap
  rw [hx]
  dsimp only
  by_cases he : bs.isEmpty = true
  · rw [if_pos he]; exact ⟨tb, rfl, hwf⟩
  · rw [if_neg he]
    have hl : (bytesOfNats bs).length = bs.length := List.length_map _
    obtain ⟨tb', h, e⟩ := TermBuf.writeWhole_okExt hwf (List.prefix_append (bytesOfNats bs) [0]) fun e => by rw [e]; rfl
    exact ⟨tb', hl ▸ h, e.wf⟩

/-- What `ystep` makes of the output side after an operation of the layers below: a new terminal starts afresh, an
    operation that may have drawn leaves a buffer the model does not follow. -/
def outAfter (o : OTop) (op : XOp) (r : String) : OutSt :=
  match op with
  | .base (.newTerm _ _ mock) => OutSt.fresh (!mock)
  | .newin .. => OutSt.fresh true
  | .newtop .. => OutSt.fresh false
  | _ => if op.quiet || r = "skip" then o.o else { o.o with known := false }

theorem outAfter_wf {o : OTop} (h : WF o.o.tb) (op : XOp) (r : String) : WF (outAfter o op r).tb := by
  unfold outAfter
  split
  · exact OutSt.fresh_wf _
  · exact OutSt.fresh_wf _
  · exact OutSt.fresh_wf _
  · split <;> exact h

theorem outAfter_new {o : OTop} {op : XOp} (h : op.isNew = true) (r : String) : WF (outAfter o op r).tb := by
  rcases XOp.isNew_cases h with ⟨l, c, m, rfl⟩ | ⟨l, c, rfl⟩ | ⟨l, c, rfl⟩ <;> exact OutSt.fresh_wf _

theorem ystep_x_eq {tc : TCfg} {o : OTop} {op : XOp} {top' : Top} {r : String} {io' : IoSt} (hs : xstep tc o.top op = .ok (top', r))
    (hio : ioAfter top' op r o.io = .ok io') : ystep tc o (.x op) = .ok (⟨top', outAfter o op r, io'⟩, r) := by
  show (xstep tc o.top op >>= fun p => _) = _
  rw [hs]
  show (ioAfter top' op r o.io >>= _) = _
  rw [hio]
  rfl

theorem ystep_x_ok {tc : TCfg} {o : OTop} {op : XOp} {top' : Top} {r : String} (hs : xstep tc o.top op = .ok (top', r))
    (T' : TopInv top') (J : IoInv o.io) (hwf : WF (outAfter o op r).tb) : Post (ystep tc o (.x op)) fun p => OInv p.1 :=
  let ⟨_, hio, J'⟩ := ioAfter_ok top' op r J
  ⟨_, ystep_x_eq hs hio, T', hwf, J'⟩

theorem ystep_guarded {o : OTop} (I : OInv o) {c1 c2 : Prop} [Decidable c1] [Decidable c2] {s1 s2 : String} {x : Out (OTop × String)}
    (hx : Post x fun p => OInv p.1) :
    Post (if c1 then pure (o, s1) else if c2 then pure (o, s2) else x) fun p => OInv p.1 :=
  .ite (fun _ => .ok I) fun _ => .ite (fun _ => .ok I) fun _ => hx

theorem ystep_ok {tc : TCfg} (R : TRepaired tc) (hcap : 19 ≤ Gen.Sgr.paramsCap) {o : OTop} (I : OInv o) (op : YOp) (h : op.covered) :
    Post (ystep tc o op) fun p => OInv p.1 := by
  cases op with
  | x op =>
    obtain ⟨top', r, hs, T'⟩ := xstep_top_ok R I.top op h
    exact ystep_x_ok hs T' I.io (outAfter_wf I.wf op r)
  | tbuf n => exact ystep_guarded I (withTb_ok I.top I.io "" (TermBuf.step_ok_wf (o := .setbuf n) I.wf trivial))
  | tprint bytes => exact ystep_guarded I (withTb_ok I.top I.io "" (TermBuf.step_ok_wf I.wf (TermBuf.opOK_printn_whole h)))
  | tgoto line col => exact ystep_guarded I (withTb_ok I.top I.io "" (TermBuf.step_ok_wf (o := .goto line col) I.wf trivial))
  | tflush => exact ystep_guarded I (withTb_ok I.top I.io "" (TermBuf.step_ok_wf (o := .flush) I.wf trivial))
  | tcaps rgb8 colon viaCtl =>
    obtain ⟨top', r, hs, T'⟩ := xstep_top_ok R I.top (.tpush []) trivial
    exact ystep_guarded I (.bind (Q := fun p => TopInv p.1) ⟨_, hs, T'⟩ fun _ T' => .ok ⟨T', I.wf, I.io⟩)
  | tsetpen set pen =>
    exact ystep_guarded I (withTb_ok (o := { top := o.top, o := { o.o with cache := TermPen.termCache set xtermColors o.o.cache pen }, io := o.io })
      I.top I.io "" (drvChpen_ok I.wf hcap _ _ _))
  | iio ready acts => exact ystepIo_ok I _ (IoInv.watch I.io _)
  | iiocancel k => exact ystepIo_ok I _ (IoInv.cancel I.io k)

theorem yrunOps_eq (tc : TCfg) (ops : List YOp) (s : OTop) : yrunOps tc s ops = runWith (ystep tc) s ops :=
  runWith_unique (fun _ => rfl) (fun s op _ => by rw [yrunOps]; cases ystep tc s op <;> rfl) ops s

theorem yrun_ok {tc : TCfg} (R : TRepaired tc) (hcap : 19 ≤ Gen.Sgr.paramsCap) (ops : List YOp) (o : OTop) (I : OInv o)
    (h : ∀ op ∈ ops, op.covered) : ∃ o', yrunOps tc o ops = .ok o' ∧ OInv o' := by
  rw [yrunOps_eq]; exact runWith_inv (fun _ op I h => (ystep_ok R hcap I op h).pair) ops o I h

theorem ystep_start_ok {tc : TCfg} (R : TRepaired tc) (o : OTop) (hJ : IoInv o.io) (op : XOp) (h : op.isNew = true) :
    Post (ystep tc o (.x op)) fun p => OInv p.1 := by
  obtain ⟨top', r, hs, T'⟩ := xstep_start_ok R o.top op h
  exact ystep_x_ok hs T' hJ (outAfter_new h r)

theorem yrun_from_start {tc : TCfg} (R : TRepaired tc) (hcap : 19 ≤ Gen.Sgr.paramsCap) (start : XOp) (hstart : start.isNew = true)
    (ops : List YOp) (h : ∀ op ∈ ops, op.covered) :
    ∃ o', yrunOps tc {} (.x start :: ops) = .ok o' ∧ OInv o' := by
  obtain ⟨o1, r, hs, I1⟩ := (ystep_start_ok R ({} : OTop) ioInv_init start hstart).pair
  obtain ⟨o', hr, I'⟩ := yrun_ok R hcap ops o1 I1 h
  refine ⟨o', ?_, I'⟩
  unfold yrunOps
  rw [hs]
  exact hr

end Tickit.Life
