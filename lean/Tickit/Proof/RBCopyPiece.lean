import Tickit.Proof.RBCopyPrim
import Tickit.Proof.RBSpec
/-
  C13: one execution of the (repaired) loop body of `copyrect` on a well-formed destination:
  `savepen; setpen(cell->pen); <draw the piece>; restore` is the primitive drawn with the completed pen (`penWrap`), so
  the body draws `pieceNew` on the piece (`copyPiece_spec`).
-/
namespace Tickit.RBCopy
open Tickit Tickit.RB

/-- `tickit_pen_copy(dst, src, 0)` is `completePen`, the specification's `mergePen`. -/
theorem pen_copy_keep (p q : Pen) : Pen.copy p q false = completePen p q := RB.Pen.copy_noow p q

theorem setpen_savepen_pen (d : RB) (p : Pen) : (setpen (savepen d) (some p)).pen = completePen p d.pen := by
  unfold setpen savepen
  simp only [RB.Pen.copy_empty, pen_copy_keep]

theorem wf_setpen_savepen {d : RB} (hwf : WF d) (p : Option Pen) : WF (setpen (savepen d) p) := by
  refine ⟨hwf.rows, ?_, hwf.clip⟩
  intro l c h0 h1 h2 h3
  have := hwf.mask l c h0 h1 h2 h3
  show -1 ≤ ((d.cells l).get c).maskdepth ∧ ((d.cells l).get c).maskdepth ≤ d.depth + 1
  omega

/- `rfl` alone proves the next two, but finds the projections of `setpen (savepen d) p` only by unfolding blindly. -/
theorem absContent_setpen_savepen (d : RB) (p : Option Pen) (L C : Int) :
    absContent (setpen (savepen d) p) L C = absContent d L C := by
  unfold absContent setpen savepen; rfl

theorem writable_setpen_savepen (d : RB) (p : Option Pen) (L C : Int) :
    writable (setpen (savepen d) p) L C = writable d L C := by
  unfold writable absClip absMasked setpen savepen; rfl

/-- `restore` after `savepen` leaves the cells alone: no mask is deeper than the depth restored. -/
theorem restore_cells {d2 : RB} (hs : d2.stack ≠ [])
    (hm : ∀ l c, 0 ≤ l → l < d2.lines → 0 ≤ c → c < d2.cols → ((d2.cells l).get c).maskdepth ≤ d2.depth - 1) :
    ∀ l, (restore d2).cells l = d2.cells l := by
  intro l
  unfold restore
  cases hst : d2.stack with
  | nil => exact absurd hst hs
  | cons f prev =>
    simp only []
    apply Row.ext'
    intro c
    show (if 0 ≤ l ∧ l < d2.lines ∧ 0 ≤ c ∧ c < d2.cols ∧ (d2.cell l c).maskdepth > d2.depth - 1
          then { d2.cell l c with maskdepth := -1 } else d2.cell l c) = (d2.cells l).get c
    by_cases h : 0 ≤ l ∧ l < d2.lines ∧ 0 ≤ c ∧ c < d2.cols ∧ (d2.cell l c).maskdepth > d2.depth - 1
    · have := hm l c h.1 h.2.1 h.2.2.1 h.2.2.2.1
      have h5 := h.2.2.2.2
      unfold RB.cell at h5
      omega
    · rw [if_neg h]; rfl

theorem restore_flags (d : RB) : (restore d).aborted = d.aborted ∧ (restore d).fuelOut = d.fuelOut := by
  unfold restore
  cases d.stack with
  | nil => exact ⟨rfl, rfl⟩
  | cons f prev =>
    simp only []
    cases f.penOnly <;> exact ⟨rfl, rfl⟩

/-- `restore` after `savepen; setpen` undoes nothing but the pen. -/
theorem penWrap {dst d2 : RB} (hwf : WF dst) (p : Option Pen) {L0 C0 n : Int} {newc : Int → Content → Content}
    (h : DrawSpec (setpen (savepen dst) p) d2 L0 C0 n newc) : DrawSpec dst (restore d2) L0 C0 n newc := by
  have haux : SameAux (restore d2) dst := sameAux_restore_of_savepen dst d2 p h.aux
  have hl : d2.lines = dst.lines := h.aux.lines
  have hc : d2.cols = dst.cols := h.aux.cols
  have hd : d2.depth = dst.depth + 1 := h.aux.depth
  have hs : d2.stack ≠ [] := by rw [h.aux.stack]; unfold setpen savepen; simp
  have hcells := restore_cells hs (by
    intro l c h0 h1 h2 h3
    rw [hl] at h1; rw [hc] at h3
    rw [h.mask l c h0 h1 h2 h3, hd]
    have := (hwf.mask l c h0 h1 h2 h3).2
    show ((dst.cells l).get c).maskdepth ≤ dst.depth + 1 - 1
    omega)
  refine ⟨haux, ⟨?_, ?_, ?_⟩, ?_, ?_, ?_,
    ⟨(restore_flags d2).1.trans h.flags.1, (restore_flags d2).2.trans h.flags.2⟩⟩
  · intro l h0 h1
    rw [hcells l, haux.cols, ← hc]
    exact h.wf.rows l h0 (by rw [hl, ← haux.lines]; exact h1)
  · intro l c h0 h1 h2 h3
    rw [haux.lines] at h1; rw [haux.cols] at h3
    rw [hcells l, h.mask l c h0 h1 h2 h3, haux.depth]
    exact hwf.mask l c h0 h1 h2 h3
  · rw [haux.clip, haux.lines, haux.cols]; exact hwf.clip
  · intro l c h0 h1 h2 h3
    rw [hcells l]; exact h.mask l c h0 h1 h2 h3
  · intro L C
    have : absContent (restore d2) L C = absContent d2 L C := by
      rw [absContent_eq, absContent_eq, hcells L, haux.lines, haux.cols, hl, hc]
    rw [this, h.content L C, writable_setpen_savepen, absContent_setpen_savepen]
  · intro l c h0 h1 h2 h3 ho hst
    rw [hcells l]; exact h.heads l c h0 h1 h2 h3 ho hst

/-- What a destination cell shows after receiving the source content `srcC` (the inner `match` of `copyExpect`). -/
def pieceNew (copySkip : Bool) (cur : Pen) (srcC old : Content) : Content :=
  match srcC with
  | .skip => if copySkip then .skip else old
  | c => transfer cur c old

theorem DrawSpec.newc_congr {rb rb' : RB} {L0 C0 n : Int} {newc newc' : Int → Content → Content}
    (h : DrawSpec rb rb' L0 C0 n newc) (he : ∀ C old, newc C old = newc' C old) : DrawSpec rb rb' L0 C0 n newc' := by
  have : newc = newc' := by funext C old; exact he C old
  rw [← this]; exact h

theorem copyPiece_spec {dst : RB} (hwf : WF dst) (copySkip : Bool) (cell : Cell) (offset cols line col : Int)
    (hnc : cell.state ≠ .cont) (hone : (cell.state = .line ∨ cell.state = .char) → cols = 1) :
    DrawSpec dst (copyPiece true copySkip cell offset cols dst line col) (line + dst.xlLine) (col + dst.xlCol) cols
      (fun C old => pieceNew copySkip dst.pen (cellContent cell (offset + (C - (col + dst.xlCol)))) old) := by
  unfold copyPiece drawPiece dispatch
  cases hst : cell.state with
  | cont => exact absurd hst hnc
  | skip =>
    simp only [ne_eq, not_true_eq_false, if_false]
    cases copySkip with
    | true =>
      simp only [if_true]
      exact (skipRun_spec hwf line col cols).newc_congr (fun C old => by
        unfold pieceNew cellContent; rw [hst]; rfl)
    | false =>
      simp only [Bool.false_eq_true, if_false]
      exact drawSpec_same hwf _ _ _ _ (fun C _ _ _ => by
        unfold pieceNew cellContent; rw [hst]; rfl)
  | text =>
    simp only [ne_eq, reduceCtorEq, not_false_eq_true, if_true]
    apply penWrap hwf (some cell.pen)
    have := putStringSlice_spec (wf_setpen_savepen hwf (some cell.pen)) line col cell.text (cell.offs + offset) cols
    exact this.newc_congr (fun C old => by
      unfold pieceNew cellContent transfer; rw [hst, setpen_savepen_pen]
      show Content.text _ _ (cell.offs + offset + (C - (col + dst.xlCol))) = Content.text _ _ (cell.offs + (offset + (C - (col + dst.xlCol))))
      congr 1; omega)
  | erase =>
    simp only [ne_eq, reduceCtorEq, not_false_eq_true, if_true]
    apply penWrap hwf (some cell.pen)
    have := eraseRun_spec (wf_setpen_savepen hwf (some cell.pen)) line col cols
    exact this.newc_congr (fun C old => by
      unfold pieceNew cellContent transfer; rw [hst, setpen_savepen_pen])
  | line =>
    simp only [ne_eq, reduceCtorEq, not_false_eq_true, if_true]
    apply penWrap hwf (some cell.pen)
    have := linecell_spec (wf_setpen_savepen hwf (some cell.pen)) line col cell.lmask
    rw [hone (Or.inl hst)]
    exact this.newc_congr (fun C old => by
      unfold pieceNew cellContent transfer; rw [hst, setpen_savepen_pen])
  | char =>
    simp only [ne_eq, reduceCtorEq, not_false_eq_true, if_true]
    apply penWrap hwf (some cell.pen)
    have := putChar_spec (wf_setpen_savepen hwf (some cell.pen)) line col cell.cp
    rw [hone (Or.inr hst)]
    exact this.newc_congr (fun C old => by
      unfold pieceNew cellContent transfer; rw [hst, setpen_savepen_pen])

end Tickit.RBCopy
