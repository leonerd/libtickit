import Tickit.Proof.WinInputExt
import Tickit.Model.WinInputTerm
import Tickit.Proof.InputXlate
/-
  One-shot / self-unbinding handlers and X10 byte input (C14).  `run_events_whilefalse` under mutation: whatever the handlers
  do to the tree (close, unref, hide, restack, hand the focus over — which makes the window emit FOCUS events on the very list
  that is being walked), the handlers that are bound are invoked in binding order up to the first claim, handlers that are
  gone are passed over, and the bindings afterwards are those of the pure reference `offerBindings` (`runBindings_calls`).
  The X10 decoding is within what C20 trusts of the tokenizer (`x10Key_wf`), so the C20 refinement theorem applies to every
  report (`x10_report_events` in Props/C14); `KeepsHeld`: the reports that leave the set of held buttons as it is.  Bindings over
  whole events and histories: `emit_bmono`, `OneShotInv`.
-/
namespace Tickit
namespace WinInput
open WinTree

def LogItem.isCall : LogItem → Bool
  | .call .. => true
  | _ => false

def NotCall (i : LogItem) : Prop := i.isCall = false

theorem notCall_quiet : Quiet NotCall := ⟨fun _ => rfl, fun _ => rfl⟩

def callsOf (log : List LogItem) : List LogItem := (log.filter LogItem.isCall).reverse

theorem callsOf_say_call (st : St) (k : Kind) (w : Id) (i n : Nat) (r : Bool) (e : Ev) :
    callsOf (st.say (.call k w i n r e)).log = callsOf st.log ++ [.call k w i n r e] := by
  simp [callsOf, St.say, List.filter_cons, LogItem.isCall]

theorem callsOf_say_offer (st : St) (k : Kind) (w : Id) (e : Ev) (b : Bool) :
    callsOf (st.say (.offer k w e b)).log = callsOf st.log := by
  simp [callsOf, St.say, LogItem.isCall]

theorem callsOf_ext {st st' : St} (h : Ext NotCall st st') : callsOf st'.log = callsOf st.log := by
  obtain ⟨⟨new, e, p⟩, _⟩ := h
  have hf : new.filter LogItem.isCall = [] := by
    rw [List.filter_eq_nil_iff]
    intro i hi
    have := p i hi
    unfold NotCall at this
    rw [this]; simp
  simp [callsOf, e, List.filter_append, hf]

theorem doAction_binds {st st' : St} {a : Action} (h : doAction st a = Res.ok st') : st'.binds = st.binds :=
  (doAction_frame notCall_quiet h).2

theorem newWin_binds {st st' : St} {p id : WinTree.Id} {r : Rect} {a b c d : Bool}
    (h : newWin st p r a b c d = Res.ok (st', id)) : st'.binds = st.binds := by
  unfold newWin at h
  obtain ⟨x, _, h⟩ := WinTree.bind_ok_iff.1 h
  cases h; rfl

theorem flushSt_binds {st st' : St} (h : flushSt st = Res.ok st') : st'.binds = st.binds := by
  unfold flushSt at h
  obtain ⟨t, _, h⟩ := WinTree.bind_ok_iff.1 h
  cases h; rfl

/-- The handler calls of one walk over the bindings with indices `idxs`, computed from the bindings alone: a binding
    that is gone is passed over; the others are invoked in order, up to and including the first whose behaviour
    table says "claim". -/
def walkCalls (binds : Array Binding) (kind : Kind) (win : Id) (ev : Ev) : List Nat → List LogItem
  | [] => []
  | bi :: rest =>
    match binds[bi]? with
    | none => walkCalls binds kind win ev rest
    | some b =>
      if b.gone then walkCalls binds kind win ev rest else
      .call kind win b.idx (entryIndex b) b.entry.ret ev ::
        (if b.entry.ret then [] else walkCalls (binds.setIfInBounds bi b.fired) kind win ev rest)

theorem runBindings_calls (kind : Kind) (win : Id) (ev : Ev) :
    ∀ (idxs : List Nat) (st st' : St) (c : Bool), runBindings st kind win ev idxs = Res.ok (st', c) →
      callsOf st'.log = callsOf st.log ++ walkCalls st.binds kind win ev idxs ∧
      (st'.binds, c) = offerBindings st.binds idxs := by
  intro idxs
  induction idxs with
  | nil =>
    intro st st' c h
    simp only [runBindings, res_pure, Res.ok.injEq, Prod.mk.injEq] at h
    obtain ⟨rfl, rfl⟩ := h
    simp [walkCalls, offerBindings]
  | cons bi rest ih =>
    intro st st' c h
    unfold runBindings at h
    unfold walkCalls offerBindings
    cases hb : st.binds[bi]? with
    | none => simp only [hb] at h ⊢; exact ih _ _ _ h
    | some b =>
      simp only [hb] at h ⊢
      by_cases hg : b.gone = true
      · simp only [hg, if_true] at h ⊢; exact ih _ _ _ h
      simp only [hg, Bool.false_eq_true, if_false] at h ⊢
      obtain ⟨st1, h1, h⟩ := WinTree.bind_ok_iff.1 h
      obtain ⟨e1, hb1⟩ := doActions_frame notCall_quiet _ _ _ h1
      have hb1 : st1.binds = st.binds.setIfInBounds bi b.fired := hb1
      have hc1 : callsOf st1.log = callsOf st.log ++ [.call kind win b.idx (entryIndex b) b.entry.ret ev] := by
        rw [callsOf_ext e1, callsOf_say_call]
      by_cases hr : b.entry.ret = true
      · simp only [hr, if_true, res_pure, Res.ok.injEq, Prod.mk.injEq] at h
        obtain ⟨rfl, rfl⟩ := h
        simp only [hr, if_true]
        rw [hr] at hc1
        exact ⟨hc1, by rw [hb1]⟩
      · simp only [hr, Bool.false_eq_true, if_false] at h
        simp only [hr, Bool.false_eq_true, if_false]
        obtain ⟨i1, i2⟩ := ih _ _ _ h
        rw [hb1] at i1 i2
        refine ⟨?_, i2⟩
        rw [i1, hc1, List.append_assoc]
        simp only [Bool.not_eq_true] at hr
        rw [hr]; rfl

/-- The bindings with indices `idxs` that are not gone. -/
def liveOf (binds : Array Binding) (idxs : List Nat) : List Binding :=
  idxs.filterMap fun bi =>
    match binds[bi]? with
    | some b => if b.gone then none else some b
    | none => none

/-- The calls of these bindings in order, up to and including the first whose behaviour table says "claim". -/
def untilClaim (kind : Kind) (win : Id) (ev : Ev) : List Binding → List LogItem
  | [] => []
  | b :: rest => .call kind win b.idx (entryIndex b) b.entry.ret ev :: (if b.entry.ret then [] else untilClaim kind win ev rest)

theorem liveOf_set_notin (binds : Array Binding) (bi : Nat) (x : Binding) :
    ∀ (idxs : List Nat), bi ∉ idxs → liveOf (binds.setIfInBounds bi x) idxs = liveOf binds idxs := by
  intro idxs
  induction idxs with
  | nil => intro _; rfl
  | cons j rest ih =>
    intro hn
    have hj : bi ≠ j := fun e => hn (by rw [e]; exact List.mem_cons_self ..)
    have hr : bi ∉ rest := fun m => hn (List.mem_cons_of_mem _ m)
    simp only [liveOf, List.filterMap_cons] at ih ⊢
    rw [Array.getElem?_setIfInBounds]
    simp only [hj, if_false]
    rw [ih hr]

theorem walkCalls_eq (kind : Kind) (win : Id) (ev : Ev) : ∀ (idxs : List Nat) (binds : Array Binding), idxs.Nodup →
    walkCalls binds kind win ev idxs = untilClaim kind win ev (liveOf binds idxs) := by
  intro idxs
  induction idxs with
  | nil => intro _ _; rfl
  | cons bi rest ih =>
    intro binds hnd
    obtain ⟨hni, hnr⟩ := List.nodup_cons.1 hnd
    unfold walkCalls
    cases hb : binds[bi]? with
    | none => simp only [liveOf, List.filterMap_cons, hb]; exact ih binds hnr
    | some b =>
      by_cases hg : b.gone = true
      · simp only [liveOf, List.filterMap_cons, hb, hg, if_true]; exact ih binds hnr
      · simp only [liveOf, List.filterMap_cons, hb, hg, Bool.false_eq_true, if_false, untilClaim]
        rw [ih _ hnr, liveOf_set_notin binds bi b.fired rest hni]
        rfl

theorem bindingsOf_nodup (binds : Array Binding) (kind : Kind) (win : Id) : (bindingsOf binds kind win).Nodup := by
  unfold bindingsOf
  exact List.Nodup.sublist List.filter_sublist List.nodup_range

theorem emit_bmono {cfg : Cfg} {st st' : St} {ev : Ev}
    (h : emitKey cfg st ev = Out.ok st' ∨ emitMouse cfg st ev = Out.ok st') : BMono st.binds st'.binds := by
  have tail : ∀ {s : St} {handled : Bool}, BMono st.binds s.binds →
      BMono st.binds (if handled then s else s.say .unhandled).binds := fun {s handled} e => by cases handled <;> exact e
  rcases h with h | h
  · obtain ⟨s, handled, h1, rfl⟩ := emitKey_ok h
    exact tail (onTerm_ext (P := fun _ => True) (trivial_routed cfg .key ev) (trivial_routed cfg .mouse) (Or.inl h1)).2
  · obtain ⟨s, handled, h1, rfl⟩ := emitMouse_ok h
    exact tail (onTerm_ext (P := fun _ => True) (trivial_routed cfg .key ev) (trivial_routed cfg .mouse) (Or.inr h1)).2

/-- The state of the one-shot bindings in any history: never invoked and bound, or invoked exactly once and gone. -/
def OneShotInv (binds : Array Binding) : Prop :=
  ∀ (i : Nat) (x : Binding), binds[i]? = some x → x.oneshot = true →
    (x.count = 0 ∧ x.gone = false) ∨ (x.count = 1 ∧ x.gone = true)

theorem OneShotInv.mono {b b' : Array Binding} (h : OneShotInv b) (hm : BMono b b') : OneShotInv b' := by
  intro i x' hx' ho
  obtain ⟨x, hx⟩ := getElem?_of_size_eq hm.1 hx'
  obtain ⟨y, hy, s⟩ := hm.2 i x hx
  rw [hx'] at hy; cases hy
  have hox : x.oneshot = true := by rw [← s.oneshot]; exact ho
  rcases h i x hx hox with ⟨c0, g0⟩ | ⟨c1, g1⟩
  · obtain ⟨a, bb⟩ := s.once hox
    by_cases hc : x.count < x'.count
    · right; exact ⟨by omega, bb hc⟩
    · have c := s.count
      have e : x' = x := s.same (by omega)
      left; rw [e]; exact ⟨c0, g0⟩
  · have e : x' = x := s.gone g1
    right; rw [e]; exact ⟨c1, g1⟩

theorem OneShotInv.push {b : Array Binding} (h : OneShotInv b) (x : Binding) (hc : x.count = 0) (hg : x.gone = false) :
    OneShotInv (b.push x) := by
  intro i y hy ho
  rw [Array.getElem?_push] at hy
  split at hy
  · cases hy; left; exact ⟨hc, hg⟩
  · exact h i y hy ho

/-- libtermkey's decoding of an X10 report stays within what C20 trusts of the tokenizer (`Key.WF`): buttons 0..30,
    and a press or drag always names a button. -/
theorem x10Key_wf (code line col : Nat) : (x10Key code line col).WF := by
  unfold x10Key InputXlate.Key.WF x10Button x10Event
  generalize code &&& 0xc3 = c
  generalize (code &&& 0x20 != 0) = d
  simp only [InputXlate.TERMKEY_MOUSE_PRESS, InputXlate.TERMKEY_MOUSE_DRAG, InputXlate.TERMKEY_MOUSE_RELEASE,
    InputXlate.TERMKEY_MOUSE_UNKNOWN]
  by_cases h1 : c < 3
  · simp only [h1, if_true]; refine ⟨by omega, by omega, fun _ => by omega⟩
  · simp only [h1, if_false]
    by_cases h2 : c = 3
    · simp only [h2]; refine ⟨by decide, by decide, ?_⟩; intro h; rcases h with h | h <;> cases h
    · simp only [h2, if_false]
      by_cases h3 : c = 64 ∨ c = 65
      · simp only [h3, if_true]; refine ⟨by omega, by omega, fun _ => by omega⟩
      · simp only [h3, if_false]; refine ⟨by decide, by decide, ?_⟩; intro h; rcases h with h | h <;> cases h

/-- By the class of the code byte: release (no button named), press and drag of button `p + 1`, turn of the wheel. -/
theorem x10Key_release {code : Nat} (line col : Nat) (hr : code &&& 0xc3 = 3) :
    x10Key code line col = .mouse InputXlate.TERMKEY_MOUSE_RELEASE 0 ((line : Int) + 1) ((col : Int) + 1) (x10Mods code) := by
  simp [x10Key, x10Event, x10Button, hr]

theorem x10Key_press {code p : Nat} (line col : Nat) (hp : p < 3) (hc : code &&& 0xc3 = p) (hm : code &&& 0x20 = 0) :
    x10Key code line col = .mouse InputXlate.TERMKEY_MOUSE_PRESS ((p : Int) + 1) ((line : Int) + 1) ((col : Int) + 1) (x10Mods code) := by
  simp [x10Key, x10Event, x10Button, hc, hp, hm]

theorem x10Key_drag {code p : Nat} (line col : Nat) (hp : p < 3) (hc : code &&& 0xc3 = p) (hm : code &&& 0x20 ≠ 0) :
    x10Key code line col = .mouse InputXlate.TERMKEY_MOUSE_DRAG ((p : Int) + 1) ((line : Int) + 1) ((col : Int) + 1) (x10Mods code) := by
  simp [x10Key, x10Event, x10Button, hc, hp, hm]

theorem x10Key_wheel {code : Nat} (line col : Nat) (hw : code &&& 0xc3 = 64 ∨ code &&& 0xc3 = 65) (hm : code &&& 0x20 = 0) :
    x10Key code line col = .mouse InputXlate.TERMKEY_MOUSE_PRESS (x10Button code) ((line : Int) + 1) ((col : Int) + 1) (x10Mods code) ∧
      InputXlate.WHEEL_FIRST_BUTTON ≤ x10Button code := by
  rcases hw with hw | hw <;> simp [x10Key, x10Event, x10Button, InputXlate.WHEEL_FIRST_BUTTON, hw, hm]

/-- Reports that may follow the press of button `p + 1` without changing what is held: drags of that button, and
    turns of the wheel. -/
def KeepsHeld (p code : Nat) : Prop :=
  (code &&& 0xc3 = p ∧ code &&& 0x20 ≠ 0) ∨ ((code &&& 0xc3 = 64 ∨ code &&& 0xc3 = 65) ∧ code &&& 0x20 = 0)

theorem keepsHeld_spec (p : Nat) (hp : p < 3) (code line col : Nat) (hk : KeepsHeld p code) :
    (InputXlate.Spec.keyEvents [p + 1] (x10Key code line col)).1 = [p + 1] := by
  rcases hk with ⟨hc, hm⟩ | ⟨hw, hm⟩
  · rw [x10Key_drag line col hp hc hm]
    have : ((p : Int) + 1).toNat = p + 1 := by omega
    simp [InputXlate.Spec.keyEvents, InputXlate.TERMKEY_MOUSE_DRAG, InputXlate.TERMKEY_MOUSE_PRESS, this,
      InputXlate.Spec.insert]
  · obtain ⟨hk, hbt⟩ := x10Key_wheel line col hw hm
    have hbt' : x10Button code ≥ 4 := hbt
    rw [hk]
    simp [InputXlate.Spec.keyEvents, hbt']

/-- The specification's held set over a whole gesture: the press puts `p + 1` into the empty set and no report after it
    changes the set. -/
theorem spec_gesture_held (p : Nat) (hp : p < 3) (c0 l0 k0 : Nat) (hc0 : c0 &&& 0xc3 = p ∧ c0 &&& 0x20 = 0)
    (more : List (Nat × Nat × Nat)) (hm : ∀ r ∈ more, KeepsHeld p r.1) :
    (InputXlate.Spec.run [] (x10Key c0 l0 k0 :: more.map fun r => x10Key r.1 r.2.1 r.2.2)).1 = [p + 1] := by
  have hpress : (InputXlate.Spec.keyEvents [] (x10Key c0 l0 k0)).1 = [p + 1] := by
    have : ((p : Int) + 1).toNat = p + 1 := by omega
    rw [x10Key_press l0 k0 hp hc0.1 hc0.2]
    simp [InputXlate.Spec.keyEvents, show ¬ ((p : Int) + 1 ≥ 4) by omega, this, InputXlate.Spec.insert]
  rw [InputXlate.Spec.run, hpress]
  exact InputXlate.Spec.run_fixed fun k hk => by
    obtain ⟨r, hr, rfl⟩ := List.mem_map.1 hk
    exact keepsHeld_spec p hp _ _ _ (hm r hr)

end WinInput
end Tickit
