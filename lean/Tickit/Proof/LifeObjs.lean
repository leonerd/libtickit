import Tickit.Proof.LifeOps
/-
  C08: the counted objects other than windows under `ref`, `unref` and the calls that only write into them.  Pens (held
  by the application and by windows) and the terminal (by the application, the root window and the library) are `Obj`s
  and go through `Obj.At`: `app_ref_X`/`app_unref_X` over `PX st e`, so that Proof/LifePens.lean uses them while the
  library holds references of its own; `SInv.term_at`/`SInv.reghost` out of the invariant and back into it.  Strings and
  render buffers (held by the application alone) have records and model functions of their own.  `OLater`: what an
  `unref` on such an object cannot undo; it serves the end of a history (LifeStep).
-/
namespace Tickit.Life
open WinTree (Id Win Req Change Tree)
variable {gh : Ghost}

theorem SInv.setX_same {st : St} (inv : SInv gh st) (i : Nat) (x : WinX) (hp : x.pen = (getX st i).pen)
    (ha : x.appRefs = (getX st i).appRefs) : SInv gh (setX st i x) := by
  refine ⟨inv.toSInvB.of_wx rfl rfl rfl rfl rfl (setX_map_pen x hp), ?_, inv.glive⟩
  intro j w hl
  rw [getX_setX]
  split
  · rename_i h; rw [ha, h.1]; exact inv.wref j w hl
  · exact inv.wref j w hl

/-- The windows and their records were not touched, and nothing the application did not hold is held now.  Every `unref`
    of the application on a pen, string, buffer or the terminal is such a step, whatever it does to the object it is
    called on, since that one was held. -/
structure OLater (st st' : St) : Prop where
  tree : st'.tree = st.tree
  wx : st'.wx = st.wx
  p : ∀ (k : Nat), heldP st k = false → heldP st' k = false
  s : ∀ (k : Nat), heldS st k = false → heldS st' k = false
  b : ∀ (k : Nat), heldB st k = false → heldB st' k = false
  t : heldT st = false → heldT st' = false

theorem OLater.refl (st : St) : OLater st st := ⟨rfl, rfl, fun _ h => h, fun _ h => h, fun _ h => h, fun h => h⟩

theorem OLater.trans {a b c : St} (h1 : OLater a b) (h2 : OLater b c) : OLater a c :=
  ⟨h2.tree.trans h1.tree, h2.wx.trans h1.wx, fun k h => h2.p k (h1.p k h), fun k h => h2.s k (h1.s k h),
    fun k h => h2.b k (h1.b k h), fun h => h2.t (h1.t h)⟩

theorem OLater.w {st st' : St} (h : OLater st st') (i : Nat) : heldW st' i = heldW st i := by
  unfold heldW getX; rw [h.tree, h.wx]

theorem OLater.of_pen {st : St} {k : Nat} (h : heldP st k = true) (p' : Obj) :
    OLater st { st with pens := st.pens.setIfInBounds k p' } := by
  refine ⟨rfl, rfl, fun j hj => ?_, fun _ h => h, fun _ h => h, fun h => h⟩
  have hkj : k ≠ j := fun e => by rw [e, hj] at h; cases h
  unfold heldP at hj ⊢
  rw [Array.getElem?_setIfInBounds_ne hkj]; exact hj

theorem OLater.of_str {st : St} {k : Nat} (h : heldS st k = true) (s' : StrObj) :
    OLater st { st with strs := st.strs.setIfInBounds k s' } := by
  refine ⟨rfl, rfl, fun _ h => h, fun j hj => ?_, fun _ h => h, fun h => h⟩
  have hkj : k ≠ j := fun e => by rw [e, hj] at h; cases h
  unfold heldS at hj ⊢
  rw [Array.getElem?_setIfInBounds_ne hkj]; exact hj

theorem OLater.of_rb {st : St} {k : Nat} (h : heldB st k = true) (b' : RBObj) :
    OLater st { st with rbs := st.rbs.setIfInBounds k b' } := by
  refine ⟨rfl, rfl, fun _ h => h, fun _ h => h, fun j hj => ?_, fun h => h⟩
  have hkj : k ≠ j := fun e => by rw [e, hj] at h; cases h
  unfold heldB at hj ⊢
  rw [Array.getElem?_setIfInBounds_ne hkj]; exact hj

theorem OLater.of_term {st : St} (h : heldT st = true) (tm : Obj) : OLater st { st with term := tm } :=
  ⟨rfl, rfl, fun _ h => h, fun _ h => h, fun _ h => h, fun h' => by rw [h'] at h; cases h⟩

theorem SInv.with_pens {st : St} (inv : SInv gh st) {ps : Array Obj} (P : PensOk { st with pens := ps }) :
    SInv gh { st with pens := ps } :=
  { inv with pens := P }

/-- `tickit_pen_ref` on a pen the application holds, by the application or by a handler of a pen (`penAct`): the state it
    returns, and the account of it. -/
theorem app_ref_X {st : St} {e : Nat → Nat} (P : PX st e) {k : Nat} (hh : heldP st k = true) :
    ∃ p, st.pens[k]? = some p ∧
      penRef { st with pens := st.pens.setIfInBounds k { p with appRefs := p.appRefs + 1 } } k =
        .ok { st with pens := st.pens.setIfInBounds k { p with refcount := p.refcount + 1, appRefs := p.appRefs + 1 } } ∧
      PX { st with pens := st.pens.setIfInBounds k { p with refcount := p.refcount + 1, appRefs := p.appRefs + 1 } } e := by
  obtain ⟨p, hp, hf, _⟩ := heldP_spec hh
  refine ⟨p, hp, ?_, P.set hp _ (fun _ _ => rfl) ((P.at hp).app_ref hf)⟩
  rw [penRef_eq (p := { p with appRefs := p.appRefs + 1 }) (set_self_pens hp _) hf]
  simp only [Array.setIfInBounds_setIfInBounds]

/-- `tickit_pen_unref` on a pen the application holds, likewise. -/
theorem app_unref_X {st : St} {e : Nat → Nat} (P : PX st e) {k : Nat} (hh : heldP st k = true) :
    ∃ p, st.pens[k]? = some p ∧ 0 < p.appRefs ∧
      penUnref { st with pens := st.pens.setIfInBounds k { p with appRefs := p.appRefs - 1 } } k =
        .ok { st with pens := st.pens.setIfInBounds k ({ p with appRefs := p.appRefs - 1 } : Obj).dropped } ∧
      PX { st with pens := st.pens.setIfInBounds k ({ p with appRefs := p.appRefs - 1 } : Obj).dropped } e := by
  obtain ⟨p, hp, hf, hpos⟩ := heldP_spec hh
  obtain ⟨hf', hr, H', _⟩ := ((P.at hp).rebook hf hpos).unref
  refine ⟨p, hp, hpos, ?_, P.set hp _ (fun _ _ => rfl) H'⟩
  rw [penUnref_eq (set_self_pens hp _) hf' hr]
  simp only [Array.setIfInBounds_setIfInBounds]

theorem pref_ok {st : St} (inv : SInv gh st) {k : Nat} (h : heldP st k = true) :
    ∃ st', penRef { st with pens := st.pens.setIfInBounds k { (st.pens[k]?.getD {}) with appRefs := (st.pens[k]?.getD {}).appRefs + 1 } } k = .ok st' ∧
      SInv gh st' ∧ st'.wx = st.wx := by
  obtain ⟨p, hp, hu, P'⟩ := app_ref_X (pensOk_iff.1 inv.pens) h
  simp only [hp, Option.getD_some]
  exact ⟨_, hu, inv.with_pens (pensOk_iff.2 P'), rfl⟩

theorem punref_ok {st : St} (inv : SInv gh st) {k : Nat} (h : heldP st k = true) :
    ∃ st', penUnref { st with pens := st.pens.setIfInBounds k { (st.pens[k]?.getD {}) with appRefs := (st.pens[k]?.getD {}).appRefs - 1 } } k = .ok st' ∧
      SInv gh st' ∧ OLater st st' ∧ (st'.pens[k]?.getD {}).appRefs < (st.pens[k]?.getD {}).appRefs := by
  obtain ⟨p, hp, hpos, hu, P'⟩ := app_unref_X (pensOk_iff.1 inv.pens) h
  simp only [hp, Option.getD_some]
  exact ⟨_, hu, inv.with_pens (pensOk_iff.2 P'), OLater.of_pen h _, by
    rw [set_self_pens hp]; exact Nat.sub_lt hpos Nat.one_pos⟩

/-- `tickit_pen_new`. -/
theorem pen_new_ok {st : St} (inv : SInv gh st) : SInv gh { st with pens := st.pens.push {} } := by
  refine inv.with_pens (pensOk_iff.2 ((pensOk_iff.1 inv.pens).update st.pens.size (fun j hj => ⟨?_, rfl⟩) ?_))
  · show (st.pens.push {})[j]? = _
    rw [Array.getElem?_push, if_neg hj]
  · show PenAt (holders st st.pens.size + 0) (st.pens.push {})[st.pens.size]?
    rw [Array.getElem?_push_size, inv.pens.ex _ (Array.getElem?_eq_none (Nat.le_refl _))]
    exact ⟨fun _ => ⟨rfl, by decide⟩, fun h => nomatch h⟩

theorem SInv.setX_live {st : St} (inv : SInv gh st) {win : Nat} {ww : Win} (hw : LiveW st.tree win ww) {ps : Array Obj}
    (x : WinX) (ha : x.appRefs = (getX st win).appRefs) (P : PensOk (setX { st with pens := ps } win x)) :
    SInv gh (setX { st with pens := ps } win x) := by
  have hg : ∀ (j : Nat), getX (setX { st with pens := ps } win x) j = if win = j ∧ win < st.wx.size then x else getX st j :=
    fun j => getX_setX { st with pens := ps } win x j
  refine { inv with
    wx_size := (setX_size _ _ _).trans inv.wx_size
    dead_pen := fun i w hwi hfi hi => ?_
    pens := P
    wref := fun i w hl => ?_ }
  · have hiw : ¬ (win = i ∧ win < st.wx.size) := fun h => hw.not_freed (h.1 ▸ hwi) hfi
    rw [hg, if_neg hiw]
    exact inv.dead_pen i w hwi hfi hi
  · rw [hg]
    split
    · rename_i h; rw [ha, h.1]; exact inv.wref i w hl
    · exact inv.wref i w hl

/-- `win->pen = tickit_pen_ref(pen)` for a window that holds no pen. -/
theorem assignPen_ok {new : List Act → Prop} {st : St} (inv : SInv gh st) {win : Nat} {ww : Win} (hw : LiveW st.tree win ww)
    (hnull : (getX st win).pen = .null) {k : Nat} {p : Obj} (hp : st.pens[k]? = some p) (hf : p.freed = false) :
    ∃ st', assignPen st win k = .ok st' ∧ SInv gh st' ∧ BindsFrom new st st' := by
  have hwin : win < st.wx.size := inv.wx_size ▸ hw.lt
  have P0 := pensOk_iff.1 inv.pens
  unfold assignPen
  rw [penRef_eq hp hf]
  have hh := holders_assign (st := { st with pens := st.pens.setIfInBounds k { p with refcount := p.refcount + 1 } }) hwin hnull k
  refine ⟨_, rfl, inv.setX_live hw _ rfl (pensOk_iff.2 (P0.update k (fun j hj => ⟨Array.getElem?_setIfInBounds_ne (Ne.symm hj), ?_⟩) ?_)),
    BindsFrom.upd_sub (st := st) win { getX st win with pen := .app k } fun _ h => h⟩
  · rw [hh j, if_neg (Ne.symm hj)]; rfl
  · -- one holder more, one reference more
    show PenAt (holders _ k + 0) (st.pens.setIfInBounds k { p with refcount := p.refcount + 1 })[k]?
    rw [Array.getElem?_setIfInBounds_self, if_pos (lt_size hp), hh k, if_pos rfl]
    exact (P0.at hp).ref hf

theorem setPen_ok {new : List Act → Prop} {st : St} (inv : SInv gh st) {win : Nat} {ww : Win} (hw : LiveW st.tree win ww) (pen : Option Nat)
    (hpen : ∀ (k : Nat), pen = some k → heldP st k = true) :
    ∃ st', setPen st win pen = .ok st' ∧ SInv gh st' ∧ BindsFrom new st st' := by
  have hwin : win < st.wx.size := inv.wx_size ▸ hw.lt
  obtain ⟨ps, hdrop, P2, hheld, _⟩ := release_pen inv.pens hwin
  unfold setPen
  simp only [getW, get_live hw, bind_ok, hdrop]
  have inv2 := inv.setX_live hw (ps := ps) { getX { st with pens := ps } win with pen := .null } rfl P2
  have b2 : BindsFrom new st (setX { st with pens := ps } win { getX { st with pens := ps } win with pen := .null }) :=
    BindsFrom.upd_sub (st := st) win { getX st win with pen := .null } fun _ h => h
  cases pen with
  | none => exact ⟨_, rfl, inv2, b2⟩
  | some k =>
    obtain ⟨p1, hp1, hf1, _⟩ := heldP_spec (hheld k (hpen k rfl))
    obtain ⟨st', h, inv', b'⟩ :=
      assignPen_ok inv2 (ww := ww) hw (by rw [getX_setX_self (st := { st with pens := ps }) _ hwin]) hp1 hf1
    exact ⟨st', h, inv', b2.trans b'⟩

/-- The terminal of a state between two operations is counted (`term_at_iff`): the library's references and the root
    window's (`n`). -/
theorem SInv.term_at {st : St} (inv : SInv gh st) : ∃ n, ((∃ r, LiveW st.tree 0 r) → n = 1) ∧ ((¬ ∃ r, LiveW st.tree 0 r) → n = 0) ∧
    st.term.At (gh.term + n) ∧ (st.term.freed = true → st.term.appRefs = 0) := by
  have key : ∀ n, ((∃ r, LiveW st.tree 0 r) → n = 1) → ((¬ ∃ r, LiveW st.tree 0 r) → n = 0) →
      st.term.At (gh.term + n) ∧ (st.term.freed = true → st.term.appRefs = 0) := fun n h1 h0 =>
    (term_at_iff h1 h0 st.term).1 ⟨fun hf hr => inv.term_held hf (.inl hr),
      fun hf hr => inv.term_free hf (fun h => hr (h.elim id fun h => nomatch h)),
      fun hf => ⟨fun hr => (inv.term_dead hf).1 (.inl hr), (inv.term_dead hf).2⟩⟩
  by_cases hR : ∃ r, LiveW st.tree 0 r
  · exact ⟨1, fun _ => rfl, fun h => absurd hR h, key 1 (fun _ => rfl) (fun h => absurd hR h)⟩
  · exact ⟨0, fun h => absurd h hR, fun _ => rfl, key 0 (fun h => absurd h hR) (fun _ => rfl)⟩

/-- Another terminal object and other references of the library (`gh'`): what is to be shown is the windows' clauses
    for `gh'` and that the terminal is counted for it. -/
theorem SInv.reghost {gh gh' : Ghost} {st : St} (inv : SInv gh st) (tm : Obj)
    (hw : ∀ (i : Nat) (w : Win), LiveW st.tree i w → w.refcount ≤ ((getX st i).appRefs : Int) + (gh'.win i : Int) ∧
      (gh'.covers i → ((getX st i).appRefs : Int) + (gh'.win i : Int) ≤ w.refcount))
    (hgl : 0 < gh'.win 0 → ∃ r, LiveW st.tree 0 r) {n : Nat}
    (hn1 : (∃ r, LiveW st.tree 0 r) → n = 1) (hn0 : (¬ ∃ r, LiveW st.tree 0 r) → n = 0)
    (H : tm.At (gh'.term + n)) (ha : tm.freed = true → tm.appRefs = 0) : SInv gh' { st with term := tm } := by
  obtain ⟨h1, h2, h3⟩ := (term_at_iff hn1 hn0 tm).2 ⟨H, ha⟩
  refine ⟨{ inv.toSInvB with pens := ⟨inv.pens.rc, inv.pens.ex, inv.pens.pos⟩, term_held := ?_, term_free := ?_, term_dead := ?_ }, hw, hgl⟩
  · intro hf h; exact h1 hf (h.elim id fun h => nomatch h)
  · intro hf h; exact h2 hf (fun h' => h (.inl h'))
  · intro hf; exact ⟨fun h => (h3 hf).1 (h.elim id fun h => nomatch h), (h3 hf).2⟩

/-- `tickit_term_ref` by the application. -/
theorem tref_ok {st : St} (inv : SInv gh st) (h : heldT st = true) :
    SInv gh { st with term := { st.term with appRefs := st.term.appRefs + 1, refcount := st.term.refcount + 1 } } := by
  obtain ⟨hf, _⟩ := heldT_spec h
  obtain ⟨n, hn1, hn0, H, _⟩ := inv.term_at
  exact inv.reghost _ inv.wref inv.glive hn1 hn0 (H.app_ref hf) (fun h' => nomatch hf.symm.trans h')

theorem tunref_ok {st : St} (inv : SInv gh st) (h : heldT st = true) :
    ∃ st' tm, termUnref { st with term := { st.term with appRefs := st.term.appRefs - 1 } } = .ok st' ∧ SInv gh st' ∧
      st' = { st with term := tm } ∧ tm.appRefs + 1 = st.term.appRefs := by
  obtain ⟨hf, hpos⟩ := heldT_spec h
  obtain ⟨n, hn1, hn0, H, _⟩ := inv.term_at
  obtain ⟨hf', hr, H', ha⟩ := (H.rebook hf hpos).unref
  exact ⟨_, _, termUnref_eq hf' hr, inv.reghost _ inv.wref inv.glive hn1 hn0 H' ha, rfl, Nat.sub_add_cancel hpos⟩

theorem SInv.set_simple {st : St} (inv : SInv gh st) (r : Array RBObj) (s : Array StrObj)
    (h : SimpleOk { st with rbs := r, strs := s }) : SInv gh { st with rbs := r, strs := s } :=
  { inv with pens := ⟨inv.pens.rc, inv.pens.ex, inv.pens.pos⟩, simple := h }

theorem get_set_cases {α : Type} {xs : Array α} {k j : Nat} {a b : α} {P : α → Prop} (h : (xs.setIfInBounds k a)[j]? = some b)
    (ha : P a) (hold : ∀ b, xs[j]? = some b → P b) : P b := by
  rw [Array.getElem?_setIfInBounds] at h
  split at h
  · split at h
    · cases h; exact ha
    · cases h
  · exact hold b h

theorem get_push_cases {α : Type} {xs : Array α} {j : Nat} {a b : α} {P : α → Prop} (h : (xs.push a)[j]? = some b)
    (ha : P a) (hold : ∀ b, xs[j]? = some b → P b) : P b := by
  rw [Array.getElem?_push] at h
  split at h
  · cases h; exact ha
  · exact hold b h

theorem SInv.set_rb {st : St} (inv : SInv gh st) (k : Nat) (b' : RBObj)
    (h : b'.freed = false → 1 ≤ b'.refcount ∧ b'.refcount = (b'.appRefs : Int)) :
    SInv gh { st with rbs := st.rbs.setIfInBounds k b' } :=
  inv.set_simple _ st.strs ⟨fun j _ hb => get_set_cases hb h (inv.simple.1 j), inv.simple.2⟩

theorem SInv.set_str {st : St} (inv : SInv gh st) (k : Nat) (s' : StrObj)
    (h : s'.freed = false → 1 ≤ s'.refcount ∧ s'.refcount = (s'.appRefs : Int)) :
    SInv gh { st with strs := st.strs.setIfInBounds k s' } :=
  inv.set_simple st.rbs _ ⟨inv.simple.1, fun j _ hb => get_set_cases hb h (inv.simple.2 j)⟩

theorem SInv.set_penx {st : St} (inv : SInv gh st) (x : Array PenX) : SInv gh { st with penx := x } :=
  { inv with pens := ⟨inv.pens.rc, inv.pens.ex, inv.pens.pos⟩ }

theorem simple_ref {rc : Int} {app : Nat} (h : 1 ≤ rc ∧ rc = app) : 1 ≤ rc + 1 ∧ rc + 1 = ((app + 1 : Nat) : Int) := by omega

theorem simple_unref {rc : Int} {app : Nat} (h : 1 ≤ rc ∧ rc = app) (hne : ¬ rc - 1 = 0) :
    1 ≤ rc - 1 ∧ rc - 1 = ((app - 1 : Nat) : Int) := by omega

theorem sref_ok {st : St} (inv : SInv gh st) {k : Nat} (h : heldS st k = true) :
    ∃ st', strRef { st with strs := st.strs.setIfInBounds k { (st.strs[k]?.getD {}) with appRefs := (st.strs[k]?.getD {}).appRefs + 1 } } k = .ok st' ∧
      SInv gh st' ∧ st'.wx = st.wx := by
  obtain ⟨s, hs, hfs, _, hlt⟩ := heldS_spec h
  have hrc := inv.simple.2 k s hs hfs
  unfold strRef
  simp only [hs, Option.getD_some, Array.getElem?_setIfInBounds_self, hlt, if_true, hfs, Bool.false_eq_true, if_false, pure_ok,
    Array.setIfInBounds_setIfInBounds]
  exact ⟨_, rfl, inv.set_str k _ (fun _ => simple_ref hrc), rfl⟩

theorem sunref_ok {st : St} (inv : SInv gh st) {k : Nat} (h : heldS st k = true) :
    ∃ st', strUnref { st with strs := st.strs.setIfInBounds k { (st.strs[k]?.getD {}) with appRefs := (st.strs[k]?.getD {}).appRefs - 1 } } k = .ok st' ∧
      SInv gh st' ∧ OLater st st' ∧ (st'.strs[k]?.getD {}).appRefs < (st.strs[k]?.getD {}).appRefs := by
  obtain ⟨s, hs, hfs, hpos, hlt⟩ := heldS_spec h
  have hrc := inv.simple.2 k s hs hfs
  unfold strUnref
  simp only [hs, Option.getD_some, Array.getElem?_setIfInBounds_self, hlt, if_true, hfs, Bool.false_eq_true, if_false]
  split
  · rename_i hgt
    simp only [pure_ok, Array.setIfInBounds_setIfInBounds]
    refine ⟨_, rfl, inv.set_str k _ (fun _ => simple_unref hrc (by show ¬ s.refcount - 1 = 0; omega)), OLater.of_str h _, ?_⟩
    · simp only [Array.getElem?_setIfInBounds_self, hlt, if_true, Option.getD_some]
      exact Nat.sub_lt hpos Nat.one_pos
  · simp only [pure_ok, Array.setIfInBounds_setIfInBounds]
    refine ⟨_, rfl, inv.set_str k _ (fun h => by cases h), OLater.of_str h _, ?_⟩
    simp only [Array.getElem?_setIfInBounds_self, hlt, if_true, Option.getD_some]
    exact Nat.sub_lt hpos Nat.one_pos

theorem bref_ok {st : St} (inv : SInv gh st) {k : Nat} (h : heldB st k = true) :
    ∃ st', rbRef { st with rbs := st.rbs.setIfInBounds k { (st.rbs[k]?.getD {}) with appRefs := (st.rbs[k]?.getD {}).appRefs + 1 } } k = .ok st' ∧
      SInv gh st' ∧ st'.wx = st.wx := by
  obtain ⟨b, hb, hfb, _, hlt⟩ := heldB_spec h
  have hrc := inv.simple.1 k b hb hfb
  unfold rbRef
  simp only [hb, Option.getD_some, Array.getElem?_setIfInBounds_self, hlt, if_true, hfb, Bool.false_eq_true, if_false, pure_ok,
    Array.setIfInBounds_setIfInBounds]
  exact ⟨_, rfl, inv.set_rb k _ (fun _ => simple_ref hrc), rfl⟩

theorem bunref_ok {st : St} (inv : SInv gh st) {k : Nat} (h : heldB st k = true) :
    ∃ st', rbUnref { st with rbs := st.rbs.setIfInBounds k { (st.rbs[k]?.getD {}) with appRefs := (st.rbs[k]?.getD {}).appRefs - 1 } } k = .ok st' ∧
      SInv gh st' ∧ OLater st st' ∧ (st'.rbs[k]?.getD {}).appRefs < (st.rbs[k]?.getD {}).appRefs := by
  obtain ⟨b, hb, hfb, hpos, hlt⟩ := heldB_spec h
  have hrc := inv.simple.1 k b hb hfb
  have hge : ¬ b.refcount < 1 := Int.not_lt.2 hrc.1
  unfold rbUnref
  simp only [hb, Option.getD_some, Array.getElem?_setIfInBounds_self, hlt, if_true, hfb, Bool.false_eq_true, if_false, hge, pure_ok,
    Array.setIfInBounds_setIfInBounds]
  refine ⟨_, rfl, inv.set_rb k _ (fun hf' => ?_), OLater.of_rb h _, ?_⟩
  · by_cases hz : b.refcount - 1 = 0
    · simp [hz] at hf'
    · simp only [hz, if_false]
      exact simple_unref hrc hz
  · simp only [Array.getElem?_setIfInBounds_self, hlt, if_true, Option.getD_some]
    split <;> exact Nat.sub_lt hpos Nat.one_pos

theorem rbUpd_ok {st : St} (inv : SInv gh st) (k : Nat) (f : RBObj → Out RBObj)
    (hf : ∀ b, ∃ b', f b = .ok b' ∧ b'.freed = b.freed ∧ b'.refcount = b.refcount ∧ b'.appRefs = b.appRefs) :
    ∃ st' r, rbUpd st k f = .ok (st', r) ∧ SInv gh st' ∧ st'.wx = st.wx := by
  unfold rbUpd
  by_cases hh : heldB st k = true
  · obtain ⟨b, hb, hfb, _⟩ := heldB_spec hh
    simp only [hh, Bool.not_true, Bool.false_eq_true, if_false, hb, Option.getD_some]
    obtain ⟨b', hfb', h1, h2, h3⟩ := hf b
    simp only [hfb', bind_ok, pure_ok]
    exact ⟨_, _, rfl, inv.set_rb k b' (fun h => by rw [h2, h3]; exact inv.simple.1 k b hb (by rw [← h1]; exact h)), rfl⟩
  · simp only [hh, Bool.not_false, if_true, skipR, pure_ok]
    exact ⟨_, _, rfl, inv, rfl⟩

theorem SInv.init (lines cols : Int) (hgt : gh.term = 0) (hgw : gh.win 0 = 0) :
    SInv gh ({ tree := { wins := #[({ rect := ⟨0, 0, lines, cols⟩, isRoot := true } : Win)], root := {} }, wx := #[{}], term := { refcount := 2 } } : St) := by
  have hget : ∀ (i : Nat) (w : Win), (#[({ rect := ⟨0, 0, lines, cols⟩, isRoot := true } : Win)])[i]? = some w →
      i = 0 ∧ w = { rect := ⟨0, 0, lines, cols⟩, isRoot := true } := by
    intro i w h
    cases i with
    | zero => exact ⟨rfl, (Option.some.inj h).symm⟩
    | succ n => cases h
  have hlive : ∀ (i : Nat) (w : Win), LiveW ({ wins := #[({ rect := ⟨0, 0, lines, cols⟩, isRoot := true } : Win)], root := {} } : Tree) i w →
      i = 0 ∧ w = { rect := ⟨0, 0, lines, cols⟩, isRoot := true } := fun i w h => hget i w h.1
  have tinv : TInv ({ wins := #[({ rect := ⟨0, 0, lines, cols⟩, isRoot := true } : Win)], root := {} } : Tree) := by
    refine .of_parts ⟨{ rect := ⟨0, 0, lines, cols⟩, isRoot := true }, rfl, rfl, rfl⟩ (fun i w h _ => (hget i w h).1) ⟨?_, ?_⟩
      (fun i w hl => ?_) (fun _ h => nomatch h) (fun _ h => nomatch h)
    · intro c cw hl p hp; obtain ⟨_, rfl⟩ := hlive c cw hl; cases hp
    · intro p pw hl c hc; obtain ⟨_, rfl⟩ := hlive p pw hl; cases hc
    · obtain ⟨_, rfl⟩ := hlive i w hl; exact ⟨List.nodup_nil, fun _ => rfl, fun _ h => nomatch h⟩
  have hroot : ∃ r, LiveW ({ wins := #[({ rect := ⟨0, 0, lines, cols⟩, isRoot := true } : Win)], root := {} } : Tree) 0 r :=
    ⟨{ rect := ⟨0, 0, lines, cols⟩, isRoot := true }, rfl, rfl⟩
  refine ⟨⟨tinv, rfl, ?_, List.nodup_nil, by intro i hi; simp at hi, ?_, ⟨?_, ?_, ?_⟩, ?_, ?_, ?_, ?_⟩, ?_, fun _ => hroot⟩
  · intro i w hl; obtain ⟨_, rfl⟩ := hlive i w hl; exact Int.le_refl 1
  · intro i w h hf _; obtain ⟨_, rfl⟩ := hget i w h; cases hf
  · intro k p hk; simp at hk
  · intro k _; simp [holders]
  · intro k p hk; simp at hk
  · intro _ _; show (2 : Int) = ((1 : Nat) : Int) + (gh.term : Int) + 1; rw [hgt]; rfl
  · intro _ h; exact absurd (.inl hroot) h
  · intro h; cases h
  · exact ⟨by intro k b hb; simp at hb, by intro k b hb; simp at hb⟩
  · intro i w hl; obtain ⟨rfl, rfl⟩ := hlive i w hl
    refine ⟨?_, fun _ => ?_⟩
    · show (1 : Int) ≤ ((1 : Nat) : Int) + (gh.win 0 : Int); omega
    · show ((1 : Nat) : Int) + (gh.win 0 : Int) ≤ 1; rw [hgw]; decide

end Tickit.Life
