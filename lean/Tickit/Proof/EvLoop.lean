import Tickit.Proof.EvLoopState
/-
  C17 / C18 (engine `evloop`).  The timer queue invariant `QInv`: addresses are allocated, and the queue is strictly
  increasing in the key (deadline, allocation number) — deadline order, equal deadlines in registration order.
  `Grow` (heap extended, deadlines and queue untouched) is a `Frame` relation, `Pres` (queue invariant kept, only fresh
  timers enter) a `Closed` one (Proof/EvLoopStep.lean), so every operation of the model preserves `QInv`; from the two
  timer loops taken round by round, which timers fired and in which order.

  `Grow`, `G2` (Proof/EvLoopSig.lean), `G3` (Proof/EvLoopKInv.lean), `G4` (Proof/EvLoopWF.lean) are one shape, one per
  invariant: the heap is extended, old watches keep the fields the invariant reads (`HeapExt`, `HExt2`, `HExt3`, `H4`: the
  heap part of each), its lists are untouched.  A leaf lemma
  concludes the `G` relation whenever the step leaves those lists alone and is lifted by `.pres` / `.step` / `.kstep` /
  `.lstep`; only the steps that write them are stated for `Pres` / `SigStep` / `KStep` / `LStep` themselves.
-/
namespace Tickit.EvLoop

theorem TV.gt_iff (a b : TV) : a.gt b = true ↔ (a.sec > b.sec ∨ (a.sec = b.sec ∧ a.usec > b.usec)) := by
  unfold TV.gt
  simp only [Bool.or_eq_true, Bool.and_eq_true, decide_eq_true_eq, beq_iff_eq]

theorem TV.not_gt_iff (a b : TV) : a.gt b = false ↔ (a.sec < b.sec ∨ (a.sec = b.sec ∧ a.usec ≤ b.usec)) := by
  rw [← Bool.not_eq_true, TV.gt_iff]
  omega

theorem TV.gt_irrefl (a : TV) : a.gt a = false := by
  rw [TV.not_gt_iff]; omega

theorem TV.gt_trans {a b c : TV} (h1 : a.gt b = true) (h2 : b.gt c = true) : a.gt c = true := by
  rw [TV.gt_iff] at *; omega

theorem TV.gt_asymm {a b : TV} (h : a.gt b = true) : b.gt a = false := by
  rw [TV.gt_iff] at h; rw [TV.not_gt_iff]; omega

theorem TV.gt_of_gt_of_not_gt {a b c : TV} (h1 : c.gt b = true) (h2 : a.gt b = false) : c.gt a = true := by
  rw [TV.gt_iff] at *; rw [TV.not_gt_iff] at h2; omega

theorem TV.not_gt_trans {a b c : TV} (h1 : a.gt b = false) (h2 : b.gt c = false) : a.gt c = false := by
  rw [TV.not_gt_iff] at *; omega

theorem TV.eq_of_not_gt_not_gt {a b : TV} (h1 : a.gt b = false) (h2 : b.gt a = false) : a = b := by
  rw [TV.not_gt_iff] at *
  cases a; cases b; simp only [TV.mk.injEq] at *; omega

theorem TV.trichotomy (a b : TV) : a.gt b = true ∨ a = b ∨ b.gt a = true := by
  cases h1 : a.gt b
  · cases h2 : b.gt a
    · exact Or.inr (Or.inl (TV.eq_of_not_gt_not_gt h1 h2))
    · exact Or.inr (Or.inr rfl)
  · exact Or.inl rfl

def dueOf (st : St) (a : Nat) : TV := (st.getW a).due

def keyLt (st : St) (a b : Nat) : Prop :=
  (dueOf st b).gt (dueOf st a) = true ∨ (dueOf st a = dueOf st b ∧ a < b)

structure QInv (st : St) : Prop where
  alloc : ∀ a ∈ st.timers, a < st.heap.length
  ordered : st.timers.Pairwise (keyLt st)

theorem insTimer_spec (st : St) (new : Nat) (due : TV) :
    ∀ (l l' : List Nat), insTimer st new due l = some l' →
      ∃ pre post, l = pre ++ post ∧ l' = pre ++ new :: post ∧
        (∀ a ∈ pre, (dueOf st a).gt due = false) ∧
        (∀ b, post.head? = some b → (dueOf st b).gt due = true) := by
  intro l
  induction l with
  | nil =>
    intro l' h
    simp only [insTimer, Option.some.injEq] at h
    subst h
    exact ⟨[], [], rfl, rfl, by simp, by simp⟩
  | cons a rest ih =>
    intro l' h
    simp only [insTimer] at h
    split at h
    · cases h
    · split at h
      · rename_i hgt
        simp only [Option.some.injEq] at h
        subst h
        refine ⟨[], a :: rest, rfl, rfl, by simp, ?_⟩
        intro b hb
        simp only [List.head?_cons, Option.some.injEq] at hb
        subst hb
        exact hgt
      · rename_i hgt
        cases hr : insTimer st new due rest with
        | none => rw [hr] at h; cases h
        | some r =>
          rw [hr] at h
          simp only [Option.map_some, Option.some.injEq] at h
          subst h
          obtain ⟨pre, post, h1, h2, h3, h4⟩ := ih r hr
          refine ⟨a :: pre, post, by rw [h1]; rfl, by rw [h2]; rfl, ?_, h4⟩
          intro x hx
          simp only [List.mem_cons] at hx
          cases hx with
          | inl h => subst h; simpa [dueOf] using hgt
          | inr h => exact h3 x h

/-- `new` is a fresh, hence largest, address: landing after the members with an *equal* deadline keeps the key order. -/
theorem insTimer_ordered (st : St) (new : Nat) (due : TV) (l l' : List Nat)
    (hnew : dueOf st new = due) (hfresh : ∀ a ∈ l, a < new)
    (hord : l.Pairwise (keyLt st)) (h : insTimer st new due l = some l') :
    l'.Pairwise (keyLt st) := by
  obtain ⟨pre, post, h1, h2, h3, h4⟩ := insTimer_spec st new due l l' h
  subst h1 h2
  rw [List.pairwise_append] at hord ⊢
  obtain ⟨hpre, hpost, hcross⟩ := hord
  refine ⟨hpre, ?_, ?_⟩
  · rw [List.pairwise_cons]
    refine ⟨?_, hpost⟩
    intro b hb
    left
    rw [hnew]
    cases post with
    | nil => cases hb
    | cons p ps =>
      have hp : (dueOf st p).gt due = true := h4 p rfl
      simp only [List.mem_cons] at hb
      cases hb with
      | inl h => subst h; exact hp
      | inr h =>
        rw [List.pairwise_cons] at hpost
        have := hpost.1 b h
        cases this with
        | inl hlt => exact TV.gt_trans hlt hp
        | inr heq => rw [← heq.1]; exact hp
  · intro a ha b hb
    simp only [List.mem_cons] at hb
    cases hb with
    | inr hb => exact hcross a ha b hb
    | inl hb =>
      subst hb
      have hle := h3 a ha
      have hlt : a < b := hfresh a (List.mem_append_left _ ha)
      rw [← hnew] at hle
      cases TV.trichotomy (dueOf st b) (dueOf st a) with
      | inl h => exact Or.inl h
      | inr h =>
        cases h with
        | inl h => exact Or.inr ⟨h.symm, hlt⟩
        | inr h => rw [h] at hle; cases hle

theorem insTimer_mem (st : St) (new : Nat) (due : TV) (l l' : List Nat)
    (h : insTimer st new due l = some l') : ∀ x, x ∈ l' ↔ (x = new ∨ x ∈ l) := by
  obtain ⟨pre, post, h1, h2, _, _⟩ := insTimer_spec st new due l l' h
  subst h1 h2
  intro x
  simp only [List.mem_append, List.mem_cons]
  constructor
  · rintro (h | h | h)
    · exact Or.inr (Or.inl h)
    · exact Or.inl h
    · exact Or.inr (Or.inr h)
  · rintro (h | h | h)
    · exact Or.inr (Or.inl h)
    · exact Or.inl h
    · exact Or.inr (Or.inr h)

structure HeapExt (st st' : St) : Prop where
  len : st.heap.length ≤ st'.heap.length
  due : ∀ a, a < st.heap.length → dueOf st' a = dueOf st a

theorem HeapExt.refl (st : St) : HeapExt st st := ⟨Nat.le_refl _, fun _ _ => rfl⟩

theorem HeapExt.trans {a b c : St} (h1 : HeapExt a b) (h2 : HeapExt b c) : HeapExt a c :=
  ⟨Nat.le_trans h1.len h2.len, fun x hx => by rw [h2.due x (Nat.lt_of_lt_of_le hx h1.len), h1.due x hx]⟩

theorem HeapExt.of_heap_eq {st st' : St} (h : st'.heap = st.heap) : HeapExt st st' :=
  ⟨by rw [h]; exact Nat.le_refl _, fun a _ => by unfold dueOf St.getW; rw [h]⟩

structure Grow (st st' : St) : Prop where
  ext : HeapExt st st'
  timers : st'.timers = st.timers

theorem Grow.refl (st : St) : Grow st st := ⟨HeapExt.refl st, rfl⟩
theorem Grow.trans {a b c : St} (h1 : Grow a b) (h2 : Grow b c) : Grow a c :=
  ⟨h1.ext.trans h2.ext, by rw [h2.timers, h1.timers]⟩
theorem Grow.of_eq {st st' : St} (hh : st'.heap = st.heap) (ht : st'.timers = st.timers) : Grow st st' :=
  ⟨HeapExt.of_heap_eq hh, ht⟩
theorem Still.grow {st st' : St} (h : Still st st') : Grow st st' := .of_eq h.same.heap h.same.timers

theorem keyLt_ext {st st' : St} (h : HeapExt st st') {a b : Nat} (ha : a < st.heap.length) (hb : b < st.heap.length) :
    keyLt st' a b ↔ keyLt st a b := by
  unfold keyLt
  rw [h.due a ha, h.due b hb]

theorem QInv.of_sublist {st st' : St} (q : QInv st) (h : HeapExt st st') (hs : st'.timers.Sublist st.timers) : QInv st' := by
  have hmem : ∀ a ∈ st'.timers, a ∈ st.timers := fun a ha => hs.subset ha
  refine ⟨fun a ha => Nat.lt_of_lt_of_le (q.alloc a (hmem a ha)) h.len, ?_⟩
  have := List.Pairwise.sublist hs q.ordered
  refine List.Pairwise.imp_of_mem ?_ this
  intro a b ha hb hab
  exact (keyLt_ext h (q.alloc a (hmem a ha)) (q.alloc b (hmem b hb))).mpr hab

theorem QInv.grow {st st' : St} (q : QInv st) (g : Grow st st') : QInv st' :=
  q.of_sublist g.ext (by rw [g.timers]; exact List.Sublist.refl _)

theorem dueOf_alloc_old (st : St) (w : Watch) (a : Nat) (h : a < st.heap.length) :
    dueOf (st.alloc w).1 a = dueOf st a := congrArg Watch.due (getW_alloc_old st w a h)

theorem dueOf_alloc_new (st : St) (w : Watch) : dueOf (st.alloc w).1 (st.alloc w).2 = w.due :=
  congrArg Watch.due (getW_alloc_new st w)

theorem grow_alloc (st : St) (w : Watch) : Grow st (st.alloc w).1 :=
  ⟨⟨by rw [alloc_len]; omega, fun a ha => dueOf_alloc_old st w a ha⟩, rfl⟩

theorem grow_setW (st : St) (a : Nat) (w : Watch) (hd : w.due = (st.getW a).due) : Grow st (st.setW a w) := by
  refine ⟨⟨by rw [St.length_setW]; exact Nat.le_refl _, ?_⟩, rfl⟩
  intro b hb
  unfold dueOf
  by_cases hab : a = b
  · subst hab
    rw [St.getW_setW_self st a w hb, hd]
  · rw [St.getW_setW_ne st a b w hab]

theorem grow_base : Base Grow := .ofStill Grow.refl Grow.trans Still.grow

theorem Grow.of_sameSig {st st' : St} (h : SameSig st st') : Grow st st' := Grow.of_eq h.heap h.timers

theorem grow_frame : Frame Grow (fun w w' => w'.due = w.due) (· = .timer) where
  toBase := grow_base
  alloc := grow_alloc
  setW := grow_setW
  setList := fun st t l h => by cases t <;> first | exact Grow.of_eq rfl rfl | exact absurd rfl h
  evloopIo := fun st fd cond w => by unfold evloopIo; split <;> exact Grow.of_eq rfl rfl
  evloopCancelIo := fun _ _ => Grow.of_eq rfl rfl

theorem grow_admits : Admits (fun w w' => w'.due = w.due) :=
  ⟨fun _ => rfl, fun _ _ => rfl, fun _ _ => rfl, fun _ _ => rfl, fun _ => rfl, fun _ _ => rfl⟩

theorem grow_free (st : St) (a : Nat) : Grow st (st.free a) := grow_frame.free grow_admits.freed st a

theorem grow_with_laters (st : St) (l : List Nat) : Grow st { st with laters := l } := Grow.of_eq rfl rfl

theorem grow_watchIo (st : St) (fd : Int) (cond flags : Nat) (slot : Int) : Grow st (watchIo st fd cond flags slot).1 :=
  grow_frame.watchIo (by decide) grow_admits.evi st fd cond flags slot

theorem grow_watchSignal (st : St) (signum : Int) (flags : Nat) (slot : Int) :
    Grow st (watchSignal st signum flags slot).1 :=
  grow_frame.watchSignal (by decide) (fun st s => .of_sameSig (sameSig_evloopSignal st s)) grow_admits.evi st signum flags slot

theorem grow_watchProcess (st : St) (pid : Int) (flags : Nat) (slot : Int) :
    Grow st (watchProcess st pid flags slot).1 :=
  grow_frame.watchProcess (by decide) (by decide) (fun st => grow_watchSignal st _ _ _) grow_admits.notify grow_admits.wstatus
    st pid flags slot

structure Pres (st st' : St) : Prop where
  ext : HeapExt st st'
  qinv : QInv st → QInv st'
  mem : ∀ a ∈ st'.timers, a ∈ st.timers ∨ st.heap.length ≤ a

theorem Pres.refl (st : St) : Pres st st := ⟨HeapExt.refl st, id, fun _ h => Or.inl h⟩
theorem Pres.trans {a b c : St} (h1 : Pres a b) (h2 : Pres b c) : Pres a c :=
  ⟨h1.ext.trans h2.ext, fun q => h2.qinv (h1.qinv q), fun x hx => by
    cases h2.mem x hx with
    | inl h => exact h1.mem x h
    | inr h => exact Or.inr (Nat.le_trans h1.ext.len h)⟩
theorem Grow.pres {st st' : St} (g : Grow st st') : Pres st st' :=
  ⟨g.ext, fun q => q.grow g, fun a h => Or.inl (by rw [g.timers] at h; exact h)⟩

theorem keyLt_with_timers (st : St) (l : List Nat) (a b : Nat) : keyLt { st with timers := l } a b ↔ keyLt st a b := Iff.rfl

theorem pres_watchTimerAt (st : St) (due : TV) (flags : Nat) (slot : Int) :
    Pres st (watchTimerAt st due flags slot).1 := by
  unfold watchTimerAt
  simp only []
  have g := grow_alloc st { type := .timer, flags := flags &&& (BIND_UNBIND ||| BIND_DESTROY), slot := slot, due := due }
  have hnew := dueOf_alloc_new st { type := .timer, flags := flags &&& (BIND_UNBIND ||| BIND_DESTROY), slot := slot, due := due }
  have hlen := alloc_len st { type := .timer, flags := flags &&& (BIND_UNBIND ||| BIND_DESTROY), slot := slot, due := due }
  rw [alloc_snd] at hnew
  generalize (st.alloc { type := .timer, flags := flags &&& (BIND_UNBIND ||| BIND_DESTROY), slot := slot, due := due }).1 = s1 at *
  split
  · rename_i l hl
    refine ⟨g.ext.trans (HeapExt.of_heap_eq rfl), ?_, ?_⟩
    · intro q
      have q1 : QInv s1 := q.grow g
      have hfresh : ∀ x ∈ s1.timers, x < st.heap.length := by
        intro x hx; rw [g.timers] at hx; exact q.alloc x hx
      refine ⟨?_, ?_⟩
      · intro x hx
        have := (insTimer_mem s1 _ _ _ _ hl x).mp hx
        show x < s1.heap.length
        rw [hlen]
        cases this with
        | inl h => omega
        | inr h => have := hfresh x h; omega
      · exact insTimer_ordered s1 _ due _ l hnew hfresh q1.ordered hl
    · intro x hx
      have := (insTimer_mem s1 _ _ _ _ hl x).mp hx
      cases this with
      | inl h => exact Or.inr (by omega)
      | inr h => rw [g.timers] at h; exact Or.inl h
  · exact (g.trans (grow_base.fail _ _)).pres

theorem pres_with_timers_sublist (st : St) (l : List Nat) (h : l.Sublist st.timers) : Pres st { st with timers := l } :=
  ⟨HeapExt.of_heap_eq rfl, fun q => q.of_sublist (HeapExt.of_heap_eq rfl) h, fun _ hx => Or.inl (h.subset hx)⟩

theorem pres_setListOf_erase (st : St) (t : WType) (l : List Nat) (a : Nat) (hl : l = listOf st t) :
    Pres st (setListOf st t (l.erase a)) := by
  subst hl
  by_cases ht : t = .timer
  · subst ht; exact pres_with_timers_sublist st _ List.erase_sublist
  · exact (grow_frame.setList st t _ ht).pres

theorem grow_cancelHook (st : St) (t : WType) (evi : Nat) : Grow st (cancelHook st t evi) :=
  grow_frame.cancelHook st t evi fun _ => .of_sameSig (sameSig_evloopCancelSignal st evi)

theorem pres_cancelFound (st : St) (a : Nat) (w : Watch) (l : List Nat) (hl : l = listOf st w.type) :
    Pres st (cancelFound st a w l) := by
  unfold cancelFound
  exact (pres_setListOf_erase st w.type l a hl).trans
    ((((grow_base.cancelNotify _ a w).trans (grow_cancelHook _ w.type w.evi)).trans (grow_free _ a)).trans
      (grow_base.cancelRest _ _)).pres

theorem pres_unlinkFound (st : St) (a : Nat) (t : WType) : Pres st (unlinkFound st a t) :=
  (pres_setListOf_erase st t _ a rfl).trans
    ((grow_setW _ a _ (by rw [getW_setListOf])).trans (grow_free _ a)).pres

theorem pres_closed : Closed Pres where
  toBase := .ofStill Pres.refl Pres.trans fun h => h.grow.pres
  watchTimerAt := pres_watchTimerAt
  watchLater := fun st f k p => (grow_frame.watchLater (by decide) st f k p).pres
  watchIo := fun st fd c f k => (grow_watchIo st fd c f k).pres
  watchSignal := fun st sg f k _ => (grow_watchSignal st sg f k).pres
  watchProcess := fun st pid f k => (grow_watchProcess st pid f k).pres
  cancelDetached := fun st a _ => (grow_frame.cancelDetached grow_admits.typeNone st a).pres
  cancelFound := fun st a _ => pres_cancelFound st a _ _ rfl
  unlinkFound := fun st a t _ _ _ _ => pres_unlinkFound st a t
  clearNotify := fun st a => (grow_frame.clearNotify grow_admits.notify st a).pres
  harness := fun _ _ _ => Grow.pres (.of_eq rfl rfl)

theorem grow_with_cancelReq (st : St) (l : List Int) : Grow st { st with cancelReq := l } := Grow.of_eq rfl rfl

/-- The order of the queue, `keyLt`, on what the loops report. -/
def Fired.lt (x y : Fired) : Prop := y.due.gt x.due = true ∨ (x.due = y.due ∧ x.a < y.a)

theorem pres_pop (st : St) (a : Nat) (rest : List Nat) (h : st.timers = a :: rest) :
    Pres st { st with timers := rest } :=
  pres_with_timers_sublist st rest (h ▸ List.sublist_cons_self a rest)

theorem pres_timers : TimerLeaves Pres where
  free := fun st a => (grow_free st a).pres
  pop := pres_pop
  suffix := fun st o => pres_with_timers_sublist st _ (suffixFrom_sublist o _)
  detach := fun st => (grow_with_laters st []).pres
  laterPre := fun st a => (grow_frame.laterPre grow_admits.flags st a).pres

theorem QInv.head_min {st : St} (q : QInv st) {a : Nat} {rest : List Nat} (h : st.timers = a :: rest) :
    ∀ b ∈ rest, keyLt st a b := by
  have := q.ordered
  rw [h, List.pairwise_cons] at this
  exact this.1

/-- One round of the repaired loop up to the `free`: the head `a` is unlinked, then its callback runs. -/
def popFire (st : St) (a : Nat) (rest : List Nat) : St :=
  fireUser { st with timers := rest } (st.getW a).slot (EV_FIRE ||| EV_UNBIND) .none

theorem timerLoopPopT_succ (n : Nat) (st : St) (now : TV) :
    (∃ s', timerLoopPopT (n + 1) st now = (s', []) ∧ Same st s' ∧
        (s'.status = .ok → s' = st ∧ ∀ a rest, st.timers = a :: rest → (st.getW a).due.gt now = true)) ∨
    (∃ a rest, st.timers = a :: rest ∧ (st.getW a).due.gt now = false ∧
      ((∃ s', timerLoopPopT (n + 1) st now = (s', [⟨a, (st.getW a).slot, (st.getW a).due⟩]) ∧
          Same (popFire st a rest) s' ∧ s'.status ≠ .ok) ∨
        timerLoopPopT (n + 1) st now =
          ((timerLoopPopT n ((popFire st a rest).free a) now).1,
           ⟨a, (st.getW a).slot, (st.getW a).due⟩ :: (timerLoopPopT n ((popFire st a rest).free a) now).2))) := by
  generalize hres : timerLoopPopT (n + 1) st now = res
  rw [timerLoopPopT] at hres
  rcases ite_eq_cases hres with ⟨h, rfl⟩ | ⟨_, hres⟩
  · exact Or.inl ⟨st, rfl, .refl st, fun hok => St.not_ok_absurd h hok⟩
  split at hres
  · rename_i hq
    subst hres
    exact Or.inl ⟨st, rfl, .refl st, fun _ => ⟨rfl, fun a rest h => by rw [hq] at h; cases h⟩⟩
  · rename_i a rest hq
    rcases ite_eq_cases hres with ⟨_, rfl⟩ | ⟨_, hres⟩
    · exact Or.inl ⟨_, rfl, same_fail _ _, fun hok => absurd hok (St.status_fail_ne _ _)⟩
    rcases ite_eq_cases hres with ⟨hgt, rfl⟩ | ⟨hgt, hres⟩
    · refine Or.inl ⟨st, rfl, .refl st, fun _ => ⟨rfl, fun a' rest' h => ?_⟩⟩
      rw [hq] at h; cases h; exact hgt
    refine Or.inr ⟨a, rest, hq, by simpa using hgt, ?_⟩
    rcases ite_eq_cases hres with ⟨hbad, rfl⟩ | ⟨_, hres⟩
    · exact Or.inl ⟨_, rfl, .refl _, fun hok => St.not_ok_absurd hbad hok⟩
    rcases ite_eq_cases hres with ⟨_, rfl⟩ | ⟨_, rfl⟩
    · exact Or.inl ⟨_, rfl, same_fail _ _, St.status_fail_ne _ _⟩
    · exact Or.inr rfl

theorem pres_popFire' (st : St) (a : Nat) (rest : List Nat) : Pres { st with timers := rest } ((popFire st a rest).free a) :=
  (pres_closed.fireUser _ _ _ _).trans (grow_free _ a).pres

theorem pres_popFire (st : St) (a : Nat) (rest : List Nat) (hq : st.timers = a :: rest) :
    Pres st ((popFire st a rest).free a) :=
  (pres_pop st a rest hq).trans (pres_popFire' st a rest)

theorem timerLoopPopT_never_early (fuel : Nat) : ∀ (st : St) (now : TV),
    ∀ f ∈ (timerLoopPopT fuel st now).2, f.due.gt now = false := by
  induction fuel with
  | zero => intro st now f hf; simp [timerLoopPopT] at hf
  | succ n ih =>
    intro st now f hf
    rcases timerLoopPopT_succ n st now with ⟨s', h, -⟩ | ⟨a, rest, -, hd, ⟨s', h, -⟩ | h⟩ <;> rw [h] at hf
    · cases hf
    · simp only [List.mem_singleton] at hf; subst hf; exact hd
    · simp only [List.mem_cons] at hf
      rcases hf with rfl | hf
      · exact hd
      · exact ih _ _ f hf

/-- The loop as shipped reads `a->next` after the callback of `a`. -/
theorem timerLoopT_succ (n : Nat) (st : St) (now : TV) (this : Option Nat) :
    (timerLoopT (n + 1) st now this).2.2 = [] ∨
    ∃ a, this = some a ∧ (st.getW a).due.gt now = false ∧
      ((timerLoopT (n + 1) st now this).2.2 = [⟨a, (st.getW a).slot, (st.getW a).due⟩] ∨
       (timerLoopT (n + 1) st now this).2.2 =
        ⟨a, (st.getW a).slot, (st.getW a).due⟩ ::
          (timerLoopT n ((fireUser st (st.getW a).slot (EV_FIRE ||| EV_UNBIND) .none).free a) now
            (succOf a (fireUser st (st.getW a).slot (EV_FIRE ||| EV_UNBIND) .none).timers)).2.2) := by
  generalize hr : timerLoopT n = r
  generalize hres : timerLoopT (n + 1) st now this = res
  unfold timerLoopT at hres
  rcases ite_eq_cases hres with ⟨_, rfl⟩ | ⟨_, hres⟩
  · exact Or.inl rfl
  split at hres
  · subst hres; exact Or.inl rfl
  · rename_i a _
    rcases ite_eq_cases hres with ⟨_, rfl⟩ | ⟨_, hres⟩
    · exact Or.inl rfl
    rcases ite_eq_cases hres with ⟨_, rfl⟩ | ⟨hgt, hres⟩
    · exact Or.inl rfl
    refine Or.inr ⟨a, rfl, by simpa using hgt, ?_⟩
    rcases ite_eq_cases hres with ⟨_, rfl⟩ | ⟨_, hres⟩
    · exact Or.inl rfl
    rcases ite_eq_cases hres with ⟨_, rfl⟩ | ⟨_, rfl⟩
    · exact Or.inl rfl
    · subst hr; exact Or.inr rfl

theorem timerLoopT_never_early (fuel : Nat) : ∀ (st : St) (now : TV) (this : Option Nat),
    ∀ f ∈ (timerLoopT fuel st now this).2.2, f.due.gt now = false := by
  induction fuel with
  | zero => intro st now this f hf; simp [timerLoopT] at hf
  | succ n ih =>
    intro st now this f hf
    rcases timerLoopT_succ n st now this with h | ⟨a, -, hd, h | h⟩ <;> rw [h] at hf
    · cases hf
    · simp only [List.mem_singleton] at hf; subst hf; exact hd
    · simp only [List.mem_cons] at hf
      rcases hf with rfl | hf
      · exact hd
      · exact ih _ _ _ f hf

theorem timerLoopPopT_none_due (fuel : Nat) : ∀ (st : St) (now : TV), QInv st →
    (timerLoopPopT fuel st now).1.status = .ok →
    ∀ b ∈ (timerLoopPopT fuel st now).1.timers, (dueOf (timerLoopPopT fuel st now).1 b).gt now = true := by
  induction fuel with
  | zero =>
    intro st now _ hok
    unfold timerLoopPopT at hok
    simp only [] at hok
    split at hok
    · cases hok
    · rename_i h
      exact absurd ((St.isOk_iff st).mpr hok) h
  | succ n ih =>
    intro st now q
    rcases timerLoopPopT_succ n st now with ⟨s', h, -, hs⟩ | ⟨a, rest, hq, -, ⟨s', h, -, hs⟩ | h⟩ <;> rw [h]
    · -- stopped: every queued timer is behind a head that is not due
      intro hok b hb
      obtain ⟨rfl, hh⟩ := hs hok
      cases hq : s'.timers with
      | nil => rw [hq] at hb; cases hb
      | cons a rest =>
        have hgt := hh a rest hq
        rw [hq] at hb
        simp only [List.mem_cons] at hb
        rcases hb with rfl | hb
        · exact hgt
        · rcases q.head_min hq b hb with hlt | heq
          · exact TV.gt_trans hlt hgt
          · unfold dueOf at heq ⊢; rw [← heq.1]; exact hgt
    · intro hok; exact absurd hok hs
    · exact ih _ _ ((pres_popFire st a rest hq).qinv q)

theorem timerLoopPopT_trace (fuel : Nat) : ∀ (st : St) (now : TV), QInv st →
    (∀ f ∈ (timerLoopPopT fuel st now).2, f.a ∈ st.timers ∨ st.heap.length ≤ f.a) ∧
    (∀ f ∈ (timerLoopPopT fuel st now).2, f.a ∈ st.timers → f.due = dueOf st f.a) ∧
    (timerLoopPopT fuel st now).2.Pairwise (fun x y => y.a ∈ st.timers → Fired.lt x y) := by
  induction fuel with
  | zero => intro st now _; simp [timerLoopPopT]
  | succ n ih =>
    intro st now q
    rcases timerLoopPopT_succ n st now with ⟨s', h, -⟩ | ⟨a, rest, hq, -, hh⟩
    · rw [h]; simp
    · have ha : a ∈ st.timers := by rw [hq]; exact List.mem_cons_self
      rcases hh with ⟨s', h, -⟩ | h <;> rw [h]
      · refine ⟨?_, ?_, List.pairwise_singleton _ _⟩
        · intro f hf; simp only [List.mem_singleton] at hf; subst hf; exact Or.inl ha
        · intro f hf _; simp only [List.mem_singleton] at hf; subst hf; rfl
      · have p0 := pres_popFire' st a rest
        have p := pres_popFire st a rest hq
        generalize (popFire st a rest).free a = s2 at p0 p ⊢
        obtain ⟨hC, hD, hB⟩ := ih s2 now (p.qinv q)
        have still : ∀ f ∈ (timerLoopPopT n s2 now).2, f.a ∈ st.timers → f.a ∈ s2.timers ∧ f.a ∈ rest := by
          intro f hf hin
          have hlt : f.a < st.heap.length := q.alloc _ hin
          have h2 : f.a ∈ s2.timers := by
            cases hC f hf with
            | inl h => exact h
            | inr h => have := p.ext.len; omega
          refine ⟨h2, ?_⟩
          cases p0.mem _ h2 with
          | inl h => exact h
          | inr h => have : st.heap.length ≤ f.a := h; omega
        refine ⟨?_, ?_, ?_⟩
        · intro f hf
          simp only [List.mem_cons] at hf
          cases hf with
          | inl h => subst h; exact Or.inl ha
          | inr h =>
            cases hC f h with
            | inl h2 => exact p.mem _ h2
            | inr h2 => exact Or.inr (Nat.le_trans p.ext.len h2)
        · intro f hf hin
          simp only [List.mem_cons] at hf
          cases hf with
          | inl h => subst h; rfl
          | inr h =>
            rw [hD f h (still f h hin).1]
            exact p.ext.due _ (q.alloc _ hin)
        · rw [List.pairwise_cons]
          refine ⟨?_, ?_⟩
          · intro y hy hin
            have hrest := (still y hy hin).2
            have hk := q.head_min hq y.a hrest
            have hdue : y.due = dueOf st y.a := by
              rw [hD y hy (still y hy hin).1]
              exact p.ext.due _ (q.alloc _ hin)
            unfold Fired.lt
            unfold keyLt at hk
            rw [hdue]
            exact hk
          · refine List.Pairwise.imp_of_mem ?_ hB
            intro x y _ hy hxy hin
            exact hxy (still y hy hin).1

theorem laterLoopT_sub (l : List Nat) : ∀ st : St, (laterLoopT st l).2.Sublist l := by
  induction l with
  | nil => intro st; exact List.Sublist.refl _
  | cons a rest ih =>
    intro st
    unfold laterLoopT
    refine iteInduction (motive := fun x => List.Sublist (Prod.snd x) (a :: rest)) (fun _ => List.nil_sublist _) fun _ => ?_
    refine iteInduction (motive := fun x => List.Sublist (Prod.snd x) (a :: rest)) (fun _ => List.nil_sublist _) fun _ => ?_
    refine iteInduction (motive := fun x => List.Sublist (Prod.snd x) (a :: rest)) (fun _ => (ih _).cons _) fun _ => ?_
    refine iteInduction (motive := fun x => List.Sublist (Prod.snd x) (a :: rest))
      (fun _ => List.Sublist.cons_cons _ (List.nil_sublist _)) fun _ => ?_
    exact iteInduction (motive := fun x => List.Sublist (Prod.snd x) (a :: rest))
      (fun _ => List.Sublist.cons_cons _ (List.nil_sublist _)) fun _ => List.Sublist.cons_cons _ (ih _)

theorem pres_dispatchSignals (fuel : Nat) (st : St) : Pres st (dispatchSignals fuel st) :=
  pres_closed.dispatchSignals (fun st => (still_with_pendingSig st []).grow.pres) fuel st

theorem grow_ppoll (st : St) (t : Option Int) : Grow st (ppoll st t).1 := grow_base.ppoll (.ofStill Still.grow) st t

theorem pres_iter : IterLeaves Pres :=
  .of_timers pres_closed pres_timers (.ofStill fun h => h.grow.pres) fun st => (still_with_pendingSig st []).grow.pres

theorem grow_destroyList (t : WType) (l : List Nat) : ∀ st : St, Grow st (destroyList st t l) :=
  grow_base.destroyList grow_cancelHook grow_free t l

theorem pres_destroy (st : St) : Pres st (destroy st) := by
  have hb := pres_closed.toBase.destroyBody (fun t l s => (grow_destroyList t l s).pres) (pres_closed.cancelSigchld st)
  refine destroy_cases st (fun _ => Pres.refl _) fun s e => ?_
  subst e
  exact ⟨fun _ => hb.trans ⟨HeapExt.of_heap_eq rfl, fun q => q.of_sublist (HeapExt.of_heap_eq rfl) (List.nil_sublist _),
    fun _ h => by cases h⟩, fun _ => hb⟩

theorem pres_applyOp (st : St) (op : Op) : Pres st (applyOp st op) :=
  pres_closed.applyOp_keeps pres_iter (fun r p => p.trans r) (fun st => (still_with_log st []).grow.pres) st op (Pres.refl st)
    fun _ p => p.trans (pres_destroy _)

theorem qinv_build (cfg : Config) : QInv (build cfg) :=
  (pres_closed.build (fun st => (still_with_log st []).grow.pres) cfg).qinv ⟨fun a h => (by cases h), List.Pairwise.nil⟩

theorem qinv_runOps (cfg : Config) (ops : List Op) : QInv (runOps cfg ops) :=
  pres_closed.reach_all pres_iter Pres.qinv (fun st => (still_with_log st []).grow.pres) (fun st => (pres_destroy st).qinv) cfg
    ⟨fun a h => (by cases h), List.Pairwise.nil⟩ ops

/-- `f` is the timer `a` with deadline `d` itself, or comes after it in the order of the queue. -/
def keyLe (d : TV) (a : Nat) (f : Fired) : Prop :=
  (f.a = a ∧ f.due = d) ∨ (f.due.gt d = true ∨ (d = f.due ∧ a < f.a))

theorem lt_of_key_lt_le {x f : Fired} {d : TV} {b : Nat}
    (h1 : d.gt x.due = true ∨ (x.due = d ∧ x.a < b)) (h2 : keyLe d b f) : Fired.lt x f := by
  unfold Fired.lt
  cases h2 with
  | inl h => rw [h.1, h.2]; exact h1
  | inr h =>
    cases h with
    | inl hgt =>
      cases h1 with
      | inl h1 => exact Or.inl (TV.gt_trans hgt h1)
      | inr h1 => rw [h1.1]; exact Or.inl hgt
    | inr heq =>
      cases h1 with
      | inl h1 => rw [← heq.1]; exact Or.inl h1
      | inr h1 => exact Or.inr ⟨h1.1.trans heq.1, Nat.lt_trans h1.2 heq.2⟩

theorem lists_free_timers (st : St) (a : Nat) : (st.free a).timers = st.timers := (grow_free st a).timers

theorem timerLoopT_ordered (fuel : Nat) : ∀ (st : St) (now : TV) (this : Option Nat), QInv st →
    (∀ b, this = some b → b ∈ st.timers) →
    (timerLoopT fuel st now this).2.2.Pairwise Fired.lt ∧
    ∀ f ∈ (timerLoopT fuel st now this).2.2, ∀ b, this = some b → keyLe (dueOf st b) b f := by
  induction fuel with
  | zero => intro st now this _ _; simp [timerLoopT]
  | succ n ih =>
    intro st now this q hin
    rcases timerLoopT_succ n st now this with h | ⟨a, rfl, -, hh⟩
    · rw [h]; simp
    · have ha : a ∈ st.timers := hin a rfl
      have hsingle : ∀ f ∈ [(⟨a, (st.getW a).slot, (st.getW a).due⟩ : Fired)], ∀ b, some a = some b → keyLe (dueOf st b) b f := by
        intro f hf b hb
        simp only [List.mem_singleton] at hf
        simp only [Option.some.injEq] at hb
        subst hf hb
        exact Or.inl ⟨rfl, rfl⟩
      rcases hh with h | h <;> rw [h]
      · exact ⟨List.pairwise_singleton _ _, hsingle⟩
      · have p1 := pres_closed.fireUser st (st.getW a).slot (EV_FIRE ||| EV_UNBIND) .none
        generalize fireUser st (st.getW a).slot (EV_FIRE ||| EV_UNBIND) .none = st1 at p1 ⊢
        have q1 : QInv st1 := p1.qinv q
        have p2 := (grow_free st1 a).pres
        have q2 : QInv (st1.free a) := p2.qinv q1
        have hin2 : ∀ b, succOf a st1.timers = some b → b ∈ (st1.free a).timers := by
          intro b hb; rw [lists_free_timers]; exact succOf_mem a b _ hb
        obtain ⟨hP, hK⟩ := ih (st1.free a) now (succOf a st1.timers) q2 hin2
        have hfirst : ∀ f ∈ (timerLoopT n (st1.free a) now (succOf a st1.timers)).2.2,
            Fired.lt ⟨a, (st.getW a).slot, (st.getW a).due⟩ f := by
          intro f hf
          cases hs : succOf a st1.timers with
          | none =>
            rw [hs] at hf
            cases n with
            | zero => simp [timerLoopT] at hf
            | succ m =>
              rcases timerLoopT_succ m (st1.free a) now none with h | ⟨_, h, -⟩
              · rw [h] at hf; cases hf
              · cases h
          | some b =>
            have hk := hK f hf b hs
            have hrel : keyLt st1 a b := succOf_rel a b _ q1.ordered hs
            have hb1 : b < st1.heap.length := q1.alloc b (succOf_mem a b _ hs)
            have hd_b : dueOf (st1.free a) b = dueOf st1 b := p2.ext.due b hb1
            have hd_a : dueOf st1 a = dueOf st a := p1.ext.due a (q.alloc a ha)
            rw [hd_b] at hk
            apply lt_of_key_lt_le (d := dueOf st1 b) (b := b) _ hk
            unfold keyLt at hrel
            rw [hd_a] at hrel
            exact hrel
        refine ⟨?_, ?_⟩
        · rw [List.pairwise_cons]
          exact ⟨hfirst, hP⟩
        · intro f hf b hb
          simp only [Option.some.injEq] at hb
          subst hb
          simp only [List.mem_cons] at hf
          cases hf with
          | inl h => subst h; exact Or.inl ⟨rfl, rfl⟩
          | inr h =>
            have := hfirst f h
            unfold Fired.lt at this
            exact Or.inr this

end Tickit.EvLoop
