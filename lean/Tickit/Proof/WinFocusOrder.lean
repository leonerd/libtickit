import Tickit.Proof.WinFocusRestack
/-
  C15 over histories: queued restacking requests take effect in the order they were made.
-/
namespace Tickit
namespace WinFocus
open WinTree WinSpec WinFlush

theorem restack_exact {t t' : Tree} {F p c : Nat} {ch : Change} (hch : ch.isRestack = true)
    (hd : doHierarchyChange t F ch p c = .ok t') :
    ∃ pw, t.wins[p]? = some pw ∧
      t'.wins = t.wins.setIfInBounds p { pw with children := stackSpec ch pw.children c } := by
  obtain ⟨pw, cw, hpw, _, htail⟩ := restack_pieces hch hd
  exact ⟨pw, hpw.1, exposeIf_wins htail⟩

/-- A queued request names the window's parent as the tree has it (windows are never reparented; `close` purges the
    requests of the windows it detaches). -/
def ParentIs (t : Tree) (r : Req) : Prop := ∃ w, t.wins[r.win]? = some w ∧ w.parent = some r.parent

/-- A queued request as the application made it: which restacking, of which window. -/
def _root_.Tickit.WinTree.Req.pair (r : Req) : Change × Nat := (r.change, r.win)

theorem applyStackReq_wins {t1 t2 : Tree} (h : t1.wins = t2.wins) (r : Change × Nat) :
    (applyStackReq t1 r).wins = (applyStackReq t2 r).wins := by
  unfold applyStackReq
  rw [h]
  split
  · exact h
  · split
    · exact h
    · split
      · exact h
      · rfl

theorem stackApplied_cons (t : Tree) (r : Change × Nat) (rs : List (Change × Nat)) :
    stackApplied t (r :: rs) = stackApplied (applyStackReq t r) rs := rfl

theorem stackApplied_wins : ∀ (rs : List (Change × Nat)) (t1 t2 : Tree), t1.wins = t2.wins →
    (stackApplied t1 rs).wins = (stackApplied t2 rs).wins := by
  intro rs
  induction rs with
  | nil => intro t1 t2 h; exact h
  | cons r rest ih =>
    intro t1 t2 h
    rw [stackApplied_cons, stackApplied_cons]
    exact ih _ _ (applyStackReq_wins h r)

theorem stackApplied_append (t : Tree) (a b : List (Change × Nat)) :
    stackApplied t (a ++ b) = stackApplied (stackApplied t a) b := by
  unfold stackApplied; rw [List.foldl_append]

theorem restack_is_spec {t t' : Tree} {F : Nat} {r : Req} (hch : r.change.isRestack = true) (hp : ParentIs t r)
    (hd : doHierarchyChange t F r.change r.parent r.win = .ok t') : t'.wins = (applyStackReq t r.pair).wins := by
  obtain ⟨pw, hpw, hw'⟩ := restack_exact hch hd
  obtain ⟨w, hw, hpar⟩ := hp
  rw [hw']
  unfold applyStackReq
  simp only [Req.pair, hw, hpar, hpw]

theorem parentIs_step {t t' : Tree} {F : Nat} {r q : Req} (hch : r.change.isRestack = true)
    (hd : doHierarchyChange t F r.change r.parent r.win = .ok t') (hq : ParentIs t q) : ParentIs t' q := by
  obtain ⟨pw, hpw, hw'⟩ := restack_exact hch hd
  obtain ⟨w, hw, hpar⟩ := hq
  unfold ParentIs
  rw [hw', Array.getElem?_setIfInBounds]
  by_cases he : r.parent = q.win
  · have hi : r.parent < t.wins.size := (Array.getElem?_eq_some_iff.mp hpw).1
    rw [← he] at hw ⊢
    rw [hpw] at hw; cases hw
    exact ⟨{ pw with children := stackSpec r.change pw.children r.win }, by simp [hi], hpar⟩
  · exact ⟨w, by simp [he, hw], hpar⟩

/-- The queue loop applies the requests in the order they were made: after `applyChanges` the windows are those of
    the specification's `stackApplied` — the sibling lists found at the flush with the requests applied oldest first. -/
theorem applyChanges_order : ∀ (reqs : List Req) (t t' : Tree),
    (∀ r ∈ reqs, r.change.isRestack = true ∧ ParentIs t r) → applyChanges t reqs = .ok t' →
    t'.wins = (stackApplied t (reqs.map Req.pair)).wins := by
  intro reqs
  induction reqs with
  | nil => intro t t' _ h; simp only [applyChanges, pure_ok_iff] at h; subst h; rfl
  | cons r rest ih =>
    intro t t' hq h
    simp only [applyChanges, bind_ok_iff] at h
    obtain ⟨t1, h1, h2⟩ := h
    have hr := hq r (by simp)
    have e1 := restack_is_spec hr.1 hr.2 h1
    rw [List.map_cons, stackApplied_cons]
    rw [ih t1 t' (fun q hqm => ⟨(hq q (by simp [hqm])).1, parentIs_step hr.1 h1 (hq q (by simp [hqm])).2⟩) h2]
    exact stackApplied_wins _ _ _ e1

theorem withStacking_self {t s : Tree} (h : s.wins = t.wins) : withStacking t s = t := by
  unfold withStacking
  rw [h]
  cases t with
  | mk ws rt =>
    simp only [Tree.mk.injEq, and_true]
    apply Array.ext
    · simp
    · intro i h1 h2
      simp only [Array.getElem_mapIdx]
      rw [Array.getElem?_eq_getElem h2]

theorem cursorSpecReq_of_wins {before after : Tree} {reqs : List (Change × Nat)}
    (h : after.wins = (stackApplied before reqs).wins) : cursorSpecReq before after reqs = cursorSpec after := by
  unfold cursorSpecReq
  rw [withStacking_self h.symm]

/-- `tickit_window_flush` leaves the windows stacked as the queued requests, applied oldest first, say. -/
theorem flush_order {fx : Fixes} {t : Tree} {out : FlushOut}
    (hq : ∀ q ∈ t.root.changes, q.change.isRestack = true ∧ ParentIs t q)
    (hl : t.root.changes ≠ [] → t.root.needsLater = true) (hf : flush fx t = .ok out) :
    out.tree.wins = (stackApplied t (t.root.changes.map Req.pair)).wins := by
  cases hn : t.root.needsLater with
  | false =>
    have he := queue_nil_of_no_later hl hn
    cases (flush_skipped hn).symm.trans hf
    rw [he]; rfl
  | true =>
    obtain ⟨t1, F⟩ := flush_pieces hf hn
    rw [F.wins, applyChanges_order _ { t with root := { t.root with needsLater := false } } _ (fun q hqm => hq q hqm) F.applied]
    exact stackApplied_wins _ _ _ rfl

/-- The parent link of a window (`none`: no such slot). -/
def parentOf (t : Tree) (i : Nat) : Option (Option Nat) := (t.wins[i]?).map (·.parent)

theorem parentOf_wins {t t' : Tree} (h : t'.wins = t.wins) (i : Nat) : parentOf t' i = parentOf t i := by
  unfold parentOf; rw [h]

theorem parentIs_wins {t t' : Tree} (h : t'.wins = t.wins) {q : Req} (hq : ParentIs t q) : ParentIs t' q := by
  unfold ParentIs at hq ⊢; rw [h]; exact hq

theorem applyStackReq_parent (t : Tree) (r : Change × Nat) (i : Nat) : parentOf (applyStackReq t r) i = parentOf t i := by
  unfold applyStackReq
  split
  · rfl
  · split
    · rfl
    · split
      · rfl
      · next p _ _ pw hpw =>
        unfold parentOf
        simp only [Array.getElem?_setIfInBounds]
        by_cases he : p = i
        · have hi : p < t.wins.size := (Array.getElem?_eq_some_iff.mp hpw).1
          subst he
          have hg : t.wins[p] = pw := (Array.getElem?_eq_some_iff.mp hpw).2
          simp [hi, hg]
        · simp [he]

theorem stackApplied_parent : ∀ (rs : List (Change × Nat)) (t : Tree) (i : Nat),
    parentOf (stackApplied t rs) i = parentOf t i := by
  intro rs
  induction rs with
  | nil => intro t i; rfl
  | cons r rest ih => intro t i; rw [stackApplied_cons, ih, applyStackReq_parent]

theorem applyStackReq_noparent {t : Tree} {ch : Change} {w : Nat} (h : parentOf t w = some none) :
    applyStackReq t (ch, w) = t := by
  unfold parentOf at h
  unfold applyStackReq
  cases hw : t.wins[w]? with
  | none => rfl
  | some ww =>
    rw [hw] at h
    simp only [Option.map_some, Option.some.injEq] at h
    simp only [h]

/-- `_request_hierarchy_change`: the windows are untouched; a window without a parent gets nothing queued, any other gets
    its request appended *behind* those already waiting. -/
theorem request_step {t t' : Tree} {F : Nat} {ch : Change} {w : Nat} (h : requestHierarchyChange t F ch w = .ok t') :
    t'.wins = t.wins ∧
    ((parentOf t w = some none ∧ t'.root.changes = t.root.changes) ∨
     (∃ p, ParentIs t ⟨ch, p, w⟩ ∧ t'.root.changes = t.root.changes ++ [⟨ch, p, w⟩])) := by
  obtain ⟨w0, hw, ⟨hp, rfl⟩ | ⟨p, hp, rfl⟩⟩ := request_cases h
  · exact ⟨rfl, .inl ⟨by unfold parentOf; rw [hw.1]; simp [hp], rfl⟩⟩
  · exact ⟨rfl, .inr ⟨p, ⟨w0, hw.1, hp⟩, rfl⟩⟩

/-- A burst of restacking requests as operations of a history. -/
def reqOps (rs : List (Change × Nat)) : List Op := rs.map fun r => Op.restack r.1 r.2

/-- What holds while the requests of a burst are made on top of the tree `base`: the windows are `base`'s, and the queue,
    applied oldest first, stacks them as the requests made so far (`done`), applied in the order they were made. -/
structure ReqInv (base : Tree) (s : HSt) (done : List (Change × Nat)) : Prop where
  wins : s.tree.wins = base.wins
  par : ∀ q ∈ s.tree.root.changes, ParentIs base q
  same : (stackApplied base (s.tree.root.changes.map Req.pair)).wins = (stackApplied base done).wins

theorem reqInv_step {fx : Fixes} {base : Tree} {s s' : HSt} {done : List (Change × Nat)} {ch : Change} {w : Nat}
    (hi : ReqInv base s done) (hs : stepOp fx s (.restack ch w) = .ok s') :
    ReqInv base s' (done ++ [(ch, w)]) := by
  obtain ⟨x, hx, rfl⟩ := step_inv hs
  obtain ⟨hwins, hcase⟩ := request_step hx
  rcases hcase with ⟨hnp, hq⟩ | ⟨p, hpi, hq⟩
  · refine ⟨hwins.trans hi.wins, (by rw [hq]; exact hi.par), ?_⟩
    show (stackApplied base (x.root.changes.map Req.pair)).wins = _
    rw [hq, stackApplied_append, hi.same]
    have : parentOf (stackApplied base done) w = some none := by
      rw [stackApplied_parent, ← parentOf_wins hi.wins]; exact hnp
    show _ = (stackApplied (stackApplied base done) [(ch, w)]).wins
    rw [stackApplied_cons, applyStackReq_noparent this]; rfl
  · refine ⟨hwins.trans hi.wins, ?_, ?_⟩
    · show ∀ q ∈ x.root.changes, ParentIs base q
      rw [hq]
      intro q hqm
      simp only [List.mem_append, List.mem_singleton] at hqm
      rcases hqm with hqm | hqm
      · exact hi.par q hqm
      · subst hqm; exact parentIs_wins hi.wins.symm hpi
    · show (stackApplied base (x.root.changes.map Req.pair)).wins = _
      rw [hq, List.map_append, stackApplied_append, stackApplied_append]
      exact stackApplied_wins _ _ _ hi.same

theorem reqInv_run {fx : Fixes} {base : Tree} : ∀ (rs : List (Change × Nat)) (s s' : HSt) (done : List (Change × Nat)),
    ReqInv base s done → runOps fx s (reqOps rs) = .ok s' → ReqInv base s' (done ++ rs) := by
  intro rs
  induction rs with
  | nil =>
    intro s s' done hi h
    simp only [reqOps, List.map_nil, runOps, pure_ok_iff] at h; subst h
    rw [List.append_nil]; exact hi
  | cons r rest ih =>
    intro s s' done hi h
    simp only [reqOps, List.map_cons, runOps, bind_ok_iff] at h
    obtain ⟨s1, h1, h2⟩ := h
    have hi2 := ih s1 s' _ (reqInv_step hi h1) h2
    rw [List.append_assoc] at hi2
    exact hi2

/-- Requests take effect in the order they were made.  From any state a history reaches (`HInv`), with the requests
    already waiting naming their windows' parents: after a burst of restacking requests `rs` and a flush, the windows are
    those of the tree the burst started from with the waiting requests and then `rs` applied oldest first, and the
    terminal cursor is what the cursor clause says of the tree stacked that way (`cursorSpecReq`). -/
theorem restack_burst_order {fx : Fixes} (hfx1 : fx.hiddenRoot = true) (hfx2 : fx.chainRestore = true)
    {s1 : HSt} (hi : HInv s1) (hq0 : ∀ q ∈ s1.tree.root.changes, ParentIs s1.tree q)
    (rs : List (Change × Nat)) (hrs : ∀ r ∈ rs, r.1.isRestack = true) (s2 : HSt)
    (h : runOps fx s1 (reqOps rs ++ [.flush]) = .ok s2) :
    s2.tree.wins = (stackApplied s1.tree (s1.tree.root.changes.map Req.pair ++ rs)).wins ∧
    s2.term.matches (cursorSpecReq s1.tree s2.tree (s1.tree.root.changes.map Req.pair ++ rs)) = true ∧
    s2.tree.root.changes = [] := by
  obtain ⟨sm, hm, hfl⟩ := runOps_append fx (reqOps rs) [.flush] _ s2 h
  have hplain : ∀ op ∈ reqOps rs, op.plain := by
    intro op hop
    simp only [reqOps, List.mem_map] at hop
    obtain ⟨r, hr, rfl⟩ := hop
    exact hrs r hr
  have him := runOps_inv hfx1 hfx2 _ _ sm hplain hi hm
  have hri := reqInv_run (base := s1.tree) rs s1 sm (s1.tree.root.changes.map Req.pair) ⟨rfl, hq0, rfl⟩ hm
  simp only [runOps, bind_ok_iff, pure_ok_iff] at hfl
  obtain ⟨s3, hfl, h3⟩ := hfl
  subst h3
  have hcur := (flush_step hfx1 him hfl).2
  simp only [stepOp, bind_ok_iff, pure_ok_iff] at hfl
  obtain ⟨o, hf, hs3⟩ := hfl
  subst hs3
  have hw : o.tree.wins = (stackApplied s1.tree (s1.tree.root.changes.map Req.pair ++ rs)).wins := by
    rw [flush_order (fun q hq => ⟨him.queue q hq, parentIs_wins hri.wins (hri.par q hq)⟩) him.qlater hf]
    rw [stackApplied_wins _ _ _ hri.wins]
    exact hri.same
  refine ⟨hw, ?_, flush_empties_queue him.qlater hf⟩
  rw [cursorSpecReq_of_wins hw]
  exact hcur

end WinFocus
end Tickit
