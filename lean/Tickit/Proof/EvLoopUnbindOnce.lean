import Tickit.Proof.EvLoopUnbind
import Tickit.Proof.EvLoopOnceOps
/-
  `tickit_watch_cancel` with an unbind handler that acts (Model/EvLoopUnbind.lean), tied to the exactly-once family.

  The cancel path with the acting notification is a composition of the steps the families `Pres` (queue order),
  `Q` (slot table), `LStep` (well-formed lists) and `R2` (queues / liveness / cancel requests) already know, plus
  `runUActs` in the middle — between the unlink and the `free`.  The four are followed together (`CU`).  So the bundle
  `B []` of Proof/EvLoopOnceB.lean and the queue invariant survive the operation (`b_applyCancelU`,
  `qinv_applyCancelU`), for every state and every handler.
-/
namespace Tickit.EvLoop

/-- The four relations the cancel path is followed with; `R2` from a state that has `K`. -/
structure CU (E : List Nat) (st st' : St) : Prop where
  p : Pres st st'
  q : Q st st'
  l : LStep st st'
  r : K st → R2 E st st'

theorem CU.refl (E : List Nat) (st : St) : CU E st st := ⟨.refl st, .refl st, .refl st, fun _ => .refl E st⟩

theorem CU.trans {E : List Nat} {a b c : St} (h1 : CU E a b) (h2 : CU E b c) : CU E a c :=
  ⟨h1.p.trans h2.p, h1.q.trans h2.q, h1.l.trans h2.l, fun k => (h1.r k).trans (h2.r (K.of_q h1.q k))⟩

theorem CU.nil {E : List Nat} {st st' : St} (h : CU [] st st') : CU E st st' := ⟨h.p, h.q, h.l, fun k => (h.r k).nil⟩

theorem CU.of_inert {E : List Nat} {st st' : St} (i : Inert st st') (g : Grow st st') (g4 : G4 st st') : CU E st st' :=
  ⟨g.pres, i.q, g4.lstep, fun _ => i.r2⟩

theorem CU.of_still {E : List Nat} {st st' : St} (h : Still st st') : CU E st st' := .of_inert h.inert h.grow h.g4

theorem cu_base (E : List Nat) : Base (CU E) := .ofStill (CU.refl E) CU.trans .of_still

theorem cu_with_log (E : List Nat) (st : St) (l : List Ev) : CU E st { st with log := l } := .of_still (still_with_log st l)

/-- A handler does what a callback does, except cancel. -/
theorem cu_runUAct (st : St) (act : Act) : CU [] st (runUAct st act) := by
  have h : CU [] st (runAct st act) := ⟨pres_closed.runAct _ _, q_runAct _ _, l_closed.runAct _ _, r2_runAct _ _⟩
  cases act <;> first | exact .refl _ _ | exact h

theorem cu_runUActs (acts : List Act) (st : St) : CU [] st (runUActs st acts) :=
  foldActs_cases runUAct (I := fun _ => True) (CU.refl []) CU.trans
    (fun s act _ => ⟨((cu_base []).emit s _).trans (cu_runUAct _ act), trivial⟩) acts st trivial

theorem cu_cancelNotifyU (E : List Nat) (ub : List Beh) (st : St) (a : Nat) (w : Watch) : CU E st (cancelNotifyU ub st a w) :=
  of_ite (of_ite (((cu_base E).notify _ _ _).trans (cu_runUActs _ _).nil) (.refl _ _))
    (.refl _ _)

/-- `tickit_watch_cancel` once the watch has been found, the handler acting.  Lists: the watch is in no list while
    the handler runs, and the handler can only link fresh watches, so it is still in no list when it is freed.
    Queues: the watch is excepted (allocated, in no queue) from the unlink to the `free`; what the handler registered
    is queued by `runUActs`. -/
theorem cu_cancelFoundU (ub : List Beh) (st : St) (a : Nat) (ha : a ∈ listOf st (st.getW a).type) (hlt : a < st.heap.length)
    (hm : K st → MayGo st a) : CU [] st (cancelFoundU ub st a (st.getW a) (listOf st (st.getW a).type)) := by
  have hN := cu_cancelNotifyU [a] ub (setListOf st (st.getW a).type ((listOf st (st.getW a).type).erase a)) a (st.getW a)
  have iH : ∀ s, Inert s (cancelHook s (st.getW a).type (st.getW a).evi) := fun s => inert_cancelHook s _ _
  have iR : ∀ s l, Inert s (cancelRest s l) := inert_cancelRest
  unfold cancelFoundU cancelUnlinkedU
  refine ⟨?_, ?_, ?_, ?_⟩
  · exact ((pres_setListOf_erase st _ _ a rfl).trans hN.p).trans
      (((grow_cancelHook _ _ _).trans (grow_free _ a)).trans (grow_base.cancelRest _ _)).pres
  · exact ((Q.of_q0 (q0_setListOf st _ _)).trans hN.q).trans (.of_q0 (((iH _).q0.trans (q0_free _ _)).trans (iR _ _).q0))
  · intro hc w
    obtain ⟨fE, hun⟩ := lfacts_erase st a (st.getW a).type w ha
    have haE : a < (setListOf st (st.getW a).type ((listOf st (st.getW a).type).erase a)).heap.length := by
      rw [heap_setListOf]; exact hlt
    generalize setListOf st (st.getW a).type ((listOf st (st.getW a).type).erase a) = sE at *
    have fN := hN.l (by rw [fE.cfg]; exact hc) fE.wf
    have gH := g4_cancelHook (cancelNotifyU ub sE a (st.getW a)) (st.getW a).type (st.getW a).evi
    have hunH : ∀ t, a ∉ listOf (cancelHook (cancelNotifyU ub sE a (st.getW a)) (st.getW a).type (st.getW a).evi) t :=
      fun t h => unlisted_after fN haE hun t (by rw [gH.lists] at h; exact h)
    exact ((((LStep.trans (fun _ _ => fE) (fun _ _ => fN)).trans gH.lstep).trans (lstep_free_unlisted _ a hunH)).trans
      (g4_base.cancelRest _ _).lstep) hc w
  · intro hk
    have h123 := ((r2_setListOf_erase st (st.getW a).type a).trans (hN.r (K.of_q (.of_q0 (q0_setListOf st _ _)) hk))).trans (iH _).r2
    exact h123.free_drop (fun _ => (hm hk).step h123.h h123.creq hlt) (iR _ _)

theorem cu_cancelDetachedU (E : List Nat) (ub : List Beh) (st : St) (a : Nat) (hlt : a < st.heap.length)
    (hn : a ∉ listOf st (st.getW a).type) : CU E st (cancelDetachedU ub st a) := by
  have hN := cu_cancelNotifyU E ub st a (st.getW a)
  unfold cancelDetachedU
  refine ⟨hN.p.trans (grow_setW (cancelNotifyU ub st a (st.getW a)) a
      { (cancelNotifyU ub st a (st.getW a)).getW a with type := .none } rfl).pres, hN.q.trans (.of_q0 (q0_setNone _ a)),
    ?_, fun k => (hN.r k).trans (r2_setNone E _ a)⟩
  intro hc w
  have fN := hN.l hc w
  have hun0 : ∀ t, a ∉ listOf st t := fun t h => hn (by rw [w.typ t a h]; exact h)
  exact (LStep.trans (fun _ _ => fN) (lstep_setW_unlisted _ a _ (unlisted_after fN hlt hun0))) hc w

theorem watchCancel0U_cases {P : St → Prop} (ub : List Beh) (st : St) (a : Nat) (same : P st) (fail : ∀ w, P (st.fail w))
    (det : st.live a = true → a ∉ listOf st (st.getW a).type → P (cancelDetachedU ub st a))
    (found : st.live a = true → a ∈ listOf st (st.getW a).type →
      P (cancelFoundU ub st a (st.getW a) (listOf st (st.getW a).type))) : P (watchCancel0U ub st a) :=
  of_ite same <| iteInduction (fun _ => fail _) fun hl => of_ite same <| of_ite (fail _) <| iteInduction
    (fun hn => of_ite (det (not_of_not_eq_true hl) (by simpa using hn)) same)
    fun hn => found (not_of_not_eq_true hl) (by simpa using hn)

theorem cu_watchCancel0U (E : List Nat) (ub : List Beh) (st : St) (a : Nat) (hm : K st → MayGo st a) : CU E st (watchCancel0U ub st a) :=
  watchCancel0U_cases ub st a (.refl _ _) ((cu_base E).fail st) (fun hl hn => cu_cancelDetachedU E ub st a (St.live_lt hl) hn)
    (fun hl ha => (cu_cancelFoundU ub st a ha (St.live_lt hl) hm).nil)

/-- The deferred callback that would deliver a pre-exited child is the library's own: cancelled as in `watchCancel`. -/
theorem cu_watchCancelU (E : List Nat) (ub : List Beh) (st : St) (a : Nat) (hm : K st → MayGo st a)
    (hn : K st → ∀ l, (st.getW a).notify = some l → l < st.heap.length ∧ (st.getW l).slot < 0) : CU E st (watchCancelU ub st a) := by
  have h1 := cu_watchCancel0U E ub st a hm
  unfold watchCancelU
  refine of_ite ?_ h1
  cases hl : (st.getW a).notify with
  | none => exact h1
  | some l =>
    exact ⟨h1.p.trans (pres_closed.watchCancel0 _ _), h1.q.trans (.of_q0 (q0_watchCancel0 _ _)), h1.l.trans (l_closed.watchCancel0 _ _), fun k =>
      (h1.r k).trans (r2_watchCancel0 E _ l (Or.inr (Or.inr (by rw [h1.q.b.h.slot l (hn k l hl).1]; exact (hn k l hl).2))))⟩

theorem cu_doCancelU (ub : List Beh) (st : St) (k : Int) : CU [] st (doCancelU ub st k) :=
  doCancel_cases (watchCancelU ub) st k ((cu_base []).emit _ _) fun r hr hrk =>
    have h1 : CU [] st { st with cancelReq := k :: st.cancelReq } :=
      ⟨(grow_with_cancelReq _ _).pres, .of_q0 (q0_with_cancelReq _ _), (g4_with_cancelReq _ _).lstep,
       fun _ => r2_with_cancelReq [] st _ (fun _ hx => List.mem_cons_of_mem _ hx)⟩
    h1.trans (cu_watchCancelU [] ub _ r.handle (fun hk => Or.inr (Or.inl (hrk ▸ hk.asked hr _)))
      (fun hk => hk.p3 r.handle (hk.s3 r hr).1))

theorem cu_applyCancelU (ub : List Beh) (st : St) (k : Int) : CU [] st (applyCancelU ub st k) :=
  of_ite (cu_with_log _ _ _) <| of_ite (cu_with_log _ _ _) ((cu_with_log _ _ _).trans (cu_doCancelU ub _ k))

theorem r2_applyCancelU (ub : List Beh) (st : St) (k : Int) (hk : K st) : R2 [] st (applyCancelU ub st k) :=
  (cu_applyCancelU ub st k).r hk

theorem b_applyCancelU (ub : List Beh) (st : St) (k : Int) : BStep [] st (applyCancelU ub st k) :=
  fun b => BStep.of_q (cu_applyCancelU ub st k).q (cu_applyCancelU ub st k).l (r2_applyCancelU ub st k b.k) b

theorem qinv_applyCancelU (ub : List Beh) (st : St) (k : Int) (q : QInv st) : QInv (applyCancelU ub st k) :=
  (cu_applyCancelU ub st k).p.qinv q

theorem unbind_registered_is_queued (ub : List Beh) (st : St) (k : Int) (b : B [] st) (hal : st.alive = true)
    (hok : (applyCancelU ub st k).status = .ok) :
    ∀ r ∈ (applyCancelU ub st k).slots, st.heap.length ≤ r.handle → r.k ∉ (applyCancelU ub st k).cancelReq →
      isOneShot ((applyCancelU ub st k).getW r.handle).type = true →
      (applyCancelU ub st k).live r.handle = true ∧ r.fires = 0 ∧
      (((applyCancelU ub st k).getW r.handle).type = .timer → r.handle ∈ (applyCancelU ub st k).timers) ∧
      (((applyCancelU ub st k).getW r.handle).type = .later → r.handle ∈ (applyCancelU ub st k).laters) := by
  have b' := b_applyCancelU ub st k b
  have r2 := r2_applyCancelU ub st k b.k
  have hok' : (applyCancelU ub st k).isOk = true := (St.isOk_iff _).mpr hok
  have hal' : (applyCancelU ub st k).alive = true := r2.alive.trans hal
  intro r hr hnew hnc ho
  obtain ⟨hlt, hslot⟩ := b'.k.s3 r hr
  have hl : (applyCancelU ub st k).live r.handle = true := by
    cases hd : (applyCancelU ub st k).live r.handle with
    | true => rfl
    | false =>
      exfalso
      rcases r2.gone r.handle hlt (fun h => absurd h (by omega)) hd with e | e | e
      · rw [e] at ho; cases ho
      · rw [hslot] at e; exact hnc e
      · rw [hslot] at e; have := b'.k.s4 r hr; omega
  exact ⟨hl, b'.o.fires_zero hr ho hok' hl, b'.li.queued hok' hal' hlt hl⟩

/-- The state the next iteration starts from (`still_tickStart`). -/
def afterCancelU (ub : List Beh) (st : St) (k : Int) : St :=
  { applyCancelU ub st k with stillRunning := true, log := [] }

theorem applyUOp_tick_afterCancelU (ub : List Beh) (st : St) (k : Int) (op : Op) (nohang : Bool)
    (hop : (op = .tick ∧ nohang = true) ∨ (op = .tickhang ∧ nohang = false)) (hk : K st) (hal : st.alive = true)
    (hok : (applyCancelU ub st k).status = .ok) :
    applyUOp (applyUOp st (.cancelU ub k)) (.op op) = tick defaultFuel (afterCancelU ub st k) nohang :=
  applyOp_tick (applyCancelU ub st k) op nohang hop ((St.isOk_iff _).mpr hok) ((r2_applyCancelU ub st k hk).alive.trans hal)

theorem b_afterCancelU (ub : List Beh) (st : St) (k : Int) (b : B [] st) : B [] (afterCancelU ub st k) :=
  (b_applyCancelU ub st k b).tickStart

theorem qinv_afterCancelU (ub : List Beh) (st : St) (k : Int) (q : QInv st) : QInv (afterCancelU ub st k) :=
  (qinv_applyCancelU ub st k q).tickStart

theorem unbind_registered_runs_once (fuel : Nat) (ub : List Beh) (st : St) (k : Int) (nohang : Bool) (b : B [] st) (q : QInv st)
    (hal : st.alive = true) (hok1 : (applyCancelU ub st k).status = .ok)
    (hok2 : (tick fuel (afterCancelU ub st k) nohang).status = .ok) :
    ∀ r ∈ (applyCancelU ub st k).slots, st.heap.length ≤ r.handle →
      r.k ∉ (tick fuel (afterCancelU ub st k) nohang).cancelReq →
      ((((applyCancelU ub st k).getW r.handle).type = .timer ∧
          ((applyCancelU ub st k).getW r.handle).due.gt (TV.ofUs (phaseClock (afterCancelU ub st k) nohang)) = false) ∨
        ((applyCancelU ub st k).getW r.handle).type = .later) →
      r.fires = 0 ∧
      (r.handle ∈ (applyCancelU ub st k).timers ∨ r.handle ∈ (applyCancelU ub st k).laters) ∧
      (tick fuel (afterCancelU ub st k) nohang).live r.handle = false ∧
      ∃ r' ∈ (tick fuel (afterCancelU ub st k) nohang).slots, r'.k = r.k ∧ r'.handle = r.handle ∧ r'.fires = 1 := by
  have b1 := b_afterCancelU ub st k b
  -- the state the iteration starts from is the state the cancel left, as far as anything here reads it
  have i : Inert (applyCancelU ub st k) (afterCancelU ub st k) := (still_tickStart _).inert
  have hal1 : (afterCancelU ub st k).alive = true := (i.alive.trans (r2_applyCancelU ub st k b.k).alive).trans hal
  obtain ⟨_, ty⟩ := bt_tick [] fuel (afterCancelU ub st k) nohang b1
  intro r hr hnew hnc hq
  have ho : isOneShot ((applyCancelU ub st k).getW r.handle).type = true := by
    rcases hq with ⟨e, _⟩ | e <;> rw [e] <;> rfl
  obtain ⟨_, _, hT, hL⟩ := unbind_registered_is_queued ub st k b hal hok1 r hr hnew
    (fun h => hnc (ty.creq _ (by rw [i.creq]; exact h))) ho
  have hq' := hq.imp (fun h => And.intro (hT h.1) h.2) hL
  rw [← i.slots] at hr
  rw [← i.timers, ← i.laters] at hq' ⊢
  rw [← getW_of_heap_eq i.heap] at hq'
  obtain ⟨h2, h3, h4⟩ := queued_once_in_iteration fuel _ nohang b1 (qinv_afterCancelU ub st k q) hal1 hok2 r hr hnc hq'
  exact ⟨h2, hq'.imp And.left id, h3, h4⟩

theorem status_applyUOp_of_not_ok (st : St) (o : UOp) (h : st.status ≠ .ok) : (applyUOp st o).status ≠ .ok := by
  cases o with
  | op o => exact status_applyOp_of_not_ok st o h
  | cancelU ub k =>
    have hb : (!st.isOk) = true := by
      cases hh : st.isOk
      · rfl
      · exact absurd ((St.isOk_iff _).mp hh) h
    show (applyCancelU ub st k).status ≠ .ok
    rw [show applyCancelU ub st k = { st with log := [] } from if_pos hb]
    exact h

theorem b_applyUOp (st : St) (o : UOp) (b : B [] st) (hok : (applyUOp st o).status = .ok) : B [] (applyUOp st o) := by
  cases o with
  | op o => exact b_applyOp st o b hok
  | cancelU ub k => exact b_applyCancelU ub st k b

theorem runUOps_snoc (cfg : Config) (ops : List UOp) (o : UOp) : runUOps cfg (ops ++ [o]) = applyUOp (runUOps cfg ops) o := by
  unfold runUOps; rw [List.foldl_append]; rfl

theorem b_runUOps (cfg : Config) (hr : Rep cfg) (ops : List UOp) (hok : (runUOps cfg ops).status = .ok) : B [] (runUOps cfg ops) :=
  foldl_invariant applyUOp status_applyUOp_of_not_ok b_applyUOp ops _ (b_build cfg hr) hok

theorem qinv_runUOps (cfg : Config) (ops : List UOp) : QInv (runUOps cfg ops) :=
  List.foldlRecOn ops applyUOp (qinv_build cfg) fun st h o _ =>
    match o with
    | .op o => (pres_applyOp st o).qinv h
    | .cancelU ub k => qinv_applyCancelU ub st k h

end Tickit.EvLoop
