import Tickit.Proof.RBFlushText
/-
  C04: the width counter `tickit_utf8_ncountmore` on the decoded characters of an accepted text.  The characters
  `decodeFrom` finds are those C07's `scan` meets, so a counting call of the flush is C07's `specRun` over their
  graphemes; `ncountmore_split` says in the flush's words what C07 proves of it: a prefix of the rest is counted, within
  the limit, and what remains begins with a character of width > 0 that would cross it.
-/
namespace Tickit.RBFlush
open Tickit.RB Tickit.RB.Utf8


def isG (c : Ch) : Int := if c.width > 0 then 1 else 0

def stepPos (p : StrPos) (c : Ch) : StrPos :=
  { bytes := p.bytes + c.bytes.length, codepoints := p.codepoints + 1, graphemes := p.graphemes + isG c,
    columns := p.columns + c.width }

/-- The position after counting `cs` from `p`. -/
def advance (p : StrPos) : List Ch → StrPos
  | [] => p
  | c :: cs => advance (stepPos p c) cs

/-- C07's `Within` for a limit on graphemes and columns only (in every field `-1` means no limit). -/
def Within (l here : StrPos) : Prop :=
  (l.graphemes = -1 ∨ here.graphemes ≤ l.graphemes) ∧ (l.columns = -1 ∨ here.columns ≤ l.columns)

theorem decodeFrom_nil {s : List UInt8} {f off : Nat} (h : decodeFrom s f off = some []) : byteAt s off = 0 := by
  cases f with
  | zero => simp [decodeFrom] at h
  | succ f =>
    unfold decodeFrom at h
    by_cases hz : byteAt s off = 0
    · exact hz
    · rw [if_neg hz] at h
      split at h
      · cases h
      · split at h
        · cases h
        · split at h
          · cases h
          · simp at h

theorem decodeFrom_cons {s : List UInt8} {f off : Nat} {c : Ch} {cs : List Ch}
    (h : decodeFrom s f off = some (c :: cs)) :
    ∃ f' d, f = f' + 1 ∧ byteAt s off ≠ 0 ∧ nextUtf8 s off none = some d ∧
      (d.cp < 0x20 || (d.cp ≥ 0x80 && d.cp < 0xa0)) = false ∧ wcwidth d.cp ≠ -1 ∧
      c = ⟨(s.drop off).take d.n, d.cp, wcwidth d.cp⟩ ∧ c.bytes.length = d.n ∧
      decodeFrom s f' (off + d.n) = some cs := by
  cases f with
  | zero => simp [decodeFrom] at h
  | succ f' =>
    unfold decodeFrom at h
    by_cases hz : byteAt s off = 0
    · rw [if_pos hz] at h; cases h
    · rw [if_neg hz] at h
      split at h
      · cases h
      · rename_i d hd
        split at h
        · cases h
        · rename_i hctrl
          split at h
          · cases h
          · rename_i hw
            cases hrest : decodeFrom s f' (off + d.n) with
            | none => rw [hrest] at h; simp at h
            | some cs' =>
              rw [hrest] at h
              simp only [Option.map_some, Option.some.injEq, List.cons.injEq] at h
              obtain ⟨hc, hcs⟩ := h
              subst hcs
              refine ⟨f', d, rfl, hz, hd, by simpa using hctrl, hw, hc.symm, ?_, hrest⟩
              rw [← hc]
              simp only [List.length_take, List.length_drop]
              have := nextUtf8_some_le_length s off none d hd
              omega

def bytesLen : List Ch → Nat
  | [] => 0
  | c :: cs => c.bytes.length + bytesLen cs

theorem bytesLen_append (a b : List Ch) : bytesLen (a ++ b) = bytesLen a + bytesLen b := by
  induction a with
  | nil => simp [bytesLen]
  | cons c a ih => simp only [List.cons_append, bytesLen, ih]; omega

theorem bytesLen_pos (M : List Ch) (hsd : ∀ c ∈ M, SelfDec c) (hne : M ≠ []) : 0 < bytesLen M := by
  obtain ⟨b, M', rfl⟩ := List.exists_cons_of_ne_nil hne
  have := (hsd b (by simp)).length_pos
  simp only [bytesLen]; omega

theorem decodeFrom_props (s : List UInt8) : ∀ (cs : List Ch) (f off : Nat), decodeFrom s f off = some cs →
    ∀ c ∈ cs, Decoded c := by
  intro cs
  induction cs with
  | nil => intro f off _ c hc; cases hc
  | cons c0 cs ih =>
    intro f off hd
    obtain ⟨f', d, _, hnz, hnext, hctrl, hwid, hc0, hlen, hrest⟩ := decodeFrom_cons hd
    have hcw : c0.width = wcwidth d.cp := by rw [hc0]
    have hcp : c0.cp = d.cp := by rw [hc0]
    refine List.forall_mem_cons.2 ⟨⟨?_, by rw [hcw, hcp], by have := wcwidth_range d.cp; omega⟩, ih f' (off + d.n) hrest⟩
    unfold SelfDec
    rw [hlen, hcp]
    apply nextUtf8_congr s c0.bytes off 0 none (some d.n) d hnext
    · intro k hk
      rw [hc0, Nat.zero_add]
      exact byteAt_take_drop s off d.n k hk
    · intro l hl
      simp only [Option.some.injEq] at hl
      omega

theorem decodeFrom_suffix (s : List UInt8) : ∀ (A R : List Ch) (f off : Nat), decodeFrom s f off = some (A ++ R) →
    decodeFrom s (f - A.length) (off + bytesLen A) = some R
  | [], _, _, _, hd => hd
  | c :: A, R, f, off, hd => by
    obtain ⟨f', d, hf, _, _, _, _, _, hlen, hrest⟩ := decodeFrom_cons hd
    have := decodeFrom_suffix s A R f' (off + d.n) hrest
    rwa [← hlen, Nat.add_assoc, show f' - A.length = f - (c :: A).length by rw [hf, List.length_cons]; omega] at this

theorem decodeFrom_bytes (s : List UInt8) : ∀ (M B : List Ch) (f off : Nat), decodeFrom s f off = some (M ++ B) →
    (s.drop off).take (bytesLen M) = M.flatMap (·.bytes)
  | [], _, _, _, _ => by simp [bytesLen]
  | c :: M, B, f, off, hd => by
    obtain ⟨f', d, _, _, _, _, _, hc, hlen, hrest⟩ := decodeFrom_cons hd
    have := decodeFrom_bytes s M B f' (off + d.n) hrest
    simp only [bytesLen, List.flatMap_cons]
    rw [List.take_add, List.drop_drop, hlen, this]
    congr 1
    rw [hc]

theorem advance_append (p : StrPos) (a b : List Ch) : advance p (a ++ b) = advance (advance p a) b := by
  induction a generalizing p with
  | nil => rfl
  | cons c a ih => simp only [List.cons_append, advance]; exact ih _

theorem advance_bytes (p : StrPos) (cs : List Ch) : (advance p cs).bytes = p.bytes + bytesLen cs := by
  induction cs generalizing p with
  | nil => simp [advance, bytesLen]
  | cons c cs ih =>
    simp only [advance, bytesLen]
    rw [ih]
    simp only [stepPos]
    omega

theorem advance_columns (p : StrPos) (cs : List Ch) : (advance p cs).columns = p.columns + chCols cs := by
  induction cs generalizing p with
  | nil => simp [advance, chCols]
  | cons c cs ih =>
    simp only [advance, chCols]
    rw [ih]
    simp only [stepPos]
    omega

theorem advance_zero_bytes (cs : List Ch) : (advance {} cs).bytes = (bytesLen cs : Int) :=
  (advance_bytes {} cs).trans (Int.zero_add _)

theorem advance_zero_columns (cs : List Ch) : (advance {} cs).columns = chCols cs :=
  (advance_columns {} cs).trans (Int.zero_add _)

/-- A character of the flush in C07's vocabulary: of the bytes only the number is kept (the counters depend on them
    through it alone). -/
def toC07 (c : Ch) : Tickit.Utf8.Ch := ⟨c.bytes.length, c.cp, c.width⟩

theorem stepAt_of_next {s : List UInt8} {off : Nat} {d : Dec} (hnz : byteAt s off ≠ 0)
    (hnext : nextUtf8 s off none = some d)
    (hctrl : (d.cp < 0x20 || (d.cp ≥ 0x80 && d.cp < 0xa0)) = false) (hwid : wcwidth d.cp ≠ -1) :
    ∃ hi, Tickit.Utf8.stepAt (memOf s) off none = .ch d.n d.cp (wcwidth d.cp) hi := by
  obtain ⟨hi, h1⟩ := ok_of_some hnext
  refine ⟨hi, ?_⟩
  rw [Tickit.Utf8.stepAt_ok (mem := memOf s) (by simp) hnz h1, wcwidth_eq, if_neg]
  intro hc
  rcases (Tickit.Utf8.ctl_iff d.cp).2 hc with h | h
  · simp only [Bool.or_eq_false_iff, Bool.and_eq_false_imp, decide_eq_false_iff_not, decide_eq_true_eq] at hctrl
    omega
  · exact hwid ((wcwidth_eq d.cp).trans h)

theorem scan_of_decodeFrom (s : List UInt8) : ∀ (cs : List Ch) (f off : Nat), decodeFrom s f off = some cs →
    Tickit.Utf8.scan (memOf s) f off none = some (cs.map toC07, .eof) := by
  intro cs
  induction cs with
  | nil =>
    intro f off h
    have hz := decodeFrom_nil h
    cases f with
    | zero => simp [decodeFrom] at h
    | succ f =>
      rw [Tickit.Utf8.scan, Tickit.Utf8.stepAt_nul (mem := memOf s) (by simp) hz]
      rfl
  | cons c cs ih =>
    intro f off h
    obtain ⟨f', d, rfl, hnz, hnext, hctrl, hwid, hc, hlen, hrest⟩ := decodeFrom_cons h
    obtain ⟨hi, hst⟩ := stepAt_of_next hnz hnext hctrl hwid
    unfold Tickit.Utf8.scan
    rw [hst]
    simp only [Tickit.Utf8.lenDec, Option.map_none, ih f' (off + d.n) hrest, List.map_cons]
    rw [hc] at hlen ⊢
    simp only [toC07]
    simp only at hlen
    rw [hlen]

theorem toPos_stepPos (p : StrPos) (c : Ch) (h : 0 ≤ p.bytes) :
    toPos (stepPos p c) = (toPos p).adv (toC07 c).n (toC07 c).w := by
  simp only [toPos, stepPos, Tickit.Utf8.Pos.adv, toC07, isG, Tickit.Utf8.Pos.mk.injEq, and_true]
  exact ⟨by omega, trivial, rfl⟩

theorem sumPos_toC07 : ∀ (M : List Ch) (p : StrPos), 0 ≤ p.bytes →
    Tickit.Utf8.sumPos (toPos p) (M.map toC07) = toPos (advance p M) ∧ 0 ≤ (advance p M).bytes
  | [], _, h => ⟨rfl, h⟩
  | c :: M, p, h => by
    rw [List.map_cons, Tickit.Utf8.sumPos, ← toPos_stepPos p c h]
    exact sumPos_toC07 M (stepPos p c) (by simp only [stepPos]; omega)

theorem ncountmore_decoded (s : List UInt8) (A R : List Ch) (hdec : decode s = some (A ++ R)) (l : StrPos)
    (hl : -1 ≤ l.bytes) :
    (ncountmore s none (advance {} A) (some l)).pos =
      ofPos (Tickit.Utf8.specRun (some (toLimit l)) (Tickit.Utf8.clusters (R.map toC07)) .eof (toPos (advance {} A))).pos := by
  have hb := advance_zero_bytes A
  obtain ⟨cs, t, hs, hp, _⟩ := ncountmore_c07 s none (advance {} A) (some l) (by rw [hb]; omega) (Or.inl rfl)
    (fun l' h => by cases h; exact hl)
  have hsuf := decodeFrom_suffix s A R (s.length + 1) 0 hdec
  rw [Nat.zero_add] at hsuf
  have hscan := Tickit.Utf8.scan_mono_le _ _ (s.length + 1) _ _ _ (Nat.sub_le _ _) (scan_of_decodeFrom s R _ _ hsuf)
  have he : (toPos (advance {} A)).bytes = bytesLen A := by show (advance {} A).bytes.toNat = _; rw [hb]; rfl
  unfold Tickit.Props.C07.Scans at hs
  rw [he, show Tickit.Utf8.lenSub none (bytesLen A) = none from rfl, hscan] at hs
  cases hs
  exact hp

theorem within_toPos (l : StrPos) (hlb : l.bytes = -1) (hlc : l.codepoints = -1) (p : StrPos) :
    Tickit.Utf8.Within (some (toLimit l)) (toPos p) ↔ Within l p := by
  simp [Tickit.Utf8.Within, toLimit, hlb, hlc, Tickit.Utf8.leOpt, Within, toPos]

theorem ncountmore_split (s : List UInt8) (A R : List Ch) (hdec : decode s = some (A ++ R))
    (hw : ∀ c ∈ R, 0 ≤ c.width) (l : StrPos) (hlb : l.bytes = -1) (hlc : l.codepoints = -1)
    (hstart : Within l (advance {} A)) :
    ∃ M R', R = M ++ R' ∧ (ncountmore s none (advance {} A) (some l)).pos = advance (advance {} A) M ∧
      Within l (advance (advance {} A) M) ∧
      ∀ b rest, R' = b :: rest → 0 < b.width ∧ ¬ Within l (stepPos (advance (advance {} A) M) b) := by
  have hb : (0 : Int) ≤ (advance {} A).bytes := by rw [advance_zero_bytes A]; omega
  have hnn : ∀ c ∈ R.map toC07, 0 ≤ c.w := by
    intro c hc
    obtain ⟨b, hb, rfl⟩ := List.mem_map.1 hc
    exact hw b hb
  have hL : ∀ l', some (toLimit l) = some l' → l'.bytes = none ∧ l'.codepoints = -1 := by
    intro l' h; cases h; simp [toLimit, hlb, hlc]
  obtain ⟨hcl, _⟩ := Tickit.Utf8.clusters_wf _ hnn
  obtain ⟨hpos, _⟩ := Tickit.Utf8.specRun_pos (some (toLimit l)) .eof
    (Tickit.Utf8.clusters (R.map toC07)) (toPos (advance {} A))
  have hin := Tickit.Utf8.specRun_within (some (toLimit l)) .eof
    (Tickit.Utf8.clusters (R.map toC07)) (toPos (advance {} A))
  have hmax := Tickit.Utf8.specRun_maximal (some (toLimit l)) .eof
    (Tickit.Utf8.clusters (R.map toC07)) (toPos (advance {} A))
    (by
      cases he : (Tickit.Utf8.specRun (some (toLimit l))
        (Tickit.Utf8.clusters (R.map toC07)) .eof (toPos (advance {} A))).err with
      | false => rfl
      | true => exact nomatch ((Tickit.Utf8.specRun_err_iff _ _ _ _).1 he).1)
  rw [hpos] at hin hmax
  generalize Tickit.Utf8.specTaken _ _ _ _ = j at hpos hin hmax
  obtain ⟨M, R', rfl, hM, hR'⟩ := List.map_eq_append_iff.1 (Tickit.Utf8.clusters_split (R.map toC07) j)
  obtain ⟨hsum, hbM⟩ := sumPos_toC07 M (advance {} A) hb
  rw [← hM, hsum] at hpos hin hmax
  have hwithin : Within l (advance (advance {} A) M) := by
    rcases hin with h | h
    · have e : advance (advance {} A) M = advance {} A := by
        rw [← ofPos_toPos _ hbM, h, ofPos_toPos _ hb]
      rw [e]; exact hstart
    · exact (within_toPos l hlb hlc _).1 h
  refine ⟨M, R', rfl, by rw [ncountmore_decoded s A _ hdec _ (by omega), hpos, ofPos_toPos _ hbM], hwithin, ?_⟩
  intro b rest hbr
  subst hbr
  cases hd : (Tickit.Utf8.clusters (List.map toC07 (M ++ b :: rest))).drop j with
  | nil => rw [hd] at hR'; cases hR'
  | cons g gs =>
    obtain ⟨c, z, rfl, _, hz⟩ := hcl g (List.mem_of_mem_drop (hd ▸ List.mem_cons_self))
    have hnot := hmax _ gs hd
    rw [hd, List.flatten_cons, List.cons_append, List.map_cons] at hR'
    cases (List.cons.inj hR').1
    replace hnot := fun h => hnot (Tickit.Utf8.within_zero_run hL z _ hz h)
    rw [← toPos_stepPos _ b hbM, within_toPos l hlb hlc] at hnot
    refine ⟨?_, hnot⟩
    have hb0 := hw b (by simp)
    by_cases h0 : b.width = 0
    · -- a zero-width character would leave the position within the limit
      refine absurd ?_ hnot
      have e : stepPos (advance (advance {} A) M) b =
          { advance (advance {} A) M with bytes := (advance (advance {} A) M).bytes + b.bytes.length,
                                          codepoints := (advance (advance {} A) M).codepoints + 1 } := by
        simp [stepPos, isG, h0]
      rw [e]
      exact hwithin
    · omega

theorem count_all (s : List UInt8) (cs : List Ch) (hdec : decode s = some cs) (hw : ∀ c ∈ cs, 0 ≤ c.width) :
    (ncountmore s none {} (some ⟨-1, -1, -1, -1⟩)).pos = advance {} cs := by
  have hall : ∀ p, Within ⟨-1, -1, -1, -1⟩ p := fun _ => ⟨Or.inl rfl, Or.inl rfl⟩
  obtain ⟨M, R', rfl, hpos, _, hmax⟩ := ncountmore_split s [] cs hdec hw ⟨-1, -1, -1, -1⟩ rfl rfl (hall _)
  cases R' with
  | nil => rw [List.append_nil]; exact hpos
  | cons b rest => exact absurd (hall _) (hmax b rest rfl).2

def gCount : List Ch → Int
  | [] => 0
  | c :: cs => isG c + gCount cs

theorem advance_graphemes (p : StrPos) (cs : List Ch) : (advance p cs).graphemes = p.graphemes + gCount cs := by
  induction cs generalizing p with
  | nil => simp [advance, gCount]
  | cons c cs ih =>
    simp only [advance, gCount]
    rw [ih]
    simp only [stepPos]
    omega

theorem gCount_nonneg : ∀ cs : List Ch, 0 ≤ gCount cs
  | [] => Int.le_refl 0
  | c :: cs => by
    have := gCount_nonneg cs
    simp only [gCount, isG]
    split <;> omega

theorem zero_of_gCount : ∀ cs : List Ch, (∀ c ∈ cs, 0 ≤ c.width) → gCount cs = 0 → ∀ c ∈ cs, c.width = 0
  | [], _, _ => fun _ h => nomatch h
  | c :: cs, hw, h => by
    obtain ⟨hc, hw'⟩ := List.forall_mem_cons.1 hw
    have := gCount_nonneg cs
    simp only [gCount, isG] at h
    by_cases hp : c.width > 0
    · rw [if_pos hp] at h; omega
    · rw [if_neg hp] at h
      exact List.forall_mem_cons.2 ⟨by omega, zero_of_gCount cs hw' (by omega)⟩

/-- For a scan bounded by the length of the string, as `put_string`'s is. -/
theorem decodeFrom_of_scan (s : List UInt8) : ∀ (cs07 : List Tickit.Utf8.Ch) (f off : Nat), off ≤ s.length →
    Tickit.Utf8.scan (memOf s) f off (some (s.length - off)) = some (cs07, .eof) →
    ∃ cs, decodeFrom s f off = some cs ∧ cs.map toC07 = cs07
  | [], f, off, _, h => by
    obtain ⟨hi, hst⟩ := (Tickit.Utf8.scan_nil _ _ _ _ _ h).1 rfl
    have hz : byteAt s off = 0 := (Tickit.Utf8.stepAt_stop_inv hst).elim
      (fun hl => memOf_zero s off (by simp only [Option.some.injEq] at hl; omega)) id
    cases f with
    | zero => cases h
    | succ f => exact ⟨[], by unfold decodeFrom; rw [if_pos hz], rfl⟩
  | c :: cs07, f, off, hoff, h => by
    obtain ⟨f', hi, rfl, hst, hrest⟩ := Tickit.Utf8.scan_cons_inv h
    obtain ⟨_, h0, hd, hctl, hw⟩ := Tickit.Utf8.stepAt_ch_inv hst
    have hn := Tickit.Utf8.stepAt_ch_len _ _ _ _ _ _ _ hst
    have hw0 := (Tickit.Utf8.stepAt_ch_nonneg hst).1
    rw [show Tickit.Utf8.lenDec (some (s.length - off)) c.n = some (s.length - (off + c.n)) by
      simp only [Tickit.Utf8.lenDec, Option.map_some]; congr 1; omega] at hrest
    obtain ⟨cs, hcs, hmap⟩ := decodeFrom_of_scan s cs07 f' (off + c.n) (by omega) hrest
    have hnext : nextUtf8 s off none = some ⟨c.n, c.cp⟩ := by
      rw [nextUtf8_eq, Tickit.Utf8.nextUtf8_congr hd (fun _ _ => rfl) (fun l hl => by cases hl)]; rfl
    rw [← wcwidth_eq] at hw
    refine ⟨⟨(s.drop off).take c.n, c.cp, wcwidth c.cp⟩ :: cs, ?_, ?_⟩
    · unfold decodeFrom
      rw [if_neg (show ¬ byteAt s off = 0 from h0), hnext]
      simp only
      rw [if_neg (by unfold Tickit.Utf8.IsControl at hctl; simp; omega), if_neg (by omega), hcs]
      rfl
    · rw [List.map_cons, hmap, ← hw]
      simp only [toC07, List.length_take, List.length_drop, List.cons.injEq, and_true]
      cases c
      simp only [Tickit.Utf8.Ch.mk.injEq, and_true] at hn ⊢
      omega

theorem sum_toC07 : ∀ cs : List Ch, ((cs.map toC07).map (·.w)).sum = chCols cs
  | [] => rfl
  | c :: cs => by rw [List.map_cons, List.map_cons, List.sum_cons, sum_toC07 cs]; rfl

/-- What `put_string` accepts (`tickit_utf8_ncount` over the whole string returns its columns), the flush can decode,
    and the columns agree. -/
theorem decode_of_stringColumns (s : List UInt8) (n : Int) (h : stringColumns s = some n) :
    ∃ cs, decode s = some cs ∧ chCols cs = n := by
  obtain ⟨cs07, t, hs, he⟩ := stringColumns_c07 s
  rw [h] at he
  cases t with
  | err => cases he
  | eof =>
    obtain ⟨cs, hcs, rfl⟩ := decodeFrom_of_scan s cs07 (s.length + 1) 0 (Nat.zero_le _) hs
    exact ⟨cs, hcs, by rw [if_pos rfl, sum_toC07] at he; exact (Option.some.inj he).symm⟩

end Tickit.RBFlush
