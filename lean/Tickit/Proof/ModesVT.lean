import Tickit.Model.Modes
import Tickit.Proof.SgrCsi
/-
  C12 — how the VT interpreter reads the byte strings the driver model writes: `VT.step` as an instance of the shared
  parameter reader (`reads`, `decimal_showNat`, `feed_showNat`), then `feed_decset`, `feed_startBytes`, the mouse pair,
  text, OSC strings, DECSCUSR.
-/
namespace Tickit.Modes
open Tickit.Gen

theorem feed_append (vt : VT) (a b : List Nat) : VT.feed vt (a ++ b) = VT.feed (VT.feed vt a) b := by
  simp [VT.feed, List.foldl_append]

@[simp] theorem feed_nil (vt : VT) : VT.feed vt [] = vt := rfl

theorem feed_cons (vt : VT) (b : Nat) (bs : List Nat) : VT.feed vt (b :: bs) = VT.feed (vt.step b) bs := rfl

theorem showNatAux_digits : ∀ (f n : Nat), ∀ d ∈ showNatAux f n, 48 ≤ d ∧ d ≤ 57
  | 0, n => by intro d hd; simp [showNatAux] at hd; omega
  | f + 1, n => by
    intro d hd
    simp only [showNatAux] at hd
    split at hd
    · simp at hd; omega
    · simp at hd
      rcases hd with hd | hd
      · exact showNatAux_digits f _ d hd
      · omega

theorem showNat_digits (n : Nat) : ∀ d ∈ showNat n, 48 ≤ d ∧ d ≤ 57 := showNatAux_digits n n

theorem showNat_ne_nil (n : Nat) : showNat n ≠ [] := by
  unfold showNat
  cases n with
  | zero => simp [showNatAux]
  | succ k => simp only [showNatAux]; split <;> simp

theorem showNatAux_value : ∀ (f n : Nat), n ≤ f → (showNatAux f n).foldl (fun x c => x * 10 + (c - 48)) 0 = n
  | 0, n, h => by
    obtain rfl : n = 0 := by omega
    rfl
  | f + 1, n, h => by
    simp only [showNatAux]
    split
    · simp
    · rw [List.foldl_append, showNatAux_value f (n / 10) (by omega)]
      simp; omega

theorem decimal_showNat : Csi.Decimal id showNat :=
  ⟨showNat_digits, fun n => (if_neg (showNat_ne_nil n)).trans (congrArg some (showNatAux_value n n (Nat.le_refl n)))⟩

theorem showInt_nonneg (v : Int) (h : 0 ≤ v) : showInt v = showNat v.toNat := by
  unfold showInt; rw [if_neg (by omega)]

/-- Whatever the private marker: the parameter bytes are read alike (`Csi.Reads`, `Proof/Csi.lean`). -/
theorem reads (p : Nat) (m : VModes) (a : Attrs) :
    Csi.Reads id VT.step fun acc => ⟨.csi p acc.done acc.sub acc.cur [], m, a⟩ := by
  intro acc b h1 h2
  simp only [VT.step, id, pv] at h1 h2 ⊢
  by_cases hd : b ≤ 57
  · rw [if_pos ⟨h1, hd⟩, if_pos trivial, Csi.Acc.byte_digit _ h1 hd]
  · rcases (by omega : b = 58 ∨ b = 59) with rfl | rfl <;> rfl

theorem feed_showNat (p : Nat) (gs : List PGroup) (g : PGroup) (m : VModes) (a : Attrs) (n : Nat) :
    VT.feed ⟨.csi p gs g none [], m, a⟩ (showNat n) = ⟨.csi p gs g (some n) [], m, a⟩ := by
  have h := (reads p m a).foldl (showNat n) ⟨gs, g, none⟩ fun b hb =>
    ⟨(showNat_digits n b hb).1, Nat.le_trans (showNat_digits n b hb).2 (by decide)⟩
  rwa [Csi.Acc.read_param gs g _ (decimal_showNat.digits n), decimal_showNat.value] at h

theorem feed_fixed (vt : VT) : ∀ (bs : List Nat), (∀ b ∈ bs, vt.step b = vt) → VT.feed vt bs = vt
  | [], _ => rfl
  | b :: bs, h => by
    rw [feed_cons, h b List.mem_cons_self, feed_fixed vt bs fun x hx => h x (List.mem_cons_of_mem _ hx)]

theorem textOnly_mem {bs : List Nat} (h : textOnly bs = true) {b : Nat} (hb : b ∈ bs) : 32 ≤ b ∧ b ≠ 127 :=
  of_decide_eq_true (List.all_eq_true.mp h b hb)

theorem feed_ignore (m : VModes) (a : Attrs) (bs : List Nat) (h : ∀ b ∈ bs, 32 ≤ b ∧ b ≤ 63) :
    VT.feed ⟨.csiIgnore, m, a⟩ bs = ⟨.csiIgnore, m, a⟩ :=
  feed_fixed _ bs fun b hb => by
    have := h b hb
    simp only [VT.step]
    rw [if_neg (by omega), if_neg (by omega), if_neg (by omega)]

theorem feed_text_ground (m : VModes) (a : Attrs) (bs : List Nat) (h : textOnly bs = true) :
    VT.feed ⟨.ground, m, a⟩ bs = ⟨.ground, m, a⟩ :=
  feed_fixed _ bs fun b hb => by
    have := textOnly_mem h hb
    simp only [VT.step]; rw [if_neg (by omega)]

theorem feed_text_str (m : VModes) (a : Attrs) (bs : List Nat) (h : textOnly bs = true) :
    VT.feed ⟨.str, m, a⟩ bs = ⟨.str, m, a⟩ :=
  feed_fixed _ bs fun b hb => by
    have := textOnly_mem h hb
    simp only [VT.step]; rw [if_neg (by omega), if_neg (by omega)]

theorem feed_decset (m : VModes) (a : Attrs) (on : Bool) (n fin : Nat) (hfin : fin = if on then 104 else 108) :
    VT.feed ⟨.ground, m, a⟩ ([27, 91, 63] ++ showNat n ++ [fin]) = ⟨.ground, decset on n m, a⟩ := by
  have h1 : VT.feed ⟨.ground, m, a⟩ [27, 91, 63] = ⟨.csi 63 [] [] none [], m, a⟩ := rfl
  rw [feed_append, feed_append, h1, feed_showNat, hfin]
  cases on <;> simp [VT.feed, VT.step, csiDispatch, firstOf, pv]

section literals
variable (m : VModes) (a : Attrs)

theorem feed_altOn : VT.feed ⟨.ground, m, a⟩ altOn = ⟨.ground, { m with altscreen := true }, a⟩ :=
  feed_decset m a true 1049 104 rfl
theorem feed_altOff : VT.feed ⟨.ground, m, a⟩ altOff = ⟨.ground, { m with altscreen := false }, a⟩ :=
  feed_decset m a false 1049 108 rfl
theorem feed_visOn : VT.feed ⟨.ground, m, a⟩ visOn = ⟨.ground, { m with cursorVisible := true }, a⟩ :=
  feed_decset m a true 25 104 rfl
theorem feed_visOff : VT.feed ⟨.ground, m, a⟩ visOff = ⟨.ground, { m with cursorVisible := false }, a⟩ :=
  feed_decset m a false 25 108 rfl
theorem feed_blinkOn : VT.feed ⟨.ground, m, a⟩ blinkOn = ⟨.ground, { m with cursorBlink := true }, a⟩ :=
  feed_decset m a true 12 104 rfl
theorem feed_blinkOff : VT.feed ⟨.ground, m, a⟩ blinkOff = ⟨.ground, { m with cursorBlink := false }, a⟩ :=
  feed_decset m a false 12 108 rfl
theorem feed_keypadOn : VT.feed ⟨.ground, m, a⟩ keypadOn = ⟨.ground, { m with keypadApp := true }, a⟩ := rfl
theorem feed_keypadOff : VT.feed ⟨.ground, m, a⟩ keypadOff = ⟨.ground, { m with keypadApp := false }, a⟩ := rfl
theorem feed_sgrReset : VT.feed ⟨.ground, m, a⟩ sgrReset = ⟨.ground, m, Attrs.default⟩ := rfl
theorem feed_clearScreen : VT.feed ⟨.ground, m, a⟩ clearScreen = ⟨.ground, m, a⟩ := rfl

/-- The start-up string, sequence by sequence: DECSET 69, three DECRQM queries, a DECRQSS query (a DCS string), the
    two colour probes, the second DECRQSS query, `SGR 0`, `CHA`, `EL`. -/
theorem startBytes_eq : startBytes =
    [27, 91, 63, 54, 57, 104] ++ ([27, 91, 63, 54, 57, 36, 112] ++ ([27, 91, 63, 50, 53, 36, 112] ++
    ([27, 91, 63, 49, 50, 36, 112] ++ ([27, 80, 36, 113, 32, 113, 27, 92] ++
    ([27, 91, 51, 56, 59, 53, 59, 50, 53, 53, 109] ++ ([27, 91, 51, 56, 58, 50, 58, 48, 58, 49, 58, 50, 109] ++
    ([27, 80, 36, 113, 109, 27, 92] ++ ([27, 91, 109] ++ ([27, 91, 71] ++ [27, 91, 75]))))))))) := rfl

/-- Read one sequence at a time: evaluating the interpreter on the whole string at once is slow to check. -/
theorem feed_startBytes : VT.feed ⟨.ground, m, a⟩ startBytes = ⟨.ground, { m with declrmm := true }, Attrs.default⟩ := by
  have h1 : VT.feed ⟨.ground, m, a⟩ [27, 91, 63, 54, 57, 104] = ⟨.ground, { m with declrmm := true }, a⟩ :=
    feed_decset m a true 69 104 rfl
  have h2 : ∀ m : VModes, VT.feed ⟨.ground, m, a⟩ [27, 91, 63, 54, 57, 36, 112] = ⟨.ground, m, a⟩ := fun _ => rfl
  have h3 : ∀ m : VModes, VT.feed ⟨.ground, m, a⟩ [27, 91, 63, 50, 53, 36, 112] = ⟨.ground, m, a⟩ := fun _ => rfl
  have h4 : ∀ m : VModes, VT.feed ⟨.ground, m, a⟩ [27, 91, 63, 49, 50, 36, 112] = ⟨.ground, m, a⟩ := fun _ => rfl
  have h5 : ∀ m : VModes, VT.feed ⟨.ground, m, a⟩ [27, 80, 36, 113, 32, 113, 27, 92] = ⟨.ground, m, a⟩ := fun _ => rfl
  have h6 : ∀ m : VModes, VT.feed ⟨.ground, m, a⟩ [27, 91, 51, 56, 59, 53, 59, 50, 53, 53, 109] = ⟨.ground, m, a.set .fg 255⟩ :=
    fun _ => rfl
  have h7 : ∀ (m : VModes) (a : Attrs), VT.feed ⟨.ground, m, a⟩ [27, 91, 51, 56, 58, 50, 58, 48, 58, 49, 58, 50, 109] =
      ⟨.ground, m, a.set .fg (rgbCode 0 1 2)⟩ := fun _ _ => rfl
  have h8 : ∀ (m : VModes) (a : Attrs), VT.feed ⟨.ground, m, a⟩ [27, 80, 36, 113, 109, 27, 92] = ⟨.ground, m, a⟩ := fun _ _ => rfl
  have h9 : ∀ m : VModes, VT.feed ⟨.ground, m, Attrs.default⟩ [27, 91, 71] = ⟨.ground, m, Attrs.default⟩ := fun _ => rfl
  have h10 : ∀ m : VModes, VT.feed ⟨.ground, m, Attrs.default⟩ [27, 91, 75] = ⟨.ground, m, Attrs.default⟩ := fun _ => rfl
  rw [startBytes_eq]
  iterate 10 rw [feed_append]
  rw [h1, h2, h3, h4, h5, h6, h7, h8, show [27, 91, 109] = sgrReset from rfl, feed_sgrReset, h9, h10]

end literals

theorem modeForMouse_nonneg (k : Int) : 0 ≤ modeForMouse k := by
  unfold modeForMouse; split <;> (try split) <;> (try split) <;> decide

/-- `"\e[?%dh\e[?1006h"` / `"\e[?%dl\e[?1006l"` with the number of any mouse mode (`0` for one the driver does not
    know). -/
theorem feed_mouse (m : VModes) (a : Attrs) (on : Bool) (k : Int) :
    VT.feed ⟨.ground, m, a⟩ (if on then mouseOn (modeForMouse k) else mouseOff (modeForMouse k)) =
      ⟨.ground, decset on 1006 (decset on (modeForMouse k).toNat m), a⟩ := by
  have e : ∀ fin : Nat, [27, 91, 63] ++ showInt (modeForMouse k) ++ [fin, 27, 91, 63, 49, 48, 48, 54, fin] =
      ([27, 91, 63] ++ showNat (modeForMouse k).toNat ++ [fin]) ++ ([27, 91, 63] ++ showNat 1006 ++ [fin]) := by
    intro fin
    rw [showInt_nonneg _ (modeForMouse_nonneg k), show showNat 1006 = [49, 48, 48, 54] from rfl]
    simp
  cases on
  · exact (congrArg _ (e 108)).trans (by rw [feed_append, feed_decset m a false _ 108 rfl, feed_decset _ a false _ 108 rfl])
  · exact (congrArg _ (e 104)).trans (by rw [feed_append, feed_decset m a true _ 104 rfl, feed_decset _ a true _ 104 rfl])

theorem feed_mouse_known (m : VModes) (a : Attrs) (on : Bool) (k : Nat) (h : 1 ≤ k ∧ k ≤ 3) :
    VT.feed ⟨.ground, m, a⟩ (if on then mouseOn (modeForMouse k) else mouseOff (modeForMouse k)) =
      ⟨.ground, { m with mouse := if on then (modeForMouse k).toNat else 0, sgrMouse := on }, a⟩ := by
  rw [feed_mouse]
  rcases (by omega : k = 1 ∨ k = 2 ∨ k = 3) with rfl | rfl | rfl <;> cases on <;> rfl

theorem feed_osc (m : VModes) (a : Attrs) (k : Nat) (payload : List Nat) (h : textOnly payload = true)
    (hk : 32 ≤ k ∧ k ≠ 127) :
    VT.feed ⟨.ground, m, a⟩ ([27, 93, k, 59] ++ payload ++ [27, 92]) = ⟨.ground, m, a⟩ := by
  have h1 : VT.feed ⟨.ground, m, a⟩ [27, 93] = ⟨.str, m, a⟩ := rfl
  have h2 : textOnly [k, 59] = true := by simp [textOnly, hk]
  rw [show [27, 93, k, 59] = [27, 93] ++ [k, 59] from rfl, feed_append, feed_append, feed_append, h1,
    feed_text_str m a _ h2, feed_text_str m a payload h]
  rfl

theorem feed_shapeSeq (m : VModes) (a : Attrs) (n : Int) :
    ∃ sh bl, VT.feed ⟨.ground, m, a⟩ (shapeSeq n) = ⟨.ground, { m with cursorShape := sh, cursorBlink := bl }, a⟩ := by
  unfold shapeSeq showInt
  split
  · -- negative: `-` is an intermediate, the digit after it makes the sequence void
    rename_i hneg
    obtain ⟨d, ds, hds⟩ := List.exists_cons_of_ne_nil (showNat_ne_nil n.natAbs)
    have hdig := showNat_digits n.natAbs
    rw [hds] at hdig
    have hd := hdig d (by simp)
    refine ⟨m.cursorShape, m.cursorBlink, ?_⟩
    rw [hds]
    have h1 : VT.feed ⟨.ground, m, a⟩ [27, 91, 45, d] = ⟨.csiIgnore, m, a⟩ := by
      show VT.step ⟨.csi 0 [] [] none [45], m, a⟩ d = _
      simp [VT.step, hd.1, hd.2]
    have : [27, 91] ++ 45 :: d :: ds ++ [32, 113] = [27, 91, 45, d] ++ (ds ++ [32]) ++ [113] := by simp
    rw [this, feed_append, feed_append, h1, feed_ignore]
    · rfl
    · intro b hb
      simp at hb
      rcases hb with hb | hb
      · have := hdig b (by simp [hb]); omega
      · omega
  · refine ⟨if n.toNat ≤ 6 then n.toNat else m.cursorShape,
             if n.toNat ≤ 6 then decide (n.toNat = 0 ∨ n.toNat % 2 = 1) else m.cursorBlink, ?_⟩
    have h1 : VT.feed ⟨.ground, m, a⟩ [27, 91] = ⟨.csi 0 [] [] none [], m, a⟩ := rfl
    rw [feed_append, feed_append, h1, feed_showNat]
    simp only [VT.feed, List.foldl, VT.step, csiDispatch]
    simp [firstOf, pv]
    split <;> rfl

end Tickit.Modes
