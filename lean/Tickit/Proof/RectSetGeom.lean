import Tickit.Model.RectSet
import Tickit.Proof.Rect
/-
  The relations between two rectangles that the proofs about rectset.c are written in, and the facts of
  plane geometry about them: each linear arithmetic on the edges of two or three rectangles, which the proofs
  about the array quote.
-/
namespace Tickit
namespace RectSet
open Rect

/-- The strict order of `cmprect`. -/
def TL (a b : Rect) : Prop := a.top < b.top ∨ (a.top = b.top ∧ a.left < b.left)

/-- Arithmetic form of "share no cell" (for non-empty rectangles). -/
def Sep (a b : Rect) : Prop :=
  a.bottom ≤ b.top ∨ b.bottom ≤ a.top ∨ a.right ≤ b.left ∨ b.right ≤ a.left

/-- The two share a piece of positive length of a vertical edge: side by side, with a common row. -/
def VEdge (a b : Rect) : Prop :=
  (a.right = b.left ∨ b.right = a.left) ∧ a.top < b.bottom ∧ b.top < a.bottom

/-- Same columns, one directly above the other: `tickit_rectset_add` would have merged them. -/
def Stacked (a b : Rect) : Prop :=
  a.left = b.left ∧ a.right = b.right ∧ (a.bottom = b.top ∨ b.bottom = a.top)

/-- `x` is stacked directly above `p`. -/
def SA (x p : Rect) : Prop := x.left = p.left ∧ x.right = p.right ∧ x.bottom = p.top

/-- `cur` and the cells just outside its vertical edges. -/
def widen (cur : Rect) : Rect := { cur with left := cur.left - 1, cols := cur.cols + 2 }

/-- `m` has no cell in `p` nor just outside a vertical edge of `p`: between non-empty rectangles,
    `Sep p m ∧ ¬ VEdge p m`.  What `vadd` asks of every member, and what the termination measure counts the failures of. -/
def Clear (p m : Rect) : Prop := Sep (widen p) m

/-- What holds between any two members of a canonical array. -/
def Apart (a b : Rect) : Prop := Sep a b ∧ ¬ VEdge a b ∧ ¬ Stacked a b

/-- `a` stands before `b` in a canonical array: `InvS` is `Pairwise Ord`. -/
def Ord (a b : Rect) : Prop := TL a b ∧ Apart a b

instance (a b : Rect) : Decidable (Ord a b) := by
  unfold Ord Apart TL Sep VEdge Stacked; exact inferInstance

/-- What a stretch of `tickit_rectset_add` puts in place of the member `r` and the current `cur`. -/
def grow (r cur : Rect) : Rect :=
  Rect.initBounded (min r.top cur.top) (min r.left cur.left) (max r.bottom cur.bottom) (max r.right cur.right)

/-- Same rows or same columns: the condition under which the scan stretches. -/
def Aligned (cur r : Rect) : Prop :=
  (cur.top = r.top ∧ cur.bottom = r.bottom) ∨ (cur.left = r.left ∧ cur.right = r.right)

/-- What the scan knows of a member it does not pass: `r` touches or overlaps `cur` (edges included) and does not
    contain it.  It then stretches (`Aligned`) or splits. -/
def Near (cur r : Rect) : Prop :=
  r.top ≤ cur.bottom ∧ cur.top ≤ r.bottom ∧ cur.left ≤ r.right ∧ r.left ≤ cur.right ∧
  ¬ (r.top ≤ cur.top ∧ cur.bottom ≤ r.bottom ∧ r.left ≤ cur.left ∧ cur.right ≤ r.right)

/-- The three column ranges a remain of `r` minus `hole` can have: all of `r`, left of the hole, right of it. -/
def ColClass (r hole p : Rect) : Prop :=
  (p.left = r.left ∧ p.right = r.right) ∨ (p.left = r.left ∧ p.right = hole.left) ∨
  (p.left = hole.right ∧ p.right = r.right)

theorem widen_top (r : Rect) : (widen r).top = r.top := rfl

theorem widen_bottom (r : Rect) : (widen r).bottom = r.bottom := rfl

theorem widen_left (r : Rect) : (widen r).left = r.left - 1 := rfl

theorem widen_right (r : Rect) : (widen r).right = r.right + 1 := by
  show r.left - 1 + (r.cols + 2) = r.left + r.cols + 1; omega

/- `rs_omega`: unfold the whole vocabulary everywhere down to the four edges of each rectangle (as `rect_omega` does:
   `bottom` and `right` stay atoms) and finish by `omega`.  Only for goals whose hypotheses are the few relations the
   fact is about: every disjunction in a hypothesis multiplies the case analysis. -/
macro "rs_omega" : tactic =>
  `(tactic| ((try simp only [Clear, widen_top, widen_bottom, widen_left, widen_right, Ord, Apart, TL, Sep, VEdge, Stacked,
      SA, grow, Aligned, Near, Within, ColClass, Rect.Mem, Rect.nonempty_iff, Rect.initBounded_top, Rect.initBounded_left,
      Rect.initBounded_bottom, Rect.initBounded_right, Rect.withLines_bottom, Rect.withLines_right, Rect.translate_top,
      Rect.translate_left, Rect.translate_bottom, Rect.translate_right, cmprect] at *) <;>
      (try simp only [true_and, and_true, true_or, or_true]) <;> first | done | omega))

theorem tl_irrefl {a : Rect} (h : TL a a) : False := by rs_omega

theorem tl_trans {a b c : Rect} (h1 : TL a b) (h2 : TL b c) : TL a c := by rs_omega

theorem tl_top_le {a b : Rect} (h : TL a b) : a.top ≤ b.top := by rs_omega

theorem tl_of_key {x y m : Rect} (hk : y.top = x.top ∧ y.left = x.left) (h : TL x m) : TL y m := by
  rs_omega

theorem tl_of_cmprect {x r : Rect} (h : cmprect x r > 0) : TL r x := by
  unfold cmprect at h
  split at h <;> rs_omega

/-- `insert_rect` passes a member that does not compare greater; as the two share no cell it sorts before. -/
theorem tl_of_not_cmprect {x r : Rect} (h : ¬ cmprect x r > 0) (hs : Sep r x) (hr : r.Nonempty)
    (hx : x.Nonempty) : TL x r := by
  unfold cmprect at h
  split at h <;> rs_omega

theorem intersects_iff_not_sep (a b : Rect) : a.intersects b = true ↔ ¬ Sep a b := by
  rw [intersects_iff_lt]; unfold Sep; omega

theorem sep_of_not_intersects {a b : Rect} (h : a.intersects b = false) : Sep a b :=
  Classical.not_not.1 (fun hn => by rw [(intersects_iff_not_sep a b).2 hn] at h; cases h)

theorem sep_not_mem {a b : Rect} {l c : Int} (h : Sep a b) (ha : a.Mem l c) : ¬ b.Mem l c :=
  fun hb => (intersects_iff_not_sep a b).1 (mem_intersects ha hb) h

theorem sep_iff_disjoint {a b : Rect} (ha : a.Nonempty) (hb : b.Nonempty) : Sep a b ↔ Rect.Disjoint a b := by
  refine ⟨fun h l c hm => sep_not_mem h hm.1 hm.2, fun h => Classical.not_not.1 fun hn => ?_⟩
  obtain ⟨l, c, hm⟩ := (Rect.intersects_iff a b ha hb).1 ((intersects_iff_not_sep a b).2 hn)
  exact h l c hm

theorem sep_not_contains {p r : Rect} (h : Sep p r) (hp : p.Nonempty) : ¬ r.contains p = true :=
  fun hc => sep_not_mem h (mem_top_left hp) (mem_of_within ((contains_iff_within r p).1 hc) (mem_top_left hp))

theorem right_le_of_sep {m r : Rect} {l c : Int} (hs : Sep m r) (hrn : r.Nonempty) (hm : m.Mem l c)
    (hr : r.top ≤ l ∧ l < r.bottom) (hc : c < r.left) : m.right ≤ r.left := by
  rs_omega

/-- One relation at a time: together their case analyses multiply. -/
theorem apart_symm {a b : Rect} (h : Apart a b) : Apart b a :=
  ⟨by have := h.1; unfold Sep at *; omega, by have := h.2.1; unfold VEdge at *; omega,
    by have := h.2.2; unfold Stacked at *; omega⟩

theorem mem_widen {cur : Rect} {l c : Int} :
    (widen cur).Mem l c ↔ cur.top ≤ l ∧ l < cur.bottom ∧ cur.left - 1 ≤ c ∧ c ≤ cur.right := by
  rs_omega

theorem mem_widen_of_mem {r : Rect} {l c : Int} (h : r.Mem l c) : (widen r).Mem l c := by rs_omega

theorem clear_iff {p m : Rect} (hp : p.Nonempty) (hm : m.Nonempty) : Clear p m ↔ Sep p m ∧ ¬ VEdge p m := by
  rs_omega

theorem clear_of_apart {m r : Rect} (h : Apart m r) (hr : r.Nonempty) (hm : m.Nonempty) : Clear r m :=
  (clear_iff hr hm).2 ⟨(apart_symm h).1, (apart_symm h).2.1⟩

theorem Clear.mono {p r m : Rect} (h : Clear r m) (hw : Within p r) : Clear p m := by
  rs_omega

theorem Clear.not_mem {p m : Rect} {l c : Int} (h : Clear p m) (hm : m.Mem l c) : ¬ (widen p).Mem l c :=
  fun hw => sep_not_mem h hw hm

theorem Clear.sep {p m : Rect} (h : Clear p m) : Sep p m := by rs_omega

theorem Clear.not_contains {p r : Rect} (h : Clear p r) (hp : p.Nonempty) : ¬ r.contains p = true :=
  sep_not_contains h.sep hp

theorem apart_mem {m r : Rect} {l c : Int} (h : Apart m r) (hr : r.Nonempty) (hm : m.Mem l c) :
    ¬ (widen r).Mem l c :=
  (clear_of_apart h hr (nonempty_of_mem hm)).not_mem hm

theorem stacked_of_sa {x p : Rect} (h : SA x p) : Stacked p x := by rs_omega

theorem sa_irrefl {a : Rect} (ha : a.Nonempty) (h : SA a a) : False := by rs_omega

theorem sa_asymm {a b : Rect} (ha : a.Nonempty) (hb : b.Nonempty) (h1 : SA a b) (h2 : SA b a) : False := by
  rs_omega

theorem ord_translate {a b : Rect} (h : Ord a b) (d k : Int) : Ord (a.translate d k) (b.translate d k) := by
  unfold Ord Apart TL Sep VEdge Stacked
  simp only [translate_top, translate_bottom, translate_left, translate_right]

  exact ⟨by have := h.1; unfold TL at this; omega, by have := h.2.1; unfold Sep at this; omega,
    by have := h.2.2.1; unfold VEdge at this; omega, by have := h.2.2.2; unfold Stacked at this; omega⟩

theorem mem_edge_cols {p : Rect} {l : Int} (hp : p.Nonempty) (h1 : p.top ≤ l) (h2 : l < p.bottom) :
    p.Mem l p.left ∧ p.Mem l (p.right - 1) := by
  rs_omega

theorem not_mem_outside (p : Rect) (l : Int) : ¬ p.Mem l (p.left - 1) ∧ ¬ p.Mem l p.right := by
  rs_omega

theorem first_col {a : Rect} {l x : Int} (h : a.Mem l x) (hn : ¬ a.Mem l (x - 1)) : x = a.left := by
  rs_omega

theorem last_col {a : Rect} {l x : Int} (h : a.Mem l (x - 1)) (hn : ¬ a.Mem l x) : x = a.right := by
  rs_omega

theorem left_edge {r cur : Rect} {l x : Int} (hin : r.Mem l x ∨ cur.Mem l x) (hr : ¬ (widen r).Mem l (x - 1))
    (hc : ¬ cur.Mem l (x - 1)) : cur.Mem l x ∧ x = cur.left := by
  rcases hin with h | h
  · rs_omega
  · exact ⟨h, first_col h hc⟩

theorem right_edge {r cur : Rect} {l x : Int} (hin : r.Mem l (x - 1) ∨ cur.Mem l (x - 1))
    (hr : ¬ (widen r).Mem l x) (hc : ¬ cur.Mem l x) : cur.Mem l (x - 1) ∧ x = cur.right := by
  rcases hin with h | h
  · rs_omega
  · exact ⟨h, last_col h hc⟩

/-- A member the scan splits (or would split) has a cell in or beside the current rectangle. -/
theorem not_clear_of_near {cur r : Rect} (hn : Near cur r) (hrows : cur.top < r.bottom ∧ r.top < cur.bottom) :
    ¬ Clear cur r := by
  rs_omega

theorem near_witness {cur r : Rect} (hn : Near cur r) (hrows : cur.top < r.bottom ∧ r.top < cur.bottom)
    (hc : cur.Nonempty) (hr : r.Nonempty) : ∃ l c, (widen cur).Mem l c ∧ r.Mem l c :=
  (Rect.intersects_iff _ _ (by rs_omega) hr).1 ((intersects_iff_not_sep _ _).2 (not_clear_of_near hn hrows))

theorem near_of_scan {cur r : Rect} (hb : ¬ cur.bottom < r.top)
    (hfar : ¬ (cur.top > r.bottom ∨ cur.left > r.right ∨ cur.right < r.left))
    (hc : ¬ r.contains cur = true) : Near cur r := by
  unfold Rect.contains at hc
  simp only [Bool.and_eq_true, decide_eq_true_eq] at hc
  rs_omega

theorem not_far_of_near {cur r : Rect} (h : Near cur r) :
    ¬ (r.left > cur.right ∨ cur.left > r.right ∨ r.top > cur.bottom ∨ cur.top > r.bottom) := by
  rs_omega

theorem grow_nonempty {r cur : Rect} (hc : cur.Nonempty) : (grow r cur).Nonempty := by
  rs_omega

theorem mem_grow {r cur : Rect} (hn : Near cur r) (ha : Aligned cur r) (l c : Int) :
    (grow r cur).Mem l c ↔ r.Mem l c ∨ cur.Mem l c := by
  obtain ⟨h1, h2, h3, h4, _⟩ := hn
  -- rows and columns separately: each a hull of two intervals that touch, one of them of two equal intervals
  unfold grow
  rw [mem_initBounded, ← and_assoc, interval_union_iff _ _ _ _ l h1 h2, interval_union_iff _ _ _ _ c h4 h3]
  unfold Rect.Mem
  rcases ha with ha | ha <;> omega

theorem apart_of_below {cur x : Rect} (hc : cur.Nonempty) (hx : x.Nonempty) (h : cur.bottom < x.top) :
    Apart cur x := by
  rs_omega

theorem apart_of_far {cur r : Rect} (hc : cur.Nonempty) (hr : r.Nonempty)
    (h : cur.top > r.bottom ∨ cur.left > r.right ∨ cur.right < r.left) : Apart cur r := by
  rs_omega

theorem apart_of_adjacent {cur r : Rect} (ha : ¬ Aligned cur r) (h : cur.top = r.bottom ∨ cur.bottom = r.top) :
    Apart cur r := by
  rs_omega

theorem stacked_of_clear {p r : Rect} (hn : Near p r) (ha : Aligned p r) (hc : Clear p r) (hp : p.Nonempty) :
    Stacked r p := by
  rs_omega

theorem grow_stacked {r0 p : Rect} (hst : Stacked r0 p) (hr : r0.Nonempty) (hp : p.Nonempty) :
    (grow r0 p).left = p.left ∧ (grow r0 p).right = p.right ∧
    ((SA r0 p ∧ (grow r0 p).top = r0.top ∧ (grow r0 p).bottom = p.bottom) ∨
     (SA p r0 ∧ (grow r0 p).top = p.top ∧ (grow r0 p).bottom = r0.bottom)) := by
  rs_omega

theorem clear_grow {r0 p m : Rect} (hst : Stacked r0 p) (h0 : Clear r0 m) (hpm : Clear p m) (hp : p.Nonempty)
    (hm : m.Nonempty) : Clear (grow r0 p) m := by
  rs_omega

theorem stacked_grow {r0 p m : Rect} (hst : Stacked r0 p) (hns : ¬ Stacked m r0) (hr : r0.Nonempty)
    (hp : p.Nonempty) (h : Stacked m (grow r0 p)) : Stacked m p := by
  obtain ⟨e1, e2, e3⟩ := grow_stacked hst hr hp
  clear hst
  generalize grow r0 p = g at *
  rcases e3 with e3 | e3 <;> rs_omega

theorem sa_grow {r0 p m : Rect} (hst : Stacked r0 p) (hs : Sep m r0) (hns : ¬ Stacked m r0) (hr : r0.Nonempty)
    (hp : p.Nonempty) (hm : m.Nonempty) : (SA m (grow r0 p) ↔ SA m p) ∧ ¬ (SA r0 p ∧ SA m p) := by
  obtain ⟨e1, e2, e3⟩ := grow_stacked hst hr hp
  clear hst
  generalize grow r0 p = g at *
  rcases e3 with e3 | e3 <;> rs_omega

theorem no_vedge_colClass {r hole p m : Rect} (hp : ColClass r hole p) (hm : ColClass r hole m)
    (hpn : p.Nonempty) (hmn : m.Nonempty) (hh : hole.Nonempty) : ¬ VEdge p m := by
  rs_omega

theorem colClass_of_cols {r hole p g : Rect} (h : ColClass r hole p) (hl : g.left = p.left)
    (hr : g.right = p.right) : ColClass r hole g := by
  unfold ColClass at *
  rw [hl, hr]
  exact h

/-- An old member stacked on a remain has the columns of the remain: beside the hole, or all of `r`'s, and then
    it would be stacked on `r`. -/
theorem sep_hole_of_stacked {r hole p y : Rect} (hs : Sep y r) (hns : ¬ Stacked y r) (hst : Stacked y p)
    (hw : Within p r) (hcc : ColClass r hole p) (hy : y.Nonempty) (hp : p.Nonempty) : Sep y hole := by
  rs_omega

theorem sa_of_key {x r y p : Rect} (hx : TL x r) (hk : y.top = x.top ∧ y.left = x.left) (hst : Stacked y p)
    (hw : Within p r) (hp : p.Nonempty) : SA y p := by
  rs_omega

theorem cut_nonempty {q : Rect} {b : Int} (hq : q.Nonempty) (hb : q.top < b ∧ b < q.bottom) :
    ({ q with lines := b - q.top } : Rect).Nonempty ∧ (Rect.initBounded b q.left q.bottom q.right).Nonempty := by
  rs_omega

theorem mem_cut {q : Rect} {b l c : Int} (hm : q.Mem l c) :
    (l < b → ({ q with lines := b - q.top } : Rect).Mem l c) ∧
    (¬ l < b → (Rect.initBounded b q.left q.bottom q.right).Mem l c) := by
  rs_omega

theorem mem_of_mem_cut {q : Rect} {b l c : Int} (hb : q.top < b)
    (h : (Rect.initBounded b q.left q.bottom q.right).Mem l c) : q.Mem l c := by
  rs_omega

theorem contains_of_spans {r q : Rect} {k : Int} (h : r.top ≤ q.top ∧ r.left ≤ q.left ∧ q.right ≤ r.right)
    (hb : q.top + k ≤ r.bottom) : r.contains { q with lines := k } = true := by
  rw [contains_iff_within]; rs_omega

end RectSet
end Tickit
