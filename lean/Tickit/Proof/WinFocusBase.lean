import Tickit.Model.WinFocus
import Tickit.Proof.WinTreeStore
/-
  C15, the ground the other focus files stand on: the steps of `_focus_lost` / `_focus_gained` inverted, what they leave
  alone, and the store invariant.

  What a step leaves alone is `SameBy g` at two readings: `SameLK` (up to `is_focused`) and `SameBy unlink` (also up to
  `focused_child`).  What `_focus_lost` and the OUT half of a level of `_focus_gained` do at most is one relation, `Dropped`.
  The invariant `wfB` is executable; the proofs read it as `Wf` (`wfB_iff`): `WinTree.Linked` and the engine's own clause
  `FcOk`.  Statements take `wfB t = true` (read through `wf_root`, `wf_parent`, `wf_child`, `wf_focused`); `Wf` is for the
  proofs that rebuild the invariant of a rewritten store.

  `WinFocus.Anc t o x` has the descendant first; `WinSpec.Anc t a w` the ancestor.
-/
namespace Tickit
namespace WinFocus
open WinTree

/-- The same as `WinTree.Live` (the property's statements name this one); `Live.lt`, `Live.unique`, `Live.get` apply. -/
def Live (t : Tree) (id : Nat) (w : Win) : Prop := t.wins[id]? = some w ∧ w.freed = false

theorem focusLostSelf_cases {t : Tree} {win : Nat} {evs : List Event} {r : Tree × List Event}
    (h : focusLostSelf t win evs = .ok r) :
    ∃ w, Live t win w ∧
      ((w.isFocused = true ∧ r = (set t win { w with isFocused := false }, evs ++ [⟨win, .focusOut, win⟩])) ∨
       (w.isFocused = false ∧ r = (t, evs))) := by
  obtain ⟨w, hg, h⟩ := bind_ok_iff.mp h
  refine ⟨w, get_ok_iff.mp hg, ?_⟩
  split at h
  · next hf => exact .inl ⟨hf, (pure_ok_iff.mp h).symm⟩
  · next hf => exact .inr ⟨by simpa using hf, (pure_ok_iff.mp h).symm⟩

/-- The repaired block `if(child && win->is_focused)` is the second half of `_focus_lost`, or nothing. -/
theorem gainSelfOut_cases {fx : Fixes} {t : Tree} {win : Nat} {child : Option Nat} {evs : List Event}
    {r : Tree × List Event} (h : gainSelfOut fx t win child evs = .ok r) :
    focusLostSelf t win evs = .ok r ∨ ((fx.focusEvents && child.isSome) = false ∧ r = (t, evs)) := by
  cases hc : (fx.focusEvents && child.isSome) with
  | true => left; simpa only [gainSelfOut, focusLostSelf, hc, Bool.true_and] using h
  | false =>
    right
    simp only [gainSelfOut, hc, Bool.false_and, bind_ok_iff] at h
    obtain ⟨_, _, h⟩ := h
    exact ⟨rfl, (pure_ok_iff.mp h).symm⟩

theorem focusLost_succ {n : Nat} {t : Tree} {win : Nat} {r : Tree × List Event}
    (h : focusLost (n + 1) t win = .ok r) :
    ∃ w r1, Live t win w ∧ focusLostSelf r1.1 win r1.2 = .ok r ∧
      ((w.focusedChild = none ∧ r1 = (t, [])) ∨
       ∃ c r0 w', w.focusedChild = some c ∧ focusLost n t c = .ok r0 ∧ Live r0.1 win w' ∧
         r1 = (r0.1, r0.2 ++ if w'.focusChildNotify then [⟨win, .focusOut, c⟩] else [])) := by
  simp only [focusLost, focusLostChild, bind_ok_iff] at h
  obtain ⟨r1, ⟨w, hg, h1⟩, h2⟩ := h
  refine ⟨w, r1, get_ok_iff.mp hg, h2, ?_⟩
  split at h1
  · next hfc => exact .inl ⟨hfc, (pure_ok_iff.mp h1).symm⟩
  · next c hfc =>
    simp only [bind_ok_iff, pure_ok_iff] at h1
    obtain ⟨r0, h0, w', hg', h1⟩ := h1
    exact .inr ⟨c, r0, w', hfc, h0, get_ok_iff.mp hg', h1.symm⟩

/-- A level of `_focus_gained` entered with `child` at a window whose focused child is `f` sends `_focus_lost` down the old
    branch: the link is about to move, and the call comes from a child or the repaired source is at work. -/
def Drops (fx : Fixes) (child : Option Nat) (f : Nat) : Prop :=
  (child.isSome = true ∨ fx.focusEvents = true) ∧ some f ≠ child

theorem gainLoseOld_cases {fx : Fixes} {t : Tree} {win : Nat} {child : Option Nat} {r : Tree × List Event}
    (h : gainLoseOld fx t win child = .ok r) :
    ∃ w, Live t win w ∧
      ((∃ fc r0 w', w.focusedChild = some fc ∧ focusLost (treeFuel t) t fc = .ok r0 ∧ Live r0.1 win w' ∧
          r = (r0.1, r0.2 ++ if fx.focusEvents && w'.focusChildNotify then [⟨win, .focusOut, fc⟩] else [])) ∨
       ((∀ fc, w.focusedChild = some fc → ¬ Drops fx child fc) ∧
          r = (t, []))) := by
  obtain ⟨w, hg, h⟩ := bind_ok_iff.mp h
  refine ⟨w, get_ok_iff.mp hg, ?_⟩
  split at h
  · next hfc => exact .inr ⟨fun fc hc => (by rw [hfc] at hc; cases hc), (pure_ok_iff.mp h).symm⟩
  · next fc hfc =>
    split at h
    · simp only [bind_ok_iff, pure_ok_iff] at h
      obtain ⟨r0, h0, w', hg', h⟩ := h
      exact .inl ⟨fc, r0, w', hfc, h0, get_ok_iff.mp hg', h.symm⟩
    · next hc =>
      refine .inr ⟨fun fc' hc' => ?_, (pure_ok_iff.mp h).symm⟩
      rw [hfc] at hc'; cases hc'; simpa [Drops] using hc

theorem gainLoseOld_live {fx : Fixes} {t : Tree} {win : Nat} {child : Option Nat} {r : Tree × List Event}
    (h : gainLoseOld fx t win child = .ok r) : ∃ w, Live t win w :=
  (gainLoseOld_cases h).imp fun _ h => h.1

theorem requestRestoreOf_ok {t t' : Tree} {win : Nat} (h : requestRestoreOf t win = .ok t') : t' = requestRestore t := by
  simp only [requestRestoreOf, bind_ok_iff, pure_ok_iff] at h
  obtain ⟨_, _, h⟩ := h
  exact h.symm

theorem restoreIfFocused_cases {t t' : Tree} {win : Nat} (h : restoreIfFocused t win = .ok t') :
    ∃ w, Live t win w ∧ (t' = requestRestore t ∨ (w.isFocused = false ∧ t' = t)) := by
  obtain ⟨w, hg, h⟩ := bind_ok_iff.mp h
  refine ⟨w, get_ok_iff.mp hg, ?_⟩
  split at h
  · exact .inl (requestRestoreOf_ok h)
  · next hf => exact .inr ⟨by simpa using hf, (pure_ok_iff.mp h).symm⟩

theorem gainLoseOld_drops {fx : Fixes} {t : Tree} {x f : Nat} {child : Option Nat} {w : Win} {r1 : Tree × List Event}
    (h1 : gainLoseOld fx t x child = .ok r1) (hw : Live t x w) (hfc : w.focusedChild = some f)
    (hcond : Drops fx child f) :
    ∃ r0 w', focusLost (treeFuel t) t f = .ok r0 ∧ Live r0.1 x w' ∧
      r1 = (r0.1, r0.2 ++ if fx.focusEvents && w'.focusChildNotify then [⟨x, .focusOut, f⟩] else []) := by
  obtain ⟨w1, hw1, ⟨fc, r0, w', hfc', h0, hw', rfl⟩ | ⟨hno, _⟩⟩ := gainLoseOld_cases h1
  · cases Option.some.inj (hw1.1.symm.trans hw.1)
    rw [hfc] at hfc'; cases hfc'
    exact ⟨r0, w', h0, hw', rfl⟩
  · cases Option.some.inj (hw1.1.symm.trans hw.1)
    exact absurd hcond (hno f hfc)

theorem gainClimb_ok {rec : Tree → Nat → Option Nat → Res (Tree × List Event)} {t : Tree} {win : Nat}
    {r : Tree × List Event} (h : gainClimb rec t win = .ok r) :
    ∃ w, Live t win w ∧
      ((∃ p, w.parent = some p ∧ w.isVisible = true ∧ rec t p (some win) = .ok r) ∨
       (∃ p, w.parent = some p ∧ w.isVisible = false ∧ r = (t, [])) ∨ (w.parent = none ∧ r = (requestRestore t, []))) := by
  obtain ⟨w, hg, h⟩ := bind_ok_iff.mp h
  refine ⟨w, get_ok_iff.mp hg, ?_⟩
  split at h
  · next p hp =>
    split at h
    · next hv => exact .inl ⟨p, hp, hv, h⟩
    · next hv => exact .inr (.inl ⟨p, hp, by simpa using hv, (pure_ok_iff.mp h).symm⟩)
  · next hp =>
    obtain ⟨_, ht, h⟩ := bind_ok_iff.mp h
    cases requestRestoreOf_ok ht
    exact .inr (.inr ⟨hp, (pure_ok_iff.mp h).symm⟩)

theorem gainClimb_elim {rec : Tree → Nat → Option Nat → Res (Tree × List Event)} {t : Tree} {win : Nat}
    {r : Tree × List Event} {P : Tree × List Event → Prop} (h : gainClimb rec t win = .ok r) (stay : P (t, []))
    (top : P (requestRestore t, []))
    (up : ∀ {w p}, Live t win w → w.parent = some p → w.isVisible = true → rec t p (some win) = .ok r → P r) : P r := by
  obtain ⟨w, hw, ⟨p, hp, hv, h⟩ | ⟨_, _, _, rfl⟩ | ⟨_, rfl⟩⟩ := gainClimb_ok h
  · exact up hw hp hv h
  · exact stay
  · exact top

theorem gainSelfIn_cases {t : Tree} {win : Nat} {child : Option Nat} {evs : List Event} {r : Tree × List Event}
    (h : gainSelfIn t win child evs = .ok r) :
    ∃ w, Live t win w ∧
      ((child = none ∧ r = (set t win { w with isFocused := true, focusedChild := none }, evs ++ [⟨win, .focusIn, win⟩])) ∨
       ∃ c, child = some c ∧ r = (set t win { w with focusedChild := some c },
          evs ++ if w.focusChildNotify then [⟨win, .focusIn, c⟩] else [])) := by
  simp only [gainSelfIn, bind_ok_iff] at h
  obtain ⟨w, hg, h⟩ := h
  refine ⟨w, get_ok_iff.mp hg, ?_⟩
  split at h
  · exact .inl ⟨rfl, (pure_ok_iff.mp h).symm⟩
  · next c => exact .inr ⟨c, rfl, (pure_ok_iff.mp h).symm⟩


theorem focusGained_succ {fx : Fixes} {n : Nat} {t : Tree} {win : Nat} {child : Option Nat} {r : Tree × List Event}
    (h : focusGained fx (n + 1) t win child = .ok r) :
    ∃ r1 r2 r3, gainLoseOld fx t win child = .ok r1 ∧ gainSelfOut fx r1.1 win child r1.2 = .ok r2 ∧
      gainClimb (focusGained fx n) r2.1 win = .ok r3 ∧ gainSelfIn r3.1 win child (r2.2 ++ r3.2) = .ok r := by
  simp only [focusGained, bind_ok_iff] at h
  obtain ⟨r1, h1, r2, h2, r3, h3, h4⟩ := h
  exact ⟨r1, r2, r3, h1, h2, h3, h4⟩

/-- The two readings `g` of `SameBy g`: a window up to `is_focused`, and up to `is_focused` and `focused_child`. -/
def unflag (w : Win) : Win := { w with isFocused := false }
def unlink (w : Win) : Win := { w with isFocused := false, focusedChild := none }

section fields
variable {w w' : Win}

theorem unflag_parent (e : unflag w' = unflag w) : w'.parent = w.parent := (congrArg Win.parent e :)
theorem unflag_children (e : unflag w' = unflag w) : w'.children = w.children := (congrArg Win.children e :)
theorem unflag_fc (e : unflag w' = unflag w) : w'.focusedChild = w.focusedChild := (congrArg Win.focusedChild e :)
theorem unflag_isRoot (e : unflag w' = unflag w) : w'.isRoot = w.isRoot := (congrArg Win.isRoot e :)
theorem unflag_visible (e : unflag w' = unflag w) : w'.isVisible = w.isVisible := (congrArg Win.isVisible e :)
theorem unflag_freed (e : unflag w' = unflag w) : w'.freed = w.freed := (congrArg Win.freed e :)
theorem unflag_notify (e : unflag w' = unflag w) : w'.focusChildNotify = w.focusChildNotify :=
  (congrArg Win.focusChildNotify e :)
theorem unlink_parent (e : unlink w' = unlink w) : w'.parent = w.parent := (congrArg Win.parent e :)
theorem unlink_visible (e : unlink w' = unlink w) : w'.isVisible = w.isVisible := (congrArg Win.isVisible e :)
theorem unlink_freed (e : unlink w' = unlink w) : w'.freed = w.freed := (congrArg Win.freed e :)
theorem unlink_notify (e : unlink w' = unlink w) : w'.focusChildNotify = w.focusChildNotify :=
  (congrArg Win.focusChildNotify e :)

end fields

/-- The same store up to `is_focused` flags: what `_focus_lost` and the OUT-delivering first half of `_focus_gained`
    leave. -/
def SameLK (t t' : Tree) : Prop := t'.root = t.root ∧ SameBy unflag t t'
theorem sameLK_trans {a b c : Tree} (h1 : SameLK a b) (h2 : SameLK b c) : SameLK a c :=
  ⟨h2.1.trans h1.1, sameBy_trans h1.2 h2.2⟩
theorem sameLK_symm {t t' : Tree} (h : SameLK t t') : SameLK t' t := ⟨h.1.symm, sameBy_symm h.2⟩
theorem sameLK_live {t t' : Tree} (h : SameLK t t') {i : Nat} {w : Win} (hw : Live t i w) :
    ∃ w', Live t' i w' ∧ unflag w' = unflag w := by
  obtain ⟨w', hw', e⟩ := sameBy_some h.2 hw.1
  exact ⟨w', ⟨hw', (congrArg Win.freed e).trans hw.2⟩, e⟩


theorem eq_of_mem_ite {c : Prop} [Decidable c] {e x : Event} (h : e ∈ (if c then [x] else [])) : e = x := by
  split at h
  · exact List.mem_singleton.mp h
  · cases h

/-- `FcChain t f q`: `q` is `f` or below it along `focused_child` links. -/
inductive FcChain (t : Tree) : Nat → Nat → Prop where
  | here (f : Nat) : FcChain t f f
  | down {f g q : Nat} {w : Win} : Live t f w → w.focusedChild = some g → FcChain t g q → FcChain t f q

/-- The windows below `win` along `focused_child`: where `gainLoseOld` may clear flags (`S` of its `Dropped`). -/
def Branch (t : Tree) (win i : Nat) : Prop := ∃ w f, Live t win w ∧ w.focusedChild = some f ∧ FcChain t f i

/-- What `_focus_lost` and the OUT half of a level of `_focus_gained` do to `(t, evs)`, at most: `is_focused` is cleared
    at windows in `S`, each of which is told so; OUT events are appended; nothing else.  An upper bound only (what is
    emitted: `focusLost_emits`, `focusLost_notifies`, `gainLoseOld_tells`).  `S` has one reader, `Dropped.keeps`: a branch off
    the focus chain leaves the chain alone. -/
structure Dropped (S : Nat → Prop) (t : Tree) (evs : List Event) (r : Tree × List Event) : Prop where
  root : r.1.root = t.root
  slot : ∀ i : Nat, r.1.wins[i]? = t.wins[i]? ∨ ∃ w, S i ∧ t.wins[i]? = some w ∧ w.isFocused = true ∧
    r.1.wins[i]? = some (unflag w) ∧ (⟨i, .focusOut, i⟩ : Event) ∈ r.2
  outs : ∃ x, r.2 = evs ++ x ∧ ∀ e ∈ x, e.type = .focusOut

section dropped
variable {S S' : Nat → Prop} {t : Tree} {evs : List Event} {r r' : Tree × List Event}

theorem Dropped.refl : Dropped S t evs (t, evs) := ⟨rfl, fun _ => .inl rfl, [], (List.append_nil _).symm, nofun⟩

theorem Dropped.mono (hS : ∀ i, S i → S' i) (h : Dropped S t evs r) : Dropped S' t evs r :=
  ⟨h.root, fun i => (h.slot i).imp id fun ⟨w, hs, h⟩ => ⟨w, hS i hs, h⟩, h.outs⟩

theorem Dropped.trans (h : Dropped S t evs r) (h' : Dropped S r.1 r.2 r') : Dropped S t evs r' := by
  obtain ⟨x, hx, ho⟩ := h.outs
  obtain ⟨x', hx', ho'⟩ := h'.outs
  refine ⟨h'.root.trans h.root, fun i => ?_, x ++ x', by rw [hx', hx, List.append_assoc],
    List.forall_mem_append.mpr ⟨ho, ho'⟩⟩
  rcases h.slot i with e | ⟨w, hs, hw, hf, e, hm⟩
  · rw [← e]; exact h'.slot i
  · rcases h'.slot i with e' | ⟨w', _, hw', hf', _⟩
    · exact .inr ⟨w, hs, hw, hf, e'.trans e, by rw [hx']; exact List.mem_append_left _ hm⟩
    · -- cleared once: the record in between is not focused
      cases e.symm.trans hw'; cases hf'

theorem Dropped.notes {t' : Tree} {es x : List Event} (h : Dropped S t evs (t', es)) (hx : ∀ e ∈ x, e.type = .focusOut) :
    Dropped S t evs (t', es ++ x) :=
  h.trans ⟨rfl, fun _ => .inl rfl, x, rfl, hx⟩

theorem Dropped.keeps (h : Dropped S t evs r) {i : Nat} (hi : ¬ S i) : r.1.wins[i]? = t.wins[i]? :=
  (h.slot i).resolve_right fun ⟨_, hs, _⟩ => hi hs

theorem Dropped.lk (h : Dropped S t evs r) : SameLK t r.1 :=
  ⟨h.root, fun i => by
    rcases h.slot i with e | ⟨w, _, hw, _, e, _⟩
    · rw [e]
    · rw [e, hw]; rfl⟩

theorem Dropped.pv (h : Dropped S t evs r) : SameBy unlink t r.1 :=
  sameBy_of (g := unflag) unlink (fun _ => rfl) h.lk.2

theorem Dropped.earlier (h : Dropped S t evs r) {e : Event} (he : e ∈ evs) : e ∈ r.2 := by
  obtain ⟨x, hx, _⟩ := h.outs
  exact hx ▸ List.mem_append_left _ he

theorem Dropped.track (h : Dropped S t evs r) {b : Nat} {bw : Win} (hbw : t.wins[b]? = some bw)
    (hf : bw.isFocused = true) :
    (∃ bw', r.1.wins[b]? = some bw' ∧ bw'.isFocused = true) ∨ (⟨b, .focusOut, b⟩ : Event) ∈ r.2 :=
  (h.slot b).imp (fun e => ⟨bw, e.trans hbw, hf⟩) fun ⟨_, _, _, _, _, hm⟩ => hm

theorem focusLostSelf_dropped {win : Nat} (h : focusLostSelf t win evs = .ok r) : Dropped (· = win) t evs r := by
  obtain ⟨w, hw, ⟨hf, rfl⟩ | ⟨_, rfl⟩⟩ := focusLostSelf_cases h
  · refine ⟨rfl, fun i => ?_, _, rfl, fun e he => by rw [List.mem_singleton.mp he]⟩
    rw [set_wins_of hw.1]
    split
    · next hi => subst hi; exact .inr ⟨w, rfl, hw.1, hf, rfl, List.mem_concat_self⟩
    · exact .inl rfl
  · exact .refl

theorem focusLost_dropped : ∀ (fuel : Nat) (t : Tree) (g : Nat) (r : Tree × List Event),
    focusLost fuel t g = .ok r → Dropped (FcChain t g) t [] r := by
  intro fuel
  induction fuel with
  | zero => intro t g r h; cases h
  | succ n ih =>
    intro t g r h
    have here : ∀ i, i = g → FcChain t g i := fun _ e => e.symm ▸ .here g
    obtain ⟨w, r1, hw, h2, ⟨_, rfl⟩ | ⟨c, r0, _, hfc, h0, _, rfl⟩⟩ := focusLost_succ h
    · exact (focusLostSelf_dropped h2).mono here
    · exact (((ih t c r0 h0).mono fun _ hc => FcChain.down hw hfc hc).notes fun e he => by rw [eq_of_mem_ite he]).trans
        ((focusLostSelf_dropped h2).mono here)

theorem gainLoseOld_dropped {fx : Fixes} {win : Nat} {child : Option Nat} (h : gainLoseOld fx t win child = .ok r) :
    Dropped (Branch t win) t [] r := by
  obtain ⟨w, hw, ⟨fc, r0, _, hfc, h0, _, rfl⟩ | ⟨_, rfl⟩⟩ := gainLoseOld_cases h
  · exact ((focusLost_dropped _ t fc r0 h0).mono fun _ hc => ⟨w, fc, hw, hfc, hc⟩).notes fun e he => by
      rw [eq_of_mem_ite he]
  · exact .refl

theorem gainSelfOut_dropped {fx : Fixes} {win : Nat} {child : Option Nat} (h : gainSelfOut fx t win child evs = .ok r) :
    Dropped (· = win) t evs r := by
  rcases gainSelfOut_cases h with h | ⟨_, rfl⟩
  · exact focusLostSelf_dropped h
  · exact .refl

theorem level_dropped {fx : Fixes} {win : Nat} {child : Option Nat} {r1 r2 : Tree × List Event}
    (h1 : gainLoseOld fx t win child = .ok r1) (h2 : gainSelfOut fx r1.1 win child r1.2 = .ok r2) :
    Dropped (fun i => i = win ∨ Branch t win i) t [] r2 :=
  ((gainLoseOld_dropped h1).mono fun _ => .inr).trans ((gainSelfOut_dropped h2).mono fun _ => .inl)

end dropped

theorem gainSelfIn_root {t : Tree} {win : Nat} {child : Option Nat} {evs : List Event}
    {r : Tree × List Event} (h : gainSelfIn t win child evs = .ok r) : r.1.root = t.root := by
  obtain ⟨w, _, ⟨_, rfl⟩ | ⟨c, _, rfl⟩⟩ := gainSelfIn_cases h <;> rfl

theorem gainSelfIn_unlink {t : Tree} {win : Nat} {child : Option Nat} {evs : List Event}
    {r : Tree × List Event} (h : gainSelfIn t win child evs = .ok r) : SameBy unlink t r.1 := by
  obtain ⟨w, hw, ⟨_, rfl⟩ | ⟨c, _, rfl⟩⟩ := gainSelfIn_cases h <;> exact sameBy_set hw.1 rfl

theorem climbed_unlink {fx : Fixes} {rec : Tree → Nat → Option Nat → Res (Tree × List Event)} {t : Tree} {win : Nat}
    {child : Option Nat} {r1 r2 r3 : Tree × List Event}
    (hrec : ∀ p r, rec r2.1 p (some win) = .ok r → SameBy unlink r2.1 r.1) (h1 : gainLoseOld fx t win child = .ok r1)
    (h2 : gainSelfOut fx r1.1 win child r1.2 = .ok r2) (h3 : gainClimb rec r2.1 win = .ok r3) : SameBy unlink t r3.1 :=
  sameBy_trans (level_dropped h1 h2).pv
    (gainClimb_elim (P := fun r => SameBy unlink r2.1 r.1) h3 (sameBy_refl _) (sameBy_refl _) fun _ _ _ => hrec _ r3)

theorem focusGained_unlink (fx : Fixes) : ∀ (fuel : Nat) (t : Tree) (win : Nat) (child : Option Nat)
    (r : Tree × List Event), focusGained fx fuel t win child = .ok r → SameBy unlink t r.1 := by
  intro fuel
  induction fuel with
  | zero => intro t win child r h; cases h
  | succ n ih =>
    intro t win child r h
    obtain ⟨r1, r2, r3, h1, h2, h3, h4⟩ := focusGained_succ h
    exact sameBy_trans (climbed_unlink (fun _ _ => ih _ _ _ _) h1 h2 h3) (gainSelfIn_unlink h4)

theorem gainClimb_up {rec : Tree → Nat → Option Nat → Res (Tree × List Event)} {t t2 : Tree} {x y : Nat} {w : Win}
    {r : Tree × List Event} (hs : SameBy unlink t t2) (hw : t.wins[x]? = some w) (hpar : w.parent = some y)
    (hv : w.isVisible = true) (h : gainClimb rec t2 x = .ok r) : rec t2 y (some x) = .ok r := by
  obtain ⟨w3, hw3, hc⟩ := gainClimb_ok h
  obtain ⟨w', hw', e⟩ := sameBy_some hs hw
  cases hw3.1.symm.trans hw'
  rcases hc with ⟨p, hp, _, h⟩ | ⟨_, _, hv', _⟩ | ⟨hp, _⟩
  · rw [unlink_parent e, hpar] at hp; cases hp; exact h
  · rw [unlink_visible e, hv] at hv'; cases hv'
  · rw [unlink_parent e, hpar] at hp; cases hp

theorem gainSelfIn_events {t : Tree} {win : Id} {child : Option Id} {evs : List Event}
    {r : Tree × List Event} (h : gainSelfIn t win child evs = .ok r) :
    ∃ x, r.2 = evs ++ x ∧ (∀ e ∈ x, e.type = .focusIn) ∧ (child = none → x = [⟨win, .focusIn, win⟩]) := by
  obtain ⟨w, _, ⟨_, rfl⟩ | ⟨c, rfl, rfl⟩⟩ := gainSelfIn_cases h
  · exact ⟨_, rfl, fun e he => by rw [List.mem_singleton.mp he], fun _ => rfl⟩
  · exact ⟨_, rfl, fun e he => by rw [eq_of_mem_ite he], fun hc => nomatch hc⟩

theorem focusGained_out_in (fx : Fixes) : ∀ (fuel : Nat) (t : Tree) (win : Id) (child : Option Id)
    (r : Tree × List Event), focusGained fx fuel t win child = .ok r →
    ∃ outs ins, r.2 = outs ++ ins ∧ (∀ e ∈ outs, e.type = .focusOut) ∧ (∀ e ∈ ins, e.type = .focusIn) ∧
      (child = none → ∃ ins', ins = ins' ++ [⟨win, .focusIn, win⟩]) := by
  intro fuel
  induction fuel with
  | zero => intro t win child r h; cases h
  | succ n ih =>
    intro t win child r h
    obtain ⟨r1, r2, r3, h1, h2, h3, h4⟩ := focusGained_succ h
    obtain ⟨x2, hx2, o2⟩ := (level_dropped h1 h2).outs
    obtain ⟨x4, hx4, i4, last4⟩ := gainSelfIn_events h4
    obtain ⟨o3, i3, e3, ho3, hi3⟩ := gainClimb_elim (P := fun r => ∃ outs ins, r.2 = outs ++ ins ∧
        (∀ e ∈ outs, e.type = .focusOut) ∧ ∀ e ∈ ins, e.type = .focusIn) h3 ⟨[], [], rfl, nofun, nofun⟩
      ⟨[], [], rfl, nofun, nofun⟩ fun _ _ _ h3 => by
        obtain ⟨o, i, e, ho, hi, _⟩ := ih _ _ _ _ h3
        exact ⟨o, i, e, ho, hi⟩
    refine ⟨x2 ++ o3, i3 ++ x4, ?_, ?_, ?_, ?_⟩
    · rw [hx4, hx2, e3]; simp only [List.nil_append, List.append_assoc]
    · exact List.forall_mem_append.mpr ⟨o2, ho3⟩
    · exact List.forall_mem_append.mpr ⟨hi3, i4⟩
    · intro hc; exact ⟨i3, by rw [last4 hc]⟩


/-- The events of the OUT half of a level of `_focus_gained` are events of the level (`level_climb`: so are those of the
    climb). -/
theorem level_outs {t3 : Tree} {win : Id} {child : Option Id} {e2 e3 : List Event} {r : Tree × List Event}
    (h4 : gainSelfIn t3 win child (e2 ++ e3) = .ok r) {e : Event} (he : e ∈ e2) : e ∈ r.2 := by
  obtain ⟨x4, hx4, _⟩ := gainSelfIn_events h4
  rw [hx4]; exact List.mem_append.mpr (.inl (List.mem_append.mpr (.inl he)))

theorem level_climb {t3 : Tree} {win : Id} {child : Option Id} {e2 e3 : List Event} {r : Tree × List Event}
    (h4 : gainSelfIn t3 win child (e2 ++ e3) = .ok r) {e : Event} (he : e ∈ e3) : e ∈ r.2 := by
  obtain ⟨x4, hx4, _⟩ := gainSelfIn_events h4
  rw [hx4]; exact List.mem_append.mpr (.inl (List.mem_append.mpr (.inr he)))

/-- The check of one live window.  Its `focused_child` must be a live, *visible* child: the `chain_visible` invariant of
    DESIGN §7 C15 (`take_focus` links only visible windows, `hide` and REMOVE unlink). -/
def winOk (t : Tree) (i : Nat) (w : Win) : Bool :=
  (match w.parent with
   | some p => decide (p < i) && !w.isRoot &&
       (match t.wins[p]? with | some pw => !pw.freed && pw.children.contains i | none => false)
   | none => true) &&
  w.children.all (fun c => match t.wins[c]? with | some cw => !cw.freed && cw.parent == some i | none => false) &&
  (match w.focusedChild with
   | some c => (match t.wins[c]? with | some cw => !cw.freed && cw.parent == some i && cw.isVisible | none => false)
   | none => true)

/-- Well-formedness of the store (executable, so that the driver checks it on every observed tree and the
    non-vacuity examples are closed by `decide`). -/
def wfB (t : Tree) : Bool :=
  (match t.wins[0]? with | some r => r.isRoot && !r.freed && r.parent.isNone | none => false) &&
  (List.range t.wins.size).all (fun i => match t.wins[i]? with | some w => w.freed || winOk t i w | none => true)

theorem slot_true {t : Tree} {c : Nat} {f : Win → Bool} :
    (match t.wins[c]? with | some cw => !cw.freed && f cw | none => false) = true ↔ ∃ cw, Live t c cw ∧ f cw = true := by
  unfold Live
  cases t.wins[c]? with
  | none => simp
  | some cw => simp [and_assoc]

theorem winOk_iff {t : Tree} {i : Nat} {w : Win} : winOk t i w = true ↔
    (∀ p, w.parent = some p → p < i ∧ w.isRoot = false ∧ ∃ pw, Live t p pw ∧ i ∈ pw.children) ∧
    (∀ c ∈ w.children, ∃ cw, Live t c cw ∧ cw.parent = some i) ∧
    (∀ c, w.focusedChild = some c → ∃ cw, Live t c cw ∧ cw.parent = some i ∧ cw.isVisible = true) := by
  unfold winOk
  rw [Bool.and_eq_true, Bool.and_eq_true, and_assoc]
  refine and_congr ?_ (and_congr ?_ ?_)
  · cases w.parent with
    | none => exact ⟨fun _ _ h => (nomatch h), fun _ => rfl⟩
    | some p =>
      simp only [Bool.and_eq_true, slot_true, decide_eq_true_eq, Bool.not_eq_true', List.contains_eq_mem, Option.some.injEq,
        forall_eq', and_assoc]
  · simp only [List.all_eq_true, slot_true, beq_iff_eq]
  · cases w.focusedChild with
    | none => exact ⟨fun _ _ h => (nomatch h), fun _ => rfl⟩
    | some c =>
      simp only [Bool.and_assoc, slot_true, Bool.and_eq_true, beq_iff_eq, Option.some.injEq, forall_eq']

theorem wf_win {t : Tree} (h : wfB t = true) {i : Nat} {w : Win} (hw : Live t i w) : winOk t i w = true := by
  unfold wfB at h
  simp only [Bool.and_eq_true, List.all_eq_true, List.mem_range] at h
  have := h.2 i (Live.lt hw)
  rw [hw.1] at this
  simpa [hw.2] using this

theorem wf_root {t : Tree} (h : wfB t = true) : ∃ r, Live t 0 r ∧ r.isRoot = true ∧ r.parent = none := by
  unfold wfB at h
  have h1 := (Bool.and_eq_true _ _ ▸ h).1
  cases h0 : t.wins[0]? with
  | none => rw [h0] at h1; cases h1
  | some r =>
    rw [h0] at h1
    simp only [Bool.and_eq_true, Bool.not_eq_true', Option.isNone_iff_eq_none] at h1
    exact ⟨r, ⟨h0, h1.1.2⟩, h1.1.1, h1.2⟩

theorem wf_parent {t : Tree} (h : wfB t = true) {i p : Nat} {w : Win} (hw : Live t i w) (hp : w.parent = some p) :
    p < i ∧ w.isRoot = false ∧ ∃ pw, Live t p pw ∧ i ∈ pw.children :=
  (winOk_iff.mp (wf_win h hw)).1 p hp

theorem wf_child {t : Tree} (h : wfB t = true) {i c : Nat} {w : Win} (hw : Live t i w) (hc : c ∈ w.children) :
    ∃ cw, Live t c cw ∧ cw.parent = some i :=
  (winOk_iff.mp (wf_win h hw)).2.1 c hc

theorem wf_focused {t : Tree} (h : wfB t = true) {i c : Nat} {w : Win} (hw : Live t i w) (hc : w.focusedChild = some c) :
    ∃ cw, Live t c cw ∧ cw.parent = some i ∧ cw.isVisible = true :=
  (winOk_iff.mp (wf_win h hw)).2.2 c hc

theorem wfB_of {t : Tree} (hroot : ∃ r, Live t 0 r ∧ r.isRoot = true ∧ r.parent = none)
    (hwin : ∀ (i : Nat) (w : Win), t.wins[i]? = some w → w.freed = false → winOk t i w = true) : wfB t = true := by
  unfold wfB
  obtain ⟨r, hr, h1, h3⟩ := hroot
  simp only [Bool.and_eq_true, List.all_eq_true, List.mem_range]
  refine ⟨by rw [hr.1]; simp [h1, hr.2, h3], fun i _ => ?_⟩
  cases hw : t.wins[i]? with
  | none => rfl
  | some w =>
    by_cases hf : w.freed = true
    · simp [hf]
    · simp only [Bool.or_eq_true]; right; exact hwin i w hw (by simpa using hf)

/-- The engine's own clause of `wfB` (`chain_visible`): a `focused_child` link goes to a live, visible child. -/
def FcOk (t : Tree) : Prop :=
  ∀ (i : Nat) (w : Win) (c : Nat), Live t i w → w.focusedChild = some c →
    ∃ cw, Live t c cw ∧ cw.parent = some i ∧ cw.isVisible = true

/-- `wfB` as a proposition (`wfB_iff`). -/
structure Wf (t : Tree) : Prop where
  root : ∃ r, Live t 0 r ∧ r.isRoot = true ∧ r.parent = none
  linked : Linked t
  noRoot : ∀ (i : Nat) (w : Win) (p : Nat), Live t i w → w.parent = some p → w.isRoot = false
  fc : FcOk t

theorem wfB_iff {t : Tree} : wfB t = true ↔ Wf t := by
  constructor
  · intro h
    exact ⟨wf_root h, ⟨fun c cw hc p hp => ((wf_parent h hc hp).imp_right (·.2)), fun p pw hp c hc => wf_child h hp hc⟩,
      fun i w p hw hp => (wf_parent h hw hp).2.1, fun i w c hw hc => wf_focused h hw hc⟩
  · intro h
    refine wfB_of h.root fun i w hw hf => winOk_iff.mpr ⟨fun p hp => ?_, fun c hc => h.linked.child i w ⟨hw, hf⟩ c hc,
      fun c hc => h.fc i w c ⟨hw, hf⟩ hc⟩
    obtain ⟨hlt, pw, hpw, hm⟩ := h.linked.parent i w ⟨hw, hf⟩ p hp
    exact ⟨hlt, h.noRoot i w p ⟨hw, hf⟩ hp, pw, hpw, hm⟩

theorem wf_upward {t : Tree} (h : wfB t = true) : Upward t := (wfB_iff.mp h).linked.upward

/-- `Anc t o x`: `x` is `o` or one of its ancestors (through live windows). -/
inductive Anc (t : Tree) : Nat → Nat → Prop where
  | refl (o : Nat) : Anc t o o
  | step {o p x : Nat} {w : Win} : Live t o w → w.parent = some p → Anc t p x → Anc t o x

theorem anc_le {t : Tree} (h : wfB t = true) {o x : Nat} (ha : Anc t o x) : x ≤ o := by
  induction ha with
  | refl => exact Nat.le_refl _
  | step hw hp _ ih => have := (wf_parent h hw hp).1; omega

theorem anc_snoc {t : Tree} {o c x : Nat} {cw : Win} (ha : Anc t o c) (hc : Live t c cw) (hp : cw.parent = some x) :
    Anc t o x := by
  induction ha with
  | refl => exact .step hc hp (.refl _)
  | step hw hp' _ ih => exact .step hw hp' (ih hc)
end WinFocus
end Tickit
