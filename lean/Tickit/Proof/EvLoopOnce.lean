import Tickit.Proof.EvLoopOnceSlots
import Tickit.Proof.EvLoopOnceQueues
/-
  C17, "exactly once" across the iterations of a history.  The harness's table of watch slots (`St.slots`) counts, for every
  watch it registered, the FIRE invocations of its callback (`SlotRec.fires`; `fireUser` is the only place that logs a FIRE
  entry and the only place that counts one).  Here: the invariants over that table — `K` (a record counts for exactly one
  watch), `Once`, `Listed`, `Gone` — and how the step relations `Q` (Proof/EvLoopOnceSlots.lean) and `R2`
  (Proof/EvLoopOnceQueues.lean), `free` and `bump` (the count of an invocation) carry them.
-/
namespace Tickit.EvLoop

/-- `s1`–`s4`: a record of the harness's table counts for exactly one watch.  `p1`, `p2`: the watches the loop keeps
    pointers to for `invoke_watch` (poll slots, the process watch of `process_notify`) are no timers / deferred callbacks;
    `p3`: a `notify` pointer points at an internal watch. -/
structure K (st : St) : Prop where
  s1 : ∀ a, a < st.heap.length → (st.getW a).slot ≥ 0 → ∃ r ∈ st.slots, r.k = (st.getW a).slot ∧ r.handle = a
  s2 : (st.slots.map (·.k)).Nodup
  s3 : ∀ r ∈ st.slots, r.handle < st.heap.length ∧ (st.getW r.handle).slot = r.k
  p1 : ∀ s ∈ st.pfd, ∀ a, s.watch = some a → a < st.heap.length ∧ isOneShot (st.getW a).type = false
  p2 : ∀ l, l < st.heap.length → (st.getW l).slot = -4 →
    (st.getW l).puser < st.heap.length ∧ isOneShot (st.getW (st.getW l).puser).type = false
  s4 : ∀ r ∈ st.slots, 0 ≤ r.k
  p3 : ∀ x, x < st.heap.length → ∀ l, (st.getW x).notify = some l → l < st.heap.length ∧ (st.getW l).slot < 0

/-- Exactly once, as a count: the record of a timer / deferred callback says at most one invocation, none
    while the watch is allocated — except for the watch `c` whose callback is running, which says one.  The middle clause
    holds in defined behaviour only: a loop that leaves it returns while it still holds a counted, allocated watch
    (`Once.of_not_ok`). -/
def Once (c : Option Nat) (st : St) : Prop :=
  ∀ r ∈ st.slots, isOneShot (st.getW r.handle).type = true →
    r.fires ≤ 1 ∧ (st.isOk = true → st.live r.handle = true → some r.handle ≠ c → r.fires = 0) ∧ (some r.handle = c → r.fires = 1)

theorem Once.le_one {c : Option Nat} {st : St} (o : Once c st) {r : SlotRec} (hr : r ∈ st.slots)
    (ho : isOneShot (st.getW r.handle).type = true) : r.fires ≤ 1 := (o r hr ho).1

theorem Once.running {c : Option Nat} {st : St} (o : Once c st) {r : SlotRec} (hr : r ∈ st.slots)
    (ho : isOneShot (st.getW r.handle).type = true) (e : some r.handle = c) : r.fires = 1 := (o r hr ho).2.2 e

theorem Once.fires_zero {st : St} (o : Once none st) {r : SlotRec} (hr : r ∈ st.slots) (ho : isOneShot (st.getW r.handle).type = true)
    (hok : st.isOk = true) (hl : st.live r.handle = true) : r.fires = 0 :=
  (o r hr ho).2.1 hok hl (fun h => nomatch h)

theorem K.of_q {st st' : St} (q : Q st st') (k : K st) : K st' := by
  refine { s1 := ?_, s2 := q.keys k.s2, s3 := ?_, p1 := ?_, p2 := ?_, s4 := ?_, p3 := ?_ }
  · intro a ha hs
    by_cases hold : a < st.heap.length
    · rw [q.b.h.slot a hold] at hs ⊢
      obtain ⟨r, hr, h1, h2⟩ := k.s1 a hold hs
      exact ⟨r, q.old r hr, h1, h2⟩
    · exact q.newc a (by omega) ha hs
  · intro r hr
    rcases q.new r hr with hr | n
    · obtain ⟨h1, h2⟩ := k.s3 r hr
      exact ⟨Nat.lt_of_lt_of_le h1 q.b.h.len, by rw [q.b.h.slot _ h1]; exact h2⟩
    · exact ⟨n.lt, n.slot⟩
  · intro s hs a ha
    cases q.b.pfd s hs a ha with
    | inl h =>
      obtain ⟨s0, hs0, h0⟩ := h
      obtain ⟨h1, h2⟩ := k.p1 s0 hs0 a h0
      exact ⟨Nat.lt_of_lt_of_le h1 q.b.h.len, q.b.h.notOneShot h1 h2⟩
    | inr h => exact h
  · intro l hl hs
    by_cases hold : l < st.heap.length
    · rw [q.b.h.slot l hold] at hs
      obtain ⟨h1, h2⟩ := k.p2 l hold hs
      rw [q.b.h.puser l hold]
      exact ⟨Nat.lt_of_lt_of_le h1 q.b.h.len, q.b.h.notOneShot h1 h2⟩
    · exact q.b.pus l (by omega) hl hs
  · exact fun r hr => (q.new r hr).elim (k.s4 r) (·.nonneg)
  · intro x hx l hl
    rcases q.b.pno x hx l hl with e' | e'
    · obtain ⟨h1, h2⟩ := k.p3 x e'.1 l e'.2
      exact ⟨Nat.lt_of_lt_of_le h1 q.b.h.len, by rw [q.b.h.slot l h1]; exact h2⟩
    · exact e'

theorem Once.of_q {st st' : St} {c : Option Nat} (q : Q st st') (k : K st) (hc : ∀ x, c = some x → x < st.heap.length)
    (o : Once c st) : Once c st' := by
  intro r hr ho
  rcases q.new r hr with hr | n
  · obtain ⟨h1, _⟩ := k.s3 r hr
    have hty := q.b.h.oneShot h1 ho
    obtain ⟨o1, o2, o3⟩ := o r hr (by rw [← hty]; exact ho)
    exact ⟨o1, fun hok hl hc => o2 (q.b.h.ok hok) (q.b.h.live _ h1 hl) hc, o3⟩
  · have h1 := n.fires
    have h2 := n.new
    refine ⟨by omega, fun _ _ _ => h1, fun hcc => ?_⟩
    have := hc r.handle hcc.symm
    omega

theorem Once.none_of_q {st st' : St} (q : Q st st') (k : K st) (o : Once none st) : Once none st' :=
  Once.of_q q k (fun _ h => by cases h) o

theorem Once.returned {st : St} {c : Nat} (o : Once (some c) st) (h : isOneShot (st.getW c).type = true → st.live c = false) :
    Once none st := by
  intro r hr ho
  obtain ⟨o1, o2, _⟩ := o r hr ho
  refine ⟨o1, fun hok hl _ => ?_, fun e => by cases e⟩
  by_cases e : r.handle = c
  · rw [e] at ho hl; rw [h ho] at hl; cases hl
  · exact o2 hok hl (fun hh => e (Option.some.inj hh))

theorem Once.release {st : St} {c : Nat} (o : Once (some c) st) (h : st.live c = false) : Once none st := o.returned fun _ => h

theorem Once.release_other {st : St} {c : Nat} (o : Once (some c) st) (h : isOneShot (st.getW c).type = false) : Once none st :=
  o.returned fun ho => by rw [h] at ho; cases ho

/-- An internal watch (negative slot number) has no record: it may stand as the running watch. -/
theorem Once.internal {st : St} {a : Nat} (k : K st) (o : Once none st) (hs : (st.getW a).slot < 0) : Once (some a) st := by
  intro r hr ho
  refine ⟨o.le_one hr ho, fun hok hl _ => o.fires_zero hr ho hok hl, fun e => ?_⟩
  have h1 := (k.s3 r hr).2
  have h2 := k.s4 r hr
  rw [Option.some.inj e] at h1
  omega

theorem Once.of_not_ok {st : St} {c : Option Nat} (o : Once c st) (h : st.isOk = false) : Once none st := by
  intro r hr ho
  have o1 := o.le_one hr ho
  exact ⟨o1, fun hok _ _ => (by rw [h] at hok; cases hok), fun e => (by cases e)⟩

/-- An allocated timer / deferred callback is queued (or is one of `D`: detached by the running iteration). -/
def Listed (D : List Nat) (st : St) : Prop :=
  st.isOk = true → st.alive = true → ∀ a, a < st.heap.length → st.live a = true →
    ((st.getW a).type = .timer → a ∈ st.timers ∨ a ∈ D) ∧ ((st.getW a).type = .later → a ∈ st.laters ∨ a ∈ D)

/-- A timer / deferred callback that is gone, in a live instance, without a cancel having been asked for,
    has been invoked. -/
def Gone (st : St) : Prop :=
  st.alive = true → ∀ r ∈ st.slots, isOneShot (st.getW r.handle).type = true → r.k ∉ st.cancelReq →
    st.live r.handle = false → r.fires = 1

/-- Along a step with exceptions: the watches the step leaves allocated and unqueued join the detached ones. -/
theorem Listed.of_r2E {E D : List Nat} {st st' : St} (r : R2 E st st') (l : Listed D st) : Listed (E ++ D) st' := by
  intro hok hal a ha hl
  have l0 := fun hlt hl0 => l (r.h.ok hok) (by rw [← r.alive]; exact hal) a hlt hl0
  have key : ∀ qu t, isOneShot t = true → R2q E qu t st st' →
      (a < st.heap.length → st.live a = true → (st.getW a).type = t → a ∈ qu st ∨ a ∈ D) →
      (st'.getW a).type = t → a ∈ qu st' ∨ a ∈ E ++ D := by
    intro qu t ht q hold hty
    by_cases hlt : a < st.heap.length
    · rcases hold hlt (r.h.live a hlt hl) (by rw [← r.h.oneShot hlt (by rw [hty]; exact ht)]; exact hty) with h | h
      · rcases q.stay hok a h hlt with h' | h' | h'
        · exact Or.inl h'
        · rw [hl] at h'; cases h'
        · exact Or.inr (List.mem_append_left _ h')
      · exact Or.inr (List.mem_append_right _ h)
    · exact (q.newl hok a (by omega) ha hl hty).imp id (List.mem_append_left _)
  exact ⟨key _ _ rfl r.tq (fun hlt hl0 => (l0 hlt hl0).1), key _ _ rfl r.lq (fun hlt hl0 => (l0 hlt hl0).2)⟩

theorem Listed.drop {D : List Nat} {st : St} {a : Nat} (l : Listed (a :: D) st) (h : st.live a = false) : Listed D st := by
  intro hok hal x hx hl
  have hne : x ≠ a := by intro e; subst e; rw [h] at hl; cases hl
  have key : ∀ {p : Prop}, (p ∨ x ∈ a :: D) → p ∨ x ∈ D := fun e => e.imp id fun e => (List.mem_cons.mp e).resolve_left hne
  exact ⟨fun ht => key ((l hok hal x hx hl).1 ht), fun ht => key ((l hok hal x hx hl).2 ht)⟩

theorem Listed.mono {D D' : List Nat} {st : St} (l : Listed D st) (h : ∀ x ∈ D, x ∈ D') : Listed D' st :=
  fun hok hal a ha hl => ⟨fun ht => ((l hok hal a ha hl).1 ht).imp id (h a), fun ht => ((l hok hal a ha hl).2 ht).imp id (h a)⟩

theorem Listed.of_not_ok {D : List Nat} {st : St} (h : st.isOk = false) : Listed D st :=
  fun hok => by rw [h] at hok; cases hok

theorem Listed.queued {st : St} (l : Listed [] st) (hok : st.isOk = true) (hal : st.alive = true) {a : Nat} (ha : a < st.heap.length)
    (hl : st.live a = true) : ((st.getW a).type = .timer → a ∈ st.timers) ∧ ((st.getW a).type = .later → a ∈ st.laters) :=
  ⟨fun ht => ((l hok hal a ha hl).1 ht).elim id (fun h => nomatch h), fun ht => ((l hok hal a ha hl).2 ht).elim id (fun h => nomatch h)⟩

theorem Gone.of_r2 {E : List Nat} {st st' : St} (r : R2 E st st') (q : Q st st') (k : K st) (g : Gone st) : Gone st' := by
  intro hal r' hr' ho hnc hd
  have hal0 : st.alive = true := by rw [← r.alive]; exact hal
  have key : ∀ x, x < st'.heap.length → (x < st.heap.length → st.live x = true) → st'.live x = false →
      isOneShot (st'.getW x).type = true → (st'.getW x).slot ∉ st'.cancelReq → 0 ≤ (st'.getW x).slot → False := by
    intro x h1 h2 h3 h4 h5 h6
    rcases r.gone x h1 h2 h3 with h | h | h
    · rw [h] at h4; cases h4
    · exact h5 h
    · omega
  rcases q.new r' hr' with hr | n
  · obtain ⟨h1, h2⟩ := k.s3 r' hr
    have hslot' : (st'.getW r'.handle).slot = r'.k := by rw [r.h.slot _ h1]; exact h2
    cases hl0 : st.live r'.handle with
    | false =>
      exact g hal0 r' hr (by rw [← r.h.oneShot h1 ho]; exact ho) (fun hc => hnc (r.creq _ hc)) hl0
    | true =>
      exact False.elim (key r'.handle (Nat.lt_of_lt_of_le h1 r.h.len) (fun _ => hl0) hd ho (by rw [hslot']; exact hnc)
        (by rw [hslot']; exact k.s4 r' hr))
  · exact False.elim (key r'.handle n.lt (fun hlt => absurd hlt (Nat.not_lt.2 n.new)) hd ho (by rw [n.slot]; exact hnc)
      (by rw [n.slot]; exact n.nonneg))

theorem free_frame (st : St) (a : Nat) : (st.free a).alive = st.alive ∧ (st.free a).cancelReq = st.cancelReq ∧
    (st.free a).slots = st.slots ∧ (st.free a).heap.length = st.heap.length :=
  of_ite (P := fun s : St => s.alive = st.alive ∧ s.cancelReq = st.cancelReq ∧ s.slots = st.slots ∧ s.heap.length = st.heap.length)
    ⟨rfl, rfl, rfl, St.length_setW _ _ _⟩
    ⟨(inert_fail st _).alive, (inert_fail st _).creq, (inert_fail st _).slots, by rw [(inert_fail st _).heap]⟩

theorem type_free (st : St) (a x : Nat) : ((st.free a).getW x).type = (st.getW x).type := by
  by_cases e : a = x
  · subst e
    exact iteInduction (motive := fun s : St => (s.getW a).type = (st.getW a).type)
      (fun hl => by rw [St.getW_setW_self _ _ _ (St.live_lt hl)]) (fun _ => by rw [St.getW_fail])
  · rw [St.getW_free_ne _ _ _ e]

theorem Gone.free {st : St} (g : Gone st) (a : Nat)
    (h : ∀ r ∈ st.slots, r.handle = a → isOneShot (st.getW a).type = true → r.fires = 1) : Gone (st.free a) := by
  obtain ⟨hal, hcr, hsl, _⟩ := free_frame st a
  intro hal' r hr ho hnc hd
  rw [hsl] at hr
  rw [type_free] at ho
  by_cases e : r.handle = a
  · exact h r hr e (e ▸ ho)
  · rw [St.live_free_ne _ _ _ (fun x => e x.symm)] at hd
    exact g (by rw [← hal]; exact hal') r hr ho (by rw [← hcr]; exact hnc) hd

theorem Listed.free {D : List Nat} {st : St} (l : Listed D st) (a : Nat) : Listed D (st.free a) := by
  have hm := mh_timers.free st a
  obtain ⟨hal, _, _, hlen⟩ := free_frame st a
  intro hok hal' x hx hl
  rw [hlen] at hx
  rw [type_free, show (st.free a).timers = st.timers from lists_free st a .timer,
    show (st.free a).laters = st.laters from lists_free st a .later]
  exact l (hm.ok hok) (by rw [← hal]; exact hal') x hx (hm.live x hx hl)

theorem K.asked {st : St} (hk : K st) {r : SlotRec} (hr : r ∈ st.slots) (l : List Int) : (st.getW r.handle).slot ∈ r.k :: l := by
  rw [(hk.s3 r hr).2]; exact List.mem_cons_self

/-- `tickit_watch_cancel` through the harness's table: the request is noted first. -/
theorem r2_doCancel (st : St) (k : Int) (hk : K st) : R2 [] st (doCancel st k) :=
  doCancel_cases watchCancel st k (inert_emit _ _).r2 fun r hr hrk =>
    (r2_with_cancelReq [] st _ (fun _ hx => List.mem_cons_of_mem _ hx)).trans
      (r2_watchCancel [] _ r.handle (Or.inr (Or.inl (hrk ▸ hk.asked hr _))) (hk.p3 r.handle (hk.s3 r hr).1))

theorem r2_runAct (st : St) (act : Act) (hk : K st) : R2 [] st (runAct st act) :=
  runAct_cases st act (.refl _ st) (fun k _ c => r2_doRegister st k _ (r2_ctor c)) (fun k => r2_doCancel st k hk)
    (fun _ => (inert_with_errno st _).r2) (fun s => (inert_raiseSig st s).r2) (fun _ => (inert_with_children st _).r2)
    (inert_with_stillRunning st _).r2

theorem K.emit {st : St} (k : K st) (e : Ev) : K (st.emit e) := K.of_q (inert_emit st e).q k

theorem r2_runActs (acts : List Act) (st : St) (hk : K st) :
    R2 [] st (acts.foldl (fun st act => if st.isOk then runAct (st.emit .a) act else st) st) :=
  foldActs_cases runAct (R2.refl []) R2.trans
    (fun s act k => ⟨(inert_emit s _).r2.trans (r2_runAct _ act (k.emit _)), K.of_q (q_runAct _ act) (k.emit _)⟩) acts st hk

-- `bump` writes the table of slots only (stated about a variable state, see `inert_with_iow`).
theorem r2_bump (E : List Nat) (st : St) (k : Int) : R2 E st (bump st k) := R2.of_heap rfl id rfl rfl rfl rfl
theorem ts_bump (st : St) (k : Int) : TS st (bump st k) := TS.of_eq rfl rfl rfl

theorem bump_keys (st : St) (k : Int) : (bump st k).slots.map (·.k) = st.slots.map (·.k) := by
  unfold bump
  simp only [List.map_map]
  apply List.map_congr_left
  intro s _
  simp only [Function.comp]
  split <;> rfl

theorem mem_bump {st : St} {k : Int} {r' : SlotRec} (h : r' ∈ (bump st k).slots) :
    ∃ r ∈ st.slots, r'.k = r.k ∧ r'.handle = r.handle ∧ r'.fires = if r.k = k then r.fires + 1 else r.fires := by
  unfold bump at h
  obtain ⟨r, hr, e⟩ := List.mem_map.mp h
  refine ⟨r, hr, ?_⟩
  subst e
  split <;> simp_all

theorem K.bump {st : St} (k : K st) (key : Int) : K (bump st key) := by
  refine ⟨?_, by rw [bump_keys]; exact k.s2, ?_, k.p1, k.p2, ?_, k.p3⟩
  rotate_right
  · intro r' hr'
    obtain ⟨r, hr, e1, _, _⟩ := mem_bump hr'
    rw [e1]; exact k.s4 r hr
  · intro a ha hs
    obtain ⟨r, hr, h1, h2⟩ := k.s1 a ha hs
    refine ⟨if r.k = key then { r with fires := r.fires + 1 } else r, ?_, ?_, ?_⟩
    · unfold Tickit.EvLoop.bump; exact List.mem_map.mpr ⟨r, hr, rfl⟩
    · split <;> exact h1
    · split <;> exact h2
  · intro r' hr'
    obtain ⟨r, hr, e1, e2, _⟩ := mem_bump hr'
    rw [e1, e2]
    exact k.s3 r hr

theorem K.rec_unique {st : St} (k : K st) {r1 r2 : SlotRec} (h1 : r1 ∈ st.slots) (h2 : r2 ∈ st.slots) (e : r1.k = r2.k) : r1 = r2 := by
  have hn := k.s2
  generalize st.slots = l at *
  induction l with
  | nil => cases h1
  | cons x xs ih =>
    simp only [List.map_cons, List.nodup_cons] at hn
    simp only [List.mem_cons] at h1 h2
    rcases h1 with h1 | h1 <;> rcases h2 with h2 | h2
    · rw [h1, h2]
    · subst h1; exact absurd (List.mem_map.mpr ⟨r2, h2, e.symm⟩) hn.1
    · subst h2; exact absurd (List.mem_map.mpr ⟨r1, h1, e⟩) hn.1
    · exact ih h1 h2 hn.2

theorem K.mem_bump {st : St} (k : K st) {c : Nat} (hc : c < st.heap.length) (hk : (st.getW c).slot ≥ 0) {r' : SlotRec}
    (h : r' ∈ (Tickit.EvLoop.bump st (st.getW c).slot).slots) :
    ∃ r ∈ st.slots, r'.k = r.k ∧ r'.handle = r.handle ∧ r'.fires = if r.handle = c then r.fires + 1 else r.fires := by
  obtain ⟨rc, hrc, hrck, hrch⟩ := k.s1 c hc hk
  obtain ⟨r, hr, e1, e2, e3⟩ := Tickit.EvLoop.mem_bump h
  have : r.k = (st.getW c).slot ↔ r.handle = c :=
    ⟨fun e => by rw [k.rec_unique hr hrc (e.trans hrck.symm)]; exact hrch, fun e => by rw [← (k.s3 r hr).2, e]⟩
  exact ⟨r, hr, e1, e2, by rw [e3]; simp only [this]⟩

theorem Once.bump {st : St} (k : K st) (o : Once none st) (c : Nat) (hc : c < st.heap.length) (hk : (st.getW c).slot ≥ 0)
    (hok : st.isOk = true) (hl : isOneShot (st.getW c).type = true → st.live c = true) :
    Once (some c) (Tickit.EvLoop.bump st (st.getW c).slot) := by
  intro r' hr' ho
  obtain ⟨r, hr, _, e2, e3⟩ := k.mem_bump hc hk hr'
  rw [e2] at ho ⊢
  have o1 := o.le_one hr ho
  rw [e3]
  by_cases e : r.handle = c
  · rw [if_pos e, o.fires_zero hr ho hok (e ▸ hl (e ▸ ho))]
    exact ⟨by omega, fun _ _ hne => absurd (by rw [e]) hne, fun _ => rfl⟩
  · rw [if_neg e]
    exact ⟨o1, fun hok' hl' _ => o.fires_zero hr ho hok' hl', fun h => absurd (Option.some.inj h) e⟩

theorem Gone.bump {st : St} (k : K st) (g : Gone st) (c : Nat) (hc : c < st.heap.length) (hk : (st.getW c).slot ≥ 0)
    (hl : isOneShot (st.getW c).type = true → st.live c = true) : Gone (Tickit.EvLoop.bump st (st.getW c).slot) := by
  intro hal r' hr' ho hnc hd
  obtain ⟨r, hr, e1, e2, e3⟩ := k.mem_bump hc hk hr'
  rw [e2] at ho hd
  rw [e1] at hnc
  rw [e3]
  by_cases e : r.handle = c
  · rw [e] at ho hd; cases (hl ho).symm.trans hd
  · rw [if_neg e]; exact g hal r hr ho hnc hd

/-- A callback that is not the harness's (negative slot number). -/
theorem fireUser_neg (st : St) (key : Int) (flags : Nat) (info : Info) (k : K st) (hk : key < 0) :
    fireUser st key flags info = st.emit (.cb key flags info) := by
  unfold fireUser
  simp only []
  split
  · rfl
  · rename_i r hsome
    obtain ⟨hr, hrk⟩ := findSlot_some hsome
    have := k.s4 r hr
    omega

end Tickit.EvLoop
