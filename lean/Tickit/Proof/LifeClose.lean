import Tickit.Proof.LifeTree
/-
  C08: `_purge_hierarchy_changes` (`Purged`) and `tickit_window_close` (`Closed`) after the repairs.
  The point of the repair: once a window is unlinked (`unlinked`, `TInv.unlink`), nothing the root still holds (queued
  restacking requests, the drag source) names it or a window below it.
-/
namespace Tickit.Life
open WinTree (Id Win Req Change Tree)

theorem Reach.linear {t : Tree} {i a b : Nat} (h1 : Reach t i a) (h2 : Reach t i b) : Reach t a b ∨ Reach t b a := by
  induction h1 with
  | refl => exact .inl h2
  | step hw hp hr ih =>
    cases h2 with
    | refl => exact .inr (.step hw hp hr)
    | step hw' hp' hr' =>
      rw [hw] at hw'; cases hw'
      rw [hp] at hp'; cases hp'
      exact ih hr'

theorem Reach.from_root {t : Tree} (inv : TInv t) {b : Nat} (h : Reach t 0 b) : b = 0 := by
  obtain ⟨r, h0, _, hp⟩ := inv.root_ex
  exact (h.eq_of_no_parent h0 hp).symm

theorem Reach.through {t : Tree} (inv : TInv t) {i x : Nat} (h0 : Reach t i 0) (hx : Reach t i x) : Reach t x 0 := by
  rcases hx.linear h0 with h | h
  · exact h
  · have := Reach.from_root inv h
    subst this
    exact .refl 0

theorem purgeFilter_spec {t : Tree} (inv : TInv t) (win : Nat) :
    ∀ (reqs : List Req), (∀ r ∈ reqs, ∃ w, LiveW t r.win w) →
      ∃ out, purgeFilter t win reqs = .ok out ∧ ∀ r, r ∈ out ↔ (r ∈ reqs ∧ ¬ Reach t r.win win)
  | [], _ => ⟨[], rfl, by simp⟩
  | r :: rest, h => by
    obtain ⟨w, hl⟩ := h r (by simp)
    obtain ⟨b, hb, hiff⟩ := within_spec inv win r.win w hl _ (chainFuel_gt hl)
    obtain ⟨out, ho, hmem⟩ := purgeFilter_spec inv win rest (fun r' hr' => h r' (by simp [hr']))
    unfold purgeFilter
    simp only [hb, ho, bind_ok, pure_ok]
    refine ⟨_, rfl, fun q => ?_⟩
    by_cases hbt : b = true
    · rw [if_pos hbt, hmem]
      exact ⟨fun ⟨h1, h2⟩ => ⟨List.mem_cons_of_mem _ h1, h2⟩,
        fun ⟨h1, h2⟩ => ⟨(List.mem_cons.1 h1).resolve_left (fun e => h2 (e ▸ hiff.1 hbt)), h2⟩⟩
    · rw [if_neg hbt, List.mem_cons, List.mem_cons, hmem]
      exact ⟨fun h => h.elim (fun e => ⟨.inl e, e ▸ fun hr => hbt (hiff.2 hr)⟩) (fun ⟨h1, h2⟩ => ⟨.inr h1, h2⟩),
        fun ⟨h1, h2⟩ => h1.elim .inl (fun h => .inr ⟨h, h2⟩)⟩

/-- What `_purge_hierarchy_changes(win)` leaves: the windows as they are, the root record without what lies below `win`. -/
structure Purged (t t' : Tree) (win : Nat) : Prop where
  wins_eq : t'.wins = t.wins
  inv : TInv t'
  req_sub : ∀ r ∈ t'.root.changes, r ∈ t.root.changes ∧ ¬ Reach t r.win win
  drag_sub : ∀ (s : Nat), t'.root.dragSource = some s → t.root.dragSource = some s ∧ ¬ Reach t s win

@[simp] theorem setChanges_wins (t : Tree) (cs : List Req) : (setChanges t cs).wins = t.wins := rfl
@[simp] theorem setChanges_changes (t : Tree) (cs : List Req) : (setChanges t cs).root.changes = cs := rfl
@[simp] theorem setChanges_drag (t : Tree) (cs : List Req) : (setChanges t cs).root.dragSource = t.root.dragSource := rfl
@[simp] theorem clearDrag_wins (t : Tree) : (clearDrag t).wins = t.wins := rfl
@[simp] theorem clearDrag_changes (t : Tree) : (clearDrag t).root.changes = t.root.changes := rfl
@[simp] theorem clearDrag_drag (t : Tree) : (clearDrag t).root.dragSource = none := rfl

theorem trel_of_wins {t t' : Tree} (h : t'.wins = t.wins) : TRel t t' := WinTree.Lift.of_wins (fun _ => WRel.refl) h

theorem reach_of_wins {t t' : Tree} (h : t'.wins = t.wins) {i a : Nat} : Reach t i a ↔ Reach t' i a :=
  ⟨fun hr => (trel_of_wins h).reach hr, fun hr => (trel_of_wins (t := t') (t' := t) h.symm).reach hr⟩

theorem forgetDrag_ok {t : Tree} (inv : TInv t) {win : Nat} :
    ∃ t', forgetDrag t win = .ok t' ∧ t'.wins = t.wins ∧ t'.root.changes = t.root.changes ∧
      ∀ (s : Nat), t'.root.dragSource = some s → t.root.dragSource = some s ∧ ¬ Reach t s win := by
  unfold forgetDrag
  split
  · rename_i src hd
    obtain ⟨sw, hsl, _⟩ := inv.drag_ok src hd
    obtain ⟨b, hb, hiff⟩ := within_spec inv win src sw hsl (chainFuel t) (chainFuel_gt hsl)
    simp only [hb, bind_ok, pure_ok]
    refine ⟨_, rfl, ?_, ?_, ?_⟩
    · split <;> rfl
    · split <;> rfl
    · intro s hs
      by_cases hbt : b = true
      · simp [hbt] at hs
      · simp only [hbt, Bool.false_eq_true, if_false] at hs
        rw [hd] at hs ⊢
        cases hs
        exact ⟨rfl, fun hr => hbt (hiff.2 hr)⟩
  · rename_i hd
    refine ⟨t, rfl, rfl, rfl, ?_⟩
    intro s hs; rw [hd] at hs; cases hs

theorem purge_ok {cfg : Cfg} (h1 : cfg.closePurges = true) (h2 : cfg.dragForgottenOnClose = true)
    {t : Tree} (inv : TInv t) {win : Nat} {ww : Win} (hw : LiveW t win ww) :
    ∃ t', purge cfg t win = .ok t' ∧ Purged t t' win := by
  unfold purge
  simp only [h1, if_true]
  rcases findRoot_spec inv win ww hw _ (chainFuel_gt hw) with ⟨hreach, hf⟩ | ⟨hreach, hf⟩
  · simp only [hf, bind_ok]
    obtain ⟨out, ho, hmem⟩ := purgeFilter_spec inv win t.root.changes (fun r hr => by
      obtain ⟨_, w, hl, _⟩ := inv.req_ok r hr; exact ⟨w, hl⟩)
    simp only [ho, bind_ok, h2, if_true]
    have inv1 : TInv (setChanges t out) :=
      inv.of_rel (trel_of_wins rfl) (fun r hr => ((hmem r).1 hr).1) (fun s hs => hs)
    obtain ⟨t', hf', hwins, hch, hdrag⟩ := forgetDrag_ok inv1 (win := win)
    refine ⟨t', hf', hwins, ?_, ?_, ?_⟩
    · exact inv1.of_rel (trel_of_wins hwins) (fun r hr => by rw [hch] at hr; exact hr) (fun s hs => (hdrag s hs).1)
    · intro r hr
      rw [hch] at hr
      exact (hmem r).1 hr
    · intro s hs
      obtain ⟨h3, h4⟩ := hdrag s hs
      exact ⟨h3, fun hr => h4 ((reach_of_wins (t := t) (t' := setChanges t out) rfl).1 hr)⟩
  · -- the chain does not end in the root: nothing the root holds lies below `win`
    simp only [hf, bind_ok, pure_ok]
    refine ⟨t, rfl, rfl, inv, ?_, ?_⟩
    · intro r hr
      obtain ⟨_, w, _, _, hr0⟩ := inv.req_ok r hr
      exact ⟨hr, fun hx => hreach (Reach.through inv hr0 hx)⟩
    · intro s hs
      obtain ⟨w, _, hr0⟩ := inv.drag_ok s hs
      exact ⟨hs, fun hx => hreach (Reach.through inv hr0 hx)⟩

/-- The parent after `TICKIT_HIERARCHY_REMOVE` of `win` (`WinTree.unlinkParent pw win (pw.children.erase win)`, by `rfl`). -/
def unlinkedParent (pw : Win) (win : Nat) : Win :=
  { pw with children := pw.children.erase win,
            focusedChild := if pw.focusedChild = some win then none else pw.focusedChild }

def unlinked (t : Tree) (p win : Nat) (pw ww : Win) : Tree :=
  WinTree.set (WinTree.set t p (unlinkedParent pw win)) win { ww with parent := none }

theorem unlinked_get {t : Tree} {p win : Nat} {pw ww : Win} (hw : LiveW t win ww) (hpl : LiveW t p pw) (i : Nat) :
    (unlinked t p win pw ww).wins[i]? =
      if i = win then some { ww with parent := none } else if i = p then some (unlinkedParent pw win) else t.wins[i]? := by
  unfold unlinked
  rw [set_get]
  by_cases h1 : win = i
  · subst h1
    have := hw.lt
    simp [this]
  · have h1' : ¬ i = win := fun h => h1 h.symm
    simp only [h1, h1', if_false]
    rw [set_get]
    by_cases h2 : p = i
    · subst h2
      have := hpl.lt
      simp [this]
    · have h2' : ¬ i = p := fun h => h2 h.symm
      simp [h2, h2']

@[simp] theorem unlinked_root (t : Tree) (p win : Nat) (pw ww : Win) : (unlinked t p win pw ww).root = t.root :=
  (set_root ..).trans (set_root ..)

@[simp] theorem unlinked_size (t : Tree) (p win : Nat) (pw ww : Win) :
    (unlinked t p win pw ww).wins.size = t.wins.size := by simp [unlinked]

/-- `unlinked` as a map over the records (`unlinked_map`). -/
def unlinkedWin (p win i : Nat) (w : Win) : Win :=
  if i = win then { w with parent := none } else if i = p then unlinkedParent w win else w

theorem unlinked_map {t : Tree} {p win : Nat} {pw ww : Win} (hw : LiveW t win ww) (hpl : LiveW t p pw) (i : Nat) :
    (unlinked t p win pw ww).wins[i]? = t.wins[i]?.map (unlinkedWin p win i) := by
  rw [unlinked_get hw hpl]
  by_cases h1 : i = win
  · rw [if_pos h1, h1, hw.1, Option.map_some, unlinkedWin, if_pos rfl]
  · rw [if_neg h1]
    by_cases h2 : i = p
    · rw [if_pos h2, h2, hpl.1, Option.map_some, unlinkedWin, if_neg (h2 ▸ h1), if_pos rfl]
    · rw [if_neg h2]
      cases t.wins[i]? with
      | none => rfl
      | some w => rw [Option.map_some, unlinkedWin, if_neg h1, if_neg h2]

theorem unlinkedWin_flags (p win i : Nat) (w : Win) : (unlinkedWin p win i w).freed = w.freed ∧
    (unlinkedWin p win i w).isRoot = w.isRoot ∧ (unlinkedWin p win i w).isClosed = w.isClosed := by
  unfold unlinkedWin
  split
  · exact ⟨rfl, rfl, rfl⟩
  · split <;> exact ⟨rfl, rfl, rfl⟩

theorem unlinkedWin_parent (p win i : Nat) (w : Win) :
    (unlinkedWin p win i w).parent = if i = win then none else w.parent := by
  unfold unlinkedWin
  split
  · rfl
  · split <;> rfl

theorem unlinkedWin_children {p win : Nat} (hne : p ≠ win) (i : Nat) (w : Win) :
    (unlinkedWin p win i w).children = if i = p then w.children.erase win else w.children := by
  unfold unlinkedWin
  by_cases h1 : i = win
  · rw [if_pos h1, if_neg (fun h => hne (h.symm.trans h1))]
  · rw [if_neg h1]; split <;> rfl

theorem unlinkedWin_focus {p win : Nat} (hne : p ≠ win) (i : Nat) (w : Win) :
    (unlinkedWin p win i w).focusedChild =
      if i = p then (if w.focusedChild = some win then none else w.focusedChild) else w.focusedChild := by
  unfold unlinkedWin
  by_cases h1 : i = win
  · rw [if_pos h1, if_neg (fun h => hne (h.symm.trans h1))]
  · rw [if_neg h1]; split <;> rfl

theorem live_unlinked {t : Tree} {p win : Nat} {pw ww : Win} (hw : LiveW t win ww) (hpl : LiveW t p pw) {i : Nat} {w : Win}
    (hl : LiveW t i w) : LiveW (unlinked t p win pw ww) i (unlinkedWin p win i w) :=
  ⟨by rw [unlinked_map hw hpl, hl.1]; rfl, (unlinkedWin_flags p win i w).1.trans hl.2⟩

theorem live_unlinked_back {t : Tree} {p win : Nat} {pw ww : Win} (hw : LiveW t win ww) (hpl : LiveW t p pw) {i : Nat} {w2 : Win}
    (hl : LiveW (unlinked t p win pw ww) i w2) : ∃ w, LiveW t i w ∧ w2 = unlinkedWin p win i w := by
  have h := hl.1
  rw [unlinked_map hw hpl] at h
  obtain ⟨w, hw', rfl⟩ := Option.map_eq_some_iff.1 h
  exact ⟨w, ⟨hw', (unlinkedWin_flags p win i w).1.symm.trans hl.2⟩, rfl⟩

theorem reach_unlinked {t : Tree} {p win : Nat} {pw ww : Win} (hw : LiveW t win ww) (hpl : LiveW t p pw)
    {i a : Nat} (hn : ¬ Reach t i win) (hr : Reach t i a) : Reach (unlinked t p win pw ww) i a := by
  induction hr with
  | refl => exact .refl _
  | step hwi hpi hrest ih =>
    rename_i i0 q0 a0 w0
    have hiw : i0 ≠ win := fun h => hn (h ▸ .refl _)
    exact .step (by rw [unlinked_map hw hpl, hwi]; rfl) (by rw [unlinkedWin_parent, if_neg hiw]; exact hpi)
      (ih fun h => hn (.step hwi hpi h))

theorem unlinkedWin_wok {p win : Nat} (hne : p ≠ win) (i : Nat) {w : Win} (h : WOk w) : WOk (unlinkedWin p win i w) := by
  refine ⟨?_, fun hcl => ?_, fun c hf => ?_⟩
  · rw [unlinkedWin_children hne]; split
    · exact h.nodup.erase _
    · exact h.nodup
  · rw [unlinkedWin_parent]; split
    · rfl
    · exact h.closed ((unlinkedWin_flags p win i w).2.2.symm.trans hcl)
  · -- the parent forgets a focus on `win`
    rw [unlinkedWin_focus hne] at hf
    rw [unlinkedWin_children hne]
    by_cases h2 : i = p
    · rw [if_pos h2] at hf ⊢
      by_cases h3 : w.focusedChild = some win
      · rw [if_pos h3] at hf; cases hf
      · rw [if_neg h3] at hf
        exact (List.mem_erase_of_ne (fun (e : c = win) => h3 (e ▸ hf))).2 (h.focus c hf)
    · rw [if_neg h2] at hf ⊢
      exact h.focus c hf

theorem TInv.unlink {t : Tree} (inv : TInv t) {win p : Nat} {ww pw : Win}
    (hw : LiveW t win ww) (hp : ww.parent = some p) (hpl : LiveW t p pw)
    (hreq : ∀ r ∈ t.root.changes, ¬ Reach t r.win win)
    (hdrag : ∀ (s : Nat), t.root.dragSource = some s → ¬ Reach t s win) :
    TInv (unlinked t p win pw ww) := by
  have hne : p ≠ win := Nat.ne_of_lt (inv.parent_ok win ww hw p hp).1
  refine .of_parts ?_ (fun i w2 h hr => ?_) (inv.linked.unlink hw hp hpl (inv.nodup p pw hpl)) (fun i w2 hl => ?_)
    (fun r hr => ?_) (fun s hs => ?_)
  · obtain ⟨r, h0, hr, hpr⟩ := inv.root_ex
    refine ⟨unlinkedWin p win 0 r, by rw [unlinked_map hw hpl, h0]; rfl, (unlinkedWin_flags p win 0 r).2.1.trans hr, ?_⟩
    rw [unlinkedWin_parent]
    split
    · rfl
    · exact hpr
  · rw [unlinked_map hw hpl] at h
    obtain ⟨w, hw', rfl⟩ := Option.map_eq_some_iff.1 h
    exact inv.only_root i w hw' ((unlinkedWin_flags p win i w).2.1.symm.trans hr)
  · obtain ⟨w, hl0, rfl⟩ := live_unlinked_back hw hpl hl
    exact unlinkedWin_wok hne i (inv.wok hl0)
  · obtain ⟨hk, w, hl, hpr, hreach⟩ := inv.req_ok r hr
    have hn := hreq r hr
    have hrw : r.win ≠ win := fun h => hn (h ▸ .refl _)
    exact ⟨hk, _, live_unlinked hw hpl hl, by rw [unlinkedWin_parent, if_neg hrw]; exact hpr, reach_unlinked hw hpl hn hreach⟩
  · obtain ⟨w, hl, hreach⟩ := inv.drag_ok s hs
    exact ⟨_, live_unlinked hw hpl hl, reach_unlinked hw hpl (hdrag s hs) hreach⟩

theorem live_unlinked_parent {t : Tree} {p win : Nat} {pw ww : Win} (hw : LiveW t win ww) (hpl : LiveW t p pw)
    (hne : p ≠ win) : LiveW (unlinked t p win pw ww) p (unlinkedParent pw win) :=
  ⟨by rw [unlinked_get hw hpl, if_neg hne, if_pos rfl], hpl.2⟩

theorem live_unlinked_win {t : Tree} {p win : Nat} {pw ww : Win} (hw : LiveW t win ww) (hpl : LiveW t p pw) :
    LiveW (unlinked t p win pw ww) win { ww with parent := none } :=
  ⟨by rw [unlinked_get hw hpl, if_pos rfl], hw.2⟩

/-- `hreq`, `hdrag`: the root has forgotten the subtree (`purge_ok`). -/
theorem doHC_remove_ok {t : Tree} (inv : TInv t) {win p : Nat} {ww pw : Win}
    (hw : LiveW t win ww) (hp : ww.parent = some p) (hpl : LiveW t p pw)
    (hreq : ∀ r ∈ t.root.changes, ¬ Reach t r.win win)
    (hdrag : ∀ (s : Nat), t.root.dragSource = some s → ¬ Reach t s win) :
    doHC t .remove p win = .ok (unlinked t p win pw ww) ∧ TInv (unlinked t p win pw ww) := by
  obtain ⟨hlt, pw0, hpl0, hmem⟩ := inv.parent_ok win ww hw p hp
  have := WinTree.Live.unique hpl0 hpl; subst this
  have hne : p ≠ win := Nat.ne_of_lt hlt
  have inv2 := inv.unlink hw hp hpl hreq hdrag
  refine ⟨?_, inv2⟩
  unfold doHC
  simp only [get_live hpl, get_live hw, bind_ok]
  simp only [WinTree.listRemove_of_mem hmem, ofRes_ok, bind_ok, pure_ok, WinTree.get_set_ne _ hne, get_live hw]
  have hpl2 := live_unlinked_parent hw hpl hne
  have hE := expose_ok inv2 hpl2 (some ww.rect)
  unfold unlinked unlinkedParent at hE ⊢
  split
  · rw [hE]; rfl
  · rfl

/-- What `tickit_window_close(win)` does to the tree. -/
structure Closed (t t' : Tree) (win : Nat) (ww : Win) : Prop where
  inv : TInv t'
  size_eq : t'.wins.size = t.wins.size
  win_now : LiveW t' win { ww with parent := none, isClosed := true }
  others : ∀ (i : Nat) (w : Win), i ≠ win → t.wins[i]? = some w →
    (ww.parent ≠ some i ∧ t'.wins[i]? = some w) ∨ (ww.parent = some i ∧ t'.wins[i]? = some (unlinkedParent w win))
  req_sub : ∀ r ∈ t'.root.changes, r ∈ t.root.changes
  drag_sub : ∀ (s : Nat), t'.root.dragSource = some s → t.root.dragSource = some s

theorem closeT_ok {cfg : Cfg} (h1 : cfg.closePurges = true) (h2 : cfg.dragForgottenOnClose = true)
    {t : Tree} (inv : TInv t) {win : Nat} {ww : Win} (hw : LiveW t win ww) :
    ∃ t', closeT cfg t win = .ok t' ∧ Closed t t' win ww := by
  unfold closeT
  simp only [get_live hw, bind_ok]
  cases hp : ww.parent with
  | none =>
    simp only [pure_ok, bind_ok, get_live hw]
    refine ⟨_, rfl, (inv.update (pw' := { ww with isClosed := true }) hw.1 ⟨rfl, List.Perm.refl _, rfl, rfl, .inr hp, .inl rfl⟩).1, set_size _ _ _, ?_, ?_,
      fun r hr => hr, fun s hs => hs⟩
    · refine ⟨?_, hw.2⟩
      rw [set_get_self _ hw.lt]
      congr 1
      cases ww
      simp only at hp
      subst hp
      rfl
    · intro i w hi hwi
      exact .inl ⟨by rw [hp]; simp, by rw [set_get_ne _ (Ne.symm hi)]; exact hwi⟩
  | some p =>
    obtain ⟨hlt, pw, hpl, _⟩ := inv.parent_ok win ww hw p hp
    have hne : p ≠ win := Nat.ne_of_lt hlt
    obtain ⟨t1, hpurge, P⟩ := purge_ok h1 h2 inv hw
    simp only [h1, if_true, hpurge, bind_ok]
    have hw1 : LiveW t1 win ww := WinTree.Live.of_wins P.wins_eq hw
    have hpl1 : LiveW t1 p pw := WinTree.Live.of_wins P.wins_eq hpl
    obtain ⟨hrem, inv2⟩ := doHC_remove_ok P.inv hw1 hp hpl1
      (fun r hr hreach => (P.req_sub r hr).2 ((reach_of_wins P.wins_eq).2 hreach))
      (fun s hs hreach => (P.drag_sub s hs).2 ((reach_of_wins P.wins_eq).2 hreach))
    simp only [hrem, bind_ok]
    have hw2 := live_unlinked_win hw1 hpl1
    simp only [get_live hw2, bind_ok, pure_ok]
    refine ⟨_, rfl, (inv2.update (pw' := { ww with parent := none, isClosed := true }) hw2.1
      ⟨rfl, List.Perm.refl _, rfl, rfl, .inr rfl, .inl rfl⟩).1, ?_, ?_, ?_, ?_, ?_⟩
    · simp [P.wins_eq]
    · exact ⟨by rw [set_get_self _ hw2.lt], hw.2⟩
    · intro i w hi hwi
      rw [set_get_ne _ (Ne.symm hi), unlinked_get hw1 hpl1]
      simp only [hi, if_false]
      by_cases hip : i = p
      · subst hip
        cases hwi.symm.trans hpl.1
        exact .inr ⟨hp, by simp⟩
      · refine .inl ⟨fun h => hip (by rw [hp] at h; exact (Option.some.inj h).symm), ?_⟩
        simp only [hip, if_false, P.wins_eq]
        exact hwi
    · intro r hr; exact (P.req_sub r hr).1
    · intro s hs; exact (P.drag_sub s hs).1

end Tickit.Life
