import Tickit.Proof.WinFocusHist
/-
  C15 over histories: one statement per operation.  `StepInv` (every state of the source): the invariant is kept, the flags
  only go up, the root window keeps its rectangle (it matters on the mock terminal, which clamps to its screen).
  `FocusStep` (repaired source) adds that the restore the property needs is requested.  The operations of the window engine
  get both from its `WinFlush.Step` (`StepInv.of_step`, `FocusStep.of_step`).
-/
namespace Tickit
namespace WinFocus
open WinTree WinSpec WinFlush

def rootRect (t : Tree) : Option Rect := (t.wins[0]?).map (·.rect)

theorem rootRect_wins {t t' : Tree} (h : t'.wins = t.wins) : rootRect t' = rootRect t := by
  unfold rootRect; rw [h]

theorem rootRect_set {t : Tree} {i : Nat} {w w' : Win} (hw : t.wins[i]? = some w) (hr : w'.rect = w.rect) :
    rootRect (WinTree.set t i w') = rootRect t := by
  unfold rootRect
  rw [set_wins_of hw]
  by_cases hi : i = 0
  · subst hi; simp [hw, hr]
  · simp [hi]

theorem rootRect_lookup {t t' : Tree} (h : (t'.wins[0]?).map (·.rect) = (t.wins[0]?).map (·.rect)) :
    rootRect t' = rootRect t := h

theorem rootRect_of_cn {t t' : Tree} (h : SameBy coreNoVis t t') : rootRect t' = rootRect t :=
  sameBy_of (g := coreNoVis) (g' := (·.rect)) (·.2.1) (fun _ => rfl) h 0

structure StepInv (t t' : Tree) : Prop where
  good : Good15 t'
  keeps : RootKeeps t.root t'.root
  rect : rootRect t' = rootRect t

structure FocusStep (fx : Fixes) (t t' : Tree) : Prop extends StepInv t t' where
  requests : fx.hiddenRoot = true → fx.chainRestore = true → Requests t t'

theorem StepInv.of_cn {t t' : Tree} (hg : Good15 t) (hwf' : wfB t' = true) (hcn : SameBy coreNoVis t t')
    (hr : RootReq t.root t'.root) : StepInv t t' :=
  ⟨good15_rootReq hg hwf' hcn hr, rootKeeps_of_req hr, rootRect_of_cn hcn⟩

theorem StepInv.of_step {t t' : Tree} (hg : Good15 t) (hs : WinFlush.Step t t') (hwf' : wfB t' = true) : StepInv t t' := by
  refine ⟨good15_step hg hs hwf', rootKeeps_of_move hs.root hs.recorded.restore, ?_⟩
  obtain ⟨r, hr⟩ := hg.rootWin.record
  obtain ⟨r', hr', e⟩ := hs.rootRect r hr.slot
  unfold rootRect; rw [hr.slot, hr', Option.map_some, Option.map_some, e]

theorem StepInv.refl {t : Tree} (hg : Good15 t) : StepInv t t := ⟨hg, rootKeeps_refl _, rfl⟩

theorem StepInv.expose_if {c : Prop} [Decidable c] {t t' : Tree} {win : Nat} {r : Option Rect} (hg : Good15 t)
    (h : (if c then expose t (treeFuel t) win r else pure t) = .ok t') : StepInv t t' := by
  split at h
  · exact .of_step hg ((Exposed.of_expose h hg.nonempty hg.pos).step hg.struct.toTreeOk hg.pos) (expose_wf hg.wf h)
  · cases pure_ok_iff.mp h; exact .refl hg

/-- A request for a restore on top of an operation (`chainRestoreAfter`, the `hiddenRoot` repair of `hide`). -/
theorem StepInv.rootReq {t t'' t' : Tree} (h : StepInv t t'') (hw : t'.wins = t''.wins) (hr : RootReq t''.root t'.root) :
    StepInv t t' :=
  ⟨good15_rootReq h.good (by rw [wfB_wins hw]; exact h.good.wf) (fun x => by rw [hw]) hr,
    rootKeeps_trans h.keeps (rootKeeps_of_req hr), (rootRect_wins hw).trans h.rect⟩

/-- A step of the window engine that keeps the store invariant and the focus chain: a geometry change, a window
    creation. -/
theorem FocusStep.of_step {fx : Fixes} {t t' : Tree} (hg : Good15 t) (hs : WinFlush.Step t t') (hwf' : wfB t' = true)
    (hcs : ChainSame t t') : FocusStep fx t t' :=
  ⟨.of_step hg hs hwf', fun _ _ => requests_of_cover hg hwf' hs.recorded.cov hs.root.flagged hcs⟩

theorem hide_kept {t t'' : Tree} {win : Nat} {w : Win} (hg : Good15 t) (hw : Live t win w)
    (h2 : WinTree.hide t (treeFuel t) win = .ok t'') : StepInv t t'' := by
  have hwf'' := hide_wf hg.wf hw h2
  rcases hide_pieces h2 hw (fun p hp => parent_ne hg.wf hw hp) with ⟨_, rfl⟩ | ⟨p, pw, hp, hpw, hst⟩
  · exact .of_cn hg hwf'' (sameBy_set (w' := { w with isVisible := false }) hw.1 rfl) (.inl rfl)
  · have h0 : win ≠ 0 := fun h => by subst h; exact absurd (wf_parent hg.wf hw hp).1 (Nat.not_lt_zero p)
    exact .of_step hg (WinFlush.hide_step h2 h0 hg.struct.toTreeOk hg.pos hg.nonempty).1 hwf''

theorem show_kept {t t'' : Tree} {win : Nat} {w : Win} (hg : Good15 t) (hw : Live t win w)
    (h2 : WinTree.show t (treeFuel t) win = .ok t'') : StepInv t t'' :=
  .of_step hg (WinFlush.show_step h2 hg.struct.toTreeOk hg.pos hg.nonempty).1 (show_wf hg.wf hw h2)

theorem close_kept {t t'' : Tree} {win : Nat} {w : Win} (hg : Good15 t) (hw : Live t win w)
    (h2 : WinTree.close t (treeFuel t) win = .ok t'') : StepInv t t'' :=
  .of_step hg (close_step h2 hg.struct.toTreeOk hg.nonempty hg.pos).1 (close_wf hg.wf hg.nodup hw h2)

theorem showWin_step {fx : Fixes} {t t' : Tree} {win : Nat} (hg : Good15 t) (hh : showWin fx t win = .ok t') :
    FocusStep fx t t' := by
  refine ⟨?_, fun _ h2 => show_requests h2 hg hh⟩
  obtain ⟨w, t'', hw, h2, rfl⟩ := showWin_ok hh
  exact (show_kept hg hw h2).rootReq (chainRestoreAfter_wins _ _ _ _) (chainRestoreAfter_rootReq _ _ _ _)

theorem hideWin_step {fx : Fixes} {t t' : Tree} {win : Nat} (hg : Good15 t) (hh : hideWin fx t win = .ok t') :
    FocusStep fx t t' := by
  refine ⟨?_, fun h1 h2 => hide_requests h1 h2 hg hh⟩
  obtain ⟨w, t'', hw, h2, rfl⟩ := hideWin_ok hh
  have hk := hide_kept hg hw h2
  split
  · exact hk.rootReq rfl (.inr rfl)
  · exact hk.rootReq (chainRestoreAfter_wins _ _ _ _) (chainRestoreAfter_rootReq _ _ _ _)

theorem closeWin_step {fx : Fixes} {t t' : Tree} {win : Nat} (hg : Good15 t) (hh : closeWin fx t win = .ok t') :
    FocusStep fx t t' := by
  refine ⟨?_, fun _ h2 => close_requests h2 hg hh⟩
  obtain ⟨w, t'', hw, h2, rfl⟩ := closeWin_ok hh
  exact (close_kept hg hw h2).rootReq (chainRestoreAfter_wins _ _ _ _) (chainRestoreAfter_rootReq _ _ _ _)

theorem cursor_setter_step {fx : Fixes} {t t' : Tree} {win : Nat} (f : Cursor → Cursor) (hg : Good15 t)
    (hh : (WinTree.modify t win (fun w => { w with cursor := f w.cursor }) >>= fun t1 => restoreIfFocused t1 win) = .ok t') :
    FocusStep fx t t' := by
  refine ⟨?_, fun _ _ => cursor_setter_requests f hh⟩
  have hwf' := cursor_setter_wf f hg.wf hh
  simp only [bind_ok_iff] at hh
  obtain ⟨t1, hm, hr⟩ := hh
  obtain ⟨w, hw, rfl⟩ := modify_ok_iff.1 hm
  obtain ⟨hwins, hrs⟩ := restoreIfFocused_rootReq hr
  exact .of_cn hg hwf' (fun i => by rw [hwins]; exact sameBy_set (w' := { w with cursor := f w.cursor }) hw.1 rfl i) hrs

theorem notify_cursorSpec {t t' : Tree} {win : Nat} {v : Int} (hh : setFocusChildNotify t win v = .ok t') :
    cursorSpec t' = cursorSpec t := by
  obtain ⟨w, hw, rfl⟩ := modify_ok_iff.1 hh
  exact cursorSpec_set_same hw.1 rfl rfl rfl

theorem notify_step {fx : Fixes} {t t' : Tree} {win : Nat} {v : Int} (hg : Good15 t)
    (hh : setFocusChildNotify t win v = .ok t') : FocusStep fx t t' := by
  refine ⟨?_, fun _ _ => .inr (notify_cursorSpec hh)⟩
  have hwf' := notify_wf hg.wf hh
  obtain ⟨w, hw, rfl⟩ := modify_ok_iff.1 hh
  exact .of_cn hg hwf' (sameBy_set (w' := { w with focusChildNotify := bit1 v }) hw.1 rfl) (.inl rfl)

theorem takeFocus_step {fx : Fixes} {t : Tree} {win : Nat} {r : Tree × List Event} (hg : Good15 t)
    (h : takeFocus fx t win = .ok r) : FocusStep fx t r.1 :=
  ⟨.of_cn hg (takeFocus_wf hg.wf h) (sameBy_of (g := unlink) (g' := coreNoVis) coreNoVis (fun _ => rfl) (focusGained_unlink fx _ _ _ _ _ h))
    (focusGained_rootReq fx _ _ _ _ _ h), fun _ _ => takeFocus_requests hg.wf h⟩

theorem move_step {fx : Fixes} {t t' : Tree} {win : Nat} {r : Rect} (hg : Good15 t) (h0 : win ≠ 0)
    (hh : setGeometryExposed t (treeFuel t) win r = .ok t') : FocusStep fx t t' := by
  obtain ⟨hs, _⟩ := WinFlush.geom_step hh h0 hg.struct.toTreeOk hg.pos hg.nonempty
  obtain ⟨w, hw, hwins⟩ := setGeometryExposed_pieces hh
  -- the window keeps everything but its rectangle
  have hwf' : wfB t' = true ∧ ChainSame t t' := by
    rcases hwins with hws | hws
    · exact ⟨by rw [wfB_wins hws]; exact hg.wf, chainSame_wins hws⟩
    · exact ⟨by rw [wfB_wins hws]; exact wfB_set_same (w' := { w with rect := r }) hg.wf hw.1 rfl,
        chainSame_trans (chainSame_set (w' := { w with rect := r }) hw hw.2 (.inr ⟨rfl, rfl, rfl⟩)) (chainSame_wins hws)⟩
  exact .of_step hg hs hwf'.1 hwf'.2

theorem expose_step {fx : Fixes} {t t' : Tree} {win : Nat} {r : Option Rect} (hg : Good15 t)
    (h : expose t (treeFuel t) win r = .ok t') : FocusStep fx t t' :=
  ⟨.expose_if (c := True) hg h, fun _ _ => .inr (cursorSpec_wins (expose_wins h))⟩

/-- Fuel: one more than the size of the store, so that it suffices for the store with the new window. -/
theorem newWindow_step {fx : Fixes} {t t' : Tree} {par0 : Nat} {rect0 : Rect} {rp hid low st : Bool} {id : Nat}
    (hg : Good15 t) (h : newWindow t (treeFuel t + 1) par0 rect0 rp hid low st = .ok (t', id)) : FocusStep fx t t' := by
  obtain ⟨hs, hsz'⟩ := WinFlush.newWindow_step hg.struct.toTreeOk hg.pos hg.nonempty
    (fun x w hw hf ch hch => (wfB_iff.mp hg.wf).linked.child_lt ⟨hw, hf⟩ hch) (Nat.le_succ _) h
  obtain ⟨_, par, rect, pw, hpw, _, hexp⟩ := newWindow_ok h
  have hwins : t'.wins = (WinTree.set { t with wins := t.wins.push (pushedWin par rect hid st) } par
      { pw with children := inserted low pw.children t.wins.size }).wins := exposeIf_wins hexp
  have hwf' : wfB t' = true := by rw [wfB_wins hwins]; exact wfB_inserted hg.wf hpw
  refine .of_step hg hs hwf' ⟨by rw [hsz']; exact Nat.le_succ _, fun y wy _ hwy => ?_⟩
  -- the windows of `t` keep their records, the parent up to its child list
  have hys : y ≠ t.wins.size := Nat.ne_of_lt (Live.lt hwy)
  unfold Live
  rw [hwins, push_set_lookup hpw.1, if_neg hys]
  by_cases hyp : y = par
  · cases hyp; cases Live.unique hwy hpw
    exact ⟨_, ⟨if_pos rfl, hwy.2⟩, rfl, rfl, rfl⟩
  · exact ⟨wy, ⟨(if_neg hyp).trans hwy.1, hwy.2⟩, rfl, rfl, rfl⟩

end WinFocus
end Tickit
