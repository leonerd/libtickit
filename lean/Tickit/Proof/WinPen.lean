import Tickit.Proof.WinNodup
/-
  Pen inheritance in `_do_expose`: every handler invocation of a flush finds the render buffer carrying the *merged pen*
  of its window (`WinSpec.mergedPen`: the window pens laid over each other down the parent chain), so the proviso of C01
  only needs to hold for buffers with that pen (`WinSpec.RepaintsP`): a handler may rely on the pen it inherits.

  The invariant relates the buffer's pen and the pen saved in the top frame: `setpen` lays the window's pen over the
  *saved* pen, and `restore` brings the saved pen back whatever the handler's own `setpen`s did.  The restacking requests
  applied at the head of a flush only reorder child lists, so the merged pens are those of the tree the flush started from.
-/
namespace Tickit
namespace WinFlush
open WinTree WinRB WinSpec

/-- The half of `WFp` the pen invariant needs. -/
def ChildParent (t : Tree) : Prop :=
  ∀ (cur : Id) (w : Win), t.wins[cur]? = some w → ∀ ch ∈ w.children, ∃ cw : Win, t.wins[ch]? = some cw ∧ cw.parent = some cur

theorem WFp.childParent {t : Tree} (h : WFp t) : ChildParent t := by
  intro cur w hw ch hch
  obtain ⟨cw, a, b, _⟩ := h.child cur w hw ch hch
  exact ⟨cw, a, b⟩

/-- The pen a handler is handed is the merged pen of its window; `M + 1` is the fuel of the flush's outermost
    `_do_expose`. -/
def PenOk (t : Tree) (pens : Array (Option Pen)) (M : Nat) (sh : Shot) : Prop :=
  sh.rb.pen = mergedPen t pens (M + 1) sh.win

theorem mergedPen_succ (t : Tree) (pens : Array (Option Pen)) (k : Nat) (w : Id) :
    mergedPen t pens (k + 1) w = penOver (winPen pens w)
      (match t.wins[w]? with
       | some ww => (match ww.parent with
         | some p => mergedPen t pens k p
         | none => {})
       | none => {}) := rfl

theorem mergedPen_congr {t1 t2 : Tree} (pens : Array (Option Pen)) (h : SameBy (fun w => w.parent) t1 t2) :
    ∀ (n : Nat) (w : Id), mergedPen t2 pens n w = mergedPen t1 pens n w := by
  intro n
  induction n with
  | zero => intro w; rfl
  | succ k ih =>
    intro w
    rw [mergedPen_succ, mergedPen_succ]
    cases h1 : t1.wins[w]? with
    | none => rw [map_eq_none (h w) h1]
    | some w1 =>
      obtain ⟨w2, h2, hp⟩ := sameBy_some h h1
      rw [h2]
      simp only [hp]
      cases w1.parent with
      | none => rfl
      | some p => simp only [ih p]

/-- `if(win->pen) tickit_renderbuffer_setpen(rb, win->pen)` when the buffer's pen is the pen saved in the top frame. -/
theorem applyWinPen_pen (pens : Array (Option Pen)) (win : Id) (rb : RB) (base : Pen) (f : Frame) (rest : List Frame)
    (hpen : rb.pen = base) (hst : rb.stack = f :: rest) (hf : f.pen = base) :
    (applyWinPen pens win rb).pen = penOver (winPen pens win) base ∧ (applyWinPen pens win rb).stack = rb.stack := by
  unfold applyWinPen
  cases winPen pens win with
  | none => exact ⟨hpen, rfl⟩
  | some p => exact ⟨by simp only [RB.setpen, hst, penOver, hf], rfl⟩

theorem doChildren_pen (t : Tree) (beh : Id → Rect → List DrawOp) (pens : Array (Option Pen)) (M n : Nat) (rect : Rect)
    (mp : Pen) (win : Id)
    (ih : ∀ (c : Id) (r : Rect) (s s' : RB × List Shot) (base : Pen), doExpose beh t pens n c r s = .ok s' →
      s.1.pen = base → (∃ f rest, s.1.stack = f :: rest ∧ f.pen = base) →
      (∀ k, M + 1 ≤ k + n → mergedPen t pens (k + 1) c = penOver (winPen pens c) base) →
      (∀ sh ∈ s.2, PenOk t pens M sh) → s'.1.stack = s.1.stack ∧ ∀ sh ∈ s'.2, PenOk t pens M sh)
    (hwin : ∀ k, M + 1 ≤ k + (n + 1) → mergedPen t pens (k + 1) win = mp) (hn : n ≤ M) :
    ∀ (cs : List Id) (s s' : RB × List Shot), doChildren t (doExpose beh t pens n) rect cs s = .ok s' →
      (∀ c ∈ cs, ∃ cw : Win, t.wins[c]? = some cw ∧ cw.parent = some win) → s.1.pen = mp →
      (∀ sh ∈ s.2, PenOk t pens M sh) →
      s'.1.stack = s.1.stack ∧ s'.1.pen = mp ∧ ∀ sh ∈ s'.2, PenOk t pens M sh := by
  intro cs
  induction cs with
  | nil => intro s s' h _ hpen hp; simp only [doChildren] at h; cases h; exact ⟨rfl, hpen, hp⟩
  | cons c cs ihcs =>
    intro s s' h hpar hpen hp
    have hpar' : ∀ c' ∈ cs, ∃ cw : Win, t.wins[c']? = some cw ∧ cw.parent = some win :=
      fun c' hc' => hpar c' (List.mem_cons_of_mem _ hc')
    obtain ⟨cw, _, ⟨_, h⟩ | ⟨_, _, h⟩ | ⟨_, exposed, s2, _, hrec, h⟩⟩ := doChildren_cons h
    · exact ihcs s s' h hpar' hpen hp
    · exact ihcs (s.1.mask cw.rect, s.2) s' h hpar' hpen hp
    · have he := entered_child s.1 exposed cw.rect.top cw.rect.left
      obtain ⟨cw', hcw', hcp⟩ := hpar c List.mem_cons_self
      have hchild : ∀ k, M + 1 ≤ k + n → mergedPen t pens (k + 1) c = penOver (winPen pens c) mp := by
        intro k hk
        cases k with
        | zero => omega
        | succ k' =>
          rw [mergedPen_succ, hcw']
          simp only [hcp]
          rw [hwin k' (by omega)]
      obtain ⟨hst2, hp2⟩ := ih c _ _ s2 mp hrec (by rw [← hpen]; simp [RB.translate, RB.save]) ⟨_, _, he.stack, hpen⟩ hchild hp
      -- `restore` brings back the pen saved on entry, whatever the child's handlers set
      obtain ⟨_, _, _, hr_pen, hr_stack, _⟩ := restore_of_save_frame s.1 s2.1 s.1.stack (hst2.trans he.stack)
      obtain ⟨a, b, c'⟩ := ihcs (s2.1.restore.mask cw.rect, s2.2) s' h hpar' (hr_pen.trans hpen) hp2
      exact ⟨a.trans hr_stack, b, c'⟩

/-- The pen invariant of `_do_expose`.  `base`, the merged pen of the window's parent (the empty pen for the root), is on
    entry both the buffer's pen and the pen saved in the top frame. -/
theorem doExpose_pen (t : Tree) (beh : Id → Rect → List DrawOp) (pens : Array (Option Pen)) (M : Nat) (hcp : ChildParent t) :
    ∀ (fuel : Nat), fuel ≤ M + 1 → ∀ (win : Id) (rect : Rect) (s s' : RB × List Shot) (base : Pen),
      doExpose beh t pens fuel win rect s = .ok s' →
      s.1.pen = base → (∃ f rest, s.1.stack = f :: rest ∧ f.pen = base) →
      (∀ k, M + 1 ≤ k + fuel → mergedPen t pens (k + 1) win = penOver (winPen pens win) base) →
      (∀ sh ∈ s.2, PenOk t pens M sh) → s'.1.stack = s.1.stack ∧ ∀ sh ∈ s'.2, PenOk t pens M sh := by
  intro fuel
  induction fuel with
  | zero => intro _ win rect s s' base h; cases h
  | succ n ih =>
    intro hfuel win rect s s' base h hpen ⟨f, rest, hstack, hf⟩ hmp hp
    obtain ⟨w, sl, hg, hl, rfl⟩ := doExpose_succ h
    obtain ⟨h0pen, h0stack⟩ := applyWinPen_pen pens win s.1 base f rest hpen hstack hf
    obtain ⟨a, b, c⟩ := doChildren_pen t beh pens M n rect (penOver (winPen pens win) base) win
      (fun c r s s' base' => ih (by omega) c r s s' base') hmp (by omega) w.children _ sl hl
      (fun c hc => hcp win w (get_ok hg).1 c hc) h0pen hp
    refine ⟨(run_stack (beh win rect) sl.1).trans (a.trans h0stack), fun sh hsh => ?_⟩
    rcases List.mem_append.1 hsh with hsh | hsh
    · exact c sh hsh
    · cases List.mem_singleton.1 hsh
      exact b.trans (hmp M (by omega)).symm

theorem exposeRects_pen (t : Tree) (beh : Id → Rect → List DrawOp) (pens : Array (Option Pen)) (M : Nat) (hcp : ChildParent t)
    (hroot : ∀ w, t.wins[0]? = some w → w.parent = none) (bounds : Rect) :
    ∀ (rects : List Rect) (s s' : RB × List Shot), exposeRects beh t pens (M + 1) bounds rects s = .ok s' →
      s.1.pen = {} → (∀ sh ∈ s.2, PenOk t pens M sh) → ∀ sh ∈ s'.2, PenOk t pens M sh := by
  intro rects
  induction rects with
  | nil => intro s s' h _ hp; simp only [exposeRects] at h; cases h; exact hp
  | cons ρ0 rest ih =>
    intro s s' h hpen hp
    rcases exposeRects_cons h with ⟨_, h⟩ | ⟨ρ, s1, _, hd, h⟩
    · exact ih s s' h hpen hp
    · have he := entered_clip s.1 ρ
      have hmp : ∀ k, M + 1 ≤ k + (M + 1) → mergedPen t pens (k + 1) 0 = penOver (winPen pens 0) {} := by
        intro k _
        rw [mergedPen_succ]
        cases hw0 : t.wins[0]? with
        | none => rfl
        | some w0 => simp only [hroot w0 hw0]
      obtain ⟨hst1, hp1⟩ := doExpose_pen t beh pens M hcp (M + 1) (Nat.le_refl _) 0 ρ _ s1 {} hd
        (by rw [← hpen]; simp [RB.save]) ⟨_, _, he.stack, hpen⟩ hmp hp
      obtain ⟨_, _, _, hr_pen, _⟩ := restore_of_save_frame s.1 s1.1 s.1.stack (hst1.trans he.stack)
      exact ih (s1.1.restore, s1.2) s' h (hr_pen.trans hpen) hp1

theorem flushRender_pen {beh : Id → Rect → List DrawOp} {st st' : St} {t : Tree} {shots : List Shot}
    (h : flushRender beh st t = .ok (st', shots)) (hcp : ChildParent t) (hroot : ∀ w, t.wins[0]? = some w → w.parent = none) :
    ∀ sh ∈ shots, sh.rb.pen = mergedPen t st.pens (t.wins.size + 1) sh.win := by
  rcases flushRender_cases beh st st' t shots h with i | ⟨root, s', r⟩
  · rw [i.shots]; intro sh hsh; cases hsh
  · rw [r.shots]
    have := exposeRects_pen (rendered t) beh st.pens t.wins.size hcp hroot _ _ _ s' r.run rfl
      (by intro sh hsh; cases hsh)
    intro sh hsh
    rw [this sh hsh]
    exact mergedPen_congr (t1 := t) (t2 := rendered t) st.pens (sameBy_of_wins rfl) _ _

/-- The merged pen is that of the tree the flush started from: the queued restacking requests it applies first change no
    parent pointer. -/
theorem flush_shots_pen {beh : Id → Rect → List DrawOp} {content : Id → Int → Int → Cell} {st st' : St} {shots : List Shot}
    (h : WinFlush.flush beh st = .ok (st', shots)) (hg : GoodQ content st) :
    ∀ sh ∈ shots, sh.rb.pen = mergedPen st.tree st.pens (st.tree.wins.size + 1) sh.win := by
  rcases flush_decompose h hg with ⟨_, _, hs⟩ | ⟨t0, t, h0w, _, hr, hI, _, _, hsz, hpar⟩
  · subst hs; intro sh hsh; cases hsh
  · intro sh hsh
    rw [flushRender_pen hr hI.ok.wf.childParent hI.ok.rootWin.parentless sh hsh, hsz, h0w]
    exact mergedPen_congr st.pens (fun x => (hpar x).trans (by rw [h0w])) _ _

theorem repaintsAt_of_repaintsP {t : Tree} {pens : Array (Option Pen)} {content : Id → Int → Int → Cell}
    {beh : Id → Rect → List DrawOp} (hrep : RepaintsP t pens content beh) (sh : Shot)
    (hpen : sh.rb.pen = mergedPen t pens (t.wins.size + 1) sh.win) : RepaintsAt content beh sh :=
  fun L C hw hm => hrep sh.win sh.rect sh.rb L C hpen hw hm

theorem goodQ_flush_pen {beh : Id → Rect → List DrawOp} {content : Id → Int → Int → Cell} {st st' : St} {shots : List Shot}
    (h : WinFlush.flush beh st = .ok (st', shots)) (hrep : RepaintsP st.tree st.pens content beh) (hg : GoodQ content st) :
    GoodQ content st' ∧ ExactC content st'.tree st'.screen ∧ st'.tree.root.changes = [] ∧ st'.tree.root.damage = [] :=
  goodQ_flush_at h
    (fun sh hsh => repaintsAt_of_repaintsP hrep sh (flush_shots_pen h hg sh hsh)) hg

theorem goodQ_flushX_pen {beh : Id → Rect → List DrawOp} {behExp : Id → Rect → List (Id × Option Rect)}
    {content : Id → Int → Int → Cell} {st st' : St} {shots : List Shot}
    (h : flushX beh behExp st = .ok (st', shots)) (hrep : RepaintsP st.tree st.pens content beh) (hg : GoodQ content st) :
    GoodQ content st' ∧ ExactC content st'.tree st'.screen := by
  obtain ⟨st1, _, hf, _⟩ := flushX_cases h
  exact goodQ_flushX_at h
    (fun sh hsh => repaintsAt_of_repaintsP hrep sh (flush_shots_pen hf hg sh hsh)) hg

end WinFlush
end Tickit
