import Tickit.Proof.ModesSgr
/-
  C12 — the driver against the terminal: what `setctl_int`, `stop` / `pause`, `resume`, the terminal's replies and the
  toplevel instance's setup do to the shadow and, through the bytes they write, to a terminal in the ground state.

  The terminal's listed modes `m` against the driver's shadow `sh`.  `Shown sh m`: the terminal shows exactly what the
  shadow records (narrow protocol, running).  `Off m`, `OffH v0 m`: every listed mode as handed over, the cursor visible
  / as `v0` (paused, stopped).  `CovH v0 sh m`: whatever is on at the terminal the shadow records as on (wide protocol,
  every phase); `Covered`, at the end of the file, is `CovH true` as `Props/C12.lean` states it.  `Shown` implies
  `CovH true`, `OffH v0` implies `CovH v0` (a cursor handed over hidden being recorded as visible), and `CovH` is what the
  teardown string needs to reach `OffH` (`teardown_offH`).
-/
namespace Tickit.Modes
open Tickit.Gen

theorem wrapU1_bool (v : Int) : wrapU 1 (bool01 v) = if v = 0 then 0 else 1 := by
  unfold wrapU bool01; split <;> simp

theorem wrapU2_small (v : Int) (h : 0 ≤ v ∧ v ≤ 3) : wrapU 2 v = v.toNat := by
  unfold wrapU
  have : ((2:Int)^2) = 4 := by decide
  rw [this]
  omega

theorem wrapU2_le (v : Int) : wrapU 2 v ≤ 3 := by
  unfold wrapU
  have h1 := Int.emod_lt_of_pos v (show (0 : Int) < 2 ^ 2 by decide)
  have h2 := Int.emod_nonneg v (show ((2 : Int) ^ 2) ≠ 0 by decide)
  omega

theorem wrapU1_bool_int (v : Int) : ((wrapU 1 (bool01 v) : Nat) : Int) = bool01 v := by
  rw [wrapU1_bool]; unfold bool01; split <;> rfl

theorem wrapU1_bool_le (v : Int) : wrapU 1 (bool01 v) ≤ 1 := by
  rw [wrapU1_bool]; split <;> decide

/-- A boolean control taken for redundant: the bit stored is the one asked for. -/
theorem bool01_of_same {x : Nat} {v : Int} (hx : x ≤ 1) (h : decide (x = 0) = decide (v = 0)) : bool01 v = x := by
  unfold bool01
  by_cases hv : v = 0 <;> simp [hv] at h ⊢ <;> omega

theorem wrapU_w1 : wrapU 1 1 = 1 := by decide
theorem wrapU_w2 : wrapU 2 1 = 1 := by decide

theorem modeForMouse_toNat (k : Nat) : ((modeForMouse k).toNat : Int) = modeForMouse k :=
  Int.toNat_of_nonneg (modeForMouse_nonneg k)

structure Shown (sh : Shadow) (m : VModes) : Prop where
  alt : m.altscreen = decide (sh.altscreen ≠ 0)
  vis : m.cursorVisible = decide (sh.cursorvis ≠ 0)
  mouse : (m.mouse : Int) = modeForMouse sh.mouse
  sgr : m.sgrMouse = decide (sh.mouse ≠ 0)
  keypad : m.keypadApp = decide (sh.keypad ≠ 0)

structure Off (m : VModes) : Prop where
  alt : m.altscreen = false
  vis : m.cursorVisible = true
  mouse : m.mouse = 0
  sgr : m.sgrMouse = false
  keypad : m.keypadApp = false

/-- Whatever listed mode is on at the terminal is recorded as on in the driver's shadow; relative to the cursor
    visibility `v0` the terminal was handed over with. -/
structure CovH (v0 : Bool) (sh : Shadow) (m : VModes) : Prop where
  alt : m.altscreen = true → sh.altscreen ≠ 0
  vis : v0 = true → m.cursorVisible = false → sh.cursorvis = 0
  hid : v0 = false → m.cursorVisible = false ∧ sh.cursorvis ≠ 0
  mouse : (m.mouse ≠ 0 ∨ m.sgrMouse = true) → sh.mouse ≠ 0
  keypad : m.keypadApp = true → sh.keypad ≠ 0

structure OffH (v0 : Bool) (m : VModes) : Prop where
  alt : m.altscreen = false
  vis : m.cursorVisible = v0
  mouse : m.mouse = 0
  sgr : m.sgrMouse = false
  keypad : m.keypadApp = false

theorem Off.offH {m : VModes} (h : Off m) : OffH true m := ⟨h.alt, h.vis, h.mouse, h.sgr, h.keypad⟩

theorem OffH.off {m : VModes} (h : OffH true m) : Off m := ⟨h.alt, h.vis, h.mouse, h.sgr, h.keypad⟩

theorem covH_of_offH (v0 : Bool) (sh : Shadow) (m : VModes) (h : OffH v0 m) (hs : v0 = false → sh.cursorvis ≠ 0) :
    CovH v0 sh m := by
  obtain ⟨h1, h2, h3, h4, h5⟩ := h
  refine ⟨?_, ?_, ?_, ?_, ?_⟩
  · intro h; simp_all
  · intro hv h; simp_all
  · intro hv; exact ⟨by rw [h2, hv], hs hv⟩
  · intro h; simp_all
  · intro h; simp_all

theorem offH_of_handover (m0 : VModes) (h : m0.handover = true) : OffH m0.cursorVisible m0 := by
  simp only [VModes.handover, Bool.and_eq_true, Bool.not_eq_true', beq_iff_eq] at h
  exact ⟨h.1.1.1, rfl, h.1.1.2, h.1.2, h.2⟩

theorem restoredOk_of_offH {v0 : Bool} (vt : VT) (m0 : VModes) (h0 : OffH v0 m0) (h : OffH v0 vt.modes)
    (ha : vt.attrs = Attrs.default) : restoredOk vt m0 = true := by
  simp only [restoredOk, Bool.and_eq_true, beq_iff_eq, List.all_eq_true]
  refine ⟨⟨⟨⟨⟨h.alt.trans h0.alt.symm, h.vis.trans h0.vis.symm⟩, h.mouse.trans h0.mouse.symm⟩, h.sgr.trans h0.sgr.symm⟩,
    h.keypad.trans h0.keypad.symm⟩, fun k _ => by rw [ha]; rfl⟩

theorem covH_of_shown (sh : Shadow) (m : VModes) (h : Shown sh m) : CovH true sh m := by
  obtain ⟨h1, h2, h3, h4, h5⟩ := h
  refine ⟨fun h => by simp_all, fun _ h => by simp_all, nofun, ?_, fun h => by simp_all⟩
  intro h hz
  rw [hz] at h3 h4
  rcases h with h | h
  · exact h (by simpa [modeForMouse] using h3)
  · simp [h] at h4

/-- Read in the ground state, `out` ends there and leaves the rendition alone. -/
def Quiet (out : Out) : Prop := ∀ (m : VModes) (A : Attrs), ∃ m', VT.feed ⟨.ground, m, A⟩ out = ⟨.ground, m', A⟩

theorem Quiet.of_feed {out : Out} {f : VModes → VModes} (h : ∀ m A, VT.feed ⟨.ground, m, A⟩ out = ⟨.ground, f m, A⟩) :
    Quiet out := fun m A => ⟨f m, h m A⟩

theorem Quiet.nil : Quiet [] := fun m _ => ⟨m, rfl⟩

theorem Quiet.feed_append {x : Out} (hx : Quiet x) (y : Out) (m : VModes) (A : Attrs) :
    ∃ m', VT.feed ⟨.ground, m, A⟩ (x ++ y) = VT.feed ⟨.ground, m', A⟩ y :=
  (hx m A).imp fun _ e => by rw [Tickit.Modes.feed_append, e]

theorem Quiet.append {x y : Out} (hx : Quiet x) (hy : Quiet y) : Quiet (x ++ y) := fun m A => by
  obtain ⟨m1, e1⟩ := hx.feed_append y m A
  obtain ⟨m2, e2⟩ := hy m1 A
  exact ⟨m2, e1.trans e2⟩

theorem Quiet.ite {x y : Out} (c : Prop) [Decidable c] (hx : Quiet x) (hy : Quiet y) : Quiet (if c then x else y) := by
  split; exact hx; exact hy

theorem quiet_mouseOn (k : Int) : Quiet (mouseOn (modeForMouse k)) := .of_feed fun m A => feed_mouse m A true k
theorem quiet_mouseOff (k : Int) : Quiet (mouseOff (modeForMouse k)) := .of_feed fun m A => feed_mouse m A false k

theorem quiet_shapeSeq (n : Int) : Quiet (shapeSeq n) := fun m A => by
  obtain ⟨sh, bl, hf⟩ := feed_shapeSeq m A n
  exact ⟨_, hf⟩

/-- What one `setctl_int` with control `c` does to the shadow and - through the bytes it writes - to a terminal in the
    ground state: nothing, or one mode set on both sides (blink and shape: to whatever the terminal makes of it). -/
inductive CtlUpd (sh : Shadow) (m : VModes) : Option Ctl → Shadow → VModes → Prop
  /-- the control is refused, not a mode, or taken for redundant (the shadow says the value is set already) -/
  | same {c} : CtlUpd sh m c sh m
  | alt (b : Nat) : CtlUpd sh m (some .altscreen) { sh with altscreen := b } { m with altscreen := decide (b ≠ 0) }
  | vis (b : Nat) : CtlUpd sh m (some .cursorvis) { sh with cursorvis := b } { m with cursorVisible := decide (b ≠ 0) }
  | mouse (k : Nat) :
    CtlUpd sh m (some .mouse) { sh with mouse := k } { m with mouse := (modeForMouse k).toNat, sgrMouse := decide (k ≠ 0) }
  | keypad (b : Nat) : CtlUpd sh m (some .keypadApp) { sh with keypad := b } { m with keypadApp := decide (b ≠ 0) }
  | blink (x : Nat) (b : Bool) : CtlUpd sh m (some .cursorblink) { sh with cursorblink := x } { m with cursorBlink := b }
  | shape (x s : Nat) (b : Bool) :
    CtlUpd sh m (some .cursorshape) { sh with cursorshape := x } { m with cursorShape := s, cursorBlink := b }

theorem feed_onoff (v : Int) (f : Bool → VT) {vt : VT} {on off : Out} (hon : VT.feed vt on = f true)
    (hoff : VT.feed vt off = f false) :
    VT.feed vt (if v ≠ 0 then on else off) = f (decide (wrapU 1 (bool01 v) ≠ 0)) := by
  rw [wrapU1_bool]
  by_cases h : v = 0 <;> simp [h, hon, hoff]

/-- A keypad setting that is not redundant is one the driver records: where it does not record, the contract admits only
    switching off, and the shadow says "off" already. -/
theorem keypad_recorded {cfg : Cfg} {d : XDrv} {v : Int} (hkz : cfg.keypadRecorded = false → d.mode.keypad = 0)
    (hkp : cfg.keypadRecorded = true ∨ v = 0) (hne : ¬ decide (d.mode.keypad = 0) = decide (v = 0)) :
    cfg.keypadRecorded = true := by
  cases hrec : cfg.keypadRecorded
  · rcases hkp with h | rfl
    · rw [hrec] at h; cases h
    · rw [hkz hrec] at hne; exact absurd rfl hne
  · rfl

theorem setctl_upd (cfg : Cfg) (d : XDrv) (c : Option Ctl) (v : Int) (m : VModes) (A : Attrs)
    (hm : d.mode.mouse ≤ 3) (hkz : cfg.keypadRecorded = false → d.mode.keypad = 0)
    (hmouse : c = some .mouse → 0 ≤ v ∧ v ≤ 3)
    (hkp : c = some .keypadApp → cfg.keypadRecorded = true ∨ v = 0) :
    ∃ m', VT.feed ⟨.ground, m, A⟩ (setctlInt cfg d c v).2.1 = ⟨.ground, m', A⟩ ∧
      CtlUpd d.mode m c (setctlInt cfg d c v).1.mode m' ∧
      (cfg.keypadRecorded = false → (setctlInt cfg d c v).1.mode.keypad = 0) := by
  have same : ∃ m', VT.feed ⟨.ground, m, A⟩ ([] : Out) = ⟨.ground, m', A⟩ ∧ CtlUpd d.mode m c d.mode m' ∧
      (cfg.keypadRecorded = false → d.mode.keypad = 0) := ⟨m, rfl, .same, hkz⟩
  -- the arms of `setctl_int` in its order: cap_rgb8, altscreen, cursorvis, cursorblink, mouse, cursorshape, keypad_app, the rest
  unfold setctlInt
  split
  · exact same
  · split
    · exact same
    · exact ⟨_, feed_onoff v (fun b => ⟨.ground, { m with altscreen := b }, A⟩) (feed_altOn m A) (feed_altOff m A),
        .alt _, hkz⟩
  · split
    · exact same
    · exact ⟨_, feed_onoff v (fun b => ⟨.ground, { m with cursorVisible := b }, A⟩) (feed_visOn m A) (feed_visOff m A),
        .vis _, hkz⟩
  · split
    · exact same
    · exact ⟨_, feed_onoff v (fun b => ⟨.ground, { m with cursorBlink := b }, A⟩) (feed_blinkOn m A) (feed_blinkOff m A),
        .blink _ _, hkz⟩
  · obtain ⟨hv0, hv3⟩ := hmouse rfl
    split
    · exact same
    · rename_i hne
      by_cases hv : v = 0
      · subst hv
        have hk : 1 ≤ d.mode.mouse ∧ d.mode.mouse ≤ 3 := by omega
        exact ⟨_, feed_mouse_known m A false _ hk, .mouse 0, hkz⟩
      · obtain ⟨k, rfl⟩ : ∃ k : Nat, v = k := ⟨v.toNat, by omega⟩
        have hk : 1 ≤ k ∧ k ≤ 3 := by omega
        have hw : wrapU ModeLayout.w_mode_mouse (k : Int) = k := by
          rw [show ModeLayout.w_mode_mouse = 2 from rfl, wrapU2_small _ (by omega)]; simp
        rw [if_neg hv, hw]
        refine ⟨_, (feed_mouse_known m A true _ hk).trans ?_, .mouse k, hkz⟩
        rw [show decide (k ≠ 0) = true by simp; omega]; rfl
  · split
    · exact same
    · by_cases hc : d.cap.cursorshape ≠ 0
      · obtain ⟨sh, bl, hf⟩ := feed_shapeSeq m A (v * 2 + (if d.mode.cursorblink ≠ 0 then -1 else 0))
        exact ⟨_, (by rw [if_pos hc]; exact hf), .shape _ sh bl, hkz⟩
      · exact ⟨m, (by rw [if_neg hc]; rfl), .shape _ m.cursorShape m.cursorBlink, hkz⟩
  · split
    · exact same
    · rw [keypad_recorded hkz (hkp rfl) ‹_›]
      exact ⟨_, feed_onoff v (fun b => ⟨.ground, { m with keypadApp := b }, A⟩) (feed_keypadOn m A) (feed_keypadOff m A),
        .keypad _, nofun⟩
  · exact same

theorem Shown.upd {sh sh' : Shadow} {m m' : VModes} {c : Option Ctl} (h : Shown sh m) (u : CtlUpd sh m c sh' m') :
    Shown sh' m' := by
  cases u with
  | same => exact h
  | alt b => exact ⟨rfl, h.vis, h.mouse, h.sgr, h.keypad⟩
  | vis b => exact ⟨h.alt, rfl, h.mouse, h.sgr, h.keypad⟩
  | mouse k => exact ⟨h.alt, h.vis, modeForMouse_toNat k, rfl, h.keypad⟩
  | keypad b => exact ⟨h.alt, h.vis, h.mouse, h.sgr, rfl⟩
  | blink x b => exact ⟨h.alt, h.vis, h.mouse, h.sgr, h.keypad⟩
  | shape x s b => exact ⟨h.alt, h.vis, h.mouse, h.sgr, h.keypad⟩

/-- `hcv`: on a terminal handed over hidden the control is not `cursorvis`. -/
theorem CovH.upd {v0 : Bool} {sh sh' : Shadow} {m m' : VModes} {c : Option Ctl} (h : CovH v0 sh m)
    (u : CtlUpd sh m c sh' m') (hcv : c = some .cursorvis → v0 = true) : CovH v0 sh' m' := by
  cases u with
  | same => exact h
  | alt b => exact ⟨of_decide_eq_true, h.vis, h.hid, h.mouse, h.keypad⟩
  | vis b =>
    have hv0 := hcv rfl
    exact ⟨h.alt, fun _ hb => of_decide_eq_false hb |> Decidable.not_not.mp, fun hf => (by rw [hv0] at hf; cases hf), h.mouse, h.keypad⟩
  | mouse k =>
    refine ⟨h.alt, h.vis, h.hid, ?_, h.keypad⟩
    rintro hor rfl
    rcases hor with hor | hor
    · exact hor rfl
    · cases hor
  | keypad b => exact ⟨h.alt, h.vis, h.hid, h.mouse, of_decide_eq_true⟩
  | blink x b => exact ⟨h.alt, h.vis, h.hid, h.mouse, h.keypad⟩
  | shape x s b => exact ⟨h.alt, h.vis, h.hid, h.mouse, h.keypad⟩

theorem setctl_frame (cfg : Cfg) (d : XDrv) (c : Option Ctl) (v : Int) :
    (c ≠ some .cursorvis → (setctlInt cfg d c v).1.mode.cursorvis = d.mode.cursorvis ∧
      (setctlInt cfg d c v).1.init.cursorvis = d.init.cursorvis) ∧
    (d.mode.mouse ≤ 3 → (setctlInt cfg d c v).1.mode.mouse ≤ 3) := by
  unfold setctlInt
  split
  · exact ⟨fun _ => ⟨rfl, rfl⟩, id⟩
  · split <;> exact ⟨fun _ => ⟨rfl, rfl⟩, id⟩
  · exact ⟨fun h => absurd rfl h, by split <;> exact id⟩
  · split <;> exact ⟨fun _ => ⟨rfl, rfl⟩, id⟩
  · split
    · exact ⟨fun _ => ⟨rfl, rfl⟩, id⟩
    · exact ⟨fun _ => ⟨rfl, rfl⟩, fun _ => wrapU2_le v⟩
  · split <;> exact ⟨fun _ => ⟨rfl, rfl⟩, id⟩
  · split
    · exact ⟨fun _ => ⟨rfl, rfl⟩, id⟩
    · split <;> exact ⟨fun _ => ⟨rfl, rfl⟩, id⟩
  · exact ⟨fun _ => ⟨rfl, rfl⟩, id⟩

theorem setctl_visInit (cfg : Cfg) (d : XDrv) (c : Option Ctl) (v : Int)
    (h : cfg.repliesGuarded = true → d.mode.cursorvis = 0 → d.init.cursorvis ≠ 0) :
    cfg.repliesGuarded = true → (setctlInt cfg d c v).1.mode.cursorvis = 0 → (setctlInt cfg d c v).1.init.cursorvis ≠ 0 := by
  by_cases hc : c = some .cursorvis
  · subst hc
    unfold setctlInt
    simp only
    split
    · exact h
    · intro hg _; rw [hg]; exact (by decide : wrapU 1 1 ≠ 0)
  · obtain ⟨e1, e2⟩ := (setctl_frame cfg d c v).1 hc
    rw [e1, e2]; exact h

theorem setctl_quiet (cfg : Cfg) (d : XDrv) (c : Option Ctl) (v : Int) : Quiet (setctlInt cfg d c v).2.1 := by
  unfold setctlInt
  split
  · exact .nil
  · split; exact .nil; exact .ite _ (.of_feed feed_altOn) (.of_feed feed_altOff)
  · split; exact .nil; exact .ite _ (.of_feed feed_visOn) (.of_feed feed_visOff)
  · split; exact .nil; exact .ite _ (.of_feed feed_blinkOn) (.of_feed feed_blinkOff)
  · split; exact .nil; exact .ite _ (quiet_mouseOff _) (quiet_mouseOn _)
  · split; exact .nil; exact .ite _ (quiet_shapeSeq _) .nil
  · split; exact .nil; exact .ite _ (.of_feed feed_keypadOn) (.of_feed feed_keypadOff)
  · exact .nil

theorem feed_drvTeardown (d : XDrv) (m : VModes) (A : Attrs) (hm : d.mode.mouse ≤ 3) :
    VT.feed ⟨.ground, m, A⟩ (drvTeardown d) =
      ⟨.ground, { m with
          mouse := if d.mode.mouse ≠ 0 then 0 else m.mouse
          sgrMouse := if d.mode.mouse ≠ 0 then false else m.sgrMouse
          cursorVisible := if d.mode.cursorvis = 0 then true else m.cursorVisible
          altscreen := if d.mode.altscreen ≠ 0 then false else m.altscreen
          keypadApp := if d.mode.keypad ≠ 0 then false else m.keypadApp }, Attrs.default⟩ := by
  have hoff : d.mode.mouse ≠ 0 → VT.feed ⟨.ground, m, A⟩ (mouseOff (modeForMouse d.mode.mouse)) =
      ⟨.ground, { m with mouse := 0, sgrMouse := false }, A⟩ := fun h =>
    feed_mouse_known m A false _ ⟨by omega, hm⟩
  unfold drvTeardown
  rw [feed_append, feed_append, feed_append, feed_append]
  by_cases h1 : d.mode.mouse ≠ 0 <;> by_cases h2 : d.mode.cursorvis = 0 <;> by_cases h3 : d.mode.altscreen ≠ 0 <;>
    by_cases h4 : d.mode.keypad ≠ 0 <;>
    simp [h1, h2, h3, h4, hoff, feed_visOn, feed_altOff, feed_keypadOff, feed_sgrReset]

theorem feed_drvResume (d : XDrv) (m : VModes) (A : Attrs) (hm : d.mode.mouse ≤ 3) :
    VT.feed ⟨.ground, m, A⟩ (drvResume d) =
      ⟨.ground, { m with
          keypadApp := if d.mode.keypad ≠ 0 then true else m.keypadApp
          altscreen := if d.mode.altscreen ≠ 0 then true else m.altscreen
          cursorVisible := if d.mode.cursorvis = 0 then false else m.cursorVisible
          mouse := if d.mode.mouse ≠ 0 then (modeForMouse d.mode.mouse).toNat else m.mouse
          sgrMouse := if d.mode.mouse ≠ 0 then true else m.sgrMouse }, A⟩ := by
  have hon : ∀ m : VModes, d.mode.mouse ≠ 0 → VT.feed ⟨.ground, m, A⟩ (mouseOn (modeForMouse d.mode.mouse)) =
      ⟨.ground, { m with mouse := (modeForMouse d.mode.mouse).toNat, sgrMouse := true }, A⟩ := fun m h =>
    feed_mouse_known m A true _ ⟨by omega, hm⟩
  unfold drvResume
  rw [feed_append, feed_append, feed_append]
  by_cases h1 : d.mode.mouse ≠ 0 <;> by_cases h2 : d.mode.cursorvis = 0 <;> by_cases h3 : d.mode.altscreen ≠ 0 <;>
    by_cases h4 : d.mode.keypad ≠ 0 <;>
    simp [h1, h2, h3, h4, hon, feed_visOff, feed_altOn, feed_keypadOn]

theorem drvTeardown_resets (d : XDrv) (m : VModes) (A : Attrs) :
    ∃ m', VT.feed ⟨.ground, m, A⟩ (drvTeardown d) = ⟨.ground, m', Attrs.default⟩ :=
  (Quiet.feed_append ((((Quiet.ite _ (quiet_mouseOff _) .nil).append (.ite _ (.of_feed feed_visOn) .nil)).append
    (.ite _ (.of_feed feed_altOff) .nil)).append (.ite _ (.of_feed feed_keypadOff) .nil)) sgrReset m A).imp
    fun m' e => e.trans (feed_sgrReset m' A)

theorem drvResume_quiet (d : XDrv) : Quiet (drvResume d) :=
  (((Quiet.ite _ (.of_feed feed_keypadOn) .nil).append (.ite _ (.of_feed feed_altOn) .nil)).append
    (.ite _ (.of_feed feed_visOff) .nil)).append (.ite _ (quiet_mouseOn _) .nil)

theorem off_of_cov {c : Prop} [Decidable c] {b : Bool} (h : b = true → c) : (if c then false else b) = false := by
  split
  · rfl
  · cases b
    · rfl
    · exact absurd (h rfl) ‹_›

theorem teardown_modes_offH (v0 : Bool) (d : XDrv) (m : VModes) (h : CovH v0 d.mode m) :
    OffH v0 { m with
          mouse := if d.mode.mouse ≠ 0 then 0 else m.mouse
          sgrMouse := if d.mode.mouse ≠ 0 then false else m.sgrMouse
          cursorVisible := if d.mode.cursorvis = 0 then true else m.cursorVisible
          altscreen := if d.mode.altscreen ≠ 0 then false else m.altscreen
          keypadApp := if d.mode.keypad ≠ 0 then false else m.keypadApp } := by
  refine ⟨off_of_cov h.alt, ?_, ?_, off_of_cov fun hb => h.mouse (Or.inr hb), off_of_cov h.keypad⟩
  · show (if d.mode.cursorvis = 0 then true else m.cursorVisible) = v0
    cases v0 with
    | true =>
      split
      · rfl
      · cases hb : m.cursorVisible
        · exact absurd (h.vis rfl hb) ‹_›
        · rfl
    | false => rw [if_neg (h.hid rfl).2]; exact (h.hid rfl).1
  · show (if d.mode.mouse ≠ 0 then 0 else m.mouse) = 0
    split
    · rfl
    · exact Decidable.byContradiction fun hne => ‹¬ d.mode.mouse ≠ 0› (h.mouse (Or.inl hne))

theorem teardown_offH (v0 : Bool) (d : XDrv) (m : VModes) (A : Attrs) (hm : d.mode.mouse ≤ 3) (h : CovH v0 d.mode m) :
    ∃ m', VT.feed ⟨.ground, m, A⟩ (drvTeardown d) = ⟨.ground, m', Attrs.default⟩ ∧ OffH v0 m' ∧ CovH v0 d.mode m' :=
  ⟨_, feed_drvTeardown d m A hm, teardown_modes_offH v0 d m h,
    covH_of_offH v0 d.mode _ (teardown_modes_offH v0 d m h) (fun hv => (h.hid hv).2)⟩

theorem resume_covH (v0 : Bool) (d : XDrv) (m : VModes) (A : Attrs) (hm : d.mode.mouse ≤ 3) (h : CovH v0 d.mode m) :
    ∃ m', VT.feed ⟨.ground, m, A⟩ (drvResume d) = ⟨.ground, m', A⟩ ∧ CovH v0 d.mode m' := by
  have on : ∀ {c : Prop} [Decidable c] {b : Bool}, (b = true → c) → (if c then true else b) = true → c := by
    intro c _ b hb; split
    · exact fun _ => ‹c›
    · exact hb
  refine ⟨_, feed_drvResume d m A hm, on h.alt, fun hv => ?_, fun hv => ?_, ?_, on h.keypad⟩
  · show (if d.mode.cursorvis = 0 then false else m.cursorVisible) = false → _
    split
    · exact fun _ => ‹_›
    · exact h.vis hv
  · show (if d.mode.cursorvis = 0 then false else m.cursorVisible) = false ∧ _
    rw [if_neg (h.hid hv).2]; exact h.hid hv
  · show (if d.mode.mouse ≠ 0 then (modeForMouse d.mode.mouse).toNat else m.mouse) ≠ 0 ∨
      (if d.mode.mouse ≠ 0 then true else m.sgrMouse) = true → _
    by_cases hz : d.mode.mouse ≠ 0
    · exact fun _ => hz
    · rw [if_neg hz, if_neg hz]; exact h.mouse

theorem shown_of_cov {x : Nat} {b : Bool} (h : b = true → x ≠ 0) : (if x ≠ 0 then true else b) = decide (x ≠ 0) := by
  split
  · rename_i hz; simp [hz]
  · cases b
    · rename_i hz; simp [hz]
    · exact absurd (h rfl) ‹_›

theorem resume_shown (d : XDrv) (m : VModes) (A : Attrs) (hm : d.mode.mouse ≤ 3) (h : CovH true d.mode m) :
    ∃ m', VT.feed ⟨.ground, m, A⟩ (drvResume d) = ⟨.ground, m', A⟩ ∧ Shown d.mode m' := by
  refine ⟨_, feed_drvResume d m A hm, shown_of_cov h.alt, ?_, ?_, shown_of_cov fun hb => h.mouse (Or.inr hb),
    shown_of_cov h.keypad⟩
  · show (if d.mode.cursorvis = 0 then false else m.cursorVisible) = decide (d.mode.cursorvis ≠ 0)
    split
    · rename_i hz; simp [hz]
    · cases hb : m.cursorVisible
      · exact absurd (h.vis rfl hb) ‹_›
      · rename_i hz; simp [hz]
  · show (((if d.mode.mouse ≠ 0 then (modeForMouse d.mode.mouse).toNat else m.mouse : Nat)) : Int) = modeForMouse d.mode.mouse
    split
    · exact modeForMouse_toNat _
    · rename_i hz
      have hz' : d.mode.mouse = 0 := by omega
      have : m.mouse = 0 := Decidable.byContradiction fun hne => hz (h.mouse (Or.inl hne))
      rw [hz', this]; rfl

/-- `tickit_term_destroy` after `tickit_destroy`'s teardown: the second teardown finds the terminal stopped. -/
theorem Sys.destroy_eq (s : Sys) : s.destroy = if s.term.state ≠ .unstarted then drvTeardown s.term.drv else [] := by
  unfold Sys.destroy Term.teardown
  by_cases h : s.term.state = .unstarted <;> simp [h]

/-- The ghost (values last set) and the driver's shadow agree; with guarded replies, a value that
    has been set explicitly is marked `initialised`. -/
structure GhostOk (cfg : Cfg) (d : XDrv) (g : Ghost) : Prop where
  alt : g.alt = d.mode.altscreen
  vis : g.vis = d.mode.cursorvis
  mouse : g.mouse = d.mode.mouse
  keypad : g.keypad = d.mode.keypad
  blink : ∀ v, g.blink = some v → v = d.mode.cursorblink ∧ (cfg.repliesGuarded = true → d.init.cursorblink ≠ 0)
  shape : ∀ v, g.shape = some v → v = d.mode.cursorshape ∧ (cfg.repliesGuarded = true → d.init.cursorshape ≠ 0)
  visInit : cfg.repliesGuarded = true → d.mode.cursorvis = 0 → d.init.cursorvis ≠ 0
  le1 : d.mode.altscreen ≤ 1 ∧ d.mode.cursorvis ≤ 1 ∧ d.mode.keypad ≤ 1 ∧ d.mode.cursorblink ≤ 1
  rgb8 : ∀ v, g.rgb8 = some v → v = d.cap.rgb8 ∧ (v = 0 ∨ v = 1) ∧ (cfg.rgb8Guarded = true → d.init.rgb8 ≠ 0)

theorem setctl_ghost (cfg : Cfg) (d : XDrv) (g : Ghost) (c : Option Ctl) (v : Int)
    (hg : GhostOk cfg d g)
    (hkz : cfg.keypadRecorded = false → d.mode.keypad = 0)
    (hmouse : c = some .mouse → 0 ≤ v ∧ v ≤ 3)
    (hkp : c = some .keypadApp → cfg.keypadRecorded = true ∨ v = 0) :
    GhostOk cfg (setctlInt cfg d c v).1 (g.set c v) := by
  obtain ⟨l1, l2, l3, l4⟩ := hg.le1
  have init1 : ∀ (w : Nat) (x : Nat), (w = 1 ∨ w = 2) → cfg.repliesGuarded = true →
      (if cfg.repliesGuarded then wrapU w 1 else x) ≠ 0 := by
    intro w x hw hgd; rw [hgd, if_pos rfl]; rcases hw with rfl | rfl <;> decide
  cases c with
  | none => exact hg
  | some c =>
    cases c <;> unfold setctlInt <;> simp only
    case altscreen =>
      split
      · exact { hg with alt := bool01_of_same l1 ‹_› }
      · exact { hg with alt := (wrapU1_bool_int v).symm, le1 := ⟨wrapU1_bool_le v, l2, l3, l4⟩ }
    case cursorvis =>
      split
      · exact { hg with vis := bool01_of_same l2 ‹_› }
      · exact { hg with vis := (wrapU1_bool_int v).symm, visInit := fun hgd _ => init1 1 _ (.inl rfl) hgd,
                        le1 := ⟨l1, wrapU1_bool_le v, l3, l4⟩ }
    case cursorblink =>
      split
      · rename_i heq
        exact { hg with blink := by rintro x ⟨⟩; exact ⟨bool01_of_same l4 heq.2, fun _ => heq.1⟩ }
      · exact { hg with blink := by rintro x ⟨⟩; exact ⟨(wrapU1_bool_int v).symm, init1 1 _ (.inl rfl)⟩,
                        le1 := ⟨l1, l2, l3, wrapU1_bool_le v⟩ }
    case mouse =>
      have hv := hmouse rfl
      split
      · rename_i heq
        exact { hg with mouse := heq.symm }
      · exact { hg with mouse := show v = ((wrapU 2 v : Nat) : Int) by rw [wrapU2_small _ hv]; omega }
    case cursorshape =>
      have hsh : ∀ d' : XDrv, (0 ≤ v ∧ v ≤ 3 → v = (d'.mode.cursorshape : Int) ∧ (cfg.repliesGuarded = true → d'.init.cursorshape ≠ 0)) →
          ∀ x, (if 0 ≤ v ∧ v ≤ 3 then some v else none) = some x →
            x = (d'.mode.cursorshape : Int) ∧ (cfg.repliesGuarded = true → d'.init.cursorshape ≠ 0) := by
        intro d' hd x hx
        split at hx
        · cases hx; exact hd ‹_›
        · cases hx
      split
      · rename_i heq
        exact { hg with shape := hsh _ fun _ => ⟨heq.2.symm, fun _ => heq.1⟩ }
      · exact { hg with shape := hsh _ fun hr =>
          ⟨show v = ((wrapU 2 v : Nat) : Int) by rw [wrapU2_small _ hr]; omega, init1 2 _ (.inr rfl)⟩ }
    case keypadApp =>
      split
      · exact { hg with keypad := bool01_of_same l3 ‹_› }
      · rw [keypad_recorded hkz (hkp rfl) ‹_›]
        exact { hg with keypad := (wrapU1_bool_int v).symm, le1 := ⟨l1, l2, wrapU1_bool_le v, l4⟩ }
    case capRgb8 =>
      refine { hg with rgb8 := ?_ }
      rintro x ⟨⟩
      refine ⟨(wrapU1_bool_int v).symm, ?_, fun hgd => by simp [hgd]⟩
      unfold bool01; split <;> simp
    all_goals exact hg

theorem Ghost.set_of_refused (cfg : Cfg) (d : XDrv) (g : Ghost) (c : Option Ctl) (v : Int)
    (h : (setctlInt cfg d c v).2.2 = false) : g.set c v = g := by
  cases c with
  | none => rfl
  | some c =>
    cases c
    case capRgb8 => cases h
    case altscreen | cursorvis | cursorblink | mouse | cursorshape | keypadApp =>
      unfold setctlInt at h; simp only at h; split at h <;> cases h
    all_goals rfl

theorem Ghost.step_ctl (cfg : Cfg) (d : XDrv) (g : Ghost) (c : Option Ctl) (v : Int) (ua : Option Int) :
    g.step (.ctl c v) (some (setctlInt cfg d c v).2.2) ua = g.set c v := by
  simp only [Ghost.step]
  split
  · rfl
  · rename_i hr
    refine (Ghost.set_of_refused cfg d g c v ?_).symm
    cases hb : (setctlInt cfg d c v).2.2
    · rfl
    · exact absurd (congrArg some hb) hr

theorem Ghost.set_doneSetup (g : Ghost) (c : Option Ctl) (v : Int) : (g.set c v).doneSetup = g.doneSetup := by
  cases c with
  | none => rfl
  | some c => cases c <;> rfl

theorem Ghost.set_pen (g : Ghost) (c : Option Ctl) (v : Int) : (g.set c v).pen = g.pen := by
  cases c with
  | none => rfl
  | some c => cases c <;> rfl

/-- What a reply can do to the shadow's listed modes: nothing, except that a DECRPM "set" for mode 25 makes the cursor
    "visible" - unless replies are guarded and the program has set the visibility itself. -/
theorem applyReply_mode (cfg : Cfg) (d : XDrv) (r : Reply) :
    (applyReply cfg d r).mode.altscreen = d.mode.altscreen ∧ (applyReply cfg d r).mode.mouse = d.mode.mouse ∧
    (applyReply cfg d r).mode.keypad = d.mode.keypad ∧
    (d.init.cursorvis ≠ 0 → (applyReply cfg d r).init.cursorvis ≠ 0) ∧
    ((applyReply cfg d r).mode.cursorvis = d.mode.cursorvis ∨
      ((applyReply cfg d r).mode.cursorvis = 1 ∧ r = .mode 25 1 ∧ (cfg.repliesGuarded = true → d.init.cursorvis = 0))) := by
  cases r with
  | shape v => exact ⟨rfl, rfl, rfl, id, .inl rfl⟩
  | sgr c r => exact ⟨rfl, rfl, rfl, id, .inl rfl⟩
  | mode mo v =>
    simp only [applyReply, onModereport]
    split
    · split <;> exact ⟨rfl, rfl, rfl, id, .inl rfl⟩
    · split
      · rename_i h25
        subst h25
        have hi : wrapU ModeLayout.w_initialised_cursorvis 1 ≠ 0 := by decide
        split
        · rename_i hc
          refine ⟨rfl, rfl, rfl, fun _ => hi, .inr ⟨show wrapU 1 1 = 1 by decide, by rw [hc.1], fun hg => ?_⟩⟩
          simpa [hg] using hc.2
        · exact ⟨rfl, rfl, rfl, fun _ => hi, .inl rfl⟩
      · split <;> exact ⟨rfl, rfl, rfl, id, .inl rfl⟩

/-- The replies that trigger one of the defects of the unrepaired tree: a late report overwriting a value the program
    has set. -/
def replyTrigger (cfg : Cfg) (d : XDrv) (g : Ghost) : Reply → Bool
  | .mode mode value =>
    !cfg.repliesGuarded && decide (value = 1) &&
      ((decide (mode = 25) && decide (d.mode.cursorvis = 0)) || (decide (mode = 12) && g.blink == some 0))
  | .shape _ => !cfg.repliesGuarded && g.shape.isSome
  | .sgr _ rgb => !cfg.rgb8Guarded && rgb && g.rgb8 == some 0

/-- A reply that is not a late one (or is guarded against) leaves every value the program has set alone; it may fill
    in a blink, shape or colour capability the program has not set. -/
theorem applyReply_ghost (cfg : Cfg) (d : XDrv) (g : Ghost) (r : Reply) (hg : GhostOk cfg d g)
    (hnt : replyTrigger cfg d g r = false) :
    GhostOk cfg (applyReply cfg d r) g ∧ (applyReply cfg d r).mode.cursorvis = d.mode.cursorvis := by
  obtain ⟨l1, l2, l3, l4⟩ := hg.le1
  cases r with
  | shape value =>
    refine ⟨{ hg with shape := fun x hx => ?_ }, rfl⟩
    obtain ⟨hx1, hx2⟩ := hg.shape x hx
    cases hgd : cfg.repliesGuarded
    · simp [replyTrigger, hgd, hx] at hnt
    · refine ⟨?_, fun _ => by simp [applyReply, onDecrqssShape, ModeLayout.w_initialised_cursorshape, wrapU_w2]⟩
      simp only [applyReply, onDecrqssShape, hgd, true_and]
      rw [if_pos (hx2 hgd)]; exact hx1
  | sgr colon rgb =>
    refine ⟨{ hg with rgb8 := fun x hx => ?_ }, rfl⟩
    obtain ⟨hx1, hx01, hx2⟩ := hg.rgb8 x hx
    refine ⟨?_, hx01, hx2⟩
    show x = ((onDecrqssSgr cfg d colon rgb).cap.rgb8 : Int)
    simp only [onDecrqssSgr]
    split
    · rename_i hc
      cases hgd : cfg.rgb8Guarded
      · -- unguarded: the trigger excludes a forced "off"
        have hr : rgb = true := hc.1
        simp only [replyTrigger, hgd, hr, hx, Bool.not_false, Bool.true_and, beq_eq_false_iff_ne, ne_eq,
          Option.some.injEq] at hnt
        rcases hx01 with h0 | h1
        · exact absurd h0 hnt
        · rw [h1]; simp [ModeLayout.w_cap_rgb8, wrapU_w1]
      · simp [hgd, hx2 hgd] at hc
    · exact hx1
  | mode mode value =>
    simp only [replyTrigger] at hnt
    simp only [applyReply]
    unfold onModereport
    split
    · rename_i hm12
      subst hm12
      split
      · rename_i hc
        refine ⟨{ hg with blink := fun x hx => ?_,
                          le1 := ⟨l1, l2, l3, by simp [ModeLayout.w_mode_cursorblink, wrapU_w1]⟩ }, rfl⟩
        obtain ⟨hx1, hx2⟩ := hg.blink x hx
        refine ⟨?_, fun _ => by simp [ModeLayout.w_initialised_cursorblink, wrapU_w1]⟩
        simp only [ModeLayout.w_mode_cursorblink, wrapU_w1]
        cases hgd : cfg.repliesGuarded
        · -- unguarded: the trigger excludes a ghost blink of 0
          simp [hgd, hc.1, hx] at hnt
          omega
        · simp [hgd, hx2 hgd] at hc
      · exact ⟨{ hg with blink := fun x hx =>
          ⟨(hg.blink x hx).1, fun _ => by simp [ModeLayout.w_initialised_cursorblink, wrapU_w1]⟩ }, rfl⟩
    · split
      · rename_i hm25
        subst hm25
        split
        · rename_i hc
          -- the shadow says "visible" already: hidden would be a late reply (unguarded) or marked as set (guarded)
          have hv1 : d.mode.cursorvis = 1 := by
            by_cases hz : d.mode.cursorvis = 0
            · exfalso
              cases hgd : cfg.repliesGuarded
              · simp [hgd, hc.1, hz] at hnt
              · simp [hgd, hg.visInit hgd hz] at hc
            · omega
          have hw : wrapU ModeLayout.w_mode_cursorvis 1 = d.mode.cursorvis := by
            rw [hv1]; simp [ModeLayout.w_mode_cursorvis, wrapU_w1]
          exact ⟨{ hg with vis := show g.vis = ((wrapU ModeLayout.w_mode_cursorvis 1 : Nat) : Int) by rw [hw]; exact hg.vis,
                           visInit := fun _ _ => by simp [ModeLayout.w_initialised_cursorvis, wrapU_w1],
                           le1 := ⟨l1, show wrapU ModeLayout.w_mode_cursorvis 1 ≤ 1 by rw [hw]; exact l2, l3, l4⟩ }, hw⟩
        · exact ⟨{ hg with visInit := fun _ _ => by simp [ModeLayout.w_initialised_cursorvis, wrapU_w1] }, rfl⟩
      · split
        · refine ⟨{ hg with rgb8 := fun x hx => ⟨?_, (hg.rgb8 x hx).2⟩ }, rfl⟩
          show x = ((if _ then _ else d.cap : Caps).rgb8 : Int)
          split <;> exact (hg.rgb8 x hx).1
        · exact ⟨hg, rfl⟩

theorem Term.reply_running (cfg : Cfg) (t : Term) (r : Reply) (h1 : t.tk ≠ some false) (h2 : t.pending = []) :
    Term.reply cfg t r = { t with drv := applyReply cfg t.drv r, tk := some true, pending := [] } := by
  unfold Term.reply
  have : t.tk.getD true = true := by
    cases h : t.tk with
    | none => rfl
    | some b => cases b; exact absurd h h1; rfl
  rw [if_pos this, h2]; rfl

theorem Term.reply_fields (cfg : Cfg) (t : Term) (r : Reply) :
    (Term.reply cfg t r).pen = t.pen ∧ (Term.reply cfg t r).state = t.state := by
  unfold Term.reply; split <;> exact ⟨rfl, rfl⟩

theorem Term.await_fields (t : Term) (msec : Int) :
    (Term.await t msec).drv = t.drv ∧ (Term.await t msec).pen = t.pen ∧ (Term.await t msec).pending = t.pending ∧
    (Term.await t msec).state = .started ∧ (t.tk ≠ some false → (Term.await t msec).tk ≠ some false) := by
  unfold Term.await
  split
  · rename_i h; exact ⟨rfl, rfl, rfl, h, id⟩
  · refine ⟨rfl, rfl, rfl, rfl, ?_⟩
    intro h
    simp only
    split
    · cases ht : t.tk with
      | none => simp
      | some b => cases b; exact absurd ht h; simp
    · exact h

/-- What `setupterm` does to the terminal object besides the driver (`state`: its wait starts the terminal). -/
structure SetupKeeps (cfg : Cfg) (top : Top) (t : Term) : Prop where
  state : (setupterm cfg top t).2.1.state = .started
  pen : (setupterm cfg top t).2.1.pen = t.pen
  pending : (setupterm cfg top t).2.1.pending = t.pending
  tk : t.tk ≠ some false → (setupterm cfg top t).2.1.tk ≠ some false
  top : (setupterm cfg top t).1 = { top with doneSetup := true }

theorem setupterm_keeps (cfg : Cfg) (top : Top) (t : Term) : SetupKeeps cfg top t := by
  obtain ⟨_, e2, e3, e4, e5⟩ := Term.await_fields t ModeLayout.setup_await_msec
  -- the controls change the driver only: with or without the first of them, the other fields are those after the wait
  constructor <;> (unfold setupterm; simp only [Term.setctl]; try split) <;> first | assumption | rfl

/-- Whatever each of its controls keeps (`P`), `setupterm` keeps: the wait, three or four controls, a clear. -/
theorem setupterm_steps (cfg : Cfg) (top : Top) (t : Term) (A : Attrs) (P : XDrv → Ghost → VModes → Prop)
    (step : ∀ (d : XDrv) (g : Ghost) (m : VModes) (c : Ctl) (v : Int), 0 ≤ v ∧ v ≤ 3 → P d g m →
      ∃ m', VT.feed ⟨.ground, m, A⟩ (setctlInt cfg d (some c) v).2.1 = ⟨.ground, m', A⟩ ∧
        P (setctlInt cfg d (some c) v).1 (g.set (some c) v) m')
    (g : Ghost) (m : VModes) (h : P t.drv g m) :
    ∃ m', VT.feed ⟨.ground, m, A⟩ (setupterm cfg top t).2.2 = ⟨.ground, m', A⟩ ∧
      P (setupterm cfg top t).2.1.drv
        ((((if top.useAlt ≠ 0 then g.set (some .altscreen) 1 else g).set (some .cursorvis) 0).set (some .mouse) 2).set
          (some .keypadApp) 1) m' := by
  obtain ⟨e1, -⟩ := Term.await_fields t ModeLayout.setup_await_msec
  unfold setupterm
  simp only [Term.setctl]
  generalize Term.await t ModeLayout.setup_await_msec = t0 at e1 ⊢
  rw [← e1] at h
  by_cases hua : top.useAlt ≠ 0
  · simp only [if_pos hua]
    obtain ⟨m1, f1, p1⟩ := step t0.drv g m .altscreen 1 (by omega) h
    obtain ⟨m2, f2, p2⟩ := step _ _ m1 .cursorvis 0 (by omega) p1
    obtain ⟨m3, f3, p3⟩ := step _ _ m2 .mouse 2 (by omega) p2
    obtain ⟨m4, f4, p4⟩ := step _ _ m3 .keypadApp 1 (by omega) p3
    exact ⟨m4, by rw [feed_append, feed_append, feed_append, feed_append, f1, f2, f3, f4, feed_clearScreen], p4⟩
  · simp only [if_neg hua]
    obtain ⟨m2, f2, p2⟩ := step t0.drv g m .cursorvis 0 (by omega) h
    obtain ⟨m3, f3, p3⟩ := step _ _ m2 .mouse 2 (by omega) p2
    obtain ⟨m4, f4, p4⟩ := step _ _ m3 .keypadApp 1 (by omega) p3
    exact ⟨m4, by rw [feed_append, feed_append, feed_append, feed_append, feed_nil, f2, f3, f4, feed_clearScreen], p4⟩

theorem setupterm_inv (cfg : Cfg) (hrec : cfg.keypadRecorded = true) (top : Top) (t : Term) (g : Ghost)
    (m : VModes) (A : Attrs) (hsh : Shown t.drv.mode m) (hml : t.drv.mode.mouse ≤ 3) (hgh : GhostOk cfg t.drv g) :
    ∃ m', VT.feed ⟨.ground, m, A⟩ (setupterm cfg top t).2.2 = ⟨.ground, m', A⟩ ∧
      Shown (setupterm cfg top t).2.1.drv.mode m' ∧ (setupterm cfg top t).2.1.drv.mode.mouse ≤ 3 ∧
      GhostOk cfg (setupterm cfg top t).2.1.drv
        { g with doneSetup := true, alt := if (top.useAlt : Int) ≠ 0 then 1 else g.alt, vis := 0, mouse := 2, keypad := 1 } := by
  have hkz : ∀ d : XDrv, cfg.keypadRecorded = false → d.mode.keypad = 0 := fun _ hf => by rw [hrec] at hf; cases hf
  obtain ⟨m', hf, hs', hm', hg'⟩ := setupterm_steps cfg top t A
    (fun d g m => Shown d.mode m ∧ d.mode.mouse ≤ 3 ∧ GhostOk cfg d g)
    (fun d g m c v hv ⟨hs, hm, hg⟩ => by
      obtain ⟨m', hf, u, _⟩ := setctl_upd cfg d (some c) v m A hm (hkz d) (fun _ => hv) (fun _ => .inl hrec)
      exact ⟨m', hf, hs.upd u, (setctl_frame cfg d (some c) v).2 hm,
        setctl_ghost cfg d g (some c) v hg (hkz d) (fun _ => hv) (fun _ => .inl hrec)⟩)
    g m ⟨hsh, hml, hgh⟩
  refine ⟨m', hf, hs', hm', ?_⟩
  -- the four `Ghost.set`s make the record above, up to `doneSetup`, which `GhostOk` does not look at
  by_cases hua : top.useAlt ≠ 0
  · have hua' : (top.useAlt : Int) ≠ 0 := by omega
    rw [if_pos hua] at hg'
    exact { hg' with alt := by rw [if_pos hua']; exact hg'.alt }
  · have hua' : ¬ (top.useAlt : Int) ≠ 0 := by omega
    rw [if_neg hua] at hg'
    exact { hg' with alt := by rw [if_neg hua']; exact hg'.alt }

theorem setupterm_quiet (cfg : Cfg) (top : Top) (t : Term) : Quiet (setupterm cfg top t).2.2 := fun m A =>
  (setupterm_steps cfg top t A (fun _ _ _ => True)
    (fun d _ m c v _ _ => (setctl_quiet cfg d (some c) v m A).imp fun _ h => ⟨h, trivial⟩) {} m trivial).imp fun _ h => h.1

end Tickit.Modes

namespace Tickit.Props.C12
open Tickit.Modes

/-- Whatever listed mode is on at the terminal is recorded as on in the driver's shadow (so that `stop` / `pause`
    will switch it off).  Holds while running (`Shown`), after pause (`Off`) and - unlike those - also while the
    program goes on setting controls between pause and resume. -/
structure Covered (sh : Shadow) (m : VModes) : Prop where
  alt : m.altscreen = true → sh.altscreen ≠ 0
  vis : m.cursorVisible = false → sh.cursorvis = 0
  mouse : (m.mouse ≠ 0 ∨ m.sgrMouse = true) → sh.mouse ≠ 0
  keypad : m.keypadApp = true → sh.keypad ≠ 0

theorem Covered.covH {sh : Shadow} {m : VModes} (h : Covered sh m) : CovH true sh m :=
  ⟨h.alt, fun _ => h.vis, nofun, h.mouse, h.keypad⟩

theorem _root_.Tickit.Modes.CovH.covered {sh : Shadow} {m : VModes} (h : CovH true sh m) : Covered sh m :=
  ⟨h.alt, h.vis rfl, h.mouse, h.keypad⟩

end Tickit.Props.C12
