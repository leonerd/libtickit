import Tickit.Proof.WinInputSafe
import Tickit.Proof.WinInputExt
/-
  Delivery under mutation (C14): whatever the handlers do to the windows of a set `A` (closed under descendants), the windows
  outside `A` are offered a key / mouse event in the reference order of the tree as it was when the dispatch began.  Here the
  invariant of a dispatch, `DInv A t0 held`, and the algebra of phases: a phase keeps `DInv` and adds offers that agree outside
  `A` with its part of the reference order (`PhaseOK`); phases compose like the `if(…) goto done;` chain of the code, and a
  dispatch to a child is a phase of its parent.  `Unaffected` collects the hypotheses on the initial state (`unaffectedCheck`: a
  Boolean test that implies them, for concrete states).
-/
namespace Tickit
namespace WinInput
open WinTree

def offWins (l : List LogItem) : List WinTree.Id := (offers l).map (fun p => p.2.1)

def Off (st st' : St) (ws : List WinTree.Id) : Prop := offWins st'.log = offWins st.log ++ ws

theorem Off.refl (st : St) : Off st st [] := by simp [Off]

theorem Off.trans {a b c : St} {xs ys : List WinTree.Id} (h1 : Off a b xs) (h2 : Off b c ys) : Off a c (xs ++ ys) := by
  unfold Off at *
  rw [h2, h1, List.append_assoc]

def NotOffer : LogItem → Prop
  | .offer _ _ _ _ => False
  | _ => True

theorem notOffer_quiet : Quiet NotOffer := ⟨fun _ => trivial, fun _ => trivial⟩

theorem offers_append_notOffer : ∀ (new old : List LogItem), (∀ i ∈ new, NotOffer i) → offers (new ++ old) = offers old := by
  intro new
  induction new with
  | nil => intro old _; rfl
  | cons i rest ih =>
    intro old h
    have hr := ih old (fun j hj => h j (List.mem_cons_of_mem _ hj))
    cases i with
    | offer k w e b => exact (h _ (List.mem_cons_self ..)).elim
    | _ => exact hr

theorem Off.of_ext {st st' : St} (h : Ext NotOffer st st') : Off st st' [] := by
  obtain ⟨⟨new, e, p⟩, _⟩ := h
  simp [Off, offWins, e, offers_append_notOffer new st.log p]

theorem Off.of_log_cons {st st' : St} {i : LogItem} (hi : NotOffer i) (h : st'.log = i :: st.log) : Off st st' [] := by
  unfold Off offWins
  rw [h, show offers (i :: st.log) = offers st.log from
    offers_append_notOffer [i] st.log (fun j hj => by cases List.mem_singleton.1 hj; exact hi), List.append_nil]

theorem Off.say_offer (st : St) (k : Kind) (w : WinTree.Id) (e : Ev) (b : Bool) : Off st (st.say (.offer k w e b)) [w] := by
  simp [Off, offWins, St.say, offers]

/-- What `take_focus` from inside a handler needs of the set `A` and the initial store: `A` is a union of whole
    top-level subtrees (the parent of a window of `A` is in `A` or is the root), it does not contain the root, and
    the root's focus pointer points into `A` or nowhere — so that the only focus pointer outside `A` that moves is the
    root's, and it moves within `A`. -/
structure FocusOK (A : Aff) (t0 : Tree) : Prop where
  root : A 0 = false
  top : TopNow A t0
  rootFc : RootFc A t0

/-- `ActConf`, or `take_focus` on a window of `A` under `FocusOK`. -/
def ActConfF (A : Aff) (t0 : Tree) (a : Action) : Prop :=
  ActConf A a ∨ (a.act = .focus ∧ A a.win = true ∧ FocusOK A t0)

def Conf (A : Aff) (t0 : Tree) (binds : Array Binding) : Prop :=
  ∀ (i : Nat) (b : Binding), binds[i]? = some b → ∀ e ∈ b.entries, ∀ a ∈ e.actions, ActConfF A t0 a

theorem Conf.entry {A : Aff} {t0 : Tree} {binds : Array Binding} (hs : Conf A t0 binds) {i : Nat} {b : Binding}
    (h : binds[i]? = some b) : ∀ a ∈ b.entry.actions, ActConfF A t0 a := by
  unfold Binding.entry
  rcases getD_mem_or b.entries (entryIndex b) { ret := false } with hm | hd
  · exact hs i b h _ hm
  · rw [hd]; intro a ha; cases ha

theorem Conf.set {A : Aff} {t0 : Tree} {binds : Array Binding} (hs : Conf A t0 binds) {i : Nat} {b b' : Binding}
    (h : binds[i]? = some b) (he : b'.entries = b.entries) : Conf A t0 (binds.setIfInBounds i b') := by
  intro j x hx e hm
  rw [Array.getElem?_setIfInBounds] at hx
  by_cases hij : i = j
  · subst hij
    rw [if_pos rfl] at hx
    split at hx
    · cases hx; exact hs i b h e (he ▸ hm)
    · cases hx
  · rw [if_neg hij] at hx
    exact hs j x hx e hm

theorem Conf.bump {A : Aff} {t0 : Tree} {binds : Array Binding} (hs : Conf A t0 binds) {i : Nat} {b : Binding}
    (h : binds[i]? = some b) (k : Nat) : Conf A t0 (binds.setIfInBounds i { b with count := k }) :=
  hs.set h rfl

/-- `t0`: the store the dispatch began with; `held`: the references the frames of the dispatcher hold. -/
structure DInv (A : Aff) (t0 : Tree) (held : List WinTree.Id) (st : St) : Prop where
  good : Good held st
  sim : Sim A t0 st.tree
  conf : Conf A t0 st.binds
  own : Own A st

theorem DInv.ainv {A : Aff} {t0 : Tree} {held : List WinTree.Id} {st : St} (h : DInv A t0 held st) : AInv st held := h.good.ainv

theorem DInv.of_acted {A : Aff} {t0 : Tree} {held held' : List WinTree.Id} {st st' : St} (h : DInv A t0 held st)
    (a : Acted A held' st st') : DInv A t0 held' st' :=
  ⟨.of a.inv, h.sim.trans a.sim, a.binds ▸ h.conf, a.own⟩

theorem DInv.congr {A : Aff} {t0 : Tree} {held : List WinTree.Id} {st st' : St} (h : DInv A t0 held st)
    (ht : st'.tree = st.tree) (ho : st'.owned = st.owned) (hc : Conf A t0 st'.binds) : DInv A t0 held st' :=
  ⟨.of (h.ainv.congr ht ho), ht ▸ h.sim, hc, fun x w hx hw hf => ho ▸ h.own x w hx (ht ▸ hw) hf⟩

theorem focusNow {A : Aff} {t0 t : Tree} (hi0 : TInv t0) (hi : TInv t) (hs : Sim A t0 t) (hfo : FocusOK A t0) :
    TopNow A t ∧ RootFc A t := by
  refine ⟨?_, ?_⟩
  · intro x w hx hw hf p hp
    cases hAp : A p with
    | true => exact Or.inl rfl
    | false =>
      right
      obtain ⟨pw, hpw, hpf, hm⟩ := hi.parent x p w hw hf hp
      obtain ⟨pw0, hpw0⟩ := getElem?_of_size_eq hs.size hpw
      have rel := hs.rel hAp hpw0 hpw
      obtain ⟨xw0, hxw0, hxf0, hxp0⟩ := hi0.child p x pw0 hpw0 (by rw [← rel.freed]; exact hpf) (rel.kids.mem hm)
      rcases hfo.top x xw0 hx hxw0 hxf0 p hxp0 with h | h
      · exact aff_absurd h hAp
      · exact h
  · intro w fc hw hfc
    obtain ⟨w0, hw0⟩ := getElem?_of_size_eq hs.size hw
    rcases (hs.rel hfo.root hw0 hw).fc with e | ⟨p, _⟩
    · exact hfo.rootFc w0 fc hw0 (by rw [← e]; exact hfc)
    · exact p fc hfc

theorem DInv.action {A : Aff} {t0 : Tree} {held : List WinTree.Id} {st st' : St} (hi0 : TInv t0) (h : DInv A t0 held st)
    {a : Action} (hc : ActConfF A t0 a) (hr : doAction st a = Res.ok st') : DInv A t0 held st' ∧ Off st st' [] := by
  refine ⟨h.of_acted (safeR_ok (doAction_step h.ainv h.sim.down h.own (hc.imp id fun ⟨hact, hA, hfo⟩ => ?_)) hr),
    Off.of_ext (doAction_ext notOffer_quiet hr)⟩
  have fn := focusNow hi0 h.ainv.tree h.sim hfo
  exact ⟨hact, hA, fn.1, fun _ => fn.2⟩

theorem DInv.actions {A : Aff} {t0 : Tree} {held : List WinTree.Id} (hi0 : TInv t0) : ∀ (as : List Action) (st st' : St), DInv A t0 held st →
    (∀ a ∈ as, ActConfF A t0 a) → doActions st as = Res.ok st' → DInv A t0 held st' ∧ Off st st' [] := by
  intro as
  induction as with
  | nil => intro st st' h _ hr; cases hr; exact ⟨h, Off.refl _⟩
  | cons a rest ih =>
    intro st st' h hc hr
    obtain ⟨st1, h1, h2⟩ := WinTree.bind_ok_iff.1 hr
    obtain ⟨d1, o1⟩ := h.action hi0 (hc a (List.mem_cons_self ..)) h1
    obtain ⟨d2, o2⟩ := ih st1 st' d1 (fun b hb => hc b (List.mem_cons_of_mem _ hb)) h2
    exact ⟨d2, o1.trans o2⟩

theorem DInv.bindings {A : Aff} {t0 : Tree} {held : List WinTree.Id} (hi0 : TInv t0) (kind : Kind) (win : WinTree.Id) (ev : Ev) :
    ∀ (idxs : List Nat) (st st' : St) (c : Bool), DInv A t0 held st → runBindings st kind win ev idxs = Res.ok (st', c) →
    DInv A t0 held st' ∧ Off st st' [] := by
  intro idxs
  induction idxs with
  | nil => intro st st' c h hr; cases hr; exact ⟨h, Off.refl _⟩
  | cons bi rest ih =>
    intro st st' c h hr
    rcases runBindings_cons_ok hr with ⟨_, hr⟩ | ⟨b, st1, hb, _, h1, hc⟩
    · exact ih _ _ _ h hr
    · obtain ⟨d1, o1⟩ := DInv.actions hi0 _ _ _ (h.congr (st' := ({ st with binds := st.binds.setIfInBounds bi b.fired } : St).say
        (.call kind win b.idx (entryIndex b) b.entry.ret ev)) rfl rfl (h.conf.set hb rfl)) (h.conf.entry hb) h1
      have o01 : Off st st1 [] :=
        (Off.of_log_cons (i := .call kind win b.idx (entryIndex b) b.entry.ret ev) trivial rfl).trans o1
      rcases hc with ⟨_, rfl, _⟩ | ⟨_, hr⟩
      · exact ⟨d1, o01⟩
      · obtain ⟨d2, o2⟩ := ih _ _ _ d1 hr
        exact ⟨d2, o01.trans o2⟩

/-- `run_events_whilefalse(win, …)`: one offer, to `win`. -/
theorem DInv.handlers {A : Aff} {t0 : Tree} {held : List WinTree.Id} {kind : Kind} {win : WinTree.Id} {ev : Ev} {st st' : St}
    {c : Bool} (hi0 : TInv t0) (h : DInv A t0 held st) (hr : runHandlers st kind win ev = Res.ok (st', c)) :
    DInv A t0 held st' ∧ Off st st' [win] := by
  obtain ⟨d1, o1⟩ := DInv.bindings hi0 kind win ev _ _ _ _ (h.congr (st' := st.say _) rfl rfl h.conf) hr
  exact ⟨d1, (Off.say_offer st kind win ev _).trans o1⟩

theorem DInv.ref {A : Aff} {t0 : Tree} {held : List WinTree.Id} {st st1 : St} {c : WinTree.Id} (h : DInv A t0 held st)
    (hr : refWin st c = Res.ok st1) : DInv A t0 (c :: held) st1 ∧ Off st st1 [] := by
  obtain ⟨w, hg, _⟩ := refWin_eq_ok hr
  exact ⟨h.of_acted (safeR_ok (h.ainv.ref_in h.sim.down h.own ⟨w, WinTree.get_ok_iff.1 hg⟩) hr), Off.of_ext (refWin_ext hr)⟩

theorem DInv.release {A : Aff} {t0 : Tree} {held : List WinTree.Id} {st st' : St} {c : WinTree.Id} (h : DInv A t0 (c :: held) st)
    (hr : unrefLogged st c = Res.ok st') : DInv A t0 held st' ∧ Off st st' [] :=
  ⟨h.of_acted (safeR_ok (h.ainv.release_in h.sim.down h.own) hr), Off.of_ext (unrefLogged_ext notOffer_quiet hr)⟩

theorem DInv.perm {A : Aff} {t0 : Tree} {held held' : List WinTree.Id} {st : St} (h : DInv A t0 held st) (hp : held.Perm held') :
    DInv A t0 held' st :=
  ⟨.of (h.ainv.perm hp), h.sim, h.conf, h.own⟩

theorem DInv.refAll {A : Aff} {t0 : Tree} : ∀ (cs : List WinTree.Id) (held : List WinTree.Id) (st st' : St), DInv A t0 held st →
    WinInput.refAll st cs = Res.ok st' → DInv A t0 (cs.reverse ++ held) st' ∧ Off st st' [] := by
  intro cs
  induction cs with
  | nil => intro held st st' h hr; cases hr; exact ⟨h, Off.refl _⟩
  | cons c rest ih =>
    intro held st st' h hr
    obtain ⟨st1, h1, h2⟩ := WinTree.bind_ok_iff.1 hr
    obtain ⟨d1, o1⟩ := h.ref h1
    obtain ⟨d2, o2⟩ := ih (c :: held) st1 st' d1 h2
    exact ⟨by simpa using d2, o1.trans o2⟩

theorem DInv.unrefAll {A : Aff} {t0 : Tree} : ∀ (cs : List WinTree.Id) (held : List WinTree.Id) (st st' : St),
    DInv A t0 (cs ++ held) st → WinInput.unrefAll st cs = Res.ok st' → DInv A t0 held st' ∧ Off st st' [] := by
  intro cs
  induction cs with
  | nil => intro held st st' h hr; cases hr; exact ⟨h, Off.refl _⟩
  | cons c rest ih =>
    intro held st st' h hr
    obtain ⟨st1, h1, h2⟩ := WinTree.bind_ok_iff.1 hr
    obtain ⟨d1, o1⟩ := DInv.release (held := rest ++ held) h h1
    obtain ⟨d2, o2⟩ := ih held st1 st' d1 h2
    exact ⟨d2, o1.trans o2⟩

/-- `A` is closed under descendants in the (consistent) initial store, and no window outside `A` that steals input
    has a sibling of `A` in front of it as the front-most child (closing that sibling would make the stealing window
    the front-most child, which changes who is offered a key first — delivery to it *is* affected). -/
structure Base (A : Aff) (t0 : Tree) : Prop where
  inv : TInv t0
  down : Down A t0
  stealFront : ∀ (p : WinTree.Id) (w0 : Win) (a : WinTree.Id) (rest : List WinTree.Id), A p = false → t0.wins[p]? = some w0 →
    w0.freed = false → w0.children = a :: rest → A a = true → ∀ c ∈ rest, A c = false → stealAt t0 c = false

theorem Base.up {A : Aff} {t0 : Tree} (hb : Base A t0) {x p : WinTree.Id} {w0 : Win} (hx : A x = false)
    (hw0 : t0.wins[x]? = some w0) (hf : w0.freed = false) (hp : w0.parent = some p) : A p = false := by
  cases hA : A p with
  | false => rfl
  | true =>
    obtain ⟨pw, hpw, _, hm⟩ := hb.inv.parent x p w0 hw0 hf hp
    exact aff_absurd (hb.down p pw hA hpw x hm) hx

theorem visibleChain_sim {A : Aff} {t0 t : Tree} (hb : Base A t0) (h : Sim A t0 t) : ∀ (f : Nat) (x : WinTree.Id), A x = false →
    visibleChain t f x = visibleChain t0 f x := by
  intro f
  induction f with
  | zero => intro x _; rfl
  | succ f ih =>
    intro x hx
    unfold visibleChain
    cases hw0 : t0.wins[x]? with
    | none =>
      cases hw : t.wins[x]? with
      | none => rfl
      | some w => obtain ⟨w0, e⟩ := getElem?_of_size_eq h.size hw; rw [hw0] at e; cases e
    | some w0 =>
      obtain ⟨w, hw, r⟩ := h.win x w0 hx hw0
      simp only [hw, r.freed, r.visible, r.parent]
      cases hf : w0.freed with
      | true => rfl
      | false =>
        cases hp : w0.parent with
        | none => rfl
        | some p => simp only [ih p (hb.up hx hw0 hf hp)]

theorem isShown_sim {A : Aff} {t0 t : Tree} (hb : Base A t0) (h : Sim A t0 t) {x : WinTree.Id} {b : Bool} (hx : A x = false)
    (hs : isShown t (treeFuel t) x = Res.ok b) : visibleChain t0 (treeFuel t0) x = b := by
  rw [← isShown_ok _ _ _ _ hs, visibleChain_sim hb h _ x hx, show treeFuel t = treeFuel t0 by unfold treeFuel; rw [h.size]]

theorem stealAt_sim {A : Aff} {t0 t : Tree} (h : Sim A t0 t) {x : WinTree.Id} {w : Win} (hx : A x = false)
    (hw : t.wins[x]? = some w) : stealAt t0 x = w.stealInput := by
  obtain ⟨w0, hw0⟩ := getElem?_of_size_eq h.size hw
  unfold stealAt; rw [hw0]; exact (h.rel hx hw0 hw).steal.symm

def fA (A : Aff) (l : List WinTree.Id) : List WinTree.Id := l.filter (fun x => !A x)

theorem fA_append (A : Aff) (a b : List WinTree.Id) : fA A (a ++ b) = fA A a ++ fA A b := by simp [fA]

def InA (A : Aff) (l : List WinTree.Id) : Prop := ∀ x ∈ l, A x = true

theorem fA_nil_of {A : Aff} {l : List WinTree.Id} (h : InA A l) : fA A l = [] := by
  simp only [fA, List.filter_eq_nil_iff]
  intro x hx; simp [h x hx]

theorem InA.nil (A : Aff) : InA A [] := fun _ h => by cases h

theorem InA.append {A : Aff} {a b : List WinTree.Id} (ha : InA A a) (hb : InA A b) : InA A (a ++ b) :=
  fun x hx => (List.mem_append.1 hx).elim (ha x) (hb x)

/-- For a part of the reference order that came out as `some []`. -/
theorem InA.of_some_nil {A : Aff} {l : List WinTree.Id} (h : some [] = some l) : InA A l := by
  cases h; exact InA.nil A

/-- The offers `ws` against the reference order `vs`, both read outside `A`: the offers are the beginning of the order, and
    all of it unless the event was claimed (`d`). -/
def Match (A : Aff) (d : Bool) (ws vs : List WinTree.Id) : Prop := fA A ws <+: fA A vs ∧ (d = false → fA A ws = fA A vs)

theorem Match.prefix {A : Aff} {d : Bool} {ws vs : List WinTree.Id} (h : Match A d ws vs) : fA A ws <+: fA A vs := h.1

theorem Match.all {A : Aff} {ws vs : List WinTree.Id} (h : Match A false ws vs) : fA A ws = fA A vs := h.2 rfl

theorem Match.ofA {A : Aff} {d : Bool} {ws vs : List WinTree.Id} (h1 : InA A ws) (h2 : InA A vs) :
    Match A d ws vs := by
  unfold Match; rw [fA_nil_of h1, fA_nil_of h2]; exact ⟨List.prefix_refl _, fun _ => rfl⟩

theorem Match.claimed {A : Aff} {ws vs : List WinTree.Id} (h : Match A true ws vs) (zs : List WinTree.Id) :
    Match A true ws (vs ++ zs) := by
  refine ⟨?_, fun h => by cases h⟩
  rw [fA_append]; exact h.prefix.trans (List.prefix_append _ _)

theorem Match.append {A : Aff} {d : Bool} {ws vs ws' vs' : List WinTree.Id} (h1 : Match A false ws vs) (h2 : Match A d ws' vs') :
    Match A d (ws ++ ws') (vs ++ vs') := by
  unfold Match
  rw [fA_append, fA_append, h1.all]
  exact ⟨(List.prefix_append_right_inj _).2 h2.prefix, fun hd => by rw [h2.2 hd]⟩

theorem Match.single (A : Aff) (d : Bool) (w : WinTree.Id) : Match A d [w] [w] := ⟨List.prefix_refl _, fun _ => rfl⟩

/-- The parts `r1`, `r2` of a reference order, one after the other (`r F vs`: with reference fuel `F` the part is `vs`). -/
def RefSeq (r1 r2 : Nat → List WinTree.Id → Prop) : Nat → List WinTree.Id → Prop :=
  fun F vs => ∃ a b, r1 F a ∧ r2 F b ∧ vs = a ++ b

/-- `d`: the event was claimed. -/
structure Offered (A : Aff) (st st' : St) (d : Bool) (win : WinTree.Id) (ref : Nat → List WinTree.Id → Prop)
    (ws : List WinTree.Id) : Prop where
  off : Off st st' ws
  inA : A win = true → InA A ws
  agree : A win = false → ∀ F vs, ref F vs → Match A d ws vs

/-- `held'`: the references outstanding afterwards. -/
structure PhaseOK (A : Aff) (t0 : Tree) (held' : List WinTree.Id) (st st' : St) (d : Bool) (win : WinTree.Id)
    (ref : Nat → List WinTree.Id → Prop) : Prop where
  inv : DInv A t0 held' st'
  offered : ∃ ws, Offered A st st' d win ref ws

section
variable {A : Aff} {t0 : Tree} {held held' : List WinTree.Id} {st st' st'' : St} {d : Bool} {win : WinTree.Id}
  {r r' r1 r2 : Nat → List WinTree.Id → Prop}

theorem PhaseOK.skip (h : DInv A t0 held st) (hr : A win = false → ∀ F vs, r F vs → InA A vs) :
    PhaseOK A t0 held st st d win r :=
  ⟨h, [], Off.refl _, fun _ => InA.nil A, fun hA F vs hv => Match.ofA (InA.nil A) (hr hA F vs hv)⟩

theorem PhaseOK.mono (h : PhaseOK A t0 held st st' d win r) (hr : A win = false → ∀ F vs, r' F vs → ∃ F', r F' vs) :
    PhaseOK A t0 held st st' d win r' := by
  obtain ⟨g, ws, o, a, n⟩ := h
  exact ⟨g, ws, o, a, fun hA F vs hv => (hr hA F vs hv).elim fun F' hv' => n hA F' vs hv'⟩

theorem PhaseOK.claimed (h : PhaseOK A t0 held st st' true win r1) : PhaseOK A t0 held st st' true win (RefSeq r1 r2) := by
  obtain ⟨g, ws, o, a, n⟩ := h
  exact ⟨g, ws, o, a, fun hA F vs ⟨x, y, hx, _, e⟩ => e ▸ (n hA F x hx).claimed y⟩

theorem PhaseOK.seq (h1 : PhaseOK A t0 held st st' false win r1) (h2 : PhaseOK A t0 held' st' st'' d win r2) :
    PhaseOK A t0 held' st st'' d win (RefSeq r1 r2) := by
  obtain ⟨_, ws1, o1, a1, n1⟩ := h1
  obtain ⟨g, ws2, o2, a2, n2⟩ := h2
  exact ⟨g, ws1 ++ ws2, o1.trans o2, fun hA => (a1 hA).append (a2 hA),
    fun hA F vs ⟨x, y, hx, hy, e⟩ => e ▸ (n1 hA F x hx).append (n2 hA F y hy)⟩

/-- Steps that offer nothing in front of a phase and behind it (the `ref` … `unref` around it). -/
theorem PhaseOK.wrap {st0 : St} (o : Off st0 st []) (h : PhaseOK A t0 held st st' d win r)
    (g' : DInv A t0 held' st'' ∧ Off st' st'' []) : PhaseOK A t0 held' st0 st'' d win r := by
  obtain ⟨_, ws, o', a, n⟩ := h
  exact ⟨g'.1, ws, by simpa using (o.trans o').trans g'.2, a, n⟩

theorem PhaseOK.own (g : DInv A t0 held st') (o : Off st st' [win]) : PhaseOK A t0 held st st' d win (fun _ vs => vs = [win]) :=
  ⟨g, [win], o, fun hA x hx => by cases List.mem_singleton.1 hx; exact hA, fun _ _ _ e => by rw [e]; exact Match.single A _ win⟩

/-- The dispatch to a child `x` of `win`, as a phase of `win`: `x` is in `A` if `win` is; a child of `A` stands for
    windows of `A` in the reference order, a child outside `A` for its own reference order. -/
theorem PhaseOK.below {x : WinTree.Id} (h : PhaseOK A t0 held st st' d x r) (hd : A win = true → A x = true)
    (hA : A win = false → A x = true → ∀ F vs, r' F vs → InA A vs)
    (hN : A win = false → A x = false → ∀ F vs, r' F vs → r F vs) : PhaseOK A t0 held st st' d win r' := by
  obtain ⟨g, ws, o, a, n⟩ := h
  refine ⟨g, ws, o, fun hw => a (hd hw), fun hw F vs hv => ?_⟩
  cases hx : A x with
  | true => exact Match.ofA (a hx) (hA hw hx F vs hv)
  | false => exact n hx F vs (hN hw hx F vs hv)

theorem PhaseOK.firstClaim {a : Out (St × Bool)} {k : St → Out (St × Bool)} (h : firstClaim a k = Out.ok (st'', d))
    (ha : ∀ st1 d1, a = Out.ok (st1, d1) → PhaseOK A t0 held st st1 d1 win r1)
    (hk : ∀ st1, DInv A t0 held st1 → k st1 = Out.ok (st'', d) → PhaseOK A t0 held st1 st'' d win r2) :
    PhaseOK A t0 held st st'' d win (RefSeq r1 r2) := by
  obtain ⟨st1, d1, e, hc⟩ := firstClaim_ok h
  have p1 := ha st1 d1 e
  rcases hc with ⟨rfl, rfl, rfl⟩ | ⟨rfl, hk'⟩
  · exact p1.claimed
  · exact p1.seq (hk st1 p1.inv hk')

end

theorem firstOccAux_filter (p : WinTree.Id → Bool) : ∀ (l seen : List WinTree.Id),
    firstOccAux (seen.filter p) (l.filter p) = (firstOccAux seen l).filter p := by
  intro l
  induction l with
  | nil => intro seen; rfl
  | cons x xs ih =>
    intro seen
    cases hp : p x with
    | false =>
      simp only [List.filter_cons, hp, Bool.false_eq_true, if_false, firstOccAux]
      by_cases hx : x ∈ seen
      · simp only [hx, if_true]; exact ih seen
      · simp only [hx, if_false, List.filter_cons, hp, Bool.false_eq_true]
        have := ih (x :: seen)
        simp only [List.filter_cons, hp, Bool.false_eq_true, if_false] at this
        exact this
    | true =>
      simp only [List.filter_cons, hp, if_true, firstOccAux]
      have hmem : x ∈ seen.filter p ↔ x ∈ seen := by simp [List.mem_filter, hp]
      by_cases hx : x ∈ seen
      · simp only [hx, hmem.2 hx, if_true]; exact ih seen
      · have hx' : ¬ x ∈ seen.filter p := fun h => hx (hmem.1 h)
        simp only [hx, hx', if_false, List.filter_cons, hp, if_true]
        have := ih (x :: seen)
        simp only [List.filter_cons, hp, if_true] at this
        rw [this]

theorem firstOcc_fA (A : Aff) (l : List WinTree.Id) : firstOcc (fA A l) = fA A (firstOcc l) := by
  unfold firstOcc fA
  exact firstOccAux_filter _ l []

structure Unaffected (A : Aff) (st : St) : Prop where
  inv : AInv st []
  base : Base A st.tree
  conf : Conf A st.tree st.binds

theorem own_of_ainv (A : Aff) {st : St} (h : AInv st []) : Own A st := by
  intro x w _ hw hf
  have h1 := h.rc x w hw hf
  have h2 := h.pos x w hw hf
  simp only [List.count_nil] at h1
  omega

theorem Unaffected.dinv {A : Aff} {st : St} (h : Unaffected A st) : DInv A st.tree [] st :=
  ⟨.of h.inv, Sim.refl h.base.down, h.conf, own_of_ainv A h.inv⟩

def downCheck (A : Aff) (t : Tree) : Bool :=
  (List.range t.wins.size).all fun x =>
    match t.wins[x]? with
    | some w => !A x || w.children.all A
    | none => true

theorem downCheck_sound {A : Aff} {t : Tree} (h : downCheck A t = true) : Down A t := by
  intro x w hx hw c hc
  unfold downCheck at h
  rw [List.all_eq_true] at h
  have := h x (List.mem_range.2 (Array.getElem?_eq_some_iff.1 hw).1)
  simp only [hw, hx, Bool.not_true, Bool.false_or, List.all_eq_true] at this
  exact this c hc

def stealFrontCheck (A : Aff) (t : Tree) : Bool :=
  (List.range t.wins.size).all fun p =>
    match t.wins[p]? with
    | some w0 => A p || w0.freed ||
      (match w0.children with
        | a :: rest => !A a || rest.all (fun c => A c || !stealAt t c)
        | [] => true)
    | none => true

theorem stealFrontCheck_sound {A : Aff} {t : Tree} (h : stealFrontCheck A t = true) :
    ∀ (p : WinTree.Id) (w0 : Win) (a : WinTree.Id) (rest : List WinTree.Id), A p = false → t.wins[p]? = some w0 →
      w0.freed = false → w0.children = a :: rest → A a = true → ∀ c ∈ rest, A c = false → stealAt t c = false := by
  intro p w0 a rest hp hw hf hc ha c hcm hAc
  unfold stealFrontCheck at h
  rw [List.all_eq_true] at h
  have := h p (List.mem_range.2 (Array.getElem?_eq_some_iff.1 hw).1)
  simp only [hw, hp, hf, hc, ha, Bool.false_or, Bool.not_true, List.all_eq_true] at this
  have := this c hcm
  simpa [hAc] using this

def focusOKCheck (A : Aff) (t : Tree) : Bool :=
  !A 0 &&
  ((List.range t.wins.size).all fun x =>
    match t.wins[x]? with
    | some w => !A x || w.freed || (match w.parent with
      | some p => A p || p == 0
      | none => true)
    | none => true) &&
  (match t.wins[0]? with
    | some w => (match w.focusedChild with
      | some fc => A fc
      | none => true)
    | none => true)

theorem focusOKCheck_sound {A : Aff} {t : Tree} (h : focusOKCheck A t = true) : FocusOK A t := by
  unfold focusOKCheck at h
  simp only [Bool.and_eq_true, List.all_eq_true] at h
  obtain ⟨⟨h1, h2⟩, h3⟩ := h
  refine ⟨by simpa using h1, ?_, ?_⟩
  · intro x w hx hw hf p hp
    have := h2 x (List.mem_range.2 (Array.getElem?_eq_some_iff.1 hw).1)
    simp only [hw, hx, hf, hp, Bool.not_true, Bool.false_or, Bool.or_eq_true, beq_iff_eq] at this
    exact this
  · intro w fc hw hfc
    simpa [hw, hfc] using h3

def confCheck (A : Aff) (t : Tree) (binds : Array Binding) : Bool :=
  binds.toList.all fun b => b.entries.all fun e => e.actions.all fun a =>
    match a.act with
    | .raise | .raiseFront | .lower | .lowerBack | .keep => true
    | .close | .unref | .hide | .unhide | .stealOn | .stealOff | .geom .. => A a.win
    | .focus => A a.win && focusOKCheck A t

theorem confCheck_sound {A : Aff} {t : Tree} {binds : Array Binding} (h : confCheck A t binds = true) : Conf A t binds := by
  intro i b hb e he a ha
  unfold confCheck at h
  rw [List.all_eq_true] at h
  have hm : b ∈ binds.toList := by
    rw [Array.mem_toList_iff]; exact Array.mem_of_getElem? hb
  have := h b hm
  rw [List.all_eq_true] at this
  have := this e he
  rw [List.all_eq_true] at this
  have := this a ha
  unfold ActConfF ActConf
  cases hact : a.act <;> simp only [hact] at this ⊢
  case focus =>
    simp only [Bool.and_eq_true] at this
    exact Or.inr ⟨trivial, this.1, focusOKCheck_sound this.2⟩
  all_goals first | exact Or.inl trivial | exact Or.inl this

def unaffectedCheck (A : Aff) (st : St) : Bool :=
  ainvCheck st && downCheck A st.tree && stealFrontCheck A st.tree && confCheck A st.tree st.binds

theorem unaffectedCheck_sound {A : Aff} {st : St} (h : unaffectedCheck A st = true) : Unaffected A st := by
  unfold unaffectedCheck at h
  simp only [Bool.and_eq_true] at h
  obtain ⟨⟨⟨h1, h2⟩, h3⟩, h4⟩ := h
  have hi := ainvCheck_sound h1
  exact ⟨hi, ⟨hi.tree, downCheck_sound h2, stealFrontCheck_sound h3⟩, confCheck_sound h4⟩

theorem DInv.unaffected {A : Aff} {t0 : Tree} {st : St} (hb : Base A t0) (h : DInv A t0 [] st) : Unaffected A st := by
  refine ⟨h.ainv, ⟨h.ainv.tree, h.sim.down, ?_⟩, ?_⟩
  · intro p w a rest hp hw hf hc ha c hcm hAc
    obtain ⟨w0, hw0⟩ := getElem?_of_size_eq h.sim.size hw
    have rel := h.sim.rel hp hw0 hw
    obtain ⟨a0, rest0, hc0, ha0, hsub⟩ := (hc ▸ rel.kids).head_inA ha
    have h0 := hb.stealFront p w0 a0 rest0 hp hw0 (by rw [← rel.freed]; exact hf) hc0 ha0 c (hsub c hcm) hAc
    cases hcw : st.tree.wins[c]? with
    | none => unfold stealAt; rw [hcw]
    | some cw => rw [← h0, stealAt_sim h.sim hAc hcw]; unfold stealAt; rw [hcw]
  · intro i b hbi e he a ha
    refine (h.conf i b hbi e he a ha).imp id fun ⟨hact, hA, hfo⟩ => ?_
    obtain ⟨ht, hr⟩ := focusNow hb.inv h.ainv.tree h.sim hfo
    exact ⟨hact, hA, hfo.root, ht, hr⟩

theorem Unaffected.say {A : Aff} {st : St} (h : Unaffected A st) (i : LogItem) : Unaffected A (st.say i) :=
  ⟨h.inv.congr rfl rfl, h.base, h.conf⟩

/-- Partial correctness of a `Res` computation: if it returns, the value satisfies `Q`. -/
structure PR {α : Type} (r : Res α) (Q : α → Prop) : Prop where
  run : ∀ a, r = Res.ok a → Q a

theorem PR.bind {α β : Type} {x : Res α} {f : α → Res β} {Q : α → Prop} {R : β → Prop} (hx : PR x Q)
    (hf : ∀ a, Q a → PR (f a) R) : PR (x >>= f) R := by
  refine ⟨fun b hb => ?_⟩
  obtain ⟨a, ha, hfa⟩ := WinTree.bind_ok_iff.1 hb
  exact (hf a (hx.run a ha)).run b hfa

end WinInput
end Tickit
