import Tickit.Proof.WinCloseQ
/-
  `GoodQ`, the invariant of every reachable state of the window compositor with restacking requests queued, and its steps.

  Over a non-empty queue it is the plain invariant: `InvC` is about the tree as it stands (the queue not applied), and
  nothing is assumed of the queued requests but their kinds.  When the flush applies the queue, each `_do_hierarchy_change`
  is one more `Step`, and the rendering then makes the screen exact for the re-stacked tree.
-/
namespace Tickit
namespace WinFlush
open WinTree WinRB WinSpec

/-- `term`: the root window has the terminal's size; `pc`: every parent lists its child (`WFp` has the converse). -/
structure GoodQ (content : Id → Int → Int → Cell) (st : St) : Prop where
  tinv : TInv content st.screen st.tree
  flags : Flags st.tree
  queue : QueueOk st.tree
  queueLater : st.tree.root.changes ≠ [] → st.tree.root.needsLater = true
  term : TermRoot st
  pc : ParentListed st.tree

/-- `Props.C01.Exact` (Proof/WinGood.lean), under the name this half's proofs use. -/
def ExactC (content : Id → Int → Int → Cell) (tree : Tree) (screen : Int → Int → Cell) : Prop :=
  ∀ L C w l c, ownerAt tree L C = some (w, l, c) → screen L C = content w l c

theorem termRoot_of_rect {st : St} {t' : Tree}
    (h : ∀ w, st.tree.wins[0]? = some w → ∃ w', t'.wins[0]? = some w' ∧ w'.rect = w.rect) (ht : TermRoot st) :
    TermRoot { st with tree := t' } := by
  obtain ⟨w, hw, h1, h2⟩ := ht
  obtain ⟨w', hw', hr⟩ := h w hw
  exact ⟨w', hw', by rw [hr]; exact h1, by rw [hr]; exact h2⟩

theorem nil_of_flag_down {α : Type} {l : List α} {b : Bool} (h : l ≠ [] → b = true) (hb : b = false) : l = [] :=
  Classical.byContradiction fun hl => Bool.false_ne_true (hb.symm.trans (h hl))

theorem goodQ_of_step {content : Id → Int → Int → Cell} {st : St} {t' : Tree} (hg : GoodQ content st) (hs : Step st.tree t') :
    GoodQ content { st with tree := t' } :=
  { tinv := hs.tinv hg.tinv
    flags := hs.root.flags hg.flags
    queue := fun r hr => hg.queue r (hs.root.queue r hr)
    queueLater := hs.root.queueLater hg.queueLater
    term := termRoot_of_rect hs.rootRect hg.term
    pc := hs.listed hg.pc }

theorem owned_on_terminal {content : Id → Int → Int → Cell} {st : St} (hg : GoodQ content st) {L C : Int} {o : Id × Int × Int}
    (ho : ownerAt st.tree L C = some o) : 0 ≤ L ∧ L < st.tlines ∧ 0 ≤ C ∧ C < st.tcols := by
  obtain ⟨rootw, hrootw, hrl, hrc⟩ := hg.term
  have hro : RootOk st.tree := by
    rcases root_vis_cases st.tree hg.tinv.ok with hv | ⟨wh, hwh, hvh⟩
    · exact rootOk_of_visible hg.tinv.ok hv
    · rw [ownerAt_none_of_hidden st.tree wh hwh hvh] at ho; cases ho
  obtain ⟨wr, hwr, b1, b2, b3, b4⟩ := ownerAt_some_memb st.tree hro L C _ ho
  rw [hrootw] at hwr; cases hwr
  exact ⟨b1, by omega, b3, by omega⟩

theorem goodQ_expose {content : Id → Int → Int → Cell} {st : St} {id : Id} {e : Option Rect} {t' : Tree}
    (h : WinTree.expose st.tree st.fuel id e = .ok t') (hg : GoodQ content st) : GoodQ content { st with tree := t' } :=
  goodQ_of_step hg ((Exposed.of_expose h hg.tinv.nonempty hg.tinv.pos).step hg.tinv.ok hg.tinv.pos)

theorem vis_step {t t' : Tree} {id : Id}
    (h : (WinTree.hide t (t.wins.size + 1) id = .ok t' ∧ id ≠ 0) ∨ WinTree.show t (t.wins.size + 1) id = .ok t') (hok : TreeOk t)
    (hpos : RootsPositive t) (hne : ∀ x ∈ t.root.damage, x.Nonempty) : Step t t' ∧ SameBut t t' id :=
  h.elim (fun h => hide_step h.1 h.2 hok hpos hne) fun h => show_step h hok hpos hne

theorem goodQ_vis {content : Id → Int → Int → Cell} {st : St} {id : Id} {t' : Tree}
    (h : (WinTree.hide st.tree st.fuel id = .ok t' ∧ id ≠ 0) ∨ WinTree.show st.tree st.fuel id = .ok t') (hg : GoodQ content st) :
    GoodQ content { st with tree := t' } :=
  goodQ_of_step hg (vis_step h hg.tinv.ok hg.tinv.pos hg.tinv.nonempty).1

/-- `hide` of the root window: nothing is owned any more. -/
theorem goodQ_hide_root {content : Id → Int → Int → Cell} {st : St} {t' : Tree}
    (h : WinTree.hide st.tree st.fuel 0 = .ok t') (hg : GoodQ content st) : GoodQ content { st with tree := t' } := by
  have hI := hg.tinv
  obtain ⟨rw0, hr0⟩ := hI.ok.rootWin.record
  -- the root window has no parent: `hide` only lowers its flag
  rw [hide_orphan ⟨hr0.slot, hr0.live⟩ hr0.parent] at h
  cases h
  have hsb := sameBut_set st.tree 0 0 rw0 { rw0 with isVisible := false } hr0.slot (by simp [coreNoVis])
  exact { tinv := ⟨hI.ok.of_links hsb.toG.links (rootWin_sameBut hsb hI.ok.rootWin),
                   ordered_agree hsb.toG.links hI.ord, rootsPositive_sameBut hsb hI.pos, hI.nonempty, hI.dinv,
                   invC_of_hidden content st.screen _ _ (set_wins_self hr0.slot _) rfl⟩
          flags := hg.flags
          queue := hg.queue
          queueLater := hg.queueLater
          term := termRoot_of_rect (fun w hw0 => by
            obtain ⟨w', hw', hc⟩ := map_eq_some (sameBut_noVis hsb 0) hw0
            simp only [coreNoVis, Prod.mk.injEq] at hc
            exact ⟨w', hw', hc.2.1⟩) hg.term
          pc := parentListed_agree hsb.toG.links hg.pc }

theorem goodQ_geom {content : Id → Int → Int → Cell} {st : St} {id : Id} {rect : Rect} {t' : Tree} (hid : id ≠ 0)
    (h : setGeometryExposed st.tree st.fuel id rect = .ok t') (hg : GoodQ content st) :
    GoodQ content { st with tree := t' } :=
  goodQ_of_step hg (geom_step h hid hg.tinv.ok hg.tinv.pos hg.tinv.nonempty).1

theorem goodQ_close {content : Id → Int → Int → Cell} {st : St} {id : Id} {t' : Tree}
    (h : WinTree.close st.tree st.fuel id = .ok t') (hg : GoodQ content st) : GoodQ content { st with tree := t' } :=
  goodQ_of_step hg (close_step h hg.tinv.ok hg.tinv.nonempty hg.tinv.pos).1

theorem goodQ_request {content : Id → Int → Int → Cell} {st : St} {ch : Change} {id : Id} {t' : Tree}
    (hch : isRestack ch = true)
    (h : requestHierarchyChange st.tree st.fuel ch id = .ok t') (hg : GoodQ content st) :
    GoodQ content { st with tree := t' } := by
  obtain ⟨_, _, ⟨_, rfl⟩ | ⟨p, _, rfl⟩⟩ := request_cases h
  · exact hg
  · exact
      { tinv := tinv_congr_wins (t := st.tree) rfl rfl hg.tinv
        flags := fun hdd => ⟨(hg.flags hdd).1, by simp [(hg.flags hdd).2]⟩
        queue := fun r hr => by
          rcases List.mem_append.1 hr with hm | hm
          · exact hg.queue r hm
          · rw [List.mem_singleton.1 hm]; exact hch
        -- either the queue was non-empty before (then the flag was up), or this request is the first and raises it
        queueLater := fun _ => by
          show (st.tree.root.needsLater || st.tree.root.changes.isEmpty) = true
          cases hq0 : st.tree.root.changes with
          | nil => simp
          | cons a b => simp [hg.queueLater (by rw [hq0]; simp)]
        term := hg.term
        pc := hg.pc }

theorem goodQ_new {content : Id → Int → Int → Cell} {st st' : St} {parent : Id} {rect : Rect}
    {rootParent hidden lowest steal : Bool} {pen : Option Pen} {id : Id}
    (h : newWin st parent rect rootParent hidden lowest steal pen = .ok (st', id)) (hg : GoodQ content st) :
    GoodQ content st' := by
  unfold newWin at h
  obtain ⟨r, hn, h⟩ := bind_ok_iff.1 h
  simp only [pure, Pure.pure, Res.ok.injEq, Prod.mk.injEq] at h
  rw [← h.1]
  have := goodQ_of_step hg
    (newWindow_step hg.tinv.ok hg.tinv.pos hg.tinv.nonempty hg.tinv.ord.younger (Nat.le_refl _) (show _ = Res.ok (r.1, r.2) from hn)).1
  exact { tinv := this.tinv, flags := this.flags, queue := this.queue, queueLater := this.queueLater,
          term := this.term, pc := this.pc }

theorem goodQ_resize {content : Id → Int → Int → Cell} {st st' : St} {lines cols : Int} (hl : 0 < lines) (hc : 0 < cols)
    (h : termResize st lines cols = .ok st') (hg : GoodQ content st) : GoodQ content st' := by
  have hI := hg.tinv
  obtain ⟨root, hroot, hrl, hrc⟩ := hg.term
  rcases termResize_cases st st' lines cols h with ⟨e1, e2, rfl⟩ | ⟨_, t', ht', rfl⟩
  · -- same size: the grid is cut to the terminal, where nothing changes
    refine { tinv := ⟨hI.ok, hI.ord, hI.pos, hI.nonempty, hI.dinv, ?_⟩, flags := hg.flags, queue := hg.queue,
             queueLater := hg.queueLater, term := ⟨root, hroot, hrl, hrc⟩, pc := hg.pc }
    intro L C w l c ho
    obtain ⟨h0, h1, h2, h3⟩ := owned_on_terminal hg ho
    refine (hI.inv L C w l c ho).imp id (fun hright => ?_)
    show resizedScreen st lines cols L C = _
    unfold resizedScreen
    rw [if_pos ⟨h0, Int.lt_min.2 ⟨h1, e1 ▸ h1⟩, h2, Int.lt_min.2 ⟨h3, e2 ▸ h3⟩⟩]
    exact hright
  · obtain ⟨a1, a2, _, ⟨w', hw', hwl, hwc⟩, a5⟩ := termResizeTree_step content st.screen (resizedScreen st lines cols) st.tree t'
      lines cols hI hl hc root hroot (by
        intro L C h0 h1 h2 h3
        unfold resizedScreen
        rw [if_pos ⟨h0, hrl ▸ h1, h2, hrc ▸ h3⟩]) ht'
    exact { tinv := a1
            flags := a2.move.flags hg.flags
            queue := fun r hr => hg.queue r (a2.move.queue r hr)
            queueLater := a2.move.queueLater hg.queueLater
            term := ⟨w', hw', hwl, hwc⟩
            pc := a5 hg.pc }

/-- `Props.C01.Flagged`, under the name this half's proofs use. -/
def Flagged' (t : Tree) : Prop := t.root.damage ≠ [] → t.root.needsExpose = true

theorem exactC_of_no_damage {content : Id → Int → Int → Cell} {t : Tree} {screen : Int → Int → Cell}
    (hinv : InvC content t screen) (hd : t.root.damage = []) : ExactC content t screen :=
  fun L C w l c ho => (hinv L C w l c ho).elim (fun hc => by rw [hd] at hc; exact absurd hc (RectSet.covered_nil L C)) id

theorem flushRender_no_damage {beh : Id → Rect → List DrawOp} {st st' : St} {t : Tree} {shots : List Shot}
    (h : flushRender beh st t = .ok (st', shots)) (hflag : Flagged' t) : st'.tree.root.damage = [] := by
  rcases flushRender_cases beh st st' t shots h with i | ⟨_, _, r⟩
  · rw [i.tree]; exact nil_of_flag_down hflag i.flag
  · rw [r.tree]; rfl

theorem flushRender_exact_at {beh : Id → Rect → List DrawOp} {content : Id → Int → Int → Cell}
    {st st' : St} {t : Tree} {shots : List Shot}
    (h : flushRender beh st t = .ok (st', shots)) (hroot : RootOk t) (hflag : Flagged' t)
    (hrep : ∀ sh ∈ shots, RepaintsAt content beh sh) (hinv : InvC content t st.screen) :
    st'.tree.root.damage = [] ∧ st'.tree.wins = t.wins ∧ ExactC content st'.tree st'.screen := by
  have hw := (flushRender_tree beh st st' t shots h).1
  refine ⟨flushRender_no_damage h hflag, hw, fun L C w l c ho => ?_⟩
  rw [ownerAt_congr st'.tree t hw] at ho
  by_cases hc : Covered t.root.damage L C
  · rcases flushRender_cases beh st st' t shots h with i | ⟨_, _, r⟩
    · rw [nil_of_flag_down hflag i.flag] at hc
      exact absurd hc (RectSet.covered_nil L C)
    · exact flushRender_content_at beh content st st' t shots h hroot r.flag hrep L C hc w l c
        (by rw [ownerAt_congr st'.tree t hw]; exact ho)
  · have hsame : st'.screen L C = st.screen L C :=
      Classical.byContradiction fun hdiff => hc (flushRender_frame beh st st' t shots h L C hdiff)
    rw [hsame]
    exact (hinv L C w l c ho).resolve_left hc

theorem flushRender_exact (beh : Id → Rect → List DrawOp) (content : Id → Int → Int → Cell)
    (st st' : St) (t : Tree) (shots : List Shot)
    (h : flushRender beh st t = .ok (st', shots)) (hroot : RootOk t) (hflag : Flagged' t)
    (hrep : Repaints content beh) (hinv : InvC content t st.screen) :
    st'.tree.root.damage = [] ∧ st'.tree.wins = t.wins ∧ ExactC content st'.tree st'.screen :=
  flushRender_exact_at h hroot hflag (fun sh _ => repaintsAt_of_repaints hrep sh) hinv

theorem flush_cases {beh : Id → Rect → List DrawOp} {st st' : St} {shots : List Shot}
    (h : WinFlush.flush beh st = .ok (st', shots)) {root : Win} (hr : WinTree.get st.tree 0 = .ok root) (hp : root.parent = none) :
    (st.tree.root.needsLater = false ∧ st' = st ∧ shots = []) ∨
      ∃ t, applyChanges st.fuel
        { st.tree with root := { st.tree.root with needsLater := false, changes := [] } } st.tree.root.changes = .ok t ∧
        flushRender beh st t = .ok (st', shots) := by
  unfold WinFlush.flush at h
  rw [hr] at h
  simp only [bind, Bind.bind, hp, Option.isSome_none] at h
  cases hnl : st.tree.root.needsLater with
  | false =>
    simp only [hnl, pure, Pure.pure] at h
    simp at h
    exact Or.inl ⟨rfl, h.1.symm, h.2⟩
  | true =>
    simp only [hnl, Bool.false_eq_true, if_false, Bool.not_true] at h
    obtain ⟨t, hq, h⟩ := bind_ok_iff.1 h
    exact Or.inr ⟨t, hq, h⟩

/-- `t0` is the tree with the queue taken and the flag lowered, `t` the tree that is rendered. -/
theorem flush_decompose {beh : Id → Rect → List DrawOp} {content : Id → Int → Int → Cell} {st st' : St} {shots : List Shot}
    (h : WinFlush.flush beh st = .ok (st', shots)) (hg : GoodQ content st) :
    (st.tree.root.needsLater = false ∧ st' = st ∧ shots = []) ∨
      ∃ t0 t, t0.wins = st.tree.wins ∧ t0.root = { st.tree.root with needsLater := false, changes := [] } ∧
        flushRender beh st t = .ok (st', shots) ∧ TInv content st.screen t ∧ ParentListed t ∧ Step t0 t ∧
        t.wins.size = t0.wins.size ∧ SameBy (fun w => w.parent) t0 t := by
  obtain ⟨root, hr0⟩ := hg.tinv.ok.rootWin.record
  rcases flush_cases h (WinTree.Live.get ⟨hr0.slot, hr0.live⟩) hr0.parent with h1 | ⟨t, hq, h⟩
  · exact Or.inl h1
  · generalize ht0 : ({ st.tree with root := { st.tree.root with needsLater := false, changes := [] } } : Tree) = t0 at hq
    have h0w : t0.wins = st.tree.wins := by rw [← ht0]
    have hI0 : TInv content st.screen t0 := tinv_congr_wins h0w (by rw [← ht0]) hg.tinv
    obtain ⟨hs, a2, a4⟩ := applyChanges_step st.tree.root.changes t0 t hg.queue hI0.ok hI0.pos hI0.nonempty
      (by rw [h0w]; exact hq)
    exact Or.inr ⟨t0, t, h0w, by rw [← ht0], h, hs.tinv hI0, hs.listed (parentListed_congr h0w hg.pc), hs, a2, a4⟩

/-- The proviso is asked of each handler invocation of this flush, in the buffer it finds: `Repaints` and the pen-aware
    `RepaintsP` both give it. -/
theorem goodQ_flush_at {beh : Id → Rect → List DrawOp} {content : Id → Int → Int → Cell} {st st' : St} {shots : List Shot}
    (h : WinFlush.flush beh st = .ok (st', shots)) (hrep : ∀ sh ∈ shots, RepaintsAt content beh sh) (hg : GoodQ content st) :
    GoodQ content st' ∧ ExactC content st'.tree st'.screen ∧ st'.tree.root.changes = [] ∧ st'.tree.root.damage = [] := by
  rcases flush_decompose h hg with ⟨hnl, e, _⟩ | ⟨t0, t, h0w, h0r, hr, a1, a4, hs, _, _⟩
  · rw [e]
    have hdmg : st.tree.root.damage = [] := nil_of_flag_down (fun hd => (hg.flags hd).2) hnl
    have hq : st.tree.root.changes = [] := nil_of_flag_down hg.queueLater hnl
    exact ⟨hg, exactC_of_no_damage hg.tinv.inv hdmg, hq, hdmg⟩
  · have hflag : Flagged' t := hs.root.pending (fun hd => by
      rw [h0r]
      exact (hg.flags (by rw [h0r] at hd; exact hd)).1)
    obtain ⟨hw', hq', _, e1, e2⟩ := flushRender_tree beh st st' t shots hr
    have hd' := flushRender_no_damage hr hflag
    -- the rendering: exact under a shown root; under a hidden root nothing is owned
    have hex : ExactC content st'.tree st'.screen := by
      rcases root_vis_cases t a1.ok with hv | ⟨w0, hw0, hv0⟩
      · exact (flushRender_exact_at hr (rootOk_of_visible a1.ok hv) hflag hrep a1.inv).2.2
      · intro L C w l c ho
        rw [ownerAt_none_of_hidden st'.tree w0 (by rw [hw']; exact hw0) hv0] at ho
        cases ho
    have hqe : st'.tree.root.changes = [] := by rw [hq']; exact hs.root.queueEmpty (by rw [h0r])
    have hterm : TermRoot st' := by
      obtain ⟨w0, hw0, h1, h2⟩ := hg.term
      obtain ⟨w1, hw1, hr1⟩ := hs.rootRect w0 (by rw [h0w]; exact hw0)
      exact ⟨w1, by rw [hw']; exact hw1, by rw [hr1, e1]; exact h1, by rw [hr1, e2]; exact h2⟩
    exact ⟨{ tinv := tinv_of_wins hw' a1 (by intro x hx; rw [hd'] at hx; cases hx)
                       (by rw [hd']; exact RectSet.inv_nil)
                       (fun L C w l c ho => Or.inr (hex L C w l c ho))
             flags := fun hx => absurd hd' hx
             queue := (by intro r hr'; rw [hqe] at hr'; cases hr')
             queueLater := fun hx => absurd hqe hx
             term := hterm
             pc := parentListed_congr hw' a4 }, hex, hqe, hd'⟩

end WinFlush
end Tickit
