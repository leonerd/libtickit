import Tickit.Proof.XTermCsi
/-
  `scrollrect`: the outcomes of the function (`scrollrect_elim`), and what the bytes of each strategy do to a screen
  without margins (`run_scrollrect`): the rectangle is shifted as a box (`VT.boxShift`), nothing else changes.

  In `rw [lemma _ (by exact h) …]` the state `_` is found by matching the goal; a plain `h` would be elaborated first and
  fix it to the state `h` speaks of, which is one record update behind.
-/
namespace Tickit.XTermDrv
open Tickit Tickit.VT

theorem run_scrollLine (vt : VTState) (hg : vt.ps = .ground) (line left r : Int)
    (hl : 0 ≤ line ∧ line < vt.lines) (hc : 0 ≤ left ∧ left < vt.cols)
    (hm : vt.top ≤ line ∧ line ≤ vt.bottom ∧ vt.left ≤ left ∧ left ≤ vt.right) :
    run (scrollLine line left r) vt =
      { vt with grid := boxShift line line left vt.right 0 r vt.blank vt.grid,
                row := line, col := left, pendingWrap := false } := by
  unfold scrollLine
  rw [run_append, run_gotoAbs_pos vt hg line left hl.1 hc.1, moveTo_in vt line left hl hc, run_signedSeq_rshift _ (by exact hg),
    rshift_eq { vt with row := line, col := left, pendingWrap := false } r hm]
  rfl

theorem run_scrollLines (vt : VTState) (hg : vt.ps = .ground) (top left r : Int) (k : Nat)
    (hl : 0 ≤ top ∧ top + k < vt.lines) (hc : 0 ≤ left ∧ left < vt.cols)
    (hm : vt.top ≤ top ∧ top + k ≤ vt.bottom ∧ vt.left ≤ left ∧ left ≤ vt.right) :
    run ((List.range (k + 1)).flatMap fun (i : Nat) => scrollLine (top + (i : Int)) left r) vt =
      { vt with grid := boxShift top (top + k) left vt.right 0 r vt.blank vt.grid,
                row := top + k, col := left, pendingWrap := false } := by
  induction k with
  | zero =>
    have e : top + ((0 : Nat) : Int) = top := by omega
    simp only [Nat.zero_add, List.range_one, List.flatMap_cons, List.flatMap_nil, List.append_nil, e]
    exact run_scrollLine vt hg top left r (by omega) hc (by omega)
  | succ k ih =>
    rw [List.range_succ, List.flatMap_append, run_append, ih (by omega) (by omega)]
    simp only [List.flatMap_cons, List.flatMap_nil, List.append_nil]
    rw [run_scrollLine _ (by exact hg) (top + (k + 1 : Nat)) left r (by dsimp only; omega) (by exact hc)
      (by dsimp only; omega)]
    simp only [VTState.blank, Int.natCast_add, Int.natCast_one, ← Int.add_assoc]
    rw [boxShift_row_succ _ _ _ _ _ (by omega)]

theorem run_scrollCore (vt : VTState) (hg : vt.ps = .ground) (t l d r : Int) (ht : vt.top = t) (hl : vt.left = l)
    (hr : 0 ≤ t ∧ t < vt.lines) (hc : 0 ≤ l ∧ l < vt.cols) (hm : t ≤ vt.bottom ∧ l ≤ vt.right) :
    run (signedSeq r [0x27] 0x7e 0x7d) (run (signedSeq d [] 0x4d 0x4c) (run (gotoAbs t l) vt)) =
      { vt with grid := boxShift t vt.bottom l vt.right d r vt.blank vt.grid,
                row := t, col := l, pendingWrap := false } := by
  subst ht hl
  have hin : ({ vt with row := vt.top, col := vt.left, pendingWrap := false } : VTState).inMargins :=
    ⟨Int.le_refl _, hm.1, Int.le_refl _, hm.2⟩
  rw [run_gotoAbs_pos vt hg _ _ hr.1 hc.1, moveTo_in vt _ _ hr hc,
    run_signedSeq_vshift _ (by exact hg), vshift_eq _ d rfl hin]
  dsimp only
  rw [run_signedSeq_hshift _ (by exact hg), hshift_eq _ r rfl (by exact hin)]
  simp only [VTState.blank, boxShift_comp]

theorem scrollGrid_eq (rect : Rect) (d r : Int) (vt : VTState) :
    Spec.scrollGrid rect d r vt =
      boxShift rect.top (rect.bottom - 1) rect.left (rect.right - 1) d r (Cell.blank vt.bg) vt.grid := by
  funext y x
  exact ite_ite_congr (by omega) (fun _ => by omega)

/-- What the ICH/DCH strategy sends: the right margin if the rectangle stops short of the edge, one
    goto + ICH/DCH per line, the margin reset. -/
def ichdchBytes (termCols : Int) (rect : Rect) (r : Int) : List UInt8 :=
  (if rect.right < termCols then csi ([0x3b] ++ showInt rect.right ++ [0x73]) else []) ++
  ((List.range rect.lines.toNat).flatMap fun (i : Nat) => scrollLine (rect.top + (i : Int)) rect.left r) ++
  (if rect.right < termCols then csi [0x73] else [])

/-- What the margin strategy sends: DECSTBM, DECSLRM if the rectangle is not of full width, goto, IL/DL,
    DECIC/DECDC, the margin resets. -/
def marginBytes (termCols : Int) (rect : Rect) (d r : Int) : List UInt8 :=
  csi (showInt (rect.top + 1) ++ [0x3b] ++ showInt rect.bottom ++ [0x72]) ++
  (if rect.left > 0 ∨ rect.right < termCols then
    csi (showInt (rect.left + 1) ++ [0x3b] ++ showInt rect.right ++ [0x73]) else []) ++
  gotoAbs rect.top rect.left ++ signedSeq d [] 0x4d 0x4c ++ signedSeq r [0x27] 0x7e 0x7d ++ csi [0x72] ++
  (if rect.left > 0 ∨ rect.right < termCols then csi [0x73] else [])

theorem scrollrect_elim (fx : Fixes) (caps : Caps) (tc : Int) (rect : Rect) (d r : Int) {P : Bool × List UInt8 → Prop}
    (hnone : d = 0 → r = 0 → P (true, []))
    (hline : d = 0 → r ≠ 0 → (caps.slrm = true ∧ rect.lines = 1) ∨ rect.right = tc →
      ¬ (fx.scrollCellGuard = true ∧ rect.right < tc ∧ rect.right < 2) → P (true, ichdchBytes tc rect r))
    (hbox : ¬ (d = 0 ∧ r = 0) → ¬ (((caps.slrm = true ∧ rect.lines = 1) ∨ rect.right = tc) ∧ d = 0) →
      caps.slrm = true ∨ (rect.left = 0 ∧ rect.cols = tc ∧ r = 0) →
      ¬ (fx.scrollGuard = true ∧ (rect.lines < 2 ∨ ((rect.left > 0 ∨ rect.right < tc) ∧ rect.cols < 2))) →
      P (true, marginBytes tc rect d r))
    (hfail : P (false, [])) : P (scrollrect fx caps tc rect d r) := by
  unfold scrollrect
  by_cases h0 : d = 0 ∧ r = 0
  · rw [if_pos h0]; exact hnone h0.1 h0.2
  · rw [if_neg h0]
    dsimp only
    by_cases h1 : ((caps.slrm = true ∧ rect.lines = 1) ∨ rect.right = tc) ∧ d = 0
    · rw [if_pos h1]
      by_cases hc : fx.scrollCellGuard = true ∧ rect.right < tc ∧ rect.right < 2
      · rw [if_pos hc]; exact hfail
      · rw [if_neg hc]; exact hline h1.2 (fun h => h0 ⟨h1.2, h⟩) h1.1 hc
    · rw [if_neg h1]
      by_cases h2 : caps.slrm = true ∨ (rect.left = 0 ∧ rect.cols = tc ∧ r = 0)
      · rw [if_pos h2]
        by_cases hg : fx.scrollGuard = true ∧ (rect.lines < 2 ∨ ((rect.left > 0 ∨ rect.right < tc) ∧ rect.cols < 2))
        · rw [if_pos hg]; exact hfail
        · rw [if_neg hg]; exact hbox h0 h1 h2 hg
      · rw [if_neg h2]; exact hfail

theorem Spec.sameModes_with (vt : VTState) (G : Int → Int → Cell) (R C : Int) (P : Bool) :
    Spec.sameModes vt { vt with grid := G, row := R, col := C, pendingWrap := P } :=
  ⟨rfl, rfl, rfl, rfl, rfl, rfl, rfl, rfl, rfl, rfl⟩

theorem Spec.ScrollOK.of_with {rect : Rect} {d r : Int} {vt vt' : VTState} {R C : Int} {P : Bool}
    (hR : 0 ≤ R ∧ R < vt.lines) (hC : 0 ≤ C ∧ C < vt.cols)
    (h : vt' = { vt with grid := Spec.scrollGrid rect d r vt, row := R, col := C, pendingWrap := P }) :
    Spec.ScrollOK rect d r vt vt' :=
  h ▸ ⟨Spec.sameModes_with .., rfl, hR.1, hR.2, hC.1, hC.2⟩

theorem Spec.ScrollOK.grid {rect : Rect} {d r : Int} {vt vt' : VTState} (h : Spec.ScrollOK rect d r vt vt') :
    vt'.grid = Spec.scrollGrid rect d r vt := h.2.1

/-- How the screen after the margin resets of `scrollrect` is recognised as `vt` with another grid and cursor. -/
theorem Spec.WF.eq_with {vt : VTState} (hw : Spec.WF vt) {m : VTState} {G : Int → Int → Cell} {R C : Int} {P : Bool}
    (h : m = { vt with grid := G, row := R, col := C, pendingWrap := P, top := m.top, bottom := m.bottom,
                       left := m.left, right := m.right })
    (ht : m.top = 0) (hb : m.bottom = vt.lines - 1) (hl : m.left = 0) (hr : m.right = vt.cols - 1) :
    m = { vt with grid := G, row := R, col := C, pendingWrap := P } := by
  rw [h]
  apply VTState.ext <;> first | rfl | skip
  · exact ht.trans hw.mtop.symm
  · exact hb.trans hw.mbot.symm
  · exact hl.trans hw.mleft.symm
  · exact hr.trans hw.mright.symm

/-- The margin sequences leave the cursor at the home position, which is on the screen. -/
theorem Spec.ScrollOK.at_home {rect : Rect} {d r : Int} {vt vt' : VTState} (hw : Spec.WF vt)
    (h : vt' = { vt with grid := Spec.scrollGrid rect d r vt, row := 0, col := 0, pendingWrap := false }) :
    Spec.ScrollOK rect d r vt vt' :=
  .of_with ⟨Int.le_refl 0, Int.lt_of_le_of_lt hw.row_lo hw.row_hi⟩ ⟨Int.le_refl 0, Int.lt_of_le_of_lt hw.col_lo hw.col_hi⟩ h

theorem run_ichdchBytes (vt : VTState) (hw : Spec.WF vt) (caps : Caps) (hcaps : Spec.CapsOK caps vt) (rect : Rect)
    (r : Int) (hon : RectOnScreen vt rect) (hwhich : (caps.slrm = true ∧ rect.lines = 1) ∨ rect.right = vt.cols)
    (h2 : rect.right < vt.cols → 2 ≤ rect.right) :
    Spec.ScrollOK rect 0 r vt (run (ichdchBytes vt.cols rect r) vt) := by
  have hg := hw.ground; have mt := hw.mtop; have mb := hw.mbot; have ml := hw.mleft; have mr := hw.mright
  obtain ⟨hl1, hc1, htop, hbot, hleft, hright⟩ := hon
  have hb : rect.bottom = rect.top + rect.lines := rfl
  have hrt : rect.right = rect.left + rect.cols := rfl
  have ht : 0 ≤ rect.top ∧ rect.top < vt.lines := by omega
  have hl : 0 ≤ rect.left ∧ rect.left < vt.cols := by omega
  unfold ichdchBytes
  by_cases hlt : rect.right < vt.cols
  · obtain ⟨hs, hl1'⟩ := hwhich.resolve_right (Int.ne_of_lt hlt)
    have hd := hcaps hs
    have e1 : rect.lines.toNat = 1 := by rw [hl1']; rfl
    have e2 : rect.top + ((0 : Nat) : Int) = rect.top := Int.add_zero _
    have e3 : rect.bottom - 1 = rect.top := by rw [hb, hl1', Int.add_sub_cancel]
    rw [if_pos hlt, if_pos hlt, e1]
    simp only [List.range_one, List.flatMap_cons, List.flatMap_nil, List.append_nil, e2, run_append]
    rw [run_decslrm_right vt hg hd _ (h2 hlt) hright,
      run_scrollLine _ (by exact hg) _ _ r (by exact ht) (by exact hl) (by dsimp only; omega),
      run_decslrm_reset _ (by exact hg) (by exact hd)]
    refine .at_home hw ?_
    rw [scrollGrid_eq, e3]
    exact hw.eq_with rfl hw.mtop hw.mbot rfl rfl
  · obtain ⟨k, hk⟩ : ∃ k : Nat, rect.lines.toNat = k + 1 := ⟨rect.lines.toNat - 1, by omega⟩
    have e3 : rect.bottom - 1 = rect.top + k := by omega
    have e4 : vt.right = rect.right - 1 := by rw [mr, Int.le_antisymm hright (Int.not_lt.mp hlt)]
    refine .of_with (R := rect.top + k) (C := rect.left) (P := false) (by omega) (by omega) ?_
    rw [if_neg hlt, if_neg hlt, List.nil_append, List.append_nil, hk,
      run_scrollLines vt hg rect.top rect.left r k (by omega) (by omega) (by omega), scrollGrid_eq, e3, e4]
    rfl

theorem run_marginBytes (vt : VTState) (hw : Spec.WF vt) (caps : Caps) (hcaps : Spec.CapsOK caps vt) (rect : Rect)
    (d r : Int) (hon : RectOnScreen vt rect) (hl2 : 2 ≤ rect.lines)
    (hlr : rect.left > 0 ∨ rect.right < vt.cols → caps.slrm = true ∧ 2 ≤ rect.cols) :
    Spec.ScrollOK rect d r vt (run (marginBytes vt.cols rect d r) vt) := by
  have hg := hw.ground; have mt := hw.mtop; have mb := hw.mbot; have ml := hw.mleft; have mr := hw.mright
  obtain ⟨hl1, hc1, htop, hbot, hleft, hright⟩ := hon
  have hb : rect.bottom = rect.top + rect.lines := rfl
  have hrt : rect.right = rect.left + rect.cols := rfl
  have ht : 0 ≤ rect.top ∧ rect.top < vt.lines := by omega
  have hl : 0 ≤ rect.left ∧ rect.left < vt.cols := by omega
  unfold marginBytes
  by_cases hneed : rect.left > 0 ∨ rect.right < vt.cols
  · obtain ⟨hs, hc2⟩ := hlr hneed
    have hd := hcaps hs
    rw [if_pos hneed, if_pos hneed]
    simp only [run_append]
    rw [run_decstbm vt hg rect.top rect.bottom htop (by omega) hbot,
      run_decslrm _ (by exact hg) (by exact hd) rect.left rect.right hleft (by omega) (by exact hright)]
    dsimp only
    rw [run_scrollCore _ (by exact hg) rect.top rect.left d r rfl rfl (by dsimp only; omega) (by dsimp only; omega)
        (by dsimp only; omega),
      run_decstbm_reset _ (by exact hg), run_decslrm_reset _ (by exact hg) (by exact hd)]
    refine .at_home hw ?_
    rw [scrollGrid_eq]
    exact hw.eq_with rfl rfl rfl rfl rfl
  · have e1 : vt.left = rect.left := by omega
    have e2 : vt.right = rect.right - 1 := by omega
    rw [if_neg hneed, if_neg hneed, List.append_nil, List.append_nil]
    simp only [run_append]
    rw [run_decstbm vt hg rect.top rect.bottom htop (by omega) hbot,
      run_scrollCore _ (by exact hg) rect.top rect.left d r rfl (by exact e1) (by exact ht) (by exact hl)
        (by dsimp only; omega),
      run_decstbm_reset _ (by exact hg)]
    refine .at_home hw ?_
    rw [scrollGrid_eq, ← e2]
    exact hw.eq_with rfl rfl rfl hw.mleft hw.mright

/-- The offsets are bounded only where the source lacks the guard that makes `scrollrect` refuse what it cannot do:
    DECSTBM needs two lines and DECSLRM two columns, which follows from the guard, or else from the bound (an offset
    smaller than a size of 1 is 0, and then another strategy is taken or nothing is sent). -/
theorem run_scrollrect (fx : Fixes) (vt : VTState) (hw : Spec.WF vt) (caps : Caps) (hcaps : Spec.CapsOK caps vt)
    (rect : Rect) (d r : Int) (hon : RectOnScreen vt rect)
    (hd : fx.scrollGuard = false → -rect.lines < d ∧ d < rect.lines)
    (hr : fx.scrollGuard = false ∨ fx.scrollCellGuard = false → -rect.cols < r ∧ r < rect.cols)
    (hone : fx.scrollGuard = false → ¬ OneColumnTrigger caps vt.cols rect d)
    (hret : (scrollrect fx caps vt.cols rect d r).1 = true) :
    Spec.ScrollOK rect d r vt (run (scrollrect fx caps vt.cols rect d r).2 vt) := by
  have hrt : rect.right = rect.left + rect.cols := rfl
  have hl1 := hon.lines_pos; have hc1 := hon.cols_pos; have hleft := hon.left
  revert hret
  refine scrollrect_elim fx caps vt.cols rect d r (P := fun x => x.1 = true → Spec.ScrollOK rect d r vt (run x.2 vt))
    ?_ ?_ ?_ (fun h => by cases h)
  · rintro rfl rfl -
    exact .of_with (P := vt.pendingWrap) ⟨hw.row_lo, hw.row_hi⟩ ⟨hw.col_lo, hw.col_hi⟩ (by
      rw [scrollGrid_eq, boxShift_zero]; rfl)
  · rintro rfl hr0 hwhich hcg -
    refine run_ichdchBytes vt hw caps hcaps rect r hon hwhich fun hlt => ?_
    cases hcgv : fx.scrollCellGuard with
    | true => exact Int.not_lt.mp fun h => hcg ⟨hcgv, hlt, h⟩
    | false => have := hr (Or.inr hcgv); omega
  · intro h0 hB1 hB2 hgd _
    have hl2 : 2 ≤ rect.lines := by
      cases hsg : fx.scrollGuard with
      | true => exact Int.not_lt.mp fun h => hgd ⟨hsg, Or.inl h⟩
      | false =>
        have hd := hd hsg
        apply Int.not_lt.mp
        intro h1
        have hd0 : d = 0 := by omega
        cases hB2 with
        | inl hs => exact hB1 ⟨Or.inl ⟨hs, by omega⟩, hd0⟩
        | inr h => exact h0 ⟨hd0, h.2.2⟩
    refine run_marginBytes vt hw caps hcaps rect d r hon hl2 fun hneed => ?_
    have hs : caps.slrm = true := hB2.resolve_right (by omega)
    refine ⟨hs, ?_⟩
    cases hsg : fx.scrollGuard with
    | true => exact Int.not_lt.mp fun h => hgd ⟨hsg, Or.inr ⟨hneed, h⟩⟩
    | false =>
      have hr := hr (Or.inl hsg)
      apply Int.not_lt.mp
      intro h1
      exact hone hsg ⟨hs, by omega, fun h => h0 ⟨h, by omega⟩, hneed⟩

end Tickit.XTermDrv
