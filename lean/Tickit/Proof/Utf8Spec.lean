import Tickit.Model.Utf8
/-
  The specification side of counting (no memory, no decoder): limits (`exceeds` is the negation of `Within`), the
  counters as sums (`sumPos`), graphemes (`Grouped`: what `clusters` forms), the character loop `runChars` as the
  grapheme-wise `specRun` (`runChars_eq_specRun`), and the clauses of property C07 as facts about `specRun`, all by
  `specRun_induct`; `Res`, the value the C functions return for a result.
-/
namespace Tickit
namespace Utf8

theorem within_of_adv {L : Option Limit} {p : Pos} {n : Nat} {w : Int} (hw : 0 ≤ w) (h : Within L (p.adv n w)) :
    Within L p := by
  cases L with
  | none => trivial
  | some l =>
    simp only [Within, Pos.adv] at h ⊢
    refine ⟨?_, by omega, ?_, by omega⟩
    · cases hb : l.bytes with
      | none => trivial
      | some lb => rw [hb] at h; exact Nat.le_trans (Nat.le_add_right ..) h.1
    · have := h.2.2.1
      split at this <;> omega

theorem within_of_sumPos {L : Option Limit} : ∀ (cs : List Ch) (p : Pos), (∀ c ∈ cs, 0 ≤ c.w) →
    Within L (sumPos p cs) → Within L p
  | [], _, _, h => h
  | c :: cs, _, hc, h => within_of_adv (hc c (List.mem_cons_self ..))
      (within_of_sumPos cs _ (fun x hx => hc x (List.mem_cons_of_mem _ hx)) h)

theorem limit_test (l x : Int) : (l ≠ -1 ∧ x > l) ↔ ¬ (l = -1 ∨ x ≤ l) := by omega

theorem exceeds_iff (L : Option Limit) (here : Pos) (n : Nat) (w : Int) :
    exceeds L here n w = true ↔ ¬ Within L (here.adv n w) := by
  cases L with
  | none => simp [exceeds, Within]
  | some l =>
    simp only [exceeds, Within, Pos.adv, Bool.or_eq_true, Bool.and_eq_true, decide_eq_true_eq, limit_test,
      Decidable.not_and_iff_not_or_not, or_assoc]
    cases l.bytes <;> simp [leOpt]

theorem sumPos_append (p : Pos) (a b : List Ch) : sumPos p (a ++ b) = sumPos (sumPos p a) b := by
  induction a generalizing p with
  | nil => rfl
  | cons c a ih => simp only [List.cons_append, sumPos]; exact ih _

theorem sumPos_bytes : ∀ (cs : List Ch) (p : Pos), (sumPos p cs).bytes = p.bytes + bytesOf cs := by
  intro cs
  induction cs with
  | nil => intro p; simp [sumPos, bytesOf]
  | cons c cs ih => intro p; simp only [sumPos, bytesOf, ih, Pos.adv]; omega

theorem bytesOf_append (a b : List Ch) : bytesOf (a ++ b) = bytesOf a + bytesOf b := by
  induction a with
  | nil => simp [bytesOf]
  | cons c a ih => simp only [List.cons_append, bytesOf, ih]; omega

theorem bytesOf_eq_sum : ∀ (l : List Ch), bytesOf l = (l.map (·.n)).sum := by
  intro l
  induction l with
  | nil => rfl
  | cons c cs ih => simp [bytesOf, ih]

theorem sumPos_codepoints : ∀ (cs : List Ch) (p : Pos), (sumPos p cs).codepoints = p.codepoints + cs.length := by
  intro cs
  induction cs with
  | nil => intro p; simp [sumPos]
  | cons c cs ih => intro p; simp only [sumPos, ih, Pos.adv, List.length_cons]; omega

theorem sumPos_graphemes : ∀ (cs : List Ch) (p : Pos),
    (sumPos p cs).graphemes = p.graphemes + (cs.filter (fun c => decide (c.w > 0))).length := by
  intro cs
  induction cs with
  | nil => intro p; simp [sumPos]
  | cons c cs ih =>
    intro p
    simp only [sumPos, ih, Pos.adv, List.filter_cons]
    by_cases h : c.w > 0
    · simp [h]; omega
    · simp [h]

theorem sumPos_columns : ∀ (cs : List Ch) (p : Pos),
    (sumPos p cs).columns = p.columns + (cs.map (·.w)).sum := by
  intro cs
  induction cs with
  | nil => intro p; simp [sumPos]
  | cons c cs ih => intro p; simp only [sumPos, ih, Pos.adv, List.map_cons, List.sum_cons]; omega

theorem sumPos_counters (p : Pos) (cs : List Ch) (hw : ∀ c ∈ cs, c.w = Width.wcwidth c.cp) :
    (sumPos p cs).bytes = p.bytes + (cs.map (·.n)).sum ∧
    (sumPos p cs).codepoints = p.codepoints + cs.length ∧
    (sumPos p cs).graphemes = p.graphemes + (cs.filter (fun c => decide (Width.wcwidth c.cp > 0))).length ∧
    (sumPos p cs).columns = p.columns + (cs.map (fun c => Width.wcwidth c.cp)).sum :=
  ⟨by rw [sumPos_bytes, bytesOf_eq_sum], sumPos_codepoints _ _,
    by rw [sumPos_graphemes, List.filter_congr (fun c hc => by rw [hw c hc])],
    by rw [sumPos_columns, List.map_congr_left hw]⟩

/-- A grapheme: a character of non-negative width followed by zero-width ones (combining marks). -/
def IsCluster (g : List Ch) : Prop := ∃ c z, g = c :: z ∧ 0 ≤ c.w ∧ ∀ x ∈ z, x.w = 0

/-- The grapheme starts with a character that takes columns; only the first of a text may fail to (combining marks
    at its start). -/
def Spacing (g : List Ch) : Prop := ∃ c z, g = c :: z ∧ 0 < c.w

theorem mem_tail_of_mem_drop {α : Type} {l : List α} {j : Nat} {a : α} (hj : 0 < j) (h : a ∈ l.drop j) : a ∈ l.tail := by
  rw [show j = 1 + (j - 1) by omega, ← List.drop_drop, List.drop_one] at h
  exact List.mem_of_mem_drop h

/-- Graphemes as `clusters` forms them: every group is a cluster and every group but the first is spacing. -/
structure Grouped (gs : List (List Ch)) : Prop where
  cluster : ∀ g ∈ gs, IsCluster g
  spacing : ∀ g ∈ gs.tail, Spacing g

theorem Grouped.drop {gs : List (List Ch)} (h : Grouped gs) (j : Nat) : Grouped (gs.drop j) :=
  ⟨fun g hg => h.cluster g (List.mem_of_mem_drop hg),
   fun g hg => h.spacing g (mem_tail_of_mem_drop (Nat.succ_pos j) (by rwa [List.tail_drop] at hg))⟩

theorem Grouped.tail {g : List Ch} {gs : List (List Ch)} (h : Grouped (g :: gs)) : Grouped gs := h.drop 1

theorem Grouped.drop_spacing {gs : List (List Ch)} (h : Grouped gs) {k : Nat} (hk : k ≤ gs.length) :
    k = 0 ∨ k = gs.length ∨ ∃ g rest, gs.drop k = g :: rest ∧ Spacing g := by
  by_cases h0 : k = 0
  · exact .inl h0
  · refine .inr ?_
    cases hd : gs.drop k with
    | nil => exact .inl (Nat.le_antisymm hk (List.drop_eq_nil_iff.1 hd))
    | cons g rest =>
      exact .inr ⟨g, rest, rfl, h.spacing g (mem_tail_of_mem_drop (Nat.pos_of_ne_zero h0) (hd ▸ List.mem_cons_self ..))⟩

theorem runChars_cons (L : Option Limit) (t : Tail) (c : Ch) (cs : List Ch) (here pos : Pos) :
    runChars L (c :: cs) t here pos =
      if Within L (here.adv c.n c.w) then runChars L cs t (here.adv c.n c.w) (if c.w > 0 then here else pos)
      else ⟨false, if c.w > 0 then here else pos⟩ := by
  rw [runChars]
  by_cases hw : Within L (here.adv c.n c.w)
  · rw [if_pos hw, if_neg (fun h => (exceeds_iff ..).1 h hw)]
  · rw [if_neg hw, if_pos ((exceeds_iff ..).2 hw)]

theorem within_of_zero_run {L : Option Limit} {z : List Ch} (hz : ∀ x ∈ z, x.w = 0) {p : Pos}
    (h : Within L (sumPos p z)) : Within L p :=
  within_of_sumPos z p (fun y hy => Int.le_of_eq (hz y hy).symm) h

/-- The converse needs a limit on graphemes and columns only: zero-width characters still count bytes and code points. -/
theorem within_zero_run {L : Option Limit} (hL : ∀ l, L = some l → l.bytes = none ∧ l.codepoints = -1) :
    ∀ (z : List Ch) (p : Pos), (∀ x ∈ z, x.w = 0) → Within L p → Within L (sumPos p z)
  | [], _, _, h => h
  | c :: z, p, hz, h => by
    refine within_zero_run hL z _ (fun x hx => hz x (List.mem_cons_of_mem _ hx)) ?_
    cases L with
    | none => trivial
    | some l =>
      obtain ⟨h1, h2⟩ := hL l rfl
      simp only [Within, Pos.adv, hz c (List.mem_cons_self ..), h1, h2, leOpt] at h ⊢
      simpa using h

/-- A character and the zero-width characters after it are taken together or not at all. -/
theorem runChars_cluster (L : Option Limit) (t : Tail) : ∀ (z : List Ch), (∀ x ∈ z, x.w = 0) →
    ∀ (c : Ch) (rest : List Ch) (here pos : Pos),
      runChars L ((c :: z) ++ rest) t here pos =
        if Within L (sumPos here (c :: z)) then
          runChars L rest t (sumPos here (c :: z)) (if c.w > 0 then here else pos)
        else ⟨false, if c.w > 0 then here else pos⟩
  | [], _, c, rest, here, pos => runChars_cons L t c rest here pos
  | y :: z, hz, c, rest, here, pos => by
    have hy : ¬ y.w > 0 := by rw [hz y (List.mem_cons_self ..)]; decide
    rw [List.cons_append, runChars_cons, sumPos]
    by_cases hw : Within L (here.adv c.n c.w)
    · rw [if_pos hw, runChars_cluster L t z (fun x hx => hz x (List.mem_cons_of_mem _ hx)) y rest, if_neg hy]
    · rw [if_neg hw, if_neg (fun h => hw (within_of_zero_run hz h))]

/-- Refinement: the character loop of the C code computes the grapheme-wise specification. -/
theorem runChars_eq_specRun (L : Option Limit) (t : Tail) :
    ∀ (gs : List (List Ch)), Grouped gs →
      ∀ (here pos : Pos), (pos = here ∨ ∃ g, gs.head? = some g ∧ Spacing g) →
        runChars L gs.flatten t here pos = specRun L gs t here := by
  intro gs
  induction gs with
  | nil =>
    intro _ here pos h
    obtain rfl : pos = here := h.elim id (fun ⟨_, hg, _⟩ => nomatch hg)
    cases t <;> rfl
  | cons g gs ih =>
    intro hg here pos h
    obtain ⟨c, z, rfl, hc, hz⟩ := hg.cluster g (List.mem_cons_self ..)
    have hpos : (if c.w > 0 then here else pos) = here := by
      by_cases hcw : c.w > 0
      · exact if_pos hcw
      · rw [if_neg hcw]
        rcases h with h | ⟨_, hg', _, _, e, hc'⟩
        · exact h
        · cases hg'; cases e; exact absurd hc' hcw
    rw [List.flatten_cons, runChars_cluster L t z hz c, hpos]
    unfold specRun
    by_cases hw : Within L (sumPos here (c :: z))
    · simp only [hw, if_true]
      cases gs with
      | nil =>
        cases t <;> simp [runChars, specRun]
      | cons g' gs' =>
        rw [if_neg (fun h => nomatch h.1)]
        exact ih hg.tail _ _ (Or.inr ⟨g', rfl, hg.spacing g' (List.mem_cons_self ..)⟩)
    · simp only [hw, if_false]

theorem clusters_flatten : ∀ (cs : List Ch), (clusters cs).flatten = cs
  | [] => rfl
  | c :: cs => by
    have ih := clusters_flatten cs
    rw [clusters]
    cases hcl : clusters cs with
    | nil => rw [hcl] at ih; rw [← ih]; rfl
    | cons g gs =>
      -- whichever way `c` joins the groups, it is put in front of their characters
      rw [hcl, List.flatten_cons] at ih
      cases g with
      | nil => exact congrArg (c :: ·) ih
      | cons d r => simp only; split <;> exact congrArg (c :: ·) ih

theorem clusters_split (cs : List Ch) (k : Nat) :
    cs = ((clusters cs).take k).flatten ++ ((clusters cs).drop k).flatten := by
  rw [← List.flatten_append, List.take_append_drop, clusters_flatten]

theorem clusters_wf : ∀ (cs : List Ch), (∀ c ∈ cs, 0 ≤ c.w) → Grouped (clusters cs)
  | [], _ => ⟨nofun, nofun⟩
  | c :: cs, h => by
    have hc : 0 ≤ c.w := h c (List.mem_cons_self ..)
    have one : IsCluster [c] := ⟨c, [], rfl, hc, nofun⟩
    obtain ⟨ih1, ih2⟩ := clusters_wf cs (fun x hx => h x (List.mem_cons_of_mem _ hx))
    rw [clusters]
    cases hcl : clusters cs with
    | nil => exact ⟨List.forall_mem_cons.2 ⟨one, nofun⟩, nofun⟩
    | cons g gs =>
      rw [hcl] at ih1 ih2
      obtain ⟨⟨d, r, rfl, hd, hr⟩, ihgs⟩ := List.forall_mem_cons.1 ih1
      simp only
      split
      · -- the next group starts with a spacing character: `c` is a group of its own
        rename_i hdw
        exact ⟨List.forall_mem_cons.2 ⟨one, ih1⟩, List.forall_mem_cons.2 ⟨⟨d, r, rfl, hdw⟩, ih2⟩⟩
      · -- it starts with a zero-width character: `c` takes the group over
        rename_i hdw
        exact ⟨List.forall_mem_cons.2 ⟨⟨c, d :: r, rfl, hc, List.forall_mem_cons.2 ⟨by omega, hr⟩⟩, ihgs⟩, ih2⟩

theorem clusters_of_wf : ∀ (gs : List (List Ch)), Grouped gs → clusters gs.flatten = gs := by
  intro gs
  induction gs with
  | nil => intro _; rfl
  | cons g gs ih =>
    intro hg
    obtain ⟨c, z, rfl, hc, hz⟩ := hg.cluster g (List.mem_cons_self ..)
    have ihgs : clusters gs.flatten = gs := ih hg.tail
    -- peel the zero-width tail `z` first
    have key : ∀ (z : List Ch), (∀ x ∈ z, x.w = 0) → ∀ (c : Ch),
        clusters ((c :: z) ++ gs.flatten) = (c :: z) :: gs := by
      intro z
      induction z with
      | nil =>
        intro _ c
        simp only [List.cons_append, List.nil_append]
        rw [clusters, ihgs]
        cases gs with
        | nil => rfl
        | cons g' gs' =>
          obtain ⟨d, r, e, hd⟩ := hg.spacing g' (List.mem_cons_self ..)
          subst e
          simp [hd]
      | cons y z ihz =>
        intro hz c
        have hy : y.w = 0 := hz y (by simp)
        have := ihz (fun x hx => hz x (by simp [hx])) y
        simp only [List.cons_append] at this ⊢
        rw [clusters, this]
        have : ¬ (y.w > 0) := by omega
        simp [this]
    simpa using key z hz c

/-- Induction along a run of the specification: at each grapheme it stops before it (a limit would be
    crossed), reports the error (the grapheme fits, is the last one, and the error follows), or takes it. -/
theorem specRun_induct {L : Option Limit} {t : Tail} {motive : List (List Ch) → Pos → Res → Nat → Prop}
    (nil : ∀ here, motive [] here (specRun L [] t here) 0)
    (stop : ∀ g gs here, ¬ Within L (sumPos here g) → motive (g :: gs) here ⟨false, here⟩ 0)
    (last : ∀ g here, Within L (sumPos here g) → t = .err → motive [g] here ⟨true, here⟩ 0)
    (take : ∀ g gs here, Within L (sumPos here g) → ¬ (gs = [] ∧ t = .err) →
      motive gs (sumPos here g) (specRun L gs t (sumPos here g)) (specTaken L gs t (sumPos here g)) →
      motive (g :: gs) here (specRun L gs t (sumPos here g)) (1 + specTaken L gs t (sumPos here g))) :
    ∀ gs here, motive gs here (specRun L gs t here) (specTaken L gs t here)
  | [], here => nil here
  | g :: gs, here => by
    rw [specRun, specTaken]
    by_cases hw : Within L (sumPos here g)
    · rw [if_pos hw, if_pos hw]
      by_cases he : gs = [] ∧ t = .err
      · rw [if_pos he, if_pos he, he.1]; exact last g here hw he.2
      · rw [if_neg he, if_neg he]; exact take g gs here hw he (specRun_induct nil stop last take gs _)
    · rw [if_neg hw, if_neg hw]; exact stop g gs here hw

theorem specRun_take {L : Option Limit} {t : Tail} {g : List Ch} {gs : List (List Ch)} {here : Pos}
    (hw : Within L (sumPos here g)) (he : ¬ (gs = [] ∧ t = .err)) :
    specRun L (g :: gs) t here = specRun L gs t (sumPos here g) := by
  rw [specRun, if_pos hw, if_neg he]

theorem specRun_pos (L : Option Limit) (t : Tail) : ∀ (gs : List (List Ch)) (here : Pos),
    (specRun L gs t here).pos = sumPos here (gs.take (specTaken L gs t here)).flatten ∧
    specTaken L gs t here ≤ gs.length :=
  specRun_induct (motive := fun gs here r k => r.pos = sumPos here (gs.take k).flatten ∧ k ≤ gs.length)
    (fun _ => by cases t <;> exact ⟨rfl, Nat.le_refl _⟩) (fun _ _ _ _ => ⟨rfl, Nat.zero_le _⟩)
    (fun _ _ _ _ => ⟨rfl, Nat.zero_le _⟩)
    (fun g gs here _ _ ih => ⟨by rw [ih.1, Nat.add_comm 1, List.take_succ_cons, List.flatten_cons, sumPos_append],
      by rw [List.length_cons]; omega⟩)

theorem specRun_bytes_ge (L : Option Limit) (t : Tail) (gs : List (List Ch)) (here : Pos) :
    here.bytes ≤ (specRun L gs t here).pos.bytes := by
  rw [(specRun_pos L t gs here).1, sumPos_bytes]; omega

theorem specRun_within (L : Option Limit) (t : Tail) : ∀ (gs : List (List Ch)) (here : Pos),
    (specRun L gs t here).pos = here ∨ Within L (specRun L gs t here).pos :=
  specRun_induct (motive := fun _ here r _ => r.pos = here ∨ Within L r.pos)
    (fun _ => by cases t <;> exact .inl rfl) (fun _ _ _ _ => .inl rfl) (fun _ _ _ _ => .inl rfl)
    (fun _ _ _ hw _ ih => .inr (ih.elim (fun h => by rw [h]; exact hw) id))

theorem specRun_prefix_within (L : Option Limit) (t : Tail) : ∀ (gs : List (List Ch)) (here : Pos) (i : Nat),
    0 < i → i ≤ specTaken L gs t here → Within L (sumPos here (gs.take i).flatten) :=
  specRun_induct (motive := fun gs here _ k => ∀ i, 0 < i → i ≤ k → Within L (sumPos here (gs.take i).flatten))
    (fun _ i h0 h1 => by omega) (fun _ _ _ _ i h0 h1 => by omega) (fun _ _ _ _ i h0 h1 => by omega)
    (fun g gs here hw _ ih i h0 h1 => by
      obtain ⟨k, rfl⟩ := Nat.exists_eq_succ_of_ne_zero (Nat.ne_of_gt h0)
      rw [List.take_succ_cons, List.flatten_cons, sumPos_append]
      cases k with
      | zero => exact hw
      | succ k' => exact ih (k' + 1) (by omega) (by omega))

theorem specRun_maximal (L : Option Limit) (t : Tail) : ∀ (gs : List (List Ch)) (here : Pos),
    (specRun L gs t here).err = false → ∀ g rest, gs.drop (specTaken L gs t here) = g :: rest →
      ¬ Within L (sumPos (specRun L gs t here).pos g) :=
  specRun_induct (motive := fun gs _ r k => r.err = false → ∀ g rest, gs.drop k = g :: rest →
      ¬ Within L (sumPos r.pos g))
    (fun _ _ _ _ h => nomatch h) (fun _ _ _ hw _ _ _ hd => by cases hd; exact hw) (fun _ _ _ _ h => nomatch h)
    (fun _ _ _ _ _ ih herr g rest hd => ih herr g rest (by rwa [Nat.add_comm 1, List.drop_succ_cons] at hd))

theorem specRun_err_iff (L : Option Limit) (t : Tail) : ∀ (gs : List (List Ch)) (here : Pos),
    (specRun L gs t here).err = true ↔ (t = Tail.err ∧ AllFit L here gs) :=
  specRun_induct (motive := fun gs here r _ => r.err = true ↔ (t = Tail.err ∧ AllFit L here gs))
    (fun _ => by cases t <;> simp [specRun, AllFit])
    (fun _ _ _ hw => iff_of_false nofun (fun h => hw h.2.1))
    (fun _ _ hw ht => iff_of_true rfl ⟨ht, hw, trivial⟩)
    (fun _ _ _ hw _ ih => ih.trans ⟨fun h => ⟨h.1, hw, h.2⟩, fun h => ⟨h.1, h.2.2⟩⟩)

theorem specRun_all_eof (L : Option Limit) (t : Tail) : ∀ (gs : List (List Ch)) (here : Pos),
    (specRun L gs t here).err = false → gs.drop (specTaken L gs t here) = [] → t = Tail.eof :=
  specRun_induct (motive := fun gs _ r k => r.err = false → gs.drop k = [] → t = Tail.eof)
    (fun _ h _ => by cases t <;> first | rfl | exact nomatch h) (fun _ _ _ _ _ h => nomatch h)
    (fun _ _ _ _ h => nomatch h)
    (fun _ _ _ _ _ ih herr hd => ih herr (by rwa [Nat.add_comm 1, List.drop_succ_cons] at hd))

/-- Resumption on the specification: counting on from where a smaller limit stopped gives the same
    result as counting in one go, error outcome included. -/
theorem specRun_resume (L1 L2 : Option Limit) (hle : LimitLe L1 L2) (t : Tail) :
    ∀ (gs : List (List Ch)) (here : Pos),
      specRun L2 (gs.drop (specTaken L1 gs t here)) t (specRun L1 gs t here).pos = specRun L2 gs t here :=
  specRun_induct (motive := fun gs here r k => specRun L2 (gs.drop k) t r.pos = specRun L2 gs t here)
    (fun _ => by cases t <;> rfl) (fun _ _ _ _ => rfl) (fun _ _ _ _ => rfl)
    (fun g gs here hw he ih => by rw [Nat.add_comm 1, List.drop_succ_cons, ih, specRun_take (hle _ hw) he])

theorem Res.ret_neg_iff (r : Res) (s : Nat) (h : s ≤ r.pos.bytes) : r.ret s = -1 ↔ r.err = true := by
  unfold Res.ret
  cases r.err with
  | true => simp
  | false => simp; omega

theorem Res.ret_of_ne (r : Res) (s : Nat) (h : s ≤ r.pos.bytes) (hne : r.ret s ≠ -1) :
    r.err = false ∧ r.ret s = (r.pos.bytes : Int) - s := by
  have he : r.err = false := Bool.eq_false_iff.2 (fun he => hne ((r.ret_neg_iff s h).2 he))
  exact ⟨he, by rw [Res.ret, he]; rfl⟩

theorem Res.ret_resume (r : Res) {s s' : Nat} (h1 : s ≤ s') (h2 : s' ≤ r.pos.bytes) :
    (r.ret s' = -1 ↔ r.ret s = -1) ∧ (r.ret s ≠ -1 → r.ret s = (s' - s : Int) + r.ret s') := by
  have h3 := Nat.le_trans h1 h2
  refine ⟨(r.ret_neg_iff _ h2).trans (r.ret_neg_iff _ h3).symm, fun hne => ?_⟩
  obtain ⟨he, hr⟩ := r.ret_of_ne _ h3 hne
  rw [hr, Res.ret, he]
  show _ = _ + ((_ : Int) - _)
  omega

theorem specRun_ret_neg_iff (L : Option Limit) (gs : List (List Ch)) (t : Tail) (pos : Pos) :
    (specRun L gs t pos).ret pos.bytes = -1 ↔ (specRun L gs t pos).err = true :=
  Res.ret_neg_iff _ _ (specRun_bytes_ge L t gs pos)

theorem specRun_ret_of_ne (L : Option Limit) (gs : List (List Ch)) (t : Tail) (pos : Pos)
    (hne : (specRun L gs t pos).ret pos.bytes ≠ -1) :
    (specRun L gs t pos).err = false ∧
    (specRun L gs t pos).ret pos.bytes = ((specRun L gs t pos).pos.bytes : Int) - pos.bytes :=
  Res.ret_of_ne _ _ (specRun_bytes_ge L t gs pos) hne

end Utf8
end Tickit
