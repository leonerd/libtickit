import Tickit.Proof.RB
/-
  The drawing primitives of the render buffer (`skip`, `erase`, `put_string`; `put_char`, `linecell`), for C03 and C13.
  On one line: what a primitive placed on a stretch of it (`Placed`, `PlacedH`); the mask-aware loop composes such pieces.
  On the buffer: the invariant `WF` and the part of it the primitives rely on (`RunsOK`); what was drawn on a region, cell
  by cell (`Painted`, composed by `Painted.step`); `Drew`, what a primitive drew where it was asked to, is `Painted` on a
  stretch of one line (`PlacedH.drew` goes from the clipped position to the requested one).
-/
namespace Tickit.RB
open Tickit.RBAbs

/-- Both counting loops of `placeRuns`: the cells from `col` on, at most `n` of them, that satisfy `p`. -/
def lenWhile (p : Cell → Prop) [DecidablePred p] (row : Row) : Nat → Int → Nat
  | 0, _ => 0
  | n + 1, col => if p (row.get col) then lenWhile p row n (col + 1) + 1 else 0

theorem lenWhile_spec (p : Cell → Prop) [DecidablePred p] (row : Row) : ∀ (n : Nat) (col : Int),
    lenWhile p row n col ≤ n ∧ (∀ k, col ≤ k → k < col + lenWhile p row n col → p (row.get k)) ∧
    (lenWhile p row n col < n → ¬ p (row.get (col + lenWhile p row n col))) := by
  intro n
  induction n with
  | zero => intro col; exact ⟨Nat.le_refl _, fun k a b => by simp [lenWhile] at b; omega, fun h => absurd h (Nat.lt_irrefl _)⟩
  | succ n ih =>
    intro col
    unfold lenWhile
    split
    · rename_i hp
      obtain ⟨a, b, c⟩ := ih (col + 1)
      refine ⟨by omega, fun k x y => ?_, fun h => ?_⟩
      · by_cases e : k = col
        · rw [e]; exact hp
        · exact b k (by omega) (by omega)
      · have := c (by omega)
        have e : col + 1 + (lenWhile p row n (col + 1) : Int) = col + ((lenWhile p row n (col + 1) + 1 : Nat) : Int) := by omega
        rw [e] at this; exact this
    · rename_i hp
      exact ⟨Nat.zero_le _, fun k x y => by simp at y; omega, fun _ => by simpa using hp⟩

theorem maskedLen_eq (row : Row) : ∀ (n : Nat) (col : Int),
    maskedLen row n col = lenWhile (fun c => c.maskdepth > -1) row n col := by
  intro n; induction n with
  | zero => intro _; rfl
  | succ n ih => intro col; unfold maskedLen lenWhile; rw [ih]

theorem unmaskedLen_eq (row : Row) : ∀ (n : Nat) (col : Int),
    unmaskedLen row n col = lenWhile (fun c => c.maskdepth = -1) row n col := by
  intro n; induction n with
  | zero => intro _; rfl
  | succ n ih => intro col; unfold unmaskedLen lenWhile; rw [ih]

theorem maskedLen_spec (row : Row) (n : Nat) (col : Int) :
    maskedLen row n col ≤ n ∧ (∀ k, col ≤ k → k < col + maskedLen row n col → (row.get k).maskdepth > -1) ∧
    (maskedLen row n col < n → ¬ (row.get (col + maskedLen row n col)).maskdepth > -1) := by
  rw [maskedLen_eq]; exact lenWhile_spec _ row n col

theorem unmaskedLen_spec (row : Row) (n : Nat) (col : Int) :
    unmaskedLen row n col ≤ n ∧ (∀ k, col ≤ k → k < col + unmaskedLen row n col → (row.get k).maskdepth = -1) ∧
    (unmaskedLen row n col < n → ¬ (row.get (col + unmaskedLen row n col)).maskdepth = -1) := by
  rw [unmaskedLen_eq]; exact lenWhile_spec _ row n col

theorem unmaskedLen_stop (row : Row) : ∀ (n : Nat) (col : Int), unmaskedLen row n col < n →
    ¬ (row.get (col + unmaskedLen row n col)).maskdepth = -1 :=
  fun n col => (unmaskedLen_spec row n col).2.2

/-- What the assignments after `make_span` must guarantee (`fc x` is the content shown `x` columns after the
    position the operation was asked to start at). -/
structure FillSpec (fill : Cell → Int → Cell) (fc : Int → Content) : Prop where
  state : ∀ c sc, (fill c sc).state.isSTE = true
  cols : ∀ c sc, (fill c sc).cols = c.cols
  md : ∀ c sc, (fill c sc).maskdepth = c.maskdepth
  content : ∀ c sc off, cellContent (fill c sc) off = fc (sc + off)

theorem splitAfterAborts_false {n : Int} {row : Row} (h : RowWF n row) (e : Int) (he0 : 0 ≤ e) :
    splitAfterAborts n row e = false := by
  unfold splitAfterAborts
  split
  · rename_i x
    have := h.start_isSTE _ he0 x.1 x.2
    cases hs : (row.get (row.get e).cols).state <;> simp_all [CState.isSTE]
  · rfl

theorem makeSpanAborts_false {n : Int} {row : Row} {col cols : Int} (h : RowWF n row) (h0 : 0 ≤ col) (hc : 0 < cols)
    (he : col + cols ≤ n) : makeSpanAborts n row col cols = false := by
  unfold makeSpanAborts
  rw [splitAfterAborts_false h _ (by omega), Bool.false_or]
  unfold shortenBeforeAborts
  rw [splitAfter_get_lt _ _ _ _ (by omega : col < col + cols)]
  split
  · rename_i x
    have lo := h.cont_lo col h0 (by omega) x
    rw [splitAfter_get_lt _ _ _ _ (by omega : (row.get col).cols < col + cols)]
    have := h.start_isSTE _ h0 (by omega) x
    cases hs : (row.get (row.get col).cols).state <;> simp_all [CState.isSTE]
  · rfl

theorem isSTE_not {s : CState} (h : s.isSTE = true) : s ≠ .cont ∧ s ≠ .line ∧ s ≠ .char := by
  cases s <;> simp [CState.isSTE] at h ⊢

/-- What a primitive did to line `line` when asked for the columns `[col, col + cols)` of it: those of them that are not
    masked show `fc` (column `k` shows `fc (startcol + (k - col))`: `startcol` is how far into the operation's own run
    `col` lies), everything else is as before and the line keeps its run structure. -/
structure Placed (fc : Int → Content) (line : Int) (rb rb' : RB) (col cols startcol : Int) : Prop where
  aux : rb'.aux = rb.aux
  other : ∀ l, l ≠ line → rb'.cells l = rb.cells l
  wf : RowWF rb.cols (rb'.cells line)
  md : ∀ k, ((rb'.cells line).get k).maskdepth = ((rb.cells line).get k).maskdepth
  content : ∀ k, 0 ≤ k → k < rb.cols → rowContent (rb'.cells line) k =
      if col ≤ k ∧ k < col + cols ∧ ((rb.cells line).get k).maskdepth = -1 then fc (startcol + (k - col))
      else rowContent (rb.cells line) k
  aborted : rb'.aborted = rb.aborted
  fuelOut : rb'.fuelOut = rb.fuelOut

/-- `Placed`, and the run starts outside the stretch are still run starts (what a scan over the line relies on). -/
structure PlacedH (fc : Int → Content) (line : Int) (rb rb' : RB) (col cols startcol : Int) : Prop
    extends Placed fc line rb rb' col cols startcol where
  heads : ∀ k, ¬ (col ≤ k ∧ k < col + cols) → ((rb.cells line).get k).state ≠ .cont →
    ((rb'.cells line).get k).state ≠ .cont

theorem PlacedH.masked {fc : Int → Content} {line : Int} {rb : RB} {col cols sc : Int}
    (hwf : RowWF rb.cols (rb.cells line))
    (hno : ∀ k, col ≤ k → k < col + cols → ((rb.cells line).get k).maskdepth ≠ -1) : PlacedH fc line rb rb col cols sc :=
  ⟨⟨rfl, fun _ _ => rfl, hwf, fun _ => rfl, fun k _ _ => by rw [if_neg (fun x => hno k x.1 x.2.1 x.2.2)], rfl, rfl⟩,
   fun _ _ h => h⟩

theorem PlacedH.append {fc : Int → Content} {line : Int} {rb rb1 rb2 : RB} {col n1 sc c2 n2 s2 n : Int}
    (p1 : PlacedH fc line rb rb1 col n1 sc) (p2 : PlacedH fc line rb1 rb2 c2 n2 s2) (hc : c2 = col + n1) (hs : s2 = sc + n1)
    (hn : n = n1 + n2) (h1 : 0 ≤ n1) (h2 : 0 ≤ n2) : PlacedH fc line rb rb2 col n sc := by
  subst hc hs hn
  have ec : rb1.cols = rb.cols := congrArg Aux.cols p1.aux
  refine ⟨⟨p2.aux.trans p1.aux, fun l hl => (p2.other l hl).trans (p1.other l hl), ec ▸ p2.wf,
    fun k => (p2.md k).trans (p1.md k), fun k a b => ?_, p2.aborted.trans p1.aborted, p2.fuelOut.trans p1.fuelOut⟩,
    fun k hk hh => p2.heads k (by omega) (p1.heads k (by omega) hh)⟩
  rw [p2.content k a (ec ▸ b), p1.md k, p1.content k a b]
  by_cases m : ((rb.cells line).get k).maskdepth = -1
  · by_cases x : col + n1 ≤ k ∧ k < col + n1 + n2
    · rw [if_pos ⟨x.1, x.2, m⟩, if_pos ⟨by omega, by omega, m⟩]; congr 1; omega
    · rw [if_neg (fun y => x ⟨y.1, y.2.1⟩)]
      by_cases y : col ≤ k ∧ k < col + n1
      · rw [if_pos ⟨y.1, y.2, m⟩, if_pos ⟨y.1, by omega, m⟩]
      · rw [if_neg (fun z => y ⟨z.1, z.2.1⟩), if_neg (fun z => by omega)]
  · rw [if_neg (fun y => m y.2.2), if_neg (fun y => m y.2.2), if_neg (fun y => m y.2.2)]

theorem span_cells (rb : RB) (line c u : Int) (f : Cell → Cell) :
    ((makeSpan rb line c u).updCell line c f).cells line =
      spanRow rb.cols (rb.cells line) c u (f ((makeSpanRow rb.cols (rb.cells line) c u).get c)) := by
  show (if line = line then _ else _) = _
  rw [if_pos rfl]
  show rowSet (if line = line then _ else _) _ _ = _
  rw [if_pos rfl]
  unfold spanRow RB.cell
  show rowSet _ _ (f ((if line = line then _ else _ : Row).get _)) = _
  rw [if_pos rfl]

theorem span_placed {fc : Int → Content} {rb : RB} {line c u sc : Int} (hrow : RowWF rb.cols (rb.cells line))
    (h0 : 0 ≤ c) (hu : 0 < u) (he : c + u ≤ rb.cols)
    (hun : ∀ k, c ≤ k → k < c + u → ((rb.cells line).get k).maskdepth = -1)
    (f : Cell → Cell) (hf1 : ∀ x, (f x).state ≠ .cont) (hf2 : ∀ x, x.cols = u → (f x).cols = u)
    (hf3 : ∀ x, (f x).maskdepth = x.maskdepth) (hf4 : ∀ x, ((f x).state = .line ∨ (f x).state = .char) → u = 1)
    (hfc : ∀ off, 0 ≤ off → off < u → cellContent (f ((makeSpanRow rb.cols (rb.cells line) c u).get c)) off = fc (sc + off)) :
    PlacedH fc line rb ((makeSpan rb line c u).updCell line c f) c u sc := by
  have hrow1 := span_cells rb line c u f
  have hhead : (makeSpanRow rb.cols (rb.cells line) c u).get c =
      spanHead ((shortenBefore (splitAfter rb.cols (rb.cells line) (c + u)) c).get c) c u := by
    rw [makeSpanRow_get _ _ _ _ _ hu, if_pos rfl]
  refine ⟨⟨rfl, fun l hl => ?_, ?_, fun k => ?_, fun k a b => ?_, ?_, rfl⟩,
    fun k hk hh => by rw [hrow1]; exact spanRow_head_stays _ _ _ hu hk hh⟩
  · show (if l = line then _ else (if l = line then _ else _)) = _
    rw [if_neg hl, if_neg hl]
  · rw [hrow1]
    exact spanRow_wf _ hrow h0 hu he (hf1 _) (hf2 _ (by rw [hhead, spanHead_cols])) (hf4 _)
  · rw [hrow1]
    by_cases x : k = c
    · rw [x, spanRow_col, hf3, hhead, spanHead_maskdepth, hun c (Int.le_refl _) (by omega)]
    · rw [spanRow_maskdepth _ hu x]
      split
      · rename_i y; rw [hun k y.1 y.2]
      · rfl
  · rw [hrow1, spanRow_content _ hrow h0 hu he (hf1 _) k a b]
    by_cases x : c ≤ k ∧ k < c + u
    · rw [if_pos x, if_pos ⟨x.1, x.2, hun k x.1 x.2⟩, hfc _ (by omega) (by omega)]
    · rw [if_neg x, if_neg (fun y => x ⟨y.1, y.2.1⟩)]
  · show (rb.aborted || makeSpanAborts rb.cols (rb.cells line) c u) = rb.aborted
    rw [makeSpanAborts_false hrow h0 hu he, Bool.or_false]

theorem placeRuns_neg (fill : Cell → Int → Cell) (line : Int) (fuel : Nat) (rb : RB) (col cols sc : Int)
    (h : cols < 0) : placeRuns fill line (fuel + 1) rb col cols sc = rb := by
  unfold placeRuns
  have h0 : ¬ cols = 0 := by omega
  have ht : cols.toNat = 0 := by omega
  simp only [h0, if_false, ht, maskedLen, Int.natCast_zero, Int.sub_zero, Int.add_zero, unmaskedLen, if_true]

/-- Mask depths need a lower bound only inside the line; a run of negative length (a clip of negative width) draws nothing. -/
theorem placeRuns_spec {fill : Cell → Int → Cell} {fc : Int → Content} (hf : FillSpec fill fc) (line : Int) :
    ∀ (fuel : Nat) (rb : RB) (col cols startcol : Int),
      RowWF rb.cols (rb.cells line) → (∀ k, 0 ≤ k → k < rb.cols → -1 ≤ ((rb.cells line).get k).maskdepth) →
      0 ≤ col → col + cols ≤ rb.cols → cols.toNat < fuel →
      PlacedH fc line rb (placeRuns fill line fuel rb col cols startcol) col cols startcol := by
  intro fuel
  induction fuel with
  | zero => intro rb col cols startcol _ _ _ _ h2; omega
  | succ fuel ih =>
    intro rb col cols startcol hwf hlb h0 he hfuel
    by_cases hneg : cols < 0
    · rw [placeRuns_neg _ _ _ _ _ _ _ hneg]; exact PlacedH.masked hwf (fun k a b => by omega)
    unfold placeRuns
    by_cases hz : cols = 0
    · rw [if_pos hz]; exact PlacedH.masked hwf (fun k a b => by omega)
    · rw [if_neg hz]
      simp only
      -- the masked prefix `[col, col + m)`, then the unmasked stretch `[col + m, col + m + u)`
      obtain ⟨mle, masked, mstop⟩ := maskedLen_spec (rb.cells line) cols.toNat col
      generalize maskedLen (rb.cells line) cols.toNat col = m at mle masked mstop
      have hm : (m : Int) ≤ cols := by omega
      have pre : PlacedH fc line rb rb col m startcol :=
        PlacedH.masked hwf (fun k a b => Int.ne_of_gt (masked k a b))
      by_cases hz2 : cols - (m : Int) = 0
      · rw [if_pos hz2]
        have e : cols = m := by omega
        rw [e]; exact pre
      · rw [if_neg hz2]
        obtain ⟨ule, unmasked, ustop⟩ := unmaskedLen_spec (rb.cells line) (cols - (m : Int)).toNat (col + m)
        generalize unmaskedLen (rb.cells line) (cols - (m : Int)).toNat (col + m) = u at ule unmasked ustop
        -- the cell at `col + m` stopped the first loop, so it is unmasked and the stretch is not empty
        have upos : (0 : Int) < u := by
          apply Int.not_le.1; intro hu0
          have hu' : u = 0 := by omega
          subst hu'
          have s1 := mstop (by omega)
          have s2 := ustop (by omega)
          have := hlb (col + m) (by omega) (by omega)
          simp only [Int.natCast_zero, Int.add_zero] at s2
          omega
        have hu : (u : Int) ≤ cols - m := by omega
        clear mle mstop ule ustop
        rw [if_neg (Int.ne_of_gt upos)]
        have sty := fun x => isSTE_not (hf.state x (startcol + m))
        have one := span_placed (fc := fc) (sc := startcol + m) hwf (by omega : 0 ≤ col + (m : Int)) upos
          (by omega) unmasked (fun x => fill x (startcol + m)) (fun x => (sty x).1)
          (fun x hx => by rw [hf.cols, hx]) (fun x => hf.md x _)
          (fun x hx => hx.elim (fun y => absurd y (sty x).2.1) (fun y => absurd y (sty x).2.2))
          (fun off _ _ => hf.content _ _ off)
        have rest := ih _ (col + m + u) (cols - m - u) (startcol + m + u) one.wf
          (fun k a b => by rw [one.md]; exact hlb k a b) (by omega) (by show _ ≤ rb.cols; omega) (by omega)
        exact (pre.append one rfl rfl rfl (Int.natCast_nonneg m) (Int.natCast_nonneg u)).append rest
          (Int.add_assoc _ _ _) (Int.add_assoc _ _ _) (by omega) (by omega) (by omega)

/-- `lines = 0`: the empty rectangle `clip` stores when nothing is left. -/
def ClipOK (lines cols : Int) (r : Rect) : Prop :=
  r.lines = 0 ∨ (0 ≤ r.top ∧ r.bottom ≤ lines ∧ 0 ≤ r.left ∧ r.right ≤ cols ∧ 0 < r.lines ∧ 0 < r.cols)

/-- The invariant of `struct TickitRenderBuffer`: runs tile every line, mask depths lie in `[-1, depth]`, `depth`
    counts the stack, every clip (current and saved) is empty or inside the buffer, and no `abort()` was reached. -/
structure WF (rb : RB) : Prop where
  size : 0 ≤ rb.lines ∧ 0 < rb.cols
  rows : ∀ l, 0 ≤ l → l < rb.lines → RowWF rb.cols (rb.cells l)
  maskLB : ∀ l c, -1 ≤ (rb.cell l c).maskdepth
  maskUB : ∀ l c, 0 ≤ l → l < rb.lines → 0 ≤ c → c < rb.cols → (rb.cell l c).maskdepth ≤ rb.depth
  depth : rb.depth = rb.stack.length
  clip : ClipOK rb.lines rb.cols rb.clip
  frames : ∀ f, f ∈ rb.stack → f.penOnly = false → ClipOK rb.lines rb.cols f.clip
  aborted : rb.aborted = false
  fuelOut : rb.fuelOut = false

/-- What the drawing primitives rely on: part of `WF`, and of C13's `RBCopy.WF` (which has, besides, the upper bound of
    the mask depths). -/
structure RunsOK (rb : RB) : Prop where
  rows : ∀ l, 0 ≤ l → l < rb.lines → RowWF rb.cols (rb.cells l)
  maskLB : ∀ l c, 0 ≤ l → l < rb.lines → 0 ≤ c → c < rb.cols → -1 ≤ (rb.cell l c).maskdepth
  clip : rb.clip.lines = 0 ∨ (0 ≤ rb.clip.top ∧ rb.clip.top + rb.clip.lines ≤ rb.lines ∧ 0 ≤ rb.clip.left ∧
    rb.clip.left + rb.clip.cols ≤ rb.cols)

theorem WF.runsOK {rb : RB} (wf : WF rb) : RunsOK rb := by
  refine ⟨wf.rows, fun l c _ _ _ _ => wf.maskLB l c, ?_⟩
  rcases wf.clip with h | h
  · exact Or.inl h
  · unfold Rect.bottom Rect.right at h; exact Or.inr ⟨h.1, h.2.1, h.2.2.1, h.2.2.2.1⟩

theorem absClipRect_iff (r : Rect) (L C : Int) : absClipRect r L C = true ↔ (r.lines ≠ 0 ∧ r.Mem L C) := by
  unfold absClipRect
  rw [Bool.and_eq_true, decide_eq_true_eq, Rect.memb_iff]

theorem xlateAndClip_cases (rb : RB) (line col cols : Int) :
    (xlateAndClip rb line col cols = none ∧
      ∀ C, ¬ (col + rb.xlCol ≤ C ∧ C < col + rb.xlCol + cols ∧ absClipRect rb.clip (line + rb.xlLine) C = true)) ∨
    (∃ r, xlateAndClip rb line col cols = some r ∧ r.line = line + rb.xlLine ∧ r.startcol = r.col - (col + rb.xlCol) ∧
      ((cols = 1 → r.cols = 1) ∧ rb.clip.top ≤ r.line ∧ r.line < rb.clip.top + rb.clip.lines ∧
        rb.clip.left ≤ r.col ∧ r.col + r.cols ≤ rb.clip.left + rb.clip.cols) ∧
      ∀ C, (r.col ≤ C ∧ C < r.col + r.cols) ↔
        (col + rb.xlCol ≤ C ∧ C < col + rb.xlCol + cols ∧ absClipRect rb.clip r.line C = true)) := by
  unfold xlateAndClip
  simp only [absClipRect_iff, Rect.Mem]
  unfold Rect.bottom Rect.right
  by_cases h1 : rb.clip.lines = 0
  · rw [if_pos h1]; exact Or.inl ⟨rfl, fun C => by omega⟩
  · rw [if_neg h1]
    by_cases h2 : line + rb.xlLine < rb.clip.top ∨ line + rb.xlLine ≥ rb.clip.top + rb.clip.lines ∨
        col + rb.xlCol ≥ rb.clip.left + rb.clip.cols
    · rw [if_pos h2]; exact Or.inl ⟨rfl, fun C => by omega⟩
    · rw [if_neg h2]
      -- the run begins left of the clip or inside it; it ends inside it or right of it
      by_cases h3 : col + rb.xlCol < rb.clip.left
      · simp only [h3, if_true]
        by_cases h4 : cols - (rb.clip.left - (col + rb.xlCol)) ≤ 0
        · rw [if_pos h4]; exact Or.inl ⟨rfl, fun C => by omega⟩
        · rw [if_neg h4]
          refine Or.inr ⟨_, rfl, rfl, rfl, ?_⟩
          by_cases h5 : cols - (rb.clip.left - (col + rb.xlCol)) > rb.clip.left + rb.clip.cols - rb.clip.left
          · simp only [h5, if_true]; exact ⟨by omega, fun C => by omega⟩
          · simp only [h5, if_false]; exact ⟨by omega, fun C => by omega⟩
      · simp only [h3, if_false]
        by_cases h4 : cols ≤ 0
        · rw [if_pos h4]; exact Or.inl ⟨rfl, fun C => by omega⟩
        · rw [if_neg h4]
          refine Or.inr ⟨_, rfl, rfl, (Int.sub_self _).symm, ?_⟩
          by_cases h5 : cols > rb.clip.left + rb.clip.cols - (col + rb.xlCol)
          · simp only [h5, if_true]; exact ⟨by omega, fun C => by omega⟩
          · simp only [h5, if_false]; exact ⟨by omega, fun C => by omega⟩

theorem xlateAndClip_some {rb : RB} (t : RunsOK rb) {line col cols : Int} {r : Clipped}
    (h : xlateAndClip rb line col cols = some r) :
    r.line = line + rb.xlLine ∧ 0 ≤ r.line ∧ r.line < rb.lines ∧ 0 ≤ r.col ∧ r.col + r.cols ≤ rb.cols ∧
    r.startcol = r.col - (col + rb.xlCol) ∧
    (∀ C, (r.col ≤ C ∧ C < r.col + r.cols) ↔
      (col + rb.xlCol ≤ C ∧ C < col + rb.xlCol + cols ∧ absClipRect rb.clip r.line C = true)) := by
  rcases xlateAndClip_cases rb line col cols with ⟨x, _⟩ | ⟨r', x, a, s, b, c⟩
  · rw [x] at h; cases h
  · rw [x] at h; cases h
    have := t.clip.resolve_left (by omega)
    exact ⟨a, by omega, by omega, by omega, by omega, s, c⟩

theorem xlateAndClip_none {rb : RB} {line col cols : Int} (h : xlateAndClip rb line col cols = none) (C : Int) :
    ¬ (col + rb.xlCol ≤ C ∧ C < col + rb.xlCol + cols ∧ absClipRect rb.clip (line + rb.xlLine) C = true) := by
  rcases xlateAndClip_cases rb line col cols with ⟨_, a⟩ | ⟨r', x, _⟩
  · exact a C
  · rw [x] at h; cases h

/-- The common shape of `skip`, `erase` and `put_string` (after the width count): `skipRun`, `eraseRun`, `putStringCols`
    and C13's `putStringSlice` are instances by `rfl`. -/
def runOp (fill : Cell → Int → Cell) (sc : Clipped → Int) (rb : RB) (line col cols : Int) : RB :=
  match xlateAndClip rb line col cols with
  | none => rb
  | some r => placeRuns fill r.line (r.cols.toNat + 1) rb r.col r.cols (sc r)

theorem fillSkip_spec : FillSpec fillSkip (fun _ => .skip) :=
  ⟨fun _ _ => rfl, fun _ _ => rfl, fun _ _ => rfl, fun _ _ _ => rfl⟩
theorem fillErase_spec (pen : Pen) : FillSpec (fillErase pen) (fun _ => .erase pen) :=
  ⟨fun _ _ => rfl, fun _ _ => rfl, fun _ _ => rfl, fun _ _ _ => rfl⟩
theorem fillText_spec (pen : Pen) (s : List UInt8) : FillSpec (fillText pen s) (fun x => .text pen s x) :=
  ⟨fun _ _ => rfl, fun _ _ => rfl, fun _ _ => rfl, fun _ _ _ => rfl⟩

theorem inBuf_iff (lines cols L C : Int) : inBuf lines cols L C = true ↔ (0 ≤ L ∧ L < lines ∧ 0 ≤ C ∧ C < cols) := by
  unfold inBuf; simp only [Bool.and_eq_true, decide_eq_true_eq, and_assoc]

theorem absContent_run {rb : RB} (t : RunsOK rb) {L sc off : Int} (hL0 : 0 ≤ L) (hL : L < rb.lines) (h0 : 0 ≤ sc)
    (hn : sc < rb.cols) (hs : ((rb.cells L).get sc).state ≠ .cont) (ho0 : 0 ≤ off)
    (ho : off < ((rb.cells L).get sc).cols) :
    absContent rb L (sc + off) = cellContent ((rb.cells L).get sc) off := by
  have hrow := t.rows L hL0 hL
  have := hrow.start_len sc h0 hn hs
  rw [absContent_eq, if_pos ((inBuf_iff _ _ _ _).2 ⟨hL0, hL, by omega, by omega⟩),
    hrow.seg.run_content h0 hn hs (by omega) (by omega)]
  congr 1; omega

theorem absMaskedAt_congr {rb rb' : RB} (h1 : rb'.lines = rb.lines) (h2 : rb'.cols = rb.cols)
    (hmd : ∀ L C, (rb'.cell L C).maskdepth = (rb.cell L C).maskdepth) (d L C : Int) :
    absMaskedAt rb' d L C = absMaskedAt rb d L C := by
  unfold absMaskedAt absMasked; rw [h1, h2, hmd]

theorem absMasked_congr {rb rb' : RB} (h1 : rb'.lines = rb.lines) (h2 : rb'.cols = rb.cols)
    (hmd : ∀ L C, (rb'.cell L C).maskdepth = (rb.cell L C).maskdepth) (L C : Int) :
    absMasked rb' L C = absMasked rb L C := by
  unfold absMasked; rw [h1, h2, hmd]

/-- `d` is `B` redrawn on the region `cov` (buffer coordinates): the cells of `cov` that the clip and the masks of `B`
    allow show `g`, every other cell shows what it showed; no run start outside `cov` became a CONT cell; registers, mask
    depths and flags are those of `B`. -/
structure Painted (B d : RB) (cov : Int → Int → Prop) (g : Int → Int → Content) : Prop where
  aux : d.aux = B.aux
  runsOK : RunsOK d
  md : ∀ L C, (d.cell L C).maskdepth = (B.cell L C).maskdepth
  inside : ∀ L C, cov L C → absClipRect B.clip L C = true → absMasked B L C = false → absContent d L C = g L C
  outside : ∀ L C, ¬ (cov L C ∧ absClipRect B.clip L C = true ∧ absMasked B L C = false) →
    absContent d L C = absContent B L C
  heads : ∀ l c, ¬ cov l c → ((B.cells l).get c).state ≠ .cont → ((d.cells l).get c).state ≠ .cont
  aborted : d.aborted = B.aborted
  fuelOut : d.fuelOut = B.fuelOut

section painted
variable {B d d' : RB} {cov cov' : Int → Int → Prop} {g g' : Int → Int → Content}

theorem Painted.content [∀ L C, Decidable (cov L C)] (h : Painted B d cov g) (L C : Int) :
    absContent d L C =
      if cov L C ∧ absClipRect B.clip L C = true ∧ absMasked B L C = false then g L C else absContent B L C := by
  split
  · rename_i p; exact h.inside L C p.1 p.2.1 p.2.2
  · rename_i p; exact h.outside L C p

theorem Painted.of_content [∀ L C, Decidable (cov L C)] (aux : d.aux = B.aux) (runsOK : RunsOK d)
    (md : ∀ L C, (d.cell L C).maskdepth = (B.cell L C).maskdepth)
    (content : ∀ L C, absContent d L C =
      if cov L C ∧ absClipRect B.clip L C = true ∧ absMasked B L C = false then g L C else absContent B L C)
    (heads : ∀ l c, ¬ cov l c → ((B.cells l).get c).state ≠ .cont → ((d.cells l).get c).state ≠ .cont)
    (aborted : d.aborted = B.aborted) (fuelOut : d.fuelOut = B.fuelOut) : Painted B d cov g :=
  ⟨aux, runsOK, md, fun L C a b c => (content L C).trans (if_pos ⟨a, b, c⟩), fun L C a => (content L C).trans (if_neg a),
    heads, aborted, fuelOut⟩

theorem Painted.refl (t : RunsOK B) (g : Int → Int → Content) : Painted B B (fun _ _ => False) g :=
  ⟨rfl, t, fun _ _ => rfl, fun _ _ h => h.elim, fun _ _ _ => rfl, fun _ _ _ h => h, rfl, rfl⟩

theorem Painted.congr (h : Painted B d cov g) (hc : ∀ L C, cov' L C ↔ cov L C) : Painted B d cov' g :=
  ⟨h.aux, h.runsOK, h.md, fun L C a => h.inside L C ((hc L C).1 a),
   fun L C a => h.outside L C (fun b => a ⟨(hc L C).2 b.1, b.2⟩), fun l c a => h.heads l c (fun b => a ((hc l c).2 b)),
   h.aborted, h.fuelOut⟩

theorem Painted.writable (h : Painted B d cov g) (L C : Int) :
    absClipRect d.clip L C = absClipRect B.clip L C ∧ absMasked d L C = absMasked B L C :=
  ⟨by rw [show d.clip = B.clip from congrArg Aux.clip h.aux],
    absMasked_congr (congrArg Aux.lines h.aux) (congrArg Aux.cols h.aux) h.md L C⟩

/-- Drawing on a second region what the first drawing would have shown there. -/
theorem Painted.step (h : Painted B d cov g) (h' : Painted d d' cov' g')
    (hg : ∀ L C, cov' L C → absClipRect B.clip L C = true → absMasked B L C = false → g' L C = g L C) :
    Painted B d' (fun L C => cov L C ∨ cov' L C) g := by
  refine ⟨h'.aux.trans h.aux, h'.runsOK, fun L C => (h'.md L C).trans (h.md L C), fun L C a b c => ?_, fun L C a => ?_,
    fun l c a x => h'.heads l c (fun y => a (Or.inr y)) (h.heads l c (fun y => a (Or.inl y)) x),
    h'.aborted.trans h.aborted, h'.fuelOut.trans h.fuelOut⟩
  · have w := h.writable L C
    by_cases x : cov' L C
    · rw [h'.inside L C x (w.1.trans b) (w.2.trans c), hg L C x b c]
    · rw [h'.outside L C (fun y => x y.1)]
      exact h.inside L C (a.resolve_right x) b c
  · have w := h.writable L C
    rw [h'.outside L C (fun y => a ⟨Or.inr y.1, w.1.symm.trans y.2.1, w.2.symm.trans y.2.2⟩),
      h.outside L C (fun y => a ⟨Or.inl y.1, y.2⟩)]

theorem Painted.wf (D : Painted B d cov g) (wf : WF B) : WF d := by
  have haux := D.aux
  unfold RB.aux at haux
  injection haux with e1 e2 _ _ _ _ _ e5 _ e3 e4
  refine ⟨?_, D.runsOK.rows, ?_, ?_, ?_, ?_, ?_, ?_, ?_⟩
  · rw [e1, e2]; exact wf.size
  · intro l c; rw [D.md]; exact wf.maskLB l c
  · intro l c a b x y; rw [D.md, e3]; exact wf.maskUB l c a (by omega) x (by omega)
  · rw [e3, e4]; exact wf.depth
  · rw [e1, e2, e5]; exact wf.clip
  · rw [e1, e2, e4]; exact wf.frames
  · rw [D.aborted]; exact wf.aborted
  · rw [D.fuelOut]; exact wf.fuelOut

end painted

/-- What a primitive drew, at the position it was asked for (user coordinates `line`, `col`): `Painted` on a stretch of one
    line. -/
abbrev Drew (rb rb' : RB) (line col cols : Int) (g : Int → Content) : Prop :=
  Painted rb rb' (fun L C => L = line + rb.xlLine ∧ col + rb.xlCol ≤ C ∧ C < col + rb.xlCol + cols) (fun _ C => g C)

theorem Drew.refl {rb : RB} (t : RunsOK rb) {line col cols : Int} {g : Int → Content}
    (h : ∀ C, ¬ (col + rb.xlCol ≤ C ∧ C < col + rb.xlCol + cols ∧ absClipRect rb.clip (line + rb.xlLine) C = true ∧
      absMasked rb (line + rb.xlLine) C = false)) : Drew rb rb line col cols g :=
  ⟨rfl, t, fun _ _ => rfl, fun L C a b c => absurd ⟨a.2.1, a.2.2, a.1 ▸ b, a.1 ▸ c⟩ (h C), fun _ _ _ => rfl, fun _ _ _ h => h,
    rfl, rfl⟩

theorem Drew.of_none {rb : RB} (t : RunsOK rb) {line col cols : Int} (hx : xlateAndClip rb line col cols = none)
    (g : Int → Content) : Drew rb rb line col cols g :=
  Drew.refl t fun C y => xlateAndClip_none hx C ⟨y.1, y.2.1, y.2.2.1⟩

/-- A placement at the clipped position is the primitive's effect at the requested position. -/
theorem PlacedH.drew {fc : Int → Content} {rb rb' : RB} (t : RunsOK rb) {line col cols : Int} {r : Clipped}
    (hx : xlateAndClip rb line col cols = some r) {sc : Int} (P : PlacedH fc r.line rb rb' r.col r.cols sc)
    (g : Int → Content) (hg : ∀ C, r.col ≤ C → C < r.col + r.cols → fc (sc + (C - r.col)) = g C) :
    Drew rb rb' line col cols g := by
  obtain ⟨r1, r2, r3, r4, r6, -, r8⟩ := xlateAndClip_some t hx
  have e1 : rb'.lines = rb.lines := congrArg Aux.lines P.aux
  have e2 : rb'.cols = rb.cols := congrArg Aux.cols P.aux
  have e4 : rb'.clip = rb.clip := congrArg Aux.clip P.aux
  have hmd : ∀ L C, (rb'.cell L C).maskdepth = (rb.cell L C).maskdepth := by
    intro L C
    unfold RB.cell
    by_cases hl : L = r.line
    · rw [hl]; exact P.md C
    · rw [P.other L hl]
  have hm : ∀ C, 0 ≤ C → C < rb.cols → (absMasked rb r.line C = false ↔ (rb.cell r.line C).maskdepth = -1) := by
    intro C a b
    have := t.maskLB r.line C r2 r3 a b
    unfold absMasked
    rw [(inBuf_iff _ _ _ _).2 ⟨r2, r3, a, b⟩, Bool.true_and, decide_eq_false_iff_not]
    omega
  refine .of_content P.aux ⟨fun l a b => ?_, fun l c a b x y => ?_, ?_⟩ hmd (fun L C => ?_) (fun l c ho hh => ?_) P.aborted P.fuelOut
  · rw [e2]
    by_cases hl : l = r.line
    · rw [hl]; exact P.wf
    · rw [P.other l hl]; exact t.rows l a (e1 ▸ b)
  · rw [hmd]; exact t.maskLB l c a (e1 ▸ b) x (e2 ▸ y)
  · rw [e4, e1, e2]; exact t.clip
  · rw [absContent_eq, absContent_eq, e1, e2]
    by_cases hl : L = r.line
    · subst hl
      by_cases hb : inBuf rb.lines rb.cols r.line C = true
      · have hb' := (inBuf_iff _ _ _ _).1 hb
        rw [if_pos hb, if_pos hb, P.content C hb'.2.2.1 hb'.2.2.2, ← r1]
        by_cases p : r.col ≤ C ∧ C < r.col + r.cols ∧ ((rb.cells r.line).get C).maskdepth = -1
        · have h8 := (r8 C).1 ⟨p.1, p.2.1⟩
          rw [if_pos p, if_pos ⟨⟨rfl, h8.1, h8.2.1⟩, h8.2.2, (hm C hb'.2.2.1 hb'.2.2.2).2 p.2.2⟩]
          exact hg C p.1 p.2.1
        · rw [if_neg p, if_neg]
          intro y
          have h8 := (r8 C).2 ⟨y.1.2.1, y.1.2.2, y.2.1⟩
          exact p ⟨h8.1, h8.2, (hm C hb'.2.2.1 hb'.2.2.2).1 y.2.2⟩
      · rw [if_neg hb, if_neg hb, if_neg]
        intro y
        have h8 := (r8 C).2 ⟨y.1.2.1, y.1.2.2, r1 ▸ y.2.1⟩
        apply hb; rw [inBuf_iff]; omega
    · rw [P.other L hl]; exact (if_neg (fun y => hl (y.1.1.trans r1.symm))).symm
  · by_cases hl : l = r.line
    · rw [hl] at hh ⊢
      exact P.heads c (fun y => ho ⟨hl.trans r1, ((r8 c).1 y).1, ((r8 c).1 y).2.1⟩) hh
    · rw [P.other l hl]; exact hh

theorem runOp_drew {fill : Cell → Int → Cell} {fc : Int → Content} (hf : FillSpec fill fc) {rb : RB} (t : RunsOK rb)
    (line col cols : Int) (sc : Clipped → Int) (g : Int → Content)
    (hg : ∀ r, xlateAndClip rb line col cols = some r → ∀ C, fc (sc r + (C - r.col)) = g C) :
    Drew rb (runOp fill sc rb line col cols) line col cols g := by
  unfold runOp
  cases hx : xlateAndClip rb line col cols with
  | none => exact Drew.of_none t hx g
  | some r =>
    simp only
    obtain ⟨-, r2, r3, r4, r6, -⟩ := xlateAndClip_some t hx
    exact (placeRuns_spec hf r.line (r.cols.toNat + 1) rb r.col r.cols (sc r) (t.rows r.line r2 r3)
      (fun k => t.maskLB r.line k r2 r3) r4 r6 (Nat.lt_succ_self _)).drew t hx g (fun C _ _ => hg r hx C)

theorem cellOp_placed {rb : RB} {line col : Int} (hrow : RowWF rb.cols (rb.cells line))
    (hc0 : 0 ≤ col) (hc1 : col < rb.cols) (hun : (rb.cell line col).maskdepth = -1)
    (f : Cell → Cell) (hf1 : ∀ c, (f c).state ≠ .cont) (hf2 : ∀ c, c.cols = 1 → (f c).cols = 1)
    (hf3 : ∀ c, (f c).maskdepth = c.maskdepth) :
    PlacedH (fun _ => cellContent (f ((makeSpanRow rb.cols (rb.cells line) col 1).get col)) 0) line rb
      ((makeSpan rb line col 1).updCell line col f) col 1 0 :=
  span_placed (sc := 0) hrow hc0 (by omega) (by omega)
    (fun k a b => by have : k = col := by omega
                     rw [this]; exact hun)
    f hf1 hf2 hf3 (fun _ _ => rfl)
    (fun off a b => by have : off = 0 := by omega
                       rw [this])

theorem updAttr_placed {rb : RB} {line col : Int} (hrw : RowWF rb.cols (rb.cells line))
    (hun : (rb.cell line col).maskdepth = -1)
    (hst : (rb.cell line col).state ≠ .cont) (hone : (rb.cell line col).cols = 1)
    (g : Cell → Cell) (hg1 : ∀ c, (g c).state = c.state) (hg2 : ∀ c, (g c).cols = c.cols)
    (hg3 : ∀ c, (g c).maskdepth = c.maskdepth) :
    PlacedH (fun _ => cellContent (g (rb.cell line col)) 0) line rb (rb.updCell line col g) col 1 0 := by
  have hrow : (rb.updCell line col g).cells line = rowSet (rb.cells line) col (g (rb.cell line col)) := by
    show (if line = line then _ else _) = _; rw [if_pos rfl]
  have same : ∀ {β : Type} (p : Cell → β) (_ : ∀ c, p (g c) = p c) (k : Int),
      p ((rowSet (rb.cells line) col (g (rb.cell line col))).get k) = p ((rb.cells line).get k) := by
    intro β p hp k
    rw [rowSet_get]; split
    · rename_i x; rw [x, hp]; rfl
    · rfl
  unfold RB.cell at hst hone
  refine ⟨⟨rfl, fun l hl => ?_, ?_, fun k => ?_, fun k hk0 hk1 => ?_, rfl, rfl⟩, fun k _ hh => ?_⟩
  · show (if l = line then _ else _) = _; rw [if_neg hl]
  · rw [hrow]
    exact (hrw.seg.congr (fun k _ _ => same (·.state) hg1 k) (fun k _ _ => same (·.cols) hg2 k)).rowWF
  · rw [hrow]; exact same (·.maskdepth) hg3 k
  · rw [hrow]
    by_cases hk : k = col
    · rw [if_pos ⟨by omega, by omega, by rw [hk]; exact hun⟩]
      unfold rowContent
      rw [rowSet_get, if_pos hk, if_neg (by rw [hg1]; exact hst)]
    · rw [if_neg (fun x => hk (by omega))]
      unfold rowContent
      rw [rowSet_get, if_neg hk]
      by_cases hkc : ((rb.cells line).get k).state = .cont
      · rw [if_pos hkc, if_pos hkc, rowSet_get, if_neg]
        -- a CONT cell does not point at `col`, whose run is one column long
        intro x
        have a := hrw.cont_lo k hk0 hk1 hkc
        have b := hrw.cont_in k hk0 hk1 hkc
        rw [x] at a b; rw [hone] at b; omega
      · rw [if_neg hkc, if_neg hkc]
  · rw [hrow, same (·.state) hg1 k]; exact hh

/-- One column is not cut: it lies inside the clip or is not drawn at all. -/
theorem xlateAndClip_one {rb : RB} (t : RunsOK rb) {line col : Int} {r : Clipped}
    (h : xlateAndClip rb line col 1 = some r) :
    r.line = line + rb.xlLine ∧ r.col = col + rb.xlCol ∧ r.cols = 1 ∧ 0 ≤ r.line ∧ r.line < rb.lines ∧
    0 ≤ r.col ∧ r.col < rb.cols ∧ absClipRect rb.clip r.line r.col = true := by
  obtain ⟨r1, r2, r3, r4, r6, -, r8⟩ := xlateAndClip_some t h
  have hc1 : r.cols = 1 := by
    rcases xlateAndClip_cases rb line col 1 with ⟨x, _⟩ | ⟨r', x, -, -, ⟨o, -⟩, -⟩
    · rw [x] at h; cases h
    · rw [x] at h; cases h; exact o rfl
  have a := (r8 r.col).1 ⟨Int.le_refl _, by omega⟩
  exact ⟨r1, by omega, hc1, r2, r3, r4, by omega, a.2.2⟩

theorem absContent_cell {rb : RB} {L C : Int} (hb : inBuf rb.lines rb.cols L C = true) (hrow : RowWF rb.cols (rb.cells L)) :
    ((rb.cell L C).state = .line → absContent rb L C = .line (rb.cell L C).pen (rb.cell L C).lmask) ∧
    ((rb.cell L C).state ≠ .line → ∀ p m, absContent rb L C ≠ .line p m) := by
  have hb' := (inBuf_iff _ _ _ _).1 hb
  rw [absContent_eq, if_pos hb]
  unfold rowContent cellContent RB.cell
  constructor
  · intro h; rw [if_neg (by rw [h]; simp), h]
  · intro h p m
    by_cases hc : ((rb.cells L).get C).state = .cont
    · rw [if_pos hc]
      have := hrow.start_isSTE C hb'.2.2.1 hb'.2.2.2 hc
      cases hs : ((rb.cells L).get ((rb.cells L).get C).cols).state <;> simp_all [CState.isSTE]
    · rw [if_neg hc]
      cases hs : ((rb.cells L).get C).state <;> simp_all

theorem updCell_updCell (rb : RB) (l c : Int) (f g : Cell → Cell) :
    (rb.updCell l c f).updCell l c g = rb.updCell l c (fun x => g (f x)) := by
  unfold RB.updCell RB.setRow RB.cell rowSet
  simp only [if_true]
  congr 1
  funext l'
  split
  · congr 1; funext k; split <;> rfl
  · rfl

/-- The three cases of `linecell` on an unmasked cell inside the clip: each is one placement of `mergeLine`; the
    assignments to the cell are merged into one (`updCell_updCell`). -/
theorem linecell_placed {rb : RB} {line col : Int} (bits : Nat) (hl0 : 0 ≤ line) (hl1 : line < rb.lines) (hc0 : 0 ≤ col)
    (hc1 : col < rb.cols) (hrow : RowWF rb.cols (rb.cells line)) (hun : (rb.cell line col).maskdepth = -1) :
    PlacedH (fun _ => mergeLine rb.pen bits (absContent rb line col)) line rb
      ((if (rb.cell line col).state ≠ .line then
          (makeSpan rb line col 1).updCell line col
            (fun c => { c with state := .line, cols := 1, pen := rb.pen, lmask := 0 })
        else if !Pen.equiv (rb.cell line col).pen rb.pen then
          rb.updCell line col (fun c => { c with pen := rb.pen })
        else rb).updCell line col (fun c => { c with lmask := c.lmask ||| bits })) col 1 0 := by
  have hcell := absContent_cell ((inBuf_iff _ _ _ _).2 ⟨hl0, hl1, hc0, hc1⟩) hrow
  by_cases hst : (rb.cell line col).state ≠ .line
  · -- not a line cell: `make_span`, then a line cell with the current pen and the new bits
    rw [if_pos hst, updCell_updCell]
    have hm : mergeLine rb.pen bits (absContent rb line col) = .line rb.pen (0 ||| bits) := by
      have := hcell.2 hst
      rw [Nat.zero_or]
      unfold mergeLine
      cases hh : absContent rb line col with
      | line p m => exact absurd hh (this p m)
      | _ => rfl
    rw [hm]
    exact cellOp_placed hrow hc0 hc1 hun
      (fun x => { ({ x with state := .line, cols := 1, pen := rb.pen, lmask := 0 } : Cell) with lmask := 0 ||| bits })
      (fun _ => by simp) (fun _ _ => rfl) (fun _ => rfl)
  · have hst' : (rb.cell line col).state = .line := Classical.byContradiction hst
    have hone := hrow.one col hc0 hc1 (Or.inl hst')
    have hnc : (rb.cell line col).state ≠ .cont := by rw [hst']; exact CState.noConfusion
    rw [if_neg hst, hcell.1 hst']
    by_cases heq : (!Pen.equiv (rb.cell line col).pen rb.pen) = true
    · -- a line cell with another pen: it takes the current one
      rw [if_pos heq, updCell_updCell]
      have P := updAttr_placed hrow hun hnc hone
        (fun x => { ({ x with pen := rb.pen } : Cell) with lmask := x.lmask ||| bits }) (fun _ => rfl) (fun _ => rfl) (fun _ => rfl)
      simp only [Bool.not_eq_true'] at heq
      simp only [cellContent, hst'] at P
      simp only [mergeLine, heq, Bool.false_eq_true, if_false]
      exact P
    · rw [if_neg heq]
      have P := updAttr_placed hrow hun hnc hone
        (fun x => { x with lmask := x.lmask ||| bits }) (fun _ => rfl) (fun _ => rfl) (fun _ => rfl)
      simp only [Bool.not_eq_true', Bool.not_eq_false] at heq
      simp only [cellContent, hst'] at P
      simp only [mergeLine, heq, if_true]
      exact P

/-- The shape shared by `put_char` and `linecell`: outside the clip or on a masked cell nothing happens, else `body r` is a
    placement on the one cell. -/
theorem cell_drew {rb : RB} (t : RunsOK rb) (line col : Int) (body : Clipped → RB) (fc : Clipped → Content)
    (hbody : ∀ r, r.cols = 1 → 0 ≤ r.line → r.line < rb.lines → 0 ≤ r.col → r.col < rb.cols →
      (rb.cell r.line r.col).maskdepth = -1 → PlacedH (fun _ => fc r) r.line rb (body r) r.col 1 0)
    (g : Int → Content) (hg : ∀ r, r.line = line + rb.xlLine → fc r = g r.col) :
    Drew rb (match xlateAndClip rb line col 1 with
        | none => rb
        | some r => if (rb.cell r.line r.col).maskdepth > -1 then rb else body r) line col 1 g := by
  cases hx : xlateAndClip rb line col 1 with
  | none => exact Drew.of_none t hx g
  | some r =>
    simp only
    obtain ⟨r1, o1, o2, r4, r5, r6, r7, -⟩ := xlateAndClip_one t hx
    have hb : inBuf rb.lines rb.cols r.line r.col = true := (inBuf_iff _ _ _ _).2 ⟨r4, r5, r6, r7⟩
    by_cases hmask : (rb.cell r.line r.col).maskdepth > -1
    · rw [if_pos hmask]
      refine Drew.refl t (fun C y => ?_)
      have : C = r.col := by omega
      have hm : absMasked rb r.line r.col = true := by unfold absMasked; rw [hb, Bool.true_and, decide_eq_true hmask]
      rw [this, ← r1, hm] at y
      exact Bool.noConfusion y.2.2.2
    · rw [if_neg hmask]
      have hun : (rb.cell r.line r.col).maskdepth = -1 := by
        have := t.maskLB r.line r.col r4 r5 r6 r7; omega
      exact (o2 ▸ hbody r o2 r4 r5 r6 r7 hun).drew t hx g
        (fun C _ _ => by have : C = r.col := by omega
                         rw [this]; exact hg r r1)

theorem skipRun_drew {rb : RB} (t : RunsOK rb) (l c n : Int) : Drew rb (skipRun rb l c n) l c n (fun _ => .skip) :=
  runOp_drew fillSkip_spec t l c n (fun _ => 0) _ (fun _ _ _ => rfl)

theorem eraseRun_drew {rb : RB} (t : RunsOK rb) (l c n : Int) :
    Drew rb (eraseRun rb l c n) l c n (fun _ => .erase rb.pen) :=
  runOp_drew (fillErase_spec rb.pen) t l c n (fun _ => 0) _ (fun _ _ _ => rfl)

/-- The columns `[offs, offs + n)` of `s` (`sc` is where the clipped run starts in the string). -/
theorem textRun_drew {rb : RB} (t : RunsOK rb) (l c n : Int) (s : List UInt8) (sc : Clipped → Int) (offs : Int)
    (hsc : ∀ r, sc r = r.startcol + offs) :
    Drew rb (runOp (fillText rb.pen s) sc rb l c n) l c n (fun C => .text rb.pen s (offs + (C - (c + rb.xlCol)))) :=
  runOp_drew (fillText_spec rb.pen s) t l c n sc _ (fun r hx C => by
    obtain ⟨-, -, -, -, -, r7, -⟩ := xlateAndClip_some t hx
    show Content.text _ _ _ = Content.text _ _ _
    rw [hsc]; congr 1; omega)

theorem textAt_drew {rb : RB} (t : RunsOK rb) (l c : Int) {s : List UInt8} {n : Int} (hs : Utf8.stringColumns s = some n) :
    Drew rb (RB.textAt rb l c s) l c n (fun C => .text rb.pen s (C - (c + rb.xlCol))) := by
  have e : RB.textAt rb l c s = runOp (fillText rb.pen s) (fun r => r.startcol) rb l c n := by
    unfold RB.textAt putString; rw [hs]; rfl
  have D := textRun_drew t l c n s (fun r => r.startcol) 0 (fun _ => (Int.add_zero _).symm)
  simp only [Int.zero_add] at D
  rw [e]; exact D

theorem putChar_drew {rb : RB} (t : RunsOK rb) (l c cp : Int) :
    Drew rb (putChar rb l c cp) l c 1 (fun _ => .char rb.pen cp) := by
  unfold putChar
  refine cell_drew t l c _ (fun _ => .char rb.pen cp) (fun r r3 r4 r5 r6 r7 hun => ?_) _ (fun _ _ => rfl)
  rw [r3]
  exact cellOp_placed (t.rows _ r4 r5) r6 r7 hun
    (fun c => { c with state := .char, pen := rb.pen, cp := cp }) (fun _ => by simp) (fun _ h => h) (fun _ => rfl)

theorem linecell_drew {rb : RB} (t : RunsOK rb) (l c : Int) (bits : Nat) :
    Drew rb (linecell rb l c bits) l c 1 (fun C => mergeLine rb.pen bits (absContent rb (l + rb.xlLine) C)) := by
  unfold linecell
  refine cell_drew t l c _ (fun r => mergeLine rb.pen bits (absContent rb r.line r.col))
    (fun r r3 r4 r5 r6 r7 hun => ?_) _ (fun r r1 => by rw [r1])
  rw [r3]
  exact linecell_placed bits r4 r5 r6 r7 (t.rows _ r4 r5) hun

/-- The rectangle loops: line after line the same content on the same columns. -/
theorem forLines_painted {B : RB} (f : RB → Int → RB) (left cols : Int) (x : Content)
    (hf : ∀ d line, RunsOK d → d.aux = B.aux → Drew d (f d line) line left cols (fun _ => x)) :
    ∀ (n : Nat) (d : RB) (l : Int) (cov : Int → Int → Prop), Painted B d cov (fun _ _ => x) →
      Painted B (forLines f d l n) (fun L C => cov L C ∨
        (l + B.xlLine ≤ L ∧ L < l + B.xlLine + n ∧ left + B.xlCol ≤ C ∧ C < left + B.xlCol + cols)) (fun _ _ => x) := by
  intro n
  induction n with
  | zero => intro d l cov h; exact h.congr (fun L C => ⟨fun a => a.elim id (by omega), Or.inl⟩)
  | succ n ih =>
    intro d l cov h
    have D := hf d l h.runsOK h.aux
    unfold Drew at D
    rw [show d.xlLine = B.xlLine from congrArg Aux.xlLine h.aux, show d.xlCol = B.xlCol from congrArg Aux.xlCol h.aux] at D
    exact (ih _ (l + 1) _ (h.step D (fun _ _ _ _ _ => rfl))).congr (fun L C => by
      rw [or_assoc]; exact or_congr_right (by omega))

theorem rect_painted {B : RB} (f : RB → Int → RB) (r : Rect) (x : Content) (t : RunsOK B)
    (hf : ∀ d line, RunsOK d → d.aux = B.aux → Drew d (f d line) line r.left r.cols (fun _ => x)) :
    Painted B (forLines f B r.top (r.bottom - r.top).toNat) (fun L C => r.Mem (L - B.xlLine) (C - B.xlCol)) (fun _ _ => x) :=
  (forLines_painted f r.left r.cols x hf _ B r.top _ (Painted.refl t _)).congr (fun L C => by
    unfold Rect.Mem Rect.bottom Rect.right; rw [false_or]; omega)

theorem skiprect_painted {B : RB} (t : RunsOK B) (r : Rect) :
    Painted B (RB.skiprect B r) (fun L C => r.Mem (L - B.xlLine) (C - B.xlCol)) (fun _ _ => .skip) :=
  rect_painted _ r .skip t (fun d line td _ => skipRun_drew td line r.left r.cols)

theorem eraserect_painted {B : RB} (t : RunsOK B) (r : Rect) :
    Painted B (RB.eraserect B r) (fun L C => r.Mem (L - B.xlLine) (C - B.xlCol)) (fun _ _ => .erase B.pen) :=
  rect_painted _ r (.erase B.pen) t (fun d line td e => by
    have := eraseRun_drew td line r.left r.cols
    rwa [show d.pen = B.pen from congrArg Aux.pen e] at this)

/-- `clear` erases the lines of the buffer, as the translation in force places them. -/
theorem clear_painted {B : RB} (t : RunsOK B) :
    Painted B (RB.clear B) (fun L C => 0 ≤ L - B.xlLine ∧ L - B.xlLine < B.lines.toNat ∧ 0 ≤ C - B.xlCol ∧ C - B.xlCol < B.cols)
      (fun _ _ => .erase B.pen) :=
  (forLines_painted (fun r line => eraseRun r line 0 r.cols) 0 B.cols (.erase B.pen)
    (fun d line td e => by
      have := eraseRun_drew td line 0 d.cols
      rw [show d.pen = B.pen from congrArg Aux.pen e] at this
      exact (show d.cols = B.cols from congrArg Aux.cols e) ▸ this)
    B.lines.toNat B 0 _ (Painted.refl t _)).congr (fun L C => by rw [false_or]; omega)

end Tickit.RB
