import Tickit.Model.WinInput
/-
  A concrete history is run once, by the kernel, as one Boolean test (`decide +kernel`); these lemmas read the facts a
  statement lists off that one test: a conjunction of tests, a test of what an operation returned (in `Out`; for an
  operation in `Res` the shared `WinTree.ok_of_check` does it).
-/
namespace Tickit
namespace WinInput

theorem and_of_tests {a b : Bool} {P Q : Prop} (hp : a = true → P) (hq : b = true → Q) (h : (a && b) = true) : P ∧ Q :=
  ⟨hp (Bool.and_eq_true_iff.1 h).1, hq (Bool.and_eq_true_iff.1 h).2⟩

theorem some_of_test {α : Type} {o : Option α} {c : α → Bool} {P : α → Prop} (hc : ∀ a, c a = true → P a)
    (h : o.any c = true) : ∃ a, o = some a ∧ P a := by
  cases o with
  | none => cases h
  | some a => exact ⟨a, rfl, hc a h⟩

theorem out_of_test {α : Type} {x : Out α} {c : α → Bool} {P : α → Prop} (hc : ∀ a, c a = true → P a)
    (h : (match x with | .ok a => c a | _ => false) = true) : ∃ a, x = Out.ok a ∧ P a := by
  cases x with
  | ok a => exact ⟨a, rfl, hc a h⟩
  | ub w => cases h
  | fuel => cases h

end WinInput
end Tickit
