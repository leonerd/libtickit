import Tickit.Proof.WinChain
import Tickit.Proof.RectSetInv
/-
  The visible-region computation of `_scroll` / `_scrollrectset` as geometry: the rectangle cut to every ancestor
  (`clip_spec`), minus the visible children, then walked up to the root minus the visible siblings in front
  (`scrollWalk_region`), is the set of terminal cells at which a cell of the rectangle is exposed with nothing in front of
  the parent chain.  Whose cells those are is `own_chain` of `Proof/WinOwner.lean`, not needed here.
-/
namespace Tickit
namespace WinFlush
open WinTree WinRB WinSpec

theorem rsSub_spec (v : List Rect) (r : Rect) (v' : List Rect) (h : rsSub v r = .ok v') (hv : RectSet.Inv v) :
    RectSet.Inv v' ∧ ∀ x y, Covered v' x y ↔ (Covered v x y ∧ ¬ r.Mem x y) := by
  unfold rsSub at h
  cases hs : RectSet.subtract rsFuel v r with
  | none => rw [hs] at h; cases h
  | some s => rw [hs] at h; cases h; exact RectSet.subtract_spec' rsFuel v v' r hv hs

theorem subtractChildren_spec {t : Tree} : ∀ {cs : List Id} {v v' : List Rect}, subtractChildren t cs v = .ok v' →
    RectSet.Inv v → RectSet.Inv v' ∧ ∀ x y, Covered v' x y ↔ (Covered v x y ∧ ∀ ch ∈ cs, ¬ Claims t ch x y) := by
  intro cs
  induction cs with
  | nil =>
    intro v v' h hv
    cases h
    exact ⟨hv, fun x y => ⟨fun hc => ⟨hc, nofun⟩, fun hc => hc.1⟩⟩
  | cons c rest ih =>
    intro v v' h hv
    simp only [subtractChildren] at h
    obtain ⟨cw, hg, h⟩ := bind_ok_iff.1 h
    have hcw := get_ok hg
    have hclaim : ∀ x y, Claims t c x y ↔ (cw.isVisible = true ∧ cw.rect.Mem x y) := fun x y =>
      ⟨fun ⟨cw', hcw', hv', _, hm⟩ => by cases hcw.1.symm.trans hcw'; exact ⟨hv', (Rect.memb_iff _ _ _).1 hm⟩,
        fun hc => ⟨cw, hcw.1, hc.1, hcw.2, (Rect.memb_iff _ _ _).2 hc.2⟩⟩
    have step : ∃ v1, subtractChildren t rest v1 = .ok v' ∧ RectSet.Inv v1 ∧
        ∀ x y, Covered v1 x y ↔ (Covered v x y ∧ ¬ Claims t c x y) := by
      cases hvis : cw.isVisible with
      | false =>
        simp only [hvis, Bool.not_false, if_true] at h
        exact ⟨v, h, hv, fun x y => ⟨fun hc => ⟨hc, fun hx => by rw [hclaim, hvis] at hx; cases hx.1⟩, fun hc => hc.1⟩⟩
      | true =>
        simp only [hvis, Bool.not_true, Bool.false_eq_true, if_false] at h
        obtain ⟨v1, hs, h⟩ := bind_ok_iff.1 h
        obtain ⟨b1, b2⟩ := rsSub_spec v cw.rect v1 hs hv
        exact ⟨v1, h, b1, fun x y => by rw [b2 x y, hclaim, hvis]; exact and_congr_right fun _ => not_congr ⟨fun h => ⟨rfl, h⟩, fun h => h.2⟩⟩
    obtain ⟨v1, h1, hinv1, hcov1⟩ := step
    obtain ⟨a1, a3⟩ := ih h1 hinv1
    refine ⟨a1, fun x y => ?_⟩
    rw [a3 x y, hcov1 x y, List.forall_mem_cons, and_assoc]

/-- The sibling loop stops at `win`: it is the children loop over the windows listed before it. -/
theorem subtractSiblings_eq (t : Tree) (win : Id) (l2 : List Id) : ∀ (l1 : List Id) (v : List Rect), win ∉ l1 →
    subtractSiblings t win (l1 ++ win :: l2) v = subtractChildren t l1 v := by
  intro l1
  induction l1 with
  | nil => intro v _; simp only [List.nil_append, subtractSiblings, subtractChildren, if_true]
  | cons s rest ih =>
    intro v hn
    have hsw : s ≠ win := fun e => hn (by rw [e]; exact List.mem_cons_self)
    have ih' := fun v => ih v (fun hx => hn (List.mem_cons_of_mem _ hx))
    simp only [List.cons_append, subtractSiblings, subtractChildren, hsw, if_false, ih']

theorem subtractSiblings_spec {t : Tree} {win : Id} {cs : List Id} {v v' : List Rect}
    (h : subtractSiblings t win cs v = .ok v') (hv : RectSet.Inv v) (hm : win ∈ cs) :
    RectSet.Inv v' ∧ ∃ l1 l2, cs = l1 ++ win :: l2 ∧ win ∉ l1 ∧
      ∀ x y, Covered v' x y ↔ (Covered v x y ∧ ∀ s ∈ l1, ¬ Claims t s x y) := by
  obtain ⟨l1, l2, hsplit, hn⟩ := List.eq_append_cons_of_mem hm
  rw [hsplit, subtractSiblings_eq t win l2 l1 v hn] at h
  obtain ⟨a1, a3⟩ := subtractChildren_spec h hv
  exact ⟨a1, l1, l2, hsplit, hn, a3⟩

theorem clip_succ {t : Tree} {k : Nat} {a : Id} {aT aL : Int} {r : Rect} {res : Option Rect}
    (h : clipToAncestors t (k + 1) a aT aL r = .ok res) :
    ∃ aw, t.wins[a]? = some aw ∧
      ((aw.parent = none ∧ res = some r) ∨
       ∃ p pw, aw.parent = some p ∧ t.wins[p]? = some pw ∧
         ((Rect.intersect r ⟨-(aT + aw.rect.top), -(aL + aw.rect.left), pw.rect.lines, pw.rect.cols⟩ = none ∧ res = none) ∨
          ∃ r1, Rect.intersect r ⟨-(aT + aw.rect.top), -(aL + aw.rect.left), pw.rect.lines, pw.rect.cols⟩ = some r1 ∧
            clipToAncestors t k p (aT + aw.rect.top) (aL + aw.rect.left) r1 = .ok res)) := by
  simp only [clipToAncestors] at h
  obtain ⟨aw, hg, h⟩ := bind_ok_iff.1 h
  refine ⟨aw, (get_ok hg).1, ?_⟩
  cases hp : aw.parent with
  | none =>
    simp only [hp, pure, Pure.pure, Res.ok.injEq] at h
    exact Or.inl ⟨rfl, h.symm⟩
  | some p =>
    simp only [hp] at h
    obtain ⟨pw, hgp, h⟩ := bind_ok_iff.1 h
    refine Or.inr ⟨p, pw, rfl, (get_ok hgp).1, ?_⟩
    cases hi : Rect.intersect r ⟨-(aT + aw.rect.top), -(aL + aw.rect.left), pw.rect.lines, pw.rect.cols⟩ with
    | none =>
      simp only [hi, pure, Pure.pure, Res.ok.injEq] at h
      exact Or.inl ⟨rfl, h.symm⟩
    | some r1 =>
      simp only [hi] at h
      exact Or.inr ⟨r1, rfl, h⟩

/-- The cell `(l, c)` of the scrolled window, whose origin is at `(aT, aL)` in `a`'s coordinates, lies inside the area
    of every strict ancestor of `a` (as far as the fuel goes: the walk it is used with runs in lockstep). -/
def InAnc (t : Tree) : Nat → Id → Int → Int → Int → Int → Prop
  | 0, _, _, _, _, _ => True
  | k + 1, a, aT, aL, l, c =>
    ∀ aw, t.wins[a]? = some aw → ∀ p, aw.parent = some p → ∀ pw, t.wins[p]? = some pw →
      (0 ≤ l + (aT + aw.rect.top) ∧ l + (aT + aw.rect.top) < pw.rect.lines ∧
       0 ≤ c + (aL + aw.rect.left) ∧ c + (aL + aw.rect.left) < pw.rect.cols) ∧
      InAnc t k p (aT + aw.rect.top) (aL + aw.rect.left) l c

theorem clip_spec {t : Tree} : ∀ {k : Nat} {a : Id} {aT aL : Int} {r : Rect} {res : Option Rect},
    clipToAncestors t k a aT aL r = .ok res →
    (∀ r', res = some r' → r.Nonempty → r'.Nonempty) ∧
      ∀ l c, (∃ r', res = some r' ∧ r'.Mem l c) ↔ (r.Mem l c ∧ InAnc t k a aT aL l c) := by
  intro k
  induction k with
  | zero => intro a aT aL r res h; cases h
  | succ n ih =>
    intro a aT aL r res h
    obtain ⟨aw, haw, ⟨hp, hres⟩ | ⟨p, pw, hp, hpw, hcase⟩⟩ := clip_succ h
    · subst hres
      refine ⟨fun r' e hne => Option.some.inj e ▸ hne, fun l c => ⟨fun ⟨r', e, hm⟩ => ⟨Option.some.inj e ▸ hm, ?_⟩,
        fun hm => ⟨r, rfl, hm.1⟩⟩⟩
      intro aw' haw' p hp'
      rw [haw] at haw'; cases haw'
      rw [hp] at hp'; cases hp'
    · -- one level: the cell lies inside the parent's area, given in the scrolled window's coordinates
      have hbox : ∀ l c, (⟨-(aT + aw.rect.top), -(aL + aw.rect.left), pw.rect.lines, pw.rect.cols⟩ : Rect).Mem l c ↔
          (0 ≤ l + (aT + aw.rect.top) ∧ l + (aT + aw.rect.top) < pw.rect.lines ∧
           0 ≤ c + (aL + aw.rect.left) ∧ c + (aL + aw.rect.left) < pw.rect.cols) := fun l c => by
        simp only [Rect.Mem, Rect.bottom, Rect.right]; omega
      have hstep : ∀ l c, (r.Mem l c ∧ InAnc t (n + 1) a aT aL l c) ↔
          (r.Mem l c ∧ (⟨-(aT + aw.rect.top), -(aL + aw.rect.left), pw.rect.lines, pw.rect.cols⟩ : Rect).Mem l c ∧
            InAnc t n p (aT + aw.rect.top) (aL + aw.rect.left) l c) := fun l c => by
        rw [hbox]
        exact and_congr_right fun _ => ⟨fun hia => hia aw haw p hp pw hpw, fun hb aw' haw' p' hp' pw' hpw' => by
          rw [haw] at haw'; cases haw'
          rw [hp] at hp'; cases hp'
          rw [hpw] at hpw'; cases hpw'
          exact hb⟩
      rcases hcase with ⟨hi, hres⟩ | ⟨r1, hi, hrec⟩
      · subst hres
        refine ⟨nofun, fun l c => ⟨fun ⟨_, e, _⟩ => (nomatch e), fun hm => ?_⟩⟩
        have := (hstep l c).1 hm
        exact absurd ⟨this.1, this.2.1⟩ (Rect.intersect_none _ _ hi l c)
      · obtain ⟨hne, hmem⟩ := ih hrec
        obtain ⟨hne1, hm1⟩ := Rect.intersect_some _ _ _ hi
        refine ⟨fun r' e _ => hne r' e hne1, fun l c => ?_⟩
        rw [hmem l c, hm1 l c, hstep l c, and_assoc]

theorem exposedAt_inAnc {t : Tree} (hok : TreeOk t) : ∀ (k : Nat) {a : Id} {aT aL l c : Int} {k' : Nat} {L C : Int},
    ExposedAt t k' a (l + aT) (c + aL) L C → InAnc t k a aT aL l c := by
  intro k
  induction k with
  | zero => intro a aT aL l c k' L C _; trivial
  | succ n ih =>
    intro a aT aL l c k' L C hex aw haw p hp pw hpw
    have hexp := (exposedAt_up hok hex haw).up p hp
    rw [Int.add_assoc, Int.add_assoc] at hexp
    have hb := (Rect.mem_origin _ _ _ _).1 (exposedAt_up hok hexp hpw).inside
    exact ⟨by omega, ih hexp⟩

theorem scrollWalk_succ {t : Tree} {pens : Array (Option Pen)} {k : Nat} {a : Id} {vis : List Rect} {aT aL : Int} {pen : Pen}
    {res : Option (Id × List Rect × Int × Int × Pen)} (h : scrollWalk t pens (k + 1) a vis aT aL pen = .ok res) :
    ∃ aw, t.wins[a]? = some aw ∧ aw.freed = false ∧
      ((aw.isVisible = false ∧ res = none) ∨
       (aw.isVisible = true ∧ aw.parent = none ∧ ∃ pen', res = some (a, vis, aT, aL, pen')) ∨
       (aw.isVisible = true ∧ ∃ p pw vis2 pen', aw.parent = some p ∧ t.wins[p]? = some pw ∧
         subtractSiblings t a pw.children (RectSet.translate vis aw.rect.top aw.rect.left) = .ok vis2 ∧
         scrollWalk t pens k p vis2 (aT + aw.rect.top) (aL + aw.rect.left) pen' = .ok res)) := by
  simp only [scrollWalk] at h
  obtain ⟨aw, hg, h⟩ := bind_ok_iff.1 h
  refine ⟨aw, (get_ok hg).1, (get_ok hg).2, ?_⟩
  cases hvis : aw.isVisible with
  | false =>
    simp only [hvis, Bool.not_false, if_true, pure, Pure.pure, Res.ok.injEq] at h
    exact Or.inl ⟨rfl, h.symm⟩
  | true =>
    simp only [hvis, Bool.not_true, Bool.false_eq_true, if_false] at h
    cases hp : aw.parent with
    | none =>
      simp only [hp, pure, Pure.pure, Res.ok.injEq] at h
      exact Or.inr (Or.inl ⟨rfl, rfl, _, h.symm⟩)
    | some p =>
      simp only [hp] at h
      obtain ⟨pw, hgp, h⟩ := bind_ok_iff.1 h
      obtain ⟨vis2, hss, h⟩ := bind_ok_iff.1 h
      exact Or.inr (Or.inr ⟨rfl, p, pw, vis2, _, rfl, (get_ok hgp).1, hss, h⟩)

theorem scrollWalk_none {t : Tree} {pens : Array (Option Pen)} (hok : TreeOk t) : ∀ {k : Nat} {a : Id} {vis : List Rect}
    {aT aL : Int} {pen : Pen}, scrollWalk t pens k a vis aT aL pen = .ok none →
    ∀ {k' : Nat} {x y L C : Int}, ¬ ExposedAt t k' a x y L C := by
  intro k
  induction k with
  | zero => intro a vis aT aL pen h; cases h
  | succ n ih =>
    intro a vis aT aL pen h k' x y L C hex
    obtain ⟨aw, haw, _, ⟨hv, _⟩ | ⟨_, _, _, hres⟩ | ⟨_, p, pw, vis2, pen', hp, _, _, hrec⟩⟩ := scrollWalk_succ h
    · rw [(exposedAt_up hok hex haw).visible] at hv; cases hv
    · cases hres
    · have hexp := (exposedAt_up hok hex haw).up p hp
      exact ih hrec hexp

/-- The offsets `_scrollrectset` accumulates are the position of the scrolled window on the terminal. -/
theorem scrollWalk_coords {t : Tree} {pens : Array (Option Pen)} (hok : TreeOk t) : ∀ {k : Nat} {a : Id} {vis : List Rect}
    {aT aL : Int} {pen : Pen} {top : Id} {vis' : List Rect} {T' L' : Int} {pen' : Pen},
    scrollWalk t pens k a vis aT aL pen = .ok (some (top, vis', T', L', pen')) →
    ∀ {k' : Nat} {x y L C : Int}, ExposedAt t k' a x y L C → x = L - T' + aT ∧ y = C - L' + aL := by
  intro k
  induction k with
  | zero => intro a vis aT aL pen top vis' T' L' pen' h; cases h
  | succ n ih =>
    intro a vis aT aL pen top vis' T' L' pen' h k' x y L C hex
    obtain ⟨aw, haw, _, ⟨_, hres⟩ | ⟨_, hp, _, hres⟩ | ⟨_, p, pw, vis2, pen2, hp, _, _, hrec⟩⟩ := scrollWalk_succ h
    · cases hres
    · simp only [Option.some.injEq, Prod.mk.injEq] at hres
      have := (exposedAt_up hok hex haw).top hp
      omega
    · have hexp := (exposedAt_up hok hex haw).up p hp
      have := ih hrec hexp
      omega

theorem scrollWalk_region {t : Tree} {pens : Array (Option Pen)} (hpl : ParentListed t) :
    ∀ (k : Nat) (a : Id) (vis : List Rect) (aT aL : Int) (pen : Pen) (top : Id) (vis' : List Rect) (T' L' : Int) (pen' : Pen),
    scrollWalk t pens k a vis aT aL pen = .ok (some (top, vis', T', L', pen')) → RectSet.Inv vis →
    RectSet.Inv vis' ∧ ∀ X Y, Covered vis' X Y ↔
      (Covered vis (X - (T' - aT)) (Y - (L' - aL)) ∧ FrontFree t k a (X - (T' - aT)) (Y - (L' - aL))) := by
  intro k
  induction k with
  | zero => intro a vis aT aL pen top vis' T' L' pen' h; cases h
  | succ n ih =>
    intro a vis aT aL pen top vis' T' L' pen' h hinv
    obtain ⟨aw, haw, _, ⟨_, hres⟩ | ⟨_, hp, _, hres⟩ | ⟨_, p, pw, vis2, pen2, hp, hpw, hss, hrec⟩⟩ := scrollWalk_succ h
    · cases hres
    · simp only [Option.some.injEq, Prod.mk.injEq] at hres
      obtain ⟨_, rfl, rfl, rfl, _⟩ := hres
      refine ⟨hinv, fun X Y => ?_⟩
      rw [Int.sub_self, Int.sub_self, Int.sub_zero, Int.sub_zero]
      exact ⟨fun hc => ⟨hc, frontFree_top haw hp X Y⟩, fun hc => hc.1⟩
    · obtain ⟨pw', hpw', hmem⟩ := hpl a aw p haw hp
      rw [hpw] at hpw'; cases hpw'
      obtain ⟨hinv2, l1, l2, hsplit, hnl1, hcov2⟩ :=
        subtractSiblings_spec hss (RectSet.translate_inv vis aw.rect.top aw.rect.left hinv) hmem
      have htr := RectSet.covered_translate vis aw.rect.top aw.rect.left
      obtain ⟨hinv', hcov'⟩ := ih p vis2 _ _ _ top vis' T' L' pen' hrec hinv2
      refine ⟨hinv', fun X Y => ?_⟩
      rw [hcov' X Y, hcov2, htr, frontFree_succ haw hp hpw hsplit hnl1]
      have e1 : X - (T' - (aT + aw.rect.top)) - aw.rect.top = X - (T' - aT) := by omega
      have e2 : Y - (L' - (aL + aw.rect.left)) - aw.rect.left = Y - (L' - aL) := by omega
      have e3 : X - (T' - aT) + aw.rect.top = X - (T' - (aT + aw.rect.top)) := by omega
      have e4 : Y - (L' - aL) + aw.rect.left = Y - (L' - (aL + aw.rect.left)) := by omega
      rw [e1, e2, e3, e4, and_assoc]

theorem scrollWalk_exposed {t : Tree} {pens : Array (Option Pen)} (hok : TreeOk t) :
    ∀ (k : Nat) (a : Id) (vis : List Rect) (aT aL : Int) (pen : Pen) (top : Id) (vis' : List Rect) (T' L' : Int) (pen' : Pen)
      (tw : Win), scrollWalk t pens k a vis aT aL pen = .ok (some (top, vis', T', L', pen')) →
    t.wins[top]? = some tw → tw.isRoot = true → ∀ l c, InAnc t k a aT aL l c →
    (∀ aw, t.wins[a]? = some aw → 0 ≤ l + aT ∧ l + aT < aw.rect.lines ∧ 0 ≤ c + aL ∧ c + aL < aw.rect.cols) →
    ExposedAt t k a (l + aT) (c + aL) (l + T') (c + L') := by
  intro k
  induction k with
  | zero => intro a vis aT aL pen top vis' T' L' pen' tw h; cases h
  | succ n ih =>
    intro a vis aT aL pen top vis' T' L' pen' tw h htw hroot l c hia hin
    obtain ⟨aw, haw, hfr, ⟨_, hres⟩ | ⟨hv, hp, _, hres⟩ | ⟨hv, p, pw, vis2, pen2, hp, hpw, _, hrec⟩⟩ := scrollWalk_succ h
    · cases hres
    · simp only [Option.some.injEq, Prod.mk.injEq] at hres
      obtain ⟨rfl, _, rfl, rfl, _⟩ := hres
      obtain ⟨b1, b2, b3, b4⟩ := hin aw haw
      exact ⟨aw, haw, hfr, b1, b2, b3, b4, hv, Or.inl ⟨Option.some.inj (haw.symm.trans htw) ▸ hroot, rfl, rfl⟩⟩
    · obtain ⟨b1, b2, b3, b4⟩ := hin aw haw
      obtain ⟨hb, hia'⟩ := hia aw haw p hp pw hpw
      have := ih p vis2 _ _ _ top vis' T' L' pen' tw hrec htw hroot l c hia'
        (fun pw' hpw' => by rw [hpw] at hpw'; cases hpw'; exact hb)
      rw [← Int.add_assoc, ← Int.add_assoc] at this
      exact ⟨aw, haw, hfr, b1, b2, b3, b4, hv, Or.inr ⟨not_root_of_parent hok haw hp, p, hp, this⟩⟩

end WinFlush
end Tickit
