import Tickit.Proof.EvLoopOnce
/-
  The bundle `B D` that every function of the loop preserves, how a step carries it (`B.step`: `Q`, `LStep`, `R2`), and the
  bundle while the loop holds a watch whose callback has been counted (`Held`; `After`: the watch is a detached one).
  `WF` (the five lists well formed) and `LStep` (the step relation that keeps it) are those of Proof/EvLoopWF.lean: `l_f`,
  `lstep_*` give `LStep` for a function `f`, `G4.lstep` for a step that writes no list.
-/
namespace Tickit.EvLoop

/-- The four repairs the argument needs (the other switches of `Config` may stand either way). -/
def Rep (cfg : Config) : Prop :=
  cfg.timersPop = true ∧ cfg.invokeTypeSaved = true ∧ cfg.sigSnapshot = true ∧ cfg.procSnapshot = true

theorem Rep.timersPop {cfg : Config} (r : Rep cfg) : cfg.timersPop = true := r.1
theorem Rep.invokeTypeSaved {cfg : Config} (r : Rep cfg) : cfg.invokeTypeSaved = true := r.2.1
theorem Rep.sigSnapshot {cfg : Config} (r : Rep cfg) : cfg.sigSnapshot = true := r.2.2.1
theorem Rep.procSnapshot {cfg : Config} (r : Rep cfg) : cfg.procSnapshot = true := r.2.2.2

/-- `D`: the watches the running iteration has detached from their queue and not yet freed. -/
structure B (D : List Nat) (st : St) : Prop where
  rep : Rep st.cfg
  wf : WF st
  k : K st
  o : Once none st
  li : Listed D st
  g : Gone st

def BStep (D : List Nat) (st st' : St) : Prop := B D st → B D st'

theorem BStep.refl (D : List Nat) (st : St) : BStep D st st := fun b => b
theorem BStep.trans {D : List Nat} {a b c : St} (h1 : BStep D a b) (h2 : BStep D b c) : BStep D a c := fun x => h2 (h1 x)

/-- The bundle along a step, `E` the watches the step leaves allocated and unqueued
    (none: `BStep.of_q`; the batch taken off a queue: `r2_with_timers [a]`, `r2_with_laters st.laters`). -/
theorem B.step {E D : List Nat} {st st' : St} (b : B D st) (q : Q st st') (l : LStep st st') (r : R2 E st st') : B (E ++ D) st' :=
  have f := l b.rep.timersPop b.wf
  ⟨by rw [f.cfg]; exact b.rep, f.wf, K.of_q q b.k, Once.none_of_q q b.k b.o, b.li.of_r2E r, Gone.of_r2 r q b.k b.g⟩

theorem BStep.of_q {D : List Nat} {st st' : St} (q : Q st st') (l : LStep st st') (r : R2 [] st st') : BStep D st st' :=
  fun b => b.step q l r

theorem BStep.of_q0 {D : List Nat} {st st' : St} (q : Q0 st st') (l : LStep st st') (r : R2 [] st st') : BStep D st st' :=
  BStep.of_q (Q.of_q0 q) l r

theorem BStep.of_inert {D : List Nat} {st st' : St} (i : Inert st st') (l : LStep st st') : BStep D st st' :=
  BStep.of_q i.q l i.r2

theorem BStep.of_still {D : List Nat} {st st' : St} (h : Still st st') : BStep D st st' := .of_inert h.inert h.g4.lstep
theorem BStep.of_same {D : List Nat} {st st' : St} (h : Same st st') : BStep D st st' := .of_still h.still

/-- Outside defined behaviour nothing is claimed about the queues: any `D` will do. -/
theorem B.of_not_ok {D D' : List Nat} {st : St} (b : B D st) (h : st.isOk = false) : B D' st :=
  ⟨b.rep, b.wf, b.k, b.o, Listed.of_not_ok h, b.g⟩

theorem B.fail {D D' : List Nat} {st : St} (b : B D st) (w : Ub) : B D' (st.fail w) :=
  (BStep.of_same (same_fail st w) b).of_not_ok (St.isOk_fail st w)

/-- The bundle while the loop holds watch `c`, whose callback has been counted. -/
structure Held (c : Nat) (D : List Nat) (st : St) : Prop where
  rep : Rep st.cfg
  wf : WF st
  k : K st
  o : Once (some c) st
  li : Listed D st
  g : Gone st

/-- What the callback of the detached timer / deferred callback `a` leaves behind: `a` is held and still detached. -/
abbrev After (D : List Nat) (st' : St) (a : Nat) : Prop := Held a (a :: D) st'

theorem Held.b_of_other {c : Nat} {D : List Nat} {st : St} (x : Held c D st) (h : isOneShot (st.getW c).type = false) : B D st :=
  ⟨x.rep, x.wf, x.k, x.o.release_other h, x.li, x.g⟩

theorem After.of_b {D : List Nat} {st' : St} {a : Nat} (b : B (a :: D) st') (hs : (st'.getW a).slot < 0) : After D st' a :=
  ⟨b.rep, b.wf, b.k, Once.internal b.k b.o hs, b.li, b.g⟩

theorem After.b_of_not_ok {D D' : List Nat} {st' : St} {a : Nat} (x : After D st' a) (h : st'.isOk = false) : B D' st' :=
  ⟨x.rep, x.wf, x.k, x.o.of_not_ok h, Listed.of_not_ok h, x.g⟩

theorem After.b_of_dead {D : List Nat} {st' : St} {a : Nat} (x : After D st' a) (h : st'.live a = false) : B D st' :=
  ⟨x.rep, x.wf, x.k, x.o.release h, x.li.drop h, x.g⟩

/-- `free(a)` after the callback (`a` is in no list): every record of `a` says one invocation. -/
theorem After.free {D : List Nat} {s1 : St} {a : Nat} (x : After D s1 a) (hl : s1.live a = true) (hun : ∀ t, a ∉ listOf s1 t) :
    B D (s1.free a) := by
  have f := lstep_free_unlisted s1 a hun x.rep.timersPop x.wf
  have q := Q.of_q0 (q0_free s1 a)
  have hdead := St.live_free_self s1 a hl
  exact ⟨by rw [f.cfg]; exact x.rep, f.wf, K.of_q q x.k,
    (Once.of_q q x.k (fun y hy => by cases hy; exact St.live_lt hl) x.o).release hdead, (x.li.free a).drop hdead,
    x.g.free a fun r hr e ho => x.o.running hr (by rw [e]; exact ho) (by rw [e])⟩

theorem held_fire (D : List Nat) (st : St) (c : Nat) (flags : Nat) (info : Info) (b : B D st) (hc : c < st.heap.length)
    (hk : (st.getW c).slot ≥ 0) (hok : st.isOk = true) (hl : isOneShot (st.getW c).type = true → st.live c = true) :
    Held c D (fireUser st (st.getW c).slot flags info) := by
  have l := l_closed.fireUser st (st.getW c).slot flags info b.rep.timersPop b.wf
  have k1 : K (st.emit (.cb (st.getW c).slot flags info)) := b.k.emit _
  have k2 := k1.bump (st.getW c).slot
  have o2 : Once (some c) (bump (st.emit (.cb (st.getW c).slot flags info)) (st.getW c).slot) :=
    Once.bump k1 (Once.none_of_q (inert_emit st _).q b.k b.o) c hc hk hok hl
  have r2 := (inert_emit st (.cb (st.getW c).slot flags info)).r2.trans (r2_bump [] _ (st.getW c).slot)
  have g2 : Gone (bump (st.emit (.cb (st.getW c).slot flags info)) (st.getW c).slot) :=
    Gone.bump k1 (Gone.of_r2 (E := []) (inert_emit st _).r2 (inert_emit st _).q b.k b.g) c hc hk hl
  refine fireUser_cases (P := fun s => LFacts st s → Held c D s) st _ flags info (fun hnone => ?_) (fun acts l => ?_) l
  · obtain ⟨rc, hrc, hrck, _⟩ := b.k.s1 c hc hk
    exact absurd hrck (findSlot_none hnone rc hrc)
  · have q := q_runActs acts (bump (st.emit (.cb (st.getW c).slot flags info)) (st.getW c).slot)
    have r := r2_runActs acts _ k2
    exact ⟨by rw [l.cfg]; exact b.rep, l.wf, K.of_q q k2, Once.of_q q k2 (fun x hx => by cases hx; exact hc) o2,
      b.li.of_r2E (r2.trans r), Gone.of_r2 r q k2 g2⟩

end Tickit.EvLoop
