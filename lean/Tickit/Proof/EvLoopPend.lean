import Tickit.Proof.EvLoopKInv
import Tickit.Proof.EvLoopLog
import Tickit.Proof.EvLoopCalls
/-
  `pending_signals` is only added to by everything that runs between the wait and `dispatch_signals`
  (timers, deferred callbacks and all their callbacks): `PendExt`, a `Low` relation (the handler `sigRecord` is the
  one leaf that adds).  With it, C18 end to end for one iteration (`tick_signal_reaches_logged`): it speaks of the watches
  listed after the timer phase, which include those the timers registered; for the watches of the state the iteration
  starts in, `Reached.preceded` with the `SigStep` of what comes before.
-/
namespace Tickit.EvLoop

def PendExt (st st' : St) : Prop := ∀ s, s ∈ st.pendingSig → s ∈ st'.pendingSig
theorem PendExt.refl (st : St) : PendExt st st := fun _ h => h
theorem PendExt.trans {a b c : St} (h1 : PendExt a b) (h2 : PendExt b c) : PendExt a c := fun s h => h2 s (h1 s h)
theorem PendExt.of_eq {st st' : St} (h : st'.pendingSig = st.pendingSig) : PendExt st st' := fun s hs => by rw [h]; exact hs

theorem pe_low : Low PendExt where
  refl := PendExt.refl
  trans := PendExt.trans
  same := fun h => PendExt.of_eq h.pendingSig
  emit := fun _ _ => PendExt.of_eq rfl
  alloc := fun _ _ => PendExt.of_eq rfl
  setW := fun _ _ _ => PendExt.of_eq rfl
  setList := fun _ t _ => by cases t <;> exact PendExt.of_eq rfl
  evloopIo := fun _ _ _ _ => by unfold evloopIo; split <;> exact PendExt.of_eq rfl
  evloopCancelIo := fun _ _ => PendExt.of_eq rfl
  sameSig := fun h => PendExt.of_eq h.pendingSig
  sigRecord := fun st s => by
    unfold sigRecord
    split
    · exact fun x hx => mem_setInsert.mpr (.inr hx)
    · exact PendExt.of_eq rfl
    · exact PendExt.refl st
  harness := fun _ _ _ => PendExt.of_eq rfl

theorem pe_closed : Closed PendExt := pe_low.closed

theorem pe_with_inRun (st : St) (b : Bool) : PendExt st { st with inRun := b } := PendExt.of_eq rfl

theorem pe_onSigchldAny (fuel : Nat) (st : St) : PendExt st (onSigchldAny fuel st) := pe_closed.onSigchldAny fuel st

theorem dispatchLoop_not_ok (fuel : Nat) (pending : List Int) : ∀ (l : List Int) (st : St), st.isOk = false →
    dispatchLoop fuel st pending l = st := by
  intro l
  induction l with
  | nil => intro st _; rfl
  | cons x rest ih =>
    intro st h
    unfold dispatchLoop
    simp only [h, Bool.false_and, Bool.false_eq_true, if_false]
    exact ih st h

theorem sigDispatch_logged (fuel : Nat) (st : St) (s : Int) (i : SInv st) (hok : (sigDispatch fuel st s).status = .ok) :
    Reached s st (sigDispatch fuel st s) := by
  unfold sigDispatch at hok ⊢
  split
  · rename_i hc
    rw [if_pos hc] at hok
    split
    · rename_i hl
      rw [if_pos hl] at hok
      exact absurd hok (St.status_fail_ne _ _)
    · rename_i hl
      rw [if_neg hl] at hok
      exact fun b hb hfin hsig hslot => sigsnap_logged fuel s st.signals st i hok b hb (i.alloc b hb) hfin hsig hslot
  · rename_i hc
    rw [if_neg hc] at hok
    intro b hb hfin hsig hslot
    exact sigwalk_logged fuel st s st.signals.head? i hok b hfin (head_or_aft hb) hsig hslot

theorem dispatchLoop_logged (fuel : Nat) (pending : List Int) : ∀ (l : List Int) (st : St), KInv st →
    (dispatchLoop fuel st pending l).status = .ok →
    ∀ s ∈ l, pending.contains s = true → Reached s st (dispatchLoop fuel st pending l) := by
  intro l
  induction l with
  | nil => intro st _ _ s hs; cases hs
  | cons x rest ih =>
    intro st k hok s hs hpend
    unfold dispatchLoop at hok ⊢
    have hstok : st.isOk = true := isOk_of_status (fun h => by
      simp only [h, Bool.false_and, Bool.false_eq_true, if_false]
      exact dispatchLoop_not_ok fuel pending rest st h) hok
    have k1 : KInv (if st.isOk && pending.contains x && st.watched.contains x then sigDispatch fuel st x else st) :=
      iteInduction (fun _ => k_closed.sigDispatch _ _ _ k) fun _ => k
    have f1 : SigFacts st (if st.isOk && pending.contains x && st.watched.contains x then sigDispatch fuel st x else st) :=
      iteInduction (fun _ => step_closed.sigDispatch _ _ _ k.sinv) fun _ => SigStep.refl _ k.sinv
    by_cases hsx : s = x
    · subst hsx
      intro b hb hfin hsig hslot
      -- a listed watch of `s`: its number is in `watched_signals`, so the walk is made
      have hw : st.watched.contains s = true := by rw [← hsig]; exact k.watched b hb
      simp only [hstok, hpend, hw, Bool.and_self, if_true] at hok f1 hfin ⊢
      have hok1 := (St.isOk_iff _).mp (isOk_of_status (dispatchLoop_not_ok fuel pending rest _) hok)
      exact (sigDispatch_logged fuel st s k.sinv hok1).followed k.sinv f1 (step_closed.dispatchLoop fuel pending rest _)
        (lg_closed.dispatchLoop fuel pending rest _) b hb hfin hsig hslot
    · generalize (if st.isOk && pending.contains x && st.watched.contains x then sigDispatch fuel st x else st) = st1 at hok k1 f1 ⊢
      exact (ih st1 k1 hok s ((List.mem_cons.mp hs).resolve_left hsx) hpend).preceded k.sinv f1
        (step_closed.dispatchLoop fuel pending rest st1)

theorem dispatchSignals_logged (fuel : Nat) (st : St) (k : KInv st) (hok : (dispatchSignals fuel st).status = .ok) :
    ∀ s ∈ signalRange, s ∈ st.pendingSig → Reached s st (dispatchSignals fuel st) :=
  fun s hs hp => dispatchLoop_logged fuel st.pendingSig signalRange { st with pendingSig := [] }
    (KInv.of_same (st := st) rfl rfl rfl rfl k) hok s hs (by simpa using hp)

theorem tick_signal_reaches_logged (fuel : Nat) (st : St) (nohang : Bool) (k : KInv st) (hs : st.cfg.errnoSaved = true)
    (ho : st.observer = .self) (hint : (ppoll (nextTimerMsec st).1 (tickTimeout nohang (nextTimerMsec st).2)).2 = none)
    (hok : (tick fuel st nohang).status = .ok) :
    ∀ s ∈ signalRange, s ∈ (pollRaise (pollScan (nextTimerMsec st).1)).kpending →
      Reached s (invokeTimers fuel (ppoll (nextTimerMsec st).1 (tickTimeout nohang (nextTimerMsec st).2)).1) (tick fuel st nohang) := by
  obtain ⟨hok0, hok1, hok2, hok3⟩ := tick_ok fuel st nohang hok
  have htick := tick_eintr_dispatches fuel st nohang hs hok0 hok1 hok2 hint hok3
  rw [htick] at hok ⊢
  have kT : KInv (invokeTimers fuel (ppoll (nextTimerMsec st).1 (tickTimeout nohang (nextTimerMsec st).2)).1) :=
    (((g3_base.nextTimerMsec st).trans (g3_ppoll _ _)).kstep.trans (k_closed.invokeTimers k_timers _ _)) k
  intro s hsr hpend
  have hp1 := (ppoll_eintr _ _ (by rw [observer_nextTimerMsec]; exact ho) hint).2.2 s hpend
  exact dispatchSignals_logged fuel _ kT hok s hsr (pe_closed.invokeTimers pe_low.timers fuel _ s hp1)

end Tickit.EvLoop
