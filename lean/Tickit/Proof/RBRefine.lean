import Tickit.Proof.RBOps
import Tickit.Proof.RBSpec
/-
  The refinement between the concrete render buffer (`Tickit.RB`) and the specification (`Tickit.RBAbs`): `Refines rb a`,
  with `absOf rb` the state a buffer implements.  Whatever draws is a `Painted` and refines `paint` (`Painted.refines`);
  cursor-relative forms by `cursor_refines`, `mask` and `restore` by `remask_facts`.  `step_refines`, `run_refines`.
-/
namespace Tickit.RB
open Tickit.RBAbs

/-- A saved concrete frame against a saved abstract frame; `d` is the depth at which it was pushed. -/
def FrameRel (rb : RB) (d : Int) (f : Frame) (g : AFrame) : Prop :=
  f.penOnly = g.penOnly ∧ f.pen = g.pen ∧ (∀ L C, g.masked L C = absMaskedAt rb d L C) ∧
  (f.penOnly = false → f.xlLine = g.xlLine ∧ f.xlCol = g.xlCol ∧ (∀ L C, g.clip L C = absClipRect f.clip L C) ∧
    g.vc = (if f.vcPosSet then some (f.vcLine, f.vcCol) else none))

/-- The stacks, newest first; `d` is the depth above the first frame. -/
def FramesRel (rb : RB) : Int → List Frame → List AFrame → Prop
  | _, [], [] => True
  | d, f :: fs, g :: gs => FrameRel rb (d - 1) f g ∧ FramesRel rb (d - 1) fs gs
  | _, _, _ => False

/-- The buffer `rb` implements the abstract state `a`. -/
structure Refines (rb : RB) (a : AState) : Prop where
  lines : a.lines = rb.lines
  cols : a.cols = rb.cols
  content : ∀ L C, a.content L C = absContent rb L C
  masked : ∀ L C, a.masked L C = absMasked rb L C
  vc : a.vc = getCursor rb
  xlLine : a.xlLine = rb.xlLine
  xlCol : a.xlCol = rb.xlCol
  clip : ∀ L C, a.clip L C = absClipRect rb.clip L C
  pen : a.pen = rb.pen
  stack : FramesRel rb rb.depth rb.stack a.stack

def absFrames (rb : RB) : Int → List Frame → List AFrame
  | _, [] => []
  | d, f :: fs =>
    { penOnly := f.penOnly, vc := (if f.vcPosSet then some (f.vcLine, f.vcCol) else none), xlLine := f.xlLine, xlCol := f.xlCol, clip := absClipRect f.clip,
      pen := f.pen, masked := absMaskedAt rb (d - 1) } :: absFrames rb (d - 1) fs

/-- The abstract state a buffer implements (`refines_absOf`). -/
def absOf (rb : RB) : AState :=
  { lines := rb.lines, cols := rb.cols, content := absContent rb, masked := absMasked rb, vc := getCursor rb,
    xlLine := rb.xlLine, xlCol := rb.xlCol, clip := absClipRect rb.clip, pen := rb.pen,
    stack := absFrames rb rb.depth rb.stack }

theorem absFrames_rel (rb : RB) : ∀ (fs : List Frame) (d : Int), FramesRel rb d fs (absFrames rb d fs) := by
  intro fs
  induction fs with
  | nil => intro d; simp [absFrames, FramesRel]
  | cons f fs ih =>
    intro d
    unfold absFrames FramesRel
    exact ⟨⟨rfl, rfl, fun _ _ => rfl, fun _ => ⟨rfl, rfl, fun _ _ => rfl, rfl⟩⟩, ih (d - 1)⟩

theorem refines_absOf (rb : RB) : Refines rb (absOf rb) :=
  ⟨rfl, rfl, fun _ _ => rfl, fun _ _ => rfl, rfl, rfl, rfl, fun _ _ => rfl, rfl, absFrames_rel rb _ _⟩

theorem absMasked_iff (rb : RB) (L C : Int) :
    absMasked rb L C = true ↔ (0 ≤ L ∧ L < rb.lines ∧ 0 ≤ C ∧ C < rb.cols) ∧ (rb.cell L C).maskdepth > -1 := by
  unfold absMasked; rw [Bool.and_eq_true, inBuf_iff, decide_eq_true_eq]

theorem absMaskedAt_iff (rb : RB) (d L C : Int) :
    absMaskedAt rb d L C = true ↔
      (0 ≤ L ∧ L < rb.lines ∧ 0 ≤ C ∧ C < rb.cols) ∧ (rb.cell L C).maskdepth > -1 ∧ (rb.cell L C).maskdepth ≤ d := by
  unfold absMaskedAt; rw [Bool.and_eq_true, absMasked_iff, decide_eq_true_eq, and_assoc]

theorem FrameRel.penOnly {rb : RB} {d : Int} {f : Frame} {g : AFrame} (h : FrameRel rb d f g) : f.penOnly = g.penOnly := h.1
theorem FrameRel.pen {rb : RB} {d : Int} {f : Frame} {g : AFrame} (h : FrameRel rb d f g) : f.pen = g.pen := h.2.1
theorem FrameRel.masked {rb : RB} {d : Int} {f : Frame} {g : AFrame} (h : FrameRel rb d f g) (L C : Int) :
    g.masked L C = absMaskedAt rb d L C := h.2.2.1 L C
theorem FrameRel.full {rb : RB} {d : Int} {f : Frame} {g : AFrame} (h : FrameRel rb d f g) (hp : f.penOnly = false) :
    f.xlLine = g.xlLine ∧ f.xlCol = g.xlCol ∧ (∀ L C, g.clip L C = absClipRect f.clip L C) ∧
    g.vc = (if f.vcPosSet then some (f.vcLine, f.vcCol) else none) := h.2.2.2 hp

/-- The frames saved below depth `d` see only the mask depths `< d`. -/
theorem FramesRel.congr {rb rb' : RB} : ∀ {fs : List Frame} {gs : List AFrame} {d : Int}, FramesRel rb d fs gs →
    (∀ d', d' < d → ∀ L C, absMaskedAt rb' d' L C = absMaskedAt rb d' L C) → FramesRel rb' d fs gs := by
  intro fs
  induction fs with
  | nil => intro gs d x _; cases gs <;> simp [FramesRel] at x ⊢
  | cons f fs ih =>
    intro gs d x h
    cases gs with
    | nil => simp [FramesRel] at x
    | cons g gs =>
      unfold FramesRel at x ⊢
      refine ⟨⟨x.1.penOnly, x.1.pen, fun L C => ?_, x.1.full⟩, ih x.2 (fun d' hd => h d' (by omega))⟩
      rw [h (d - 1) (by omega)]; exact x.1.masked L C

theorem FramesRel.cases {rb : RB} {d : Int} {fs : List Frame} {gs : List AFrame} (h : FramesRel rb d fs gs) :
    (fs = [] ∧ gs = []) ∨
    ∃ f fs' g gs', fs = f :: fs' ∧ gs = g :: gs' ∧ FrameRel rb (d - 1) f g ∧ FramesRel rb (d - 1) fs' gs' := by
  cases fs <;> cases gs
  · exact Or.inl ⟨rfl, rfl⟩
  · exact h.elim
  · exact h.elim
  · exact Or.inr ⟨_, _, _, _, rfl, rfl, h.1, h.2⟩

/-- What was drawn on a region keeps the invariant and refines `paint`; `cov` (buffer coordinates) is what `covers` says in
    user coordinates. -/
theorem Painted.refines {B d : RB} {cov : Int → Int → Prop} {g : Int → Int → Content} {a : AState} (wf : WF B)
    (R : Refines B a) (D : Painted B d cov g) (covers : Int → Int → Bool) (what : Int → Int → Content → Content)
    (hP : ∀ L C, covers (L - B.xlLine) (C - B.xlCol) = true ↔ cov L C)
    (hx : ∀ L C, cov L C → g L C = what (L - B.xlLine) (C - B.xlCol) (absContent B L C)) :
    WF d ∧ Refines d (paint a covers what) := by
  have haux := D.aux
  unfold RB.aux at haux
  injection haux with e1 e2 e6 e7 e8 e9 e10 e5 e11 e3 e4
  refine ⟨D.wf wf, ?_, ?_, ?_, ?_, ?_, ?_, ?_, ?_, ?_, ?_⟩
  · show a.lines = _; rw [e1]; exact R.lines
  · show a.cols = _; rw [e2]; exact R.cols
  · intro L C
    show (if covers (L - a.xlLine) (C - a.xlCol) && a.writable L C then _ else _) = _
    unfold AState.writable
    rw [R.xlLine, R.xlCol, R.clip, R.masked, R.content]
    by_cases p : cov L C ∧ absClipRect B.clip L C = true ∧ absMasked B L C = false
    · rw [D.inside L C p.1 p.2.1 p.2.2, hx L C p.1, if_pos]
      simp only [Bool.and_eq_true, Bool.not_eq_true']
      exact ⟨(hP L C).2 p.1, p.2⟩
    · rw [D.outside L C p, if_neg]
      intro q
      simp only [Bool.and_eq_true, Bool.not_eq_true'] at q
      exact p ⟨(hP L C).1 q.1, q.2⟩
  · intro L C
    show a.masked L C = _
    rw [absMasked_congr e1 e2 D.md]; exact R.masked L C
  · show a.vc = _
    unfold getCursor
    rw [e6, e7, e8]; exact R.vc
  · show a.xlLine = _; rw [e9]; exact R.xlLine
  · show a.xlCol = _; rw [e10]; exact R.xlCol
  · intro L C; show a.clip L C = _; rw [e5]; exact R.clip L C
  · show a.pen = _; rw [e11]; exact R.pen
  · show FramesRel d d.depth d.stack a.stack
    rw [e3, e4]
    exact R.stack.congr (fun d' _ L C => absMaskedAt_congr e1 e2 D.md d' L C)

theorem Drew.refines {rb rb' : RB} {a : AState} (wf : WF rb) (R : Refines rb a) {line col cols : Int} {g : Int → Content}
    (D : Drew rb rb' line col cols g) (what : Int → Int → Content → Content)
    (hx : ∀ C, g C = what line (C - rb.xlCol) (absContent rb (line + rb.xlLine) C)) :
    WF rb' ∧ Refines rb' (paint a (inRun line col cols) what) :=
  Painted.refines wf R D _ what (fun L C => by rw [inRun_iff]; omega)
    (fun L C p => by rw [show L - rb.xlLine = line by omega, hx, p.1])

theorem eraseAt_refines {rb : RB} {a : AState} (wf : WF rb) (R : Refines rb a) (l c n : Int) :
    WF (RB.eraseAt rb l c n) ∧ Refines (RB.eraseAt rb l c n) (RBAbs.eraseAt a l c n) := by
  have D := eraseRun_drew wf.runsOK l c n
  unfold RBAbs.eraseAt
  rw [R.pen]
  exact D.refines wf R _ (fun _ => rfl)

theorem skipAt_refines {rb : RB} {a : AState} (wf : WF rb) (R : Refines rb a) (l c n : Int) :
    WF (RB.skipAt rb l c n) ∧ Refines (RB.skipAt rb l c n) (RBAbs.skipAt a l c n) :=
  have D := skipRun_drew wf.runsOK l c n
  D.refines wf R _ (fun _ => rfl)

theorem textAt_refines {rb : RB} {a : AState} (wf : WF rb) (R : Refines rb a) (l c : Int) (s : List UInt8) :
    WF (RB.textAt rb l c s) ∧ Refines (RB.textAt rb l c s) (RBAbs.textAt a l c s) := by
  unfold RBAbs.textAt
  cases hs : Utf8.stringColumns s with
  | none =>
    have e : RB.textAt rb l c s = rb := by unfold RB.textAt putString; rw [hs]
    rw [e]; exact ⟨wf, R⟩
  | some n =>
    simp only
    rw [R.pen]
    exact (textAt_drew wf.runsOK l c hs).refines wf R _
      (fun C => by show Content.text _ _ _ = Content.text _ _ _; congr 1; omega)

theorem refines_setvc {rb : RB} {a : AState} (R : Refines rb a) (s : Bool) (l c : Int) {v : Option (Int × Int)}
    (hv : v = if s then some (l, c) else none) :
    Refines { rb with vcSet := s, vcLine := l, vcCol := c } { a with vc := v } :=
  ⟨R.lines, R.cols, R.content, R.masked, hv, R.xlLine, R.xlCol, R.clip, R.pen, R.stack.congr (fun _ _ _ _ => rfl)⟩

/-- The invariant reads none of the registers (cursor, translation, pen) but the clip. -/
theorem WF.regs {rb : RB} (wf : WF rb) {cl : Rect} (hc : ClipOK rb.lines rb.cols cl) (s : Bool) (l c x y : Int) (p : Pen) :
    WF { rb with vcSet := s, vcLine := l, vcCol := c, xlLine := x, xlCol := y, clip := cl, pen := p } :=
  ⟨wf.size, wf.rows, wf.maskLB, wf.maskUB, wf.depth, hc, wf.frames, wf.aborted, wf.fuelOut⟩

theorem goto_refines {rb : RB} {a : AState} (wf : WF rb) (R : Refines rb a) (l c : Int) :
    WF (RB.goto rb l c) ∧ Refines (RB.goto rb l c) (RBAbs.goto a l c) :=
  ⟨wf.regs wf.clip .., refines_setvc R true l c rfl⟩

theorem ungoto_refines {rb : RB} {a : AState} (wf : WF rb) (R : Refines rb a) :
    WF (RB.ungoto rb) ∧ Refines (RB.ungoto rb) (RBAbs.ungoto a) :=
  ⟨wf.regs wf.clip .., refines_setvc R false rb.vcLine rb.vcCol rfl⟩

/-- The cursor ends at column `newcol c`, drawn or not. -/
theorem cursor_refines {rb : RB} {a : AState} (wf : WF rb) (R : Refines rb a)
    (opC : RB → Int → Int → RB) (opA : AState → Int → Int → AState) (newcol : Int → Int)
    (hop : ∀ l c, WF (opC rb l c) ∧ Refines (opC rb l c) (opA a l c))
    (haux : ∀ l c, (opC rb l c).aux = rb.aux) :
    WF (if !rb.vcSet then rb else { opC rb rb.vcLine rb.vcCol with vcCol := newcol rb.vcCol }) ∧
    Refines (if !rb.vcSet then rb else { opC rb rb.vcLine rb.vcCol with vcCol := newcol rb.vcCol })
      (match a.vc with
       | none => a
       | some (l, c) => { opA a l c with vc := some (l, newcol c) }) := by
  have hv := R.vc
  unfold getCursor at hv
  cases hs : rb.vcSet with
  | false =>
    rw [hs] at hv; simp only [Bool.false_eq_true, if_false] at hv
    rw [hv]; simp only [Bool.not_false, if_true]
    exact ⟨wf, R⟩
  | true =>
    rw [hs] at hv; simp only [if_true] at hv
    rw [hv]; simp only [Bool.not_true, Bool.false_eq_true, if_false]
    obtain ⟨w1, r1⟩ := hop rb.vcLine rb.vcCol
    have e1 : (opC rb rb.vcLine rb.vcCol).vcSet = true := (congrArg Aux.vcSet (haux _ _)).trans hs
    have e2 : (opC rb rb.vcLine rb.vcCol).vcLine = rb.vcLine := congrArg Aux.vcLine (haux _ _)
    exact ⟨w1.regs w1.clip .., refines_setvc r1 _ _ _ (by rw [e1, e2]; rfl)⟩

theorem erase_refines {rb : RB} {a : AState} (wf : WF rb) (R : Refines rb a) (n : Int) :
    WF (RB.erase rb n) ∧ Refines (RB.erase rb n) (RBAbs.erase a n) :=
  cursor_refines wf R (fun r l c => eraseRun r l c n) (fun a l c => RBAbs.eraseAt a l c n) (· + n)
    (fun l c => eraseAt_refines wf R l c n) (fun l c => eraseRun_aux rb l c n)

theorem skip_refines {rb : RB} {a : AState} (wf : WF rb) (R : Refines rb a) (n : Int) :
    WF (RB.skip rb n) ∧ Refines (RB.skip rb n) (RBAbs.skip a n) :=
  cursor_refines wf R (fun r l c => skipRun r l c n) (fun a l c => RBAbs.skipAt a l c n) (· + n)
    (fun l c => skipAt_refines wf R l c n) (fun l c => skipRun_aux rb l c n)

theorem text_refines {rb : RB} {a : AState} (wf : WF rb) (R : Refines rb a) (s : List UInt8) :
    WF (RB.text rb s) ∧ Refines (RB.text rb s) (RBAbs.text a s) :=
  cursor_refines wf R (fun r l c => putString r l c s) (fun a l c => RBAbs.textAt a l c s) (· + putStringRet s)
    (fun l c => textAt_refines wf R l c s) (fun l c => putString_aux rb l c s)

theorem runOp_nonpos (fill : Cell → Int → Cell) (sc : Clipped → Int) (rb : RB) (line col : Int) {cols : Int} (h : cols ≤ 0) :
    runOp fill sc rb line col cols = rb := by
  have e : ∀ c left : Int, (if c < left then cols - (left - c) else cols) ≤ 0 := fun c left => by split <;> omega
  have : xlateAndClip rb line col cols = none := by
    unfold xlateAndClip
    simp only
    by_cases h1 : rb.clip.lines = 0
    · rw [if_pos h1]
    · rw [if_neg h1]
      by_cases h2 : line + rb.xlLine < rb.clip.top ∨ line + rb.xlLine ≥ rb.clip.bottom ∨ col + rb.xlCol ≥ rb.clip.right
      · rw [if_pos h2]
      · rw [if_neg h2, if_pos (e _ _)]
  unfold runOp; rw [this]

/-- `erase_to`/`skip_to` test `vc_col < col` before they draw; a run of no columns would not be drawn anyway. -/
theorem runOp_to (fill : Cell → Int → Cell) (sc : Clipped → Int) (rb : RB) (line c col : Int) :
    (if c < col then runOp fill sc rb line c (col - c) else rb) = runOp fill sc rb line c (col - c) := by
  split
  · rfl
  · exact (runOp_nonpos _ _ rb _ _ (by omega)).symm

theorem eraseTo_refines {rb : RB} {a : AState} (wf : WF rb) (R : Refines rb a) (col : Int) :
    WF (RB.eraseTo rb col) ∧ Refines (RB.eraseTo rb col) (RBAbs.eraseTo a col) := by
  have e : (if rb.vcCol < col then eraseRun rb rb.vcLine rb.vcCol (col - rb.vcCol) else rb) =
      eraseRun rb rb.vcLine rb.vcCol (col - rb.vcCol) := runOp_to _ _ rb _ _ _
  unfold RB.eraseTo RBAbs.eraseTo
  rw [e]
  exact cursor_refines wf R (fun r l c => eraseRun r l c (col - c)) (fun a l c => RBAbs.eraseAt a l c (col - c)) (fun _ => col)
    (fun l c => eraseAt_refines wf R l c _) (fun l c => eraseRun_aux rb l c _)

theorem skipTo_refines {rb : RB} {a : AState} (wf : WF rb) (R : Refines rb a) (col : Int) :
    WF (RB.skipTo rb col) ∧ Refines (RB.skipTo rb col) (RBAbs.skipTo a col) := by
  have e : (if rb.vcCol < col then skipRun rb rb.vcLine rb.vcCol (col - rb.vcCol) else rb) =
      skipRun rb rb.vcLine rb.vcCol (col - rb.vcCol) := runOp_to _ _ rb _ _ _
  unfold RB.skipTo RBAbs.skipTo
  rw [e]
  exact cursor_refines wf R (fun r l c => skipRun r l c (col - c)) (fun a l c => RBAbs.skipAt a l c (col - c)) (fun _ => col)
    (fun l c => skipAt_refines wf R l c _) (fun l c => skipRun_aux rb l c _)

theorem translate_refines {rb : RB} {a : AState} (wf : WF rb) (R : Refines rb a) (d r : Int) :
    WF (RB.translate rb d r) ∧ Refines (RB.translate rb d r) (RBAbs.translate a d r) := by
  refine ⟨wf.regs wf.clip ..,
    ⟨R.lines, R.cols, R.content, R.masked, R.vc, ?_, ?_, R.clip, R.pen, ?_⟩⟩
  · show a.xlLine + d = rb.xlLine + d; rw [R.xlLine]
  · show a.xlCol + r = rb.xlCol + r; rw [R.xlCol]
  · exact R.stack.congr (fun _ _ _ _ => rfl)

/-- The clipping rectangle after `clip`: the old one intersected with the translated `rect`, or an empty one. -/
theorem clip_spec {rb : RB} (wf : WF rb) (rect : Rect) :
    ClipOK rb.lines rb.cols (Tickit.RB.clip rb rect).clip ∧
    ∀ L C, absClipRect (Tickit.RB.clip rb rect).clip L C =
      (absClipRect rb.clip L C && rect.memb (L - rb.xlLine) (C - rb.xlCol)) := by
  unfold Tickit.RB.clip
  simp only
  cases h1 : Rect.intersect rb.clip (rect.translate rb.xlLine rb.xlCol) with
  | none =>
    refine ⟨Or.inl rfl, fun L C => ?_⟩
    rw [Bool.eq_iff_iff, Bool.and_eq_true, absClipRect_iff, absClipRect_iff, Rect.memb_iff, ← Rect.mem_translate]
    exact ⟨fun x => absurd rfl x.1, fun x => absurd ⟨x.1.2, x.2⟩ (Rect.intersect_none _ _ h1 L C)⟩
  | some r =>
    obtain ⟨ne, h4⟩ := Rect.intersect_some _ _ _ h1
    unfold Rect.Nonempty at ne
    simp only
    refine ⟨Or.inr ?_, fun L C => ?_⟩
    · have hc := wf.clip
      have hw := (Rect.intersect_within h1).2.1
      unfold ClipOK at hc
      unfold Rect.Within Rect.bottom Rect.right at *
      omega
    · rw [Bool.eq_iff_iff, Bool.and_eq_true, absClipRect_iff, absClipRect_iff, Rect.memb_iff, ← Rect.mem_translate, h4]
      refine ⟨fun x => ⟨⟨?_, x.2.1⟩, x.2.2⟩, fun x => ⟨by omega, x.1.2, x.2⟩⟩
      have := x.2.1; unfold Rect.Mem Rect.bottom at this; omega

theorem clip_refines {rb : RB} {a : AState} (wf : WF rb) (R : Refines rb a) (rect : Rect) :
    WF (Tickit.RB.clip rb rect) ∧ Refines (Tickit.RB.clip rb rect) (RBAbs.clip a rect) := by
  have hform : Tickit.RB.clip rb rect = { rb with clip := (Tickit.RB.clip rb rect).clip } := by
    unfold Tickit.RB.clip; simp only; split <;> rfl
  have key := clip_spec wf rect
  rw [hform]
  refine ⟨wf.regs key.1 ..,
    ⟨R.lines, R.cols, R.content, R.masked, R.vc, R.xlLine, R.xlCol, fun L C => ?_, R.pen,
      R.stack.congr (fun _ _ _ _ => rfl)⟩⟩
  show (a.clip L C && rect.memb (L - a.xlLine) (C - a.xlCol)) = absClipRect (Tickit.RB.clip rb rect).clip L C
  rw [key.2, R.clip, R.xlLine, R.xlCol]

/-- Giving the cells `Q` the mask depth `v`, where neither the old depths of these cells nor `v` are depths a saved frame
    sees: content, run structure and what the saved frames see stay. -/
theorem remask_facts {rb rb' : RB} (wf : WF rb) (hl : rb'.lines = rb.lines) (hc : rb'.cols = rb.cols) {Q : Int → Int → Prop}
    [∀ L C, Decidable (Q L C)] {v : Int}
    (hcell : ∀ L C, rb'.cell L C = if Q L C then { rb.cell L C with maskdepth := v } else rb.cell L C)
    (hv : v = -1 ∨ rb.depth - 1 < v)
    (hQ : ∀ L C, Q L C → (rb.cell L C).maskdepth = -1 ∨ rb.depth - 1 < (rb.cell L C).maskdepth) :
    (∀ L C, absContent rb' L C = absContent rb L C) ∧
    (∀ l, 0 ≤ l → l < rb'.lines → RowWF rb'.cols (rb'.cells l)) ∧
    (∀ L C, (rb'.cell L C).maskdepth = if Q L C then v else (rb.cell L C).maskdepth) ∧
    (∀ l c, -1 ≤ (rb'.cell l c).maskdepth) ∧
    (∀ d', d' ≤ rb.depth - 1 → ∀ L C, absMaskedAt rb' d' L C = absMaskedAt rb d' L C) := by
  have st : ∀ L k, ((rb'.cells L).get k).state = ((rb.cells L).get k).state := fun L k => by
    rw [show (rb'.cells L).get k = _ from hcell L k]; split <;> rfl
  have cl : ∀ L k, ((rb'.cells L).get k).cols = ((rb.cells L).get k).cols := fun L k => by
    rw [show (rb'.cells L).get k = _ from hcell L k]; split <;> rfl
  have cc : ∀ L k off, cellContent ((rb'.cells L).get k) off = cellContent ((rb.cells L).get k) off := fun L k off => by
    rw [show (rb'.cells L).get k = _ from hcell L k]; split <;> rfl
  have hmd : ∀ L C, (rb'.cell L C).maskdepth = if Q L C then v else (rb.cell L C).maskdepth := fun L C => by
    rw [hcell]; split <;> rfl
  have hd : 0 ≤ rb.depth := by rw [wf.depth]; omega
  refine ⟨fun L C => ?_, fun l x y => ?_, hmd, fun l c => ?_, fun d' hd' L C => ?_⟩
  · rw [absContent_eq, absContent_eq, hl, hc]
    unfold rowContent
    rw [st, cl, cc, cc]
  · rw [hc]; exact ((wf.rows l x (hl ▸ y)).seg.congr (fun k _ _ => st l k) (fun k _ _ => cl l k)).rowWF
  · rw [hmd]; have := wf.maskLB l c; split <;> omega
  · rw [Bool.eq_iff_iff, absMaskedAt_iff, absMaskedAt_iff, hl, hc, hmd]
    split
    · rename_i q
      have := hQ L C q
      omega
    · exact Iff.rfl

theorem maskHole_bounds (rb : RB) (m : Rect) :
    (maskHole rb m).top = max 0 (m.top + rb.xlLine) ∧ (maskHole rb m).bottom = m.top + rb.xlLine + m.lines ∧
    (maskHole rb m).left = max 0 (m.left + rb.xlCol) ∧ (maskHole rb m).right = m.left + rb.xlCol + m.cols := by
  unfold maskHole Rect.translate Rect.bottom Rect.right
  simp only
  by_cases h1 : m.top + rb.xlLine < 0 <;> by_cases h2 : m.left + rb.xlCol < 0 <;> simp [h1, h2] <;> omega

theorem mask_refines {rb : RB} {a : AState} (wf : WF rb) (R : Refines rb a) (m : Rect) :
    WF (Tickit.RB.mask rb m) ∧ Refines (Tickit.RB.mask rb m) (RBAbs.mask a m) := by
  have hd : 0 ≤ rb.depth := by rw [wf.depth]; omega
  obtain ⟨h1, h2, h3, h4⟩ := maskHole_bounds rb m
  -- the unmasked buffer cells of the (translated) rectangle get the present depth
  have hcell : ∀ L C, (Tickit.RB.mask rb m).cell L C =
      if ((0 ≤ L ∧ L < rb.lines ∧ 0 ≤ C ∧ C < rb.cols) ∧ m.Mem (L - rb.xlLine) (C - rb.xlCol)) ∧
        (rb.cell L C).maskdepth = -1
      then { rb.cell L C with maskdepth := rb.depth } else rb.cell L C := by
    intro L C
    have hcond : ((maskHole rb m).top ≤ L ∧ L < (maskHole rb m).bottom ∧ L < rb.lines ∧ (maskHole rb m).left ≤ C ∧
          C < (maskHole rb m).right ∧ C < rb.cols ∧ ((rb.cells L).get C).maskdepth = -1) ↔
        (((0 ≤ L ∧ L < rb.lines ∧ 0 ≤ C ∧ C < rb.cols) ∧ m.Mem (L - rb.xlLine) (C - rb.xlCol)) ∧
          ((rb.cells L).get C).maskdepth = -1) := by
      rw [h1, h2, h3, h4]; unfold Rect.Mem Rect.bottom Rect.right; omega
    unfold Tickit.RB.mask RB.cell
    simp only [hcond]
  obtain ⟨hcont, hrows, hmd, hlb, hbelow⟩ := remask_facts (rb' := Tickit.RB.mask rb m) wf rfl rfl hcell (Or.inr (by omega))
    (fun _ _ q => Or.inl q.2)
  have e1 : (Tickit.RB.mask rb m).lines = rb.lines := rfl
  have e2 : (Tickit.RB.mask rb m).cols = rb.cols := rfl
  refine ⟨⟨wf.size, hrows, hlb, ?_, wf.depth, wf.clip, wf.frames, wf.aborted, wf.fuelOut⟩,
    ⟨R.lines, R.cols, fun L C => (R.content L C).trans (hcont L C).symm, ?_, R.vc, R.xlLine, R.xlCol, R.clip, R.pen,
      R.stack.congr (fun d' hd' => hbelow d' (by omega))⟩⟩
  · intro l c x y z w; rw [hmd]; have := wf.maskUB l c x y z w; show _ ≤ rb.depth; split <;> omega
  · intro L C
    show (a.masked L C || (inBuf a.lines a.cols L C && m.memb (L - a.xlLine) (C - a.xlCol))) = absMasked (Tickit.RB.mask rb m) L C
    have lb := wf.maskLB L C
    rw [R.masked, R.lines, R.cols, R.xlLine, R.xlCol, Bool.eq_iff_iff, Bool.or_eq_true, Bool.and_eq_true, absMasked_iff,
      absMasked_iff, inBuf_iff, Rect.memb_iff, e1, e2, hmd]
    split
    · rename_i q
      exact ⟨fun _ => ⟨q.1.1, by omega⟩, fun _ => Or.inr q.1⟩
    · rename_i q
      exact ⟨fun x => x.elim id (fun y => ⟨y.1, Int.lt_iff_le_and_ne.2 ⟨lb, fun e => q ⟨y, e.symm⟩⟩⟩), Or.inl⟩

theorem setpen_refines {rb : RB} {a : AState} (wf : WF rb) (R : Refines rb a) (pen : Option Pen) :
    WF (RB.setpen rb pen) ∧ Refines (RB.setpen rb pen) (RBAbs.setpen a pen) := by
  refine ⟨wf.regs wf.clip .., ?_⟩
  have hpen : (RBAbs.setpen a pen).pen = (RB.setpen rb pen).pen := by
    unfold RBAbs.setpen RB.setpen
    rcases R.stack.cases with ⟨hrs, has⟩ | ⟨f, fs, g, gs, hrs, has, fr, _⟩
    · rw [hrs, has]; cases pen <;> simp [Pen.copy_empty]
    · rw [hrs, has]; cases pen <;> simp [Pen.copy_empty, Pen.copy_noow, fr.pen]
  rw [RBAbs.setpen_eq, hpen]
  refine ⟨R.lines, R.cols, R.content, R.masked, R.vc, R.xlLine, R.xlCol, R.clip, rfl, ?_⟩
  exact R.stack.congr (fun _ _ _ _ => rfl)

theorem getCursor_some {rb : RB} {p : Int × Int} (h : getCursor rb = some p) : rb.vcSet = true ∧ p = (rb.vcLine, rb.vcCol) := by
  unfold getCursor at h
  cases hs : rb.vcSet with
  | false => rw [hs] at h; simp at h
  | true => rw [hs] at h; simp at h; exact ⟨rfl, h.symm⟩

theorem absMaskedAt_depth {rb : RB} (wf : WF rb) (L C : Int) : absMaskedAt rb rb.depth L C = absMasked rb L C := by
  have := wf.maskUB L C
  rw [Bool.eq_iff_iff, absMaskedAt_iff, absMasked_iff]
  omega

theorem push_refines {rb : RB} {a : AState} (wf : WF rb) (R : Refines rb a) (f : Frame) (g : AFrame)
    (hf : f.penOnly = false → ClipOK rb.lines rb.cols f.clip) (hfg : FrameRel rb rb.depth f g) :
    WF { rb with stack := f :: rb.stack, depth := rb.depth + 1 } ∧
    Refines { rb with stack := f :: rb.stack, depth := rb.depth + 1 } { a with stack := g :: a.stack } := by
  refine ⟨⟨wf.size, wf.rows, wf.maskLB, ?_, ?_, wf.clip, ?_, wf.aborted, wf.fuelOut⟩,
    ⟨R.lines, R.cols, R.content, R.masked, R.vc, R.xlLine, R.xlCol, R.clip, R.pen, ?_⟩⟩
  · intro l c x y z w; have := wf.maskUB l c x y z w; show (rb.cell l c).maskdepth ≤ rb.depth + 1; omega
  · show rb.depth + 1 = ((f :: rb.stack).length : Int); rw [wf.depth]; simp
  · intro f' hf' hp
    rcases List.mem_cons.1 hf' with rfl | hf'
    · exact hf hp
    · exact wf.frames f' hf' hp
  · show FramesRel _ (rb.depth + 1) (f :: rb.stack) (g :: a.stack)
    unfold FramesRel
    rw [Int.add_sub_cancel]
    exact ⟨hfg, R.stack.congr (fun _ _ _ _ => rfl)⟩

theorem save_refines {rb : RB} {a : AState} (wf : WF rb) (R : Refines rb a) :
    WF (RB.save rb) ∧ Refines (RB.save rb) (RBAbs.save a) :=
  push_refines wf R _ _ (fun _ => wf.clip)
    ⟨rfl, R.pen.symm, fun L C => (R.masked L C).trans (absMaskedAt_depth wf L C).symm,
      fun _ => ⟨R.xlLine.symm, R.xlCol.symm, R.clip, R.vc⟩⟩

theorem savepen_refines {rb : RB} {a : AState} (wf : WF rb) (R : Refines rb a) :
    WF (RB.savepen rb) ∧ Refines (RB.savepen rb) (RBAbs.savepen a) :=
  push_refines wf R _ _ (fun h => Bool.noConfusion h)
    ⟨rfl, R.pen.symm, fun L C => (R.masked L C).trans (absMaskedAt_depth wf L C).symm, fun h => Bool.noConfusion h⟩

/-- The part of `restore` that every frame undoes: the pen, the depth, and the masks made since the frame was pushed. -/
def popFrame (rb : RB) (f : Frame) (prev : List Frame) : RB :=
  { rb with
    stack := prev, pen := f.pen, depth := rb.depth - 1
    cells := fun l => ⟨fun c =>
      if 0 ≤ l ∧ l < rb.lines ∧ 0 ≤ c ∧ c < rb.cols ∧ (rb.cell l c).maskdepth > rb.depth - 1
      then { rb.cell l c with maskdepth := -1 } else rb.cell l c⟩ }

theorem restore_eq {rb : RB} {f : Frame} {prev : List Frame} (h : rb.stack = f :: prev) :
    RB.restore rb = if f.penOnly then popFrame rb f prev else
      { popFrame rb f prev with vcSet := f.vcPosSet, vcLine := f.vcLine, vcCol := f.vcCol, xlLine := f.xlLine,
                                xlCol := f.xlCol, clip := f.clip } := by
  unfold RB.restore popFrame
  rw [h]
  simp only
  cases f.penOnly <;> rfl

theorem popFrame_refines {rb : RB} {a : AState} (wf : WF rb) (R : Refines rb a) {f : Frame} {prev : List Frame}
    {g : AFrame} {rest : List AFrame} (hrs : rb.stack = f :: prev) (fr : FrameRel rb (rb.depth - 1) f g)
    (hrest : FramesRel rb (rb.depth - 1) prev rest) :
    WF (popFrame rb f prev) ∧
    Refines (popFrame rb f prev) { a with pen := g.pen, masked := g.masked, stack := rest } := by
  have fr2 := fr.pen
  have fr3 := fr.masked
  -- the cells unmasked are those masked at the present depth; no saved frame sees them
  obtain ⟨hcont, hrows, hmd, hlb, hbelow⟩ := remask_facts (rb' := popFrame rb f prev) wf rfl rfl
    (Q := fun L C => 0 ≤ L ∧ L < rb.lines ∧ 0 ≤ C ∧ C < rb.cols ∧ (rb.cell L C).maskdepth > rb.depth - 1) (v := -1)
    (fun _ _ => rfl) (Or.inl rfl) (fun _ _ q => Or.inr q.2.2.2.2)
  have e1 : (popFrame rb f prev).lines = rb.lines := rfl
  have e2 : (popFrame rb f prev).cols = rb.cols := rfl
  have hdlen : rb.depth = (prev.length : Int) + 1 := by rw [wf.depth, hrs]; simp
  have hmasked : ∀ L C, absMasked (popFrame rb f prev) L C = absMaskedAt rb (rb.depth - 1) L C := by
    intro L C
    have lb := wf.maskLB L C
    have ub := wf.maskUB L C
    rw [Bool.eq_iff_iff, absMasked_iff, absMaskedAt_iff, e1, e2, hmd]
    split <;> omega
  refine ⟨⟨wf.size, hrows, hlb, fun l c x y z w => ?_, ?_, wf.clip,
      fun f' hf' => wf.frames f' (by rw [hrs]; exact List.mem_cons_of_mem _ hf'), wf.aborted, wf.fuelOut⟩,
    ⟨R.lines, R.cols, fun L C => (R.content L C).trans (hcont L C).symm,
      fun L C => (fr3 L C).trans (hmasked L C).symm, R.vc, R.xlLine, R.xlCol, R.clip, fr2.symm,
      hrest.congr (fun d' hd' => hbelow d' (by omega))⟩⟩
  · rw [hmd]
    have ub := wf.maskUB l c x y z w
    have lb := wf.maskLB l c
    show _ ≤ rb.depth - 1
    split <;> omega
  · show rb.depth - 1 = (prev.length : Int); omega

theorem restore_refines {rb : RB} {a : AState} (wf : WF rb) (R : Refines rb a) :
    WF (RB.restore rb) ∧ Refines (RB.restore rb) (RBAbs.restore a) := by
  rcases R.stack.cases with ⟨hrs, has⟩ | ⟨f, prev, g, rest, hrs, has, fr, hrest⟩
  · have e1 : RB.restore rb = rb := by unfold RB.restore; rw [hrs]
    have e2 : RBAbs.restore a = a := by unfold RBAbs.restore; rw [has]
    rw [e1, e2]; exact ⟨wf, R⟩
  · obtain ⟨w, r⟩ := popFrame_refines wf R hrs fr hrest
    rw [restore_eq hrs]
    unfold RBAbs.restore
    rw [has]
    simp only
    cases hp : g.penOnly with
    | true =>
      rw [fr.penOnly.trans hp]
      exact ⟨w, r⟩
    | false =>
      have hpf : f.penOnly = false := fr.penOnly.trans hp
      obtain ⟨x1, x2, x3, x4⟩ := fr.full hpf
      rw [hpf]
      exact ⟨w.regs (wf.frames f (by rw [hrs]; simp) hpf) ..,
        ⟨r.lines, r.cols, r.content, r.masked, x4, x1.symm, x2.symm, x3, r.pen, r.stack.congr (fun _ _ _ _ => rfl)⟩⟩

theorem freshRow {n : Int} {row : Row} (hn : 0 < n) (h0 : (row.get 0).state = .skip ∧ (row.get 0).cols = n)
    (hk : ∀ k, 0 < k → k < n → (row.get k).state = .cont ∧ (row.get k).cols = 0) :
    RowWF n row ∧ ∀ k, 0 ≤ k → k < n → rowContent row k = .skip := by
  have hs : (row.get 0).state ≠ .cont := by rw [h0.1]; exact CState.noConfusion
  have wf : RowWF n row :=
    (Seg.single hs (by rw [h0.2]; omega) hn hk (fun x => by rw [h0.1] at x; rcases x with x | x <;> cases x)).rowWF
  refine ⟨wf, fun k a b => ?_⟩
  rw [wf.seg.run_content (Int.le_refl 0) hn hs a (by rw [h0.2]; omega)]
  unfold cellContent; rw [h0.1]

theorem fresh_abs {rb : RB}
    (hrow : ∀ l, 0 ≤ l → l < rb.lines → ∀ k, 0 ≤ k → k < rb.cols → rowContent (rb.cells l) k = .skip)
    (hmd : ∀ l c, 0 ≤ l → l < rb.lines → 0 ≤ c → c < rb.cols → (rb.cell l c).maskdepth = -1) (L C : Int) :
    Content.skip = absContent rb L C ∧ false = absMasked rb L C := by
  rw [absContent_eq]
  unfold absMasked
  by_cases hb : inBuf rb.lines rb.cols L C = true
  · have hb' := (inBuf_iff _ _ _ _).1 hb
    rw [if_pos hb, hb, hmd L C hb'.1 hb'.2.1 hb'.2.2.1 hb'.2.2.2]
    exact ⟨(hrow L hb'.1 hb'.2.1 C hb'.2.2.1 hb'.2.2.2).symm, rfl⟩
  · rw [if_neg hb, Bool.eq_false_iff.2 hb]
    exact ⟨rfl, rfl⟩

theorem reset_cell (rb : RB) (l c : Int) :
    (RB.reset rb).cell l c =
      if 0 ≤ l ∧ l < rb.lines ∧ 0 ≤ c ∧ c < rb.cols then
        (if c = 0 then { contCell (rb.cell l c) 0 with state := .skip, maskdepth := -1, cols := rb.cols }
         else contCell (rb.cell l c) 0)
      else rb.cell l c := rfl

theorem clipOK_full (lines cols : Int) (hl : 0 ≤ lines) (hc : 0 < cols) : ClipOK lines cols ⟨0, 0, lines, cols⟩ := by
  unfold ClipOK Rect.bottom Rect.right
  simp only
  omega

theorem absClipRect_full (lines cols L C : Int) : absClipRect ⟨0, 0, lines, cols⟩ L C = inBuf lines cols L C := by
  rw [Bool.eq_iff_iff, inBuf_iff, absClipRect_iff, Rect.mem_origin]
  dsimp only
  omega

theorem reset_refines {rb : RB} {a : AState} (wf : WF rb) (R : Refines rb a) :
    WF (RB.reset rb) ∧ Refines (RB.reset rb) (RBAbs.reset a) := by
  have hsz := wf.size
  have hmd : ∀ l c, 0 ≤ l → l < rb.lines → 0 ≤ c → c < rb.cols → ((RB.reset rb).cell l c).maskdepth = -1 := by
    intro l c h1 h2 h3 h4
    rw [reset_cell, if_pos ⟨h1, h2, h3, h4⟩]
    split <;> rfl
  have hrow : ∀ l, 0 ≤ l → l < rb.lines → RowWF rb.cols ((RB.reset rb).cells l) ∧
      ∀ k, 0 ≤ k → k < rb.cols → rowContent ((RB.reset rb).cells l) k = .skip := by
    intro l h1 h2
    refine freshRow hsz.2 ?_ (fun k a b => ?_)
    · show ((RB.reset rb).cell l 0).state = _ ∧ ((RB.reset rb).cell l 0).cols = _
      rw [reset_cell, if_pos ⟨h1, h2, Int.le_refl 0, hsz.2⟩, if_pos rfl]; exact ⟨rfl, rfl⟩
    · show ((RB.reset rb).cell l k).state = _ ∧ ((RB.reset rb).cell l k).cols = _
      rw [reset_cell, if_pos ⟨h1, h2, by omega, b⟩, if_neg (by omega)]; exact ⟨rfl, rfl⟩
  have hdepth : (RB.reset rb).depth = 0 := by
    show (if rb.stack.isEmpty then rb.depth else 0) = 0
    cases hs : rb.stack with
    | nil => simp; rw [wf.depth, hs]; rfl
    | cons f fs => simp
  refine ⟨⟨wf.size, fun l a b => (hrow l a b).1, fun l c => ?_, ?_, ?_, clipOK_full _ _ hsz.1 hsz.2, ?_, wf.aborted,
    wf.fuelOut⟩, ?_⟩
  · rw [reset_cell]
    split
    · split <;> simp
    · exact wf.maskLB l c
  · intro l c h1 h2 h3 h4
    rw [hmd l c h1 h2 h3 h4, hdepth]; omega
  · rw [hdepth]; rfl
  · intro f hf; cases hf
  · unfold RBAbs.reset AState.new
    have fresh := fresh_abs (rb := RB.reset rb) (fun l a b => (hrow l a b).2) hmd
    refine ⟨R.lines, R.cols, fun L C => (fresh L C).1, fun L C => (fresh L C).2, rfl, rfl, rfl, fun L C => ?_, rfl, ?_⟩
    · show inBuf a.lines a.cols L C = absClipRect ⟨0, 0, rb.lines, rb.cols⟩ L C
      rw [R.lines, R.cols, absClipRect_full]
    · show FramesRel (RB.reset rb) (RB.reset rb).depth [] []
      simp [FramesRel]

theorem charAt_refines {rb : RB} {a : AState} (wf : WF rb) (R : Refines rb a) (l c cp : Int) :
    WF (RB.charAt rb l c cp) ∧ Refines (RB.charAt rb l c cp) (RBAbs.charAt a l c cp) := by
  have D := putChar_drew wf.runsOK l c cp
  unfold RBAbs.charAt
  rw [R.pen]
  exact D.refines wf R _ (fun _ => rfl)

theorem char_refines {rb : RB} {a : AState} (wf : WF rb) (R : Refines rb a) (cp : Int) :
    WF (RB.char rb cp) ∧ Refines (RB.char rb cp) (RBAbs.char a cp) :=
  cursor_refines wf R (fun r l c => putChar r l c cp) (fun a l c => RBAbs.charAt a l c cp) (· + 1)
    (fun l c => charAt_refines wf R l c cp) (fun l c => putChar_aux rb l c cp)

theorem linecell_refines {rb : RB} {a : AState} (wf : WF rb) (R : Refines rb a) (l c : Int) (bits : Nat) :
    WF (RB.linecell rb l c bits) ∧ Refines (RB.linecell rb l c bits) (RBAbs.linecell a l c bits) := by
  have D := linecell_drew wf.runsOK l c bits
  unfold RBAbs.linecell
  rw [R.pen]
  exact D.refines wf R _ (fun _ => rfl)

theorem lineLoop_refines (cellAt : Int → Int × Int) (bits : Nat) (n : Nat) :
    ∀ {rb : RB} {a : AState} (_ : WF rb) (_ : Refines rb a) (from_ : Int),
      WF (RB.lineLoop cellAt bits rb from_ n) ∧ Refines (RB.lineLoop cellAt bits rb from_ n) (RBAbs.lineLoop cellAt bits a from_ n) := by
  induction n with
  | zero => intro rb a wf R from_; exact ⟨wf, R⟩
  | succ n ih =>
    intro rb a wf R from_
    unfold RB.lineLoop RBAbs.lineLoop
    obtain ⟨w, r⟩ := linecell_refines wf R (cellAt from_).1 (cellAt from_).2 bits
    exact ih w r (from_ + 1)

theorem hlineAt_refines {rb : RB} {a : AState} (wf : WF rb) (R : Refines rb a) (l c1 c2 : Int) (st caps : Nat) :
    WF (RB.hlineAt rb l c1 c2 st caps) ∧ Refines (RB.hlineAt rb l c1 c2 st caps) (RBAbs.hlineAt a l c1 c2 st caps) := by
  unfold RB.hlineAt RBAbs.hlineAt
  simp only
  obtain ⟨w1, q1⟩ := linecell_refines wf R l c1 (st <<< Gen.RBWidth.c_EAST_SHIFT ||| if caps &&& Gen.RBWidth.c_TICKIT_LINECAP_START ≠ 0 then st <<< Gen.RBWidth.c_WEST_SHIFT else 0)
  obtain ⟨w2, q2⟩ := lineLoop_refines (fun col => (l, col)) (st <<< Gen.RBWidth.c_EAST_SHIFT ||| st <<< Gen.RBWidth.c_WEST_SHIFT) (c2 - 1 - c1).toNat w1 q1 (c1 + 1)
  exact linecell_refines w2 q2 l c2 _

theorem vlineAt_refines {rb : RB} {a : AState} (wf : WF rb) (R : Refines rb a) (l1 l2 c : Int) (st caps : Nat) :
    WF (RB.vlineAt rb l1 l2 c st caps) ∧ Refines (RB.vlineAt rb l1 l2 c st caps) (RBAbs.vlineAt a l1 l2 c st caps) := by
  unfold RB.vlineAt RBAbs.vlineAt
  simp only
  obtain ⟨w1, q1⟩ := linecell_refines wf R l1 c (st <<< Gen.RBWidth.c_SOUTH_SHIFT ||| if caps &&& Gen.RBWidth.c_TICKIT_LINECAP_START ≠ 0 then st <<< Gen.RBWidth.c_NORTH_SHIFT else 0)
  obtain ⟨w2, q2⟩ := lineLoop_refines (fun line => (line, c)) (st <<< Gen.RBWidth.c_SOUTH_SHIFT ||| st <<< Gen.RBWidth.c_NORTH_SHIFT) (l2 - 1 - l1).toNat w1 q1 (l1 + 1)
  exact linecell_refines w2 q2 l2 c _

theorem eraserect_refines {rb : RB} {a : AState} (wf : WF rb) (R : Refines rb a) (r : Rect) :
    WF (RB.eraserect rb r) ∧ Refines (RB.eraserect rb r) (RBAbs.eraserect a r) := by
  unfold RBAbs.eraserect
  rw [R.pen]
  exact (eraserect_painted wf.runsOK r).refines wf R _ _ (fun _ _ => Rect.memb_iff r _ _) (fun _ _ _ => rfl)

theorem skiprect_refines {rb : RB} {a : AState} (wf : WF rb) (R : Refines rb a) (r : Rect) :
    WF (RB.skiprect rb r) ∧ Refines (RB.skiprect rb r) (RBAbs.skiprect a r) :=
  (skiprect_painted wf.runsOK r).refines wf R _ _ (fun _ _ => Rect.memb_iff r _ _) (fun _ _ _ => rfl)

theorem clear_refines {rb : RB} {a : AState} (wf : WF rb) (R : Refines rb a) :
    WF (RB.clear rb) ∧ Refines (RB.clear rb) (RBAbs.clear a) := by
  unfold RBAbs.clear RBAbs.eraserect
  rw [R.pen, R.lines, R.cols]
  exact (clear_painted wf.runsOK).refines wf R _ _ (fun L C => by
    rw [Rect.memb_iff, Rect.mem_origin]; have := wf.size; omega) (fun _ _ _ => rfl)

theorem step_refines {rb : RB} {a : AState} (wf : WF rb) (R : Refines rb a) (o : Op) :
    WF (RB.step rb o) ∧ Refines (RB.step rb o) (RBAbs.step a o) := by
  cases o with
  | textAt l c s => exact textAt_refines wf R l c s
  | text s => exact text_refines wf R s
  | eraseAt l c n => exact eraseAt_refines wf R l c n
  | erase n => exact erase_refines wf R n
  | eraseTo c => exact eraseTo_refines wf R c
  | skipAt l c n => exact skipAt_refines wf R l c n
  | skip n => exact skip_refines wf R n
  | skipTo c => exact skipTo_refines wf R c
  | charAt l c cp => exact charAt_refines wf R l c cp
  | char cp => exact char_refines wf R cp
  | hlineAt l c1 c2 st caps => exact hlineAt_refines wf R l c1 c2 st caps
  | vlineAt l1 l2 c st caps => exact vlineAt_refines wf R l1 l2 c st caps
  | clear => exact clear_refines wf R
  | eraserect r => exact eraserect_refines wf R r
  | skiprect r => exact skiprect_refines wf R r
  | goto l c => exact goto_refines wf R l c
  | ungoto => exact ungoto_refines wf R
  | translate d r => exact translate_refines wf R d r
  | clip r => exact clip_refines wf R r
  | mask r => exact mask_refines wf R r
  | setpen p => exact setpen_refines wf R p
  | save => exact save_refines wf R
  | savepen => exact savepen_refines wf R
  | restore => exact restore_refines wf R
  | reset => exact reset_refines wf R

theorem run_refines : ∀ (prog : List Op) {rb : RB} {a : AState}, WF rb → Refines rb a →
    WF (RB.run rb prog) ∧ Refines (RB.run rb prog) (RBAbs.run a prog) := by
  intro prog
  induction prog with
  | nil => intro rb a wf R; exact ⟨wf, R⟩
  | cons o rest ih =>
    intro rb a wf R
    obtain ⟨w, q⟩ := step_refines wf R o
    exact ih w q

theorem new_refines (lines cols g1 g2 : Int) (hl : 0 ≤ lines) (hc : 0 < cols) :
    WF (RB.new lines cols g1 g2) ∧ Refines (RB.new lines cols g1 g2) (AState.new lines cols) := by
  have hrow : ∀ l, RowWF cols ((RB.new lines cols g1 g2).cells l) ∧
      ∀ k, 0 ≤ k → k < cols → rowContent ((RB.new lines cols g1 g2).cells l) k = .skip := fun l =>
    freshRow hc ⟨rfl, rfl⟩ (fun k a _ => by
      show (if k = 0 then _ else _ : Cell).state = _ ∧ (if k = 0 then _ else _ : Cell).cols = _
      rw [if_neg (by omega)]; exact ⟨rfl, rfl⟩)
  have hmd : ∀ l c, ((RB.new lines cols g1 g2).cell l c).maskdepth = -1 := by
    intro l c
    show (if c = 0 then _ else _ : Cell).maskdepth = -1
    split <;> rfl
  have fresh := fresh_abs (rb := RB.new lines cols g1 g2) (fun l _ _ => (hrow l).2) (fun l c _ _ _ _ => hmd l c)
  exact ⟨⟨⟨hl, hc⟩, fun l _ _ => (hrow l).1, fun l c => by rw [hmd]; omega, fun l c _ _ _ _ => by rw [hmd]; show (-1 : Int) ≤ 0; omega, rfl,
    clipOK_full _ _ hl hc, fun f hf => (by cases hf), rfl, rfl⟩,
    ⟨rfl, rfl, fun L C => (fresh L C).1, fun L C => (fresh L C).2, rfl, rfl, rfl,
      fun L C => (absClipRect_full lines cols L C).symm, rfl, trivial⟩⟩

theorem run_new_refines (lines cols g1 g2 : Int) (hl : 0 ≤ lines) (hc : 0 < cols) (prog : List Op) :
    WF (RB.run (RB.new lines cols g1 g2) prog) ∧
    Refines (RB.run (RB.new lines cols g1 g2) prog) (RBAbs.run (AState.new lines cols) prog) :=
  run_refines prog (new_refines lines cols g1 g2 hl hc).1 (new_refines lines cols g1 g2 hl hc).2

/-- Registers that the specification leaves alone are left alone by the buffer. -/
theorem Refines.regs {rb rb' : RB} {a a' : AState} (R : Refines rb a) (R' : Refines rb' a')
    (x : a'.xlLine = a.xlLine) (y : a'.xlCol = a.xlCol) (c : a'.clip = a.clip) (p : a'.pen = a.pen) (m : a'.masked = a.masked) :
    rb'.xlLine = rb.xlLine ∧ rb'.xlCol = rb.xlCol ∧ (∀ L C, absClipRect rb'.clip L C = absClipRect rb.clip L C) ∧
    rb'.pen = rb.pen ∧ (∀ L C, absMasked rb' L C = absMasked rb L C) :=
  ⟨R'.xlLine.symm.trans (x.trans R.xlLine), R'.xlCol.symm.trans (y.trans R.xlCol),
    fun L C => by rw [← R'.clip, c, R.clip], R'.pen.symm.trans (p.trans R.pen), fun L C => by rw [← R'.masked, m, R.masked]⟩

end Tickit.RB
