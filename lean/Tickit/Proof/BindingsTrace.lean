import Tickit.Proof.Bindings
/-
  C16: the clauses of the property that are statements about a well-formed trace alone (`TraceOk`).
-/
namespace Tickit.Bindings

theorem TraceOk.suffix {a b : List Ev} (h : TraceOk (a ++ b)) : TraceOk b := by
  induction a with
  | nil => exact h
  | cons e a ih => exact ih h.2

theorem TraceOk.at {post pre : List Ev} {e : Ev} (h : TraceOk (post ++ e :: pre)) : EvOk e pre :=
  (TraceOk.suffix h).1

def isFire (k : Nat) : Ev → Bool
  | .fire k' _ => k' == k
  | _ => false

/-- the handler of binding `k` is entered with `TICKIT_EV_FIRE` -/
def isEnterFire (k : Nat) : Ev → Bool
  | .enter k' _ _ fl _ => k' == k && fl % 2 == 1
  | _ => false

/-- the handler of binding `k` is entered with exactly `TICKIT_EV_UNBIND` -/
def isNotif (k : Nat) : Ev → Bool
  | .enter k' _ _ fl _ => k' == k && fl == EV_UNBIND
  | _ => false

def isReq (k : Nat) : Ev → Bool
  | .unbindReq k' => k' == k
  | _ => false

theorem isFire_iff {k : Nat} {e : Ev} : isFire k e = true ↔ ∃ o, e = Ev.fire k o := by
  cases e <;> simp [isFire]

theorem isReq_iff {k : Nat} {e : Ev} : isReq k e = true ↔ e = Ev.unbindReq k := by
  cases e <;> simp [isReq]

theorem isEnterFire_enter {k : Nat} {e : Ev} (h : isEnterFire k e = true) :
    ∃ hh n fl occ, e = Ev.enter k hh n fl occ ∧ fl % 2 = 1 := by
  cases e <;> simp [isEnterFire] at h
  exact ⟨_, _, _, _, by rw [h.1], h.2⟩

theorem isNotif_enter {k : Nat} {e : Ev} (h : isNotif k e = true) : ∃ hh n occ, e = Ev.enter k hh n EV_UNBIND occ := by
  cases e <;> simp [isNotif] at h
  exact ⟨_, _, _, by rw [h.1, h.2]⟩

theorem countP_isFire_zero {log : List Ev} {k : Nat} (h : ¬ firedIn log k) : log.countP (isFire k) = 0 := by
  rw [List.countP_eq_zero]
  intro e he hf
  obtain ⟨o, rfl⟩ := isFire_iff.1 hf
  exact h ⟨o, he⟩

theorem countP_isReq_zero {log : List Ev} {k : Nat} (h : ¬ reqIn log k) : log.countP (isReq k) = 0 := by
  rw [List.countP_eq_zero]
  intro e he hf
  rw [isReq_iff.1 hf] at he
  exact h he

theorem isReq_key {k : Nat} (e : Ev) (h : isReq k e = true) : e.key? = some k := by
  rw [isReq_iff.1 h]; rfl

/-- **one-shot**: the walkers decide at most once to deliver to a one-shot binding. -/
theorem fire_le_one {log : List Ev} (ht : TraceOk log) {k : Nat} {fl : BFlags} (hb : boundIn log k fl)
    (ho : fl.oneshot = true) : log.countP (isFire k) ≤ 1 := by
  induction log with
  | nil => simp
  | cons e pre ih =>
    obtain ⟨he, hp⟩ := ht
    by_cases hf : isFire k e = true
    · -- the newest event is a delivery: the binding was live before it, hence not delivered before
      rw [List.countP_cons_of_pos hf]
      obtain ⟨o, rfl⟩ := isFire_iff.1 hf
      obtain ⟨fl', hb', _, hnf⟩ := he
      have hfl : fl' = fl := boundIn_unique hp hb' (boundIn_cons_fire.1 hb)
      subst hfl
      rw [countP_isFire_zero (hnf ho)]; omega
    · rw [List.countP_cons_of_neg hf]
      by_cases hbp : boundIn pre k fl
      · exact ih hp hbp
      · -- the newest event is the bind itself: nothing earlier mentions the binding
        obtain ⟨id, ev, first, hm⟩ := hb
        rcases List.mem_cons.1 hm with rfl | hm
        · rw [countP_isFire_zero fun ⟨o, ho⟩ => he.bound_fresh _ ho rfl]; omega
        · exact absurd ⟨id, ev, first, hm⟩ hbp

theorem isEnterFire_cons_fire {k k' o : Nat} : isEnterFire k (Ev.fire k' o) = false := rfl

/-- In a list (newest first) where every `p` stands directly after a `q`, each `p` has a `q` of its own: there are no more
    `p`s than `q`s, the newest element not counted. -/
theorem countP_le_countP_tail {α : Type} (p q : α → Bool) : ∀ l : List α,
    (∀ post e pre, l = post ++ e :: pre → p e = true → ∃ e' pre', pre = e' :: pre' ∧ q e' = true) →
    l.countP p ≤ l.tail.countP q
  | [], _ => Nat.le_refl _
  | e :: pre, h => by
    have ih := countP_le_countP_tail p q pre fun post e' pre' hl => h (e :: post) e' pre' (by rw [hl]; rfl)
    rw [List.countP_cons, List.tail_cons]
    by_cases hp : p e = true
    · obtain ⟨e', pre', rfl, hq⟩ := h [] e pre rfl hp
      rw [List.countP_cons_of_pos hq, if_pos hp]
      exact Nat.succ_le_succ ih
    · rw [if_neg hp]
      exact Nat.le_trans ih (List.tail_sublist pre).countP_le

/-- Every entry with `TICKIT_EV_FIRE` is the immediate consequence of a walker's decision. -/
theorem enterFire_le_fire {log : List Ev} (ht : TraceOk log) (k : Nat) :
    log.countP (isEnterFire k) ≤ log.countP (isFire k) := by
  refine Nat.le_trans (countP_le_countP_tail _ _ log fun post e pre hl hp => ?_) (List.tail_sublist log).countP_le
  have he : EvOk e pre := TraceOk.at (hl ▸ ht)
  obtain ⟨h, n, fl, occ, rfl, hodd⟩ := isEnterFire_enter hp
  obtain ⟨pre', rfl⟩ := he.enter_fire hodd
  exact ⟨_, _, rfl, isFire_iff.2 ⟨occ, rfl⟩⟩

/-- A request to unbind hits a live binding, so a binding is requested at most once. -/
theorem req_le_one {log : List Ev} (ht : TraceOk log) (k : Nat) : log.countP (isReq k) ≤ 1 := by
  induction log with
  | nil => simp
  | cons e pre ih =>
    obtain ⟨he, hp⟩ := ht
    by_cases hf : isReq k e = true
    · rw [List.countP_cons_of_pos hf]
      rw [isReq_iff.1 hf] at he
      obtain ⟨_, _, hnr, _⟩ := he
      rw [countP_isReq_zero hnr]; omega
    · rw [List.countP_cons_of_neg hf]; exact ih hp

/-- Unbind notifications (`TICKIT_EV_UNBIND` alone) are never more than the unbind requests: at most one. -/
theorem notif_le_req {log : List Ev} (ht : TraceOk log) (k : Nat) : log.countP (isNotif k) ≤ log.countP (isReq k) := by
  refine Nat.le_trans (countP_le_countP_tail _ _ log fun post e pre hl hp => ?_) (List.tail_sublist log).countP_le
  have he : EvOk e pre := TraceOk.at (hl ▸ ht)
  obtain ⟨h, n, occ, rfl⟩ := isNotif_enter hp
  obtain ⟨pre', _, rfl, _⟩ := he.enter_notif rfl
  exact ⟨_, _, rfl, isReq_iff.2 rfl⟩

/-- … and only a binding that asked for it (`TICKIT_BIND_UNBIND`) gets one. -/
theorem notif_asked {log : List Ev} (ht : TraceOk log) {k h n occ : Nat} (hm : Ev.enter k h n EV_UNBIND occ ∈ log) :
    ∃ fl, boundIn log k fl ∧ fl.unbind = true := by
  obtain ⟨post, pre, rfl⟩ := List.append_of_mem hm
  have he : EvOk (Ev.enter k h n EV_UNBIND occ) pre := TraceOk.at ht
  obtain ⟨_, fl, _, ⟨id, ev, first, hb⟩, hu⟩ := he.enter_notif rfl
  exact ⟨fl, ⟨id, ev, first, List.mem_append_right _ (List.mem_cons_of_mem _ hb)⟩, hu⟩

/-- **never after unbind**: once binding `k` has been requested unbound, no walker delivers to it and its handler
    is never entered with `TICKIT_EV_FIRE` again. -/
theorem no_fire_after_req {post pre : List Ev} {k : Nat} (ht : TraceOk (post ++ Ev.unbindReq k :: pre)) :
    post.countP (isFire k) = 0 ∧ post.countP (isEnterFire k) = 0 := by
  -- a delivery finds its binding live: not requested before
  have hfire : ∀ p1 p2 o, post = p1 ++ Ev.fire k o :: p2 → False := by
    intro p1 p2 o hsplit
    rw [hsplit, List.append_assoc] at ht
    obtain ⟨_, _, hnr, _⟩ : liveAt _ k := TraceOk.at (e := Ev.fire k o) ht
    exact hnr (by simp [reqIn])
  refine ⟨List.countP_eq_zero.2 fun e he hf => ?_, List.countP_eq_zero.2 fun e he hf => ?_⟩
  · obtain ⟨o, rfl⟩ := isFire_iff.1 hf
    obtain ⟨p1, p2, hsplit⟩ := List.append_of_mem he
    exact hfire p1 p2 o hsplit
  · obtain ⟨hh, n, fl, occ, rfl, hodd⟩ := isEnterFire_enter hf
    obtain ⟨p1, p2, hsplit⟩ := List.append_of_mem he
    rw [hsplit, List.append_assoc] at ht
    have hev : EvOk (Ev.enter k hh n fl occ) _ := TraceOk.at ht
    obtain ⟨pre', hpre'⟩ := hev.enter_fire hodd
    -- the entry stands directly after its delivery, which would be the request itself or lie in `post` too
    cases p2 with
    | nil => cases hpre'
    | cons x xs =>
      have hx : x = Ev.fire k occ := (List.cons.inj hpre').1
      exact hfire (p1 ++ [Ev.enter k hh n fl occ]) xs occ (by rw [hsplit, hx]; simp)

theorem mem_bindOrder {log : List Ev} {k : Nat} (h : k ∈ bindOrder log) : ∃ e ∈ log, e.key? = some k := by
  induction log with
  | nil => cases h
  | cons e pre ih =>
    have hpre : k ∈ bindOrder pre → ∃ e' ∈ e :: pre, e'.key? = some k := fun hk =>
      let ⟨e', he', hk'⟩ := ih hk; ⟨e', List.mem_cons_of_mem _ he', hk'⟩
    cases e with
    | bound k' id ev first fl =>
      simp only [bindOrder] at h
      split at h
      · rcases List.mem_cons.1 h with rfl | h
        · exact ⟨_, List.mem_cons_self .., rfl⟩
        · exact hpre h
      · rcases List.mem_append.1 h with h | h
        · exact hpre h
        · rw [List.mem_singleton.1 h]; exact ⟨_, List.mem_cons_self .., rfl⟩
    | _ => exact hpre h

/-- The binding order read off a well-formed trace has no repetition: a bind's key is new to the trace. -/
theorem bindOrder_nodup {log : List Ev} (ht : TraceOk log) : (bindOrder log).Nodup := by
  induction log with
  | nil => exact List.nodup_nil
  | cons e pre ih =>
    obtain ⟨he, hp⟩ := ht
    cases e with
    | bound k id ev first fl =>
      exact nodup_front_back (fun hk => let ⟨e', he', hk'⟩ := mem_bindOrder hk; he.bound_fresh e' he' hk') (ih hp) first
    | _ => exact ih hp

end Tickit.Bindings
