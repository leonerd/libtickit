import Tickit.Proof.WinFocus
import Tickit.Proof.WinFocusSpec
import Tickit.Proof.WinSteps
import Tickit.Proof.WinGeom
import Tickit.Proof.WinClose
/-
  C15, `restore_requested`: an operation leaves a restore or an expose pending, or does not change `cursorSpec`.

  The generic step `requests_of_cover` needs of an operation that the damage it records covers every cell whose owner
  changes (`Covers`) and that it leaves the focus chain alone (`ChainSame`).  `Covers` is what the window engine's steps
  record (C01: `WinFlush.Recorded.cov`).  Show, hide and close rewrite the window and at most its parent's link
  (`Two`); `relink_requests` is the step these three share.  `Good15`, the invariant of the history theorems, is defined
  here with its executable form `good15B`: the request lemmas are its first users.
-/
namespace Tickit
namespace WinFocus
open WinTree WinSpec WinFlush

/-- The invariants the window engine's step lemmas need, together with ours and the flag discipline. -/
structure Good15 (t : Tree) : Prop where
  wf : wfB t = true
  wfp : WFp t
  rootWin : RootWin t
  onlyRoot : OnlyRoot t
  nodup : ChildrenNodup t
  noSelf : NoSelfParent t
  pos : RootsPositive t
  nonempty : ∀ x ∈ t.root.damage, x.Nonempty
  /-- recorded damage is flagged for the next flush -/
  flagged : t.root.damage ≠ [] → t.root.needsExpose = true
  /-- a pending expose or restore keeps the flush from being skipped -/
  later : (t.root.needsExpose = true ∨ t.root.needsRestore = true) → t.root.needsLater = true

/-- The structural invariants of the window engine (C01) that `Good15` carries. -/
structure Struct (t : Tree) : Prop extends TreeOk t where
  pos : RootsPositive t

theorem Good15.struct {t : Tree} (hg : Good15 t) : Struct t :=
  ⟨⟨hg.wfp, hg.nodup, hg.noSelf, hg.onlyRoot, hg.rootWin⟩, hg.pos⟩

/-- Something is pending that makes the next flush re-establish the cursor (the left disjunct of `Requests`). -/
def Pending (t : Tree) : Prop :=
  (t.root.needsRestore = true ∨ t.root.needsExpose = true) ∧ t.root.needsLater = true

/-- The records along the focus chain of `t` are as they were (links, focus flags, cursor records). -/
def ChainSame : Tree → Tree → Prop := ChainBy fun _ w w' => w'.isFocused = w.isFocused ∧ w'.cursor = w.cursor

/-- The damage recorded in `t'` covers every terminal cell that `t'` does not give to the window (and local cell) that
    `t` gave it to: the form in which the cursor property uses the window engine's damage specification. -/
def Covers (t t' : Tree) : Prop := ∀ L C, ownerAt t' L C ≠ ownerAt t L C → Covered t'.root.damage L C

/-- With the focus chain intact, what the composition shows of a cell decides `cursorSpec`. -/
theorem cursorSpec_of_chain {t t' : Tree} (hwf : wfB t = true) (hwf' : wfB t' = true) (hchain : ChainSame t t')
    (hfw : ∀ L C x, ownerAt t' L C = some x → ownerAt t L C = some x)
    (hbw : ∀ L C x, ownerAt t L C = some x → ownerAt t' L C = some x) : cursorSpec t' = cursorSpec t := by
  have hce := chainBy_end hwf hchain
  have hoe : OnChain t (chainEnd t (treeFuel t) 0) := onChain_chainEnd hwf _ 0 .root
  obtain ⟨w, hw⟩ := onChain_live hwf hoe
  obtain ⟨w', hw', _, hf', hc'⟩ := hchain.2 _ w hoe hw
  apply cursorSpec_ext hwf hwf'
  intro L C s
  constructor
  · rintro ⟨w2, hw2, hf, hcv, hs, hat⟩
    rw [hce] at hw2 hat
    cases Live.unique hw2 hw'
    rw [hc'] at hat hcv hs
    exact ⟨w, hw, hf'.symm.trans hf, hcv, hs, hfw L C _ hat⟩
  · rintro ⟨w2, hw2, hf, hcv, hs, hat⟩
    cases Live.unique hw2 hw
    refine ⟨w', by rw [hce]; exact hw', hf'.trans hf, by rw [hc']; exact hcv, by rw [hc']; exact hs, ?_⟩
    rw [hce, hc']; exact hbw L C _ hat

theorem spec_of_cover {t t' : Tree} (hwf : wfB t = true) (hflagged : t.root.damage ≠ [] → t.root.needsExpose = true)
    (hwf' : wfB t' = true) (hcov : Covers t t')
    (hflags : Flagged t.root t'.root)
    (hchain : ChainSame t t') : t'.root.needsExpose = true ∨ cursorSpec t' = cursorSpec t := by
  rcases hflags with ⟨hr, hr2, _⟩ | ⟨h1, _⟩
  · by_cases hd : t.root.damage = []
    · -- no damage recorded, before or after: ownership is as it was
      have same : ∀ L C, ownerAt t' L C = ownerAt t L C := fun L C => Decidable.by_contra fun hne =>
        RectSet.covered_nil L C (by have := hcov L C hne; rwa [hr, hd] at this)
      exact .inr (cursorSpec_of_chain hwf hwf' hchain (fun L C x h => same L C ▸ h) fun L C x h => (same L C).symm ▸ h)
    · exact .inl (hr2 ▸ hflagged hd)
  · exact .inl h1

theorem requests_of_cover {t t' : Tree} (hg : Good15 t) (hwf' : wfB t' = true) (hcov : Covers t t')
    (hflags : Flagged t.root t'.root) (hchain : ChainSame t t') : Requests t t' := by
  refine (spec_of_cover hg.wf hg.flagged hwf' hcov hflags hchain).imp_left fun he => ⟨.inr he, ?_⟩
  rcases hflags with ⟨_, h2, h3⟩ | ⟨_, h⟩
  · rw [h3]; exact hg.later (.inl (h2 ▸ he))
  · exact h


theorem cursorSpec_set_same {t : Tree} {x : Nat} {w w' : Win} (hw : t.wins[x]? = some w) (hs : shapeOf w' = shapeOf w)
    (hf : w'.isFocused = w.isFocused) (hc : w'.cursor = w.cursor) : cursorSpec (WinTree.set t x w') = cursorSpec t := by
  apply cursorSpec_agree (agree_set hw hs)
  intro a a' ha ha'
  left
  rw [set_wins_of hw] at ha'
  by_cases he : x = chainEnd t (treeFuel t) 0
  · rw [if_pos he] at ha'; rw [← he, hw] at ha; cases ha; cases ha'; exact ⟨hf, hc⟩
  · rw [if_neg he, ha] at ha'; cases ha'; exact ⟨rfl, rfl⟩

theorem chainSame_trans {t1 t2 t3 : Tree} (h12 : ChainSame t1 t2) (h23 : ChainSame t2 t3) : ChainSame t1 t3 :=
  ChainBy.trans (fun _ _ _ _ f g => ⟨g.1.trans f.1, g.2.trans f.2⟩) h12 h23

theorem chainSame_wins {t t' : Tree} (h : t'.wins = t.wins) : ChainSame t t' := .of_wins (fun _ _ => ⟨rfl, rfl⟩) h

theorem chainSame_set {t : Tree} {x : Nat} {w w' : Win} (hw : Live t x w) (hf : w'.freed = false)
    (hc : ¬ OnChain t x ∨ (w'.focusedChild = w.focusedChild ∧ w'.isFocused = w.isFocused ∧ w'.cursor = w.cursor)) :
    ChainSame t (WinTree.set t x w') := .set (fun _ _ => ⟨rfl, rfl⟩) hw hf hc

theorem onChain_anc {t : Tree} (h : wfB t = true) {x : Nat} (ho : OnChain t x) : Anc t x 0 := by
  induction ho with
  | root => exact .refl 0
  | step _ hw hfc ih =>
    obtain ⟨cw, hcw, hcp, _⟩ := wf_focused h hw hfc
    exact .step hcw hcp ih

theorem getRoot_anc {t : Tree} (h : wfB t = true) : ∀ (x : Nat) (w : Win), Live t x w → ∀ f, x < f → Anc t x 0 →
    getRoot t f x = .ok 0 :=
  WinTree.chain_induction (wf_upward h) fun x w f hw ih h0 => by
    rw [getRoot]
    simp only [bind_ok_iff]
    refine ⟨w, get_ok_iff.mpr hw, ?_⟩
    cases hp : w.parent with
    | none =>
      have := anc_parent_none hw hp h0
      subst this
      obtain ⟨r, hr, hroot, _⟩ := wf_root h
      rw [Live.unique hw hr]; simp [hroot]; rfl
    | some p =>
      simp only [(wf_parent h hw hp).2.1, Bool.false_eq_true, if_false]
      exact (ih p hp).2 (anc_parent_some h hw hp h0)


/-- Flags only go up, and nothing is added to the queue. -/
structure RootKeeps (r r' : Root) : Prop where
  restore : r.needsRestore = true → r'.needsRestore = true
  expose : r.needsExpose = true → r'.needsExpose = true
  later : r.needsLater = true → r'.needsLater = true
  queue : ∀ q ∈ r'.changes, q ∈ r.changes

theorem rootKeeps_refl (r : Root) : RootKeeps r r := ⟨id, id, id, fun _ => id⟩
theorem rootKeeps_trans {a b c : Root} (h1 : RootKeeps a b) (h2 : RootKeeps b c) : RootKeeps a c :=
  ⟨fun h => h2.restore (h1.restore h), fun h => h2.expose (h1.expose h), fun h => h2.later (h1.later h),
   fun q h => h1.queue q (h2.queue q h)⟩

theorem pending_keeps {t t' : Tree} (h : RootKeeps t.root t'.root) (hp : Pending t) : Pending t' :=
  ⟨hp.1.imp h.restore h.expose, h.later hp.2⟩

/-- The root record after an operation that can only request a restore (not the window engine's `WinFlush.RootStep`,
    which is about recorded damage). -/
def RootReq (r r' : Root) : Prop := r' = r ∨ r' = { r with needsRestore := true, needsLater := true }

theorem rootKeeps_of_req {r r' : Root} (h : RootReq r r') : RootKeeps r r' := by
  rcases h with h | h
  · rw [h]; exact rootKeeps_refl _
  · rw [h]; exact ⟨fun _ => rfl, id, fun _ => rfl, fun _ => id⟩

theorem chainRestoreAfter_rootReq (fx : Fixes) (t t'' : Tree) (p : Option Nat) :
    RootReq t''.root (chainRestoreAfter fx t t'' p).root := by
  unfold chainRestoreAfter
  split
  · exact .inl rfl
  · split
    · split
      · unfold requestRestoreAbove; split
        · exact .inr rfl
        · exact .inl rfl
      · exact .inl rfl
    · exact .inl rfl

theorem exposeIf_wins {v : Bool} {t t' : Tree} {F p : Nat} {r : Rect} (h : exposeIf v t F p r = .ok t') :
    t'.wins = t.wins := by
  rcases exposeIf_cases h with rfl | ⟨d, rfl⟩ <;> rfl

theorem parent_ne {t : Tree} (hwf : wfB t = true) {win p : Nat} {w : Win} (hw : Live t win w) (hp : w.parent = some p) :
    p ≠ win := Nat.ne_of_lt (wf_parent hwf hw hp).1

/-- `T` is `t` with the slots `a` and `b` rewritten (`a` may lie beyond the end of `t`: a window just created). -/
structure Two (t T : Tree) (a : Nat) (wa : Win) (b : Nat) (wb : Win) : Prop where
  fst : T.wins[a]? = some wa
  snd : T.wins[b]? = some wb
  other : ∀ i : Nat, i ≠ a → i ≠ b → T.wins[i]? = t.wins[i]?

section two
variable {t T : Tree} {a b : Nat} {wa wb wa0 wb0 : Win}

theorem Two.of_sets (ha : t.wins[a]? = some wa0) (hb : t.wins[b]? = some wb0) (hab : b ≠ a)
    (h : T.wins = (WinTree.set (WinTree.set t a wa) b wb).wins) : Two t T a wa b wb := by
  refine ⟨?_, ?_, fun i h1 h2 => ?_⟩ <;> rw [h, set_set_wins ha hb hab.symm]
  · rw [if_neg hab, if_pos rfl]
  · rw [if_pos rfl]
  · rw [if_neg (Ne.symm h2), if_neg (Ne.symm h1)]

theorem Two.of_set (ha : t.wins[a]? = some wa0) (hb : t.wins[b]? = some wb) (hab : b ≠ a)
    (h : T.wins = (WinTree.set t a wa).wins) : Two t T a wa b wb := by
  refine ⟨?_, ?_, fun i h1 _ => ?_⟩ <;> rw [h, set_wins_of ha]
  · rw [if_pos rfl]
  · rw [if_neg hab.symm]; exact hb
  · rw [if_neg (Ne.symm h1)]

theorem Two.comm (h : Two t T a wa b wb) : Two t T b wb a wa := ⟨h.snd, h.fst, fun i h1 h2 => h.other i h2 h1⟩

theorem Two.of_wins {T' : Tree} (h : Two t T a wa b wb) (hw : T'.wins = T.wins) : Two t T' a wa b wb :=
  ⟨hw ▸ h.fst, hw ▸ h.snd, fun i h1 h2 => hw ▸ h.other i h1 h2⟩

theorem Two.cases (h : Two t T a wa b wb) {j : Nat} {x : Win} (hx : Live T j x) :
    (j = a ∧ x = wa) ∨ (j = b ∧ x = wb) ∨ (j ≠ a ∧ j ≠ b ∧ Live t j x) := by
  by_cases h1 : j = a
  · subst h1; exact .inl ⟨rfl, Option.some.inj (hx.1.symm.trans h.fst)⟩
  · by_cases h2 : j = b
    · subst h2; exact .inr (.inl ⟨rfl, Option.some.inj (hx.1.symm.trans h.snd)⟩)
    · exact .inr (.inr ⟨h1, h2, (h.other j h1 h2).symm.trans hx.1, hx.2⟩)

end two

/-- The store invariant of a store with two slots rewritten, its links granted.  Slot `a` (a window that loses its parent,
    or a new one) is not the root's; slot `p` keeps root flag, parent and liveness and does not turn invisible; `A` sets
    apart the windows that `focused_child` links must no longer go to (`fcOk_sim`). -/
theorem Wf.two {t T : Tree} {a p : Nat} {wa pw pw' : Win} (hW : Wf t) (h2 : Two t T a wa p pw') (hpw : Live t p pw)
    (hlinked : Linked T) (h0 : a ≠ 0) (ha : ∀ q, wa.parent = some q → wa.isRoot = false)
    (hr : pw'.isRoot = pw.isRoot) (hpp : pw'.parent = pw.parent) (hf : pw'.freed = false)
    (hv : pw.isVisible = true → pw'.isVisible = true) (A : Nat → Prop)
    (hA : ∀ c cw, Live t c cw → ¬ A c → c ≠ a)
    (backa : ∀ c, wa.focusedChild = some c → ∃ x, Live t a x ∧ x.focusedChild = some c ∧ ¬ A c)
    (backp : ∀ c, pw'.focusedChild = some c → pw.focusedChild = some c ∧ ¬ A c)
    (backo : ∀ j x c, j ≠ p → Live t j x → x.focusedChild = some c → ¬ A c) : Wf T := by
  have hlp : Live T p pw' := ⟨h2.snd, hf⟩
  refine ⟨?_, hlinked, fun j x q hx hq => ?_, ?_⟩
  · obtain ⟨r, hr0, h1, h3⟩ := hW.root
    by_cases h0p : (0 : Nat) = p
    · subst h0p; cases Live.unique hpw hr0; exact ⟨_, hlp, hr.trans h1, hpp.trans h3⟩
    · exact ⟨r, ⟨(h2.other 0 (Ne.symm h0) h0p).trans hr0.1, hr0.2⟩, h1, h3⟩
  · rcases h2.cases hx with ⟨_, rfl⟩ | ⟨rfl, rfl⟩ | ⟨_, _, hx0⟩
    · exact ha q hq
    · exact hr.trans (hW.noRoot j pw q hpw (hpp ▸ hq))
    · exact hW.noRoot j x q hx0 hq
  · refine fcOk_sim hW.fc A (fun c cw hcw hc => ?_) (fun j x' c hx' hc => .inl ?_)
    · by_cases hcp : c = p
      · subst hcp; cases Live.unique hcw hpw; exact ⟨_, hlp, hpp, hv⟩
      · exact ⟨cw, ⟨(h2.other c (hA c cw hcw hc) hcp).trans hcw.1, hcw.2⟩, rfl, id⟩
    · rcases h2.cases hx' with ⟨rfl, rfl⟩ | ⟨rfl, rfl⟩ | ⟨_, hjp, hx0⟩
      · exact backa c hc
      · exact ⟨pw, hpw, backp c hc⟩
      · exact ⟨x', hx0, hc, backo j x' c hjp hx0 hc⟩

theorem hide_pieces {t t'' : Tree} {fuel win : Nat} {w : Win} (hh : WinTree.hide t fuel win = .ok t'') (hw : Live t win w)
    (hne : ∀ p, w.parent = some p → p ≠ win) :
    (w.parent = none ∧ t'' = WinTree.set t win { w with isVisible := false }) ∨
    (∃ p pw, w.parent = some p ∧ Live t p pw ∧ Two t t'' win { w with isVisible := false } p
        (if pw.focusedChild = some win then { pw with focusedChild := none } else pw)) := by
  obtain hp | ⟨p, hp⟩ : w.parent = none ∨ ∃ p, w.parent = some p := by cases w.parent <;> simp
  · rw [hide_orphan hw hp] at hh; cases hh; exact .inl ⟨hp, rfl⟩
  · right
    rw [hide_child hw hp] at hh
    obtain ⟨pw, hgp, hh⟩ := bind_ok_iff.mp hh
    have hpw : Live t p pw := by
      have := get_ok_iff.mp hgp
      rwa [WinTree.Live, set_wins_ne _ (Ne.symm (hne p hp))] at this
    refine ⟨p, pw, hp, hpw, ?_⟩
    have hwins := expose_wins hh
    split at hwins
    · next hc => rw [if_pos hc]; exact .of_sets hw.1 hpw.1 (hne p hp) hwins
    · next hc => rw [if_neg hc]; exact .of_set hw.1 hpw.1 (hne p hp) hwins

theorem show_pieces {t t'' : Tree} {fuel win : Nat} {w : Win} (hh : WinTree.show t fuel win = .ok t'') (hw : Live t win w)
    (hne : ∀ p, w.parent = some p → p ≠ win) :
    (w.parent = none ∧ t''.wins = (WinTree.set t win { w with isVisible := true }).wins) ∨
    (∃ p pw, w.parent = some p ∧ Live t p pw ∧ Two t t'' win { w with isVisible := true } p
        (if pw.focusedChild.isNone && (w.focusedChild.isSome || w.isFocused) then { pw with focusedChild := some win }
         else pw)) := by
  obtain hp | ⟨p, hp⟩ : w.parent = none ∨ ∃ p, w.parent = some p := by cases w.parent <;> simp
  · rw [show_orphan hw hp] at hh
    exact .inl ⟨hp, expose_wins hh⟩
  · rw [show_child hw hp] at hh
    obtain ⟨pw, hgp, hh⟩ := bind_ok_iff.mp hh
    have hpw : Live t p pw := by
      have := get_ok_iff.mp hgp
      rwa [WinTree.Live, set_wins_ne _ (Ne.symm (hne p hp))] at this
    refine .inr ⟨p, pw, hp, hpw, ?_⟩
    have hwins := expose_wins hh
    split at hwins
    · next hc => rw [if_pos hc]; exact .of_sets hw.1 hpw.1 (hne p hp) hwins
    · next hc => rw [if_neg hc]; exact .of_set hw.1 hpw.1 (hne p hp) hwins

theorem anc_transfer_below {t t' : Tree} {win : Nat}
    (hlook : ∀ (c : Nat) (cw : Win), Live t c cw → c ≠ win → ∃ cw', Live t' c cw' ∧ cw'.parent = cw.parent)
    (hwf : wfB t = true) : ∀ {x : Nat}, x < win → Anc t x 0 → Anc t' x 0 := by
  intro x hx ha
  generalize hz : (0 : Nat) = z at ha
  induction ha with
  | refl => exact .refl _
  | @step o p y w hw hp _ ih =>
    have hlt := (wf_parent hwf hw hp).1
    obtain ⟨w', hw', hp'⟩ := hlook o w hw (Nat.ne_of_lt hx)
    exact .step hw' (hp'.trans hp) (ih (Nat.lt_trans hlt hx) hz)

/-- A record rewritten in a way the walk along the focus chain does not see. -/
structure Unseen (w w' : Win) : Prop where
  freed : w'.freed = false
  focused : w'.isFocused = w.isFocused
  cursor : w'.cursor = w.cursor

/-- The step shared by `show`, `hide` and `close` of a window `win` with parent `p`: the store afterwards is the old one
    with `win` rewritten in a way the focus chain does not see and `p` rewritten at most in its `focused_child` link.
    When that link changed the repair `chainRestore` walks up from `p`: it finds the root window and requests a restore
    — or `p` does not hang below the root, hence is not on the focus chain, and the chain is intact. -/
theorem relink_requests {fx : Fixes} (hfx2 : fx.chainRestore = true) {t t'' : Tree} {win p : Nat} {w w' pw pw' : Win}
    (hg : Good15 t) (hw : Live t win w) (hp : w.parent = some p) (hpw : Live t p pw)
    (hst : Two t t'' win w' p pw') (hsz : t''.wins.size = t.wins.size)
    (hw' : Unseen w w') (hfc : w'.focusedChild = w.focusedChild) (hpw' : Unseen pw pw') (hpp : pw'.parent = pw.parent)
    (hwf'' : wfB t'' = true) (hcov : Covers t t'') (hflags : Flagged t.root t''.root) :
    Requests t (chainRestoreAfter fx t t'' (some p)) := by
  have chain : (pw'.focusedChild = pw.focusedChild ∨ ¬ OnChain t p) → ChainSame t t'' := by
    intro hc
    refine ⟨Nat.le_of_eq hsz.symm, fun y wy ho hwy => ?_⟩
    by_cases hyw : y = win
    · subst hyw; cases Live.unique hwy hw
      exact ⟨w', ⟨hst.fst, hw'.freed⟩, hfc, hw'.focused, hw'.cursor⟩
    · by_cases hyp : y = p
      · subst hyp; cases Live.unique hwy hpw
        exact ⟨pw', ⟨hst.snd, hpw'.freed⟩, hc.resolve_right (fun h => h ho), hpw'.focused, hpw'.cursor⟩
      · exact ⟨wy, ⟨by rw [hst.other y hyw hyp]; exact hwy.1, hwy.2⟩, rfl, rfl, rfl⟩
  unfold chainRestoreAfter
  simp only [hpw.1, hst.snd, hfx2, Bool.true_and]
  by_cases hl : pw.focusedChild = pw'.focusedChild
  · simp only [hl, ne_eq, not_true_eq_false, decide_false, Bool.false_eq_true, if_false]
    exact requests_of_cover hg hwf'' hcov hflags (chain (.inl hl.symm))
  · simp only [ne_eq, hl, not_false_eq_true, decide_true, if_true]
    unfold requestRestoreAbove
    cases hgr : getRoot t'' (treeFuel t'') p with
    | ok r => exact .inl ⟨.inl rfl, rfl⟩
    | ub e =>
      refine requests_of_cover hg hwf'' hcov hflags (chain (.inr fun ho => ?_))
      have hlook : ∀ (c : Nat) (cw : Win), Live t c cw → c ≠ win → ∃ cw', Live t'' c cw' ∧ cw'.parent = cw.parent := by
        intro c cw hcw h1
        by_cases h2 : c = p
        · subst h2; cases Live.unique hcw hpw
          exact ⟨pw', ⟨hst.snd, hpw'.freed⟩, hpp⟩
        · exact ⟨cw, ⟨by rw [hst.other c h1 h2]; exact hcw.1, hcw.2⟩, rfl⟩
      have hanc := anc_transfer_below hlook hg.wf (wf_parent hg.wf hw hp).1 (onChain_anc hg.wf ho)
      have hlt : p < treeFuel t'' := by unfold treeFuel; rw [hsz]; exact Nat.lt_succ_of_lt (Live.lt hpw)
      rw [getRoot_anc hwf'' p _ ⟨hst.snd, hpw'.1⟩ _ hlt hanc] at hgr
      cases hgr

/-- `tickit_window_hide` and `tickit_window_show` once the window engine's step is at hand: the window's visibility flag is
    rewritten and, below a parent, at most the parent's `focused_child` link. -/
theorem vis_requests {fx : Fixes} (hfx2 : fx.chainRestore = true) {t t'' : Tree} {win : Nat} {w : Win} {b : Bool}
    (hg : Good15 t) (hw : Live t win w) (hs : WinFlush.Step t t'') (hsz : t''.wins.size = t.wins.size)
    (hwf'' : wfB t'' = true)
    (hpieces : (w.parent = none ∧ t''.wins = (WinTree.set t win { w with isVisible := b }).wins) ∨
      ∃ p pw pw', w.parent = some p ∧ Live t p pw ∧ Two t t'' win { w with isVisible := b } p pw' ∧
        ∃ fc, pw' = { pw with focusedChild := fc }) :
    Requests t (chainRestoreAfter fx t t'' w.parent) := by
  rcases hpieces with ⟨hp, hw''⟩ | ⟨p, pw, _, hp, hpw, hst, fc, rfl⟩ <;> rw [hp]
  · exact requests_of_cover hg hwf'' hs.recorded.cov hs.root.flagged (chainSame_trans
      (chainSame_set (w' := { w with isVisible := b }) hw (by exact hw.2) (.inr ⟨rfl, rfl, rfl⟩)) (chainSame_wins hw''))
  · exact relink_requests hfx2 hg hw hp hpw hst hsz ⟨hw.2, rfl, rfl⟩ rfl ⟨hpw.2, rfl, rfl⟩ rfl hwf'' hs.recorded.cov
      hs.root.flagged

theorem hide_requests {fx : Fixes} (hfx1 : fx.hiddenRoot = true) (hfx2 : fx.chainRestore = true) {t t' : Tree} {win : Nat}
    (hg : Good15 t) (hh : hideWin fx t win = .ok t') : Requests t t' := by
  obtain ⟨w, t'', hw, h2, he⟩ := hideWin_ok hh
  obtain ⟨r0, hr0⟩ := hg.rootWin.record
  by_cases h0 : win = 0
  · -- the root window itself
    subst h0
    cases hw.1.symm.trans hr0.slot
    simp only [hfx1, hr0.parent, hr0.isRoot, Option.isNone_none, Bool.and_self, if_true] at he
    subst he
    exact .inl ⟨.inl rfl, rfl⟩
  · have hnr : w.isRoot = false := by
      cases hr : w.isRoot with
      | false => rfl
      | true => exact absurd (hg.onlyRoot win w hw.1 hr) h0
    simp only [hnr, Bool.and_false, Bool.false_eq_true, if_false] at he
    subst he
    obtain ⟨hs, hsb⟩ := WinFlush.hide_step h2 h0 hg.struct.toTreeOk hg.pos hg.nonempty
    refine vis_requests (b := false) hfx2 hg hw hs hsb.size (hide_wf hg.wf hw h2) ?_
    rcases hide_pieces h2 hw (fun p hp => parent_ne hg.wf hw hp) with ⟨hp, rfl⟩ | ⟨p, pw, hp, hpw, hst⟩
    · exact .inl ⟨hp, rfl⟩
    · exact .inr ⟨p, pw, _, hp, hpw, hst, by split <;> exact ⟨_, rfl⟩⟩

theorem show_requests {fx : Fixes} (hfx2 : fx.chainRestore = true) {t t' : Tree} {win : Nat}
    (hg : Good15 t) (hh : showWin fx t win = .ok t') : Requests t t' := by
  obtain ⟨w, t'', hw, h2, rfl⟩ := showWin_ok hh
  obtain ⟨hs, hsb⟩ := WinFlush.show_step h2 hg.struct.toTreeOk hg.pos hg.nonempty
  refine vis_requests (b := true) hfx2 hg hw hs hsb.size (show_wf hg.wf hw h2) ?_
  rcases show_pieces h2 hw (fun p hp => parent_ne hg.wf hw hp) with h | ⟨p, pw, hp, hpw, hst⟩
  · exact .inl h
  · exact .inr ⟨p, pw, _, hp, hpw, hst, by split <;> exact ⟨_, rfl⟩⟩

theorem setGeometryExposed_pieces {t t' : Tree} {fuel win : Nat} {r : Rect}
    (h : WinFlush.setGeometryExposed t fuel win r = .ok t') :
    ∃ w, Live t win w ∧ (t'.wins = t.wins ∨ t'.wins = (WinTree.set t win { w with rect := r }).wins) := by
  unfold WinFlush.setGeometryExposed at h
  simp only [bind_ok_iff] at h
  obtain ⟨w, hg, x, hx, h⟩ := h
  have hw := get_ok_iff.mp hg
  have hwins : t'.wins = x.1.wins := by
    obtain ⟨t1, b⟩ := x
    simp only [] at h
    split at h
    · simp only [bind_ok_iff] at h
      obtain ⟨t2, h2, h3⟩ := h
      exact (expose_wins h3).trans (expose_wins h2)
    · simp only [pure_ok_iff] at h; subst h; rfl
  obtain ⟨w1, hw1, ⟨_, h1⟩ | ⟨_, h1⟩⟩ := setGeometry_cases hx <;> cases Live.unique hw1 hw
  · exact ⟨w, hw, .inr (hwins.trans (by rw [h1]))⟩
  · exact ⟨w, hw, .inl (hwins.trans (by rw [h1]))⟩


theorem purge_root {t t1 : Tree} {fuel win : Nat} (h : purgeHierarchyChanges t fuel win = .ok t1) :
    ∃ q, t1 = { t with root := { t.root with changes := q } } := by
  rcases purge_cases h with h | h <;> subst h
  · exact ⟨t1.root.changes, rfl⟩
  · exact ⟨_, rfl⟩

/-- `tickit_window_close` of a window with parent `p`.  The store: REMOVE rewrites `p` (`WinTree.unlinkParent`) and clears
    the window's parent pointer; the window then gets the `closed` mark.  (What it does to the root record is the window
    engine's `WinFlush.close_step`.) -/
structure Closes (t t' : Tree) (win : Nat) (w : Win) (p : Nat) (pw : Win) : Prop where
  live : Live t p pw
  wins : t'.wins = (WinTree.set (WinTree.set t p (unlinkParent pw win (pw.children.erase win))) win
    { w with parent := none, isClosed := true }).wins

theorem close_pieces {t t' : Tree} {fuel win : Nat} {w : Win} (hh : WinTree.close t fuel win = .ok t') (hw : Live t win w)
    (hne : ∀ p, w.parent = some p → p ≠ win) :
    (w.parent = none ∧ t' = WinTree.set t win { w with isClosed := true }) ∨
    ∃ p pw, w.parent = some p ∧ Closes t t' win w p pw := by
  obtain ⟨w0, tc, wc, hw0, hwc, rfl, hcase⟩ := close_ok hh
  cases Live.unique hw0 hw
  rcases hcase with ⟨hp, rfl⟩ | ⟨p, tq, hp, hpurge, hrem⟩
  · cases Live.unique hwc hw; exact .inl ⟨hp, rfl⟩
  · right
    have hpne := hne p hp
    obtain ⟨q, rfl⟩ := purge_root hpurge
    obtain ⟨pw, ww, cs, tb, hpw, hww, hcs, h1, hexp⟩ := doHierarchyChange_ok hrem
    cases Live.unique (t := t) hww hw
    obtain ⟨_, rfl⟩ := listRemove_ok_iff.1 hcs
    rw [relink_remove hww hpne] at h1
    cases h1
    have hwins : tc.wins = (WinTree.set (WinTree.set t p (unlinkParent pw win (pw.children.erase win))) win
        { w with parent := none }).wins := (exposeIf_wins hexp).trans rfl
    have hwc' : wc = { w with parent := none } := by
      have := hwc.1; rw [hwins, set_wins_self (by rw [set_wins_ne _ hpne]; exact hw.1)] at this
      exact (Option.some.inj this).symm
    subst hwc'
    refine ⟨p, pw, hp, hpw, ?_⟩
    show tc.wins.setIfInBounds win _ = _
    rw [hwins]; exact Array.setIfInBounds_setIfInBounds _

theorem Closes.two {t t' : Tree} {win p : Nat} {w pw : Win} (hc : Closes t t' win w p pw) (hw : Live t win w)
    (hpne : p ≠ win) : Two t t' win { w with parent := none, isClosed := true } p
      (unlinkParent pw win (pw.children.erase win)) :=
  (Two.of_sets hc.live.1 hw.1 (Ne.symm hpne) hc.wins).comm

/-- The store after REMOVE (and the `closed` mark), its links granted, keeps the rest of the invariant: only `p` named
    `win` as its focused child, and that link is gone. -/
theorem unlinked_wf {t T : Tree} {win p : Nat} {w pw : Win} (hW : Wf t) (hw : Live t win w) (hp : w.parent = some p)
    (hpw : Live t p pw) (hlinked : Linked T)
    (hl : Two t T win { w with parent := none, isClosed := true } p (unlinkParent pw win (pw.children.erase win))) :
    Wf T := by
  -- only `p` names `win`
  have notwin : ∀ (j : Nat) (x : Win) (c : Nat), j ≠ p → Live t j x → x.focusedChild = some c → c ≠ win := by
    rintro j x c hjp hx hc rfl
    obtain ⟨cw, hcw, hcp, _⟩ := hW.fc j x c hx hc
    cases Live.unique hcw hw
    rw [hp] at hcp; exact hjp (Option.some.inj hcp).symm
  have hpne : p ≠ win := Nat.ne_of_lt (hW.linked.parent win w hw p hp).1
  refine hW.two hl hpw hlinked (fun e => ?_) nofun rfl rfl hpw.2 id (· = win) (fun _ _ _ => id)
    (fun c hc => ⟨w, hw, hc, notwin win w c (Ne.symm hpne) hw hc⟩) (fun c hc => ?_) notwin
  · subst e
    obtain ⟨r, hr0, _, h3⟩ := hW.root
    cases Live.unique hw hr0; rw [h3] at hp; cases hp
  · unfold unlinkParent at hc
    by_cases hfw : pw.focusedChild = some win
    · simp [hfw] at hc
    · simp only [hfw, if_false] at hc
      exact ⟨hc, fun e => hfw (e ▸ hc)⟩

/-- `tickit_window_close` preserves the store invariant.  (`ChildrenNodup` is needed: REMOVE erases one occurrence of the
    window from its parent's list.) -/
theorem close_wf {t t' : Tree} {fuel win : Nat} {w : Win} (hwf : wfB t = true) (hnd : WinFlush.ChildrenNodup t)
    (hw : Live t win w) (hh : WinTree.close t fuel win = .ok t') : wfB t' = true := by
  have hW := wfB_iff.mp hwf
  have hne : ∀ p, w.parent = some p → p ≠ win := fun p hp => parent_ne hwf hw hp
  rcases close_pieces hh hw hne with ⟨_, rfl⟩ | ⟨p, pw, hp, hc⟩
  · exact wfB_set_same (w' := { w with isClosed := true }) hwf hw.1 rfl
  · have hpne := hne p hp
    have hlinked : Linked t' :=
      ((hW.linked.unlink hw hp hc.live (hnd p pw hc.live.1)).set (w' := { w with parent := none, isClosed := true })
        (set_wins_self (by rw [set_wins_ne _ hpne]; exact hw.1) _) ⟨rfl, fun _ => .rfl, rfl⟩).of_wins
        (by rw [set_set_same]; exact hc.wins)
    exact wfB_iff.mpr (unlinked_wf hW hw hp hc.live hlinked (hc.two hw hpne))

theorem close_requests {fx : Fixes} (hfx2 : fx.chainRestore = true) {t t' : Tree} {win : Nat}
    (hg : Good15 t) (hh : closeWin fx t win = .ok t') : Requests t t' := by
  obtain ⟨w, t'', hw, h2, rfl⟩ := closeWin_ok hh
  have hne : ∀ p, w.parent = some p → p ≠ win := fun p hp => parent_ne hg.wf hw hp
  rcases close_pieces h2 hw hne with ⟨hp, ht''⟩ | ⟨p, pw, hp, hc⟩
  · -- no parent: only the `closed` mark is written
    right
    rw [hp]
    show cursorSpec t'' = cursorSpec t
    rw [ht'']; exact cursorSpec_set_same hw.1 rfl rfl rfl
  · have hs := (WinFlush.close_step h2 hg.struct.toTreeOk hg.nonempty hg.pos).1
    rw [hp]
    exact relink_requests hfx2 hg hw hp hc.live (hc.two hw (hne p hp)) (by rw [hc.wins]; simp [WinTree.set])
      ⟨hw.2, rfl, rfl⟩ rfl ⟨hc.live.2, rfl, rfl⟩ rfl (close_wf hg.wf hg.nodup hw h2) hs.recorded.cov hs.root.flagged


theorem onChain_parent {t : Tree} (h : wfB t = true) {x p : Nat} {w : Win} (ho : OnChain t x) (hw : Live t x w)
    (hp : w.parent = some p) : OnChain t p := by
  cases ho with
  | root =>
    obtain ⟨r, hr, _, hrp⟩ := wf_root h
    rw [Live.unique hw hr] at hp; rw [hrp] at hp; cases hp
  | step hop hpw hfc =>
    obtain ⟨cw, hcw, hcp, _⟩ := wf_focused h hpw hfc
    have := Live.unique hcw hw; subst this
    rw [hcp] at hp; cases hp
    exact hop

theorem onChain_up {t : Tree} (h : wfB t = true) {z a : Nat} (ha : Anc t z a) (ho : OnChain t z) : OnChain t a := by
  induction ha with
  | refl => exact ho
  | step hw hp _ ih => exact ih (onChain_parent h ho hw hp)

theorem fcChain_anc {t : Tree} (h : wfB t = true) {g z : Nat} (hc : FcChain t g z) : Anc t z g := by
  induction hc with
  | here => exact .refl _
  | down hw hfc _ ih =>
    obtain ⟨cw, hcw, hcp, _⟩ := wf_focused h hw hfc
    exact anc_snoc ih hcw hcp

theorem gainSelfIn_chainSame {t ta : Tree} (hwf : wfB t = true) (hcs : ChainSame t ta ∧ ta.root = t.root) {x : Nat}
    {child : Option Nat} {evs : List Event} {r : Tree × List Event} (hoff : ¬ OnChain t x)
    (h : gainSelfIn ta x child evs = .ok r) : ChainSame t r.1 ∧ r.1.root = t.root := by
  have off := fun ho => hoff (onChain_kept_rev hwf hcs.1 ho)
  obtain ⟨w, hw, ⟨_, rfl⟩ | ⟨c, _, rfl⟩⟩ := gainSelfIn_cases h <;>
    exact ⟨chainSame_trans hcs.1 (chainSame_set hw hw.2 (.inl off)), hcs.2⟩

theorem dropped_chainSame {S : Nat → Prop} {t : Tree} {r : Tree × List Event} (h : Dropped S t [] r)
    (hoff : ∀ z, S z → ¬ OnChain t z) : ChainSame t r.1 ∧ r.1.root = t.root :=
  ⟨⟨Nat.le_of_eq (sameBy_size h.lk.2).symm, fun y w ho hw => ⟨w, ⟨(h.keeps fun hs => hoff y hs ho).trans hw.1, hw.2⟩, rfl, rfl, rfl⟩⟩, h.root⟩

/-- The focus chain runs through visible windows: a climb of `_focus_gained` that is on it reaches the root window. -/
theorem onChain_visPath {t : Tree} (h : wfB t = true) {x : Nat} (ho : OnChain t x) : VisPath t x := by
  induction ho with
  | root => obtain ⟨r, hr, _, hp⟩ := wf_root h; exact .top hr.1 hr.2 hp
  | step _ hw hfc ih =>
    obtain ⟨cw, hcw, hcp, hcv⟩ := wf_focused h hw hfc
    exact .step hcw.1 hcw.2 hcp hcv ih

theorem gained_requests_or_same (fx : Fixes) : ∀ (fuel : Nat) (t : Tree) (x : Nat) (child : Option Nat)
    (r : Tree × List Event), focusGained fx fuel t x child = .ok r → wfB t = true →
    (r.1.root.needsRestore = true ∧ r.1.root.needsLater = true) ∨ (ChainSame t r.1 ∧ r.1.root = t.root) := by
  intro fuel
  induction fuel with
  | zero => intro t x child r h; simp [focusGained] at h
  | succ n ih =>
    intro t x child r h hwf
    by_cases hon : OnChain t x
    · exact .inl (focusGained_requests fx _ t x child r h (onChain_visPath hwf hon))
    · obtain ⟨r1, r2, r3, h1, h2, h3, h4⟩ := focusGained_succ h
      have d2 := level_dropped h1 h2
      -- `x` and the old branch below it are off the chain
      have c2 := dropped_chainSame d2 fun z hz hoz => hon <| hz.elim (· ▸ hoz) fun ⟨w, f, hw, hfc, hc⟩ => by
        obtain ⟨cw, hcw, hcp, _⟩ := wf_focused hwf hw hfc
        exact onChain_up hwf (anc_snoc (fcChain_anc hwf hc) hcw hcp) hoz
      have c3 := gainClimb_elim (P := fun r3 => (r3.1.root.needsRestore = true ∧ r3.1.root.needsLater = true) ∨
          (ChainSame t r3.1 ∧ r3.1.root = t.root)) h3 (.inr c2) (.inl ⟨rfl, rfl⟩) fun _ _ _ h3 =>
        (ih _ _ _ _ h3 (wfB_sameLK d2.lk hwf)).imp_right fun ⟨hcs, hroot⟩ => ⟨chainSame_trans c2.1 hcs, hroot.trans c2.2⟩
      rcases c3 with hreq | c3
      · exact .inl (by rw [gainSelfIn_root h4]; exact hreq)
      · exact .inr (gainSelfIn_chainSame hwf c3 hon h4)

/-- `restore_requested` for `take_focus` in full: also below an invisible ancestor, where nothing is requested and
    nothing the specification reads has changed. -/
theorem takeFocus_requests {fx : Fixes} {t : Tree} {win : Nat} {r : Tree × List Event} (hwf : wfB t = true)
    (h : takeFocus fx t win = .ok r) : Requests t r.1 := by
  rcases gained_requests_or_same fx _ t win none r h hwf with ⟨a, b⟩ | ⟨hcs, hroot⟩
  · exact .inl ⟨.inl a, b⟩
  · right
    have hwf' := takeFocus_wf hwf h
    have hview : SameBy WinFlush.view t r.1 :=
      sameBy_of (g := unlink) (g' := WinFlush.view) WinFlush.view (fun _ => rfl) (focusGained_unlink fx _ _ _ _ _ h)
    have hat : ∀ L C, ownerAt r.1 L C = ownerAt t L C :=
      fun L C => WinFlush.ownerAt_congr_view hview (sameBy_size hview) L C
    exact cursorSpec_of_chain hwf hwf' hcs (fun L C x hx => by rw [← hat]; exact hx) (fun L C x hx => by rw [hat]; exact hx)

/-- What `Good15` asks of one slot of the store (freed slots included, as in the window engine's `WFp`). -/
def slotOk (t : Tree) (i : Nat) (w : Win) : Bool :=
  w.children.all (fun ch => match t.wins[ch]? with | some cw => cw.parent == some i && !cw.isRoot | none => false) &&
  decide w.children.Nodup && (w.parent != some i) && (!w.isRoot || i == 0) &&
  (!w.isRoot || (decide (0 < w.rect.lines) && decide (0 < w.rect.cols)))

/-- `Good15` as a check (the driver evaluates it on every observed tree; `good15_of_B`). -/
def good15B (t : Tree) : Bool :=
  wfB t &&
  (List.range t.wins.size).all (fun i => match t.wins[i]? with | some w => slotOk t i w | none => true) &&
  (match t.wins[0]? with
   | some r => !r.freed && r.isRoot && r.parent.isNone && r.rect.top == 0 && r.rect.left == 0
   | none => false) &&
  t.root.damage.all (fun x => decide x.Nonempty) &&
  (t.root.damage.isEmpty || t.root.needsExpose) &&
  (!(t.root.needsExpose || t.root.needsRestore) || t.root.needsLater)

theorem good15_of_B {t : Tree} (h : good15B t = true) : Good15 t := by
  unfold good15B at h
  simp only [Bool.and_eq_true] at h
  obtain ⟨⟨⟨⟨⟨hwf, hslots⟩, hroot⟩, hdmg⟩, hflag⟩, hlater⟩ := h
  have hslot : ∀ (i : Nat) (w : Win), t.wins[i]? = some w → slotOk t i w = true := by
    intro i w hw
    have hi : i < t.wins.size := (Array.getElem?_eq_some_iff.mp hw).1
    have := (List.all_eq_true.mp hslots) i (List.mem_range.mpr hi)
    rw [hw] at this; exact this
  have hparts : ∀ (i : Nat) (w : Win), t.wins[i]? = some w →
      (∀ ch ∈ w.children, ∃ cw, t.wins[ch]? = some cw ∧ cw.parent = some i ∧ cw.isRoot = false) ∧
      w.children.Nodup ∧ w.parent ≠ some i ∧ (w.isRoot = true → i = 0) ∧
      (w.isRoot = true → 0 < w.rect.lines ∧ 0 < w.rect.cols) := by
    intro i w hw
    have := hslot i w hw
    unfold slotOk at this
    simp only [Bool.and_eq_true, List.all_eq_true, decide_eq_true_eq, bne_iff_ne, ne_eq, Bool.or_eq_true,
      Bool.not_eq_true', beq_iff_eq] at this
    obtain ⟨⟨⟨⟨h1, h2⟩, h3⟩, h4⟩, h5⟩ := this
    refine ⟨fun ch hch => ?_, h2, h3, fun hr => ?_, fun hr => ?_⟩
    · have := h1 ch hch
      cases hcw : t.wins[ch]? with
      | none => rw [hcw] at this; simp at this
      | some cw => rw [hcw] at this; simp at this; exact ⟨cw, rfl, this.1, this.2⟩
    · rcases h4 with h4 | h4
      · rw [hr] at h4; cases h4
      · exact h4
    · rcases h5 with h5 | h5
      · rw [hr] at h5; cases h5
      · exact h5
  refine { wf := hwf
           wfp := ⟨fun cur w hw ch hch => (hparts cur w hw).1 ch hch⟩
           rootWin := ?_
           onlyRoot := fun x w hw hr => (hparts x w hw).2.2.2.1 hr
           nodup := fun cur w hw => (hparts cur w hw).2.1
           noSelf := fun x w hw => (hparts x w hw).2.2.1
           pos := fun i w hw hr => (hparts i w hw).2.2.2.2 hr
           nonempty := fun x hx => by
             have := (List.all_eq_true.mp hdmg) x hx
             simpa using this
           flagged := fun hd => by
             rcases Bool.or_eq_true_iff.mp hflag with h | h
             · exact absurd (List.isEmpty_iff.mp h) hd
             · exact h
           later := fun hp => by
             rcases Bool.or_eq_true_iff.mp hlater with h | h
             · rcases hp with hp | hp <;> simp [hp] at h
             · exact h }
  cases hr : t.wins[0]? with
  | none => rw [hr] at hroot; cases hroot
  | some r =>
    rw [hr] at hroot
    simp only [Bool.and_eq_true, Bool.not_eq_true', Option.isNone_iff_eq_none, beq_iff_eq] at hroot
    exact ⟨⟨r, hr, hroot.1.1.1.1, hroot.1.1.1.2, hroot.1.1.2, hroot.1.2, hroot.2⟩⟩

end WinFocus
end Tickit
