import Tickit.Model.RBCopy
import Tickit.Proof.RectSetInv
/-
  C13: the rectangle-set computation of `moverect`, `{src} − {dest}` with the model's fuel: whenever it returns it
  returns exactly the vacated cells, and it always returns.  The pieces of `tickit_rect_subtract` are added to an empty
  set; no two of them trigger the stretch / split / covered arms of `tickit_rectset_add` (they are "quiet" for one
  another), so every `add` is one scan and an insert.
-/
namespace Tickit.RBCopy
open Tickit Tickit.RB

/-- `subtract` from a set of one rectangle: `RectSet.subtract_spec` on the (trivially canonical) singleton. -/
theorem subtract_single {fuel : Nat} {sr hole : Rect} {s' : List Rect}
    (h : RectSet.subtract fuel [sr] hole = some s') (hsr : sr.Nonempty) (hh : hole.Nonempty) :
    ∀ l c, Covered s' l c ↔ (sr.Mem l c ∧ ¬ hole.Mem l c) := by
  obtain ⟨_, h2⟩ := RectSet.subtract_spec fuel [sr] s' hole ((RectSet.inv_iff _).2 (RectSet.invS_singleton hsr)) hh h
  refine fun l c => (h2 l c).trans (and_congr_left fun _ => ?_)
  unfold Covered; simp

/-- `{src}` is built by one `add` to the empty set. -/
theorem clearArea_eq (dr sr : Rect) : clearArea dr sr = RectSet.subtract 64 [sr] ⟨dr.top, dr.left, sr.lines, sr.cols⟩ := by
  unfold clearArea moveFuel
  rw [RectSet.add_nil]

theorem clearArea_region {dr sr : Rect} {rects : List Rect} (h : clearArea dr sr = some rects) (hsr : sr.Nonempty) :
    ∀ l c, Covered rects l c ↔ (sr.Mem l c ∧ ¬ (Rect.Mem ⟨dr.top, dr.left, sr.lines, sr.cols⟩ l c)) := by
  rw [clearArea_eq] at h
  exact subtract_single h hsr hsr

/-- `cur` passes the member `r` in the scan of `tickit_rectset_add` without merging or splitting. -/
def Quiet (cur r : Rect) : Prop :=
  cur.bottom < r.top ∨ (cur.top > r.bottom ∨ cur.left > r.right ∨ cur.right < r.left) ∨
  (r.contains cur = false ∧
   ¬ ((cur.top = r.top ∧ cur.bottom = r.bottom) ∨ (cur.left = r.left ∧ cur.right = r.right)) ∧
   (cur.top = r.bottom ∨ cur.bottom = r.top))

theorem scan_quiet (cur : Rect) : ∀ (s : List Rect) (i : Nat), (∀ r ∈ s, Quiet cur r) → RectSet.scan cur s i = .insert := by
  intro s
  induction s with
  | nil => intro i _; rfl
  | cons r rest ih =>
    intro i h
    have hq := h r (List.mem_cons_self ..)
    have hrest := ih (i + 1) (fun x hx => h x (List.mem_cons_of_mem _ hx))
    unfold RectSet.scan
    by_cases h1 : cur.bottom < r.top
    · rw [if_pos h1]
    · rw [if_neg h1]
      by_cases h2 : cur.top > r.bottom ∨ cur.left > r.right ∨ cur.right < r.left
      · rw [if_pos h2]; exact hrest
      · rw [if_neg h2]
        rcases hq with hq | hq | hq
        · exact absurd hq h1
        · exact absurd hq h2
        · have hc : ¬ (r.contains cur = true) := by rw [hq.1]; simp
          rw [if_neg hc, if_neg hq.2.1, if_pos hq.2.2]
          exact hrest

theorem add_quiet (fuel : Nat) (s : List Rect) (cur : Rect) (h : ∀ r ∈ s, Quiet cur r) :
    RectSet.add (fuel + 1) s cur = some (RectSet.insertRect s cur) := by
  unfold RectSet.add
  rw [scan_quiet cur s 0 h]

theorem addMany_quiet : ∀ (ps s : List Rect) (fuel : Nat), ps.length + 1 < fuel →
    (∀ p ∈ ps, ∀ r ∈ s, Quiet p r) → ps.Pairwise (fun a b => Quiet b a) →
    ∃ s', RectSet.addMany fuel s ps = some s' ∧ (∀ x ∈ s', x ∈ s ∨ x ∈ ps) ∧ s'.length = s.length + ps.length := by
  intro ps
  induction ps with
  | nil =>
    intro s fuel _ _ _
    exact ⟨s, by unfold RectSet.addMany; rfl, fun x hx => Or.inl hx, by simp⟩
  | cons p ps ih =>
    intro s fuel hf hs hp
    cases fuel with
    | zero => simp at hf
    | succ f =>
      cases f with
      | zero => simp at hf
      | succ g =>
        unfold RectSet.addMany
        rw [add_quiet g s p (hs p (List.mem_cons_self ..))]
        simp only []
        rw [List.pairwise_cons] at hp
        obtain ⟨s', h1, h2, h3⟩ := ih (RectSet.insertRect s p) (g + 1) (by simp at hf ⊢; omega)
          (by
            intro q hq r hr
            rcases (RectSet.mem_insertRect s p r).1 hr with h | h
            · rw [h]; exact hp.1 q hq
            · exact hs q (List.mem_cons_of_mem _ hq) r h)
          hp.2
        refine ⟨s', h1, ?_, ?_⟩
        · intro x hx
          rcases h2 x hx with h | h
          · rcases (RectSet.mem_insertRect s p x).1 h with h' | h'
            · exact Or.inr (by rw [h']; exact List.mem_cons_self ..)
            · exact Or.inl h'
          · exact Or.inr (List.mem_cons_of_mem _ h)
        · rw [h3, RectSet.length_insertRect]; simp; omega

theorem subtractFrom_noint : ∀ (fuel : Nat) (s : List Rect) (rect : Rect) (i : Nat),
    (∀ r ∈ s, r.intersects rect = false) → 0 < fuel → s.length < fuel + i →
    RectSet.subtractFrom fuel s rect i = some s := by
  intro fuel
  induction fuel with
  | zero => intro s rect i _ h0 _; omega
  | succ n ih =>
    intro s rect i hs _ hl
    unfold RectSet.subtractFrom
    cases hsi : s[i]? with
    | none => rfl
    | some r =>
      simp only []
      have hr : r ∈ s := List.mem_of_getElem? hsi
      have hi : i < s.length := by
        rcases List.getElem?_eq_some_iff.1 hsi with ⟨h, _⟩; exact h
      rw [hs r hr]
      simp only [Bool.not_false, if_true]
      exact ih s rect (i + 1) hs (by omega) (by omega)

/-- Linear arithmetic about two rectangles given by their bounds: unfold the goal down to the four fields (the first step
    is for a goal `r.contains cur = false`, and has to come before the bounds are unfolded inside its `decide`s). -/
macro "rect_arith" : tactic => `(tactic| (
  try simp only [Rect.contains, Bool.and_eq_false_iff, decide_eq_false_iff_not]
  simp only [Rect.initBounded, Rect.bottom, Rect.right]
  omega))

theorem subtract_pieces_quiet (sr hole : Rect) (hsr : sr.Nonempty) (hh : hole.Nonempty)
    (hi : hole.intersects sr = true) : (Rect.subtract sr hole).Pairwise (fun a b => Quiet b a) := by
  by_cases hc : hole.contains sr = true
  · rw [show Rect.subtract sr hole = [] by unfold Rect.subtract; rw [if_pos hc]]; exact List.Pairwise.nil
  · rw [Rect.subtract_cut hsr hh hc hi, List.pairwise_filter]
    rw [Rect.intersects_iff_lt] at hi
    simp only [Rect.subtractCands, List.pairwise_cons, List.mem_cons, List.not_mem_nil, or_false, forall_eq_or_imp,
      forall_eq, false_imp_iff, implies_true, List.Pairwise.nil, and_true, decide_eq_true_eq]
    -- a side piece begins where the top piece ends and ends where the bottom piece begins (third case of `Quiet`);
    -- top and bottom piece, and the two side pieces, lie apart (second case)
    unfold Rect.Nonempty at hh
    simp only [Rect.Nonempty, Rect.initBounded, Rect.bottom, Rect.right] at hi hh ⊢
    refine ⟨⟨?_, ?_, ?_⟩, ⟨?_, ?_⟩, ?_⟩ <;> intro c1 c2
    · refine Or.inr (Or.inr ⟨?_, ?_, Or.inl ?_⟩) <;> rect_arith
    · refine Or.inr (Or.inr ⟨?_, ?_, Or.inl ?_⟩) <;> rect_arith
    · refine Or.inr (Or.inl (Or.inl ?_)); rect_arith
    · refine Or.inr (Or.inl (Or.inr (Or.inl ?_))); rect_arith
    · refine Or.inr (Or.inr ⟨?_, ?_, Or.inl ?_⟩) <;> rect_arith
    · refine Or.inr (Or.inr ⟨?_, ?_, Or.inl ?_⟩) <;> rect_arith

theorem clearArea_returns (dr sr : Rect) (hsr : sr.Nonempty) : ∃ rects, clearArea dr sr = some rects := by
  have hh : (Rect.mk dr.top dr.left sr.lines sr.cols).Nonempty := hsr
  rw [clearArea_eq]
  generalize (Rect.mk dr.top dr.left sr.lines sr.cols) = hole at hh ⊢
  rw [RectSet.subtract_of_nonempty _ _ _ hh]
  unfold RectSet.subtractFrom
  simp only [List.getElem?_cons_zero]
  by_cases hi : sr.intersects hole = true
  · rw [hi]
    simp only [Bool.not_true, Bool.false_eq_true, if_false, List.eraseIdx_cons_zero]
    -- at most four pieces, none of which meets the hole (`Rect.subtract_spec`)
    obtain ⟨hlen, hpne, _, hcov⟩ := Rect.subtract_spec sr hole hsr hh
    obtain ⟨s', h1, h2, h3⟩ := addMany_quiet (Rect.subtract sr hole) [] 63 (by omega)
      (fun _ _ r hr => by cases hr) (subtract_pieces_quiet sr hole hsr hh (by rw [Rect.intersects_comm]; exact hi))
    rw [h1]
    simp only []
    refine ⟨s', subtractFrom_noint 63 s' hole 0 ?_ (by omega) (by simp at h3; omega)⟩
    intro r hr
    rcases h2 r hr with h | h
    · cases h
    · rw [Bool.eq_false_iff]
      intro hri
      obtain ⟨l, c, hm1, hm2⟩ := (Rect.intersects_iff r hole (hpne r h) hh).1 hri
      exact ((hcov l c).1 ⟨r, h, hm1⟩).2 hm2
  · have hi' : sr.intersects hole = false := by simpa using hi
    rw [hi']
    simp only [Bool.not_false, if_true]
    exact ⟨[sr], subtractFrom_noint 62 [sr] hole 1 (by intro r hr; simp at hr; rw [hr]; exact hi') (by omega) (by simp)⟩

end Tickit.RBCopy
