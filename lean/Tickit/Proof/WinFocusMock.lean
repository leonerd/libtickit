import Tickit.Proof.WinFocusSpec
/-
  C15 on the library's own mock terminal (src/mockterm.c; the engine's second configuration).

  The mock clamps a goto to its screen and stores `!!value` for CURSORVIS / CURSORBLINK.  When the root window sits at
  the origin and is no larger than the terminal — which `on_term_resize` maintains — the calls of `_do_restore` mean on
  the mock what they mean on any terminal: what the mock reports after a flush is `cursorSpec`.
-/
namespace Tickit
namespace WinFocus
open WinTree

/-- Where the specification shows the cursor, the composition has an owner: the cell lies in the root window. -/
theorem cursorSpec_in_root {t : Tree} (hwf : wfB t = true) {L C s : Int} (h : cursorSpec t = some (L, C, s)) :
    ∃ r, t.wins[0]? = some r ∧ r.rect.memb L C = true := by
  obtain ⟨_, _, _, _, _, hat⟩ := (cursorSpec_some_iff hwf L C s).mp h
  obtain ⟨r, hr, _, _, hm, _⟩ := WinSpec.ownerLoc_some hat
  exact ⟨r, hr, hm⟩

theorem bound_id {v hi : Int} (h0 : 0 ≤ v) (h1 : v ≤ hi) : bound v 0 hi = v := by
  unfold bound
  have : ¬ v < 0 := by omega
  simp only [this, if_false]
  have : ¬ v > hi := by omega
  simp only [this, if_false]

/-- What `_do_restore` tells the mock terminal is what the property demands, when the root window sits at the origin
    and fits the terminal. -/
theorem doRestore_spec_mock {t : Tree} (h : wfB t = true) (fx : Fixes)
    (hroot : fx.hiddenRoot = true ∨ rootVisible t = true) {calls : List TermCall}
    (hd : doRestore fx t = .ok calls) {L C : Int} {r : Win} (hr : t.wins[0]? = some r)
    (htop : r.rect.top = 0) (hleft : r.rect.left = 0) (hL : r.rect.lines ≤ L) (hC : r.rect.cols ≤ C) (c0 : TermCursor) :
    (c0.applyAllMock L C calls).matches (cursorSpec t) = true := by
  obtain ⟨rfl, hs⟩ | ⟨l, c, s, bl, rfl, hbl, hs⟩ := doRestore_cases h fx hroot hd
  · rw [hs]
    simp [TermCursor.applyAllMock, TermCursor.applyAll, TermCall.onMock, TermCursor.apply, TermCursor.matches, notNot]
  · -- the cell lies in the root window, which the screen contains: the mock does not clamp the goto
    obtain ⟨r', hr', hmem⟩ := cursorSpec_in_root h hs
    rw [hr] at hr'; cases hr'
    unfold Rect.memb Rect.bottom Rect.right at hmem
    simp only [Bool.and_eq_true, decide_eq_true_eq] at hmem
    have hl : bound l 0 (L - 1) = l := bound_id (by omega) (by omega)
    have hc : bound c 0 (C - 1) = c := bound_id (by omega) (by omega)
    rw [hs]
    rcases hbl with rfl | ⟨b, rfl⟩ <;>
      simp [TermCursor.applyAllMock, TermCursor.applyAll, TermCall.onMock, TermCursor.apply, TermCursor.matches, notNot,
        hl, hc]

theorem applyAllMock_append (L C : Int) (c0 : TermCursor) (a b : List TermCall) :
    c0.applyAllMock L C (a ++ b) = (c0.applyAllMock L C a).applyAllMock L C b := by
  simp [TermCursor.applyAllMock, TermCursor.applyAll, List.foldl_append]

theorem flush_calls_cases (fx : Fixes) {t : Tree} {out : FlushOut} (hf : flush fx t = .ok out) :
    out.calls = [] ∨ ∃ c1 c2, out.calls = c1 ++ c2 ∧ doRestore fx out.tree = .ok c2 := by
  cases hl : t.root.needsLater with
  | false => cases (flush_skipped hl).symm.trans hf; exact .inl rfl
  | true =>
    obtain ⟨t1, F⟩ := flush_pieces hf hl
    exact F.calls.imp_left (·.2.2)

/-- After a flush that had a restore or an expose pending, the mock terminal reports the cursor the property demands
    of the tree as the flush leaves it. -/
theorem flush_spec_mock (fx : Fixes) {t : Tree} {out : FlushOut} (hf : flush fx t = .ok out)
    (hl : t.root.needsLater = true) (hr : t.root.needsRestore = true ∨ t.root.needsExpose = true)
    (hwf : wfB out.tree = true) (hroot : fx.hiddenRoot = true ∨ rootVisible out.tree = true)
    {L C : Int} {r : Win} (hr0 : out.tree.wins[0]? = some r)
    (htop : r.rect.top = 0) (hleft : r.rect.left = 0) (hL : r.rect.lines ≤ L) (hC : r.rect.cols ≤ C) (c0 : TermCursor) :
    (c0.applyAllMock L C out.calls).matches (cursorSpec out.tree) = true := by
  obtain ⟨c1, c2, hc, hd⟩ := flush_calls fx hf hl hr
  rw [hc, applyAllMock_append]
  exact doRestore_spec_mock hwf fx hroot hd hr0 htop hleft hL hC _

end WinFocus
end Tickit
