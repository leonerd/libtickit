import Tickit.Proof.Utf8Codec
import Tickit.Proof.Utf8Spec
import Tickit.Proof.Utf8Width
/-
  utf8.c, the counting loop over memory.  One trip round it (`stepAt`) is the decoder followed by one test for controls
  (`stepAt_cases`); the loop is `runChars` over the characters `scan` finds, hence `tickit_utf8_ncountmore` computes the
  specification (`ncountmore_eq_spec`).  What may be read is a `ReadBound`, kept by every step; it also bounds the fuel
  a scan needs.  Resumption: a scan splits at a grapheme boundary (`ncountmore_resume`).
-/
namespace Tickit
namespace Utf8

theorem stepAt_nul {mem : Mem} {p : Nat} {len : Option Nat} (hl : len ≠ some 0) (h0 : (mem p).toNat = 0) :
    stepAt mem p len = .stop (p + 1) := by
  rw [stepAt, if_neg hl, if_pos h0]

def stepOf : Dec → Step
  | .err hi => .err hi
  | .ok n cp hi => if IsControl cp then .err hi else .ch n cp (Width.wcwidth cp) hi

theorem stepAt_eq {mem : Mem} {p : Nat} {len : Option Nat} (hl : len ≠ some 0) (h0 : (mem p).toNat ≠ 0) :
    stepAt mem p len = stepOf (nextUtf8 mem p len) := by
  rw [stepAt, if_neg hl, if_neg h0]
  cases nextUtf8 mem p len with
  | err hi => rfl
  | ok n cp hi =>
    simp only [stepOf]
    by_cases hc : IsControl cp
    · rw [if_pos hc]
      by_cases h : cp < 0x20 ∨ (cp ≥ 0x80 ∧ cp < 0xa0)
      · rw [if_pos h]
      · rw [if_neg h, if_pos (((ctl_iff cp).2 hc).resolve_left h)]
    · rw [if_neg hc, if_neg (fun h => hc ((ctl_iff cp).1 (.inl h))), if_neg (fun h => hc ((ctl_iff cp).1 (.inr h)))]

theorem stepAt_cases {motive : Step → Prop} (mem : Mem) (p : Nat) (len : Option Nat)
    (zero : len = some 0 → motive (.stop 0))
    (nul : len ≠ some 0 → (mem p).toNat = 0 → motive (.stop (p + 1)))
    (dec : len ≠ some 0 → (mem p).toNat ≠ 0 → motive (stepOf (nextUtf8 mem p len))) : motive (stepAt mem p len) := by
  by_cases hl : len = some 0
  · rw [stepAt, if_pos hl]; exact zero hl
  by_cases h0 : (mem p).toNat = 0
  · rw [stepAt_nul hl h0]; exact nul hl h0
  · rw [stepAt_eq hl h0]; exact dec hl h0

theorem stepAt_ok {mem : Mem} {p : Nat} {len : Option Nat} (hl : len ≠ some 0) (h0 : (mem p).toNat ≠ 0)
    {n cp hi : Nat} (hd : nextUtf8 mem p len = .ok n cp hi) :
    stepAt mem p len = if IsControl cp then .err hi else .ch n cp (Width.wcwidth cp) hi := by
  rw [stepAt_eq hl h0, hd]; rfl

structure ChAt (mem : Mem) (str : Nat) (len : Option Nat) (n cp : Nat) (w : Int) (hi : Nat) : Prop where
  len_ne : len ≠ some 0
  nz : (mem str).toNat ≠ 0
  dec : nextUtf8 mem str len = .ok n cp hi
  notCtl : ¬ IsControl cp
  width : w = Width.wcwidth cp

theorem stepOf_ch_inv {d : Dec} {n cp hi : Nat} {w : Int} (h : stepOf d = .ch n cp w hi) :
    d = .ok n cp hi ∧ ¬ IsControl cp ∧ w = Width.wcwidth cp := by
  cases d with
  | err hi' => cases h
  | ok n' cp' hi' =>
    rw [stepOf] at h
    by_cases hc : IsControl cp'
    · rw [if_pos hc] at h; cases h
    · rw [if_neg hc] at h; cases h; exact ⟨rfl, hc, rfl⟩

theorem stepAt_ch_inv {mem : Mem} {str : Nat} {len : Option Nat} {n cp hi : Nat} {w : Int}
    (h : stepAt mem str len = .ch n cp w hi) : ChAt mem str len n cp w hi := by
  revert h
  refine stepAt_cases (motive := fun st => st = .ch n cp w hi → _) mem str len nofun (fun _ _ => nofun) fun hl h0 h => ?_
  obtain ⟨hd, hc, hw⟩ := stepOf_ch_inv h
  exact ⟨hl, h0, hd, hc, hw⟩

theorem stepAt_stop_inv {mem : Mem} {p : Nat} {len : Option Nat} {hi : Nat} (h : stepAt mem p len = .stop hi) :
    len = some 0 ∨ (mem p).toNat = 0 := by
  revert h
  refine stepAt_cases (motive := fun st => st = .stop hi → _) mem p len (fun hl _ => .inl hl) (fun _ h0 _ => .inr h0)
    fun _ _ h => ?_
  cases hd : nextUtf8 mem p len with
  | err hi' => rw [hd] at h; cases h
  | ok n cp hi' => rw [hd, stepOf] at h; split at h <;> cases h

theorem stepAt_ch_nonneg {mem : Mem} {str : Nat} {len : Option Nat} {n cp hi : Nat} {w : Int}
    (h : stepAt mem str len = .ch n cp w hi) : 0 ≤ w ∧ w = Width.wcwidth cp :=
  have c := stepAt_ch_inv h
  ⟨c.width ▸ wcwidth_nonneg c.notCtl, c.width⟩

theorem stepAt_err_iff (mem : Mem) (p : Nat) (len : Option Nat) :
    (∃ hi, stepAt mem p len = .err hi) ↔ ErrAt mem p len := by
  unfold ErrAt
  refine stepAt_cases (motive := fun st => (∃ hi, st = .err hi) ↔ _) mem p len
    (fun hl => iff_of_false (fun ⟨_, h⟩ => nomatch h) (fun h => h.1 hl))
    (fun _ h0 => iff_of_false (fun ⟨_, h⟩ => nomatch h) (fun h => h.2.1 h0)) fun hl h0 => ?_
  simp only [ne_eq, hl, not_false_eq_true, h0, true_and]
  have ok : ∀ n cp hi, (∃ h, stepOf (.ok n cp hi) = .err h) ↔ IsControl cp := by
    intro n cp hi
    by_cases hc : IsControl cp
    · exact iff_of_true ⟨hi, if_pos hc⟩ hc
    · exact iff_of_false (fun ⟨_, h⟩ => by rw [stepOf, if_neg hc] at h; cases h) hc
  refine nextUtf8_cases (motive := fun d => (∃ h, stepOf d = .err h) ↔ _) mem p len hl h0 ?_ ?_ ?_ ?_ ?_
  · intro ha
    have hll : leadLen (mem p).toNat = 0 := if_pos (by omega)
    simp only [ok, ha, true_and, hll, not_true_eq_false, false_and, or_false]
    exact ⟨.inl, fun h => h.elim id (fun h => by omega)⟩
  · exact fun h8 hn => iff_of_true ⟨_, rfl⟩ (.inr (.inl ⟨h8, hn⟩))
  · exact fun hn hlt => iff_of_true ⟨_, rfl⟩ (.inr (.inr (.inl ⟨hn, .inl hlt⟩)))
  · intro hn _ z hz1 hz2 hz _
    exact iff_of_true ⟨_, rfl⟩ (.inr (.inr (.inl ⟨hn, .inr ⟨z - p, by omega, by omega,
      by rwa [Nat.add_sub_cancel' (Nat.le_of_lt hz1)]⟩⟩)))
  · intro hn hlt hnz
    refine (ok ..).trans ⟨fun h => .inr (.inr (.inr ⟨hn, hlt, hnz, h⟩)), ?_⟩
    rintro (h | h | h | h)
    · exact absurd (if_pos (Nat.lt_trans h.1 (by decide))) hn
    · exact absurd h.2 hn
    · exact h.2.elim (fun h' => by rw [hlt] at h'; cases h') (fun ⟨i, h1, h2, h3⟩ => absurd h3 (hnz i h1 h2))
    · exact h.2.2.2

theorem scan_induct {mem : Mem} {motive : Nat → Nat → Option Nat → List Ch → Tail → Prop}
    (stop : ∀ f str len hi, stepAt mem str len = .stop hi → motive (f + 1) str len [] .eof)
    (err : ∀ f str len hi, stepAt mem str len = .err hi → motive (f + 1) str len [] .err)
    (ch : ∀ f str len n cp w hi cs t, stepAt mem str len = .ch n cp w hi →
      scan mem f (str + n) (lenDec len n) = some (cs, t) → motive f (str + n) (lenDec len n) cs t →
      motive (f + 1) str len (⟨n, cp, w⟩ :: cs) t) :
    ∀ (fuel str : Nat) (len : Option Nat) (cs : List Ch) (t : Tail),
      scan mem fuel str len = some (cs, t) → motive fuel str len cs t := by
  intro fuel
  induction fuel with
  | zero => intro str len cs t h; cases h
  | succ f ih =>
    intro str len cs t h
    rw [scan] at h
    split at h
    · cases h; exact stop f str len _ ‹_›
    · cases h; exact err f str len _ ‹_›
    · split at h
      · cases h
      · cases h; exact ch f str len _ _ _ _ _ _ ‹_› ‹_› (ih _ _ _ _ ‹_›)

theorem scan_nonneg (mem : Mem) : ∀ (fuel str : Nat) (len : Option Nat) (cs : List Ch) (t : Tail),
    scan mem fuel str len = some (cs, t) → ∀ c ∈ cs, 0 ≤ c.w :=
  scan_induct (motive := fun _ _ _ cs _ => ∀ c ∈ cs, 0 ≤ c.w) (fun _ _ _ _ _ => nofun) (fun _ _ _ _ _ => nofun)
    (fun _ _ _ _ _ _ _ _ _ hst _ ih => List.forall_mem_cons.2 ⟨(stepAt_ch_nonneg hst).1, ih⟩)

theorem scan_width (mem : Mem) : ∀ (fuel str : Nat) (len : Option Nat) (cs : List Ch) (t : Tail),
    scan mem fuel str len = some (cs, t) → ∀ c ∈ cs, c.w = Width.wcwidth c.cp :=
  scan_induct (motive := fun _ _ _ cs _ => ∀ c ∈ cs, c.w = Width.wcwidth c.cp) (fun _ _ _ _ _ => nofun) (fun _ _ _ _ _ => nofun)
    (fun _ _ _ _ _ _ _ _ _ hst _ ih => List.forall_mem_cons.2 ⟨(stepAt_ch_nonneg hst).2, ih⟩)

theorem loop_eq_runChars (mem : Mem) (L : Option Limit) (start : Nat) :
    ∀ (fuel str : Nat) (len : Option Nat) (cs : List Ch) (t : Tail), scan mem fuel str len = some (cs, t) →
      ∀ (here pos : Pos) (hi : Nat), ∃ hi', loop mem L start fuel str len here pos hi =
        .ret ((runChars L cs t here pos).ret start) (runChars L cs t here pos).pos hi' := by
  refine scan_induct ?_ ?_ ?_
  · intro f str len h hst here pos hi; exact ⟨max hi h, by rw [loop, hst]; rfl⟩
  · intro f str len h hst here pos hi; exact ⟨max hi h, by rw [loop, hst]; rfl⟩
  · intro f str len n cp w h cs t hst _ ih here pos hi
    rw [loop, hst, runChars]
    by_cases hex : exceeds L here n w = true
    · simp only [hex, if_true]; exact ⟨max hi h, rfl⟩
    · simp only [hex]; exact ih _ _ _

/-- `tickit_utf8_ncountmore` computes the specification over the characters its loop meets. -/
theorem ncountmore_eq_spec (mem : Mem) (fuel : Nat) (len : Option Nat) (pos : Pos) (L : Option Limit)
    (cs : List Ch) (t : Tail) (h : scan mem fuel pos.bytes (lenSub len pos.bytes) = some (cs, t)) :
    ∃ hi, ncountmore mem fuel len pos L =
      .ret ((specRun L (clusters cs) t pos).ret pos.bytes) (specRun L (clusters cs) t pos).pos hi := by
  obtain ⟨hi, hl⟩ := loop_eq_runChars mem L pos.bytes fuel pos.bytes (lenSub len pos.bytes) cs t h pos pos 0
  have := runChars_eq_specRun L t (clusters cs) (clusters_wf cs (scan_nonneg mem _ _ _ _ _ h)) pos pos (Or.inl rfl)
  rw [clusters_flatten] at this
  rw [this] at hl
  exact ⟨hi, hl⟩

theorem ncountmore_ret {mem : Mem} {fuel : Nat} {len : Option Nat} {pos : Pos} {L : Option Limit}
    {cs : List Ch} {t : Tail} (hs : scan mem fuel pos.bytes (lenSub len pos.bytes) = some (cs, t)) {r : Int} {p : Pos} {hi : Nat}
    (h : ncountmore mem fuel len pos L = .ret r p hi) :
    r = (specRun L (clusters cs) t pos).ret pos.bytes ∧ p = (specRun L (clusters cs) t pos).pos := by
  obtain ⟨hi', he⟩ := ncountmore_eq_spec mem fuel len pos L cs t hs
  rw [he] at h
  injection h with h1 h2 _
  exact ⟨h1.symm, h2.symm⟩

theorem ncountmore_neg_iff {mem : Mem} {fuel : Nat} {len : Option Nat} {pos : Pos} {L : Option Limit}
    {cs : List Ch} {t : Tail} (hs : scan mem fuel pos.bytes (lenSub len pos.bytes) = some (cs, t)) {r : Int} {p : Pos} {hi : Nat}
    (h : ncountmore mem fuel len pos L = .ret r p hi) : r = -1 ↔ (t = .err ∧ AllFit L pos (clusters cs)) := by
  rw [(ncountmore_ret hs h).1, specRun_ret_neg_iff, specRun_err_iff]

/-- `e` bounds (exclusively) the indices a call at offset `str` with remaining length `len` may read:
    the end of the length, resp. one past the first NUL. -/
def ReadBound (mem : Mem) (str : Nat) (len : Option Nat) (e : Nat) : Prop :=
  match len with
  | some l => str + l ≤ e
  | none => ∃ nul, FirstNul mem str nul ∧ nul + 1 ≤ e

theorem ReadBound.read {mem : Mem} {p : Nat} {len : Option Nat} {e j : Nat} (hb : ReadBound mem p len e)
    (hlen : ∀ l, len = some l → j < p + l) (hnz : ∀ i, p ≤ i → i < j → (mem i).toNat ≠ 0) : j + 1 ≤ e := by
  cases len with
  | some l => have := hlen l rfl; simp only [ReadBound] at hb; omega
  | none =>
    obtain ⟨nul, ⟨h1, h2, _⟩, h4⟩ := hb
    have : ¬ nul < j := fun h => hnz nul h1 h h2
    omega

theorem ReadBound.adv {mem : Mem} {p : Nat} {len : Option Nat} {e n : Nat} (hb : ReadBound mem p len e)
    (hlen : ∀ l, len = some l → n ≤ l) (hnz : ∀ i, p ≤ i → i < p + n → (mem i).toNat ≠ 0) :
    ReadBound mem (p + n) (lenDec len n) e := by
  cases len with
  | some l => have := hlen l rfl; simp only [ReadBound, lenDec, Option.map] at hb ⊢; omega
  | none =>
    obtain ⟨nul, ⟨h1, h2, h3⟩, h4⟩ := hb
    have : ¬ nul < p + n := fun h => hnz nul h1 h h2
    exact ⟨nul, ⟨by omega, h2, fun i hi1 hi2 => h3 i (by omega) hi2⟩, h4⟩

theorem nextUtf8_bound (mem : Mem) (p : Nat) (len : Option Nat) (e : Nat) (hb : ReadBound mem p len e)
    (hl : len ≠ some 0) (h0 : (mem p).toNat ≠ 0) :
    match nextUtf8 mem p len with
    | .err hi => hi ≤ e
    | .ok n _ hi => hi ≤ e ∧ ReadBound mem (p + n) (lenDec len n) e ∧ 0 < n := by
  have hr := nextUtf8_reads mem p len hl h0
  cases hd : nextUtf8 mem p len with
  | err hi =>
    rw [hd] at hr; obtain ⟨h1, h2, h3⟩ := hr
    have := hb.read (j := hi - 1) (fun l h => by have := h2 l h; omega) (fun i hi1 hi2 => h3 i hi1 (by omega))
    show hi ≤ e; omega
  | ok n cp hi =>
    rw [hd] at hr; obtain ⟨rfl, hn, h2, h3⟩ := hr
    have := hb.read (j := p + n - 1) (fun l h => by have := h2 l h; omega) (fun i hi1 hi2 => h3 i hi1 (by omega))
    exact ⟨by omega, hb.adv h2 h3, hn⟩

theorem stepAt_bound (mem : Mem) (str : Nat) (len : Option Nat) (e : Nat) (hb : ReadBound mem str len e) :
    match stepAt mem str len with
    | .stop hi => hi ≤ e
    | .err hi => hi ≤ e
    | .ch n _ _ hi => hi ≤ e ∧ ReadBound mem (str + n) (lenDec len n) e ∧ 0 < n := by
  refine stepAt_cases (motive := fun st => match st with
      | .stop hi => hi ≤ e
      | .err hi => hi ≤ e
      | .ch n _ _ hi => hi ≤ e ∧ ReadBound mem (str + n) (lenDec len n) e ∧ 0 < n) mem str len
    (fun _ => Nat.zero_le _)
    -- the terminator itself is read
    (fun hl _ => hb.read (fun l h => Nat.lt_add_of_pos_right (Nat.pos_of_ne_zero fun h' => hl (h' ▸ h)))
      (fun i h1 h2 => absurd h2 (Nat.not_lt.2 h1))) fun hl h0 => ?_
  have := nextUtf8_bound mem str len e hb hl h0
  cases hn : nextUtf8 mem str len with
  | err hi => rw [hn] at this; exact this
  | ok n cp hi =>
    rw [hn] at this
    by_cases hc : IsControl cp
    · simp only [stepOf, if_pos hc]; exact this.1
    · simp only [stepOf, if_neg hc]; exact this

theorem lenDec_isNone (len : Option Nat) (n : Nat) : (lenDec len n).isNone = len.isNone := by cases len <;> rfl

/-- Strictly below for a NUL-terminated input: the terminator is read. -/
theorem ReadBound.le {mem : Mem} {s : Nat} {len : Option Nat} {e : Nat} (hb : ReadBound mem s len e) :
    s + len.isNone.toNat ≤ e := by
  cases len with
  | some l => exact Nat.le_trans (Nat.le_add_right s l) hb
  | none => obtain ⟨nul, ⟨h1, _⟩, h2⟩ := hb; exact Nat.le_trans (Nat.succ_le_succ h1) h2

/-- Enough fuel exists for every input with a read bound `e`: a character moves the offset up, and the
    offset stays below `e` (the last trip, which finds the end, happens at `e` itself only for a length). -/
theorem scan_terminates (mem : Mem) (e : Nat) : ∀ (k str : Nat) (len : Option Nat), ReadBound mem str len e →
    e ≤ str + k + len.isNone.toNat → ∃ cs t, scan mem (k + 1) str len = some (cs, t)
  | k, str, len, hb, hk => by
    rw [scan]
    have hs := stepAt_bound mem str len e hb
    cases hst : stepAt mem str len with
    | stop hi => exact ⟨_, _, rfl⟩
    | err hi => exact ⟨_, _, rfl⟩
    | ch n cp w hi =>
      rw [hst] at hs
      obtain ⟨_, hb', hn⟩ := hs
      have hle := hb'.le
      rw [lenDec_isNone] at hle
      match k, hk with
      | 0, hk => omega
      | k + 1, hk =>
        obtain ⟨cs, t, h⟩ := scan_terminates mem e k (str + n) (lenDec len n) hb' (by rw [lenDec_isNone]; omega)
        simp only [h]; exact ⟨_, _, rfl⟩

theorem loop_bound (mem : Mem) (L : Option Limit) (start e : Nat)
    (fuel str : Nat) (len : Option Nat) (here pos : Pos) (hi : Nat) (r : Int) (p : Pos) (hi' : Nat)
    (hb : ReadBound mem str len e) (hhi : hi ≤ e)
    (h : loop mem L start fuel str len here pos hi = .ret r p hi') : hi' ≤ e := by
  -- the branches of `loop`: out of fuel; the guard fails; an error; a limit is crossed; the next character is taken.
  -- In each, `hst` says what `stepAt` found and `stepAt_bound` bounds what it read.
  fun_induction loop mem L start fuel str len here pos hi with
  | case1 => cases h
  | case2 _ str len _ _ _ _ hst =>
    have hs := stepAt_bound mem str len e hb; rw [hst] at hs
    cases h; exact Nat.max_le.2 ⟨hhi, hs⟩
  | case3 _ str len _ _ _ _ hst =>
    have hs := stepAt_bound mem str len e hb; rw [hst] at hs
    cases h; exact Nat.max_le.2 ⟨hhi, hs⟩
  | case4 _ str len _ _ _ _ _ _ _ hst =>
    have hs := stepAt_bound mem str len e hb; rw [hst] at hs
    injection h with _ _ h3; exact h3 ▸ Nat.max_le.2 ⟨hhi, hs.1⟩
  | case5 _ str len _ _ _ _ _ _ _ hst _ _ ih =>
    have hs := stepAt_bound mem str len e hb; rw [hst] at hs
    exact ih hs.2.1 (Nat.max_le.2 ⟨hhi, hs.1⟩) h

theorem ncountmore_bound {mem : Mem} {fuel : Nat} {len : Option Nat} {pos : Pos} {L : Option Limit} {e : Nat}
    (hb : ReadBound mem pos.bytes (lenSub len pos.bytes) e) {r : Int} {p : Pos} {hi : Nat}
    (h : ncountmore mem fuel len pos L = .ret r p hi) : hi ≤ e :=
  loop_bound mem L pos.bytes e fuel pos.bytes _ pos pos 0 r p hi hb (Nat.zero_le _) h

theorem firstNul_memOfBytes (l : List Nat) (h : ∀ i (hi : i < l.length), l[i] % 256 ≠ 0) :
    FirstNul (memOfBytes l) 0 l.length := by
  refine ⟨Nat.zero_le _, memOfBytes_end (Nat.le_refl _), fun i _ hi => ?_⟩
  rw [memOfBytes, List.getD_eq_getElem?_getD, List.getElem?_eq_getElem hi]
  exact h i hi

theorem count_putBytes (cp : Nat) (h0 : 0x20 ≤ cp) (hc : ¬ (0x7f ≤ cp ∧ cp < 0xa0)) (h1 : cp < 0x200000)
    (fuel : Nat) :
    count (memOfBytes (putBytes cp)) (fuel + 2) none =
      .ret (seqlen cp) ⟨seqlen cp, 1, if Width.wcwidth cp > 0 then 1 else 0, Width.wcwidth cp⟩ (seqlen cp + 1) := by
  have hdec := nextUtf8_putBytes cp (by omega) h1
  obtain ⟨hl, hm0⟩ := nextUtf8_ok_inv hdec
  -- first trip: the character; second trip: the terminator after the bytes
  have hst : stepAt (memOfBytes (putBytes cp)) 0 none = .ch (seqlen cp) cp (Width.wcwidth cp) (seqlen cp) := by
    rw [stepAt_ok hl hm0 hdec, if_neg (by unfold IsControl; omega)]
  have hst2 : stepAt (memOfBytes (putBytes cp)) (0 + seqlen cp) (lenDec none (seqlen cp)) = .stop (seqlen cp + 1) := by
    rw [Nat.zero_add]
    exact stepAt_nul nofun (memOfBytes_end (Nat.le_of_eq (putBytes_length cp)))
  have := seqlen_pos cp
  unfold count ncountmore
  simp only [Pos.zero, lenSub]
  rw [loop]
  simp only [hst, exceeds]
  rw [loop]
  simp only [hst2, Pos.adv, Bool.false_eq_true, if_false]
  congr 1
  · simp
  · simp
  · omega

theorem lenDec_lenDec (len : Option Nat) (a b : Nat) : lenDec (lenDec len a) b = lenDec len (a + b) := by
  cases len with
  | none => rfl
  | some l => simp only [lenDec, Option.map]; congr 1; omega

theorem lenDec_zero (len : Option Nat) : lenDec len 0 = len := by
  cases len <;> simp [lenDec]

theorem scan_mono (mem : Mem) : ∀ (fuel str : Nat) (len : Option Nat) (cs : List Ch) (t : Tail),
    scan mem fuel str len = some (cs, t) → scan mem (fuel + 1) str len = some (cs, t) :=
  scan_induct (fun _ _ _ _ hst => by rw [scan, hst]) (fun _ _ _ _ hst => by rw [scan, hst])
    (fun _ _ _ _ _ _ _ _ _ hst _ ih => by rw [scan, hst]; simp only [ih])

theorem scan_mono_le (mem : Mem) (f g str : Nat) (len : Option Nat) (x : List Ch × Tail) (hfg : f ≤ g)
    (h : scan mem f str len = some x) : scan mem g str len = some x := by
  induction hfg with
  | refl => exact h
  | step _ ih => exact scan_mono mem _ str len x.1 x.2 ih

theorem scan_cons_inv {mem : Mem} {fuel str : Nat} {len : Option Nat} {c : Ch} {cs : List Ch} {t : Tail}
    (h : scan mem fuel str len = some (c :: cs, t)) :
    ∃ f hi, fuel = f + 1 ∧ stepAt mem str len = .ch c.n c.cp c.w hi ∧
      scan mem f (str + c.n) (lenDec len c.n) = some (cs, t) :=
  scan_induct (motive := fun fuel str len cs' t => ∀ c cs, cs' = c :: cs → ∃ f hi, fuel = f + 1 ∧
      stepAt mem str len = .ch c.n c.cp c.w hi ∧ scan mem f (str + c.n) (lenDec len c.n) = some (cs, t))
    (fun _ _ _ _ _ _ _ => nofun) (fun _ _ _ _ _ _ _ => nofun)
    (fun f _ _ _ _ _ hi _ _ hst hsc _ _ _ e => by cases e; exact ⟨f, hi, rfl, hst, hsc⟩) _ _ _ _ _ h c cs rfl

theorem scan_append (mem : Mem) : ∀ (a : List Ch) (fuel str : Nat) (len : Option Nat) (b : List Ch) (t : Tail),
    scan mem fuel str len = some (a ++ b, t) →
    scan mem fuel (str + bytesOf a) (lenDec len (bytesOf a)) = some (b, t)
  | [], fuel, str, len, b, t, h => by rwa [bytesOf, lenDec_zero]
  | c :: a, fuel, str, len, b, t, h => by
    obtain ⟨f, hi, rfl, _, hsc⟩ := scan_cons_inv h
    have := scan_mono mem f _ _ _ _ (scan_append mem a f _ _ b t hsc)
    rwa [lenDec_lenDec, Nat.add_assoc] at this

theorem scan_nil (mem : Mem) (fuel str : Nat) (len : Option Nat) (t : Tail) (h : scan mem fuel str len = some ([], t)) :
    (t = .eof → ∃ hi, stepAt mem str len = .stop hi) ∧ (t = .err → ∃ hi, stepAt mem str len = .err hi) :=
  scan_induct (motive := fun _ str len cs t => cs = [] →
      (t = .eof → ∃ hi, stepAt mem str len = .stop hi) ∧ (t = .err → ∃ hi, stepAt mem str len = .err hi))
    (fun _ _ _ hi hst _ => ⟨fun _ => ⟨hi, hst⟩, nofun⟩) (fun _ _ _ hi hst _ => ⟨nofun, fun _ => ⟨hi, hst⟩⟩)
    (fun _ _ _ _ _ _ _ _ _ _ _ _ => nofun) _ _ _ _ _ h rfl

theorem scan_end (mem : Mem) (fuel str : Nat) (len : Option Nat) (cs : List Ch) (t : Tail)
    (h : scan mem fuel str len = some (cs, t)) :
    (t = .eof → ∃ hi, stepAt mem (str + bytesOf cs) (lenDec len (bytesOf cs)) = .stop hi) ∧
    (t = .err → ∃ hi, stepAt mem (str + bytesOf cs) (lenDec len (bytesOf cs)) = .err hi) :=
  scan_nil mem fuel _ _ t (scan_append mem cs fuel str len [] t (by rwa [List.append_nil]))

theorem scan_err_iff {mem : Mem} {fuel str : Nat} {len : Option Nat} {cs : List Ch} {t : Tail}
    (h : scan mem fuel str len = some (cs, t)) :
    t = .err ↔ ∃ hi, stepAt mem (str + bytesOf cs) (lenDec len (bytesOf cs)) = .err hi := by
  obtain ⟨he1, he2⟩ := scan_end mem fuel _ _ cs t h
  refine ⟨he2, fun ⟨_, hst⟩ => ?_⟩
  cases t with
  | err => rfl
  | eof => obtain ⟨_, hst'⟩ := he1 rfl; rw [hst'] at hst; cases hst

theorem stepAt_ch_len (mem : Mem) (str l n cp hi : Nat) (w : Int)
    (h : stepAt mem str (some l) = .ch n cp w hi) : n ≤ l := by
  have c := stepAt_ch_inv h
  have := nextUtf8_reads mem str (some l) c.len_ne c.nz
  rw [c.dec] at this
  exact this.2.2.1 l rfl

theorem scan_bytes_le (mem : Mem) : ∀ (fuel str l : Nat) (cs : List Ch) (t : Tail),
    scan mem fuel str (some l) = some (cs, t) → bytesOf cs ≤ l := by
  intro fuel str l cs t h
  refine scan_induct (motive := fun _ _ len cs _ => ∀ l, len = some l → bytesOf cs ≤ l)
    (fun _ _ _ _ _ _ _ => Nat.zero_le _) (fun _ _ _ _ _ _ _ => Nat.zero_le _) ?_ _ _ _ _ _ h l rfl
  rintro _ str _ n cp w hi cs t hst _ ih l rfl
  have h1 := stepAt_ch_len mem str l n cp hi w hst
  have h2 := ih (l - n) rfl
  show n + bytesOf cs ≤ l
  omega

theorem lenSub_resume (len : Option Nat) (a k : Nat) (h : ∀ l, len = some l → a + k ≤ l) :
    lenSub len (a + k) = lenDec (lenSub len a) k := by
  cases len with
  | none => rfl
  | some l =>
    have := h l rfl
    unfold lenSub lenDec
    simp only [show a + k ≤ l from this, show a ≤ l by omega, if_true, Option.map]
    congr 1; omega

theorem ncountmore_resume (mem : Mem) (fuel : Nat) (len : Option Nat) (pos : Pos) (L1 L2 : Option Limit)
    (cs : List Ch) (t : Tail) (hle : LimitLe L1 L2) (hpre : ∀ l, len = some l → pos.bytes ≤ l)
    (hs : scan mem fuel pos.bytes (lenSub len pos.bytes) = some (cs, t)) :
    ∃ h2, ncountmore mem fuel len (specRun L1 (clusters cs) t pos).pos L2 =
      .ret ((specRun L2 (clusters cs) t pos).ret (specRun L1 (clusters cs) t pos).pos.bytes)
        (specRun L2 (clusters cs) t pos).pos h2 := by
  have hwf := clusters_wf cs (scan_nonneg mem _ _ _ _ _ hs)
  have hfl := clusters_flatten cs
  generalize clusters cs = gs at *
  obtain ⟨hp1, _⟩ := specRun_pos L1 t gs pos
  have hres := specRun_resume L1 L2 hle t gs pos
  generalize specTaken L1 gs t pos = j at *
  -- the scan splits at the grapheme boundary where the first call stopped
  rw [← hfl, ← List.take_append_drop j gs, List.flatten_append] at hs
  have hsc := scan_append mem _ fuel _ _ _ t hs
  have hb1 : (specRun L1 gs t pos).pos.bytes = pos.bytes + bytesOf (gs.take j).flatten := by rw [hp1, sumPos_bytes]
  have hlen : lenSub len (specRun L1 gs t pos).pos.bytes =
      lenDec (lenSub len pos.bytes) (bytesOf (gs.take j).flatten) := by
    rw [hb1]
    refine lenSub_resume len _ _ fun l hl => ?_
    subst hl
    have h0 := hpre l rfl
    rw [show lenSub (some l) pos.bytes = some (l - pos.bytes) by simp [lenSub, h0]] at hs
    have := scan_bytes_le mem _ _ _ _ _ hs
    rw [bytesOf_append] at this
    omega
  rw [← hlen, ← hb1] at hsc
  obtain ⟨h2, he⟩ := ncountmore_eq_spec mem fuel len _ L2 _ t hsc
  rw [clusters_of_wf _ (hwf.drop j), hres] at he
  exact ⟨h2, he⟩

theorem loop_mono (mem : Mem) (L : Option Limit) (start : Nat)
    (fuel str : Nat) (len : Option Nat) (here pos : Pos) (hi : Nat) (r : Int) (p : Pos) (hi' : Nat)
    (h : loop mem L start fuel str len here pos hi = .ret r p hi') :
    loop mem L start (fuel + 1) str len here pos hi = .ret r p hi' := by
  fun_induction loop mem L start fuel str len here pos hi with
  | case1 => cases h
  | case2 _ _ _ _ _ _ _ hst => rw [loop, hst]; exact h
  | case3 _ _ _ _ _ _ _ hst => rw [loop, hst]; exact h
  | case4 _ _ _ _ _ _ _ _ _ _ hst _ hex => rw [loop, hst]; simp only [hex, if_true]; exact h
  | case5 _ _ _ _ _ _ _ _ _ _ hst _ hex ih => rw [loop, hst]; simp only [hex, Bool.false_eq_true, if_false]; exact ih h

theorem ncountmore_mono (mem : Mem) (f g : Nat) (len : Option Nat) (pos : Pos) (L : Option Limit)
    (r : Int) (p : Pos) (hi : Nat) (hfg : f ≤ g)
    (h : ncountmore mem f len pos L = .ret r p hi) : ncountmore mem g len pos L = .ret r p hi := by
  induction hfg with
  | refl => exact h
  | step _ ih => exact loop_mono mem L _ _ _ _ _ _ _ _ _ _ ih

end Utf8
end Tickit
