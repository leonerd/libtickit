import Tickit.Model.LifeOps
import Tickit.Proof.WinTreeStore
/-
  C08: the window tree.  `TInv` is its structural invariant (`LiveW` is `WinTree.Live`, the two clauses about links
  are `WinTree.Linked`), `Reach` the ancestor relation.  Two relations for a step that frees nothing: `TRel` (nothing
  restructured; silent on counts, hence `SameRC`) and `Calm` (what the accounts of references ask of such a step); the
  docstring of `Calm` says how the relations of this engine lie to each other.
-/
namespace Tickit.Life
open WinTree (Id Win Req Change Tree)

@[simp] theorem bind_ok {α β : Type} (a : α) (f : α → Out β) : (Out.ok a >>= f) = f a := rfl
@[simp] theorem bind_ub {α β : Type} (k : UB) (w : String) (f : α → Out β) : (Out.ub k w >>= f) = Out.ub k w := rfl
@[simp] theorem bind_fuel {α β : Type} (f : α → Out β) : ((Out.fuel : Out α) >>= f) = Out.fuel := rfl
@[simp] theorem pure_ok {α : Type} (a : α) : (pure a : Out α) = Out.ok a := rfl

@[simp] theorem ofRes_ok {α : Type} (a : α) : ofRes (WinTree.Res.ok a) = Out.ok a := rfl

theorem bind_eq_ok {α β : Type} {x : Out α} {f : α → Out β} {b : β} :
    (x >>= f) = .ok b ↔ ∃ a, x = .ok a ∧ f a = .ok b := by
  cases x <;> simp

/-- How the files from Proof/LifeRoute.lean on say "runs and `Q` holds"; the lemmas up to LifeStep say `∃ a, x = .ok a ∧ …`
    outright. -/
def Post {α : Type} (x : Out α) (Q : α → Prop) : Prop := ∃ a, x = .ok a ∧ Q a

theorem Post.ok {α : Type} {Q : α → Prop} {a : α} (h : Q a) : Post (.ok a) Q := ⟨a, rfl, h⟩

theorem Post.bind {α β : Type} {x : Out α} {f : α → Out β} {Q : α → Prop} {Q' : β → Prop} (hx : Post x Q)
    (hf : ∀ a, Q a → Post (f a) Q') : Post (x >>= f) Q' := by
  obtain ⟨a, rfl, h⟩ := hx; exact hf a h

theorem Post.mono {α : Type} {x : Out α} {Q Q' : α → Prop} (hx : Post x Q) (h : ∀ a, Q a → Q' a) : Post x Q' := by
  obtain ⟨a, e, q⟩ := hx; exact ⟨a, e, h a q⟩

theorem Post.ite {α : Type} {c : Prop} [Decidable c] {a b : Out α} {Q : α → Prop} (ha : c → Post a Q) (hb : ¬ c → Post b Q) :
    Post (if c then a else b) Q := iteInduction (motive := fun x => Post x Q) ha hb

/-- It is `WinTree.Live` (by `rfl`): the lemmas `WinTree.Live.*` apply as they are. -/
def LiveW (t : Tree) (i : Nat) (w : Win) : Prop := t.wins[i]? = some w ∧ w.freed = false

theorem get_live {t : Tree} {i : Nat} {w : Win} (h : LiveW t i w) : ofRes (WinTree.get t i) = .ok w := by
  rw [WinTree.Live.get h]; rfl

theorem get_ok {t : Tree} {i : Nat} {w : Win} (h : ofRes (WinTree.get t i) = .ok w) : LiveW t i w := by
  cases hg : WinTree.get t i with
  | ok w' => rw [hg] at h; cases h; exact WinTree.get_ok_iff.1 hg
  | ub m => rw [hg] at h; cases h

theorem LiveW.not_freed {t : Tree} {i : Nat} {w w' : Win} (hl : LiveW t i w) (hw' : t.wins[i]? = some w')
    (hf : w'.freed = true) : False := by
  rw [hl.1] at hw'; cases hw'
  rw [hl.2] at hf; cases hf

theorem lt_size {α : Type} {xs : Array α} {i : Nat} {a : α} (h : xs[i]? = some a) : i < xs.size :=
  (Array.getElem?_eq_some_iff.1 h).1

theorem get_of_size_eq {α β : Type} {xs : Array α} {ys : Array β} (hs : ys.size = xs.size) {i : Nat} {b : β}
    (h : ys[i]? = some b) : ∃ a, xs[i]? = some a :=
  ⟨_, Array.getElem?_eq_getElem (hs ▸ lt_size h)⟩

theorem LiveW.lt {t : Tree} {i : Nat} {w : Win} (h : LiveW t i w) : i < t.wins.size := lt_size h.1

-- The facts of `WinTree` about `set`, under the names C08 states them by.
@[simp] theorem set_root (t : Tree) (i : Nat) (w : Win) : (WinTree.set t i w).root = t.root := rfl

@[simp] theorem set_size (t : Tree) (i : Nat) (w : Win) : (WinTree.set t i w).wins.size = t.wins.size :=
  WinTree.set_size t i w

theorem set_get (t : Tree) (i j : Nat) (w : Win) :
    (WinTree.set t i w).wins[j]? = if i = j then (if i < t.wins.size then some w else none) else t.wins[j]? :=
  WinTree.set_wins t i j w

theorem set_get_self {t : Tree} {i : Nat} (w : Win) (h : i < t.wins.size) : (WinTree.set t i w).wins[i]? = some w := by
  rw [set_get]; simp [h]

theorem set_get_ne {t : Tree} {i j : Nat} (w : Win) (h : i ≠ j) : (WinTree.set t i w).wins[j]? = t.wins[j]? :=
  WinTree.set_wins_ne w h

/-- `a` is `i` or an ancestor of `i`. -/
inductive Reach (t : Tree) : Nat → Nat → Prop
  | refl (i : Nat) : Reach t i i
  | step {i p a : Nat} {w : Win} : t.wins[i]? = some w → w.parent = some p → Reach t p a → Reach t i a

theorem Reach.trans {t : Tree} {i a b : Nat} (h1 : Reach t i a) (h2 : Reach t a b) : Reach t i b := by
  induction h1 with
  | refl => exact h2
  | step hw hp _ ih => exact .step hw hp (ih h2)

theorem Reach.of_ne {t : Tree} {i a p : Nat} {w : Win} (h : Reach t i a) (hne : i ≠ a)
    (hw : t.wins[i]? = some w) (hp : w.parent = some p) : Reach t p a := by
  cases h with
  | refl => exact absurd rfl hne
  | step hw' hp' hr =>
    rw [hw] at hw'; cases hw'
    rw [hp] at hp'; cases hp'
    exact hr

theorem Reach.eq_of_no_parent {t : Tree} {i a : Nat} {w : Win} (h : Reach t i a)
    (hw : t.wins[i]? = some w) (hp : w.parent = none) : i = a := by
  cases h with
  | refl => rfl
  | step hw' hp' _ =>
    rw [hw] at hw'; cases hw'
    rw [hp] at hp'; cases hp'

theorem Reach.mono {t t' : Tree}
    (h : ∀ (i : Nat) (w : Win) (p : Nat), t.wins[i]? = some w → w.parent = some p → ∃ w', t'.wins[i]? = some w' ∧ w'.parent = some p)
    {i a : Nat} (hr : Reach t i a) : Reach t' i a := by
  induction hr with
  | refl => exact .refl _
  | step hw hp _ ih =>
    obtain ⟨w', hw', hp'⟩ := h _ _ _ hw hp
    exact .step hw' hp' ih

structure TInv (t : Tree) : Prop where
  /-- window 0 is the root window (possibly already freed) -/
  root_ex : ∃ r, t.wins[0]? = some r ∧ r.isRoot = true ∧ r.parent = none
  only_root : ∀ (i : Nat) w, t.wins[i]? = some w → w.isRoot = true → i = 0
  parent_ok : ∀ (c : Nat) cw, LiveW t c cw → ∀ (p : Nat), cw.parent = some p → p < c ∧ ∃ pw, LiveW t p pw ∧ c ∈ pw.children
  child_ok : ∀ (p : Nat) pw, LiveW t p pw → ∀ (c : Nat), c ∈ pw.children → ∃ cw, LiveW t c cw ∧ cw.parent = some p
  nodup : ∀ (p : Nat) pw, LiveW t p pw → pw.children.Nodup
  closed_ok : ∀ (i : Nat) w, LiveW t i w → w.isClosed = true → w.parent = none
  req_ok : ∀ r ∈ t.root.changes, isRestack r.change = true ∧ ∃ w, LiveW t r.win w ∧ w.parent = some r.parent ∧ Reach t r.win 0
  focus_ok : ∀ (p : Nat) pw, LiveW t p pw → ∀ (c : Nat), pw.focusedChild = some c → c ∈ pw.children
  /-- the (uncounted) drag source is a live window below the root -/
  drag_ok : ∀ (s : Nat), t.root.dragSource = some s → ∃ w, LiveW t s w ∧ Reach t s 0

theorem TInv.root_parent {t : Tree} (inv : TInv t) {r : Win} (h : LiveW t 0 r) : r.parent = none := by
  obtain ⟨r0, hr0, _, hp⟩ := inv.root_ex
  rw [h.1] at hr0; cases hr0; exact hp

/-- A window before and after an operation that does not restructure the tree: `isClosed` may change on a parentless
    window (close), the focus is cleared or moved to a listed child (hide, show, remove). -/
def WRel (w w' : Win) : Prop :=
  w'.parent = w.parent ∧ w'.children.Perm w.children ∧ w'.freed = w.freed ∧ w'.isRoot = w.isRoot ∧
  (w'.isClosed = w.isClosed ∨ w.parent = none) ∧
  (w'.focusedChild = w.focusedChild ∨ w'.focusedChild = none ∨ ∃ (c : Nat), w'.focusedChild = some c ∧ c ∈ w.children)

theorem WRel.refl (w : Win) : WRel w w := ⟨rfl, List.Perm.refl _, rfl, rfl, .inl rfl, .inl rfl⟩

section
variable {w w' : Win} (h : WRel w w')
include h
theorem WRel.parent : w'.parent = w.parent := h.1
theorem WRel.children : w'.children.Perm w.children := h.2.1
theorem WRel.freed : w'.freed = w.freed := h.2.2.1
theorem WRel.isRoot : w'.isRoot = w.isRoot := h.2.2.2.1
theorem WRel.closed : w'.isClosed = w.isClosed ∨ w.parent = none := h.2.2.2.2.1
theorem WRel.focus : w'.focusedChild = w.focusedChild ∨ w'.focusedChild = none ∨
    ∃ (c : Nat), w'.focusedChild = some c ∧ c ∈ w.children := h.2.2.2.2.2
end

theorem WRel.trans {a b c : Win} (h1 : WRel a b) (h2 : WRel b c) : WRel a c := by
  refine ⟨h2.parent.trans h1.parent, h2.children.trans h1.children, h2.freed.trans h1.freed, h2.isRoot.trans h1.isRoot, ?_, ?_⟩
  · rcases h2.closed with h | h
    · rcases h1.closed with h' | h'
      · exact .inl (h.trans h')
      · exact .inr h'
    · exact .inr (by rw [← h1.parent]; exact h)
  · rcases h2.focus with h | h | ⟨x, hx, hm⟩
    · rcases h1.focus with h' | h' | ⟨x, hx, hm⟩
      · exact .inl (h.trans h')
      · exact .inr (.inl (h.trans h'))
      · exact .inr (.inr ⟨x, h.trans hx, hm⟩)
    · exact .inr (.inl h)
    · exact .inr (.inr ⟨x, hx, (h1.children.mem_iff).1 hm⟩)

/-- Window by window `WRel`; `TInv.of_rel` keeps the invariant along it. -/
def TRel (t t' : Tree) : Prop :=
  t'.wins.size = t.wins.size ∧ ∀ (i : Nat) (w : Win), t.wins[i]? = some w → ∃ w', t'.wins[i]? = some w' ∧ WRel w w'

theorem TRel.lift {t t' : Tree} (h : TRel t t') : WinTree.Lift (fun _ => WRel) t t' := h

theorem TRel.refl (t : Tree) : TRel t t := WinTree.Lift.refl (fun _ => WRel.refl) t

theorem TRel.trans {a b c : Tree} (h1 : TRel a b) (h2 : TRel b c) : TRel a c :=
  WinTree.Lift.trans (R := fun _ => WRel) (R' := fun _ => WRel) (R'' := fun _ => WRel) (fun _ _ _ _ => WRel.trans) h1 h2

theorem TRel.back {t t' : Tree} (h : TRel t t') {i : Nat} {w' : Win} (hw' : t'.wins[i]? = some w') :
    ∃ w, t.wins[i]? = some w ∧ WRel w w' := h.lift.back hw'

theorem TRel.live {t t' : Tree} (h : TRel t t') {i : Nat} {w : Win} (hl : LiveW t i w) :
    ∃ w', LiveW t' i w' ∧ WRel w w' := h.lift.live (fun _ _ _ r => r.freed) hl

theorem TRel.live_back {t t' : Tree} (h : TRel t t') {i : Nat} {w' : Win} (hl : LiveW t' i w') :
    ∃ w, LiveW t i w ∧ WRel w w' := h.lift.live_back (fun _ _ _ r => r.freed) hl

theorem TRel.reach {t t' : Tree} (h : TRel t t') {i a : Nat} (hr : Reach t i a) : Reach t' i a :=
  hr.mono fun i w _ hw hp => (h.2 i w hw).imp fun _ h' => ⟨h'.1, h'.2.parent.trans hp⟩

/-- Beside `TRel`, which is silent on counts. -/
def SameRC (t t' : Tree) : Prop :=
  ∀ (i : Nat) (w w' : Win), t.wins[i]? = some w → t'.wins[i]? = some w' → w'.refcount = w.refcount

theorem SameRC.refl (t : Tree) : SameRC t t := by
  intro i w w' h h'; rw [h] at h'; cases h'; rfl

theorem SameRC.trans {a b c : Tree} (hab : TRel a b) (h1 : SameRC a b) (h2 : SameRC b c) : SameRC a c := by
  intro i w w'' h h''
  obtain ⟨w', hw', _⟩ := hab.2 i w h
  exact (h2 i w' w'' hw' h'').trans (h1 i w w' h hw')

theorem SameRC.set {t : Tree} {p : Nat} {pw pw' : Win} (hl : t.wins[p]? = some pw) (hr : pw'.refcount = pw.refcount) :
    SameRC t (WinTree.set t p pw') := by
  intro i w w' hw hw'
  rw [set_get] at hw'
  by_cases hip : p = i
  · subst hip
    rw [hl] at hw; cases hw
    simp only [if_true] at hw'
    split at hw'
    · cases hw'; exact hr
    · cases hw'
  · simp only [hip, if_false] at hw'
    rw [hw] at hw'; cases hw'; rfl

theorem TInv.linked {t : Tree} (inv : TInv t) : WinTree.Linked t :=
  ⟨inv.parent_ok, inv.child_ok⟩

theorem TRel.linked {t t' : Tree} (h : TRel t t') (inv : TInv t) : WinTree.Linked t' :=
  inv.linked.lift (fun _ _ _ r => ⟨r.parent, fun _ => r.children.mem_iff, r.freed⟩) h.lift

/-- The clauses of `TInv` that speak of one live window by itself. -/
structure WOk (w : Win) : Prop where
  nodup : w.children.Nodup
  closed : w.isClosed = true → w.parent = none
  focus : ∀ (c : Nat), w.focusedChild = some c → c ∈ w.children

theorem TInv.wok {t : Tree} (inv : TInv t) {i : Nat} {w : Win} (hl : LiveW t i w) : WOk w :=
  ⟨inv.nodup i w hl, inv.closed_ok i w hl, inv.focus_ok i w hl⟩

/-- `TInv` in four parts: the root window, the links, every live window by itself, what the root record names.  The
    lemmas about a surgery on the tree go part by part. -/
theorem TInv.of_parts {t : Tree} (hroot : ∃ r, t.wins[0]? = some r ∧ r.isRoot = true ∧ r.parent = none)
    (honly : ∀ (i : Nat) w, t.wins[i]? = some w → w.isRoot = true → i = 0) (hL : WinTree.Linked t)
    (hw : ∀ (i : Nat) w, LiveW t i w → WOk w)
    (hreq : ∀ r ∈ t.root.changes, isRestack r.change = true ∧ ∃ w, LiveW t r.win w ∧ w.parent = some r.parent ∧ Reach t r.win 0)
    (hdrag : ∀ (s : Nat), t.root.dragSource = some s → ∃ w, LiveW t s w ∧ Reach t s 0) : TInv t :=
  ⟨hroot, honly, hL.parent, hL.child, fun p pw h => (hw p pw h).nodup, fun i w h => (hw i w h).closed, hreq,
    fun p pw h => (hw p pw h).focus, hdrag⟩

theorem WRel.wok {w w' : Win} (hr : WRel w w') (h : WOk w) : WOk w' := by
  refine ⟨hr.children.nodup_iff.2 h.nodup, fun hcl => ?_, fun c hf => ?_⟩
  · rw [hr.parent]
    exact hr.closed.elim (fun h1 => h.closed (h1 ▸ hcl)) id
  · rcases hr.focus with h1 | h1 | ⟨c', h1, h2⟩
    · exact hr.children.mem_iff.2 (h.focus c (h1 ▸ hf))
    · rw [h1] at hf; cases hf
    · rw [h1] at hf; cases hf
      exact hr.children.mem_iff.2 h2

/-- The two clauses about the root record (over `t'.root`, in terms of `t`) are the caller's; `TInv.of_rel` is the case
    of a root record that has only forgotten. -/
theorem TInv.of_rel_gen {t t' : Tree} (inv : TInv t) (h : TRel t t')
    (hc : ∀ r ∈ t'.root.changes, isRestack r.change = true ∧ ∃ w, LiveW t r.win w ∧ w.parent = some r.parent ∧ Reach t r.win 0)
    (hd : ∀ (s : Nat), t'.root.dragSource = some s → ∃ w, LiveW t s w ∧ Reach t s 0) : TInv t' := by
  refine .of_parts ?_ (fun i w' hw' hr => ?_) (h.linked inv) (fun i w' hl => ?_) (fun r hr => ?_) (fun s hs => ?_)
  · obtain ⟨r, h0, hr, hp⟩ := inv.root_ex
    obtain ⟨r', h1, h2⟩ := h.2 0 r h0
    exact ⟨r', h1, h2.isRoot.trans hr, h2.parent.trans hp⟩
  · obtain ⟨w, h1, h2⟩ := h.back hw'
    exact inv.only_root i w h1 (h2.isRoot.symm.trans hr)
  · obtain ⟨w, hl0, hr⟩ := h.live_back hl
    exact hr.wok (inv.wok hl0)
  · obtain ⟨hk, w, hl, hp, hreach⟩ := hc r hr
    obtain ⟨w', hl', hrel⟩ := h.live hl
    exact ⟨hk, w', hl', hrel.parent.trans hp, h.reach hreach⟩
  · obtain ⟨w, hl, hreach⟩ := hd s hs
    obtain ⟨w', hl', _⟩ := h.live hl
    exact ⟨w', hl', h.reach hreach⟩

theorem TInv.of_rel {t t' : Tree} (inv : TInv t) (h : TRel t t')
    (hc : ∀ r ∈ t'.root.changes, r ∈ t.root.changes)
    (hd : ∀ (s : Nat), t'.root.dragSource = some s → t.root.dragSource = some s) : TInv t' :=
  inv.of_rel_gen h (fun r hr => inv.req_ok r (hc r hr)) (fun s hs => inv.drag_ok s (hd s hs))

structure WCalm (w w' : Win) : Prop where
  freed : w'.freed = w.freed
  refcount : w'.refcount = w.refcount
  parent : ∀ p, w'.parent = some p → w.parent = some p

/-- A step on the tree that frees nothing, revives nothing, changes no count and at most removes parent links.  It is
    what a lemma about an operation that frees nothing should conclude: the accounts of references ask no more of such
    a step (`SInv.of_calm`).

    How the relations between two trees lie to each other (`BindsFrom` in LifeState, `OLater` in LifeObjs, `WLater` in LifeStep
    are between *states*): `TRel` with `SameRC` gives `Calm` (`TRel.calm`); `Closed` (LifeClose),
    what `tickit_window_close` does, gives `Calm` (`Closed.calm`); `Calm` gives `PSub` (`Calm.psub`; both with `PSub`
    and `TEv` in LifeDestroy).  `TEv`, the evolution along a destroy cascade, follows from `TRel` (`TRel.toEv`) and from
    `Closed` (`Closed.ev`) but not from `Calm`, which says nothing of `isClosed`.  So `closeT_ok` concludes `Closed` (the
    cascade needs `TEv` of it), and the restacking lemmas of LifeTree `TRel` with `SameRC` (the request loop needs the
    parent kept, `ReqOk.rel`). -/
structure Calm (t t' : Tree) : Prop where
  inv : TInv t'
  size : t'.wins.size = t.wins.size
  each : ∀ (i : Nat) (w : Win), t.wins[i]? = some w → ∃ w', t'.wins[i]? = some w' ∧ WCalm w w'

theorem Calm.lift {t t' : Tree} (C : Calm t t') : WinTree.Lift (fun _ => WCalm) t t' := ⟨C.size, C.each⟩

theorem Calm.back {t t' : Tree} (C : Calm t t') {i : Nat} {w' : Win} (h : t'.wins[i]? = some w') :
    ∃ w, t.wins[i]? = some w ∧ WCalm w w' := C.lift.back h

theorem Calm.trans {a b c : Tree} (h1 : Calm a b) (h2 : Calm b c) : Calm a c :=
  have L := WinTree.Lift.trans (R'' := fun _ => WCalm) (fun _ _ _ _ x y =>
    ⟨y.freed.trans x.freed, y.refcount.trans x.refcount, fun p hp => x.parent p (y.parent p hp)⟩) h1.lift h2.lift
  ⟨h2.inv, L.1, L.2⟩

theorem Calm.live {t t' : Tree} (C : Calm t t') {i : Nat} {w : Win} (hl : LiveW t i w) :
    ∃ w', LiveW t' i w' ∧ w'.refcount = w.refcount :=
  let ⟨w', hw', c⟩ := C.each i w hl.1; ⟨w', ⟨hw', c.freed.trans hl.2⟩, c.refcount⟩

theorem Calm.live_back {t t' : Tree} (C : Calm t t') {i : Nat} {w' : Win} (hl : LiveW t' i w') :
    ∃ w, LiveW t i w ∧ w'.refcount = w.refcount :=
  let ⟨w, hw, c⟩ := C.back hl.1; ⟨w, ⟨hw, c.freed.symm.trans hl.2⟩, c.refcount⟩

theorem TRel.calm {t t' : Tree} (h : TRel t t') (inv' : TInv t') (hrc : SameRC t t') : Calm t t' :=
  ⟨inv', h.1, fun i w hw => let ⟨w', hw', r⟩ := h.2 i w hw; ⟨w', hw', r.freed, hrc i w w' hw hw', fun _ hp => r.parent ▸ hp⟩⟩

theorem Calm.of_wins {t t' : Tree} (inv' : TInv t') (h : t'.wins = t.wins) : Calm t t' :=
  ⟨inv', by rw [h], fun _ w hw => ⟨w, h ▸ hw, rfl, rfl, fun _ hp => hp⟩⟩

end Tickit.Life
