/-
  C08: tallies of references held for a while (`Nat → Nat`: how many on pen or window `j`), one more, one less, and the
  counted snapshot of a list.
-/
namespace Tickit.Life

def bump (e : Nat → Nat) (k : Nat) : Nat → Nat := fun j => if j = k then e j + 1 else e j
def unbump (e : Nat → Nat) (k : Nat) : Nat → Nat := fun j => if j = k then e j - 1 else e j

theorem unbump_bump (e : Nat → Nat) (k : Nat) : unbump (bump e k) k = e := by
  funext j; unfold unbump bump; split <;> simp

theorem bump_at (e : Nat → Nat) (k : Nat) : bump e k k = e k + 1 := by simp [bump]
theorem bump_self (e : Nat → Nat) (k : Nat) : 1 ≤ bump e k k := by rw [bump_at]; exact Nat.le_add_left 1 _
theorem bump_ne (e : Nat → Nat) {k j : Nat} (h : j ≠ k) : bump e k j = e j := by simp [bump, h]
theorem unbump_ne (e : Nat → Nat) {k j : Nat} (h : j ≠ k) : unbump e k j = e j := by simp [unbump, h]
theorem bump_ge (e : Nat → Nat) (k j : Nat) : e j ≤ bump e k j := by unfold bump; split <;> omega

theorem bump_add_count (f : Nat → Nat) (c : Nat) (rest : List Nat) :
    (fun j => bump f c j + rest.count j) = fun j => f j + (c :: rest).count j := by
  funext j
  unfold bump
  rw [List.count_cons]
  by_cases hj : j = c
  · subst hj; simp; omega
  · have : ¬ (c == j) = true := by simpa using fun h => hj h.symm
    simp [hj, this]

theorem unbump_add_count (f : Nat → Nat) (c : Nat) (rest : List Nat) :
    unbump (fun j => f j + (c :: rest).count j) c = fun j => f j + rest.count j := by
  funext j
  unfold unbump
  simp only [List.count_cons]
  by_cases hj : j = c
  · subst hj; simp
  · have : ¬ (c == j) = true := by simpa using fun h => hj h.symm
    simp [hj, this]

/-- The frames' tally with the counted reference `_handle_mouse` has returned. -/
def bumpOpt (int : Nat → Nat) : Option Nat → Nat → Nat
  | none => int
  | some w => bump int w

theorem bumpOpt_add (f cnt : Nat → Nat) (r : Option Nat) :
    bumpOpt (fun j => f j + cnt j) r = fun j => bumpOpt f r j + cnt j := by
  cases r with
  | none => rfl
  | some w => funext j; simp only [bumpOpt, bump]; split <;> omega

theorem unbump_bumpOpt_bump (int : Nat → Nat) (win : Nat) (r : Option Nat) :
    unbump (bumpOpt (bump int win) r) win = bumpOpt int r := by
  cases r with
  | none => exact unbump_bump int win
  | some w =>
    funext j
    simp only [bumpOpt, unbump, bump]
    by_cases hj : j = win
    · subst hj
      by_cases hw : j = w
      · subst hw; simp
      · simp [hw]
    · by_cases hw : j = w
      · subst hw; simp [hj]
      · simp [hj, hw]

theorem bumpOpt_ge (int : Nat → Nat) (r : Option Nat) (j : Nat) : int j ≤ bumpOpt int r j := by
  cases r with
  | none => exact Nat.le_refl _
  | some w => exact bump_ge int w j

end Tickit.Life
