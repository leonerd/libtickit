import Tickit.Proof.RBCopyPiece
/-
  C13: the loops of the repaired `copyrect`, over the invariant `Acc B d done E` (Proof/RBCopyPrim.lean).  One execution
  of the loop body adds the destination cells of one piece to `done` (`piece_acc`); the two column loops and the two line
  loops only say which cells that makes.  The whole call: `copyrect_same_acc` (within one buffer, three scan orders),
  `copyrect_other_acc` (between two buffers: `blit`).
-/
namespace Tickit.RBCopy
open Tickit Tickit.RB

theorem acc_init {B : RB} (hwf : WF B) (E : Int → Int → Content) : Acc B B (fun _ _ => false) E := by
  refine ⟨hwf, SameAux.refl, fun _ _ _ _ _ _ => rfl, fun L C => ?_, ⟨rfl, rfl⟩⟩
  simp

theorem Acc.done_iff {B d : RB} {done done' : Int → Int → Bool} {E : Int → Int → Content}
    (h : Acc B d done E) (he : ∀ L C, done' L C = true ↔ done L C = true) : Acc B d done' E := by
  have : done = done' := funext fun L => funext fun C => (Bool.eq_iff_iff.2 (he L C)).symm
  exact this ▸ h

theorem rowSeg_union (L0 : Int) {p q p' q' : Int} (h3 : p' ≤ q) (h4 : p ≤ q') (L C : Int) :
    (rowSeg L0 p q L C || rowSeg L0 p' q' L C) = rowSeg L0 (min p p') (max q q') L C := by
  rw [Bool.eq_iff_iff, Bool.or_eq_true, rowSeg_iff, rowSeg_iff, rowSeg_iff]
  omega

theorem acc_step {B d d' : RB} {done : Int → Int → Bool} {E : Int → Int → Content} (h : Acc B d done E)
    {L0 C0 n : Int} {newc : Int → Content → Content} (hd : DrawSpec d d' L0 C0 n newc)
    (hE : ∀ C, C0 ≤ C → C < C0 + n → writable B L0 C = true → newc C (absContent d L0 C) = E L0 C) :
    Acc B d' (fun L C => done L C || rowSeg L0 C0 (C0 + n) L C) E := by
  have hw := h.kept.writable
  have k := h.kept.trans hd.kept
  refine ⟨k.wf, k.aux, k.mask, fun L C => ?_, k.flags⟩
  rw [hd.content L C, hw L C]
  by_cases hp : L = L0 ∧ C0 ≤ C ∧ C < C0 + n
  · have hpb : rowSeg L0 C0 (C0 + n) L C = true := (rowSeg_iff _ _ _ _ _).2 hp
    rw [hpb, Bool.or_true]
    by_cases hwr : writable B L C = true
    · rw [if_pos ⟨hp.1, hp.2.1, hp.2.2, hwr⟩, if_pos ⟨rfl, hwr⟩, hp.1]
      exact hE C hp.2.1 hp.2.2 (hp.1 ▸ hwr)
    · rw [if_neg (fun hh => hwr hh.2.2.2), if_neg (fun hh => hwr hh.2), h.content, if_neg (fun hh => hwr hh.2)]
  · have hpb : rowSeg L0 C0 (C0 + n) L C = false := Bool.eq_false_iff.2 (fun hh => hp ((rowSeg_iff _ _ _ _ _).1 hh))
    rw [if_neg (fun hh => hp ⟨hh.1, hh.2.1, hh.2.2.1⟩), hpb, Bool.or_false, h.content]

/-- What the `if(cell->state == CONT)` block finds in a well-formed line. -/
structure LookFacts (S : RB) (sr : Rect) (leftwards : Bool) (line col : Int) (lk : Look) : Prop where
  head : ((S.cells line).get lk.hcol).state ≠ .cont
  hcol0 : 0 ≤ lk.hcol
  hcol_le : lk.hcol ≤ lk.col
  col_le : lk.col ≤ col
  left_le : sr.left ≤ lk.col
  right : leftwards = false → lk.col = col
  leftw : leftwards = true → (lk.col = lk.hcol ∨ lk.col = sr.left)
  offset : lk.offset = lk.col - lk.hcol
  endgt : col < lk.hcol + ((S.cells line).get lk.hcol).cols
  endle : lk.hcol + ((S.cells line).get lk.hcol).cols ≤ S.cols
  content : ∀ j, 0 ≤ j → lk.col + j < lk.hcol + ((S.cells line).get lk.hcol).cols →
    absContent S line (lk.col + j) = cellContent ((S.cells line).get lk.hcol) (lk.offset + j)
  conts : ∀ k, lk.hcol < k → k < lk.hcol + ((S.cells line).get lk.hcol).cols → ((S.cells line).get k).state = .cont
  one : (((S.cells line).get lk.hcol).state = .line ∨ ((S.cells line).get lk.hcol).state = .char) →
    ((S.cells line).get lk.hcol).cols = 1 ∧ lk.hcol = col ∧ lk.col = col ∧ lk.offset = 0

theorem look_facts {S : RB} (hwf : WF S) (sr : Rect) (leftwards : Bool) (line col : Int)
    (hl0 : 0 ≤ line) (hl1 : line < S.lines) (hc0 : 0 ≤ col) (hc1 : col < S.cols) (hleft : sr.left ≤ col) :
    LookFacts S sr leftwards line col (look S sr leftwards line col) := by
  have hrow := hwf.runsOK.rows line hl0 hl1
  obtain ⟨hs0, hsk, hhead, hgt⟩ := hrow.run_of col hc0 hc1
  have hlen := hrow.start_len _ hs0 (by omega) hhead
  -- the block goes to the start of the run; the scan goes on from `col`, or leftwards from that start or the rectangle's edge
  obtain ⟨c1, e, h1, h2, h3, h4, h5⟩ : ∃ c1,
      look S sr leftwards line col = ⟨RB.runStart (S.cells line) col, c1, c1 - RB.runStart (S.cells line) col⟩ ∧
      RB.runStart (S.cells line) col ≤ c1 ∧ c1 ≤ col ∧ sr.left ≤ c1 ∧ (leftwards = false → c1 = col) ∧
      (leftwards = true → (c1 = RB.runStart (S.cells line) col ∨ c1 = sr.left)) := by
    unfold look RB.cell
    unfold RB.runStart at hsk ⊢
    by_cases hc : ((S.cells line).get col).state = .cont
    · rw [if_pos hc] at hsk ⊢
      rw [if_pos hc]
      cases leftwards with
      | false => exact ⟨_, rfl, hsk, Int.le_refl _, hleft, fun _ => rfl, (fun h => nomatch h)⟩
      | true =>
        refine ⟨_, rfl, ?_⟩
        rw [if_pos rfl]
        split
        · exact ⟨by omega, hleft, Int.le_refl _, (fun h => nomatch h), fun _ => Or.inr rfl⟩
        · exact ⟨Int.le_refl _, hsk, by omega, (fun h => nomatch h), fun _ => Or.inl rfl⟩
    · rw [if_neg hc, if_neg hc]
      exact ⟨col, by rw [Int.sub_self], Int.le_refl _, Int.le_refl _, hleft, fun _ => rfl, fun _ => Or.inl rfl⟩
  rw [e]
  refine ⟨hhead, hs0, h1, h2, h3, h4, h5, rfl, hgt, hlen.2, fun j hj0 hj1 => ?_,
    fun k k1 k2 => (hrow.start_run _ k hs0 (by omega) hhead k1 k2).1, fun hk => ?_⟩
  · dsimp only at hj1 ⊢
    rw [absContent_ofAbs, cellContent_ofAbs, ← RB.absContent_run hwf.runsOK hl0 hl1 hs0 (by omega) hhead
      (by omega : 0 ≤ c1 - RB.runStart (S.cells line) col + j) (by omega)]
    congr 2; omega
  · have := hrow.one _ hs0 (by omega) hk
    dsimp only at this ⊢
    omega

theorem copyExpect_eq (copySkip : Bool) (dst src : RB) (sr : Rect) (lo co L C : Int) :
    copyExpect copySkip dst src sr lo co L C =
      if (sr.memb (L - lo) (C - co) && writable dst L C) = true
      then pieceNew copySkip dst.pen (absContent src (L - lo) (C - co)) (absContent dst L C)
      else absContent dst L C := rfl

theorem pieceCols_eq (sr : Rect) (lk : Look) (run : Int) :
    lk.col + pieceCols sr lk run = min (lk.col + run) (sr.left + sr.cols) := by
  unfold pieceCols Rect.right; split <;> omega

theorem Acc.untouched {B d : RB} {done : Int → Int → Bool} {E : Int → Int → Content} (h : Acc B d done E) {L C : Int}
    (hn : ¬ done L C = true) : absContent d L C = absContent B L C := by
  rw [h.content]; exact if_neg (fun hh => hn hh.1)

/-- The piece `[lk.col, lk.col + n)` of the run found at the scan position (in the buffer `S` that is read) is drawn
    at its destination, in the coordinates of the original buffer `B`. -/
theorem piece_draw {copySkip leftwards : Bool} {S B d : RB} {sr : Rect} {lo co line c : Int}
    {done : Int → Int → Bool} {E : Int → Int → Content} (hacc : Acc B d done E)
    {lk : Look} (hlk : LookFacts S sr leftwards line c lk) {n : Int} (hn : 1 ≤ n)
    (hrun : lk.col + n ≤ lk.hcol + ((S.cells line).get lk.hcol).cols) :
    DrawSpec d (copyPiece true copySkip ((S.cells line).get lk.hcol) lk.offset n d (line + lo) (lk.col + co))
      (line + (lo + B.xlLine)) (lk.col + (co + B.xlCol)) n
      (fun C old => pieceNew copySkip B.pen
        (cellContent ((S.cells line).get lk.hcol) (lk.offset + (C - (lk.col + (co + B.xlCol))))) old) := by
  have hds := copyPiece_spec hacc.wf copySkip _ lk.offset n (line + lo) (lk.col + co) hlk.head
    (fun hk => by have := hlk.one hk; omega)
  rw [hacc.aux.xlLine, hacc.aux.xlCol, hacc.aux.pen, Int.add_assoc line, Int.add_assoc lk.col] at hds
  exact hds

/-- Its destination cells are now done, provided they were not before and the piece still shows what the source `S0`
    showed at the start. -/
theorem piece_acc {copySkip leftwards : Bool} {S S0 B d : RB} {sr : Rect} {lo co line c : Int}
    {done : Int → Int → Bool} (hacc : Acc B d done (copyExpect copySkip B S0 sr (lo + B.xlLine) (co + B.xlCol)))
    {lk : Look} (hlk : LookFacts S sr leftwards line c lk) {n : Int} (hn : 1 ≤ n)
    (hrun : lk.col + n ≤ lk.hcol + ((S.cells line).get lk.hcol).cols)
    (hright : lk.col + n ≤ sr.left + sr.cols) (ht : sr.top ≤ line) (hb : line < sr.top + sr.lines)
    (hdst : ∀ C, lk.col + (co + B.xlCol) ≤ C → C < lk.col + (co + B.xlCol) + n →
      ¬ done (line + (lo + B.xlLine)) C = true)
    (hsrc : ∀ C, lk.col ≤ C → C < lk.col + n → absContent S line C = absContent S0 line C) :
    Acc B (copyPiece true copySkip ((S.cells line).get lk.hcol) lk.offset n d (line + lo) (lk.col + co))
      (fun L C => done L C || rowSeg (line + (lo + B.xlLine)) (lk.col + (co + B.xlCol)) (lk.col + (co + B.xlCol) + n) L C)
      (copyExpect copySkip B S0 sr (lo + B.xlLine) (co + B.xlCol)) := by
  have hleft := hlk.left_le
  refine acc_step hacc (piece_draw hacc hlk hn hrun) (fun C h1 h2 hw => ?_)
  have hmem : sr.memb (line + (lo + B.xlLine) - (lo + B.xlLine)) (C - (co + B.xlCol)) = true := by
    rw [Rect.memb_iff]; unfold Rect.Mem Rect.bottom Rect.right; omega
  have e1 : line + (lo + B.xlLine) - (lo + B.xlLine) = line := by omega
  have e2 : lk.col + (C - (lk.col + (co + B.xlCol))) = C - (co + B.xlCol) := by omega
  have hsc := hlk.content (C - (lk.col + (co + B.xlCol))) (by omega) (by omega)
  rw [copyExpect_eq, hmem, hw, Bool.and_self, if_pos rfl, e1, hacc.untouched (hdst C h1 h2), ← hsc, e2,
    hsrc _ (by omega) (by omega)]

/-- The destination cells of the source lines `[a, b)` … -/
def doneBand (sr : Rect) (lo' co' a b : Int) (L C : Int) : Bool :=
  decide (a ≤ L - lo') && decide (L - lo' < b) && decide (sr.left + co' ≤ C) && decide (C < sr.left + sr.cols + co')

theorem doneBand_iff (sr : Rect) (lo' co' a b L C : Int) :
    doneBand sr lo' co' a b L C = true ↔ a ≤ L - lo' ∧ L - lo' < b ∧ sr.left + co' ≤ C ∧ C < sr.left + sr.cols + co' := by
  simp only [doneBand, Bool.and_eq_true, decide_eq_true_eq, and_assoc]

/-- … and of the columns `[x, y)` of source line `line`. -/
def doneSeg (sr : Rect) (lo' co' a b line x y : Int) (L C : Int) : Bool :=
  doneBand sr lo' co' a b L C || rowSeg (line + lo') (x + co') (y + co') L C

theorem doneSeg_iff (sr : Rect) (lo' co' a b line x y L C : Int) :
    doneSeg sr lo' co' a b line x y L C = true ↔
      (a ≤ L - lo' ∧ L - lo' < b ∧ sr.left + co' ≤ C ∧ C < sr.left + sr.cols + co') ∨
      (L = line + lo' ∧ x + co' ≤ C ∧ C < y + co') := by
  rw [doneSeg, Bool.or_eq_true, doneBand_iff, rowSeg_iff]

theorem Acc.seg_union {B d : RB} {E : Int → Int → Content} {sr : Rect} {lo' co' a b line x y p q x' y' : Int}
    (h : Acc B d (fun L C => doneSeg sr lo' co' a b line x y L C || rowSeg (line + lo') p q L C) E)
    (hs : p ≤ y + co' ∧ x + co' ≤ q ∧ x' + co' = min (x + co') p ∧ y' + co' = max (y + co') q) :
    Acc B d (doneSeg sr lo' co' a b line x' y') E := by
  apply h.done_iff
  intro L C
  rw [Bool.or_eq_true, doneSeg, doneSeg, Bool.or_eq_true, Bool.or_eq_true, or_assoc, ← Bool.or_eq_true (rowSeg _ _ _ _ _),
    rowSeg_union _ hs.1 hs.2.1, hs.2.2.1, hs.2.2.2]

theorem doneSeg_not {sr : Rect} {lo' co' a b line x y L C : Int} (hband : ¬ (a ≤ L - lo' ∧ L - lo' < b))
    (hseg : L = line + lo' → ¬ (x + co' ≤ C ∧ C < y + co')) : ¬ doneSeg sr lo' co' a b line x y L C = true := by
  rw [doneSeg_iff]
  rintro (h | h)
  · exact hband ⟨h.1, h.2.1⟩
  · exact hseg h.1 h.2

theorem doneSeg_empty {sr : Rect} {lo' co' a b line x y : Int} (h : y ≤ x) (L C : Int) :
    doneSeg sr lo' co' a b line x y L C = true ↔ doneBand sr lo' co' a b L C = true := by
  rw [doneSeg, Bool.or_eq_true, rowSeg_iff]
  exact ⟨fun h' => h'.elim id (by omega), Or.inl⟩

theorem more_right (sr : Rect) (c : Int) : more false sr c = true ↔ c < sr.left + sr.cols := by
  show (if false = true then _ else decide (c < sr.left + sr.cols)) = true ↔ _
  rw [if_neg Bool.false_ne_true, decide_eq_true_iff]

theorem more_left (sr : Rect) (c : Int) : more true sr c = true ↔ sr.left ≤ c := by
  show (if true = true then decide (c ≥ sr.left) else _) = true ↔ _
  rw [if_pos rfl, decide_eq_true_iff]

/-- The arithmetic of one step to the right: the piece `[col, col + n)` starts at the scan position `c` and lies inside its
    run `[s, s + w)` and the rectangle `[sl, R)` … -/
theorem scan_right {sl R c col s off w n : Int} {fuel : Nat} (hc : sl ≤ c) (hlt : c < R) (hcol : col = c)
    (hoff : off = col - s) (hend : c < s + w) (hpc : col + n = min (col + (w - off)) R)
    (hf : R - c < (fuel + 1 : Nat)) :
    1 ≤ n ∧ col + n ≤ s + w ∧ col + n ≤ R ∧ sl ≤ col + (w - off) ∧ R - (col + (w - off)) < fuel := by
  omega

/-- … and extends the columns `[sl, min c R)` done so far to `[sl, min (col + run) R)`. -/
theorem seg_right {sl R c col run n : Int} (hc : sl ≤ c) (hlt : c < R) (hcol : col = c) (hn : 1 ≤ n)
    (hpc : col + n = min (col + run) R) (co' : Int) :
    col + co' ≤ min c R + co' ∧ sl + co' ≤ col + co' + n ∧
    sl + co' = min (sl + co') (col + co') ∧ min (col + run) R + co' = max (min c R + co') (col + co' + n) := by
  omega

/-- Line `line` scanned rightwards from `c`: when the lines `[a, b)` and the columns left of `c` are done, all of the
    line is done afterwards.  Within one buffer nothing done so far may have touched the source cells still to be read:
    the copy goes to another line, or leftwards. -/
theorem colLoop_right (same copySkip : Bool) (src B : RB) (sr : Rect) (lo co line a b : Int)
    (hsrc : same = false → WF src)
    (hl0 : 0 ≤ line) (hl1 : line < (if same then B else src).lines) (hc0 : 0 ≤ sr.left)
    (hc1 : sr.left + sr.cols ≤ (if same then B else src).cols) (ht : sr.top ≤ line) (hb : line < sr.top + sr.lines)
    (hrow : ¬ (a ≤ line ∧ line < b))
    (hdir : same = true → (lo + B.xlLine ≠ 0 ∨ co + B.xlCol < 0) ∧
      ¬ (a ≤ line - (lo + B.xlLine) ∧ line - (lo + B.xlLine) < b)) :
    ∀ (fuel : Nat) (d : RB) (c : Int), sr.left ≤ c →
      Acc B d (doneSeg sr (lo + B.xlLine) (co + B.xlCol) a b line sr.left (min c (sr.left + sr.cols)))
        (copyExpect copySkip B (if same then B else src) sr (lo + B.xlLine) (co + B.xlCol)) →
      sr.left + sr.cols - c < fuel →
      Acc B (colLoop Variant.repaired same copySkip src sr lo co false line fuel d c)
        (doneSeg sr (lo + B.xlLine) (co + B.xlCol) a b line sr.left (sr.left + sr.cols))
        (copyExpect copySkip B (if same then B else src) sr (lo + B.xlLine) (co + B.xlCol)) := by
  have hstop : ∀ c, ¬ more false sr c = true → min c (sr.left + sr.cols) = sr.left + sr.cols :=
    fun c hm => by have := mt (more_right sr c).2 hm; omega
  intro fuel
  induction fuel with
  | zero =>
    intro d c _ hacc hf
    have hm : ¬ more false sr c = true := fun h => by have := (more_right sr c).1 h; omega
    unfold colLoop
    rw [if_neg hm, ← hstop c hm]; exact hacc
  | succ n ih =>
    intro d c hc hacc hf
    unfold colLoop
    by_cases hm : more false sr c = true
    · have hlt := (more_right sr c).1 hm
      rw [if_pos hm, body_captured Variant.repaired rfl]
      have hS : WF (if same then d else src) ∧ (if same then d else src).lines = (if same then B else src).lines ∧
          (if same then d else src).cols = (if same then B else src).cols := by
        cases same with
        | true => exact ⟨hacc.wf, hacc.aux.lines, hacc.aux.cols⟩
        | false => exact ⟨hsrc rfl, rfl, rfl⟩
      have hlk := look_facts hS.1 sr false line c hl0 (by rw [hS.2.1]; exact hl1) (by omega) (by rw [hS.2.2]; omega) hc
      dsimp only
      rw [if_neg Bool.false_ne_true]
      unfold RB.cell
      generalize look (if same then d else src) sr false line c = lk at hlk ⊢
      have hcol : lk.col = c := hlk.right rfl
      obtain ⟨hn1, hn2, hn3, hnext, hfuel⟩ := scan_right hc hlt hcol hlk.offset hlk.endgt (pieceCols_eq sr lk _) hf
      have hstep := piece_acc hacc hlk hn1 hn2 hn3 ht hb
        (fun C h1 h2 => doneSeg_not (by omega) (fun _ => by omega))
        (fun C h1 h2 => by
          cases same with
          | false => rfl
          | true => have := hdir rfl; exact hacc.untouched (doneSeg_not (by omega) (fun _ => by omega)))
      exact ih _ _ hnext (hstep.seg_union (seg_right hc hlt hcol hn1 (pieceCols_eq sr lk _) _)) hfuel
    · rw [if_neg hm, ← hstop c hm]; exact hacc

/-- The arithmetic of one step to the left: the piece `[col, col + n)` ends where the columns `[c + 1, R)` done so far
    begin … -/
theorem scan_left {sl R c col s off w n : Int} {fuel : Nat} (hhi : c < R) (hoff : off = col - s)
    (hendgt : c < s + w) (hcle : col ≤ c) (hleft : sl ≤ col)
    (hend : s + w = c + 1 ∨ c + 1 = R) (hpc : col + n = min (col + (w - off)) R)
    (hf : c - sl + 1 < (fuel + 1 : Nat)) :
    col + n = c + 1 ∧ 1 ≤ n ∧ col + n ≤ s + w ∧ col + n ≤ R ∧ sl - 1 ≤ col - 1 ∧ col - 1 < R ∧
    col - 1 - sl + 1 < fuel := by
  omega

/-- … and extends them to `[col, R)`. -/
theorem seg_left {R c col n : Int} (hhi : c < R) (hn : 1 ≤ n) (he : col + n = c + 1) (co' : Int) :
    col + co' ≤ R + co' ∧ c + 1 + co' ≤ col + co' + n ∧
    col - 1 + 1 + co' = min (c + 1 + co') (col + co') ∧ R + co' = max (R + co') (col + co' + n) := by
  omega

/-- Line `line` scanned leftwards from `c` (a copy to the right within one line): the columns right of `c` are done, and
    the scan position is at the end of a run (the run right of it starts at `c + 1`, or was cut there by a piece drawn
    before). -/
theorem colLoop_left (copySkip : Bool) (src B : RB) (sr : Rect) (lo co line a b : Int)
    (hlo : lo + B.xlLine = 0) (hco : 0 < co + B.xlCol)
    (hl0 : 0 ≤ line) (hl1 : line < B.lines) (hc0 : 0 ≤ sr.left)
    (hc1 : sr.left + sr.cols ≤ B.cols) (ht : sr.top ≤ line) (hb : line < sr.top + sr.lines)
    (hrow : ¬ (a ≤ line ∧ line < b)) :
    ∀ (fuel : Nat) (d : RB) (c : Int), sr.left - 1 ≤ c → c < sr.left + sr.cols →
      Acc B d (doneSeg sr (lo + B.xlLine) (co + B.xlCol) a b line (c + 1) (sr.left + sr.cols))
        (copyExpect copySkip B B sr (lo + B.xlLine) (co + B.xlCol)) →
      (c + 1 = sr.left + sr.cols ∨ c < sr.left ∨ ((d.cells line).get (c + 1)).state ≠ .cont) →
      c - sr.left + 1 < fuel →
      Acc B (colLoop Variant.repaired true copySkip src sr lo co true line fuel d c)
        (doneSeg sr (lo + B.xlLine) (co + B.xlCol) a b line sr.left (sr.left + sr.cols))
        (copyExpect copySkip B B sr (lo + B.xlLine) (co + B.xlCol)) := by
  intro fuel
  induction fuel with
  | zero => intro d c h1 h2 _ _ hf; omega
  | succ n ih =>
    intro d c hlo' hhi hacc hbnd hf
    unfold colLoop
    by_cases hm : more true sr c = true
    · have hge := (more_left sr c).1 hm
      rw [if_pos hm, body_captured Variant.repaired rfl]
      have hlk := look_facts hacc.wf sr true line c hl0 (by rw [hacc.aux.lines]; exact hl1) (by omega)
        (by rw [hacc.aux.cols]; omega) hge
      dsimp only
      rw [if_pos rfl, if_pos rfl]
      unfold RB.cell
      generalize look d sr true line c = lk at hlk ⊢
      have hh0 := hlk.hcol0
      have hle := hlk.hcol_le
      have hcle := hlk.col_le
      have hendgt := hlk.endgt
      -- the run of `c` ends at `c + 1` (or the rectangle does)
      have hend : lk.hcol + ((d.cells line).get lk.hcol).cols = c + 1 ∨ c + 1 = sr.left + sr.cols := by
        rcases hbnd with h | h | h
        · exact Or.inr h
        · omega
        · by_cases he : lk.hcol + ((d.cells line).get lk.hcol).cols = c + 1
          · exact Or.inl he
          · exact absurd (hlk.conts (c + 1) (by omega) (by omega)) h
      obtain ⟨he, hn1, hn2, hn3, hnext1, hnext2, hfuel⟩ :=
        scan_left hhi hlk.offset hendgt hcle hlk.left_le hend (pieceCols_eq sr lk _) hf
      clear hend hbnd -- `omega` would split on them in every call below
      have hstep := piece_acc hacc hlk hn1 hn2 hn3 ht hb
        (fun C h1 h2 => doneSeg_not (by omega) (fun _ => by omega))
        (fun C h1 h2 => hacc.untouched (doneSeg_not (by omega) (fun _ => by omega)))
      refine ih _ _ hnext1 hnext2 (hstep.seg_union (seg_left hhi hn1 he _)) ?_ hfuel
      · -- the column right of the next scan position is still a run start (or the scan is over)
        rcases hlk.leftw rfl with h | h
        · refine Or.inr (Or.inr ?_)
          rw [show lk.col - 1 + 1 = lk.hcol by omega]
          exact (piece_draw hacc hlk hn1 hn2).heads line lk.hcol hl0 (by rw [hacc.aux.lines]; exact hl1) hh0
            (by rw [hacc.aux.cols]; omega) (by omega) hlk.head
        · exact Or.inr (Or.inl (by omega))
    · rw [if_neg hm]
      have : c + 1 = sr.left := by have := mt (more_left sr c).2 hm; omega
      rw [this] at hacc; exact hacc

theorem colFuel_enough (sr : Rect) : sr.cols < (colFuel sr : Nat) := by
  unfold colFuel; omega

section lines
variable {B : RB} {E : Int → Int → Content} {sr : Rect} {lo' co' : Int} {g : RB → Int → RB}

/-- `hg`: the column loop, given the lines above `l` done, does line `l`. -/
theorem lineLoop_down
    (hg : ∀ d l, sr.top ≤ l → l < sr.top + sr.lines → Acc B d (doneBand sr lo' co' sr.top l) E →
      Acc B (g d l) (doneSeg sr lo' co' sr.top l l sr.left (sr.left + sr.cols)) E) :
    ∀ (m : Nat) (l : Int) (d : RB), sr.top ≤ l → l + m = sr.top + sr.lines →
      Acc B d (doneBand sr lo' co' sr.top l) E →
      Acc B (lineLoop g 1 m d l) (doneBand sr lo' co' sr.top (sr.top + sr.lines)) E := by
  intro m
  induction m with
  | zero =>
    intro l d _ h2 hacc
    have : l = sr.top + sr.lines := by omega
    rw [this] at hacc; exact hacc
  | succ m ih =>
    intro l d h1 h2 hacc
    exact ih (l + 1) _ (by omega) (by omega) ((hg d l h1 (by omega) hacc).done_iff (fun L C => by rw [doneBand_iff, doneSeg_iff]; omega))

theorem lineLoop_up
    (hg : ∀ d l, sr.top ≤ l → l < sr.top + sr.lines → Acc B d (doneBand sr lo' co' (l + 1) (sr.top + sr.lines)) E →
      Acc B (g d l) (doneSeg sr lo' co' (l + 1) (sr.top + sr.lines) l sr.left (sr.left + sr.cols)) E) :
    ∀ (m : Nat) (l : Int) (d : RB), l < sr.top + sr.lines → l + 1 = sr.top + m →
      Acc B d (doneBand sr lo' co' (l + 1) (sr.top + sr.lines)) E →
      Acc B (lineLoop g (-1) m d l) (doneBand sr lo' co' sr.top (sr.top + sr.lines)) E := by
  intro m
  induction m with
  | zero =>
    intro l d _ h2 hacc
    have : l + 1 = sr.top := by omega
    rw [this] at hacc; exact hacc
  | succ m ih =>
    intro l d h1 h2 hacc
    refine ih (l + -1) _ (by omega) (by omega) ((hg d l (by omega) h1 hacc).done_iff (fun L C => ?_))
    have e : l + -1 + 1 = l := by omega
    rw [e, doneBand_iff, doneSeg_iff]
    omega

end lines

theorem acc_final {B d S0 : RB} {copySkip : Bool} {sr : Rect} {lo co : Int}
    (h : Acc B d (doneBand sr lo co sr.top (sr.top + sr.lines)) (copyExpect copySkip B S0 sr lo co)) (L C : Int) :
    absContent d L C = copyExpect copySkip B S0 sr lo co L C := by
  rw [h.content L C]
  by_cases hc : doneBand sr lo co sr.top (sr.top + sr.lines) L C = true ∧ writable B L C = true
  · rw [if_pos hc]
  · rw [if_neg hc, copyExpect_eq]
    have : ¬ ((sr.memb (L - lo) (C - co) && writable B L C) = true) := by
      intro hh
      apply hc
      rw [Bool.and_eq_true, Rect.memb_iff] at hh
      unfold Rect.Mem Rect.bottom Rect.right at hh
      exact ⟨(doneBand_iff _ _ _ _ _ _ _).2 (by omega), hh.2⟩
    rw [if_neg this]

theorem acc_empty {B : RB} (hwf : WF B) (E : Int → Int → Content) (sr : Rect) (lo co : Int) {a b : Int}
    (he : b ≤ a ∨ sr.cols ≤ 0) : Acc B B (doneBand sr lo co a b) E :=
  (acc_init hwf E).done_iff (fun L C => ⟨fun h => by rw [doneBand_iff] at h; omega, fun h => nomatch h⟩)

/-- Within one buffer, no translation in force, source rectangle inside the buffer, a genuine displacement. -/
theorem copyrect_same_acc (copySkip : Bool) (B : RB) (dr sr : Rect) (hwf : WF B)
    (hxl : B.xlLine = 0) (hxc : B.xlCol = 0)
    (ht0 : 0 ≤ sr.top) (hb1 : sr.top + sr.lines ≤ B.lines) (hc0 : 0 ≤ sr.left) (hc1 : sr.left + sr.cols ≤ B.cols)
    (hlines : 0 < sr.lines) (hcols : 0 < sr.cols) (hmove : ¬ (dr.top - sr.top = 0 ∧ dr.left - sr.left = 0)) :
    Acc B (copyrect Variant.repaired true copySkip B B dr sr)
      (doneBand sr (dr.top - sr.top) (dr.left - sr.left) sr.top (sr.top + sr.lines))
      (copyExpect copySkip B B sr (dr.top - sr.top) (dr.left - sr.left)) := by
  -- the loops are stated for any translation of the destination (`blit`); here there is none
  rw [show dr.top - sr.top = dr.top - sr.top + B.xlLine by rw [hxl, Int.add_zero],
    show dr.left - sr.left = dr.left - sr.left + B.xlCol by rw [hxc, Int.add_zero]]
  unfold copyrect Rect.bottom Rect.right
  rw [if_neg (by omega : ¬ (sr.lines = 0 ∨ sr.cols = 0))]
  dsimp only
  rw [if_neg (fun h => hmove h.2)]
  have hfuel := colFuel_enough sr
  -- a line scanned rightwards: fine when the copy goes to another line, or leftwards
  have hright : ∀ (a b l : Int), sr.top ≤ l → l < sr.top + sr.lines → ¬ (a ≤ l ∧ l < b) →
      ((dr.top - sr.top ≠ 0 ∨ dr.left - sr.left < 0) ∧ ¬ (a ≤ l - (dr.top - sr.top) ∧ l - (dr.top - sr.top) < b)) →
      ∀ d, Acc B d (doneBand sr (dr.top - sr.top + B.xlLine) (dr.left - sr.left + B.xlCol) a b) _ → _ :=
    fun a b l h1 h2 hrow hdir d hacc =>
      colLoop_right true copySkip B B sr (dr.top - sr.top) (dr.left - sr.left) l a b (fun h => nomatch h)
        (by omega) (by show l < B.lines; omega) hc0 hc1 h1 h2 hrow (fun _ => by omega)
        (colFuel sr) d sr.left (Int.le_refl _) (hacc.done_iff (doneSeg_empty (by omega))) (by omega)
  by_cases hup : dr.top - sr.top > 0
  · -- copying downwards: bottom line first
    rw [Bool.true_and, Bool.true_and, decide_eq_true hup, decide_eq_false (by omega : ¬ dr.top - sr.top = 0)]
    simp only [Bool.false_and, if_true, Bool.false_eq_true, if_false]
    exact lineLoop_up (fun d l h1 h2 => hright _ _ l h1 h2 (by omega) ⟨Or.inl (by omega), by omega⟩ d)
      sr.lines.toNat (sr.top + sr.lines - 1) B (by omega) (by omega)
      (by have e : sr.top + sr.lines - 1 + 1 = sr.top + sr.lines := by omega
          rw [e]; exact acc_empty hwf _ sr _ _ (Or.inl (Int.le_refl _)))
  · rw [Bool.true_and, Bool.true_and, decide_eq_false hup]
    by_cases hlw : dr.top - sr.top = 0 ∧ dr.left - sr.left > 0
    · -- copying rightwards within the lines: rightmost column first
      rw [decide_eq_true hlw.1, decide_eq_true hlw.2]
      simp only [Bool.and_self, if_true, Bool.false_eq_true, if_false]
      exact lineLoop_down (fun d l h1 h2 hacc =>
          colLoop_left copySkip B B sr (dr.top - sr.top) (dr.left - sr.left) l sr.top l (by omega) (by omega)
            (by omega) (by omega) hc0 hc1 h1 h2 (by omega) (colFuel sr) d (sr.left + sr.cols - 1) (by omega)
            (by omega) (hacc.done_iff (doneSeg_empty (by omega))) (Or.inl (by omega)) (by omega))
        sr.lines.toNat sr.top B (Int.le_refl _) (by omega) (acc_empty hwf _ sr _ _ (Or.inl (Int.le_refl _)))
    · have hl : (decide (dr.top - sr.top = 0) && decide (dr.left - sr.left > 0)) = false := by
        rw [Bool.and_eq_false_iff, decide_eq_false_iff_not, decide_eq_false_iff_not]; omega
      rw [hl]
      simp only [Bool.false_eq_true, if_false]
      exact lineLoop_down (fun d l h1 h2 => hright _ _ l h1 h2 (by omega) ⟨by omega, by omega⟩ d)
        sr.lines.toNat sr.top B (Int.le_refl _) (by omega) (acc_empty hwf _ sr _ _ (Or.inl (Int.le_refl _)))

/-- Between two different buffers (`blit`): any translation on the destination, any source rectangle inside the
    source buffer (an empty one copies nothing). -/
theorem copyrect_other_acc (copySkip : Bool) (dst src : RB) (dr sr : Rect) (hwf : WF dst) (hsrc : WF src)
    (ht0 : 0 ≤ sr.top) (hb1 : sr.top + sr.lines ≤ src.lines) (hc0 : 0 ≤ sr.left) (hc1 : sr.left + sr.cols ≤ src.cols)
    (hlines : 0 ≤ sr.lines) (hcols : 0 ≤ sr.cols) :
    Acc dst (copyrect Variant.repaired false copySkip dst src dr sr)
      (doneBand sr (dr.top - sr.top + dst.xlLine) (dr.left - sr.left + dst.xlCol) sr.top (sr.top + sr.lines))
      (copyExpect copySkip dst src sr (dr.top - sr.top + dst.xlLine) (dr.left - sr.left + dst.xlCol)) := by
  unfold copyrect
  by_cases h0 : sr.lines = 0 ∨ sr.cols = 0
  · rw [if_pos h0]
    exact acc_empty hwf _ sr _ _ (by omega)
  rw [if_neg h0]
  dsimp only
  rw [if_neg (fun h => Bool.false_ne_true h.1)]
  simp only [Bool.false_and, Bool.false_eq_true, if_false]
  have hfuel := colFuel_enough sr
  exact lineLoop_down (fun d l h1 h2 hacc =>
      colLoop_right false copySkip src dst sr (dr.top - sr.top) (dr.left - sr.left) l sr.top l (fun _ => hsrc)
        (by omega) (by show l < src.lines; omega) hc0 hc1 h1 h2 (by omega) (fun h => nomatch h)
        (colFuel sr) d sr.left (Int.le_refl _) (hacc.done_iff (doneSeg_empty (by omega))) (by omega))
    sr.lines.toNat sr.top dst (Int.le_refl _) (by omega) (acc_empty hwf _ sr _ _ (Or.inl (Int.le_refl _)))

end Tickit.RBCopy
