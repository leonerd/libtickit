import Tickit.Proof.RBFlushSpec
import Tickit.Proof.RBFlushCount
import Tickit.Proof.RBRefine
/-
  C04: from C03's invariant to the hypothesis of `flush_spec`.  The run structure `FlushWF` demands is what C03's `WF`
  provides; what `WF` does not speak about is the content of the start cells (`ContentOK`: line masks 1 … 255, CHAR
  code points one column wide, TEXT runs inside accepted texts).
-/
namespace Tickit.RBFlush
open Tickit.RB

/-- What `FlushWF` asks of the start cells beyond C03's `WF`. -/
def ContentOK (rb : RB) : Prop :=
  ∀ l c, rb.inGrid l c →
    ((rb.cell l c).state = .line → 1 ≤ (rb.cell l c).lmask ∧ (rb.cell l c).lmask < 256) ∧
    ((rb.cell l c).state = .char → CharOK (rb.cell l c).cp) ∧
    ((rb.cell l c).state = .text → TextOK (rb.cell l c))

theorem tiled_of_rowWF {rb : RB} {line : Int} (hl : 0 ≤ line ∧ line < rb.lines)
    (hrow : RowWF rb.cols (rb.cells line)) (hc : ContentOK rb) :
    ∀ (n : Nat) (col : Int), 0 ≤ col → col ≤ rb.cols → (rb.cols - col).toNat ≤ n →
      (col < rb.cols → (rb.cell line col).state ≠ .cont) → Tiled rb line col := by
  intro n
  induction n with
  | zero =>
    intro col h0 h1 h2 _
    have : col = rb.cols := by omega
    rw [this]; exact TiledP.done
  | succ k ih =>
    intro col h0 h1 h2 hnc
    by_cases hlt : col < rb.cols
    · have hs := hnc hlt
      -- C03's `RowWF` speaks of `(rb.cells line).get c`, which is what `rb.cell line c` unfolds to
      obtain ⟨hpos, hfit⟩ : 1 ≤ (rb.cell line col).cols ∧ col + (rb.cell line col).cols ≤ rb.cols :=
        hrow.start_len col h0 hlt hs
      obtain ⟨c1, c2, c3⟩ := hc line col (by unfold RB.inGrid; omega)
      refine TiledP.run hlt ⟨hs, hpos, hfit, fun j hj1 hj2 => hrow.start_run col j h0 hlt hs hj1 hj2,
        fun hlc => hrow.one col h0 hlt hlc, c1, c2, c3⟩ ?_
      apply ih (col + (rb.cell line col).cols) (by omega) hfit (by omega)
      exact fun hlt' hcont => hrow.seg.run_end h0 hlt hs ⟨hlt', hcont⟩
    · have : col = rb.cols := by omega
      rw [this]; exact TiledP.done

theorem flushWF_of_WF {rb : RB} (wf : WF rb) (hc : ContentOK rb) : FlushWF rb := by
  intro line h0 h1
  have hrow := wf.rows line h0 h1
  apply tiled_of_rowWF ⟨h0, h1⟩ hrow hc rb.cols.toNat 0 (by omega) (by have := wf.size.2; omega) (by omega)
  intro hlt hcont
  have := hrow.cont_lo 0 (by omega) hlt hcont
  omega

/- `ContentOK` of every buffer a drawing program produces is shown at the level of C03's cell-wise specification
   (`RBAbs`), where every drawing operation is a `paint`, and carried to the concrete buffer by C03's refinement
   theorem. -/

open Tickit.RBAbs

def COK : Content → Prop
  | .text _ s k => ∃ cs, decode s = some cs ∧ 0 ≤ k ∧ k < chCols cs
  | .line _ m => 1 ≤ m ∧ m < 256
  | .char _ cp => CharOK cp
  | .skip => True
  | .erase _ => True

def AbsOK (a : AState) : Prop := ∀ L C, COK (a.content L C)

/-- What an operation may draw: CHAR code points one column wide (the negation is the known finding
    `char_not_one_column`) and line styles single / double / thick. -/
def OpOK : Op → Prop
  | .charAt _ _ cp => CharOK cp
  | .char cp => CharOK cp
  | .hlineAt _ _ _ st _ => 1 ≤ st ∧ st ≤ 3
  | .vlineAt _ _ _ st _ => 1 ≤ st ∧ st ≤ 3
  | _ => True

theorem absOK_paint {a : AState} (h : AbsOK a) (covers : Int → Int → Bool) (what : Int → Int → Content → Content)
    (hw : ∀ l c old, covers l c = true → COK old → COK (what l c old)) : AbsOK (paint a covers what) := by
  intro L C
  unfold paint
  simp only
  split
  · rename_i hc
    rw [Bool.and_eq_true] at hc
    exact hw _ _ _ hc.1 (h L C)
  · exact h L C

theorem absOK_paint_const {a : AState} (h : AbsOK a) (covers : Int → Int → Bool) (x : Content) (hx : COK x) :
    AbsOK (paint a covers fun _ _ _ => x) :=
  absOK_paint h _ _ fun _ _ _ _ _ => hx

theorem absOK_content_eq {a a' : AState} (h : AbsOK a) (he : a'.content = a.content) : AbsOK a' := by
  intro L C; rw [he]; exact h L C

theorem absOK_textAt {a : AState} (h : AbsOK a) (line col : Int) (s : List UInt8) : AbsOK (RBAbs.textAt a line col s) := by
  unfold RBAbs.textAt
  cases hs : Utf8.stringColumns s with
  | none => exact h
  | some n =>
    obtain ⟨cs, hcs, hn⟩ := decode_of_stringColumns s n hs
    apply absOK_paint h
    intro l c old hc _
    unfold inRun at hc
    simp only [Bool.and_eq_true, decide_eq_true_eq] at hc
    exact ⟨cs, hcs, by omega, by omega⟩

theorem cok_mergeLine (pen : Pen) (bits : Nat) (old : Content) (hb : 1 ≤ bits ∧ bits < 256) (ho : COK old) :
    COK (mergeLine pen bits old) := by
  unfold mergeLine
  cases old with
  | line p m =>
    simp only [COK] at ho ⊢
    refine ⟨?_, ?_⟩
    · have : m ≤ m ||| bits := Nat.left_le_or
      omega
    · exact Nat.or_lt_two_pow (n := 8) ho.2 hb.2
  | skip => exact hb
  | text _ _ _ => exact hb
  | erase _ => exact hb
  | char _ _ => exact hb

theorem absOK_linecell {a : AState} (h : AbsOK a) (line col : Int) (bits : Nat) (hb : 1 ≤ bits ∧ bits < 256) :
    AbsOK (RBAbs.linecell a line col bits) := by
  unfold RBAbs.linecell
  exact absOK_paint h _ _ (fun _ _ old _ ho => cok_mergeLine _ _ old hb ho)

theorem absOK_lineLoop (cellAt : Int → Int × Int) (bits : Nat) (hb : 1 ≤ bits ∧ bits < 256) :
    ∀ (n : Nat) (a : AState) (from_ : Int), AbsOK a → AbsOK (RBAbs.lineLoop cellAt bits a from_ n) := by
  intro n
  induction n with
  | zero => intro a _ h; exact h
  | succ k ih => intro a f h; exact ih _ _ (absOK_linecell h _ _ _ hb)

theorem arm_bits {st s : Nat} (hst : 1 ≤ st ∧ st ≤ 3) (hs : s ≤ 6) : 1 ≤ st <<< s ∧ st <<< s < 256 := by
  rw [Nat.shiftLeft_eq]
  have h1 : 2 ^ s ≤ 2 ^ 6 := Nat.pow_le_pow_right (by omega) hs
  have h2 : st * 2 ^ s ≤ 3 * 2 ^ 6 := Nat.mul_le_mul hst.2 h1
  have h3 : 1 * 1 ≤ st * 2 ^ s := Nat.mul_le_mul hst.1 (Nat.pow_pos (by omega))
  omega

/-- The bits one call of `linecell` adds: an arm, possibly or-ed with the opposite one. -/
theorem arm_or {a b : Nat} (ha : 1 ≤ a ∧ a < 256) (hb : b < 256) (p : Prop) [Decidable p] :
    (1 ≤ (a ||| if p then b else 0) ∧ (a ||| if p then b else 0) < 256) ∧
    (1 ≤ ((if p then b else 0) ||| a) ∧ ((if p then b else 0) ||| a) < 256) := by
  have hb' : (if p then b else 0) < 256 := by split <;> omega
  have h1 : a ≤ a ||| if p then b else 0 := Nat.left_le_or
  have h2 : a ≤ (if p then b else 0) ||| a := Nat.right_le_or
  exact ⟨⟨by omega, Nat.or_lt_two_pow (n := 8) ha.2 hb'⟩, ⟨by omega, Nat.or_lt_two_pow (n := 8) hb' ha.2⟩⟩

/-- The shape of `hline_at` and `vline_at`: the first cell, the cells between, the last cell. -/
theorem absOK_lineAt {a : AState} (h : AbsOK a) (cellAt : Int → Int × Int) (l1 c1 l2 c2 from_ : Int) (n b1 b2 b3 : Nat)
    (h1 : 1 ≤ b1 ∧ b1 < 256) (h2 : 1 ≤ b2 ∧ b2 < 256) (h3 : 1 ≤ b3 ∧ b3 < 256) :
    AbsOK (RBAbs.linecell (RBAbs.lineLoop cellAt b2 (RBAbs.linecell a l1 c1 b1) from_ n) l2 c2 b3) :=
  absOK_linecell (absOK_lineLoop _ _ h2 _ _ _ (absOK_linecell h _ _ _ h1)) _ _ _ h3

open Tickit.Gen.RBWidth in
theorem absOK_hlineAt {a : AState} (h : AbsOK a) (l c1 c2 : Int) (st caps : Nat) (hst : 1 ≤ st ∧ st ≤ 3) :
    AbsOK (RBAbs.hlineAt a l c1 c2 st caps) := by
  have e := arm_bits hst (s := c_EAST_SHIFT) (by decide)
  have w := arm_bits hst (s := c_WEST_SHIFT) (by decide)
  exact absOK_lineAt h _ _ _ _ _ _ _ _ _ _ (arm_or e w.2 _).1 (arm_or e w.2 True).1 (arm_or w e.2 _).2

open Tickit.Gen.RBWidth in
theorem absOK_vlineAt {a : AState} (h : AbsOK a) (l1 l2 c : Int) (st caps : Nat) (hst : 1 ≤ st ∧ st ≤ 3) :
    AbsOK (RBAbs.vlineAt a l1 l2 c st caps) := by
  have n := arm_bits hst (s := c_NORTH_SHIFT) (by decide)
  have s := arm_bits hst (s := c_SOUTH_SHIFT) (by decide)
  exact absOK_lineAt h _ _ _ _ _ _ _ _ _ _ (arm_or s n.2 _).1 (arm_or s n.2 True).1 (arm_or n s.2 _).2

theorem absOK_atCursor {a : AState} (h : AbsOK a) (draw : AState → Int → Int → AState) (adv : Int)
    (hd : ∀ l c, AbsOK (draw a l c)) : AbsOK (atCursor a draw adv) := by
  unfold atCursor
  cases a.vc with
  | none => exact h
  | some p => exact absOK_content_eq (hd p.1 p.2) rfl

theorem absOK_step {a : AState} (h : AbsOK a) (o : Op) (ho : OpOK o) : AbsOK (RBAbs.step a o) := by
  have perase : ∀ l c n, AbsOK (RBAbs.eraseAt a l c n) := fun _ _ _ => absOK_paint_const h _ _ trivial
  have pskip : ∀ l c n, AbsOK (RBAbs.skipAt a l c n) := fun _ _ _ => absOK_paint_const h _ _ trivial
  cases o with
  | textAt l c s => exact absOK_textAt h l c s
  | text s => exact absOK_atCursor h _ _ (fun l c => absOK_textAt h l c s)
  | eraseAt l c n => exact perase l c n
  | erase n => exact absOK_atCursor h _ _ (fun l c => perase l c n)
  | eraseTo c =>
    simp only [RBAbs.step, RBAbs.eraseTo]
    cases a.vc with
    | none => exact h
    | some p => exact absOK_content_eq (perase p.1 p.2 (c - p.2)) rfl
  | skipAt l c n => exact pskip l c n
  | skip n => exact absOK_atCursor h _ _ (fun l c => pskip l c n)
  | skipTo c =>
    simp only [RBAbs.step, RBAbs.skipTo]
    cases a.vc with
    | none => exact h
    | some p => exact absOK_content_eq (pskip p.1 p.2 (c - p.2)) rfl
  | charAt l c cp => exact absOK_paint_const h _ _ ho
  | char cp => exact absOK_atCursor h _ _ (fun l c => absOK_paint_const h _ _ ho)
  | hlineAt l c1 c2 st caps => exact absOK_hlineAt h l c1 c2 st caps ho
  | vlineAt l1 l2 c st caps => exact absOK_vlineAt h l1 l2 c st caps ho
  | clear => exact absOK_paint_const h _ _ trivial
  | eraserect r => exact absOK_paint_const h _ _ trivial
  | skiprect r => exact absOK_paint_const h _ _ trivial
  | goto l c => exact absOK_content_eq h rfl
  | ungoto => exact absOK_content_eq h rfl
  | translate d r => exact absOK_content_eq h rfl
  | clip r => exact absOK_content_eq h rfl
  | mask r => exact absOK_content_eq h rfl
  | setpen p =>
    simp only [RBAbs.step, RBAbs.setpen]
    cases a.stack <;> exact absOK_content_eq h rfl
  | save => exact absOK_content_eq h rfl
  | savepen => exact absOK_content_eq h rfl
  | restore =>
    simp only [RBAbs.step, RBAbs.restore]
    cases a.stack with
    | nil => exact h
    | cons f rest =>
      simp only
      split <;> exact absOK_content_eq h rfl
  | reset => intro L C; exact trivial

theorem absOK_run : ∀ (prog : List Op) (a : AState), AbsOK a → (∀ o ∈ prog, OpOK o) → AbsOK (RBAbs.run a prog) := by
  intro prog
  induction prog with
  | nil => intro a h _; exact h
  | cons o rest ih =>
    intro a h ho
    obtain ⟨ho1, ho'⟩ := List.forall_mem_cons.1 ho
    exact ih _ (absOK_step h o ho1) ho'

theorem absContent_start {rb : RB} {l c : Int} (hg : rb.inGrid l c) (hs : (rb.cell l c).state ≠ .cont) :
    absContent rb l c =
      match (rb.cell l c).state with
      | .skip => .skip
      | .text => .text (rb.cell l c).pen (rb.cell l c).text ((rb.cell l c).offs + 0)
      | .erase => .erase (rb.cell l c).pen
      | .line => .line (rb.cell l c).pen (rb.cell l c).lmask
      | .char => .char (rb.cell l c).pen (rb.cell l c).cp
      | .cont => .skip := by
  unfold RB.inGrid at hg
  have hb : inBuf rb.lines rb.cols l c = true := by
    unfold inBuf; simp only [Bool.and_eq_true, decide_eq_true_eq]; omega
  unfold absContent
  rw [if_pos hb]
  simp only [hs, if_false]
  generalize (rb.cell l c).state = st
  cases st <;> rfl

theorem absContent_cont {rb : RB} {l c : Int} (hg : rb.inGrid l c) (hs : (rb.cell l c).state = .cont)
    (ht : (rb.cell l (rb.cell l c).cols).state = .text) :
    absContent rb l c = .text (rb.cell l (rb.cell l c).cols).pen (rb.cell l (rb.cell l c).cols).text
      ((rb.cell l (rb.cell l c).cols).offs + (c - (rb.cell l c).cols)) := by
  unfold RB.inGrid at hg
  have hb : inBuf rb.lines rb.cols l c = true := by
    unfold inBuf; simp only [Bool.and_eq_true, decide_eq_true_eq]; omega
  unfold absContent
  rw [if_pos hb]
  simp only [hs, if_true, ht]

theorem contentOK_of_abs {rb : RB} {a : AState} (wf : WF rb) (R : Refines rb a) (h : AbsOK a) : ContentOK rb := by
  intro l c hg
  have hg' := hg
  unfold RB.inGrid at hg'
  have hrow := wf.rows l hg'.1 hg'.2.1
  have h1 := h l c
  rw [R.content] at h1
  refine ⟨fun hs => ?_, fun hs => ?_, fun hs => ?_⟩
  · rwa [absContent_start hg (by rw [hs]; simp), hs] at h1
  · rwa [absContent_start hg (by rw [hs]; simp), hs] at h1
  · rw [absContent_start hg (by rw [hs]; simp), hs] at h1
    obtain ⟨cs, hcs, h0, hlt1⟩ := h1
    have hnc : (rb.cell l c).state ≠ .cont := by rw [hs]; simp
    obtain ⟨hpos, hfit⟩ : 1 ≤ (rb.cell l c).cols ∧ c + (rb.cell l c).cols ≤ rb.cols :=
      hrow.start_len c hg'.2.2.1 hg'.2.2.2 hnc
    refine ⟨cs, hcs, by omega, ?_⟩
    by_cases hone : (rb.cell l c).cols = 1
    · omega
    · -- the last cell of the run is a CONT cell pointing at `c`
      obtain ⟨hl1, hl2⟩ : (rb.cell l (c + (rb.cell l c).cols - 1)).state = .cont ∧
          (rb.cell l (c + (rb.cell l c).cols - 1)).cols = c :=
        hrow.start_run c _ hg'.2.2.1 hg'.2.2.2 hnc (by omega) (by show _ < c + (rb.cell l c).cols; omega)
      have hgl : rb.inGrid l (c + (rb.cell l c).cols - 1) := by unfold RB.inGrid; omega
      have h2 := h l (c + (rb.cell l c).cols - 1)
      rw [R.content, absContent_cont hgl hl1 (by rw [hl2]; exact hs), hl2] at h2
      obtain ⟨cs', hcs', _, hlt⟩ := h2
      rw [hcs] at hcs'; cases hcs'
      omega

theorem flushWF_of_program (lines cols g1 g2 : Int) (hl : 0 ≤ lines) (hc : 0 < cols) (prog : List Op)
    (hok : ∀ o ∈ prog, OpOK o) : FlushWF (RB.run (RB.new lines cols g1 g2) prog) := by
  obtain ⟨wf, R⟩ := run_new_refines lines cols g1 g2 hl hc prog
  have habs : AbsOK (RBAbs.run (AState.new lines cols) prog) :=
    absOK_run prog _ (fun _ _ => trivial) hok
  exact flushWF_of_WF wf (contentOK_of_abs wf R habs)

end Tickit.RBFlush
