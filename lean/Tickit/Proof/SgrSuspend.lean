import Tickit.Proof.Sgr
import Tickit.Model.TermSuspend
/-
  C10 across pause + resume (`Model/TermSuspend.lean`): the bytes of the xterm driver's `teardown` reset the rendering
  attributes, so "terminal = cached pen" holds again when `tickit_term_resume` re-sends the cached pen (`chpen(c, c)`,
  `suspend_inv`) and in general not when it does not (`suspend_no_resend`).
-/
namespace Tickit.Proof.Sgr
open Tickit.Sgr Tickit.TermPen

theorem run_pause (a : Attrs) : run xtermPauseBytes ⟨.ground, a⟩ = ⟨.ground, a.reset⟩ := rfl

theorem reset_of_junk0 (a : Attrs) (h : a.junk = 0) : a.reset = {} := by
  simp [Attrs.reset, h]

theorem ov_eq_some {α : Type} {a b : Option α} {v : α} (h : ov a b = some v) : a = some v ∨ b = some v := by
  cases a with
  | none => exact .inr h
  | some _ => exact .inl h

theorem deltaOk_overlay {caps : Caps} {c d : Pen} (hc : DeltaOk caps c) (hd : DeltaOk caps d) : DeltaOk caps (overlay c d) :=
  ⟨fun v hv => (ov_eq_some hv).elim (hd.under v) (hc.under v), fun v hv => (ov_eq_some hv).elim (hd.sizepos v) (hc.sizepos v)⟩

theorem deltaOk_termCache (caps : Caps) (set : Bool) (colors : Int) (cache p : Pen) (hc : DeltaOk caps cache)
    (hp : DeltaOk caps p) : DeltaOk caps (termCache set colors cache p) :=
  termCache_eq_overlay .. ▸ deltaOk_overlay hc (deltaOk_termDelta _ _ _ _ _ hp)

theorem deltaOk_empty (caps : Caps) : DeltaOk caps {} :=
  ⟨fun _ h => (by cases h), fun _ h => (by cases h)⟩

theorem run_resend (caps : Caps) (cap : Nat) (c : Pen) (hok : DeltaOk caps c) (bs : List Byte)
    (h : xtermChpen caps cap c c = .bytes bs) :
    run bs ⟨.ground, {}⟩ = ⟨.ground, expectAttrs caps c⟩ :=
  chpen_expect (c := {}) h hok (ovAttrs_default caps c).symm

theorem suspend_inv (cfg : Cfg) (st st' : TState) (hinv : Inv cfg.caps st) (hok : DeltaOk cfg.caps st.cache)
    (h : suspendStep cfg true st = some st') : Inv cfg.caps st' ∧ st'.cache = st.cache := by
  unfold suspendStep resumeChpen at h
  rw [if_pos rfl] at h
  split at h
  · cases h
  · rename_i bs hbs
    cases h
    have : run bs (run xtermResumeBytes (run xtermPauseBytes st.vt)) = ⟨.ground, expectAttrs cfg.caps st.cache⟩ := by
      rw [hinv.vt, run_pause]
      exact run_resend cfg.caps cfg.cap st.cache hok bs hbs
    exact ⟨⟨congrArg VT.st this, congrArg VT.attrs this⟩, rfl⟩

theorem suspend_no_resend (cfg : Cfg) (st : TState) (hg : st.vt.st = .ground) :
    suspendStep cfg false st = some { st with vt := ⟨.ground, st.vt.attrs.reset⟩ } := by
  unfold suspendStep resumeChpen
  rw [vt_eta hg]
  rfl

def SInv (caps : Caps) (st : TState) : Prop := Inv caps st ∧ DeltaOk caps st.cache

theorem sinv_init (caps : Caps) : SInv caps {} := ⟨inv_init caps, deltaOk_empty caps⟩

def EvOk (caps : Caps) : Ev → Prop
  | .req op => DeltaOk caps op.pen
  | .suspend => True

theorem stepEv_sinv (cfg : Cfg) (h8 : 8 ≤ cfg.colors) (st st' : TState) (e : Ev) (l : Pen) (hok : EvOk cfg.caps e)
    (hinv : SInv cfg.caps st) (hl : st.cache = convPen cfg.colors l) (h : stepEv cfg true st e = some st') :
    SInv cfg.caps st' ∧ st'.cache = convPen cfg.colors (logicalEvStep l e) := by
  cases e with
  | req op =>
    have hi := step_inv cfg st st' op hok hinv.1 h
    have hc := step_cache (cfg := cfg) (st := st) (op := op) h
    exact ⟨⟨hi, hc ▸ deltaOk_termCache _ _ _ _ _ hinv.2 hok⟩, by rw [hc, hl]; exact termCache_conv _ h8 l op⟩
  | suspend =>
    obtain ⟨hi, hc⟩ := suspend_inv cfg st st' hinv.1 hinv.2 h
    exact ⟨⟨hi, hc ▸ hinv.2⟩, hc.trans hl⟩

theorem runEvs_induct {cfg : Cfg} {resend : Bool} {P : Pen → TState → Prop} {Q : Ev → Prop}
    (hstep : ∀ l st st' e, Q e → P l st → stepEv cfg resend st e = some st' → P (logicalEvStep l e) st')
    (es : List Ev) (l : Pen) (st st' : TState) (hq : ∀ e ∈ es, Q e) (hp : P l st) (h : runEvs cfg resend es st = some st') :
    P (es.foldl logicalEvStep l) st' := by
  induction es generalizing l st with
  | nil => cases h; exact hp
  | cons e es ih =>
    rw [runEvs] at h
    split at h
    · cases h
    · rename_i st1 h1
      exact ih _ st1 (fun o ho => hq o (List.mem_cons_of_mem _ ho)) (hstep l st st1 e (hq e (List.mem_cons_self ..)) hp h1) h

theorem runEvs_sinv (cfg : Cfg) (h8 : 8 ≤ cfg.colors) (es : List Ev) (st st' : TState) (l : Pen)
    (hok : ∀ e ∈ es, EvOk cfg.caps e) (hinv : SInv cfg.caps st)
    (hl : st.cache = convPen cfg.colors l) (h : runEvs cfg true es st = some st') :
    SInv cfg.caps st' ∧ st'.cache = convPen cfg.colors (es.foldl logicalEvStep l) :=
  runEvs_induct (P := fun l st => SInv cfg.caps st ∧ st.cache = convPen cfg.colors l)
    (fun l st st' e hq hp hs => stepEv_sinv cfg h8 st st' e l hq hp.1 hp.2 hs) es l st st' hok ⟨hinv, hl⟩ h

end Tickit.Proof.Sgr
