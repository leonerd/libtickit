import Tickit.Proof.WinNew
/-
  The invariant step of a terminal resize (`on_term_resize`: the root window takes the terminal's new size; the strips
  that are new are exposed).  A cell inside both the old and the new root area keeps its owner (`ownerLoc_root_rect`) and
  the grid driver keeps what it showed; a cell inside the new area only lies in one of the two exposed strips.  There is
  no `Recorded` for this operation (a cell that leaves the root area loses its owner without being damaged, and the grid
  changes too): `termResizeTree_step` concludes `TInv` against the new grid.
-/
namespace Tickit
namespace WinFlush
open WinTree WinRB WinSpec

/-- The root window has the terminal's size. -/
def TermRoot (st : St) : Prop :=
  ∃ w : Win, st.tree.wins[0]? = some w ∧ w.rect.lines = st.tlines ∧ w.rect.cols = st.tcols

/-- The window-tree half of `on_term_resize`. -/
def termResizeTree (t : Tree) (lines cols : Int) : Res Tree := do
  let root ← WinTree.get t 0
  let g ← setGeometry t 0 { root.rect with lines := lines, cols := cols }
  let t2 ← exposeIf (decide (lines > root.rect.lines)) g.1 (t.wins.size + 1) 0 ⟨root.rect.lines, 0, lines - root.rect.lines, cols⟩
  exposeIf (decide (cols > root.rect.cols)) t2 (t.wins.size + 1) 0 ⟨0, root.rect.cols, root.rect.lines, cols - root.rect.cols⟩

/-- The grid after the driver's resize: what was shown is kept inside the common area. -/
def resizedScreen (st : St) (lines cols : Int) : Int → Int → Cell :=
  fun l c => if 0 ≤ l ∧ l < min st.tlines lines ∧ 0 ≤ c ∧ c < min st.tcols cols then st.screen l c else Cell.never

theorem exposeIf_of_ite {c : Prop} [Decidable c] {t t2 : Tree} {fuel : Nat} {r : Rect}
    (h : (if c then expose t fuel 0 (some r) else pure t) = .ok t2) : exposeIf (decide c) t fuel 0 r = .ok t2 := by
  unfold exposeIf
  by_cases hc : c
  · rw [if_pos hc] at h; rw [if_pos (decide_eq_true hc)]; exact h
  · rw [if_neg hc] at h; rw [if_neg (by simp [hc])]; exact h

theorem termResize_cases (st st' : St) (lines cols : Int) (h : termResize st lines cols = .ok st') :
    (st.tlines = lines ∧ st.tcols = cols ∧ st' = { st with screen := resizedScreen st lines cols }) ∨
    (¬ (st.tlines = lines ∧ st.tcols = cols) ∧ ∃ t', termResizeTree st.tree lines cols = .ok t' ∧
      st' = { st with screen := resizedScreen st lines cols, tlines := lines, tcols := cols, tree := t' }) := by
  unfold termResize at h
  rcases ite_ok h with ⟨hs, h⟩ | ⟨hs, h⟩
  · cases h
    exact Or.inl ⟨hs.1, hs.2, rfl⟩
  · obtain ⟨root, hg, h⟩ := bind_ok_iff.1 h
    obtain ⟨g, hsg, h⟩ := bind_ok_iff.1 h
    obtain ⟨t2, he1, h⟩ := ite_bind_ok h
    obtain ⟨t3, he2, h⟩ := ite_bind_ok h
    cases h
    exact Or.inr ⟨hs, t3, bind_ok_iff.2 ⟨root, hg, bind_ok_iff.2 ⟨g, hsg, bind_ok_iff.2
      ⟨t2, exposeIf_of_ite he1, exposeIf_of_ite he2⟩⟩⟩, rfl⟩

theorem ownerLoc_root_rect (t t1 : Tree) (ho : Ordered t) (hw : ∀ x : Nat, 0 < x → t1.wins[x]? = t.wins[x]?)
    (w w1 : Win) (h0 : t.wins[0]? = some w) (h1 : t1.wins[0]? = some w1) (hv : w1.isVisible = w.isVisible)
    (hf : w1.freed = w.freed) (hc : w1.children = w.children) (ht : w1.rect.top = w.rect.top) (hl : w1.rect.left = w.rect.left)
    (n : Nat) (L C : Int) (hm : w.rect.memb L C = true) (hm1 : w1.rect.memb L C = true) :
    ownerLoc t1 (n + 1) 0 L C = ownerLoc t (n + 1) 0 L C := by
  rw [ownerLoc_rec h0, ownerLoc_rec h1]
  simp only [hv, hf, hc, ht, hl, hm, hm1]
  -- below the root the two stores are the same
  rw [findSome?_congr_mem _ _ _ fun ch hch => ownerLoc_congr_on (0 < ·)
    (fun x w hx hw ch hch => Nat.lt_trans hx (ho x w hw ch hch)) (fun x hx => by rw [hw x hx]) n ch _ _ (ho 0 w h0 ch hch)]

theorem memb_origin {r : Rect} {L C : Int} (ht : r.top = 0) (hl : r.left = 0) (h0 : 0 ≤ L) (h1 : L < r.lines) (h2 : 0 ≤ C)
    (h3 : C < r.cols) : r.memb L C = true := by
  apply (Rect.memb_iff _ _ _).2
  simp only [Rect.Mem, Rect.bottom, Rect.right]
  omega

theorem resize_cell_cases {oL oC lines cols L C : Int} (hL0 : 0 ≤ L) (hL1 : L < lines) (hC0 : 0 ≤ C) (hC1 : C < cols) :
    (L < oL ∧ C < oC) ∨ (cols > oC ∧ (⟨0, oC, oL, cols - oC⟩ : Rect).Mem L C) ∨
      (lines > oL ∧ (⟨oL, 0, lines - oL, cols⟩ : Rect).Mem L C) := by
  simp only [Rect.Mem, Rect.bottom, Rect.right]
  omega

/-- `on_term_resize` (window-tree half), for any new grid that kept what the old one showed inside the common area. -/
theorem termResizeTree_step (content : Id → Int → Int → Cell) (screen screen' : Int → Int → Cell) (t t' : Tree)
    (lines cols : Int) (hI : TInv content screen t) (hl : 0 < lines) (hc : 0 < cols)
    (root : Win) (hroot : t.wins[0]? = some root)
    (hkeep : ∀ L C, 0 ≤ L → L < min root.rect.lines lines → 0 ≤ C → C < min root.rect.cols cols → screen' L C = screen L C)
    (h : termResizeTree t lines cols = .ok t') :
    TInv content screen' t' ∧ RootStep t t' ∧ t'.wins.size = t.wins.size ∧
      (∃ w', t'.wins[0]? = some w' ∧ w'.rect.lines = lines ∧ w'.rect.cols = cols) ∧
      (ParentListed t → ParentListed t') := by
  have hok := hI.ok
  obtain ⟨rw0, rr⟩ := hok.rootWin.record
  cases hroot.symm.trans rr.slot
  obtain ⟨root', hg, h⟩ := bind_ok_iff.1 h
  rw [WinTree.Live.get ⟨hroot, rr.live⟩] at hg
  cases hg
  obtain ⟨⟨t1, b⟩, hsg, h⟩ := bind_ok_iff.1 h
  obtain ⟨t2, he1, h⟩ := bind_ok_iff.1 h
  -- the tree after `setGeometry`: only the root's rectangle has changed
  obtain ⟨w0, hw0, _, hsb, h1_root, h1_0, h1_other⟩ := setGeometry_ok hsg
  rw [hroot] at hw0; cases hw0
  generalize hw1 : ({ root with rect := { root.rect with lines := lines, cols := cols } } : Win) = w1 at h1_0
  obtain ⟨hw1t, hw1l, hw1L, hw1C, hw1v, hw1f, hw1c, hw1p, hw1i⟩ :
      w1.rect.top = 0 ∧ w1.rect.left = 0 ∧ w1.rect.lines = lines ∧ w1.rect.cols = cols ∧ w1.isVisible = root.isVisible ∧
      w1.freed = root.freed ∧ w1.children = root.children ∧ w1.parent = root.parent ∧ w1.isRoot = root.isRoot := by
    rw [← hw1]; exact ⟨rr.top, rr.left, rfl, rfl, rfl, rfl, rfl, rfl, rfl⟩
  have hok1 : TreeOk t1 := hok.of_links hsb.links
    ⟨⟨w1, h1_0, by rw [hw1f]; exact rr.live, by rw [hw1i]; exact rr.isRoot, by rw [hw1p]; exact rr.parent, hw1t, hw1l⟩⟩
  have hpos1 : RootsPositive t1 := by
    intro x wb hwb hr
    have hx : x = 0 := hok1.onlyRoot x wb hwb hr
    subst hx
    rw [h1_0] at hwb; cases hwb
    rw [hw1L, hw1C]
    exact ⟨hl, hc⟩
  have hE1 := Exposed.of_ite he1 (by rw [h1_root]; exact hI.nonempty) hpos1
  have hE := hE1.trans (Exposed.of_ite h hE1.nonempty (rootsPositive_congr hE1.wins hpos1))
  have hwins := hE.wins
  refine ⟨⟨treeOk_congr hwins hok1, ordered_congr hwins (ordered_agree hsb.links hI.ord),
    rootsPositive_congr hwins hpos1, hE.nonempty, hE.dinv (by rw [h1_root]; exact hI.dinv), ?_⟩,
    RootStep.trans (Or.inl h1_root) hE.root, by rw [hwins, hsb.size],
    ⟨w1, by rw [hwins]; exact h1_0, hw1L, hw1C⟩,
    fun hpl => parentListed_congr hwins (parentListed_agree hsb.links hpl)⟩
  · intro L C w l c ho
    rw [ownerAt_congr t' t1 hwins] at ho
    -- under a hidden root nothing is owned
    cases hrv : root.isVisible with
    | false => rw [ownerAt_none_of_hidden t1 w1 h1_0 (by rw [hw1v]; exact hrv)] at ho; cases ho
    | true =>
    have hro1 : RootOk t1 := ⟨⟨w1, h1_0, by rw [hw1f]; exact rr.live, by rw [hw1v]; exact hrv, hw1t, hw1l⟩⟩
    obtain ⟨wr, hwr, hL0, hL1, hC0, hC1⟩ := ownerAt_some_memb t1 hro1 L C _ ho
    rw [h1_0] at hwr; cases hwr
    rw [hw1L] at hL1
    rw [hw1C] at hC1
    have hreg : ∀ (tx : Tree) (r : Rect), tx.wins = t1.wins → r.Mem L C → ExposedRegion tx (t.wins.size + 1) 0 (some r) L C :=
      fun tx r htx hm => exposedRegion_some hm ⟨w1, by rw [htx]; exact h1_0, by rw [hw1f]; exact rr.live, hL0,
        by rw [hw1L]; exact hL1, hC0, by rw [hw1C]; exact hC1, by rw [hw1v]; exact hrv, Or.inl ⟨by rw [hw1i]; exact rr.isRoot, rfl, rfl⟩⟩
    rcases resize_cell_cases (oL := root.rect.lines) (oC := root.rect.cols) hL0 hL1 hC0 hC1 with hin | ⟨hgt, hm⟩ | ⟨hgt, hm⟩
    · -- inside the old area too: same owner, and the grid kept the cell
      have hsame : ownerAt t1 L C = ownerAt t L C := by
        unfold ownerAt
        rw [hsb.size]
        exact ownerLoc_root_rect t t1 hI.ord (fun x hx => h1_other x (Nat.ne_of_gt hx)) root w1 hroot h1_0 hw1v hw1f hw1c
          (by rw [hw1t, rr.top]) (by rw [hw1l, rr.left]) _ L C (memb_origin rr.top rr.left hL0 hin.1 hC0 hin.2)
          (memb_origin hw1t hw1l hL0 (by rw [hw1L]; exact hL1) hC0 (by rw [hw1C]; exact hC1))
      rw [hsame] at ho
      refine (hI.inv L C w l c ho).imp (fun hcov => (hE.cov L C).2 (Or.inl (by rw [h1_root]; exact hcov)))
        fun hright => ?_
      rw [hkeep L C hL0 (Int.lt_min.2 ⟨hin.1, hL1⟩) hC0 (Int.lt_min.2 ⟨hin.2, hC1⟩)]
      exact hright
    · exact Or.inl ((hE.cov L C).2 (Or.inr (Or.inr ⟨decide_eq_true hgt, hreg t2 _ hE1.wins hm⟩)))
    · exact Or.inl ((hE.cov L C).2 (Or.inr (Or.inl ⟨decide_eq_true hgt, hreg t1 _ rfl hm⟩)))

end WinFlush
end Tickit
