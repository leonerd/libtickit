import Tickit.Proof.RBFlush
/-
  C04: a screen of `L` lines (`GridTerm.stepL`/`runL`: cursor movements clamped to the screen, scrolling when the
  deferred wrap happens on the last line) against the unbounded plane (`step`/`run`).

  A request sequence is *calm* on a terminal when every cursor movement targets a line of the screen and no other
  request changes the cursor line (the only way a print request changes it is an autowrap: the line only ever grows
  inside a print request, so "same line afterwards" means "no wrap").  On a calm sequence `runL` and `run` agree.
-/
namespace Tickit.RBFlush
open Tickit.RB

def Req.isGoto : Req → Bool
  | .goto _ _ => true
  | _ => false

def Calm (L : Int) : GridTerm → List Req → Prop
  | _, [] => True
  | t, r :: rs =>
    (match r with
     | .goto l _ => 0 ≤ l ∧ l < L
     | _ => (t.step r).line = t.line) ∧ Calm L (t.step r) rs

namespace GridTerm

theorem putChs_line_le (cs : List Ch) : ∀ t : GridTerm, t.line ≤ (t.putChs cs).line := by
  induction cs with
  | nil => intro t; exact Int.le_refl _
  | cons c cs ih =>
    intro t
    have h1 := putCh_line_le t c
    have h2 := ih (t.putCh c)
    show t.line ≤ ((t.putCh c).putChs cs).line
    omega

theorem putChL_eq (L : Int) (t : GridTerm) (c : Ch) (h : (t.putCh c).line = t.line) : t.putChL L c = t.putCh c := by
  unfold putChL putCh at *
  split
  · rfl
  · rename_i hw
    rw [if_neg hw, putGlyph_line] at h
    unfold putGlyphL putGlyph
    split
    · rename_i hgt
      rw [if_pos hgt] at h
      omega
    · rfl

theorem putChsL_eq (L : Int) (cs : List Ch) : ∀ t : GridTerm, (t.putChs cs).line = t.line →
    t.putChsL L cs = t.putChs cs := by
  induction cs with
  | nil => intro t _; rfl
  | cons c cs ih =>
    intro t h
    have h1 := putCh_line_le t c
    have h2 := putChs_line_le cs (t.putCh c)
    have h' : ((t.putCh c).putChs cs).line = t.line := h
    have hc : (t.putCh c).line = t.line := by omega
    show (t.putChL L c).putChsL L cs = (t.putCh c).putChs cs
    rw [putChL_eq L t c hc]
    exact ih _ (by omega)

theorem wrapL_conf (L : Int) (t : GridTerm) : (t.wrapL L).conf = t.conf := by
  unfold wrapL; split <;> rfl

theorem putChL_conf (L : Int) (t : GridTerm) (c : Ch) : (t.putChL L c).conf = t.conf := by
  unfold putChL putGlyphL
  repeat' split
  all_goals first | rfl | exact addZeroWidth_conf t _ | exact wrapL_conf L t

theorem foldl_putChL_conf (L : Int) : ∀ (cs : List Ch) (t : GridTerm), (cs.foldl (putChL L) t).conf = t.conf
  | [], _ => rfl
  | c :: cs, t => (foldl_putChL_conf L cs _).trans (putChL_conf L t c)

theorem putChL_col (L : Int) (t : GridTerm) (c : Ch) (hfit : c.width = 0 ∨ t.col + c.width ≤ t.cols) :
    (t.putChL L c).col = t.col + c.width := by
  unfold putChL
  split
  · rename_i hz
    rw [addZeroWidth_col, hz, Int.add_zero]
  · rename_i hz
    rw [putGlyphL, if_neg (Int.not_lt.2 (hfit.resolve_left hz))]
    rfl

theorem step_line_le (t : GridTerm) (r : Req) (h : r.isGoto = false) : t.line ≤ (t.step r).line := by
  cases r with
  | goto l c => simp [Req.isGoto] at h
  | setpen p => exact Int.le_refl _
  | print s start len => exact putChs_line_le _ _
  | erasech n m => exact Int.le_of_eq (erasech_line t n m).symm

theorem run_line_le (rs : List Req) : ∀ t : GridTerm, (∀ r ∈ rs, r.isGoto = false) → t.line ≤ (t.run rs).line := by
  induction rs with
  | nil => intro t _; exact Int.le_refl _
  | cons r rs ih =>
    intro t h
    obtain ⟨hr, h'⟩ := List.forall_mem_cons.1 h
    have h1 := step_line_le t r hr
    have h2 := ih (t.step r) h'
    show t.line ≤ ((t.step r).run rs).line
    omega

theorem stepL_eq (L : Int) (t : GridTerm) (r : Req)
    (h : match r with
         | .goto l _ => 0 ≤ l ∧ l < L
         | _ => (t.step r).line = t.line) : t.stepL L r = t.step r := by
  cases r with
  | goto l c =>
    simp only at h
    show t.goto (max 0 (min l (L - 1))) c = t.goto l c
    rw [show max 0 (min l (L - 1)) = l by omega]
  | setpen p => rfl
  | print s start len =>
    simp only at h
    exact putChsL_eq L _ _ h
  | erasech n m => rfl

theorem runL_eq_of_calm (L : Int) (rs : List Req) : ∀ t : GridTerm, Calm L t rs → t.runL L rs = t.run rs := by
  induction rs with
  | nil => intro t _; rfl
  | cons r rs ih =>
    intro t h
    obtain ⟨h1, h2⟩ := h
    show (t.stepL L r).runL L rs = (t.step r).run rs
    rw [stepL_eq L t r h1]
    exact ih _ h2

end GridTerm

theorem calm_append (L : Int) (a b : List Req) : ∀ t : GridTerm, Calm L t a → Calm L (t.run a) b → Calm L t (a ++ b) := by
  induction a with
  | nil => intro t _ hb; exact hb
  | cons r rs ih =>
    intro t ha hb
    exact ⟨ha.1, ih _ ha.2 hb⟩

theorem calm_nil (L : Int) (t : GridTerm) : Calm L t [] := trivial

theorem calm_of_line_eq (L : Int) (rs : List Req) : ∀ t : GridTerm, (∀ r ∈ rs, r.isGoto = false) →
    (t.run rs).line = t.line → Calm L t rs := by
  induction rs with
  | nil => intro t _ _; trivial
  | cons r rs ih =>
    intro t hng h
    obtain ⟨hr, hng'⟩ := List.forall_mem_cons.1 hng
    have h1 := GridTerm.step_line_le t r hr
    have h2 := GridTerm.run_line_le rs (t.step r) hng'
    have h' : ((t.step r).run rs).line = t.line := h
    have hs : (t.step r).line = t.line := by omega
    refine ⟨?_, ih _ hng' (by omega)⟩
    cases r with
    | goto l c => simp [Req.isGoto] at hr
    | setpen p => exact hs
    | print s start len => exact hs
    | erasech n m => exact hs

end Tickit.RBFlush
