import Tickit.Model.TermBuf
/-
  C11, the output buffer of term.c.  The central notion is `Ext st st' w`, "`st'` is `st` after the byte string `w` has
  been accepted": same configuration and mode, only new well-formed chunks appended, and `delivered ++ pending` grown
  by exactly `w` (`ExtM`: for a call that also sets the driver's mode).  `OkExt st o w m` says that the outcome `o` is
  such a state; every function of the model that writes gets one lemma of this form, built from those of the functions
  it calls.  A public call is the same relative to `prep st o`, the state after the call's change to the output method;
  what is said of one call and of a history is read off that.
-/
namespace Tickit.TermBuf
open Tickit.Gen.TermBuf

/-- The bytes a chunk carries (`fin`, the `(NULL, 0)` call, carries none). -/
def Chunk.bytes : Chunk → Bytes
  | .data _ b => b
  | .fin => []

def stream (cs : List Chunk) : Bytes := cs.flatMap Chunk.bytes

def Attached (st : State) : Prop := st.hasFunc = true ∨ st.outfd ≠ -1

/-- The output method in force: the function wins over the descriptor. -/
def sink (st : State) : Dest := if st.hasFunc then .func else .fd

/-- "Fill level < n between calls" (and nothing is ever pending without a buffer). -/
def WF (st : State) : Prop :=
  (st.bufLen = 0 → st.buf = []) ∧ (0 < st.bufLen → st.buf.length < st.bufLen)

/-- A chunk as the property wants it, for buffer size `n` (0 = none) and output method `d`:
    data for `d`; with a buffer, never empty and never larger than the buffer. -/
def ChunkOK (n : Nat) (d : Dest) (c : Chunk) : Prop :=
  c = .fin ∨ ∃ b, c = .data d b ∧ (0 < n → 0 < b.length ∧ b.length ≤ n)

/-- The chunks handed out since fit the buffer and the output method of `st`; nothing is lost or invented (`eqn`, which
    needs somewhere to deliver to). -/
structure ExtM (st st' : State) (w : Bytes) (m' : Mode) : Prop where
  hasFunc : st'.hasFunc = st.hasFunc
  outfd   : st'.outfd = st.outfd
  bufLen  : st'.bufLen = st.bufLen
  mode    : st'.mode = m'
  out     : ∃ new, st'.out = st.out ++ new ∧ ∀ c ∈ new, ChunkOK st.bufLen (sink st) c
  eqn     : Attached st → stream st'.out ++ st'.buf = stream st.out ++ st.buf ++ w
  wf      : WF st'

/-- `ExtM` with the mode kept: the fields, and the lemmas that do not care for the mode, are `ExtM.*`. -/
abbrev Ext (st st' : State) (w : Bytes) : Prop := ExtM st st' w st.mode

variable {st st' : State}

theorem WF.nil (h : WF st) (h0 : st.bufLen = 0) : st.buf = [] := h.1 h0

theorem WF.lt (h : WF st) (hp : 0 < st.bufLen) : st.buf.length < st.bufLen := h.2 hp

theorem WF.le (h : WF st) : st.buf.length ≤ st.bufLen := by
  rcases Nat.eq_zero_or_pos st.bufLen with h0 | hp
  · rw [h.nil h0]; simp
  · exact Nat.le_of_lt (h.lt hp)

theorem WF.of_buf_nil (h : st.buf = []) : WF st := ⟨fun _ => h, fun hp => by rw [h]; exact hp⟩

@[simp] theorem stream_nil : stream [] = [] := rfl

@[simp] theorem stream_append (a b : List Chunk) : stream (a ++ b) = stream a ++ stream b := by
  simp [stream]

@[simp] theorem stream_data (d : Dest) (b : Bytes) : stream [.data d b] = b := by
  simp [stream, Chunk.bytes]

@[simp] theorem stream_fin : stream [.fin] = [] := by
  simp [stream, Chunk.bytes]

theorem bind_eq_ok {o : Outcome} {f : State → Outcome} {s : State} :
    o.bind f = .ok s ↔ ∃ t, o = .ok t ∧ f t = .ok s := by
  cases o <;> simp [Outcome.bind]

theorem take_cstrlen (mem : Bytes) : mem.take (cstrlen mem) = cstr mem :=
  (List.prefix_iff_eq_take.1 (List.takeWhile_prefix _)).symm

theorem cstrlen_le (mem : Bytes) : cstrlen mem ≤ mem.length :=
  (List.takeWhile_sublist _).length_le

/-- The shape of `ExtM.out`, which unfolds to it. -/
def Appends (P : Chunk → Prop) (a b : List Chunk) : Prop := ∃ new, b = a ++ new ∧ ∀ c ∈ new, P c

section
variable {P Q : Chunk → Prop} {a b c : List Chunk}

theorem Appends.refl : Appends P a a := ⟨[], (List.append_nil _).symm, fun _ h => nomatch h⟩

theorem Appends.one {x : Chunk} (h : P x) : Appends P a (a ++ [x]) :=
  ⟨[x], rfl, fun _ hc => List.mem_singleton.1 hc ▸ h⟩

theorem Appends.trans (h1 : Appends P a b) (h2 : Appends P b c) : Appends P a c := by
  obtain ⟨n1, rfl, p1⟩ := h1
  obtain ⟨n2, rfl, p2⟩ := h2
  exact ⟨n1 ++ n2, List.append_assoc .., fun x hx => (List.mem_append.1 hx).elim (p1 x) (p2 x)⟩

theorem Appends.mono (h : ∀ x, P x → Q x) : Appends P a b → Appends Q a b
  | ⟨new, e, p⟩ => ⟨new, e, fun x hx => h x (p x hx)⟩

theorem Appends.stream_fin (h : Appends (· = .fin) a b) : stream b = stream a := by
  obtain ⟨new, rfl, p⟩ := h
  have : stream new = [] := List.flatMap_eq_nil_iff.2 fun x hx => p x hx ▸ rfl
  rw [stream_append, this, List.append_nil]
end

theorem Ext.refl (h : WF st) : Ext st st [] :=
  ⟨rfl, rfl, rfl, rfl, Appends.refl, fun _ => (List.append_nil _).symm, h⟩

theorem sink_congr {a b : State} (h : b.hasFunc = a.hasFunc) : sink b = sink a := by
  simp [sink, h]

theorem ExtM.attached {a b : State} {w : Bytes} {m : Mode} (h : ExtM a b w m) (ha : Attached a) : Attached b := by
  unfold Attached at *
  rwa [h.hasFunc, h.outfd]

theorem ExtM.trans {a b c : State} {w1 w2 : Bytes} {m1 m2 : Mode} (h1 : ExtM a b w1 m1) (h2 : ExtM b c w2 m2) :
    ExtM a c (w1 ++ w2) m2 where
  hasFunc := h2.hasFunc.trans h1.hasFunc
  outfd := h2.outfd.trans h1.outfd
  bufLen := h2.bufLen.trans h1.bufLen
  mode := h2.mode
  out := Appends.trans h1.out (by have := h2.out; rwa [h1.bufLen, sink_congr h1.hasFunc] at this)
  eqn hat := by rw [h2.eqn (h1.attached hat), h1.eqn hat, List.append_assoc]
  wf := h2.wf

theorem ExtM.thenE {a b c : State} {w1 w2 : Bytes} {m : Mode} (h1 : ExtM a b w1 m) (h2 : Ext b c w2) :
    ExtM a c (w1 ++ w2) m := by
  have := ExtM.trans h1 h2
  rwa [h1.mode] at this

theorem Ext.trans {a b c : State} {w1 w2 : Bytes} (h1 : Ext a b w1) (h2 : Ext b c w2) : Ext a c (w1 ++ w2) :=
  ExtM.thenE h1 h2

theorem Ext.thenM {a b c : State} {w1 w2 : Bytes} {m : Mode} (h1 : Ext a b w1) (h2 : ExtM b c w2 m) :
    ExtM a c (w1 ++ w2) m := ExtM.trans h1 h2

theorem ExtM.setMode {a b : State} {w : Bytes} {m : Mode} (h : ExtM a b w m) (m' : Mode) :
    ExtM a { b with mode := m' } w m' :=
  ⟨h.hasFunc, h.outfd, h.bufLen, rfl, h.out, h.eqn, h.wf⟩

/-- The test in front of `write(2)` in `tickit_term_flush`, as read from the source, is `tt->outfd != -1`:
    every descriptor number — 0 included — is written to. -/
theorem flush_fd_guard_iff (fd : Int) : flush_fd_guard fd = true ↔ fd ≠ -1 := by
  simp [flush_fd_guard]

theorem write_str_fd_guard_iff (fd : Int) : write_str_fd_guard fd = true ↔ fd ≠ -1 := by
  simp [write_str_fd_guard]

theorem fd_guards_agree : write_str_fd_guard = flush_fd_guard :=
  funext fun fd => Bool.eq_iff_iff.2 ((write_str_fd_guard_iff fd).trans (flush_fd_guard_iff fd).symm)

theorem deliverWith_write_str (st : State) (b : Bytes) : deliverWith write_str_fd_guard st b = deliver st b := by
  rw [fd_guards_agree]; rfl

theorem deliver_attached (b : Bytes) (h : Attached st) :
    deliver st b = { st with out := st.out ++ [.data (sink st) b] } := by
  unfold deliver deliverWith sink
  cases hf : st.hasFunc
  · rw [(flush_fd_guard_iff _).2 (h.resolve_left (by rw [hf]; exact Bool.false_ne_true))]; rfl
  · rfl

theorem deliver_detached (b : Bytes) (h : ¬ Attached st) : deliver st b = st := by
  obtain ⟨hf, hd⟩ := not_or.1 h
  unfold deliver deliverWith
  rw [if_neg hf, if_neg fun g => hd ((flush_fd_guard_iff _).1 g)]

/-- The one place where an extension is built from a delivered chunk `d`: whatever was pending when it went out (`b1`,
    which `deliver` does not read), `b'` is pending afterwards. -/
theorem deliver_ext {b1 d b' w : Bytes} (heq : d ++ b' = st.buf ++ w)
    (hd : 0 < st.bufLen → 0 < d.length ∧ d.length ≤ st.bufLen) (hwf : WF { st with buf := b' }) :
    Ext st { deliver { st with buf := b1 } d with buf := b' } w := by
  by_cases hat : Attached st
  · rw [deliver_attached (st := { st with buf := b1 }) d hat]
    exact ⟨rfl, rfl, rfl, rfl, Appends.one (.inr ⟨d, rfl, hd⟩),
      fun _ => by simp only [stream_append, stream_data, List.append_assoc, heq], hwf⟩
  · rw [deliver_detached (st := { st with buf := b1 }) d hat]
    exact ⟨rfl, rfl, rfl, rfl, Appends.refl, fun h => absurd h hat, hwf⟩

theorem flush_buf (st : State) : (flush st).buf = [] := by
  unfold flush
  split
  · exact List.eq_nil_of_length_eq_zero ‹_›
  · rfl

theorem flush_ext_wf (h : WF st) : Ext st (flush st) [] := by
  unfold flush
  split
  · exact Ext.refl h
  · rename_i h0
    exact deliver_ext (b1 := st.buf) (by simp) (fun _ => ⟨Nat.pos_of_ne_zero h0, h.le⟩) (.of_buf_nil rfl)

theorem ExtM.flushed {a b : State} {w : Bytes} {m : Mode} (e : ExtM a b w m) (hat : Attached a) :
    stream (flush b).out = stream a.out ++ a.buf ++ w ∧ (flush b).buf = [] := by
  have h := (e.thenE (flush_ext_wf e.wf)).eqn hat
  rw [flush_buf, List.append_nil, List.append_nil] at h
  exact ⟨h, flush_buf b⟩

def OkExt (st : State) (o : Outcome) (w : Bytes) (m : Mode) : Prop := ∃ st', o = .ok st' ∧ ExtM st st' w m

theorem OkExt.ext {o : Outcome} {w : Bytes} {m : Mode} (h : OkExt st o w m) (ho : o = .ok st') :
    ExtM st st' w m := by
  obtain ⟨s, rfl, e⟩ := h
  cases ho; exact e

theorem OkExt.total {o : Outcome} {w : Bytes} {m : Mode} (h : OkExt st o w m) : ∃ st', o = .ok st' :=
  let ⟨s, hs, _⟩ := h; ⟨s, hs⟩

theorem OkExt.refl (hwf : WF st) : OkExt st (.ok st) [] st.mode := ⟨st, rfl, Ext.refl hwf⟩

theorem OkExt.bind {o : Outcome} {f : State → Outcome} {w1 w2 : Bytes} {m1 m2 : Mode}
    (h1 : OkExt st o w1 m1) (h2 : ∀ s1, ExtM st s1 w1 m1 → OkExt s1 (f s1) w2 m2) : OkExt st (o.bind f) (w1 ++ w2) m2 := by
  obtain ⟨s1, rfl, e1⟩ := h1
  obtain ⟨s2, hs2, e2⟩ := h2 s1 e1
  exact ⟨s2, hs2, e1.trans e2⟩

theorem OkExt.ite {c : Prop} [Decidable c] {a b : Outcome} {x y : Bytes} {m : Mode}
    (h1 : c → OkExt st a x m) (h2 : ¬ c → OkExt st b y m) :
    OkExt st (if c then a else b) (if c then x else y) m := by
  split
  · exact h1 ‹_›
  · exact h2 ‹_›

theorem OkExt.thenExt {o : Outcome} {w : Bytes} {m : Mode} (h : OkExt st o w m) {g : State → State}
    (hg : ∀ s, WF s → Ext s (g s) []) : OkExt st (o.bind fun s => .ok (g s)) w m := by
  obtain ⟨s1, rfl, e1⟩ := h
  have := e1.thenE (hg s1 e1.wf)
  exact ⟨_, rfl, by rwa [List.append_nil] at this⟩

/-- The tail `… ; if(flushes) tickit_term_flush(tt)` that most public calls and driver entry points have. -/
theorem OkExt.thenFlush {o : Outcome} {w : Bytes} {m : Mode} (h : OkExt st o w m) (b : Bool) :
    OkExt st (o.bind fun s => .ok (if b = true then flush s else s)) w m :=
  h.thenExt fun s hs => by
    split
    · exact flush_ext_wf hs
    · exact Ext.refl hs

theorem OkExt.thenMode {o : Outcome} {w : Bytes} {m : Mode} (h : OkExt st o w m) (g : Mode → Mode) :
    OkExt st (o.bind fun s => .ok { s with mode := g s.mode }) w (g m) := by
  obtain ⟨s1, rfl, e1⟩ := h
  exact ⟨_, rfl, e1.mode ▸ e1.setMode (g s1.mode)⟩

theorem bind_flush_buf {o : Outcome} {b : Bool} {st' : State}
    (h : (o.bind fun s => .ok (if b = true then flush s else s)) = .ok st') (hb : b = true) : st'.buf = [] := by
  obtain ⟨s1, _, h⟩ := bind_eq_ok.1 h
  subst hb; cases h; exact flush_buf s1

theorem space_facts {a b : Nat} (ha : a ≠ 0) (hb : 0 < b) :
    0 < (if a < b then a else b) ∧ (if a < b then a else b) ≤ b ∧ (if a < b then a else b) ≤ a := by
  by_cases h : a < b
  · rw [if_pos h]; exact ⟨Nat.pos_of_ne_zero ha, Nat.le_of_lt h, Nat.le_refl _⟩
  · rw [if_neg h]; exact ⟨hb, Nat.le_refl _, Nat.le_of_not_lt h⟩

/-- One round of the loop: `p` goes into the buffer, which is flushed when that fills it. -/
theorem fill_ext {p : Bytes} (hpos : 0 < st.bufLen) (hle : p.length + st.buf.length ≤ st.bufLen) :
    Ext st (let st1 := { st with buf := st.buf ++ p }; if st1.buf.length ≥ st1.bufLen then flush st1 else st1) p := by
  show Ext st (if (st.buf ++ p).length ≥ st.bufLen then _ else _) p
  split
  · rename_i hfull
    have hp := Nat.lt_of_lt_of_le hpos hfull
    unfold flush
    rw [if_neg (Nat.ne_of_gt hp)]
    exact deliver_ext (b1 := st.buf ++ p) (List.append_nil _)
      (fun _ => ⟨hp, by rw [List.length_append, Nat.add_comm]; exact hle⟩) (.of_buf_nil rfl)
  · rename_i hfull
    exact ⟨rfl, rfl, rfl, rfl, Appends.refl, fun _ => (List.append_assoc ..).symm,
      ⟨fun h0 => absurd h0 (Nat.ne_of_gt hpos), fun _ => Nat.lt_of_not_ge hfull⟩⟩

/-- `str.length + 1` rounds are enough, and the fill level never exceeds the buffer size (the `ub` arm is not taken). -/
theorem writeLoop_okExt : ∀ (fuel : Nat) (st : State) (str : Bytes), WF st → 0 < st.bufLen → str.length < fuel →
    OkExt st (writeLoop fuel st str) str st.mode
  | 0, _, _, _, _, hf => absurd hf (Nat.not_lt_zero _)
  | fuel + 1, st, str, hwf, hpos, hf => by
    unfold writeLoop
    by_cases hs : str.length = 0
    · rw [if_pos hs, List.eq_nil_of_length_eq_zero hs]
      exact .refl hwf
    · rw [if_neg hs, if_neg (Nat.not_lt.2 hwf.le)]
      simp only []
      have hsp := space_facts hs (Nat.sub_pos_of_lt (hwf.lt hpos))
      generalize (if str.length < st.bufLen - st.buf.length then str.length else st.bufLen - st.buf.length) = space
        at hsp ⊢
      have e1 := fill_ext (p := str.take space) hpos
        (Nat.add_le_of_le_sub hwf.le (Nat.le_trans (List.length_take_le ..) hsp.2.1))
      obtain ⟨st', h, e2⟩ := writeLoop_okExt fuel _ (str.drop space) e1.wf (Nat.lt_of_lt_of_eq hpos e1.bufLen.symm)
        (by rw [List.length_drop]
            exact Nat.lt_of_lt_of_le (Nat.sub_lt (Nat.pos_of_ne_zero hs) hsp.1) (Nat.le_of_lt_succ hf))
      refine ⟨st', h, ?_⟩
      have := Ext.trans e1 e2
      rwa [List.take_append_drop] at this

/-- A `write_str(tt, str, len)` request that stays inside the memory at `str`. -/
def ReqOK (mem : Bytes) (len : Nat) : Prop :=
  len ≤ mem.length ∧ (len = 0 → mem.contains 0 = true)

theorem effective_take (mem : Bytes) (len : Nat) :
    mem.take (if len = 0 then cstrlen mem else len) = effective mem len := by
  unfold effective
  split
  · exact take_cstrlen mem
  · rfl

theorem deliver_buf_eq (st : State) (d : Bytes) : { deliver st d with buf := st.buf } = deliver st d := by
  by_cases hat : Attached st
  · rw [deliver_attached d hat]
  · rw [deliver_detached d hat]

theorem writeStr_reqOK {mem : Bytes} {len : Nat} (h : writeStr st mem len = .ok st') : ReqOK mem len := by
  unfold writeStr at h
  by_cases h1 : len = 0 ∧ (!(mem.contains 0)) = true
  · rw [if_pos h1] at h; cases h
  · rw [if_neg h1] at h
    simp only [] at h
    by_cases h2 : mem.length < (if len = 0 then cstrlen mem else len)
    · rw [if_pos h2] at h; cases h
    · refine ⟨?_, fun h0 => ?_⟩
      · by_cases h0 : len = 0
        · exact h0 ▸ Nat.zero_le _
        · rw [if_neg h0] at h2; exact Nat.le_of_not_lt h2
      cases hc : mem.contains 0
      · exact absurd ⟨h0, by rw [hc]; rfl⟩ h1
      · rfl

theorem writeStr_okExt {mem : Bytes} {len : Nat} (hwf : WF st) (hr : ReqOK mem len) :
    OkExt st (writeStr st mem len) (effective mem len) st.mode := by
  unfold writeStr
  rw [if_neg (fun h => by rw [hr.2 h.1] at h; exact absurd h.2 (by decide)), ← effective_take]
  simp only []
  generalize hl : (if len = 0 then cstrlen mem else len) = n
  have hn : n ≤ mem.length := by
    subst hl; split
    · exact cstrlen_le mem
    · exact hr.1
  rw [if_neg (Nat.not_lt.2 hn)]
  split
  · exact writeLoop_okExt _ st _ hwf (Nat.pos_of_ne_zero ‹_›) (Nat.lt_of_le_of_lt (List.length_take_le ..) (by omega))
  · rename_i h0
    have hb : st.buf = [] := hwf.nil (Decidable.not_not.1 h0)
    rw [deliverWith_write_str, ← deliver_buf_eq]
    exact ⟨_, rfl, deliver_ext (b1 := st.buf) (by rw [hb]; exact List.append_nil _) (fun hp => absurd hp (Nat.not_lt.2 (Nat.le_of_eq (Decidable.not_not.1 h0)))) hwf⟩

theorem writeStr_ext {mem : Bytes} {len : Nat} (hwf : WF st)
    (h : writeStr st mem len = .ok st') : Ext st st' (effective mem len) :=
  (writeStr_okExt hwf (writeStr_reqOK h)).ext h

/-! A whole string asked for by its length: `bytes` stands at `str` (`hm`), and a string that may be empty is followed
    by its NUL (`h0`: a zero `len` means `strlen`).  The request stays inside the memory, and means `bytes`. -/

theorem whole_empty {mem bytes : Bytes} (h0 : bytes = [] → mem.head? = some 0) (hl : bytes.length = 0) :
    bytes = [] ∧ ∃ t, mem = 0 :: t := by
  obtain rfl := List.eq_nil_of_length_eq_zero hl
  cases mem with
  | nil => exact absurd (h0 rfl) (by simp)
  | cons b t => exact ⟨rfl, t, Option.some.inj (h0 rfl) ▸ rfl⟩

theorem reqOK_whole {mem bytes : Bytes} (hm : bytes <+: mem) (h0 : bytes = [] → mem.head? = some 0) :
    ReqOK mem bytes.length :=
  ⟨hm.length_le, fun hl => by obtain ⟨-, t, rfl⟩ := whole_empty h0 hl; simp⟩

theorem effective_whole {mem bytes : Bytes} (hm : bytes <+: mem) (h0 : bytes = [] → mem.head? = some 0) :
    effective mem bytes.length = bytes := by
  unfold effective
  by_cases hl : bytes.length = 0
  · obtain ⟨rfl, t, rfl⟩ := whole_empty h0 hl
    simp [cstr]
  · rw [if_neg hl]; exact (List.prefix_iff_eq_take.1 hm).symm

theorem writeWhole_okExt {mem bytes : Bytes} (hwf : WF st) (hm : bytes <+: mem) (h0 : bytes = [] → mem.head? = some 0) :
    OkExt st (writeStr st mem bytes.length) bytes st.mode := by
  have := writeStr_okExt hwf (reqOK_whole hm h0)
  rwa [effective_whole hm h0] at this

theorem Ext.thenOk {st s1 : State} {o : Outcome} {w1 w2 : Bytes} (e : Ext st s1 w1) (h : OkExt s1 o w2 s1.mode) :
    OkExt st o (w1 ++ w2) st.mode :=
  let ⟨s2, hs, e2⟩ := h; ⟨s2, hs, Ext.trans e e2⟩

theorem store_eq {cap : Nat} {s : Bytes} (h : s.length < cap) : vsnprintfStore cap s = s ++ [0] := by
  unfold vsnprintfStore
  rw [if_neg (Nat.ne_of_gt (Nat.zero_lt_of_lt h)), List.take_of_length_le (Nat.le_sub_one_of_lt h)]

/-- Either pass ends with `write_str(tt, buf, len)` on a buffer that held the whole result. -/
theorem writeStored_okExt {cap : Nat} {s : Bytes} (hwf : WF st) (h : s.length < cap) :
    OkExt st (writeStr st (vsnprintfStore cap s) s.length) s st.mode := by
  rw [store_eq h]
  exact writeWhole_okExt hwf (List.prefix_append s [0]) fun e => by rw [e]; rfl

theorem getTmpbuffer_ext (hwf : WF st) (len : Nat) : Ext st (getTmpbuffer st len) [] := by
  unfold getTmpbuffer
  split
  · exact ⟨rfl, rfl, rfl, rfl, Appends.refl, fun _ => (List.append_nil _).symm, hwf⟩
  · exact Ext.refl hwf

/-- The pass through the tmpbuffer, which `get_tmpbuffer(tt, len + 1)` has made large enough. -/
theorem tmpStored_okExt (hwf : WF st) (s : Bytes) :
    OkExt st (writeStr (getTmpbuffer st (s.length + 1)) (vsnprintfStore (s.length + 1) s) s.length) s st.mode :=
  (getTmpbuffer_ext hwf _).thenOk (writeStored_okExt (getTmpbuffer_ext hwf _).wf (Nat.lt_succ_self _))

theorem writeVstrf_okExt (hwf : WF st) (s : Bytes) : OkExt st (writeVstrf st s) s st.mode := by
  unfold writeVstrf
  simp only []
  split
  · exact writeStored_okExt hwf ‹_›
  · exact tmpStored_okExt hwf s

theorem termVprintf_okExt (hwf : WF st) (s : Bytes) : OkExt st (termVprintf st s) s st.mode :=
  tmpStored_okExt hwf s

theorem termVprintf_ext {s : Bytes} (hwf : WF st) (h : termVprintf st s = .ok st') :
    Ext st st' s :=
  (termVprintf_okExt hwf s).ext h

/-! ### what each public call requests: a function of the mode only (the unbuffered stream) -/

def litBytes (b : Bytes) (len : Nat) : Bytes := effective (literal b) len

/-- xterm `teardown()` (`.stop`, `.pause`). -/
def teardownBytes (m : Mode) : Bytes :=
  (if (!m.cursorvis) = true then litBytes teardown_cursorvis teardown_cursorvis_len else []) ++
  ((if m.altscreen = true then litBytes teardown_altscreen teardown_altscreen_len else []) ++
   litBytes teardown_pen_reset teardown_pen_reset_len)

/-- xterm `resume()`. -/
def resumeBytes (m : Mode) : Bytes :=
  (if m.altscreen = true then litBytes resume_altscreen resume_altscreen_len else []) ++
  (if (!m.cursorvis) = true then litBytes resume_cursorvis resume_cursorvis_len else [])

def fmtsBytes : List (List Piece) → Bytes
  | [] => []
  | f :: r => render f [] [] ++ fmtsBytes r

/-- xterm `start()`. -/
def startBytes : Bytes := fmtsBytes start_fmts

def gotoBytes (line col : Int) : Bytes :=
  if line ≠ -1 ∧ col > 0 then render goto_fmt_line_col [line + 1, col + 1] []
  else if line ≠ -1 ∧ col = 0 then render goto_fmt_line_col0 [line + 1] []
  else if line ≠ -1 then render goto_fmt_line [line + 1] []
  else if col > 0 then render goto_fmt_col [col + 1] []
  else if col ≠ -1 then litBytes goto_col0 goto_col0_len
  else []

def ctlBytes (m : Mode) : Ctl → Bool → Bytes
  | .altscreen, v => if m.altscreen = v then [] else litBytes (if v then altscreen_on else altscreen_off) altscreen_setctl_len
  | .cursorvis, v => if m.cursorvis = v then [] else litBytes (if v then cursorvis_on else cursorvis_off) cursorvis_setctl_len

/-- `tickit_term_teardown` before its flush. -/
def stopBytes (m : Mode) : Bytes :=
  if m.started = true then (if stop_is_teardown = true then teardownBytes m else []) else []

def requested (m : Mode) : Op → Bytes
  | .printn mem len => printnBytes mem len
  | .print mem => cstr mem
  | .printf mem d => render printfFmt [d] [mem]
  | .title mem => render title_fmt [] [mem]
  | .goto l c => gotoBytes l c
  | .ctl c v => ctlBytes m c v
  | .flush => []
  | .pause => if pause_is_teardown = true then teardownBytes m else []
  | .resume => resumeBytes m
  | .teardown => stopBytes m
  | .setbuf _ => []
  | .setFd _ => if m.started = true then [] else startBytes
  | .setFunc => if m.started = true then [] else startBytes
  | .destroy => stopBytes m

def nextMode (m : Mode) : Op → Mode
  | .ctl .altscreen v => { m with altscreen := v }
  | .ctl .cursorvis v => { m with cursorvis := v }
  | .teardown => { m with started := false }
  | .destroy => { m with started := false }
  | .setFd _ => { m with started := true }
  | .setFunc => { m with started := true }
  | _ => m

def written (m : Mode) : List Op → Bytes
  | [] => []
  | o :: os => requested m o ++ written (nextMode m o) os

theorem effective_cstrlen (mem : Bytes) : effective mem (cstrlen mem) = cstr mem := by
  unfold effective
  split
  · rfl
  · exact take_cstrlen mem

theorem reqOK_literal (b : Bytes) (len : Nat) (h : len ≤ b.length + 1) : ReqOK (literal b) len :=
  ⟨by unfold literal; simpa using h, fun _ => by simp [literal]⟩

theorem lit_okExt {b : Bytes} {len : Nat} (hwf : WF st) (h : len ≤ b.length + 1) :
    OkExt st (writeStr st (literal b) len) (litBytes b len) st.mode :=
  writeStr_okExt hwf (reqOK_literal b len h)

theorem condLit_okExt {b : Bytes} {len : Nat} (c : Prop) [Decidable c] (hwf : WF st)
    (h : len ≤ b.length + 1) :
    OkExt st (if c then writeStr st (literal b) len else .ok st) (if c then litBytes b len else []) st.mode :=
  .ite (fun _ => lit_okExt hwf h) (fun _ => .refl hwf)

theorem drvGoto_okExt (hwf : WF st) (l c : Int) : OkExt st (drvGoto st l c) (gotoBytes l c) st.mode :=
  .ite (fun _ => writeVstrf_okExt hwf _) fun _ => .ite (fun _ => writeVstrf_okExt hwf _) fun _ =>
  .ite (fun _ => writeVstrf_okExt hwf _) fun _ => .ite (fun _ => writeVstrf_okExt hwf _) fun _ =>
  condLit_okExt _ hwf (by decide)

theorem drvSetctl_okExt (hwf : WF st) (c : Ctl) (v : Bool) :
    OkExt st (drvSetctl st c v) (ctlBytes st.mode c v) (nextMode st.mode (.ctl c v)) := by
  cases c
  · exact .ite (fun he => by subst he; exact .refl hwf) fun _ =>
      (lit_okExt hwf (by cases v <;> decide)).thenMode fun m => { m with altscreen := v }
  · exact .ite (fun he => by subst he; exact .refl hwf) fun _ =>
      (lit_okExt hwf (by cases v <;> decide)).thenMode fun m => { m with cursorvis := v }

theorem writeFmts_okExt : ∀ (fs : List (List Piece)) (st : State), WF st → OkExt st (writeFmts st fs) (fmtsBytes fs) st.mode
  | [], _, hwf => .refl hwf
  | f :: r, _, hwf => (writeVstrf_okExt hwf (render f [] [])).bind fun s1 e1 => e1.mode ▸ writeFmts_okExt r s1 e1.wf

theorem drvStart_okExt (hwf : WF st) : OkExt st (drvStart st) startBytes st.mode :=
  (writeFmts_okExt start_fmts st hwf).thenFlush _

theorem drvTeardown_okExt (hwf : WF st) : OkExt st (drvTeardown st) (teardownBytes st.mode) st.mode := by
  unfold drvTeardown teardownBytes
  refine (condLit_okExt _ hwf (by decide)).bind fun s1 e1 => ?_
  rw [← e1.mode]
  refine (condLit_okExt _ e1.wf (by decide)).bind fun s2 e2 => ?_
  rw [← e2.mode]
  exact (lit_okExt e2.wf (by decide)).thenFlush _

theorem drvResume_okExt (hwf : WF st) : OkExt st (drvResume st) (resumeBytes st.mode) st.mode := by
  unfold drvResume resumeBytes
  refine (condLit_okExt _ hwf (by decide)).bind fun s1 e1 => ?_
  rw [← e1.mode]
  exact (condLit_okExt _ e1.wf (by decide)).thenFlush _

theorem mode_started_eq (m : Mode) (b : Bool) (h : m.started = b) : { m with started := b } = m := by
  subst h; rfl

theorem termTeardown_okExt (hwf : WF st) :
    OkExt st (termTeardown st) (stopBytes st.mode) { st.mode with started := false } :=
  OkExt.thenFlush (b := term_teardown_flushes) <| .ite
    (fun _ => (OkExt.ite (fun _ => drvTeardown_okExt hwf) (fun _ => .refl hwf)).thenMode fun m => { m with started := false })
    (fun hs => by rw [mode_started_eq _ _ (Bool.eq_false_iff.2 hs)]; exact .refl hwf)

theorem termPause_okExt (hwf : WF st) :
    OkExt st (termPause st) (if pause_is_teardown = true then teardownBytes st.mode else []) st.mode :=
  (OkExt.ite (fun _ => drvTeardown_okExt hwf) (fun _ => .refl hwf)).thenFlush _

theorem termResume_okExt (hwf : WF st) : OkExt st (termResume st) (resumeBytes st.mode) st.mode :=
  (drvResume_okExt hwf).thenFlush _

/-- `(*tt->outfunc)(tt, NULL, 0, user)` if there is an output function: what `tickit_term_set_output_func` tells the
    previous one and `tickit_term_destroy` the last. -/
def toldFin (st : State) : State := if st.hasFunc = true then { st with out := st.out ++ [.fin] } else st

theorem fin_ext (hwf : WF st) : Ext st (toldFin st) [] := by
  unfold toldFin
  split
  · exact ⟨rfl, rfl, rfl, rfl, Appends.one (.inl rfl), fun _ => by simp only [stream_append, stream_fin, List.append_nil], hwf⟩
  · exact Ext.refl hwf

theorem termDestroy_okExt (hwf : WF st) :
    OkExt st (termDestroy st) (stopBytes st.mode) { st.mode with started := false } :=
  (termTeardown_okExt hwf).thenExt (g := fun s => toldFin (flush s)) fun _ hs =>
    (flush_ext_wf hs).trans (fin_ext (flush_ext_wf hs).wf)

theorem startIfUnstarted_okExt (hwf : WF st) :
    OkExt st (startIfUnstarted st) (if st.mode.started = true then [] else startBytes) { st.mode with started := true } :=
  .ite (fun hs => by rw [mode_started_eq _ _ hs]; exact .refl hwf)
    (fun _ => (drvStart_okExt hwf).thenMode fun m => { m with started := true })

/-- The state in which a call starts to write: after the change it makes to the output method, if any. -/
def prep (st : State) : Op → State
  | .setFd fd => postFd st fd
  | .setFunc => { toldFin st with hasFunc := true }
  | _ => st

structure Prepared (st s : State) : Prop where
  buf : s.buf = st.buf
  bufLen : s.bufLen = st.bufLen
  mode : s.mode = st.mode
  out : Appends (· = .fin) st.out s.out

theorem prep_facts (st : State) (o : Op) : Prepared st (prep st o) := by
  unfold prep
  split
  · exact ⟨rfl, rfl, rfl, .refl⟩
  · unfold toldFin
    split
    · exact ⟨rfl, rfl, rfl, .one rfl⟩
    · exact ⟨rfl, rfl, rfl, .refl⟩
  · exact ⟨rfl, rfl, rfl, .refl⟩

theorem prep_wf (hwf : WF st) (o : Op) : WF (prep st o) := by
  unfold WF; rw [(prep_facts st o).buf, (prep_facts st o).bufLen]; exact hwf

/-- The precondition of the property for one call: the buffer size changes only while nothing is pending,
    and bytes are written only when there is somewhere to deliver them. -/
def OpAdmissible (st : State) : Op → Prop
  | .setbuf _ => st.buf = []
  | .setFd fd => Attached (postFd st fd)
  | .setFunc => True
  | _ => Attached st

theorem OpAdmissible.attached {o : Op} (h : OpAdmissible st o) (hns : ∀ n, o ≠ .setbuf n) :
    Attached (prep st o) := by
  cases o
  case setbuf n => exact absurd rfl (hns n)
  case setFunc => exact Or.inl rfl
  all_goals exact h

theorem opAdmissible_of_attached {o : Op} (ha : Attached st) (hns : ∀ n, o ≠ .setbuf n)
    (hnd : o ≠ .setFd (-1)) : OpAdmissible st o := by
  cases o
  case setbuf n => exact absurd rfl (hns n)
  case setFd fd => exact Or.inr fun (h0 : fd = -1) => hnd (by rw [h0])
  case setFunc => trivial
  all_goals exact ha

/-- The caller's side of the contract: the memory at `str` really holds what is asked for. -/
def OpOK : Op → Prop
  | .printn mem len => ReqOK mem len
  | .print mem => mem.contains 0 = true
  | .printf mem _ => mem.contains 0 = true
  | .title mem => mem.contains 0 = true
  | _ => True

/-- The `strlen`/`%s` arguments: the model takes the `ub` arm exactly when there is no NUL (`guard_ok`: only then;
    `OkExt.guard`: then not). -/
theorem guard_ok {b : Bool} {w : String} {o : Outcome} {st' : State} (h : (if (!b) = true then .ub w else o) = .ok st') :
    b = true := by
  cases b
  · cases h
  · rfl

theorem OkExt.guard {b : Bool} {s : String} {o : Outcome} {w : Bytes} {m : Mode} (hb : b = true)
    (h : OkExt st o w m) : OkExt st (if (!b) = true then .ub s else o) w m := by
  subst hb; exact h

/-- What every call but `tickit_term_set_output_buffer` does, given what the caller owes (`OpOK`): it does not read
    outside its argument, overrun the output buffer (`outbuffer_cur ≤ outbuffer_len` is never violated) or loop
    for ever; it extends `prep st o` by the bytes it requests. -/
theorem step_okExt {o : Op} (hwf : WF st) (hok : OpOK o) (hns : ∀ n, o ≠ .setbuf n) :
    OkExt (prep st o) (step st o) (requested st.mode o) (nextMode st.mode o) := by
  cases o with
  | printn mem len => exact .ite (fun _ => .refl hwf) (fun _ => writeStr_okExt hwf hok)
  | print mem =>
    have := writeStr_okExt hwf (mem := mem) ⟨cstrlen_le mem, fun _ => hok⟩
    rw [effective_cstrlen] at this
    exact .guard hok this
  | printf mem d => exact .guard hok (termVprintf_okExt hwf _)
  | title mem => exact .guard hok (writeVstrf_okExt hwf _)
  | goto l c => exact drvGoto_okExt hwf l c
  | ctl c v => exact drvSetctl_okExt hwf c v
  | flush => exact ⟨_, rfl, flush_ext_wf hwf⟩
  | pause => exact termPause_okExt hwf
  | resume => exact termResume_okExt hwf
  | teardown => exact termTeardown_okExt hwf
  | destroy => exact termDestroy_okExt hwf
  | setbuf n => exact absurd rfl (hns n)
  | setFd fd => exact startIfUnstarted_okExt (st := postFd st fd) hwf
  | setFunc =>
    have := startIfUnstarted_okExt (prep_wf hwf .setFunc)
    rwa [(prep_facts st .setFunc).mode] at this

/-- A call other than `tickit_term_set_output_buffer` that ends well is an extension: it ends well only if the caller
    kept the contract `OpOK`, a zero-length `printn` apart. -/
theorem step_extM {o : Op} (hwf : WF st) (h : step st o = .ok st') (hns : ∀ n, o ≠ .setbuf n) :
    ExtM (prep st o) st' (requested st.mode o) (nextMode st.mode o) := by
  by_cases hok : OpOK o
  · exact (step_okExt hwf hok hns).ext h
  · cases o
    case printn mem len =>
      by_cases hz : printn_zero_len_returns = true ∧ len = 0
      · simp only [step, termPrintn, requested, printnBytes, if_pos hz] at h ⊢
        cases h; exact Ext.refl hwf
      · simp only [step, termPrintn, if_neg hz] at h
        exact absurd (writeStr_reqOK h) hok
    case print mem => exact absurd (guard_ok h) hok
    case printf mem d => exact absurd (guard_ok h) hok
    case title mem => exact absurd (guard_ok h) hok
    all_goals exact absurd trivial hok

theorem step_cases {o : Op} (hwf : WF st) (h : step st o = .ok st') :
    (∃ n, o = .setbuf n ∧ st' = setOutputBuffer st n) ∨
    ((∀ n, o ≠ .setbuf n) ∧ ExtM (prep st o) st' (requested st.mode o) (nextMode st.mode o)) := by
  by_cases hs : ∃ n, o = .setbuf n
  · obtain ⟨n, rfl⟩ := hs
    cases h; exact .inl ⟨n, rfl, rfl⟩
  · exact .inr ⟨fun n hn => hs ⟨n, hn⟩, step_extM hwf h fun n hn => hs ⟨n, hn⟩⟩

/-- "Fill level < n between calls": every call preserves it — also a change of buffer size with output pending. -/
theorem step_wf {o : Op} (hwf : WF st) (h : step st o = .ok st') : WF st' := by
  rcases step_cases hwf h with ⟨n, _, rfl⟩ | ⟨_, e⟩
  · exact .of_buf_nil rfl
  · exact e.wf

theorem step_mode {o : Op} (hwf : WF st) (h : step st o = .ok st') :
    st'.mode = nextMode st.mode o := by
  rcases step_cases hwf h with ⟨n, rfl, rfl⟩ | ⟨_, e⟩
  · rfl
  · exact e.mode

theorem step_attached {o : Op} (hwf : WF st) (h : step st o = .ok st') (ha : Attached st)
    (hnd : o ≠ .setFd (-1)) : Attached st' := by
  rcases step_cases hwf h with ⟨n, _, rfl⟩ | ⟨hns, e⟩
  · exact ha
  · exact e.attached ((opAdmissible_of_attached ha hns hnd).attached hns)

theorem step_bufLen {o : Op} (hwf : WF st) (h : step st o = .ok st') (hns : ∀ n, o ≠ .setbuf n) :
    st'.bufLen = st.bufLen :=
  (step_extM hwf h hns).bufLen.trans (prep_facts st o).bufLen

/-- Every call appends only well-formed chunks: for the output method in force after the call, and — with a
    buffer of `n` bytes in force when the call was made — neither empty nor longer than `n`. -/
theorem step_chunks {o : Op} (hwf : WF st) (h : step st o = .ok st') :
    Appends (ChunkOK st.bufLen (sink st')) st.out st'.out := by
  rcases step_cases hwf h with ⟨n, _, rfl⟩ | ⟨_, e⟩
  · exact .refl
  · have := e.out
    rw [(prep_facts st o).bufLen, ← sink_congr e.hasFunc] at this
    exact ((prep_facts st o).out.mono fun _ => .inl).trans this

theorem step_total {o : Op} (hwf : WF st) (hadm : OpAdmissible st o) (h : step st o = .ok st') :
    stream st'.out ++ st'.buf = stream st.out ++ st.buf ++ requested st.mode o := by
  rcases step_cases hwf h with ⟨n, rfl, rfl⟩ | ⟨hns, e⟩
  · have hb : st.buf = [] := hadm
    simp [setOutputBuffer, requested, hb]
  · have := e.eqn (hadm.attached hns)
    rwa [(prep_facts st o).out.stream_fin, (prep_facts st o).buf] at this

theorem step_ok {o : Op} (hwf : WF st) (hok : OpOK o) : ∃ st', step st o = .ok st' := by
  by_cases hs : ∃ n, o = .setbuf n
  · obtain ⟨n, rfl⟩ := hs
    exact ⟨_, rfl⟩
  · exact (step_okExt hwf hok fun n hn => hs ⟨n, hn⟩).total

theorem step_ok_wf {o : Op} (hwf : WF st) (hok : OpOK o) : ∃ st', step st o = .ok st' ∧ WF st' :=
  let ⟨s, h⟩ := step_ok hwf hok; ⟨s, h, step_wf hwf h⟩

theorem opOK_printn_whole {bytes : Bytes} (h : bytes ≠ []) : OpOK (.printn bytes bytes.length) :=
  reqOK_whole (List.prefix_refl _) fun e => absurd e h

/-! ### histories

  `Admissible` is the property's own precondition, call by call; each `run_*` lemma asks only for what it needs of it:
  `NoSetbuf` (the buffer size stays), `NoDetach` (the descriptor is never taken away; with `NoSetbuf`, from an attached
  state, it gives `Admissible`), no `IsConfig` call (neither changes: the history is one `ExtM`, `run_extM`).
-/

def Admissible : State → List Op → Prop
  | _, [] => True
  | st, o :: os => OpAdmissible st o ∧ ∀ st', step st o = .ok st' → Admissible st' os

def NoSetbuf (ops : List Op) : Prop := ∀ o ∈ ops, ∀ n, o ≠ .setbuf n

/-- The history never takes the output descriptor away (`tickit_term_set_output_fd(tt, -1)`). -/
def NoDetach (ops : List Op) : Prop := ∀ o ∈ ops, o ≠ .setFd (-1)

theorem run_cons {o : Op} {os : List Op} (h : run st (o :: os) = .ok st') :
    ∃ s1, step st o = .ok s1 ∧ run s1 os = .ok st' := bind_eq_ok.1 h

theorem run_append {a b : List Op} :
    run st (a ++ b) = .ok st' ↔ ∃ s1, run st a = .ok s1 ∧ run s1 b = .ok st' := by
  induction a generalizing st with
  | nil => exact ⟨fun h => ⟨st, rfl, h⟩, fun ⟨_, h1, h2⟩ => by cases h1; exact h2⟩
  | cons o os ih =>
    show (step st o).bind (fun s => run s (os ++ b)) = _ ↔ ∃ s1, (step st o).bind (fun s => run s os) = _ ∧ _
    cases step st o <;> simp [Outcome.bind, ih]

theorem run_wf : ∀ (ops : List Op) (st st' : State), WF st → run st ops = .ok st' → WF st'
  | [], _, _, hwf, h => by cases h; exact hwf
  | _ :: os, _, st', hwf, h => let ⟨s1, h1, h2⟩ := run_cons h; run_wf os s1 st' (step_wf hwf h1) h2

theorem run_mode_total : ∀ (ops : List Op) (st st' : State), WF st → Admissible st ops → run st ops = .ok st' →
    stream st'.out ++ st'.buf = stream st.out ++ st.buf ++ written st.mode ops
  | [], _, _, _, _, h => by cases h; exact (List.append_nil _).symm
  | o :: os, st, st', hwf, hadm, h => by
    obtain ⟨s1, h1, h2⟩ := run_cons h
    rw [run_mode_total os s1 st' (step_wf hwf h1) (hadm.2 s1 h1) h2, step_total hwf hadm.1 h1, step_mode hwf h1,
      List.append_assoc]
    rfl

theorem admissible_of_noSetbuf : ∀ (ops : List Op) (st : State), WF st → Attached st → NoSetbuf ops → NoDetach ops →
    Admissible st ops
  | [], _, _, _, _, _ => trivial
  | o :: os, _, hwf, hat, hns, hnd =>
    have hd := hnd o (List.mem_cons_self ..)
    ⟨opAdmissible_of_attached hat (hns o (List.mem_cons_self ..)) hd, fun s1 h1 =>
      admissible_of_noSetbuf os s1 (step_wf hwf h1) (step_attached hwf h1 hat hd)
        (fun o ho => hns o (List.mem_cons_of_mem _ ho)) (fun o ho => hnd o (List.mem_cons_of_mem _ ho))⟩

/-- Dest-free form of `ChunkOK`, for histories in which the output method may change. -/
def ChunkFits (n : Nat) (c : Chunk) : Prop :=
  c = .fin ∨ ∃ d b, c = .data d b ∧ (0 < n → 0 < b.length ∧ b.length ≤ n)

theorem ChunkOK.fits {n : Nat} {d : Dest} {c : Chunk} (h : ChunkOK n d c) : ChunkFits n c :=
  h.imp id fun ⟨b, hb, hn⟩ => ⟨d, b, hb, hn⟩

theorem run_bufLen : ∀ (ops : List Op) (st st' : State), WF st → NoSetbuf ops → run st ops = .ok st' →
    st'.bufLen = st.bufLen
  | [], _, _, _, _, h => by cases h; rfl
  | o :: os, _, st', hwf, hns, h =>
    let ⟨s1, h1, h2⟩ := run_cons h
    (run_bufLen os s1 st' (step_wf hwf h1) (fun o ho => hns o (List.mem_cons_of_mem _ ho)) h2).trans
      (step_bufLen hwf h1 (hns o (List.mem_cons_self ..)))

theorem run_chunks : ∀ (ops : List Op) (st st' : State), WF st → NoSetbuf ops → run st ops = .ok st' →
    Appends (ChunkFits st.bufLen) st.out st'.out
  | [], _, _, _, _, h => by cases h; exact .refl
  | o :: os, st, st', hwf, hns, h => by
    obtain ⟨s1, h1, h2⟩ := run_cons h
    have hc2 := run_chunks os s1 st' (step_wf hwf h1) (fun o ho => hns o (List.mem_cons_of_mem _ ho)) h2
    rw [step_bufLen hwf h1 (hns o (List.mem_cons_self ..))] at hc2
    exact ((step_chunks hwf h1).mono fun _ => ChunkOK.fits).trans hc2

theorem run_unbuffered {ops : List Op} (hwf : WF st) (h0 : st.bufLen = 0) (hns : NoSetbuf ops)
    (h : run st ops = .ok st') : st'.buf = [] :=
  (run_wf ops st st' hwf h).nil ((run_bufLen ops st st' hwf hns h).trans h0)

theorem run_ok : ∀ (ops : List Op) (st : State), WF st → (∀ o ∈ ops, OpOK o) → ∃ st', run st ops = .ok st'
  | [], st, _, _ => ⟨st, rfl⟩
  | o :: os, _, hwf, hok =>
    let ⟨s1, h1⟩ := step_ok hwf (hok o (List.mem_cons_self ..))
    let ⟨s2, h2⟩ := run_ok os s1 (step_wf hwf h1) fun o ho => hok o (List.mem_cons_of_mem _ ho)
    ⟨s2, bind_eq_ok.2 ⟨s1, h1, h2⟩⟩

def IsConfig : Op → Prop
  | .setbuf _ => True
  | .setFd _ => True
  | .setFunc => True
  | _ => False

theorem prep_of_not_config {o : Op} (h : ¬ IsConfig o) : prep st o = st := by
  cases o <;> first | rfl | exact absurd trivial h

/-- A history without configuration calls is one extension: by what it writes, of the one buffer, for the one sink. -/
theorem run_extM : ∀ (ops : List Op) (st st' : State), WF st → (∀ o ∈ ops, ¬ IsConfig o) → run st ops = .ok st' →
    ∃ m, ExtM st st' (written st.mode ops) m
  | [], st, _, hwf, _, h => by cases h; exact ⟨_, Ext.refl hwf⟩
  | o :: os, st, st', hwf, hnc, h => by
    obtain ⟨s1, h1, h2⟩ := run_cons h
    have hc := hnc o (List.mem_cons_self ..)
    have e1 := step_extM hwf h1 fun n hn => hc (hn ▸ trivial)
    rw [prep_of_not_config hc] at e1
    obtain ⟨m, e2⟩ := run_extM os s1 st' e1.wf (fun o ho => hnc o (List.mem_cons_of_mem _ ho)) h2
    rw [e1.mode] at e2
    exact ⟨m, e1.trans e2⟩

theorem step_flush_buf (h : step st .flush = .ok st') : st'.buf = [] := by
  cases h; exact flush_buf st

/-- Starting the driver ends with the flush of xterm's `start` (`start_ends_with_flush`, read from the source). -/
theorem startIfUnstarted_buf (hns : st.mode.started = false) (h : startIfUnstarted st = .ok st') : st'.buf = [] := by
  unfold startIfUnstarted at h
  rw [hns, if_neg Bool.false_ne_true] at h
  obtain ⟨s1, h1, h⟩ := bind_eq_ok.1 h
  cases h
  exact bind_flush_buf (st' := s1) (b := start_ends_with_flush) h1 rfl

theorem NoSetbuf.flush {ops : List Op} (h : NoSetbuf ops) : NoSetbuf (ops ++ [.flush]) :=
  List.forall_mem_append.2 ⟨h, List.forall_mem_singleton.2 nofun⟩

theorem NoDetach.flush {ops : List Op} (h : NoDetach ops) : NoDetach (ops ++ [.flush]) :=
  List.forall_mem_append.2 ⟨h, List.forall_mem_singleton.2 nofun⟩

/-! ### a decidable sufficient test for `Admissible` -/

def opAdmissibleB (st : State) : Op → Bool
  | .setbuf _ => st.buf.isEmpty
  | .setFd fd => st.hasFunc || decide (fd ≠ -1)
  | .setFunc => true
  | _ => st.hasFunc || decide (st.outfd ≠ -1)

def admissibleB : State → List Op → Bool
  | _, [] => true
  | st, o :: os => opAdmissibleB st o &&
    (match step st o with
     | .ok s1 => admissibleB s1 os
     | _ => true)

theorem attached_of_test (h : (st.hasFunc || decide (st.outfd ≠ -1)) = true) : Attached st :=
  (Bool.or_eq_true_iff.1 h).imp id of_decide_eq_true

theorem opAdmissibleB_sound {o : Op} (h : opAdmissibleB st o = true) : OpAdmissible st o := by
  cases o
  case setbuf n => exact List.isEmpty_iff.1 h
  case setFd fd => exact attached_of_test (st := postFd st fd) h
  case setFunc => trivial
  all_goals exact attached_of_test h

theorem admissibleB_sound : ∀ (ops : List Op) (st : State), admissibleB st ops = true → Admissible st ops := by
  intro ops
  induction ops with
  | nil => intro _ _; trivial
  | cons o os ih =>
    intro st h
    simp only [admissibleB, Bool.and_eq_true] at h
    exact ⟨opAdmissibleB_sound h.1, fun s1 h1 => ih s1 (by have h2 := h.2; rwa [h1] at h2)⟩

/-! ### closed runs, left to the kernel -/

def Outcome.isOk : Outcome → Bool
  | .ok _ => true
  | _ => false

def Outcome.state : Outcome → State
  | .ok st => st
  | _ => {}

/-- Names the final state of a closed run without computing it in the elaborator: `h` and whatever is then said
    about `o.state` are left to the kernel (`decide +kernel`). -/
theorem Outcome.eq_ok {o : Outcome} (h : o.isOk = true) : o = .ok o.state := by
  cases o <;> first | rfl | cases h

theorem Outcome.exists_ok {o : Outcome} {P : State → Prop} (h : o.isOk = true ∧ P o.state) : ∃ s, o = .ok s ∧ P s :=
  ⟨_, eq_ok h.1, h.2⟩

theorem Outcome.exists_ok₂ {o1 o2 : Outcome} {P : State → State → Prop}
    (h : o1.isOk = true ∧ o2.isOk = true ∧ P o1.state o2.state) : ∃ s r, o1 = .ok s ∧ o2 = .ok r ∧ P s r :=
  ⟨_, _, eq_ok h.1, eq_ok h.2.1, h.2.2⟩

/-! ### the histories by which the harness builds a terminal (`buildOps`) -/

theorem admissible_append : ∀ (a b : List Op) (st : State), Admissible st a →
    (∀ s1, run st a = .ok s1 → Admissible s1 b) → Admissible st (a ++ b)
  | [], _, st, _, h => h st rfl
  | _ :: os, b, _, ha, hb =>
    ⟨ha.1, fun s1 h1 => admissible_append os b s1 (ha.2 s1 h1) fun s2 h2 => hb s2 (bind_eq_ok.2 ⟨s1, h1, h2⟩)⟩

def IsAttach (o : Op) : Prop := (∃ fd, o = .setFd fd ∧ fd ≠ -1) ∨ o = .setFunc

theorem IsAttach.admissible {o : Op} (h : IsAttach o) : OpAdmissible st o := by
  rcases h with ⟨fd, rfl, hfd⟩ | rfl
  · exact Or.inr hfd
  · trivial

theorem IsAttach.ne_detach {o : Op} (h : IsAttach o) : o ≠ .setFd (-1) := by
  rcases h with ⟨fd, rfl, hfd⟩ | rfl
  · exact fun h0 => hfd (Op.setFd.inj h0)
  · exact fun h0 => nomatch h0

theorem admissible_attach : ∀ (ops : List Op) (st : State), (∀ o ∈ ops, IsAttach o) → Admissible st ops
  | [], _, _ => trivial
  | o :: os, _, h =>
    ⟨(h o (List.mem_cons_self ..)).admissible, fun s1 _ => admissible_attach os s1 fun o ho => h o (List.mem_cons_of_mem _ ho)⟩

theorem step_attach_attached {o : Op} (hwf : WF st) (ho : IsAttach o) (h : step st o = .ok st') :
    Attached st' := by
  have hns : ∀ n, o ≠ .setbuf n := by
    rcases ho with ⟨fd, rfl, _⟩ | rfl <;> exact fun _ h => nomatch h
  exact (step_extM hwf h hns).attached (ho.admissible.attached hns)

theorem run_attached : ∀ (ops : List Op) (st st' : State), WF st → run st ops = .ok st' → NoDetach ops →
    (Attached st ∨ ∃ o ∈ ops, IsAttach o) → Attached st'
  | [], _, _, _, h, _, hat => by
    cases h
    exact hat.resolve_right fun ⟨_, ho, _⟩ => nomatch ho
  | o :: os, st, st', hwf, h, hnd, hat => by
    obtain ⟨s1, h1, h2⟩ := run_cons h
    refine run_attached os s1 st' (step_wf hwf h1) h2 (fun o ho => hnd o (List.mem_cons_of_mem _ ho)) ?_
    rcases hat with hat | ⟨o', ho', ha⟩
    · exact Or.inl (step_attached hwf h1 hat (hnd o (List.mem_cons_self ..)))
    · rcases List.mem_cons.1 ho' with rfl | hm
      · exact Or.inl (step_attach_attached hwf ha h1)
      · exact Or.inr ⟨o', hm, ha⟩

def attachOps (useFunc useFd : Bool) (fd : Int) : List Op :=
  (if useFd then [Op.setFd fd] else []) ++ (if useFunc then [Op.setFunc] else [])

theorem buildOps_eq (n : Nat) (f d early : Bool) (fd : Int) :
    buildOps n f d early fd = if early then Op.setbuf n :: attachOps f d fd
      else attachOps f d fd ++ (if n ≠ 0 then [Op.setbuf n] else []) := rfl

theorem mem_attachOps {f d : Bool} {fd : Int} {o : Op} :
    o ∈ attachOps f d fd ↔ (d = true ∧ o = .setFd fd) ∨ (f = true ∧ o = .setFunc) := by
  cases f <;> cases d <;> simp [attachOps]

theorem mem_buildOps {n : Nat} {f d early : Bool} {fd : Int} {o : Op} (h : o ∈ buildOps n f d early fd) :
    o = .setbuf n ∨ o ∈ attachOps f d fd := by
  rw [buildOps_eq] at h
  split at h
  · exact List.mem_cons.1 h
  · rcases List.mem_append.1 h with h | h
    · exact .inr h
    · split at h
      · exact .inl (List.mem_singleton.1 h)
      · nomatch h

theorem attachOps_isAttach (f d : Bool) (fd : Int) (hfd : fd ≠ -1) : ∀ o ∈ attachOps f d fd, IsAttach o := by
  intro o ho
  rcases mem_attachOps.1 ho with ⟨_, rfl⟩ | ⟨_, rfl⟩
  · exact .inl ⟨fd, rfl, hfd⟩
  · exact .inr rfl

theorem attachOps_noSetbuf (f d : Bool) (fd : Int) : NoSetbuf (attachOps f d fd) := by
  intro o ho n hn
  subst hn
  rcases mem_attachOps.1 ho with ⟨_, h⟩ | ⟨_, h⟩ <;> cases h

theorem attachOps_nonempty (f d : Bool) (fd : Int) (hfd : fd ≠ -1) (h : f = true ∨ d = true) :
    ∃ o ∈ attachOps f d fd, IsAttach o := by
  rcases h with rfl | rfl
  · exact ⟨.setFunc, mem_attachOps.2 (.inr ⟨rfl, rfl⟩), .inr rfl⟩
  · exact ⟨.setFd fd, mem_attachOps.2 (.inl ⟨rfl, rfl⟩), .inl ⟨fd, rfl, hfd⟩⟩

theorem init_wf : WF init := .of_buf_nil rfl

theorem buildOps_noDetach (n : Nat) (f d early : Bool) (fd : Int) (hfd : fd ≠ -1) : NoDetach (buildOps n f d early fd) := by
  intro o ho
  rcases mem_buildOps ho with rfl | ho
  · exact fun h => nomatch h
  · exact (attachOps_isAttach f d fd hfd o ho).ne_detach

theorem admissible_build (n : Nat) (f d early : Bool) (fd : Int) (hfd : fd ≠ -1) :
    Admissible init (buildOps n f d early fd) := by
  rw [buildOps_eq]
  split
  · exact ⟨rfl, fun s1 _ => admissible_attach _ s1 (attachOps_isAttach f d fd hfd)⟩
  · apply admissible_append _ _ _ (admissible_attach _ _ (attachOps_isAttach f d fd hfd))
    intro s1 h1
    split
    · refine ⟨?_, fun _ _ => trivial⟩
      exact (run_wf _ _ _ init_wf h1).nil (run_bufLen _ _ _ init_wf (attachOps_noSetbuf f d fd) h1)
    · trivial

theorem build_attached (n : Nat) (f d early : Bool) (fd : Int) (hfd : fd ≠ -1) (hsink : f = true ∨ d = true) (s : State)
    (h : run init (buildOps n f d early fd) = .ok s) : WF s ∧ Attached s := by
  refine ⟨run_wf _ _ _ init_wf h, run_attached _ _ _ init_wf h (buildOps_noDetach n f d early fd hfd) (Or.inr ?_)⟩
  obtain ⟨o, ho, ha⟩ := attachOps_nonempty f d fd hfd hsink
  refine ⟨o, ?_, ha⟩
  rw [buildOps_eq]
  split
  · exact List.mem_cons_of_mem _ ho
  · exact List.mem_append_left _ ho

theorem build_bufLen (n : Nat) (f d early : Bool) (fd : Int) (s : State)
    (h : run init (buildOps n f d early fd) = .ok s) : s.bufLen = n := by
  rw [buildOps_eq] at h
  split at h
  · obtain ⟨s1, hs1, h⟩ := run_cons h
    cases hs1
    exact run_bufLen _ _ _ (step_wf init_wf (o := .setbuf n) rfl) (attachOps_noSetbuf f d fd) h
  · obtain ⟨s1, h1, h2⟩ := run_append.1 h
    have h0 : s1.bufLen = 0 := run_bufLen _ _ _ init_wf (attachOps_noSetbuf f d fd) h1
    split at h2
    · obtain ⟨s2, hs2, h2⟩ := run_cons h2
      cases hs2; cases h2; rfl
    · rename_i hn
      cases h2
      exact h0.trans (Decidable.not_not.1 hn).symm

/-- Attaching the first output method starts the driver; a second one finds it started. -/
theorem written_attach (f d : Bool) (fd : Int) (hsink : f = true ∨ d = true) (ops : List Op) :
    written {} (attachOps f d fd ++ ops) = startBytes ++ written { started := true } ops := by
  cases f <;> cases d <;> simp [attachOps, written, requested, nextMode] at hsink ⊢

theorem written_build (n : Nat) (f d early : Bool) (fd : Int) (hsink : f = true ∨ d = true) (ops : List Op) :
    written {} (buildOps n f d early fd ++ ops) = startBytes ++ written { started := true } ops := by
  rw [buildOps_eq]
  split
  · exact written_attach f d fd hsink ops
  · rw [List.append_assoc, written_attach f d fd hsink]
    split
    · rfl
    · rfl

end Tickit.TermBuf
