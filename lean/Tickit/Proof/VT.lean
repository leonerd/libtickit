import Tickit.Proof.VTReader
/-
  The VT reference interpreter: it is a `Reader` (`vtR`), which is how a control sequence is read from its digit
  strings; the executor's operations in closed form under the side conditions the driver establishes (margins that are
  margins, a cursor inside them): the six insertions and deletions are one shift of a box (`boxShift`).  The operations
  the driver uses leave the tokenizer state alone (`_ps`).  `compact`, the screen as a table the kernel can evaluate, shows the same cells.
-/
namespace Tickit.VT

@[simp] theorem run_nil (vt : VTState) : run [] vt = vt := rfl
@[simp] theorem run_cons (b : UInt8) (bs : List UInt8) (vt : VTState) : run (b :: bs) vt = run bs (step vt b) := rfl
theorem run_append (a b : List UInt8) (vt : VTState) : run (a ++ b) vt = run b (run a vt) := by
  simp [run, List.foldl_append]

theorem set_ps_self (vt : VTState) (p : PState) (h : vt.ps = p) : { vt with ps := p } = vt := by
  cases vt; simp_all

theorem digitsValue_append (a b : List UInt8) (acc : Nat) :
    digitsValue (a ++ b) acc = digitsValue b (digitsValue a acc) := by
  simp [digitsValue, List.foldl_append]

theorem classify_digit {b : UInt8} (h : isDigit b = true) : classify b = .digit := by
  simp [classify, h]

theorem vtR : Reader run step VTState.ps (fun vt p => { vt with ps := p }) VTState.dispatch VTState.putGlyph where
  run_nil _ := rfl
  run_cons _ _ _ := rfl
  setPs_self := set_ps_self
  esc vt hg := by simp [step, hg, VTState.groundByte]
  bracket vt := by simp [step]
  reads vt a hi acc b h1 h2 := by
    by_cases hd : b.toNat ≤ 57
    · simp [step, VTState.csiByte, classify_digit ((isDigit_iff b).2 ⟨h1, hd⟩), hi, Csi.Acc.byte_digit _ h1 hd]
    · rcases (by omega : b.toNat = 58 ∨ b.toNat = 59) with h | h
      · obtain rfl : b = 0x3a := UInt8.toNat_inj.1 h
        simp [step, VTState.csiByte, show classify 0x3a = .colon by decide, hi, Csi.Acc.byte]
      · obtain rfl : b = 0x3b := UInt8.toNat_inj.1 h
        simp [step, VTState.csiByte, show classify 0x3b = .semi by decide, hi, Csi.Acc.byte]
  inter vt a _ hb := by simp [step, VTState.csiByte, hb]
  final vt a _ hb := by simp [step, VTState.csiByte, hb]
  ground vt n hg h1 h2 h3 := by
    have a1 : n ≠ 0x1b := by omega
    have a2 : n ≠ 0x0d := by omega
    have a3 : ¬ (n = 0x0a ∨ n = 0x0b ∨ n = 0x0c) := by omega
    have a4 : n ≠ 0x08 := by omega
    have a5 : ¬ (n < 0x20 ∨ n = 0x7f) := by omega
    simp only [step, hg, VTState.groundByte, UInt8.toNat_ofNat_of_lt' h3, a1, a2, a3, a4, a5, if_false]
  cont vt need acc x hx := by
    simp only [step, UInt8.toNat_ofNat_of_lt' (show x < 256 by omega), hx, and_self, if_true]

theorem dispatch_sgr (vt : VTState) (ps) : vt.dispatch 0 ps [] 0x6d = vt.sgr ps := by simp [VTState.dispatch]
theorem dispatch_cup (vt : VTState) (ps) : vt.dispatch 0 ps [] 0x48 = vt.moveTo (cnt ps 0 - 1) (cnt ps 1 - 1) := by
  simp [VTState.dispatch]
theorem dispatch_vpa (vt : VTState) (ps) : vt.dispatch 0 ps [] 0x64 = vt.moveTo (cnt ps 0 - 1) vt.col := by
  simp [VTState.dispatch]
theorem dispatch_cha (vt : VTState) (ps) : vt.dispatch 0 ps [] 0x47 = vt.moveTo vt.row (cnt ps 0 - 1) := by
  simp [VTState.dispatch]
theorem dispatch_cuu (vt : VTState) (ps) : vt.dispatch 0 ps [] 0x41 = vt.moveTo (vt.row - cnt ps 0) vt.col := by
  simp [VTState.dispatch]
theorem dispatch_cud (vt : VTState) (ps) : vt.dispatch 0 ps [] 0x42 = vt.moveTo (vt.row + cnt ps 0) vt.col := by
  simp [VTState.dispatch]
theorem dispatch_cuf (vt : VTState) (ps) : vt.dispatch 0 ps [] 0x43 = vt.moveTo vt.row (vt.col + cnt ps 0) := by
  simp [VTState.dispatch]
theorem dispatch_cub (vt : VTState) (ps) : vt.dispatch 0 ps [] 0x44 = vt.moveTo vt.row (vt.col - cnt ps 0) := by
  simp [VTState.dispatch]
theorem dispatch_ech (vt : VTState) (ps) : vt.dispatch 0 ps [] 0x58 = vt.ech (cnt ps 0) := by simp [VTState.dispatch]
theorem dispatch_ed (vt : VTState) (ps) : vt.dispatch 0 ps [] 0x4a = vt.ed ((param ps 0).getD 0) := by
  simp [VTState.dispatch]
theorem dispatch_decstbm (vt : VTState) (ps) : vt.dispatch 0 ps [] 0x72 = vt.decstbm (param ps 0) (param ps 1) := by
  simp [VTState.dispatch]
theorem dispatch_decslrm (vt : VTState) (ps) :
    vt.dispatch 0 ps [] 0x73 = if vt.declrmm then vt.decslrm (param ps 0) (param ps 1) else vt := by
  simp [VTState.dispatch]
theorem dispatch_il (vt : VTState) (ps) : vt.dispatch 0 ps [] 0x4c = vt.il (cnt ps 0) := by simp [VTState.dispatch]
theorem dispatch_dl (vt : VTState) (ps) : vt.dispatch 0 ps [] 0x4d = vt.dl (cnt ps 0) := by simp [VTState.dispatch]
theorem dispatch_ich (vt : VTState) (ps) : vt.dispatch 0 ps [] 0x40 = vt.ich (cnt ps 0) := by simp [VTState.dispatch]
theorem dispatch_dch (vt : VTState) (ps) : vt.dispatch 0 ps [] 0x50 = vt.dch (cnt ps 0) := by simp [VTState.dispatch]
theorem dispatch_decic (vt : VTState) (ps) : vt.dispatch 0 ps [0x27] 0x7d = vt.decic (cnt ps 0) := by
  simp [VTState.dispatch]
theorem dispatch_decdc (vt : VTState) (ps) : vt.dispatch 0 ps [0x27] 0x7e = vt.decdc (cnt ps 0) := by
  simp [VTState.dispatch]

theorem cnt_toNat0 (i : Int) (h : 1 ≤ i) (rest) : cnt ([some i.toNat] :: rest) 0 = i := by
  have : i.toNat ≠ 0 := by omega
  simp [cnt, param, this]; omega
theorem cnt_toNat1 (i : Int) (h : 1 ≤ i) (p rest) : cnt (p :: [some i.toNat] :: rest) 1 = i := by
  have : i.toNat ≠ 0 := by omega
  simp [cnt, param, this]; omega
theorem cnt_none0 (rest) : cnt ([none] :: rest) 0 = 1 := by simp [cnt, param]
theorem cnt_missing1 (p) : cnt [p] 1 = 1 := by simp [cnt, param]

@[simp] theorem moveTo_ps (vt : VTState) (r c : Int) : (vt.moveTo r c).ps = vt.ps := rfl
@[simp] theorem ech_ps (vt : VTState) (n : Int) : (vt.ech n).ps = vt.ps := rfl
@[simp] theorem ed_ps (vt : VTState) (n : Nat) : (vt.ed n).ps = vt.ps := rfl
@[simp] theorem il_ps (vt : VTState) (n : Int) : (vt.il n).ps = vt.ps := by
  rw [VTState.il, apply_ite VTState.ps]; exact ite_self _
@[simp] theorem dl_ps (vt : VTState) (n : Int) : (vt.dl n).ps = vt.ps := by
  rw [VTState.dl, apply_ite VTState.ps]; exact ite_self _
@[simp] theorem ich_ps (vt : VTState) (n : Int) : (vt.ich n).ps = vt.ps := by
  rw [VTState.ich, apply_ite VTState.ps]; exact ite_self _
@[simp] theorem dch_ps (vt : VTState) (n : Int) : (vt.dch n).ps = vt.ps := by
  rw [VTState.dch, apply_ite VTState.ps]; exact ite_self _
@[simp] theorem decic_ps (vt : VTState) (n : Int) : (vt.decic n).ps = vt.ps := by
  rw [VTState.decic, apply_ite VTState.ps]; exact ite_self _
@[simp] theorem decdc_ps (vt : VTState) (n : Int) : (vt.decdc n).ps = vt.ps := by
  rw [VTState.decdc, apply_ite VTState.ps]; exact ite_self _
@[simp] theorem decstbm_ps (vt : VTState) (t b : Option Nat) : (vt.decstbm t b).ps = vt.ps := by
  unfold VTState.decstbm
  rw [apply_ite VTState.ps]; dsimp only
  rw [apply_ite VTState.ps]; dsimp only
  rw [ite_self, ite_self]
@[simp] theorem decslrm_ps (vt : VTState) (l r : Option Nat) : (vt.decslrm l r).ps = vt.ps := by
  unfold VTState.decslrm
  rw [apply_ite VTState.ps]; dsimp only
  rw [apply_ite VTState.ps]; dsimp only
  rw [ite_self, ite_self]
@[simp] theorem lineFeed_ps (vt : VTState) : vt.lineFeed.ps = vt.ps := by
  unfold VTState.lineFeed VTState.scrollUp
  rw [apply_ite VTState.ps, apply_ite VTState.ps]
  dsimp only
  rw [ite_self, ite_self]
@[simp] theorem wrap_ps (vt : VTState) : vt.wrap.ps = vt.ps := lineFeed_ps vt
@[simp] theorem put1_ps (vt : VTState) (cp : Nat) : (vt.put1 cp).ps = vt.ps := by
  unfold VTState.put1
  dsimp only
  rw [apply_ite VTState.ps]
  dsimp only
  rw [ite_self, apply_ite VTState.ps, wrap_ps, ite_self]
@[simp] theorem put2_ps (vt : VTState) (cp : Nat) : (vt.put2 cp).ps = vt.ps := by
  unfold VTState.put2
  dsimp only
  rw [apply_ite VTState.ps]
  dsimp only
  rw [ite_self, apply_ite VTState.ps, wrap_ps, ite_self]
@[simp] theorem putGlyph_ps (vt : VTState) (cp : Nat) : (vt.putGlyph cp).ps = vt.ps := by
  unfold VTState.putGlyph; split <;> simp

theorem clampRow_in (vt : VTState) {r : Int} (h : 0 ≤ r ∧ r < vt.lines) : vt.clampRow r = r := by
  unfold VTState.clampRow; omega
theorem clampCol_in (vt : VTState) {c : Int} (h : 0 ≤ c ∧ c < vt.cols) : vt.clampCol c = c := by
  unfold VTState.clampCol; omega
theorem clampCol_right (vt : VTState) {c : Int} (hpos : 0 < vt.cols) (h : vt.cols ≤ c) : vt.clampCol c = vt.cols - 1 := by
  unfold VTState.clampCol; omega
theorem clampCol_left (vt : VTState) {c : Int} (h : c ≤ 0) : vt.clampCol c = 0 := by
  unfold VTState.clampCol; omega
theorem clampCol_range (vt : VTState) (c : Int) (hpos : 0 < vt.cols) : 0 ≤ vt.clampCol c ∧ vt.clampCol c < vt.cols := by
  unfold VTState.clampCol; omega

theorem moveTo_in (vt : VTState) (r c : Int) (hr : 0 ≤ r ∧ r < vt.lines) (hc : 0 ≤ c ∧ c < vt.cols) :
    vt.moveTo r c = { vt with row := r, col := c, pendingWrap := false } := by
  rw [VTState.moveTo, clampRow_in vt hr, clampCol_in vt hc]

theorem moveTo_row (vt : VTState) (c : Int) (hr : 0 ≤ vt.row ∧ vt.row < vt.lines) :
    vt.moveTo vt.row c = { vt with col := vt.clampCol c, pendingWrap := false } := by
  rw [VTState.moveTo, clampRow_in vt hr]

theorem decstbm_valid (vt : VTState) (t b : Int) (h0 : 0 ≤ t) (h1 : t + 1 < b) (h2 : b ≤ vt.lines) :
    vt.decstbm (some (t + 1).toNat) (some b.toNat) =
      { vt with top := t, bottom := b - 1, row := 0, col := 0, pendingWrap := false } := by
  have e1 : (((t + 1).toNat : Nat) : Int) = t + 1 := by omega
  have e2 : ((b.toNat : Nat) : Int) = b := by omega
  simp only [VTState.decstbm, reduceCtorEq, and_self, if_false, Option.getD_some, e1, e2]
  rw [if_pos (by omega), Int.add_sub_cancel]

theorem decstbm_reset (vt : VTState) :
    vt.decstbm none none = { vt with top := 0, bottom := vt.lines - 1, row := 0, col := 0, pendingWrap := false } := by
  simp [VTState.decstbm]

theorem decslrm_valid (vt : VTState) (l r : Int) (h0 : 0 ≤ l) (h1 : l + 1 < r) (h2 : r ≤ vt.cols) :
    vt.decslrm (some (l + 1).toNat) (some r.toNat) =
      { vt with left := l, right := r - 1, row := 0, col := 0, pendingWrap := false } := by
  have e1 : (((l + 1).toNat : Nat) : Int) = l + 1 := by omega
  have e2 : ((r.toNat : Nat) : Int) = r := by omega
  simp only [VTState.decslrm, reduceCtorEq, and_self, if_false, Option.getD_some, e1, e2]
  rw [if_pos (by omega), Int.add_sub_cancel]

theorem decslrm_right (vt : VTState) (r : Int) (h1 : 1 < r) (h2 : r ≤ vt.cols) :
    vt.decslrm none (some r.toNat) =
      { vt with left := 0, right := r - 1, row := 0, col := 0, pendingWrap := false } := by
  have e2 : ((r.toNat : Nat) : Int) = r := by omega
  simp only [VTState.decslrm, reduceCtorEq, and_false, if_false, Option.getD_none, e2]
  rw [if_pos (by omega)]; rfl

theorem decslrm_reset (vt : VTState) :
    vt.decslrm none none = { vt with left := 0, right := vt.cols - 1, row := 0, col := 0, pendingWrap := false } := by
  simp [VTState.decslrm]

/-- The grid after moving the content of the box `[t, b] × [l, r]` by `(dy, dx)`: a cell of the box shows the old
    cell that far away, or `blank` where that one lies outside the box; cells outside the box keep their content. -/
def boxShift (t b l r dy dx : Int) (blank : Cell) (g : Int → Int → Cell) : Int → Int → Cell := fun y x =>
  if t ≤ y ∧ y ≤ b ∧ l ≤ x ∧ x ≤ r then
    (if t ≤ y + dy ∧ y + dy ≤ b ∧ l ≤ x + dx ∧ x + dx ≤ r then g (y + dy) (x + dx) else blank)
  else g y x

theorem ite_ite_congr {α : Sort _} {p p' q q' : Prop} [Decidable p] [Decidable p'] [Decidable q] [Decidable q']
    {a b c : α} (hp : p ↔ p') (hq : p' → (q ↔ q')) :
    (if p then (if q then a else b) else c) = (if p' then (if q' then a else b) else c) :=
  ite_congr (propext hp) (fun h => ite_congr (propext (hq h)) (fun _ => rfl) (fun _ => rfl)) (fun _ => rfl)

theorem boxShift_zero (t b l r : Int) (blank : Cell) (g : Int → Int → Cell) : boxShift t b l r 0 0 blank g = g := by
  funext y x
  simp only [boxShift, Int.add_zero]
  by_cases h : t ≤ y ∧ y ≤ b ∧ l ≤ x ∧ x ≤ r
  · rw [if_pos h, if_pos h]
  · rw [if_neg h]

theorem boxShift_comp (t b l r dy dx : Int) (blank : Cell) (g : Int → Int → Cell) :
    boxShift t b l r 0 dx blank (boxShift t b l r dy 0 blank g) = boxShift t b l r dy dx blank g := by
  funext y x
  simp only [boxShift, Int.add_zero]
  by_cases h1 : t ≤ y ∧ y ≤ b ∧ l ≤ x ∧ x ≤ r
  · by_cases h2 : l ≤ x + dx ∧ x + dx ≤ r
    · simp only [if_pos h1, if_pos (show t ≤ y ∧ y ≤ b ∧ l ≤ x + dx ∧ x + dx ≤ r from ⟨h1.1, h1.2.1, h2⟩)]
    · simp only [if_pos h1, if_neg (show ¬ (t ≤ y ∧ y ≤ b ∧ l ≤ x + dx ∧ x + dx ≤ r) from fun h => h2 h.2.2),
        if_neg (show ¬ (t ≤ y + dy ∧ y + dy ≤ b ∧ l ≤ x + dx ∧ x + dx ≤ r) from fun h => h2 h.2.2)]
  · simp only [if_neg h1]

theorem boxShift_row_succ (t m l r dx : Int) (htm : t ≤ m + 1) (blank : Cell) (g : Int → Int → Cell) :
    boxShift (m + 1) (m + 1) l r 0 dx blank (boxShift t m l r 0 dx blank g) = boxShift t (m + 1) l r 0 dx blank g := by
  funext y x
  simp only [boxShift, Int.add_zero]
  by_cases hy : y = m + 1
  · subst hy
    have hn : ∀ x', ¬ (t ≤ m + 1 ∧ m + 1 ≤ m ∧ l ≤ x' ∧ x' ≤ r) := fun _ h => absurd h.2.1 (by omega)
    rw [if_neg (hn _), if_neg (hn _)]
    exact ite_ite_congr ⟨fun h => ⟨htm, h.2⟩, fun h => ⟨Int.le_refl _, h.2⟩⟩
      (fun _ => ⟨fun h => ⟨htm, h.2⟩, fun h => ⟨Int.le_refl _, h.2⟩⟩)
  · have hn : ∀ x', ¬ (m + 1 ≤ y ∧ y ≤ m + 1 ∧ l ≤ x' ∧ x' ≤ r) := fun _ h => hy (by omega)
    rw [if_neg (hn _)]
    exact ite_ite_congr ⟨fun h => ⟨h.1, by omega, h.2.2⟩, fun h => ⟨h.1, by omega, h.2.2⟩⟩
      (fun _ => ⟨fun h => ⟨h.1, by omega, h.2.2⟩, fun h => ⟨h.1, by omega, h.2.2⟩⟩)

/-- Sign convention of `downward` / `rightward` in the driver's `scrollrect`: positive deletes, negative inserts.
    `vshift` is IL/DL and `hshift` DECIC/DECDC on the margin box, `rshift` ICH/DCH on the cursor's row. -/
def vshift (vt : VTState) (d : Int) : VTState :=
  if d > 0 then vt.dl d else if d < 0 then vt.il (-d) else vt
def hshift (vt : VTState) (r : Int) : VTState :=
  if r > 0 then vt.decdc r else if r < 0 then vt.decic (-r) else vt
def rshift (vt : VTState) (r : Int) : VTState :=
  if r > 0 then vt.dch r else if r < 0 then vt.ich (-r) else vt

@[simp] theorem vshift_ps (vt : VTState) (d : Int) : (vshift vt d).ps = vt.ps := by
  unfold vshift; split <;> (try split) <;> simp
@[simp] theorem hshift_ps (vt : VTState) (d : Int) : (hshift vt d).ps = vt.ps := by
  unfold hshift; split <;> (try split) <;> simp
@[simp] theorem rshift_ps (vt : VTState) (d : Int) : (rshift vt d).ps = vt.ps := by
  unfold rshift; split <;> (try split) <;> simp

theorem vshift_eq (vt : VTState) (d : Int) (hrow : vt.row = vt.top) (hm : vt.inMargins) :
    vshift vt d = { vt with grid := boxShift vt.top vt.bottom vt.left vt.right d 0 vt.blank vt.grid } := by
  unfold vshift
  rcases Int.lt_trichotomy d 0 with h | h | h
  · rw [if_neg (by omega), if_pos h, VTState.il, if_pos hm, hrow]
    congr 1; funext y x
    simp only [boxShift, Int.add_zero, Int.sub_neg]
    exact ite_ite_congr Iff.rfl (fun _ => by omega)
  · subst h
    rw [if_neg (Int.lt_irrefl 0), if_neg (Int.lt_irrefl 0), boxShift_zero]
  · rw [if_pos h, VTState.dl, if_pos hm, hrow]
    congr 1; funext y x
    simp only [boxShift, Int.add_zero]
    exact ite_ite_congr Iff.rfl (fun _ => by omega)

theorem hshift_eq (vt : VTState) (r : Int) (hcol : vt.col = vt.left) (hm : vt.inMargins) :
    hshift vt r = { vt with grid := boxShift vt.top vt.bottom vt.left vt.right 0 r vt.blank vt.grid } := by
  unfold hshift
  rcases Int.lt_trichotomy r 0 with h | h | h
  · rw [if_neg (by omega), if_pos h, VTState.decic, if_pos hm, hcol]
    congr 1; funext y x
    simp only [boxShift, Int.add_zero, Int.sub_neg]
    exact ite_ite_congr Iff.rfl (fun _ => by omega)
  · subst h
    rw [if_neg (Int.lt_irrefl 0), if_neg (Int.lt_irrefl 0), boxShift_zero]
  · rw [if_pos h, VTState.decdc, if_pos hm, hcol]
    congr 1; funext y x
    simp only [boxShift, Int.add_zero]
    exact ite_ite_congr Iff.rfl (fun _ => by omega)

theorem rshift_eq (vt : VTState) (r : Int) (hm : vt.inMargins) :
    rshift vt r = { vt with grid := boxShift vt.row vt.row vt.col vt.right 0 r vt.blank vt.grid } := by
  unfold rshift
  rcases Int.lt_trichotomy r 0 with h | h | h
  · rw [if_neg (by omega), if_pos h, VTState.ich, if_pos hm]
    congr 1; funext y x
    simp only [boxShift, Int.add_zero, Int.sub_neg]
    exact ite_ite_congr (by omega) (fun _ => by omega)
  · subst h
    rw [if_neg (Int.lt_irrefl 0), if_neg (Int.lt_irrefl 0), boxShift_zero]
  · rw [if_pos h, VTState.dch, if_pos hm]
    congr 1; funext y x
    simp only [boxShift, Int.add_zero]
    exact ite_ite_congr (by omega) (fun _ => by omega)

theorem rowMajor (i j m n : Nat) (hi : i < m) (hj : j < n) :
    i * n + j < m * n ∧ (i * n + j) / n = i ∧ (i * n + j) % n = j := by
  have hpos : 0 < n := by omega
  refine ⟨?_, ?_, ?_⟩
  · have : (i + 1) * n ≤ m * n := Nat.mul_le_mul_right _ hi
    rw [Nat.add_mul] at this
    omega
  · rw [Nat.mul_comm, Nat.mul_add_div hpos, Nat.div_eq_of_lt hj, Nat.add_zero]
  · rw [Nat.mul_comm, Nat.mul_add_mod, Nat.mod_eq_of_lt hj]

theorem compact_grid (vt : VTState) (l c : Int) (h : vt.inScreen l c) : (vt.compact).grid l c = vt.grid l c := by
  obtain ⟨hidx, e1, e2⟩ := rowMajor l.toNat c.toNat vt.lines.toNat vt.cols.toNat
    (by have := h.1; have := h.2.1; omega) (by have := h.2.2.1; have := h.2.2.2; omega)
  simp only [VTState.compact, show 0 ≤ l ∧ l < vt.lines ∧ 0 ≤ c ∧ c < vt.cols from h, and_self, if_true]
  rw [Array.getD_eq_getD_getElem?, Array.getElem?_ofFn]
  simp only [hidx, dif_pos, Option.getD_some]
  rw [e1, e2]
  congr 1 <;> have := h.1 <;> have := h.2.2.1 <;> omega

theorem compact_fields (vt : VTState) :
    vt.compact.lines = vt.lines ∧ vt.compact.cols = vt.cols ∧ vt.compact.row = vt.row ∧ vt.compact.col = vt.col ∧
    vt.compact.pendingWrap = vt.pendingWrap ∧ vt.compact.top = vt.top ∧ vt.compact.bottom = vt.bottom ∧
    vt.compact.left = vt.left ∧ vt.compact.right = vt.right ∧ vt.compact.declrmm = vt.declrmm ∧
    vt.compact.bg = vt.bg ∧ vt.compact.rv = vt.rv ∧ vt.compact.ps = vt.ps :=
  ⟨rfl, rfl, rfl, rfl, rfl, rfl, rfl, rfl, rfl, rfl, rfl, rfl, rfl⟩

end Tickit.VT
