import Tickit.Model.XTermOut
import Tickit.Proof.XTermDrv
import Tickit.Proof.TermBuf
/-
  The layers around the driver's drawing requests: pause + resume (`suspendBytes`), interpreted; and the output layer
  of term.c (`Model/XTermOut.lean` over `Model/TermBuf.lean`): every operation is an `Ext`ension of
  delivered ++ pending by exactly the bytes the driver model writes, for every buffer size.
-/
namespace Tickit.XTermDrv
open Tickit Tickit.VT

theorem cacheOK_empty : CacheOK PenCache.empty := by intro v h; cases h

theorem cacheOK_setpen (caps : Caps) (cache : PenCache) (pen : PenReq) (hok : Spec.PenOK pen) :
    CacheOK (setpen caps cache pen).1 := by
  intro v hv
  simp only [setpen, Option.some.injEq] at hv
  cases hb : pen.bg with
  | none => rw [hb] at hv; simp at hv; omega
  | some b => rw [hb] at hv; simp at hv; subst hv; exact hok b hb

theorem cacheOK_chpen (caps : Caps) (cache : PenCache) (pen : PenReq) (hc : CacheOK cache) (hok : Spec.PenOK pen) :
    CacheOK (chpen caps cache pen).1 := by
  intro v hv
  simp only [chpen] at hv
  split at hv
  · exact hok v hv
  · exact hc v hv

theorem run_pauseBytes (vt : VTState) (hg : vt.ps = .ground) : run pauseBytes vt = { vt with bg := -1, rv := false } :=
  run_sgr_reset vt hg

/-- In a tree whose resume sends the cached pen again. -/
theorem run_suspendBytes (fx : Fixes) (hfx : fx.resumeResendsPen = true) (caps : Caps) (cache : PenCache)
    (hok : CacheOK cache) (vt : VTState) (hg : vt.ps = .ground) :
    ∃ bg' rv', run (suspendBytes fx caps cache) vt = { vt with bg := bg', rv := rv' } ∧
      Spec.PenInv cache { vt with bg := bg', rv := rv' } := by
  unfold suspendBytes resumeBytes
  rw [run_append, run_pauseBytes vt hg, if_pos hfx]
  exact chpenBytes_penInv { vt with bg := -1, rv := false } hg caps.colon _ _ _ cache.bg _ hok cache
    (fun v hv => by rw [hv]; rfl) (by unfold PenCache.reverse; cases cache.rv <;> rfl)

end Tickit.XTermDrv

namespace Tickit.XTermOut
open Tickit Tickit.XTermDrv Tickit.TermBuf Tickit.Gen.TermBuf

theorem delivered_eq (o : OutState) : delivered o = stream o.out := by
  unfold delivered stream
  congr 1

theorem delivered_of_ext {n : Nat} {o' : OutState} {w : Bytes} (e : Ext (fresh n) o' w) (hb : o'.buf = []) :
    delivered o' = w := by
  have := e.eqn (Or.inl rfl)
  rw [hb] at this
  rw [delivered_eq]
  simpa [fresh] using this

theorem fresh_wf (n : Nat) : WF (fresh n) := .of_buf_nil rfl

theorem send_okExt {o : OutState} (bytes : Bytes) (hwf : WF o) : OkExt o (send o bytes) bytes o.mode := by
  unfold send
  by_cases h0 : bytes.length = 0
  · rw [if_pos h0, List.eq_nil_of_length_eq_zero h0]; exact .refl hwf
  · rw [if_neg h0]; exact writeWhole_okExt hwf (List.prefix_refl _) fun e => absurd (congrArg List.length e) h0

theorem send_ext {o o' : OutState} {bytes : Bytes} (hwf : WF o) (h : send o bytes = .ok o') : Ext o o' bytes :=
  (send_okExt bytes hwf).ext h

/-- The modes this engine never touches: cursor visible, main screen. -/
structure ModeOK (o : OutState) : Prop where
  cursorvis : o.mode.cursorvis = true
  altscreen : o.mode.altscreen = false

theorem _root_.Tickit.TermBuf.ExtM.modeOK {o o' : OutState} {w : Bytes} (h : Ext o o' w) (hm : ModeOK o) : ModeOK o' :=
  ⟨h.mode ▸ hm.cursorvis, h.mode ▸ hm.altscreen⟩

theorem teardownBytes_plain {o : OutState} (hm : ModeOK o) : teardownBytes o.mode = pauseBytes := by
  unfold teardownBytes
  rw [hm.cursorvis, hm.altscreen]
  decide

theorem resumeBytes_plain {o : OutState} (hm : ModeOK o) : TermBuf.resumeBytes o.mode = [] := by
  unfold TermBuf.resumeBytes
  rw [hm.cursorvis, hm.altscreen]
  decide

theorem pause_okExt {o : OutState} (hwf : WF o) (hm : ModeOK o) : OkExt o (pause o) pauseBytes o.mode := by
  have := termPause_okExt hwf
  rwa [if_pos (by decide : pause_is_teardown = true), teardownBytes_plain hm] at this

theorem resume_okExt {o : OutState} (fx : Fixes) (caps : Caps) (cache : PenCache) (hwf : WF o) (hm : ModeOK o) :
    OkExt o (resume fx caps cache o) (XTermDrv.resumeBytes fx caps cache) o.mode := by
  have h1 := termResume_okExt hwf
  rw [resumeBytes_plain hm] at h1
  exact h1.bind fun s1 e1 => e1.mode ▸ send_okExt _ e1.wf

theorem suspend_okExt {o : OutState} (fx : Fixes) (caps : Caps) (cache : PenCache) (hwf : WF o) (hm : ModeOK o) :
    OkExt o ((pause o).bind (resume fx caps cache)) (suspendBytes fx caps cache) o.mode :=
  (pause_okExt hwf hm).bind fun _ e1 => e1.mode ▸ resume_okExt fx caps cache e1.wf (e1.modeOK hm)

/-! What the driver writes for one operation and for a history, with its state threaded (`tWritten`); a resize is left
    out of `runOps_written` because the bytes pending at that moment would be read by a terminal of the new size. -/

def opBytes (fx : Fixes) (d : Drv) : XTermDrv.Op → Bytes
  | .req q => (request fx d q).2
  | .setpen p => (setpen d.caps d.pen p).2
  | .chpen p => (chpen d.caps d.pen p).2
  | .resize _ _ => []
  | .suspend => suspendBytes fx d.caps d.pen

def nextDrv (d : Drv) : XTermDrv.Op → Drv
  | .req _ => d
  | .setpen p => { d with pen := (setpen d.caps d.pen p).1 }
  | .chpen p => { d with pen := (chpen d.caps d.pen p).1 }
  | .resize l c => { d with lines := l, cols := c }
  | .suspend => d

theorem stepOp_eq (fx : Fixes) (d : Drv) (vt : VT.VTState) (x : XTermDrv.Op) (h : ¬ IsResize (.op x)) :
    stepOp fx (d, vt) x = (nextDrv d x, VT.run (opBytes fx d x) vt) := by
  cases x with
  | resize l c => exact absurd trivial h
  | _ => rfl

def tBytes (fx : Fixes) (d : Drv) : TOp → Bytes
  | .op x => opBytes fx d x
  | .printf s => s
  | .flush => []

def tDrv (d : Drv) : TOp → Drv
  | .op x => nextDrv d x
  | _ => d

def tWritten (fx : Fixes) : Drv → List TOp → Bytes
  | _, [] => []
  | d, t :: ts => tBytes fx d t ++ tWritten fx (tDrv d t) ts

theorem stepT_total (fx : Fixes) (s : TS) (t : TOp) (hwf : WF s.o) (hm : ModeOK s.o) :
    ∃ s', stepT fx s t = some s' ∧ s'.d = tDrv s.d t ∧ Ext s.o s'.o (tBytes fx s.d t) := by
  -- a request or a pen change: the driver sends `bytes` and its state becomes `d'`
  have sent : ∀ (bytes : Bytes) (d' : Drv), ∃ s', (match send s.o bytes with | .ok o => some (⟨d', o⟩ : TS) | _ => none) = some s' ∧
      s'.d = d' ∧ Ext s.o s'.o bytes := fun bytes d' =>
    let ⟨o', ho, e⟩ := send_okExt bytes hwf
    ⟨⟨d', o'⟩, by rw [ho], rfl, e⟩
  cases t with
  | op x =>
    cases x with
    | req q => exact sent _ _
    | setpen p => exact sent _ _
    | chpen p => exact sent _ _
    | resize l c => exact ⟨_, rfl, rfl, Ext.refl hwf⟩
    | suspend =>
      obtain ⟨o', ho, e⟩ := suspend_okExt fx s.d.caps s.d.pen hwf hm
      exact ⟨⟨_, o'⟩, by simp only [stepT, ho], rfl, e⟩
  | printf t =>
    obtain ⟨o', ho, e⟩ := termVprintf_okExt hwf t
    exact ⟨⟨_, o'⟩, by simp only [stepT, printf, ho], rfl, e⟩
  | flush => exact ⟨_, rfl, rfl, flush_ext_wf hwf⟩

theorem runT_total (fx : Fixes) : ∀ (ts : List TOp) (s : TS), WF s.o → ModeOK s.o →
    ∃ s', runT fx s ts = some s' ∧ Ext s.o s'.o (tWritten fx s.d ts) := by
  intro ts
  induction ts with
  | nil => intro s hwf _; exact ⟨s, rfl, Ext.refl hwf⟩
  | cons t ts ih =>
    intro s hwf hm
    obtain ⟨s1, h1, hd, e1⟩ := stepT_total fx s t hwf hm
    obtain ⟨s2, h2, e2⟩ := ih s1 e1.wf (e1.modeOK hm)
    rw [hd] at e2
    exact ⟨s2, by simp only [runT, h1, h2], Ext.trans e1 e2⟩

theorem runT_append_flush (fx : Fixes) : ∀ (ts : List TOp) (s s1 : TS), runT fx s ts = some s1 →
    runT fx s (ts ++ [.flush]) = some { s1 with o := TermBuf.flush s1.o } := by
  intro ts
  induction ts with
  | nil => intro s s1 h; cases h; rfl
  | cons t ts ih =>
    intro s s1 h
    simp only [runT, List.cons_append] at h ⊢
    cases h2 : stepT fx s t with
    | none => rw [h2] at h; cases h
    | some s2 => rw [h2] at h; exact ih s2 s1 h

theorem runOps_written (fx : Fixes) : ∀ (ts : List TOp) (d : Drv) (vt : VT.VTState), (∀ t ∈ ts, ¬ IsResize t) →
    (runOps fx (d, vt) (ts.flatMap plain)).2 = VT.run (tWritten fx d ts) vt := by
  intro ts
  induction ts with
  | nil => intro d vt _; rfl
  | cons t ts ih =>
    intro d vt hnr
    have hts : ∀ t ∈ ts, ¬ IsResize t := fun t ht => hnr t (by simp [ht])
    cases t with
    | op x =>
      show (runOps fx (stepOp fx (d, vt) x) (ts.flatMap plain)).2 = _
      rw [stepOp_eq fx d vt x (hnr _ (by simp)), ih _ _ hts]
      simp only [tWritten, tBytes, tDrv, VT.run_append]
    | printf s =>
      show (runOps fx (stepOp fx (d, vt) (.req (.print s s.length))) (ts.flatMap plain)).2 = _
      have e : stepOp fx (d, vt) (.req (.print s s.length)) = (d, VT.run s vt) := by
        simp only [stepOp, request, print_all]
      rw [e, ih _ _ hts]
      simp only [tWritten, tBytes, tDrv, VT.run_append]
    | flush =>
      show (runOps fx (d, vt) (ts.flatMap plain)).2 = _
      rw [ih _ _ hts]
      simp only [tWritten, tBytes, tDrv, List.nil_append]

end Tickit.XTermOut
