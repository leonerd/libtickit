import Tickit.Proof.BindingsExec
import Tickit.Proof.BindingsTrace
/-
  C16, fire_order: what one occurrence delivers and in which order; the concrete histories `Props/C16.lean` runs.
-/
namespace Tickit.Bindings

/-- what comes after the first `k` in a list of keys -/
def afterK (k : Nat) : List Nat → List Nat
  | [] => []
  | x :: xs => if x = k then xs else afterK k xs

/-- the part of the chain a walker standing at `cur` still has to look at -/
def chainFrom (cur : Option Nat) (ks : List Nat) : List Nat :=
  match cur with
  | none => []
  | some k => k :: afterK k ks

theorem afterK_sub {k : Nat} {ks : List Nat} : ∀ x ∈ afterK k ks, x ∈ ks := by
  induction ks with
  | nil => simp [afterK]
  | cons a t ih =>
    intro x hx
    simp only [afterK] at hx
    split at hx
    · exact List.mem_cons_of_mem _ hx
    · exact List.mem_cons_of_mem _ (ih x hx)

theorem not_mem_afterK {k : Nat} {ks : List Nat} (hn : ks.Nodup) : k ∉ afterK k ks := by
  induction ks with
  | nil => simp [afterK]
  | cons a t ih =>
    simp only [List.nodup_cons] at hn
    simp only [afterK]
    split
    · rename_i hak; subst hak; exact hn.1
    · exact ih hn.2

theorem afterK_append_of_mem {k : Nat} {ks A : List Nat} (hk : k ∈ ks) : afterK k (ks ++ A) = afterK k ks ++ A := by
  induction ks with
  | nil => cases hk
  | cons a t ih =>
    simp only [List.cons_append, afterK]
    split
    · rfl
    · rename_i hak
      rcases List.mem_cons.1 hk with rfl | hk
      · exact absurd rfl hak
      · exact ih hk

theorem afterK_append_of_not_mem {k : Nat} {P ks : List Nat} (hk : k ∉ P) : afterK k (P ++ ks) = afterK k ks := by
  induction P with
  | nil => rfl
  | cons a t ih =>
    simp only [List.mem_cons, not_or] at hk
    simp only [List.cons_append, afterK]
    rw [if_neg (fun e => hk.1 e.symm)]
    exact ih hk.2

theorem afterK_infix {k : Nat} {P ks A : List Nat} (hn : (P ++ ks ++ A).Nodup) (hk : k ∈ ks) :
    afterK k (P ++ ks ++ A) = afterK k ks ++ A := by
  have hkP : k ∉ P := by
    intro hp
    rw [List.append_assoc] at hn
    exact (List.nodup_append.1 hn).2.2 k hp k (List.mem_append_left _ hk) rfl
  rw [List.append_assoc, afterK_append_of_not_mem hkP, afterK_append_of_mem hk]

theorem afterK_of_afterK_cons {k k2 : Nat} {ks t : List Nat} (hn : ks.Nodup) (h : afterK k ks = k2 :: t) : afterK k2 ks = t := by
  induction ks with
  | nil => simp [afterK] at h
  | cons a rest ih =>
    simp only [List.nodup_cons] at hn
    simp only [afterK] at h
    split at h
    · subst h
      have : a ≠ k2 := fun e => hn.1 (by simp [e])
      simp only [afterK, if_neg this, if_true]
    · have hk2 : k2 ∈ rest := afterK_sub k2 (by rw [h]; simp)
      have : a ≠ k2 := fun e => hn.1 (e ▸ hk2)
      simp only [afterK, if_neg this]
      exact ih hn.2 h

theorem nextOf_eq {l : List Node} {k : Nat} (hk : k ∈ keys l) : nextOf l k = some ((afterK k (keys l)).head?) := by
  induction l with
  | nil => cases hk
  | cons a rest ih =>
    simp only [nextOf, keys_cons, afterK]
    split
    · cases rest <;> simp [keys]
    · rename_i hak
      simp only [keys_cons, List.mem_cons] at hk
      rcases hk with rfl | hk
      · exact absurd rfl hak
      · exact ih hk

theorem firstOf_eq (l : List Node) : firstOf l = (keys l).head? := by
  cases l <;> simp [firstOf, keys]

theorem chainFrom_head (ks : List Nat) : chainFrom ks.head? ks = ks := by
  cases ks with
  | nil => rfl
  | cons a t => simp [chainFrom, afterK]

theorem chainFrom_next {l : List Node} {k : Nat} {nx : Option Nat} (hk : k ∈ keys l) (hn : nextOf l k = some nx)
    (hnd : (keys l).Nodup) : chainFrom nx (keys l) = afterK k (keys l) := by
  have hnx : nx = (afterK k (keys l)).head? := by
    have := nextOf_eq hk; rw [hn] at this; injection this
  subst hnx
  cases hak : afterK k (keys l) with
  | nil => rfl
  | cons k2 t => simp only [List.head?_cons, chainFrom, afterK_of_afterK_cons hnd hak]

theorem not_mem_afterK_append {k : Nat} {P ks A : List Nat} (hn : (P ++ ks ++ A).Nodup) (hk : k ∈ ks) :
    k ∉ afterK k ks ++ A := by
  rw [← afterK_infix hn hk]; exact not_mem_afterK hn

theorem split_append_cases {α : Type} {A B : List α} {x : α} {s2 s1 : List α} (h : A ++ B = s2 ++ x :: s1) :
    (∃ s1', A = s2 ++ x :: s1' ∧ s1 = s1' ++ B) ∨ (∃ s2', s2 = A ++ s2' ∧ B = s2' ++ x :: s1) := by
  rcases List.append_eq_append_iff.1 h with ⟨as, h1, h2⟩ | ⟨bs, h1, h2⟩
  · exact Or.inr ⟨as, h1, h2⟩
  · rcases List.cons_eq_append_iff.1 h2 with ⟨rfl, h3⟩ | ⟨s1', rfl, h3⟩
    · exact Or.inr ⟨[], by rw [h1]; simp, h3⟩
    · exact Or.inl ⟨s1', h1, h3⟩

theorem split_append_of_not_mem {α : Type} {A B : List α} {c : α} {s2 s1 : List α} (h : A ++ B = s2 ++ c :: s1) (hc : c ∉ B) :
    ∃ s1', A = s2 ++ c :: s1' ∧ s1 = s1' ++ B :=
  (split_append_cases h).resolve_right fun ⟨s2', _, hB⟩ => hc (by rw [hB]; simp)

theorem split_append_single {α : Type} {A : List α} {x c : α} {s2 s1 : List α} (h : A ++ [x] = s2 ++ c :: s1) :
    (s1 = [] ∧ c = x ∧ s2 = A) ∨ (∃ s1', A = s2 ++ c :: s1' ∧ s1 = s1' ++ [x]) := by
  rcases split_append_cases h with h | ⟨s2', h1, h2⟩
  · exact Or.inr h
  · rcases List.singleton_eq_append_iff.1 h2 with ⟨rfl, h3⟩ | ⟨_, h3⟩
    · cases h3; exact Or.inl ⟨rfl, rfl, by rw [h1]; simp⟩
    · cases h3

/-- the bindings occurrence `o` decided to deliver to, oldest first -/
def firesOf (o : Nat) (seg : List Ev) : List Nat :=
  seg.reverse.filterMap fun e => match e with
    | .fire k o' => if o' = o then some k else none
    | _ => none

theorem firesOf_append (o : Nat) (a b : List Ev) : firesOf o (a ++ b) = firesOf o b ++ firesOf o a := by
  simp [firesOf, List.filterMap_append]

theorem mem_firesOf {o k : Nat} {seg : List Ev} : k ∈ firesOf o seg ↔ Ev.fire k o ∈ seg := by
  simp only [firesOf, List.mem_filterMap, List.mem_reverse]
  constructor
  · rintro ⟨e, he, hm⟩
    cases e <;> simp at hm
    obtain ⟨rfl, rfl⟩ := hm
    exact he
  · intro h
    exact ⟨_, h, by simp⟩

theorem firesOf_eq_nil {o : Nat} {seg : List Ev} (h : ∀ k, Ev.fire k o ∉ seg) : firesOf o seg = [] := by
  apply List.eq_nil_iff_forall_not_mem.2
  intro k hk
  exact h k (mem_firesOf.1 hk)

/-- binding `k` is live and bound to event `ev`, as the trace has it -/
def evLive (ev : Int) (log : List Ev) (k : Nat) : Prop :=
  liveAt log k ∧ ∃ id first fl, Ev.bound k id ev first fl ∈ log

/-- A binding already bound does not come back to life, nor change its event. -/
theorem evLive_mono {ev : Int} {s log : List Ev} {k : Nat} (ht : TraceOk (s ++ log)) (hb : ∃ fl, boundIn log k fl)
    (h : evLive ev (s ++ log) k) : evLive ev log k := by
  obtain ⟨fl0, id0, ev0, f0, hm0⟩ := hb
  obtain ⟨⟨fl, hbi, hnr, hnf⟩, id, first, fl', hm⟩ := h
  have hm0' : Ev.bound k id0 ev0 f0 fl0 ∈ s ++ log := List.mem_append_right _ hm0
  obtain ⟨id1, ev1, f1, hm1⟩ := hbi
  have e1 := bound_unique ht hm1 hm0'
  have e2 := bound_unique ht hm hm0'
  refine ⟨⟨fl0, ⟨id0, ev0, f0, hm0⟩, fun hr => hnr (List.mem_append_right _ hr), fun ho => ?_⟩, id0, f0, fl0, ?_⟩
  · rintro ⟨o, hf⟩
    exact hnf (by rw [e1.2.2.2]; exact ho) ⟨o, List.mem_append_right _ hf⟩
  · rw [e2.2.1]; exact hm0

theorem evLive_cons_occBegin {ev : Int} {log : List Ev} {k o : Nat} {ev' : Int} {wf : Bool} :
    evLive ev (Ev.occBegin o ev' wf :: log) k ↔ evLive ev log k := by
  unfold evLive
  rw [liveAt_cons (e := Ev.occBegin o ev' wf) nofun]
  simp only [List.mem_cons, reduceCtorEq, false_or]

/-- What a walk of occurrence `o` has recorded (`seg`, newest first, on top of `log`) and returned (`r`), against the
    chain `ch` it had to look at (bindings appended meanwhile included):
    * its deliveries went, in chain order and at most once each, to bindings of `ch`;
    * each went to a binding that was live and bound to the event at that moment;
    * a binding of `ch` that got no delivery was not live-and-bound-to-the-event at the moment any binding after it got
      one, nor — unless a handler claimed the event — at the end;
    * the stop-at-first-claim walker: a handler of this occurrence returning non-zero ends the walk with that value. -/
def WalkLog (wf : Bool) (ev : Int) (o : Nat) (ch : List Nat) (log seg : List Ev) (r : Int) : Prop :=
  (firesOf o seg).Sublist ch ∧
  (∀ c s1 s2, seg = s2 ++ Ev.fire c o :: s1 → evLive ev (s1 ++ log) c) ∧
  (∀ b ∈ ch, b ∉ firesOf o seg →
      (∀ c s1 s2, seg = s2 ++ Ev.fire c o :: s1 → c ∈ afterK b ch → ¬ evLive ev (s1 ++ log) b) ∧
      (¬ (wf = true ∧ r ≠ 0) → ¬ evLive ev (seg ++ log) b)) ∧
  (∀ s2 s1 c r', seg = s2 ++ Ev.leave c o r' :: s1 → wf = true → r' ≠ 0 → s2 = [] ∧ r = r') ∧
  (r ≠ 0 → wf = true ∧ ∃ c s1, seg = Ev.leave c o r :: s1)

section
variable {wf : Bool} {ev : Int} {o b : Nat} {ch : List Nat} {log : List Ev}

theorem WalkLog.nil : WalkLog wf ev o [] log [] 0 :=
  ⟨by simp [firesOf], by intro c s1 s2 hs; simp at hs, nofun, by intro s2 s1 c r' hs; simp at hs, fun hr => absurd rfl hr⟩

/-- the walker passes a binding that is not live for the event: it does not come back to life -/
theorem WalkLog.skip {seg : List Ev} {r : Int} (hdead : ¬ evLive ev log b) (hbound : ∃ fl, boundIn log b fl)
    (htr : TraceOk (seg ++ log)) (h : WalkLog wf ev o ch log seg r) : WalkLog wf ev o (b :: ch) log seg r := by
  obtain ⟨hsub, hsound, hcomp, hstop, hclaimed⟩ := h
  refine ⟨hsub.cons _, hsound, fun b' hb' hnf => ?_, hstop, hclaimed⟩
  by_cases hbk : b' = b
  · subst hbk
    refine ⟨fun c s1 s2' hs _ hl => hdead (evLive_mono ?_ hbound hl), fun _ hl => hdead (evLive_mono htr hbound hl)⟩
    rw [hs, List.append_assoc] at htr
    exact (TraceOk.suffix htr).2
  · obtain ⟨hca, hcb⟩ := hcomp b' ((List.mem_cons.1 hb').resolve_left hbk) hnf
    refine ⟨fun c s1 s2' hs hafter => hca c s1 s2' hs ?_, hcb⟩
    simpa only [afterK, if_neg (Ne.symm hbk)] using hafter

/-- what a delivery to `b` recorded: the handler's activity `segc` on top of the decision, with nothing of occurrence `o`
    in it but the return at its end -/
structure Delivered (o b : Nat) (r2 : Int) (segc : List Ev) : Prop where
  noFire : ∀ c, Ev.fire c o ∉ segc
  tail : ∃ tail, segc = Ev.leave b o r2 :: tail ∧ ∀ c r', Ev.leave c o r' ∉ tail

theorem Delivered.firesOf {r2 : Int} {segc : List Ev} (d : Delivered o b r2 segc) : firesOf o (segc ++ [Ev.fire b o]) = [b] := by
  rw [firesOf_append, firesOf_eq_nil d.noFire, List.append_nil]
  simp [Tickit.Bindings.firesOf]

theorem Delivered.leave_split {r2 : Int} {segc : List Ev} (d : Delivered o b r2 segc) {s2 s1 : List Ev} {c : Nat} {r' : Int}
    (hs : segc ++ [Ev.fire b o] = s2 ++ Ev.leave c o r' :: s1) : s2 = [] ∧ r2 = r' := by
  obtain ⟨tail, rfl, hnol⟩ := d.tail
  cases s2 with
  | nil =>
    simp only [List.nil_append, List.cons_append, List.cons.injEq] at hs
    injection hs.1 with _ _ he
    exact ⟨rfl, he⟩
  | cons x t =>
    simp only [List.cons_append, List.cons.injEq] at hs
    have hm : Ev.leave c o r' ∈ tail ++ [Ev.fire b o] := by rw [hs.2]; simp
    simp only [List.mem_append, List.mem_singleton, reduceCtorEq, or_false] at hm
    exact absurd hm (hnol c r')

theorem WalkLog.claim {r2 : Int} {segc : List Ev} (hwf : wf = true) (hr2 : r2 ≠ 0) (hlive0 : evLive ev log b) (hb : b ∉ ch)
    (d : Delivered o b r2 segc) : WalkLog wf ev o (b :: ch) log (segc ++ [Ev.fire b o]) r2 := by
  have hfires := d.firesOf
  -- the only delivery is the one to `b`, recorded first
  have hsplit : ∀ c s1 s2', segc ++ [Ev.fire b o] = s2' ++ Ev.fire c o :: s1 → s1 = [] ∧ c = b := by
    intro c s1 s2' hs
    rcases split_append_single hs with ⟨hs1, hce, _⟩ | ⟨s1', hs1', _⟩
    · injection hce with hce _; exact ⟨hs1, hce⟩
    · exact absurd (by rw [hs1']; simp) (d.noFire c)
  refine ⟨by rw [hfires]; simp, fun c s1 s2' hs => ?_, fun b' hb' hnf => ⟨fun c s1 s2' hs hafter => ?_, fun hncl => absurd ⟨hwf, hr2⟩ hncl⟩,
    fun s2' s1 c r' hs _ _ => d.leave_split hs, fun _ => ⟨hwf, ?_⟩⟩
  · obtain ⟨rfl, rfl⟩ := hsplit c s1 s2' hs
    exact hlive0
  · -- `c = b` would have to come after `b'` in a chain that starts with `b`
    obtain ⟨_, rfl⟩ := hsplit c s1 s2' hs
    have hne : b' ≠ c := fun e => hnf (by rw [hfires, e]; simp)
    simp only [afterK, if_neg (Ne.symm hne)] at hafter
    exact absurd (afterK_sub _ hafter) hb
  · obtain ⟨tail, rfl, _⟩ := d.tail
    exact ⟨b, tail ++ [Ev.fire b o], rfl⟩

theorem WalkLog.fire {r2 r : Int} {segc segr : List Ev} (hncl : ¬ (wf = true ∧ r2 ≠ 0)) (hlive0 : evLive ev log b) (hb : b ∉ ch)
    (d : Delivered o b r2 segc) (h : WalkLog wf ev o ch (segc ++ Ev.fire b o :: log) segr r) :
    WalkLog wf ev o (b :: ch) log (segr ++ segc ++ [Ev.fire b o]) r := by
  obtain ⟨hsub, hsound, hcomp, hstop, hclaimed⟩ := h
  have hfires : firesOf o (segr ++ segc ++ [Ev.fire b o]) = b :: firesOf o segr := by
    rw [List.append_assoc, firesOf_append, d.firesOf]; rfl
  have hsplit : ∀ c s1 s2', segr ++ segc ++ [Ev.fire b o] = s2' ++ Ev.fire c o :: s1 →
      (s1 = [] ∧ c = b) ∨ (∃ s1', segr = s2' ++ Ev.fire c o :: s1' ∧ s1 ++ log = s1' ++ (segc ++ Ev.fire b o :: log)) := by
    intro c s1 s2' hs
    rcases split_append_single hs with ⟨hs1, hce, _⟩ | ⟨s1', hs1', hs1⟩
    · injection hce with hce _; exact Or.inl ⟨hs1, hce⟩
    · obtain ⟨s1'', h1', h2'⟩ := split_append_of_not_mem hs1' (d.noFire c)
      exact Or.inr ⟨s1'', h1', by rw [hs1, h2']; simp⟩
  refine ⟨by rw [hfires]; exact hsub.cons_cons _, fun c s1 s2' hs => ?_, fun b' hb' hnf => ?_, fun s2' s1 c r' hs hwf hr' => ?_,
    fun hr => ?_⟩
  · rcases hsplit c s1 s2' hs with ⟨rfl, rfl⟩ | ⟨s1', hs1', hlogeq⟩
    · exact hlive0
    · rw [hlogeq]; exact hsound c s1' s2' hs1'
  · rw [hfires] at hnf
    simp only [List.mem_cons, not_or] at hnf
    obtain ⟨hca, hcb⟩ := hcomp b' ((List.mem_cons.1 hb').resolve_left hnf.1) hnf.2
    refine ⟨fun c s1 s2' hs hafter => ?_, fun hn => by simpa using hcb hn⟩
    simp only [afterK, if_neg (Ne.symm hnf.1)] at hafter
    rcases hsplit c s1 s2' hs with ⟨_, rfl⟩ | ⟨s1', hs1', hlogeq⟩
    · exact absurd (afterK_sub _ hafter) hb
    · rw [hlogeq]; exact hca c s1' s2' hs1' hafter
  · have hs' : segr ++ (segc ++ [Ev.fire b o]) = s2' ++ Ev.leave c o r' :: s1 := by rw [← hs]; simp
    rcases split_append_cases hs' with ⟨s1', h1', _⟩ | ⟨s2'', _, h2'⟩
    · exact hstop s2' s1' c r' h1' hwf hr'
    · exact absurd ⟨hwf, (d.leave_split h2').2 ▸ hr'⟩ hncl
  · obtain ⟨hwf, c, s1, hs⟩ := hclaimed hr
    exact ⟨hwf, c, s1 ++ segc ++ [Ev.fire b o], by rw [hs]; simp⟩

end

section
variable {own : Owner} {beh : Behaviour}

theorem exec_walk_none {cfg : Cfg} {fuel : Nat} {wf : Bool} {ev : Int} {o : Nat} {st st' : St} {r : Int}
    (hex : exec cfg own beh fuel (.walk wf ev o none) st = .ok (st', r)) : st' = st ∧ r = 0 := by
  obtain ⟨f, rfl⟩ := exec_ok_fuel hex
  simp only [exec] at hex
  cases hex
  exact ⟨rfl, rfl⟩

/-- The walker of occurrence `o` delivers to the live binding `b`: the call completes with the owner alive, and what it
    recorded on top of the decision is the entry, the handler's own activity — nothing of occurrence `o` in it — and the
    return. -/
theorem deliver_spec (hs : Safe own beh) {fuel o : Nat} {st st2 : St} {b : Node} {r2 : Int} (h : Inv st) (hro : RefOk own st)
    (hit : st.isIter = true) (hbm : b ∈ st.list) (hlive : b.id ≠ TOMBSTONE) (hopos : 0 < o) (hocc : o < st.nextOcc)
    (hres : exec Cfg.repaired own beh fuel (.call b.key b.fn (if b.flags.oneshot = true then EV_FIRE + EV_UNBIND else EV_FIRE) o)
      (fireSt st b o) = .ok (st2, r2)) :
    Inv st2 ∧ RefOk own st2 ∧ Step (some o, some o) st st2 ∧
    ∃ segc, st2.log = segc ++ Ev.fire b.key o :: st.log ∧ Delivered o b.key r2 segc := by
  obtain ⟨h1, hro1, hcall, s1⟩ := fireSt_ok (beh := beh) (occ := o) h hro hit hbm hlive
  obtain ⟨h2, hro2, s2⟩ := exec_ok_alive hs hres h1 hro1 hcall (Or.inl hit)
  obtain ⟨segc, hsegc, hfc⟩ := s2.logExt
  rw [fireSt_log] at hsegc
  obtain ⟨hh, hfn⟩ := Option.ne_none_iff_exists'.1 (h.liveFn b hbm hlive)
  rw [hfn] at hres hcall
  obtain ⟨segA, hshape, hfA⟩ := exec_call_shape hs h1 hro1 hcall hres
  rw [fireSt_log, fireSt_inv] at hshape
  refine ⟨h2, hro2, s1.trans (s2.weaken (OccLe.call o)), segc, hsegc, fun c hm => ?_,
    segA ++ [Ev.enter b.key hh (st.inv hh) (if b.flags.oneshot = true then EV_FIRE + EV_UNBIND else EV_FIRE) o],
    List.append_cancel_right (bs := Ev.fire b.key o :: st.log) (by rw [← hsegc, hshape]; simp), fun c r' hm => ?_⟩
  · rcases hfc _ hm with hle | he
    · exact absurd hle (Nat.not_le_of_lt hocc)
    · cases he
  · simp only [List.mem_append, List.mem_singleton, reduceCtorEq, or_false] at hm
    rcases hfA h2.alive.2 _ hm with h0 | hle | he
    · omega
    · exact absurd hle (Nat.not_le_of_lt hocc)
    · cases he

/-- What a walk of occurrence `o` standing at `cur` has done: the chain it looked at is the rest of the chain as it was
    when it stood there, and then the bindings `A` appended meanwhile. -/
theorem walk_spec (hs : Safe own beh) : ∀ (fuel : Nat) (wf : Bool) (ev : Int) (o : Nat) (cur : Option Nat) (st st' : St) (r : Int),
    Inv st → RefOk own st → TaskOk own beh (.walk wf ev o cur) st → 0 < o →
    exec Cfg.repaired own beh fuel (.walk wf ev o cur) st = .ok (st', r) →
    ∃ seg A, st'.log = seg ++ st.log ∧ (∃ P, keys st'.list = P ++ keys st.list ++ A) ∧
      WalkLog wf ev o (chainFrom cur (keys st.list) ++ A) st.log seg r := by
  intro fuel
  induction fuel with
  | zero => intro wf ev o cur st st' r _ _ _ _ hex; simp [exec] at hex
  | succ fuel ih =>
    intro wf ev o cur st st' r h hro hok hopos hex
    obtain ⟨hinv', _, _⟩ := exec_ok_alive hs hex h hro hok (Or.inr rfl)
    obtain ⟨hit, hcur, hocc⟩ := hok
    cases cur with
    | none =>
      obtain ⟨rfl, rfl⟩ := exec_walk_none hex
      exact ⟨[], [], rfl, ⟨[], by simp⟩, WalkLog.nil⟩
    | some k =>
      have hk : k ∈ keys st.list := hcur k rfl
      obtain ⟨b, hfb⟩ := findKey_of_mem hk
      obtain ⟨hbm, rfl⟩ := findKey_some hfb
      obtain ⟨idb, evb, firstb, hmb, hinfo⟩ := h.boundInfo b hbm
      rw [exec_walk _ _ _ _ hfb] at hex
      show ∃ seg A, _ ∧ _ ∧ WalkLog wf ev o (b.key :: afterK b.key (keys st.list) ++ A) st.log seg r
      have hrest : ∀ w st2, Inv st2 → RefOk own st2 → Step (some o, some o) st st2 →
          (match nextOf st2.list b.key with
            | none => Res.ub w
            | some nx => exec Cfg.repaired own beh fuel (.walk wf ev o nx) st2) = .ok (st', r) →
          ∃ segr A, st'.log = segr ++ st2.log ∧ (∃ P, keys st'.list = P ++ keys st.list ++ A) ∧
            WalkLog wf ev o (afterK b.key (keys st.list) ++ A) st2.log segr r := by
        intro w st2 h2 hro2 s02 hex
        obtain ⟨P2, A2, hinfix2⟩ := s02.keysIter hit
        obtain ⟨nx, hn, hok2⟩ := walk_next (own := own) (beh := beh) (wf := wf) (ev := ev) hit hk hocc s02
        rw [hn] at hex
        obtain ⟨segr, A3, hsegr, ⟨P3, hinfix3⟩, hwl⟩ := ih wf ev o nx st2 st' r h2 hro2 hok2 hopos hex
        rw [chainFrom_next (s02.mem_keys hit hk) hn h2.keysNodup, hinfix2, afterK_infix (hinfix2 ▸ h2.keysNodup) hk,
          List.append_assoc] at hwl
        exact ⟨segr, A2 ++ A3, hsegr, ⟨P3 ++ P2, by rw [hinfix3, hinfix2]; simp⟩, hwl⟩
      split at hex
      · rename_i hc
        have hlive0 : evLive ev st.log b.key := by
          refine ⟨(h.liveIff b.key).1 ⟨b, hbm, rfl, hc.2⟩, idb, firstb, b.flags, ?_⟩
          rw [← hc.1, ← (hinfo hc.2).1]; exact hmb
        obtain ⟨st2, r2, hres, hex⟩ := Res.seq_ok hex
        obtain ⟨h2, hro2, s02, segc, hlog2, d⟩ := deliver_spec hs h hro hit hbm hc.2 hopos hocc hres
        split at hex
        · -- a handler claimed the event: the walk stops
          rename_i hclaim
          cases hex
          simp only [Bool.and_eq_true, bne_iff_ne, ne_eq] at hclaim
          obtain ⟨P2, A2, hinfix2⟩ := s02.keysIter hit
          exact ⟨segc ++ [Ev.fire b.key o], A2, by rw [hlog2]; simp, ⟨P2, hinfix2⟩,
            WalkLog.claim hclaim.1 hclaim.2 hlive0 (not_mem_afterK_append (hinfix2 ▸ h2.keysNodup) hk) d⟩
        · rename_i hnclaim
          obtain ⟨segr, A, hsegr, ⟨P, hinfix⟩, hwl⟩ := hrest _ st2 h2 hro2 s02 hex
          rw [hlog2] at hwl
          exact ⟨segr ++ segc ++ [Ev.fire b.key o], A, by rw [hsegr, hlog2]; simp, ⟨P, hinfix⟩,
            WalkLog.fire (by simpa using hnclaim) hlive0 (not_mem_afterK_append (hinfix ▸ hinv'.keysNodup) hk) d hwl⟩
      · -- not for this event, or a tombstone: skipped
        rename_i hc
        have hdead0 : ¬ evLive ev st.log b.key := by
          rintro ⟨hla, id', first', fl', hm'⟩
          obtain ⟨x, hx, hxk, hxl⟩ := (h.liveIff b.key).2 hla
          cases eq_of_key_eq h.keysNodup hx hbm hxk
          exact hc ⟨by rw [← (hinfo hxl).1, ← (bound_unique h.trace hm' hmb).2.1], hxl⟩
        obtain ⟨segr, A, hsegr, hinfix, hwl⟩ := hrest _ st h hro (Step.refl _ st) hex
        exact ⟨segr, A, hsegr, hinfix, hwl.skip hdead0 ⟨b.flags, idb, evb, firstb, hmb⟩ (hsegr ▸ hinv'.trace)⟩

/-- **One occurrence** (`tickit_bindings_run_event` / `…_whilefalse` called in any state satisfying the invariant,
    i.e. at any nesting depth).  `A` are the bindings appended to the chain while it was being delivered. -/
theorem runEvent_spec (hs : Safe own beh) {fuel : Nat} {wf : Bool} {ev : Int} {st st' : St} {r : Int} (h : Inv st)
    (hro : RefOk own st) (hokr : TaskOk own beh (.runEvent wf ev) st) (hocc1 : 1 ≤ st.nextOcc)
    (hex : exec Cfg.repaired own beh fuel (.runEvent wf ev) st = .ok (st', r)) :
    ∃ seg A, st'.log = Ev.occEnd st.nextOcc :: (seg ++ Ev.occBegin st.nextOcc ev wf :: st.log) ∧
      (keys st.list ++ A).Nodup ∧
      WalkLog wf ev st.nextOcc (keys st.list ++ A) (Ev.occBegin st.nextOcc ev wf :: st.log) seg r := by
  obtain ⟨fuel, rfl⟩ := exec_ok_fuel hex
  rw [exec_runEvent] at hex
  obtain ⟨h1, hro1, hok⟩ := occSt_ok (beh := beh) h hro hokr
  obtain ⟨st2, r2, hres, hex⟩ := Res.seq_ok hex
  obtain ⟨h2, _, _⟩ := exec_ok_alive hs hres h1 hro1 hok (Or.inr rfl)
  obtain ⟨seg, A, hseg, ⟨P, hinfix⟩, hwl⟩ :=
    walk_spec hs fuel wf ev st.nextOcc (firstOf st.list) _ st2 r2 h1 hro1 hok (Nat.lt_of_succ_le hocc1) hres
  rw [occSt_list] at hinfix hwl
  rw [occSt_log] at hseg hwl
  rw [firstOf_eq, chainFrom_head] at hwl
  have hnd : (keys st.list ++ A).Nodup := by
    have : (P ++ keys st.list ++ A).Nodup := by rw [← hinfix]; exact h2.keysNodup
    rw [List.append_assoc] at this
    exact (List.nodup_append.1 this).2.1
  have hr : r = r2 ∧ st'.log = Ev.occEnd st.nextOcc :: st2.log := by
    rw [if_neg (show ¬ st2.dead = true by rw [h2.alive.2]; simp)] at hex
    split at hex <;> (cases hex; exact ⟨rfl, rfl⟩)
  exact ⟨seg, A, by rw [hr.2, hseg], hnd, hr.1 ▸ hwl⟩

end

def plain : BFlags := ⟨false, false, false⟩
def oneshot : BFlags := ⟨false, false, true⟩
def wantsUnbind : BFlags := ⟨true, false, false⟩

def behReemit : Behaviour := fun h n => if h = 0 ∧ n = 0 then ⟨[.emit 1], 0⟩ else ⟨[], 0⟩
def behSelfTwice : Behaviour := fun h n => if h = 0 ∧ n ≤ 1 then ⟨[.unbindSelf], 0⟩ else ⟨[], 0⟩
def behBindFirst : Behaviour := fun h n => if h = 0 ∧ n = 0 then ⟨[.bind 1 true plain 1], 0⟩ else ⟨[], 0⟩
def behNone : Behaviour := fun _ _ => ⟨[], 0⟩

def behDropRef : Behaviour := fun h n => if h = 0 ∧ n = 0 then ⟨[.destroy, .emit 1], 0⟩ else ⟨[], 0⟩
/-- a pen as it is since fix 4d40c98: its emitters hold a reference while they run the handlers -/
def penHoldingRef : Owner := { Owner.pen with holdsRef := true }

theorem noDestroy_behReemit : NoDestroy behReemit := by intro h n; unfold behReemit; split <;> simp
theorem noDestroy_behSelfTwice : NoDestroy behSelfTwice := by intro h n; unfold behSelfTwice; split <;> simp
theorem noDestroy_behBindFirst : NoDestroy behBindFirst := by intro h n; unfold behBindFirst; split <;> simp
theorem noDestroy_behNone : NoDestroy behNone := by intro h n; simp [behNone]

def behMutate : Behaviour := fun h n => if h = 0 ∧ n = 0 then ⟨[.unbind 1, .bind 1 false plain 3], 0⟩ else ⟨[], 0⟩

theorem noDestroy_behMutate : NoDestroy behMutate := by intro h n; unfold behMutate; split <;> simp

def stThree : St := bindEvent (bindEvent (bindEvent St.init 1 false plain 0) 1 false plain 1) 1 true plain 2

theorem inv_stThree : Inv stThree := ((Inv.init.of_bind _ _ _ _).of_bind _ _ _ _).of_bind _ _ _ _

end Tickit.Bindings
