import Tickit.Proof.RBCopyPrim
import Tickit.Proof.RBRefine
/-
  C13 ↔ C03: the invariant of the render-buffer engine (`Tickit.RB.WF`, kept by every public operation) implies the
  well-formedness the C13 theorems ask for (`Tickit.RBCopy.WF`), so they hold of every buffer a drawing program reaches.
  The crossings between the notions the two models both write: `wf_of_rb`; `rowWF_iff`, `ofAbs` (RBCopyRow);
  `absContent_ofAbs`, `mergeLine_ofAbs`, `writable_iff_abs`, `WF.runsOK` (RBCopyPrim); `SameAux.of_aux`; `pen_copy_keep`.
-/
namespace Tickit.RBCopy

theorem wf_of_rb {rb : Tickit.RB.RB} (h : Tickit.RB.WF rb) : Tickit.RBCopy.WF rb := by
  refine ⟨fun l h0 h1 => rowWF_iff.2 (h.rows l h0 h1), fun l c h0 h1 h2 h3 => ⟨h.maskLB l c, h.maskUB l c h0 h1 h2 h3⟩, ?_⟩
  rcases h.clip with hc | hc
  · exact Or.inl hc
  · exact Or.inr ⟨hc.1, hc.2.1, hc.2.2.1, hc.2.2.2.1⟩

theorem wf_reachable (lines cols g1 g2 : Int) (hl : 0 ≤ lines) (hc : 0 < cols) (prog : List Tickit.RB.Op) :
    Tickit.RBCopy.WF (Tickit.RB.run (Tickit.RB.RB.new lines cols g1 g2) prog) :=
  wf_of_rb (Tickit.RB.run_new_refines lines cols g1 g2 hl hc prog).1

theorem wf_new (lines cols g1 g2 : Int) (hl : 0 ≤ lines) (hc : 0 < cols) : WF (Tickit.RB.RB.new lines cols g1 g2) :=
  wf_of_rb (Tickit.RB.new_refines lines cols g1 g2 hl hc).1

end Tickit.RBCopy
