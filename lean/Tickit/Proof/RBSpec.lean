import Tickit.Model.RBAbs
/-
  Facts about the specification itself (`Tickit.RBAbs`).  Confinement: every drawing operation is `Drawn` on its
  `opCovers` (`step_drawn`); `Writes`/`NeverWritten` follow a cell through a program.  The stack discipline:
  `Balanced`, `bal_stack`.  At the end, `tickit_pen_copy` in the two forms the models use.
-/
namespace Tickit.RBAbs
open Tickit Tickit.RB

theorem paint_writable (a : AState) (cov : Int → Int → Bool) (w : Int → Int → Content → Content) (L C : Int) :
    (paint a cov w).writable L C = a.writable L C := rfl

theorem paint_content_of_not_writable (a : AState) (cov : Int → Int → Bool) (w : Int → Int → Content → Content) (L C : Int)
    (h : a.writable L C = false) : (paint a cov w).content L C = a.content L C := by
  show (if cov _ _ && a.writable L C then _ else _) = _
  rw [h]; simp

theorem paint_aux (a : AState) (cov : Int → Int → Bool) (w : Int → Int → Content → Content) :
    (paint a cov w).stack = a.stack ∧ (paint a cov w).clip = a.clip ∧ (paint a cov w).masked = a.masked ∧
    (paint a cov w).vc = a.vc ∧ (paint a cov w).xlLine = a.xlLine ∧ (paint a cov w).xlCol = a.xlCol ∧
    (paint a cov w).pen = a.pen ∧ (paint a cov w).lines = a.lines ∧ (paint a cov w).cols = a.cols :=
  ⟨rfl, rfl, rfl, rfl, rfl, rfl, rfl, rfl, rfl⟩

theorem inRun_iff (line col cols l c : Int) : inRun line col cols l c = true ↔ (l = line ∧ col ≤ c ∧ c < col + cols) := by
  unfold inRun; simp only [Bool.and_eq_true, decide_eq_true_eq, and_assoc]

theorem setpen_eq (a : AState) (pen : Option Pen) :
    setpen a pen = { a with pen := (setpen a pen).pen } := by
  unfold setpen; cases a.stack <;> rfl

/-- What is invisible to drawing: the part of the state that decides where drawing lands. -/
structure SameFrame (a b : AState) : Prop where
  stack : b.stack = a.stack
  clip : b.clip = a.clip
  masked : b.masked = a.masked
  xlLine : b.xlLine = a.xlLine
  xlCol : b.xlCol = a.xlCol
  pen : b.pen = a.pen
  lines : b.lines = a.lines
  cols : b.cols = a.cols

theorem SameFrame.refl (a : AState) : SameFrame a a := ⟨rfl, rfl, rfl, rfl, rfl, rfl, rfl, rfl⟩
theorem SameFrame.trans {a b c : AState} (h1 : SameFrame a b) (h2 : SameFrame b c) : SameFrame a c :=
  ⟨h2.stack.trans h1.stack, h2.clip.trans h1.clip, h2.masked.trans h1.masked, h2.xlLine.trans h1.xlLine,
   h2.xlCol.trans h1.xlCol, h2.pen.trans h1.pen, h2.lines.trans h1.lines, h2.cols.trans h1.cols⟩

structure DrawStep (a b : AState) : Prop where
  frame : SameFrame a b
  confined : ∀ L C, a.writable L C = false → b.content L C = a.content L C

def isDraw : Op → Bool
  | .textAt .. | .text .. | .eraseAt .. | .erase .. | .eraseTo .. | .skipAt .. | .skip .. | .skipTo .. | .charAt .. | .char ..
  | .hlineAt .. | .vlineAt .. | .clear | .eraserect .. | .skiprect .. => true
  | _ => false

open Tickit.Gen.RBWidth in
/-- The cells (in user coordinates, before translation) an operation draws on when nothing is clipped or
    masked.  Cursor-relative operations read the cursor of `a`. -/
def opCovers (a : AState) : Op → Int → Int → Bool
  | .textAt l c s => fun l' c' => match Utf8.stringColumns s with
    | some n => inRun l c n l' c'
    | none => false
  | .text s => fun l' c' => match a.vc, Utf8.stringColumns s with
    | some (l, c), some n => inRun l c n l' c'
    | _, _ => false
  | .eraseAt l c n => inRun l c n
  | .skipAt l c n => inRun l c n
  | .erase n => fun l' c' => match a.vc with
    | some (l, c) => inRun l c n l' c'
    | none => false
  | .skip n => fun l' c' => match a.vc with
    | some (l, c) => inRun l c n l' c'
    | none => false
  | .eraseTo col => fun l' c' => match a.vc with
    | some (l, c) => inRun l c (col - c) l' c'
    | none => false
  | .skipTo col => fun l' c' => match a.vc with
    | some (l, c) => inRun l c (col - c) l' c'
    | none => false
  | .charAt l c _ => inRun l c 1
  | .char _ => fun l' c' => match a.vc with
    | some (l, c) => inRun l c 1 l' c'
    | none => false
  | .hlineAt l c1 c2 _ _ => fun l' c' => decide (l' = l) && (decide (c' = c1) || decide (c' = c2) || (decide (c1 < c') && decide (c' < c2)))
  | .vlineAt l1 l2 c _ _ => fun l' c' => decide (c' = c) && (decide (l' = l1) || decide (l' = l2) || (decide (l1 < l') && decide (l' < l2)))
  | .clear => (⟨0, 0, a.lines, a.cols⟩ : Rect).memb
  | .eraserect r => r.memb
  | .skiprect r => r.memb
  | _ => fun _ _ => false

/-- `o` writes cell `(L, C)` in state `a`: it covers it (after translation) while it is inside the clip and
    unmasked.  (`reset` rewrites everything.) -/
def Writes (a : AState) (o : Op) (L C : Int) : Prop :=
  o = .reset ∨ (opCovers a o (L - a.xlLine) (C - a.xlCol) = true ∧ a.writable L C = true)

/-- A drawing step that writes inside `cov` (user coordinates) only: the registers stay (`SameFrame`) and every cell
    not both covered and writable keeps its content.  `DrawStep` is the same without the region — cells that are
    not writable keep their content (`Drawn.drawStep`). -/
structure Drawn (cov : Int → Int → Bool) (a b : AState) : Prop where
  frame : SameFrame a b
  rest : ∀ L C, ¬ (cov (L - a.xlLine) (C - a.xlCol) = true ∧ a.writable L C = true) → b.content L C = a.content L C

theorem Drawn.refl (cov : Int → Int → Bool) (a : AState) : Drawn cov a a := ⟨SameFrame.refl a, fun _ _ _ => rfl⟩

theorem Drawn.trans {cov : Int → Int → Bool} {a b c : AState} (h1 : Drawn cov a b) (h2 : Drawn cov b c) : Drawn cov a c := by
  refine ⟨h1.frame.trans h2.frame, fun L C h => ?_⟩
  rw [h2.rest L C, h1.rest L C h]
  unfold AState.writable
  rw [h1.frame.xlLine, h1.frame.xlCol, h1.frame.clip, h1.frame.masked]
  exact h

theorem Drawn.mono {cov cov' : Int → Int → Bool} {a b : AState} (h : Drawn cov a b)
    (hc : ∀ l c, cov l c = true → cov' l c = true) : Drawn cov' a b :=
  ⟨h.frame, fun L C x => h.rest L C (fun y => x ⟨hc _ _ y.1, y.2⟩)⟩

theorem Drawn.setvc {cov : Int → Int → Bool} {a b : AState} (h : Drawn cov a b) (v : Option (Int × Int)) :
    Drawn cov a { b with vc := v } :=
  ⟨⟨h.frame.stack, h.frame.clip, h.frame.masked, h.frame.xlLine, h.frame.xlCol, h.frame.pen, h.frame.lines, h.frame.cols⟩,
   h.rest⟩

theorem Drawn.paint (a : AState) (cov : Int → Int → Bool) (w : Int → Int → Content → Content) :
    Drawn cov a (paint a cov w) := by
  refine ⟨⟨rfl, rfl, rfl, rfl, rfl, rfl, rfl, rfl⟩, fun L C h => ?_⟩
  show (if cov _ _ && a.writable L C then _ else _) = _
  rw [if_neg]
  intro x; rw [Bool.and_eq_true] at x; exact h x

theorem Drawn.drawStep {cov : Int → Int → Bool} {a b : AState} (h : Drawn cov a b) : DrawStep a b :=
  ⟨h.frame, fun L C x => h.rest L C (fun y => by rw [x] at y; exact Bool.noConfusion y.2)⟩

theorem Drawn.linecell {cov : Int → Int → Bool} (a : AState) {l c : Int} (bits : Nat) (h : cov l c = true) :
    Drawn cov a (linecell a l c bits) := by
  refine (Drawn.paint a (inRun l c 1) _).mono (fun l' c' x => ?_)
  have := (inRun_iff _ _ _ _ _).1 x
  have e : c' = c := by omega
  rw [this.1, e]; exact h

theorem Drawn.lineLoop {cov : Int → Int → Bool} (cellAt : Int → Int × Int) (bits : Nat) (n : Nat) :
    ∀ (a : AState) (from_ : Int), (∀ k, from_ ≤ k → k < from_ + n → cov (cellAt k).1 (cellAt k).2 = true) →
      Drawn cov a (lineLoop cellAt bits a from_ n) := by
  induction n with
  | zero => intro a _ _; exact Drawn.refl cov a
  | succ n ih =>
    intro a from_ h
    unfold RBAbs.lineLoop
    exact (Drawn.linecell a bits (h from_ (Int.le_refl _) (by omega))).trans
      (ih _ _ (fun k k1 k2 => h k (by omega) (by omega)))

theorem step_drawn (a : AState) (o : Op) (h : isDraw o = true) : Drawn (opCovers a o) a (step a o) := by
  have cur : ∀ (cov : Int → Int → Int → Int → Bool) (draw : AState → Int → Int → AState) (v : Int → Int → Option (Int × Int)),
      (∀ l c, Drawn (cov l c) a (draw a l c)) →
      Drawn (fun l' c' => match a.vc with
          | some (l, c) => cov l c l' c'
          | none => false) a
        (match a.vc with
          | none => a
          | some (l, c) => { draw a l c with vc := v l c }) := by
    intro cov draw v hd
    cases a.vc with
    | none => exact Drawn.refl _ a
    | some p => exact (hd p.1 p.2).setvc _
  have txt : ∀ l c s, Drawn (fun l' c' => match Utf8.stringColumns s with
      | some n => inRun l c n l' c'
      | none => false) a (textAt a l c s) := by
    intro l c s
    unfold textAt
    cases Utf8.stringColumns s with
    | none => exact Drawn.refl _ a
    | some n => exact Drawn.paint a _ _
  cases o <;> simp only [isDraw, Bool.false_eq_true] at h
  case textAt l c s => exact txt l c s
  case text s =>
    refine (cur (fun l c l' c' => match Utf8.stringColumns s with
      | some n => inRun l c n l' c'
      | none => false) (fun a l c => textAt a l c s) _ (fun l c => txt l c s)).mono (fun l' c' x => ?_)
    show (match a.vc, Utf8.stringColumns s with
      | some (l, c), some n => inRun l c n l' c'
      | _, _ => false) = true
    cases hv : a.vc with
    | none => rw [hv] at x; exact x
    | some p => rw [hv] at x; cases hs : Utf8.stringColumns s <;> rw [hs] at x <;> exact x
  case eraseAt l c n => exact (Drawn.paint a _ _ : Drawn (inRun l c n) a (eraseAt a l c n))
  case erase n => exact cur (fun l c => inRun l c n) (fun a l c => eraseAt a l c n) _ (fun _ _ => Drawn.paint a _ _)
  case eraseTo col =>
    exact cur (fun l c => inRun l c (col - c)) (fun a l c => eraseAt a l c (col - c)) (fun l _ => some (l, col))
      (fun _ _ => Drawn.paint a _ _)
  case skipAt l c n => exact (Drawn.paint a _ _ : Drawn (inRun l c n) a (skipAt a l c n))
  case skip n => exact cur (fun l c => inRun l c n) (fun a l c => skipAt a l c n) _ (fun _ _ => Drawn.paint a _ _)
  case skipTo col =>
    exact cur (fun l c => inRun l c (col - c)) (fun a l c => skipAt a l c (col - c)) (fun l _ => some (l, col))
      (fun _ _ => Drawn.paint a _ _)
  case charAt l c cp => exact (Drawn.paint a _ _ : Drawn (inRun l c 1) a (charAt a l c cp))
  case char cp => exact cur (fun l c => inRun l c 1) (fun a l c => charAt a l c cp) _ (fun _ _ => Drawn.paint a _ _)
  case hlineAt l c1 c2 st caps =>
    refine ((Drawn.linecell a _ ?_).trans (Drawn.lineLoop _ _ _ _ _ (fun k k1 k2 => ?_))).trans (Drawn.linecell _ _ ?_)
    · simp [opCovers]
    · simp only [opCovers, Bool.and_eq_true, Bool.or_eq_true, decide_eq_true_eq]
      exact ⟨trivial, Or.inr (by omega)⟩
    · simp [opCovers]
  case vlineAt l1 l2 c st caps =>
    refine ((Drawn.linecell a _ ?_).trans (Drawn.lineLoop _ _ _ _ _ (fun k k1 k2 => ?_))).trans (Drawn.linecell _ _ ?_)
    · simp [opCovers]
    · simp only [opCovers, Bool.and_eq_true, Bool.or_eq_true, decide_eq_true_eq]
      exact ⟨trivial, Or.inr (by omega)⟩
    · simp [opCovers]
  case clear => exact (Drawn.paint a _ _ : Drawn _ a (eraserect a ⟨0, 0, a.lines, a.cols⟩))
  case eraserect r => exact (Drawn.paint a _ _ : Drawn r.memb a (eraserect a r))
  case skiprect r => exact (Drawn.paint a _ _ : Drawn r.memb a (skiprect a r))

/-- Confinement, for the specification. -/
theorem draw_step (a : AState) (o : Op) (h : isDraw o = true) : DrawStep a (step a o) := (step_drawn a o h).drawStep

theorem not_writes_unchanged (a : AState) (o : Op) (L C : Int) (h : ¬ Writes a o L C) :
    (step a o).content L C = a.content L C := by
  cases hd : isDraw o with
  | true => exact (step_drawn a o hd).rest L C (fun x => h (Or.inr x))
  | false =>
    cases o <;> simp only [isDraw, Bool.true_eq_false] at hd
    case reset => exact absurd (Or.inl rfl) h
    case setpen p => show (setpen a p).content L C = _; rw [setpen_eq]
    case restore =>
      show (restore a).content L C = _; unfold restore
      cases a.stack with
      | nil => rfl
      | cons g rest => simp only; split <;> rfl
    all_goals rfl

/-- No operation of the program writes the cell, each judged in the state it runs in. -/
def NeverWritten : AState → List Op → Int → Int → Prop
  | _, [], _, _ => True
  | a, o :: r, L, C => ¬ Writes a o L C ∧ NeverWritten (step a o) r L C

theorem neverWritten_unchanged : ∀ (p : List Op) (a : AState) (L C : Int), NeverWritten a p L C →
    (run a p).content L C = a.content L C := by
  intro p
  induction p with
  | nil => intro a L C _; rfl
  | cons o r ih =>
    intro a L C h
    show (run (step a o) r).content L C = _
    rw [ih (step a o) L C h.2, not_writes_unchanged a o L C h.1]

def lineMaskOf : Content → Nat
  | .line _ m => m
  | _ => 0

theorem mergeLine_lineMask (pen : Pen) (b : Nat) (old : Content) :
    lineMaskOf (mergeLine pen b old) = lineMaskOf old ||| b := by
  cases old <;> simp [mergeLine, lineMaskOf]

theorem mergeLine_comm_mask (p1 p2 : Pen) (b1 b2 : Nat) (old : Content) :
    lineMaskOf (mergeLine p2 b2 (mergeLine p1 b1 old)) = lineMaskOf (mergeLine p1 b1 (mergeLine p2 b2 old)) := by
  simp only [mergeLine_lineMask]
  apply Nat.eq_of_testBit_eq; intro i; simp [Nat.testBit_or]
  cases (lineMaskOf old).testBit i <;> cases b1.testBit i <;> cases b2.testBit i <;> rfl

theorem mergeLine_pen (pen : Pen) (b : Nat) (old : Content) (hrefl : Pen.equiv pen pen = true) :
    ∃ p m, mergeLine pen b old = .line p m ∧ Pen.equiv p pen = true := by
  cases old with
  | line p m =>
    by_cases h : Pen.equiv p pen = true
    · exact ⟨p, m ||| b, by simp [mergeLine, h], h⟩
    · exact ⟨pen, m ||| b, by simp [mergeLine, h], hrefl⟩
  | skip => exact ⟨pen, b, rfl, hrefl⟩
  | text _ _ _ => exact ⟨pen, b, rfl, hrefl⟩
  | erase _ => exact ⟨pen, b, rfl, hrefl⟩
  | char _ _ => exact ⟨pen, b, rfl, hrefl⟩

inductive StackKind | push | pop | reset | keep
deriving DecidableEq

def stackKind : Op → StackKind
  | .save | .savepen => .push
  | .restore => .pop
  | .reset => .reset
  | _ => .keep

theorem step_stack_keep (a : AState) (o : Op) (h : stackKind o = .keep) : (step a o).stack = a.stack := by
  cases hd : isDraw o with
  | true => exact (step_drawn a o hd).frame.stack
  | false =>
    cases o <;> simp only [isDraw, Bool.true_eq_false] at hd <;> simp only [stackKind, reduceCtorEq] at h
    case setpen p => show (setpen a p).stack = a.stack; rw [setpen_eq]
    all_goals rfl

theorem step_stack_push (a : AState) (o : Op) (h : stackKind o = .push) :
    ∃ f, (step a o).stack = f :: a.stack := by
  cases o with
  | save => exact ⟨_, rfl⟩
  | savepen => exact ⟨_, rfl⟩
  | _ => simp [stackKind] at h

theorem step_stack_pop (a : AState) : (step a .restore).stack = a.stack.tail := by
  show (restore a).stack = _
  unfold restore
  cases hs : a.stack with
  | nil => simp [hs]
  | cons g rest => simp only; split <;> rfl

/-- Balance of saves and restores: `bal k p = some j` — starting `k` frames above the frame of interest the
    program `p` never pops that frame, contains no `reset`, and ends `j` frames above it. -/
def bal : Nat → List Op → Option Nat
  | k, [] => some k
  | k, o :: r =>
    match stackKind o, k with
    | .push, k => bal (k + 1) r
    | .pop, 0 => none
    | .pop, k + 1 => bal k r
    | .reset, _ => none
    | .keep, k => bal k r

def Balanced (p : List Op) : Prop := bal 0 p = some 0

theorem bal_stack : ∀ (p : List Op) (k j : Nat) (a : AState), bal k p = some j → k ≤ a.stack.length →
    (run a p).stack.drop j = a.stack.drop k ∧ j ≤ (run a p).stack.length := by
  intro p
  induction p with
  | nil =>
    intro k j a h hk
    simp only [bal, Option.some.injEq] at h
    subst h; exact ⟨rfl, hk⟩
  | cons o r ih =>
    intro k j a h hk
    unfold bal at h
    show (run (step a o) r).stack.drop j = _ ∧ _
    cases hs : stackKind o with
    | push =>
      rw [hs] at h; simp only at h
      obtain ⟨f, hf⟩ := step_stack_push a o hs
      have := ih (k + 1) j (step a o) h (by rw [hf]; simp; omega)
      rw [hf] at this
      exact ⟨by simpa using this.1, this.2⟩
    | pop =>
      rw [hs] at h
      cases k with
      | zero => simp at h
      | succ k =>
        simp only at h
        have ho : o = .restore := by cases o <;> first | rfl | exact StackKind.noConfusion hs
        subst ho
        have hp := step_stack_pop a
        have := ih k j (step a .restore) h (by rw [hp]; simp; omega)
        rw [hp] at this
        refine ⟨?_, this.2⟩
        rw [this.1]
        cases hst : a.stack with
        | nil => rw [hst] at hk; simp at hk
        | cons g rest => simp
    | reset => rw [hs] at h; simp at h
    | keep =>
      rw [hs] at h; simp only at h
      have hk' := step_stack_keep a o hs
      have := ih k j (step a o) h (by rw [hk']; exact hk)
      rw [hk'] at this
      exact this

theorem save_restore_abs (a : AState) (p : List Op) (hb : Balanced p) :
    (restore (run (save a) p)).xlLine = a.xlLine ∧ (restore (run (save a) p)).xlCol = a.xlCol ∧
    (restore (run (save a) p)).clip = a.clip ∧ (restore (run (save a) p)).pen = a.pen ∧
    (restore (run (save a) p)).masked = a.masked ∧ (restore (run (save a) p)).vc = a.vc ∧
    (restore (run (save a) p)).content = (run (save a) p).content := by
  have hst := (bal_stack p 0 0 (save a) hb (by simp)).1
  simp only [List.drop_zero] at hst
  unfold restore
  rw [hst]
  simp [save]

theorem clip_shrinks_abs (a : AState) (r : Rect) (L C : Int) (h : (clip a r).clip L C = true) : a.clip L C = true := by
  have : (a.clip L C && r.memb (L - a.xlLine) (C - a.xlCol)) = true := h
  rw [Bool.and_eq_true] at this; exact this.1

theorem absrun_append (a : AState) (p q : List Op) : RBAbs.run a (p ++ q) = RBAbs.run (RBAbs.run a p) q := by
  unfold RBAbs.run; rw [List.foldl_append]

end Tickit.RBAbs

namespace Tickit.RB
open Tickit.RBAbs

theorem copyAttr_empty {α : Type} (eqv : Option α → Option α → Bool) (src : Option α) :
    Pen.copyAttr eqv true none src = src := by
  unfold Pen.copyAttr; cases src <;> simp

theorem copyAttr_noow {α : Type} (eqv : Option α → Option α → Bool) (dst src : Option α) :
    Pen.copyAttr eqv false dst src = orElse dst src := by
  unfold Pen.copyAttr orElse; cases src <;> cases dst <;> simp

/-- `tickit_pen_copy(new, p, 1)` into a fresh pen is `p`. -/
theorem Pen.copy_empty (p : Pen) : Pen.copy Pen.empty p true = p := by
  unfold Pen.copy Pen.empty; simp only [copyAttr_empty]

/-- `tickit_pen_copy(dst, src, 0)`: attribute-wise "keep what is there, else take from `src`". -/
theorem Pen.copy_noow (p q : Pen) : Pen.copy p q false = mergePen p q := by
  unfold Pen.copy mergePen; simp only [copyAttr_noow]

end Tickit.RB
