import Tickit.Proof.WinVisible
import Tickit.Proof.WinScroll
/-
  What `_scroll` does (`Scrolled`, `scroll_region`: children masked or not), and from it the invariant step of
  `tickit_window_scroll` / `tickit_window_scrollrect`.  For every rectangle of the visible region either the whole rectangle
  is exposed (shift too large, or the terminal refuses), or the terminal moves its cells, the pending damage moves with them
  and the vacated strips are exposed.  The loop invariant `Mixed` compares the screen with two compositions: the new one
  inside the region scrolled so far, the old one elsewhere; the induction needs the rectangles pairwise disjoint (C05's
  `Inv`).
-/
namespace Tickit
namespace WinFlush
open WinTree WinRB WinSpec

/-- The strip of `o` a scroll by `d` lines vacates (at the bottom for `d > 0`, at the top for `d < 0`), exposed in `win`:
    the first of the two exposes of `scrollOne`. -/
def stripV (t : Tree) (fuel : Nat) (win : Id) (o : Rect) (cols d : Int) : Res Tree :=
  if d > 0 then expose t fuel win (some ⟨o.bottom - d, o.left, d, cols⟩)
  else if d < 0 then expose t fuel win (some ⟨o.top, o.left, -d, cols⟩) else .ok t

/-- The same for a scroll by `r` columns: the second expose of `scrollOne`. -/
def stripH (t : Tree) (fuel : Nat) (win : Id) (o : Rect) (lines r : Int) : Res Tree :=
  if r > 0 then expose t fuel win (some ⟨o.top, o.right - r, lines, r⟩)
  else if r < 0 then expose t fuel win (some ⟨o.top, o.left, lines, -r⟩) else .ok t

/-- Do-notation elaborates `let t ← if c1 then x else if c2 then y else pure a; f t` with `f` in every branch. -/
theorem ite_bind_join {α β : Type} (c1 c2 : Prop) [Decidable c1] [Decidable c2] (x y : Res α) (a : α) (f : α → Res β) :
    (if c1 then x >>= f else if c2 then y >>= f else pure a >>= f) =
      ((if c1 then x else if c2 then y else .ok a) >>= f) := by
  split
  · rfl
  · split <;> rfl

theorem strip_step {t t' : Tree} {fuel : Nat} {win : Id} {c1 c2 : Prop} [Decidable c1] [Decidable c2] {A B : Rect}
    (h : (if c1 then expose t fuel win (some A) else if c2 then expose t fuel win (some B) else .ok t) = .ok t')
    (hne : ∀ x ∈ t.root.damage, x.Nonempty) (hpos : RootsPositive t) :
    Exposed t (fun L C => (c1 ∧ ExposedRegion t fuel win (some A) L C) ∨
      (¬ c1 ∧ c2 ∧ ExposedRegion t fuel win (some B) L C)) t' := by
  by_cases h1 : c1
  · rw [if_pos h1] at h
    have hE := Exposed.of_expose h hne hpos
    exact ⟨hE.wins, hE.nonempty, hE.dinv, hE.root, hE.restore, fun L C => (hE.cov L C).trans
      (or_congr Iff.rfl ⟨fun hx => Or.inl ⟨h1, hx⟩, fun hx => hx.elim (fun hx => hx.2) fun hx => absurd h1 hx.1⟩)⟩
  · rw [if_neg h1] at h
    by_cases h2 : c2
    · rw [if_pos h2] at h
      have hE := Exposed.of_expose h hne hpos
      exact ⟨hE.wins, hE.nonempty, hE.dinv, hE.root, hE.restore, fun L C => (hE.cov L C).trans
        (or_congr Iff.rfl ⟨fun hx => Or.inr ⟨h1, h2, hx⟩, fun hx => hx.elim (fun hx => absurd hx.1 h1) fun hx => hx.2.2⟩)⟩
    · rw [if_neg h2] at h
      cases h
      exact ⟨rfl, hne, fun hi => hi, RootStep.refl t, rfl, fun L C =>
        ⟨Or.inl, fun hx => hx.elim (fun x => x) fun hx => hx.elim (fun hx => absurd hx.1 h1) fun hx => absurd hx.2.1 h2⟩⟩

theorem termScroll_outside (tl tc : Int) (g : Int → Int → Cell) (ρ : Rect) (d r : Int) (fill : Cell) (L C : Int)
    (h : ¬ ρ.Mem L C) : termScroll tl tc g ρ d r fill L C = g L C := by
  unfold termScroll
  have : ρ.memb L C = false := (memb_false_iff _ _ _).2 h
  simp [this]

theorem termScroll_inside (tl tc : Int) (g : Int → Int → Cell) (ρ : Rect) (d r : Int) (fill : Cell) (L C : Int)
    (h1 : ρ.Mem L C) (b1 : 0 ≤ L ∧ L < tl ∧ 0 ≤ C ∧ C < tc)
    (h2 : ρ.Mem (L + d) (C + r)) (b2 : 0 ≤ L + d ∧ L + d < tl ∧ 0 ≤ C + r ∧ C + r < tc) :
    termScroll tl tc g ρ d r fill L C = g (L + d) (C + r) := by
  unfold termScroll
  have e1 : ρ.memb L C = true := (Rect.memb_iff _ _ _).2 h1
  have e2 : ρ.memb (L + d) (C + r) = true := (Rect.memb_iff _ _ _).2 h2
  simp [e1, e2, b1.1, b1.2.1, b1.2.2.1, b1.2.2.2, b2.1, b2.2.1, b2.2.2.1, b2.2.2.2]

theorem shiftDamage_nil (ρ : Rect) (d r : Int) (acc : List Rect) : shiftDamage ρ d r [] acc = .ok acc := rfl

/-- What the loop of `_scroll` over the visible rectangles keeps of the state `st0` it started in; in every use `t0` is
    the tree of `st0`. -/
structure SLoopOk (t0 : Tree) (st0 st : St) : Prop where
  wins : st.tree.wins = t0.wins
  changes : st.tree.root.changes = st0.tree.root.changes
  tl : st.tlines = st0.tlines
  tc : st.tcols = st0.tcols
  pens : st.pens = st0.pens
  nonempty : ∀ x ∈ st.tree.root.damage, x.Nonempty
  dinv : RectSet.Inv st.tree.root.damage
  flags : Flags st.tree
  later : st0.tree.root.needsLater = true → st.tree.root.needsLater = true

theorem sLoopOk_expose {t0 : Tree} {st0 st : St} {t' : Tree} {R : Int → Int → Prop} (hl : SLoopOk t0 st0 st)
    (hE : Exposed st.tree R t') (scr : Int → Int → Cell) : SLoopOk t0 st0 { st with tree := t', screen := scr } :=
  { wins := hE.wins.trans hl.wins
    changes := hE.root.changes.trans hl.changes
    tl := hl.tl, tc := hl.tc, pens := hl.pens
    nonempty := hE.nonempty
    dinv := hE.dinv hl.dinv
    flags := hE.root.move.flags hl.flags
    later := fun h => by
      have := hl.later h
      rcases hE.root with hs | ⟨_, y, _⟩
      · show t'.root.needsLater = true
        rw [hs]; exact this
      · exact y }

/-- "Damaged or already right", against what the *new* composition `F'` shows inside the region `D` scrolled so far and
    what the old composition `F` shows elsewhere. -/
def Mixed (F F' : Int → Int → Option Cell) (D : Int → Int → Prop) (st : St) : Prop :=
  ∀ L C, Covered st.tree.root.damage L C ∨ (D L C ∧ ∀ v, F' L C = some v → st.screen L C = v) ∨
    (¬ D L C ∧ ∀ v, F L C = some v → st.screen L C = v)

theorem mixed_grow (F F' : Int → Int → Option Cell) (D : Int → Int → Prop) (ρ : Rect) (st st' : St)
    (hM : Mixed F F' D st)
    (hscr : ∀ L C, ¬ ρ.Mem L C → st'.screen L C = st.screen L C)
    (hgrow : ∀ L C, ¬ ρ.Mem L C → Covered st.tree.root.damage L C → Covered st'.tree.root.damage L C)
    (hin : ∀ L C, ρ.Mem L C → Covered st'.tree.root.damage L C ∨ ∀ v, F' L C = some v → st'.screen L C = v) :
    Mixed F F' (fun L C => ρ.Mem L C ∨ D L C) st' := by
  intro L C
  by_cases hm : ρ.Mem L C
  · rcases hin L C hm with h1 | h1
    · exact Or.inl h1
    · exact Or.inr (Or.inl ⟨Or.inl hm, h1⟩)
  · rcases hM L C with h1 | ⟨h1, h2⟩ | ⟨h1, h2⟩
    · exact Or.inl (hgrow L C hm h1)
    · exact Or.inr (Or.inl ⟨Or.inr h1, fun v hv => by rw [hscr L C hm]; exact h2 v hv⟩)
    · exact Or.inr (Or.inr ⟨fun hx => by rcases hx with hx | hx; exact hm hx; exact h1 hx,
        fun v hv => by rw [hscr L C hm]; exact h2 v hv⟩)

theorem mixed_congr (F F' : Int → Int → Option Cell) (D D' : Int → Int → Prop) (st : St)
    (h : ∀ L C, D L C ↔ D' L C) (hM : Mixed F F' D st) : Mixed F F' D' st := by
  intro L C
  rcases hM L C with h1 | ⟨h1, h2⟩ | ⟨h1, h2⟩
  · exact Or.inl h1
  · exact Or.inr (Or.inl ⟨(h L C).1 h1, h2⟩)
  · exact Or.inr (Or.inr ⟨fun hx => h1 ((h L C).2 hx), h2⟩)

/-- The three ways `_scrollrectset` deals with one rectangle: the whole rectangle exposed (shift too large), or the
    damage rebuilt and then either the whole rectangle exposed (the terminal refuses) or the grid scrolled and the
    vacated strips exposed. -/
theorem scrollOne_cases {oracle : Oracle} {win : Id} {T' L' d r : Int} {pen : Pen} {acc acc' : St × Bool × Bool} {ρ : Rect}
    (h : scrollOne oracle win T' L' d r pen acc ρ = .ok acc') :
    (∃ t, expose acc.1.tree acc.1.fuel win (some (ρ.translate (-T') (-L'))) = .ok t ∧ acc'.1 = { acc.1 with tree := t }) ∨
    ∃ dmg, shiftDamage ρ d r acc.1.tree.root.damage [] = .ok dmg ∧
      ((∃ t, expose { acc.1.tree with root := { acc.1.tree.root with damage := dmg } } acc.1.fuel win
          (some (ρ.translate (-T') (-L'))) = .ok t ∧ acc'.1 = { acc.1 with tree := t }) ∨
       ∃ t2 t3, stripV { acc.1.tree with root := { acc.1.tree.root with damage := dmg } } acc.1.fuel win
          (ρ.translate (-T') (-L')) ρ.cols d = .ok t2 ∧
        stripH t2 acc.1.fuel win (ρ.translate (-T') (-L')) ρ.lines r = .ok t3 ∧
        acc'.1 = { acc.1 with tree := t3,
                              screen := termScroll acc.1.tlines acc.1.tcols acc.1.screen ρ d r (Cell.blank pen) }) := by
  unfold scrollOne at h
  simp only [ite_bind_join] at h
  rcases ite_ok h with ⟨_, h⟩ | ⟨_, h⟩
  · obtain ⟨t, he, h⟩ := bind_ok_iff.1 h
    cases h
    exact Or.inl ⟨t, he, rfl⟩
  · obtain ⟨dmg, hsd, h⟩ := bind_ok_iff.1 h
    refine Or.inr ⟨dmg, hsd, ?_⟩
    rcases ite_ok h with ⟨_, h⟩ | ⟨_, h⟩
    · obtain ⟨t2, hv, h⟩ := bind_ok_iff.1 h
      obtain ⟨t3, hh, h⟩ := bind_ok_iff.1 h
      cases h
      exact Or.inr ⟨t2, t3, hv, hh, rfl⟩
    · obtain ⟨t, he, h⟩ := bind_ok_iff.1 h
      cases h
      exact Or.inl ⟨t, he, rfl⟩

theorem sLoopOk_shift {t0 : Tree} {st0 st : St} {ρ : Rect} {d r : Int} {dmg : List Rect} (hl : SLoopOk t0 st0 st)
    (hρ : ρ.Nonempty) (hsd : shiftDamage ρ d r st.tree.root.damage [] = .ok dmg) :
    SLoopOk t0 st0 { st with tree := { st.tree with root := { st.tree.root with damage := dmg } } } ∧
    (∀ L C, ¬ ρ.Mem L C → Covered st.tree.root.damage L C → Covered dmg L C) ∧
    (∀ L C, ρ.Mem L C → ρ.Mem (L + d) (C + r) → Covered st.tree.root.damage (L + d) (C + r) → Covered dmg L C) := by
  obtain ⟨s1, s2⟩ := shiftDamage_spec ρ d r hρ _ [] dmg hsd hl.nonempty RectSet.invS_nil
  refine ⟨{ wins := hl.wins, changes := hl.changes, tl := hl.tl, tc := hl.tc, pens := hl.pens, nonempty := s1.1,
            dinv := (RectSet.inv_iff _).2 s1, flags := fun hd => hl.flags (fun h0 => ?_), later := hl.later }, ?_, ?_⟩
  · rw [h0, shiftDamage_nil] at hsd
    cases hsd
    exact hd rfl
  · rintro L C hm ⟨rj, hrj, hmem⟩
    exact (s2 L C).2 (Or.inr ⟨rj, hrj, Or.inl ⟨hmem, hm⟩⟩)
  · rintro L C hm hin ⟨rj, hrj, hmem⟩
    exact (s2 L C).2 (Or.inr ⟨rj, hrj, Or.inr ⟨hm, hmem, hin⟩⟩)

/-- `st1` is `st` (shift too large) or `st` with the damage rebuilt (the terminal refuses). -/
theorem scrollOne_whole {F F' : Int → Int → Option Cell} {t0 : Tree} {st0 st st1 : St} {win : Id} {T' L' : Int}
    {D : Int → Int → Prop} {ρ : Rect} {t' : Tree} (hpos : RootsPositive t0) (hl1 : SLoopOk t0 st0 st1)
    (hscr : st1.screen = st.screen)
    (hout : ∀ L C, ¬ ρ.Mem L C → Covered st.tree.root.damage L C → Covered st1.tree.root.damage L C)
    (hexp : ∀ L C, ρ.Mem L C → ExposedAt t0 (t0.wins.size + 1) win (L - T') (C - L') L C)
    (he : expose st1.tree (t0.wins.size + 1) win (some (ρ.translate (-T') (-L'))) = .ok t') (hM : Mixed F F' D st) :
    SLoopOk t0 st0 { st1 with tree := t' } ∧ Mixed F F' (fun L C => ρ.Mem L C ∨ D L C) { st1 with tree := t' } := by
  have hE := Exposed.of_expose he hl1.nonempty (rootsPositive_congr hl1.wins hpos)
  refine ⟨sLoopOk_expose hl1 hE st1.screen, mixed_grow F F' D ρ st _ hM
    (fun L C _ => by show st1.screen L C = _; rw [hscr])
    (fun L C hm hc => (hE.cov L C).2 (Or.inl (hout L C hm hc))) (fun L C hm => Or.inl ?_)⟩
  refine (hE.cov L C).2 (Or.inr (exposedRegion_some ?_ (exposedAt_congr hl1.wins _ _ _ _ _ _ (hexp L C hm))))
  rw [Rect.mem_translate, Int.sub_neg, Int.sub_neg, Int.sub_add_cancel, Int.sub_add_cancel]
  exact hm

theorem vacated_in_strip {ρ : Rect} {T' L' d r L C : Int} (hm : ρ.Mem L C) (hin : ¬ ρ.Mem (L + d) (C + r)) :
    (d > 0 ∧ (⟨(ρ.translate (-T') (-L')).bottom - d, (ρ.translate (-T') (-L')).left, d, ρ.cols⟩ : Rect).Mem (L - T') (C - L')) ∨
    (¬ d > 0 ∧ d < 0 ∧ (⟨(ρ.translate (-T') (-L')).top, (ρ.translate (-T') (-L')).left, -d, ρ.cols⟩ : Rect).Mem (L - T') (C - L')) ∨
    (r > 0 ∧ (⟨(ρ.translate (-T') (-L')).top, (ρ.translate (-T') (-L')).right - r, ρ.lines, r⟩ : Rect).Mem (L - T') (C - L')) ∨
    (¬ r > 0 ∧ r < 0 ∧ (⟨(ρ.translate (-T') (-L')).top, (ρ.translate (-T') (-L')).left, ρ.lines, -r⟩ : Rect).Mem (L - T') (C - L')) := by
  simp only [Rect.translate, Rect.Mem, Rect.bottom, Rect.right] at hm hin ⊢
  by_cases hv1 : L + d ≥ ρ.top + ρ.lines
  · clear hin; exact Or.inl (by omega)
  · by_cases hv2 : L + d < ρ.top
    · clear hin; exact Or.inr (Or.inl (by omega))
    · by_cases hh1 : C + r ≥ ρ.left + ρ.cols
      · clear hin; exact Or.inr (Or.inr (Or.inl (by omega)))
      · have hh2 : C + r < ρ.left := by omega
        clear hin; exact Or.inr (Or.inr (Or.inr (by omega)))

/-- A cell of a rectangle the loop of `_scrollrectset` has not reached yet; `D` is the part of the region dealt with. -/
structure LoopCell (t0 : Tree) (st0 : St) (win : Id) (T' L' : Int) (D : Int → Int → Prop) (L C : Int) : Prop where
  exposed : ExposedAt t0 (t0.wins.size + 1) win (L - T') (C - L') L C
  fresh : ¬ D L C
  onTerm : 0 ≤ L ∧ L < st0.tlines ∧ 0 ≤ C ∧ C < st0.tcols

theorem scrollOne_scrolled {F F' : Int → Int → Option Cell} {t0 : Tree} {st0 st : St} {win : Id} {T' L' d r : Int}
    {D : Int → Int → Prop} {ρ : Rect} {t1 t2 t3 : Tree} (fill : Cell) (hpos : RootsPositive t0) (hl : SLoopOk t0 st0 st)
    (hl1 : SLoopOk t0 st0 { st with tree := t1 })
    (hout : ∀ L C, ¬ ρ.Mem L C → Covered st.tree.root.damage L C → Covered t1.root.damage L C)
    (hin : ∀ L C, ρ.Mem L C → ρ.Mem (L + d) (C + r) → Covered st.tree.root.damage (L + d) (C + r) → Covered t1.root.damage L C)
    (hexp : ∀ L C, ρ.Mem L C → LoopCell t0 st0 win T' L' D L C)
    (hsh : ∀ L C, ρ.Mem L C → ρ.Mem (L + d) (C + r) → ∀ v, F' L C = some v → F (L + d) (C + r) = some v)
    (hv : stripV t1 (t0.wins.size + 1) win (ρ.translate (-T') (-L')) ρ.cols d = .ok t2)
    (hh : stripH t2 (t0.wins.size + 1) win (ρ.translate (-T') (-L')) ρ.lines r = .ok t3) (hM : Mixed F F' D st) :
    SLoopOk t0 st0 { st with tree := t3, screen := termScroll st.tlines st.tcols st.screen ρ d r fill } ∧
    Mixed F F' (fun L C => ρ.Mem L C ∨ D L C)
      { st with tree := t3, screen := termScroll st.tlines st.tcols st.screen ρ d r fill } := by
  unfold stripV at hv
  unfold stripH at hh
  have hV := strip_step hv hl1.nonempty (rootsPositive_congr hl1.wins hpos)
  have hw2 : t2.wins = t0.wins := hV.wins.trans hl1.wins
  have hVH := hV.trans (strip_step hh hV.nonempty (rootsPositive_congr hw2 hpos))
  have grow : ∀ L C, Covered t1.root.damage L C → Covered t3.root.damage L C := fun L C hc => (hVH.cov L C).2 (Or.inl hc)
  refine ⟨sLoopOk_expose hl1 hVH _, mixed_grow F F' D ρ st _ hM
    (fun L C hm => termScroll_outside _ _ _ _ _ _ _ L C hm)
    (fun L C hm hc => grow L C (hout L C hm hc)) (fun L C hm => ?_)⟩
  have hcell := hexp L C hm
  by_cases hsrc : ρ.Mem (L + d) (C + r)
  · have hcell2 := hexp _ _ hsrc
    rcases hM (L + d) (C + r) with hc | ⟨hd', _⟩ | ⟨_, hs⟩
    · exact Or.inl (grow L C (hin L C hm hsrc hc))
    · exact absurd hd' hcell2.fresh
    · refine Or.inr fun v hv' => ?_
      show termScroll st.tlines st.tcols st.screen ρ d r fill L C = _
      rw [termScroll_inside _ _ _ _ _ _ _ L C hm (by rw [hl.tl, hl.tc]; exact hcell.onTerm) hsrc
        (by rw [hl.tl, hl.tc]; exact hcell2.onTerm)]
      exact hs v (hsh L C hm hsrc v hv')
  · -- a vacated cell lies in one of the strips exposed
    refine Or.inl ((hVH.cov L C).2 (Or.inr ?_))
    have hex1 := exposedAt_congr hl1.wins _ _ _ _ _ _ hcell.exposed
    have hex2 := exposedAt_congr hw2 _ _ _ _ _ _ hcell.exposed
    rcases vacated_in_strip (T' := T') (L' := L') hm hsrc with ⟨c1, hs⟩ | ⟨c1, c2, hs⟩ | ⟨c1, hs⟩ | ⟨c1, c2, hs⟩
    · exact Or.inl (Or.inl ⟨c1, exposedRegion_some hs hex1⟩)
    · exact Or.inl (Or.inr ⟨c1, c2, exposedRegion_some hs hex1⟩)
    · exact Or.inr (Or.inl ⟨c1, exposedRegion_some hs hex2⟩)
    · exact Or.inr (Or.inr ⟨c1, c2, exposedRegion_some hs hex2⟩)

theorem scrollOne_step (oracle : Oracle) (F F' : Int → Int → Option Cell) (t0 : Tree) (st0 : St) (win : Id)
    (T' L' d r : Int) (pen : Pen) (D : Int → Int → Prop) (acc acc' : St × Bool × Bool) (ρ : Rect)
    (h : scrollOne oracle win T' L' d r pen acc ρ = .ok acc')
    (hpos : RootsPositive t0) (hl : SLoopOk t0 st0 acc.1) (hρ : ρ.Nonempty)
    (hexp : ∀ L C, ρ.Mem L C → LoopCell t0 st0 win T' L' D L C)
    (hsh : ∀ L C, ρ.Mem L C → ρ.Mem (L + d) (C + r) → ∀ v, F' L C = some v → F (L + d) (C + r) = some v)
    (hM : Mixed F F' D acc.1) :
    SLoopOk t0 st0 acc'.1 ∧ Mixed F F' (fun L C => ρ.Mem L C ∨ D L C) acc'.1 := by
  have hfuel : acc.1.fuel = t0.wins.size + 1 := by rw [St.fuel, hl.wins]
  have hex := fun L C hm => (hexp L C hm).exposed
  rcases scrollOne_cases h with ⟨t, he, e⟩ | ⟨dmg, hsd, ⟨t, he, e⟩ | ⟨t2, t3, hv, hh, e⟩⟩ <;> rw [e]
  · rw [hfuel] at he
    exact scrollOne_whole hpos hl rfl (fun _ _ _ hc => hc) hex he hM
  · rw [hfuel] at he
    obtain ⟨hl1, hout, _⟩ := sLoopOk_shift hl hρ hsd
    exact scrollOne_whole (st := acc.1)
      (st1 := { acc.1 with tree := { acc.1.tree with root := { acc.1.tree.root with damage := dmg } } }) hpos hl1 rfl hout hex he hM
  · rw [hfuel] at hv hh
    obtain ⟨hl1, hout, hin⟩ := sLoopOk_shift hl hρ hsd
    exact scrollOne_scrolled _ hpos hl hl1 hout hin hexp hsh hv hh hM

theorem scrollLoop_step (oracle : Oracle) (F F' : Int → Int → Option Cell) (t0 : Tree) (st0 : St) (win : Id)
    (T' L' d r : Int) (pen : Pen) (hpos : RootsPositive t0) :
    ∀ (rest : List Rect) (D : Int → Int → Prop) (acc acc' : St × Bool × Bool),
    scrollLoop oracle win T' L' d r pen rest acc = .ok acc' →
    SLoopOk t0 st0 acc.1 → (∀ ρ ∈ rest, ρ.Nonempty) → rest.Pairwise Rect.Disjoint →
    (∀ ρ ∈ rest, ∀ L C, ρ.Mem L C → LoopCell t0 st0 win T' L' D L C) →
    (∀ ρ ∈ rest, ∀ L C, ρ.Mem L C → ρ.Mem (L + d) (C + r) → ∀ v, F' L C = some v → F (L + d) (C + r) = some v) →
    Mixed F F' D acc.1 →
    SLoopOk t0 st0 acc'.1 ∧ Mixed F F' (fun L C => Covered rest L C ∨ D L C) acc'.1 := by
  intro rest
  induction rest with
  | nil =>
    intro D acc acc' h hl _ _ _ _ hM
    simp only [scrollLoop] at h
    cases h
    exact ⟨hl, mixed_congr F F' D _ _ (fun L C =>
      ⟨Or.inr, fun hx => hx.elim (fun hx => absurd hx (RectSet.covered_nil L C)) id⟩) hM⟩
  | cons ρ rest ih =>
    intro D acc acc' h hl hne hdis hexp hsh hM
    simp only [scrollLoop] at h
    obtain ⟨acc1, h1, h⟩ := bind_ok_iff.1 h
    obtain ⟨a1, a2⟩ := scrollOne_step oracle F F' t0 st0 win T' L' d r pen D acc acc1 ρ h1 hpos hl
      (hne ρ List.mem_cons_self) (hexp ρ List.mem_cons_self) (hsh ρ List.mem_cons_self) hM
    have hdis' := List.pairwise_cons.1 hdis
    obtain ⟨b1, b2⟩ := ih (fun L C => ρ.Mem L C ∨ D L C) acc1 acc' h a1 (fun q hq => hne q (List.mem_cons_of_mem _ hq)) hdis'.2
      (fun q hq L C hm =>
        have hcell := hexp q (List.mem_cons_of_mem _ hq) L C hm
        ⟨hcell.exposed, fun hx => hx.elim (fun hx => hdis'.1 q hq L C ⟨hx, hm⟩) hcell.fresh, hcell.onTerm⟩)
      (fun q hq => hsh q (List.mem_cons_of_mem _ hq)) a2
    refine ⟨b1, mixed_congr F F' _ _ _ (fun L C => ?_) b2⟩
    rw [RectSet.covered_cons, or_assoc]
    exact or_left_comm

theorem rsAdd_nil_spec {rect : Rect} {vis0 : List Rect} (h : rsAdd [] rect = .ok vis0) (hne : rect.Nonempty) :
    RectSet.Inv vis0 ∧ ∀ x y, Covered vis0 x y ↔ rect.Mem x y := by
  refine ⟨RectSet.add_inv rsFuel [] vis0 rect (rsAdd_ok h) hne RectSet.inv_nil, fun x y => ?_⟩
  rw [(RectSet.add_region (rsAdd_ok h) hne (fun _ h => nomatch h)).2 x y]
  exact ⟨fun hx => hx.elim (fun hx => absurd hx (RectSet.covered_nil x y)) id, Or.inr⟩

/-- The three early exits: nothing of the rectangle in the window, or in some ancestor, or a hidden window on the way up. -/
theorem scroll_cases {oracle : Oracle} {st st' : St} {win : Id} {orig : Rect} {d r : Int} {pen : Option Pen} {mask ret : Bool}
    (h : scroll oracle st win orig d r pen mask = .ok (st', ret)) :
    ∃ w, WinTree.get st.tree win = .ok w ∧
      ((st' = st ∧ Rect.intersect ⟨0, 0, w.rect.lines, w.rect.cols⟩ orig = none) ∨
       ∃ rect0, Rect.intersect ⟨0, 0, w.rect.lines, w.rect.cols⟩ orig = some rect0 ∧
        ((st' = st ∧ clipToAncestors st.tree st.fuel win 0 0 rect0 = .ok none) ∨
         ∃ rect vis0 vis1, clipToAncestors st.tree st.fuel win 0 0 rect0 = .ok (some rect) ∧ rsAdd [] rect = .ok vis0 ∧
          (if mask = true then subtractChildren st.tree w.children vis0 else .ok vis0) = .ok vis1 ∧
          ((st' = st ∧ scrollWalk st.tree st.pens st.fuel win vis1 0 0 (pen.getD {}) = .ok none) ∨
           ∃ top vis' T' L' pen' tw acc',
            scrollWalk st.tree st.pens st.fuel win vis1 0 0 (pen.getD {}) = .ok (some (top, vis', T', L', pen')) ∧
            st.tree.wins[top]? = some tw ∧ tw.isRoot = true ∧
            scrollLoop oracle win T' L' d r pen' vis' (st, true, false) = .ok acc' ∧
            st' = if acc'.2.2 = true then
                { acc'.1 with tree := { acc'.1.tree with root := { acc'.1.tree.root with needsRestore := true, needsLater := true } } }
              else acc'.1))) := by
  unfold scroll at h
  obtain ⟨w, hgw, h⟩ := bind_ok_iff.1 h
  refine ⟨w, hgw, ?_⟩
  cases h0 : Rect.intersect ⟨0, 0, w.rect.lines, w.rect.cols⟩ orig with
  | none =>
    simp only [h0, pure, Pure.pure, Res.ok.injEq, Prod.mk.injEq] at h
    exact Or.inl ⟨h.1.symm, rfl⟩
  | some rect0 =>
    simp only [h0] at h
    obtain ⟨cr, h1, h⟩ := bind_ok_iff.1 h
    refine Or.inr ⟨rect0, rfl, ?_⟩
    cases cr with
    | none =>
      simp only [pure, Pure.pure, Res.ok.injEq, Prod.mk.injEq] at h
      exact Or.inl ⟨h.1.symm, h1⟩
    | some rect =>
      simp only at h
      obtain ⟨vis0, h2, h⟩ := bind_ok_iff.1 h
      obtain ⟨vis1, h3, h⟩ := ite_bind_ok (y := .ok vis0) h
      refine Or.inr ⟨rect, vis0, vis1, h1, h2, h3, ?_⟩
      unfold scrollRectSet at h
      obtain ⟨res, h4, h⟩ := bind_ok_iff.1 h
      cases res with
      | none =>
        simp only [pure, Pure.pure, Res.ok.injEq, Prod.mk.injEq] at h
        exact Or.inl ⟨h.1.symm, h4⟩
      | some q =>
        obtain ⟨top, vis', T', L', pen'⟩ := q
        simp only at h
        obtain ⟨tw, hgt, h⟩ := bind_ok_iff.1 h
        cases hir : tw.isRoot with
        | false => simp [hir] at h
        | true =>
          simp only [hir, Bool.not_true, Bool.false_eq_true, if_false] at h
          obtain ⟨acc', hlp, h⟩ := bind_ok_iff.1 h
          simp only [pure, Pure.pure, Res.ok.injEq, Prod.mk.injEq] at h
          exact Or.inr ⟨top, vis', T', L', pen', tw, acc', h4, (get_ok hgt).1, hir, hlp, h.1.symm⟩

theorem compose_some {t : Tree} (content : Id → Int → Int → Cell) {L C : Int} {o : Id × Int × Int}
    (h : ownerAt t L C = some o) : compose t content L C = some (content o.1 o.2.1 o.2.2) := by
  obtain ⟨w, l, c⟩ := o
  unfold compose
  rw [h]

theorem sLoopOk_refl {content : Id → Int → Int → Cell} {st : St} (hg : GoodQ content st) : SLoopOk st.tree st st :=
  { wins := rfl, changes := rfl, tl := rfl, tc := rfl, pens := rfl, nonempty := hg.tinv.nonempty, dinv := hg.tinv.dinv,
    flags := hg.flags, later := fun hx => hx }

theorem sLoopOk_reroot {t0 : Tree} {st0 st : St} (hl : SLoopOk t0 st0 st) :
    SLoopOk t0 st0 { st with tree := { st.tree with root := { st.tree.root with needsRestore := true, needsLater := true } } } :=
  { wins := hl.wins, changes := hl.changes, tl := hl.tl, tc := hl.tc, pens := hl.pens, nonempty := hl.nonempty, dinv := hl.dinv,
    flags := fun hd => ⟨(hl.flags hd).1, rfl⟩, later := fun _ => rfl }

theorem mixed_init {content : Id → Int → Int → Cell} (F' : Int → Int → Option Cell) {st : St}
    (hinv : InvC content st.tree st.screen) : Mixed (compose st.tree content) F' (fun _ _ => False) st := by
  intro L C
  cases ho : ownerAt st.tree L C with
  | none =>
    refine Or.inr (Or.inr ⟨fun h => h, fun v hv => ?_⟩)
    unfold compose at hv
    rw [ho] at hv
    cases hv
  | some o =>
    rcases hinv L C o.1 o.2.1 o.2.2 ho with hcv | hr
    · exact Or.inl hcv
    · refine Or.inr (Or.inr ⟨fun h => h, fun v hv => ?_⟩)
      rw [compose_some _ ho] at hv
      simp only [Option.some.injEq] at hv
      rw [← hv]
      exact hr

/-- Once the loop is over: outside the scrolled region the old composition has to show what the new one does. -/
theorem invC_of_mixed {F : Int → Int → Option Cell} {content' : Id → Int → Int → Cell} {t1 : Tree} {V : Int → Int → Prop}
    {st : St} (hM : Mixed F (compose t1 content') V st)
    (hout : ∀ L C o, ¬ V L C → ownerAt t1 L C = some o → F L C = some (content' o.1 o.2.1 o.2.2)) :
    ∀ L C w l c, ownerAt t1 L C = some (w, l, c) → Covered st.tree.root.damage L C ∨ st.screen L C = content' w l c := by
  intro L C w l c ho
  rcases hM L C with hcv | ⟨_, hr⟩ | ⟨hnv, hr⟩
  · exact Or.inl hcv
  · exact Or.inr (hr _ (compose_some content' ho))
  · exact Or.inr (hr _ (hout L C _ hnv ho))

/-- `t1` is the tree the loop left (`_scroll`) or that tree with the children moved afterwards
    (`tickit_window_scroll_with_children`). -/
theorem goodQ_of_sLoopOk {content content' : Id → Int → Int → Cell} {st st_s : St} {t1 : Tree} (hg : GoodQ content st)
    (hloop : SLoopOk st.tree st st_s) (hroot : t1.root = st_s.tree.root) (hs1 : WStruct t1)
    (h0 : t1.wins[0]? = st.tree.wins[0]?) (hinv : InvC content' t1 st_s.screen) :
    GoodQ content' { st_s with tree := t1 } := by
  refine { tinv := ⟨hs1.ok, hs1.ord, hs1.pos, by rw [hroot]; exact hloop.nonempty, by rw [hroot]; exact hloop.dinv, hinv⟩
           flags := (by unfold Flags; rw [hroot]; exact hloop.flags)
           queue := (by unfold QueueOk; rw [hroot, hloop.changes]; exact hg.queue)
           queueLater := (by
             rw [hroot, hloop.changes]
             exact fun hq => hloop.later (hg.queueLater hq))
           term := ?_
           pc := hs1.pc }
  obtain ⟨w0, hw0, e1, e2⟩ := hg.term
  exact ⟨w0, by show t1.wins[0]? = some w0; rw [h0]; exact hw0, by rw [hloop.tl]; exact e1, by rw [hloop.tc]; exact e2⟩

theorem scrollRun_step {oracle : Oracle} {content : Id → Int → Int → Cell} (F' : Int → Int → Option Cell) {st st' : St}
    {win : Id} {T' L' d r : Int} {pen' : Pen} {vis' : List Rect} {acc' : St × Bool × Bool} (hg : GoodQ content st)
    (hlp : scrollLoop oracle win T' L' d r pen' vis' (st, true, false) = .ok acc')
    (hst' : st' = if acc'.2.2 = true then
        { acc'.1 with tree := { acc'.1.tree with root := { acc'.1.tree.root with needsRestore := true, needsLater := true } } }
      else acc'.1)
    (vinv : RectSet.Inv vis')
    (hreg : ∀ L C, Covered vis' L C → (∃ o, ownerAt st.tree L C = some o) ∧
      ExposedAt st.tree (st.tree.wins.size + 1) win (L - T') (C - L') L C)
    (hsh : ∀ ρ ∈ vis', ∀ L C, ρ.Mem L C → ρ.Mem (L + d) (C + r) →
      ∀ v, F' L C = some v → compose st.tree content (L + d) (C + r) = some v) :
    SLoopOk st.tree st st' ∧ Mixed (compose st.tree content) F' (fun L C => Covered vis' L C) st' := by
  obtain ⟨a1, a2⟩ := scrollLoop_step oracle (compose st.tree content) F' st.tree st win T' L' d r pen' hg.tinv.pos vis'
    (fun _ _ => False) (st, true, false) acc' hlp (sLoopOk_refl hg) vinv.1 vinv.2.1
    (fun ρ hρ L C hm => by
      obtain ⟨⟨o, ho⟩, hex⟩ := hreg L C ⟨ρ, hρ, hm⟩
      exact ⟨hex, fun hx => hx, owned_on_terminal hg ho⟩)
    hsh (mixed_init F' hg.tinv.inv)
  have a2' := mixed_congr _ _ _ (fun L C => Covered vis' L C) _ (fun L C => ⟨fun hx => hx.elim id False.elim, Or.inl⟩) a2
  rw [hst']
  split
  · exact ⟨sLoopOk_reroot a1, a2'⟩
  · exact ⟨a1, a2'⟩

/-- The cell `(l, c)` of the scrolled window `win` (record `w`) is one that `_scroll` scrolls, and it is the terminal cell
    `(L, C)`. -/
structure ScrollCell (t : Tree) (win : Id) (w : Win) (orig : Rect) (mask : Bool) (l c L C : Int) : Prop where
  exposed : ExposedAt t (t.wins.size + 1) win l c L C
  inside : orig.Mem l c
  front : FrontFree t (t.wins.size + 1) win l c
  kids : mask = true → ∀ ch ∈ w.children, ¬ Claims t ch l c

/-- What `_scroll` does, whichever way it goes: an early return is the case of an empty region.  `vis'` is the region in
    terminal coordinates, `(T', L')` the origin of the scrolled window on the terminal (what `_scrollrectset` accumulates on
    its way to the root; 0 on an early return).  `mixed`: the screen is "damaged or already right" against any composition
    `F'` that shows inside the region what the old one showed `(d, r)` away, and against the old one outside. -/
structure Scrolled (content : Id → Int → Int → Cell) (st st' : St) (win : Id) (orig : Rect) (d r : Int) (mask : Bool)
    (w : Win) (vis' : List Rect) (T' L' : Int) : Prop where
  get : WinTree.get st.tree win = .ok w
  sound : ∀ L C, Covered vis' L C → ScrollCell st.tree win w orig mask (L - T') (C - L') L C
  complete : ∀ L C l c, ScrollCell st.tree win w orig mask l c L C → Covered vis' L C ∧ l = L - T' ∧ c = C - L'
  loop : SLoopOk st.tree st st'
  mixed : ∀ F' : Int → Int → Option Cell,
    (∀ ρ ∈ vis', ∀ L C, ρ.Mem L C → ρ.Mem (L + d) (C + r) →
      ∀ v, F' L C = some v → compose st.tree content (L + d) (C + r) = some v) →
    Mixed (compose st.tree content) F' (fun L C => Covered vis' L C) st'

theorem scroll_region {oracle : Oracle} {content : Id → Int → Int → Cell} {st st' : St} {win : Id} {orig : Rect} {d r : Int}
    {pen : Option Pen} {mask ret : Bool} (hg : GoodQ content st)
    (h : scroll oracle st win orig d r pen mask = .ok (st', ret)) :
    ∃ w vis' T' L', Scrolled content st st' win orig d r mask w vis' T' L' := by
  have hs := hg.struct
  have hok := hs.ok
  obtain ⟨w, hgw, hcase⟩ := scroll_cases h
  have hw := (get_ok hgw).1
  have fin : ∀ (vis' : List Rect) (T' L' : Int) (pen' : Pen) (acc' : St × Bool × Bool), RectSet.Inv vis' →
      (∀ L C, Covered vis' L C → ScrollCell st.tree win w orig mask (L - T') (C - L') L C) →
      (∀ L C l c, ScrollCell st.tree win w orig mask l c L C → Covered vis' L C ∧ l = L - T' ∧ c = C - L') →
      scrollLoop oracle win T' L' d r pen' vis' (st, true, false) = .ok acc' →
      (st' = if acc'.2.2 = true then
          { acc'.1 with tree := { acc'.1.tree with root := { acc'.1.tree.root with needsRestore := true, needsLater := true } } }
        else acc'.1) → ∃ w vis' T' L', Scrolled content st st' win orig d r mask w vis' T' L' := by
    intro vis' T' L' pen' acc' vinv va vb hlp hst'
    have run := fun F' => scrollRun_step F' hg hlp hst' vinv fun L C hcv =>
      ⟨⟨_, (hs.chain _ win w _ _ L C _ hw (va L C hcv).exposed (subOwn_anc hs.links (get_ok hgw) _ _)).2
        ⟨(va L C hcv).front, rfl⟩⟩, (va L C hcv).exposed⟩
    -- the bookkeeping does not depend on what the screen is compared with
    exact ⟨w, vis', T', L', hgw, va, vb, (run (fun _ _ => none) fun _ _ _ _ _ _ v hv => nomatch hv).1, fun F' hsh => (run F' hsh).2⟩
  -- an early return: nothing is scrolled, because no cell qualifies
  have early : st' = st → (∀ L C l c, ExposedAt st.tree (st.tree.wins.size + 1) win l c L C → orig.Mem l c → False) →
      ∃ w vis' T' L', Scrolled content st st' win orig d r mask w vis' T' L' :=
    fun e hno => fin [] 0 0 {} (st, true, false) RectSet.inv_nil
      (fun L C hc => absurd hc (RectSet.covered_nil L C)) (fun L C l c hsc => (hno L C l c hsc.exposed hsc.inside).elim) rfl e
  rcases hcase with ⟨e, h0⟩ | ⟨rect0, h0, ⟨e, h1⟩ | ⟨rect, vis0, vis1, h1, h2, h3, ⟨e, h4⟩ |
    ⟨top, vis', T', L', pen', tw, acc', h4, htw, hir, hlp, hst'⟩⟩⟩
  · exact early e fun L C l c hex hm => Rect.intersect_none _ _ h0 l c ⟨(exposedAt_up hok hex hw).inside, hm⟩
  · refine early e fun L C l c hex hm => ?_
    obtain ⟨_, hr', _⟩ := ((clip_spec h1).2 l c).2 ⟨((Rect.intersect_some _ _ _ h0).2 l c).2
      ⟨(exposedAt_up hok hex hw).inside, hm⟩, exposedAt_inAnc hok _ (by rw [Int.add_zero, Int.add_zero]; exact hex)⟩
    cases hr'
  · exact early e fun L C l c hex _ => scrollWalk_none hok h4 hex
  · have hm0 := (Rect.intersect_some _ _ _ h0).2
    obtain ⟨hinv0, hcov0⟩ := rsAdd_nil_spec h2 ((clip_spec h1).1 _ rfl (Rect.intersect_some _ _ _ h0).1)
    -- the set the walk starts from: the clipped rectangle, less the visible children when they are masked
    obtain ⟨hinv1, hcov1⟩ : RectSet.Inv vis1 ∧ ∀ x y, Covered vis1 x y ↔
        (rect.Mem x y ∧ (mask = true → ∀ ch ∈ w.children, ¬ Claims st.tree ch x y)) := by
      cases mask with
      | false =>
        cases h3
        exact ⟨hinv0, fun x y => by rw [hcov0]; exact ⟨fun hx => ⟨hx, nofun⟩, fun hx => hx.1⟩⟩
      | true =>
        obtain ⟨a1, a3⟩ := subtractChildren_spec h3 hinv0
        exact ⟨a1, fun x y => by rw [a3, hcov0]; exact ⟨fun hx => ⟨hx.1, fun _ => hx.2⟩, fun hx => ⟨hx.1, hx.2 rfl⟩⟩⟩
    obtain ⟨hinv', hcov⟩ := scrollWalk_region hs.pc _ win vis1 0 0 _ top vis' T' L' pen' h4 hinv1
    simp only [Int.sub_zero] at hcov
    refine fin vis' T' L' pen' acc' hinv' (fun L C hc => ?_) (fun L C l c ⟨hex, hm, hff, hch⟩ => ?_) hlp hst'
    · obtain ⟨hc1, hff⟩ := (hcov L C).1 hc
      obtain ⟨hm, hch⟩ := (hcov1 _ _).1 hc1
      obtain ⟨hm', hia⟩ := ((clip_spec h1).2 _ _).1 ⟨_, rfl, hm⟩
      obtain ⟨hin, horig⟩ := (hm0 _ _).1 hm'
      have hex := scrollWalk_exposed hok _ win vis1 0 0 _ top vis' T' L' pen' tw h4 htw hir _ _ hia (fun aw haw => by
        rw [hw] at haw; cases haw
        have := (Rect.mem_origin _ _ _ _).1 hin
        omega)
      rw [Int.add_zero, Int.add_zero, Int.sub_add_cancel, Int.sub_add_cancel] at hex
      exact ⟨hex, horig, hff, hch⟩
    · obtain ⟨e1, e2⟩ := scrollWalk_coords hok h4 hex
      rw [Int.add_zero] at e1 e2
      subst e1 e2
      obtain ⟨_, hr', hmr⟩ := ((clip_spec h1).2 _ _).2 ⟨(hm0 _ _).2 ⟨(exposedAt_up hok hex hw).inside, hm⟩,
        exposedAt_inAnc hok _ (by rw [Int.add_zero, Int.add_zero]; exact hex)⟩
      cases hr'
      exact ⟨(hcov L C).2 ⟨(hcov1 _ _).2 ⟨hmr, hch⟩, hff⟩, rfl, rfl⟩

theorem scroll_step {oracle : Oracle} {content content' : Id → Int → Int → Cell} {st st' : St} {win : Id} {rect : Rect}
    {d r : Int} {pen : Option Pen} {ret : Bool} (hg : GoodQ content st)
    (h : scroll oracle st win rect d r pen true = .ok (st', ret))
    (hc : ∀ w l c, content' w l c =
      if w = win ∧ rect.memb l c = true then content w (l + d) (c + r) else content w l c) :
    GoodQ content' st' := by
  have hs := hg.struct
  have hok := hs.ok
  obtain ⟨w, vis', T', L', hsc⟩ := scroll_region hg h
  have hw := (get_ok hsc.get).1
  -- the region: the cells of the rectangle that the window itself owns
  have v1 : ∀ L C, Covered vis' L C → ownerAt st.tree L C = some (win, L - T', C - L') ∧ rect.Mem (L - T') (C - L') :=
    fun L C hcv => by
      have hcell := hsc.sound L C hcv
      exact ⟨(hs.chain _ win w _ _ L C _ hw hcell.exposed (Anc.refl win)).2
        ⟨hcell.front, (subOwn_self_iff hs.links (get_ok hsc.get) _ _).2 (hcell.kids rfl)⟩, hcell.inside⟩
  -- against the composition of the same tree with the shifted content
  have a2 := hsc.mixed (compose st.tree content') (fun ρ hρ L C hm hm2 v hv => by
      obtain ⟨p1, p2⟩ := v1 L C ⟨ρ, hρ, hm⟩
      obtain ⟨q1, _⟩ := v1 (L + d) (C + r) ⟨ρ, hρ, hm2⟩
      rw [compose_some _ p1, hc win _ _, if_pos ⟨rfl, (Rect.memb_iff _ _ _).2 p2⟩] at hv
      rw [compose_some _ q1, ← hv]
      have e1 : L + d - T' = L - T' + d := by rw [Int.sub_eq_add_neg, Int.add_right_comm, ← Int.sub_eq_add_neg]
      have e2 : C + r - L' = C - L' + r := by rw [Int.sub_eq_add_neg, Int.add_right_comm, ← Int.sub_eq_add_neg]
      simp only [e1, e2])
  refine goodQ_of_sLoopOk hg hsc.loop rfl (wstruct_congr hsc.loop.wins hs) (by rw [hsc.loop.wins]) fun L C w' l c ho => ?_
  rw [ownerAt_congr st'.tree st.tree hsc.loop.wins] at ho
  refine invC_of_mixed a2 (fun L C o hnd ho => ?_) L C w' l c ho
  rw [compose_some content ho, hc o.1 _ _]
  split
  · rename_i hx
    -- a cell of the rectangle that the window owns is in the region
    obtain ⟨w', l, c⟩ := o
    obtain ⟨rfl, hmm⟩ := hx
    have hex := owner_exposedAt hs ho
    obtain ⟨hff, hso⟩ := (hs.chain _ w' w _ _ L C _ hw hex (Anc.refl w')).1 ho
    exact absurd (hsc.complete L C l c ⟨hex, (Rect.memb_iff _ _ _).1 hmm, hff,
      fun _ => (subOwn_self_iff hs.links (get_ok hsc.get) _ _).1 hso⟩).1 hnd
  · rfl

end WinFlush
end Tickit
