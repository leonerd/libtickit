import Tickit.Proof.LifeTop
/-
  C08: the operation `end` at the layer of `Model/LifeTop.lean` leaves nothing allocated (`end_ok`).
-/
namespace Tickit.Life
open WinTree (Id Win Req Change Tree)

theorem instLoop_ok {tc : TCfg} (R : Repaired tc.base) (hrf : tc.rootForgetsTickit = true) {α : Type} :
    ∀ (l : List α) (top : Top), TopPre top → NoneHeld top.st →
      (∀ i, top.inst = some i → i.freed = false → i.appRefs ≤ l.length) →
      Post (l.foldlM (fun top _ => if instHeld top then instUnref tc top else pure top) top) fun top' => TopPre top' ∧
        NoneHeld top'.st ∧ (∀ j, top'.inst = some j → j.freed = true)
  | [], top, P, H, hle => by
    refine ⟨top, rfl, P, H, ?_⟩
    intro j hj
    cases hf : j.freed with
    | true => rfl
    | false =>
      have h1 := P.inst.live j hj hf
      have h2 := hle j hj hf
      simp only [List.length_nil] at h2
      omega
  | a :: rest, top, P, H, hle => by
    simp only [List.foldlM_cons]
    by_cases hh : instHeld top = true
    · rw [if_pos hh]
      obtain ⟨top1, h1, P1, hcnt, E1⟩ := instUnref_ok R hrf P hh
      simp only [h1, bind_ok]
      obtain ⟨i, hi, hfi, _⟩ := instHeld_spec hh
      refine instLoop_ok R hrf rest top1 P1 (E1.noneHeld H) ?_
      intro j hj hfj
      have := hcnt i j hi hj
      have h2 := hle i hi hfi
      simp only [List.length_cons] at h2
      omega
    · rw [if_neg hh]
      simp only [pure_ok, bind_ok]
      refine instLoop_ok R hrf rest top P H ?_
      intro i hi hfi
      exfalso
      have h1 := P.inst.live i hi hfi
      apply hh
      unfold instHeld
      rw [hi]
      simp only [hfi, Bool.not_false, Bool.true_and, decide_eq_true_eq]
      omega

/-- One pass of the inner loop of `end` over the further terminal `k`. -/
def dropX (tc : TCfg) (k : Nat) (top : Top) : Top := if top.fail.isSome || !heldX top k then top else xUnref tc top k

def XTerm.refsLeft (x : XTerm) : Nat := if x.freed then 0 else x.appRefs

theorem dropX_ok {tc : TCfg} (hc : tc.sigwinchClearsNext = true) {top : Top} (h : SwOk top) (k : Nat) :
    SwStep top (dropX tc k top) ∧ (dropX tc k top).xterms.size = top.xterms.size ∧
    (∀ j, j ≠ k → (dropX tc k top).xterms[j]? = top.xterms[j]?) ∧
    (∀ x, top.xterms[k]? = some x → ∃ x', (dropX tc k top).xterms[k]? = some x' ∧ x'.refsLeft = x.refsLeft - 1) := by
  unfold dropX
  by_cases hcnd : (top.fail.isSome || !heldX top k) = true
  · rw [if_pos hcnd]
    refine ⟨.refl h, rfl, fun _ _ => rfl, fun x hx => ⟨x, hx, ?_⟩⟩
    -- a live terminal is held: the pass is skipped on a freed one only
    cases hf : x.freed with
    | true => simp [XTerm.refsLeft, hf]
    | false =>
      exfalso
      have hpos := h.xapp k x hx hf
      have : heldX top k = true := by
        unfold heldX; rw [hx]; simp only [hf, Bool.not_false, Bool.true_and, decide_eq_true_eq]; omega
      rw [h.1, this] at hcnd
      simp at hcnd
  · rw [if_neg hcnd]
    have hh : heldX top k = true := by
      cases hh : heldX top k
      · rw [hh] at hcnd; simp at hcnd
      · rfl
    obtain ⟨x, hx, hf⟩ := heldX_spec hh
    obtain ⟨s, hxt⟩ := xUnref_ok (tc := tc) hc h hx
    refine ⟨s, by rw [hxt]; simp, ?_, ?_⟩
    · intro j hj
      rw [hxt, Array.getElem?_setIfInBounds]
      rw [if_neg (fun e => hj e.symm)]
    · intro y hy
      rw [hx] at hy; cases hy
      refine ⟨_, by rw [hxt, Array.getElem?_setIfInBounds, if_pos rfl, if_pos (heldX_lt hh)], ?_⟩
      unfold XTerm.refsLeft
      by_cases h1 : x.appRefs > 1
      · simp [h1, hf]
      · simp [h1, hf]; omega

theorem dropXs_ok {tc : TCfg} (hc : tc.sigwinchClearsNext = true) (k : Nat) {β : Type} : ∀ (l : List β) (top : Top), SwOk top →
    (∀ x, top.xterms[k]? = some x → x.refsLeft ≤ l.length) →
    SwStep top (l.foldl (fun top _ => dropX tc k top) top) ∧
    (l.foldl (fun top _ => dropX tc k top) top).xterms.size = top.xterms.size ∧
    (∀ j, j ≠ k → (l.foldl (fun top _ => dropX tc k top) top).xterms[j]? = top.xterms[j]?) ∧
    (∀ x, (l.foldl (fun top _ => dropX tc k top) top).xterms[k]? = some x → x.freed = true)
  | [], top, h, hle => by
    refine ⟨.refl h, rfl, fun _ _ => rfl, ?_⟩
    intro x hx
    cases hf : x.freed with
    | true => rfl
    | false =>
      have h1 := h.xapp k x hx hf
      have h2 := hle x hx
      simp only [XTerm.refsLeft, hf, Bool.false_eq_true, if_false, List.length_nil] at h2
      omega
  | a :: rest, top, h, hle => by
    simp only [List.foldl_cons]
    obtain ⟨t1, s1, o1, k1⟩ := dropX_ok hc h k
    obtain ⟨t2, s2, o2, k2⟩ := dropXs_ok hc k rest (dropX tc k top) t1.ok (by
      intro x' hx'
      have hlt : k < top.xterms.size := by rw [← s1]; exact (Array.getElem?_eq_some_iff.1 hx').1
      have hx := Array.getElem?_eq_getElem hlt
      obtain ⟨y, hy, hcnt⟩ := k1 _ hx
      rw [hy] at hx'; cases hx'
      have := hle _ hx
      simp only [List.length_cons] at this
      omega)
    exact ⟨t1.trans t2, s2.trans s1, fun j hj => (o2 j hj).trans (o1 j hj), k2⟩

def dropXAll (tc : TCfg) (top : Top) (k : Nat) : Top :=
  (List.range (((top.xterms[k]?).map (fun (x : XTerm) => x.appRefs)).getD 0)).foldl (fun top _ => dropX tc k top) top

theorem dropXAll_ok {tc : TCfg} (hc : tc.sigwinchClearsNext = true) : ∀ (ks : List Nat) (top : Top), SwOk top →
    SwStep top (ks.foldl (dropXAll tc) top) ∧ (ks.foldl (dropXAll tc) top).xterms.size = top.xterms.size ∧
    (∀ j, (∀ x, top.xterms[j]? = some x → x.freed = true) ∨ j ∈ ks →
      ∀ x, (ks.foldl (dropXAll tc) top).xterms[j]? = some x → x.freed = true)
  | [], top, h => ⟨.refl h, rfl, fun j hj x hx => by
      rcases hj with hj | hj
      · exact hj x hx
      · cases hj⟩
  | k :: rest, top, h => by
    simp only [List.foldl_cons]
    have hstep := dropXs_ok hc k (List.range (((top.xterms[k]?).map (fun (x : XTerm) => x.appRefs)).getD 0)) top h (by
      intro x hx
      rw [hx]
      simp only [Option.map_some, Option.getD_some, List.length_range, XTerm.refsLeft]
      split
      · exact Nat.zero_le _
      · exact Nat.le_refl _)
    obtain ⟨t1, s1, o1, k1⟩ := hstep
    obtain ⟨t2, s2, f2⟩ := dropXAll_ok hc rest (dropXAll tc top k) t1.ok
    refine ⟨t1.trans t2, s2.trans s1, ?_⟩
    intro j hj
    apply f2 j
    by_cases hjk : j = k
    · subst hjk
      exact .inl k1
    · rcases hj with hj | hj
      · left
        intro x hx
        have : (dropXAll tc top k).xterms[j]? = top.xterms[j]? := o1 j hjk
        rw [this] at hx
        exact hj x hx
      · simp only [List.mem_cons] at hj
        rcases hj with hj | hj
        · exact absurd hj hjk
        · exact .inr hj

theorem end_eq (tc : TCfg) (top : Top) : xstepCore tc top (.base .«end») = (do
    let (st, r) ← step tc.base top.st .«end»
    let top1 := (({ top with st := st } : Top).sync).swSync tc
    let n := match top1.inst with | some i => i.appRefs | none => 0
    let top2 ← (List.range n).foldlM (fun top _ => if instHeld top then instUnref tc top else pure top) top1
    let top3 := top2.swSync tc
    pure ((List.range top3.xterms.size).foldl (dropXAll tc) top3, r)) := rfl

theorem any_false_of_all {α : Type} (p : α → Bool) (xs : Array α) (h : ∀ (k : Nat) (x : α), xs[k]? = some x → p x = false) :
    xs.any p = false := by
  rw [Array.any_eq_false]
  intro i hi
  have := h i xs[i] (Array.getElem?_eq_getElem hi)
  simp [this]

/-- `end`: the application drops every reference it holds - windows from the highest handle down to the root
    window, pens, strings, buffers, the terminal; then its references to the toplevel instance (the last one runs
    `tickit_destroy`, which gives back the instance's references to the root window and the terminal); then the further
    terminals.  Nothing fails and nothing is left. -/
theorem end_ok {tc : TCfg} (R : TRepaired tc) {top : Top} (T : TopInv top) :
    ∃ top' r, xstep tc top (.base .«end») = .ok (top', r) ∧ top'.anythingLeft = false ∧ top'.fail = none := by
  obtain ⟨s1, hd, inv1, H1, B1⟩ := dropAll_kept (new := fun _ => False) R.base T.f.inv
  have K1 : KeepingHandlers s1 := T.f.keep.from B1 nofun
  have hstep : step tc.base top.st .«end» = .ok (s1, "end") := step_end hd
  obtain ⟨F1, Rs1, hst1⟩ := sync_ok (top := { top with st := s1 }) inv1 K1 T.f.ids
  have P1 : TopPre ({ top with st := s1 } : Top).sync := T.pre_of_rest (Rest.trans (by rest_rfl) Rs1) F1
  obtain ⟨T1, ns1⟩ := topInv_swSync R.sigwinch P1
  have Hn1 : NoneHeld ((({ top with st := s1 } : Top).sync).swSync tc).st := by rw [ns1.st, hst1]; exact H1
  obtain ⟨top2, h2, P2, Hn2, hfr2⟩ := instLoop_ok R.base R.rootForgets
    (List.range (match ((({ top with st := s1 } : Top).sync).swSync tc).inst with | some i => i.appRefs | none => 0))
    _ T1.pre Hn1 (by
      intro i hi _
      rw [hi]; simp)
  obtain ⟨T3, ns3⟩ := topInv_swSync R.sigwinch P2
  obtain ⟨s4, sz4, fr4⟩ := dropXAll_ok R.sigwinch (List.range (top2.swSync tc).xterms.size) (top2.swSync tc) T3.sw
  let top4 := (List.range (top2.swSync tc).xterms.size).foldl (dropXAll tc) (top2.swSync tc)
  have hcore : xstepCore tc top (.base .«end») = .ok (top4, "end") := by
    rw [end_eq, hstep]
    simp only [bind_ok]
    rw [h2]
    rfl
  have hinst4 : top4.inst = top2.inst := s4.frame.inst.trans ns3.inst
  have hst4 : top4.st = top2.st := s4.frame.st.trans ns3.st
  have hgh : (top2.swSync tc).ghost = Ghost.none := by
    cases hi : top2.inst with
    | none => exact ghost_noinst (ns3.inst.trans hi)
    | some j => exact ghost_dead (ns3.inst.trans hi) (hfr2 j hi)
  have inv3 : SInv Ghost.none top2.st := by
    have := T3.f.inv
    rw [hgh, ns3.st] at this
    exact this
  have hleft : anythingLeft top2.st = false := nothing_left inv3 Hn2 rfl (fun _ => rfl)
  have htf : top2.st.term.freed = true := by
    unfold anythingLeft at hleft
    simp only [Bool.or_eq_false_iff, Bool.not_eq_false'] at hleft
    exact hleft.1.2
  have hxall : ∀ (k : Nat) (x : XTerm), top4.xterms[k]? = some x → x.freed = true := by
    intro k x hx
    have hlt : k < (top2.swSync tc).xterms.size := sz4 ▸ (Array.getElem?_eq_some_iff.1 hx).1
    exact fr4 k (.inr (List.mem_range.2 hlt)) x hx
  have hfail4 := s4.ok.fail
  obtain ⟨hfirst, hhandler, hobs0⟩ : top4.swFirst = none ∧ top4.swHandler = false ∧ (swNode top4 0).obs = false :=
    s4.ok.nil_of_freed (by rw [hst4]; exact htf) hxall
  have hsync : top4.swSync tc = top4 := by
    unfold Top.swSync
    rw [hfail4]
    simp only [Option.isSome_none, Bool.false_eq_true, if_false, hobs0, Bool.and_false]
  refine ⟨top4, "end", ?_, ?_, hfail4⟩
  · unfold xstep
    rw [hcore]
    simp only [bind_ok, pure_ok, hsync]
  · unfold Top.anythingLeft
    rw [hst4, hleft, hinst4, hfirst, hhandler, any_false_of_all _ _ (fun k x hx => by rw [hxall k x hx]; rfl)]
    cases hi : top2.inst with
    | none => rfl
    | some j =>
      have hj3 : (top2.swSync tc).inst = some j := by rw [ns3.inst]; exact hi
      obtain ⟨hl1, hl2, _⟩ := T3.inst.dead j hj3 (hfr2 j hi)
      simp [hfr2 j hi, hl1, hl2]

theorem xrun_end {tc : TCfg} (R : TRepaired tc) (start : XOp) (hstart : start.isNew = true) (ops : List XOp)
    (h : ∀ op ∈ ops, op.covered) :
    ∃ top, xrunOps tc {} (start :: ops ++ [.base .«end»]) = .ok top ∧ top.anythingLeft = false ∧ top.fail = none := by
  obtain ⟨top1, hr, T1⟩ := xrun_from_start R start hstart ops h
  obtain ⟨top2, r, he, hleft, hfail⟩ := end_ok R T1
  rw [xrunOps_eq] at hr ⊢
  exact ⟨top2, runWith_end hr he, hleft, hfail⟩

end Tickit.Life
