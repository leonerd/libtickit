import Tickit.Proof.EvLoopSig
/-
  The event loop's signal bookkeeping agrees with the list of signal watches (C18).

  `KInv`: the list holds distinct allocated watches (`SInv`); the number of every listed watch is in
  `watched_signals`; `signums[evi]` of a listed watch is its (non-zero) number; two listed watches have different
  entries of `signums[]`.  `KStep st st' := KInv st → KInv st'` is a `Closed` relation (`k_closed`, `k_timers`, `k_iter`; its own
  leaves are `kstep_*`) over the frame relation `G3`.
-/
namespace Tickit.EvLoop

structure HExt3 (st st' : St) : Prop where
  len : st.heap.length ≤ st'.heap.length
  same : ∀ x, x < st.heap.length → (st'.getW x).evi = (st.getW x).evi ∧ (st'.getW x).signum = (st.getW x).signum

theorem HExt3.refl (st : St) : HExt3 st st := ⟨Nat.le_refl _, fun _ _ => ⟨rfl, rfl⟩⟩
theorem HExt3.trans {a b c : St} (h1 : HExt3 a b) (h2 : HExt3 b c) : HExt3 a c :=
  ⟨Nat.le_trans h1.len h2.len, fun x hx => by
    have hx' := Nat.lt_of_lt_of_le hx h1.len
    exact ⟨(h2.same x hx').1.trans (h1.same x hx).1, (h2.same x hx').2.trans (h1.same x hx).2⟩⟩
theorem HExt3.of_heap_eq {st st' : St} (h : st'.heap = st.heap) : HExt3 st st' :=
  ⟨by rw [h]; exact Nat.le_refl _, fun x _ => by rw [getW_of_heap_eq h]; exact ⟨rfl, rfl⟩⟩

structure G3 (st st' : St) : Prop where
  ext : HExt3 st st'
  sigs : st'.signals = st.signals
  nums : st'.signums = st.signums
  watched : st'.watched = st.watched

theorem G3.refl (st : St) : G3 st st := ⟨HExt3.refl st, rfl, rfl, rfl⟩
theorem G3.trans {a b c : St} (h1 : G3 a b) (h2 : G3 b c) : G3 a c :=
  ⟨h1.ext.trans h2.ext, by rw [h2.sigs, h1.sigs], by rw [h2.nums, h1.nums], by rw [h2.watched, h1.watched]⟩
theorem G3.of_eq {st st' : St} (hh : st'.heap = st.heap) (hs : st'.signals = st.signals) (hn : st'.signums = st.signums)
    (hw : st'.watched = st.watched) : G3 st st' := ⟨HExt3.of_heap_eq hh, hs, hn, hw⟩
theorem Still.g3 {st st' : St} (h : Still st st') : G3 st st' :=
  .of_eq h.same.heap h.same.signals h.same.signums h.same.watched

structure KInv (st : St) : Prop where
  sinv : SInv st
  watched : ∀ b ∈ st.signals, st.watched.contains (st.getW b).signum = true
  slot : ∀ b ∈ st.signals, st.signums.getD (st.getW b).evi 0 = (st.getW b).signum ∧ (st.getW b).signum ≠ 0 ∧
    (st.getW b).evi < st.signums.length
  inj : ∀ b ∈ st.signals, ∀ c ∈ st.signals, (st.getW b).evi = (st.getW c).evi → b = c

def KStep (st st' : St) : Prop := KInv st → KInv st'
theorem KStep.refl (st : St) : KStep st st := id
theorem KStep.trans {a b c : St} (h1 : KStep a b) (h2 : KStep b c) : KStep a c := fun k => h2 (h1 k)

theorem G3.kstep {st st' : St} (g : G3 st st') : KStep st st' := by
  intro k
  have hsame : ∀ b ∈ st.signals, (st'.getW b).evi = (st.getW b).evi ∧ (st'.getW b).signum = (st.getW b).signum :=
    fun b hb => g.ext.same b (k.sinv.alloc b hb)
  refine ⟨⟨by rw [g.sigs]; exact k.sinv.nodup, fun x hx => by rw [g.sigs] at hx; exact Nat.lt_of_lt_of_le (k.sinv.alloc x hx) g.ext.len⟩, ?_, ?_, ?_⟩
  · intro b hb; rw [g.sigs] at hb; rw [g.watched, (hsame b hb).2]; exact k.watched b hb
  · intro b hb; rw [g.sigs] at hb; rw [g.nums, (hsame b hb).1, (hsame b hb).2]; exact k.slot b hb
  · intro b hb c hc h; rw [g.sigs] at hb hc; rw [(hsame b hb).1, (hsame c hc).1] at h; exact k.inj b hb c hc h

theorem g3_alloc (st : St) (w : Watch) : G3 st (st.alloc w).1 :=
  ⟨⟨by rw [alloc_len]; omega, fun x hx => by rw [getW_alloc_old st w x hx]; exact ⟨rfl, rfl⟩⟩, rfl, rfl, rfl⟩
theorem g3_setW (st : St) (a : Nat) (w : Watch) (h1 : w.evi = (st.getW a).evi) (h2 : w.signum = (st.getW a).signum) :
    G3 st (st.setW a w) := by
  refine ⟨⟨by rw [St.length_setW]; exact Nat.le_refl _, ?_⟩, rfl, rfl, rfl⟩
  intro x hx
  by_cases hax : a = x
  · subst hax; rw [St.getW_setW_self st a w hx]; exact ⟨h1, h2⟩
  · rw [St.getW_setW_ne st a x w hax]; exact ⟨rfl, rfl⟩
theorem g3_setW_new (st0 st : St) (a : Nat) (w : Watch) (g : G3 st0 st) (ha : st0.heap.length ≤ a) : G3 st0 (st.setW a w) := by
  refine ⟨⟨by rw [St.length_setW]; exact g.ext.len, ?_⟩, g.sigs, g.nums, g.watched⟩
  intro x hx
  have : a ≠ x := by omega
  rw [St.getW_setW_ne st a x w this]; exact g.ext.same x hx
theorem g3_setListOf_ne (st : St) (t : WType) (l : List Nat) (h : t ≠ .signal) : G3 st (setListOf st t l) := by
  cases t <;> first | exact G3.of_eq rfl rfl rfl rfl | exact absurd rfl h

theorem g3_base : Base G3 := .ofStill G3.refl G3.trans Still.g3

theorem g3_evloopIo (st : St) (fd : Int) (cond : Nat) (w : Nat) : G3 st (evloopIo st fd cond w).1 := by
  unfold evloopIo
  split <;> exact G3.of_eq rfl rfl rfl rfl

theorem g3_evloopCancelIo (st : St) (idx : Nat) : G3 st (evloopCancelIo st idx) := G3.of_eq rfl rfl rfl rfl

theorem g3_frame : Frame G3 (fun w w' => w'.evi = w.evi ∧ w'.signum = w.signum) (· = .signal) where
  toBase := g3_base
  alloc := g3_alloc
  setW := fun st a w h => g3_setW st a w h.1 h.2
  setList := g3_setListOf_ne
  evloopIo := g3_evloopIo
  evloopCancelIo := g3_evloopCancelIo

/-- `evi` of the new watch is written after `evloop_io` has returned: not an overwrite `g3_frame` allows, but of a new address. -/
theorem g3_watchIo (st : St) (fd : Int) (cond flags : Nat) (slot : Int) : G3 st (watchIo st fd cond flags slot).1 := by
  unfold watchIo
  refine ((g3_setW_new st _ st.heap.length _ ((g3_alloc st _).trans (g3_evloopIo _ _ _ _)) (Nat.le_refl _)).trans
    (g3_base.insertWatch _ _ _ _)).trans (g3_frame.setList _ .io _ (by decide))

theorem findZero_spec : ∀ (l : List Int) (i j : Nat), findZero l i = some j → i ≤ j ∧ j < i + l.length ∧ l.getD (j - i) 0 = 0 := by
  intro l
  induction l with
  | nil => intro i j h; simp [findZero] at h
  | cons x xs ih =>
    intro i j h
    simp only [findZero] at h
    split at h
    · rename_i hx
      cases h
      simp [hx]
    · have := ih (i + 1) j h
      refine ⟨by omega, by simp only [List.length_cons]; omega, ?_⟩
      have hji : j - i = (j - (i + 1)) + 1 := by omega
      rw [hji, List.getD_cons_succ]
      exact this.2.2

theorem contains_of_getD (l : List Int) (i : Nat) (v : Int) (h : i < l.length) (hv : l.getD i 0 = v) : l.contains v = true := by
  simp only [List.contains_eq_mem, decide_eq_true_eq]
  have : l[i]? = some l[i] := List.getElem?_eq_getElem h
  simp only [List.getD_eq_getElem?_getD, this, Option.getD_some] at hv
  rw [← hv]; exact List.getElem_mem h

theorem contains_setInsert_self (s : Int) (l : List Int) : (setInsert s l).contains s = true :=
  List.contains_iff_mem.mpr (mem_setInsert.mpr (.inl rfl))

theorem contains_setInsert_of (s x : Int) (l : List Int) (h : l.contains x = true) : (setInsert s l).contains x = true :=
  List.contains_iff_mem.mpr (mem_setInsert.mpr (.inr (List.contains_iff_mem.mp h)))

/-- What `evloop_signal` does to its two tables: slot `idx` — one that held 0, or a new one — holds `signum`, the other
    slots are as they were; `signum` is watched and nothing stops being watched. -/
structure TookSig (nums nums' watched watched' : List Int) (idx : Nat) (signum : Int) : Prop where
  get : nums'.getD idx 0 = signum
  lt : idx < nums'.length
  len : nums.length ≤ nums'.length
  keep : ∀ j, j ≠ idx → nums'.getD j 0 = nums.getD j 0
  free : idx < nums.length → nums.getD idx 0 = 0
  new : watched'.contains signum = true
  old : ∀ x, watched.contains x = true → watched'.contains x = true

theorem evloopSignal_spec (st : St) (signum : Int) :
    TookSig st.signums (evloopSignal st signum).1.signums st.watched (evloopSignal st signum).1.watched
      (evloopSignal st signum).2 signum := by
  have hidx : ((findZero st.signums 0).getD st.signums.length < st.signums.length →
      st.signums.getD ((findZero st.signums 0).getD st.signums.length) 0 = 0) ∧
      (findZero st.signums 0).getD st.signums.length ≤ st.signums.length := by
    cases hf : findZero st.signums 0 with
    | none => simp
    | some j =>
      have := findZero_spec st.signums 0 j hf
      simp only [Option.getD_some]
      refine ⟨fun _ => by simpa using this.2.2, by omega⟩
  generalize hres : evloopSignal st signum = res
  unfold evloopSignal at hres
  simp only [] at hres
  generalize (findZero st.signums 0).getD st.signums.length = idx at hidx hres
  have hnums : (if idx < st.signums.length then st.signums.set idx signum else st.signums ++ [signum]).getD idx 0 = signum ∧
      idx < (if idx < st.signums.length then st.signums.set idx signum else st.signums ++ [signum]).length ∧
      st.signums.length ≤ (if idx < st.signums.length then st.signums.set idx signum else st.signums ++ [signum]).length ∧
      (∀ j, j ≠ idx → (if idx < st.signums.length then st.signums.set idx signum else st.signums ++ [signum]).getD j 0 = st.signums.getD j 0) := by
    split
    · rename_i h
      refine ⟨getD_set_self _ _ _ h, by rw [List.length_set]; exact h, by rw [List.length_set]; exact Nat.le_refl _, ?_⟩
      intro j hj; exact getD_set_ne _ _ _ _ (Ne.symm hj)
    · rename_i h
      have he : idx = st.signums.length := by omega
      subst he
      exact ⟨getD_append_self _ _, by simp, by simp, fun j hj => getD_append_ne _ _ hj⟩
  rcases ite_eq_cases hres with ⟨hc, rfl⟩ | ⟨_, rfl⟩
  · exact ⟨hnums.1, hnums.2.1, hnums.2.2.1, hnums.2.2.2, hidx.1, hc, fun x hx => hx⟩
  · exact ⟨hnums.1, hnums.2.1, hnums.2.2.1, hnums.2.2.2, hidx.1, contains_setInsert_self _ _,
      fun x hx => contains_setInsert_of _ _ _ hx⟩

theorem contains_setErase_of (s x : Int) (l : List Int) (h : l.contains x = true) (hne : x ≠ s) : (setErase s l).contains x = true := by
  unfold setErase
  simp only [List.contains_eq_mem, decide_eq_true_eq, List.mem_filter] at h ⊢
  exact ⟨h, by simpa using hne⟩

theorem evloopCancelSignal_facts (st : St) (idx : Nat) :
    (evloopCancelSignal st idx).heap = st.heap ∧ (evloopCancelSignal st idx).signals = st.signals ∧
    (evloopCancelSignal st idx).signums = st.signums.set idx 0 ∧
    ((evloopCancelSignal st idx).watched = st.watched ∨
      (!(st.signums.set idx 0).contains (st.signums.getD idx 0) ∧
       (evloopCancelSignal st idx).watched = setErase (st.signums.getD idx 0) st.watched)) := by
  generalize hres : evloopCancelSignal st idx = res
  unfold evloopCancelSignal at hres
  simp only [] at hres
  rcases ite_eq_cases hres with ⟨_, rfl⟩ | ⟨hc, hres⟩
  · exact ⟨rfl, rfl, rfl, Or.inl rfl⟩
  have hc' : (!(st.signums.set idx 0).contains (st.signums.getD idx 0)) = true := by simpa using hc
  rcases ite_eq_cases hres with ⟨_, hres⟩ | ⟨_, rfl⟩
  · rcases ite_eq_cases hres with ⟨_, rfl⟩ | ⟨_, rfl⟩ <;> exact ⟨rfl, rfl, rfl, Or.inr ⟨hc', rfl⟩⟩
  · exact ⟨rfl, rfl, rfl, Or.inr ⟨hc', rfl⟩⟩

theorem watchSignalPre_facts (st : St) (signum : Int) (flags : Nat) (slot : Int) :
    ∃ idx : Nat,
      (∀ x, x < st.heap.length → (watchSignalPre st signum flags slot).getW x = st.getW x) ∧
      ((watchSignalPre st signum flags slot).getW st.heap.length).signum = signum ∧
      ((watchSignalPre st signum flags slot).getW st.heap.length).evi = idx ∧
      (watchSignalPre st signum flags slot).signals = st.signals ∧
      TookSig st.signums (watchSignalPre st signum flags slot).signums st.watched (watchSignalPre st signum flags slot).watched
        idx signum := by
  unfold watchSignalPre
  have hA := alloc_len st { type := .signal, flags := flags &&& (BIND_UNBIND ||| BIND_DESTROY), slot := slot, signum := signum }
  have hAold := fun x hx => getW_alloc_old st { type := .signal, flags := flags &&& (BIND_UNBIND ||| BIND_DESTROY), slot := slot, signum := signum } x hx
  have hAnew := getW_alloc_new st { type := .signal, flags := flags &&& (BIND_UNBIND ||| BIND_DESTROY), slot := slot, signum := signum }
  have hF : TookSig st.signums _ st.watched _ _ signum := evloopSignal_spec (st.alloc { type := .signal, flags := flags &&& (BIND_UNBIND ||| BIND_DESTROY), slot := slot, signum := signum }).1 signum
  have hS := sameSig_evloopSignal (st.alloc { type := .signal, flags := flags &&& (BIND_UNBIND ||| BIND_DESTROY), slot := slot, signum := signum }).1 signum
  have hsgl : (evloopSignal (st.alloc { type := .signal, flags := flags &&& (BIND_UNBIND ||| BIND_DESTROY), slot := slot, signum := signum }).1 signum).1.signals = st.signals := hS.signals
  generalize (st.alloc { type := .signal, flags := flags &&& (BIND_UNBIND ||| BIND_DESTROY), slot := slot, signum := signum }).1 = sA at *
  have hheap : (evloopSignal sA signum).1.heap = sA.heap := hS.heap
  refine ⟨(evloopSignal sA signum).2, ?_, ?_, ?_, hsgl, hF⟩
  · intro x hx
    rw [St.getW_setW_ne _ _ _ _ (by omega), getW_of_heap_eq hheap]; exact hAold x hx
  · rw [St.getW_setW_self _ _ _ (by rw [hheap]; omega), getW_of_heap_eq hheap, hAnew]
  · rw [St.getW_setW_self _ _ _ (by rw [hheap]; omega)]

theorem kstep_watchSignal (st : St) (signum : Int) (flags : Nat) (slot : Int) (h0 : signum ≠ 0) :
    KStep st (watchSignal st signum flags slot).1 := by
  intro k
  have hs := (step_watchSignal st signum flags slot k.sinv).inv
  obtain ⟨idx, hold, hnsig, hnevi, hsgl, t⟩ := watchSignalPre_facts st signum flags slot
  unfold watchSignal at hs ⊢
  generalize watchSignalPre st signum flags slot = s1 at *
  have hheap := heap_base.insertWatch s1 s1.signals flags st.heap.length
  have hnums : (insertWatch s1 s1.signals flags st.heap.length).1.signums = s1.signums := (g3_base.insertWatch _ _ _ _).nums
  have hwat : (insertWatch s1 s1.signals flags st.heap.length).1.watched = s1.watched := (g3_base.insertWatch _ _ _ _).watched
  have hl := snd_insertWatch s1 s1.signals flags st.heap.length
  generalize (insertWatch s1 s1.signals flags st.heap.length).2 = l' at *
  generalize (insertWatch s1 s1.signals flags st.heap.length).1 = s2 at *
  rw [hsgl] at hl
  have hgw : ∀ x, ({ s2 with signals := l' } : St).getW x = s1.getW x := fun x => getW_of_heap_eq hheap x
  have hmem := (nodup_insert_cases hl k.sinv.nodup fun h => Nat.lt_irrefl _ (k.sinv.alloc _ h)).2.1
  have hevi_old : ∀ b, b ∈ st.signals → (st.getW b).evi ≠ idx := by
    intro b hb he
    have hsl := k.slot b hb
    rw [he] at hsl
    have := t.free hsl.2.2
    rw [this] at hsl
    exact hsl.2.1 hsl.1.symm
  have hfacts : ∀ b, b ∈ l' →
      (b = st.heap.length ∧ (({ s2 with signals := l' } : St).getW b).signum = signum ∧ (({ s2 with signals := l' } : St).getW b).evi = idx) ∨
      (b ∈ st.signals ∧ ({ s2 with signals := l' } : St).getW b = st.getW b) := by
    intro b hb
    cases hmem b hb with
    | inl h => subst h; left; exact ⟨rfl, by rw [hgw]; exact hnsig, by rw [hgw]; exact hnevi⟩
    | inr h => right; exact ⟨h, by rw [hgw, hold b (k.sinv.alloc b h)]⟩
  refine ⟨hs, ?_, ?_, ?_⟩
  · intro b hb
    show s2.watched.contains _ = true
    rw [hwat]
    rcases hfacts b hb with ⟨_, h2, _⟩ | ⟨h1, h2⟩
    · rw [h2]; exact t.new
    · rw [h2]; exact t.old _ (k.watched b h1)
  · intro b hb
    show s2.signums.getD _ 0 = _ ∧ _ ∧ _ < s2.signums.length
    rw [hnums]
    rcases hfacts b hb with ⟨_, h2, h3⟩ | ⟨h1, h2⟩
    · rw [h2, h3]; exact ⟨t.get, h0, t.lt⟩
    · rw [h2]
      have hsl := k.slot b h1
      refine ⟨?_, hsl.2.1, Nat.lt_of_lt_of_le hsl.2.2 t.len⟩
      rw [t.keep _ (hevi_old b h1)]; exact hsl.1
  · intro b hb c hc he
    rcases hfacts b hb with ⟨hb1, _, hb3⟩ | ⟨hb1, hb2⟩ <;> rcases hfacts c hc with ⟨hc1, _, hc3⟩ | ⟨hc1, hc2⟩
    · rw [hb1, hc1]
    · rw [hb3, hc2] at he; exact absurd he.symm (hevi_old c hc1)
    · rw [hb2, hc3] at he; exact absurd he (hevi_old b hb1)
    · rw [hb2, hc2] at he; exact k.inj b hb1 c hc1 he

theorem kstep_cancelFound (st : St) (a : Nat) (ha : a ∈ listOf st (st.getW a).type) :
    KStep st (cancelFound st a (st.getW a) (listOf st (st.getW a).type)) := by
  by_cases ht : (st.getW a).type = .signal
  · intro k
    have hs := (step_cancelFound st a (st.getW a) _ rfl ha k.sinv).inv
    unfold cancelFound at hs ⊢
    rw [ht] at ha hs ⊢
    simp only [listOf] at ha hs ⊢
    have ha' : a ∈ st.signals := ha
    -- the nodes the loop of `tickit_watch_cancel` still walks after the `free`: which they are does not matter here
    generalize List.drop 1 (List.dropWhile (fun x => decide (x ≠ a)) st.signals) = rest at hs ⊢
    have gN : G3 { st with signals := st.signals.erase a } (cancelNotify { st with signals := st.signals.erase a } a (st.getW a)) :=
      g3_base.cancelNotify _ _ _
    show KInv (cancelRest ((cancelHook (cancelNotify { st with signals := st.signals.erase a } a (st.getW a)) WType.signal (st.getW a).evi).free a) rest)
    have hs' : SInv (cancelRest ((cancelHook (cancelNotify { st with signals := st.signals.erase a } a (st.getW a)) WType.signal (st.getW a).evi).free a)
        rest) := hs
    generalize hsN : cancelNotify { st with signals := st.signals.erase a } a (st.getW a) = sN at *
    have hNheap : ∀ x, sN.getW x = st.getW x :=
      getW_of_heap_eq (show sN.heap = st.heap from hsN ▸ heap_base.cancelNotify _ _ _)
    have hF := evloopCancelSignal_facts sN (st.getW a).evi
    have hhook : cancelHook sN WType.signal (st.getW a).evi = evloopCancelSignal sN (st.getW a).evi := rfl
    rw [hhook] at hs' ⊢
    obtain ⟨hheap, hsgl, hnums, hwat⟩ := hF
    rw [gN.nums] at hnums hwat
    rw [gN.watched] at hwat
    have hsglN : sN.signals = st.signals.erase a := gN.sigs
    generalize evloopCancelSignal sN (st.getW a).evi = sC at *
    have gT := (g3_frame.free (fun _ => ⟨rfl, rfl⟩) sC a).trans (g3_base.cancelRest (sC.free a) rest)
    have hTget : ∀ x, x ≠ a → (cancelRest (sC.free a) rest).getW x = st.getW x := by
      intro x hx
      rw [getW_of_heap_eq (heap_base.cancelRest _ _), St.getW_free_ne _ _ _ (Ne.symm hx), getW_of_heap_eq hheap, hNheap]
    generalize cancelRest (sC.free a) rest = sF at *
    have hFsig : sF.signals = st.signals.erase a := by rw [gT.sigs, hsgl, hsglN]
    have hFnums : sF.signums = st.signums.set (st.getW a).evi 0 := by rw [gT.nums, hnums]
    have hmem : ∀ b, b ∈ sF.signals → b ∈ st.signals ∧ b ≠ a := by
      intro b hb
      rw [hFsig] at hb
      exact ⟨List.erase_sublist.subset hb, fun h => (List.Nodup.mem_erase_iff k.sinv.nodup).mp (h ▸ hb) |>.1 rfl⟩
    have hevi : ∀ b, b ∈ st.signals → b ≠ a → (st.getW b).evi ≠ (st.getW a).evi :=
      fun b hb hne he => hne (k.inj b hb a ha' he)
    have ksa := k.slot a ha'
    refine ⟨hs', ?_, ?_, ?_⟩
    · intro b hb
      obtain ⟨hb1, hb2⟩ := hmem b hb
      rw [hTget b hb2, gT.watched]
      cases hwat with
      | inl h => rw [h]; exact k.watched b hb1
      | inr h =>
        rw [h.2]
        apply contains_setErase_of _ _ _ (k.watched b hb1)
        intro heq
        -- then the slot of b still holds the number: contradiction with `!contains`
        have hsb := k.slot b hb1
        have : (st.signums.set (st.getW a).evi 0).contains (st.signums.getD (st.getW a).evi 0) = true := by
          apply contains_of_getD _ (st.getW b).evi _ (by rw [List.length_set]; exact hsb.2.2)
          rw [getD_set_ne _ _ _ _ (Ne.symm (hevi b hb1 hb2)), hsb.1, heq]
        rw [this] at h
        exact absurd h.1 (by simp)
    · intro b hb
      obtain ⟨hb1, hb2⟩ := hmem b hb
      have hsb := k.slot b hb1
      rw [hTget b hb2, hFnums, getD_set_ne _ _ _ _ (Ne.symm (hevi b hb1 hb2)), List.length_set]
      exact hsb
    · intro b hb c hc he
      obtain ⟨hb1, hb2⟩ := hmem b hb
      obtain ⟨hc1, hc2⟩ := hmem c hc
      rw [hTget b hb2, hTget c hc2] at he
      exact k.inj b hb1 c hc1 he
  · unfold cancelFound
    exact (((((g3_setListOf_ne st _ _ ht).trans (g3_base.cancelNotify _ a _)).trans
      (g3_frame.cancelHook _ _ _ fun h => absurd h ht)).trans (g3_frame.free (fun _ => ⟨rfl, rfl⟩) _ a)).trans (g3_base.cancelRest _ _)).kstep

theorem kstep_ensureSigchld (st : St) : KStep st (ensureSigchld st) := by
  unfold ensureSigchld
  split
  · exact KStep.refl _
  · exact (kstep_watchSignal st SIGCHLD 0 (-3) (by decide)).trans (g3_base.same (same_sigchldwatch _ _)).kstep

theorem kstep_watchProcess (st : St) (pid : Int) (flags : Nat) (slot : Int) : KStep st (watchProcess st pid flags slot).1 := by
  unfold watchProcess
  exact ((g3_alloc st _).kstep.trans (kstep_ensureSigchld _)).trans (g3_frame.linkProcess (by decide) (by decide) (fun _ _ => ⟨rfl, rfl⟩) (fun _ _ => ⟨rfl, rfl⟩) _ _ _ _).kstep

theorem k_closed : Closed KStep where
  toBase := .ofStill KStep.refl KStep.trans fun h => h.g3.kstep
  watchTimerAt := fun st d f k => (g3_frame.watchTimerAt (by decide) st d f k).kstep
  watchLater := fun st f k p => (g3_frame.watchLater (by decide) st f k p).kstep
  watchIo := fun st fd c f k => (g3_watchIo st fd c f k).kstep
  watchSignal := kstep_watchSignal
  watchProcess := kstep_watchProcess
  cancelDetached := fun st a _ => (g3_frame.cancelDetached (fun _ => ⟨rfl, rfl⟩) st a).kstep
  cancelFound := kstep_cancelFound
  unlinkFound := fun st a t _ _ ht _ => (g3_frame.unlinkFound (fun _ => ⟨rfl, rfl⟩) (fun _ => ⟨rfl, rfl⟩) st a t ht).kstep
  clearNotify := fun st a => (g3_frame.clearNotify (fun _ _ => ⟨rfl, rfl⟩) st a).kstep
  harness := fun _ _ _ => G3.kstep (.of_eq rfl rfl rfl rfl)

theorem k_timers : TimerLeaves KStep where
  free := fun st a => (g3_frame.free (fun _ => ⟨rfl, rfl⟩) st a).kstep
  pop := fun st _ rest _ => (g3_frame.setList st .timer rest (by decide)).kstep
  suffix := fun st _ => (g3_frame.setList st .timer _ (by decide)).kstep
  detach := fun st => (g3_frame.setList st .later [] (by decide)).kstep
  laterPre := fun st a => (g3_frame.laterPre (fun _ _ => ⟨rfl, rfl⟩) st a).kstep

theorem g3_ppoll (st : St) (t : Option Int) : G3 st (ppoll st t).1 := g3_base.ppoll (.ofStill Still.g3) st t

theorem k_iter : IterLeaves KStep :=
  .of_timers k_closed k_timers (.ofStill fun h => h.g3.kstep) fun st => (still_with_pendingSig st []).g3.kstep

theorem g3_destroyNotify (st : St) (a : Nat) : G3 st (destroyNotify st a) := g3_base.destroyNotify st a

theorem kinv_destroy (st : St) (_ : KInv st) (hok : (destroy st).status = .ok) : KInv (destroy st) := by
  have none : ∀ b, b ∉ (destroy st).signals := fun b hb => by
    rw [show (destroy st).signals = [] from lists_destroy st hok .signal] at hb; cases hb
  exact ⟨⟨by rw [show (destroy st).signals = [] from lists_destroy st hok .signal]; exact List.nodup_nil,
      fun x hx => absurd hx (none x)⟩,
    fun b hb => absurd hb (none b), fun b hb => absurd hb (none b), fun b hb => absurd hb (none b)⟩

theorem KInv.of_same {st st' : St} (h1 : st'.heap = st.heap) (h2 : st'.signals = st.signals) (h3 : st'.signums = st.signums)
    (h4 : st'.watched = st.watched) (k : KInv st) : KInv st' := (G3.of_eq h1 h2 h3 h4).kstep k

theorem kinv_runOps (cfg : Config) (ops : List Op) (hok : (runOps cfg ops).status = .ok) : KInv (runOps cfg ops) :=
  k_closed.reach k_iter id (fun st => (still_with_log st []).g3.kstep) kinv_destroy cfg
    ⟨⟨List.nodup_nil, fun x hx => (by cases hx)⟩, fun b hb => (by cases hb), fun b hb => (by cases hb), fun b hb => (by cases hb)⟩
    ops hok

end Tickit.EvLoop
