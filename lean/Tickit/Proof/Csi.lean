/-
  How a VT tokenizer reads the parameter bytes of a control sequence, said once for the four tokenizers of the
  development (Model/VT, the flush's screen, Model/Sgr, Model/Modes).  Between `CSI` and the final byte each keeps the
  finished parameters, the finished sub-parameters of the current one and the number being read (`Acc`) and updates
  them alike (`Acc.byte`).  A tokenizer takes part by `Reads`, a `%d` by `Decimal`; what the driver writes is digit
  strings, an empty one for an omitted parameter, joined by `;` or `:` (`joinSep`), and denotes `groupsOf`.
-/
namespace Tickit.Csi

structure Acc where
  done : List (List (Option Nat))
  sub : List (Option Nat)
  cur : Option Nat

/-- One parameter byte: `:`, `;`, else a digit. -/
def Acc.byte (a : Acc) (b : Nat) : Acc :=
  if b = 58 then ⟨a.done, a.sub ++ [a.cur], none⟩
  else if b = 59 then ⟨a.done ++ [a.sub ++ [a.cur]], [], none⟩
  else ⟨a.done, a.sub, some (a.cur.getD 0 * 10 + (b - 48))⟩

theorem Acc.byte_digit (a : Acc) {b : Nat} (h1 : 48 ≤ b) (h2 : b ≤ 57) :
    a.byte b = ⟨a.done, a.sub, some (a.cur.getD 0 * 10 + (b - 48))⟩ := by
  rw [Acc.byte, if_neg (by omega), if_neg (by omega)]

-- `num b`: the number of the byte `b` of the tokenizer's alphabet (`id`, `UInt8.toNat`); the parameter bytes are those
-- with `48 ≤ num b ≤ 59`: the digits, `:` (58) and `;` (59); `sep c` is the separator byte, `:` when `c`
variable {β : Type} (num : β → Nat) (sep : Bool → β)

def Acc.read (a : Acc) (bs : List β) : Acc := bs.foldl (fun a b => a.byte (num b)) a

/-- `emb` places the accumulator in the tokenizer's state and fixes the rest of it (no intermediate byte seen yet:
    after one, the tokenizers differ). -/
def Reads {σ : Type} (step : σ → β → σ) (emb : Acc → σ) : Prop :=
  ∀ a b, 48 ≤ num b → num b ≤ 59 → step (emb a) b = emb (a.byte (num b))

/-- The empty string is an omitted parameter. -/
def value (ds : List β) : Option Nat := if ds = [] then none else some (ds.foldl (fun x c => x * 10 + (num c - 48)) 0)

def Digits (ds : List β) : Prop := ∀ b ∈ ds, 48 ≤ num b ∧ num b ≤ 57

/-- `shows` is a `%d` for natural numbers. -/
structure Decimal (shows : Nat → List β) : Prop where
  digits : ∀ n, Digits num (shows n)
  value : ∀ n, value num (shows n) = some n

/-- Each digit string carries the flag "the next separator is `:`" (ignored for the last one). -/
def joinSep : List (List β × Bool) → List β
  | [] => []
  | [p] => p.1
  | p :: q :: rest => p.1 ++ [sep p.2] ++ joinSep (q :: rest)

/-- The parameter groups `joinSep sep qs` denotes, given the parts already read of the current group. -/
def groupsOf (sub : List (Option Nat)) : List (List β × Bool) → List (List (Option Nat))
  | [] => [sub ++ [none]]
  | [p] => [sub ++ [value num p.1]]
  | p :: q :: rest =>
    if p.2 then groupsOf (sub ++ [value num p.1]) (q :: rest)
    else (sub ++ [value num p.1]) :: groupsOf [] (q :: rest)

variable {num sep}

theorem Acc.read_append (a : Acc) (xs ys : List β) : a.read num (xs ++ ys) = (a.read num xs).read num ys :=
  List.foldl_append ..

theorem Reads.foldl {σ : Type} {step : σ → β → σ} {emb : Acc → σ} (R : Reads num step emb) :
    ∀ (bs : List β) (a : Acc), (∀ b ∈ bs, 48 ≤ num b ∧ num b ≤ 59) → bs.foldl step (emb a) = emb (a.read num bs)
  | [], _, _ => rfl
  | b :: bs, a, h => by
    rw [List.foldl_cons, R a b (h b List.mem_cons_self).1 (h b List.mem_cons_self).2]
    exact R.foldl bs _ fun x hx => h x (List.mem_cons_of_mem _ hx)

theorem Acc.read_digits (gs : List (List (Option Nat))) (g : List (Option Nat)) : ∀ (ds : List β) (x : Nat), Digits num ds →
    Acc.read num ⟨gs, g, some x⟩ ds = ⟨gs, g, some (ds.foldl (fun x c => x * 10 + (num c - 48)) x)⟩
  | [], _, _ => rfl
  | d :: ds, x, h => by
    have hd := h d List.mem_cons_self
    rw [Acc.read, List.foldl_cons, List.foldl_cons, Acc.byte_digit _ hd.1 hd.2]
    exact Acc.read_digits gs g ds _ fun b hb => h b (List.mem_cons_of_mem _ hb)

theorem Acc.read_param (gs : List (List (Option Nat))) (g : List (Option Nat)) (ds : List β) (h : Digits num ds) :
    Acc.read num ⟨gs, g, none⟩ ds = ⟨gs, g, value num ds⟩ := by
  cases ds with
  | nil => rfl
  | cons d ds =>
    have hd := h d List.mem_cons_self
    rw [Acc.read, List.foldl_cons, Acc.byte_digit _ hd.1 hd.2]
    exact Acc.read_digits gs g ds _ fun b hb => h b (List.mem_cons_of_mem _ hb)

theorem sep_read (h58 : num (sep true) = 58) (h59 : num (sep false) = 59) :
    ∀ (qs : List (List β × Bool)) (gs : List (List (Option Nat))) (g : List (Option Nat)), (∀ p ∈ qs, Digits num p.1) →
      ∃ a : Acc, Acc.read num ⟨gs, g, none⟩ (joinSep sep qs) = a ∧ a.done ++ [a.sub ++ [a.cur]] = gs ++ groupsOf num g qs
  | [], gs, g, _ => ⟨_, rfl, rfl⟩
  | [p], gs, g, h => ⟨_, Acc.read_param gs g p.1 (h p List.mem_cons_self), rfl⟩
  | (ds, c) :: q :: rest, gs, g, h => by
    have ih := sep_read h58 h59 (q :: rest)
    simp only [joinSep, groupsOf, Acc.read_append, Acc.read_param gs g ds (h _ List.mem_cons_self)]
    have hq : ∀ p ∈ q :: rest, Digits num p.1 := fun p hp => h p (List.mem_cons_of_mem _ hp)
    have hb : ∀ k, num (sep c) = k → Acc.read num ⟨gs, g, value num ds⟩ [sep c] = Acc.byte ⟨gs, g, value num ds⟩ k :=
      fun k hk => hk ▸ rfl
    cases c
    · obtain ⟨a, e, ha⟩ := ih (gs ++ [g ++ [value num ds]]) [] hq
      exact ⟨a, by rw [hb 59 h59, ← e]; rfl, by rw [ha]; simp⟩
    · obtain ⟨a, e, ha⟩ := ih gs (g ++ [value num ds]) hq
      exact ⟨a, by rw [hb 58 h58, ← e]; rfl, ha⟩

theorem joinSep_range (h58 : num (sep true) = 58) (h59 : num (sep false) = 59) :
    ∀ qs : List (List β × Bool), (∀ p ∈ qs, Digits num p.1) → ∀ b ∈ joinSep sep qs, 48 ≤ num b ∧ num b ≤ 59
  | [], _, b, hb => nomatch hb
  | [p], h, b, hb => ⟨(h p List.mem_cons_self b hb).1, Nat.le_trans (h p List.mem_cons_self b hb).2 (by decide)⟩
  | p :: q :: rest, h, b, hb => by
    simp only [joinSep, List.mem_append, List.mem_singleton] at hb
    rcases hb with (hb | hb) | hb
    · exact ⟨(h p List.mem_cons_self b hb).1, Nat.le_trans (h p List.mem_cons_self b hb).2 (by decide)⟩
    · subst hb; cases p.2 <;> simp [h58, h59]
    · exact joinSep_range h58 h59 (q :: rest) (fun x hx => h x (List.mem_cons_of_mem _ hx)) b hb

theorem Reads.foldl_joinSep {σ : Type} {step : σ → β → σ} {emb : Acc → σ} (R : Reads num step emb) (h58 : num (sep true) = 58)
    (h59 : num (sep false) = 59) (qs : List (List β × Bool)) (gs : List (List (Option Nat))) (g : List (Option Nat))
    (h : ∀ p ∈ qs, Digits num p.1) :
    ∃ a : Acc, (joinSep sep qs).foldl step (emb ⟨gs, g, none⟩) = emb a ∧
      a.done ++ [a.sub ++ [a.cur]] = gs ++ groupsOf num g qs := by
  obtain ⟨a, e, ha⟩ := sep_read h58 h59 qs gs g h
  exact ⟨a, e ▸ R.foldl _ _ (joinSep_range h58 h59 qs h), ha⟩

end Tickit.Csi
