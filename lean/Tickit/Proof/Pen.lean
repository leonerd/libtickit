import Tickit.Model.Pen
/-
  Lemmas for C19 (pen): bit-field storage; the pen value seen one attribute slot at a time, from which the
  refinement lemmas `abs (op p) = specOp (abs p)` for the abstraction `Pen.abs : Pen → PenDict` and the
  invariant `WF` follow; the event layer `PenObj` (`PenObj.pen` commutes with every operation: the `*_pen` lemmas);
  the recorded `sscanf` on the documented grammar; histories.
-/
namespace Tickit

namespace Bitfield

theorem two_pow_pos (w : Nat) : (0 : Int) < (2 : Int) ^ w := Int.pow_pos (by decide)

theorem two_pow_pred (w : Nat) (hw : 1 ≤ w) : (2 : Int) ^ w = 2 * (2 : Int) ^ (w - 1) := by
  obtain ⟨k, rfl⟩ : ∃ k, w = k + 1 := ⟨w - 1, by omega⟩
  simp [Int.pow_succ, Int.mul_comm]

theorem wrapUnsigned_range (w : Nat) (v : Int) : 0 ≤ wrapUnsigned w v ∧ wrapUnsigned w v < (2 : Int) ^ w := by
  unfold wrapUnsigned
  have h := two_pow_pos w
  exact ⟨Int.emod_nonneg _ (by omega), Int.emod_lt_of_pos _ h⟩

theorem wrapUnsigned_of_range (w : Nat) (v : Int) (h0 : 0 ≤ v) (h1 : v < (2 : Int) ^ w) : wrapUnsigned w v = v := by
  unfold wrapUnsigned
  exact Int.emod_eq_of_lt h0 h1

theorem wrapSigned_range (w : Nat) (hw : 1 ≤ w) (v : Int) :
    -((2 : Int) ^ (w - 1)) ≤ wrapSigned w v ∧ wrapSigned w v < (2 : Int) ^ (w - 1) := by
  unfold wrapSigned
  have h := two_pow_pos w
  have h2 := two_pow_pred w hw
  have a := Int.emod_nonneg (v + (2 : Int) ^ (w - 1)) (show (2 : Int) ^ w ≠ 0 by omega)
  have b := Int.emod_lt_of_pos (v + (2 : Int) ^ (w - 1)) h
  omega

theorem wrapSigned_of_range (w : Nat) (hw : 1 ≤ w) (v : Int)
    (h0 : -((2 : Int) ^ (w - 1)) ≤ v) (h1 : v < (2 : Int) ^ (w - 1)) : wrapSigned w v = v := by
  unfold wrapSigned
  have h2 := two_pow_pred w hw
  rw [Int.emod_eq_of_lt (by omega) (by omega)]
  omega

theorem store_of_representable (w : Nat) (s : Bool) (v : Int) (hw : 1 ≤ w) (h : Representable w s v) :
    store w s v = v := by
  cases s
  · exact wrapUnsigned_of_range w v h.1 h.2
  · exact wrapSigned_of_range w hw v h.1 h.2

theorem store_representable (w : Nat) (s : Bool) (v : Int) (hw : 1 ≤ w) : Representable w s (store w s v) := by
  cases s
  · exact wrapUnsigned_range w v
  · exact wrapSigned_range w hw v

theorem store_eq_iff (w : Nat) (s : Bool) (v : Int) (hw : 1 ≤ w) : store w s v = v ↔ Representable w s v :=
  ⟨fun h => h ▸ store_representable w s v hw, store_of_representable w s v hw⟩

theorem representable_of_between {w : Nat} {s : Bool} {lo hi v : Int} (hlo : Representable w s lo)
    (hhi : Representable w s hi) (h0 : lo ≤ v) (h1 : v ≤ hi) : Representable w s v := by
  cases s <;> exact ⟨Int.le_trans hlo.1 h0, Int.lt_of_le_of_lt h1 hhi.2⟩

theorem store_idem (w : Nat) (s : Bool) (v : Int) (hw : 1 ≤ w) : store w s (store w s v) = store w s v :=
  store_of_representable w s _ hw (store_representable w s v hw)

end Bitfield
open Bitfield

namespace PenAttr
open Gen.PenLayout

theorem width_pos (a : PenAttr) : 1 ≤ a.width := by cases a <;> decide +kernel
theorem all_nodup : all.Nodup := by decide +kernel
theorem mem_all (a : PenAttr) : a ∈ all := by cases a <;> decide +kernel
theorem ofCode_code (a : PenAttr) : ofCode? a.code = some a := by cases a <;> decide +kernel

/-- `all` is the loop `for(attr = 1; attr < TICKIT_N_PEN_ATTRS; attr++)`. -/
theorem all_codes : all.map code = (List.range (TICKIT_N_PEN_ATTRS.toNat - 1)).map (fun (k : Nat) => (k : Int) + 1) := by decide +kernel

/-- No enumerator of `TickitPenAttr` is unknown to the model. -/
theorem enum_complete : pen_attrs.map (·.2) = all.map code := by decide +kernel

/-- The hand-written `type` is the generated `tickit_penattr_type` table, attribute by attribute. -/
theorem type_table (a : PenAttr) : penattr_type.lookup a.code = some a.type.code := by cases a <;> decide +kernel

/-- The same on every code the table lists (0 … `TICKIT_N_PEN_ATTRS`). -/
theorem type_table_all : penattr_type.all (fun e => e.2 == penattrTypeC e.1) = true := by decide +kernel

theorem type_table_domain : penattr_type.map (·.1) = (List.range (TICKIT_N_PEN_ATTRS.toNat + 1)).map (fun (k : Nat) => (k : Int)) := by
  decide +kernel

/-- The model knows every bit-field of the struct. -/
theorem no_unknown_fields : unknown_fields = [] := by decide +kernel

end PenAttr

namespace PenDict

theorem copy_empty (s : PenDict) (ow : Bool) : copy empty s ow = s := by
  funext x
  simp [copy, empty]
  cases s x <;> simp

theorem copy_self (d : PenDict) (ow : Bool) : copy d d ow = d := by
  funext x; unfold copy; cases h : d x <;> simp

theorem read_copyAttr (dst src : PenDict) (a : PenAttr) : (copyAttr dst src a).read a = src.read a := by
  simp [read, copyAttr, set]

end PenDict

/-- All that the getters can tell about one attribute: its validity bit, its value bit-field and, for a valid
    colour, the RGB8 secondary.  `abs`, `WF` and the getters at `x` depend on the pen through its slot at `x`
    only, and every setter replaces one slot and leaves the others alone (`Pen.SlotUpd`); so the
    attribute × attribute case analysis is made once per setter, in `Pen.slotUpd_*`. -/
structure PenSlot where
  valid : Bool
  raw : Int
  rgb : Option RGB8

namespace PenSlot

def val (x : PenAttr) (s : PenSlot) : PenVal :=
  match x.type with
  | .bool => .b (s.raw != 0)
  | .int => .i s.raw
  | .colour => .c s.raw s.rgb

def stored (a : PenAttr) (v : Int) : PenSlot := ⟨true, store a.width a.signed v, none⟩

end PenSlot

namespace Pen
open Gen.PenLayout

def slot (p : Pen) (x : PenAttr) : PenSlot :=
  ⟨p.hasAttr x, p.rawField x, if p.hasColourAttrRgb8 x then some (p.getColourAttrRgb8 x) else none⟩

def SlotUpd (p q : Pen) (a : PenAttr) (s : PenSlot) : Prop := ∀ x, q.slot x = if x = a then s else p.slot x

theorem getBoolAttr_eq (p : Pen) (a : PenAttr) (h : a.type = .bool) :
    p.getBoolAttr a = (p.hasAttr a && p.rawField a != 0) := by
  unfold getBoolAttr
  cases a <;> first | exact absurd h (by decide) | (cases p.hasAttr _ <;> rfl)

theorem getIntAttr_eq (p : Pen) (a : PenAttr) (h : a.type = .int) :
    p.getIntAttr a = if p.hasAttr a then p.rawField a else 0 := by
  unfold getIntAttr
  cases a <;> first | exact absurd h (by decide) | (cases p.hasAttr _ <;> rfl)

theorem getColourAttr_eq (p : Pen) (a : PenAttr) (h : a.type = .colour) :
    p.getColourAttr a = if p.hasAttr a then p.rawField a else COLOUR_DEFAULT := by
  unfold getColourAttr
  cases a <;> first | exact absurd h (by decide) | (cases p.hasAttr _ <;> rfl)

theorem has_of_hasColourAttrRgb8 (p : Pen) (a : PenAttr) (h : p.hasColourAttrRgb8 a = true) :
    a.type = .colour ∧ p.hasAttr a = true := by
  cases a <;> simp_all [hasColourAttrRgb8, hasAttr, PenAttr.type]

theorem typedRead_of_has {p : Pen} {x : PenAttr} (h : p.hasAttr x = true) : p.typedRead x = (p.slot x).val x := by
  unfold typedRead PenSlot.val
  cases ht : x.type
  · simp [getBoolAttr_eq _ _ ht, h, slot]
  · simp [getIntAttr_eq _ _ ht, h, slot]
  · simp [getColourAttr_eq _ _ ht, h, slot]

theorem hasColourAttrRgb8_of_not_has {p : Pen} {a : PenAttr} (h : p.hasAttr a = false) : p.hasColourAttrRgb8 a = false := by
  cases hc : p.hasColourAttrRgb8 a
  · rfl
  · rw [(has_of_hasColourAttrRgb8 p a hc).2] at h; exact h

theorem typedRead_of_not_has {p : Pen} {x : PenAttr} (h : p.hasAttr x = false) : p.typedRead x = PenDict.default x := by
  unfold typedRead PenDict.default
  cases x.type <;> simp [getBoolAttr, getIntAttr, getColourAttr, h, hasColourAttrRgb8_of_not_has h]

theorem abs_def (p : Pen) (x : PenAttr) : p.abs x = if p.hasAttr x then some (p.typedRead x) else none := rfl

theorem abs_of_not_has {p : Pen} {a : PenAttr} (h : p.hasAttr a = false) : p.abs a = none := by
  rw [abs_def, h]; rfl

theorem abs_of_has {p : Pen} {a : PenAttr} (h : p.hasAttr a = true) : p.abs a = some (p.typedRead a) := by
  rw [abs_def, if_pos h]

theorem abs_isSome (p : Pen) (a : PenAttr) : (p.abs a).isSome = p.hasAttr a := by
  rw [abs_def]; cases p.hasAttr a <;> rfl

theorem abs_read (p : Pen) (x : PenAttr) : p.abs.read x = p.typedRead x := by
  unfold PenDict.read
  cases h : p.hasAttr x
  · rw [abs_of_not_has h, typedRead_of_not_has h]; rfl
  · rw [abs_of_has h]; rfl

theorem abs_eq_slot (p : Pen) (x : PenAttr) :
    p.abs x = if (p.slot x).valid then some ((p.slot x).val x) else none := by
  cases h : p.hasAttr x
  · rw [abs_of_not_has h]; simp [slot, h]
  · rw [abs_of_has h, typedRead_of_has h]; simp [slot, h]

namespace SlotUpd
variable {p q : Pen} {a : PenAttr} {s : PenSlot}

theorem self (h : SlotUpd p q a s) : q.slot a = s := (h a).trans (if_pos rfl)

theorem hasAttr (h : SlotUpd p q a s) : q.hasAttr a = s.valid :=
  congrArg PenSlot.valid h.self

theorem rawField (h : SlotUpd p q a s) : q.rawField a = s.raw :=
  congrArg PenSlot.raw h.self

theorem getIntAttr (h : SlotUpd p q a s) (ht : a.type = .int) :
    q.getIntAttr a = if s.valid then s.raw else 0 := by
  rw [getIntAttr_eq _ _ ht, h.hasAttr, h.rawField]

theorem getColourAttr (h : SlotUpd p q a s) (ht : a.type = .colour) :
    q.getColourAttr a = if s.valid then s.raw else COLOUR_DEFAULT := by
  rw [getColourAttr_eq _ _ ht, h.hasAttr, h.rawField]

theorem rgb_some (h : SlotUpd p q a s) {v : RGB8} (hv : s.rgb = some v) :
    q.hasColourAttrRgb8 a = true ∧ q.getColourAttrRgb8 a = v := by
  have := (congrArg PenSlot.rgb h.self).trans hv
  simp only [slot] at this
  split at this
  · exact ⟨‹_›, Option.some.inj this⟩
  · cases this

theorem abs_eq (h : SlotUpd p q a s) (x : PenAttr) :
    q.abs x = if x = a then (if s.valid then some (s.val a) else none) else p.abs x := by
  rw [abs_eq_slot, h x]
  split
  · next hx => rw [hx]
  · exact (abs_eq_slot p x).symm

theorem abs_set (h : SlotUpd p q a s) (hv : s.valid = true) :
    q.abs = p.abs.set a (s.val a) := by
  funext x; rw [h.abs_eq, hv]; rfl

theorem abs_erase (h : SlotUpd p q a s) (hv : s.valid = false) :
    q.abs = p.abs.erase a := by
  funext x; rw [h.abs_eq, hv]; rfl

theorem wf (h : SlotUpd p q a s) (hs : a.Representable s.raw) (hp : p.WF) :
    q.WF := by
  intro x
  show x.Representable (q.slot x).raw
  rw [h x]
  split
  · next hx => rw [hx]; exact hs
  · exact hp x

end SlotUpd

theorem setIntAttr_wrong_type (p : Pen) (a : PenAttr) (v : Int) (h : a.type ≠ .int) : p.setIntAttr a v = p := by
  cases a <;> first | rfl | exact absurd rfl h

theorem setColourAttr_wrong_type (p : Pen) (a : PenAttr) (v : Int) (h : a.type ≠ .colour) : p.setColourAttr a v = p := by
  cases a <;> first | rfl | exact absurd rfl h

theorem setBoolAttr_wrong_type (p : Pen) (a : PenAttr) (v : Bool) (h : a.type = .colour ∨ a = .altfont ∨ a = .sizepos) :
    p.setBoolAttr a v = p := by
  cases a <;> first | rfl | exact absurd h (by decide)

theorem setColourAttrRgb8_wrong_type (p : Pen) (a : PenAttr) (v : RGB8) (h : a.type ≠ .colour) :
    p.setColourAttrRgb8 a v = p := by
  unfold setColourAttrRgb8
  cases a <;> first | exact absurd rfl h | exact ite_self _

theorem setColourAttrRgb8_of_not_has {p : Pen} {a : PenAttr} {v : RGB8} (h : p.hasAttr a = false) :
    p.setColourAttrRgb8 a v = p := by
  simp [setColourAttrRgb8, h]

theorem slotUpd_clearAttr (p : Pen) (a : PenAttr) : SlotUpd p (p.clearAttr a) a ⟨false, p.rawField a, none⟩ := by
  intro x; cases a <;> cases x <;> rfl

theorem slotUpd_setIntAttr (p : Pen) (a : PenAttr) (v : Int) (h : a.type = .int) :
    SlotUpd p (p.setIntAttr a v) a (.stored a v) := by
  intro x; cases a <;> first | exact absurd h (by decide) | (cases x <;> rfl)

theorem slotUpd_setColourAttr (p : Pen) (a : PenAttr) (v : Int) (h : a.type = .colour) :
    SlotUpd p (p.setColourAttr a v) a (.stored a v) := by
  intro x; cases a <;> first | exact absurd h (by decide) | (cases x <;> rfl)

/-- The value `tickit_pen_set_bool_attr` stores: 0 / 1, and NONE / SINGLE for the back-compat view of `under`. -/
def boolStored (a : PenAttr) (v : Bool) : Int :=
  if a = .under then (if v then TICKIT_PEN_UNDER_SINGLE else TICKIT_PEN_UNDER_NONE) else if v then 1 else 0

theorem slotUpd_setBoolAttr (p : Pen) (a : PenAttr) (v : Bool) (h : a.type = .bool ∨ a = .under) :
    SlotUpd p (p.setBoolAttr a v) a (.stored a (boolStored a v)) := by
  intro x; cases a <;> first | exact absurd h (by decide) | (cases x <;> rfl)

theorem slotUpd_setColourAttrRgb8 (p : Pen) (a : PenAttr) (v : RGB8) (h : a.type = .colour) (hh : p.hasAttr a = true) :
    SlotUpd p (p.setColourAttrRgb8 a v) a ⟨true, p.rawField a, some v⟩ := by
  intro x
  unfold setColourAttrRgb8
  rw [hh]
  cases a <;> first
    | exact absurd h (by decide)
    | (cases x <;> first | rfl | simp_all [slot, hasAttr, hasColourAttrRgb8, getColourAttrRgb8, rawField])

theorem abs_clearAttr (p : Pen) (a : PenAttr) : (p.clearAttr a).abs = p.abs.erase a :=
  (slotUpd_clearAttr p a).abs_erase rfl

/-- The general statement (any `v`: what is stored is `store … v`); the unprimed form below is its case for a
    representable `v`.  Likewise for colours. -/
theorem abs_setIntAttr' (p : Pen) (a : PenAttr) (v : Int) :
    (p.setIntAttr a v).abs = p.abs.setInt a (store a.width a.signed v) := by
  unfold PenDict.setInt
  by_cases h : a.type = .int
  · rw [(slotUpd_setIntAttr p a v h).abs_set rfl, if_pos h, PenSlot.val, h]; rfl
  · rw [setIntAttr_wrong_type p a v h, if_neg h]

theorem abs_setColourAttr' (p : Pen) (a : PenAttr) (v : Int) :
    (p.setColourAttr a v).abs = p.abs.setColour a (store a.width a.signed v) := by
  unfold PenDict.setColour
  by_cases h : a.type = .colour
  · rw [(slotUpd_setColourAttr p a v h).abs_set rfl, if_pos h, PenSlot.val, h]; rfl
  · rw [setColourAttr_wrong_type p a v h, if_neg h]

theorem abs_setIntAttr (p : Pen) (a : PenAttr) (v : Int) (h : a.Representable v) :
    (p.setIntAttr a v).abs = p.abs.setInt a v := by
  rw [abs_setIntAttr', store_of_representable _ _ _ a.width_pos h]

theorem abs_setColourAttr (p : Pen) (a : PenAttr) (v : Int) (h : a.Representable v) :
    (p.setColourAttr a v).abs = p.abs.setColour a v := by
  rw [abs_setColourAttr', store_of_representable _ _ _ a.width_pos h]

theorem abs_setBoolAttr (p : Pen) (a : PenAttr) (v : Bool) :
    (p.setBoolAttr a v).abs = p.abs.setBool a v := by
  -- an attribute without a boolean view is left alone on both sides; for the others the stored 0 / 1 read back as `v`
  cases a <;> first
    | rfl
    | (rw [(slotUpd_setBoolAttr p _ v (by decide)).abs_set rfl]; cases v <;> rfl)

theorem abs_setColourAttrRgb8 (p : Pen) (a : PenAttr) (v : RGB8) :
    (p.setColourAttrRgb8 a v).abs = p.abs.setRgb8 a v := by
  unfold PenDict.setRgb8
  cases hh : p.hasAttr a
  · rw [setColourAttrRgb8_of_not_has hh, abs_of_not_has hh]
  · rw [abs_of_has hh, typedRead]
    cases h : a.type
    · rw [setColourAttrRgb8_wrong_type p a v (by simp [h])]
    · rw [setColourAttrRgb8_wrong_type p a v (by simp [h])]
    · rw [(slotUpd_setColourAttrRgb8 p a v h hh).abs_set rfl, PenSlot.val, h, getColourAttr_eq p a h, if_pos hh]

theorem wf_clearAttr {p : Pen} {a : PenAttr} (h : p.WF) : (p.clearAttr a).WF := (slotUpd_clearAttr p a).wf (h a) h

theorem wf_setIntAttr {p : Pen} {a : PenAttr} {v : Int} (h : p.WF) : (p.setIntAttr a v).WF := by
  by_cases ht : a.type = .int
  · exact (slotUpd_setIntAttr p a v ht).wf (store_representable _ _ _ a.width_pos) h
  · rw [setIntAttr_wrong_type p a v ht]; exact h

theorem wf_setColourAttr {p : Pen} {a : PenAttr} {v : Int} (h : p.WF) : (p.setColourAttr a v).WF := by
  by_cases ht : a.type = .colour
  · exact (slotUpd_setColourAttr p a v ht).wf (store_representable _ _ _ a.width_pos) h
  · rw [setColourAttr_wrong_type p a v ht]; exact h

theorem wf_setBoolAttr {p : Pen} {a : PenAttr} {v : Bool} (h : p.WF) : (p.setBoolAttr a v).WF := by
  by_cases ht : a.type = .bool ∨ a = .under
  · exact (slotUpd_setBoolAttr p a v ht).wf (store_representable _ _ _ a.width_pos) h
  · cases a <;> first | exact absurd (by decide) ht | exact h

theorem wf_setColourAttrRgb8 {p : Pen} {a : PenAttr} {v : RGB8} (h : p.WF) : (p.setColourAttrRgb8 a v).WF := by
  by_cases ht : a.type = .colour
  · cases hh : p.hasAttr a
    · rw [setColourAttrRgb8_of_not_has hh]; exact h
    · exact (slotUpd_setColourAttrRgb8 p a v ht hh).wf (h a) h
  · rw [setColourAttrRgb8_wrong_type p a v ht]; exact h

theorem clear_hasAttr (p : Pen) (a : PenAttr) : p.clear.hasAttr a = false := by
  cases a <;> rfl

theorem abs_clear (p : Pen) : p.clear.abs = PenDict.empty :=
  funext fun x => abs_of_not_has (clear_hasAttr p x)

theorem abs_newFrom (g : Pen) : (newFrom g).abs = PenDict.empty := abs_clear g
theorem abs_new : Pen.new.abs = PenDict.empty := abs_clear {}

theorem wf_new : Pen.new.WF := by
  intro a; cases a <;> decide

theorem wf_clear {p : Pen} (h : p.WF) : p.clear.WF := List.foldlRecOn _ _ h fun _ hq _ _ => wf_clearAttr hq

theorem rgb8_eq_iff (x y : RGB8) : x = y ↔ (x.r = y.r ∧ x.g = y.g ∧ x.b = y.b) := by
  cases x; cases y; simp

theorem equivAttr_iff (a b : Pen) (x : PenAttr) : a.equivAttr b x = true ↔ a.typedRead x = b.typedRead x := by
  unfold Pen.equivAttr typedRead
  cases hx : x.type
  · simp
  · simp
  · cases ha : a.hasColourAttrRgb8 x <;> cases hb : b.hasColourAttrRgb8 x <;> simp [rgb8_eq_iff, and_assoc]

theorem equiv_eq_dict (a b : Pen) : a.equiv b = PenDict.equiv a.abs b.abs := by
  unfold Pen.equiv PenDict.equiv
  congr 1
  funext x
  rw [Bool.eq_iff_iff, equivAttr_iff, abs_read, abs_read]
  simp

theorem typedRead_eq_iff (a b : Pen) (x : PenAttr) :
    a.typedRead x = b.typedRead x ↔
      match x.type with
      | .bool => a.getBoolAttr x = b.getBoolAttr x
      | .int => a.getIntAttr x = b.getIntAttr x
      | .colour => a.getColourAttr x = b.getColourAttr x ∧ a.hasColourAttrRgb8 x = b.hasColourAttrRgb8 x ∧
          (a.hasColourAttrRgb8 x = true → a.getColourAttrRgb8 x = b.getColourAttrRgb8 x) := by
  unfold Pen.typedRead
  cases hx : x.type
  · simp
  · simp
  · cases ha : a.hasColourAttrRgb8 x <;> cases hb : b.hasColourAttrRgb8 x <;> simp

theorem hasColourAttrRgb8_congr {p q : Pen} {a : PenAttr} (h : p.typedRead a = q.typedRead a) :
    p.hasColourAttrRgb8 a = q.hasColourAttrRgb8 a := by
  have key := (typedRead_eq_iff p q a).1 h
  cases ht : a.type
  case colour => rw [ht] at key; exact key.2.1
  all_goals
    have no : ∀ r : Pen, r.hasColourAttrRgb8 a = false := fun r =>
      Bool.eq_false_iff.2 fun hc => by have := (has_of_hasColourAttrRgb8 r a hc).1; rw [ht] at this; cases this
    rw [no p, no q]

theorem obs_of_abs (p q : Pen) (a : PenAttr) (h : p.abs a = q.abs a) :
    p.hasAttr a = q.hasAttr a ∧ p.typedRead a = q.typedRead a := by
  refine ⟨by rw [← abs_isSome, ← abs_isSome, h], ?_⟩
  rw [← abs_read, ← abs_read]; simp [PenDict.read, h]

theorem getIntAttr_representable (p : Pen) (a : PenAttr) (h : p.WF) (ht : a.type = .int) :
    a.Representable (p.getIntAttr a) := by
  rw [getIntAttr_eq p a ht]
  split
  · exact h a
  · cases a <;> decide

theorem getColourAttr_representable (p : Pen) (a : PenAttr) (h : p.WF) (ht : a.type = .colour) :
    a.Representable (p.getColourAttr a) := by
  rw [getColourAttr_eq p a ht]
  split
  · exact h a
  · cases a <;> first | decide | exact absurd ht (by decide)

theorem abs_copyAttr (dst src : Pen) (a : PenAttr) (hs : src.WF) :
    (dst.copyAttr src a).abs = PenDict.copyAttr dst.abs src.abs a := by
  unfold Pen.copyAttr PenDict.copyAttr
  rw [abs_read]
  unfold typedRead
  cases ht : a.type
  · simp [abs_setBoolAttr, PenDict.setBool, ht]
  · simp [abs_setIntAttr _ _ _ (getIntAttr_representable src a hs ht), PenDict.setInt, ht]
  · simp only
    split
    · rw [abs_setColourAttrRgb8, abs_setColourAttr _ _ _ (getColourAttr_representable src a hs ht)]
      funext x
      simp [PenDict.setRgb8, PenDict.setColour, ht, PenDict.set]
      split <;> simp_all
    · simp [abs_setColourAttr _ _ _ (getColourAttr_representable src a hs ht), PenDict.setColour, ht]

theorem copyStep_abs_other (src : Pen) (ow : Bool) (d : Pen) (a x : PenAttr) (hs : src.WF) (hx : x ≠ a) :
    (copyStep src ow d a).abs x = d.abs x := by
  unfold copyStep
  split
  · rfl
  · split
    · rfl
    · rw [abs_copyAttr _ _ _ hs]; simp [PenDict.copyAttr, PenDict.set, hx]

theorem copyStep_abs_same (src : Pen) (ow : Bool) (d : Pen) (a : PenAttr) (hs : src.WF) :
    (copyStep src ow d a).abs a = PenDict.copy d.abs src.abs ow a := by
  unfold copyStep PenDict.copy
  cases hsa : src.hasAttr a
  · simp [abs_of_not_has hsa]
  · rw [abs_of_has hsa]
    cases hda : d.hasAttr a
    · simp [abs_copyAttr _ _ _ hs, PenDict.copyAttr, PenDict.set, abs_read, abs_of_not_has hda]
    · have hd := abs_of_has hda
      cases ow
      · simp [hd]
      · cases he : src.equivAttr d a
        · simp [abs_copyAttr _ _ _ hs, PenDict.copyAttr, PenDict.set, abs_read]
        · simp [hd, (equivAttr_iff src d a).1 he]

theorem foldl_copyStep_abs (src : Pen) (ow : Bool) (hs : src.WF) (l : List PenAttr) (hl : l.Nodup) (d : Pen) (x : PenAttr) :
    (l.foldl (copyStep src ow) d).abs x = if x ∈ l then PenDict.copy d.abs src.abs ow x else d.abs x := by
  induction l generalizing d with
  | nil => simp
  | cons a l ih =>
    simp only [List.foldl_cons]
    rw [ih (List.nodup_cons.1 hl).2]
    by_cases hxa : x = a
    · subst hxa
      have : x ∉ l := (List.nodup_cons.1 hl).1
      simp [this, copyStep_abs_same _ _ _ _ hs]
    · simp only [List.mem_cons, hxa, false_or]
      -- `PenDict.copy` at `x` looks only at the two entries at `x`
      unfold PenDict.copy
      rw [copyStep_abs_other _ _ _ _ _ hs hxa]

theorem abs_copy (dst src : Pen) (ow : Bool) (hs : src.WF) : (dst.copy src ow).abs = PenDict.copy dst.abs src.abs ow := by
  funext x
  unfold Pen.copy
  rw [foldl_copyStep_abs src ow hs _ PenAttr.all_nodup]
  simp [PenAttr.mem_all]

theorem copy_keep (dst src : Pen) (ow : Bool) (hs : src.WF) (a : PenAttr) (h : src.hasAttr a = false) :
    (dst.copy src ow).hasAttr a = dst.hasAttr a ∧ (dst.copy src ow).typedRead a = dst.typedRead a ∧
    (dst.copy src ow).abs a = dst.abs a := by
  have habs : (dst.copy src ow).abs a = dst.abs a := by
    rw [abs_copy dst src ow hs, PenDict.copy, abs_of_not_has h]
  exact ⟨(obs_of_abs _ _ a habs).1, (obs_of_abs _ _ a habs).2, habs⟩

theorem copy_keep_present (dst src : Pen) (hs : src.WF) (a : PenAttr) (h : dst.hasAttr a = true) :
    (dst.copy src false).hasAttr a = true ∧ (dst.copy src false).typedRead a = dst.typedRead a := by
  have habs : (dst.copy src false).abs a = dst.abs a := by
    rw [abs_copy dst src false hs, PenDict.copy, abs_of_has h]; cases src.abs a <;> rfl
  exact ⟨(obs_of_abs _ _ a habs).1.trans h, (obs_of_abs _ _ a habs).2⟩

theorem copy_take (dst src : Pen) (ow : Bool) (hs : src.WF) (a : PenAttr)
    (h : src.hasAttr a = true) (h' : ow = true ∨ dst.hasAttr a = false) :
    (dst.copy src ow).hasAttr a = true ∧ (dst.copy src ow).typedRead a = src.typedRead a := by
  have habs : (dst.copy src ow).abs a = src.abs a := by
    rw [abs_copy dst src ow hs]
    unfold PenDict.copy
    rw [abs_of_has h]
    rcases h' with rfl | h'
    · simp
    · simp [abs_of_not_has h']
  exact ⟨(obs_of_abs _ _ a habs).1.trans h, (obs_of_abs _ _ a habs).2⟩

theorem abs_clone (orig : Pen) (h : orig.WF) : orig.clone.abs = orig.abs := by
  unfold Pen.clone
  rw [abs_copy _ _ _ h, abs_new, PenDict.copy_empty]

theorem wf_copyAttr {dst src : Pen} {a : PenAttr} (h : dst.WF) : (dst.copyAttr src a).WF := by
  unfold Pen.copyAttr
  split
  · exact wf_setBoolAttr h
  · exact wf_setIntAttr h
  · simp only
    split
    · exact wf_setColourAttrRgb8 (wf_setColourAttr h)
    · exact wf_setColourAttr h

theorem wf_copyStep {src : Pen} {ow : Bool} {d : Pen} {a : PenAttr} (h : d.WF) : (copyStep src ow d a).WF := by
  unfold copyStep
  split
  · exact h
  · split
    · exact h
    · exact wf_copyAttr h

theorem wf_copy {dst src : Pen} {ow : Bool} (h : dst.WF) : (dst.copy src ow).WF :=
  List.foldlRecOn _ _ h fun _ hd _ _ => wf_copyStep hd

theorem wf_clone (orig : Pen) : orig.clone.WF := wf_copy wf_new

theorem descCore_eq_parse (sc : Scanf) (p : Pen) (a : PenAttr) (s : List UInt8) (hi : Int) :
    descCore sc p a s hi = applyParsed p a (descParseCore sc s hi) := by
  unfold descCore descParseCore descParseRgb8
  simp only
  split
  · split
    · rfl
    · split
      · split <;> simp_all [applyParsed]
      · simp [applyParsed]
  · split
    · split
      · split <;> simp_all [applyParsed]
      · simp [applyParsed]
    · rfl

theorem setColourAttrDesc_eq_parse (sc : Scanf) (p : Pen) (a : PenAttr) (s : List UInt8) :
    setColourAttrDesc sc p a s = applyParsed p a (descParse sc s) := by
  unfold setColourAttrDesc descParse
  split <;> exact descCore_eq_parse _ _ _ _ _

theorem desc_structural (sc : Scanf) (p : Pen) (a : PenAttr) (s : List UInt8) :
    setColourAttrDesc sc p a s = (false, p) ∨
    ∃ idx, setColourAttrDesc sc p a s = (true, p.setColourAttr a idx) ∨
      ∃ rgb, setColourAttrDesc sc p a s = (true, (p.setColourAttr a idx).setColourAttrRgb8 a rgb) := by
  rw [setColourAttrDesc_eq_parse]
  match descParse sc s with
  | none => exact Or.inl rfl
  | some (idx, none) => exact Or.inr ⟨idx, Or.inl rfl⟩
  | some (idx, some rgb) => exact Or.inr ⟨idx, Or.inr ⟨rgb, rfl⟩⟩

theorem wf_setColourAttrDesc {sc : Scanf} {p : Pen} {a : PenAttr} {s : List UInt8} (h : p.WF) :
    (setColourAttrDesc sc p a s).2.WF := by
  rw [setColourAttrDesc_eq_parse]
  unfold applyParsed
  split
  · exact h
  · exact wf_setColourAttr h
  · exact wf_setColourAttrRgb8 (wf_setColourAttr h)

end Pen

namespace PenObj

@[simp] theorem runEvents_pen (o : PenObj) : o.runEvents.pen = o.pen := rfl
@[simp] theorem markChanged_pen (o : PenObj) : o.markChanged.pen = o.pen := by unfold markChanged; split <;> rfl
@[simp] theorem freeze_pen (o : PenObj) : o.freeze.pen = o.pen := rfl
@[simp] theorem thaw_pen (o : PenObj) : o.thaw.pen = o.pen := by unfold thaw; simp only; split <;> rfl

theorem setBoolAttr_pen (o : PenObj) (a : PenAttr) (v : Bool) : (o.setBoolAttr a v).pen = o.pen.setBoolAttr a v := by
  cases a <;> first | rfl | exact markChanged_pen _

theorem setIntAttr_pen (o : PenObj) (a : PenAttr) (v : Int) : (o.setIntAttr a v).pen = o.pen.setIntAttr a v := by
  cases a <;> first | rfl | exact markChanged_pen _

theorem setColourAttr_pen (o : PenObj) (a : PenAttr) (v : Int) : (o.setColourAttr a v).pen = o.pen.setColourAttr a v := by
  cases a <;> rfl

theorem setColourAttrRgb8_pen (o : PenObj) (a : PenAttr) (v : RGB8) :
    (o.setColourAttrRgb8 a v).pen = o.pen.setColourAttrRgb8 a v := by
  unfold setColourAttrRgb8 Pen.setColourAttrRgb8
  split
  · rfl
  · cases a <;> first | rfl | exact markChanged_pen _

theorem clearAttr_pen (o : PenObj) (a : PenAttr) : (o.clearAttr a).pen = o.pen.clearAttr a := markChanged_pen _

theorem clear_pen (o : PenObj) : o.clear.pen = o.pen.clear :=
  (List.foldl_hom PenObj.pen fun o a => (clearAttr_pen o a).symm).symm

theorem copyAttr_pen (dst : PenObj) (src : Pen) (a : PenAttr) : (dst.copyAttr src a).pen = dst.pen.copyAttr src a := by
  unfold copyAttr Pen.copyAttr
  split
  · exact setBoolAttr_pen _ _ _
  · exact setIntAttr_pen _ _ _
  · simp only [thaw_pen]
    split
    · rw [setColourAttrRgb8_pen, setColourAttr_pen, freeze_pen]
    · rw [setColourAttr_pen, freeze_pen]

theorem copyStep_pen (src : Pen) (ow : Bool) (d : PenObj) (a : PenAttr) :
    (copyStep src ow d a).pen = Pen.copyStep src ow d.pen a := by
  unfold copyStep Pen.copyStep
  split
  · rfl
  · split
    · rfl
    · exact copyAttr_pen _ _ _

theorem copy_pen (dst : PenObj) (src : Pen) (ow : Bool) : (dst.copy src ow).pen = dst.pen.copy src ow := by
  unfold copy
  rw [thaw_pen]
  exact (List.foldl_hom PenObj.pen fun d a => (copyStep_pen src ow d a).symm).symm

theorem copyAttrSelf_pen (p : PenObj) (a : PenAttr) : (p.copyAttrSelf a).pen = p.pen.copyAttrSelf a :=
  copyAttr_pen p p.pen a

theorem descCore_pen (sc : Pen.Scanf) (o : PenObj) (a : PenAttr) (s : List UInt8) (hi : Int) :
    ((o.descCore sc a s hi).1, (o.descCore sc a s hi).2.pen) = Pen.descCore sc o.pen a s hi := by
  unfold descCore Pen.descCore descParseRgb8 Pen.descParseRgb8
  simp only
  split
  · split
    · rfl
    · split
      · split <;> simp [setColourAttrRgb8_pen, setColourAttr_pen]
      · simp [setColourAttr_pen]
  · split
    · split
      · split <;> simp [setColourAttrRgb8_pen, setColourAttr_pen]
      · simp [setColourAttr_pen]
    · rfl

theorem setColourAttrDesc_pen (sc : Pen.Scanf) (o : PenObj) (a : PenAttr) (s : List UInt8) :
    ((o.setColourAttrDesc sc a s).1, (o.setColourAttrDesc sc a s).2.pen) = Pen.setColourAttrDesc sc o.pen a s := by
  unfold setColourAttrDesc Pen.setColourAttrDesc
  split <;> exact descCore_pen _ _ _ _ _

end PenObj

namespace PenScan
open Pen

theorem uint8_forall {P : UInt8 → Prop} (h : ∀ n < 256, P (UInt8.ofNat n)) (c : UInt8) : P c := by
  simpa using h c.toNat c.toNat_lt

theorem digit_facts : ∀ c : UInt8, isDigit c = true →
    isSpace c = false ∧ (c == 45) = false ∧ (c == 43) = false ∧ (c == 35) = false ∧ (c == 104) = false := by
  apply uint8_forall
  decide +kernel

/-- The decimal value of a digit string (what `strtol` computes). -/
def decVal (ds : List UInt8) : Nat := ds.foldl (fun acc d => acc * 10 + (d.toNat - 48)) 0

theorem scanD_digits (ds : List UInt8) (hne : ds ≠ []) (hd : ∀ d ∈ ds, isDigit d = true) (hv : decVal ds < 2 ^ 31) :
    scanD ds = some (decVal ds : Int) := by
  cases ds with
  | nil => exact absurd rfl hne
  | cons c rest =>
    obtain ⟨h1, h2, h3, -, -⟩ := digit_facts c (hd c (List.mem_cons_self ..))
    have htw : (c :: rest).takeWhile isDigit = c :: rest := by
      simpa using List.takeWhile_append_of_pos (l₂ := []) hd
    have hv' : ((decVal (c :: rest) : Nat) : Int) < 2 ^ 31 := by exact_mod_cast hv
    unfold scanD skipSpace
    simp only [List.dropWhile_cons, h1, h2, h3, Bool.or_self, Bool.false_eq_true, if_false, htw,
      List.isEmpty_cons]
    change some (wrapSigned 32 (max (-(2 : Int) ^ 63) (min ((decVal (c :: rest) : Nat) : Int) (2 ^ 63 - 1)))) = _
    -- far from `long`'s ends, so `strtol` does not clamp, and inside `int`
    rw [Int.min_eq_left (by omega), Int.max_eq_right (by omega),
      wrapSigned_of_range 32 (by decide) _ (by simp) (by simp; omega)]

theorem digits_no_hash (ds : List UInt8) (hd : ∀ d ∈ ds, isDigit d = true) : ∀ x ∈ ds, (x == 35) = false :=
  fun x hx => (digit_facts x (hd x hx)).2.2.2.1

theorem digits_not_hi (ds : List UInt8) (hd : ∀ d ∈ ds, isDigit d = true) : (ds.take 3 == hiPrefix) = false := by
  cases ds with
  | nil => decide
  | cons c rest =>
    have hc : c ≠ 104 := by simpa using (digit_facts c (hd c (List.mem_cons_self ..))).2.2.2.2
    simp [hiPrefix, hc]

theorem descParseCore_digits (ds : List UInt8) (hne : ds ≠ []) (hd : ∀ d ∈ ds, isDigit d = true) (hv : decVal ds < 2 ^ 31)
    (hi : Int) :
    descParseCore glibcScanf ds hi = if hi ≠ 0 ∧ (decVal ds : Int) > 7 then none else some ((decVal ds : Int) + hi, none) := by
  unfold descParseCore
  simp only [List.findIdx?_eq_none_iff.2 (digits_no_hash ds hd), glibcScanf, scanD_digits ds hne hd hv]

/-- Under the recorded libc behaviour: a decimal number is accepted as that colour index. -/
theorem desc_number (ds : List UInt8) (hne : ds ≠ []) (hd : ∀ d ∈ ds, isDigit d = true) (hv : decVal ds < 2 ^ 31) :
    descParse glibcScanf ds = some ((decVal ds : Int), none) := by
  unfold descParse
  rw [digits_not_hi ds hd, if_neg Bool.false_ne_true, descParseCore_digits ds hne hd hv, if_neg (fun h => h.1 rfl),
    Int.add_zero]

/-- Under the recorded libc behaviour: after `hi-`, a number 0…7 gives 8…15, a larger one is rejected. -/
theorem desc_hi_number (ds : List UInt8) (hne : ds ≠ []) (hd : ∀ d ∈ ds, isDigit d = true) (hv : decVal ds < 2 ^ 31) :
    descParse glibcScanf (hiPrefix ++ ds) = if decVal ds ≤ 7 then some ((decVal ds : Int) + 8, none) else none := by
  unfold descParse
  rw [show ((hiPrefix ++ ds).take 3 == hiPrefix) = true by simp [hiPrefix], if_pos rfl,
    show (hiPrefix ++ ds).drop 3 = ds by simp [hiPrefix], descParseCore_digits ds hne hd hv]
  by_cases h : decVal ds ≤ 7
  · rw [if_neg (by omega), if_pos h]
  · rw [if_pos ⟨by decide, by omega⟩, if_neg h]

theorem xdigit_facts : ∀ c : UInt8, isXDigit c = true →
    isSpace c = false ∧ (c == 45) = false ∧ (c == 43) = false ∧ (c == 120) = false ∧ (c == 88) = false ∧ xval c < 16 := by
  apply uint8_forall
  decide +kernel

theorem scanHexW2_two (a b : UInt8) (rest : List UInt8) (ha : isXDigit a = true) (hb : isXDigit b = true) :
    scanHexW 2 (a :: b :: rest) = some (UInt8.ofNat (xval a * 16 + xval b), rest) := by
  obtain ⟨ha1, ha2, ha3, -, -, hxa⟩ := xdigit_facts a ha
  obtain ⟨-, -, -, hb4, hb5, hxb⟩ := xdigit_facts b hb
  -- named, so that `simp` does not push `UInt8.ofNat` into the sum
  generalize hr : UInt8.ofNat (xval a * 16 + xval b) = r
  unfold scanHexW skipSpace
  simp only [List.dropWhile_cons, ha1, ha2, ha3, Bool.or_self, Bool.false_eq_true, if_false, List.head?_cons]
  by_cases h0 : a = 48
  · -- a leading `0` is taken for a possible `0x` prefix; `b`, not an `x`, is then the one digit left
    subst h0
    simp [hb, hb4, hb5]
    rw [← hr, show xval 48 = 0 from rfl]; congr 1; omega
  · simp [h0, ha, hb]
    rw [← hr]; congr 1; omega

theorem scanRgb_hex6 (a b c d e f : UInt8) (rest : List UInt8) (hx : [a, b, c, d, e, f].all isXDigit = true) :
    scanRgb (a :: b :: c :: d :: e :: f :: rest) =
      some ⟨UInt8.ofNat (xval a * 16 + xval b), UInt8.ofNat (xval c * 16 + xval d), UInt8.ofNat (xval e * 16 + xval f)⟩ := by
  simp only [List.all_cons, List.all_nil, Bool.and_true, Bool.and_eq_true] at hx
  obtain ⟨ha, hb, hc, hd, he, hf⟩ := hx
  unfold scanRgb
  rw [scanHexW2_two a b _ ha hb]; simp only
  rw [scanHexW2_two c d _ hc hd]; simp only
  rw [scanHexW2_two e f _ he hf]

theorem takeWhile_append_stop {α} (p : α → Bool) (x t : List α) (h : ∀ c, t.head? = some c → p c = false) :
    (x ++ t).takeWhile p = x.takeWhile p := by
  induction x with
  | nil =>
    cases t with
    | nil => rfl
    | cons c t => simp [h c rfl]
  | cons a x ih => simp only [List.cons_append, List.takeWhile_cons]; split <;> simp [ih]

def hashTail (n : Nat) (rest : List UInt8) : List UInt8 := List.replicate n 32 ++ 35 :: rest

section tail
variable (sc : Scanf) (base : List UInt8) (n : Nat) (rest : List UInt8)

theorem hashTail_cases :
    ∃ c t, hashTail n rest = c :: t ∧ (c = 32 ∨ c = 35) := by
  cases n with
  | zero => exact ⟨35, rest, rfl, Or.inr rfl⟩
  | succ n => exact ⟨32, List.replicate n 32 ++ 35 :: rest, by simp [hashTail, List.replicate_succ], Or.inl rfl⟩

theorem hashTail_head (c : UInt8) (h : (hashTail n rest).head? = some c) :
    isDigit c = false := by
  obtain ⟨c', t, ht, hc⟩ := hashTail_cases n rest
  rw [ht] at h
  obtain rfl : c' = c := by simpa using h
  rcases hc with rfl | rfl <;> rfl

theorem hashTail_skip : skipSpace (hashTail n rest) = 35 :: rest := by
  have h32 : isSpace 32 = true := rfl
  have h35 : isSpace 35 = false := rfl
  simp [skipSpace, hashTail, h32, h35]

theorem scanD_hashTail :
    scanD (base ++ hashTail n rest) = scanD base := by
  have hs : skipSpace (base ++ hashTail n rest) =
      if (skipSpace base).isEmpty then 35 :: rest else skipSpace base ++ hashTail n rest := by
    rw [← hashTail_skip n rest]; exact List.dropWhile_append
  unfold scanD
  rw [hs]
  cases skipSpace base with
  | nil => rfl   -- only spaces before the `#`, which starts no number
  | cons c b' =>
    have hT := fun x => takeWhile_append_stop isDigit x _ (hashTail_head n rest)
    simp only [List.isEmpty_cons, Bool.false_eq_true, if_false, List.cons_append]
    cases (c == 45 || c == 43) <;> simp only [Bool.false_eq_true, if_false, if_true, ← List.cons_append, hT]

theorem findIdx_base_tail (h1 : ∀ c ∈ base, (c == 35) = false) :
    (base ++ hashTail n rest).findIdx? (· == 35) = some (base.length + n) := by
  simp [hashTail, List.findIdx?_append, List.findIdx?_eq_none_iff.2 h1, List.findIdx?_replicate, List.findIdx?_cons,
    Nat.add_comm]

theorem trimLen_skip (d : List UInt8) (m k : Nat) (h : ∀ i, m ≤ i → i < m + k → d[i]? = some 32) :
    trimLen d (m + k) = trimLen d m := by
  induction k with
  | zero => rfl
  | succ k ih =>
    rw [← Nat.add_assoc, trimLen, h (m + k) (by omega) (by omega), if_pos (beq_self_eq_true _)]
    exact ih fun i h0 h1 => h i h0 (by omega)

theorem trimLen_stop (d : List UInt8) (m : Nat) (h : ∀ j, m = j + 1 → d[j]? ≠ some 32) : trimLen d m = m := by
  cases m with
  | zero => rfl
  | succ m => rw [trimLen, if_neg (by simpa using h m rfl)]

theorem trimLen_tail (h2 : base.getLast? ≠ some 32) :
    trimLen (base ++ hashTail n rest) (base.length + n) = base.length := by
  rw [trimLen_skip, trimLen_stop]
  · intro j hj
    rw [List.getElem?_append_left (by omega)]
    rwa [List.getLast?_eq_getElem?, hj] at h2
  · intro i h0 h1
    rw [List.getElem?_append_right h0, hashTail, List.getElem?_append_left (by simp; omega), List.getElem?_replicate,
      if_pos (by omega)]

theorem drop_tail :
    (base ++ hashTail n rest).drop (base.length + n + 1) = rest := by
  simp [hashTail, List.drop_append, Nat.add_assoc]

theorem namePrefixMatch_tail (name t : List UInt8) :
    namePrefixMatch (base ++ t) name base.length = namePrefixMatch base name base.length := by
  simp [namePrefixMatch]

/-- A description `base spaces # tail`, where `base` has no `#` and does not end in a space: the index is that
    of `base` alone and the RGB8 is whatever `sscanf` makes of the tail (for any `sscanf` that does not let the
    tail influence `"%d"`). -/
theorem descParseCore_tail (hi : Int)
    (h1 : ∀ c ∈ base, (c == 35) = false) (h2 : base.getLast? ≠ some 32)
    (hscan : sc.scanD (base ++ hashTail n rest) = sc.scanD base) :
    descParseCore sc (base ++ hashTail n rest) hi =
      (descParseCore sc base hi).map (fun r => (r.1, sc.scanRgb rest)) := by
  unfold descParseCore
  simp only [findIdx_base_tail base n rest h1, List.findIdx?_eq_none_iff.2 h1, trimLen_tail base n rest h2, drop_tail,
    hscan, namePrefixMatch_tail]
  cases sc.scanD base with
  | some v => simp only; split <;> simp
  | none =>
    simp only
    cases colourNames.find? (fun e => namePrefixMatch base e.1 base.length) <;> simp

theorem take3_tail :
    ((base ++ hashTail n rest).take 3 == hiPrefix) = (base.take 3 == hiPrefix) := by
  obtain ⟨c, t, ht, hc⟩ := hashTail_cases n rest
  rw [ht]
  match base with
  | [] => rcases hc with rfl | rfl <;> simp [hiPrefix]
  | [x] => rcases hc with rfl | rfl <;> simp [hiPrefix]
  | [x, y] => rcases hc with rfl | rfl <;> simp [hiPrefix]
  | x :: y :: z :: r => simp

theorem descParse_tail
    (h1 : ∀ c ∈ base, (c == 35) = false) (h2 : base.getLast? ≠ some 32)
    (hscan : ∀ b : List UInt8, sc.scanD (b ++ hashTail n rest) = sc.scanD b) :
    descParse sc (base ++ hashTail n rest) = (descParse sc base).map (fun r => (r.1, sc.scanRgb rest)) := by
  unfold descParse
  rw [take3_tail]
  split
  · next hhi =>
    have hlen : 3 ≤ base.length := by
      have : (base.take 3).length = 3 := congrArg List.length (beq_iff_eq.1 hhi)
      rw [List.length_take] at this; omega
    rw [List.drop_append, Nat.sub_eq_zero_of_le hlen, List.drop_zero]
    refine descParseCore_tail _ _ _ _ _ (fun c hc => h1 c (List.mem_of_mem_drop hc)) (fun hl => ?_) (hscan _)
    rw [List.getLast?_drop] at hl
    split at hl
    · cases hl
    · exact h2 hl
  · exact descParseCore_tail _ _ _ _ _ h1 h2 (hscan _)

end tail
end PenScan

namespace PenHistory
open Pen

/-- One call of pen.c; the numbers name pens of a store `Nat → Pen` (`upd` writes one). -/
inductive PenOp
  | setBool (i : Nat) (a : PenAttr) (v : Bool)
  | setInt (i : Nat) (a : PenAttr) (v : Int)
  | setColour (i : Nat) (a : PenAttr) (v : Int)
  | setRgb8 (i : Nat) (a : PenAttr) (v : RGB8)
  | clearAttr (i : Nat) (a : PenAttr)
  | clear (i : Nat)
  | copy (dst src : Nat) (overwrite : Bool)
  | copyAttr (dst src : Nat) (a : PenAttr)
  | clone (dst src : Nat)
  | desc (i : Nat) (a : PenAttr) (s : List UInt8)

def upd {α} (f : Nat → α) (i : Nat) (v : α) : Nat → α := fun k => if k = i then v else f k

/-- The model: the functions of pen.c, with the aliased forms when source and destination coincide. -/
def PenOp.run (sc : Scanf) (st : Nat → Pen) : PenOp → (Nat → Pen)
  | .setBool i a v => upd st i ((st i).setBoolAttr a v)
  | .setInt i a v => upd st i ((st i).setIntAttr a v)
  | .setColour i a v => upd st i ((st i).setColourAttr a v)
  | .setRgb8 i a v => upd st i ((st i).setColourAttrRgb8 a v)
  | .clearAttr i a => upd st i ((st i).clearAttr a)
  | .clear i => upd st i (st i).clear
  | .copy d s ow => if d = s then st else upd st d ((st d).copy (st s) ow)
  | .copyAttr d s a => upd st d (if d = s then (st d).copyAttrSelf a else (st d).copyAttr (st s) a)
  | .clone d s => upd st d (st s).clone
  | .desc i a s => upd st i (setColourAttrDesc sc (st i) a s).2

/-- The specification: the same history on dictionaries.  A stored value is the value reduced into the
    attribute's bit-field (the value itself when representable); a description is what `descParse` extracts. -/
def PenOp.spec (sc : Scanf) (st : Nat → PenDict) : PenOp → (Nat → PenDict)
  | .setBool i a v => upd st i ((st i).setBool a v)
  | .setInt i a v => upd st i ((st i).setInt a (store a.width a.signed v))
  | .setColour i a v => upd st i ((st i).setColour a (store a.width a.signed v))
  | .setRgb8 i a v => upd st i ((st i).setRgb8 a v)
  | .clearAttr i a => upd st i ((st i).erase a)
  | .clear i => upd st i PenDict.empty
  | .copy d s ow => upd st d (PenDict.copy (st d) (st s) ow)
  | .copyAttr d s a => upd st d (PenDict.copyAttr (st d) (st s) a)
  | .clone d s => upd st d (st s)
  | .desc i a s =>
    match descParse sc s with
    | none => st
    | some (idx, none) => upd st i ((st i).setColour a (store a.width a.signed idx))
    | some (idx, some rgb) => upd st i (((st i).setColour a (store a.width a.signed idx)).setRgb8 a rgb)

/-- Aliased `copy_attr` is `copyAttr` of a pen onto itself (the source is read first). -/
theorem copyAttr_alias (st : Nat → Pen) (d s : Nat) (a : PenAttr) :
    (if d = s then (st d).copyAttrSelf a else (st d).copyAttr (st s) a) = (st d).copyAttr (st s) a := by
  split
  · next h => rw [h]; rfl
  · rfl

theorem upd_self {α} (f : Nat → α) (i : Nat) : upd f i (f i) = f := by
  funext k; unfold upd; split
  · next hk => rw [hk]
  · rfl

theorem upd_wf {st : Nat → Pen} {i : Nat} {p : Pen} (h : ∀ i, (st i).WF) (hp : p.WF) : ∀ k, (upd st i p k).WF := by
  intro k; unfold upd; split
  · exact hp
  · exact h k

theorem PenOp.run_wf (sc : Scanf) (st : Nat → Pen) (op : PenOp) (h : ∀ i, (st i).WF) : ∀ i, (op.run sc st i).WF := by
  cases op with
  | setBool i a v => exact upd_wf h (wf_setBoolAttr (h _))
  | setInt i a v => exact upd_wf h (wf_setIntAttr (h _))
  | setColour i a v => exact upd_wf h (wf_setColourAttr (h _))
  | setRgb8 i a v => exact upd_wf h (wf_setColourAttrRgb8 (h _))
  | clearAttr i a => exact upd_wf h (wf_clearAttr (h _))
  | clear i => exact upd_wf h (wf_clear (h _))
  | copy d s ow =>
    simp only [PenOp.run]; split
    · exact h
    · exact upd_wf h (wf_copy (h _))
  | copyAttr d s a => rw [PenOp.run, copyAttr_alias]; exact upd_wf h (wf_copyAttr (h _))
  | clone d s => exact upd_wf h (wf_clone _)
  | desc i a s => exact upd_wf h (wf_setColourAttrDesc (h _))

theorem upd_abs (st : Nat → Pen) (i : Nat) (p : Pen) :
    (fun k => (upd st i p k).abs) = upd (fun k => (st k).abs) i p.abs := by
  funext k; unfold upd; split <;> rfl

theorem PenOp.run_refines (sc : Scanf) (st : Nat → Pen) (op : PenOp) (h : ∀ i, (st i).WF) :
    (fun i => (op.run sc st i).abs) = op.spec sc (fun i => (st i).abs) := by
  cases op with
  | copy d s ow =>
    simp only [PenOp.run, PenOp.spec]
    split
    · next hds => rw [hds, PenDict.copy_self]; exact (upd_self _ s).symm
    · rw [upd_abs, abs_copy _ _ _ (h s)]
  | copyAttr d s a => simp only [PenOp.run, PenOp.spec, copyAttr_alias, upd_abs, abs_copyAttr _ _ _ (h s)]
  | clone d s => simp only [PenOp.run, PenOp.spec, upd_abs, abs_clone _ (h s)]
  | desc i a s =>
    simp only [PenOp.run, PenOp.spec, upd_abs, setColourAttrDesc_eq_parse]
    match descParse sc s with
    | none => exact upd_self _ i
    | some (idx, none) => simp only [applyParsed, abs_setColourAttr']
    | some (idx, some rgb) => simp only [applyParsed, abs_setColourAttrRgb8, abs_setColourAttr']
  | _ =>
    simp only [PenOp.run, PenOp.spec, upd_abs, abs_setBoolAttr, abs_setIntAttr', abs_setColourAttr', abs_setColourAttrRgb8,
      abs_clearAttr, abs_clear]

def runOps (sc : Scanf) (st : Nat → Pen) : List PenOp → (Nat → Pen)
  | [] => st
  | op :: ops => runOps sc (op.run sc st) ops

def specOps (sc : Scanf) (st : Nat → PenDict) : List PenOp → (Nat → PenDict)
  | [] => st
  | op :: ops => specOps sc (op.spec sc st) ops

theorem runOps_refines (sc : Scanf) (ops : List PenOp) (st : Nat → Pen) (h : ∀ i, (st i).WF) :
    (fun i => (runOps sc st ops i).abs) = specOps sc (fun i => (st i).abs) ops ∧ ∀ i, (runOps sc st ops i).WF := by
  induction ops generalizing st with
  | nil => exact ⟨rfl, h⟩
  | cons op ops ih =>
    rw [runOps, specOps, ← PenOp.run_refines sc st op h]
    exact ih _ (PenOp.run_wf sc st op h)

end PenHistory

end Tickit
