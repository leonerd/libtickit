import Tickit.Proof.LifeSigwinch
import Tickit.Proof.LifeRun
import Tickit.Proof.LifeBase
/-
  C08: the operations of `Model/LifeTop.lean` that work on the list of SIGWINCH observers
  (`xnew`, `xref`, `xunref`, `xobs`, `tobs`, `winch`) keep the chain invariant and touch nothing else (`SwStep`).
-/
namespace Tickit.Life

def XOp.isSw : XOp → Bool
  | .xnew | .xref _ | .xunref _ | .xobs .. | .tobs _ | .winch => true
  | _ => false

theorem heldX_spec {top : Top} {k : Nat} (h : heldX top k = true) : ∃ x, top.xterms[k]? = some x ∧ x.freed = false := by
  unfold heldX at h
  cases hx : top.xterms[k]? with
  | none => rw [hx] at h; cases h
  | some x =>
    rw [hx] at h
    simp only [Bool.and_eq_true, Bool.not_eq_true'] at h
    exact ⟨x, rfl, h.1⟩

theorem swFreed_heldX {top : Top} {k : Nat} (h : heldX top k = true) : swFreed top (k + 1) = false := by
  obtain ⟨x, hx, hf⟩ := heldX_spec h
  unfold swFreed
  simp only [Nat.add_one_ne_zero, if_false, Nat.add_sub_cancel, hx, Option.map_some, Option.getD_some]
  exact hf

theorem heldX_lt {top : Top} {k : Nat} (h : heldX top k = true) : k < top.xterms.size := by
  obtain ⟨x, hx, _⟩ := heldX_spec h
  exact (Array.getElem?_eq_some_iff.1 hx).1

theorem SwOk.size {top : Top} (h : SwOk top) : top.sw.size = top.xterms.size + 1 :=
  have ⟨_, inv, _⟩ := h.elim
  inv.size

theorem held_of_not {b : Bool} (h : ¬ (!b) = true) : b = true := by cases b <;> simp_all
theorem held_of_guard {a b : Bool} (h : ¬ (!a || b) = true) : a = true := by cases a <;> simp_all

theorem swObs_step {tc : TCfg} (hc : tc.sigwinchClearsNext = true) {top : Top} (h : SwOk top) {tid : Nat} (ht : tid < top.sw.size)
    (hlive : swFreed top tid = false) (on : Bool) : SwStep top (if on then swObserve top tid else swUnobserve tc top tid) := by
  cases on with
  | true => exact swObserve_ok h ht hlive
  | false => exact (swUnobserve_ok hc h.pre fun _ => h.main).1

theorem xstepCore_sw {tc : TCfg} (hc : tc.sigwinchClearsNext = true) {top : Top} (h : SwOk top) (op : XOp) (hop : op.isSw = true) :
    Post (xstepCore tc top op) fun p => SwStep top p.1 := by
  have skip {c : Prop} [Decidable c] {x : Out (Top × String)} (hx : ¬ c → Post x fun p => SwStep top p.1) :
      Post (if c then pure (top, "skip") else x) fun p => SwStep top p.1 := Post.ite (fun _ => Post.ok (.refl h)) hx
  cases op <;> simp only [XOp.isSw, Bool.false_eq_true] at hop
  case xnew => exact skip fun _ => Post.ok ⟨swOk_xnew h, by nonsw_rfl⟩
  case xref k => exact skip fun _ => Post.ok ⟨swOk_xref h k, by nonsw_rfl⟩
  case xunref k =>
    refine skip fun hn => ?_
    obtain ⟨x, hx, _⟩ := heldX_spec (held_of_not hn)
    exact Post.ok (xUnref_ok hc h hx).1
  case xobs k on =>
    refine skip fun hn => Post.ok ?_
    have hh := held_of_not hn
    exact swObs_step hc h (by rw [h.size]; have := heldX_lt hh; omega) (swFreed_heldX hh) on
  case tobs on =>
    refine skip fun hn => Post.ok ?_
    have hh := held_of_not hn
    unfold heldT at hh
    simp only [Bool.and_eq_true, Bool.not_eq_true'] at hh
    exact swObs_step hc h (by rw [h.size]; omega) (by unfold swFreed; exact hh.1) on
  case winch => exact ⟨(swSignal top, hText (swSignal top)), rfl, by rw [swSignal_ok h]; exact .refl h⟩

/-- `xstep` after `xstepCore`.  Stated with the equation, as `runWith_inv` (Proof/LifeRun.lean) and the theorems of
    Props/C08.lean want the steps of a history. -/
theorem xstep_of_core {tc : TCfg} {top top1 : Top} {op : XOp} {r : String} (h : xstepCore tc top op = .ok (top1, r)) :
    xstep tc top op = .ok (top1.swSync tc, r) := by
  unfold xstep
  rw [h]; rfl

/-- Any history of these operations, over any number of terminals: no walk of the list fails. -/
theorem xrun_sw {tc : TCfg} (hc : tc.sigwinchClearsNext = true) (ops : List XOp) (top : Top) (h : SwOk top)
    (hops : ∀ op ∈ ops, op.isSw = true) : ∃ top', xrunOps tc top ops = .ok top' ∧ SwOk top' := by
  rw [xrunOps_eq]
  refine runWith_inv (P := fun op => op.isSw = true) (fun t op ok hop => ?_) ops top h hops
  obtain ⟨p, hs, s1⟩ := xstepCore_sw hc ok op hop
  exact ⟨_, p.2, xstep_of_core hs, (swSync_ok hc s1.ok.pre).ok⟩

end Tickit.Life
