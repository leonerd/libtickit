import Tickit.Proof.RectSet
/-
  The invariant of the stored array of a TickitRectSet (C05): the array is the canonical band decomposition of the
  region it covers.  `Inv` is the form the property states, `InvS` the same as one `Pairwise` over a linear-arithmetic
  relation, which the proofs use (the operations are restated for `Inv` at the end).  On such an array `add` keeps it,
  the shortcut of `contains` is exact (`row_gap`), and `subtract` leaves no cell of the hole (`vadd`, `Readding`,
  `CleanBefore`).
-/
namespace Tickit
namespace RectSet
open Rect

def InvS (s : List Rect) : Prop := (∀ x ∈ s, x.Nonempty) ∧ s.Pairwise Ord

instance (s : List Rect) : Decidable (InvS s) := by
  unfold InvS; exact inferInstance

/-- The clauses of `Inv` beyond disjointness: sorted by top, then left; no two members side by side with a common row
    (the shortcut of `contains` needs it); no two members with equal columns one directly on the other (the index loop
    of `subtract` needs it).  `add` merges or splits until both hold. -/
def SortedTL (s : List Rect) : Prop := s.Pairwise TL

def NoVEdge (s : List Rect) : Prop :=
  ∀ a ∈ s, ∀ b ∈ s, a ≠ b →
    ¬ ((a.right = b.left ∨ b.right = a.left) ∧ a.top < b.bottom ∧ b.top < a.bottom)

def NoStack (s : List Rect) : Prop :=
  ∀ a ∈ s, ∀ b ∈ s, ¬ (a.left = b.left ∧ a.right = b.right ∧ a.bottom = b.top)

def Inv (s : List Rect) : Prop :=
  (∀ x ∈ s, x.Nonempty) ∧ s.Pairwise Rect.Disjoint ∧ SortedTL s ∧ NoVEdge s ∧ NoStack s

theorem pairwise_sym_of_ne {R : Rect → Rect → Prop} {l : List Rect} (h : l.Pairwise R) {a b : Rect}
    (ha : a ∈ l) (hb : b ∈ l) : a = b ∨ R a b ∨ R b a := by
  have hq : l.Pairwise (fun a b => a = b ∨ R a b ∨ R b a) := h.imp (fun h => Or.inr (Or.inl h))
  exact hq.forall_of_forall_of_flip (l := l) (fun x _ => Or.inl rfl)
    (hq.imp (fun {x y} h => h.imp Eq.symm Or.symm)) ha hb

theorem invS_tl {s : List Rect} (h : InvS s) : s.Pairwise TL := h.2.imp (fun h => h.1)

theorem invS_apart {s : List Rect} (h : InvS s) {a b : Rect} (ha : a ∈ s) (hb : b ∈ s) (hab : a ≠ b) :
    Apart a b := by
  rcases pairwise_sym_of_ne h.2 ha hb with h | h | h
  · exact absurd h hab
  · exact h.2
  · exact apart_symm h.2

theorem inv_iff (s : List Rect) : Inv s ↔ InvS s := by
  unfold Inv InvS SortedTL
  constructor
  · rintro ⟨hne, hd, hs, hv, hk⟩
    refine ⟨hne, (hd.and hs).imp_of_mem ?_⟩
    intro a b ha hb ⟨h1, h2⟩
    refine ⟨h2, (sep_iff_disjoint (hne a ha) (hne b hb)).2 h1, hv a ha b hb ?_, ?_⟩
    · rintro rfl; exact tl_irrefl h2
    · exact fun h => h.2.2.elim (fun e => hk a ha b hb ⟨h.1, h.2.1, e⟩)
        (fun e => hk b hb a ha ⟨h.1.symm, h.2.1.symm, e⟩)
  · rintro ⟨hne, hp⟩
    refine ⟨hne, hp.imp_of_mem (fun {a b} ha hb h => (sep_iff_disjoint (hne a ha) (hne b hb)).1 h.2.1),
      hp.imp (fun h => h.1), fun a ha b hb hab => (invS_apart ⟨hne, hp⟩ ha hb hab).2.1, fun a ha b hb h => ?_⟩
    by_cases hab : a = b
    · subst hab; exact sa_irrefl (hne a ha) h
    · exact (invS_apart ⟨hne, hp⟩ ha hb hab).2.2 ⟨h.1, h.2.1, Or.inl h.2.2⟩

theorem invS_nil : InvS [] := ⟨by simp, List.Pairwise.nil⟩

theorem invS_singleton {r : Rect} (h : r.Nonempty) : InvS [r] :=
  ⟨fun _ hx => List.mem_singleton.1 hx ▸ h, List.pairwise_singleton _ _⟩

theorem invS_eraseIdx {s : List Rect} (h : InvS s) (i : Nat) : InvS (s.eraseIdx i) :=
  ⟨fun x hx => h.1 x (List.mem_of_mem_eraseIdx hx), h.2.sublist (List.eraseIdx_sublist ..)⟩

theorem invS_insertRect {s : List Rect} {cur : Rect} (h : InvS s) (hc : cur.Nonempty)
    (ha : ∀ x ∈ s, Apart cur x) : InvS (insertRect s cur) := by
  obtain ⟨hne, hp⟩ := h
  refine ⟨(forall_mem_insertRect s cur).2 ⟨hc, hne⟩, ?_⟩
  induction s with
  | nil => simp [insertRect]
  | cons x xs ih =>
    rw [List.forall_mem_cons] at ha hne
    rw [List.pairwise_cons] at hp
    unfold insertRect
    split
    · next hcmp =>
      have hcx := tl_of_cmprect hcmp
      exact List.pairwise_cons.2 ⟨List.forall_mem_cons.2 ⟨⟨hcx, ha.1⟩,
        fun y hy => ⟨tl_trans hcx (hp.1 y hy).1, ha.2 y hy⟩⟩, List.pairwise_cons.2 hp⟩
    · next hcmp =>
      exact List.pairwise_cons.2 ⟨(forall_mem_insertRect xs cur).2
        ⟨⟨tl_of_not_cmprect hcmp ha.1.1 hc hne.1, apart_symm ha.1⟩, hp.1⟩, ih ha.2 hne.2 hp.2⟩

theorem invS_translate {s : List Rect} (h : InvS s) (d k : Int) : InvS (translate s d k) :=
  ⟨nonempty_translate s d k h.1, List.pairwise_map.2 (h.2.imp (fun hab => ord_translate hab d k))⟩

theorem scan_insert {cur : Rect} (hc : cur.Nonempty) (s : List Rect) (i0 : Nat) :
    scan cur s i0 = .insert → (∀ x ∈ s, x.Nonempty) → s.Pairwise TL → ∀ x ∈ s, Apart cur x := by
  fun_induction scan cur s i0 with
  | case1 => intro _ _ _ x hx; cases hx
  | case2 r rest i hb =>
    -- break: everything from here on starts below `cur`
    intro _ hne hs x hx
    refine apart_of_below hc (hne x hx) (Int.lt_of_lt_of_le hb ?_)
    rcases List.mem_cons.1 hx with rfl | hx
    · exact Int.le_refl _
    · exact tl_top_le ((List.pairwise_cons.1 hs).1 x hx)
  | case3 r rest i _ hfar ih =>
    intro h hne hs
    rw [List.forall_mem_cons] at hne
    exact List.forall_mem_cons.2 ⟨apart_of_far hc hne.1 hfar, ih h hne.2 hs.of_cons⟩
  | case4 => intro h; cases h
  | case5 => intro h; cases h
  | case6 r rest i _ _ _ hal hadj ih =>
    intro h hne hs
    rw [List.forall_mem_cons] at hne
    exact List.forall_mem_cons.2 ⟨apart_of_adjacent hal hadj, ih h hne.2 hs.of_cons⟩
  | case7 => intro h; cases h

theorem add_addMany_invS (fuel : Nat) :
    (∀ s cur s', add fuel s cur = some s' → cur.Nonempty → InvS s → InvS s') ∧
    (∀ s ps s', addMany fuel s ps = some s' → (∀ p ∈ ps, p.Nonempty) → InvS s → InvS s') := by
  refine add_addMany_induct ?_ ?_ ?_ ?_ ?_ ?_ fuel
  · exact fun s cur hscan hc hs =>
      invS_insertRect hs hc (scan_insert hc s 0 hscan hs.1 (invS_tl hs))
  · exact fun s cur _ _ _ _ hs => hs
  · exact fun s cur i r s' hri _ _ ih hc hs =>
      ih (grow_nonempty hc) (invS_eraseIdx hs i)
  · exact fun s cur i r s' hri _ _ ih hc hs =>
      ih (Rect.add_spec r cur (hs.1 r (List.mem_of_getElem? hri)) hc).2.1 (invS_eraseIdx hs i)
  · exact fun s _ hs => hs
  · exact fun s p ps s1 s' iha ihm hps hs =>
      ihm (List.forall_mem_cons.1 hps).2 (iha (List.forall_mem_cons.1 hps).1 hs)

theorem add_invS {fuel : Nat} {s : List Rect} {cur : Rect} {s' : List Rect}
    (h : add fuel s cur = some s') (hc : cur.Nonempty) (hs : InvS s) : InvS s' :=
  (add_addMany_invS fuel).1 s cur s' h hc hs

theorem addMany_invS {fuel : Nat} {s ps s' : List Rect}
    (h : addMany fuel s ps = some s') (hps : ∀ p ∈ ps, p.Nonempty) (hs : InvS s) : InvS s' :=
  (add_addMany_invS fuel).2 s ps s' h hps hs

theorem firstIntersecting_some {s : List Rect} {q r : Rect} (h : firstIntersecting s q = some r)
    (hs : s.Pairwise TL) :
    r ∈ s ∧ r.intersects q = true ∧ ∀ m ∈ s, m.intersects q = true → m = r ∨ TL r m := by
  unfold firstIntersecting at h
  obtain ⟨h1, as, bs, rfl, h2⟩ := List.find?_eq_some_iff_append.1 h
  refine ⟨by simp, h1, ?_⟩
  intro m hm hi
  rcases List.mem_append.1 hm with hm | hm
  · have := h2 m hm
    simp [hi] at this
  · rcases List.mem_cons.1 hm with rfl | hm
    · exact Or.inl rfl
    · rw [List.pairwise_append] at hs
      exact Or.inr ((List.pairwise_cons.1 hs.2.1).1 m hm)

/-- A covered cell in or beside a member is in it: the other members are `Clear` of it. -/
theorem mem_of_covered_widen {s : List Rect} (hs : InvS s) {r : Rect} (hr : r ∈ s) {l c : Int}
    (h : Covered s l c) (hw : (widen r).Mem l c) : r.Mem l c := by
  obtain ⟨m, hm, hmem⟩ := h
  by_cases e : m = r
  · exact e ▸ hmem
  · exact absurd hw (apart_mem (invS_apart hs hm hr e) (hs.1 r hr) hmem)

theorem not_covered_beside {s : List Rect} (hs : InvS s) {r : Rect} (hr : r ∈ s) {l : Int}
    (h1 : r.top ≤ l) (h2 : l < r.bottom) : ¬ Covered s l r.right :=
  fun h => (not_mem_outside r l).2 (mem_of_covered_widen hs hr h
    (mem_widen.2 ⟨h1, h2, by have := (hs.1 r hr).2; unfold Rect.right; omega, Int.le_refl _⟩))

/-- The shortcut of `tickit_rectset_contains` is exact: if the first member intersecting the query does not
    span the query's top row, some cell of that row is uncovered. -/
theorem row_gap {s : List Rect} {q r : Rect} (hs : InvS s) (hq : q.Nonempty)
    (hf : firstIntersecting s q = some r)
    (hn : ¬ (r.top ≤ q.top ∧ r.left ≤ q.left ∧ q.right ≤ r.right)) :
    ∃ c, q.left ≤ c ∧ c < q.right ∧ ¬ Covered s q.top c := by
  obtain ⟨hr, hri, hfirst⟩ := firstIntersecting_some hf (invS_tl hs)
  rw [Rect.intersects_iff_lt] at hri
  have hqm : q.Mem q.top q.left := mem_top_left hq
  by_cases h1 : q.top < r.top
  · refine ⟨q.left, Int.le_refl _, hqm.2.2.2, ?_⟩
    rintro ⟨m, hm, hmem⟩
    have hle : r.top ≤ m.top :=
      (hfirst m hm (mem_intersects hmem hqm)).elim (fun e => e ▸ Int.le_refl _) tl_top_le
    exact Int.not_le.2 h1 (Int.le_trans hle hmem.1)
  · have hrow : r.top ≤ q.top ∧ q.top < r.bottom := ⟨Int.not_lt.1 h1, hri.2.1⟩
    by_cases h2 : q.left < r.left
    · by_cases h3 : Covered s q.top q.left
      · -- the member that covers the top left cell ends left of `r`, and nothing covers the cell after its end
        obtain ⟨m, hm, hmem⟩ := h3
        have hmr : m ≠ r := fun e => Int.not_le.2 h2 (e ▸ hmem.2.2.1)
        have := right_le_of_sep (invS_apart hs hm hr hmr).1 (hs.1 r hr) hmem hrow h2
        exact ⟨m.right, Int.le_of_lt hmem.2.2.2, Int.lt_of_le_of_lt this hri.2.2.1,
          not_covered_beside hs hm hmem.1 hmem.2.1⟩
      · exact ⟨q.left, Int.le_refl _, hqm.2.2.2, h3⟩
    · exact ⟨r.right, Int.le_of_lt hri.2.2.2, by omega, not_covered_beside hs hr hrow.1 hrow.2⟩

theorem query_gap {s : List Rect} {q r : Rect} (hs : InvS s) (hq : q.Nonempty)
    (hf : firstIntersecting s q = some r)
    (hn : ¬ (r.top ≤ q.top ∧ r.left ≤ q.left ∧ q.right ≤ r.right)) : ∃ l c, q.Mem l c ∧ ¬ Covered s l c :=
  have ⟨c, h1, h2, h3⟩ := row_gap hs hq hf hn
  ⟨q.top, c, ⟨(mem_top_left hq).1, (mem_top_left hq).2.1, h1, h2⟩, h3⟩

/-- `tickit_rectset_contains` answering "no" is right. -/
theorem contains_complete (fuel : Nat) : ∀ (s : List Rect) (q : Rect),
    contains fuel s q = some false → InvS s → q.Nonempty → ∃ l c, q.Mem l c ∧ ¬ Covered s l c := by
  intro s q
  fun_induction contains fuel s q with
  | case1 | case4 => intro h; cases h
  | case2 fuel s q hfi =>
    intro _ _ hq
    refine ⟨q.top, q.left, mem_top_left hq, ?_⟩
    rintro ⟨m, hm, hmem⟩
    exact List.find?_eq_none.1 hfi m hm (mem_intersects hmem (mem_top_left hq))
  | case3 fuel s q r hfi hab => exact fun _ hs hq => query_gap hs hq hfi (by omega)
  | case5 fuel s q r hfi _ hsplit lower hlow ih =>
    intro _ hs hq
    obtain ⟨l, c, h1, h2⟩ := ih hlow hs (cut_nonempty hq hsplit).2
    exact ⟨l, c, mem_of_mem_cut hsplit.1 h1, h2⟩
  | case6 fuel s q r hfi =>
    -- there is a gap in the top row unless `r` contains the part of the query above its bottom
    intro h hs hq
    exact query_gap hs hq hfi
      (fun hh => Bool.noConfusion ((contains_of_spans hh (by omega)).symm.trans (Option.some.inj h)))
  | case7 fuel s q r hfi _ hsplit =>
    intro h hs hq
    have hri := (Rect.intersects_iff_lt r q).1 (firstIntersecting_some hfi (invS_tl hs)).2.1
    exact query_gap hs hq hfi (fun hh => Bool.noConfusion
      ((contains_of_spans (k := q.lines) hh (by unfold Rect.bottom at *; omega)).symm.trans (Option.some.inj h)))

theorem contains_iff (fuel : Nat) (s : List Rect) (q : Rect) (b : Bool) (hs : Inv s) (hq : q.Nonempty)
    (h : contains fuel s q = some b) : (b = true ↔ ∀ l c, q.Mem l c → Covered s l c) := by
  cases b with
  | true => exact ⟨fun _ => contains_sound fuel s q h hq, fun _ => rfl⟩
  | false =>
    obtain ⟨l, c, h1, h2⟩ := contains_complete fuel s q h ((inv_iff s).1 hs) hq
    exact ⟨fun hh => Bool.noConfusion hh, fun hh => absurd (hh l c h1) h2⟩

theorem invS_nodup {s : List Rect} (h : InvS s) : s.Nodup :=
  h.2.imp (fun {a b} hab (e : a = b) => tl_irrefl (e ▸ hab.1))

theorem ne_of_mem_eraseIdx {s : List Rect} (h : InvS s) {i : Nat} {r x : Rect} (hi : s[i]? = some r)
    (hx : x ∈ s.eraseIdx i) : x ∈ s ∧ x ≠ r := by
  refine ⟨List.mem_of_mem_eraseIdx hx, ?_⟩
  obtain ⟨j, hji, hj⟩ := List.mem_eraseIdx_iff_getElem?.1 hx
  rintro rfl
  have hlt : j < s.length := (List.getElem?_eq_some_iff.1 hj).1
  exact hji ((List.getElem?_inj hlt (invS_nodup h)).1 (hj.trans hi.symm))

theorem apart_of_mem_eraseIdx {s : List Rect} (hs : InvS s) {i : Nat} {r m : Rect} (hi : s[i]? = some r)
    (hm : m ∈ s.eraseIdx i) : m ∈ s ∧ Apart m r :=
  have h := ne_of_mem_eraseIdx hs hi hm
  ⟨h.1, invS_apart hs h.1 (List.mem_of_getElem? hi) h.2⟩

theorem covered_eraseIdx_apart {s : List Rect} {i : Nat} {r : Rect} (hs : InvS s) (hi : s[i]? = some r)
    {l c : Int} (h : Covered (s.eraseIdx i) l c) :
    Covered s l c ∧ ¬ (widen r).Mem l c := by
  obtain ⟨m, hm, hmem⟩ := h
  obtain ⟨h1, h2⟩ := apart_of_mem_eraseIdx hs hi hm
  exact ⟨⟨m, h1, hmem⟩, apart_mem h2 (hs.1 r (List.mem_of_getElem? hi)) hmem⟩

/-- Adding a rectangle that is `Clear` of every member: the scan can only
    insert, or stretch with a member stacked directly above or below.  So the result is the old array without
    the members stacked on the rectangle, plus one new member `G` made of the rectangle and those members. -/
theorem vadd (fuel : Nat) : ∀ (t : List Rect) (p : Rect) (t' : List Rect),
    add fuel t p = some t' → InvS t → p.Nonempty → (∀ m ∈ t, Clear p m) →
    ∃ G ∈ t', G.left = p.left ∧ G.right = p.right ∧
      (∀ x ∈ t', x = G ∨ x ∈ t) ∧
      (∀ x ∈ t, x ∈ t' ∨ Stacked x p) ∧
      (∀ l c, G.Mem l c → p.Mem l c ∨ ∃ x ∈ t, Stacked x p ∧ x.Mem l c) ∧
      (∀ x ∈ t, SA x p → G.top = x.top) ∧
      ((∀ x ∈ t, ¬ SA x p) → G.top = p.top) := by
  refine (add_addMany_induct (Q := fun _ _ _ => True) ?_ ?_ ?_ ?_ (fun _ => trivial)
    (fun _ _ _ _ _ _ _ => trivial) fuel).1
  · intro t p hscan hs hp _
    have hap := scan_insert hp t 0 hscan hs.1 (invS_tl hs)
    exact ⟨p, (mem_insertRect t p p).2 (Or.inl rfl), rfl, rfl, fun x hx => (mem_insertRect t p x).1 hx,
      fun x hx => Or.inl ((mem_insertRect t p x).2 (Or.inr hx)), fun l c hm => Or.inl hm,
      fun x hx hsa => ((hap x hx).2.2 (stacked_of_sa hsa)).elim, fun _ => rfl⟩
  · exact fun t p r hr hc _ hp hpre => absurd hc ((hpre r hr).not_contains hp)
  · intro t p i r0 t' hri hn ha ih hs hp hpre
    have hr0 : r0 ∈ t := List.mem_of_getElem? hri
    have hr0ne := hs.1 r0 hr0
    have hst : Stacked r0 p := stacked_of_clear hn ha (hpre r0 hr0) hp
    have hmem0 := fun m hm => apart_of_mem_eraseIdx hs hri (m := m) hm
    have hne0 := fun m hm => hs.1 m (hmem0 m hm).1
    -- the grown rectangle again touches no remaining member sideways, and the same members are stacked on it
    obtain ⟨G, hG, hGl, hGr, c1, c2, c3, c4, c5⟩ := ih (invS_eraseIdx hs i) (grow_nonempty hp)
      (fun m hm => clear_grow hst (clear_of_apart (hmem0 m hm).2 hr0ne (hne0 m hm)) (hpre m (hmem0 m hm).1)
        hp (hne0 m hm))
    obtain ⟨e1, e2, e3⟩ := grow_stacked hst hr0ne hp
    have hstk := fun x hx => stacked_grow hst (hmem0 x hx).2.2.2 hr0ne hp
    have hsa := fun y hy => sa_grow hst (hmem0 y hy).2.1 (hmem0 y hy).2.2.2 hr0ne hp (hne0 y hy)
    refine ⟨G, hG, hGl.trans e1, hGr.trans e2, fun x hx => (c1 x hx).imp_right List.mem_of_mem_eraseIdx,
      fun x hx => ?_, fun l c hm => ?_, fun x hx hx' => ?_, fun hno => ?_⟩
    · rcases mem_or_mem_eraseIdx hri hx with rfl | hx0
      · exact Or.inr hst
      · exact (c2 x hx0).imp_right (hstk x hx0)
    · rcases c3 l c hm with h1 | ⟨x, hx, h1, h2⟩
      · exact ((mem_grow hn ha l c).1 h1).symm.imp_right (fun h => ⟨r0, hr0, hst, h⟩)
      · exact Or.inr ⟨x, List.mem_of_mem_eraseIdx hx, hstk x hx h1, h2⟩
    · rcases mem_or_mem_eraseIdx hri hx with rfl | hx0
      · -- the stretched member is the one above: nothing else lies directly above the grown rectangle
        rw [c5 (fun y hy h => (hsa y hy).2 ⟨hx', (hsa y hy).1.1 h⟩)]
        exact e3.elim (fun h => h.2.1) (fun h => (sa_asymm hr0ne hp hx' h.1).elim)
      · exact c4 x hx0 ((hsa x hx0).1.2 hx')
    · rw [c5 (fun y hy h => hno y (hmem0 y hy).1 ((hsa y hy).1.1 h))]
      exact (e3.resolve_left (fun h => hno r0 hr0 h.1)).2.1
  · exact fun t p i r t' hri hn hrows _ _ _ hpre => (not_clear_of_near hn hrows (hpre r (List.mem_of_getElem? hri))).elim

/-- What `tickit_rect_subtract` returns, as far as `tickit_rectset_subtract` cares. -/
theorem subtract_pieces {r hole : Rect} (hr : r.Nonempty) (hh : hole.Nonempty) :
    ∀ p ∈ Rect.subtract r hole, Within p r ∧ ColClass r hole p ∧ Sep p hole := by
  intro p hp
  by_cases hc : Rect.contains hole r = true
  · rw [show Rect.subtract r hole = [] by unfold Rect.subtract; rw [if_pos hc]] at hp
    cases hp
  · by_cases hi : Rect.intersects hole r = true
    · rw [Rect.subtract_cut hr hh hc hi] at hp
      have hp := (List.mem_filter.1 hp).1
      rw [Rect.intersects_iff_lt] at hi
      simp only [Rect.subtractCands, List.mem_cons, List.not_mem_nil, or_false] at hp
      rcases hp with rfl | rfl | rfl | rfl <;> rs_omega
    · rw [show Rect.subtract r hole = [r] by unfold Rect.subtract; rw [if_neg hc, if_pos (by simpa using hi)]] at hp
      obtain rfl := List.mem_singleton.1 hp
      have := sep_of_not_intersects (Bool.eq_false_iff.2 hi)
      rs_omega

/-- The state of the array while the remains of member `r` of `s` (minus `hole`) are being re-added. -/
structure Readding (s : List Rect) (r hole : Rect) (t : List Rect) : Prop where
  inv  : InvS t
  mem  : ∀ x ∈ t, (x ∈ s ∧ x ≠ r) ∨ (ColClass r hole x ∧ Sep x hole)
  keys : ∀ x ∈ s, TL x r → ∃ y ∈ t, y.top = x.top ∧ y.left = x.left

theorem readding_add {s : List Rect} {r hole : Rect} (hs : InvS s) (hr : r ∈ s) (hh : hole.Nonempty)
    {fuel : Nat} {t t' : List Rect} {p : Rect} (hre : Readding s r hole t) (hadd : add fuel t p = some t')
    (hp : p.Nonempty) (hw : Within p r) (hcc : ColClass r hole p) (hclean : Sep p hole)
    (hdisj : ∀ l c, p.Mem l c → ¬ Covered t l c) : Readding s r hole t' := by
  obtain ⟨hinv, hmem, hkeys⟩ := hre
  have hpre : ∀ m ∈ t, Clear p m := by
    intro m hm
    have hmne := hinv.1 m hm
    rcases hmem m hm with ⟨h1, h2⟩ | ⟨h1, _⟩
    · exact (clear_of_apart (invS_apart hs h1 hr h2) (hs.1 r hr) hmne).mono hw
    · exact (clear_iff hp hmne).2 ⟨(sep_iff_disjoint hp hmne).2 (fun l c ⟨h1, h2⟩ => hdisj l c h1 ⟨m, hm, h2⟩),
        no_vedge_colClass hcc h1 hp hmne hh⟩
  obtain ⟨G, hG, hGl, hGr, c1, c2, c3, c4, _⟩ := vadd fuel t p t' hadd hinv hp hpre
  have hinv' := add_invS hadd hp hinv
  refine ⟨hinv', fun x hx => ?_, fun x hx hlt => ?_⟩
  · rcases c1 x hx with rfl | hx
    · -- the new member consists of `p` and of members stacked on `p`, none of which meets the hole
      refine Or.inr ⟨colClass_of_cols hcc hGl hGr, (sep_iff_disjoint (hinv'.1 x hG) hh).2 ?_⟩
      intro l c ⟨h1, h2⟩
      rcases c3 l c h1 with h3 | ⟨y, hy, h3, h4⟩
      · exact sep_not_mem hclean h3 h2
      · refine sep_not_mem ?_ h4 h2
        rcases hmem y hy with ⟨h5, h6⟩ | ⟨_, h6⟩
        · have ha := invS_apart hs h5 hr h6
          exact sep_hole_of_stacked ha.1 ha.2.2 h3 hw hcc (hs.1 y h5) hp
        · exact h6
    · exact hmem x hx
  · obtain ⟨y, hy, hk⟩ := hkeys x hx hlt
    rcases c2 y hy with h3 | h3
    · exact ⟨y, h3, hk⟩
    · have hsa := sa_of_key hlt hk h3 hw hp
      exact ⟨G, hG, (c4 y hy hsa).trans hk.1, hGl.trans (hsa.1.symm.trans hk.2)⟩

theorem readding_addMany {s : List Rect} {r hole : Rect} (hs : InvS s) (hr : r ∈ s) (hh : hole.Nonempty) :
    ∀ (ps : List Rect) (fuel : Nat) (t t2 : List Rect), addMany fuel t ps = some t2 → Readding s r hole t →
      (∀ p ∈ ps, p.Nonempty ∧ Within p r ∧ ColClass r hole p ∧ Sep p hole) → ps.Pairwise Rect.Disjoint →
      (∀ p ∈ ps, ∀ l c, p.Mem l c → ¬ Covered t l c) → Readding s r hole t2 := by
  intro ps
  induction ps with
  | nil =>
    intro fuel t t2 h hre _ _ _
    simp [addMany] at h; subst h; exact hre
  | cons p ps ih =>
    intro fuel t t2 h hre hps hpd hdisj
    cases fuel with
    | zero => simp [addMany] at h
    | succ n =>
      unfold addMany at h
      split at h
      · cases h
      · rename_i t1 hadd
        rw [List.forall_mem_cons] at hps hdisj
        rw [List.pairwise_cons] at hpd
        obtain ⟨hp, hw, hcc, hcl⟩ := hps.1
        have hre1 := readding_add hs hr hh hre hadd hp hw hcc hcl hdisj.1
        refine ih n t1 t2 h hre1 hps.2 hpd.2 (fun q hq l c hm hcov => ?_)
        rcases ((add_region hadd hp hre.inv.1).2 l c).1 hcov with h1 | h1
        · exact hdisj.2 q hq l c hm h1
        · exact hpd.1 q hq l c ⟨h1, hm⟩

theorem pairwise_getElem? {R : Rect → Rect → Prop} {l : List Rect} (h : l.Pairwise R) {i j : Nat}
    {a b : Rect} (hi : l[i]? = some a) (hj : l[j]? = some b) (hij : i < j) : R a b := by
  obtain ⟨h1, rfl⟩ := List.getElem?_eq_some_iff.1 hi
  obtain ⟨h2, rfl⟩ := List.getElem?_eq_some_iff.1 hj
  exact List.pairwise_iff_getElem.1 h i j h1 h2 hij

theorem index_lt_of_tl {l : List Rect} (h : l.Pairwise TL) {i j : Nat} {a b : Rect} (hi : l[i]? = some a)
    (hj : l[j]? = some b) (hab : TL a b) : i < j := by
  rcases Nat.lt_trichotomy i j with h1 | h1 | h1
  · exact h1
  · subst h1; rw [hi] at hj; cases hj; exact (tl_irrefl hab).elim
  · exact (tl_irrefl (tl_trans hab (pairwise_getElem? h hj hi h1))).elim

theorem mem_take_of_getElem? {l : List Rect} {k n : Nat} {a : Rect} (h : l[k]? = some a) (hk : k < n) :
    a ∈ l.take n := by
  apply List.mem_of_getElem? (i := k)
  rw [List.getElem?_take_of_lt hk]; exact h

theorem getElem?_of_mem_take {l : List Rect} {n : Nat} {a : Rect} (h : a ∈ l.take n) :
    ∃ k, k < n ∧ l[k]? = some a := by
  obtain ⟨k, hk⟩ := List.mem_iff_getElem?.1 h
  rw [List.getElem?_take] at hk
  split at hk
  · next hlt => exact ⟨k, hlt, hk⟩
  · cases hk

/-- Loop invariant of `tickit_rectset_subtract`: the members before index `i` do not meet the hole. -/
def CleanBefore (hole : Rect) (s : List Rect) (i : Nat) : Prop :=
  ∀ j m, j < i → s[j]? = some m → Sep m hole

theorem cleanBefore_succ {hole r : Rect} {s : List Rect} {i : Nat} (h : CleanBefore hole s i)
    (hi : s[i]? = some r) (hr : Sep r hole) : CleanBefore hole s (i + 1) := by
  intro j m hj hm
  rcases Nat.lt_or_ge j i with h1 | h1
  · exact h j m h1 hm
  · obtain rfl : j = i := by omega
    rw [hi] at hm; cases hm; exact hr

theorem subtract_step_readding {s : List Rect} {r hole : Rect} {i fuel : Nat} {t2 : List Rect}
    (hs : InvS s) (hh : hole.Nonempty) (hi : s[i]? = some r)
    (hadd : addMany fuel (s.eraseIdx i) (Rect.subtract r hole) = some t2) : Readding s r hole t2 := by
  have hr : r ∈ s := List.mem_of_getElem? hi
  obtain ⟨_, hpne, hpd, _⟩ := Rect.subtract_spec r hole (hs.1 r hr) hh
  refine readding_addMany hs hr hh _ fuel _ t2 hadd
    ⟨invS_eraseIdx hs i, fun x hx => Or.inl (ne_of_mem_eraseIdx hs hi hx), fun x hx hlt => ?_⟩
    (fun p hp => ⟨hpne p hp, subtract_pieces (hs.1 r hr) hh p hp⟩) hpd ?_
  · rcases mem_or_mem_eraseIdx hi hx with rfl | h1
    · exact (tl_irrefl hlt).elim
    · exact ⟨x, h1, rfl, rfl⟩
  · intro p hp l c hm hcov
    exact (covered_eraseIdx_apart hs hi hcov).2 (mem_widen_of_mem (mem_of_within (subtract_pieces (hs.1 r hr) hh p hp).1 hm))

theorem subtract_step {s : List Rect} {r hole : Rect} {i fuel : Nat} {t2 : List Rect}
    (hs : InvS s) (hh : hole.Nonempty) (hi : s[i]? = some r) (hcb : CleanBefore hole s i)
    (hadd : addMany fuel (s.eraseIdx i) (Rect.subtract r hole) = some t2) :
    InvS t2 ∧ CleanBefore hole t2 i := by
  have hre := subtract_step_readding hs hh hi hadd
  have hTL : s.Pairwise TL := invS_tl hs
  have hTL2 : t2.Pairwise TL := invS_tl hre.inv
  refine ⟨hre.inv, fun j m hj hm => ?_⟩
  rcases hre.mem m (List.mem_of_getElem? hm) with ⟨h1, h2⟩ | ⟨_, h2⟩
  · obtain ⟨k, hk⟩ := List.mem_iff_getElem?.1 h1
    rcases pairwise_sym_of_ne hTL h1 (List.mem_of_getElem? hi) with h | h | h
    · exact absurd h h2
    · exact hcb k m (index_lt_of_tl hTL hk hi h) hk
    · -- an old member that sorts after `r`: the `i` members that sort before `r` have kept their keys, so
      -- they all sit before position `j < i`
      exfalso
      let key : Rect → Int × Int := fun x => (x.top, x.left)
      have hsub : (s.take i).map key ⊆ (t2.take j).map key := by
        intro k hk
        obtain ⟨x, hx, rfl⟩ := List.mem_map.1 hk
        obtain ⟨kx, hkx, hsx⟩ := getElem?_of_mem_take hx
        have hxr : TL x r := pairwise_getElem? hTL hsx hi hkx
        obtain ⟨y, hy, hyk⟩ := hre.keys x (List.mem_of_getElem? hsx) hxr
        obtain ⟨ky, hky⟩ := List.mem_iff_getElem?.1 hy
        refine List.mem_map.2 ⟨y, mem_take_of_getElem? hky
          (index_lt_of_tl hTL2 hky hm (tl_of_key hyk (tl_trans hxr h))), ?_⟩
        simp only [key, hyk.1, hyk.2]
      have hnd : ((s.take i).map key).Nodup :=
        List.pairwise_map.2 ((hTL.sublist (List.take_sublist i s)).imp
          (fun {a b} hab (e : key a = key b) => tl_irrefl (tl_of_key (Prod.mk.inj e.symm) hab)))
      have hlen := hnd.length_le_of_subset hsub
      have hil : i < s.length := (List.getElem?_eq_some_iff.1 hi).1
      simp only [List.length_map, List.length_take] at hlen
      omega
  · exact h2

theorem subtractFrom_clean (fuel : Nat) : ∀ (s : List Rect) (hole : Rect) (i : Nat) (s' : List Rect),
    subtractFrom fuel s hole i = some s' → InvS s → hole.Nonempty → CleanBefore hole s i →
    InvS s' ∧ ∀ m ∈ s', Sep m hole := by
  intro s hole i
  fun_induction subtractFrom fuel s hole i with
  | case1 | case4 => intro s' h; cases h
  | case2 fuel s hole i hnone =>
    intro s' h hs _ hcb
    cases h
    refine ⟨hs, fun m hm => ?_⟩
    obtain ⟨j, hj⟩ := List.mem_iff_getElem?.1 hm
    have hjl : j < s.length := (List.getElem?_eq_some_iff.1 hj).1
    have : s.length ≤ i := List.getElem?_eq_none_iff.1 hnone
    exact hcb j m (by omega) hj
  | case3 fuel s hole i r hri hclean ih =>
    exact fun s' h hs hh hcb =>
      ih s' h hs hh (cleanBefore_succ hcb hri (sep_of_not_intersects (by simpa using hclean)))
  | case5 fuel s hole i r hri _ s1 hadd ih =>
    intro s' h hs hh hcb
    obtain ⟨h1, h2⟩ := subtract_step hs hh hri hcb hadd
    exact ih s' h h1 hh h2

theorem inv_nil : Inv [] := (inv_iff _).2 invS_nil

theorem add_inv (fuel : Nat) (s s' : List Rect) (r : Rect)
    (h : add fuel s r = some s') (hr : r.Nonempty) (hs : Inv s) : Inv s' :=
  (inv_iff s').2 (add_invS h hr ((inv_iff s).1 hs))

theorem addMany_inv (fuel : Nat) (s ps s' : List Rect)
    (h : addMany fuel s ps = some s') (hps : ∀ p ∈ ps, p.Nonempty) (hs : Inv s) : Inv s' :=
  (inv_iff s').2 (addMany_invS h hps ((inv_iff s).1 hs))

theorem translate_inv (s : List Rect) (d k : Int) (hs : Inv s) : Inv (translate s d k) :=
  (inv_iff _).2 (invS_translate ((inv_iff s).1 hs) d k)

theorem subtract_clean {fuel : Nat} {s s' : List Rect} {r : Rect} (h : subtract fuel s r = some s') (hr : r.Nonempty)
    (hs : InvS s) : InvS s' ∧ ∀ m ∈ s', Sep m r := by
  rw [subtract_of_nonempty fuel s r hr] at h
  exact subtractFrom_clean fuel s r 0 s' h hs hr (by intro j m hj; omega)

theorem subtract_removes (fuel : Nat) (s s' : List Rect) (r : Rect) (hs : Inv s) (hr : r.Nonempty)
    (h : subtract fuel s r = some s') : Inv s' ∧ ∀ l c, Covered s' l c → ¬ r.Mem l c := by
  obtain ⟨h1, h2⟩ := subtract_clean h hr ((inv_iff s).1 hs)
  refine ⟨(inv_iff s').2 h1, ?_⟩
  rintro l c ⟨m, hm, hmem⟩ hrm
  exact sep_not_mem (h2 m hm) hmem hrm

theorem subtract_spec (fuel : Nat) (s s' : List Rect) (r : Rect) (hs : Inv s) (hr : r.Nonempty)
    (h : subtract fuel s r = some s') :
    Inv s' ∧ ∀ l c, Covered s' l c ↔ (Covered s l c ∧ ¬ r.Mem l c) := by
  obtain ⟨h1, h2⟩ := subtract_removes fuel s s' r hs hr h
  obtain ⟨_, h3, h4⟩ := subtract_bounds fuel s s' r h hr hs.1
  exact ⟨h1, fun l c => ⟨fun hc => ⟨h3 l c hc, h2 l c hc⟩, fun hc => h4 l c hc.1 hc.2⟩⟩

/-- `subtract_spec` for any hole: an empty one changes nothing and has no cell. -/
theorem subtract_spec' (fuel : Nat) (s s' : List Rect) (r : Rect) (hs : Inv s)
    (h : subtract fuel s r = some s') : Inv s' ∧ ∀ l c, Covered s' l c ↔ (Covered s l c ∧ ¬ r.Mem l c) := by
  by_cases hr : r.Nonempty
  · exact subtract_spec fuel s s' r hs hr h
  · rw [subtract, if_pos (by unfold Rect.Nonempty at hr; omega)] at h
    cases h
    exact ⟨hs, fun l c => (and_iff_left (mt nonempty_of_mem hr)).symm⟩

end RectSet
end Tickit
