import Tickit.Proof.EvLoopFbPipe
/-
  The self-pipe configuration, end to end (C18): a signal recorded by tickit.c's handler reaches, in the iteration
  whose wait begins next, every watcher of it that is linked then and not cancelled meanwhile (`Reached`,
  Proof/EvLoopLog.lean: the watch's FIRE entry is in the log; steps before and after a walk that achieves it do not undo it).

  The wait reports the pipe readable because a recorded signal has its byte in the pipe (`FInv.bytes`); timers,
  deferred callbacks and the io callbacks before the pipe watch's entry keep the signal recorded and the entry
  reporting POLLIN (`FStep true`); `on_sigpipe_readable` (repaired: every signal of the snapshot is handed to
  `tickit_evloop_invoke_sigwatches`) logs the callbacks, and what is logged stays in the log (`LogExt`).
-/
namespace Tickit.EvLoop.Fb
open Tickit.EvLoop

variable {N p : Nat}

theorem sigpipeInvoke_not_ok (fuel : Nat) (pending : List Int) : ∀ (l : List Int) (st : St), st.isOk = false →
    sigpipeInvoke fuel st pending l = st := by
  intro l
  induction l with
  | nil => intro st _; rfl
  | cons x rest ih =>
    intro st h
    unfold sigpipeInvoke
    simp only [h, Bool.false_and, Bool.false_eq_true, if_false]
    exact ih st h

theorem sigDispatch_logged (fuel : Nat) (st : St) (s : Int) (hsn : st.cfg.sigSnapshot = true) (i : SInv st)
    (hok : (sigDispatch fuel st s).status = .ok) : Reached s st (sigDispatch fuel st s) := by
  unfold sigDispatch at hok ⊢
  rw [if_pos hsn] at hok ⊢
  split
  · rename_i hl
    rw [if_pos hl] at hok
    exact absurd hok (St.status_fail_ne _ _)
  · rename_i hl
    rw [if_neg hl] at hok
    exact fun b hb hfin hsig hslot => sigsnap_logged fuel s st.signals st i hok b hb (i.alloc b hb) hfin hsig hslot

theorem sigpipeInvoke_logged (fuel : Nat) (pending : List Int) : ∀ (l : List Int) (st : St), FInv N p st → SInv st →
    st.cfg.sigSnapshot = true → (sigpipeInvoke fuel st pending l).status = .ok →
    ∀ s ∈ l, pending.contains s = true → Reached s st (sigpipeInvoke fuel st pending l) := by
  intro l
  induction l with
  | nil => intro st _ _ _ _ s hs; cases hs
  | cons x rest ih =>
    intro st fi sv hsn hok s hs hpend
    unfold sigpipeInvoke at hok ⊢
    have hstok : st.isOk = true := isOk_of_status (fun h => by
      simp only [h, Bool.false_and, Bool.false_eq_true, if_false]
      exact sigpipeInvoke_not_ok fuel pending rest st h) hok
    have g1 : FFacts true N p st (if st.isOk && pending.contains x then sigDispatch fuel st x else st) :=
      iteInduction (fun _ => f_steps.sigDispatch _ _ _ fi) fun _ => FStep.refl _ _ _ _ fi
    have f1 : SigFacts st (if st.isOk && pending.contains x then sigDispatch fuel st x else st) :=
      iteInduction (fun _ => (sl_steps.sigDispatch _ _ _).sig sv) fun _ => SigStep.refl _ sv
    have srest := sl_steps.sigpipeInvoke fuel pending rest
    by_cases hsx : s = x
    · subst hsx
      simp only [hstok, hpend, Bool.and_self, if_true] at hok ⊢ f1
      have hok1 := (St.isOk_iff _).mp (isOk_of_status (sigpipeInvoke_not_ok fuel pending rest _) hok)
      exact (sigDispatch_logged fuel st s hsn sv hok1).followed sv f1 (srest _).sig (srest _).log
    · generalize (if st.isOk && pending.contains x then sigDispatch fuel st x else st) = st1 at hok g1 f1 ⊢
      exact (ih st1 g1.inv f1.inv (by rw [g1.cfg]; exact hsn) hok s ((List.mem_cons.mp hs).resolve_left hsx) hpend).preceded
        sv f1 (srest st1).sig

theorem onSigpipeReadable_logged (fuel : Nat) (st : St) (fi : FInv N p st) (sv : SInv st)
    (hv : st.cfg.sigpipeViaInvoke = true) (hsn : st.cfg.sigSnapshot = true)
    (hok : (onSigpipeReadable fuel st).status = .ok) :
    ∀ s ∈ signalRange, s ∈ st.pendingSig → Reached s st (onSigpipeReadable fuel st) := by
  intro s hs hp
  unfold onSigpipeReadable at hok ⊢
  rw [if_pos hv] at hok ⊢
  exact sigpipeInvoke_logged fuel st.pendingSig signalRange _ (f_takePending st fi).inv (SInv.of_same (st := st) rfl rfl sv)
    hsn hok s hs (by simpa using hp)

theorem ioLoop_not_ok (fuel : Nat) (st : St) (idx : Nat) (h : st.isOk = false) : ioLoop fuel st idx = st := by
  cases fuel with
  | zero => unfold ioLoop; simp [h]
  | succ n => unfold ioLoop; simp [h]

/-- The descriptor loop of `evloop_run`, entered at or before the pipe watch's entry while that entry reports
    something and signal `s` is recorded. -/
theorem ioLoop_reaches (s : Int) (hs : s ∈ signalRange) (fuel : Nat) : ∀ (st : St) (idx : Nat), FInv N p st → SInv st →
    st.cfg.sigpipeViaInvoke = true → st.cfg.sigSnapshot = true → idx ≤ (st.getW p).evi → s ∈ st.pendingSig →
    slotRevents (st.pfd.getD (st.getW p).evi default) ≠ 0 →
    (ioLoop fuel st idx).status = .ok → Reached s st (ioLoop fuel st idx) := by
  induction fuel with
  | zero =>
    intro st idx _ _ _ _ _ _ _ hok
    exfalso
    unfold ioLoop at hok
    split at hok
    · cases hok
    · rename_i h; exact h ((St.isOk_iff st).mpr hok)
  | succ n ih =>
    intro st idx fi sv hv hsn hidx hp hrev hok
    -- an entry other than the pipe watch's is passed over
    have skip : idx ≠ (st.getW p).evi → (ioLoop n st (idx + 1)).status = .ok → Reached s st (ioLoop n st (idx + 1)) :=
      fun hne hok => ih st (idx + 1) fi sv hv hsn (by omega) hp hrev hok
    generalize hres : ioLoop (n + 1) st idx = res at hok ⊢
    unfold ioLoop at hres
    rcases ite_eq_cases hres with ⟨c1, rfl⟩ | ⟨_, hres⟩
    · exact St.not_ok_absurd c1 hok
    rcases ite_eq_cases hres with ⟨c2, rfl⟩ | ⟨_, hres⟩
    · have := fi.pidx; omega
    rcases ite_eq_cases hres with ⟨c3, rfl⟩ | ⟨_, hres⟩
    · exact skip (fun h => by rw [h, fi.pfd_fd] at c3; cases c3) hok
    rcases ite_eq_cases hres with ⟨c4, rfl⟩ | ⟨_, rfl⟩
    · exact skip (fun h => hrev (h ▸ c4)) hok
    have hcbok : (ioCb n st (st.pfd.getD idx default)).isOk = true := isOk_of_status (ioLoop_not_ok n _ _) hok
    have sl1 := sl_steps.ioLoop sl_iter n (ioCb n st (st.pfd.getD idx default)) (idx + 1)
    have scb := (sl_steps.ioCb sl_iter n st (st.pfd.getD idx default)).sig sv
    generalize hcb : ioCb n st (st.pfd.getD idx default) = st1 at hok hcbok sl1 scb ⊢
    unfold ioCb at hcb
    split at hcb
    · rename_i w hw
      rcases ite_eq_cases hcb with ⟨_, rfl⟩ | ⟨_, hcb⟩
      · rw [St.isOk_fail] at hcbok; cases hcbok
      rcases ite_eq_cases hcb with ⟨_, rfl⟩ | ⟨c6, hcb⟩
      · exact (onSigpipeReadable_logged n st fi sv hv hsn ((St.isOk_iff _).mp hcbok) s hs hp).followed sv scb sl1.sig sl1.log
      · -- somebody else's callback: everything is kept
        have hne : idx ≠ (st.getW p).evi := by
          intro h
          rw [h, fi.pfd_w] at hw
          cases hw
          exact c6 fi.pslot
        have g := (f_steps (m := true) (N := N) (p := p)).invokeWatch st w EV_FIRE
          (.io (st.getW w).fd (condOfRevents (slotRevents (st.pfd.getD idx default)))) fi
        rw [hcb] at g
        have he : (st1.getW p).evi = (st.getW p).evi := fi.evi_p g.ext
        exact (ih st1 (idx + 1) g.inv scb.inv (by rw [g.cfg]; exact hv) (by rw [g.cfg]; exact hsn) (by omega)
          (g.pend rfl s hp) (by rw [he, g.slotp rfl]; exact hrev) hok).preceded sv scb sl1.sig
    · rename_i hw
      subst hcb
      exact skip (fun h => by rw [h, fi.pfd_w] at hw; cases hw) hok

/-- The kernel reports the read end of the pipe readable while a byte is in it: the wait does not time out. -/
theorem pollScan_pipe (st : St) (fi : FInv N p st) (hb : st.pipeBytes > 0) :
    slotRevents ((pollScan st).pfd.getD (st.getW p).evi default) ≠ 0 ∧ pollCount st > 0 := by
  have hg : (pollScan st).pfd.getD (st.getW p).evi default =
      { st.pfd.getD (st.getW p).evi default with revents := some (pollRevents st (st.pfd.getD (st.getW p).evi default)) } := by
    unfold pollScan
    exact getD_map_slot st.pfd (fun s => { s with revents := some (pollRevents st s) }) _ fi.pidx
  have hr : pollRevents st (st.pfd.getD (st.getW p).evi default) = 1 := by
    unfold pollRevents pipeFd
    rw [fi.pfd_fd, fi.pfd_ev, fi.made]
    have : decide (st.pipeBytes > 0) = true := by simpa using hb
    simp only [this]
    rw [if_neg (by decide), if_pos (by decide)]
    decide
  have h1 : slotRevents ((pollScan st).pfd.getD (st.getW p).evi default) ≠ 0 := by
    rw [hg]; unfold slotRevents; simp only [hr]; decide
  refine ⟨h1, ?_⟩
  unfold pollCount
  apply List.length_pos_of_mem (a := (pollScan st).pfd.getD (st.getW p).evi default)
  rw [List.mem_filter]
  refine ⟨getD_mem_pfd (by unfold pollScan; simp only [List.length_map]; exact fi.pidx), ?_⟩
  rw [hg]
  simp only [hr]
  decide

theorem tick_reaches (fuel : Nat) (st : St) (nohang : Bool) (fi : FInv N p st) (sv : SInv st)
    (hv : st.cfg.sigpipeViaInvoke = true) (hsn : st.cfg.sigSnapshot = true) (s : Int) (hs : s ∈ signalRange)
    (hp : s ∈ st.pendingSig) (hok : (tick fuel st nohang).status = .ok) : Reached s st (tick fuel st nohang) := by
  generalize hres : tick fuel st nohang = res at hok ⊢
  unfold tick at hres
  rcases ite_eq_cases hres with ⟨c1, rfl⟩ | ⟨_, hres⟩
  · exact St.not_ok_absurd c1 hok
  rcases ite_eq_cases hres with ⟨c2, rfl⟩ | ⟨_, hres⟩
  · exact St.not_ok_absurd c2 hok
  rcases ite_eq_cases hres with ⟨c3, rfl⟩ | ⟨c3, hres⟩
  · exact St.not_ok_absurd c3 hok
  have gA := (f_steps (m := true) (N := N) (p := p)).nextTimerMsec st fi
  have sA := (g2_base.nextTimerMsec st).step sv
  generalize (nextTimerMsec st).1 = n1 at c3 hres gA sA
  generalize tickTimeout nohang (nextTimerMsec st).2 = tmo at c3 hres
  have hp1 : s ∈ n1.pendingSig := gA.pend rfl s hp
  have hbytes : n1.pipeBytes > 0 := gA.inv.bytes (fun h => by rw [h] at hp1; cases hp1)
  obtain ⟨hrev, hcount⟩ := pollScan_pipe n1 gA.inv hbytes
  have gB := f_pollScan n1 gA.inv
  have gC := (((f_steps (m := true) (N := N) (p := p)).pollRaise (pollScan n1)).trans
    (f_emit _ (.poll tmo (pollSlots n1) (some (pollCount n1))))) gB.inv
  have sB := ((sl_iter.pollScan n1).trans (sl_steps.pollRaise _)).trans (sl_emit _ (.poll tmo (pollSlots n1) (some (pollCount n1))))
  have hq : ppoll n1 tmo = ((pollRaise (pollScan n1)).emit (.poll tmo (pollSlots n1) (some (pollCount n1))), some (pollCount n1)) := by
    unfold ppoll
    by_cases d1 : (!(pollRaise (pollScan n1)).isOk) = true
    · exfalso
      apply c3
      unfold ppoll
      rw [if_pos d1]
      exact d1
    · rw [if_neg d1, if_pos hcount]
  rw [hq] at hres
  simp only [] at hres
  generalize (pollRaise (pollScan n1)).emit (.poll tmo (pollSlots n1) (some (pollCount n1))) = q1 at hres gC sB
  have hpS : s ∈ (pollScan n1).pendingSig := hp1
  have heS : ((pollScan n1).getW p).evi = (n1.getW p).evi := rfl
  have hp2 : s ∈ q1.pendingSig := gC.pend rfl s hpS
  have he2 : (q1.getW p).evi = (n1.getW p).evi := (gB.inv.evi_p gC.ext).trans heS
  have hrev2 : slotRevents (q1.pfd.getD (q1.getW p).evi default) ≠ 0 := by
    rw [he2, ← heS, gC.slotp rfl, heS]; exact hrev
  unfold tickAfterPoll at hres
  rcases ite_eq_cases hres with ⟨c4, rfl⟩ | ⟨_, hres⟩
  · exact St.not_ok_absurd c4 hok
  simp only [hcount, if_true] at hres
  subst hres
  have gD := (f_steps (m := true) (N := N) (p := p)).invokeTimers fuel q1 gC.inv
  have sD : SigFacts st (invokeTimers fuel q1) :=
    ((SigStep.trans (fun _ => sA) sB.sig).trans (sl_steps.invokeTimers fuel q1).sig) sv
  generalize invokeTimers fuel q1 = it at hok gD sD ⊢
  have he3 : (it.getW p).evi = (q1.getW p).evi := gC.inv.evi_p gD.ext
  have hcfg : it.cfg = st.cfg := by rw [gD.cfg, gC.cfg, gB.cfg, gA.cfg]
  exact (ioLoop_reaches s hs fuel it 0 gD.inv sD.inv (by rw [hcfg]; exact hv) (by rw [hcfg]; exact hsn) (Nat.zero_le _)
    (gD.pend rfl s hp2) (by rw [he3, gD.slotp rfl]; exact hrev2) hok).preceded sv sD (sl_steps.ioLoop sl_iter fuel it 0).sig

/-- `tick_reaches` with "still linked" weakened to "still live": a watch leaves the list only by being freed. -/
theorem tick_reaches_live (fuel : Nat) (st : St) (nohang : Bool) (fi : FInv N p st) (sv : SInv st)
    (hv : st.cfg.sigpipeViaInvoke = true) (hsn : st.cfg.sigSnapshot = true) (s : Int) (hs : s ∈ signalRange)
    (hp : s ∈ st.pendingSig) (hok : (tick fuel st nohang).status = .ok) :
    ∀ b ∈ st.signals, (tick fuel st nohang).live b = true → (st.getW b).signum = s → (st.getW b).slot ≥ 0 →
      Ev.cb (st.getW b).slot EV_FIRE .none ∈ (tick fuel st nohang).log := fun b hb hlive =>
  tick_reaches fuel st nohang fi sv hv hsn s hs hp hok b hb
    (((step_tick fuel st nohang sv).leave b hb).resolve_right (by rw [hlive]; exact Bool.noConfusion))

theorem runOps_snoc (cfg : Config) (ops : List Op) (o : Op) : runOps cfg (ops ++ [o]) = applyOp (runOps cfg ops) o := by
  unfold runOps; rw [List.foldl_append]; rfl

theorem applyOp_tick (s : St) (op : Op) (nohang : Bool) (hop : (op = .tick ∧ nohang = true) ∨ (op = .tickhang ∧ nohang = false))
    (hok : s.isOk = true) (hal : s.alive = true) :
    applyOp s op = tick defaultFuel { s with stillRunning := true, log := [] } nohang := by
  have hok1 : (!({ s with log := [] } : St).isOk) ≠ true := by
    show (!s.isOk) ≠ true
    rw [hok]; decide
  have hal1 : (!({ s with log := [] } : St).alive) ≠ true := by
    show (!s.alive) ≠ true
    rw [hal]; decide
  rcases hop with ⟨rfl, rfl⟩ | ⟨rfl, rfl⟩
  · exact (if_neg hok1).trans (if_neg hal1)
  · exact (if_neg hok1).trans (if_neg hal1)

end Tickit.EvLoop.Fb
