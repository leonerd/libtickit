import Tickit.Proof.WinInputSimOps
import Tickit.Proof.WinInputSimFocus
/-
  Towards `mutation_safe` (C14): the repaired routing reaches no undefined behaviour of the C code whatever the handlers
  do to the tree from inside a dispatch.  `AInv st held` adds to the consistency `TInv` of the store the reference accounting
  `refcount = owned + held` (`held`: the references the dispatcher holds at this point) and the application's leaf-first rule.
  An action of a handler and the dispatcher's `unref` are each walked once, for any set `A` of windows they are confined to
  (`doAction_step`, `AInv.release_in`; `A` everything is plain safety); the `on_term_mouse` level (drag synthesis) once, for
  any dispatch invariant (`DispInv J`).  The decidable checkers at the end serve the non-vacuity examples of Props/C14.
-/
namespace Tickit
namespace WinInput
open WinTree

/-- `held`: one entry per reference taken by an active `_handle_*` frame, a children snapshot, a returned claim or
    `on_term_mouse`.  `leaf`, `root`: the rules the application keeps to (it lets go of a window only when that is childless,
    and never of the root). -/
structure AInv (st : St) (held : List WinTree.Id) : Prop where
  tree : TInv st.tree
  drag : DragOK st.tree
  size : st.owned.size = st.tree.wins.size
  rc : ∀ (i : WinTree.Id) (w : Win), st.tree.wins[i]? = some w → w.freed = false →
    w.refcount = (st.owned.getD i 0 : Int) + (held.count i : Int)
  leaf : ∀ (i : WinTree.Id) (w : Win), st.tree.wins[i]? = some w → w.freed = false → st.owned.getD i 0 = 0 →
    w.children = []
  held : ∀ h ∈ held, Alive st.tree h
  root : 1 ≤ st.owned.getD 0 0
  pos : ∀ (i : WinTree.Id) (w : Win), st.tree.wins[i]? = some w → w.freed = false → 1 ≤ w.refcount

/-- The hypothesis `WF` of the static theorems (Proof/WinInput.lean) holds wherever the accounting invariant does. -/
theorem AInv.wf {st : St} {held : List WinTree.Id} (h : AInv st held) : WF st.tree :=
  ⟨h.pos, fun i c w cw hw hf hc hcw => by
    obtain ⟨cw', hcw', _, hp⟩ := h.tree.child i c w hw hf hc
    cases hcw.symm.trans hcw'; exact hp⟩

theorem AInv.perm {st : St} {held held' : List WinTree.Id} (h : AInv st held) (hp : held.Perm held') : AInv st held' :=
  { tree := h.tree, drag := h.drag, size := h.size,
    rc := fun i w hw hf => by rw [← hp.count_eq i]; exact h.rc i w hw hf,
    leaf := h.leaf, held := fun x hx => h.held x (hp.mem_iff.2 hx), root := h.root, pos := h.pos }

theorem AInv.transfer {st st' : St} {held held' : List WinTree.Id} (h : AInv st held) (tree : TInv st'.tree)
    (drag : DragOK st'.tree) (size : st'.owned.size = st'.tree.wins.size) (hheld : ∀ x ∈ held', Alive st'.tree x)
    (root : 1 ≤ st'.owned.getD 0 0)
    (win : ∀ (i : WinTree.Id) (x' : Win), st'.tree.wins[i]? = some x' → x'.freed = false →
      -- the window comes from a live window, and its count has moved by what the two ledgers have moved by …
      (∃ x, st.tree.wins[i]? = some x ∧ x.freed = false ∧ 1 ≤ x'.refcount ∧
        x'.refcount + ((st.owned.getD i 0 : Int) + (held.count i : Int)) =
          x.refcount + ((st'.owned.getD i 0 : Int) + (held'.count i : Int)) ∧
        (st'.owned.getD i 0 = 0 → x'.children = [] ∨ (st.owned.getD i 0 = 0 ∧ (x.children = [] → x'.children = [])))) ∨
      -- … or it is new
      (x'.refcount = (st'.owned.getD i 0 : Int) + (held'.count i : Int) ∧ 1 ≤ x'.refcount ∧
        (st'.owned.getD i 0 = 0 → x'.children = []))) :
    AInv st' held' := by
  refine ⟨tree, drag, size, fun i x' hx' hf' => ?_, fun i x' hx' hf' ho => ?_, hheld, root, fun i x' hx' hf' => ?_⟩
  · rcases win i x' hx' hf' with ⟨x, hx, hxf, _, e, _⟩ | ⟨e, _⟩
    · have := h.rc i x hx hxf
      omega
    · exact e
  · rcases win i x' hx' hf' with ⟨x, hx, hxf, _, _, l⟩ | ⟨_, _, l⟩
    · rcases l ho with h1 | ⟨h1, h2⟩
      · exact h1
      · exact h2 (h.leaf i x hx hxf h1)
    · exact l ho
  · rcases win i x' hx' hf' with ⟨_, _, _, p, _⟩ | ⟨_, p, _⟩ <;> exact p

theorem AInv.step {st : St} {held : List WinTree.Id} (h : AInv st held) {t' : Tree} (s : StepOK st.tree t') :
    AInv { st with tree := t' } held :=
  h.transfer s.inv s.drag (by rw [s.ev.size]; exact h.size) (fun x hx => s.ev.alive (h.held x hx)) h.root
    fun i x' hx' hf' => by
      obtain ⟨x, hx, f, r, c⟩ := s.ev.back hx'
      have hxf : x.freed = false := f.symm.trans hf'
      exact .inl ⟨x, hx, hxf, r ▸ h.pos i x hx hxf, by rw [r], fun ho => Or.inr ⟨ho, c⟩⟩

theorem getD_setIfInBounds {a : Array Nat} {i j : Nat} {v : Nat} (hi : i < a.size) :
    (a.setIfInBounds i v).getD j 0 = if i = j then v else a.getD j 0 := by
  simp only [Array.getD_eq_getD_getElem?, Array.getElem?_setIfInBounds, hi, if_true]
  split <;> rfl

theorem getD_push {a : Array Nat} {j : Nat} {v : Nat} : (a.push v).getD j 0 = if j = a.size then v else a.getD j 0 := by
  simp only [Array.getD_eq_getD_getElem?, Array.getElem?_push]
  split <;> rfl

theorem AInv.congr {st st' : St} {held : List WinTree.Id} (h : AInv st held) (ht : st'.tree = st.tree)
    (ho : st'.owned = st.owned) : AInv st' held :=
  ⟨ht ▸ h.tree, ht ▸ h.drag, by rw [ht, ho]; exact h.size, by rw [ht, ho]; exact h.rc, by rw [ht, ho]; exact h.leaf,
   by rw [ht]; exact h.held, by rw [ho]; exact h.root, by rw [ht]; exact h.pos⟩

theorem AInv.ref_set {st : St} {held : List WinTree.Id} (h : AInv st held) {c : WinTree.Id} {w : Win}
    (hw : st.tree.wins[c]? = some w) (hf : w.freed = false) :
    AInv { st with tree := WinTree.set st.tree c { w with refcount := w.refcount + 1 } } (c :: held) := by
  have sh := shape_set_rc hw (w.refcount + 1)
  refine h.transfer (h.tree.shape sh) (h.drag.shape sh rfl) (h.size.trans (WinTree.set_size ..).symm) (fun x hx => ?_) h.root
    fun i x' hx' hf' => ?_
  · rcases List.mem_cons.1 hx with rfl | hx'
    · exact ⟨_, WinTree.set_wins_self hw _, hf⟩
    · exact alive_set (w' := { w with refcount := w.refcount + 1 }) hw rfl (h.held x hx')
  · rcases wins_set_cases hw i x' hx' with ⟨rfl, rfl⟩ | ⟨hne, hx0⟩
    · have := h.pos i w hw hf
      refine .inl ⟨w, hw, hf, ?_, ?_, fun ho => Or.inr ⟨ho, id⟩⟩
      · simp only; omega
      · simp only [List.count_cons_self]; omega
    · exact .inl ⟨x', hx0, hf', h.pos i x' hx0 hf', by rw [List.count_cons_of_ne (fun e => hne e.symm)],
        fun ho => Or.inr ⟨ho, id⟩⟩

/-- What an action confined to `A`, a `ref` or a release leaves of `st`; `held`: the references the dispatcher holds afterwards. -/
structure Acted (A : Aff) (held : List WinTree.Id) (st st' : St) : Prop where
  inv : AInv st' held
  binds : st'.binds = st.binds
  sim : Sim A st.tree st'.tree
  own : Own A st'

theorem AInv.ref_in {A : Aff} {st : St} {held : List WinTree.Id} (h : AInv st held) (hdn : Down A st.tree) (hown : Own A st)
    {c : WinTree.Id} (hc : Alive st.tree c) : SafeR (refWin st c) (Acted A (c :: held) st) := by
  obtain ⟨w, hw, hf⟩ := hc
  unfold refWin WinTree.ref
  rw [WinTree.Live.modify ⟨hw, hf⟩]
  have s := Sim.set_refcount hdn hw (w.refcount + 1)
  exact ⟨h.ref_set hw hf, rfl, s, Own.of_sim (st' := { st with tree := _ }) s (fun _ _ => Nat.le_refl _) hown⟩

/-- The dispatcher drops a reference it holds.  A window outside `A` is still owned by the application (`Own`), so it
    stays; a window of `A` may be destroyed (it is childless then), which only unlinks it from its parent. -/
theorem AInv.release_in {A : Aff} {st : St} {held : List WinTree.Id} {c : WinTree.Id} (h : AInv st (c :: held))
    (hdn : Down A st.tree) (hown : Own A st) :
    SafeR (unrefLogged st c) (Acted A held st) := by
  obtain ⟨w, hw, hf⟩ := h.held c (List.mem_cons_self ..)
  have hrc := h.rc c w hw hf
  simp only [List.count_cons_self] at hrc
  have h1 : 1 ≤ w.refcount := by omega
  have hlast : w.refcount = 1 → w.children = [] ∧ c ≠ 0 ∧ A c = true := by
    intro hr
    have ho : st.owned.getD c 0 = 0 := by omega
    refine ⟨h.leaf c w hw hf ho, ?_, ?_⟩
    · intro hc0; subst hc0
      have := h.root; omega
    · cases hA : A c with
      | true => rfl
      | false => have := hown c w hA hw hf; omega
  refine (unref_step h.tree h.drag hdn ⟨hw, hf⟩ h1 hlast).mono fun st' u => ?_
  obtain ⟨w', hw', hcase⟩ := u.slot
  have ho := u.owned
  have ko := u.store.others
  refine ⟨h.transfer u.store.inv u.drag (by rw [ho, ko.1]; exact h.size) (fun x hx => ?_) (by rw [ho]; exact h.root)
    fun i x' hx' hf' => ?_, u.binds, u.store.sim, Own.of_sim u.store.sim (fun _ _ => by rw [ho]; exact Nat.le_refl _) hown⟩
  · by_cases hxc : x = c
    · subst hxc
      have hcnt : 1 ≤ List.count x held := List.count_pos_iff.2 hx
      rcases hcase with ⟨hr1, _⟩ | ⟨_, hfr, _, _⟩
      · omega
      · exact ⟨w', hw', hfr⟩
    · obtain ⟨y, hy, hyf⟩ := h.held x (List.mem_cons_of_mem _ hx)
      obtain ⟨y', hy', r⟩ := ko.2 x y hy
      have f := (r hxc).1
      exact ⟨y', hy', by rw [f]; exact hyf⟩
  · rw [ho]
    by_cases hic : i = c
    · subst hic
      rw [hw'] at hx'; cases hx'
      rcases hcase with ⟨_, hfr⟩ | ⟨h2, _, hr, hch⟩
      · rw [hfr] at hf'; cases hf'
      · exact .inl ⟨w, hw, hf, by omega, by rw [hr, List.count_cons_self]; omega, fun hoi => Or.inr ⟨hoi, hch.trans⟩⟩
    · obtain ⟨x, hx, r⟩ := ko.back hx'
      obtain ⟨f, r, cc⟩ := r hic
      have hxf : x.freed = false := f.symm.trans hf'
      exact .inl ⟨x, hx, hxf, r ▸ h.pos i x hx hxf, by rw [r, List.count_cons_of_ne (fun e => hic e.symm)],
        fun hoi => Or.inr ⟨hoi, cc⟩⟩

theorem AInv.release {st : St} {held : List WinTree.Id} {c : WinTree.Id} (h : AInv st (c :: held)) :
    SafeR (unrefLogged st c) (fun st' => AInv st' held ∧ st'.binds = st.binds) :=
  (h.release_in (down_all _) (own_all st)).mono fun _ h' => ⟨h'.inv, h'.binds⟩

/-- The application passes one of its references on a childless window other than the root to the dispatcher: the
    accounting of an `unref` by the application, which is then a release like any other. -/
theorem AInv.lend {st : St} {held : List WinTree.Id} (h : AInv st held) {c : WinTree.Id} {w : Win}
    (hw : st.tree.wins[c]? = some w) (hf : w.freed = false) (ho : 0 < st.owned.getD c 0) (hne : c ≠ 0)
    (hch : w.children = []) :
    AInv { st with owned := st.owned.setIfInBounds c (st.owned.getD c 0 - 1) } (c :: held) := by
  have hlt : c < st.owned.size := by rw [h.size]; exact (Array.getElem?_eq_some_iff.1 hw).1
  refine h.transfer h.tree h.drag ((Array.size_setIfInBounds ..).trans h.size) (fun x hx => ?_) ?_ fun i x hx hxf => ?_
  · rcases List.mem_cons.1 hx with rfl | hx'
    · exact ⟨w, hw, hf⟩
    · exact h.held x hx'
  · show 1 ≤ (st.owned.setIfInBounds c _).getD 0 0
    rw [getD_setIfInBounds hlt, if_neg hne]; exact h.root
  · dsimp only
    rw [getD_setIfInBounds hlt]
    refine .inl ⟨x, hx, hxf, h.pos i x hx hxf, ?_, fun hoi => ?_⟩
    · by_cases hci : c = i
      · subst hci; rw [if_pos rfl, List.count_cons_self]; omega
      · rw [if_neg hci, List.count_cons_of_ne hci]
    · by_cases hci : c = i
      · subst hci; cases hw.symm.trans hx; exact Or.inl hch
      · rw [if_neg hci] at hoi; exact Or.inr ⟨hoi, id⟩

/-- The application keeps a reference the dispatcher held (the accounting of a `ref` by the application). -/
theorem AInv.adopt {st : St} {held : List WinTree.Id} {c : WinTree.Id} (h : AInv st (c :: held)) :
    AInv { st with owned := st.owned.setIfInBounds c (st.owned.getD c 0 + 1) } held := by
  obtain ⟨w, hw, hf⟩ := h.held c (List.mem_cons_self ..)
  have hlt : c < st.owned.size := by rw [h.size]; exact (Array.getElem?_eq_some_iff.1 hw).1
  refine h.transfer h.tree h.drag ((Array.size_setIfInBounds ..).trans h.size)
    (fun x hx => h.held x (List.mem_cons_of_mem _ hx)) ?_ fun i x hx hxf => ?_
  · show 1 ≤ (st.owned.setIfInBounds c _).getD 0 0
    rw [getD_setIfInBounds hlt]
    split
    · omega
    · exact h.root
  · dsimp only
    rw [getD_setIfInBounds hlt]
    refine .inl ⟨x, hx, hxf, h.pos i x hx hxf, ?_, fun hoi => ?_⟩
    · by_cases hci : c = i
      · subst hci; rw [if_pos rfl, List.count_cons_self]; omega
      · rw [if_neg hci, List.count_cons_of_ne hci]
    · by_cases hci : c = i
      · rw [if_pos hci] at hoi; omega
      · rw [if_neg hci] at hoi; exact Or.inr ⟨hoi, id⟩

/-- The mutations covered: what the property names (close, unref), plus ref, hide, show, steal-input, the four
    restacking requests, `take_focus` and `set_geometry` — every action of the engine's vocabulary (`actOK_all`). -/
def ActOK (a : Action) : Prop :=
  a.act = .close ∨ a.act = .unref ∨ a.act = .keep ∨ a.act = .hide ∨ a.act = .unhide ∨ a.act = .stealOn ∨ a.act = .stealOff ∨
  a.act = .raise ∨ a.act = .raiseFront ∨ a.act = .lower ∨ a.act = .lowerBack ∨ a.act = .focus ∨
  (∃ dt dl dn dc, a.act = .geom dt dl dn dc)

theorem actOK_all (a : Action) : ActOK a := by
  unfold ActOK
  cases a.act <;> simp

/-- Every behaviour table uses covered actions only (always true: `tableOK_all`). -/
def TableOK (binds : Array Binding) : Prop :=
  ∀ (i : Nat) (b : Binding), binds[i]? = some b → ∀ e ∈ b.entries, ∀ a ∈ e.actions, ActOK a

theorem tableOK_all (binds : Array Binding) : TableOK binds := fun _ _ _ _ _ a _ => actOK_all a

theorem TableOK.bump {binds : Array Binding} (hs : TableOK binds) {i : Nat} {b : Binding} (h : binds[i]? = some b) (k : Nat) :
    TableOK (binds.setIfInBounds i { b with count := k }) := tableOK_all _

theorem allowed_alive {st : St} {a : Action} (h : allowed st a = true) :
    ∃ w, st.tree.wins[a.win]? = some w ∧ w.freed = false := by
  unfold allowed at h
  cases hw : st.tree.wins[a.win]? with
  | none => simp [hw] at h
  | some w =>
    simp only [hw] at h
    by_cases hf : w.freed = true
    · simp [hf] at h
    · exact ⟨w, rfl, by simpa using hf⟩

theorem doAction_step {A : Aff} {st : St} {held : List WinTree.Id} (h : AInv st held) (hdn : Down A st.tree) (hown : Own A st)
    {a : Action}
    (hc : ActConf A a ∨ (a.act = .focus ∧ A a.win = true ∧ TopNow A st.tree ∧ (A 0 = false → RootFc A st.tree))) :
    SafeR (doAction st a) (Acted A held st) := by
  unfold doAction
  by_cases hal : allowed st a = true
  · simp only [hal, Bool.not_true, Bool.false_eq_true, if_false]
    obtain ⟨w, hw, hf⟩ := allowed_alive hal
    have hAl : Alive st.tree a.win := ⟨w, hw, hf⟩
    unfold allowed at hal
    simp only [hw, hf, Bool.false_eq_true, if_false] at hal
    have stepTo' : ∀ {g : Tree → Tree} (r : Res Tree), SafeR r (fun t' => StepIn A st.tree (g t')) →
        SafeR (r >>= fun t => pure ({ st with tree := g t } : St))
          (Acted A held st) :=
      fun {g} r hr => SafeR.bind hr fun t' s =>
        ⟨h.step s.toStepOK, rfl, s.sim, Own.of_sim (st' := { st with tree := g t' }) s.sim (fun _ _ => Nat.le_refl _) hown⟩
    have stepTo := @stepTo' id
    -- a restacking request: the rules ask for a window that hangs below the root; nothing the routing looks at changes
    have restack : ∀ (c : Change), Restack c → attached st.tree (treeFuel st.tree) a.win = true →
        SafeR (requestHierarchyChange st.tree (treeFuel st.tree) c a.win >>= fun t => pure ({ st with tree := t } : St))
          (Acted A held st) :=
      fun c hc hat => stepTo _ (request_step h.tree h.drag hdn hc hAl (Nat.le_add_right _ 2)
        (attached_att h.tree a.win w ⟨hw, hf⟩ _ hAl.lt_fuel hat))
    rcases hc with hc | ⟨hact, hA, ht, hr⟩
    · unfold ActConf at hc
      have flag : ∀ (g : Win → Win), A a.win = true → (∀ w, linkPart (g w) = linkPart w) →
          SafeR (WinTree.modify st.tree a.win g >>= fun t => pure ({ st with tree := t } : St))
            (Acted A held st) :=
        fun g hA hg => stepTo _ (modify_flag_step h.tree h.drag hdn hAl hA g hg)
      cases hact : a.act <;> simp only [hact] at hal hc ⊢
      case close =>
        exact stepTo' _ ((close_step h.tree h.drag hdn (treeFuel st.tree) (Nat.le_add_right _ 2) ⟨hw, hf⟩ hc).mono
          fun _ s => s.1.normalizeDrag)
      case unref =>
        simp only [Bool.and_eq_true, decide_eq_true_eq, bne_iff_ne, ne_eq, List.isEmpty_iff] at hal
        -- the application hands its reference to the dispatcher, which drops it; the windows outside `A` keep theirs
        refine ((h.lend hw hf hal.1.1 hal.1.2 hal.2).release_in hdn fun x wx hx hwx hfx => ?_).mono
          fun _ u => ⟨u.inv, u.binds, u.sim, u.own⟩
        show 1 ≤ (st.owned.setIfInBounds a.win _).getD x 0
        rw [getD_setIfInBounds (h.size ▸ (Array.getElem?_eq_some_iff.1 hw).1), if_neg fun e : a.win = x => aff_absurd (e ▸ hc) hx]
        exact hown x wx hx hwx hfx
      case keep =>
        unfold WinTree.ref
        rw [WinTree.Live.modify ⟨hw, hf⟩]
        have s := Sim.set_refcount hdn hw (w.refcount + 1)
        refine ⟨(h.ref_set hw hf).adopt, rfl, s, Own.of_sim (st' := { st with tree := _, owned := _ }) s (fun x _ => ?_) hown⟩
        show st.owned.getD x 0 ≤ (st.owned.setIfInBounds a.win (st.owned.getD a.win 0 + 1)).getD x 0
        rw [getD_setIfInBounds (h.size ▸ (Array.getElem?_eq_some_iff.1 hw).1)]
        by_cases e : a.win = x
        · rw [if_pos e, e]; exact Nat.le_add_right _ 1
        · rw [if_neg e]; exact Nat.le_refl _
      case hide => exact stepTo _ (hide_step h.tree h.drag hdn _ hAl hc)
      case unhide => exact stepTo _ (show_step h.tree h.drag hdn _ hAl hc)
      case raise => exact restack _ (Or.inl rfl) hal
      case raiseFront => exact restack _ (Or.inr (Or.inl rfl)) hal
      case lower => exact restack _ (Or.inr (Or.inr (Or.inl rfl))) hal
      case lowerBack => exact restack _ (Or.inr (Or.inr (Or.inr rfl))) hal
      case stealOn => exact flag _ hc fun _ => rfl
      case stealOff => exact flag _ hc fun _ => rfl
      case geom => exact flag _ hc fun _ => rfl
    · simp only [hact] at hal ⊢
      exact stepTo _ (takeFocus_step h.tree h.drag hdn hAl (attached_att h.tree a.win w ⟨hw, hf⟩ _ hAl.lt_fuel hal) ht hr hA)
  · simp only [hal, Bool.not_false, if_true]
    exact ⟨h.congr rfl rfl, rfl, Sim.refl hdn,
      Own.of_sim (st' := st.say (.refused a)) (Sim.refl hdn) (fun _ _ => Nat.le_refl _) hown⟩

theorem conf_all (a : Action) (t : Tree) : ActConf (fun _ => true) a ∨
    (a.act = .focus ∧ (fun _ => true) a.win = true ∧ TopNow (fun _ => true) t ∧ ((fun _ => true) 0 = false → RootFc (fun _ => true) t)) := by
  cases h : a.act
  case focus => exact Or.inr ⟨rfl, rfl, fun _ _ _ _ _ _ _ => Or.inl rfl, fun h => nomatch h⟩
  all_goals exact Or.inl (by simp only [ActConf, h])

theorem doAction_safe {st : St} {held : List WinTree.Id} (h : AInv st held) {a : Action} :
    SafeR (doAction st a) (fun st' => AInv st' held ∧ st'.binds = st.binds) :=
  (doAction_step h (down_all _) (own_all st) (conf_all a st.tree)).mono fun _ h' => ⟨h'.inv, h'.binds⟩

def Good (held : List WinTree.Id) (st : St) : Prop := AInv st held ∧ TableOK st.binds

theorem Good.of {held : List WinTree.Id} {st : St} (h : AInv st held) : Good held st := ⟨h, tableOK_all _⟩

theorem Good.ainv {held : List WinTree.Id} {st : St} (h : Good held st) : AInv st held := h.1

theorem Good.ref {held : List WinTree.Id} {st : St} (h : Good held st) {c : WinTree.Id} (hc : Alive st.tree c) :
    SafeR (refWin st c) (Good (c :: held)) :=
  (h.ainv.ref_in (down_all _) (own_all st) hc).mono fun _ a => .of a.inv

theorem Good.release {held : List WinTree.Id} {st : St} {c : WinTree.Id} (h : Good (c :: held) st) :
    SafeR (unrefLogged st c) (Good held) :=
  h.ainv.release.mono fun _ h' => .of h'.1

theorem doActions_safe : ∀ (as : List Action) (st : St) (held : List WinTree.Id), Good held st →
    SafeR (doActions st as) (Good held) := by
  intro as
  induction as with
  | nil => intro st held h; exact h
  | cons a rest ih =>
    intro st held h
    simp only [doActions]
    exact SafeR.bind (doAction_safe h.ainv) fun st1 h1 => ih st1 held (.of h1.1)

theorem runBindings_safe (kind : Kind) (win : WinTree.Id) (ev : Ev) : ∀ (idxs : List Nat) (st : St) (held : List WinTree.Id),
    Good held st → SafeR (runBindings st kind win ev idxs) (fun p => Good held p.1) := by
  intro idxs
  induction idxs with
  | nil => intro st held h; exact h
  | cons bi rest ih =>
    intro st held h
    unfold runBindings
    cases hb : st.binds[bi]? with
    | none => simp only []; exact ih st held h
    | some b =>
      simp only []
      by_cases hg : b.gone = true
      · simp only [hg, if_true]; exact ih st held h
      simp only [hg, Bool.false_eq_true, if_false]
      have g1 : Good held (({ st with binds := st.binds.setIfInBounds bi b.fired } : St).say
          (.call kind win b.idx (entryIndex b) b.entry.ret ev)) :=
        .of (h.ainv.congr rfl rfl)
      exact SafeR.bind (doActions_safe _ _ held g1) fun st1 h1 =>
        SafeR.ite (fun _ => h1) fun _ => ih st1 held h1

theorem runHandlers_safe (kind : Kind) (win : WinTree.Id) (ev : Ev) (st : St) (held : List WinTree.Id) (h : Good held st) :
    SafeR (runHandlers st kind win ev) (fun p => Good held p.1) := by
  unfold runHandlers
  exact runBindings_safe kind win ev _ _ held (.of (h.ainv.congr rfl rfl))

theorem isShown_returns {t : Tree} (hi : TInv t) : ∀ (i : WinTree.Id) (w : Win), WinTree.Live t i w → ∀ f, i < f →
    ∃ b, isShown t f i = Res.ok b := by
  refine WinTree.chain_induction hi.linked.upward fun i w f hl ih => ?_
  rw [isShown, hl.get, ok_bind]
  by_cases hv : (!w.isVisible) = true
  · rw [if_pos hv]; exact ⟨false, rfl⟩
  · rw [if_neg hv]
    cases hp : w.parent with
    | none => exact ⟨true, rfl⟩
    | some p => exact (ih p hp).2

theorem isShown_safe {t : Tree} (hi : TInv t) {win : WinTree.Id} (hw : Alive t win) :
    SafeR (isShown t (treeFuel t) win) (fun _ => True) :=
  have ⟨w, hl⟩ := hw
  have ⟨_, hb⟩ := isShown_returns hi win w hl _ hw.lt_fuel
  .of_ok hb trivial

theorem refAll_safe : ∀ (cs : List WinTree.Id) (st : St) (held : List WinTree.Id), Good held st →
    (∀ c ∈ cs, Alive st.tree c) → SafeR (refAll st cs) (Good (cs ++ held)) := by
  intro cs
  induction cs with
  | nil => intro st held h _; exact h
  | cons c rest ih =>
    intro st held h hal
    simp only [refAll]
    refine SafeR.bind (Q := fun st1 => Good (c :: held) st1 ∧ ∀ c' ∈ rest, Alive st1.tree c')
      ((h.ref (hal c (List.mem_cons_self ..))).and_ok fun st1 e1 g1 => ⟨g1, fun c' hc' => ?_⟩) fun st1 ⟨g1, hal1⟩ => ?_
    · obtain ⟨w, hg, e⟩ := refWin_eq_ok e1
      rw [e]
      exact alive_set (w' := { w with refcount := w.refcount + 1 }) (WinTree.get_ok_iff.1 hg).1 rfl (hal c' (List.mem_cons_of_mem _ hc'))
    refine (ih st1 (c :: held) g1 hal1).mono ?_
    intro st2 h2
    refine .of (h2.ainv.perm ?_)
    simp only [List.cons_append]
    exact List.perm_middle

theorem unrefAll_safe : ∀ (cs : List WinTree.Id) (st : St) (held : List WinTree.Id), Good (cs ++ held) st →
    SafeR (unrefAll st cs) (Good held) := by
  intro cs
  induction cs with
  | nil => intro st held h; exact h
  | cons c rest ih =>
    intro st held h
    simp only [unrefAll]
    exact SafeR.bind (Good.release (c := c) (held := rest ++ held) h) fun st1 g1 => ih st1 held g1

def KeyRecSafe (rec : KeyRec) : Prop :=
  ∀ (st : St) (c : WinTree.Id) (ev : Ev) (held : List WinTree.Id), Good held st → Alive st.tree c →
    SafeO (rec st c ev) (fun p => Good held p.1)

theorem firstClaim_safe {a : Out (St × Bool)} {k : St → Out (St × Bool)} {Q : St → Prop}
    (ha : SafeO a (fun p => Q p.1)) (hk : ∀ st, Q st → SafeO (k st) (fun p => Q p.1)) :
    SafeO (firstClaim a k) (fun p => Q p.1) :=
  SafeO.bind ha fun ⟨st1, d1⟩ h1 => by
    cases d1 with
    | true => exact h1
    | false => exact hk st1 h1

theorem keySteal_safe {rec : KeyRec} (hrec : KeyRecSafe rec) {st : St} {win : WinTree.Id} {ev : Ev} {held : List WinTree.Id}
    (h : Good held st) (hw : Alive st.tree win) : SafeO (keySteal rec st win ev) (fun p => Good held p.1) := by
  refine SafeO.lbind (safeR_get hw) fun w ⟨hww, hwf⟩ => ?_
  cases hc : w.children.head? with
  | none => exact h
  | some fc =>
    have hfc := children_alive h.ainv.tree hww hwf fc (List.mem_of_head? hc)
    exact SafeO.lbind (safeR_get hfc) fun fw _ => SafeO.ite (fun _ => hrec st fc ev held h hfc) fun _ => h

theorem keyFocus_safe {rec : KeyRec} (hrec : KeyRecSafe rec) {st : St} {win : WinTree.Id} {ev : Ev} {held : List WinTree.Id}
    (h : Good held st) (hw : Alive st.tree win) : SafeO (keyFocus rec st win ev) (fun p => Good held p.1) := by
  refine SafeO.lbind (safeR_get hw) fun w ⟨hww, hwf⟩ => ?_
  cases hc : w.focusedChild with
  | none => exact h
  | some fc =>
    exact hrec st fc ev held h (children_alive h.ainv.tree hww hwf fc (h.ainv.tree.focus win fc w hww hwf hc))

theorem ownVisible_safe {t : Tree} (hi : TInv t) {win : WinTree.Id} (hw : Alive t win) :
    SafeR (ownVisible Cfg.repaired t win) (fun _ => True) := by
  unfold ownVisible
  simp only [Cfg.repaired, if_true]
  exact isShown_safe hi hw

theorem keyOwn_safe {st : St} {win : WinTree.Id} {ev : Ev} {held : List WinTree.Id} (h : Good held st)
    (hw : Alive st.tree win) : SafeO (keyOwn Cfg.repaired st win ev) (fun p => Good held p.1) :=
  SafeO.lbind (ownVisible_safe h.ainv.tree hw) fun _ _ =>
    SafeO.ite (fun _ => SafeO.lift (runHandlers_safe .key win ev st held h)) fun _ => h

theorem keySnap_safe {rec : KeyRec} (hrec : KeyRecSafe rec) (win : WinTree.Id) (ev : Ev) (held : List WinTree.Id)
    (hwin : win ∈ held) : ∀ (cs : List WinTree.Id) (st : St), Good held st → (∀ c ∈ cs, c ∈ held) →
    SafeO (keySnap rec st win cs ev) (fun p => Good held p.1) := by
  intro cs
  induction cs with
  | nil => intro st h _; exact h
  | cons c rest ih =>
    intro st h hsub
    have hrest : ∀ c' ∈ rest, c' ∈ held := fun c' hc' => hsub c' (List.mem_cons_of_mem _ hc')
    have hca : Alive st.tree c := h.ainv.held c (hsub c (List.mem_cons_self ..))
    rw [keySnap]
    refine SafeO.lbind (safeR_get hca) fun cw _ => SafeO.ite (fun _ => ih st h hrest) fun _ => ?_
    refine SafeO.lbind (safeR_get (h.ainv.held win hwin)) fun w _ => SafeO.ite (fun _ => ih st h hrest) fun _ => ?_
    refine SafeO.bind (hrec st c ev held h hca) fun ⟨st1, d1⟩ h1 => ?_
    cases d1 with
    | true => exact h1
    | false => exact ih st1 h1 hrest

theorem keyChildren_safe {rec : KeyRec} (hrec : KeyRecSafe rec) {fuel : Nat} {st : St} {win : WinTree.Id} {ev : Ev}
    {held : List WinTree.Id} (h : Good held st) (hwin : win ∈ held) :
    SafeO (keyChildren Cfg.repaired rec fuel st win ev) (fun p => Good held p.1) := by
  refine SafeO.lbind (safeR_get (h.ainv.held win hwin)) fun w ⟨hww, hwf⟩ => ?_
  refine SafeO.lbind (refAll_safe w.children st held h (children_alive h.ainv.tree hww hwf)) fun st4 h4 => ?_
  refine SafeO.bind (keySnap_safe hrec win ev (w.children ++ held) (List.mem_append_right _ hwin) w.children st4 h4
    (fun c hc => List.mem_append_left _ hc)) fun ⟨st5, d5⟩ h5 => ?_
  exact SafeO.lbind (unrefAll_safe w.children st5 held h5) fun st6 h6 => h6

theorem entryVisible_safe {t : Tree} (hi : TInv t) {win : WinTree.Id} (hw : Alive t win) :
    SafeR (entryVisible Cfg.repaired t win) (fun _ => True) :=
  isShown_safe hi hw

theorem handleKeyBody_safe {rec : KeyRec} (hrec : KeyRecSafe rec) (fuel : Nat) :
    KeyRecSafe (handleKeyBody Cfg.repaired rec fuel) := by
  intro st win ev held h hw
  refine SafeO.lbind (entryVisible_safe h.ainv.tree hw) fun vis _ => SafeO.ite (fun _ => h) fun _ => ?_
  refine SafeO.lbind (h.ref hw) fun st1 g1 => ?_
  have hmem : win ∈ win :: held := List.mem_cons_self ..
  have alive : ∀ st', Good (win :: held) st' → Alive st'.tree win := fun st' g => g.ainv.held win hmem
  have phases : SafeO
      (firstClaim (keySteal rec st1 win ev) fun st =>
       firstClaim (keyFocus rec st win ev) fun st =>
       firstClaim (keyOwn Cfg.repaired st win ev) fun st => keyChildren Cfg.repaired rec fuel st win ev)
      (fun p => Good (win :: held) p.1) :=
    firstClaim_safe (keySteal_safe hrec g1 (alive _ g1)) fun stA gA =>
    firstClaim_safe (keyFocus_safe hrec gA (alive _ gA)) fun stB gB =>
    firstClaim_safe (keyOwn_safe gB (alive _ gB)) fun stC gC => keyChildren_safe hrec gC hmem
  exact SafeO.bind phases fun ⟨st5, d5⟩ g5 => SafeO.lbind g5.release fun st6 g6 => g6

theorem handleKey_safe : ∀ (f : Nat), KeyRecSafe (handleKey Cfg.repaired f) := by
  intro f
  induction f with
  | zero => intro st c ev held _ _; trivial
  | succ f ih => exact handleKeyBody_safe ih f

def MouseRecSafe (rec : MouseRec) : Prop :=
  ∀ (st : St) (c : WinTree.Id) (ev : Ev) (held : List WinTree.Id), Good held st → Alive st.tree c →
    SafeO (rec st c ev) (fun p => Good (heldR p.2 held) p.1)

theorem mouseSnap_safe {rec : MouseRec} (hrec : MouseRecSafe rec) (win : WinTree.Id) (held : List WinTree.Id) :
    ∀ (cs : List WinTree.Id) (st : St) (ev : Ev), Good held st → (∀ c ∈ cs, c ∈ held) →
    SafeO (mouseSnap rec st win cs ev) (fun p => Good (heldR p.2 held) p.1) := by
  intro cs
  induction cs with
  | nil => intro st ev h _; exact h
  | cons c rest ih =>
    intro st ev h hsub
    have hrest : ∀ c' ∈ rest, c' ∈ held := fun c' hc' => hsub c' (List.mem_cons_of_mem _ hc')
    have hca : Alive st.tree c := h.ainv.held c (hsub c (List.mem_cons_self ..))
    rw [mouseSnap]
    refine SafeO.lbind (safeR_get hca) fun cw _ => SafeO.ite (fun _ => ih st ev h hrest) fun _ =>
      SafeO.ite (fun _ => ih st ev h hrest) fun _ => ?_
    refine SafeO.bind (hrec st c (ev.toChild cw) held h hca) fun ⟨st1, r1⟩ h1 => ?_
    cases r1 with
    | some x => exact h1
    | none => exact ih st1 ev h1 hrest

theorem mouseChildren_safe {rec : MouseRec} (hrec : MouseRecSafe rec) {fuel : Nat} {st : St} {win : WinTree.Id} {ev : Ev}
    {held : List WinTree.Id} (h : Good held st) (hwin : win ∈ held) :
    SafeO (mouseChildren Cfg.repaired rec fuel st win ev) (fun p => Good (heldR p.2 held) p.1) := by
  refine SafeO.lbind (safeR_get (h.ainv.held win hwin)) fun w ⟨hww, hwf⟩ => ?_
  refine SafeO.lbind (refAll_safe w.children st held h (children_alive h.ainv.tree hww hwf)) fun st4 h4 => ?_
  refine SafeO.bind (mouseSnap_safe hrec win (w.children ++ held) w.children st4 ev h4
    (fun c hc => List.mem_append_left _ hc)) fun ⟨st5, r5⟩ h5 => ?_
  exact SafeO.lbind (unrefAll_safe w.children st5 (heldR r5 held) (.of (h5.ainv.perm (heldR_append r5 _ held)))) fun st6 h6 => h6

theorem mouseOwn_safe {st : St} {win : WinTree.Id} {ev : Ev} {held : List WinTree.Id} (h : Good held st)
    (hwin : win ∈ held) : SafeO (mouseOwn Cfg.repaired st win ev) (fun p => Good (heldR p.2 held) p.1) := by
  refine SafeO.lbind (ownVisible_safe h.ainv.tree (h.ainv.held win hwin)) fun own _ => SafeO.ite (fun _ => h) fun _ => ?_
  refine SafeO.lbind (runHandlers_safe .mouse win ev st held h) fun ⟨st1, d1⟩ h1 => ?_
  cases d1 with
  | false => exact h1
  | true =>
    exact SafeO.lbind (h1.ref (h1.ainv.held win hwin)) fun _ g2 => g2

theorem handleMouseBody_safe {rec : MouseRec} (hrec : MouseRecSafe rec) (fuel : Nat) :
    MouseRecSafe (handleMouseBody Cfg.repaired rec fuel) := by
  intro st win ev held h hw
  refine SafeO.lbind (entryVisible_safe h.ainv.tree hw) fun vis _ => SafeO.ite (fun _ => h) fun _ => ?_
  refine SafeO.lbind (h.ref hw) fun st1 g1 => ?_
  have hmem : win ∈ win :: held := List.mem_cons_self ..
  refine SafeO.bind (mouseChildren_safe hrec g1 hmem) fun ⟨st2, r2⟩ g2 => ?_
  refine SafeO.bind (Q := fun p => Good (heldR p.2 (win :: held)) p.1) ?_ fun ⟨st3, r3⟩ g3 => ?_
  · cases r2 with
    | some x => exact g2
    | none => exact mouseOwn_safe g2 hmem
  · -- the frame's own reference goes last
    have g3' : Good (win :: heldR r3 held) st3 := .of (g3.ainv.perm (heldR_cons r3 win held))
    exact SafeO.lbind (safeR_get (g3'.ainv.held win (List.mem_cons_self ..))) fun w3 _ =>
      SafeO.lbind g3'.release fun st4 g4 => g4

theorem handleMouse_safe : ∀ (f : Nat), MouseRecSafe (handleMouse Cfg.repaired f) := by
  intro f
  induction f with
  | zero => intro st c ev held _ _; trivial
  | succ f ih => exact handleMouseBody_safe ih f

theorem AInv.rootUpdate {st : St} {held : List WinTree.Id} (h : AInv st held) {t' : Tree} (hw : t'.wins = st.tree.wins)
    (hc : t'.root.changes = st.tree.root.changes) (hd : DragOK t') : AInv { st with tree := t' } held :=
  h.step ((StepOK.refl h.tree h.drag).queue hw hd fun r hr => by rw [hc] at hr; exact ⟨h.tree.queue r hr, h.tree.qkind r hr⟩)

theorem up_safe {t : Tree} (hi : TInv t) : ∀ (f : Nat) (p : Option WinTree.Id) (g : Rect),
    (∀ q, p = some q → Alive t q) → SafeR (absGeometry.up t f p g) (fun _ => True) := by
  intro f
  induction f with
  | zero => intro p g _; exact Or.inl rfl
  | succ f ih =>
    intro p g hp
    cases p with
    | none => simp only [absGeometry.up]; trivial
    | some q =>
      simp only [absGeometry.up]
      obtain ⟨qw, hg, hqw, hqf⟩ := (hp q rfl).get
      rw [hg]
      simp only [res_bind_ok]
      apply ih
      intro q' hq'
      exact parent_alive hi hqw hqf hq'

theorem absGeometry_safe {t : Tree} (hi : TInv t) (f : Nat) {x : WinTree.Id} (hx : Alive t x) :
    SafeR (absGeometry t f x) (fun _ => True) := by
  unfold absGeometry
  obtain ⟨w, hg, hw, hf⟩ := hx.get
  simp only [hg, res_bind_ok]
  apply up_safe hi
  intro q hq
  exact parent_alive hi hw hf hq

/-- What `on_term_mouse` needs of a dispatch invariant `J held st`: it implies `Good`, does not look at the root's
    bookkeeping fields (a new drag source has to be live), and is kept by the three things that level does: take a
    reference, drop one, dispatch to a window. -/
structure DispInv (J : List WinTree.Id → St → Prop) : Prop where
  good : ∀ {held st}, J held st → Good held st
  ref : ∀ {held st} {c : WinTree.Id}, J held st → Alive st.tree c → SafeR (refWin st c) (J (c :: held))
  release : ∀ {held st} {c : WinTree.Id}, J (c :: held) st → SafeR (unrefLogged st c) (J held)
  root : ∀ {held st} (r' : Root), J held st → r'.changes = st.tree.root.changes →
    (∀ d, r'.dragSource = some d → Alive st.tree d) → J held { st with tree := { st.tree with root := r' } }
  mouse : ∀ {held st} (fuel : Nat) (win : WinTree.Id) (ev : Ev), J held st → Alive st.tree win →
    SafeO (handleMouse Cfg.repaired fuel st win ev) (fun p => J (heldR p.2 held) p.1)

theorem DispInv.keep {J : List WinTree.Id → St → Prop} (D : DispInv J) {held : List WinTree.Id} {st : St} (r' : Root)
    (h : J held st) (hc : r'.changes = st.tree.root.changes) (hd : r'.dragSource = st.tree.root.dragSource) :
    J held { st with tree := { st.tree with root := r' } } :=
  D.root r' h hc fun d hdd => (D.good h).ainv.drag d (hd ▸ hdd)

section
variable {J : List WinTree.Id → St → Prop} (D : DispInv J) {held : List WinTree.Id} {st : St} {fuel : Nat} {ev : Ev}
include D

theorem dropResult_inv {r : Option WinTree.Id} (h : J (heldR r held) st) : SafeR (dropResult Cfg.repaired st r) (J held) := by
  unfold dropResult
  cases r with
  | none => exact h
  | some x => exact D.release h

theorem dragSourceSet_inv {src : Option WinTree.Id} (h : J (heldR src held) st) :
    SafeR (dragSourceSet Cfg.repaired st src) (J held) := by
  unfold dragSourceSet
  simp only [Cfg.repaired, Bool.not_true, Bool.false_eq_true, if_false]
  cases src with
  | none => exact D.root _ h rfl fun d hd => by cases hd
  | some s =>
    -- the claiming window is stored if it is still below the root; then its counted reference is dropped
    have hs : Alive st.tree s := (D.good h).ainv.held s (List.mem_cons_self ..)
    exact D.release (D.root { st.tree.root with dragSource := if isWithin st.tree (treeFuel st.tree) 0 s = true then some s else none }
      h rfl fun d hd => by split at hd <;> cases hd; exact hs)

theorem toDragSource_inv {src : WinTree.Id} {type : Int} (h : J held st) (hsrc : Alive st.tree src) :
    SafeO (toDragSource Cfg.repaired fuel st src type ev) (J held) := by
  unfold toDragSource
  rw [isAlive_of_alive hsrc]
  simp only [Bool.not_true, Bool.false_eq_true, if_false]
  refine SafeO.lbind (absGeometry_safe (D.good h).ainv.tree _ hsrc) fun geom _ => ?_
  exact SafeO.bind (D.mouse fuel src _ h hsrc) fun ⟨st1, r⟩ h1 => SafeO.lift (dropResult_inv D h1)

theorem dragStop_inv (h : J held st) : SafeO (dragStop Cfg.repaired fuel st ev) (J held) := by
  unfold dragStop
  cases hs : st.tree.root.dragSource with
  | none => exact h
  | some src => exact toDragSource_inv D h ((D.good h).ainv.drag src hs)

theorem dragOutside_inv {handled : Option WinTree.Id} (h : J held st) :
    SafeO (dragOutside Cfg.repaired fuel st ev handled) (J held) := by
  unfold dragOutside
  cases hs : st.tree.root.dragSource with
  | none => exact h
  | some src => exact SafeO.ite (fun _ => toDragSource_inv D h ((D.good h).ainv.drag src hs)) fun _ => h

theorem dragPrelude_inv (h : J [0] st) : SafeO (dragPrelude Cfg.repaired fuel st ev) (J [0]) := by
  have h0 : Alive st.tree 0 := (D.good h).ainv.held 0 (List.mem_cons_self ..)
  unfold dragPrelude
  refine SafeO.ite (fun _ => D.keep _ h rfl rfl) fun _ => SafeO.ite (fun _ => ?_) fun _ => SafeO.ite (fun _ => ?_) fun _ => h
  · -- DRAG_START, whose claim becomes the drag source
    refine SafeO.bind (D.mouse fuel 0 _ h h0) fun ⟨st1, src⟩ h1 => ?_
    exact SafeO.lbind (dragSourceSet_inv D h1) fun st2 h2 => D.keep _ h2 rfl rfl
  · -- DRAG_DROP, then DRAG_STOP to the source
    refine SafeO.bind (D.mouse fuel 0 _ h h0) fun ⟨st1, dropped⟩ h1 => ?_
    refine SafeO.lbind (dropResult_inv D h1) fun st2 h2 => ?_
    exact SafeO.bind (dragStop_inv D h2) fun st3 h3 => D.keep _ h3 rfl rfl

theorem onTermMouse_inv (fuel : Nat) (ev : Ev) (h : J [] st) :
    SafeO (onTermMouse Cfg.repaired fuel st ev) (fun p => J [] p.1) := by
  unfold onTermMouse
  refine SafeO.lbind (D.ref h (D.good h).ainv.tree.alive_root) fun st0 G0 => ?_
  refine SafeO.bind (dragPrelude_inv D G0) fun st1 G1 => ?_
  refine SafeO.bind (D.mouse fuel 0 ev G1 ((D.good G1).ainv.held 0 (List.mem_cons_self ..))) fun ⟨st2, handled⟩ G2 => ?_
  refine SafeO.bind (dragOutside_inv D (handled := handled) G2) fun st3 G3 => ?_
  refine SafeO.lbind (dropResult_inv D G3) fun st4 G4 => ?_
  exact SafeO.lbind (D.release G4) fun st5 G5 => G5

end

theorem good_dispInv : DispInv Good where
  good h := h
  ref h hc := h.ref hc
  release h := h.release
  root _ h hc hd := .of (h.ainv.rootUpdate rfl hc hd)
  mouse fuel win ev h hw := handleMouse_safe fuel _ win ev _ h hw

theorem onTermKey_safe (fuel : Nat) {st : St} (ev : Ev) (h : Good [] st) :
    SafeO (onTermKey Cfg.repaired fuel st ev) (fun p => Good [] p.1) := by
  unfold onTermKey
  exact handleKey_safe fuel st 0 ev [] h h.ainv.tree.alive_root

theorem Good.say {held : List WinTree.Id} {st : St} (h : Good held st) (i : LogItem) : Good held (st.say i) :=
  .of (h.ainv.congr rfl rfl)

theorem emit_safe {st : St} (h : Good [] st) (ev : Ev) :
    SafeO (emitKey Cfg.repaired st ev) (Good []) ∧ SafeO (emitMouse Cfg.repaired st ev) (Good []) := by
  constructor
  · unfold emitKey
    apply SafeO.bind (onTermKey_safe _ ev h)
    intro ⟨st', handled⟩ h'
    cases handled with
    | true => exact h'
    | false => exact h'.say _
  · unfold emitMouse
    apply SafeO.bind (onTermMouse_inv good_dispInv _ ev h)
    intro ⟨st', handled⟩ h'
    cases handled with
    | true => exact h'
    | false => exact h'.say _


def winCheck (t : Tree) (i : WinTree.Id) (w : Win) : Bool :=
  w.children.all (fun c => match t.wins[c]? with
    | some cw => !cw.freed && cw.parent == some i
    | none => false) &&
  (match w.parent with
    | none => true
    | some p => match t.wins[p]? with
      | some pw => !pw.freed && pw.children.contains i
      | none => false) &&
  (match w.focusedChild with
    | none => true
    | some f => w.children.contains f) &&
  decide w.children.Nodup && w.parent != some i && (!w.isClosed || w.parent.isNone)

def tinvCheck (t : Tree) : Bool :=
  (match t.wins[0]? with
    | some w0 => !w0.freed && w0.parent.isNone
    | none => false) &&
  t.root.changes.isEmpty &&
  (List.range t.wins.size).all fun i =>
    match t.wins[i]? with
    | none => true
    | some w => w.freed || (winCheck t i w && (match w.parent with
        | none => true
        | some p => decide (p < i)) && (w.isRoot == decide (i = 0)))

theorem tinvCheck_sound {t : Tree} (h : tinvCheck t = true) : TInv t := by
  unfold tinvCheck at h
  simp only [Bool.and_eq_true, List.all_eq_true, List.mem_range, List.isEmpty_iff] at h
  obtain ⟨⟨h0, hq⟩, hall⟩ := h
  have hw : ∀ (i : WinTree.Id) (w : Win), t.wins[i]? = some w → w.freed = false →
      (∀ c ∈ w.children, ∃ cw, t.wins[c]? = some cw ∧ cw.freed = false ∧ cw.parent = some i) ∧
      (∀ p, w.parent = some p → ∃ pw, t.wins[p]? = some pw ∧ pw.freed = false ∧ i ∈ pw.children) ∧ WinOK i w := by
    intro i w hw hf
    have := hall i (Array.getElem?_eq_some_iff.1 hw).1
    simp only [hw, hf, Bool.false_or, Bool.and_eq_true, beq_iff_eq, winCheck, List.all_eq_true, decide_eq_true_eq,
      bne_iff_ne, ne_eq, Bool.or_eq_true, Bool.not_eq_true', Option.isNone_iff_eq_none] at this
    obtain ⟨⟨⟨⟨⟨⟨⟨hc, hp⟩, hfo⟩, hnd⟩, _⟩, hcl⟩, hlt⟩, hro⟩ := this
    refine ⟨fun c hcm => ?_, fun p hpp => ?_, ⟨fun f hfc => ?_, hnd, fun h => ?_⟩, fun p hpp => ?_, ?_⟩
    · have := hc c hcm
      cases hcw : t.wins[c]? with
      | none => simp [hcw] at this
      | some cw =>
        simp only [hcw, Bool.and_eq_true, Bool.not_eq_true', beq_iff_eq] at this
        exact ⟨cw, rfl, this.1, this.2⟩
    · simp only [hpp] at hp
      cases hpw : t.wins[p]? with
      | none => simp [hpw] at hp
      | some pw =>
        simp only [hpw, Bool.and_eq_true, Bool.not_eq_true', List.contains_iff_mem] at hp
        exact ⟨pw, rfl, hp.1, hp.2⟩
    · simpa only [hfc, List.contains_iff_mem] using hfo
    · rcases hcl with h1 | h1
      · rw [h] at h1; cases h1
      · exact h1
    · rw [hpp] at hlt; simpa using hlt
    · rw [hro]; simp
  refine TInv.of_winOK ?_ (fun i c w h1 h2 => (hw i w h1 h2).1 c) (fun c p cw h1 h2 => (hw c cw h1 h2).2.1 p)
    (fun i w h1 h2 => (hw i w h1 h2).2.2) (fun r hr => by rw [hq] at hr; cases hr) (fun r hr => by rw [hq] at hr; cases hr)
  cases hw0 : t.wins[0]? with
  | none => simp [hw0] at h0
  | some w0 =>
    simp only [hw0, Bool.and_eq_true, Bool.not_eq_true', Option.isNone_iff_eq_none] at h0
    exact ⟨w0, rfl, h0.1, h0.2⟩

def ainvCheck (st : St) : Bool :=
  tinvCheck st.tree &&
  (match st.tree.root.dragSource with
    | none => true
    | some d => isAlive st.tree d) &&
  st.owned.size == st.tree.wins.size &&
  decide (1 ≤ st.owned.getD 0 0) &&
  (List.range st.tree.wins.size).all fun i =>
    match st.tree.wins[i]? with
    | none => true
    | some w => w.freed || (decide (w.refcount = (st.owned.getD i 0 : Int)) && decide (1 ≤ w.refcount) &&
        (decide (st.owned.getD i 0 ≠ 0) || w.children.isEmpty))

theorem ainvCheck_sound {st : St} (h : ainvCheck st = true) : AInv st [] := by
  unfold ainvCheck at h
  simp only [Bool.and_eq_true, List.all_eq_true, List.mem_range, beq_iff_eq, decide_eq_true_eq] at h
  obtain ⟨⟨⟨⟨ht, hd⟩, hs⟩, hr⟩, hall⟩ := h
  have hw : ∀ (i : WinTree.Id) (w : Win), st.tree.wins[i]? = some w → w.freed = false →
      (w.refcount = (st.owned.getD i 0 : Int) ∧ 1 ≤ w.refcount) ∧ (st.owned.getD i 0 ≠ 0 ∨ w.children = []) := by
    intro i w hw hf
    have := hall i (Array.getElem?_eq_some_iff.1 hw).1
    simp only [hw, hf, Bool.false_or, Bool.and_eq_true, decide_eq_true_eq, Bool.or_eq_true, List.isEmpty_iff] at this
    exact this
  refine ⟨tinvCheck_sound ht, ?_, hs, ?_, ?_, fun x hx => (by cases hx), hr, ?_⟩
  rotate_left 3
  · intro i w hwi hf
    exact (hw i w hwi hf).1.2
  · intro d hdd
    rw [hdd] at hd
    exact alive_of_isAlive hd
  · intro i w hwi hf
    have := (hw i w hwi hf).1.1
    simp only [List.count_nil]
    omega
  · intro i w hwi hf ho
    rcases (hw i w hwi hf).2 with h1 | h1
    · exact absurd ho h1
    · exact h1

def tableCheck (binds : Array Binding) : Bool :=
  binds.toList.all fun b => b.entries.all fun e => e.actions.all fun a =>
    a.act == .close || a.act == .unref || a.act == .keep || a.act == .hide || a.act == .unhide ||
      a.act == .stealOn || a.act == .stealOff

theorem tableCheck_sound {binds : Array Binding} (h : tableCheck binds = true) : TableOK binds :=
  tableOK_all binds

theorem newSt_good (lines cols : Int) : Good [] (newSt lines cols) :=
  .of (ainvCheck_sound (by rfl))

theorem addBinding_good {st : St} (h : Good [] st) (win : WinTree.Id) (kind : Kind) (es : List Entry)
    (os : Bool := false) : Good [] (addBinding st win kind es os).1 :=
  .of (h.ainv.congr rfl rfl)

/-- `tickit_window_new` by the application, outside any dispatch: the new window is owned once; the parent that gets a
    child is live, hence owned (nothing is held), so the leaf-first rule still holds. -/
theorem newWin_good {st : St} (h : Good [] st) {parent : WinTree.Id} (hp : Alive st.tree parent) (rect : Rect)
    (rp hid low steal : Bool) : SafeR (newWin st parent rect rp hid low steal) (fun p => Good [] p.1) := by
  unfold newWin
  refine SafeR.bind (newWindow_safe h.ainv.tree h.ainv.drag hp (Nat.le_add_right _ 2) rect rp hid low steal) fun ⟨t', id⟩ g => ?_
  replace g : Grown st.tree t' := g
  obtain ⟨p, old⟩ := g.old
  refine .of (h.ainv.transfer (st' := { st with tree := t', owned := st.owned.push 1 }) g.inv g.drag
    (by show (st.owned.push 1).size = t'.wins.size; rw [g.size, Array.size_push, h.ainv.size]) (fun x hx => nomatch hx)
    (by show 1 ≤ (st.owned.push 1).getD 0 0; rw [getD_push]; split; exact Nat.le_refl 1; exact h.ainv.root)
    fun j x' hx' hxf' => ?_)
  show (∃ x, _ ∧ _ ∧ _ ∧ _ + (_ + _) = _ + (((st.owned.push 1).getD j 0 : Int) + _) ∧ ((st.owned.push 1).getD j 0 = 0 → _)) ∨
    (_ = ((st.owned.push 1).getD j 0 : Int) + _ ∧ _ ∧ ((st.owned.push 1).getD j 0 = 0 → _))
  rw [getD_push, h.ainv.size]
  by_cases hj : j = st.tree.wins.size
  · subst hj
    have := g.new x' hx'
    rw [if_pos rfl]
    exact .inr ⟨by rw [this]; rfl, by omega, fun h0 => nomatch h0⟩
  · obtain ⟨x, hx, f, rr, cc⟩ := old j x' hj hx'
    have hxf : x.freed = false := f ▸ hxf'
    have h1 := h.ainv.rc j x hx hxf
    have h2 := h.ainv.pos j x hx hxf
    rw [if_neg hj]
    refine .inl ⟨x, hx, hxf, rr ▸ h2, by rw [rr], fun ho => ?_⟩
    by_cases hjp : j = p
    · simp only [List.count_nil] at h1; omega
    · exact .inr ⟨ho, fun hc => (cc hjp).trans hc⟩

/-- `tickit_window_new` returns only for a live parent (it dereferences it). -/
theorem newWin_alive {st st' : St} {p id : WinTree.Id} {r : Rect} {a b c d : Bool}
    (h : newWin st p r a b c d = Res.ok (st', id)) : Alive st.tree p := by
  unfold newWin at h
  obtain ⟨⟨t, i⟩, hn, _⟩ := WinTree.bind_ok_iff.1 h
  rw [newWindow_eq] at hn
  have key : ∀ {α : Type} (k : Win → Res α) (x : α), (WinTree.get st.tree p >>= k) = Res.ok x → Alive st.tree p := by
    intro α k x hx
    obtain ⟨w, hg, _⟩ := WinTree.bind_ok_iff.1 hx
    obtain ⟨hw, hf⟩ := WinTree.get_ok_iff.1 hg
    exact ⟨w, hw, hf⟩
  cases a with
  | true =>
    simp only [if_true] at hn
    obtain ⟨pr, hc, _⟩ := WinTree.bind_ok_iff.1 hn
    have hf : treeFuel st.tree = (st.tree.wins.size + 1) + 1 := rfl
    rw [hf, newWindow.climb] at hc
    exact key _ _ hc
  | false =>
    simp only [Bool.false_eq_true, if_false] at hn
    unfold insertNew at hn
    exact key _ _ hn

theorem flushSt_good {st : St} (h : Good [] st) : SafeR (flushSt st) (Good []) := by
  unfold flushSt
  apply SafeR.bind (flush_safe h.ainv.tree h.ainv.drag)
  intro t' s
  exact .of (h.ainv.step s)

end WinInput
end Tickit
