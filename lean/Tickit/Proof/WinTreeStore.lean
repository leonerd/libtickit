import Tickit.Model.WinTree
/-
  The shared window store (`Model/WinTree.lean`) as a data structure, no operation of the model run: what the window
  engines (`win`, `focus`, `input`, `life`) all need of it.  Two stores are compared window by window (`Lift R`, `SameBy g`);
  what the engines' tree invariants share beyond per-window clauses is `Linked`, which the writes of the model keep.
  What the model's operations come to is Proof/WinTree.lean.

  `Live` is `protected` (written `WinTree.Live` elsewhere; this file and Proof/WinTree.lean open it by name):
  Props/C15.lean opens this namespace beside `WinFocus`, whose own `Live` (the same body) its statements use.
-/
namespace Tickit
namespace WinTree

theorem ok_bind {α β : Type} (a : α) (f : α → Res β) : (Res.ok a >>= f) = f a := rfl

theorem bind_assoc {α β γ : Type} (x : Res α) (f : α → Res β) (g : β → Res γ) :
    ((x >>= f) >>= g) = (x >>= fun a => f a >>= g) := by
  cases x <;> rfl

theorem bind_ok_iff {α β : Type} {x : Res α} {f : α → Res β} {b : β} :
    (x >>= f) = .ok b ↔ ∃ a, x = .ok a ∧ f a = .ok b := by
  cases x with
  | ok a => exact ⟨fun h => ⟨a, rfl, h⟩, fun ⟨a', ha, h⟩ => by cases ha; exact h⟩
  | ub w => exact ⟨fun h => (by cases h), fun ⟨_, ha, _⟩ => (by cases ha)⟩

theorem pure_ok_iff {α : Type} {a b : α} : (pure a : Res α) = .ok b ↔ a = b :=
  ⟨fun h => by cases h; rfl, fun h => by rw [h]; rfl⟩

theorem ite_ok {α : Type} {c : Prop} [Decidable c] {x y : Res α} {b : α} (h : (if c then x else y) = .ok b) :
    (c ∧ x = .ok b) ∨ (¬ c ∧ y = .ok b) := by
  by_cases hc : c
  · rw [if_pos hc] at h; exact Or.inl ⟨hc, h⟩
  · rw [if_neg hc] at h; exact Or.inr ⟨hc, h⟩

/-- `bind_ok_iff` for the shape that `let t ← if c then x else pure t; k t` of the model takes. -/
theorem ite_bind_ok {α β : Type} {c : Prop} [Decidable c] {x y : Res α} {k : α → Res β} {b : β}
    (h : (if c then x >>= k else y >>= k) = .ok b) : ∃ a, (if c then x else y) = .ok a ∧ k a = .ok b := by
  by_cases hc : c
  · rw [if_pos hc] at h ⊢; exact bind_ok_iff.1 h
  · rw [if_neg hc] at h ⊢; exact bind_ok_iff.1 h

/-- For the Boolean checks of runs that the examples close by `decide`. -/
theorem ok_of_check {α : Type} {x : Res α} {P : α → Prop} [DecidablePred P]
    (h : (match x with | .ok a => decide (P a) | .ub _ => false) = true) : ∃ a, x = .ok a ∧ P a := by
  cases x with
  | ok a => exact ⟨a, rfl, of_decide_eq_true h⟩
  | ub _ => cases h

protected def Live (t : Tree) (i : Id) (w : Win) : Prop := t.wins[i]? = some w ∧ w.freed = false

open WinTree (Live)

theorem get_ok_iff {t : Tree} {i : Id} {w : Win} : get t i = .ok w ↔ Live t i w := by
  unfold get Live
  cases t.wins[i]? with
  | none => simp
  | some w' =>
    by_cases hf : w'.freed = true
    · simp [hf]; intro h'; subst h'; simp [hf]
    · simp [hf]; intro h'; subst h'; simpa using hf

theorem Live.get {t : Tree} {i : Id} {w : Win} (h : Live t i w) : get t i = .ok w := get_ok_iff.2 h

theorem lt_size_of_some {t : Tree} {x : Nat} {w : Win} (h : t.wins[x]? = some w) : x < t.wins.size :=
  (Array.getElem?_eq_some_iff.1 h).1

theorem Live.lt {t : Tree} {i : Id} {w : Win} (h : Live t i w) : i < t.wins.size :=
  lt_size_of_some h.1

theorem Live.unique {t : Tree} {i : Id} {a b : Win} (h1 : Live t i a) (h2 : Live t i b) : a = b :=
  Option.some.inj (h1.1.symm.trans h2.1)

theorem Live.of_wins {t t' : Tree} (h : t'.wins = t.wins) {i : Id} {w : Win} (hl : Live t i w) :
    Live t' i w := by
  unfold Live; rw [h]; exact hl

theorem set_root (t : Tree) (i : Id) (w : Win) : (set t i w).root = t.root := rfl

theorem set_size (t : Tree) (i : Id) (w : Win) : (set t i w).wins.size = t.wins.size := by
  simp [set]

theorem set_wins (t : Tree) (i j : Id) (w : Win) :
    (set t i w).wins[j]? = if i = j then (if i < t.wins.size then some w else none) else t.wins[j]? := by
  simp [set, Array.getElem?_setIfInBounds]

theorem set_wins_ne {t : Tree} {i j : Id} (w : Win) (h : i ≠ j) : (set t i w).wins[j]? = t.wins[j]? := by
  rw [set_wins, if_neg h]

theorem set_wins_of {t : Tree} {i : Id} {w : Win} (hw : t.wins[i]? = some w) (w' : Win) (j : Id) :
    (set t i w').wins[j]? = if i = j then some w' else t.wins[j]? := by
  rw [set_wins, if_pos (lt_size_of_some hw)]

theorem set_wins_self {t : Tree} {i : Id} {w : Win} (hw : t.wins[i]? = some w) (w' : Win) :
    (set t i w').wins[i]? = some w' := by
  rw [set_wins_of hw, if_pos rfl]

theorem set_self {t : Tree} {i : Id} {w : Win} (hw : t.wins[i]? = some w) : set t i w = t := by
  have hi := lt_size_of_some hw
  cases t with
  | mk wins root =>
    simp only [set, Tree.mk.injEq, and_true]
    apply Array.ext_getElem?
    intro j
    rw [Array.getElem?_setIfInBounds]
    by_cases hij : i = j
    · subst hij; simp only [if_true, hi]; exact hw.symm
    · simp only [hij, if_false]

theorem set_set_same (t : Tree) (i : Id) (a b : Win) : set (set t i a) i b = set t i b := by
  simp only [set, Array.setIfInBounds_setIfInBounds]

theorem set_comm {t : Tree} {i j : Id} (a b : Win) (h : i ≠ j) : set (set t i a) j b = set (set t j b) i a := by
  simp only [set, Array.setIfInBounds_comm a b h]

theorem set_set_wins {t : Tree} {a b : Nat} {wa0 wb0 : Win} (ha : t.wins[a]? = some wa0) (hb : t.wins[b]? = some wb0)
    (hab : a ≠ b) (wa wb : Win) (j : Nat) :
    (set (set t a wa) b wb).wins[j]? = if b = j then some wb else if a = j then some wa else t.wins[j]? := by
  have hb' : (set t a wa).wins[b]? = some wb0 := by rw [set_wins_ne _ hab]; exact hb
  rw [set_wins_of hb', set_wins_of ha]

theorem get_set_ne {t : Tree} {i j : Id} (w : Win) (h : i ≠ j) : get (set t i w) j = get t j := by
  unfold get; rw [set_wins_ne w h]

theorem push_wins (t : Tree) (w : Win) (j : Nat) :
    ({ t with wins := t.wins.push w } : Tree).wins[j]? = if j = t.wins.size then some w else t.wins[j]? := by
  rw [Array.getElem?_push]

theorem modify_ok_iff {t t' : Tree} {i : Id} {f : Win → Win} :
    modify t i f = .ok t' ↔ ∃ w, Live t i w ∧ t' = set t i (f w) := by
  unfold modify
  rw [bind_ok_iff]
  exact exists_congr fun w => and_congr get_ok_iff (pure_ok_iff.trans eq_comm)

theorem Live.modify {t : Tree} {i : Id} {w : Win} (h : Live t i w) (f : Win → Win) :
    modify t i f = .ok (set t i (f w)) := modify_ok_iff.2 ⟨w, h, rfl⟩

/-- `t` is the store before, `t'` the store after; `R i w w'` relates the window `w` in slot `i` before to `w'` after. -/
def Lift (R : Nat → Win → Win → Prop) (t t' : Tree) : Prop :=
  t'.wins.size = t.wins.size ∧ ∀ (i : Nat) (w : Win), t.wins[i]? = some w → ∃ w', t'.wins[i]? = some w' ∧ R i w w'

section lift
variable {R R' R'' : Nat → Win → Win → Prop}

theorem Lift.of_wins {t t' : Tree} (hR : ∀ i w, R i w w) (h : t'.wins = t.wins) : Lift R t t' :=
  ⟨by rw [h], fun i w hw => ⟨w, by rw [h]; exact hw, hR i w⟩⟩

theorem Lift.refl (hR : ∀ i w, R i w w) (t : Tree) : Lift R t t := .of_wins hR rfl

theorem Lift.trans {a b c : Tree} (hR : ∀ i x y z, R i x y → R' i y z → R'' i x z) (h1 : Lift R a b)
    (h2 : Lift R' b c) :
    Lift R'' a c := by
  refine ⟨h2.1.trans h1.1, fun i w hw => ?_⟩
  obtain ⟨w1, hw1, r1⟩ := h1.2 i w hw
  obtain ⟨w2, hw2, r2⟩ := h2.2 i w1 hw1
  exact ⟨w2, hw2, hR i w w1 w2 r1 r2⟩

theorem Lift.mono {t t' : Tree} (hR : ∀ i x y, R i x y → R' i x y) (h : Lift R t t') : Lift R' t t' :=
  ⟨h.1, fun i w hw => (h.2 i w hw).imp fun _ h' => ⟨h'.1, hR i _ _ h'.2⟩⟩

theorem Lift.back {t t' : Tree} (h : Lift R t t') {i : Nat} {w' : Win} (hw' : t'.wins[i]? = some w') :
    ∃ w, t.wins[i]? = some w ∧ R i w w' := by
  have hi : i < t.wins.size := h.1 ▸ lt_size_of_some hw'
  obtain ⟨w'', h1, h2⟩ := h.2 i _ (Array.getElem?_eq_getElem hi)
  rw [hw'] at h1; cases h1
  exact ⟨_, Array.getElem?_eq_getElem hi, h2⟩

theorem Lift.set (hR : ∀ i w, R i w w) {t : Tree} {i : Nat} {w w' : Win} (hw : t.wins[i]? = some w) (h : R i w w') :
    Lift R t (set t i w') := by
  refine ⟨set_size _ _ _, fun j x hx => ?_⟩
  by_cases hij : i = j
  · subst hij
    rw [hw] at hx; cases hx
    exact ⟨w', set_wins_self hw w', h⟩
  · exact ⟨x, by rw [set_wins_ne w' hij]; exact hx, hR j x⟩

theorem Lift.live (hf : ∀ i x y, R i x y → y.freed = x.freed) {t t' : Tree} (h : Lift R t t') {i : Nat} {w : Win}
    (hl : Live t i w) : ∃ w', Live t' i w' ∧ R i w w' := by
  obtain ⟨w', h1, h2⟩ := h.2 i w hl.1
  exact ⟨w', ⟨h1, (hf i w w' h2).trans hl.2⟩, h2⟩

theorem Lift.live_back (hf : ∀ i x y, R i x y → y.freed = x.freed) {t t' : Tree} (h : Lift R t t') {i : Nat} {w' : Win}
    (hl : Live t' i w') : ∃ w, Live t i w ∧ R i w w' := by
  obtain ⟨w, h1, h2⟩ := h.back hl.1
  exact ⟨w, ⟨h1, (hf i w w' h2).symm.trans hl.2⟩, h2⟩

end lift

theorem map_eq_some {α β : Type} {f : α → β} {a b : Option α} (h : a.map f = b.map f) {w : α} (hb : b = some w) :
    ∃ w', a = some w' ∧ f w' = f w := by
  subst hb
  cases a with
  | none => cases h
  | some w' => exact ⟨w', rfl, Option.some.inj h⟩

theorem map_eq_none {α β : Type} {f : α → β} {a b : Option α} (h : a.map f = b.map f) (hb : b = none) : a = none := by
  subst hb
  cases a with
  | none => rfl
  | some w' => cases h

theorem map_eq_of_map_eq {α β γ : Type} {f : α → β} {g : α → γ} (π : β → γ) (hπ : ∀ a, g a = π (f a)) {a b : Option α}
    (h : a.map f = b.map f) : a.map g = b.map g := by
  have hg : g = π ∘ f := funext hπ
  rw [hg, ← Option.map_map, ← Option.map_map, h]

/-- Symmetric in the two stores; where it matters `t` is before and `t'` after, as for `Lift`. -/
def SameBy {α : Type} (g : Win → α) (t t' : Tree) : Prop := ∀ i : Nat, (t'.wins[i]?).map g = (t.wins[i]?).map g

section sameBy
variable {α β : Type} {g : Win → α}

theorem sameBy_refl (t : Tree) : SameBy g t t := fun _ => rfl
theorem sameBy_symm {t t' : Tree} (h : SameBy g t t') : SameBy g t' t := fun i => (h i).symm
theorem sameBy_trans {a b c : Tree} (h1 : SameBy g a b) (h2 : SameBy g b c) : SameBy g a c :=
  fun i => (h2 i).trans (h1 i)

theorem sameBy_of_wins {t t' : Tree} (h : t'.wins = t.wins) : SameBy g t t' := fun i => by rw [h]

theorem sameBy_set {t : Tree} {i : Nat} {w w' : Win} (hw : t.wins[i]? = some w) (hs : g w' = g w) :
    SameBy g t (set t i w') := by
  intro j
  rw [set_wins_of hw]
  by_cases hij : i = j
  · subst hij; rw [if_pos rfl, hw, Option.map_some, Option.map_some, hs]
  · rw [if_neg hij]

theorem sameBy_of {g' : Win → β} (f : α → β) (hf : ∀ w, g' w = f (g w)) {t t' : Tree} (h : SameBy g t t') :
    SameBy g' t t' :=
  fun i => map_eq_of_map_eq f hf (h i)

theorem sameBy_some {t t' : Tree} (h : SameBy g t t') {i : Nat} {w : Win} (hw : t.wins[i]? = some w) :
    ∃ w', t'.wins[i]? = some w' ∧ g w' = g w :=
  map_eq_some (h i) hw

theorem sameBy_none {t t' : Tree} (h : SameBy g t t') {i : Nat} (hw : t.wins[i]? = none) : t'.wins[i]? = none :=
  map_eq_none (h i) hw

theorem sameBy_size {t t' : Tree} (h : SameBy g t t') : t'.wins.size = t.wins.size := by
  apply Nat.le_antisymm
  · exact Array.getElem?_eq_none_iff.mp (sameBy_none h (Array.getElem?_eq_none_iff.mpr (Nat.le_refl _)))
  · exact Array.getElem?_eq_none_iff.mp (sameBy_none (sameBy_symm h) (Array.getElem?_eq_none_iff.mpr (Nat.le_refl _)))

theorem SameBy.lift {t t' : Tree} (h : SameBy g t t') : Lift (fun _ w w' => g w' = g w) t t' :=
  ⟨sameBy_size h, fun _ _ hw => sameBy_some h hw⟩

end sameBy

theorem findSome?_congr_mem {α β : Type} (f g : α → Option β) : ∀ (l : List α), (∀ a ∈ l, f a = g a) →
    l.findSome? f = l.findSome? g := by
  intro l
  induction l with
  | nil => intro _; rfl
  | cons a rest ih =>
    intro h
    rw [List.findSome?_cons, List.findSome?_cons, h a List.mem_cons_self]
    cases g a with
    | some b => rfl
    | none => exact ih fun x hx => h x (List.mem_cons_of_mem _ hx)

theorem erase_filter_ne (c : Id) (cs : List Id) :
    (cs.erase c).filter (fun x => decide (x ≠ c)) = cs.filter (fun x => decide (x ≠ c)) := by
  induction cs with
  | nil => rfl
  | cons a rest ih =>
    by_cases ha : a = c
    · subst ha; simp
    · have hne : (a == c) = false := by simpa using ha
      simp only [List.erase_cons, hne, Bool.false_eq_true, if_false, ne_eq, ha, not_false_eq_true, decide_true,
        List.filter_cons_of_pos]
      rw [← ih]

theorem listRemove_ok_iff {cs cs' : List Id} {w : Id} : listRemove cs w = .ok cs' ↔ w ∈ cs ∧ cs' = cs.erase w := by
  unfold listRemove
  by_cases h : w ∈ cs
  · simp [h, eq_comm]
  · simp [h]

theorem listRemove_of_mem {cs : List Id} {w : Id} (h : w ∈ cs) : listRemove cs w = .ok (cs.erase w) :=
  listRemove_ok_iff.2 ⟨h, rfl⟩

/-- The `filter` clause says that the other windows keep their order. -/
theorem listRaise_spec (cs : List Id) (w : Id) :
    (w ∈ cs ∧ ∃ cs', listRaise cs w = .ok cs' ∧ cs'.Perm cs ∧
        cs'.filter (fun x => decide (x ≠ w)) = cs.filter (fun x => decide (x ≠ w))) ∨
    (w ∉ cs ∧ ∃ m, listRaise cs w = .ub m) := by
  induction cs, w using listRaise.induct with
  | case1 w => exact .inr ⟨nofun, _, rfl⟩
  | case2 w => exact .inl ⟨List.mem_cons_self, _, by simp [listRaise], .refl _, rfl⟩
  | case3 x w hx => exact .inr ⟨by simpa using Ne.symm hx, _, by rw [listRaise, if_neg hx]⟩
  | case4 y rest w => exact .inl ⟨List.mem_cons_self, _, by simp [listRaise], .refl _, rfl⟩
  | case5 x rest w hx =>
    refine .inl ⟨by simp, _, by simp [listRaise, hx], .swap _ _ _, ?_⟩
    simp [hx]
  | case6 x y rest w hx hy ih =>
    have hl : listRaise (x :: y :: rest) w = (listRaise (y :: rest) w >>= fun r => pure (x :: r)) := by
      simp only [listRaise, if_neg hx, if_neg hy]
    rcases ih with ⟨hm, cs', h1, h2, h3⟩ | ⟨hm, m, h1⟩
    · refine .inl ⟨List.mem_cons_of_mem _ hm, x :: cs', by rw [hl, h1]; rfl, h2.cons x, ?_⟩
      simp only [List.filter_cons, h3]
    · refine .inr ⟨?_, m, by rw [hl, h1]; rfl⟩
      intro hc
      rcases List.mem_cons.1 hc with h | h
      · exact hx h.symm
      · exact hm h

theorem listRaise_of_mem {cs : List Id} {w : Id} (h : w ∈ cs) : ∃ cs', listRaise cs w = .ok cs' ∧ cs'.Perm cs := by
  rcases listRaise_spec cs w with ⟨_, cs', h1, h2, _⟩ | ⟨hn, _⟩
  · exact ⟨cs', h1, h2⟩
  · exact absurd h hn

theorem listRaise_ok {cs cs' : List Id} {w : Id} (h : listRaise cs w = .ok cs') :
    w ∈ cs ∧ cs'.Perm cs ∧ cs'.filter (fun x => decide (x ≠ w)) = cs.filter (fun x => decide (x ≠ w)) := by
  rcases listRaise_spec cs w with ⟨hm, cs'', h1, h2, h3⟩ | ⟨_, m, h1⟩
  · rw [h1] at h; cases h; exact ⟨hm, h2, h3⟩
  · rw [h1] at h; cases h

theorem listLower_spec (cs : List Id) (w : Id) :
    (listLower cs w).Perm cs ∧
    (listLower cs w).filter (fun x => decide (x ≠ w)) = cs.filter (fun x => decide (x ≠ w)) ∧
    (w ∉ cs → listLower cs w = cs) := by
  induction cs, w using listLower.induct with
  | case1 w => exact ⟨.refl _, rfl, fun _ => rfl⟩
  | case2 x w => exact ⟨.refl _, rfl, fun _ => rfl⟩
  | case3 y rest w =>
    refine ⟨by simp only [listLower, if_true]; exact .swap _ _ _, ?_, fun h => absurd List.mem_cons_self h⟩
    by_cases hy : y = w <;> simp [listLower, hy]
  | case4 x y rest w hx ih =>
    simp only [listLower, if_neg hx]
    refine ⟨ih.1.cons x, by simp only [List.filter_cons, ih.2.1], fun h => ?_⟩
    rw [ih.2.2 (fun hc => h (List.mem_cons_of_mem _ hc))]

/-- The four requests of the public API that reorder a sibling list (raise, lower, to front, to back).  The engines'
    own spellings of it (`WinFlush.isRestack`, `Life.isRestack` in Model/Life.lean, `WinInput.Restack`) are equal to it by
    cases. -/
def _root_.Tickit.WinTree.Change.isRestack : Change → Bool
  | .raise | .raiseFront | .lower | .lowerBack => true
  | _ => false

/-- The parent's child list after `_do_hierarchy_change`. -/
def relist (ch : Change) (cs : List Id) (w : Id) : Res (List Id) :=
  match ch with
  | .insertFirst => .ok (w :: cs)
  | .insertLast => .ok (cs ++ [w])
  | .remove => listRemove cs w
  | .raise => listRaise cs w
  | .raiseFront => listRemove cs w >>= fun cs => pure (w :: cs)
  | .lower => .ok (listLower cs w)
  | .lowerBack => listRemove cs w >>= fun cs => pure (cs ++ [w])

theorem relist_of_mem {ch : Change} (hk : ch.isRestack = true) {cs : List Id} {w : Id} (h : w ∈ cs) :
    ∃ cs', relist ch cs w = .ok cs' ∧ cs'.Perm cs := by
  cases ch with
  | insertFirst => cases hk
  | insertLast => cases hk
  | remove => cases hk
  | raise => exact listRaise_of_mem h
  | raiseFront => exact ⟨_, by simp only [relist, listRemove_of_mem h]; rfl, (List.perm_cons_erase h).symm⟩
  | lower => exact ⟨_, rfl, (listLower_spec cs w).1⟩
  | lowerBack =>
    exact ⟨_, by simp only [relist, listRemove_of_mem h]; rfl, List.perm_append_comm.trans (List.perm_cons_erase h).symm⟩

/-- The last clause: only LOWER accepts an unlisted window, and then does nothing. -/
theorem relist_ok {ch : Change} (hk : ch.isRestack = true) {cs cs' : List Id} {w : Id}
    (h : relist ch cs w = .ok cs') :
    cs'.Perm cs ∧ cs'.filter (fun x => decide (x ≠ w)) = cs.filter (fun x => decide (x ≠ w)) ∧
      (w ∈ cs ∨ cs' = cs) := by
  cases ch with
  | insertFirst => cases hk
  | insertLast => cases hk
  | remove => cases hk
  | raise => obtain ⟨h1, h2, h3⟩ := listRaise_ok h; exact ⟨h2, h3, .inl h1⟩
  | raiseFront =>
    obtain ⟨cs1, h1, h2⟩ := bind_ok_iff.1 h
    obtain ⟨hm, rfl⟩ := listRemove_ok_iff.1 h1
    cases h2
    exact ⟨(List.perm_cons_erase hm).symm, by rw [List.filter_cons_of_neg (by simp), erase_filter_ne], .inl hm⟩
  | lower =>
    cases h
    obtain ⟨h1, h2, h3⟩ := listLower_spec cs w
    exact ⟨h1, h2, (Classical.em (w ∈ cs)).imp_right h3⟩
  | lowerBack =>
    obtain ⟨cs1, h1, h2⟩ := bind_ok_iff.1 h
    obtain ⟨hm, rfl⟩ := listRemove_ok_iff.1 h1
    cases h2
    refine ⟨List.perm_append_comm.trans (List.perm_cons_erase hm).symm, ?_, .inl hm⟩
    rw [List.filter_append, erase_filter_ne, List.filter_cons_of_neg (by simp), List.filter_nil, List.append_nil]

/-- A child list with a new entry, at the back (`TICKIT_WINDOW_LOWEST`) or in front.  (`Life.inserted` is something else:
    the life engine's store after an insertion.) -/
def inserted (lowest : Bool) (cs : List Id) (w : Id) : List Id := if lowest then cs ++ [w] else w :: cs

theorem mem_inserted {lowest : Bool} {cs : List Id} {w c : Id} : c ∈ inserted lowest cs w ↔ c = w ∨ c ∈ cs := by
  cases lowest
  · exact List.mem_cons
  · simp only [inserted, if_true, List.mem_append, List.mem_singleton]; exact Or.comm

theorem nodup_inserted {lowest : Bool} {cs : List Id} {w : Id} (hw : w ∉ cs) (hnd : cs.Nodup) :
    (inserted lowest cs w).Nodup := by
  cases lowest
  · exact List.nodup_cons.2 ⟨hw, hnd⟩
  · exact List.nodup_append.2 ⟨hnd, List.nodup_cons.2 ⟨List.not_mem_nil, List.nodup_nil⟩, fun a ha b hb => by
      simp only [List.mem_singleton] at hb; subst hb; intro e; subst e; exact hw ha⟩

/-- Windows are numbered in creation order and a parent exists when its child is created: the parent of a live window
    is a live window with a smaller number. -/
def Upward (t : Tree) : Prop :=
  ∀ (c : Nat) (cw : Win) (p : Nat), Live t c cw → cw.parent = some p → p < c ∧ ∃ pw, Live t p pw

/-- Induction along the parent chain of a live window with a budget larger than the window's number: the parent is a
    live, older window, so the budget left for it is large enough again. -/
theorem chain_induction {t : Tree} (hup : Upward t) {P : Nat → Nat → Prop}
    (step : ∀ (w : Nat) (ww : Win) (f : Nat), Live t w ww →
      (∀ p : Nat, ww.parent = some p → p < w ∧ P p f) → P w (f + 1)) :
    ∀ (w : Nat) (ww : Win), Live t w ww → ∀ fuel, w < fuel → P w fuel := by
  intro w
  induction w using Nat.strongRecOn with
  | ind w ih =>
    intro ww hl fuel hf
    cases fuel with
    | zero => omega
    | succ f =>
      refine step w ww f hl fun p hp => ?_
      obtain ⟨hlt, pw, hpl⟩ := hup w ww p hl hp
      exact ⟨hlt, ih p hlt pw hpl f (by omega)⟩

/-- What the tree invariants of the four engines have in common beyond what can be checked on one window; the engines
    add their per-window clauses (duplicate-free lists, the focus pointer, closed windows) and those about the root
    record. -/
structure Linked (t : Tree) : Prop where
  parent : ∀ (c : Nat) (cw : Win), Live t c cw → ∀ (p : Nat), cw.parent = some p →
    p < c ∧ ∃ pw, Live t p pw ∧ c ∈ pw.children
  child : ∀ (p : Nat) (pw : Win), Live t p pw → ∀ (c : Nat), c ∈ pw.children →
    ∃ cw, Live t c cw ∧ cw.parent = some p

theorem Linked.upward {t : Tree} (h : Linked t) : Upward t :=
  fun c cw p hc hp => (h.parent c cw hc p hp).imp_right fun ⟨pw, hpw, _⟩ => ⟨pw, hpw⟩

theorem Linked.child_lt {t : Tree} (h : Linked t) {p c : Nat} {pw : Win} (hp : Live t p pw)
    (hc : c ∈ pw.children) : p < c := by
  obtain ⟨cw, hcw, hcp⟩ := h.child p pw hp c hc
  exact (h.parent c cw hcw p hcp).1

/-- `w` before, `w'` after a write that keeps the links. -/
structure SameLinks (w w' : Win) : Prop where
  parent : w'.parent = w.parent
  children : ∀ c, c ∈ w'.children ↔ c ∈ w.children
  freed : w'.freed = w.freed

theorem SameLinks.refl (w : Win) : SameLinks w w := ⟨rfl, fun _ => Iff.rfl, rfl⟩

/-- Any number of writes that keep the links keep the link invariant. -/
theorem Linked.lift {R : Nat → Win → Win → Prop} (hR : ∀ i w w', R i w w' → SameLinks w w') {t t' : Tree}
    (h : Lift R t t') (hl : Linked t) : Linked t' where
  parent := by
    intro c cw' hc p hp
    obtain ⟨cw, hcw, r⟩ := h.live_back (fun i x y r => (hR i x y r).freed) hc
    obtain ⟨hlt, pw, hpw, hm⟩ := hl.parent c cw hcw p ((hR _ _ _ r).parent ▸ hp)
    obtain ⟨pw', hpw', r'⟩ := h.live (fun i x y r => (hR i x y r).freed) hpw
    exact ⟨hlt, pw', hpw', ((hR _ _ _ r').children c).2 hm⟩
  child := by
    intro p pw' hp c hc
    obtain ⟨pw, hpw, r⟩ := h.live_back (fun i x y r => (hR i x y r).freed) hp
    obtain ⟨cw, hcw, hcp⟩ := hl.child p pw hpw c (((hR _ _ _ r).children c).1 hc)
    obtain ⟨cw', hcw', r'⟩ := h.live (fun i x y r => (hR i x y r).freed) hcw
    exact ⟨cw', hcw', (hR _ _ _ r').parent.trans hcp⟩

theorem Linked.set {t : Tree} (hl : Linked t) {i : Nat} {w w' : Win} (hw : t.wins[i]? = some w) (h : SameLinks w w') :
    Linked (set t i w') :=
  hl.lift (R := fun _ => SameLinks) (fun _ _ _ r => r) (Lift.set (fun _ => SameLinks.refl) hw h)

theorem Linked.of_wins {t t' : Tree} (hl : Linked t) (h : t'.wins = t.wins) : Linked t' :=
  hl.lift (R := fun _ => SameLinks) (fun _ _ _ r => r) (Lift.of_wins (fun _ => SameLinks.refl) h)

/-- `tickit_window_destroy`'s last write: a window without parent and without children is freed. -/
theorem Linked.free {t : Tree} (hl : Linked t) {i : Nat} {w : Win} (hw : Live t i w) (hp : w.parent = none)
    (hc : w.children = []) : Linked (WinTree.set t i { w with freed := true }) where
  parent := by
    intro c cw hcl p hcp
    have hci : i ≠ c := fun e => by
      subst e
      have := hcl.1; rw [set_wins_self hw.1] at this; cases this
      exact nomatch hcl.2
    have hcl0 : Live t c cw := ⟨by rw [← set_wins_ne _ hci]; exact hcl.1, hcl.2⟩
    obtain ⟨hlt, pw, hpw, hm⟩ := hl.parent c cw hcl0 p hcp
    have hpi : i ≠ p := fun e => by
      subst e; rw [hw.unique hpw, ] at hc; rw [hc] at hm; cases hm
    exact ⟨hlt, pw, ⟨by rw [set_wins_ne _ hpi]; exact hpw.1, hpw.2⟩, hm⟩
  child := by
    intro p pw hpl c hm
    have hpi : i ≠ p := fun e => by
      subst e
      have := hpl.1; rw [set_wins_self hw.1] at this; cases this
      exact nomatch hpl.2
    have hpl0 : Live t p pw := ⟨by rw [← set_wins_ne _ hpi]; exact hpl.1, hpl.2⟩
    obtain ⟨cw, hcw, hcp⟩ := hl.child p pw hpl0 c hm
    have hci : i ≠ c := fun e => by
      subst e; rw [hw.unique hcw] at hp; rw [hp] at hcp; cases hcp
    exact ⟨cw, ⟨by rw [set_wins_ne _ hci]; exact hcw.1, hcw.2⟩, hcp⟩

/-- The parent's record after REMOVE (the life engine's fixed `Life.unlinkedParent pw w` is this with
    `cs := pw.children.erase w`). -/
def unlinkParent (pw : Win) (w : Id) (cs : List Id) : Win :=
  { pw with children := cs, focusedChild := if pw.focusedChild = some w then none else pw.focusedChild }

/-- REMOVE: `w` leaves the child list of its parent `p` and loses its parent pointer.  That `p` lists `w` once
    (`hnd`) is the engines' per-window clause: `erase` removes one occurrence. -/
theorem Linked.unlink {t : Tree} (hl : Linked t) {p w : Nat} {pw ww : Win} (hw : Live t w ww)
    (hp : ww.parent = some p)
    (hpw : Live t p pw) (hnd : pw.children.Nodup) :
    Linked (WinTree.set (WinTree.set t p (unlinkParent pw w (pw.children.erase w))) w { ww with parent := none }) := by
  have hlt : p < w := (hl.parent w ww hw p hp).1
  have hne : p ≠ w := Nat.ne_of_lt hlt
  obtain ⟨t2, ht2⟩ : ∃ t2, t2 =
      WinTree.set (WinTree.set t p (unlinkParent pw w (pw.children.erase w))) w { ww with parent := none } := ⟨_, rfl⟩
  rw [← ht2]
  have look : ∀ j, t2.wins[j]? = if w = j then some { ww with parent := none }
      else if p = j then some (unlinkParent pw w (pw.children.erase w)) else t.wins[j]? := by
    rw [ht2]; exact set_set_wins hpw.1 hw.1 hne _ _
  have cases3 : ∀ (j : Nat) (x : Win), Live t2 j x → (j = w ∧ x = { ww with parent := none }) ∨
      (j = p ∧ x = unlinkParent pw w (pw.children.erase w)) ∨ (j ≠ w ∧ j ≠ p ∧ Live t j x) := by
    intro j x hx
    have h1 := hx.1
    rw [look] at h1
    by_cases hwj : w = j
    · rw [if_pos hwj] at h1; cases h1; exact .inl ⟨hwj.symm, rfl⟩
    · rw [if_neg hwj] at h1
      by_cases hpj : p = j
      · rw [if_pos hpj] at h1; cases h1; exact .inr (.inl ⟨hpj.symm, rfl⟩)
      · rw [if_neg hpj] at h1; exact .inr (.inr ⟨fun e => hwj e.symm, fun e => hpj e.symm, h1, hx.2⟩)
  have liveW : Live t2 w { ww with parent := none } := ⟨by rw [look, if_pos rfl], hw.2⟩
  have liveP : Live t2 p (unlinkParent pw w (pw.children.erase w)) :=
    ⟨by rw [look, if_neg (Ne.symm hne), if_pos rfl], hpw.2⟩
  have liveO : ∀ {j : Nat} {x : Win}, j ≠ w → j ≠ p → Live t j x → Live t2 j x :=
      fun {j x} h1 h2 hx =>
    ⟨by rw [look, if_neg (Ne.symm h1), if_neg (Ne.symm h2)]; exact hx.1, hx.2⟩
  constructor
  · intro c cw hc q hq
    rcases cases3 c cw hc with ⟨rfl, rfl⟩ | ⟨rfl, rfl⟩ | ⟨hcw, hcp, hc0⟩
    · cases hq
    · obtain ⟨hqc, qw, hqw, hm⟩ := hl.parent c pw hpw q hq
      exact ⟨hqc, qw, liveO (by omega) (by omega) hqw, hm⟩
    · obtain ⟨hqc, qw, hqw, hm⟩ := hl.parent c cw hc0 q hq
      refine ⟨hqc, ?_⟩
      by_cases hqp : q = p
      · subst hqp; cases hqw.unique hpw
        exact ⟨_, liveP, (List.mem_erase_of_ne hcw).2 hm⟩
      · by_cases hqw' : q = w
        · subst hqw'; cases hqw.unique hw
          exact ⟨_, liveW, hm⟩
        · exact ⟨qw, liveO hqw' hqp hqw, hm⟩
  · intro q qw hq c hm
    rcases cases3 q qw hq with ⟨rfl, rfl⟩ | ⟨rfl, rfl⟩ | ⟨hqw, hqp, hq0⟩
    · obtain ⟨cw, hcw, hcp⟩ := hl.child q ww hw c hm
      have h1 := (hl.parent c cw hcw q hcp).1
      exact ⟨cw, liveO (by omega) (by omega) hcw, hcp⟩
    · have hm0 : c ∈ pw.children := List.mem_of_mem_erase hm
      have hcw' : c ≠ w := fun e => by subst e; exact (List.Nodup.mem_erase_iff hnd).1 hm |>.1 rfl
      obtain ⟨cw, hcw, hcp⟩ := hl.child q pw hpw c hm0
      have h1 := (hl.parent c cw hcw q hcp).1
      exact ⟨cw, liveO hcw' (by omega) hcw, hcp⟩
    · obtain ⟨cw, hcw, hcp⟩ := hl.child q qw hq0 c hm
      by_cases hcw' : c = w
      · subst hcw'; cases hcw.unique hw
        rw [hp] at hcp; exact absurd (Option.some.inj hcp).symm hqp
      · by_cases hcp' : c = p
        · subst hcp'; cases hcw.unique hpw
          exact ⟨_, liveP, hcp⟩
        · exact ⟨cw, liveO hcw' hcp' hcw, hcp⟩

/-- `tickit_window_new`: a new window, without children, is pushed and entered in the child list of its parent `p`
    (`cs` is `id :: pw.children` or `pw.children ++ [id]`). -/
theorem Linked.insert {t : Tree} (hl : Linked t) {p : Nat} {pw : Win} (hp : Live t p pw) {w : Win}
    (hwp : w.parent = some p) (hwc : w.children = []) (hwf : w.freed = false) {cs : List Nat}
    (hcs : ∀ c, c ∈ cs ↔ c = t.wins.size ∨ c ∈ pw.children) :
    Linked (WinTree.set { t with wins := t.wins.push w } p { pw with children := cs }) := by
  have hlt : p < t.wins.size := hp.lt
  obtain ⟨t2, ht2⟩ : ∃ t2, t2 = WinTree.set { t with wins := t.wins.push w } p { pw with children := cs } :=
    ⟨_, rfl⟩
  rw [← ht2]
  have look : ∀ j, t2.wins[j]? = if p = j then some { pw with children := cs }
      else if j = t.wins.size then some w else t.wins[j]? := by
    intro j
    have hp1 : ({ t with wins := t.wins.push w } : Tree).wins[p]? = some pw := by
      rw [push_wins, if_neg (Nat.ne_of_lt hlt)]; exact hp.1
    rw [ht2, set_wins_of hp1, push_wins]
  have cases3 : ∀ (j : Nat) (x : Win), Live t2 j x → (j = p ∧ x = { pw with children := cs }) ∨
      (j = t.wins.size ∧ x = w) ∨ (j ≠ p ∧ Live t j x) := by
    intro j x hx
    have h1 := hx.1
    rw [look] at h1
    by_cases hpj : p = j
    · rw [if_pos hpj] at h1; cases h1; exact .inl ⟨hpj.symm, rfl⟩
    · rw [if_neg hpj] at h1
      by_cases hjs : j = t.wins.size
      · rw [if_pos hjs] at h1; cases h1; exact .inr (.inl ⟨hjs, rfl⟩)
      · rw [if_neg hjs] at h1; exact .inr (.inr ⟨fun e => hpj e.symm, h1, hx.2⟩)
  have liveP : Live t2 p { pw with children := cs } := ⟨by rw [look, if_pos rfl], hp.2⟩
  have liveN : Live t2 t.wins.size w :=
    ⟨by rw [look, if_neg (Nat.ne_of_lt hlt), if_pos rfl], hwf⟩
  have liveO : ∀ {j : Nat} {x : Win}, j ≠ p → Live t j x → Live t2 j x := fun {j x} h1 hx =>
    ⟨by rw [look, if_neg (Ne.symm h1), if_neg (Nat.ne_of_lt hx.lt)]; exact hx.1, hx.2⟩
  constructor
  · intro c cw hc q hq
    rcases cases3 c cw hc with ⟨rfl, rfl⟩ | ⟨rfl, rfl⟩ | ⟨hcp, hc0⟩
    · obtain ⟨hqc, qw, hqw, hm⟩ := hl.parent c pw hp q hq
      exact ⟨hqc, qw, liveO (by omega) hqw, hm⟩
    · rw [hwp] at hq; cases hq
      exact ⟨hlt, _, liveP, (hcs _).2 (.inl rfl)⟩
    · obtain ⟨hqc, qw, hqw, hm⟩ := hl.parent c cw hc0 q hq
      refine ⟨hqc, ?_⟩
      by_cases hqp : q = p
      · subst hqp; cases hqw.unique hp
        exact ⟨_, liveP, (hcs c).2 (.inr hm)⟩
      · exact ⟨qw, liveO hqp hqw, hm⟩
  · intro q qw hq c hm
    rcases cases3 q qw hq with ⟨rfl, rfl⟩ | ⟨rfl, rfl⟩ | ⟨hqp, hq0⟩
    · rcases (hcs c).1 hm with rfl | hm0
      · exact ⟨w, liveN, hwp⟩
      · obtain ⟨cw, hcw, hcp⟩ := hl.child q pw hp c hm0
        have h1 := (hl.parent c cw hcw q hcp).1
        exact ⟨cw, liveO (by omega) hcw, hcp⟩
    · rw [hwc] at hm; cases hm
    · obtain ⟨cw, hcw, hcp⟩ := hl.child q qw hq0 c hm
      by_cases hcp' : c = p
      · subst hcp'; cases hcw.unique hp
        exact ⟨_, liveP, hcp⟩
      · exact ⟨cw, liveO hcp' hcw, hcp⟩

end WinTree
end Tickit
