import Tickit.Proof.RectSetGeom
/-
  What holds of the operations of rectset.c (C05) whatever the shape of the array, its members being non-empty
  at most: what `scan` decides (`ScanSpec`), induction over the runs of `add`/`addMany` (`add_addMany_induct`) and over
  histories (`runOps_induct`), the region each operation covers, `contains` answering "yes" and returning, `intersects`.
-/
namespace Tickit
namespace RectSet
open Rect

theorem covered_nil (l c : Int) : ¬ Covered [] l c := by
  unfold Covered; simp

theorem covered_cons (r : Rect) (s : List Rect) (l c : Int) :
    Covered (r :: s) l c ↔ r.Mem l c ∨ Covered s l c := by
  unfold Covered; simp

theorem covered_append (s t : List Rect) (l c : Int) :
    Covered (s ++ t) l c ↔ Covered s l c ∨ Covered t l c := by
  simp only [Covered, List.mem_append, or_and_right, exists_or]

theorem mem_insertRect (s : List Rect) (r x : Rect) :
    x ∈ insertRect s r ↔ x = r ∨ x ∈ s := by
  induction s with
  | nil => simp [insertRect]
  | cons y ys ih =>
    unfold insertRect
    split
    · simp
    · simp only [List.mem_cons, ih, or_left_comm]

theorem length_insertRect (s : List Rect) (r : Rect) : (insertRect s r).length = s.length + 1 := by
  induction s with
  | nil => rfl
  | cons y ys ih =>
    unfold insertRect
    split
    · rfl
    · rw [List.length_cons, ih, List.length_cons]

theorem add_nil (fuel : Nat) (r : Rect) : add (fuel + 1) [] r = some [r] := by
  unfold add scan
  rfl

theorem forall_mem_insertRect {P : Rect → Prop} (s : List Rect) (r : Rect) :
    (∀ x ∈ insertRect s r, P x) ↔ P r ∧ ∀ x ∈ s, P x := by
  simp only [mem_insertRect, forall_eq_or_imp]

theorem covered_insertRect (s : List Rect) (r : Rect) (l c : Int) :
    Covered (insertRect s r) l c ↔ Covered s l c ∨ r.Mem l c := by
  simp only [Covered, mem_insertRect, or_and_right, exists_or, exists_eq_left]
  exact or_comm

theorem mem_or_mem_eraseIdx {s : List Rect} {i : Nat} {r x : Rect} (hi : s[i]? = some r) (hx : x ∈ s) :
    x = r ∨ x ∈ s.eraseIdx i := by
  obtain ⟨j, hj⟩ := List.mem_iff_getElem?.1 hx
  by_cases hji : j = i
  · subst hji; rw [hi] at hj; injection hj with hj; exact Or.inl hj.symm
  · exact Or.inr (List.mem_eraseIdx_iff_getElem?.2 ⟨j, hji, hj⟩)

theorem covered_eraseIdx (s : List Rect) (i : Nat) (r : Rect) (h : s[i]? = some r) (l c : Int) :
    Covered s l c ↔ Covered (s.eraseIdx i) l c ∨ r.Mem l c := by
  constructor
  · rintro ⟨x, hx, hm⟩
    rcases mem_or_mem_eraseIdx h hx with rfl | hx
    · exact Or.inr hm
    · exact Or.inl ⟨x, hx, hm⟩
  · rintro (⟨x, hx, hm⟩ | hm)
    · exact ⟨x, List.mem_of_mem_eraseIdx hx, hm⟩
    · exact ⟨r, List.mem_of_getElem? h, hm⟩

/-- What the scan has found out when it returns a verdict; the head of `s` has index `i0`. -/
def ScanSpec (cur : Rect) (s : List Rect) (i0 : Nat) : Scan → Prop
  | .insert => True
  | .covered => ∃ r ∈ s, r.contains cur = true
  | .stretch i g => ∃ r, (i0 ≤ i ∧ s[i - i0]? = some r) ∧ Near cur r ∧ Aligned cur r ∧ g = grow r cur
  | .split i r => (i0 ≤ i ∧ s[i - i0]? = some r) ∧ Near cur r ∧ cur.top < r.bottom ∧ r.top < cur.bottom

theorem scanSpec_cons {cur x : Rect} {rest : List Rect} {i0 : Nat} {v : Scan}
    (h : ScanSpec cur rest (i0 + 1) v) : ScanSpec cur (x :: rest) i0 v := by
  have shift : ∀ {i r}, i0 + 1 ≤ i ∧ rest[i - (i0 + 1)]? = some r →
      i0 ≤ i ∧ (x :: rest)[i - i0]? = some r := by
    rintro i r ⟨h1, h2⟩
    rw [show i - i0 = (i - (i0 + 1)) + 1 by omega]
    exact ⟨by omega, h2⟩
  cases v with
  | insert => trivial
  | covered => obtain ⟨r, hr, hc⟩ := h; exact ⟨r, List.mem_cons_of_mem x hr, hc⟩
  | stretch i g => obtain ⟨r, hi, h⟩ := h; exact ⟨r, shift hi, h⟩
  | split i r => exact ⟨shift h.1, h.2⟩

theorem scan_spec (cur : Rect) (s : List Rect) (i0 : Nat) : ScanSpec cur s i0 (scan cur s i0) := by
  fun_induction scan cur s i0 with
  | case1 => trivial
  | case2 => trivial
  | case3 r rest i _ _ ih => exact scanSpec_cons ih
  | case4 r rest i _ _ hc => exact ⟨r, List.mem_cons_self, hc⟩
  | case5 r rest i hb hfar hc ha =>
    exact ⟨r, ⟨Nat.le_refl _, by simp⟩, near_of_scan hb hfar hc, ha, rfl⟩
  | case6 r rest i _ _ _ _ _ ih => exact scanSpec_cons ih
  | case7 r rest i hb hfar hc _ hadj =>
    exact ⟨⟨Nat.le_refl _, by simp⟩, near_of_scan hb hfar hc, by omega, by omega⟩

theorem scan_covered {cur : Rect} {s : List Rect} (h : scan cur s 0 = .covered) :
    ∃ r ∈ s, r.contains cur = true := by
  have := scan_spec cur s 0
  rwa [h] at this

theorem scan_stretch {cur : Rect} {s : List Rect} {i : Nat} {g : Rect} (h : scan cur s 0 = .stretch i g) :
    ∃ r, s[i]? = some r ∧ Near cur r ∧ Aligned cur r ∧ g = grow r cur := by
  have := scan_spec cur s 0
  rw [h] at this
  obtain ⟨r, hi, h⟩ := this
  exact ⟨r, hi.2, h⟩

theorem scan_split {cur : Rect} {s : List Rect} {i : Nat} {r : Rect} (h : scan cur s 0 = .split i r) :
    s[i]? = some r ∧ Near cur r ∧ cur.top < r.bottom ∧ r.top < cur.bottom := by
  have := scan_spec cur s 0
  rw [h] at this
  exact ⟨this.1.2, this.2⟩

/-- Induction over the runs of `add` (`P`) and `addMany` (`Q`): one case for each verdict of the scan, with what
    the scan has found out about the member it names, and the loop over the pieces. -/
theorem add_addMany_induct {P : List Rect → Rect → List Rect → Prop}
    {Q : List Rect → List Rect → List Rect → Prop}
    (insert : ∀ s cur, scan cur s 0 = .insert → P s cur (insertRect s cur))
    (covered : ∀ s cur r, r ∈ s → r.contains cur = true → P s cur s)
    (stretch : ∀ s cur i r s', s[i]? = some r → Near cur r → Aligned cur r →
      P (s.eraseIdx i) (grow r cur) s' → P s cur s')
    (split : ∀ s cur i r s', s[i]? = some r → Near cur r → cur.top < r.bottom ∧ r.top < cur.bottom →
      Q (s.eraseIdx i) (Rect.add r cur) s' → P s cur s')
    (nil : ∀ s, Q s [] s)
    (cons : ∀ s p ps s1 s', P s p s1 → Q s1 ps s' → Q s (p :: ps) s') (fuel : Nat) :
    (∀ s cur s', add fuel s cur = some s' → P s cur s') ∧
    (∀ s ps s', addMany fuel s ps = some s' → Q s ps s') := by
  induction fuel with
  | zero =>
    refine ⟨fun s cur s' h => by simp [add] at h, fun s ps s' h => ?_⟩
    cases ps with
    | nil => simp only [addMany, Option.some.injEq] at h; subst h; exact nil s
    | cons p ps => simp [addMany] at h
  | succ n ih =>
    refine ⟨fun s cur s' h => ?_, fun s ps s' h => ?_⟩
    · unfold add at h
      split at h
      · next hscan => cases h; exact insert s cur hscan
      · next hscan =>
        cases h
        obtain ⟨r, hr, hc⟩ := scan_covered hscan
        exact covered s cur r hr hc
      · next i g hscan =>
        obtain ⟨r, hri, hn, ha, rfl⟩ := scan_stretch hscan
        exact stretch s cur i r s' hri hn ha (ih.1 _ _ _ h)
      · next i r hscan =>
        obtain ⟨hri, hn, hrows⟩ := scan_split hscan
        exact split s cur i r s' hri hn hrows (ih.2 _ _ _ h)
    · cases ps with
      | nil => simp only [addMany, Option.some.injEq] at h; subst h; exact nil s
      | cons p ps =>
        unfold addMany at h
        split at h
        · cases h
        · next s1 hadd => exact cons s p ps s1 s' (ih.1 _ _ _ hadd) (ih.2 _ _ _ h)

theorem add_addMany_region (fuel : Nat) :
    (∀ s cur s', add fuel s cur = some s' → cur.Nonempty → (∀ r ∈ s, r.Nonempty) →
        (∀ r ∈ s', r.Nonempty) ∧ ∀ l c, Covered s' l c ↔ (Covered s l c ∨ cur.Mem l c)) ∧
    (∀ s ps s', addMany fuel s ps = some s' → (∀ p ∈ ps, p.Nonempty) → (∀ r ∈ s, r.Nonempty) →
        (∀ r ∈ s', r.Nonempty) ∧ ∀ l c, Covered s' l c ↔ (Covered s l c ∨ Covered ps l c)) := by
  refine add_addMany_induct ?_ ?_ ?_ ?_ ?_ ?_ fuel
  · exact fun s cur _ hc hs => ⟨(forall_mem_insertRect s cur).2 ⟨hc, hs⟩, covered_insertRect s cur⟩
  · exact fun s cur r hr hcont hc hs => ⟨hs, fun l c => ⟨Or.inl, fun h => h.elim id
      (fun h => ⟨r, hr, (Rect.contains_iff r cur hc).1 hcont l c h⟩)⟩⟩
  · intro s cur i r s' hri hn ha ih hc hs
    obtain ⟨h1, h2⟩ := ih (grow_nonempty hc)
      (fun x hx => hs x (List.mem_of_mem_eraseIdx hx))
    refine ⟨h1, fun l c => ?_⟩
    rw [h2, mem_grow hn ha, covered_eraseIdx s i r hri, or_assoc]
  · intro s cur i r s' hri _ _ ih hc hs
    obtain ⟨_, hpne, _, hpc⟩ := Rect.add_spec r cur (hs r (List.mem_of_getElem? hri)) hc
    obtain ⟨h1, h2⟩ := ih hpne (fun x hx => hs x (List.mem_of_mem_eraseIdx hx))
    refine ⟨h1, fun l c => ?_⟩
    rw [h2, hpc, covered_eraseIdx s i r hri, or_assoc]
  · exact fun s _ hs => ⟨hs, fun l c => ⟨Or.inl, fun h => h.elim id (fun h => (covered_nil l c h).elim)⟩⟩
  · intro s p ps s1 s' iha ihm hps hs
    rw [List.forall_mem_cons] at hps
    obtain ⟨a1, a2⟩ := iha hps.1 hs
    obtain ⟨b1, b2⟩ := ihm hps.2 a1
    refine ⟨b1, fun l c => ?_⟩
    rw [b2, a2, covered_cons, or_assoc]

theorem add_region {fuel : Nat} {s : List Rect} {cur : Rect} {s' : List Rect}
    (h : add fuel s cur = some s') (hc : cur.Nonempty) (hs : ∀ r ∈ s, r.Nonempty) :
    (∀ r ∈ s', r.Nonempty) ∧ ∀ l c, Covered s' l c ↔ (Covered s l c ∨ cur.Mem l c) :=
  (add_addMany_region fuel).1 s cur s' h hc hs

theorem addMany_region {fuel : Nat} {s ps s' : List Rect}
    (h : addMany fuel s ps = some s') (hps : ∀ p ∈ ps, p.Nonempty) (hs : ∀ r ∈ s, r.Nonempty) :
    (∀ r ∈ s', r.Nonempty) ∧ ∀ l c, Covered s' l c ↔ (Covered s l c ∨ Covered ps l c) :=
  (add_addMany_region fuel).2 s ps s' h hps hs

theorem subtractFrom_bounds (fuel : Nat) : ∀ (s : List Rect) (rect : Rect) (i : Nat) (s' : List Rect),
    subtractFrom fuel s rect i = some s' → rect.Nonempty → (∀ r ∈ s, r.Nonempty) →
    (∀ r ∈ s', r.Nonempty) ∧
    (∀ l c, Covered s' l c → Covered s l c) ∧
    (∀ l c, Covered s l c → ¬ rect.Mem l c → Covered s' l c) := by
  intro s rect i
  fun_induction subtractFrom fuel s rect i with
  | case1 | case4 => intro s' h; cases h
  | case2 fuel s rect i => intro s' h _ hs; cases h; exact ⟨hs, fun _ _ h => h, fun _ _ h _ => h⟩
  | case3 fuel s rect i r hri _ ih => exact ih
  | case5 fuel s rect i r hri _ s1 hadd ih =>
    intro s' h hrne hs
    obtain ⟨_, hpne, _, hpc⟩ := Rect.subtract_spec r rect (hs r (List.mem_of_getElem? hri)) hrne
    obtain ⟨a1, a2⟩ := addMany_region hadd hpne (fun x hx => hs x (List.mem_of_mem_eraseIdx hx))
    obtain ⟨b1, b2, b3⟩ := ih s' h hrne a1
    refine ⟨b1, fun l c hcov => ?_, fun l c hcov hnot => b3 l c ?_ hnot⟩
    · rw [covered_eraseIdx s i r hri]
      exact ((a2 l c).1 (b2 l c hcov)).imp_right (fun h => ((hpc l c).1 h).1)
    · rw [a2]
      exact ((covered_eraseIdx s i r hri l c).1 hcov).imp_right (fun h => (hpc l c).2 ⟨h, hnot⟩)

theorem subtract_bounds (fuel : Nat) (s s' : List Rect) (r : Rect)
    (h : subtract fuel s r = some s') (hr : r.Nonempty) (hs : ∀ x ∈ s, x.Nonempty) :
    (∀ x ∈ s', x.Nonempty) ∧
    (∀ l c, Covered s' l c → Covered s l c) ∧
    (∀ l c, Covered s l c → ¬ r.Mem l c → Covered s' l c) := by
  rw [subtract_of_nonempty fuel s r hr] at h
  exact subtractFrom_bounds fuel s r 0 s' h hr hs

theorem covered_translate (s : List Rect) (d k l c : Int) :
    Covered (translate s d k) l c ↔ Covered s (l - d) (c - k) := by
  unfold Covered translate
  constructor
  · rintro ⟨r, hr, hm⟩
    obtain ⟨x, hx, rfl⟩ := List.mem_map.1 hr
    exact ⟨x, hx, (Rect.mem_translate x d k l c).1 hm⟩
  · rintro ⟨x, hx, hm⟩
    exact ⟨_, List.mem_map.2 ⟨x, hx, rfl⟩, (Rect.mem_translate x d k l c).2 hm⟩

theorem nonempty_translate (s : List Rect) (d k : Int) (hs : ∀ r ∈ s, r.Nonempty) :
    ∀ r ∈ translate s d k, r.Nonempty := by
  intro r hr
  obtain ⟨x, hx, rfl⟩ := List.mem_map.1 hr
  exact hs x hx

/-- `tickit_rectset_contains` answering "yes" is right, whatever the shape of the array. -/
theorem contains_sound (fuel : Nat) : ∀ (s : List Rect) (q : Rect),
    contains fuel s q = some true → q.Nonempty → ∀ l c, q.Mem l c → Covered s l c := by
  intro s q
  fun_induction contains fuel s q with
  | case1 | case2 | case3 | case4 | case5 => intro h; cases h
  | case6 fuel s q r hfi _ hsplit lower hlow ih =>
    -- the query is cut at the bottom of `r`: the upper part is inside `r`, the lower part is covered
    intro h hq l c hm
    by_cases hl : l < r.bottom
    · exact ⟨r, List.mem_of_find?_eq_some hfi,
        (Rect.contains_iff r _ (cut_nonempty hq hsplit).1).1 (Option.some.inj h) l c ((mem_cut hm).1 hl)⟩
    · exact ih hlow (cut_nonempty hq hsplit).2 l c ((mem_cut hm).2 hl)
  | case7 fuel s q r hfi =>
    intro h hq l c hm
    exact ⟨r, List.mem_of_find?_eq_some hfi, (Rect.contains_iff r q hq).1 (Option.some.inj h) l c hm⟩

/-- `tickit_rectset_contains` returns: fuel proportional to the height of the query suffices. -/
theorem contains_terminates (s : List Rect) (q : Rect) :
    ∀ fuel : Nat, 0 < fuel → q.lines < (fuel : Int) → contains fuel s q ≠ none := by
  intro fuel
  fun_induction contains fuel s q with
  | case1 => intro h; omega
  | case4 fuel s q r _ _ hcut lower hlow ih =>
    -- the lower part is less high than the query, so the fuel left suffices for it
    intro _ hlt
    have h : 0 < fuel ∧ lower.lines < (fuel : Int) := by
      simp only [lower, Rect.initBounded, Rect.bottom] at *; omega
    exact absurd hlow (ih h.1 h.2)
  | case2 | case3 | case5 | case6 | case7 => exact fun _ _ => Option.some_ne_none _

theorem intersects_iff (s : List Rect) (q : Rect) (hq : q.Nonempty) (hs : ∀ r ∈ s, r.Nonempty) :
    intersects s q = true ↔ ∃ l c, q.Mem l c ∧ Covered s l c := by
  unfold intersects Covered
  simp only [List.any_eq_true]
  constructor
  · rintro ⟨r, hr, hi⟩
    obtain ⟨l, c, h1, h2⟩ := (Rect.intersects_iff r q (hs r hr) hq).1 hi
    exact ⟨l, c, h2, r, hr, h1⟩
  · rintro ⟨l, c, h2, r, hr, h1⟩
    exact ⟨r, hr, (Rect.intersects_iff r q (hs r hr) hq).2 ⟨l, c, h1, h2⟩⟩

/-- Induction over a history, for a relation `P` between the array and the region; `ok` is what is known of the
    operations. -/
theorem runOps_induct {fuel : Nat} {P : List Rect → (Int → Int → Prop) → Prop} {ok : Op → Prop}
    (hadd : ∀ s r s1 reg, ok (.add r) → add fuel s r = some s1 → P s reg → P s1 (Op.apply reg (.add r)))
    (hsub : ∀ s r s1 reg, ok (.sub r) → subtract fuel s r = some s1 → P s reg → P s1 (Op.apply reg (.sub r)))
    (hxl : ∀ s d k reg, P s reg → P (translate s d k) (Op.apply reg (.xl d k)))
    (hclear : ∀ s reg, P s reg → P (clear s) (Op.apply reg .clear)) :
    ∀ (ops : List Op) (s s' : List Rect) (reg : Int → Int → Prop),
      runOps fuel s ops = some s' → (∀ o ∈ ops, ok o) → P s reg → P s' (ops.foldl Op.apply reg) := by
  intro ops
  induction ops with
  | nil => intro s s' reg h _ hP; cases h; exact hP
  | cons o ops ih =>
    intro s s' reg h hok hP
    rw [List.forall_mem_cons] at hok
    cases o with
    | add r =>
      obtain ⟨s1, h1, h2⟩ := Option.bind_eq_some_iff.1 h
      exact ih s1 s' _ h2 hok.2 (hadd s r s1 reg hok.1 h1 hP)
    | sub r =>
      obtain ⟨s1, h1, h2⟩ := Option.bind_eq_some_iff.1 h
      exact ih s1 s' _ h2 hok.2 (hsub s r s1 reg hok.1 h1 hP)
    | xl d k => exact ih _ s' _ h hok.2 (hxl s d k reg hP)
    | clear => exact ih _ s' _ h hok.2 (hclear s reg hP)

end RectSet
end Tickit

/-! The vocabulary of property C05 about whole histories, under the names Props/C05.lean states them with; here
    because `run_terminates_invS` (Proof/RectSetTerm.lean) is stated with it too. -/
namespace Tickit.Props.C05
open Tickit Tickit.Rect Tickit.RectSet

/-- Every rectangle mentioned by an operation is non-empty (the property's "arbitrary non-empty rectangles"). -/
def Op.Valid : Op → Prop
  | .add r => r.Nonempty
  | .sub r => r.Nonempty
  | _ => True

/-- All operations of a history are valid. -/
def Valid (ops : List Op) : Prop := ∀ o ∈ ops, Op.Valid o

end Tickit.Props.C05
