import Tickit.Proof.LifeBase
/-
  C08: the walks up the parent chain (`_get_root`, the walks of the repaired `_purge_hierarchy_changes`,
  `tickit_window_expose`, `tickit_window_get_abs_geometry`, `_is_shown`) never leave the live windows and finish
  within the budget `chainFuel`; `within_spec`, `findRoot_spec`, `getRootA_ok` say they compute the ancestor relation.
  Each is stated for any sufficient budget, which the induction needs; callers pass `_ (chainFuel_gt hl)`.
-/
namespace Tickit.Life
open WinTree (Id Win Req Change Tree)

theorem chainFuel_gt {t : Tree} {i : Nat} {w : Win} (h : LiveW t i w) : i < chainFuel t := by
  have := h.lt; unfold chainFuel; omega

theorem chain_induction {t : Tree} (inv : TInv t) {P : Nat → Nat → Prop}
    (step : ∀ (w : Nat) (ww : Win) (f : Nat), LiveW t w ww → (∀ (p : Nat), ww.parent = some p → p < w ∧ P p f) → P w (f + 1)) :
    ∀ (w : Nat) (ww : Win), LiveW t w ww → ∀ (fuel : Nat), w < fuel → P w fuel :=
  WinTree.chain_induction inv.linked.upward step

theorem within_spec {t : Tree} (inv : TInv t) (top : Nat) :
    ∀ (w : Nat) (ww : Win), LiveW t w ww → ∀ fuel, w < fuel →
      ∃ b, within t fuel w top = .ok b ∧ (b = true ↔ Reach t w top) := by
  refine chain_induction inv fun w ww f hl ih => ?_
  unfold within
  by_cases hwt : w = top
  · subst hwt
    exact ⟨true, by simp, by simp [Reach.refl]⟩
  · simp only [hwt, if_false, get_live hl, bind_ok]
    cases hp : ww.parent with
    | none => exact ⟨false, rfl, by simp only [Bool.false_eq_true, false_iff]; exact fun hr => hwt (hr.eq_of_no_parent hl.1 hp)⟩
    | some p =>
      obtain ⟨b, hb, hiff⟩ := (ih p hp).2
      exact ⟨b, hb, hiff.trans ⟨fun hr => .step hl.1 hp hr, fun hr => hr.of_ne hwt hl.1 hp⟩⟩

theorem reach_root_of_no_parent {t : Tree} (inv : TInv t) {w : Nat} {ww : Win} (hl : LiveW t w ww) (hp : ww.parent = none) :
    Reach t w 0 ↔ ww.isRoot = true := by
  constructor
  · intro hr
    have h0 := hr.eq_of_no_parent hl.1 hp
    subst h0
    obtain ⟨r, h1, h2, _⟩ := inv.root_ex
    rw [hl.1] at h1; cases h1
    exact h2
  · intro hr
    rw [inv.only_root w ww hl.1 hr]
    exact .refl 0

theorem findRoot_spec {t : Tree} (inv : TInv t) :
    ∀ (w : Nat) (ww : Win), LiveW t w ww → ∀ fuel, w < fuel →
      (Reach t w 0 ∧ findRoot t fuel w = .ok (some 0)) ∨ (¬ Reach t w 0 ∧ findRoot t fuel w = .ok none) := by
  refine chain_induction inv fun w ww f hl ih => ?_
  unfold findRoot
  simp only [get_live hl, bind_ok]
  cases hp : ww.parent with
  | none =>
    have hiff := reach_root_of_no_parent inv hl hp
    by_cases hr : ww.isRoot = true
    · have h0 := inv.only_root w ww hl.1 hr
      subst h0
      exact .inl ⟨.refl _, by simp [hr]⟩
    · exact .inr ⟨fun h => hr (hiff.1 h), by simp [hr]⟩
  | some p =>
    obtain ⟨hlt, h⟩ := ih p hp
    have hw0 : w ≠ 0 := by omega
    rcases h with ⟨hr, hf'⟩ | ⟨hr, hf'⟩
    · exact .inl ⟨.step hl.1 hp hr, hf'⟩
    · exact .inr ⟨fun h => hr (h.of_ne hw0 hl.1 hp), hf'⟩

theorem getRootA_ok {t : Tree} (inv : TInv t) :
    ∀ (w : Nat) (ww : Win), LiveW t w ww → ∀ fuel, w < fuel → Reach t w 0 → getRootA t fuel w = .ok 0 := by
  refine chain_induction inv fun w ww f hl ih hr => ?_
  unfold getRootA
  simp only [get_live hl, bind_ok]
  by_cases hroot : ww.isRoot = true
  · have h0 := inv.only_root w ww hl.1 hroot
    subst h0
    simp [hroot]
  · simp only [hroot, Bool.false_eq_true, if_false]
    cases hp : ww.parent with
    | none => exact absurd ((reach_root_of_no_parent inv hl hp).1 hr) hroot
    | some p =>
      obtain ⟨hlt, h⟩ := ih p hp
      exact h (hr.of_ne (by omega) hl.1 hp)

theorem exposeWalk_ok {t : Tree} (inv : TInv t) :
    ∀ (w : Nat) (ww : Win), LiveW t w ww → ∀ fuel, w < fuel → ∀ e, exposeWalk t fuel w e = .ok () := by
  refine chain_induction inv fun w ww f hl ih e => ?_
  unfold exposeWalk
  simp only [get_live hl, bind_ok]
  repeat' split
  all_goals first | rfl | (rename_i p hp; exact (ih p hp).2 _)

theorem expose_ok {t : Tree} (inv : TInv t) {w : Nat} {ww : Win} (hl : LiveW t w ww) (e : Option Rect) :
    exposeWalk t (chainFuel t) w e = .ok () := exposeWalk_ok inv w ww hl _ (chainFuel_gt hl) e

theorem isShown_ok {t : Tree} (inv : TInv t) :
    ∀ (w : Nat) (ww : Win), LiveW t w ww → ∀ fuel, w < fuel → ∃ b, isShown t fuel w = .ok b := by
  refine chain_induction inv fun w ww f hl ih => ?_
  unfold isShown
  simp only [get_live hl, bind_ok]
  split
  · exact ⟨false, rfl⟩
  · split
    · exact ⟨true, rfl⟩
    · rename_i p hp
      exact (ih p hp).2

/-- One more round than windows on the chain, for the end. -/
theorem absGeom_up_ok {t : Tree} (inv : TInv t) :
    ∀ (w : Nat) (ww : Win), LiveW t w ww → ∀ fuel, w < fuel → ∀ g, ∃ r, absGeom.up t (fuel + 1) (some w) g = .ok r := by
  refine chain_induction inv fun w ww f hl ih g => ?_
  unfold absGeom.up
  simp only [get_live hl, bind_ok]
  cases hp : ww.parent with
  | none => exact ⟨_, by unfold absGeom.up; rfl⟩
  | some p =>
    exact (ih p hp).2 _

theorem absGeom_ok {t : Tree} (inv : TInv t) {w : Nat} {ww : Win} (hl : LiveW t w ww) : ∃ r, absGeom t w = .ok r := by
  unfold absGeom
  simp only [get_live hl, bind_ok]
  cases hp : ww.parent with
  | none => exact ⟨_, by unfold absGeom.up chainFuel; rfl⟩
  | some p =>
    obtain ⟨hlt, pw, hpl, _⟩ := inv.parent_ok w ww hl p hp
    have := hl.lt
    exact absGeom_up_ok inv p pw hpl t.wins.size (by omega) _

end Tickit.Life
