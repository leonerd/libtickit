import Tickit.Proof.WinFocusCursor
import Tickit.Model.WinSpec
/-
  C15: `cursorSpec` through the painter's model with local coordinates.  `WinSpec.ownerAt` names the owner of a terminal
  cell and the cell in the owner's coordinates; `cursorSpec t = some (L, C, s)` says that the composition shows the
  cursor cell of the window at the end of the focus chain at `(L, C)` (`ShownAt`, `cursorSpec_some_iff`), so two trees
  that show the same specify the same terminal cursor (`cursorSpec_ext`).
-/
namespace Tickit
namespace WinFocus
open WinTree WinSpec

theorem findSome_mem' {α β : Type} {f : α → Option β} {b : β} : ∀ (cs : List α), cs.findSome? f = some b →
    ∃ x ∈ cs, f x = some b := fun _ h => List.exists_of_findSome?_eq_some h

/-- The property's "visible at `(L, C)` with shape `s`", through the painter's model with local coordinates: the window
    at the end of the focus chain is focused, its cursor enabled, and the composition shows *its cursor cell* at
    `(L, C)`. -/
def ShownAt (t : Tree) (L C s : Int) : Prop :=
  ∃ w, Live t (chainEnd t (treeFuel t) 0) w ∧ w.isFocused = true ∧ w.cursor.visible = true ∧ s = w.cursor.shape ∧
    ownerAt t L C = some (chainEnd t (treeFuel t) 0, w.cursor.line, w.cursor.col)

theorem cursorSpec_some_iff {t : Tree} (h : wfB t = true) (L C s : Int) :
    cursorSpec t = some (L, C, s) ↔ ShownAt t L C s := by
  obtain ⟨r, hr, _, _⟩ := wf_root h
  obtain ⟨w, hw, _⟩ := chainEnd_live h (treeFuel t) 0 r hr (.refl 0)
  rw [cursorSpec_of rfl hw, specShown_eq h hw]
  constructor
  · intro hc
    split at hc
    · next hcond =>
      simp only [Bool.and_eq_true, beq_iff_eq] at hcond
      obtain ⟨⟨hf, hcv⟩, hown⟩ := hcond
      simp only [Option.some.injEq, Prod.mk.injEq] at hc
      obtain ⟨rfl, rfl, rfl⟩ := hc
      exact ⟨w, hw, hf, hcv, rfl, (ownerAt_self_iff h hw).mpr ⟨hown, cell_eta _⟩⟩
    · cases hc
  · rintro ⟨w2, hw2, hf, hcv, rfl, hat⟩
    cases Live.unique hw2 hw
    obtain ⟨hown, habs⟩ := (ownerAt_self_iff h hw).mp hat
    rw [habs, hf, hcv, hown, beq_self_eq_true]
    rfl

theorem cursorSpec_ext {t t' : Tree} (h : wfB t = true) (h' : wfB t' = true)
    (hs : ∀ L C s, ShownAt t' L C s ↔ ShownAt t L C s) : cursorSpec t' = cursorSpec t := by
  cases h1 : cursorSpec t' with
  | none =>
    cases h2 : cursorSpec t with
    | none => rfl
    | some v =>
      obtain ⟨L, C, s⟩ := v
      have := (hs L C s).mpr ((cursorSpec_some_iff h L C s).mp h2)
      rw [(cursorSpec_some_iff h' L C s).mpr this] at h1; cases h1
  | some v =>
    obtain ⟨L, C, s⟩ := v
    have := (hs L C s).mp ((cursorSpec_some_iff h' L C s).mp h1)
    exact ((cursorSpec_some_iff h L C s).mpr this).symm

end WinFocus
end Tickit
