import Tickit.Proof.WinInputInv
/-
  `tickit_window_take_focus` on a window of `A`, when `A` is a union of whole top-level subtrees and the root's focus
  pointer points into `A` (or nowhere): the focus pointers that change belong to windows of `A` — or to the root, whose
  pointer moves within `A` (`FocusOnly A`).  The stages of `_focus_lost` / `_focus_gained` conclude `FStep A`: `StepOK` and
  `FocusOnly A`.
-/
namespace Tickit
namespace WinInput
open WinTree

/-- `A` is a union of whole top-level subtrees. -/
def TopNow (A : Aff) (t : Tree) : Prop :=
  ∀ (x : WinTree.Id) (w : Win), A x = true → t.wins[x]? = some w → w.freed = false → ∀ p, w.parent = some p → A p = true ∨ p = 0

/-- The root's focus pointer points into `A` or nowhere. -/
def RootFc (A : Aff) (t : Tree) : Prop :=
  ∀ (w : Win) (fc : WinTree.Id), t.wins[0]? = some w → w.focusedChild = some fc → A fc = true

structure FocusW (A : Aff) (x : WinTree.Id) (w w' : Win) : Prop where
  parent : w'.parent = w.parent
  children : w'.children = w.children
  freed : w'.freed = w.freed
  visible : w'.isVisible = w.isVisible
  steal : w'.stealInput = w.stealInput
  rect : w'.rect = w.rect
  fc : A x = false → FcRel A w'.focusedChild w.focusedChild

theorem FocusW.refl (A : Aff) (x : WinTree.Id) (w : Win) : FocusW A x w w := ⟨rfl, rfl, rfl, rfl, rfl, rfl, fun _ => .refl A _⟩

theorem FocusW.trans {A : Aff} (x : WinTree.Id) (a b c : Win) (h1 : FocusW A x a b) (h2 : FocusW A x b c) : FocusW A x a c :=
  ⟨h2.parent.trans h1.parent, h2.children.trans h1.children, h2.freed.trans h1.freed, h2.visible.trans h1.visible,
   h2.steal.trans h1.steal, h2.rect.trans h1.rect, fun hx => (h2.fc hx).trans (h1.fc hx)⟩

abbrev FocusOnly (A : Aff) : Tree → Tree → Prop := Lift (FocusW A)

theorem FocusOnly.refl (A : Aff) (t : Tree) : FocusOnly A t t := Lift.refl (FocusW.refl A) t

theorem FocusOnly.trans {A : Aff} {a b c : Tree} (h1 : FocusOnly A a b) (h2 : FocusOnly A b c) : FocusOnly A a c :=
  Lift.trans FocusW.trans h1 h2

theorem FocusOnly.of_wins {A : Aff} {t t' : Tree} (h : t'.wins = t.wins) : FocusOnly A t t' := Lift.of_wins (FocusW.refl A) h

theorem FocusOnly.set {A : Aff} {t : Tree} {i : WinTree.Id} {w w' : Win} (hw : t.wins[i]? = some w) (h : FocusW A i w w') :
    FocusOnly A t (WinTree.set t i w') := Lift.set (FocusW.refl A) hw h

theorem FocusOnly.sim {A : Aff} {t t' : Tree} (h : FocusOnly A t t') (hd : Down A t) : Sim A t t' := by
  refine ⟨h.1, ?_, ?_⟩
  · intro x w0 hx hw0
    obtain ⟨w', hw', r⟩ := h.2 x w0 hw0
    exact ⟨w', hw', r.freed, r.visible, r.steal, r.parent, r.rect, by rw [r.children]; exact Kids.refl A _, r.fc hx⟩
  · intro x w' hx hw' c hc
    obtain ⟨w, hw, r⟩ := h.back hw'
    exact hd x w hx hw c (r.children ▸ hc)

theorem FocusOnly.topNow {A : Aff} {t t' : Tree} (h : FocusOnly A t t') (ht : TopNow A t) : TopNow A t' := by
  intro x w' hx hw' hf' p hp
  obtain ⟨w, hw, r⟩ := h.back hw'
  exact ht x w hx hw (r.freed ▸ hf') p (r.parent ▸ hp)

theorem FocusOnly.rootFc {A : Aff} {t t' : Tree} (h : FocusOnly A t t') (hr : A 0 = false → RootFc A t) :
    A 0 = false → RootFc A t' := by
  intro h0 w' fc hw' hfc
  obtain ⟨w, hw, r⟩ := h.back hw'
  rcases r.fc h0 with e | ⟨p, _⟩
  · exact hr h0 w fc hw (e ▸ hfc)
  · exact p fc hfc

def HasChild (t : Tree) (win : WinTree.Id) (child : Option WinTree.Id) : Prop :=
  ∀ c, child = some c → ∃ w, t.wins[win]? = some w ∧ c ∈ w.children

theorem FocusOnly.keepParents {A : Aff} {t t' : Tree} (h : FocusOnly A t t') : KeepParents none t t' := by
  intro x w hw hf _
  obtain ⟨w', a, r⟩ := h.2 x w hw
  exact ⟨w', a, r.freed.trans hf, r.parent⟩

theorem FocusOnly.child {A : Aff} {t t' : Tree} (k : FocusOnly A t t') {win : WinTree.Id} {child : Option WinTree.Id}
    (h : HasChild t win child) : HasChild t' win child := by
  intro c hc
  obtain ⟨w0, hw0, hm⟩ := h c hc
  obtain ⟨w', a, r⟩ := k.2 win w0 hw0
  exact ⟨w', a, r.children ▸ hm⟩

structure FStep (A : Aff) (t t' : Tree) : Prop extends StepOK t t' where
  focus : FocusOnly A t t'

theorem FStep.refl {A : Aff} {t : Tree} (hi : TInv t) (hd : DragOK t) : FStep A t t := ⟨.refl hi hd, .refl A t⟩

theorem FStep.trans {A : Aff} {a b c : Tree} (h1 : FStep A a b) (h2 : FStep A b c) : FStep A a c :=
  ⟨h1.toStepOK.trans h2.toStepOK, h1.focus.trans h2.focus⟩

theorem FStep.stepIn {A : Aff} {t t' : Tree} (s : FStep A t t') (hdn : Down A t) : StepIn A t t' := ⟨s.toStepOK, s.focus.sim hdn⟩

theorem FStep.set {A : Aff} {t : Tree} (hi : TInv t) (hd : DragOK t) {i : WinTree.Id} {w w' : Win} (hl : WinTree.Live t i w)
    (e : { w' with isFocused := w.isFocused, focusedChild := w.focusedChild } = w)
    (hfo : ∀ f, w'.focusedChild = some f → f ∈ w.children) (hfc : A i = false → FcRel A w'.focusedChild w.focusedChild) :
    FStep A t (WinTree.set t i w') :=
  have hp : w'.parent = w.parent := (congrArg Win.parent e :)
  have hc : w'.children = w.children := (congrArg Win.children e :)
  have hf : w'.freed = w.freed := (congrArg Win.freed e :)
  ⟨StepOK.set hi hd hl (.of_eq hp hc hf) ((congrArg Win.refcount e :)) ((congrArg Win.isRoot e :))
    ⟨fun f h => hc ▸ hfo f h, hc ▸ hi.nodup i w hl.1 hl.2,
     fun h => hp ▸ hi.closed i w hl.1 hl.2 ((congrArg Win.isClosed e :) ▸ h)⟩,
   FocusOnly.set hl.1 ⟨hp, hc, hf, (congrArg Win.isVisible e :), (congrArg Win.stealInput e :), (congrArg Win.rect e :), hfc⟩⟩

/-- The tail of `_focus_lost`: the window's own flag. -/
def flTail (win : WinTree.Id) (t : Tree) : Res Tree := do
  let w ← WinTree.get t win
  pure (if w.isFocused then WinTree.set t win { w with isFocused := false } else t)

theorem flTail_step {A : Aff} {t0 t : Tree} {win : WinTree.Id} (s1 : FStep A t0 t) (ha : Alive t win) :
    SafeR (flTail win t) (FStep A t0) := by
  obtain ⟨w1, hg1, hw1, hf1⟩ := ha.get
  unfold flTail
  simp only [hg1, ok_bind, res_pure]
  split
  · exact s1.trans (FStep.set (w' := { w1 with isFocused := false }) s1.inv s1.drag ⟨hw1, hf1⟩ rfl
      (fun f h => s1.inv.focus win f w1 hw1 hf1 h) fun _ => FcRel.refl A _)
  · exact s1

theorem focusLost_step {A : Aff} : ∀ (f : Nat) (t : Tree) (win : WinTree.Id), TInv t → DragOK t → Alive t win →
    SafeR (focusLost f t win) (FStep A t) := by
  intro f
  induction f with
  | zero => intro t win _ _ _; exact Or.inr (Or.inl rfl)
  | succ f ih =>
    intro t win hi hd ha
    obtain ⟨w, hg, hw, hf⟩ := ha.get
    unfold focusLost
    simp only [hg, ok_bind]
    cases hfc : w.focusedChild with
    | none => exact flTail_step (.refl hi hd) ha
    | some fc =>
      apply SafeR.bind (ih t fc hi hd (children_alive hi hw hf fc (hi.focus win fc w hw hf hfc)))
      intro t1 s1
      exact flTail_step s1 (s1.ev.alive ha)

/-- The end of `_focus_gained`: the window's own fields. -/
def fgFinal (win : WinTree.Id) (child : Option WinTree.Id) (t : Tree) : Res Tree := do
  let w ← WinTree.get t win
  let w := if child.isNone then { w with isFocused := true } else w
  pure (WinTree.set t win { w with focusedChild := child })

theorem fgFinal_step {A : Aff} {t0 t : Tree} {win : WinTree.Id} {child : Option WinTree.Id} (s3 : FStep A t0 t)
    (ha : Alive t win) (hch : HasChild t win child) (hr : A 0 = false → RootFc A t) (hwin : A win = true ∨ win = 0)
    (hcA : ∀ c, child = some c → A c = true) : SafeR (fgFinal win child t) (FStep A t0) := by
  obtain ⟨w3, hg3, hw3, hf3⟩ := ha.get
  unfold fgFinal
  simp only [hg3, ok_bind, res_pure]
  have hmem : ∀ c, child = some c → c ∈ w3.children := by
    intro c hc
    obtain ⟨w0, hw0, hm⟩ := hch c hc
    rw [hw3] at hw0; cases hw0
    exact hm
  have fc : A win = false → FcRel A child w3.focusedChild := by
    intro hA
    rcases hwin with hA' | rfl
    · exact aff_absurd hA' hA
    · exact Or.inr ⟨hcA, fun x hx => hr hA w3 x hw3 hx⟩
  split
  · exact s3.trans (FStep.set (w' := { { w3 with isFocused := true } with focusedChild := child })
      s3.inv s3.drag ⟨hw3, hf3⟩ rfl hmem fc)
  · exact s3.trans (FStep.set (w' := { w3 with focusedChild := child })
      s3.inv s3.drag ⟨hw3, hf3⟩ rfl hmem fc)

/-- `_focus_gained` after the branch that held the focus was told. -/
def fgMid (f : Nat) (win : WinTree.Id) (child : Option WinTree.Id) (t : Tree) : Res Tree := do
  let w ← WinTree.get t win
  let t := if child.isSome && w.isFocused then WinTree.set t win { w with isFocused := false } else t
  let w ← WinTree.get t win
  let t ← match w.parent with
    | some p => if w.isVisible then focusGained f t p (some win) else pure t
    | none => do
      let _ ← getRoot t (f + 1) win
      pure { t with root := { t.root with needsRestore := true, needsLater := true } }
  fgFinal win child t

def FgRecStep (A : Aff) (rec : Tree → WinTree.Id → Option WinTree.Id → Res Tree) : Prop :=
  ∀ (t : Tree) (win : WinTree.Id) (child : Option WinTree.Id), TInv t → DragOK t →
    Alive t win → Att t win → HasChild t win child → TopNow A t → (A 0 = false → RootFc A t) → (A win = true ∨ win = 0) →
    (∀ c, child = some c → A c = true) → SafeR (rec t win child) (FStep A t)

theorem fgMid_step {A : Aff} {f : Nat} (hrec : FgRecStep A (focusGained f))
    {t0 t1 : Tree} {win : WinTree.Id} {child : Option WinTree.Id} (s1 : FStep A t0 t1) (ha : Alive t1 win)
    (hatt : Att t1 win) (hch : HasChild t1 win child) (ht : TopNow A t1) (hr : A 0 = false → RootFc A t1)
    (hwin : A win = true ∨ win = 0) (hcA : ∀ c, child = some c → A c = true) :
    SafeR (fgMid f win child t1) (FStep A t0) := by
  obtain ⟨w1, hg1, hw1, hf1⟩ := ha.get
  unfold fgMid
  simp only [hg1, ok_bind]
  have step2 : ∃ t2, (if (child.isSome && w1.isFocused) = true then WinTree.set t1 win { w1 with isFocused := false } else t1) = t2 ∧
      FStep A t1 t2 := by
    split
    · exact ⟨_, rfl, FStep.set (w' := { w1 with isFocused := false }) s1.inv s1.drag ⟨hw1, hf1⟩ rfl
      (fun f h => s1.inv.focus win f w1 hw1 hf1 h) fun _ => FcRel.refl A _⟩
    · exact ⟨_, rfl, .refl s1.inv s1.drag⟩
  obtain ⟨t2, e2, s2⟩ := step2
  rw [e2]
  have ha2 := s2.ev.alive ha
  obtain ⟨w2, hg2, hw2, hf2⟩ := ha2.get
  simp only [hg2, ok_bind]
  have hatt2 : Att t2 win := hatt.keep s2.focus.keepParents
  have hch2 := s2.focus.child hch
  have ht2 := s2.focus.topNow ht
  have hr2 := s2.focus.rootFc hr
  have fin : ∀ t3, FStep A t2 t3 → SafeR (fgFinal win child t3) (FStep A t0) := fun t3 s3 =>
    fgFinal_step ((s1.trans s2).trans s3) (s3.ev.alive ha2) (s3.focus.child hch2) (s3.focus.rootFc hr2) hwin hcA
  cases hp : w2.parent with
  | some p =>
    simp only
    split
    · obtain ⟨pw, hpw, hpf, hpm⟩ := s2.inv.parent win p w2 hw2 hf2 hp
      -- the root has no parent: `win` is a window of `A`, and so is its parent, unless that is the root
      have hA : A win = true := by
        rcases hwin with hA | rfl
        · exact hA
        · obtain ⟨w0, h0, _, hp0⟩ := s2.inv.root
          rw [hw2] at h0; cases h0; rw [hp0] at hp; cases hp
      exact SafeR.bind (hrec t2 p (some win) s2.inv s2.drag ⟨pw, hpw, hpf⟩ (hatt2.parent s2.inv hw2 hp)
        (fun c hc => by cases hc; exact ⟨pw, hpw, hpm⟩) ht2 hr2 (ht2 win w2 hA hw2 hf2 p hp) (fun c hc => by cases hc; exact hA))
        fun t3 s3 => fin t3 s3
    · exact fin t2 (.refl s2.inv s2.drag)
  | none =>
    simp only
    obtain ⟨_, hr⟩ := getRoot_ok s2.inv win w2 ⟨hw2, hf2⟩ (f + 1) (by rw [hatt2.top hw2 hp]; exact Nat.succ_pos f) hatt2
    rw [hr, ok_bind]
    exact fin _ ⟨(StepOK.refl s2.inv s2.drag).root rfl rfl rfl, FocusOnly.of_wins rfl⟩

theorem focusGained_succ (f : Nat) (t : Tree) (win : WinTree.Id) (child : Option WinTree.Id) :
    focusGained (f + 1) t win child = (do
      let w ← WinTree.get t win
      let t ← match w.focusedChild with
        | some fc => if some fc ≠ child then focusLost (f + 1) t fc else pure t
        | none => pure t
      fgMid f win child t) := by
  rw [focusGained]; rfl

theorem focusGained_step {A : Aff} : ∀ (f : Nat), FgRecStep A (focusGained f) := by
  intro f
  induction f with
  | zero => intro t win child _ _ _ _ _ _ _ _ _; exact Or.inl rfl
  | succ f ih =>
    intro t win child hi hd ha hatt hch ht hr hwin hcA
    obtain ⟨w, hg, hw, hf⟩ := ha.get
    rw [focusGained_succ]
    simp only [hg, ok_bind]
    have mid : ∀ t1, FStep A t t1 → SafeR (fgMid f win child t1) (FStep A t) := fun t1 s1 =>
      fgMid_step ih s1 (s1.ev.alive ha) (hatt.keep s1.focus.keepParents) (s1.focus.child hch) (s1.focus.topNow ht) (s1.focus.rootFc hr)
        hwin hcA
    split
    · split
      · rename_i fc hfc _
        exact SafeR.bind (focusLost_step (f + 1) t fc hi hd (children_alive hi hw hf fc (hi.focus win fc w hw hf hfc)))
          fun t1 s1 => mid t1 s1
      · exact mid t (.refl hi hd)
    · exact mid t (.refl hi hd)

theorem takeFocus_step {A : Aff} {t : Tree} (hi : TInv t) (hd : DragOK t) (hdn : Down A t) {win : WinTree.Id} (ha : Alive t win)
    (hatt : Att t win) (ht : TopNow A t) (hr : A 0 = false → RootFc A t) (hA : A win = true) :
    SafeR (takeFocus t win) (StepIn A t) :=
  (focusGained_step _ t win none hi hd ha hatt (fun c hc => by cases hc) ht hr (.inl hA) (fun c hc => by cases hc)).mono
    fun _ h => h.stepIn hdn

end WinInput
end Tickit
