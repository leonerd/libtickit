import Tickit.Proof.EvLoopCalls
/-
  The poll-slot table between the wait and the descriptor loop (C18, repaired `evloop_io`).

  `PStep st st'` (under `reventsCleared`): every entry of `st.pfd` is, in `st'.pfd`, unchanged, cancelled
  (`fd == -1`) or re-issued with nothing reported (`revents = 0`); entries beyond are cancelled or report
  nothing.  Everything that runs between the wait and the end of the descriptor loop is a `PStep`.
-/
namespace Tickit.EvLoop

def slotOk (old new : PollSlot) : Prop := new = old ∨ new.fd = -1 ∨ new.revents = some 0

structure PFacts (st st' : St) : Prop where
  cfg : st'.cfg = st.cfg
  len : st.pfd.length ≤ st'.pfd.length
  old : ∀ i, i < st.pfd.length → slotOk (st.pfd.getD i default) (st'.pfd.getD i default)
  new : ∀ i, st.pfd.length ≤ i → i < st'.pfd.length → (st'.pfd.getD i default).fd = -1 ∨ (st'.pfd.getD i default).revents = some 0

def PStep (st st' : St) : Prop := st.cfg.reventsCleared = true → PFacts st st'

theorem PStep.refl (st : St) : PStep st st :=
  fun _ => ⟨rfl, Nat.le_refl _, fun _ _ => Or.inl rfl, fun i h1 h2 => by omega⟩

theorem PStep.trans {a b c : St} (h1 : PStep a b) (h2 : PStep b c) : PStep a c := by
  intro hc
  have f1 := h1 hc
  have f2 := h2 (by rw [f1.cfg]; exact hc)
  refine ⟨f2.cfg.trans f1.cfg, Nat.le_trans f1.len f2.len, ?_, ?_⟩
  · intro i hi
    have hb := f1.old i hi
    have hcc := f2.old i (Nat.lt_of_lt_of_le hi f1.len)
    rcases hcc with h | h | h
    · rw [h]; exact hb
    · exact Or.inr (Or.inl h)
    · exact Or.inr (Or.inr h)
  · intro i hi hic
    by_cases hib : i < b.pfd.length
    · have hb := f1.new i hi hib
      have hcc := f2.old i hib
      rcases hcc with h | h | h
      · rw [h]; exact hb
      · exact Or.inl h
      · exact Or.inr h
    · exact f2.new i (by omega) hic

theorem PStep.of_eq {st st' : St} (hc : st'.cfg = st.cfg) (hp : st'.pfd = st.pfd) : PStep st st' :=
  fun _ => ⟨hc, by rw [hp]; exact Nat.le_refl _, fun i _ => by rw [hp]; exact Or.inl rfl, fun i h1 h2 => by rw [hp] at h2; omega⟩

theorem ps_evloopIo (st : St) (fd : Int) (cond : Nat) (w : Nat) : PStep st (evloopIo st fd cond w).1 := by
  intro hc
  unfold evloopIo
  split
  · rename_i idx hfree
    have hlt : idx < st.pfd.length := by have := findFreeSlot_lt st.pfd 0 idx hfree; omega
    refine ⟨rfl, by simp, ?_, ?_⟩
    · intro i hi
      show slotOk _ ((st.pfd.set idx _).getD i default)
      rw [getD_set]
      split
      · exact Or.inr (Or.inr (by simp))
      · exact Or.inl rfl
    · intro i h1 h2
      simp only [List.length_set] at h2
      omega
  · refine ⟨rfl, by simp, ?_, ?_⟩
    · intro i hi
      show slotOk _ ((st.pfd ++ _).getD i default)
      rw [getD_append_ne _ _ (Nat.ne_of_lt hi)]
      exact Or.inl rfl
    · intro i h1 h2
      simp only [List.length_append, List.length_singleton] at h2
      have : i = st.pfd.length := by omega
      subst this
      right
      show ((st.pfd ++ _).getD st.pfd.length default).revents = some 0
      rw [getD_append_self]
      simp [hc]

theorem ps_evloopCancelIo (st : St) (idx : Nat) : PStep st (evloopCancelIo st idx) := by
  intro _
  unfold evloopCancelIo
  refine ⟨rfl, by simp, ?_, ?_⟩
  · intro i hi
    show slotOk _ ((st.pfd.set idx _).getD i default)
    rw [getD_set]
    split
    · exact Or.inr (Or.inl rfl)
    · exact Or.inl rfl
  · intro i h1 h2
    simp only [List.length_set] at h2
    omega

theorem ps_low : Low PStep where
  refl := PStep.refl
  trans := PStep.trans
  same := fun h => PStep.of_eq h.cfg h.pfd
  emit := fun _ _ => PStep.of_eq rfl rfl
  alloc := fun _ _ => PStep.of_eq rfl rfl
  setW := fun _ _ _ => PStep.of_eq rfl rfl
  setList := fun _ t _ => by cases t <;> exact PStep.of_eq rfl rfl
  evloopIo := ps_evloopIo
  evloopCancelIo := ps_evloopCancelIo
  sameSig := fun h => PStep.of_eq h.cfg h.pfd
  sigRecord := fun _ _ => by unfold sigRecord; split <;> exact PStep.of_eq rfl rfl
  harness := fun _ _ _ => PStep.of_eq rfl rfl

theorem ps_closed : Closed PStep := ps_low.closed

theorem ps_with_inRun (st : St) (b : Bool) : PStep st { st with inRun := b } := PStep.of_eq rfl rfl

theorem ps_dispatchSignals (fuel : Nat) (st : St) : PStep st (dispatchSignals fuel st) :=
  ps_closed.dispatchSignals (fun _ => PStep.of_eq rfl rfl) fuel st

theorem ps_ioLoopT (fuel : Nat) : ∀ (st : St) (idx : Nat), PStep st (ioLoopT fuel st idx).1 := ps_closed.ioLoopT fuel

/-- `s0`: a state from which the current one descends by `PStep`s (think: the state right after the wait). -/
theorem ioLoopT_exact (fuel : Nat) : ∀ (st : St) (idx : Nat) (s0 : St), s0.cfg.reventsCleared = true → PFacts s0 st →
    (∀ e ∈ (ioLoopT fuel st idx).2, idx ≤ e.1 ∧ e.1 < s0.pfd.length ∧ (s0.pfd.getD e.1 default).fd ≠ -1 ∧
        e.2.1 = (s0.pfd.getD e.1 default).watch ∧ e.2.2 = condOfRevents (slotRevents (s0.pfd.getD e.1 default))) ∧
    (ioLoopT fuel st idx).2.Pairwise (fun x y => x.1 < y.1) := by
  induction fuel with
  | zero => intro st idx s0 _ _; simp [ioLoopT]
  | succ n ih =>
    intro st idx s0 hc f
    have hskip : (∀ e ∈ (ioLoopT n st (idx + 1)).2, idx ≤ e.1 ∧ e.1 < s0.pfd.length ∧ (s0.pfd.getD e.1 default).fd ≠ -1 ∧
        e.2.1 = (s0.pfd.getD e.1 default).watch ∧ e.2.2 = condOfRevents (slotRevents (s0.pfd.getD e.1 default))) ∧
        (ioLoopT n st (idx + 1)).2.Pairwise (fun x y => x.1 < y.1) := by
      obtain ⟨h1, h2⟩ := ih st (idx + 1) s0 hc f
      exact ⟨fun e he => by have := h1 e he; exact ⟨by omega, this.2⟩, h2⟩
    generalize hres : ioLoopT (n + 1) st idx = res
    unfold ioLoopT at hres
    rcases ite_eq_cases hres with ⟨_, rfl⟩ | ⟨_, hres⟩
    · simp
    rcases ite_eq_cases hres with ⟨_, rfl⟩ | ⟨hlen, hres⟩
    · simp
    rcases ite_eq_cases hres with ⟨_, rfl⟩ | ⟨hfd, hres⟩
    · exact hskip
    rcases ite_eq_cases hres with ⟨_, rfl⟩ | ⟨hrev, rfl⟩
    · exact hskip
    · -- the entry is the one `s0` had
      have hsame : idx < s0.pfd.length ∧ st.pfd.getD idx default = s0.pfd.getD idx default := by
        by_cases hi : idx < s0.pfd.length
        · refine ⟨hi, ?_⟩
          rcases f.old idx hi with h | h | h
          · exact h
          · exact absurd h hfd
          · exfalso; apply hrev; unfold slotRevents; rw [h]
        · exfalso
          rcases f.new idx (by omega) (by omega) with h | h
          · exact hfd h
          · apply hrev; unfold slotRevents; rw [h]
      have f' : PFacts s0 (ioCb st (st.pfd.getD idx default)) :=
        (PStep.trans (fun _ => f) (ps_closed.ioCb st _)) hc
      obtain ⟨h1, h2⟩ := ih (ioCb st (st.pfd.getD idx default)) (idx + 1) s0 hc f'
      refine ⟨?_, ?_⟩
      · intro e he
        simp only [List.mem_cons] at he
        cases he with
        | inl h =>
          subst h
          refine ⟨Nat.le_refl _, hsame.1, ?_, ?_, ?_⟩
          · rw [← hsame.2]; exact hfd
          · show (st.pfd.getD idx default).watch = _; rw [hsame.2]
          · show condOfRevents (slotRevents (st.pfd.getD idx default)) = _; rw [hsame.2]
        | inr h => have := h1 e h; exact ⟨by omega, this.2⟩
      · rw [List.pairwise_cons]
        refine ⟨?_, h2⟩
        intro e he
        have := (h1 e he).1
        show idx < e.1
        omega

theorem pfd_ppoll (st : St) (t : Option Int) : (ppoll st t).1.pfd = (pollScan st).pfd :=
  (Base.ofProj St.pfd Same.pfd (fun _ _ => rfl) (fun _ _ => by unfold sigRecord; split <;> rfl)).ppollRest
    (fun _ => by unfold deliverPending; split <;> rfl) st t

theorem io_exact_end_to_end (fuel : Nat) (st : St) (t : Option Int) (hc : st.cfg.reventsCleared = true) :
    (∀ e ∈ (ioLoopT fuel (invokeTimers fuel (ppoll st t).1) 0).2,
        e.1 < st.pfd.length ∧ (st.pfd.getD e.1 default).fd ≠ -1 ∧ e.2.1 = (st.pfd.getD e.1 default).watch ∧
        e.2.2 = condOfRevents (pollRevents st (st.pfd.getD e.1 default))) ∧
    (ioLoopT fuel (invokeTimers fuel (ppoll st t).1) 0).2.Pairwise (fun x y => x.1 < y.1) := by
  have hp := pfd_ppoll st t
  have hc1 : (ppoll st t).1.cfg.reventsCleared = true := by rw [cfg_ppoll]; exact hc
  have f : PFacts (ppoll st t).1 (invokeTimers fuel (ppoll st t).1) := ps_closed.invokeTimers ps_low.timers fuel _ hc1
  obtain ⟨h1, h2⟩ := ioLoopT_exact fuel (invokeTimers fuel (ppoll st t).1) 0 (ppoll st t).1 hc1 f
  refine ⟨?_, h2⟩
  intro e he
  obtain ⟨_, hlt, hfd, hw, hcnd⟩ := h1 e he
  rw [hp] at hlt hfd hw hcnd
  have hlen : (pollScan st).pfd.length = st.pfd.length := by unfold pollScan; simp
  rw [hlen] at hlt
  rw [pollScan_entry st e.1 hlt] at hfd hw hcnd
  exact ⟨hlt, hfd, hw, by rw [hcnd]; rfl⟩

end Tickit.EvLoop
