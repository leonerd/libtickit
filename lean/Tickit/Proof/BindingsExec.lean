import Tickit.Proof.BindingsStep
/-
  C16: every task of the repaired model, for every behaviour and every fuel, keeps the state invariant while the owner
  lives, never dereferences freed memory, and never destroys the owner under a walker (`exec_good`); what single
  calls record in the trace; operations and histories.
-/
namespace Tickit.Bindings

section
variable {own : Owner} {beh : Behaviour}

def Good (own : Owner) (beh : Behaviour) (fuel : Nat) : Prop :=
  ∀ task st, Inv st → RefOk own st → TaskOk own beh task st → Post own task st (exec Cfg.repaired own beh fuel task st)

/-- A sequence (a handler's actions, a pen's statements): `r` is what its first item came to, seen from the state the
    sequence started in; the rest runs on `g st2` (`g` records the closing bracket, if there is one) or, the owner gone, is
    skipped (`hskip`). -/
theorem Post.andThen {fuel : Nat} (ih : Good own beh fuel) {task rest : Task} {st : St} {g : St → St}
    (hg : ∀ st2 r, Post own task st (.ok (st2, r)) → Post own task st (.ok (g st2, r)))
    (hok : ∀ st2, TaskOk own beh rest (g st2))
    (hskip : ∀ f st2, (g st2).dead = true → exec Cfg.repaired own beh (f + 1) rest (g st2) = .ok (g st2, 0))
    {r : Res (St × Int)} (hr : Post own task st r) (hc : canDie task = true := by rfl)
    (hle : OccLe (occOf rest) (occOf task) := by exact OccLe.refl _) :
    Post own task st (match (generalizing := false) r with | .ok (st2, _) => exec Cfg.repaired own beh fuel rest (g st2) | e => e) :=
  Post.seq hr trivial fun st2 r hw => by
    rcases hg st2 r hw with ⟨_, h2, hro2, s2⟩ | ⟨hd2, _, hni, d⟩
    · exact Post.trans s2 hle (Or.inl hc) (ih rest _ h2 hro2 (hok st2))
    · cases fuel with
      | zero => trivial
      | succ f => rw [hskip f st2 hd2]; exact Post.ok_dead hd2 hc hni d

/-- The walk of occurrence `st.nextOcc` is over: with the closing bracket recorded (and the chain swept, if this was the
    outermost occurrence) the whole is a step of `run_event`. -/
theorem Step.occurrence {st st2 st3 : St} {ev : Int} {wf : Bool} (s2 : Step (some st.nextOcc, some st.nextOcc) (occSt st ev wf) st2)
    (hi : st3.isIter = st.isIter) (hl : st.isIter = true → st3.list = st2.list) (hlog : st3.log = Ev.occEnd st.nextOcc :: st2.log)
    (ho : st3.nextOcc = st2.nextOcc) (hlife : Life st2 st3) : Step (none, none) st st3 := by
  obtain ⟨seg, hseg, hf⟩ := s2.logExt
  refine ⟨hi, fun hit => ?_, ?_, ⟨Ev.occEnd st.nextOcc :: (seg ++ [Ev.occBegin st.nextOcc ev wf]), by rw [hlog, hseg]; simp [occSt], ?_⟩,
    (show Life st st2 from ⟨s2.life.refs, s2.life.freeze, s2.life.frozen⟩).trans hlife⟩
  · rw [hl hit]; exact s2.keysIter rfl
  · rw [ho]; exact Nat.le_trans (Nat.le_succ _) s2.occMono
  · intro e hm
    simp only [List.mem_cons, List.mem_append, List.not_mem_nil, or_false] at hm
    rcases hm with rfl | hm | rfl
    · trivial
    · exact (hf e hm).close
    · trivial

/-- when the walker returns, whoever called `run_event` holds its reference again, walker or no walker -/
theorem RefOk.of_iter {st st' : St} (h : RefOk own st) (hi : st.isIter = true) (hu : st'.userRef = st.userRef)
    (hr : st'.refs = st.refs) (hp : st'.pen = st.pen) (hf : st'.frozenRefs = st.frozenRefs) : RefOk own st' := by
  refine ⟨by rw [hf, hp]; exact h.1, fun ho => ?_⟩
  have h2 := h.2 ho
  rw [hi, b2n_true] at h2
  have := b2n_le_one st'.isIter
  rw [hu, hr, hf]; omega

theorem good_runEvent {fuel : Nat} (ih : Good own beh fuel) (wf : Bool) (ev : Int) (st : St) (h : Inv st) (hro : RefOk own st)
    (hok : TaskOk own beh (.runEvent wf ev) st) :
    Post own (.runEvent wf ev) st (exec Cfg.repaired own beh (fuel + 1) (.runEvent wf ev) st) := by
  rw [exec_runEvent]
  obtain ⟨h1, hro1, hok1⟩ := occSt_ok (beh := beh) h hro hok
  refine Post.seq (ih _ (occSt st ev wf) h1 hro1 hok1) trivial fun st2 r hw => ?_
  obtain ⟨h2, hro2, s2⟩ := hw.alive (Or.inl rfl)
  rw [if_neg (by rw [h2.alive.2]; exact Bool.false_ne_true)]
  split
  · rename_i hc
    simp only [Bool.and_eq_true, Bool.not_eq_true'] at hc
    exact Post.ok_alive (h2.of_sweep rfl rfl rfl rfl) (hro2.of_iter s2.iter rfl rfl rfl rfl)
      (s2.occurrence rfl (fun hi => by rw [hc.1] at hi; cases hi) rfl rfl (Life.same rfl rfl))
  · rename_i hc
    simp only [Bool.and_eq_true, Bool.not_eq_true', not_and, Bool.not_eq_true] at hc
    refine Post.ok_alive (h2.of_push rfl rfl rfl rfl nofun trivial fun b hb ht => ?_) (hro2.of_iter s2.iter rfl rfl rfl rfl)
      (s2.occurrence rfl (fun _ => rfl) rfl rfl (Life.same rfl rfl))
    -- a tombstone left behind: an enclosing walker is still running, and will sweep
    have hnd := (h2.tombIter b hb ht).2
    refine ⟨?_, hnd⟩
    cases hi : st.isIter with
    | true => rfl
    | false => rw [hc hi] at hnd; cases hnd

theorem good_call {fuel : Nat} (ih : Good own beh fuel) (key : Nat) (fn : Option Nat) (fl occ : Nat) (st : St)
    (h : Inv st) (hro : RefOk own st) (hok : TaskOk own beh (.call key fn fl occ) st) :
    Post own (.call key fn fl occ) st (exec Cfg.repaired own beh (fuel + 1) (.call key fn fl occ) st) := by
  cases fn with
  | none => exact absurd rfl hok.1
  | some hh =>
    rw [exec_call]
    obtain ⟨h1, hro1, hok1, s1⟩ := enterSt_ok h hro hok
    refine Post.seq (ih _ (enterSt st key hh fl occ) h1 hro1 hok1) trivial fun st2 r hw => ?_
    -- also when the owner was destroyed while the handler ran: the return is recorded, nothing else happens
    exact (Post.trans (task := .call key (some hh) fl occ) (t := .acts key 0 _) s1 (OccLe.of_none _) (Or.inl rfl) hw).push _ rfl
      (Or.inr (Or.inr rfl))

/-- The walker at `b`, the chain since then only grown at its ends: `b` is still linked, and the walk can go on from what
    follows it. -/
theorem walk_next {wf : Bool} {ev : Int} {occ : Nat} {st st2 : St} {b : Node} (hit : st.isIter = true) (hk : b.key ∈ keys st.list)
    (hocc : occ < st.nextOcc) (s2 : Step (some occ, some occ) st st2) :
    ∃ nx, nextOf st2.list b.key = some nx ∧ TaskOk own beh (.walk wf ev occ nx) st2 := by
  cases hn : nextOf st2.list b.key with
  | none => exact absurd (s2.mem_keys hit hk) (nextOf_none hn)
  | some nx => exact ⟨nx, rfl, s2.iter.trans hit, fun k' hk' => nextOf_some_mem (hk' ▸ hn), Nat.lt_of_lt_of_le hocc s2.occMono⟩

theorem good_walk {fuel : Nat} (ih : Good own beh fuel) (wf : Bool) (ev : Int) (occ : Nat) (cur : Option Nat) (st : St)
    (h : Inv st) (hro : RefOk own st) (hok : TaskOk own beh (.walk wf ev occ cur) st) :
    Post own (.walk wf ev occ cur) st (exec Cfg.repaired own beh (fuel + 1) (.walk wf ev occ cur) st) := by
  obtain ⟨hit, hcur, hocc⟩ := hok
  cases cur with
  | none => simp only [exec]; exact Post.ok_alive h hro (Step.refl _ st)
  | some k =>
    have hk : k ∈ keys st.list := hcur k rfl
    obtain ⟨b, hfb⟩ := findKey_of_mem hk
    obtain ⟨hbm, rfl⟩ := findKey_some hfb
    rw [exec_walk _ _ _ _ hfb]
    have hnext : ∀ w st2, Inv st2 → RefOk own st2 → Step (some occ, some occ) st st2 →
        Post own (.walk wf ev occ (some b.key)) st (match nextOf st2.list b.key with
          | none => .ub w
          | some nx => exec Cfg.repaired own beh fuel (.walk wf ev occ nx) st2) := by
      intro w st2 h2 hro2 s2
      obtain ⟨nx, hn, hok2⟩ := walk_next (own := own) (beh := beh) (wf := wf) (ev := ev) hit hk hocc s2
      rw [hn]
      exact Post.trans s2 (OccLe.refl _) (Or.inr (s2.iter.trans hit)) (ih (.walk wf ev occ nx) st2 h2 hro2 hok2)
    split
    · rename_i hc
      obtain ⟨h1, hro1, hok1, s1⟩ := fireSt_ok (beh := beh) (occ := occ) h hro hit hbm hc.2
      refine Post.seq (ih _ (fireSt st b occ) h1 hro1 hok1) trivial fun st2 r hw => ?_
      obtain ⟨h2, hro2, s2⟩ := hw.alive (Or.inl hit)
      have s02 := s1.trans (s2.weaken (OccLe.call occ))
      split
      · exact Post.ok_alive h2 hro2 s02
      · exact hnext _ st2 h2 hro2 s02
    · exact hnext _ st h hro (Step.refl _ st)

theorem good_unbindId {fuel : Nat} (ih : Good own beh fuel) (id : Int) (st : St) (h : Inv st) (hro : RefOk own st) (hid : id ≠ TOMBSTONE) :
    Post own (.unbindId id) st (exec Cfg.repaired own beh (fuel + 1) (.unbindId id) st) := by
  cases hf : findId st.list id with
  | none => simp only [exec, repaired_notifyLast, if_true, hf]; exact Post.ok_alive h hro (Step.refl _ st)
  | some b =>
    obtain ⟨hbm, hbid⟩ := findId_some hf
    obtain ⟨h1, hro1, hcall, s1⟩ := unbindSt_ok (beh := beh) h hro hbm (hbid ▸ hid)
    rw [exec_unbindId _ hf]
    cases hu : b.flags.unbind with
    | false => exact Post.ok_alive h1 hro1 s1
    | true =>
      simp only [if_true]
      cases hfn : b.fn with
      | none => exact Post.ok_alive h1 hro1 s1
      | some hh =>
        exact Post.seq (ih _ (unbindSt st b) h1 hro1 (hcall hu hh)) trivial fun st2 r hw =>
          Post.trans (task := .unbindId id) (t := .call b.key (some hh) EV_UNBIND 0) s1 (OccLe.notif _) (Or.inl rfl) hw

theorem slotIds_ne_tomb {st : St} (h : Inv st) {slot : Nat} {id : Int} (hs : st.slotIds[slot]? = some id) : id ≠ TOMBSTONE := by
  have := h.slotPos id (List.mem_of_getElem? hs)
  simp [TOMBSTONE]; omega

/-- Between operations no walker runs (hence there are no tombstones: `Inv.tombIter`). -/
def Top (st : St) : Prop := Inv st ∧ st.isIter = false

theorem Top.init : Top St.init := ⟨Inv.init, rfl⟩

theorem Top.no_tombstones {st : St} (h : Top st) : ∀ b ∈ st.list, b.id ≠ TOMBSTONE := by
  intro b hb ht
  have := (h.1.tombIter b hb ht).1
  rw [h.2] at this; cases this

/-- `tickit_bindings_unbind_and_destroy` with no walker running: every binding of the chain is live and has its handler. -/
theorem Top.destroy_post {st : St} (h : Top st) (fuel : Nat) :
    DestroyPost st.list.reverse st (exec Cfg.repaired own beh fuel (.destroyLoop st.list.reverse) st) :=
  destroyLoop_post own beh _ fuel st fun b hb => h.1.liveFn b (List.mem_reverse.1 hb) (h.no_tombstones b (List.mem_reverse.1 hb))

theorem Top.execOp_destroy {st : St} (h : Top st) (fuel : Nat) :
    Res.Sat (fun st' => st'.list = [] ∧ (TraceOk st.log → TraceOk st'.log) ∧
      ∃ seg, st'.log = seg ++ st.log ∧ enters seg = (st.list.reverse.filter asked).map (fun b => (b.key, EV_UNBIND + EV_DESTROY)))
      (execOp Cfg.repaired own beh fuel .destroy st) := by
  simp only [execOp]
  exact (h.destroy_post (own := own) (beh := beh) fuel).cases trivial fun ⟨_, _⟩ _ hp => hp

/-- `tickit_pen_unref` / `tickit_term_unref` when no walker runs (or when another reference remains). -/
theorem unref_post {fuel : Nat} {st : St} (h : Inv st) (hsafe : st.isIter = true → 2 ≤ st.refs) :
    Res.Sat (fun (st', _) =>
        (st'.dead = false ∧ 2 ≤ st.refs ∧ st' = { st with refs := st.refs - 1 }) ∨
        (st'.dead = true ∧ st.isIter = false ∧ TraceOk st'.log ∧ st'.list = [] ∧ ∃ seg, st'.log = seg ++ st.log ∧
          enters seg = (st.list.reverse.filter asked).map (fun b => (b.key, EV_UNBIND + EV_DESTROY))))
      (exec Cfg.repaired own beh (fuel + 1) .unref st) := by
  have hd := h.alive.2
  have hr := h.alive.1
  simp only [exec]
  rw [if_neg (show ¬ ((st.dead || st.refs == 0) = true) by rw [hd]; simp; omega)]
  by_cases h1 : st.refs = 1
  · rw [if_pos (by simp [h1])]
    have hni : st.isIter = false := by
      cases hi : st.isIter with
      | false => rfl
      | true => have := hsafe hi; omega
    exact (Top.destroy_post (own := own) (beh := beh) ⟨h, hni⟩ fuel).cases trivial fun p _ hp =>
      Or.inr ⟨rfl, hni, hp.2.1 h.trace, hp.1, hp.2.2⟩
  · rw [if_neg (by simp [h1])]
    exact Or.inl ⟨hd, by omega, rfl⟩

/-- Dropping a reference that is accounted for — `hspare`: besides the handlers, the open regions and the running walker
    somebody holds one, and that one goes — is the end of a step, or (no walker running) the end of the owner. -/
theorem post_unref {fuel : Nat} {task : Task} (hc : canDie task = true) {st st2 : St} (h2 : Inv st2) (hro2 : RefOk own st2)
    (hspare : b2n st2.userRef + st2.frozenRefs + b2n st2.isIter + 1 ≤ st2.refs)
    (s : Step (occOf task) st { st2 with refs := st2.refs - 1 }) :
    Post own task st (exec Cfg.repaired own beh fuel .unref st2) := by
  cases fuel with
  | zero => trivial
  | succ f =>
    refine (unref_post (own := own) (beh := beh) (fuel := f) h2 fun hit => by rw [hit, b2n_true] at hspare; omega).mono
      fun ⟨st3, x⟩ _ hur => ?_
    rcases hur with ⟨_, hge, rfl⟩ | ⟨hd3, hni, htr, _, seg, hseg, _⟩
    · exact Post.ok_alive (r := x) (h2.of_refs _ (by omega)) ⟨hro2.1, fun _ => by simp only; omega⟩ s
    · exact Post.ok_dead (r := x) hd3 hc (s.iter ▸ hni) (DeadStep.of_step s ⟨htr, seg, hseg⟩)

/-- An emitter or a region gives back the reference it took before its sub-tasks ran. -/
theorem post_drop {fuel : Nat} {task : Task} (hh : own.holdsRef = true) (hc : canDie task = true) {st st2 : St} (hro : RefOk own st)
    (h2 : Inv st2) (hro2 : RefOk own st2) (s : Step (occOf task) { st with refs := st.refs + 1 } st2) :
    Post own task st (exec Cfg.repaired own beh fuel .unref st2) := by
  have hacc := hro.held hh
  obtain ⟨r, _, f⟩ := s.life
  have := h2.alive.1
  have hi : st2.isIter = st.isIter := s.iter
  simp only at r f
  exact post_unref hc h2 hro2 (by rw [hi, f]; omega) (s.drop_ref (by omega))

theorem good_acts {fuel : Nat} (hs : Safe own beh) (ih : Good own beh fuel) (self i : Nat) (as : List Action) (st : St)
    (h : Inv st) (hro : RefOk own st) (hok : TaskOk own beh (.acts self i as) st) :
    Post own (.acts self i as) st (exec Cfg.repaired own beh (fuel + 1) (.acts self i as) st) := by
  cases as with
  | nil => simp only [exec]; exact Post.ok_alive h hro (Step.refl _ st)
  | cons a rest =>
    have h1 : Inv (st.push (Ev.actBegin i)) := h.push _ rfl
    have hro1 : RefOk own (st.push (Ev.actBegin i)) := hro.of_eq rfl rfl rfl
    have s1 : Step (none, none) st (st.push (Ev.actBegin i)) := Step.push st trivial
    simp only [exec, h.alive.2, Bool.false_eq_true, if_false]
    refine Post.andThen ih (rest := .acts self (i + 1) rest) (g := fun st2 => st2.push Ev.actEnd) (fun st2 r hw => hw.push Ev.actEnd rfl trivial)
      (fun _ hb x hx => hok hb x (List.mem_cons_of_mem _ hx)) (fun _ _ => exec_acts_dead) ?_
    -- the action: nothing, a change of the chain, or one task that works for no occurrence
    have run : ∀ task, occOf task = (none, none) → TaskOk own beh task (st.push (Ev.actBegin i)) →
        Post own (.acts self i (a :: rest)) st (exec Cfg.repaired own beh fuel task (st.push (Ev.actBegin i))) :=
      fun task hocc htok => Post.trans s1 (hocc ▸ OccLe.refl _) (Or.inl rfl) (ih task _ h1 hro1 htok)
    have same : Post own (.acts self i (a :: rest)) st (.ok (st.push (Ev.actBegin i), 0)) := Post.ok_alive h1 hro1 s1
    cases a with
    | bind ev first flags hh =>
      exact Post.ok_alive (h1.of_bind ev first flags hh) (hro1.of_eq rfl rfl rfl) (s1.trans (Step.bind _ ev first flags hh))
    | unbind slot =>
      dsimp only
      cases hsl : (st.push (Ev.actBegin i)).slotIds[slot]? with
      | none => exact same
      | some id => exact run (.unbindId id) rfl (slotIds_ne_tomb h1 hsl)
    | unbindSelf =>
      dsimp only
      cases hsl : (st.push (Ev.actBegin i)).slotIds[self]? with
      | none => exact same
      | some id => exact run (.unbindId id) rfl (slotIds_ne_tomb h1 hsl)
    | emit ev =>
      dsimp only
      by_cases hc : own.canEmit ev = true
      · simp only [hc, if_true]
        cases own.penEmitFg with
        | none => exact run (.emitter (own.wf ev) ev) rfl trivial
        | some n => exact run (.pen [.setCol n]) rfl trivial
      · simp only [hc]; exact same
    | pen op =>
      dsimp only
      cases op.isRegion with
      | true => exact run (.penRegion op.body) rfl trivial
      | false => exact run (.pen op.body) rfl trivial
    | destroy =>
      -- the handlers drop their own reference (once); the emitter that runs them holds another
      have hholds : own.holdsRef = true := hs.resolve_right fun hn => hok hn _ (List.mem_cons_self ..) rfl
      dsimp only
      cases hu : (st.push (Ev.actBegin i)).userRef with
      | false => exact same
      | true =>
        have hu' : st.userRef = true := hu
        have hacc := hro.held hholds
        have hr := h.alive.1
        rw [hu', b2n_true] at hacc
        refine post_unref rfl (h1.of_same h1.alive.1 h1.alive.2) ⟨hro.1, fun _ => ?_⟩ ?_
          (s1.trans (Step.of_same ⟨?_, rfl, rfl⟩))
        · show b2n false + st.frozenRefs + b2n st.isIter ≤ st.refs
          rw [b2n_false]; omega
        · show b2n false + st.frozenRefs + b2n st.isIter + 1 ≤ st.refs
          rw [b2n_false]; omega
        · show st.refs - 1 + b2n st.userRef = st.refs + b2n false
          rw [hu', b2n_true, b2n_false]; omega

theorem good_emitter {fuel : Nat} (ih : Good own beh fuel) (wf : Bool) (ev : Int) (st : St) (h : Inv st) (hro : RefOk own st) :
    Post own (.emitter wf ev) st (exec Cfg.repaired own beh (fuel + 1) (.emitter wf ev) st) := by
  simp only [exec]
  cases hh : own.holdsRef with
  | false =>
    simp only [Bool.false_eq_true, if_false]
    exact Post.seq (ih (.runEvent wf ev) st h hro (fun ho => by rw [hh] at ho; cases ho)) trivial fun st2 r hw =>
      Post.trans (task := .emitter wf ev) (t := .runEvent wf ev) (Step.refl _ st) (OccLe.refl _) (Or.inl rfl) hw
  | true =>
    simp only [if_true]
    have hacc := hro.held hh
    have := b2n_le_one st.isIter
    refine Post.seq (ih (.runEvent wf ev) { st with refs := st.refs + 1 } (h.of_refs _ (by omega))
      ⟨hro.1, fun _ => by simp only; omega⟩ (fun _ => by simp only; omega)) trivial fun st2 r hw => ?_
    obtain ⟨h2, hro2, s2⟩ := hw.alive (Or.inr rfl)
    -- the emitter drops its reference: the owner dies here iff the handlers dropped theirs and nothing else holds it
    exact Post.seq (t1 := .emitter wf ev) (st1 := st) (post_drop hh rfl hro h2 hro2 s2) trivial fun st3 _ hw => hw

theorem good_pen {fuel : Nat} (ih : Good own beh fuel) (steps : List PenStep) (st : St) (h : Inv st) (hro : RefOk own st) :
    Post own (.pen steps) st (exec Cfg.repaired own beh (fuel + 1) (.pen steps) st) := by
  cases steps with
  | nil => simp only [exec]; exact Post.ok_alive h hro (Step.refl _ st)
  | cons step rest =>
    simp only [exec]
    rw [if_neg (by rw [h.alive.2]; exact Bool.false_ne_true)]
    refine Post.andThen ih (rest := .pen rest) (g := fun st2 => st2) (fun _ _ hw => hw) (fun _ => trivial)
      (fun _ _ => exec_pen_dead) ?_
    -- the statement: nothing, a change of the pen's attributes, then at most one task that works for no occurrence
    have run : ∀ (task : Task) (st1 : St), occOf task = (none, none) → Inv st1 → RefOk own st1 → Step (none, none) st st1 →
        TaskOk own beh task st1 → Post own (.pen (step :: rest)) st (exec Cfg.repaired own beh fuel task st1) :=
      fun task st1 hocc h1 hro1 s1 htok => Post.trans s1 (hocc ▸ OccLe.refl _) (Or.inl rfl) (ih task st1 h1 hro1 htok)
    have same : Post own (.pen (step :: rest)) st (.ok (st, 0)) := Post.ok_alive h hro (Step.refl _ st)
    have hpen : ∀ p : PenSt, p.freeze = st.pen.freeze → (p.freeze = 0 → p.changed = false) →
        Inv { st with pen := p } ∧ RefOk own { st with pen := p } ∧ Step (none, none) st { st with pen := p } :=
      fun p hp hpc => ⟨h.of_same h.alive.1 h.alive.2, ⟨⟨by simp only; rw [hp]; exact hro.frozen, hpc⟩, hro.held⟩,
        Step.of_same (Life.same rfl rfl hp rfl)⟩
    -- `changed(pen)` after such a change: emit now, or remember it when frozen
    have hchanged : ∀ p : PenSt, p.freeze = st.pen.freeze → p.changed = st.pen.changed →
        Post own (.pen (step :: rest)) st
          (if p.freeze = 0 then exec Cfg.repaired own beh fuel (.emitter false 1) { st with pen := p }
           else .ok ({ st with pen := { p with changed := true } }, 0)) := by
      intro p hp hpc
      by_cases hz : p.freeze = 0
      · rw [if_pos hz]
        obtain ⟨a, b, c⟩ := hpen p hp (fun hz' => by rw [hpc]; exact hro.unchanged (by rw [← hp]; exact hz'))
        exact run (.emitter false 1) _ rfl a b c trivial
      · rw [if_neg hz]
        obtain ⟨a, b, c⟩ := hpen { p with changed := true } hp (fun hz' => absurd hz' hz)
        exact Post.ok_alive a b c
    cases step with
    | setBool v => exact hchanged { st.pen with bold := some v } rfl rfl
    | setCol n =>
      obtain ⟨a, b, c⟩ := hpen { st.pen with fg := some n, rgb := none } rfl hro.unchanged
      exact run (.emitter false 1) _ rfl a b c trivial
    | setRgb r =>
      simp only
      cases st.pen.fg.isSome with
      | true => exact hchanged { st.pen with rgb := some r } rfl rfl
      | false => exact same
    | copyAttrFg t => exact run (.penRegion (attrFgBody t)) st rfl h hro (Step.refl _ st) trivial
    | loopFg t ow =>
      simp only
      cases loopCopiesFg st.pen t ow with
      | true => exact run (.penRegion (attrFgBody t)) st rfl h hro (Step.refl _ st) trivial
      | false => exact same
    | loopBold t ow =>
      simp only
      cases loopCopiesBold st.pen t ow with
      | true => exact hchanged { st.pen with bold := some (t.bold.getD false) } rfl rfl
      | false => exact same

/-- A freeze..thaw region: the reference `freeze` takes keeps the owner alive through the region's body; `thaw`
    delivers the batched occurrence (if a change was remembered and this is the outermost region) and drops the
    reference — which is where the owner may be destroyed, if the handlers dropped theirs meanwhile. -/
theorem good_penRegion {fuel : Nat} (ih : Good own beh fuel) (body : List PenStep) (st : St) (h : Inv st)
    (hro : RefOk own st) :
    Post own (.penRegion body) st (exec Cfg.repaired own beh (fuel + 1) (.penRegion body) st) := by
  simp only [exec]
  rw [if_neg (by rw [h.alive.2]; exact Bool.false_ne_true)]
  obtain ⟨h1, hro1⟩ := freezeSt_ok h hro
  refine Post.seq (ih (.pen body) (freezeSt own st) h1 hro1 trivial) trivial fun st2 _ hw => ?_
  rcases hw with ⟨hd2, h2, hro2, s2⟩ | ⟨hd2, _, hni, d⟩
  · rw [if_neg (by rw [hd2]; exact Bool.false_ne_true)]
    have hpos : 1 ≤ st2.pen.freeze := by have := s2.life.freeze; simp only [freezeSt] at this; omega
    -- what remains after the (possible) batched occurrence: the region's reference goes
    have hfin : ∀ st4, Inv st4 → RefOk own st4 → Step (none, none) { st with refs := (freezeSt own st).refs } st4 →
        Post own (.penRegion body) st (if own.holdsRef = true then exec Cfg.repaired own beh fuel .unref st4 else .ok (st4, 0)) := by
      intro st4 h4 hro4 s4
      cases hh : own.holdsRef with
      | false =>
        simp only [freezeSt, hh, Bool.false_eq_true, if_false] at s4 ⊢
        exact Post.ok_alive h4 hro4 s4
      | true =>
        simp only [freezeSt, hh, if_true] at s4 ⊢
        exact post_drop hh rfl hro h4 hro4 s4
    cases hem : (decide (st2.pen.freeze = 1) && st2.pen.changed) with
    | false =>
      simp only [Bool.false_eq_true, if_false]
      obtain ⟨h3, hro3, _⟩ := thawSt_ok (beh := beh) (c := st2.pen.changed) h2 hro2 hpos (fun h1 => by simpa [h1] using hem)
      exact hfin _ h3 hro3 s2.thaw
    | true =>
      simp only [if_true]
      obtain ⟨h3, hro3, hok3⟩ := thawSt_ok (beh := beh) (c := false) h2 hro2 hpos (fun _ => rfl)
      refine Post.seq (ih (.runEvent false 1) (thawSt own st2 false) h3 hro3 hok3) trivial fun st4 _ hw => ?_
      obtain ⟨h4, hro4, s4⟩ := hw.alive (Or.inr rfl)
      exact hfin st4 h4 hro4 (s2.thaw.trans s4)
  · rw [if_pos hd2]
    exact Post.ok_dead hd2 rfl hni d

/-- For a `Safe` owner and behaviour, every task that `TaskOk` admits, every fuel: the repaired code never dereferences freed
    memory or a NULL function, it keeps the invariant while the owner lives, and the owner is never destroyed under a
    walker. -/
theorem exec_good (hs : Safe own beh) : ∀ fuel, Good own beh fuel := by
  intro fuel
  induction fuel with
  | zero => intro task st _ _ _; trivial
  | succ fuel ih =>
    intro task st h hro hok
    cases task with
    | emitter wf ev => exact good_emitter ih wf ev st h hro
    | unref => exact hok.elim
    | pen steps => exact good_pen ih steps st h hro
    | penRegion body => exact good_penRegion ih body st h hro
    | runEvent wf ev => exact good_runEvent ih wf ev st h hro hok
    | walk wf ev occ cur => exact good_walk ih wf ev occ cur st h hro hok
    | unbindId id => exact good_unbindId ih id st h hro hok
    | unbindLoopOrig id loc => exact hok.elim
    | call key fn fl occ => exact good_call ih key fn fl occ st h hro hok
    | acts self i as => exact good_acts hs ih self i as st h hro hok
    | destroyLoop rev => exact hok.elim

theorem exec_ok_alive (hs : Safe own beh) {fuel : Nat} {task : Task} {st st' : St} {r : Int}
    (hex : exec Cfg.repaired own beh fuel task st = .ok (st', r)) (h : Inv st) (hro : RefOk own st) (hok : TaskOk own beh task st)
    (hi : st.isIter = true ∨ canDie task = false) : Inv st' ∧ RefOk own st' ∧ Step (occOf task) st st' :=
  Post.alive (r := r) ((exec_good hs fuel task st h hro hok).of_ok hex) hi

end

theorem Res.seq_ok {r1 : Res (St × Int)} {k : St → Int → Res (St × Int)} {st' : St} {r : Int}
    (h : (match (generalizing := false) r1 with | .ok (st2, r2) => k st2 r2 | e => e) = .ok (st', r)) :
    ∃ st2 r2, r1 = .ok (st2, r2) ∧ k st2 r2 = .ok (st', r) := by
  cases r1 with
  | ok p => exact ⟨p.1, p.2, rfl, h⟩
  | ub w => cases h
  | outOfFuel => cases h

section
variable {own : Owner} {beh : Behaviour}

theorem exec_ok_fuel {cfg : Cfg} {fuel : Nat} {task : Task} {st : St} {p : St × Int}
    (h : exec cfg own beh fuel task st = .ok p) : ∃ f, fuel = f + 1 := by
  cases fuel with
  | zero => simp [exec] at h
  | succ f => exact ⟨f, rfl⟩

/-- The trace of a completed call: entry, what the handler's actions did (as long as the owner lives, all of it
    belonging to later occurrences or to notifications), return. -/
theorem exec_call_shape (hs : Safe own beh) {fuel key hh fl occ : Nat} {st st' : St} {r : Int} (h : Inv st) (hro : RefOk own st)
    (hok : TaskOk own beh (.call key (some hh) fl occ) st)
    (hex : exec Cfg.repaired own beh fuel (.call key (some hh) fl occ) st = .ok (st', r)) :
    ∃ segA, st'.log = Ev.leave key occ r :: (segA ++ Ev.enter key hh (st.inv hh) fl occ :: st.log) ∧
      (st'.dead = false → ∀ e ∈ segA, EvOcc (none, none) st.nextOcc e) := by
  obtain ⟨fuel, rfl⟩ := exec_ok_fuel hex
  rw [exec_call] at hex
  obtain ⟨st2, r2, hres, hk⟩ := Res.seq_ok hex
  cases hk
  obtain ⟨h1, hro1, hok1, _⟩ := enterSt_ok h hro hok
  rcases (exec_good hs fuel _ (enterSt st key hh fl occ) h1 hro1 hok1).of_ok hres with ⟨_, _, _, s2⟩ | ⟨hd2, _, _, _, seg, hseg⟩
  · obtain ⟨seg, hseg, hf⟩ := s2.logExt
    exact ⟨seg, by simp [St.push, hseg, enterSt], fun _ => hf⟩
  · exact ⟨seg, by simp [St.push, hseg, enterSt], fun hd => by have : true = false := hd2.symm.trans hd; cases this⟩

theorem exec_unbindId_log (hs : Safe own beh) {fuel : Nat} {id : Int} {st st' : St} {r : Int} {b : Node} (h : Inv st) (hro : RefOk own st)
    (hid : id ≠ TOMBSTONE) (hf : findId st.list id = some b)
    (hex : exec Cfg.repaired own beh fuel (.unbindId id) st = .ok (st', r)) :
    (b.flags.unbind = true → ∃ hh n seg, st'.log = seg ++ Ev.enter b.key hh n EV_UNBIND 0 :: Ev.unbindReq b.key :: st.log) ∧
    (b.flags.unbind = false → st'.log = Ev.unbindReq b.key :: st.log) := by
  obtain ⟨hbm, hbid⟩ := findId_some hf
  have hlive : b.id ≠ TOMBSTONE := hbid ▸ hid
  obtain ⟨fuel, rfl⟩ := exec_ok_fuel hex
  rw [exec_unbindId _ hf] at hex
  constructor
  · intro hu
    simp only [hu, if_true] at hex
    cases hfn : b.fn with
    | none => exact absurd hfn (h.liveFn b hbm hlive)
    | some hh =>
      simp only [hfn] at hex
      obtain ⟨st2, r2, hres, hk⟩ := Res.seq_ok hex
      cases hk
      obtain ⟨h1, hro1, hcall, _⟩ := unbindSt_ok (beh := beh) h hro hbm hlive
      obtain ⟨segA, hseg, _⟩ := exec_call_shape hs h1 hro1 (hcall hu hh) hres
      exact ⟨hh, st.inv hh, Ev.leave b.key 0 r2 :: segA, by rw [hseg]; simp [unbindSt]⟩
  · intro hu
    simp only [hu, Bool.false_eq_true, if_false] at hex
    cases hex; rfl

theorem unref_destroys {fuel : Nat} {st st' : St} {r : Int} (h : Inv st) (hni : st.isIter = false)
    (hex : exec Cfg.repaired own beh fuel .unref st = .ok (st', r)) (hd : st'.dead = true) :
    (∀ b ∈ st.list, b.id ≠ TOMBSTONE) ∧ st'.list = [] ∧
    ∃ seg, st'.log = seg ++ st.log ∧ enters seg = (st.list.reverse.filter asked).map (fun b => (b.key, EV_UNBIND + EV_DESTROY)) := by
  obtain ⟨fuel, rfl⟩ := exec_ok_fuel hex
  rcases (unref_post (own := own) (beh := beh) (fuel := fuel) h fun hit => by rw [hni] at hit; cases hit).of_ok hex with
    ⟨hal, _⟩ | ⟨_, _, _, hl, hseg⟩
  · rw [hd] at hal; cases hal
  · exact ⟨Top.no_tombstones ⟨h, hni⟩, hl, hseg⟩

/-- **Deferred destruction.**  An emission (no walker running around it) of an owner whose emitters hold a reference,
    that ends with the owner destroyed: the occurrence ran to completion first — its walker returned in a state `st2`
    in which the owner lives and the invariant holds, swept, with every binding of the chain live — and only then the
    remaining bindings that asked were notified, in reverse chain order, each once. -/
theorem emitter_destroys (hs : Safe own beh) (hh : own.holdsRef = true) {fuel : Nat} {wf : Bool} {ev : Int} {st st' : St} {r : Int}
    (h : Inv st) (hro : RefOk own st) (hni : st.isIter = false)
    (hex : exec Cfg.repaired own beh fuel (.emitter wf ev) st = .ok (st', r)) (hd : st'.dead = true) :
    ∃ st2 fuel', exec Cfg.repaired own beh fuel' (.runEvent wf ev) { st with refs := st.refs + 1 } = .ok (st2, r) ∧
      Inv st2 ∧ st2.isIter = false ∧ (∀ b ∈ st2.list, b.id ≠ TOMBSTONE) ∧ st'.list = [] ∧
      ∃ seg, st'.log = seg ++ st2.log ∧
        enters seg = (st2.list.reverse.filter asked).map (fun b => (b.key, EV_UNBIND + EV_DESTROY)) := by
  obtain ⟨fuel, rfl⟩ := exec_ok_fuel hex
  simp only [exec, hh, if_true] at hex
  obtain ⟨st2, r2, hres, hk⟩ := Res.seq_ok hex
  obtain ⟨st3, r3, hres2, hk⟩ := Res.seq_ok hk
  cases hk
  have hacc := hro.held hh
  have := b2n_le_one st.isIter
  obtain ⟨h2, _, s2⟩ := exec_ok_alive hs hres (h.of_refs _ (by omega)) ⟨hro.1, fun _ => by simp only; omega⟩
    (fun _ => by simp only; omega) (Or.inr rfl)
  have hni2 : st2.isIter = false := s2.iter.trans hni
  obtain ⟨hnt, hl, hseg⟩ := unref_destroys h2 hni2 hres2 hd
  exact ⟨st2, fuel, hres, h2, hni2, hnt, hl, hseg⟩

end

section
variable (own : Owner) (beh : Behaviour)

/-- the statements that do nothing on a pen with attributes `p`: a loop iteration with nothing to copy, an RGB8 secondary
    for a foreground that is not set -/
def PenStep.idle (p : PenSt) : PenStep → Bool
  | .loopFg t ow => !loopCopiesFg p t ow
  | .loopBold t ow => !loopCopiesBold p t ow
  | .setRgb _ => !p.fg.isSome
  | _ => false

theorem exec_pen_idle {cfg : Cfg} : ∀ (steps : List PenStep) (fuel : Nat) {st st2 : St} {r : Int},
    (∀ s ∈ steps, s.idle st.pen = true) → exec cfg own beh fuel (.pen steps) st = .ok (st2, r) → st2 = st := by
  intro steps
  induction steps with
  | nil =>
    intro fuel st st2 r _ hex
    cases fuel with
    | zero => simp [exec] at hex
    | succ f => simp only [exec] at hex; cases hex; rfl
  | cons s rest ih =>
    intro fuel st st2 r hall hex
    cases fuel with
    | zero => simp [exec] at hex
    | succ f =>
      have hs := hall s (List.mem_cons_self ..)
      have hrest := fun s hs => hall s (List.mem_cons_of_mem _ hs)
      revert hex
      cases s <;> simp only [PenStep.idle, Bool.not_eq_true', Bool.false_eq_true] at hs <;> intro hex
      all_goals
        simp only [exec, hs, Bool.false_eq_true, if_false] at hex
        split at hex
        · cases hex; rfl
        · exact ih f hrest hex

theorem exec_unref_alive {cfg : Cfg} {fuel : Nat} {st st2 : St} {r : Int} (hd : st.dead = false) (hr : 2 ≤ st.refs)
    (hex : exec cfg own beh fuel .unref st = .ok (st2, r)) : st2 = { st with refs := st.refs - 1 } := by
  obtain ⟨f, rfl⟩ := exec_ok_fuel hex
  simp only [exec] at hex
  rw [if_neg (by rw [hd]; simp; omega), if_neg (by simp; omega)] at hex
  injection hex with hex; injection hex with e _; exact e.symm

/-- A region whose statements are all idle calls no handler and records nothing, wherever it runs: a change is only
    remembered inside a frozen region and `thaw` clears the flag *before* it delivers (`RefOk`'s second clause).
    `tickit_pen_copy` on a pen that already satisfies the template is the case of its two loop statements. -/
theorem region_idle {fuel : Nat} {st st' : St} {r : Int} {body : List PenStep} (h : Inv st) (hro : RefOk own st)
    (hidle : ∀ s ∈ body, s.idle st.pen = true)
    (hex : exec Cfg.repaired own beh fuel (.penRegion body) st = .ok (st', r)) :
    st'.log = st.log ∧ st'.dead = false ∧ st'.list = st.list ∧ st'.pen = st.pen ∧ st'.refs = st.refs := by
  have hnd := h.alive.2
  have hr := h.alive.1
  obtain ⟨fuel, rfl⟩ := exec_ok_fuel hex
  simp only [exec] at hex
  rw [if_neg (by rw [hnd]; exact Bool.false_ne_true)] at hex
  obtain ⟨st2, r2, hres, hk⟩ := Res.seq_ok hex
  -- whether a statement is idle does not depend on the freeze count
  replace hidle : ∀ s ∈ body, s.idle (freezeSt own st).pen = true := fun s hs => by
    rw [← hidle s hs]; cases s <;> rfl
  cases exec_pen_idle own beh _ fuel hidle hres
  -- `thaw` has nothing to deliver: no change is remembered outside a frozen region
  have hem : (decide (st.pen.freeze + 1 = 1) && st.pen.changed) = false := by
    by_cases hz : st.pen.freeze = 0
    · simp [hz, hro.unchanged hz]
    · simp [hz]
  simp only [freezeSt, hnd, hem, Bool.false_eq_true, if_false] at hk
  cases hh : own.holdsRef with
  | false =>
    simp only [hh, Bool.false_eq_true, if_false] at hk
    cases hk; simp
  | true =>
    simp only [hh, if_true] at hk
    rw [exec_unref_alive own beh rfl (by show 2 ≤ st.refs + 1; omega) hk]; simp

end

theorem RefOk.init (own : Owner) : RefOk own St.init := by
  refine ⟨⟨by simp [St.init], by simp [St.init]⟩, fun _ => by simp [St.init]⟩

/-- identifiers handed to `unbind` are identifiers, not the tombstone mark -/
def OpOk : Op → Prop
  | .unbindId id => id ≠ TOMBSTONE
  | _ => True

def PostOp (own : Owner) (st : St) : Res St → Prop :=
  Res.Sat fun st' => (st'.dead = false ∧ Top st' ∧ RefOk own st' ∧ Step (none, none) st st') ∨ (st'.dead = true ∧ DeadStep st st')

section
variable {own : Owner} {beh : Behaviour}

theorem postOp_of_post {task : Task} (hocc : occOf task = (none, none)) {st : St} (hi : st.isIter = false) {r : Res (St × Int)}
    (h : Post own task st r) : PostOp own st r.dropRet := by
  refine h.cases trivial fun ⟨st', x⟩ _ h => ?_
  rcases h with ⟨hd, h1, hr1, s⟩ | ⟨hd, _, _, ds⟩
  · rw [hocc] at s
    exact Or.inl ⟨hd, ⟨h1, s.iter.trans hi⟩, hr1, s⟩
  · exact Or.inr ⟨hd, ds⟩

theorem execOp_good (hs : Safe own beh) (fuel : Nat) (op : Op) (hop : OpOk op) (hne : op ≠ .destroy) (st : St) (h : Top st)
    (hro : RefOk own st) : PostOp own st (execOp Cfg.repaired own beh fuel op st) := by
  have run : ∀ task, occOf task = (none, none) → TaskOk own beh task st →
      PostOp own st (exec Cfg.repaired own beh fuel task st).dropRet :=
    fun task hocc hok => postOp_of_post hocc h.2 (exec_good hs fuel task st h.1 hro hok)
  have same : PostOp own st (.ok st) := Or.inl ⟨h.1.alive.2, h, hro, Step.refl _ st⟩
  cases op with
  | bind ev first flags hh =>
    exact Or.inl ⟨(h.1.of_bind ev first flags hh).alive.2, ⟨h.1.of_bind ev first flags hh, h.2⟩, hro.of_eq rfl rfl rfl,
      Step.bind st ev first flags hh⟩
  | unbind slot =>
    simp only [execOp]
    cases hsl : st.slotIds[slot]? with
    | none => exact same
    | some id => exact run (.unbindId id) rfl (slotIds_ne_tomb h.1 hsl)
  | unbindId id => exact run (.unbindId id) rfl hop
  | emit ev =>
    simp only [execOp]
    by_cases hc : own.canEmit ev = true
    · simp only [hc, if_true]
      cases own.penEmitFg with
      | none => exact run (.emitter (own.wf ev) ev) rfl trivial
      | some n => exact run (.pen [.setCol n]) rfl trivial
    · simp only [hc]; exact same
  | pen op =>
    simp only [execOp]
    cases op.isRegion with
    | true => exact run (.penRegion op.body) rfl trivial
    | false => exact run (.pen op.body) rfl trivial
  | destroy => exact absurd rfl hne

/-- `Op.destroy ∉ ops`: `execOp .destroy` runs the destroy loop without marking the owner dead, and ends the history. -/
theorem execOps_good (hs : Safe own beh) (fuel : Nat) : ∀ (ops : List Op) (st : St), (∀ op ∈ ops, OpOk op) → Top st →
    RefOk own st →
    Res.Sat (fun st' => TraceOk st'.log ∧ (Op.destroy ∉ ops → st'.dead = false → Top st' ∧ st.nextOcc ≤ st'.nextOcc ∧ RefOk own st'))
      (execOps Cfg.repaired own beh fuel ops st) := by
  intro ops
  induction ops with
  | nil => intro st _ h hro; exact ⟨h.1.trace, fun _ _ => ⟨h, Nat.le_refl _, hro⟩⟩
  | cons op rest ih =>
    intro st hops h hro
    simp only [execOps]
    by_cases hd : op = .destroy
    · subst hd
      refine (h.execOp_destroy (own := own) (beh := beh) fuel).cases trivial fun st' _ hp => ?_
      simp only [decide_true, Bool.true_or, if_true]
      exact ⟨hp.2.1 h.1.trace, fun hn => absurd (List.mem_cons_self ..) hn⟩
    · refine (execOp_good hs fuel op (hops op (List.mem_cons_self ..)) hd st h hro).cases trivial fun st' _ hpo => ?_
      simp only [hd, decide_false, Bool.false_or]
      rcases hpo with ⟨hd', htop, hro', s⟩ | ⟨hd', htr, _⟩
      · rw [hd']
        simp only [Bool.false_eq_true, if_false]
        refine (ih st' (fun o ho => hops o (List.mem_cons_of_mem _ ho)) htop hro').mono fun st'' _ hr => ⟨hr.1, fun hn hal => ?_⟩
        have := hr.2 (fun hm => hn (List.mem_cons_of_mem _ hm)) hal
        exact ⟨this.1, Nat.le_trans s.occMono this.2.1, this.2.2⟩
      · rw [hd']
        simp only [if_true]
        exact ⟨htr, fun _ hal => by rw [hd'] at hal; cases hal⟩

theorem runs_good (hs : Safe own beh) {fuel : Nat} {ops : List Op} {st : St} (hops : ∀ op ∈ ops, OpOk op)
    (hr : execOps Cfg.repaired own beh fuel ops St.init = .ok st) :
    TraceOk st.log ∧ (Op.destroy ∉ ops → st.dead = false → Top st ∧ 1 ≤ st.nextOcc ∧ RefOk own st) :=
  (execOps_good hs fuel ops St.init hops Top.init (RefOk.init own)).of_ok hr

end

def isUb : Res St → Bool
  | .ub _ => true
  | _ => false

theorem ub_of_isUb {r : Res St} (h : isUb r = true) : ∃ w, r = .ub w := by
  cases r with
  | ub w => exact ⟨w, rfl⟩
  | ok st => cases h
  | outOfFuel => cases h

/-- a history from the empty binding list runs to completion, with a decidable fact about its final state — by one
    evaluation -/
theorem runs_and {cfg : Cfg} {own : Owner} {beh : Behaviour} {fuel : Nat} {ops : List Op} {P : St → Prop} [DecidablePred P]
    (h : (match execOps cfg own beh fuel ops St.init with | .ok st => decide (P st) | _ => false) = true) :
    ∃ st, execOps cfg own beh fuel ops St.init = .ok st ∧ P st := by
  cases hc : execOps cfg own beh fuel ops St.init with
  | ok st => rw [hc] at h; exact ⟨st, rfl, of_decide_eq_true h⟩
  | ub w => rw [hc] at h; cases h
  | outOfFuel => rw [hc] at h; cases h

end Tickit.Bindings
