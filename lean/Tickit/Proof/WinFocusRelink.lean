import Tickit.Proof.WinFocusReq
/-
  C15: how `show` / `hide` maintain the focus chain, and `tickit_window_reposition` of a focused window.
-/
namespace Tickit
namespace WinFocus
open WinTree WinSpec WinFlush

theorem hideWin_wins {fx : Fixes} {t t' : Tree} {win p : Nat} {w pw : Win} (hwf : wfB t = true) (hw : Live t win w)
    (hp : w.parent = some p) (hpw : Live t p pw) (hh : hideWin fx t win = .ok t') :
    Two t t' win { w with isVisible := false } p
      (if pw.focusedChild = some win then { pw with focusedChild := none } else pw) := by
  obtain ⟨w0, t'', hw0, h2, rfl⟩ := hideWin_ok hh
  cases Live.unique hw0 hw
  have hwins' : (if (fx.hiddenRoot && w.parent.isNone && w.isRoot) = true then requestRestore t''
      else chainRestoreAfter fx t t'' w.parent).wins = t''.wins := by
    split
    · rfl
    · exact chainRestoreAfter_wins _ _ _ _
  rcases hide_pieces h2 hw (fun p hp => parent_ne hwf hw hp) with ⟨hn, _⟩ | ⟨p', pw', hp', hpw', hst⟩
  · rw [hp] at hn; cases hn
  · rw [hp] at hp'; cases hp'; cases Live.unique hpw' hpw
    exact hst.of_wins hwins'

theorem showWin_wins {fx : Fixes} {t t' : Tree} {win p : Nat} {w pw : Win} (hwf : wfB t = true) (hw : Live t win w)
    (hp : w.parent = some p) (hpw : Live t p pw) (hh : showWin fx t win = .ok t') :
    Two t t' win { w with isVisible := true } p
      (if pw.focusedChild.isNone && (w.focusedChild.isSome || w.isFocused) then { pw with focusedChild := some win }
       else pw) := by
  obtain ⟨w0, t'', hw0, h2, rfl⟩ := showWin_ok hh
  cases Live.unique hw0 hw
  rcases show_pieces h2 hw (fun p hp => parent_ne hwf hw hp) with ⟨hn, _⟩ | ⟨p', pw', hp', hpw', hst⟩
  · rw [hp] at hn; cases hn
  · rw [hp] at hp'; cases hp'; cases Live.unique hpw' hpw
    exact hst.of_wins (chainRestoreAfter_wins _ _ _ _)

/-- Showing a window whose parent has no focused child relinks the parent to it whenever the window carries a link or is
    focused itself (every state of the source). -/
theorem showWin_relinks {fx : Fixes} {t t' : Tree} {win p : Nat} {w pw : Win} (hwf : wfB t = true) (hw : Live t win w)
    (hp : w.parent = some p) (hpw : Live t p pw) (hnone : pw.focusedChild = none)
    (hlat : w.focusedChild.isSome = true ∨ w.isFocused = true) (hh : showWin fx t win = .ok t') :
    ∃ pw', t'.wins[p]? = some pw' ∧ pw'.focusedChild = some win := by
  have h := (showWin_wins hwf hw hp hpw hh).snd
  have hc : (pw.focusedChild.isNone && (w.focusedChild.isSome || w.isFocused)) = true := by
    rw [hnone]; rcases hlat with h1 | h1 <;> simp [h1]
  rw [if_pos hc] at h
  exact ⟨_, h, rfl⟩

/-- Hiding a visible window the focus chain runs through and showing it again gives back the same store: every link,
    every flag, hence the same `cursorSpec` — however deep below the window the focused one sits. -/
theorem hide_show_roundtrip {fx : Fixes} {t t1 t2 : Tree} {win p : Nat} {w pw : Win} (hwf : wfB t = true)
    (hwf1 : wfB t1 = true) (hw : Live t win w) (hv : w.isVisible = true) (hp : w.parent = some p) (hpw : Live t p pw)
    (hl : pw.focusedChild = some win) (hlat : w.focusedChild.isSome = true ∨ w.isFocused = true)
    (h1 : hideWin fx t win = .ok t1) (h2 : showWin fx t1 win = .ok t2) : t2.wins = t.wins := by
  have hpne := parent_ne hwf hw hp
  have e1 := hideWin_wins hwf hw hp hpw h1
  rw [if_pos hl] at e1
  have hw1 : Live t1 win { w with isVisible := false } := ⟨e1.fst, hw.2⟩
  have hpw1 : Live t1 p { pw with focusedChild := none } := ⟨e1.snd, hpw.2⟩
  have e2 := showWin_wins hwf1 hw1 hp hpw1 h2
  have hc : ((none : Option Nat).isNone && (w.focusedChild.isSome || w.isFocused)) = true := by
    rcases hlat with h | h <;> simp [h]
  rw [if_pos hc] at e2
  apply Array.ext_getElem?
  intro i
  by_cases hi : i = win
  · subst hi
    rw [e2.fst, hw.1]
    congr 1
    cases w; simp at hv ⊢; exact hv
  · by_cases hip : i = p
    · subst hip
      rw [e2.snd, hpw.1]
      congr 1
      cases pw; simp at hl ⊢; exact hl.symm
    · rw [e2.other i hi hip, e1.other i hi hip]

/-- `tickit_window_reposition` of a focused window leaves a restore pending, whatever the new position is like. -/
theorem reposition_requests {t t' : Tree} {win : Nat} {w : Win} {top left : Int} (hw : Live t win w)
    (hf : w.isFocused = true) (h : reposition t win top left = .ok t') :
    t'.root.needsRestore = true ∧ t'.root.needsLater = true := by
  unfold reposition at h
  simp only [bind_ok_iff] at h
  obtain ⟨w0, hg0, x, hx, h⟩ := h
  have := Live.unique (get_ok_iff.mp hg0) hw; subst this
  obtain ⟨t1, b⟩ := x
  simp only [] at h
  -- the window is still focused after the geometry change
  have hw1 : ∃ w1, Live t1 win w1 ∧ w1.isFocused = true := by
    obtain ⟨w2, hw2, ⟨_, h1⟩ | ⟨_, h1⟩⟩ := setGeometry_cases hx <;> cases Live.unique hw2 hw <;> cases (show t1 = _ from h1)
    · exact ⟨{ w0 with rect := ⟨top, left, w0.rect.lines, w0.rect.cols⟩ }, ⟨by rw [set_wins_of hw.1, if_pos rfl], hw.2⟩, hf⟩
    · exact ⟨w0, hw, hf⟩
  obtain ⟨w1, hw1, hf1⟩ := hw1
  obtain ⟨w3, hw3, rfl | ⟨hf3, _⟩⟩ := restoreIfFocused_cases h
  · exact ⟨rfl, rfl⟩
  · rw [Live.unique hw3 hw1, hf1] at hf3; cases hf3

end WinFocus
end Tickit
