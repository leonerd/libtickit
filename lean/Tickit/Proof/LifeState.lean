import Tickit.Proof.LifeDestroy
/-
  C08: the whole state.  `SInv` is the invariant between two operations of the application, the library's own
  references its parameter (`Ghost`).  One counted object is accounted by `Obj.At p h` (pens and the terminal are both
  `Obj`s; a `ref`/`unref` on either is one of its four moves); `BindsFrom` says where the handlers of a later state come
  from.  Second half: `tickit_window_unref` on the tree (`Unrefd`) and on the state (`UnrefdW`), for whoever holds the
  reference dropped.
-/
namespace Tickit.Life
open WinTree (Id Win Req Change Tree)

/-- The number of windows whose pen is pen `k`. -/
def holders (st : St) (k : Nat) : Nat := (st.wx.toList.filter (fun x => x.pen = .app k)).length

theorem getX_of_lt {st : St} {i : Nat} (h : i < st.wx.size) : getX st i = st.wx[i] := by
  unfold getX
  simp [h]

theorem holders_setX {st : St} {i : Nat} (x : WinX) (h : i < st.wx.size) (k : Nat) :
    holders (setX st i x) k + (if (getX st i).pen = .app k then 1 else 0) =
      holders st k + (if x.pen = .app k then 1 else 0) := by
  have hl : i < st.wx.toList.length := by simpa using h
  have hg : st.wx.toList[i] = getX st i := by simp [getX, h]
  -- the subtraction in `List.countP_set` is exact: a window holding the pen is counted
  have hle : (if (getX st i).pen = .app k then 1 else 0) ≤ List.countP (fun x : WinX => decide (x.pen = .app k)) st.wx.toList := by
    split
    · rename_i hp
      exact List.countP_pos_iff.2 ⟨_, List.getElem_mem hl, by rw [hg]; exact decide_eq_true hp⟩
    · exact Nat.zero_le _
  unfold holders setX
  rw [← List.countP_eq_length_filter, ← List.countP_eq_length_filter, Array.toList_setIfInBounds, List.countP_set hl, hg]
  simp only [decide_eq_true_eq]
  omega

theorem holders_setX_same {st : St} {i : Nat} (x : WinX) (hp : x.pen = (getX st i).pen) (k : Nat) :
    holders (setX st i x) k = holders st k := by
  by_cases h : i < st.wx.size
  · have := holders_setX x h k
    rw [hp] at this
    omega
  · unfold holders setX
    rw [Array.setIfInBounds_eq_of_size_le (Nat.le_of_not_lt h)]

@[simp] theorem setX_tree (st : St) (i : Nat) (x : WinX) : (setX st i x).tree = st.tree := rfl
@[simp] theorem setX_pens (st : St) (i : Nat) (x : WinX) : (setX st i x).pens = st.pens := rfl
@[simp] theorem setX_term (st : St) (i : Nat) (x : WinX) : (setX st i x).term = st.term := rfl
@[simp] theorem setX_size (st : St) (i : Nat) (x : WinX) : (setX st i x).wx.size = st.wx.size := by simp [setX]

theorem getX_setX (st : St) (i : Nat) (x : WinX) (j : Nat) :
    getX (setX st i x) j = if i = j ∧ i < st.wx.size then x else getX st j := by
  unfold getX setX
  rw [Array.getElem?_setIfInBounds]
  by_cases hij : i = j
  · subst hij
    by_cases hlt : i < st.wx.size
    · simp [hlt]
    · rw [if_pos rfl, if_neg hlt, if_neg (fun h => hlt h.2), Array.getElem?_eq_none (Nat.le_of_not_lt hlt)]
  · rw [if_neg hij, if_neg (fun h => hij h.1)]

theorem getX_setX_self {st : St} {i : Nat} (x : WinX) (h : i < st.wx.size) : getX (setX st i x) i = x := by
  rw [getX_setX, if_pos ⟨rfl, h⟩]

theorem setX_getX_self (st : St) (i : Nat) : setX st i (getX st i) = st := by
  have : st.wx.setIfInBounds i (getX st i) = st.wx := by
    unfold Array.setIfInBounds getX
    split
    · rename_i h
      simp only [Array.getElem?_eq_getElem h, Option.getD_some, Array.set_getElem_self]
    · rfl
  unfold setX
  simp only [this]

/-- The handler `b` is `b0` as `tickit_bindings_unbind_event_id` may have left it: same actions and result, its event
    kept or (inside `run_events`) blanked. -/
def Bind.Stems (b b0 : Bind) : Prop := b.acts = b0.acts ∧ b.ret = b0.ret ∧ (b.ev = b0.ev ∨ b.ev = none)

theorem Bind.Stems.refl (b : Bind) : b.Stems b := ⟨rfl, rfl, .inl rfl⟩

theorem Bind.Stems.trans {a b c : Bind} (h1 : a.Stems b) (h2 : b.Stems c) : a.Stems c :=
  ⟨h1.1.trans h2.1, h1.2.1.trans h2.2.1,
    h1.2.2.elim (fun e => h2.2.2.elim (fun f => .inl (e.trans f)) fun f => .inr (e.trans f)) .inr⟩

def StemFrom (bs bs0 : List Bind) : Prop := ∀ b ∈ bs, ∃ b0 ∈ bs0, b.Stems b0

theorem StemFrom.of_sub {bs bs0 : List Bind} (h : ∀ b ∈ bs, b ∈ bs0) : StemFrom bs bs0 :=
  fun b hb => ⟨b, h b hb, .refl b⟩

/-- Every handler bound in `st'` stems from a handler of the same window in `st`, or has actions that are `new`.
    The operations say this of the state they leave, so that what holds of all handlers holds afterwards. -/
def BindsFrom (new : List Act → Prop) (st st' : St) : Prop :=
  ∀ (i : Nat) (b : Bind), b ∈ (getX st' i).binds → (∃ b0 ∈ (getX st i).binds, b.Stems b0) ∨ new b.acts

theorem BindsFrom.refl (new : List Act → Prop) (st : St) : BindsFrom new st st :=
  fun _ b hb => .inl ⟨b, hb, .refl b⟩

theorem BindsFrom.of_wx {new : List Act → Prop} {st st' : St} (h : st'.wx = st.wx) : BindsFrom new st st' := by
  intro i b hb; unfold getX at hb; rw [h] at hb; exact .inl ⟨b, hb, .refl b⟩

theorem BindsFrom.trans {new : List Act → Prop} {a b c : St} (h1 : BindsFrom new a b) (h2 : BindsFrom new b c) : BindsFrom new a c := by
  intro i x hx
  rcases h2 i x hx with ⟨y, hy, e⟩ | hn
  · rcases h1 i y hy with ⟨z, hz, f⟩ | hn
    · exact .inl ⟨z, hz, e.trans f⟩
    · exact .inr (e.1 ▸ hn)
  · exact .inr hn

theorem BindsFrom.upd {new : List Act → Prop} {st : St} (i : Nat) (x : WinX)
    (hb : ∀ b ∈ x.binds, (∃ b0 ∈ (getX st i).binds, b.Stems b0) ∨ new b.acts) : BindsFrom new st (setX st i x) := by
  intro j b hbj
  rw [getX_setX] at hbj
  split at hbj
  · rename_i h; exact h.1 ▸ hb b hbj
  · exact .inl ⟨b, hbj, .refl b⟩

theorem BindsFrom.upd_stems {new : List Act → Prop} {st : St} (i : Nat) (x : WinX) (hb : StemFrom x.binds (getX st i).binds) :
    BindsFrom new st (setX st i x) :=
  .upd i x fun b h => .inl (hb b h)

theorem BindsFrom.upd_sub {new : List Act → Prop} {st : St} (i : Nat) (x : WinX) (hb : ∀ b ∈ x.binds, b ∈ (getX st i).binds) :
    BindsFrom new st (setX st i x) :=
  .upd_stems i x (.of_sub hb)

theorem KeepingHandlers.from {new : List Act → Prop} {st st' : St} (H : KeepingHandlers st) (F : BindsFrom new st st')
    (hn : ∀ acts, new acts → ∀ a ∈ acts, a.keeps = true) : KeepingHandlers st' := by
  intro i b hb
  rcases F i b hb with ⟨b0, hb0, e⟩ | h
  · rw [e.1]; exact H i b0 hb0
  · exact hn _ h

/-- References the library itself holds between two calls or while an entry point runs, which the window tree of this
    layer does not know about (`Model/LifeTop.lean`: the toplevel instance's references to the terminal and to the root
    window, the reference an input entry point of the terminal holds while it works).  A parameter of the invariant:
    no operation of this layer reads or changes it. -/
structure Ghost where
  term : Nat := 0
  win : Nat → Nat := fun _ => 0

def Ghost.none : Ghost := {}

/-- The windows whose count is known exactly: the root window (no dying parent can take a reference from it), and
    every window the library holds no reference of its own to. -/
def Ghost.covers (gh : Ghost) (i : Nat) : Prop := i = 0 ∨ gh.win i = 0

theorem Ghost.none_covers (i : Nat) : Ghost.none.covers i := .inr rfl

@[simp] theorem Ghost.none_term : Ghost.none.term = 0 := rfl
@[simp] theorem Ghost.none_win (i : Nat) : Ghost.none.win i = 0 := rfl

variable {gh : Ghost}

/-- The pens' account (`pensOk_iff`: `PX` with no reference of the library). -/
structure PensOk (st : St) : Prop where
  rc : ∀ (k : Nat) (p : Obj), st.pens[k]? = some p →
    (p.freed = false → p.refcount = (p.appRefs : Int) + (holders st k : Int)) ∧ (p.freed = true → holders st k = 0)
  ex : ∀ (k : Nat), st.pens[k]? = none → holders st k = 0
  pos : ∀ (k : Nat) (p : Obj), st.pens[k]? = some p → p.freed = false → 1 ≤ p.refcount

/-- Render buffers and strings are held by the application only. -/
def SimpleOk (st : St) : Prop :=
  (∀ (k : Nat) (b : RBObj), st.rbs[k]? = some b → b.freed = false → 1 ≤ b.refcount ∧ b.refcount = (b.appRefs : Int)) ∧
  (∀ (k : Nat) (s : StrObj), st.strs[k]? = some s → s.freed = false → 1 ≤ s.refcount ∧ s.refcount = (s.appRefs : Int))

/-- The state invariant without the account of the application's window references, generalised to the middle of
    `tickit_window_unref`: the windows in `pending` have been freed by the tree cascade but what they own (pen,
    terminal reference) has not been released yet. -/
structure SInvB (gh : Ghost) (st : St) (pending : List Nat) : Prop where
  tinv : TInv st.tree
  wx_size : st.wx.size = st.tree.wins.size
  rc : ∀ (i : Nat) (w : Win), LiveW st.tree i w → 1 ≤ w.refcount
  pend_nodup : pending.Nodup
  pend_freed : ∀ i ∈ pending, ∃ w, st.tree.wins[i]? = some w ∧ w.freed = true
  dead_pen : ∀ (i : Nat) (w : Win), st.tree.wins[i]? = some w → w.freed = true → i ∉ pending → (getX st i).pen = .null
  pens : PensOk st
  /-- the `+ 1` is the reference the root window holds, until what it owned is released -/
  term_held : st.term.freed = false → ((∃ r, LiveW st.tree 0 r) ∨ 0 ∈ pending) →
    st.term.refcount = (st.term.appRefs : Int) + (gh.term : Int) + 1
  term_free : st.term.freed = false → ¬ ((∃ r, LiveW st.tree 0 r) ∨ 0 ∈ pending) →
    st.term.refcount = (st.term.appRefs : Int) + (gh.term : Int) ∧ 1 ≤ st.term.refcount
  term_dead : st.term.freed = true → ¬ ((∃ r, LiveW st.tree 0 r) ∨ 0 ∈ pending) ∧ st.term.appRefs = 0 ∧ gh.term = 0
  simple : SimpleOk st

/-- The state invariant: no handler is running, so nobody but the application and the library holds a window; the count
    is exactly their tallies where `gh.covers`.  (`pending` is `[]` wherever this is used: only `SInvB` runs in the middle
    of an unref.) -/
structure SInvG (gh : Ghost) (st : St) (pending : List Nat) : Prop extends SInvB gh st pending where
  wref : ∀ (i : Nat) (w : Win), LiveW st.tree i w → w.refcount ≤ ((getX st i).appRefs : Int) + (gh.win i : Int) ∧
    (gh.covers i → ((getX st i).appRefs : Int) + (gh.win i : Int) ≤ w.refcount)
  glive : 0 < gh.win 0 → ∃ r, LiveW st.tree 0 r

abbrev SInv (gh : Ghost) (st : St) : Prop := SInvG gh st []

theorem SInvG.exact {gh : Ghost} {st : St} {p : List Nat} (inv : SInvG gh st p) {i : Nat} {w : Win} (hl : LiveW st.tree i w)
    (hc : gh.covers i) : w.refcount = ((getX st i).appRefs : Int) + (gh.win i : Int) :=
  Int.le_antisymm (inv.wref i w hl).1 ((inv.wref i w hl).2 hc)

/-- `SInvB` reads of the library's references only those to the terminal: the account of the windows is given anew. -/
theorem SInvB.reghost_wins {gh gh' : Ghost} {st : St} (B : SInvB gh st []) (hterm : gh'.term = gh.term)
    (hw : ∀ (i : Nat) (w : Win), LiveW st.tree i w → w.refcount ≤ ((getX st i).appRefs : Int) + (gh'.win i : Int) ∧
      (gh'.covers i → ((getX st i).appRefs : Int) + (gh'.win i : Int) ≤ w.refcount))
    (hgl : 0 < gh'.win 0 → ∃ r, LiveW st.tree 0 r) : SInv gh' st :=
  ⟨{ B with term_held := hterm ▸ B.term_held, term_free := hterm ▸ B.term_free, term_dead := hterm ▸ B.term_dead }, hw, hgl⟩

theorem SInvB.rb_rc {st : St} {pend : List Nat} (inv : SInvB gh st pend) (k : Nat) (b : RBObj) (hb : st.rbs[k]? = some b)
    (hf : b.freed = false) : 1 ≤ b.refcount := (inv.simple.1 k b hb hf).1

/-- `p` is counted: its count is the application's tally plus `h` references of others (the windows that hold a pen;
    for the terminal the root window and the library), and it is freed only when nobody else holds it. -/
def Obj.At (p : Obj) (h : Nat) : Prop :=
  (p.freed = false → p.refcount = (p.appRefs : Int) + (h : Int) ∧ 1 ≤ p.refcount) ∧ (p.freed = true → h = 0)

theorem Obj.At.live {p : Obj} {h : Nat} (H : p.At (h + 1)) : p.freed = false :=
  Bool.eq_false_iff.2 fun hf => Nat.succ_ne_zero _ (H.2 hf)

theorem Obj.At.ref {p : Obj} {h : Nat} (H : p.At h) (hf : p.freed = false) :
    ({ p with refcount := p.refcount + 1 } : Obj).At (h + 1) := by
  obtain ⟨h1, h2⟩ := H.1 hf
  exact ⟨fun _ => ⟨by show p.refcount + 1 = (p.appRefs : Int) + ((h + 1 : Nat) : Int); omega, by show 1 ≤ p.refcount + 1; omega⟩,
    fun h' => nomatch hf.symm.trans h'⟩

/-- Somebody else gives a reference back: the call passes its checks, and the object is freed only if that was the
    last one (and then the application holds none either). -/
theorem Obj.At.unref {p : Obj} {h : Nat} (H : p.At (h + 1)) :
    p.freed = false ∧ 1 ≤ p.refcount ∧ p.dropped.At h ∧ (p.dropped.freed = true → p.appRefs = 0) := by
  have hf := H.live
  obtain ⟨h1, h2⟩ := H.1 hf
  refine ⟨hf, h2, ⟨fun hd => ?_, fun hd => ?_⟩, fun hd => ?_⟩
  · have : ¬ p.refcount - 1 = 0 := of_decide_eq_false hd
    exact ⟨by show p.refcount - 1 = (p.appRefs : Int) + (h : Int); omega, by show 1 ≤ p.refcount - 1; omega⟩
  · have : p.refcount - 1 = 0 := of_decide_eq_true hd
    omega
  · have : p.refcount - 1 = 0 := of_decide_eq_true hd
    omega

theorem Obj.At.app_ref {p : Obj} {h : Nat} (H : p.At h) (hf : p.freed = false) :
    ({ p with refcount := p.refcount + 1, appRefs := p.appRefs + 1 } : Obj).At h := by
  obtain ⟨h1, h2⟩ := H.1 hf
  exact ⟨fun _ => ⟨by show p.refcount + 1 = ((p.appRefs + 1 : Nat) : Int) + (h : Int); omega, by show 1 ≤ p.refcount + 1; omega⟩,
    fun h' => nomatch hf.symm.trans h'⟩

/-- The application gives up one of its references: it is somebody else's until the call drops it (`Obj.At.unref`). -/
theorem Obj.At.rebook {p : Obj} {h : Nat} (H : p.At h) (hf : p.freed = false) (hpos : 0 < p.appRefs) :
    ({ p with appRefs := p.appRefs - 1 } : Obj).At (h + 1) := by
  obtain ⟨h1, h2⟩ := H.1 hf
  exact ⟨fun _ => ⟨by show p.refcount = ((p.appRefs - 1 : Nat) : Int) + ((h + 1 : Nat) : Int); omega, h2⟩,
    fun h' => nomatch hf.symm.trans h'⟩

/-- The three clauses of `SInvB` about the terminal say that it is counted: besides the library's `g` references
    there is the root window's (`n`: 1 while `R`, the root window lives or what it owns is still to be released). -/
theorem term_at_iff {g n : Nat} {R : Prop} (hn1 : R → n = 1) (hn0 : ¬ R → n = 0) (tm : Obj) :
    ((tm.freed = false → R → tm.refcount = (tm.appRefs : Int) + (g : Int) + 1) ∧
     (tm.freed = false → ¬ R → tm.refcount = (tm.appRefs : Int) + (g : Int) ∧ 1 ≤ tm.refcount) ∧
     (tm.freed = true → ¬ R ∧ tm.appRefs = 0 ∧ g = 0)) ↔ (tm.At (g + n) ∧ (tm.freed = true → tm.appRefs = 0)) := by
  by_cases hR : R
  · have e := hn1 hR
    subst e
    exact ⟨fun ⟨h1, _, h3⟩ => ⟨⟨fun hf => by have := h1 hf hR; omega, fun hf => absurd hR (h3 hf).1⟩, fun hf => (h3 hf).2.1⟩,
      fun ⟨H, _⟩ => ⟨fun hf _ => by have := H.1 hf; omega, fun _ h => absurd hR h, fun hf => nomatch H.2 hf⟩⟩
  · have e := hn0 hR
    subst e
    exact ⟨fun ⟨_, h2, h3⟩ => ⟨⟨fun hf => h2 hf hR, fun hf => (h3 hf).2.2⟩, fun hf => (h3 hf).2.1⟩,
      fun ⟨H, ha⟩ => ⟨fun _ h => absurd h hR, fun hf _ => H.1 hf, fun hf => ⟨hR, ha hf, H.2 hf⟩⟩⟩

/-- One slot: a pen counted with `h` others, or no pen and nobody holding it. -/
def PenAt (h : Nat) : Option Obj → Prop
  | none => h = 0
  | some p => p.At h

/-- Pen `k` is counted with the windows that hold it and `e k` references of the library itself; `PensOk` is the case
    `e = 0`, Proof/LifePens.lean has the operations during which it is not. -/
def PX (st : St) (e : Nat → Nat) : Prop := ∀ k, PenAt (holders st k + e k) st.pens[k]?

theorem pensOk_iff {st : St} : PensOk st ↔ PX st (fun _ => 0) := by
  constructor
  · intro P k
    cases hp : st.pens[k]? with
    | none => exact P.ex k hp
    | some p => exact ⟨fun hf => ⟨(P.rc k p hp).1 hf, P.pos k p hp hf⟩, (P.rc k p hp).2⟩
  · intro h
    refine ⟨fun k p hp => ?_, fun k hk => ?_, fun k p hp hf => ?_⟩
    all_goals have hk' : PenAt (holders st k) st.pens[k]? := h k
    · rw [hp] at hk'; exact ⟨fun hf => (hk'.1 hf).1, hk'.2⟩
    · rw [hk] at hk'; exact hk'
    · rw [hp] at hk'; exact (hk'.1 hf).2

theorem PX.at {st : St} {e : Nat → Nat} (P : PX st e) {k : Nat} {p : Obj} (hp : st.pens[k]? = some p) :
    p.At (holders st k + e k) := by have := P k; rwa [hp] at this

theorem PX.update {st st' : St} {e e' : Nat → Nat} (P : PX st e) (k : Nat)
    (hne : ∀ (j : Nat), j ≠ k → st'.pens[j]? = st.pens[j]? ∧ holders st' j + e' j = holders st j + e j)
    (hk : PenAt (holders st' k + e' k) st'.pens[k]?) : PX st' e' := by
  intro j
  by_cases hj : j = k
  · rw [hj]; exact hk
  · rw [(hne j hj).1, (hne j hj).2]; exact P j

theorem set_self_pens {st : St} {k : Nat} {p : Obj} (hp : st.pens[k]? = some p) (q : Obj) :
    ({ st with pens := st.pens.setIfInBounds k q } : St).pens[k]? = some q := by
  show (st.pens.setIfInBounds k q)[k]? = _
  rw [Array.getElem?_setIfInBounds_self, if_pos (lt_size hp)]

theorem PX.set {st : St} {e e' : Nat → Nat} (P : PX st e) {k : Nat} {p : Obj} (hk : st.pens[k]? = some p) (p' : Obj)
    (hother : ∀ j, j ≠ k → e' j = e j) (h : p'.At (holders st k + e' k)) :
    PX { st with pens := st.pens.setIfInBounds k p' } e' := by
  refine P.update k (fun j hj => ⟨Array.getElem?_setIfInBounds_ne (Ne.symm hj), by rw [hother j hj]; rfl⟩) ?_
  rw [set_self_pens hk]; exact h

theorem holders_congr {st st' : St} (h : st'.wx = st.wx) (k : Nat) : holders st' k = holders st k := by
  unfold holders; rw [h]

@[simp] theorem dropped_refcount (p : Obj) : p.dropped.refcount = p.refcount - 1 := rfl
@[simp] theorem dropped_appRefs (p : Obj) : p.dropped.appRefs = p.appRefs := rfl
@[simp] theorem dropped_freed (p : Obj) : p.dropped.freed = decide (p.refcount - 1 = 0) := rfl

theorem penUnref_eq {st : St} {k : Nat} {p : Obj} (hp : st.pens[k]? = some p) (hf : p.freed = false) (hr : 1 ≤ p.refcount) :
    penUnref st k = .ok { st with pens := st.pens.setIfInBounds k p.dropped } := by
  have hge : ¬ p.refcount < 1 := by omega
  unfold penUnref
  simp only [hp, hf, Bool.false_eq_true, if_false, hge, pure_ok]

theorem penRef_eq {st : St} {k : Nat} {p : Obj} (hp : st.pens[k]? = some p) (hf : p.freed = false) :
    penRef st k = .ok { st with pens := st.pens.setIfInBounds k { p with refcount := p.refcount + 1 } } := by
  unfold penRef
  simp only [hp, hf, Bool.false_eq_true, if_false, pure_ok]

theorem termUnref_eq {st : St} (hf : st.term.freed = false) (hr : 1 ≤ st.term.refcount) :
    termUnref st = .ok { st with term := st.term.dropped } := by
  unfold termUnref
  rw [if_neg (by rw [hf]; exact Bool.false_ne_true), if_neg (Int.not_lt.2 hr)]; rfl

theorem holders_forget {st : St} {i : Nat} (h : i < st.wx.size) (k : Nat) :
    holders (setX st i { getX st i with pen := .null }) k + (if (getX st i).pen = .app k then 1 else 0) = holders st k := by
  have := holders_setX (st := st) { getX st i with pen := .null } h k
  have hne : (PenRef.null = PenRef.app k) = False := by simp
  simp only [hne, if_false, Nat.add_zero] at this
  exact this

theorem holders_assign {st : St} {i : Nat} (h : i < st.wx.size) (hnull : (getX st i).pen = .null) (k j : Nat) :
    holders (setX st i { getX st i with pen := .app k }) j = holders st j + (if k = j then 1 else 0) := by
  have := holders_setX (st := st) { getX st i with pen := .app k } h j
  rw [hnull, if_neg (by simp), Nat.add_zero] at this
  rw [this]
  by_cases hkj : k = j
  · rw [if_pos (by rw [hkj]), if_pos hkj]
  · rw [if_neg (fun h => hkj (PenRef.app.inj h)), if_neg hkj]

/-- What a step that only releases leaves of the objects other than windows.  `tickit_window_unref` is such a step
    (`UnrefdW.tally`): the dead windows give back their pens and, the root window, the terminal. -/
structure Tally (a b : St) : Prop where
  psize : b.pens.size = a.pens.size
  pens : ∀ (k : Nat) (p : Obj), a.pens[k]? = some p → ∃ p', b.pens[k]? = some p' ∧ p'.appRefs = p.appRefs ∧ (p.freed = true → p'.freed = true)
  strs : b.strs = a.strs
  rbs : b.rbs = a.rbs
  tapp : b.term.appRefs = a.term.appRefs
  tfreed : a.term.freed = true → b.term.freed = true

theorem Tally.refl (a : St) : Tally a a := ⟨rfl, fun _ p h => ⟨p, h, rfl, id⟩, rfl, rfl, rfl, id⟩

theorem Tally.trans {a b c : St} (h1 : Tally a b) (h2 : Tally b c) : Tally a c :=
  ⟨h2.psize.trans h1.psize, fun k p hp => by
    obtain ⟨p', hp', ha, hf⟩ := h1.pens k p hp
    obtain ⟨p'', hp'', ha', hf'⟩ := h2.pens k p' hp'
    exact ⟨p'', hp'', ha'.trans ha, fun h => hf' (hf h)⟩,
   h2.strs.trans h1.strs, h2.rbs.trans h1.rbs, h2.tapp.trans h1.tapp, fun h => h2.tfreed (h1.tfreed h)⟩

theorem Tally.of_eq {a b : St} (hp : b.pens = a.pens) (hs : b.strs = a.strs) (hr : b.rbs = a.rbs) (ht : b.term = a.term) : Tally a b :=
  ⟨by rw [hp], fun k p h => ⟨p, by rw [hp]; exact h, rfl, id⟩, hs, hr, by rw [ht], fun h => by rw [ht]; exact h⟩

theorem Tally.set_dropped {st : St} {k : Nat} {p : Obj} (hp : st.pens[k]? = some p) (hf : p.freed = false) :
    Tally st { st with pens := st.pens.setIfInBounds k p.dropped } := by
  refine ⟨Array.size_setIfInBounds .., fun j q hq => ?_, rfl, rfl, rfl, id⟩
  by_cases hkj : k = j
  · subst hkj
    cases hp.symm.trans hq
    exact ⟨p.dropped, set_self_pens hp _, rfl, fun h => nomatch hf.symm.trans h⟩
  · exact ⟨q, (Array.getElem?_setIfInBounds_ne hkj).trans hq, rfl, id⟩

/-- `if(win->pen) tickit_pen_unref(win->pen); win->pen = NULL`; it frees no pen the application holds. -/
theorem release_pen {st : St} (P : PensOk st) {i : Nat} (hi : i < st.wx.size) :
    ∃ ps, dropWinPen st i = .ok { st with pens := ps } ∧
      PensOk (setX { st with pens := ps } i { getX { st with pens := ps } i with pen := .null }) ∧
      (∀ (k : Nat), heldP st k = true → heldP { st with pens := ps } k = true) ∧ Tally st { st with pens := ps } := by
  have hh := holders_forget hi
  have P0 := pensOk_iff.1 P
  unfold dropWinPen
  cases hpen : (getX st i).pen with
  | app k0 =>
    simp only [hpen, PenRef.app.injEq] at hh
    have hh0 := hh k0
    rw [if_pos rfl] at hh0
    have hk0 := P0 k0
    rw [Nat.add_zero, ← hh0] at hk0
    cases hpk : st.pens[k0]? with
    | none => rw [hpk] at hk0; exact absurd hk0 (Nat.succ_ne_zero _)
    | some p0 =>
      rw [hpk] at hk0
      -- the window's reference goes: one holder fewer, one reference fewer
      obtain ⟨hf, hr, H', ha⟩ := Obj.At.unref hk0
      refine ⟨_, penUnref_eq hpk hf hr, pensOk_iff.2 (P0.update k0 (fun j hj => ⟨Array.getElem?_setIfInBounds_ne (Ne.symm hj), ?_⟩) ?_),
        fun k hk => ?_, Tally.set_dropped hpk hf⟩
      · have := hh j
        rw [if_neg (Ne.symm hj), Nat.add_zero] at this
        exact congrArg (· + 0) this
      · show PenAt (holders (setX st i { getX st i with pen := .null }) k0 + 0) (st.pens.setIfInBounds k0 p0.dropped)[k0]?
        rw [Array.getElem?_setIfInBounds_self, if_pos (lt_size hpk)]; exact H'
      · unfold heldP at hk ⊢
        by_cases hkk : k0 = k
        · -- the application still holds the pen, so that was not the last reference
          subst hkk
          rw [hpk] at hk
          have happ : 0 < p0.appRefs := of_decide_eq_true (Bool.and_eq_true_iff.1 hk).2
          rw [set_self_pens hpk]
          have : p0.dropped.freed = false := Bool.eq_false_iff.2 fun h => Nat.ne_of_gt happ (ha h)
          show (!p0.dropped.freed && decide (p0.appRefs > 0)) = true
          rw [this, decide_eq_true happ]; rfl
        · rw [show ({ st with pens := st.pens.setIfInBounds k0 p0.dropped } : St).pens[k]? = st.pens[k]? from
            Array.getElem?_setIfInBounds_ne hkk]
          exact hk
  | null | own =>
    simp only [hpen, reduceCtorEq, if_false, Nat.add_zero] at hh
    exact ⟨st.pens, rfl, pensOk_iff.2 (P0.update 0 (fun j _ => ⟨rfl, congrArg (· + 0) (hh j)⟩) (by rw [hh 0]; exact P0 0)), fun _ h => h, .refl st⟩

theorem holders_eq_map {st : St} (k : Nat) :
    holders st k = ((st.wx.toList.map (·.pen)).filter (fun q => q = PenRef.app k)).length := by
  unfold holders
  rw [List.filter_map]
  simp [Function.comp_def]

theorem getX_pen_of_map {st st' : St} (h : st'.wx.toList.map (·.pen) = st.wx.toList.map (·.pen)) (j : Nat) :
    (getX st' j).pen = (getX st j).pen := by
  have h1 : st'.wx[j]?.map (·.pen) = st.wx[j]?.map (·.pen) := by
    simpa only [List.getElem?_map, Array.getElem?_toList] using congrArg (·[j]?) h
  unfold getX
  rw [← Option.getD_map (·.pen) {} st'.wx[j]?, ← Option.getD_map (·.pen) {} st.wx[j]?, h1]

theorem SInvB.of_wx {st st' : St} {pend : List Nat} (inv : SInvB gh st pend) (ht : st'.tree = st.tree)
    (hp : st'.pens = st.pens) (htm : st'.term = st.term) (hrb : st'.rbs = st.rbs) (hstr : st'.strs = st.strs)
    (hm : st'.wx.toList.map (·.pen) = st.wx.toList.map (·.pen)) : SInvB gh st' pend := by
  have hh : ∀ (k : Nat), holders st' k = holders st k := fun k => by rw [holders_eq_map, holders_eq_map, hm]
  have hg := getX_pen_of_map hm
  have hlen : st'.wx.size = st.wx.size := by
    have := congrArg List.length hm
    simpa using this
  refine ⟨by rw [ht]; exact inv.tinv, by rw [hlen, ht]; exact inv.wx_size, by rw [ht]; exact inv.rc, inv.pend_nodup,
    by rw [ht]; exact inv.pend_freed, ?_, ⟨?_, ?_, by rw [hp]; exact inv.pens.pos⟩, ?_, ?_, ?_,
    ⟨by rw [hrb]; exact inv.simple.1, by rw [hstr]; exact inv.simple.2⟩⟩
  · intro i w hw hf hi; rw [hg]; rw [ht] at hw; exact inv.dead_pen i w hw hf hi
  · intro k p hk; rw [hh]; rw [hp] at hk; exact inv.pens.rc k p hk
  · intro k hk; rw [hh]; rw [hp] at hk; exact inv.pens.ex k hk
  · rw [htm, ht]; exact inv.term_held
  · rw [htm, ht]; exact inv.term_free
  · rw [htm, ht]; exact inv.term_dead

theorem setX_map_pen {st : St} {i : Nat} (x : WinX) (hp : x.pen = (getX st i).pen) :
    (setX st i x).wx.toList.map (·.pen) = st.wx.toList.map (·.pen) := by
  apply List.ext_getElem?
  intro j
  simp only [List.getElem?_map, Array.getElem?_toList]
  show (st.wx.setIfInBounds i x)[j]?.map _ = _
  rw [Array.getElem?_setIfInBounds]
  split
  · rename_i hij
    subst hij
    split
    · rename_i hlt
      rw [Array.getElem?_eq_getElem hlt, ← getX_of_lt hlt]
      exact congrArg some hp
    · rename_i hlt
      rw [Array.getElem?_eq_none (Nat.le_of_not_lt hlt)]
  · rfl

theorem consume_keeps {pend : List Nat} : ∀ (dropped : List Nat) {st : St}, SInvB gh st pend →
    SInvB gh (consume st dropped) pend ∧ (consume st dropped).tree = st.tree
  | [], _, h => ⟨h, rfl⟩
  | _ :: rest, _, h => consume_keeps rest (h.of_wx rfl rfl rfl rfl rfl (setX_map_pen _ rfl))

theorem consume_appRefs : ∀ (dropped : List Nat) (st : St) (j : Nat), dropped.Nodup →
    (getX (consume st dropped) j).appRefs = (getX st j).appRefs - (if j ∈ dropped ∧ j < st.wx.size then 1 else 0)
  | [], _, _, _ => by rw [if_neg (fun h => nomatch h.1)]; rfl
  | i :: rest, st, j, hnd => by
    obtain ⟨hni, hnd'⟩ := List.nodup_cons.1 hnd
    show (getX (consume (setX st i { getX st i with appRefs := (getX st i).appRefs - 1 }) rest) j).appRefs = _
    rw [consume_appRefs rest _ j hnd', getX_setX, setX_size]
    by_cases hij : i = j
    · subst hij
      by_cases hlt : i < st.wx.size
      · rw [if_pos ⟨rfl, hlt⟩, if_neg (fun h => hni h.1), if_pos ⟨List.mem_cons_self, hlt⟩]; rfl
      · rw [if_neg (fun h => hlt h.2), if_neg (fun h => hlt h.2), if_neg (fun h => hlt h.2)]
    · have hji : ¬ j = i := fun h => hij h.symm
      simp only [hij, false_and, if_false, List.mem_cons, hji, false_or]

theorem consume_binds {new : List Act → Prop} : ∀ (dropped : List Nat) (st : St), BindsFrom new st (consume st dropped)
  | [], st => .refl new st
  | i :: rest, st =>
    .trans (.upd_sub i { getX st i with appRefs := (getX st i).appRefs - 1 } fun _ h => h) (consume_binds rest _)

theorem consume_tally : ∀ (dropped : List Nat) (st : St), Tally st (consume st dropped)
  | [], st => .refl st
  | i :: rest, st => (Tally.of_eq (a := st) (b := setX st i { getX st i with appRefs := (getX st i).appRefs - 1 }) rfl rfl rfl rfl).trans
    (consume_tally rest _)

/-- `a`, `b`: what the window has lost as `x` and as a dropped child. -/
theorem count_after {rc rc' : Int} {app app' g a b : Nat} (hle : rc = rc' + a + b) (h3 : app' = app - a - b)
    (h1 : rc ≤ app + g) :
    rc' ≤ (app' : Int) + g ∧ (a + b ≤ app → (app : Int) + g ≤ rc → (app' : Int) + g ≤ rc') := by
  subst h3; omega

theorem lost_le_tally {rc rc' : Int} {app g a b : Nat} (hle : rc = rc' + a + b) (h4 : 1 ≤ rc') (h1 : rc ≤ app + g) (hg : g = 0) :
    a + b ≤ app := by omega

/-- A window freed by the cascade leaves the list of those whose belongings are still to be released, once it holds
    no pen: at once if it is not the root window; the root window gives up its reference to the terminal first. -/
theorem SInvB.unpend {st s : St} {d : Nat} {rest : List Nat} (inv : SInvB gh st (d :: rest))
    (ht : s.tree = st.tree) (hsz : s.wx.size = st.wx.size) (htm : s.term = st.term) (hrb : s.rbs = st.rbs)
    (hstr : s.strs = st.strs) (hd : (getX s d).pen = .null) (hg : ∀ (j : Nat), j ≠ d → (getX s j).pen = (getX st j).pen)
    (P : PensOk s) :
    (d ≠ 0 → SInvB gh s rest) ∧
    (d = 0 → s.term.freed = false ∧
      ∃ s', termUnref s = .ok s' ∧ SInvB gh s' rest ∧ s'.tree = s.tree ∧ s'.wx = s.wx ∧ Tally s s') := by
  obtain ⟨dw, hdw, hdf⟩ := inv.pend_freed d List.mem_cons_self
  obtain ⟨hnd1, hnd⟩ := List.nodup_cons.1 inv.pend_nodup
  have build : ∀ (tm : Obj),
      (tm.freed = false → ((∃ r, LiveW st.tree 0 r) ∨ 0 ∈ rest) → tm.refcount = (tm.appRefs : Int) + (gh.term : Int) + 1) →
      (tm.freed = false → ¬ ((∃ r, LiveW st.tree 0 r) ∨ 0 ∈ rest) →
        tm.refcount = (tm.appRefs : Int) + (gh.term : Int) ∧ 1 ≤ tm.refcount) →
      (tm.freed = true → ¬ ((∃ r, LiveW st.tree 0 r) ∨ 0 ∈ rest) ∧ tm.appRefs = 0 ∧ gh.term = 0) →
      SInvB gh { s with term := tm } rest := fun tm h1 h2 h3 =>
    ⟨ht ▸ inv.tinv, hsz.trans (inv.wx_size.trans (congrArg (·.wins.size) ht.symm)), ht ▸ inv.rc, hnd,
      fun i hi => ht ▸ inv.pend_freed i (List.mem_cons_of_mem _ hi),
      fun i w hw hf hi => (by
        show (getX s i).pen = .null
        by_cases hid : i = d
        · rw [hid]; exact hd
        · rw [hg i hid]
          exact inv.dead_pen i w (ht ▸ hw) hf (fun hm => (List.mem_cons.1 hm).elim hid hi)),
      ⟨P.rc, P.ex, P.pos⟩, ht ▸ h1, ht ▸ h2, ht ▸ h3, ⟨hrb ▸ inv.simple.1, hstr ▸ inv.simple.2⟩⟩
  constructor
  · intro hd0
    have mem_iff : ((∃ r, LiveW st.tree 0 r) ∨ 0 ∈ d :: rest) ↔ ((∃ r, LiveW st.tree 0 r) ∨ 0 ∈ rest) := by
      rw [List.mem_cons]
      exact ⟨fun h => h.elim .inl (fun h => h.elim (fun e => absurd e.symm hd0) .inr), fun h => h.elim .inl (fun h => .inr (.inr h))⟩
    exact build s.term (fun hf h => htm ▸ inv.term_held (htm ▸ hf) (mem_iff.2 h))
      (fun hf h => htm ▸ inv.term_free (htm ▸ hf) (fun h' => h (mem_iff.1 h')))
      (fun hf => htm ▸ ⟨fun h => (inv.term_dead (htm ▸ hf)).1 (mem_iff.2 h), (inv.term_dead (htm ▸ hf)).2⟩)
  · intro hd0
    subst hd0
    have hnoroot : ¬ ((∃ r, LiveW st.tree 0 r) ∨ 0 ∈ rest) := by
      rintro (⟨r, hl⟩ | h)
      · exact hl.not_freed hdw hdf
      · exact hnd1 h
    -- the terminal is counted with the root window's reference, which goes (`Obj.At.unref`)
    have H1 := ((term_at_iff (R := (∃ r, LiveW st.tree 0 r) ∨ 0 ∈ 0 :: rest) (n := 1) (fun _ => rfl)
      (fun h => absurd (.inr List.mem_cons_self) h) st.term).1 ⟨inv.term_held, inv.term_free, inv.term_dead⟩).1
    obtain ⟨htf, hr, H', ha⟩ := H1.unref
    obtain ⟨h1, h2, h3⟩ := (term_at_iff (R := (∃ r, LiveW st.tree 0 r) ∨ 0 ∈ rest) (n := 0) (fun h => absurd h hnoroot)
      (fun _ => rfl) st.term.dropped).2 ⟨H', ha⟩
    rw [htm]
    refine ⟨htf, _, ?_, build st.term.dropped h1 h2 h3, rfl, rfl,
      ⟨rfl, fun _ p hp => ⟨p, hp, rfl, id⟩, rfl, rfl, (congrArg Obj.appRefs htm).symm,
        fun h => nomatch (htm ▸ htf : s.term.freed = false).symm.trans h⟩⟩
    rw [termUnref_eq (st := s) (htm ▸ htf) (htm ▸ hr), htm]

theorem releaseWin_ok {new : List Act → Prop} {st : St} {d : Nat} {rest : List Nat} (inv : SInvB gh st (d :: rest)) :
    ∃ st', releaseWin st d = .ok st' ∧ SInvB gh st' rest ∧ st'.tree = st.tree ∧
      (∀ (j : Nat), (getX st' j).appRefs = (getX st j).appRefs) ∧ BindsFrom new st st' ∧ Tally st st' := by
  obtain ⟨dw, hdw, _⟩ := inv.pend_freed d List.mem_cons_self
  have hd : d < st.wx.size := inv.wx_size ▸ lt_size hdw
  have inv1 : SInvB gh (setX st d { getX st d with binds := [] }) (d :: rest) :=
    inv.of_wx rfl rfl rfl rfl rfl (setX_map_pen _ rfl)
  obtain ⟨ps, hdrop, P3, _, T3⟩ := release_pen inv1.pens (i := d) ((setX_size ..).symm ▸ hd)
  unfold releaseWin
  simp only [hdrop, bind_ok]
  -- the two changes of the record of `d` as one
  have e3 : setX { setX st d { getX st d with binds := [] } with pens := ps } d
      { getX { setX st d { getX st d with binds := [] } with pens := ps } d with pen := .null } =
      { setX st d { getX st d with binds := [], pen := .null } with pens := ps } := by
    show setX { setX st d { getX st d with binds := [] } with pens := ps } d
      { getX (setX st d { getX st d with binds := [] }) d with pen := .null } = _
    rw [getX_setX_self _ hd]
    unfold setX
    simp only [Array.setIfInBounds_setIfInBounds]
  rw [e3] at P3 ⊢
  have hg : ∀ (j : Nat), getX { setX st d { getX st d with binds := [], pen := .null } with pens := ps } j =
      if d = j ∧ d < st.wx.size then { getX st d with binds := [], pen := .null } else getX st j :=
    fun j => getX_setX st d _ j
  have happ : ∀ (j : Nat), (getX { setX st d { getX st d with binds := [], pen := .null } with pens := ps } j).appRefs =
      (getX st j).appRefs := fun j => by
    rw [hg]; split
    · rename_i h; rw [← h.1]
    · rfl
  obtain ⟨U1, U2⟩ := inv.unpend (s := { setX st d { getX st d with binds := [], pen := .null } with pens := ps }) rfl
    (setX_size ..) rfl rfl rfl (by rw [hg, if_pos ⟨rfl, hd⟩]) (fun j hj => by rw [hg, if_neg (fun h => hj h.1.symm)]) P3
  have htree : ({ setX st d { getX st d with binds := [], pen := .null } with pens := ps } : St).tree = st.tree := rfl
  have hbf : BindsFrom new st { setX st d { getX st d with binds := [], pen := .null } with pens := ps } :=
    BindsFrom.upd_sub d { getX st d with binds := [], pen := .null } fun _ h => nomatch h
  have htl : Tally st { setX st d { getX st d with binds := [], pen := .null } with pens := ps } :=
    ⟨T3.psize, T3.pens, T3.strs, T3.rbs, T3.tapp, T3.tfreed⟩
  generalize ({ setX st d { getX st d with binds := [], pen := .null } with pens := ps } : St) = s at U1 U2 happ htree hbf htl ⊢
  by_cases hd0 : d = 0
  · obtain ⟨htf, s', hs', inv', ht', hwx', T'⟩ := U2 hd0
    rw [if_pos hd0, if_neg (by rw [htf]; exact Bool.false_ne_true), hs']
    exact ⟨s', rfl, inv', ht'.trans htree, fun j => by unfold getX; rw [hwx']; exact happ j, hbf.trans (.of_wx hwx'), htl.trans T'⟩
  · rw [if_neg hd0]
    exact ⟨s, rfl, U1 hd0, htree, happ, hbf, htl⟩

theorem release_all {new : List Act → Prop} : ∀ (dead : List Nat) {st : St}, SInvB gh st dead →
    ∃ st', dead.foldlM releaseWin st = .ok st' ∧ SInvB gh st' [] ∧ st'.tree = st.tree ∧
      (∀ (j : Nat), (getX st' j).appRefs = (getX st j).appRefs) ∧ BindsFrom new st st' ∧ Tally st st'
  | [], st, inv => ⟨st, rfl, inv, rfl, fun _ => rfl, .refl new st, .refl st⟩
  | d :: rest, st, inv => by
    obtain ⟨st1, h1, inv1, ht1, ha1, b1, t1⟩ := releaseWin_ok (new := new) inv
    obtain ⟨st2, h2, inv2, ht2, ha2, b2, t2⟩ := release_all rest inv1
    refine ⟨st2, ?_, inv2, ht2.trans ht1, fun j => (ha2 j).trans (ha1 j), b1.trans b2, t1.trans t2⟩
    rw [List.foldlM_cons, h1]
    exact h2

/-! What the guards of the harness give (`not_held?` for the end of a history are in Proof/LifeStep.lean). -/

theorem attached_reach {st : St} (inv : TInv st.tree) : ∀ (fuel : Nat) (w : Nat), attached st fuel w = true →
    (∃ ww, LiveW st.tree w ww) ∧ Reach st.tree w 0
  | 0, _, h => by simp [attached] at h
  | fuel + 1, w, h => by
    unfold attached at h
    cases hw : st.tree.wins[w]? with
    | none => rw [hw] at h; cases h
    | some x =>
      simp only [hw] at h
      by_cases hf : x.freed = true
      · simp [hf] at h
      · simp only [hf, Bool.false_eq_true, if_false] at h
        have hlive : LiveW st.tree w x := ⟨hw, by simpa using hf⟩
        by_cases hr : x.isRoot = true
        · have h0 := inv.only_root w x hw hr
          subst h0
          exact ⟨⟨x, hlive⟩, .refl 0⟩
        · simp only [hr, Bool.false_eq_true, if_false] at h
          cases hp : x.parent with
          | none => rw [hp] at h; cases h
          | some p =>
            simp only [hp] at h
            exact ⟨⟨x, hlive⟩, .step hw hp (attached_reach inv fuel p h).2⟩

theorem usableW_spec {st : St} (inv : TInv st.tree) {w : Nat} (h : usableW st w = true) :
    (∃ ww, LiveW st.tree w ww) ∧ Reach st.tree w 0 := by
  unfold usableW at h
  cases hw : st.tree.wins[w]? with
  | none => rw [hw] at h; cases h
  | some x =>
    simp only [hw, Bool.and_eq_true] at h
    exact attached_reach inv _ w h.2

theorem heldW_spec {st : St} {i : Nat} (h : heldW st i = true) : ∃ w, LiveW st.tree i w ∧ 0 < (getX st i).appRefs := by
  unfold heldW at h
  cases hw : st.tree.wins[i]? with
  | none => rw [hw] at h; cases h
  | some w =>
    simp only [hw, Bool.and_eq_true, Bool.not_eq_true', decide_eq_true_eq] at h
    exact ⟨w, ⟨hw, h.1⟩, h.2⟩

theorem heldP_spec {st : St} {k : Nat} (h : heldP st k = true) : ∃ p, st.pens[k]? = some p ∧ p.freed = false ∧ 0 < p.appRefs := by
  unfold heldP at h
  cases hp : st.pens[k]? with
  | none => rw [hp] at h; cases h
  | some p =>
    simp only [hp, Bool.and_eq_true, Bool.not_eq_true', decide_eq_true_eq] at h
    exact ⟨p, rfl, h.1, h.2⟩

theorem heldT_spec {st : St} (h : heldT st = true) : st.term.freed = false ∧ 0 < st.term.appRefs := by
  unfold heldT at h
  simp only [Bool.and_eq_true, Bool.not_eq_true', decide_eq_true_eq] at h
  exact h

theorem heldS_spec {st : St} {k : Nat} (h : heldS st k = true) :
    ∃ s, st.strs[k]? = some s ∧ s.freed = false ∧ 0 < s.appRefs ∧ k < st.strs.size := by
  unfold heldS at h
  cases hs : st.strs[k]? with
  | none => rw [hs] at h; cases h
  | some s =>
    simp only [hs, Bool.and_eq_true, Bool.not_eq_true', decide_eq_true_eq] at h
    exact ⟨s, rfl, h.1, h.2, lt_size hs⟩

theorem heldB_spec {st : St} {k : Nat} (h : heldB st k = true) :
    ∃ b, st.rbs[k]? = some b ∧ b.freed = false ∧ 0 < b.appRefs ∧ k < st.rbs.size := by
  unfold heldB at h
  cases hb : st.rbs[k]? with
  | none => rw [hb] at h; cases h
  | some b =>
    simp only [hb, Bool.and_eq_true, Bool.not_eq_true', decide_eq_true_eq] at h
    exact ⟨b, rfl, h.1, h.2, lt_size hb⟩

/-- The flags of the source tree the theorems need. -/
structure Repaired (cfg : Cfg) : Prop where
  closePurges : cfg.closePurges = true
  dragForgottenOnClose : cfg.dragForgottenOnClose = true
  destroyClosesChildren : cfg.destroyClosesChildren = true
  spanExactFit : cfg.spanExactFit = true
  penCopyKeepsSrc : cfg.penCopyKeepsSrc = true
  snapshotRouting : cfg.snapshotRouting = true
  mouseKeepsRoot : cfg.mouseKeepsRoot = true

/-- The root window lives, or has died and still owns its terminal reference, exactly if it lived before. -/
theorem live_or_freed_root {t t' : Tree} {dead : List Nat} (hsz : t'.wins.size = t.wins.size)
    (hfr : ∀ (i : Nat) (w : Win), t.wins[i]? = some w → w.freed = true → ∃ w', t'.wins[i]? = some w' ∧ w'.freed = true)
    (hd : DeadOk t t' dead) : ((∃ r, LiveW t' 0 r) ∨ 0 ∈ dead) ↔ (∃ r, LiveW t 0 r) := by
  constructor
  · rintro (⟨r', hl'⟩ | h)
    · obtain ⟨r, h0⟩ := get_of_size_eq hsz hl'.1
      refine ⟨r, h0, ?_⟩
      cases hf : r.freed with
      | false => rfl
      | true =>
        obtain ⟨r'', h0', hf'⟩ := hfr 0 r h0 hf
        exact (hl'.not_freed h0' hf').elim
    · exact (hd.mem_iff.1 h).1
  · rintro ⟨r, hl⟩
    by_cases h0 : 0 ∈ dead
    · exact .inr h0
    · exact .inl (hd.survive hsz hl h0)

theorem SInvB.after_unref {st : St} (inv : SInvB gh st []) {t' : Tree} {dead : List Nat} (hinv : TInv t')
    (hsz : t'.wins.size = st.tree.wins.size)
    (hfr : ∀ (i : Nat) (w : Win), st.tree.wins[i]? = some w → w.freed = true → ∃ w', t'.wins[i]? = some w' ∧ w'.freed = true)
    (hd : DeadOk st.tree t' dead) (hrc : ∀ (i : Nat) (w' : Win), LiveW t' i w' → 1 ≤ w'.refcount) :
    SInvB gh { st with tree := t' } dead := by
  have hroot := live_or_freed_root hsz hfr hd
  refine ⟨hinv, inv.wx_size.trans hsz.symm, hrc, hd.nodup, fun i hi => (hd.mem_iff.1 hi).2, fun i w' hw' hf' hi => ?_,
    ⟨inv.pens.rc, inv.pens.ex, inv.pens.pos⟩, fun hf h => inv.term_held hf (.inl (hroot.1 h)),
    fun hf h => inv.term_free hf (fun h' => h (hroot.2 (h'.elim id (fun h => nomatch h)))),
    fun hf => ⟨fun h => (inv.term_dead hf).1 (.inl (hroot.1 h)), (inv.term_dead hf).2⟩, inv.simple⟩
  obtain ⟨w, hw⟩ := get_of_size_eq hsz hw'
  cases hf : w.freed with
  | true => exact inv.dead_pen i w hw hf List.not_mem_nil
  | false => exact absurd (hd.mem_iff.2 ⟨⟨w, hw, hf⟩, w', hw', hf'⟩) hi

/-- What `tickit_window_unref(x)` has done to the tree: `dead` are the windows freed, `dropped` the children whose
    creation reference a dying parent has taken.  `Loop` composes along the cascade, `Casc` is what the induction
    concludes; this is their digest for the handlers (`Loop.unrefd`). -/
structure Unrefd (t t' : Tree) (x : Nat) (dead dropped : List Nat) : Prop where
  inv : TInv t'
  size : t'.wins.size = t.wins.size
  freed : ∀ (i : Nat) (w : Win), t.wins[i]? = some w → w.freed = true → ∃ w', t'.wins[i]? = some w' ∧ w'.freed = true
  /-- only `x` and the dropped children lose a reference, and exactly one -/
  count : ∀ (i : Nat) (w' : Win), LiveW t' i w' → ∃ w, LiveW t i w ∧
    w.refcount = w'.refcount + (if i = x then 1 else 0) + (if i ∈ dropped then 1 else 0)
  /-- every survivor still has a count -/
  rc : ∀ (i : Nat) (w' : Win), LiveW t' i w' → 1 ≤ w'.refcount
  /-- the cascade stays below `x` -/
  reach : ∀ (i : Nat), i ∈ dead ∨ i ∈ dropped → Reach t i x ∧ i ≠ x ∨ i = x ∧ i ∈ dead
  psub : PSub t t'
  /-- a cascade there is only if that was the last reference -/
  last : (dead ≠ [] ∨ dropped ≠ []) → ∀ (w : Win), LiveW t x w → w.refcount = 1
  above : ∀ i ∈ dropped, x < i
  nodup : dropped.Nodup
  dead : DeadOk t t' dead

theorem Unrefd.survive {t t' : Tree} {x : Nat} {dead dropped : List Nat} (U : Unrefd t t' x dead dropped) (i : Nat) (w : Win)
    (hl : LiveW t i w) (hi : i ∉ dead) : ∃ w', LiveW t' i w' := U.dead.survive U.size hl hi

/-- The root window is not below `x`: it stays, unless it is `x` itself and that was its last reference. -/
theorem Unrefd.root_stays {t t' : Tree} {x : Nat} {dead dropped : List Nat} (U : Unrefd t t' x dead dropped) (inv : TInv t)
    {w : Win} (hl : LiveW t 0 w) (h : x ≠ 0 ∨ 2 ≤ w.refcount) : ∃ w', LiveW t' 0 w' := by
  refine U.survive 0 w hl fun hd => ?_
  rcases U.reach 0 (.inl hd) with ⟨hr, hne⟩ | ⟨h0, _⟩
  · exact hne (Reach.from_root inv hr).symm
  · rcases h with h | h
    · exact h h0.symm
    · have := U.last (.inl (List.ne_nil_of_mem hd)) w (h0 ▸ hl); omega

theorem Loop.count {t t' : Tree} {x : Nat} {dead dropped : List Nat} (L : Loop t t' x dead dropped) {i : Nat} {w' : Win}
    (hix : i ≠ x) (hl' : LiveW t' i w') : ∃ w, LiveW t i w ∧ (1 ≤ w.refcount → 1 ≤ w'.refcount) ∧
      w.refcount = w'.refcount + (if i ∈ dropped then 1 else 0) := by
  obtain ⟨w, hl, e⟩ := L.ev.live_back hl'
  refine ⟨w, hl, e.rc_pos hl'.2, ?_⟩
  by_cases hd : i ∈ dropped
  · rw [if_pos hd]; exact (L.drop.count hd hl.1 hl'.1 hl'.2).1.symm
  · rw [if_neg hd, Int.add_zero]; exact (L.conv i w w' hix hl.1 hl'.1 hl'.2 hd).symm

/-- From the loop that follows the decrement of `x` to `Unrefd`; `hx`: if `x` is still there, it is as the decrement
    left it, and somebody else holds it. -/
theorem Loop.unrefd {t t' : Tree} {x : Nat} {xw : Win} {dead dropped : List Nat}
    (L : Loop (WinTree.set t x { xw with refcount := xw.refcount - 1 }) t' x dead dropped)
    (hrc : ∀ (i : Nat) (w : Win), LiveW t i w → 1 ≤ w.refcount) (hl : LiveW t x xw)
    (hx : ∀ (w' : Win), LiveW t' x w' → w' = { xw with refcount := xw.refcount - 1 } ∧ 1 ≤ xw.refcount - 1)
    (hlast : (dead ≠ [] ∨ dropped ≠ []) → xw.refcount = 1) : Unrefd t t' x dead dropped := by
  have T0 : Touch t (WinTree.set t x { xw with refcount := xw.refcount - 1 }) x none xw _ :=
    ⟨set_size .., hl.1, set_get_self _ hl.lt, fun i w hi hw => .inl ⟨nofun, by rw [set_get_ne _ (Ne.symm hi)]; exact hw⟩⟩
  have h0 : ∀ {i : Nat} {w : Win}, i ≠ x → LiveW (WinTree.set t x { xw with refcount := xw.refcount - 1 }) i w → LiveW t i w :=
    fun hi h => ⟨(set_get_ne _ (Ne.symm hi)).symm.trans h.1, h.2⟩
  have hxd : x ∉ dropped := fun h => Nat.lt_irrefl _ (L.drop.above h)
  refine ⟨L.inv, L.ev.1.trans T0.size, fun i w hw hf => ?_, fun i w' hl' => ?_, fun i w' hl' => ?_, fun i hi => ?_,
    (T0.psub fun _ h => h).trans L.psub, fun hne _ hlw => WinTree.Live.unique hlw hl ▸ hlast hne,
    fun _ => L.drop.above, L.drop.nodup, L.dead.of_live_iff (T0.live_iff rfl)⟩
  · have hix : i ≠ x := fun e => hl.not_freed (e ▸ hw) hf
    obtain ⟨w', hw', e⟩ := L.ev.2 i w ((set_get_ne _ (Ne.symm hix)).trans hw)
    exact ⟨w', hw', e.freed hf⟩
  · by_cases hix : i = x
    · subst hix
      rw [(hx w' hl').1, if_pos rfl, if_neg hxd]
      exact ⟨xw, hl, by show xw.refcount = xw.refcount - 1 + 1 + 0; omega⟩
    · obtain ⟨w, hlw, _, e⟩ := L.count hix hl'
      exact ⟨w, h0 hix hlw, by rw [if_neg hix, Int.add_zero]; exact e⟩
  · by_cases hix : i = x
    · subst hix; rw [(hx w' hl').1]; exact (hx w' hl').2
    · obtain ⟨w, hlw, h, _⟩ := L.count hix hl'
      exact h (hrc i w (h0 hix hlw))
  · by_cases hix : i = x
    · exact .inr ⟨hix, hi.elim id fun h => absurd (hix ▸ h) hxd⟩
    · exact .inl ⟨(T0.psub fun _ h => h).reach (L.reach i hi), hix⟩

theorem unrefT_ok {cfg : Cfg} (R : Repaired cfg) {t : Tree} (inv : TInv t)
    (hrc : ∀ (i : Nat) (w : Win), LiveW t i w → 1 ≤ w.refcount) {x : Nat} {xw : Win} (hl : LiveW t x xw) :
    ∃ t' dead dropped, unrefT cfg t x = .ok (t', dead, dropped) ∧ Unrefd t t' x dead dropped := by
  have hr1 := hrc x xw hl
  have hge : ¬ xw.refcount < 1 := Int.not_lt.2 hr1
  have inv0 := (inv.set_refcount hl (xw.refcount - 1)).1
  have hl0 : LiveW (WinTree.set t x { xw with refcount := xw.refcount - 1 }) x { xw with refcount := xw.refcount - 1 } :=
    ⟨set_get_self _ hl.lt, hl.2⟩
  unfold unrefT unrefTWith
  simp only [get_live hl, bind_ok, hge, if_false]
  by_cases hz : xw.refcount - 1 = 0
  · have hrca : RCabove (WinTree.set t x { xw with refcount := xw.refcount - 1 }) x :=
      fun i w hxi hli => hrc i w ⟨(set_get_ne _ (Nat.ne_of_lt hxi)).symm.trans hli.1, hli.2⟩
    obtain ⟨t', dead, dropped, hd, C⟩ := destroyT_ok R.closePurges R.dragForgottenOnClose R.destroyClosesChildren
      (chainFuel t) _ x _ inv0 hl0 (by simp [chainFuel]) hrca
    obtain ⟨w'', hw'', hf''⟩ := C.freed
    rw [if_pos hz]
    exact ⟨t', dead, dropped, hd, C.loop.unrefd hrc hl (fun _ h => (h.not_freed hw'' hf'').elim) (fun _ => Int.sub_eq_zero.1 hz)⟩
  · rw [if_neg hz]
    exact ⟨_, [], [], rfl, (Loop.refl inv0 x).unrefd hrc hl (fun _ h => ⟨WinTree.Live.unique h hl0, by omega⟩)
      (fun h => h.elim (absurd rfl) (absurd rfl))⟩

theorem unrefW_dec (cfg : Cfg) {st : St} {win : Nat} {ww : Win} (hw : LiveW st.tree win ww) (h2 : 2 ≤ ww.refcount) :
    unrefW cfg st win = .ok (setW st win { ww with refcount := ww.refcount - 1 }) := by
  unfold unrefW unrefT unrefTWith
  have h1 : ¬ ww.refcount < 1 := by omega
  have h0 : ¬ ww.refcount - 1 = 0 := by omega
  simp only [get_live hw, bind_ok, h1, if_false, h0, pure_ok, List.foldlM_nil, consume, List.foldl_nil]
  rfl

/-- What `tickit_window_unref(x)` has done to the state, `x` having `a'` in the application's tally when it is called
    and the library's references being `gh'` afterwards. -/
structure UnrefdW (new : List Act → Prop) (gh' : Ghost) (st st' : St) (x a' : Nat) (dead dropped : List Nat) : Prop where
  inv : SInv gh' st'
  tree : Unrefd st.tree st'.tree x dead dropped
  apps : ∀ (i : Nat), i < st.wx.size →
    (getX st' i).appRefs = if i = x then a' else (getX st i).appRefs - (if i ∈ dropped then 1 else 0)
  le : ∀ (j : Nat), j ≠ x → (getX st' j).appRefs ≤ (getX st j).appRefs
  binds : BindsFrom new st st'
  tally : Tally st st'

/-- By whoever holds the reference, the application or the library: the application's tally `a'` of `x` and the library's
    `gh'.win x` are together one less than before (`hbal`).  `hlow`: the count of `x` was known exactly, if it is to be
    known exactly afterwards. -/
theorem unrefW_gen {new : List Act → Prop} {cfg : Cfg} (R : Repaired cfg) {gh' : Ghost} {st : St} (inv : SInv gh st) {x : Nat}
    {xw : Win} (hl : LiveW st.tree x xw) (a' : Nat) (hterm : gh'.term = gh.term) (hoth : ∀ j, j ≠ x → gh'.win j = gh.win j)
    (hbal : (a' : Int) + (gh'.win x : Int) + 1 = ((getX st x).appRefs : Int) + (gh.win x : Int))
    (hlow : gh'.covers x → ((getX st x).appRefs : Int) + (gh.win x : Int) ≤ xw.refcount) :
    ∃ st' dead dropped, unrefW cfg (setX st x { getX st x with appRefs := a' }) x = .ok st' ∧
      UnrefdW new gh' st st' x a' dead dropped := by
  obtain ⟨t', dead, dropped, ht, U⟩ := unrefT_ok R inv.tinv inv.rc hl
  have inv0 : SInvB gh (setX st x { getX st x with appRefs := a' }) [] :=
    inv.toSInvB.of_wx rfl rfl rfl rfl rfl (setX_map_pen _ rfl)
  have invT := inv0.after_unref U.inv U.size U.freed U.dead U.rc
  obtain ⟨invC, hf1⟩ := consume_keeps dropped invT
  obtain ⟨st2, hfold, inv2, ht2, ha2, hb2, tl2⟩ := release_all (new := new) dead invC
  have htree : st2.tree = t' := ht2.trans hf1
  have tl : Tally st st2 :=
    have tc := consume_tally dropped { (setX st x { getX st x with appRefs := a' }) with tree := t' }
    .trans ⟨tc.psize, tc.pens, tc.strs, tc.rbs, tc.tapp, tc.tfreed⟩ tl2
  have hxd : x ∉ dropped := fun hd' => Nat.lt_irrefl _ (U.above x hd')
  have hget : ∀ (j : Nat), (getX st2 j).appRefs = (getX (setX st x { getX st x with appRefs := a' }) j).appRefs -
      (if j ∈ dropped ∧ j < st.wx.size then 1 else 0) := fun j => by
    rw [ha2 j, consume_appRefs dropped _ j U.nodup]
    show (getX (setX st x { getX st x with appRefs := a' }) j).appRefs -
      (if j ∈ dropped ∧ j < (setX st x _).wx.size then 1 else 0) = _
    rw [setX_size]
  have happ : ∀ (j : Nat), j < st.wx.size →
      (getX st2 j).appRefs = if j = x then a' else (getX st j).appRefs - (if j ∈ dropped then 1 else 0) := by
    intro j hj
    rw [hget, getX_setX]
    by_cases hjx : j = x
    · subst hjx; simp only [hj, and_self, if_true, hxd, false_and, if_false, Nat.sub_zero]
    · rw [if_neg (fun h => hjx h.1.symm), if_neg hjx]; simp only [hj, and_true]
  have hb0 : BindsFrom new st { (setX st x { getX st x with appRefs := a' }) with tree := t' } :=
    BindsFrom.upd_sub x { getX st x with appRefs := a' } fun _ h => h
  refine ⟨st2, dead, dropped, ?_, inv2.reghost_wins hterm ?_ ?_, htree ▸ U, happ, fun j hj => ?_,
    (hb0.trans (consume_binds dropped _)).trans hb2, tl⟩
  · unfold unrefW
    rw [show (setX st x { getX st x with appRefs := a' }).tree = st.tree from rfl, ht]
    exact hfold
  · intro i w' hli
    rw [htree] at hli
    have h4 := U.rc i w' hli
    obtain ⟨w, hlw, hle⟩ := U.count i w' hli
    obtain ⟨h1, h2⟩ := inv.wref i w hlw
    have h3 := happ i (inv.wx_size ▸ hlw.lt)
    by_cases hix : i = x
    · subst hix
      cases WinTree.Live.unique hlw hl
      rw [if_pos rfl, if_neg hxd] at hle
      rw [if_pos rfl] at h3
      rw [h3]
      exact ⟨by omega, fun hcov => by have := hlow hcov; omega⟩
    · rw [if_neg hix] at hle h3
      unfold Ghost.covers
      rw [hoth i hix]
      by_cases hd' : i ∈ dropped
      · rw [if_pos hd'] at hle h3
        obtain ⟨r1, r2⟩ := count_after (app' := (getX st2 i).appRefs) (a := 0) (b := 1) hle (by omega) h1
        refine ⟨r1, fun hcov => r2 ?_ (h2 hcov)⟩
        -- the child has two references at least, and nobody but the application can hold them
        rcases hcov with h0 | hg
        · exact absurd (U.above i hd') (by rw [h0]; exact Nat.not_lt_zero _)
        · exact lost_le_tally (a := 0) (b := 1) hle h4 h1 hg
      · rw [if_neg hd'] at hle h3
        obtain ⟨r1, r2⟩ := count_after (app' := (getX st2 i).appRefs) (a := 0) (b := 0) hle (by omega) h1
        exact ⟨r1, fun hcov => r2 (Nat.zero_le _) (h2 hcov)⟩
  · -- a root window the library still holds survives
    intro hg
    rw [htree]
    by_cases hx0 : x = 0
    · subst hx0
      refine U.root_stays inv.tinv hl (.inr ?_)
      have h2 := (inv.wref 0 xw hl).2 (.inl rfl)
      omega
    · rw [hoth 0 (fun e => hx0 e.symm)] at hg
      obtain ⟨r, hr⟩ := inv.glive hg
      exact U.root_stays inv.tinv hr (.inl hx0)
  · rw [hget, getX_setX, if_neg fun h => hj h.1.symm]
    exact Nat.sub_le _ _

theorem unrefW_spec {new : List Act → Prop} {cfg : Cfg} (R : Repaired cfg) {st : St} (inv : SInv gh st) {x : Nat}
    (hh : heldW st x = true) :
    ∃ st' dead dropped, unrefW cfg (setX st x { getX st x with appRefs := (getX st x).appRefs - 1 }) x = .ok st' ∧
      UnrefdW new gh st st' x ((getX st x).appRefs - 1) dead dropped := by
  obtain ⟨xw, hl, hpos⟩ := heldW_spec hh
  exact unrefW_gen R inv hl _ rfl (fun _ _ => rfl) (by omega) (inv.wref x xw hl).2

end Tickit.Life
