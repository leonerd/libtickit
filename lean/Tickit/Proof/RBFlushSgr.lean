import Tickit.Proof.Sgr
import Tickit.Proof.RBFlushX
import Tickit.Proof.RBFlush
/-
  C04, xterm-driver configuration: the VT screen's reading of the driver's SGR bytes.  Its tokenizer (C09's
  conventions) sees in `ESC [ params m` as the driver renders it exactly the groups C10's parser sees, so the two
  terminals agree on every byte string `chpen` can write; the pen model of the flush is C10's for colour indices below
  `tt->colors = 256`; hence C10's `chpen_expect` carries over to a setpen request of the flush (`interp_setpen`).
-/
namespace Tickit.RBFlushX
open Tickit.RB Tickit.RBFlush

/-- C10's bytes (`Nat`) as the bytes of this configuration. -/
def toBytes (bs : List Nat) : Bytes := bs.map UInt8.ofNat

theorem toBytes_append (a b : List Nat) : toBytes (a ++ b) = toBytes a ++ toBytes b := by simp [toBytes]

theorem toBytes_showNat (n : Nat) : toBytes (TermPen.showNat n) = XTermDrv.showNat n := by
  have h : ∀ f n, toBytes ((TermPen.digitsRev f n).reverse.map (· + 48)) = XTermDrv.showNatF f n := by
    intro f
    induction f with
    | zero => intro _; rfl
    | succ f ih =>
      intro n
      unfold TermPen.digitsRev XTermDrv.showNatF
      split
      · simp [toBytes, Nat.add_comm]
      · rw [List.reverse_cons, List.map_append, toBytes_append, ih]
        simp [toBytes, Nat.add_comm]
  exact h (n + 1) n

namespace XScreen
open VT (joinSep groupsOf)
open Tickit.Proof.Sgr (groupsFlat)

/-- What the two `sprintf` loops of `chpen` write, as digit strings with their separators (`Csi.sepOf`), in C09's `%d`. -/
abbrev sepTP (colon : Bool) (ps : List TermPen.Param) : List (Bytes × Bool) := Csi.sepOf XTermDrv.showNat colon ps

theorem toBytes_renderBody (colon : Bool) : ∀ ps : List TermPen.Param,
    toBytes (TermPen.renderBody colon ps) = joinSep (sepTP colon ps)
  | [] => rfl
  | [p] => toBytes_showNat p.val
  | p :: q :: rest => by
    have ih := toBytes_renderBody colon (q :: rest)
    simp only [Csi.sepOf, List.map_cons] at ih
    simp only [TermPen.renderBody, toBytes_append, toBytes_showNat, ih, Csi.sepOf, List.map_cons, Csi.joinSep]
    by_cases h : (p.more && colon) = true <;> simp [h, toBytes]

theorem dispatch_sgr (s : XScreen) (ps) : s.dispatch 0 ps [] 0x6d = { s with attrs := Sgr.sgrApply ps s.attrs } := rfl

theorem interp_renderSgr (colon : Bool) (ps : List TermPen.Param) (s : XScreen) (hg : s.ps = .ground) :
    s.interp (toBytes (TermPen.renderSgr colon ps)) =
      { s with attrs := Sgr.sgrApply (groupsFlat colon ps [] []) s.attrs } := by
  have := rd.run_csi_sep s hg (sepTP colon ps) (Csi.sepOf_digits XTermDrv.decimal_showNat colon ps) []
    (fun _ h => nomatch h) 0x6d (by decide)
  rw [List.append_nil] at this
  rw [TermPen.renderSgr, toBytes_append, toBytes_append, toBytes_renderBody,
    Csi.groupsFlat_eq XTermDrv.decimal_showNat, List.nil_append]
  exact this

end XScreen

theorem XScreen.interp_chpen_bytes (caps : TermPen.Caps) (cap : Nat) (d f : TermPen.Pen) (bs : List Nat)
    (h : TermPen.xtermChpen caps cap d f = .bytes bs) (s : XScreen) (hg : s.ps = .ground) :
    s.interp (toBytes bs) = { s with attrs := (Sgr.run bs ⟨.ground, s.attrs⟩).attrs } := by
  rw [Tickit.Proof.Sgr.xtermChpen_bytes h]
  split
  · cases s; rfl
  · rw [XScreen.interp_renderSgr _ _ s hg, Tickit.Proof.Sgr.run_renderSgr]

theorem getColour_toTP (o : Option Colour) : TermPen.getColour (o.map toTPColour) = Pen.getColour o := by
  cases o <;> rfl

theorem equivColour_toTP (a b : Option Colour) :
    TermPen.equivColour (a.map toTPColour) (b.map toTPColour) = Pen.equivColour a b := by
  unfold TermPen.equivColour Pen.equivColour
  simp only [getColour_toTP]
  by_cases h : Pen.getColour a ≠ Pen.getColour b
  · simp [h]
  · simp only [h, if_false]
    rcases a with _ | ⟨ai, _ | ax⟩ <;> rcases b with _ | ⟨bi, _ | bx⟩ <;>
      simp [TermPen.hasRgb, TermPen.getRgb, Pen.getRgb, toTPColour]

theorem copyColour_toTP (o : Option Colour) : TermPen.copyColour (o.map toTPColour) = toTPColour (colourVal o) := by
  rcases o with _ | ⟨i, _ | x⟩ <;>
    simp [TermPen.copyColour, TermPen.hasRgb, TermPen.getRgb, TermPen.getColour, toTPColour, colourVal, Pen.getColour,
      Pen.getRgb]

theorem setAttr_bool (t p : Option Bool) : setAttr Pen.equivBool Pen.getBool t p = TermPen.stepBool true t p := by
  simp [setAttr, TermPen.stepBool, Pen.equivBool, Pen.getBool, TermPen.getBool]

theorem setAttr_int (t p : Option Int) : setAttr Pen.equivInt Pen.getInt t p = TermPen.stepInt true t p := by
  simp [setAttr, TermPen.stepInt, Pen.equivInt, Pen.getInt, TermPen.getInt]

theorem setAttr_colour (t p : Option Colour) (h : Pen.getColour p < 256) :
    ((setAttr Pen.equivColour colourVal t p).1.map toTPColour, (setAttr Pen.equivColour colourVal t p).2.map toTPColour) =
      TermPen.stepColour true 256 (t.map toTPColour) (p.map toTPColour) := by
  unfold setAttr TermPen.stepColour
  simp only [equivColour_toTP, getColour_toTP, copyColour_toTP, Option.isSome_map]
  have hn : ¬ Pen.getColour p ≥ 256 := by omega
  by_cases hc : (t.isSome && Pen.equivColour t p) = true
  · simp [hc]
  · simp [hc, hn]

/-- `tickit_term_setpen` as the flush models it is C10's `tickit_term_setpen` (`set = true`, 256 colours). -/
theorem toTP_termSetpen (cache p : Pen) (hf : Pen.getColour p.fg < 256) (hb : Pen.getColour p.bg < 256) :
    toTP (termSetpen cache p) = TermPen.termCache true 256 (toTP cache) (toTP p) ∧
    toTP (termSetpenDelta cache p) = TermPen.termDelta true 256 (toTP cache) (toTP p) := by
  have h1 := setAttr_colour cache.fg p.fg hf
  have h2 := setAttr_colour cache.bg p.bg hb
  have f1 := congrArg Prod.fst h1
  have f2 := congrArg Prod.snd h1
  have b1 := congrArg Prod.fst h2
  have b2 := congrArg Prod.snd h2
  simp only at f1 f2 b1 b2
  constructor
  · simp only [toTP, termSetpen, TermPen.termCache, setAttr_bool, setAttr_int, f1, b1]
  · simp only [toTP, termSetpenDelta, TermPen.termDelta, setAttr_bool, setAttr_int, f2, b2]

theorem convColour_toTP (o : Option Colour) (h : Pen.getColour o < 256) :
    (o.map toTPColour).map (TermPen.convColour 256) = o.map toTPColour := by
  cases o with
  | none => rfl
  | some c => exact congrArg some (Tickit.Proof.Sgr.convColour_of_lt _ _ h)

theorem convPen_toTP (p : Pen) (hf : Pen.getColour p.fg < 256) (hb : Pen.getColour p.bg < 256) :
    TermPen.convPen 256 (toTP p) = toTP p := by
  simp only [TermPen.convPen, toTP, convColour_toTP _ hf, convColour_toTP _ hb]

theorem expectAttrs_toTP (caps : TermPen.Caps) (p : Pen) (hf : Pen.getColour p.fg < 256) (hb : Pen.getColour p.bg < 256) :
    expectAttrs caps p = TermPen.expectAttrs caps (toTP p) := by
  unfold expectAttrs TermPen.expected
  simp only [convPen_toTP p hf hb]

theorem deltaOk_of_encodable (caps : TermPen.Caps) (p : Pen) (h : PenEncodable caps p) :
    Tickit.Proof.Sgr.DeltaOk caps (toTP p) := by
  obtain ⟨_, _, _, _, hu0, hu2, hs0, hs3, hsn⟩ := h
  constructor
  · intro v hv
    have e : Pen.getInt p.under = v := by rw [show p.under = some v from hv]; rfl
    rw [e] at hu0 hu2
    refine ⟨hu0, ?_⟩
    cases hc : caps.colon
    · exact Or.inr (hu2 hc)
    · exact Or.inl rfl
  · intro v hv
    have e : Pen.getInt p.sizepos = v := by rw [show p.sizepos = some v from hv]; rfl
    rw [e] at hs0 hs3 hsn
    simp only [Tickit.Gen.Sgr.sizeposSmall, Tickit.Gen.Sgr.sizeposSuperscript, Tickit.Gen.Sgr.sizeposSubscript] at *
    omega

def shownColour (rgb8 : Bool) (o : Option Colour) : Sgr.Colr :=
  TermPen.expectColour rgb8 ((o.map toTPColour).map (TermPen.convColour 256))

theorem shownColour_val (rgb8 : Bool) (o : Option Colour) :
    shownColour rgb8 o = shownColour rgb8 (some ⟨Pen.getColour o, Pen.getRgb o⟩) := by
  cases o with
  | none => simp [shownColour, TermPen.expectColour, TermPen.convColour, toTPColour, Pen.getColour, Pen.getRgb]
  | some c => cases c; rfl

theorem expectAttrs_of_penSame (caps : TermPen.Caps) (a b : Pen) (h : penSame a b = true) :
    expectAttrs caps a = expectAttrs caps b := by
  have hr := (penSame_iff a b).1 h
  simp only [RBCopy.penLook, RBCopy.PenLook.mk.injEq] at hr
  obtain ⟨h1, r1, h2, r2, h3, h4, h5, h6, h7, h8, h9, h10⟩ := hr
  have e1 : shownColour caps.rgb8 a.fg = shownColour caps.rgb8 b.fg := by
    rw [shownColour_val _ a.fg, shownColour_val _ b.fg, h1, r1]
  have e2 : shownColour caps.rgb8 a.bg = shownColour caps.rgb8 b.bg := by
    rw [shownColour_val _ a.bg, shownColour_val _ b.bg, h2, r2]
  simp only [shownColour] at e1 e2
  simp only [expectAttrs, TermPen.expected, TermPen.expectAttrs, TermPen.convPen, toTP, e1, e2]
  simp only [Pen.getBool, Pen.getInt] at h3 h4 h5 h6 h7 h8 h9 h10
  simp only [TermPen.getBool, TermPen.getInt, h3, h4, h5, h6, h7, h8, h9, h10]

theorem setAttr_fst_isSome {α : Type} (eqv : Option α → Option α → Bool) (val : Option α → α) (t p : Option α) :
    (setAttr eqv val t p).1.isSome = true :=
  setAttr_cases (Q := fun o => o.isSome = true) eqv val t p (fun h _ => h) rfl

theorem penTotal_termSetpen (cache p : Pen) : PenTotal (termSetpen cache p) := by
  simp [PenTotal, termSetpen, setAttr_fst_isSome]

theorem getColour_colourVal (o : Option Colour) : Pen.getColour (some (colourVal o)) = Pen.getColour o := rfl
theorem getInt_some_getInt (o : Option Int) : Pen.getInt (some (Pen.getInt o)) = Pen.getInt o := rfl

theorem penEncodable_termSetpen (caps : TermPen.Caps) (cache p : Pen) (hc : PenEncodable caps cache)
    (hp : PenEncodable caps p) : PenEncodable caps (termSetpen cache p) := by
  obtain ⟨c1, c2, c3, c4, c5, c6, c7⟩ := hc
  obtain ⟨p1, p2, p3, p4, p5, p6, p7⟩ := hp
  -- each attribute of the new `tt->pen` is the old one or the argument's: in range either way
  have f := setAttr_cases (Q := fun o => -1 ≤ Pen.getColour o ∧ Pen.getColour o < 256) Pen.equivColour colourVal cache.fg p.fg
    (fun _ _ => ⟨c1, c2⟩) ⟨p1, p2⟩
  have b := setAttr_cases (Q := fun o => -1 ≤ Pen.getColour o ∧ Pen.getColour o < 256) Pen.equivColour colourVal cache.bg p.bg
    (fun _ _ => ⟨c3, c4⟩) ⟨p3, p4⟩
  have u := setAttr_cases (Q := fun o => 0 ≤ Pen.getInt o ∧ (caps.colon = false → Pen.getInt o ≤ 2)) Pen.equivInt Pen.getInt
    cache.under p.under (fun _ _ => ⟨c5, c6⟩) ⟨p5, p6⟩
  exact ⟨f.1, f.2, b.1, b.2, u.1, u.2,
    setAttr_cases (Q := fun o => 0 ≤ Pen.getInt o ∧ Pen.getInt o ≤ 3 ∧ Pen.getInt o ≠ Tickit.Gen.Sgr.sizeposSmall)
      Pen.equivInt Pen.getInt cache.sizepos p.sizepos (fun _ _ => c7) p7⟩

theorem interp_setpen (caps : TermPen.Caps) (cache p : Pen) (s : XScreen) (hg : s.ps = .ground)
    (ha : s.attrs = expectAttrs caps cache) (hc : PenEncodable caps cache) (hp : PenEncodable caps p) :
    s.interp (reqCalls caps cache (.setpen p)).flatten = { s with attrs := expectAttrs caps (termSetpen cache p) } := by
  obtain ⟨hc1, hd1⟩ := toTP_termSetpen cache p hp.fg_lt hp.bg_lt
  have henc := penEncodable_termSetpen caps cache p hc hp
  simp only [reqCalls, chpenCalls]
  rw [hd1, hc1]
  obtain ⟨bs, hx⟩ := Tickit.Proof.Sgr.xtermChpen_fits_cap (caps := caps) (TermPen.termDelta true 256 (toTP cache) (toTP p))
    (TermPen.termCache true 256 (toTP cache) (toTP p)) (by decide : 19 ≤ Tickit.Gen.Sgr.paramsCap)
  rw [hx]
  simp only [call_flatten]
  have hrun := Tickit.Proof.Sgr.chpen_expect (c := toTP cache) hx
    (Tickit.Proof.Sgr.deltaOk_termDelta caps true 256 (toTP cache) (toTP p) (deltaOk_of_encodable caps p hp))
    (Tickit.Proof.Sgr.expect_step caps true 256 (toTP cache) (toTP p))
  rw [show bs.map UInt8.ofNat = toBytes bs from rfl, XScreen.interp_chpen_bytes caps _ _ _ bs hx s hg, ha,
    expectAttrs_toTP caps cache hc.fg_lt hc.bg_lt, hrun, ← hc1, ← expectAttrs_toTP caps _ henc.fg_lt henc.bg_lt]

end Tickit.RBFlushX
