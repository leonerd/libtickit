import Tickit.Proof.WinFocusBase
import Tickit.Proof.WinTree
import Tickit.Proof.WinOwner
/-
  C15, the cursor side: what `_do_restore` and the flush tell the terminal is what `cursorSpec` demands.

  `_cell_visible` is read without the error monad (`upB`) and compared with the painter's model of Proof/WinOwner.lean: a
  cell of a window is visible exactly when the window owns it (`cellVisible_iff_owner`).  `specShown_eq` is `cursorSpec` in
  those terms, `doRestore_cases` is `_do_restore` against it, and a flush that is not skipped is inverted once (`Flushed`).
-/
namespace Tickit
namespace WinFocus
open WinTree

/-- Window `x` claims the cell `(l, c)` (given in the frame of `x`'s parent): it is visible and its rectangle
    contains the cell. -/
def claimB (t : Tree) (x : Nat) (l c : Int) : Bool :=
  match t.wins[x]? with
  | some w => w.isVisible && !w.freed && w.rect.memb l c
  | none => false

def inside (w : Win) (l c : Int) : Bool :=
  decide (0 ≤ l) && decide (l < w.rect.lines) && decide (0 ≤ c) && decide (c < w.rect.cols)

/-- The sibling scan of `_cell_visible`: does a claiming child in front of `prev` exist? -/
def covB (t : Tree) (prev : Option Nat) (l c : Int) : List Nat → Bool
  | [] => false
  | ch :: rest => if prev = some ch then false else (claimB t ch l c || covB t prev l c rest)

/-- `_cell_visible` without the error monad. -/
def upB (t : Tree) : Nat → Nat → Option Nat → Int → Int → Bool
  | 0, _, _, _, _ => false
  | f + 1, win, prev, l, c =>
    match t.wins[win]? with
    | none => false
    | some w =>
      inside w l c && !covB t prev l c w.children &&
      (match w.parent with
       | none => true
       | some p => upB t f p (some win) (l + w.rect.top) (c + w.rect.left))

theorem rectCovers_eq_memb (r : Rect) (l c : Int) : rectCovers r l c = r.memb l c := by
  rw [Bool.eq_iff_iff]
  unfold rectCovers Rect.memb Rect.bottom Rect.right
  simp only [Bool.and_eq_true, Bool.not_eq_true', Bool.or_eq_false_iff, decide_eq_true_eq, decide_eq_false_iff_not]
  omega

theorem coveredBy_ok {t : Tree} (prev : Option Nat) (l c : Int) : ∀ (cs : List Nat),
    (∀ ch ∈ cs, ∃ cw, Live t ch cw) → coveredBy t prev l c cs = .ok (covB t prev l c cs) := by
  intro cs
  induction cs with
  | nil => intro _; rfl
  | cons ch rest ih =>
    intro hl
    obtain ⟨cw, hcw⟩ := hl ch List.mem_cons_self
    have hclaim : claimB t ch l c = (cw.isVisible && rectCovers cw.rect l c) := by
      unfold claimB; rw [hcw.1]; simp [hcw.2, rectCovers_eq_memb]
    unfold coveredBy covB
    split
    · rfl
    · rw [get_ok_iff.mpr hcw, hclaim]
      show (if (cw.isVisible && rectCovers cw.rect l c) = true then pure true else coveredBy t prev l c rest) = _
      cases (cw.isVisible && rectCovers cw.rect l c) with
      | true => rfl
      | false => exact ih (fun x hx => hl x (List.mem_cons_of_mem _ hx))

theorem cellVisible_ok {t : Tree} (h : wfB t = true) : ∀ (win : Nat) (w : Win), Live t win w → ∀ fuel, win < fuel →
    ∀ (prev : Option Nat) (l c : Int), cellVisible fuel t win prev l c = .ok (upB t fuel win prev l c) :=
  WinTree.chain_induction (wf_upward h) fun win w f hw ih prev l c => by
    have hbounds : (l < 0 ∨ l ≥ w.rect.lines ∨ c < 0 ∨ c ≥ w.rect.cols) ↔ inside w l c = false := by
      unfold inside
      rw [Bool.and_eq_false_iff, Bool.and_eq_false_iff, Bool.and_eq_false_iff]
      simp only [decide_eq_false_iff_not]
      omega
    unfold cellVisible upB
    rw [hw.1, get_ok_iff.mpr hw]
    show (if l < 0 ∨ l ≥ w.rect.lines ∨ c < 0 ∨ c ≥ w.rect.cols then pure false else _) =
      Res.ok (inside w l c && !covB t prev l c w.children && _)
    cases hin : inside w l c with
    | false => rw [if_pos (hbounds.mpr hin)]; rfl
    | true =>
      rw [if_neg (fun hb => by rw [hbounds.mp hb] at hin; cases hin),
        coveredBy_ok prev l c w.children (fun ch hch => (wf_child h hw hch).imp fun _ hc => hc.1)]
      show (if covB t prev l c w.children = true then pure false else _) = _
      cases covB t prev l c w.children with
      | true => rfl
      | false =>
        cases hp : w.parent with
        | none => rfl
        | some p => exact (ih p hp).2 (some win) _ _


/-- `win` and all its ancestors are visible. -/
def AncVis (t : Tree) (win : Nat) : Prop := ∀ x xw, Anc t win x → Live t x xw → xw.isVisible = true

theorem anc_parent_none {t : Tree} {p : Nat} {pw : Win} (hp : Live t p pw) (hpar : pw.parent = none)
    (ha : Anc t p 0) : p = 0 := by
  cases ha with
  | refl => rfl
  | step hw hpar' _ => rw [Live.unique hw hp] at hpar'; rw [hpar] at hpar'; cases hpar'

theorem anc_parent_some {t : Tree} (h : wfB t = true) {p pp : Nat} {pw : Win} (hp : Live t p pw)
    (hpar : pw.parent = some pp) (ha : Anc t p 0) : Anc t pp 0 := by
  cases ha with
  | refl =>
    obtain ⟨r, hr, _, hrp⟩ := wf_root h
    rw [Live.unique hp hr] at hpar; rw [hrp] at hpar; cases hpar
  | step hw hpar' hrest =>
    rw [Live.unique hw hp] at hpar'; rw [hpar] at hpar'; cases hpar'; exact hrest

theorem ancVis_parent {t : Tree} {p pp : Nat} {pw : Win} (hp : Live t p pw) (hpar : pw.parent = some pp)
    (hv : AncVis t p) : AncVis t pp :=
  fun x xw hax hx => hv x xw (.step hp hpar hax) hx

theorem ancVis_child {t : Tree} {win c : Nat} {cw : Win} (hc : Live t c cw) (hcp : cw.parent = some win)
    (hcv : cw.isVisible = true) (hv : AncVis t win) : AncVis t c := by
  intro x xw hax hx
  cases hax with
  | refl => rw [Live.unique hx hc]; exact hcv
  | step hw hp hrest =>
    rw [Live.unique hw hc] at hp; rw [hcp] at hp; cases hp
    exact hv x xw hrest hx

theorem ancVis_top {t : Tree} {p : Nat} {pw : Win} (hp : Live t p pw) (hpar : pw.parent = none)
    (hv : pw.isVisible = true) : AncVis t p := by
  intro x xw hax hx
  cases hax with
  | refl => rw [Live.unique hx hp]; exact hv
  | step hw hp' _ => rw [Live.unique hw hp, hpar] at hp'; cases hp'

theorem absCell_parent {t : Tree} {win p : Nat} {w : Win} (hw : Live t win w) (hp : w.parent = some p)
    (f : Nat) (l c : Int) : absCell t (f + 1) win l c = absCell t f p (l + w.rect.top) (c + w.rect.left) := by
  rw [absCell]; rw [hw.1]; simp only [hp]

theorem absCell_top {t : Tree} {win : Nat} {w : Win} (hw : Live t win w) (hp : w.parent = none)
    (f : Nat) (l c : Int) : absCell t (f + 1) win l c = (l + w.rect.top, c + w.rect.left) := by
  rw [absCell]; rw [hw.1]; simp only [hp]

theorem upB_parent {t : Tree} {win p : Nat} {w : Win} (hw : Live t win w) (hp : w.parent = some p)
    (f : Nat) (prev : Option Nat) (l c : Int) :
    upB t (f + 1) win prev l c =
      (inside w l c && !covB t prev l c w.children && upB t f p (some win) (l + w.rect.top) (c + w.rect.left)) := by
  rw [upB]; rw [hw.1]; simp only [hp]

theorem upB_top {t : Tree} {win : Nat} {w : Win} (hw : Live t win w) (hp : w.parent = none)
    (f : Nat) (prev : Option Nat) (l c : Int) :
    upB t (f + 1) win prev l c = (inside w l c && !covB t prev l c w.children) := by
  rw [upB]; rw [hw.1]; simp only [hp, Bool.and_true]

theorem chainEnd_some {t : Tree} {win c : Nat} {w : Win} (hw : Live t win w) (hc : w.focusedChild = some c)
    (f : Nat) : chainEnd t (f + 1) win = chainEnd t f c := by
  rw [chainEnd]; rw [hw.1]; simp only [hc]

theorem chainEnd_none {t : Tree} {win : Nat} {w : Win} (hw : Live t win w) (hc : w.focusedChild = none)
    (f : Nat) : chainEnd t (f + 1) win = win := by
  rw [chainEnd]; rw [hw.1]; simp only [hc]

theorem chainWalk_spec {t : Tree} (h : wfB t = true) : ∀ (fuel win : Nat) (w : Win),
    t.wins.size < fuel + win → Live t win w → Anc t win 0 → AncVis t win →
    ∃ e ew, chainWalk fuel t win = .ok e ∧ chainEnd t fuel win = e ∧ Live t e ew ∧ Anc t e 0 ∧ AncVis t e := by
  intro fuel
  induction fuel with
  | zero => intro win w hf hw; have : win < t.wins.size := Live.lt hw; omega
  | succ f ih =>
    intro win w hf hw h0 hv
    have hvis : w.isVisible = true := hv win w (.refl _) hw
    rw [chainWalk]
    simp only [bind_ok_iff]
    cases hfc : w.focusedChild with
    | none =>
      refine ⟨win, w, ⟨w, get_ok_iff.mpr hw, ?_⟩, chainEnd_none hw hfc f, hw, h0, hv⟩
      simp only [hvis, hfc, Bool.not_true, Bool.false_eq_true, if_false]; rfl
    | some c =>
      obtain ⟨cw, hcw, hcp, hcv⟩ := wf_focused h hw hfc
      have hlt := (wf_parent h hcw hcp).1
      obtain ⟨e, ew, h1, h2, h3, h4, h5⟩ := ih c cw (by omega) hcw (.step hcw hcp h0) (ancVis_child hcw hcp hcv hv)
      refine ⟨e, ew, ⟨w, get_ok_iff.mpr hw, ?_⟩, (chainEnd_some hw hfc f).trans h2, h3, h4, h5⟩
      simp only [hvis, hfc, Bool.not_true, Bool.false_eq_true, if_false]; exact h1

theorem allVisible_parent {t : Tree} {win p : Nat} {w : Win} (hw : Live t win w) (hp : w.parent = some p)
    (f : Nat) : allVisible t (f + 1) win = (w.isVisible && allVisible t f p) := by
  rw [allVisible]; rw [hw.1]; simp only [hp, hw.2]; simp

theorem allVisible_top {t : Tree} {win : Nat} {w : Win} (hw : Live t win w) (hp : w.parent = none)
    (f : Nat) : allVisible t (f + 1) win = (w.isVisible && w.isRoot) := by
  rw [allVisible]; rw [hw.1]; simp only [hp, hw.2]; simp

theorem insideAll_parent {t : Tree} {win p : Nat} {w : Win} (hw : Live t win w) (hp : w.parent = some p)
    (f : Nat) (l c : Int) :
    insideAll t (f + 1) win l c = (inside w l c && insideAll t f p (l + w.rect.top) (c + w.rect.left)) := by
  rw [insideAll]; rw [hw.1]; simp only [hp]; rfl

theorem insideAll_top {t : Tree} {win : Nat} {w : Win} (hw : Live t win w) (hp : w.parent = none)
    (f : Nat) (l c : Int) : insideAll t (f + 1) win l c = inside w l c := by
  rw [insideAll]; rw [hw.1]; simp only [hp, Bool.and_true]; rfl

theorem chainEnd_induct {t : Tree} (h : wfB t = true) {P : Nat → Nat → Prop} (stop : ∀ {x w}, Live t x w → P x x)
    (step : ∀ {x w c cw e}, Live t x w → w.focusedChild = some c → Live t c cw → cw.parent = some x → P c e → P x e) :
    ∀ (f x : Nat) (w : Win), Live t x w → P x (chainEnd t f x) := by
  intro f
  induction f with
  | zero => intro x w hw; exact stop hw
  | succ f ih =>
    intro x w hw
    cases hfc : w.focusedChild with
    | none => rw [chainEnd_none hw hfc]; exact stop hw
    | some c =>
      rw [chainEnd_some hw hfc]
      obtain ⟨cw, hcw, hcp, _⟩ := wf_focused h hw hfc
      exact step hw hfc hcw hcp (ih c cw hcw)

theorem chainEnd_live {t : Tree} (h : wfB t = true) : ∀ (fuel win : Nat) (w : Win),
    Live t win w → Anc t win 0 →
    ∃ ew, Live t (chainEnd t fuel win) ew ∧ Anc t (chainEnd t fuel win) 0 :=
  fun fuel win w hw => chainEnd_induct h (P := fun x e => Anc t x 0 → ∃ ew, Live t e ew ∧ Anc t e 0)
    (fun hw h0 => ⟨_, hw, h0⟩) (fun _ _ hcw hcp ih h0 => ih (.step hcw hcp h0)) fuel win w hw

theorem allVisible_iff {t : Tree} (h : wfB t = true) : ∀ (win : Nat) (w : Win), Live t win w → ∀ fuel, win < fuel →
    Anc t win 0 → (allVisible t fuel win = true ↔ AncVis t win) :=
  WinTree.chain_induction (wf_upward h) fun win w f hw ih h0 => by
    cases hp : w.parent with
    | none =>
      rw [allVisible_top hw hp]
      cases anc_parent_none hw hp h0
      obtain ⟨r, hr, hroot, _⟩ := wf_root h
      cases Live.unique hw hr
      rw [hroot, Bool.and_true]
      exact ⟨ancVis_top hw hp, fun hv => hv 0 w (.refl _) hw⟩
    | some p =>
      rw [allVisible_parent hw hp, Bool.and_eq_true]
      have hiff := (ih p hp).2 (anc_parent_some h hw hp h0)
      exact ⟨fun ⟨hv, hvp⟩ => ancVis_child hw hp hv (hiff.mp hvp),
        fun hv => ⟨hv win w (.refl _) hw, hiff.mpr (ancVis_parent hw hp hv)⟩⟩

theorem absUp_none (t : Tree) (f : Nat) (g : Rect) : absGeometry.up t (f + 1) none g = .ok g := rfl

theorem absUp_some (t : Tree) (f p : Nat) (g : Rect) :
    absGeometry.up t (f + 1) (some p) g =
      (WinTree.get t p >>= fun pw => absGeometry.up t f pw.parent (g.translate pw.rect.top pw.rect.left)) := rfl

/-- `tickit_window_get_abs_geometry` agrees with the specification's translation of a cell. -/
theorem absUp_spec {t : Tree} (h : wfB t = true) : ∀ (p : Nat) (pw : Win), Live t p pw → ∀ f, p < f →
    ∀ (g : Rect) (l c : Int), ∃ g', absGeometry.up t (f + 1) (some p) g = .ok g' ∧
      absCell t f p (l + g.top) (c + g.left) = (l + g'.top, c + g'.left) :=
  WinTree.chain_induction (wf_upward h) fun p pw f hp ih g l c => by
    rw [absUp_some]
    simp only [bind_ok_iff]
    cases hpar : pw.parent with
    | none =>
      refine ⟨g.translate pw.rect.top pw.rect.left, ⟨pw, get_ok_iff.mpr hp, ?_⟩, ?_⟩
      · rw [hpar]; exact absUp_none _ _ _
      · rw [absCell_top hp hpar, Int.add_assoc, Int.add_assoc]; rfl
    | some pp =>
      obtain ⟨g', hg', hcell⟩ := (ih pp hpar).2 (g.translate pw.rect.top pw.rect.left) l c
      refine ⟨g', ⟨pw, get_ok_iff.mpr hp, ?_⟩, ?_⟩
      · rw [hpar]; exact hg'
      · rw [absCell_parent hp hpar, Int.add_assoc, Int.add_assoc]; exact hcell

theorem absGeometry_spec {t : Tree} (h : wfB t = true) {win : Nat} {w : Win} (hw : Live t win w) (l c : Int) :
    ∃ g, absGeometry t (treeFuel t) win = .ok g ∧
      absCell t (treeFuel t) win l c = (l + g.top, c + g.left) := by
  have hsz : win < t.wins.size := Live.lt hw
  unfold absGeometry treeFuel
  simp only [bind_ok_iff]
  cases hp : w.parent with
  | none =>
    refine ⟨w.rect, ⟨w, get_ok_iff.mpr hw, ?_⟩, ?_⟩
    · rw [hp]; exact absUp_none _ _ _
    · exact absCell_top hw hp _ l c
  | some p =>
    obtain ⟨hlt, _, pw, hpw, _⟩ := wf_parent h hw hp
    obtain ⟨g', hg', hcell⟩ := absUp_spec h p pw hpw t.wins.size (by omega) w.rect l c
    refine ⟨g', ⟨w, get_ok_iff.mpr hw, ?_⟩, ?_⟩
    · rw [hp]; exact hg'
    · rw [absCell_parent hw hp]; exact hcell


theorem absCell_inj {t : Tree} (h : wfB t = true) {x : Nat} {w : Win} (hw : Live t x w) {l c l' c' : Int}
    (he : absCell t (treeFuel t) x l c = absCell t (treeFuel t) x l' c') : l = l' ∧ c = c' := by
  obtain ⟨g, hg, h1⟩ := absGeometry_spec h hw l c
  obtain ⟨g', hg', h2⟩ := absGeometry_spec h hw l' c'
  have : g = g' := by rw [hg] at hg'; cases hg'; rfl
  subst this
  rw [h1, h2] at he
  simp at he
  omega

theorem wf_links {t : Tree} (h : wfB t = true) : WinSpec.Links t := (wfB_iff.mp h).linked.links

theorem claims_iff {t : Tree} {s : Nat} {l c : Int} : WinSpec.Claims t s l c ↔ claimB t s l c = true := by
  unfold WinSpec.Claims claimB
  cases t.wins[s]? with
  | none => simp
  | some w => simp [and_assoc]

theorem covB_none {t : Tree} (l c : Int) : ∀ cs : List Nat,
    covB t none l c cs = false ↔ ∀ ch ∈ cs, ¬ WinSpec.Claims t ch l c
  | [] => by simp [covB]
  | ch :: rest => by
    rw [covB, if_neg nofun, Bool.or_eq_false_iff, covB_none l c rest, List.forall_mem_cons, claims_iff,
      Bool.not_eq_true]

theorem covB_split {t : Tree} (l c : Int) (a : Nat) (l2 : List Nat) : ∀ l1 : List Nat, a ∉ l1 →
    (covB t (some a) l c (l1 ++ a :: l2) = false ↔ ∀ s ∈ l1, ¬ WinSpec.Claims t s l c)
  | [], _ => by simp [covB]
  | x :: l1, hn => by
    have hx : a ≠ x := fun e => hn (e ▸ List.mem_cons_self)
    rw [List.cons_append, covB, if_neg (fun e => hx (Option.some.inj e)), Bool.or_eq_false_iff,
      covB_split l c a l2 l1 (fun hm => hn (List.mem_cons_of_mem _ hm)), List.forall_mem_cons, claims_iff,
      Bool.not_eq_true]

/-- `_cell_visible` says yes iff the cell lies inside the window and every ancestor and nothing listed in front of the
    way up claims it (at the window itself: in front of `prev`). -/
theorem upB_iff {t : Tree} (h : wfB t = true) : ∀ (win : Nat) (ww : Win), Live t win ww → ∀ fuel, win < fuel →
    ∀ w, Live t win w → ∀ (prev : Option Nat) (l c : Int), upB t fuel win prev l c = true ↔
      insideAll t fuel win l c = true ∧ covB t prev l c w.children = false ∧ WinSpec.FrontFree t fuel win l c :=
  WinTree.chain_induction (wf_upward h) fun win w f hw ih w' hw' prev l c => by
    cases Live.unique hw hw'
    cases hp : w.parent with
    | none =>
      rw [upB_top hw hp, insideAll_top hw hp, Bool.and_eq_true, Bool.not_eq_true']
      exact ⟨fun h => ⟨h.1, h.2, WinSpec.frontFree_top hw.1 hp l c⟩, fun h => ⟨h.1, h.2.1⟩⟩
    | some p =>
      obtain ⟨_, _, pw, hpw, hmem⟩ := wf_parent h hw hp
      obtain ⟨l1, l2, hsplit, hn⟩ := List.eq_append_cons_of_mem hmem
      rw [upB_parent hw hp, insideAll_parent hw hp, Bool.and_eq_true, Bool.and_eq_true, Bool.and_eq_true,
        Bool.not_eq_true', (ih p hp).2 pw hpw, WinSpec.frontFree_succ hw.1 hp hpw.1 hsplit hn, hsplit,
        covB_split _ _ _ _ _ hn]
      exact ⟨fun ⟨⟨a, b⟩, c, d, e⟩ => ⟨⟨a, c⟩, b, d, e⟩, fun ⟨⟨a, c⟩, b, d, e⟩ => ⟨⟨a, b⟩, c, d, e⟩⟩

theorem shown_iff {t : Tree} (h : wfB t = true) : ∀ (win : Nat) (ww : Win), Live t win ww → ∀ fuel, win < fuel →
    ∀ w, Live t win w → ∀ (l c X Y : Int), WinSpec.Shown t fuel win l c 0 X Y ↔
      Anc t win 0 ∧ AncVis t win ∧ insideAll t fuel win l c = true ∧ absCell t fuel win l c = (X, Y) :=
  WinTree.chain_induction (wf_upward h) fun win w f hw ih w' hw' l c X Y => by
    cases Live.unique hw hw'
    have hin : (0 ≤ l ∧ l < w.rect.lines ∧ 0 ≤ c ∧ c < w.rect.cols) ↔ inside w l c = true := by
      unfold inside; simp only [Bool.and_eq_true, decide_eq_true_eq, and_assoc]
    unfold WinSpec.Shown
    cases hp : w.parent with
    | none =>
      rw [insideAll_top hw hp, absCell_top hw hp]
      constructor
      · rintro ⟨aw, haw, hv, a1, a2, a3, a4, ⟨_, rfl, rfl, rfl⟩ | ⟨p, hp', _⟩⟩
        · cases Live.unique haw hw
          exact ⟨.refl _, ancVis_top hw hp hv, hin.mp ⟨a1, a2, a3, a4⟩, rfl⟩
        · cases Live.unique haw hw; rw [hp] at hp'; cases hp'
      · rintro ⟨h0, hvis, hi, he⟩
        obtain ⟨a1, a2, a3, a4⟩ := hin.mpr hi
        obtain ⟨rfl, rfl⟩ := Prod.mk.inj he
        exact ⟨w, hw, hvis win w (.refl _) hw, a1, a2, a3, a4, .inl ⟨hp, anc_parent_none hw hp h0, rfl, rfl⟩⟩
    | some p =>
      obtain ⟨_, _, pw, hpw, _⟩ := wf_parent h hw hp
      rw [insideAll_parent hw hp, absCell_parent hw hp, Bool.and_eq_true]
      constructor
      · rintro ⟨aw, haw, hv, a1, a2, a3, a4, ⟨hp', _⟩ | ⟨p', hp', hs⟩⟩
        · cases Live.unique haw hw; rw [hp] at hp'; cases hp'
        · cases Live.unique haw hw; rw [hp] at hp'; cases hp'
          obtain ⟨b0, bvis, bi, be⟩ := ((ih p hp).2 pw hpw _ _ X Y).mp hs
          exact ⟨.step hw hp b0, ancVis_child hw hp hv bvis, ⟨hin.mp ⟨a1, a2, a3, a4⟩, bi⟩, be⟩
      · rintro ⟨h0, hvis, ⟨hi, bi⟩, he⟩
        obtain ⟨a1, a2, a3, a4⟩ := hin.mpr hi
        exact ⟨w, hw, hvis win w (.refl _) hw, a1, a2, a3, a4, .inr ⟨p, hp,
          ((ih p hp).2 pw hpw _ _ X Y).mpr ⟨anc_parent_some h hw hp h0, ancVis_parent hw hp hvis, bi, he⟩⟩⟩

theorem ownerAt_self_iff {t : Tree} (h : wfB t = true) {win : Nat} {w : Win} (hw : Live t win w) {l c X Y : Int} :
    WinSpec.ownerAt t X Y = some (win, l, c) ↔ owner t X Y = some win ∧ absCell t (treeFuel t) win l c = (X, Y) := by
  obtain ⟨r, hr, _, hrp⟩ := wf_root h
  have hF : win < treeFuel t := Nat.lt_succ_of_lt (Live.lt hw)
  have abs_of : ∀ {l' c'}, WinSpec.ownerAt t X Y = some (win, l', c') → absCell t (treeFuel t) win l' c' = (X, Y) :=
    fun hat => ((shown_iff h win w hw _ hF w hw _ _ X Y).mp (WinSpec.own_shown (wf_links h) hr.1 hrp hat)).2.2.2
  constructor
  · exact fun hat => ⟨by rw [WinSpec.owner_eq_at, hat]; rfl, abs_of hat⟩
  · rintro ⟨ho, habs⟩
    rw [WinSpec.owner_eq_at, Option.map_eq_some_iff] at ho
    obtain ⟨⟨o, l', c'⟩, hat, rfl⟩ := ho
    obtain ⟨rfl, rfl⟩ := absCell_inj h hw (habs.trans (abs_of hat).symm)
    exact hat

theorem owner_self_iff {t : Tree} (h : wfB t = true) {win : Nat} {w : Win} (hw : Live t win w) {l c X Y : Int}
    (habs : absCell t (treeFuel t) win l c = (X, Y)) :
    owner t X Y = some win ↔ WinSpec.Shown t (treeFuel t) win l c 0 X Y ∧ WinSpec.FrontFree t (treeFuel t) win l c ∧
      covB t none l c w.children = false := by
  obtain ⟨r, hr, _, hrp⟩ := wf_root h
  have hl := wf_links h
  have key := fun hs => WinSpec.own_chain hl (treeFuel t) win w l c 0 X Y (win, l, c) hw.1 hs (.refl win)
  rw [covB_none, ← WinSpec.subOwn_self_iff hl hw]
  constructor
  · intro ho
    have hat := (ownerAt_self_iff h hw).mpr ⟨ho, habs⟩
    have hs := WinSpec.own_shown hl hr.1 hrp hat
    exact ⟨hs, (key hs).mp hat⟩
  · exact fun ⟨hs, hrest⟩ => ((ownerAt_self_iff h hw).mp ((key hs).mpr hrest)).1

theorem cell_eta (p : Int × Int) : p = (p.1, p.2) := rfl

/-- `_cell_visible(win, l, c)` answers yes exactly when the painter's model gives the cell's terminal position to `win`. -/
theorem cellVisible_iff_owner {t : Tree} (h : wfB t = true) {win : Nat} {w : Win} (hw : Live t win w)
    (h0 : Anc t win 0) (hvis : AncVis t win) (l c : Int) :
    cellVisible (treeFuel t) t win none l c =
      .ok (decide (owner t (absCell t (treeFuel t) win l c).1 (absCell t (treeFuel t) win l c).2 = some win)) := by
  have hf : win < treeFuel t := Nat.lt_succ_of_lt (Live.lt hw)
  rw [cellVisible_ok h win w hw _ hf none l c]
  congr 1
  rw [Bool.eq_iff_iff, decide_eq_true_eq, upB_iff h win w hw _ hf w hw, owner_self_iff h hw (cell_eta _),
    shown_iff h win w hw _ hf w hw]
  exact ⟨fun ⟨a, b, c⟩ => ⟨⟨h0, hvis, a, rfl⟩, c, b⟩, fun ⟨⟨_, _, a, _⟩, c, b⟩ => ⟨a, b, c⟩⟩

def rootVisible (t : Tree) : Bool :=
  match t.wins[0]? with
  | some r => r.isVisible
  | none => false

theorem matches_hidden (c0 : TermCursor) : (c0.applyAll [.vis 0]).matches none = true := by
  simp [TermCursor.applyAll, TermCursor.apply, TermCursor.matches]

theorem matches_shown (c0 : TermCursor) (l c s : Int) (bl : List TermCall)
    (hbl : bl = [] ∨ ∃ b, bl = [.blink b]) :
    (c0.applyAll ([.goto l c, .shape s] ++ bl ++ [.vis 1])).matches (some (l, c, s)) = true := by
  rcases hbl with hbl | ⟨b, hbl⟩ <;> subst hbl <;>
    simp [TermCursor.applyAll, TermCursor.apply, TermCursor.matches]

/-- The test of `cursorSpec`, at a given end `e` of the focus chain. -/
def specShown (t : Tree) (e : Nat) (ew : Win) : Bool :=
  ew.isFocused && allVisible t (treeFuel t) e && ew.cursor.visible &&
    insideAll t (treeFuel t) e ew.cursor.line ew.cursor.col &&
    (owner t (absCell t (treeFuel t) e ew.cursor.line ew.cursor.col).1
             (absCell t (treeFuel t) e ew.cursor.line ew.cursor.col).2 == some e)

theorem cursorSpec_of {t : Tree} {e : Nat} {ew : Win} (he : chainEnd t (treeFuel t) 0 = e) (hw : Live t e ew) :
    cursorSpec t = if specShown t e ew then
      some ((absCell t (treeFuel t) e ew.cursor.line ew.cursor.col).1,
            (absCell t (treeFuel t) e ew.cursor.line ew.cursor.col).2, ew.cursor.shape) else none := by
  unfold cursorSpec specShown
  rw [he, hw.1]

theorem specShown_eq {t : Tree} (h : wfB t = true) {e : Nat} {ew : Win} (hw : Live t e ew) :
    specShown t e ew = (ew.isFocused && ew.cursor.visible &&
      (owner t (absCell t (treeFuel t) e ew.cursor.line ew.cursor.col).1
               (absCell t (treeFuel t) e ew.cursor.line ew.cursor.col).2 == some e)) := by
  unfold specShown
  by_cases ho : owner t (absCell t (treeFuel t) e ew.cursor.line ew.cursor.col).1
      (absCell t (treeFuel t) e ew.cursor.line ew.cursor.col).2 = some e
  · have hef : e < treeFuel t := Nat.lt_succ_of_lt (Live.lt hw)
    obtain ⟨h0, hvis, hin, _⟩ := (shown_iff h e ew hw _ hef ew hw _ _ _ _).mp ((owner_self_iff h hw (cell_eta _)).mp ho).1
    rw [(allVisible_iff h e ew hw _ hef h0).mpr hvis, hin, Bool.and_true, Bool.and_true]
  · rw [beq_eq_false_iff_ne.mpr ho, Bool.and_false, Bool.and_false]

/-- The test of `_do_restore` is the specification's: it says yes exactly when `cursorSpec` shows the cursor, and
    then the walk has stopped at the end of the focus chain. -/
theorem restoreShown_spec {t : Tree} (h : wfB t = true) (fx : Fixes)
    (hroot : fx.hiddenRoot = true ∨ rootVisible t = true) {win : Nat} {shown : Bool}
    (hcw : chainWalk (treeFuel t) t 0 = .ok win) (hsh : restoreShown fx t win = .ok shown) :
    ∃ ew, Live t (chainEnd t (treeFuel t) 0) ew ∧ (shown = true → win = chainEnd t (treeFuel t) 0) ∧
      shown = specShown t (chainEnd t (treeFuel t) 0) ew := by
  obtain ⟨r, hr0, _, hrp⟩ := wf_root h
  have hfuel : t.wins.size < treeFuel t + 0 := by unfold treeFuel; omega
  simp only [restoreShown, bind_ok_iff] at hsh
  obtain ⟨w', hg, hsh⟩ := hsh
  cases hv : r.isVisible with
  | true =>
    -- the root is visible: the walk reaches the end of the chain
    obtain ⟨e, ew, h1, h2, h3, h4, h5⟩ :=
      chainWalk_spec h (treeFuel t) 0 r hfuel hr0 (.refl 0) (ancVis_top hr0 hrp hv)
    cases h1.symm.trans hcw
    cases Live.unique (get_ok_iff.mp hg) h3
    rw [h2]
    refine ⟨w', h3, fun _ => rfl, ?_⟩
    rw [specShown_eq h h3]
    rw [h5 win w' (.refl _) h3, Bool.or_true, Bool.true_and] at hsh
    split at hsh
    · next hc =>
      rw [cellVisible_iff_owner h h3 h4 h5] at hsh
      cases hsh
      rw [hc, Bool.true_and, Bool.eq_iff_iff, decide_eq_true_eq, beq_iff_eq]
    · next hc =>
      cases pure_ok_iff.mp hsh
      rw [(Bool.not_eq_true _).mp hc, Bool.false_and]
  | false =>
    -- the root is hidden: only the repaired code is covered, and it stops at once
    have hfix : fx.hiddenRoot = true := hroot.resolve_right (by simp [rootVisible, hr0.1, hv])
    have hwalk : chainWalk (treeFuel t) t 0 = .ok 0 := by
      unfold treeFuel; rw [chainWalk]
      simp only [bind_ok_iff]
      exact ⟨r, get_ok_iff.mpr hr0, by simp [hv]; rfl⟩
    cases hwalk.symm.trans hcw
    cases Live.unique (get_ok_iff.mp hg) hr0
    rw [hfix, hv] at hsh
    cases pure_ok_iff.mp hsh
    obtain ⟨ew, he1, he2⟩ := chainEnd_live h (treeFuel t) 0 r hr0 (.refl 0)
    have hef : chainEnd t (treeFuel t) 0 < treeFuel t := Nat.lt_succ_of_lt (Live.lt he1)
    refine ⟨ew, he1, nofun, ?_⟩
    cases hall : allVisible t (treeFuel t) (chainEnd t (treeFuel t) 0) with
    | false => simp [specShown, hall]
    | true =>
      have := (allVisible_iff h _ ew he1 _ hef he2).mp hall 0 r he2 hr0
      rw [hv] at this; cases this

/-- `_do_restore` case by case: it hides the cursor where `cursorSpec` has none, and otherwise goes where `cursorSpec`
    says, sets that shape (and possibly the blink) and shows the cursor. -/
theorem doRestore_cases {t : Tree} (h : wfB t = true) (fx : Fixes)
    (hroot : fx.hiddenRoot = true ∨ rootVisible t = true) {calls : List TermCall}
    (hd : doRestore fx t = .ok calls) :
    (calls = [.vis 0] ∧ cursorSpec t = none) ∨
    ∃ l c s bl, calls = [.goto l c, .shape s] ++ bl ++ [.vis 1] ∧ (bl = [] ∨ ∃ b, bl = [.blink b]) ∧
      cursorSpec t = some (l, c, s) := by
  simp only [doRestore, bind_ok_iff] at hd
  obtain ⟨win, hcw, shown, hsh, hd⟩ := hd
  obtain ⟨ew, hew, hwin, hshown⟩ := restoreShown_spec h fx hroot hcw hsh
  rw [cursorSpec_of rfl hew, ← hshown]
  cases shown with
  | false => exact .inl ⟨(pure_ok_iff.mp hd).symm, rfl⟩
  | true =>
    cases hwin rfl
    simp only [restoreCalls, if_true, bind_ok_iff, pure_ok_iff] at hd
    obtain ⟨w, hg, abs, habs, rfl⟩ := hd
    cases Live.unique (get_ok_iff.mp hg) hew
    obtain ⟨g, hg1, hg2⟩ := absGeometry_spec h hew ew.cursor.line ew.cursor.col
    cases hg1.symm.trans habs
    refine .inr ⟨_, _, _, _, rfl, ?_, by rw [if_pos rfl, hg2]⟩
    by_cases hb : ew.cursor.blink = -1
    · exact .inl (by simp [hb])
    · exact .inr ⟨ew.cursor.blink, by simp [hb]⟩

/-- What `_do_restore` tells the terminal is what the property demands, provided the repair `hiddenRoot` is in or
    the root window is visible. -/
theorem doRestore_spec {t : Tree} (h : wfB t = true) (fx : Fixes)
    (hroot : fx.hiddenRoot = true ∨ rootVisible t = true) {calls : List TermCall}
    (hd : doRestore fx t = .ok calls) (c0 : TermCursor) :
    (c0.applyAll calls).matches (cursorSpec t) = true := by
  obtain ⟨rfl, hs⟩ | ⟨l, c, s, bl, rfl, hbl, hs⟩ := doRestore_cases h fx hroot hd
  · rw [hs]; exact matches_hidden c0
  · rw [hs]; exact matches_shown c0 l c s bl hbl


theorem set_root (t : Tree) (i : Nat) (w : Win) : (set t i w).root = t.root := rfl

theorem doHierarchyChange_flags {t : Tree} {fuel : Nat} {ch : Change} {p w : Nat} {t' : Tree}
    (h : doHierarchyChange t fuel ch p w = .ok t') :
    t'.root.needsRestore = t.root.needsRestore ∧ (t.root.needsExpose = true → t'.root.needsExpose = true) := by
  obtain ⟨_, _, _, t1, _, _, _, h1, he⟩ := doHierarchyChange_ok h
  rw [← relink_root h1]
  rcases exposeIf_cases he with rfl | ⟨d, rfl⟩
  · exact ⟨rfl, id⟩
  · exact ⟨rfl, fun _ => rfl⟩

theorem applyChanges_keeps {P : Tree → Prop} : ∀ (reqs : List Req) (t t' : Tree),
    (∀ r ∈ reqs, ∀ a b, P a → doHierarchyChange a (treeFuel a) r.change r.parent r.win = .ok b → P b) →
    P t → applyChanges t reqs = .ok t' → P t' := by
  intro reqs
  induction reqs with
  | nil => intro t t' _ h ha; cases pure_ok_iff.mp ha; exact h
  | cons r rest ih =>
    intro t t' hstep h ha
    obtain ⟨t1, h1, h2⟩ := bind_ok_iff.mp ha
    exact ih _ _ (fun r' hr' => hstep r' (List.mem_cons_of_mem _ hr')) (hstep r List.mem_cons_self _ _ h h1) h2

theorem applyChanges_flags (reqs : List Req) (t t' : Tree) (h : applyChanges t reqs = .ok t') :
    t'.root.needsRestore = t.root.needsRestore ∧ (t.root.needsExpose = true → t'.root.needsExpose = true) :=
  applyChanges_keeps (P := fun a => a.root.needsRestore = t.root.needsRestore ∧
      (t.root.needsExpose = true → a.root.needsExpose = true)) reqs t t'
    (fun _ _ _ _ ha hd => ⟨(doHierarchyChange_flags hd).1.trans ha.1, fun hx => (doHierarchyChange_flags hd).2 (ha.2 hx)⟩)
    ⟨rfl, id⟩ h

theorem applyAll_append (c0 : TermCursor) (a b : List TermCall) :
    c0.applyAll (a ++ b) = (c0.applyAll a).applyAll b := by
  simp [TermCursor.applyAll, List.foldl_append]

theorem flush_cases {fx : Fixes} {t : Tree} {out : FlushOut} (hf : flush fx t = .ok out) :
    (t.root.needsLater = false ∧ out = { tree := t }) ∨
    ∃ t1, applyChanges { t with root := { t.root with needsLater := false } } t.root.changes = .ok t1 ∧
      flushRestore fx (flushExpose { t1 with root := { t1.root with changes := [] } }) (flushExposed fx t1)
        (if t1.root.needsExpose then [TermCall.vis 0] else []) = .ok out := by
  unfold flush at hf
  split at hf
  · next h => exact .inl ⟨by simpa using h, (pure_ok_iff.mp hf).symm⟩
  · simp only [bind_ok_iff] at hf
    obtain ⟨t1, h1, hf⟩ := hf
    exact .inr ⟨t1, h1, hf⟩

theorem flushRestore_cases {fx : Fixes} {t : Tree} {ex : List Rect} {c1 : List TermCall} {out : FlushOut}
    (hf : flushRestore fx t ex c1 = .ok out) :
    (t.root.needsRestore = false ∧ out = { tree := t, exposed := ex, calls := c1 }) ∨
    ∃ c2, doRestore fx { t with root := { t.root with needsRestore := false } } = .ok c2 ∧
      out = { tree := { t with root := { t.root with needsRestore := false } }, exposed := ex, calls := c1 ++ c2 } := by
  unfold flushRestore at hf
  split at hf
  · simp only [bind_ok_iff, pure_ok_iff] at hf
    obtain ⟨c2, hc2, hf⟩ := hf
    exact .inr ⟨c2, hc2, hf.symm⟩
  · next h => exact .inl ⟨by simpa using h, (pure_ok_iff.mp hf).symm⟩

theorem flush_skipped {fx : Fixes} {t : Tree} (hl : t.root.needsLater = false) :
    flush fx t = .ok { tree := t, exposed := [], calls := [] } := by
  unfold flush; simp only [hl, Bool.not_false, if_true]; rfl

/-- A flush that is not skipped, in pieces: the queue is applied (`t1`), then the exposes run, then the restore.  The calls
    are the hiding of the cursor (when an expose was pending) followed by those of `_do_restore` on the tree the flush
    leaves (a restore is pending after the exposes whenever one or an expose was before them). -/
structure Flushed (fx : Fixes) (t : Tree) (out : FlushOut) (t1 : Tree) : Prop where
  applied : applyChanges { t with root := { t.root with needsLater := false } } t.root.changes = .ok t1
  wins : out.tree.wins = t1.wins
  queue : out.tree.root.changes = []
  expose : out.tree.root.needsExpose = false
  restore : out.tree.root.needsRestore = false
  damage : out.tree.root.damage = [] ∨ (t1.root.needsExpose = false ∧ out.tree.root.damage = t1.root.damage)
  calls : (t1.root.needsRestore = false ∧ t1.root.needsExpose = false ∧ out.calls = []) ∨
    ∃ c1 c2, out.calls = c1 ++ c2 ∧ doRestore fx out.tree = .ok c2

theorem flush_pieces {fx : Fixes} {t : Tree} {out : FlushOut} (hf : flush fx t = .ok out)
    (hl : t.root.needsLater = true) : ∃ t1, Flushed fx t out t1 := by
  rcases flush_cases hf with ⟨h0, _⟩ | ⟨t1, h1, hf⟩
  · rw [hl] at h0; cases h0
  refine ⟨t1, ?_⟩
  unfold flushExpose at hf
  cases he : t1.root.needsExpose with
  | true =>
    simp only [he, if_true] at hf
    rcases flushRestore_cases hf with ⟨h, _⟩ | ⟨c2, hc2, rfl⟩
    · cases h
    · exact ⟨h1, rfl, rfl, rfl, rfl, .inl rfl, .inr ⟨_, c2, rfl, hc2⟩⟩
  | false =>
    simp only [he, Bool.false_eq_true, if_false] at hf
    rcases flushRestore_cases hf with ⟨hr, rfl⟩ | ⟨c2, hc2, rfl⟩
    · exact ⟨h1, rfl, rfl, rfl, hr, .inr ⟨he, rfl⟩, .inl ⟨hr, he, rfl⟩⟩
    · exact ⟨h1, rfl, rfl, rfl, rfl, .inr ⟨he, rfl⟩, .inr ⟨_, c2, rfl, hc2⟩⟩

theorem flush_calls (fx : Fixes) {t : Tree} {out : FlushOut} (hf : flush fx t = .ok out)
    (hl : t.root.needsLater = true) (hr : t.root.needsRestore = true ∨ t.root.needsExpose = true) :
    ∃ c1 c2, out.calls = c1 ++ c2 ∧ doRestore fx out.tree = .ok c2 := by
  obtain ⟨t1, F⟩ := flush_pieces hf hl
  obtain ⟨a1, a2⟩ := applyChanges_flags _ _ _ F.applied
  rcases F.calls with ⟨e1, e2, _⟩ | ⟨c1, c2, hc, hd⟩
  · rcases hr with hr | hr
    · rw [a1] at e1; exact absurd hr (by rw [show t.root.needsRestore = false from e1]; nofun)
    · exact absurd (a2 hr) (by rw [e2]; nofun)
  · exact ⟨c1, c2, hc, hd⟩

/-- After a flush that had a restore or an expose pending, the terminal cursor is what the property demands of the
    tree as it is after the flush (queued restacking applied). -/
theorem flush_spec (fx : Fixes) {t : Tree} {out : FlushOut} (hf : flush fx t = .ok out)
    (hl : t.root.needsLater = true) (hr : t.root.needsRestore = true ∨ t.root.needsExpose = true)
    (hwf : wfB out.tree = true) (hroot : fx.hiddenRoot = true ∨ rootVisible out.tree = true) (c0 : TermCursor) :
    (c0.applyAll out.calls).matches (cursorSpec out.tree) = true := by
  obtain ⟨c1, c2, hc, hd⟩ := flush_calls fx hf hl hr
  rw [hc, applyAll_append]
  exact doRestore_spec hwf fx hroot hd _
end WinFocus
end Tickit
