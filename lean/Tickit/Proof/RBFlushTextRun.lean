import Tickit.Proof.RBFlushCount
import Tickit.Proof.RBFlushSpec
/-
  C04: the TEXT case.  Where the width counter stops (`count_to_column`, `count_next_grapheme`); the cut of a text into
  the characters before a run, those it prints and the rest (`TextSplit`), with what the print request does and what
  the buffer wants of the run's cells; the three stretches written on the terminal (`text_stages`); `RunDraws` for every
  run inside an accepted text, runs that begin or end inside a double-width character included (`text_run`).
-/
namespace Tickit.RBFlush
open Tickit.RB Tickit.RB.Utf8

theorem within_limitColumns (L : Int) (hL : L ≠ -1) (p : StrPos) : Within (limitColumns L) p ↔ p.columns ≤ L := by
  simp [Within, limitColumns, hL]

theorem within_limitGraphemes (G : Int) (hG : G ≠ -1) (p : StrPos) : Within (limitGraphemes G) p ↔ p.graphemes ≤ G := by
  simp [Within, limitGraphemes, hG]

/-- `tickit_utf8_countmore` from a position within the column limit `L` stops at a grapheme boundary, at column `L` or,
    when a double-width character straddles `L`, one column before it. -/
theorem count_to_column (s : List UInt8) (A R : List Ch) (hdec : decode s = some (A ++ R))
    (hw : ∀ c ∈ R, c.width = 0 ∨ c.width = 1 ∨ c.width = 2) (L : Int) (h0 : 0 ≤ chCols A) (h1 : chCols A ≤ L)
    (h2 : L ≤ chCols A + chCols R) :
    ∃ M R', R = M ++ R' ∧ (ncountmore s none (advance {} A) (some (limitColumns L))).pos = advance {} (A ++ M) ∧
      BaseHead R' ∧
      (chCols A + chCols M = L ∨ chCols A + chCols M = L - 1 ∧ ∃ w rest, R' = w :: rest ∧ w.width = 2) := by
  have hL : L ≠ -1 := by omega
  obtain ⟨M, R', rfl, hpos, hin, hmax⟩ := ncountmore_split s A R hdec (fun c hc => by have := hw c hc; omega)
    (limitColumns L) rfl rfl ((within_limitColumns L hL _).2 (by rw [advance_zero_columns A]; exact h1))
  have e2 : (advance (advance {} A) M).columns = chCols A + chCols M := by rw [advance_columns, advance_zero_columns]
  rw [within_limitColumns L hL, e2] at hin
  refine ⟨M, R', rfl, hpos.trans (advance_append _ _ _).symm, fun b rest h => (hmax b rest h).1, ?_⟩
  rw [chCols_append] at h2
  cases R' with
  | nil => exact Or.inl (by simp only [chCols] at h2; omega)
  | cons b rest =>
    -- the next character has width > 0 and does not fit: it is double-width and begins at column `L - 1`
    obtain ⟨hb0, hnot⟩ := hmax b rest rfl
    rw [within_limitColumns L hL] at hnot
    have hc : (stepPos (advance (advance {} A) M) b).columns = chCols A + chCols M + b.width := by
      rw [← e2]; rfl
    rw [hc] at hnot
    have := hw b (by simp)
    by_cases hfull : chCols A + chCols M = L
    · exact Or.inl hfull
    · exact Or.inr ⟨by omega, b, rest, rfl, by omega⟩

/-- `tickit_utf8_countmore` with the grapheme limit "one more" from a grapheme boundary: the character of width > 0
    there and the zero-width characters after it. -/
theorem count_next_grapheme (s : List UInt8) (A : List Ch) (w : Ch) (rest : List Ch)
    (hdec : decode s = some (A ++ w :: rest)) (hw : ∀ c ∈ rest, 0 ≤ c.width) (hww : w.width > 0) :
    ∃ Z R', rest = Z ++ R' ∧
      (ncountmore s none (advance {} A) (some (limitGraphemes ((advance {} A).graphemes + 1)))).pos =
        advance {} (A ++ w :: Z) ∧
      (∀ z ∈ Z, z.width = 0) ∧ BaseHead R' := by
  have hg0 : 0 ≤ (advance {} A).graphemes := by
    rw [advance_graphemes]; have := gCount_nonneg A; show 0 ≤ (0 : Int) + gCount A; omega
  generalize hG : (advance {} A).graphemes = G at hg0
  have hG1 : G + 1 ≠ -1 := by omega
  obtain ⟨M, R', hsplit, hpos, hin, hmax⟩ := ncountmore_split s A (w :: rest) hdec
    (List.forall_mem_cons.2 ⟨by omega, hw⟩) (limitGraphemes (G + 1)) rfl rfl
    ((within_limitGraphemes _ hG1 _).2 (by omega))
  rw [within_limitGraphemes _ hG1, advance_graphemes, hG] at hin
  have hstep : ∀ b, (stepPos (advance (advance {} A) M) b).graphemes = G + gCount M + isG b := fun b => by
    show (advance (advance {} A) M).graphemes + isG b = _
    rw [advance_graphemes, hG]
  cases M with
  | nil =>
    -- nothing counted: the character `w` itself would have to cross the limit
    obtain ⟨_, hnot⟩ := hmax w rest hsplit.symm
    rw [within_limitGraphemes _ hG1, hstep] at hnot
    simp only [gCount, isG, if_pos hww] at hnot
    omega
  | cons m Z =>
    rw [List.cons_append] at hsplit
    obtain ⟨rfl, rfl⟩ := List.cons.inj hsplit
    simp only [gCount, isG, if_pos hww] at hin
    have hgz := gCount_nonneg Z
    exact ⟨Z, R', rfl, hpos.trans (advance_append _ _ _).symm,
      zero_of_gCount Z (fun c hc => hw c (List.mem_append_left _ hc)) (by omega), fun b r h => (hmax b r h).1⟩

theorem chCols_zero : ∀ Z : List Ch, (∀ z ∈ Z, z.width = 0) → chCols Z = 0
  | [], _ => rfl
  | z :: Z, h => by
    obtain ⟨hz, h'⟩ := List.forall_mem_cons.1 h
    simp only [chCols, hz, chCols_zero Z h', Int.add_zero]

theorem baseHead_left {M B : List Ch} (h : BaseHead (M ++ B)) : BaseHead M :=
  fun b rest hbr => h b (rest ++ B) (by rw [hbr]; rfl)

theorem colGlyph_graphemes_append (A B : List Ch) (hw : ∀ c ∈ A, 0 ≤ c.width) (hb : BaseHead B) (c q : Int)
    (h0 : c ≤ q) :
    colGlyph (graphemesAux (A ++ B) none) c q =
      if q < c + chCols A then colGlyph (graphemesAux A none) c q
      else colGlyph (graphemesAux B none) (c + chCols A) q := by
  obtain ⟨hg, hpos⟩ := graphemes_cols A hw
  rw [graphemesAux_append A B hb, colGlyph_append _ _ hpos c q h0, hg]

/-- A column of the characters `M` between two grapheme boundaries of a text shows what `M` laid out on its own
    shows there. -/
theorem colGlyph_between (A M B : List Ch) (hwA : ∀ c ∈ A, 0 ≤ c.width) (hwM : ∀ c ∈ M, 0 ≤ c.width)
    (hbM : BaseHead (M ++ B)) (hbB : BaseHead B) (q : Int) (h1 : chCols A ≤ q) (h2 : q < chCols A + chCols M) :
    ∃ c0 w, colGlyph (graphemesAux (A ++ (M ++ B)) none) 0 q = some (glyphAt M (q - chCols A), c0, w) ∧
      chCols A ≤ c0 ∧ c0 + w ≤ chCols A + chCols M := by
  have h0 := chCols_nonneg A hwA
  rw [colGlyph_graphemes_append A _ hwA hbM 0 q (by omega), Int.zero_add, if_neg (by omega),
    colGlyph_graphemes_append M B hwM hbB _ q h1, if_pos h2]
  obtain ⟨hg, hpos⟩ := graphemes_cols M hwM
  obtain ⟨⟨yg, yc, yw⟩, hy⟩ := colGlyph_isSome _ hpos _ q h1 (by rw [hg]; exact h2)
  obtain ⟨y1, _, _, y4⟩ := colGlyph_bounds _ hpos _ _ _ _ _ hy
  rw [hg] at y4
  exact ⟨yc, yw, by rw [hy, glyphAt_of_colGlyph hy], y1, y4⟩

theorem widths_nonneg_of_012 {cs : List Ch} (h : ∀ c ∈ cs, c.width = 0 ∨ c.width = 1 ∨ c.width = 2) :
    ∀ c ∈ cs, 0 ≤ c.width := fun c hc => by have := h c hc; omega

theorem wide_at (A : List Ch) (hwA : ∀ c ∈ A, 0 ≤ c.width) (w : Ch) (rest : List Ch) (hw2 : w.width = 2) (q : Int)
    (h1 : chCols A ≤ q) (h2 : q < chCols A + 2) :
    ∃ gl, colGlyph (graphemesAux (A ++ w :: rest) none) 0 q = some (gl, chCols A, 2) := by
  have := chCols_nonneg A hwA
  rw [colGlyph_graphemes_append A _ hwA (fun b r h => by cases h; omega) 0 q (by omega), Int.zero_add,
    if_neg (by omega), graphemesAux_base_none w rest (by omega)]
  obtain ⟨gl, hgl⟩ := colGlyph_head rest ⟨w.bytes, w.width⟩ (chCols A) q h1 (by simp only; omega)
  exact ⟨gl, by rw [hgl]; simp only [hw2]⟩

/-- `start` of the (repaired) TEXT case: the end of the characters that lie before column `offs`, stepping over a
    double-width character that straddles it. -/
theorem text_start_split (cell : Cell) (cs : List Ch) (hdec : decode cell.text = some cs)
    (hw : ∀ c ∈ cs, c.width = 0 ∨ c.width = 1 ∨ c.width = 2)
    (h0 : 0 ≤ cell.offs) (hn : 1 ≤ cell.cols) (htot : cell.offs + cell.cols ≤ chCols cs) :
    ∃ A R, cs = A ++ R ∧ textStart cell = advance {} A ∧ BaseHead R ∧
      (chCols A = cell.offs ∨
       (chCols A = cell.offs + 1 ∧
        ∃ gl, colGlyph (graphemesAux cs none) 0 cell.offs = some (gl, cell.offs - 1, 2))) := by
  obtain ⟨M0, R0, rfl, hs0, hb0, hc0⟩ := count_to_column cell.text [] cs hdec hw cell.offs (Int.le_refl 0) h0
    (by simp only [chCols]; omega)
  simp only [chCols, Int.zero_add] at hc0
  have hts0 : textStart0 cell = advance {} M0 := hs0
  have hs0c := advance_zero_columns M0
  obtain ⟨hw1, hw2⟩ := List.forall_mem_append.1 (widths_nonneg_of_012 hw)
  unfold textStart
  simp only [hts0, hs0c]
  rcases hc0 with hc0 | ⟨hc0, w, rest, rfl, hww⟩
  · exact ⟨M0, R0, rfl, by rw [if_neg (by omega)], hb0, Or.inl hc0⟩
  · -- a double-width character straddles column `offs`: one more grapheme is counted
    rw [if_pos (by omega)]
    obtain ⟨Z, R', rfl, hs1, hz, hb1⟩ := count_next_grapheme cell.text M0 w rest hdec (List.forall_mem_cons.1 hw2).2
      (by omega)
    refine ⟨M0 ++ w :: Z, R', by simp, hs1, hb1, Or.inr ⟨?_, ?_⟩⟩
    · simp only [chCols_append, chCols, chCols_zero Z hz]; omega
    · have := wide_at M0 hw1 w (Z ++ R') hww cell.offs (by omega) (by omega)
      rwa [hc0] at this

/-- The text of a TEXT cell cut where the (repaired) flush cuts it: `A` the characters before `start`, `M` the ones it
    prints, `B` those from `end` on.  Both cuts are grapheme boundaries; a double-width character may straddle the
    run's first column (`lead`: `A` ends with it and its zero-width followers) or its last one (`trail`: the first of `B`). -/
structure TextSplit (cell : Cell) (A M B : List Ch) : Prop where
  dec : decode cell.text = some (A ++ (M ++ B))
  start : textStart cell = advance {} A
  stop : textEnd cell = advance {} (A ++ M)
  baseM : BaseHead (M ++ B)
  baseB : BaseHead B
  lead : chCols A = cell.offs ∨
    chCols A = cell.offs + 1 ∧
      ∃ gl, colGlyph (graphemesAux (A ++ (M ++ B)) none) 0 cell.offs = some (gl, cell.offs - 1, 2)
  trail : chCols A + chCols M = cell.offs + cell.cols ∨
    chCols A + chCols M = cell.offs + cell.cols - 1 ∧
      ∃ gl, colGlyph (graphemesAux (A ++ (M ++ B)) none) 0 (cell.offs + cell.cols - 1) =
        some (gl, cell.offs + cell.cols - 1, 2)

/-- `end` of the (repaired) TEXT case, counted from `start`: the end of the characters that lie before column
    `offs + cols`. -/
theorem text_split (cell : Cell) (htext : TextOK cell) (hn : 1 ≤ cell.cols) : ∃ A M B, TextSplit cell A M B := by
  obtain ⟨cs, hdec, hoffs, htot⟩ := htext
  have hw : ∀ c ∈ cs, c.width = 0 ∨ c.width = 1 ∨ c.width = 2 := fun c hc =>
    (decodeFrom_props cell.text cs _ 0 hdec c hc).width012
  obtain ⟨A, R, rfl, hstart, hbs, hlead⟩ := text_start_split cell cs hdec hw hoffs hn htot
  have hscol := advance_zero_columns A
  have hw0 := widths_nonneg_of_012 hw
  have hA0 := chCols_nonneg A (List.forall_mem_append.1 hw0).1
  have hend : textEnd cell = if chCols A < cell.offs + cell.cols then
      (ncountmore cell.text none (advance {} A) (some (limitColumns (cell.offs + cell.cols)))).pos else advance {} A := by
    unfold textEnd
    simp only [hstart, hscol]
  by_cases hlt : chCols A < cell.offs + cell.cols
  · rw [if_pos hlt] at hend
    rw [chCols_append] at htot
    obtain ⟨M, B, rfl, h3, h4, h5⟩ := count_to_column cell.text A R hdec (List.forall_mem_append.1 hw).2 _ hA0
      (Int.le_of_lt hlt) htot
    refine ⟨A, M, B, { dec := hdec, start := hstart, stop := hend.trans h3, baseM := hbs, baseB := h4, lead := hlead,
                       trail := h5.imp_right fun ⟨h, w, rest, hd, hww⟩ => ⟨h, ?_⟩ }⟩
    subst hd
    have := wide_at (A ++ M) (fun c hc => hw0 c (by rw [← List.append_assoc]; exact List.mem_append_left _ hc)) w rest
      hww (cell.offs + cell.cols - 1) (by rw [chCols_append]; omega) (by rw [chCols_append]; omega)
    rwa [chCols_append, h, List.append_assoc] at this
  · rw [if_neg hlt] at hend
    exact ⟨A, [], R, { dec := hdec, start := hstart, stop := by rw [hend, List.append_nil], baseM := hbs, baseB := hbs,
                       lead := hlead, trail := Or.inl (by simp only [chCols]; rcases hlead with h | h <;> omega) }⟩

/-- The blank for half of a double-width character; the cursor follows unless it is clamped at the right edge. -/
theorem eraseOpt_wrote (t : GridTerm) (k : Int) (hk : k = 0 ∨ k = 1) (hfit : t.col + k ≤ t.cols) :
    Wrote t (t.run (if k > 0 then [.erasech k .yes] else [])) k (fun _ => .blank) ∧
    (t.col + k < t.cols ∨ k = 0 → (t.run (if k > 0 then [.erasech k .yes] else [])).col = t.col + k) := by
  rcases hk with rfl | rfl
  · exact ⟨Wrote.refl t _, fun _ => (Int.add_zero _).symm⟩
  · exact ⟨GridTerm.erasech_wrote t 1 .yes (by omega) hfit, fun h => GridTerm.erasech_col_yes t 1 (by omega) (by omega)⟩

namespace TextSplit
variable {cell : Cell} {A M B : List Ch}

theorem decoded (sp : TextSplit cell A M B) : ∀ c ∈ A ++ (M ++ B), Decoded c := decodeFrom_props cell.text _ _ 0 sp.dec

theorem widths (sp : TextSplit cell A M B) : ∀ c ∈ A ++ (M ++ B), 0 ≤ c.width :=
  widths_nonneg_of_012 fun c hc => (sp.decoded c hc).width012

theorem lead_eq (sp : TextSplit cell A M B) : textLead cell = chCols A - cell.offs := by
  unfold textLead; rw [sp.start, advance_zero_columns]

theorem trail_eq (sp : TextSplit cell A M B) : textTrail cell = cell.offs + cell.cols - (chCols A + chCols M) := by
  unfold textTrail; rw [sp.stop, advance_zero_columns, chCols_append]

theorem lead01 (sp : TextSplit cell A M B) : textLead cell = 0 ∨ textLead cell = 1 := by
  have := sp.lead_eq; have := sp.lead; omega

theorem trail01 (sp : TextSplit cell A M B) : textTrail cell = 0 ∨ textTrail cell = 1 := by
  have := sp.trail_eq; have := sp.trail; omega

theorem cols_eq (sp : TextSplit cell A M B) : textLead cell + chCols M + textTrail cell = cell.cols := by
  have := sp.lead_eq; have := sp.trail_eq; omega

theorem print (sp : TextSplit cell A M B) (t : GridTerm) :
    t.run (if (textEnd cell).bytes > (textStart cell).bytes then
      [.print cell.text (textStart cell).bytes.toNat ((textEnd cell).bytes - (textStart cell).bytes).toNat] else []) =
      t.putChs M := by
  have hp : ∀ c ∈ M, Decoded c := fun c hc => sp.decoded c (List.mem_append_right _ (List.mem_append_left _ hc))
  have hsb : (textStart cell).bytes = (bytesLen A : Int) := by rw [sp.start, advance_zero_bytes _]
  have heb : (textEnd cell).bytes = (bytesLen A : Int) + (bytesLen M : Int) := by
    rw [sp.stop, advance_zero_bytes _, bytesLen_append, Int.natCast_add]
  rw [hsb, heb]
  by_cases hne : M = []
  · rw [hne, if_neg (by simp [bytesLen])]
    rfl
  · have hpos := bytesLen_pos _ (fun c hc => (hp c hc).selfDec) hne
    rw [if_pos (by omega)]
    simp only [GridTerm.run, GridTerm.step]
    rw [Int.toNat_natCast, show ((bytesLen A : Int) + (bytesLen M : Int) - (bytesLen A : Int)).toNat = bytesLen M by omega]
    have hsuf := decodeFrom_suffix cell.text A (M ++ B) (cell.text.length + 1) 0 sp.dec
    rw [Nat.zero_add] at hsuf
    rw [reqBytes_of_ne_zero _ _ _ (by omega), decodeFrom_bytes cell.text M B _ _ hsuf, printBytes_chars _ hp]

end TextSplit

theorem graphemes_of_decode {s : List UInt8} {cs : List Ch} (h : decode s = some cs) :
    graphemes s = some (graphemesAux cs none) := by
  unfold graphemes; rw [h]; rfl

/-- What column `c` of a TEXT run that starts at column `c0` shows: `lead` blank columns, the characters `M`, blanks
    after them. -/
def sliceGlyph (c0 lead : Int) (M : List Ch) (c : Int) : Glyph :=
  if c < c0 + lead then .blank else if c < c0 + lead + chCols M then glyphAt M (c - (c0 + lead)) else .blank

theorem sliceGlyph_shift (c0 lead : Int) (M : List Ch) (c : Int) :
    sliceGlyph c0 lead M c = sliceGlyph 0 lead M (c - c0) := by
  unfold sliceGlyph
  rw [Int.zero_add, show c - c0 - lead = c - (c0 + lead) by omega]
  by_cases h1 : c < c0 + lead
  · rw [if_pos h1, if_pos (show c - c0 < lead by omega)]
  · rw [if_neg h1, if_neg (show ¬ c - c0 < lead by omega)]
    by_cases h2 : c < c0 + lead + chCols M
    · rw [if_pos h2, if_pos (show c - c0 < lead + chCols M by omega)]
    · rw [if_neg h2, if_neg (show ¬ c - c0 < lead + chCols M by omega)]

/-- The three stages of the TEXT case after `setpen`: blanks for a leading half, the characters, blanks for a trailing
    half.  The cursor is clamped only when a leading blank is sent at the terminal's last column, and then nothing
    follows it. -/
theorem text_stages (t : GridTerm) (k1 k2 : Int) (M : List Ch) (hk1 : k1 = 0 ∨ k1 = 1) (hk2 : k2 = 0 ∨ k2 = 1)
    (hw : ∀ c ∈ M, 0 ≤ c.width) (hb : BaseHead M) (hfit : t.col + (k1 + chCols M + k2) ≤ t.cols) :
    Wrote t (((t.run (if k1 > 0 then [.erasech k1 .yes] else [])).putChs M).run
        (if k2 > 0 then [.erasech k2 .yes] else []))
      (k1 + chCols M + k2) (sliceGlyph t.col k1 M) ∧
    (t.col + (k1 + chCols M + k2) < t.cols →
      (((t.run (if k1 > 0 then [.erasech k1 .yes] else [])).putChs M).run
        (if k2 > 0 then [.erasech k2 .yes] else [])).col = t.col + (k1 + chCols M + k2)) := by
  have hMc := chCols_nonneg M hw
  obtain ⟨a, acol⟩ := eraseOpt_wrote t k1 hk1 (by omega)
  by_cases hedge : t.col + k1 < t.cols ∨ k1 = 0
  · have acol := acol hedge
    generalize t.run (if k1 > 0 then [.erasech k1 .yes] else []) = tA at a acol ⊢
    obtain ⟨b, bcol⟩ := putChs_wrote M hw hb tA (by rw [acol, a.cols_eq]; omega)
    generalize tA.putChs M = tB at b bcol ⊢
    obtain ⟨c, ccol⟩ := eraseOpt_wrote tB k2 hk2 (by rw [bcol, acol, b.cols_eq, a.cols_eq]; omega)
    generalize tB.run (if k2 > 0 then [.erasech k2 .yes] else []) = tC at c ccol ⊢
    have abc := a.trans acol (b.trans bcol c hMc (by omega)) (by omega) (by omega)
    rw [acol, ← Int.add_assoc] at abc
    refine ⟨abc, fun hlt => ?_⟩
    rw [ccol (Or.inl (by rw [bcol, acol, b.cols_eq, a.cols_eq]; omega)), bcol, acol]
    omega
  · have hM : M = [] := nil_of_chCols_zero hw hb (by omega)
    have h2 : k2 = 0 := by omega
    subst hM h2
    refine ⟨?_, fun hlt => by simp only [chCols] at hlt; omega⟩
    have e : k1 + chCols [] + 0 = k1 := by simp only [chCols]; omega
    rw [e]
    exact a.congr fun x h1 h2 => by rw [sliceGlyph, if_pos h2]

/-- What the buffer wants of column `j` of a TEXT run: the right half of a double-width character that starts before
    the run, a column of the printed characters, or the left half of one that ends after it. -/
theorem TextSplit.want {cell : Cell} {A M B : List Ch} (sp : TextSplit cell A M B) (hs : cell.state = .text) (j : Int)
    (hj0 : 0 ≤ j) (hj1 : j < cell.cols) : wantOf cell j = .glyph (sliceGlyph 0 (textLead cell) M j) cell.pen := by
  obtain ⟨hwA, hwMB⟩ := List.forall_mem_append.1 sp.widths
  have hlead := sp.lead_eq
  have hsc := sp.lead
  have htr := sp.trail
  generalize textLead cell = lead at hlead ⊢
  unfold wantOf sliceGlyph
  rw [Int.zero_add]
  simp only [hs, graphemes_of_decode sp.dec, Option.bind_some]
  by_cases r1 : j < lead
  · obtain ⟨gl, hgl⟩ := (hsc.resolve_left (by omega)).2
    rw [show cell.offs + j = cell.offs by omega, hgl, if_pos r1]
    simp only
    rw [if_neg (by omega)]
  · rw [if_neg r1]
    by_cases r2 : j < lead + chCols M
    · obtain ⟨c0, w, hq, hc0, hc1⟩ := colGlyph_between A M B hwA (List.forall_mem_append.1 hwMB).1 sp.baseM sp.baseB
        (cell.offs + j) (by omega) (by omega)
      rw [if_pos r2, hq, show cell.offs + j - chCols A = j - lead by omega]
      simp only
      rw [if_pos ⟨by omega, by omega⟩]
    · obtain ⟨gl, hgl⟩ := (htr.resolve_left (by omega)).2
      rw [show cell.offs + j = cell.offs + cell.cols - 1 by omega, hgl, if_neg r2]
      simp only
      rw [if_neg (by omega)]

theorem text_run {rb : RB} {line col : Int} (hl : 0 ≤ line ∧ line < rb.lines) (h0 : 0 ≤ col)
    (hr : RunAt rb line col) (hs : (rb.cell line col).state = .text) :
    RunDraws rb line col (rb.cell line col).cols True (textReqs (rb.cell line col)) := by
  obtain ⟨A, M, B, sp⟩ := text_split _ (hr.text hs) hr.pos
  have hMw : ∀ c ∈ M, 0 ≤ c.width := (List.forall_mem_append.1 (List.forall_mem_append.1 sp.widths).2).1
  have hsum := sp.cols_eq
  unfold textReqs
  rw [List.append_assoc, List.append_assoc, List.singleton_append]
  refine RunDraws.of_setpen _ (sliceGlyph col (textLead (rb.cell line col)) M) (fun t hcol hroom => ?_)
    fun c h1 h2 tp old => ?_
  · subst hcol
    rw [GridTerm.run_append, GridTerm.run_append, sp.print]
    obtain ⟨w, wcol⟩ := text_stages t _ _ M sp.lead01 sp.trail01 hMw (baseHead_left sp.baseM) (by rw [hsum]; exact hroom)
    rw [hsum] at w wcol
    exact ⟨w, fun _ => wcol⟩
  · rw [want_of_run hl h0 hr c h1 h2, sp.want hs (c - col) (by omega) (by omega), ← sliceGlyph_shift]
    exact cellOK_glyph _ _ _ _

end Tickit.RBFlush
