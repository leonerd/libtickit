import Tickit.Proof.WinSteps
/-
  `tickit_window_set_geometry` followed by the exposes the property's proviso demands (old and new area, in the
  parent): the invariant step.
-/
namespace Tickit
namespace WinFlush
open WinTree WinRB WinSpec

theorem setGeometry_ok {t t1 : Tree} {id : Id} {rect : Rect} {b : Bool} (h : WinTree.setGeometry t id rect = .ok (t1, b)) :
    ∃ w0, t.wins[id]? = some w0 ∧ w0.freed = false ∧ SameButG t t1 id ∧ t1.root = t.root ∧
      t1.wins[id]? = some { w0 with rect := rect } ∧ ∀ x, x ≠ id → t1.wins[x]? = t.wins[x]? := by
  obtain ⟨w0, hw0, ⟨_, e⟩ | ⟨rfl, e⟩⟩ := setGeometry_cases h <;> cases (show t1 = _ from e)
  · exact ⟨w0, hw0.1, hw0.2, ⟨fun x hx => by rw [set_wins_ne _ (Ne.symm hx)], by rw [set_wins_self hw0.1, hw0.1]; rfl⟩, rfl,
      set_wins_self hw0.1 _, fun x hx => set_wins_ne _ (Ne.symm hx)⟩
  · exact ⟨w0, hw0.1, hw0.2, ⟨fun _ _ => rfl, rfl⟩, rfl, hw0.1, fun _ _ => rfl⟩

/-- The operation `geom` of the engine: the geometry change with the exposes the property's proviso demands. -/
def setGeometryExposed (t : Tree) (fuel : Nat) (id : Id) (rect : Rect) : Res Tree := do
  let w ← WinTree.get t id
  let (t1, _) ← WinTree.setGeometry t id rect
  match w.parent with
  | some p => do
    let t2 ← expose t1 fuel p (some w.rect)
    expose t2 fuel p (some rect)
  | none => pure t1

theorem SameButG.of_wins {t t1 t' : Tree} {id : Id} (h : SameButG t t1 id) (hw : t'.wins = t1.wins) : SameButG t t' id :=
  ⟨by rw [hw]; exact h.other, by rw [hw]; exact h.self⟩

theorem SameButG.step {t t' : Tree} {id : Id} (h : SameButG t t' id) (hid : id ≠ 0) (hrec : Recorded t t')
    (hroot : RootStep t t') (hok : TreeOk t) (hpos : RootsPositive t) : Step t t' :=
  .of_links hrec hroot h.links hok (rootWin_sameButG h hid hok.rootWin) (rootsPositive_sameButG h hid hok.onlyRoot hpos)
    fun w hw => by
      obtain ⟨w', hw', hc⟩ := map_eq_some (h.other 0 (Ne.symm hid)) hw
      exact ⟨w', hw', congrArg (·.2.2.1) hc⟩

theorem geom_step {t t' : Tree} {id : Id} {rect : Rect} (h : setGeometryExposed t (t.wins.size + 1) id rect = .ok t')
    (hid : id ≠ 0) (hok : TreeOk t) (hpos : RootsPositive t) (hne : ∀ x ∈ t.root.damage, x.Nonempty) :
    Step t t' ∧ SameButG t t' id := by
  obtain ⟨w0, hg, h⟩ := bind_ok_iff.1 h
  obtain ⟨⟨t1, b⟩, hsg, h⟩ := bind_ok_iff.1 h
  obtain ⟨w0', hw0, _, hsb, hroot1, hw1, _⟩ := setGeometry_ok hsg
  rw [(get_ok hg).1] at hw0
  cases hw0
  have hwf1 := wfp_agree hsb.links hok.wf
  have hr1 := rootWin_sameButG hsb hid hok.rootWin
  have hpos1 := rootsPositive_sameButG hsb hid hok.onlyRoot hpos
  have hlocal := fun L C hd => SameButG.changed hsb (get_ok hg).1 hw1 hid hwf1 hr1 (L := L) (C := C) hd
  cases hp : w0.parent with
  | none =>
    simp only [hp] at h
    cases h
    refine ⟨hsb.step hid (.of_root hroot1 fun L C hd => ?_) (Or.inl hroot1) hok hpos, hsb⟩
    obtain ⟨_, _, _, _, ⟨hpar, _⟩, _⟩ := hlocal L C hd
    exact nomatch hp.symm.trans hpar
  | some p =>
    simp only [hp] at h
    obtain ⟨t2, he1, h⟩ := bind_ok_iff.1 h
    have hE1 := Exposed.of_expose he1 (by rw [hroot1]; exact hne) hpos1
    have hE := hE1.trans (Exposed.of_expose h hE1.nonempty (rootsPositive_congr hE1.wins hpos1))
    have hsb' := hsb.of_wins hE.wins
    refine ⟨hsb'.step hid (hE.recorded (by rw [hroot1]) (by rw [hroot1]) fun L C hd => ?_)
      (RootStep.trans (Or.inl hroot1) hE.root) hok hpos, hsb'⟩
    -- the old rectangle is reported by the first expose, the new one by the second
    obtain ⟨p', x, y, k, ⟨hpar, _⟩, h4, h5, h6⟩ := hlocal L C hd
    cases hp.symm.trans hpar
    have h6' : ExposedAt t1 (t.wins.size + 1) p x y L C := exposedAt_mono_le t1 (by omega) h6
    rcases h4 with ⟨_, hold⟩ | ⟨_, hnew⟩
    · exact Or.inl (exposedRegion_some ((Rect.memb_iff _ _ _).1 hold) h6')
    · exact Or.inr (exposedRegion_some ((Rect.memb_iff _ _ _).1 hnew) (exposedAt_congr hE1.wins _ _ _ _ _ _ h6'))

end WinFlush
end Tickit
