import Tickit.Proof.LifeState
/-
  C08: the window operations that free nothing never fail and keep the invariants.  How the state invariant follows a
  step on the tree: `SInv.of_calm` (a `Calm` step), `SInv.set_count` (the count of one window and the tallies on it
  change, whoever the holder is), `SInv.grow` (one more window: `TInv.insert`, `newWin_ok`).
-/
namespace Tickit.Life
open WinTree (Id Win Req Change Tree)
variable {gh : Ghost}

theorem plain_update {t : Tree} (inv : TInv t) {win : Nat} {ww : Win} (hw : LiveW t win ww) {w1 : Win}
    (h : WRel ww w1) (hr : w1.refcount = ww.refcount) :
    Calm t (WinTree.set t win w1) ∧ LiveW (WinTree.set t win w1) win w1 :=
  have ⟨inv1, hrel⟩ := inv.update hw.1 h
  ⟨hrel.calm inv1 (SameRC.set hw.1 hr), set_get_self _ hw.lt, h.freed.trans hw.2⟩

theorem setGeomT_ok {t : Tree} (inv : TInv t) {win : Nat} {ww : Win} (hw : LiveW t win ww) (g : Rect) :
    ∃ t', setGeomT t win g = .ok t' ∧ Calm t t' := by
  unfold setGeomT
  simp only [get_live hw, bind_ok, pure_ok]
  exact ⟨_, rfl, (plain_update inv hw (w1 := { ww with rect := g }) (WRel.refl _) rfl).1⟩

theorem hideT_ok {t : Tree} (inv : TInv t) {win : Nat} {ww : Win} (hw : LiveW t win ww) :
    ∃ t', hideT t win = .ok t' ∧ Calm t t' := by
  unfold hideT
  simp only [get_live hw, bind_ok]
  have h1 : WRel ww { ww with isVisible := false } := WRel.refl _
  have h2 : ({ ww with isVisible := false } : Win).refcount = ww.refcount := rfl
  generalize ({ ww with isVisible := false } : Win) = w1 at h1 h2 ⊢
  obtain ⟨C1, _⟩ := plain_update inv hw h1 h2
  rcases Option.eq_none_or_eq_some ww.parent with hp | ⟨p, hp⟩
  · simp only [hp, pure_ok]
    exact ⟨_, rfl, C1⟩
  · obtain ⟨hlt, pw, hpl, _⟩ := inv.parent_ok win ww hw p hp
    have hne : win ≠ p := Nat.ne_of_gt hlt
    have hpl1 : LiveW (WinTree.set t win w1) p pw := ⟨by rw [set_get_ne _ hne]; exact hpl.1, hpl.2⟩
    simp only [hp, get_live hpl1, bind_ok]
    by_cases hf : pw.focusedChild = some win
    · simp only [hf, if_true]
      have g1 : WRel pw { pw with focusedChild := none } := ⟨rfl, List.Perm.refl _, rfl, rfl, .inl rfl, .inr (.inl rfl)⟩
      have g2 : ({ pw with focusedChild := none } : Win).refcount = pw.refcount := rfl
      generalize ({ pw with focusedChild := none } : Win) = pw1 at g1 g2 ⊢
      obtain ⟨C2, hpl2⟩ := plain_update C1.inv hpl1 g1 g2
      rw [expose_ok C2.inv hpl2]
      exact ⟨_, rfl, C1.trans C2⟩
    · simp only [hf, if_false]
      rw [expose_ok C1.inv hpl1]
      exact ⟨_, rfl, C1⟩

theorem showT_ok {t : Tree} (inv : TInv t) {win : Nat} {ww : Win} (hw : LiveW t win ww) :
    ∃ t', showT t win = .ok t' ∧ Calm t t' := by
  unfold showT
  simp only [get_live hw, bind_ok]
  have h1 : WRel ww { ww with isVisible := true } := WRel.refl _
  have h2 : ({ ww with isVisible := true } : Win).refcount = ww.refcount := rfl
  have h3 : ({ ww with isVisible := true } : Win).parent = ww.parent := rfl
  generalize ({ ww with isVisible := true } : Win) = w1 at h1 h2 h3 ⊢
  obtain ⟨C1, hw1⟩ := plain_update inv hw h1 h2
  simp only [get_live hw1, bind_ok]
  rcases Option.eq_none_or_eq_some ww.parent with hp | ⟨p, hp⟩
  · simp only [h3, hp, pure_ok, bind_ok]
    rw [expose_ok C1.inv hw1]
    exact ⟨_, rfl, C1⟩
  · obtain ⟨hlt, pw, hpl, hmem⟩ := inv.parent_ok win ww hw p hp
    have hne : win ≠ p := Nat.ne_of_gt hlt
    have hpl1 : LiveW (WinTree.set t win w1) p pw := ⟨by rw [set_get_ne _ hne]; exact hpl.1, hpl.2⟩
    simp only [h3, hp, get_live hpl1, bind_ok]
    split
    · have g1 : WRel pw { pw with focusedChild := some win } :=
        ⟨rfl, List.Perm.refl _, rfl, rfl, .inl rfl, .inr (.inr ⟨win, rfl, hmem⟩)⟩
      have g2 : ({ pw with focusedChild := some win } : Win).refcount = pw.refcount := rfl
      generalize ({ pw with focusedChild := some win } : Win) = pw1 at g1 g2 ⊢
      obtain ⟨C2, _⟩ := plain_update C1.inv hpl1 g1 g2
      obtain ⟨w2, hw2, _⟩ := C2.live hw1
      simp only [pure_ok, bind_ok]
      rw [expose_ok C2.inv hw2]
      exact ⟨_, rfl, C1.trans C2⟩
    · simp only [pure_ok, bind_ok]
      rw [expose_ok C1.inv hw1]
      exact ⟨_, rfl, C1⟩

/-- The walk of `TICKIT_WINDOW_ROOT_PARENT`. -/
theorem climb_ok {st : St} (inv : TInv st.tree) :
    ∀ (p : Nat) (pw : Win), LiveW st.tree p pw → ∀ (fuel : Nat), p < fuel → ∀ (r : Rect),
      ∃ (q : Nat) (r' : Rect) (qw : Win), climbParents st fuel p r = .ok (q, r') ∧ LiveW st.tree q qw := by
  refine chain_induction inv fun p pw f hl ih r => ?_
  unfold climbParents
  simp only [getW, get_live hl, bind_ok]
  cases hp : pw.parent with
  | none => exact ⟨p, r, pw, rfl, hl⟩
  | some pp =>
    exact (ih pp hp).2 _

/-- The tree after `init_window` + INSERT of a new window `w` (with `w.parent = some parent`) under `parent`. -/
def inserted (t : Tree) (parent : Nat) (pw w : Win) (cs : List Nat) : Tree :=
  WinTree.set { t with wins := t.wins.push w } parent { pw with children := cs }

theorem inserted_get {t : Tree} {parent : Nat} {pw w : Win} {cs : List Nat} (hpl : LiveW t parent pw) (i : Nat) :
    (inserted t parent pw w cs).wins[i]? =
      if i = parent then some { pw with children := cs } else if i = t.wins.size then some w else t.wins[i]? := by
  unfold inserted
  rw [set_get]
  have hlt := hpl.lt
  by_cases h1 : parent = i
  · subst h1
    simp [Array.size_push]; omega
  · have h1' : ¬ i = parent := fun h => h1 h.symm
    simp only [h1, h1', if_false, Array.getElem?_push]

/-- Every field the invariant reads but the child list. -/
structure KeptButChildren (x x' : Win) : Prop where
  parent : x'.parent = x.parent
  freed : x'.freed = x.freed
  isRoot : x'.isRoot = x.isRoot
  isClosed : x'.isClosed = x.isClosed
  focusedChild : x'.focusedChild = x.focusedChild

theorem TInv.insert {t : Tree} (inv : TInv t) {parent : Nat} {pw : Win} (hpl : LiveW t parent pw) {w : Win}
    (hwp : w.parent = some parent) (hwc : w.children = []) (hwf : w.freed = false) (hwr : w.isRoot = false)
    (hwcl : w.isClosed = false) (hwfc : w.focusedChild = none) {cs : List Nat}
    (hcs : ∀ (c : Nat), c ∈ cs ↔ (c = t.wins.size ∨ c ∈ pw.children)) (hnd : cs.Nodup) :
    TInv (inserted t parent pw w cs) := by
  have G := inserted_get (w := w) (cs := cs) hpl
  have hlt := hpl.lt
  have old : ∀ (i : Nat) (x : Win), t.wins[i]? = some x → ∃ x', (inserted t parent pw w cs).wins[i]? = some x' ∧
      KeptButChildren x x' ∧ (∀ (c : Nat), c ∈ x.children → c ∈ x'.children) := by
    intro i x hx
    have hi : i < t.wins.size := lt_size hx
    by_cases hip : i = parent
    · subst hip
      cases hx.symm.trans hpl.1
      exact ⟨{ pw with children := cs }, by rw [G, if_pos rfl], ⟨rfl, rfl, rfl, rfl, rfl⟩, fun c hc => (hcs c).2 (.inr hc)⟩
    · exact ⟨x, by rw [G, if_neg hip, if_neg (Nat.ne_of_lt hi)]; exact hx, ⟨rfl, rfl, rfl, rfl, rfl⟩, fun _ h => h⟩
  have back : ∀ (i : Nat) (x' : Win), (inserted t parent pw w cs).wins[i]? = some x' →
      (i = t.wins.size ∧ x' = w) ∨ (i < t.wins.size ∧ ∃ x, t.wins[i]? = some x ∧ KeptButChildren x x' ∧
        (x'.children = x.children ∨ (i = parent ∧ x'.children = cs ∧ x = pw))) := by
    intro i x' hx'
    rw [G] at hx'
    by_cases hip : i = parent
    · subst hip
      simp only [if_true, Option.some.injEq] at hx'
      subst hx'
      exact .inr ⟨hlt, pw, hpl.1, ⟨rfl, rfl, rfl, rfl, rfl⟩, .inr ⟨rfl, rfl, rfl⟩⟩
    · simp only [hip, if_false] at hx'
      by_cases his : i = t.wins.size
      · subst his
        simp only [if_true, Option.some.injEq] at hx'
        exact .inl ⟨rfl, hx'.symm⟩
      · simp only [his, if_false] at hx'
        have hi : i < t.wins.size := lt_size hx'
        exact .inr ⟨hi, x', hx', ⟨rfl, rfl, rfl, rfl, rfl⟩, .inl rfl⟩
  have liveold : ∀ (i : Nat) (x : Win), LiveW t i x → ∃ x', LiveW (inserted t parent pw w cs) i x' ∧ x'.parent = x.parent ∧
      (∀ (c : Nat), c ∈ x.children → c ∈ x'.children) := by
    intro i x hl
    obtain ⟨x', h1, k, h7⟩ := old i x hl.1
    exact ⟨x', ⟨h1, k.freed.trans hl.2⟩, k.parent, h7⟩
  have reach : ∀ {i a : Nat}, Reach t i a → Reach (inserted t parent pw w cs) i a := by
    intro i a hr
    refine Reach.mono ?_ hr
    intro j x p hx hp
    obtain ⟨x', h1, k, _⟩ := old j x hx
    exact ⟨x', h1, k.parent.trans hp⟩
  refine .of_parts ?_ (fun i x' hx' hr => ?_) (inv.linked.insert hpl hwp hwc hwf hcs) (fun i x' hl => ?_) (fun r hr => ?_)
    (fun s hs => ?_)
  · obtain ⟨r, h0, hr, hp⟩ := inv.root_ex
    obtain ⟨r', h1, k, _⟩ := old 0 r h0
    exact ⟨r', h1, k.isRoot.trans hr, k.parent.trans hp⟩
  · rcases back i x' hx' with ⟨_, rfl⟩ | ⟨_, x, hx, k, _⟩
    · rw [hwr] at hr; cases hr
    · exact inv.only_root i x hx (k.isRoot.symm.trans hr)
  · -- the new window; the parent with its new list; the others as they were
    rcases back i x' hl.1 with ⟨_, rfl⟩ | ⟨_, x, hx, k, hch⟩
    · exact ⟨hwc ▸ List.nodup_nil, fun h => (by rw [hwcl] at h; cases h), fun c h => (by rw [hwfc] at h; cases h)⟩
    · have W := inv.wok (i := i) ⟨hx, k.freed.symm.trans hl.2⟩
      refine ⟨?_, fun h => k.parent ▸ W.closed (k.isClosed.symm.trans h), fun c hf => ?_⟩
      · rcases hch with hch | ⟨_, hch, _⟩
        · rw [hch]; exact W.nodup
        · rw [hch]; exact hnd
      · have hm := W.focus c (k.focusedChild.symm.trans hf)
        rcases hch with hch | ⟨_, hch, rfl⟩
        · rw [hch]; exact hm
        · rw [hch]; exact (hcs c).2 (.inr hm)
  · have hr' : r ∈ t.root.changes := hr
    obtain ⟨hk, x, hl, hp, hre⟩ := inv.req_ok r hr'
    obtain ⟨x', hl', hp', _⟩ := liveold r.win x hl
    exact ⟨hk, x', hl', by rw [hp']; exact hp, reach hre⟩
  · have hs' : t.root.dragSource = some s := hs
    obtain ⟨x, hl, hre⟩ := inv.drag_ok s hs'
    obtain ⟨x', hl', _, _⟩ := liveold s x hl
    exact ⟨x', hl', reach hre⟩

/-- `_do_hierarchy_change(INSERT_FIRST/LAST)` of a freshly initialised window. -/
theorem doHC_insert_ok {t : Tree} (inv : TInv t) {q : Nat} {qw : Win} (hql : LiveW t q qw) (w : Win)
    (hwp : w.parent = some q) (hwc : w.children = []) (hwf : w.freed = false) (hwr : w.isRoot = false)
    (hwcl : w.isClosed = false) (hwfc : w.focusedChild = none) (lowest : Bool) :
    ∃ cs, doHC { t with wins := t.wins.push w } (if lowest = true then .insertLast else .insertFirst) q t.wins.size =
        .ok (inserted t q qw w cs) ∧ TInv (inserted t q qw w cs) := by
  have hqlt := hql.lt
  have hqne : ¬ q = t.wins.size := Nat.ne_of_lt hqlt
  have hqp : LiveW { t with wins := t.wins.push w } q qw :=
    ⟨by simp only [Array.getElem?_push, hqne, if_false]; exact hql.1, hql.2⟩
  have hwl : LiveW { t with wins := t.wins.push w } t.wins.size w := ⟨Array.getElem?_push_size, hwf⟩
  have hchild_lt : ∀ (c : Nat), c ∈ qw.children → c < t.wins.size := by
    intro c hc
    obtain ⟨cw, hcl', _⟩ := inv.child_ok q qw hql c hc
    exact hcl'.lt
  have hnotin : t.wins.size ∉ qw.children := fun h => Nat.lt_irrefl _ (hchild_lt _ h)
  have hnd := inv.nodup q qw hql
  have fin : ∀ (cs : List Nat), (∀ (c : Nat), c ∈ cs ↔ (c = t.wins.size ∨ c ∈ qw.children)) → cs.Nodup →
      (if w.isVisible = true then (do
          exposeWalk (inserted t q qw w cs) (chainFuel (inserted t q qw w cs)) q (some w.rect)
          pure (inserted t q qw w cs))
        else pure (inserted t q qw w cs)) = Out.ok (inserted t q qw w cs) ∧ TInv (inserted t q qw w cs) := by
    intro cs hcs hcsnd
    have invI := inv.insert hql hwp hwc hwf hwr hwcl hwfc hcs hcsnd
    have hqI : LiveW (inserted t q qw w cs) q { qw with children := cs } :=
      ⟨by rw [inserted_get hql, if_pos rfl], hql.2⟩
    refine ⟨?_, invI⟩
    split
    · rw [expose_ok invI hqI]; rfl
    · rfl
  unfold doHC
  simp only [get_live hqp, get_live hwl, bind_ok]
  cases lowest with
  | true => exact ⟨_, fin _ (fun _ => WinTree.mem_inserted (lowest := true)) (WinTree.nodup_inserted (lowest := true) hnotin hnd)⟩
  | false => exact ⟨_, fin _ (fun _ => WinTree.mem_inserted (lowest := false)) (WinTree.nodup_inserted (lowest := false) hnotin hnd)⟩

theorem getX_push (st : St) (t' : Tree) (i : Nat) :
    getX { st with tree := t', wx := st.wx.push {} } i = if i = st.wx.size then {} else getX st i := by
  show (st.wx.push {})[i]?.getD {} = _
  rw [Array.getElem?_push]; split <;> rfl

/-- `hold`: the old windows keep freed flag and count; `hnew`: the new one is live with one reference, the application's. -/
theorem SInv.grow {st : St} (inv : SInv gh st) {t' : Tree} (hinv : TInv t') (hsz : t'.wins.size = st.tree.wins.size + 1)
    (hold : ∀ (i : Nat) (x' : Win), t'.wins[i]? = some x' → i ≠ st.tree.wins.size →
      ∃ x, st.tree.wins[i]? = some x ∧ x'.freed = x.freed ∧ x'.refcount = x.refcount)
    (hnew : ∀ (x' : Win), t'.wins[st.tree.wins.size]? = some x' → x'.freed = false ∧ x'.refcount = 1)
    (hroot : (∃ r, LiveW st.tree 0 r) → ∃ r, LiveW t' 0 r) (h0 : 0 < st.tree.wins.size) :
    SInv gh { st with tree := t', wx := st.wx.push {} } := by
  have hwx : st.wx.size = st.tree.wins.size := inv.wx_size
  have hg : ∀ (i : Nat), getX { st with tree := t', wx := st.wx.push {} } i = if i = st.tree.wins.size then {} else getX st i :=
    fun i => hwx ▸ getX_push st t' i
  have hh : ∀ (k : Nat), holders { st with tree := t', wx := st.wx.push {} } k = holders st k := by
    intro k
    show ((st.wx.push {}).toList.filter _).length = _
    rw [Array.toList_push, List.filter_append]
    simp [holders]
  have live0 : (∃ r, LiveW t' 0 r) ↔ (∃ r, LiveW st.tree 0 r) :=
    ⟨fun ⟨x', hl'⟩ => by
      obtain ⟨x, hx, hf, _⟩ := hold 0 x' hl'.1 (Nat.ne_of_lt h0)
      exact ⟨x, hx, hf.symm.trans hl'.2⟩, hroot⟩
  refine ⟨⟨hinv, by show (st.wx.push {}).size = _; rw [Array.size_push, hwx, hsz], fun i x' hl' => ?_, List.nodup_nil,
    fun _ hi => (nomatch hi), fun i x' hx' hf _ => ?_,
    ⟨fun k p hk => hh k ▸ inv.pens.rc k p hk, fun k hk => hh k ▸ inv.pens.ex k hk, inv.pens.pos⟩,
    fun hf h => inv.term_held hf (.inl (live0.1 (h.elim id (fun h => nomatch h)))),
    fun hf h => inv.term_free hf (fun h' => h (.inl (live0.2 (h'.elim id (fun h => nomatch h))))),
    fun hf => ⟨fun h => (inv.term_dead hf).1 (.inl (live0.1 (h.elim id (fun h => nomatch h)))), (inv.term_dead hf).2⟩,
    inv.simple⟩, fun i x' hl' => ?_, fun hg => live0.2 (inv.glive hg)⟩
  · by_cases hi : i = st.tree.wins.size
    · rw [(hnew x' (hi ▸ hl'.1)).2]; exact Int.le_refl 1
    · obtain ⟨x, hx, hf, hr⟩ := hold i x' hl'.1 hi
      exact hr ▸ inv.rc i x ⟨hx, hf.symm.trans hl'.2⟩
  · by_cases hi : i = st.tree.wins.size
    · rw [(hnew x' (hi ▸ hx')).1] at hf; cases hf
    · obtain ⟨x, hx, hf', _⟩ := hold i x' hx' hi
      rw [hg, if_neg hi]
      exact inv.dead_pen i x hx (hf' ▸ hf) List.not_mem_nil
  · rw [hg]
    by_cases hi : i = st.tree.wins.size
    · -- the new window: one reference, the application's
      rw [if_pos hi, (hnew x' (hi ▸ hl'.1)).2]
      refine ⟨by show (1 : Int) ≤ ((1 : Nat) : Int) + (gh.win i : Int); omega, fun hcov => ?_⟩
      rcases hcov with hi0 | hgi
      · omega
      · show ((1 : Nat) : Int) + (gh.win i : Int) ≤ 1
        rw [hgi]; decide
    · obtain ⟨x, hx, hf, hr⟩ := hold i x' hl'.1 hi
      rw [if_neg hi, hr]
      exact inv.wref i x ⟨hx, hf.symm.trans hl'.2⟩

theorem BindsFrom.push {new : List Act → Prop} (st : St) (t' : Tree) :
    BindsFrom new st { st with tree := t', wx := st.wx.push {} } := by
  intro i b hb
  rw [getX_push] at hb
  split at hb
  · cases hb
  · exact .inl ⟨b, hb, .refl b⟩

theorem newWin_ok {new : List Act → Prop} {st : St} (inv : SInv gh st) {p : Nat} {pw : Win} (hp : LiveW st.tree p pw)
    (r : Rect) (hidden lowest rootParent steal : Bool) :
    ∃ st' id, newWin st p r hidden lowest rootParent steal = .ok (st', id) ∧ SInv gh st' ∧ BindsFrom new st st' := by
  have hclimb : ∃ (q : Nat) (r' : Rect) (qw : Win), resolveParent st p r rootParent = .ok (q, r') ∧ LiveW st.tree q qw := by
    unfold resolveParent
    cases rootParent with
    | true => exact climb_ok inv.tinv p pw hp _ (chainFuel_gt hp) r
    | false => exact ⟨p, r, pw, rfl, hp⟩
  obtain ⟨q, r', qw, hcl, hql⟩ := hclimb
  have hqlt := hql.lt
  obtain ⟨cs, hins, invI⟩ := doHC_insert_ok inv.tinv hql
    { parent := some q, rect := r', isVisible := !hidden, stealInput := steal } rfl rfl rfl rfl rfl rfl lowest
  unfold newWin
  simp only [hcl, bind_ok, hins, pure_ok, inv.wx_size, Nat.sub_self, Array.replicate_zero, Array.append_empty]
  refine ⟨_, _, rfl, ?_, .push st _⟩
  generalize hw : ({ parent := some q, rect := r', isVisible := !hidden, stealInput := steal } : Win) = w at invI ⊢
  have G := inserted_get (w := w) (cs := cs) hql
  refine inv.grow invI (by simp [inserted]) (fun i x' hx' hi => ?_) (fun x' hx' => ?_) (fun ⟨x, hl⟩ => ?_) (by omega)
  · rw [G] at hx'
    by_cases hiq : i = q
    · rw [if_pos hiq] at hx'; cases hx'
      exact ⟨qw, hiq ▸ hql.1, rfl, rfl⟩
    · rw [if_neg hiq, if_neg hi] at hx'
      exact ⟨x', hx', rfl, rfl⟩
  · rw [G, if_neg (Nat.ne_of_gt hqlt), if_pos rfl] at hx'
    cases hx'
    rw [← hw]; exact ⟨rfl, rfl⟩
  · by_cases h0q : 0 = q
    · exact ⟨{ qw with children := cs }, by rw [G, if_pos h0q], hql.2⟩
    · exact ⟨x, by rw [G, if_neg h0q, if_neg (by omega)]; exact hl.1, hl.2⟩

theorem SInvB.of_tree {st : St} (inv : SInvB gh st []) {t' : Tree} (hinv : TInv t') (hsz : t'.wins.size = st.tree.wins.size)
    (h : ∀ (i : Nat) (w : Win), st.tree.wins[i]? = some w →
      ∃ w', t'.wins[i]? = some w' ∧ w'.freed = w.freed ∧ (w.freed = false → 1 ≤ w.refcount → 1 ≤ w'.refcount)) :
    SInvB gh { st with tree := t' } [] := by
  refine inv.after_unref hinv hsz (fun i w hw hf => ?_) (DeadOk.nil fun i w hl => ?_) (fun i w' hl' => ?_)
  · obtain ⟨w', hw', hf', _⟩ := h i w hw
    exact ⟨w', hw', hf'.trans hf⟩
  · obtain ⟨w', hw', hf', _⟩ := h i w hl.1
    exact ⟨w', hw', hf'.trans hl.2⟩
  · obtain ⟨w, hw⟩ := get_of_size_eq hsz hl'.1
    obtain ⟨w'', hw'', hf, hr⟩ := h i w hw
    rw [hl'.1] at hw''; cases hw''
    have hfl : w.freed = false := hf.symm.trans hl'.2
    exact hr hfl (inv.rc i w ⟨hw, hfl⟩)

theorem SInv.of_calm {st : St} (inv : SInv gh st) {t' : Tree} (C : Calm st.tree t') : SInv gh { st with tree := t' } := by
  refine ⟨inv.toSInvB.of_tree C.inv C.size fun i w hw => ?_, fun i w' hl' => ?_, fun hg => ?_⟩
  · obtain ⟨w', hw', c⟩ := C.each i w hw
    exact ⟨w', hw', c.freed, fun _ h1 => c.refcount ▸ h1⟩
  · obtain ⟨w, hl, hr⟩ := C.live_back hl'
    rw [hr]; exact inv.wref i w hl
  · obtain ⟨r, hr⟩ := inv.glive hg
    exact (C.live hr).imp fun _ h => h.1

theorem SInv.of_rel {st : St} (inv : SInv gh st) {t' : Tree} (hinv : TInv t') (hrel : TRel st.tree t')
    (hrc : SameRC st.tree t') : SInv gh { st with tree := t' } := inv.of_calm (hrel.calm hinv hrc)

theorem count_ref {rc : Int} {app g : Nat} :
    (rc ≤ app + g → rc + 1 ≤ ((app + 1 : Nat) : Int) + g) ∧ ((app : Int) + g ≤ rc → ((app + 1 : Nat) : Int) + g ≤ rc + 1) := by
  omega

theorem refW_eq {st : St} {win : Nat} {ww : Win} (hw : LiveW st.tree win ww) :
    refW st win = .ok (setW st win { ww with refcount := ww.refcount + 1 }) := by
  unfold refW
  simp only [getW, get_live hw, bind_ok, pure_ok]

theorem liveW_set {t : Tree} {win : Nat} {ww : Win} (hw : LiveW t win ww) (r : Int) {i : Nat} {w' : Win} :
    LiveW (WinTree.set t win { ww with refcount := r }) i w' ↔
      (i = win ∧ w' = { ww with refcount := r }) ∨ (i ≠ win ∧ LiveW t i w') := by
  by_cases hi : win = i
  · subst hi
    unfold LiveW
    rw [set_get_self _ hw.lt]
    constructor
    · rintro ⟨h, _⟩; cases h; exact .inl ⟨rfl, rfl⟩
    · rintro (⟨_, rfl⟩ | ⟨hne, _⟩)
      · exact ⟨rfl, hw.2⟩
      · exact absurd rfl hne
  · unfold LiveW
    rw [set_get_ne _ hi]
    exact ⟨fun h => .inr ⟨Ne.symm hi, h⟩, fun h => h.elim (fun h => absurd h.1.symm hi) (·.2)⟩

theorem SInvB.set_refcount_x {st : St} (B : SInvB gh st []) {win : Nat} {ww : Win} (hw : LiveW st.tree win ww) (x : WinX)
    (hp : x.pen = (getX st win).pen) (r : Int) (hr : 1 ≤ r) : SInvB gh (setW (setX st win x) win { ww with refcount := r }) [] := by
  have KB : SInvB gh (setX st win x) [] := B.of_wx rfl rfl rfl rfl rfl (setX_map_pen x hp)
  refine KB.of_tree (t' := WinTree.set st.tree win { ww with refcount := r }) (B.tinv.set_refcount hw r).1 (set_size _ _ _) ?_
  intro i w hwi
  have hwi' : st.tree.wins[i]? = some w := hwi
  by_cases hi : win = i
  · subst hi
    rw [hw.1] at hwi'; cases hwi'
    exact ⟨_, set_get_self _ hw.lt, rfl, fun _ _ => hr⟩
  · exact ⟨w, by rw [set_get_ne _ hi]; exact hwi', rfl, fun _ h => h⟩

/-- The count of one live window is set to `r`, and the window's record (same pen) and the library's tally on it may
    change: the invariant holds for the new tallies if the count lies within them.  Who takes or gives back the reference,
    the application (`x.appRefs`) or the library (`gh'.win win`), is not asked. -/
theorem SInv.set_count {gh' : Ghost} {st : St} (inv : SInv gh st) {win : Nat} {ww : Win} (hw : LiveW st.tree win ww)
    (x : WinX) (hp : x.pen = (getX st win).pen) (r : Int) (hterm : gh'.term = gh.term)
    (hoth : ∀ j, j ≠ win → gh'.win j = gh.win j)
    (hup : r ≤ (x.appRefs : Int) + (gh'.win win : Int) ∧ (gh'.covers win → (x.appRefs : Int) + (gh'.win win : Int) ≤ r))
    (hlo : 1 ≤ r) : SInv gh' (setW (setX st win x) win { ww with refcount := r }) := by
  have hlt : win < st.wx.size := by rw [inv.wx_size]; exact hw.lt
  refine (inv.toSInvB.set_refcount_x hw x hp r hlo).reghost_wins hterm (fun i w' hl' => ?_) fun hg => ?_
  · have e : getX (setW (setX st win x) win { ww with refcount := r }) i = getX (setX st win x) i := rfl
    rw [e, getX_setX]
    rcases (liveW_set hw r).1 hl' with ⟨rfl, rfl⟩ | ⟨hi, hl⟩
    · rw [if_pos ⟨rfl, hlt⟩]; exact hup
    · rw [if_neg fun h => hi h.1.symm]
      have h1 := inv.wref i w' hl
      unfold Ghost.covers at h1 ⊢
      rw [hoth i hi]; exact h1
  · by_cases h0 : win = 0
    · subst h0; exact ⟨_, (liveW_set hw r).2 (.inl ⟨rfl, rfl⟩)⟩
    · rw [hoth 0 (fun e => h0 e.symm)] at hg
      obtain ⟨r0, hr0⟩ := inv.glive hg
      exact ⟨r0, (liveW_set hw r).2 (.inr ⟨fun e => h0 e.symm, hr0⟩)⟩

/-- The library takes or gives back a reference: the window's record stays. -/
theorem SInv.set_refcount {gh' : Ghost} {st : St} (inv : SInv gh st) {win : Nat} {ww : Win} (hw : LiveW st.tree win ww)
    (r : Int) (hterm : gh'.term = gh.term) (hoth : ∀ j, j ≠ win → gh'.win j = gh.win j)
    (hup : r ≤ ((getX st win).appRefs : Int) + (gh'.win win : Int) ∧
      (gh'.covers win → ((getX st win).appRefs : Int) + (gh'.win win : Int) ≤ r)) (hlo : 1 ≤ r) :
    SInv gh' (setW st win { ww with refcount := r }) := by
  have := inv.set_count hw (getX st win) rfl r hterm hoth hup hlo
  rwa [setX_getX_self] at this

/-- `tickit_window_ref` by the application on a window it holds: the state `refW_eq` names, with one more in the tally. -/
theorem refW_ok {st : St} (inv : SInv gh st) {win : Nat} {ww : Win} (hw : LiveW st.tree win ww) :
    SInv gh (setW (setX st win { getX st win with appRefs := (getX st win).appRefs + 1 }) win
      { ww with refcount := ww.refcount + 1 }) := by
  have h := inv.wref win ww hw
  have := inv.rc win ww hw
  exact inv.set_count hw { getX st win with appRefs := (getX st win).appRefs + 1 } rfl (ww.refcount + 1) rfl (fun _ _ => rfl)
    ⟨count_ref.1 h.1, fun hc => count_ref.2 (h.2 hc)⟩ (by omega)

end Tickit.Life
