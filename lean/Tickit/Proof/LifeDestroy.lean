import Tickit.Proof.LifeClose
/-
  C08: `tickit_window_unref` / `tickit_window_destroy` after the repairs.
  The cascade closes every child before dropping its reference, so that when a window is finally freed nothing in
  the tree, in the queue of requests or in the drag context points at it.  `TEv` with the lists `DeadOk`, `DropOk`,
  `ConvOk` say how the tree evolves along it; `Touch` is a step that touches one window (close, close-and-drop, the
  final free); `Loop` composes the steps of the children loop, `Casc` is what the induction `destroyT_ok` concludes.
-/
namespace Tickit.Life
open WinTree (Id Win Req Change Tree)

/-- Evolution of a window other than the one being destroyed: it may die; if it lives on, its reference count is
    unchanged or it has just been closed by its dying parent and lost the one reference that parent takes. -/
def WEv (w w' : Win) : Prop :=
  (w.freed = true → w'.freed = true) ∧
  (w'.freed = false → 1 ≤ w.refcount → 1 ≤ w'.refcount) ∧
  (w'.freed = false →
    (w'.refcount = w.refcount ∨ (w'.refcount + 1 = w.refcount ∧ w.isClosed = false ∧ w'.isClosed = true))) ∧
  (w.isClosed = true → w'.isClosed = true)

theorem WEv.refl (w : Win) : WEv w w := ⟨id, fun _ h => h, fun _ => .inl rfl, id⟩

section
variable {w w' : Win} (h : WEv w w')
include h
theorem WEv.freed : w.freed = true → w'.freed = true := h.1
theorem WEv.rc_pos : w'.freed = false → 1 ≤ w.refcount → 1 ≤ w'.refcount := h.2.1
theorem WEv.count : w'.freed = false →
    (w'.refcount = w.refcount ∨ (w'.refcount + 1 = w.refcount ∧ w.isClosed = false ∧ w'.isClosed = true)) := h.2.2.1
theorem WEv.closed : w.isClosed = true → w'.isClosed = true := h.2.2.2
end

theorem WEv.live {w w' : Win} (h : WEv w w') (hf : w'.freed = false) : w.freed = false :=
  Bool.eq_false_iff.2 fun hw => by rw [h.freed hw] at hf; cases hf

theorem WEv.open_ {w w' : Win} (h : WEv w w') (hc : w'.isClosed = false) : w.isClosed = false :=
  Bool.eq_false_iff.2 fun hw => by rw [h.closed hw] at hc; cases hc

theorem WEv.trans {a b c : Win} (h1 : WEv a b) (h2 : WEv b c) : WEv a c := by
  refine ⟨fun h => h2.freed (h1.freed h), fun hc ha => h2.rc_pos hc (h1.rc_pos (h2.live hc) ha), fun hc => ?_, fun h => h2.closed (h1.closed h)⟩
  rcases h2.count hc with h | ⟨h, hb, hcc⟩
  · rcases h1.count (h2.live hc) with h' | ⟨h', ha, hbb⟩
    · exact .inl (h.trans h')
    · exact .inr ⟨by omega, ha, h2.closed hbb⟩
  · rcases h1.count (h2.live hc) with h' | ⟨_, _, hbb⟩
    · exact .inr ⟨by omega, h1.open_ hb, hcc⟩
    · rw [hbb] at hb; cases hb

theorem WEv.of_freed {w w' : Win} (hf : w'.freed = true) (hc : w.isClosed = true → w'.isClosed = true) : WEv w w' :=
  ⟨fun _ => hf, fun h => (by rw [hf] at h; cases h), fun h => (by rw [hf] at h; cases h), hc⟩

theorem wev_of_fields {w w' : Win} (hf : w'.freed = w.freed) (hr : w'.refcount = w.refcount)
    (hc : w.isClosed = true → w'.isClosed = true) : WEv w w' :=
  ⟨fun h => by rw [hf]; exact h, fun _ h => by rw [hr]; exact h, fun _ => .inl hr, hc⟩

/-- Window by window `WEv`: how the tree evolves along a destroy cascade. -/
def TEv (t t' : Tree) : Prop :=
  t'.wins.size = t.wins.size ∧ ∀ (i : Nat) (w : Win), t.wins[i]? = some w → ∃ w', t'.wins[i]? = some w' ∧ WEv w w'

theorem TEv.refl (t : Tree) : TEv t t := WinTree.Lift.refl (fun _ => WEv.refl) t

theorem TEv.trans {a b c : Tree} (h1 : TEv a b) (h2 : TEv b c) : TEv a c :=
  WinTree.Lift.trans (R := fun _ => WEv) (R' := fun _ => WEv) (R'' := fun _ => WEv) (fun _ _ _ _ => WEv.trans) h1 h2

theorem TEv.win_back {a b : Tree} (e : TEv a b) {i : Nat} {wb : Win} (h : b.wins[i]? = some wb) :
    ∃ wa, a.wins[i]? = some wa ∧ WEv wa wb := WinTree.Lift.back (R := fun _ => WEv) e h

theorem TEv.live_back {a b : Tree} (e : TEv a b) {i : Nat} {wb : Win} (h : LiveW b i wb) :
    ∃ wa, LiveW a i wa ∧ WEv wa wb := by
  obtain ⟨wa, ha, ev⟩ := e.win_back h.1
  exact ⟨wa, ⟨ha, ev.live h.2⟩, ev⟩

theorem TRel.toEv {t t' : Tree} (h : TRel t t')
    (hrc : ∀ (i : Nat) (w w' : Win), t.wins[i]? = some w → t'.wins[i]? = some w' → w'.refcount = w.refcount ∧ (w.isClosed = true → w'.isClosed = true)) :
    TEv t t' := by
  refine ⟨h.1, ?_⟩
  intro i w hw
  obtain ⟨w', hw', hrel⟩ := h.2 i w hw
  obtain ⟨hr, hc⟩ := hrc i w w' hw hw'
  exact ⟨w', hw', wev_of_fields hrel.freed hr hc⟩

/-- `dead` lists, once each, the windows that were alive in `t` and are freed in `t'`. -/
def DeadOk (t t' : Tree) (dead : List Nat) : Prop :=
  dead.Nodup ∧ ∀ (i : Nat), i ∈ dead ↔ ((∃ w, LiveW t i w) ∧ ∃ w', t'.wins[i]? = some w' ∧ w'.freed = true)

theorem DeadOk.nodup {t t' : Tree} {dead : List Nat} (h : DeadOk t t' dead) : dead.Nodup := h.1

theorem DeadOk.mem_iff {t t' : Tree} {dead : List Nat} (h : DeadOk t t' dead) {i : Nat} :
    i ∈ dead ↔ ((∃ w, LiveW t i w) ∧ ∃ w', t'.wins[i]? = some w' ∧ w'.freed = true) := h.2 i

theorem DeadOk.nil {t t' : Tree} (hlive : ∀ (i : Nat) (w : Win), LiveW t i w → ∃ w', LiveW t' i w') :
    DeadOk t t' [] := by
  refine ⟨List.nodup_nil, fun i => ⟨fun h => (nomatch h), ?_⟩⟩
  rintro ⟨⟨w, hl⟩, w', hw', hf⟩
  obtain ⟨w'', hl''⟩ := hlive i w hl
  exact (hl''.not_freed hw' hf).elim

theorem DeadOk.of_live_iff {a b c : Tree} {d : List Nat} (h : ∀ (i : Nat), (∃ w, LiveW a i w) ↔ (∃ w, LiveW b i w))
    (hd : DeadOk b c d) : DeadOk a c d :=
  ⟨hd.nodup, fun i => by rw [hd.mem_iff, h i]⟩

theorem DeadOk.append {a b c : Tree} {d1 d2 : List Nat} (e1 : TEv a b) (e2 : TEv b c)
    (h1 : DeadOk a b d1) (h2 : DeadOk b c d2) : DeadOk a c (d1 ++ d2) := by
  refine ⟨?_, ?_⟩
  · rw [List.nodup_append]
    refine ⟨h1.nodup, h2.nodup, ?_⟩
    intro x hx y hy hxy
    subst hxy
    obtain ⟨_, w', hw', hf⟩ := h1.mem_iff.1 hx
    obtain ⟨⟨w, hl⟩, _⟩ := h2.mem_iff.1 hy
    exact hl.not_freed hw' hf
  · intro i
    rw [List.mem_append, h1.mem_iff, h2.mem_iff]
    constructor
    · rintro (⟨hl, w', hw', hf⟩ | ⟨⟨w, hl⟩, hfr⟩)
      · obtain ⟨w'', hw'', ev⟩ := e2.2 i w' hw'
        exact ⟨hl, w'', hw'', ev.freed hf⟩
      · obtain ⟨wa, hla, _⟩ := e1.live_back hl
        exact ⟨⟨wa, hla⟩, hfr⟩
    · rintro ⟨⟨w, hl⟩, w'', hw'', hf⟩
      obtain ⟨wb, hwb, _⟩ := e1.2 i w hl.1
      cases hfb : wb.freed with
      | true => exact .inl ⟨⟨w, hl⟩, wb, hwb, hfb⟩
      | false => exact .inr ⟨⟨wb, hwb, hfb⟩, w'', hw'', hf⟩

theorem DeadOk.single {t t' : Tree} {x : Nat} {xw : Win} (hl : LiveW t x xw) (hsz : t'.wins.size = t.wins.size)
    (hx : ∃ w', t'.wins[x]? = some w' ∧ w'.freed = true)
    (hother : ∀ (i : Nat) (w : Win), i ≠ x → t.wins[i]? = some w → ∃ w', t'.wins[i]? = some w' ∧ w'.freed = w.freed) :
    DeadOk t t' [x] := by
  refine ⟨List.nodup_cons.2 ⟨List.not_mem_nil, List.nodup_nil⟩, fun i => ?_⟩
  rw [List.mem_singleton]
  constructor
  · intro h; subst h; exact ⟨⟨xw, hl⟩, hx⟩
  · rintro ⟨⟨w, hlw⟩, w', hw', hf'⟩
    apply Decidable.byContradiction
    intro hix
    obtain ⟨w'', hw'', hf⟩ := hother i w hix hlw.1
    rw [hw''] at hw'; cases hw'
    rw [hf, hlw.2] at hf'; cases hf'

theorem DeadOk.survive {t t' : Tree} {dead : List Nat} (hd : DeadOk t t' dead) (hsz : t'.wins.size = t.wins.size)
    {i : Nat} {w : Win} (hl : LiveW t i w) (hi : i ∉ dead) : ∃ w', LiveW t' i w' := by
  obtain ⟨w', hw'⟩ := get_of_size_eq hsz.symm hl.1
  cases hf : w'.freed with
  | false => exact ⟨w', hw', hf⟩
  | true => exact absurd (hd.mem_iff.2 ⟨⟨w, hl⟩, w', hw', hf⟩) hi

/-- `dropped` lists, once each, younger open windows that, if they survive, have been closed and have lost exactly
    one reference: the children whose creation reference a dying parent below `x` has taken. -/
def DropOk (t t' : Tree) (x : Nat) (dropped : List Nat) : Prop :=
  dropped.Nodup ∧ ∀ i ∈ dropped, x < i ∧ (∃ w, LiveW t i w ∧ w.isClosed = false) ∧
    ∀ (w w' : Win), t.wins[i]? = some w → t'.wins[i]? = some w' → w'.freed = false →
      (w'.refcount + 1 = w.refcount ∧ w'.isClosed = true)

section
variable {t t' : Tree} {x : Nat} {dropped : List Nat} (h : DropOk t t' x dropped)
include h
theorem DropOk.nodup : dropped.Nodup := h.1
theorem DropOk.above {i : Nat} (hi : i ∈ dropped) : x < i := (h.2 i hi).1
theorem DropOk.was_open {i : Nat} (hi : i ∈ dropped) : ∃ w, LiveW t i w ∧ w.isClosed = false := (h.2 i hi).2.1
theorem DropOk.count {i : Nat} (hi : i ∈ dropped) {w w' : Win} (hw : t.wins[i]? = some w) (hw' : t'.wins[i]? = some w')
    (hf : w'.freed = false) : w'.refcount + 1 = w.refcount ∧ w'.isClosed = true := (h.2 i hi).2.2 w w' hw hw' hf
end

theorem DropOk.nil (t t' : Tree) (x : Nat) : DropOk t t' x [] :=
  ⟨List.nodup_nil, fun _ hi => nomatch hi⟩

theorem DropOk.append {a b c : Tree} {x : Nat} {d1 d2 : List Nat} (e1 : TEv a b) (e2 : TEv b c)
    (h1 : DropOk a b x d1) (h2 : DropOk b c x d2) : DropOk a c x (d1 ++ d2) := by
  refine ⟨?_, ?_⟩
  · rw [List.nodup_append]
    refine ⟨h1.nodup, h2.nodup, ?_⟩
    intro i hi j hj hij
    subst hij
    obtain ⟨wa, hla, _⟩ := h1.was_open hi
    obtain ⟨wb, hlb, hnb⟩ := h2.was_open hj
    have := (h1.count hi hla.1 hlb.1 hlb.2).2
    rw [hnb] at this; cases this
  · intro i hi
    rw [List.mem_append] at hi
    rcases hi with hi | hi
    · -- dropped first: afterwards its count stays, since it is closed already
      refine ⟨h1.above hi, h1.was_open hi, ?_⟩
      intro w w'' hw hw'' hf''
      obtain ⟨w', hw', ev2⟩ := e2.win_back hw''
      obtain ⟨hr, hcl⟩ := h1.count hi hw hw' (ev2.live hf'')
      rcases ev2.count hf'' with h | ⟨_, hncl, _⟩
      · exact ⟨by omega, ev2.closed hcl⟩
      · rw [hcl] at hncl; cases hncl
    · -- dropped later: until then it was open, so its count had not changed
      obtain ⟨wb, hlb, hnb⟩ := h2.was_open hi
      obtain ⟨wa, hla, ev1⟩ := e1.live_back hlb
      refine ⟨h2.above hi, ⟨wa, hla, ev1.open_ hnb⟩, ?_⟩
      intro w w'' hw hw'' hf''
      rw [hla.1] at hw; cases hw
      obtain ⟨hr, hcl⟩ := h2.count hi hlb.1 hw'' hf''
      rcases ev1.count hlb.2 with h | ⟨_, _, hclb⟩
      · exact ⟨by omega, hcl⟩
      · rw [hnb] at hclb; cases hclb

/-- The converse of `DropOk`: a survivor other than `x` that is not in `dropped` has its count of before. -/
def ConvOk (t t' : Tree) (x : Nat) (dropped : List Nat) : Prop :=
  ∀ (i : Nat) (w w' : Win), i ≠ x → t.wins[i]? = some w → t'.wins[i]? = some w' → w'.freed = false → i ∉ dropped →
    w'.refcount = w.refcount

theorem ConvOk.nil_of_same {t t' : Tree} {x : Nat} (h : ∀ (i : Nat) (w w' : Win), i ≠ x → t.wins[i]? = some w → t'.wins[i]? = some w' →
    w'.refcount = w.refcount) : ConvOk t t' x [] := fun i w w' hix hw hw' _ _ => h i w w' hix hw hw'

theorem ConvOk.append {a b c : Tree} {x : Nat} {d1 d2 : List Nat} (e1 : TEv a b) (e2 : TEv b c)
    (h1 : ConvOk a b x d1) (h2 : ConvOk b c x d2) : ConvOk a c x (d1 ++ d2) := by
  intro i wa wc hix ha hc hf hni
  obtain ⟨wb, hb, ev1⟩ := e1.2 i wa ha
  obtain ⟨wc', hc', ev2⟩ := e2.2 i wb hb
  rw [hc] at hc'; cases hc'
  rw [List.mem_append, not_or] at hni
  rw [h2 i wb wc hix hb hc hf hni.2, h1 i wa wb hix ha hb (ev2.live hf) hni.1]

/-- Parent links are only removed, so ancestors in `t'` are ancestors in `t`. -/
def PSub (t t' : Tree) : Prop :=
  ∀ (i : Nat) (w' : Win) (p : Nat), t'.wins[i]? = some w' → w'.parent = some p → ∃ w, t.wins[i]? = some w ∧ w.parent = some p

theorem PSub.refl (t : Tree) : PSub t t := fun _ w _ hw hp => ⟨w, hw, hp⟩

theorem PSub.trans {a b c : Tree} (h1 : PSub a b) (h2 : PSub b c) : PSub a c := by
  intro i w p hw hp
  obtain ⟨wb, hwb, hpb⟩ := h2 i w p hw hp
  exact h1 i wb p hwb hpb

theorem PSub.reach {t t' : Tree} (h : PSub t t') {i a : Nat} (hr : Reach t' i a) : Reach t i a :=
  Reach.mono (fun i w p hw hp => h i w p hw hp) hr

/-- The root record has only forgotten (what the fields `req_sub`, `drag_sub` of `Closed` and `Purged` say). -/
def RootSub (t t' : Tree) : Prop :=
  (∀ r ∈ t'.root.changes, r ∈ t.root.changes) ∧ ∀ (s : Nat), t'.root.dragSource = some s → t.root.dragSource = some s

theorem RootSub.refl (t : Tree) : RootSub t t := ⟨fun _ h => h, fun _ h => h⟩

theorem RootSub.trans {a b c : Tree} (h1 : RootSub a b) (h2 : RootSub b c) : RootSub a c :=
  ⟨fun r hr => h1.1 r (h2.1 r hr), fun s hs => h1.2 s (h2.2 s hs)⟩

/-- Both `tickit_window_close(c)` and the close-and-drop of a child `c` by its dying parent `par` leave the windows
    other than `c` like this (the body of the field `Closed.others`, which is read through it). -/
def OthersSame (t t' : Tree) (c : Nat) (par : Option Nat) : Prop :=
  ∀ (i : Nat) (w : Win), i ≠ c → t.wins[i]? = some w →
    (par ≠ some i ∧ t'.wins[i]? = some w) ∨ (par = some i ∧ t'.wins[i]? = some (unlinkedParent w c))

/-- What `OthersSame` says of one window other than `c`. -/
structure Other (par : Option Nat) (i : Nat) (w w' : Win) : Prop where
  freed : w'.freed = w.freed
  refcount : w'.refcount = w.refcount
  isClosed : w'.isClosed = w.isClosed
  parent : w'.parent = w.parent
  same : par ≠ some i → w' = w

theorem others_same {t t' : Tree} {c : Nat} {par : Option Nat} (h : OthersSame t t' c par)
    {i : Nat} {w : Win} (hi : i ≠ c) (hw : t.wins[i]? = some w) : ∃ w', t'.wins[i]? = some w' ∧ Other par i w w' := by
  rcases h i w hi hw with ⟨hp, h'⟩ | ⟨hp, h'⟩
  · exact ⟨w, h', rfl, rfl, rfl, rfl, fun _ => rfl⟩
  · exact ⟨_, h', rfl, rfl, rfl, rfl, fun hne => absurd hp hne⟩

theorem others_back {t t' : Tree} {c : Nat} {par : Option Nat} (hsz : t'.wins.size = t.wins.size) (h : OthersSame t t' c par)
    {i : Nat} {w' : Win} (hi : i ≠ c) (hw' : t'.wins[i]? = some w') : ∃ w, t.wins[i]? = some w ∧ Other par i w w' := by
  obtain ⟨w, hw⟩ := get_of_size_eq hsz hw'
  obtain ⟨w'', hw'', r⟩ := others_same h hi hw
  rw [hw'] at hw''; cases hw''
  exact ⟨w, hw, r⟩

theorem Other.ev {par : Option Nat} {i : Nat} {w w' : Win} (o : Other par i w w') : WEv w w' :=
  wev_of_fields o.freed o.refcount (fun h => o.isClosed ▸ h)

/-- A step that touches one window: the record of `c` goes from `w` to `w'`, the others are as `OthersSame` says.  What
    a window-by-window relation between the two trees says of `c` is then all that is left to say (`Touch.lift`). -/
structure Touch (t t' : Tree) (c : Nat) (par : Option Nat) (w w' : Win) : Prop where
  size : t'.wins.size = t.wins.size
  was : t.wins[c]? = some w
  now : t'.wins[c]? = some w'
  others : OthersSame t t' c par

section touch
variable {t t' : Tree} {c : Nat} {par : Option Nat} {w w' : Win} (T : Touch t t' c par w w')
include T

/-- What holds of `c` and of a window `OthersSame` speaks of holds of every window. -/
theorem Touch.lift {R : Nat → Win → Win → Prop} (hc : R c w w') (ho : ∀ {i a b}, i ≠ c → Other par i a b → R i a b) :
    WinTree.Lift R t t' :=
  ⟨T.size, fun i a h => by
    by_cases hi : i = c
    · subst hi; cases h.symm.trans T.was; exact ⟨w', T.now, hc⟩
    · exact (others_same T.others hi h).imp fun _ x => ⟨x.1, ho hi x.2⟩⟩

theorem Touch.ev (h : WEv w w') : TEv t t' := T.lift h fun _ => Other.ev

theorem Touch.psub (h : ∀ p, w'.parent = some p → w.parent = some p) : PSub t t' := fun _ _ p hb hp =>
  ((T.lift (R := fun _ a b => ∀ p, b.parent = some p → a.parent = some p) h fun _ o _ hp => o.parent ▸ hp).back hb).imp
    fun _ x => ⟨x.1, x.2 p hp⟩

theorem Touch.live_iff (h : w'.freed = w.freed) (i : Nat) : (∃ a, LiveW t i a) ↔ (∃ b, LiveW t' i b) :=
  have L := T.lift (R := fun _ a b => b.freed = a.freed) h fun _ o => o.freed
  ⟨fun ⟨_, hl⟩ => (L.live (fun _ _ _ r => r) hl).imp fun _ x => x.1, fun ⟨_, hl⟩ => (L.live_back (fun _ _ _ r => r) hl).imp fun _ x => x.1⟩

theorem Touch.conv : ConvOk t t' c [] := ConvOk.nil_of_same fun i a b hi ha hb => by
  obtain ⟨b', hb', o⟩ := others_same T.others hi ha
  cases hb.symm.trans hb'; exact o.refcount

end touch

theorem Calm.psub {t t' : Tree} (C : Calm t t') : PSub t t' :=
  fun _ _ p hw' hp' => let ⟨w, hw, c⟩ := C.back hw'; ⟨w, hw, c.parent p hp'⟩

theorem Closed.touch {t t' : Tree} {win : Nat} {ww : Win} (hw : LiveW t win ww) (C : Closed t t' win ww) :
    Touch t t' win ww.parent ww { ww with parent := none, isClosed := true } := ⟨C.size_eq, hw.1, C.win_now.1, C.others⟩

theorem Closed.calm {t t' : Tree} {win : Nat} {ww : Win} (hw : LiveW t win ww) (C : Closed t t' win ww) : Calm t t' :=
  ⟨C.inv, C.size_eq, ((C.touch hw).lift (R := fun _ => WCalm) ⟨rfl, rfl, fun _ hp => nomatch hp⟩
    fun _ o => ⟨o.freed, o.refcount, fun _ h => o.parent ▸ h⟩).2⟩

theorem Closed.ev {t t' : Tree} {c : Nat} {cw : Win} (hl : LiveW t c cw) (h : Closed t t' c cw) : TEv t t' :=
  (h.touch hl).ev (wev_of_fields rfl rfl (fun _ => rfl))

theorem TInv.set_refcount {t : Tree} (inv : TInv t) {c : Nat} {cw : Win} (hl : LiveW t c cw) (r : Int) :
    TInv (WinTree.set t c { cw with refcount := r }) ∧ TRel t (WinTree.set t c { cw with refcount := r }) :=
  inv.update hl.1 (WRel.refl _)

def droppedChild (cw : Win) : Win := { cw with parent := none, isClosed := true, refcount := cw.refcount - 1 }

/-- The tree `tI` after the dying `x` has closed its child `c` and dropped the reference, before anything follows
    from the new count of `c`. -/
structure Dropped (t tI : Tree) (x c : Nat) (cw : Win) : Prop where
  inv : TInv tI
  win : LiveW tI c (droppedChild cw)
  size : tI.wins.size = t.wins.size
  was : LiveW t c cw
  was_open : cw.isClosed = false
  others : OthersSame t tI c (some x)
  root : RootSub t tI

theorem Dropped.touch {t tI : Tree} {x c : Nat} {cw : Win} (D : Dropped t tI x c cw) :
    Touch t tI c (some x) cw (droppedChild cw) := ⟨D.size, D.was.1, D.win.1, D.others⟩

theorem Dropped.psub {t tI : Tree} {x c : Nat} {cw : Win} (D : Dropped t tI x c cw) : PSub t tI :=
  D.touch.psub fun _ h => nomatch h

/-- `tickit_window_close(child); tickit_window_unref(child)` up to the decrement. -/
theorem closeDec_ok {cfg : Cfg} (h1 : cfg.closePurges = true) (h2 : cfg.dragForgottenOnClose = true)
    {t : Tree} (inv : TInv t) {c x : Nat} {cw : Win} (hl : LiveW t c cw) (hp : cw.parent = some x) :
    ∃ t1, closeT cfg t c = .ok t1 ∧ LiveW t1 c { cw with parent := none, isClosed := true } ∧
      Dropped t (WinTree.set t1 c (droppedChild cw)) x c cw := by
  obtain ⟨t1, hclose, C⟩ := closeT_ok h1 h2 inv hl
  have hnc : cw.isClosed = false := Bool.eq_false_iff.2 fun hcl => by
    have := inv.closed_ok c cw hl hcl; rw [hp] at this; cases this
  refine ⟨t1, hclose, C.win_now, (C.inv.set_refcount C.win_now (cw.refcount - 1)).1, ⟨set_get_self _ C.win_now.lt, hl.2⟩,
    (set_size ..).trans C.size_eq, hl, hnc, fun i w hic hw => ?_, ⟨C.req_sub, C.drag_sub⟩⟩
  rw [set_get_ne _ (Ne.symm hic), ← hp]
  exact C.others i w hic hw

theorem TInv.free {t : Tree} (inv : TInv t) {x : Nat} {xw : Win} (hl : LiveW t x xw)
    (hp : xw.parent = none) (hc : xw.children = []) (hroot : xw.isRoot = true → t.root.dragSource = none ∧ t.root.changes = []) :
    TInv (WinTree.set t x { xw with freed := true }) := by
  have G : ∀ (i : Nat), (WinTree.set t x { xw with freed := true }).wins[i]? =
      if x = i then some { xw with freed := true } else t.wins[i]? := by
    intro i; rw [set_get]; simp [hl.lt]
  have back : ∀ (i : Nat) (w : Win), LiveW (WinTree.set t x { xw with freed := true }) i w → i ≠ x ∧ LiveW t i w := by
    intro i w hl'
    have h := hl'.1
    rw [G] at h
    by_cases hxi : x = i
    · subst hxi
      simp only [if_true, Option.some.injEq] at h
      subst h
      exact absurd hl'.2 (by simp)
    · simp only [hxi, if_false] at h
      exact ⟨fun h' => hxi h'.symm, h, hl'.2⟩
  have fwd : ∀ (i : Nat) (w : Win), i ≠ x → LiveW t i w → LiveW (WinTree.set t x { xw with freed := true }) i w := by
    intro i w hix hl'
    exact ⟨by rw [G, if_neg (Ne.symm hix)]; exact hl'.1, hl'.2⟩
  have reach : ∀ {i a : Nat}, Reach t i a → Reach (WinTree.set t x { xw with freed := true }) i a := by
    intro i a hr
    refine Reach.mono ?_ hr
    intro j w p hw hpp
    by_cases hxj : x = j
    · subst hxj
      cases hw.symm.trans hl.1
      rw [hp] at hpp; cases hpp
    · exact ⟨w, by rw [G, if_neg hxj]; exact hw, hpp⟩
  refine .of_parts ?_ (fun i w h hr => ?_) (inv.linked.free hl hp hc) (fun i w hl' => inv.wok (back i w hl').2)
    (fun r hr => ?_) (fun s hs => ?_)
  · obtain ⟨r, h0, hr, hpr⟩ := inv.root_ex
    by_cases hx0 : x = 0
    · subst hx0
      cases h0.symm.trans hl.1
      exact ⟨{ xw with freed := true }, by rw [G, if_pos rfl], hr, hpr⟩
    · exact ⟨r, by rw [G, if_neg hx0]; exact h0, hr, hpr⟩
  · rw [G] at h
    by_cases hxi : x = i
    · subst hxi
      simp only [if_true, Option.some.injEq] at h; subst h
      exact inv.only_root _ xw hl.1 hr
    · simp only [hxi, if_false] at h
      exact inv.only_root i w h hr
  · obtain ⟨hk, w, hlw, hpr, hreach⟩ := inv.req_ok r hr
    have hrx : r.win ≠ x := by
      intro h
      rw [h] at hlw
      have := WinTree.Live.unique hlw hl; subst this
      rw [hp] at hpr; cases hpr
    exact ⟨hk, w, fwd r.win w hrx hlw, hpr, reach hreach⟩
  · obtain ⟨w, hlw, hreach⟩ := inv.drag_ok s hs
    have hsx : s ≠ x := by
      intro h; subst h
      have := WinTree.Live.unique hlw hl; subst this
      -- a drag source is below the root; an unlinked window is below the root only if it is the root
      have h0 := hreach.eq_of_no_parent hl.1 hp
      subst h0
      obtain ⟨r, h0', hr, _⟩ := inv.root_ex
      cases h0'.symm.trans hl.1
      have hs' : t.root.dragSource = some 0 := hs
      rw [(hroot hr).1] at hs'; cases hs'
    exact ⟨w, fwd s w hsx hlw, reach hreach⟩

/-- Only the windows above `x`: the cascade touches descendants of `x`, which are younger. -/
def RCabove (t : Tree) (x : Nat) : Prop := ∀ (i : Nat) (w : Win), x < i → LiveW t i w → 1 ≤ w.refcount

theorem RCabove.ev {t t' : Tree} {x : Nat} (h : RCabove t x) (e : TEv t t') : RCabove t' x := by
  intro i w' hxi hl'
  obtain ⟨w, hl, ev⟩ := e.live_back hl'
  exact ev.rc_pos hl'.2 (h i w hxi hl)

/-- What the children loop of the dying `x` has done so far. -/
structure Loop (t t' : Tree) (x : Nat) (dead dropped : List Nat) : Prop where
  inv : TInv t'
  ev : TEv t t'
  psub : PSub t t'
  reach : ∀ (i : Nat), i ∈ dead ∨ i ∈ dropped → Reach t i x
  dead : DeadOk t t' dead
  drop : DropOk t t' x dropped
  conv : ConvOk t t' x dropped
  root : RootSub t t'

/-- What a cascade started at `x` leaves behind: the loop and the final step have run, `x` is freed, and of the older
    windows only its parent has changed. -/
structure Casc (t t' : Tree) (x : Nat) (xw : Win) (dead dropped : List Nat) : Prop where
  loop : Loop t t' x dead dropped
  freed : ∃ w', t'.wins[x]? = some w' ∧ w'.freed = true
  /-- `OthersSame t t' x xw.parent` for the older windows -/
  below : ∀ (i : Nat) (w : Win), i < x → t.wins[i]? = some w →
    (xw.parent ≠ some i ∧ t'.wins[i]? = some w) ∨ (xw.parent = some i ∧ t'.wins[i]? = some (unlinkedParent w x))

theorem Casc.drag_sub {t t' : Tree} {x : Nat} {xw : Win} {dead dropped : List Nat} (self : Casc t t' x xw dead dropped) :
    ∀ (s : Nat), t'.root.dragSource = some s → t.root.dragSource = some s := self.loop.root.2

theorem Loop.refl {t : Tree} (inv : TInv t) (x : Nat) : Loop t t x [] [] :=
  ⟨inv, TEv.refl t, PSub.refl t, fun _ hi => hi.elim (fun h => nomatch h) (fun h => nomatch h),
    DeadOk.nil (fun _ w h => ⟨w, h⟩), DropOk.nil _ _ _,
    ConvOk.nil_of_same (fun _ w w' _ hw hw' => by rw [hw] at hw'; cases hw'; rfl), RootSub.refl t⟩

theorem Loop.trans {a b c : Tree} {x : Nat} {d1 d2 r1 r2 : List Nat} (h1 : Loop a b x d1 r1) (h2 : Loop b c x d2 r2) :
    Loop a c x (d1 ++ d2) (r1 ++ r2) :=
  ⟨h2.inv, h1.ev.trans h2.ev, h1.psub.trans h2.psub,
    fun i hi => (by
      rw [List.mem_append, List.mem_append] at hi
      rcases hi with (h | h) | (h | h)
      · exact h1.reach i (.inl h)
      · exact h1.psub.reach (h2.reach i (.inl h))
      · exact h1.reach i (.inr h)
      · exact h1.psub.reach (h2.reach i (.inr h))),
    DeadOk.append h1.ev h2.ev h1.dead h2.dead, DropOk.append h1.ev h2.ev h1.drop h2.drop,
    ConvOk.append h1.ev h2.ev h1.conv h2.conv, h1.root.trans h2.root⟩

/-- The statement of `destroyT_ok`.  Children have larger numbers than their parent, so the budget may shrink as `c` grows:
    `chainFuel t` serves at any `c`, and `RCabove` follows from counts ≥ 1 everywhere (`unrefT_ok`). -/
def DestroyIH (cfg : Cfg) (fuel : Nat) : Prop :=
  ∀ (t : Tree) (c : Nat) (cw : Win), TInv t → LiveW t c cw → t.wins.size + 1 ≤ fuel + c → RCabove t c →
    ∃ t' dead dropped, destroyT cfg fuel t c = .ok (t', dead, dropped) ∧ Casc t t' c cw dead dropped

/-- What follows the decrement of a dropped child `c`: nothing if somebody else still holds it, its destruction
    otherwise. -/
theorem dropped_child_rest {cfg : Cfg} {fuel : Nat} (IH : DestroyIH cfg fuel) {tI : Tree} {c : Nat} {cw : Win}
    (inv : TInv tI) (hl : LiveW tI c (droppedChild cw)) (hr1 : 1 ≤ cw.refcount) (hrc : RCabove tI c)
    (hsize : tI.wins.size + 1 ≤ fuel + c) :
    ∃ t2 dc dr, (if cw.refcount - 1 = 0 then destroyT cfg fuel tI c else pure (tI, [], [])) = .ok (t2, dc, dr) ∧
      Loop tI t2 c dc dr ∧
      (∃ w', t2.wins[c]? = some w' ∧ (w'.freed = true ∨ (w' = droppedChild cw ∧ 1 ≤ cw.refcount - 1))) ∧
      (∀ (i : Nat) (w : Win), i < c → tI.wins[i]? = some w → t2.wins[i]? = some w) := by
  by_cases hz : cw.refcount - 1 = 0
  · obtain ⟨t2, dc, dr, hd, C⟩ := IH tI c _ inv hl hsize hrc
    refine ⟨t2, dc, dr, by rw [if_pos hz]; exact hd, C.loop, C.freed.imp fun _ h => ⟨h.1, .inl h.2⟩, fun i w hi hw => ?_⟩
    rcases C.below i w hi hw with ⟨_, h⟩ | ⟨h, _⟩
    · exact h
    · cases h
  · exact ⟨tI, [], [], by rw [if_neg hz]; rfl, Loop.refl inv c, ⟨_, hl.1, .inr ⟨rfl, by omega⟩⟩, fun _ _ _ h => h⟩

/-- `hcase`: after what followed the decrement `c` is freed, or as the decrement left it with somebody else holding it. -/
theorem Dropped.loop {t tI t2 : Tree} {x c : Nat} {cw wc : Win} {dc dr : List Nat} (D : Dropped t tI x c cw) (hxc : x < c)
    (hcp : cw.parent = some x) (L2 : Loop tI t2 c dc dr) (hwc : t2.wins[c]? = some wc)
    (hcase : wc.freed = true ∨ (wc = droppedChild cw ∧ 1 ≤ cw.refcount - 1)) : Loop t t2 x dc (c :: dr) := by
  have hcl := D.was
  have hreachc : Reach t c x := .step hcl.1 hcp (.refl x)
  refine ⟨L2.inv, ⟨L2.ev.1.trans D.size, fun i w hw => ?_⟩, D.psub.trans L2.psub, fun i hi => ?_,
    L2.dead.of_live_iff (D.touch.live_iff rfl), ?_, ?_, D.root.trans L2.root⟩
  ·
    by_cases hic : i = c
    · subst hic
      cases hw.symm.trans hcl.1
      refine ⟨wc, hwc, ?_⟩
      rcases hcase with hf | ⟨rfl, hge⟩
      · exact WEv.of_freed hf (fun h => by rw [D.was_open] at h; cases h)
      · exact ⟨id, fun _ _ => hge, fun _ => .inr ⟨Int.sub_add_cancel .., D.was_open, rfl⟩, fun _ => rfl⟩
    · obtain ⟨w1, hw1, o⟩ := others_same D.others hic hw
      obtain ⟨w2, hw2, e⟩ := L2.ev.2 i w1 hw1
      exact ⟨w2, hw2, o.ev.trans e⟩
  · by_cases hic : i = c
    · exact hic ▸ hreachc
    · have : i ∈ dc ∨ i ∈ dr := hi.imp id (fun h => (List.mem_cons.1 h).resolve_left hic)
      exact (D.psub.reach (L2.reach i this)).trans hreachc
  ·
    refine ⟨List.nodup_cons.2 ⟨fun hm => Nat.lt_irrefl _ (L2.drop.above hm), L2.drop.nodup⟩, fun i hi => ?_⟩
    rcases List.mem_cons.1 hi with rfl | hi
    · refine ⟨hxc, ⟨cw, hcl, D.was_open⟩, fun w w' hw hw' hf' => ?_⟩
      cases hw.symm.trans hcl.1
      rw [hwc] at hw'; cases hw'
      rcases hcase with hf | ⟨rfl, _⟩
      · rw [hf] at hf'; cases hf'
      · exact ⟨Int.sub_add_cancel .., rfl⟩
    · have hci := L2.drop.above hi
      obtain ⟨w1, hl1i, hn1⟩ := L2.drop.was_open hi
      obtain ⟨w0, hw0, o⟩ := others_back D.size D.others (Nat.ne_of_gt hci) hl1i.1
      refine ⟨Nat.lt_trans hxc hci, ⟨w0, ⟨hw0, o.freed.symm.trans hl1i.2⟩, o.isClosed.symm.trans hn1⟩, fun w w' hw hw' hf' => ?_⟩
      rw [hw0] at hw; cases hw
      exact o.refcount ▸ L2.drop.count hi hl1i.1 hw' hf'
  ·
    intro i w w' hix hw hw' hf hni
    rw [List.mem_cons, not_or] at hni
    obtain ⟨w1, hw1, o⟩ := others_same D.others hni.1 hw
    rw [L2.conv i w1 w' hni.1 hw1 hw' hf hni.2, o.refcount]

theorem destroy_child_step {cfg : Cfg} (h1 : cfg.closePurges = true) (h2 : cfg.dragForgottenOnClose = true)
    (h3 : cfg.destroyClosesChildren = true) {fuel : Nat} (IH : DestroyIH cfg fuel)
    {tk : Tree} (inv : TInv tk) {x c : Nat} {xk : Win} (hx : LiveW tk x xk) (hc : c ∈ xk.children)
    (hrc : RCabove tk x) (hsize : tk.wins.size + 1 ≤ fuel + 1 + x) (deadk dropk : List Nat) :
    ∃ t2 dc dr, destroyStep cfg (unrefTWith (destroyT cfg fuel)) (tk, deadk, dropk) c = .ok (t2, deadk ++ dc, dropk ++ dr) ∧
      Loop tk t2 x dc dr ∧ t2.wins[x]? = some (unlinkedParent xk c) ∧
      (∀ (i : Nat) (w : Win), i < x → tk.wins[i]? = some w → t2.wins[i]? = some w) := by
  obtain ⟨cw, hcl, hcp⟩ := inv.child_ok x xk hx c hc
  obtain ⟨hxc, _⟩ := inv.parent_ok c cw hcl x hcp
  have hr1 : 1 ≤ cw.refcount := hrc c cw hxc hcl
  obtain ⟨t1, hclose, hl1, D⟩ := closeDec_ok h1 h2 inv hcl hcp
  have hcomp : destroyStep cfg (unrefTWith (destroyT cfg fuel)) (tk, deadk, dropk) c =
      (do let r ← (if cw.refcount - 1 = 0 then destroyT cfg fuel (WinTree.set t1 c (droppedChild cw)) c
                   else pure (WinTree.set t1 c (droppedChild cw), [], []))
          pure (r.1, deadk ++ r.2.1, dropk ++ (c :: r.2.2))) := by
    have hge : ¬ (cw.refcount < 1) := by omega
    unfold destroyStep
    simp only [get_live hcl, bind_ok, h3, if_true, hclose]
    unfold unrefTWith
    simp only [get_live hl1, bind_ok, hge, if_false]
    rfl
  rw [hcomp]
  generalize WinTree.set t1 c (droppedChild cw) = tI at D ⊢
  -- above `c` the tree is that of `tk`
  have hrcI : RCabove tI c := fun i w hci hl => by
    obtain ⟨w0, hw0, o⟩ := others_back D.size D.others (Nat.ne_of_gt hci) hl.1
    exact o.refcount ▸ hrc i w0 (Nat.lt_trans hxc hci) ⟨hw0, o.freed.symm.trans hl.2⟩
  obtain ⟨t2, dc, dr, hrest, L2, ⟨wc, hwc, hcase⟩, below2⟩ := dropped_child_rest IH D.inv D.win hr1 hrcI (by rw [D.size]; omega)
  have hx2 : t2.wins[x]? = some (unlinkedParent xk c) := by
    rcases D.others x xk (Nat.ne_of_lt hxc) hx.1 with ⟨h, _⟩ | ⟨_, h⟩
    · exact absurd rfl h
    · exact below2 x _ hxc h
  refine ⟨t2, dc, c :: dr, by rw [hrest]; rfl, D.loop hxc hcp L2 hwc hcase, hx2, fun i w hi hw => ?_⟩
  · have hic := Nat.lt_trans hi hxc
    obtain ⟨w1, hw1, o⟩ := others_same D.others (Nat.ne_of_lt hic) hw
    rw [o.same (fun h => Nat.ne_of_gt hi (Option.some.inj h))] at hw1
    exact below2 i w hic hw1

theorem destroy_loop {cfg : Cfg} (h1 : cfg.closePurges = true) (h2 : cfg.dragForgottenOnClose = true)
    (h3 : cfg.destroyClosesChildren = true) {fuel : Nat} (IH : DestroyIH cfg fuel) (x : Nat) :
    ∀ (cs : List Nat) (tk : Tree) (deadk dropk : List Nat) (xk : Win),
      TInv tk → LiveW tk x xk → xk.children = cs → RCabove tk x → tk.wins.size + 1 ≤ fuel + 1 + x →
      ∃ t' dead' drop', cs.foldlM (destroyStep cfg (unrefTWith (destroyT cfg fuel))) (tk, deadk, dropk) =
          .ok (t', deadk ++ dead', dropk ++ drop') ∧ Loop tk t' x dead' drop' ∧
        (∃ xk', LiveW t' x xk' ∧ xk'.children = [] ∧ xk'.parent = xk.parent) ∧
        (∀ (i : Nat) (w : Win), i < x → tk.wins[i]? = some w → t'.wins[i]? = some w)
  | [], tk, deadk, dropk, xk, inv, hx, hcs, _, _ =>
    ⟨tk, [], [], by rw [List.foldlM_nil, List.append_nil, List.append_nil]; rfl, Loop.refl inv x, ⟨xk, hx, hcs, rfl⟩, fun _ _ _ h => h⟩
  | c :: rest, tk, deadk, dropk, xk, inv, hx, hcs, hrc, hsize => by
    obtain ⟨t2, dc, dr, hstep, L2, hx2, hb2⟩ := destroy_child_step h1 h2 h3 IH inv hx (hcs ▸ List.mem_cons_self) hrc hsize deadk dropk
    have hrest : (unlinkedParent xk c).children = rest := by
      show xk.children.erase c = rest
      rw [hcs]; exact List.erase_cons_head c rest
    obtain ⟨t', dead', drop', hfold, L', X, hb'⟩ := destroy_loop h1 h2 h3 IH x rest t2 (deadk ++ dc) (dropk ++ dr)
      (unlinkedParent xk c) L2.inv ⟨hx2, hx.2⟩ hrest (hrc.ev L2.ev) (by rw [L2.ev.1]; exact hsize)
    refine ⟨t', dc ++ dead', dr ++ drop', ?_, L2.trans L', X, fun i w hi hw => hb' i w hi (hb2 i w hi hw)⟩
    rw [List.foldlM_cons, hstep]
    simp only [bind_ok]
    rw [hfold, List.append_assoc, List.append_assoc]

/-- `if(win->parent) _purge_hierarchy_changes(win);` -/
theorem purgeIfLinked_ok {cfg : Cfg} (h1 : cfg.closePurges = true) (h2 : cfg.dragForgottenOnClose = true)
    {t : Tree} (inv : TInv t) {x : Nat} {xw : Win} (hl : LiveW t x xw) :
    ∃ tP, purgeIfLinked cfg t x xw = .ok tP ∧ tP.wins = t.wins ∧ TInv tP ∧ RootSub t tP := by
  unfold purgeIfLinked
  split
  · obtain ⟨tP, hp, P⟩ := purge_ok h1 h2 inv hl
    exact ⟨tP, hp, P.wins_eq, P.inv, fun r hr => (P.req_sub r hr).1, fun s hs => (P.drag_sub s hs).1⟩
  · exact ⟨t, rfl, rfl, inv, RootSub.refl t⟩

/-- `if(!win->is_closed) tickit_window_close(win);`: on a closed window a `Closed` step that does nothing. -/
theorem closeIfOpen_ok {cfg : Cfg} (h1 : cfg.closePurges = true) (h2 : cfg.dragForgottenOnClose = true)
    {t : Tree} (inv : TInv t) {x : Nat} {xw : Win} (hl : LiveW t x xw) :
    ∃ tC, closeIfOpen cfg t x xw = .ok tC ∧ Closed t tC x xw := by
  unfold closeIfOpen
  cases hcl : xw.isClosed with
  | false =>
    simp only [Bool.not_false, if_true]
    exact closeT_ok h1 h2 inv hl
  | true =>
    have hpn := inv.closed_ok x xw hl hcl
    have e : ({ xw with parent := none, isClosed := true } : Win) = xw := by
      cases xw; simp only at hpn hcl; subst hpn hcl; rfl
    exact ⟨t, rfl, inv, rfl, e.symm ▸ hl, fun i w _ hw => .inl ⟨by rw [hpn]; simp, hw⟩, fun _ h => h, fun _ h => h⟩

/-- `if(win->is_root) { … }`: the root record forgets everything. -/
theorem rootCleanupIf_ok {cfg : Cfg} (h1 : cfg.closePurges = true) {t : Tree} (inv : TInv t) (w : Win) :
    TInv (rootCleanupIf cfg t w) ∧ (rootCleanupIf cfg t w).wins = t.wins ∧
    (w.isRoot = true → (rootCleanupIf cfg t w).root.dragSource = none ∧ (rootCleanupIf cfg t w).root.changes = []) ∧
    RootSub t (rootCleanupIf cfg t w) := by
  unfold rootCleanupIf
  by_cases hr : w.isRoot = true
  · simp only [hr, if_true, rootCleanup, h1]
    exact ⟨inv.of_rel (t' := clearDrag (setChanges t [])) (trel_of_wins rfl) (fun _ h => nomatch h) (fun _ h => nomatch h),
      rfl, fun _ => ⟨rfl, rfl⟩, fun _ h => (nomatch h), fun _ h => (nomatch h)⟩
  · rw [if_neg hr]
    exact ⟨inv, rfl, fun h => absurd h hr, RootSub.refl t⟩

/-- The last step of a dying window `x`, as a `Loop`: `x` is freed and no other window touched. -/
theorem Loop.final {t t' : Tree} {x : Nat} {par : Option Nat} {w w' : Win} (T : Touch t t' x par w w') (inv' : TInv t')
    (hl : w.freed = false) (hf : w'.freed = true) (hc : w.isClosed = true → w'.isClosed = true) (hp : w'.parent = none)
    (hroot : RootSub t t') : Loop t t' x [x] [] :=
  ⟨inv', T.ev (WEv.of_freed hf hc), T.psub (fun _ h => by rw [hp] at h; cases h),
    fun i hi => hi.elim (fun h => by rw [List.mem_singleton.1 h]; exact .refl _) (fun h => nomatch h),
    DeadOk.single ⟨T.was, hl⟩ T.size ⟨_, T.now, hf⟩
      (fun _ _ hi hw => (others_same T.others hi hw).imp fun _ h => ⟨h.1, h.2.freed⟩),
    DropOk.nil _ _ x, T.conv, hroot⟩

/-- `tickit_window_destroy` after the repairs: it always completes, and leaves a consistent tree. -/
theorem destroyT_ok {cfg : Cfg} (h1 : cfg.closePurges = true) (h2 : cfg.dragForgottenOnClose = true)
    (h3 : cfg.destroyClosesChildren = true) : ∀ (fuel : Nat), DestroyIH cfg fuel := by
  intro fuel
  induction fuel with
  | zero =>
    intro t x xw _ hl hsz _
    have := hl.lt; omega
  | succ fuel IH =>
    intro t x xw inv hl hsz hrc
    obtain ⟨tL, deadL, dropL, hfold, L, ⟨xL, hxL, hchL, hpL⟩, hbelowL⟩ :=
      destroy_loop h1 h2 h3 IH x xw.children t [] [] xw inv hl rfl hrc (by omega)
    obtain ⟨tP, hP, hPw, invP, hrootP⟩ := purgeIfLinked_ok h1 h2 L.inv hxL
    have hxP : LiveW tP x xL := WinTree.Live.of_wins hPw hxL
    obtain ⟨tC, hC, C⟩ := closeIfOpen_ok h1 h2 invP hxP
    obtain ⟨invR, hRw, hRroot, hrootR⟩ := rootCleanupIf_ok h1 C.inv { xL with parent := none, isClosed := true }
    have hxR := WinTree.Live.of_wins hRw C.win_now
    -- from the end of the loop to the end only `x` is touched
    have T : Touch tL (WinTree.set (rootCleanupIf cfg tC { xL with parent := none, isClosed := true }) x
        { xL with parent := none, isClosed := true, freed := true }) x xL.parent xL _ :=
      ⟨by rw [set_size, hRw, C.size_eq, hPw], hxL.1, set_get_self _ hxR.lt,
        fun i w hix hw => by rw [set_get_ne _ (Ne.symm hix), hRw]; exact C.others i w hix (by rw [hPw]; exact hw)⟩
    have LT := L.trans (Loop.final T (invR.free hxR rfl hchL hRroot) hxL.2 rfl (fun _ => rfl) rfl
      ((hrootP.trans ⟨C.req_sub, C.drag_sub⟩).trans hrootR))
    rw [List.append_nil] at LT
    refine ⟨_, deadL ++ [x], dropL, ?_, LT, ⟨_, T.now, rfl⟩, fun i w hix hw => ?_⟩
    · unfold destroyT destroyTWith
      simp only [get_live hl, bind_ok, hfold, List.nil_append, get_live hxL, hP, get_live hxP, hC, get_live C.win_now, pure_ok]
    · rw [← hpL]
      exact T.others i w (Nat.ne_of_lt hix) (hbelowL i w hix hw)

end Tickit.Life
