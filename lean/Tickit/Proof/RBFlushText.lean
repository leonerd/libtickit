import Tickit.Model.RBFlush
import Tickit.Proof.RBUtf8
/-
  C04: `next_utf8` reads only the bytes of the sequence it returns, so a character decodes the same inside a string,
  inside a slice of it, and on its own (C07's facts, through C03's `nextUtf8_eq`); the terminal's reading of a
  concatenation of characters (`SelfDec`, `Decoded`: the vocabulary of RBFlushPrint and RBFlushCount).
  With Model/Utf8.lean in scope `Utf8.x` inside `namespace Tickit.…` means `Tickit.Utf8.x`: the render buffer's is
  written `RB.Utf8.x` from here on.
-/
namespace Tickit.RBFlush
open Tickit.RB Tickit.RB.Utf8

theorem byteAt_append_right (pre s : List UInt8) (k : Nat) : byteAt (pre ++ s) (pre.length + k) = byteAt s k := by
  unfold byteAt
  rw [List.getD_eq_getElem?_getD, List.getD_eq_getElem?_getD, List.getElem?_append_right (by omega),
    Nat.add_sub_cancel_left]

theorem byteAt_append_left (s post : List UInt8) (k : Nat) (h : k < s.length) : byteAt (s ++ post) k = byteAt s k := by
  unfold byteAt
  rw [List.getD_eq_getElem?_getD, List.getD_eq_getElem?_getD, List.getElem?_append_left h]

theorem byteAt_take_drop (s : List UInt8) (i n k : Nat) (h : k < n) : byteAt ((s.drop i).take n) k = byteAt s (i + k) := by
  unfold byteAt
  rw [List.getD_eq_getElem?_getD, List.getD_eq_getElem?_getD, List.getElem?_take, if_pos h, List.getElem?_drop]

theorem lt_length_of_byteAt_ne_zero (s : List UInt8) (i : Nat) (h : byteAt s i ≠ 0) : i < s.length := by
  unfold byteAt at h
  rw [List.getD_eq_getElem?_getD] at h
  by_cases hi : i < s.length
  · exact hi
  · rw [List.getElem?_eq_none (by omega)] at h
    simp at h

theorem ok_of_some {s : List UInt8} {i : Nat} {len : Option Nat} {d : Dec} (h : nextUtf8 s i len = some d) :
    ∃ hi, Tickit.Utf8.nextUtf8 (memOf s) i len = .ok d.n d.cp hi := by
  rw [nextUtf8_eq] at h
  cases hd : Tickit.Utf8.nextUtf8 (memOf s) i len with
  | err hi => rw [hd] at h; cases h
  | ok n cp hi => rw [hd] at h; cases h; exact ⟨hi, rfl⟩

theorem nextUtf8_congr (s1 s2 : List UInt8) (i1 i2 : Nat) (len1 len2 : Option Nat) (d : Dec)
    (h : nextUtf8 s1 i1 len1 = some d)
    (hb : ∀ k, k < d.n → byteAt s2 (i2 + k) = byteAt s1 (i1 + k))
    (hl : ∀ l, len2 = some l → d.n ≤ l) :
    nextUtf8 s2 i2 len2 = some d := by
  obtain ⟨hi, h1⟩ := ok_of_some h
  rw [nextUtf8_eq, Tickit.Utf8.nextUtf8_congr (mem' := memOf s2) (p' := i2) h1 hb hl]; rfl

theorem nextUtf8_some_props (s : List UInt8) (i : Nat) (len : Option Nat) (d : Dec)
    (h : nextUtf8 s i len = some d) : 1 ≤ d.n ∧ d.n ≤ 4 ∧ ∀ k, k < d.n → byteAt s (i + k) ≠ 0 := by
  obtain ⟨hi, h1⟩ := ok_of_some h
  obtain ⟨hl, h0⟩ := Tickit.Utf8.nextUtf8_ok_inv h1
  have hr := Tickit.Utf8.nextUtf8_reads (memOf s) i len hl h0
  rw [h1] at hr
  exact ⟨hr.2.1, Tickit.Utf8.nextUtf8_ok_le h1, fun k hk => hr.2.2.2 (i + k) (Nat.le_add_right ..) (Nat.add_lt_add_left hk i)⟩

theorem nextUtf8_some_le_length (s : List UInt8) (i : Nat) (len : Option Nat) (d : Dec)
    (h : nextUtf8 s i len = some d) : i + d.n ≤ s.length := by
  obtain ⟨h1, _, h3⟩ := nextUtf8_some_props s i len d h
  have := lt_length_of_byteAt_ne_zero s (i + (d.n - 1)) (h3 (d.n - 1) (by omega))
  omega

theorem wcwidth_range (cp : Nat) : wcwidth cp = -1 ∨ wcwidth cp = 0 ∨ wcwidth cp = 1 ∨ wcwidth cp = 2 :=
  wcwidth_eq cp ▸ Tickit.Utf8.wcwidth_range cp

/-- The bytes of the character decode to its code point, all consumed. -/
def SelfDec (c : Ch) : Prop := nextUtf8 c.bytes 0 (some c.bytes.length) = some ⟨c.bytes.length, c.cp⟩

/-- The width clause of `termDecode`: a code point without a width takes one column. -/
def termWidth (cp : Nat) : Int := if wcwidth cp < 0 then 1 else wcwidth cp

theorem SelfDec.length_pos {c : Ch} (h : SelfDec c) : 1 ≤ c.bytes.length :=
  (nextUtf8_some_props _ _ _ _ h).1

/-- A character as `decodeFrom` delivers it. -/
structure Decoded (c : Ch) : Prop where
  selfDec : SelfDec c
  width_eq : c.width = wcwidth c.cp
  width012 : c.width = 0 ∨ c.width = 1 ∨ c.width = 2

theorem Decoded.width_nonneg {c : Ch} (h : Decoded c) : 0 ≤ c.width := by
  have := h.width012; omega

theorem flatMap_bytes_length_ge (cs : List Ch) (h : ∀ c ∈ cs, SelfDec c) :
    cs.length ≤ (cs.flatMap (·.bytes)).length := by
  induction cs with
  | nil => simp
  | cons c cs ih =>
    obtain ⟨hc, h'⟩ := List.forall_mem_cons.1 h
    have := hc.length_pos
    have := ih h'
    simp only [List.flatMap_cons, List.length_append, List.length_cons]
    omega

theorem termDecode_flatten (cs : List Ch) (h : ∀ c ∈ cs, SelfDec c) :
    ∀ (pre : List UInt8) (fuel : Nat), cs.length < fuel →
      GridTerm.termDecode (pre ++ cs.flatMap (·.bytes)) fuel pre.length =
        cs.map fun c => ⟨c.bytes, c.cp, termWidth c.cp⟩ := by
  induction cs with
  | nil =>
    intro pre fuel hf
    cases fuel with
    | zero => omega
    | succ f =>
      unfold GridTerm.termDecode
      simp
  | cons c cs ih =>
    intro pre fuel hf
    cases fuel with
    | zero => simp at hf
    | succ f =>
      obtain ⟨hc, h'⟩ := List.forall_mem_cons.1 h
      have hpos := hc.length_pos
      unfold GridTerm.termDecode
      simp only [List.flatMap_cons, List.length_append, List.map_cons]
      rw [if_neg (by omega)]
      have hdec : nextUtf8 (pre ++ (c.bytes ++ cs.flatMap (·.bytes))) pre.length
          (some (pre.length + (c.bytes.length + (cs.flatMap (·.bytes)).length) - pre.length)) =
          some ⟨c.bytes.length, c.cp⟩ := by
        apply nextUtf8_congr c.bytes _ 0 pre.length (some c.bytes.length) _ _ hc
        · intro k hk
          simp only at hk
          rw [byteAt_append_right, byteAt_append_left _ _ _ hk, Nat.zero_add]
        · intro l hl
          simp only [Option.some.injEq] at hl
          simp only
          omega
      rw [hdec]
      simp only [List.drop_left, List.take_left]
      congr 1
      have := ih h' (pre ++ c.bytes) f (by simp at hf; omega)
      rw [List.append_assoc, List.length_append] at this
      exact this

end Tickit.RBFlush
