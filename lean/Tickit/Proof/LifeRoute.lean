import Tickit.Proof.LifeWalk
import Tickit.Proof.LifeCount
/-
  C08: the input routing (`_handle_key`, `_handle_mouse`: Model/Life.lean) walked once, for any account of the references
  its frames hold.

  `Frames cfg` is such an account: an invariant `I t st` indexed by the tally `t` of the references the frames hold at
  that moment, a relation `R` between the states of the walk, and what each primitive step of the routing does to them
  (`tickit_window_ref` / `_unref` of the frame's own window, `run_events_whilefalse`, the counted snapshot of the
  children, the counted return of `_handle_mouse`).  `handleKey_walk` and `handleMouse_walk` hold for every such account.
  Proof/LifeKeys.lean gives the one for handlers that free nothing (`keepFrames`), Proof/LifeFrames.lean the one for
  handlers with any actions (`anyFrames`).
-/
namespace Tickit.Life
open WinTree (Id Win Req Change Tree)

theorem Post.pair {α β : Type} {x : Out (α × β)} {Q : α × β → Prop} (h : Post x Q) : ∃ a b, x = .ok (a, b) ∧ Q (a, b) :=
  let ⟨r, e, q⟩ := h; ⟨r.1, r.2, e, q⟩

theorem isShownW_post {st : St} (inv : TInv st.tree) {w : Nat} {ww : Win} (hw : LiveW st.tree w ww) :
    Post (isShownW st w) fun _ => True :=
  let ⟨b, hb⟩ := isShown_ok inv w ww hw _ (chainFuel_gt hw); ⟨b, hb, trivial⟩

/-- The last lines of `run_events_whilefalse` on the window's record `x0`: `is_iterating` restored to `was`, tombstones swept
    if this was the outermost walk. -/
theorem swept (was : Bool) (x0 : WinX) :
    let x1 : WinX := { x0 with iterating := was }
    let x : WinX := if (!was && x1.needsDelete) = true then { x1 with binds := x1.binds.filter (fun b => b.id ≠ -1), needsDelete := false } else x1
    x.pen = x0.pen ∧ x.appRefs = x0.appRefs ∧ ∀ b ∈ x.binds, b ∈ x0.binds := by
  intro x1 x
  by_cases h : (!was && x1.needsDelete) = true
  · have e : x = { x1 with binds := x1.binds.filter (fun b => b.id ≠ -1), needsDelete := false } := if_pos h
    rw [e]; exact ⟨rfl, rfl, fun _ hb => (List.mem_filter.1 hb).1⟩
  · have e : x = x1 := if_neg h
    rw [e]; exact ⟨rfl, rfl, fun _ hb => hb⟩

/-- `kStage1`..`kStage4`: the join points of the `do` block of `handleKeyBody` after `_handle_key` has referenced its window. -/
def kStage4 (cfg : Cfg) (win : Id) (r4 : St × Bool) : Out (St × Bool) := do
  let st ← unrefW cfg r4.1 win
  pure (st, r4.2)

def kStage3 (cfg : Cfg) (recK : St → Id → Out (St × Bool)) (win : Id) (r3 : St × Bool) : Out (St × Bool) :=
  if r3.2 then kStage4 cfg win (r3.1, true) else do
    let sn ← refChildren r3.1 win
    let h ← keyLoop recK win sn.1 sn.2
    let st ← unrefChildren cfg h.1 sn.2
    kStage4 cfg win (st, h.2)

def kStage2 (cfg : Cfg) (recK : St → Id → Out (St × Bool)) (win : Id) (r2 : St × Bool) : Out (St × Bool) :=
  if r2.2 then kStage3 cfg recK win (r2.1, true) else do
    let shown ← isShownW r2.1 win
    if shown then do
      let r3 ← runBinds cfg r2.1 win .key (logKey win)
      kStage3 cfg recK win r3
    else kStage3 cfg recK win (r2.1, false)

def kStage1 (cfg : Cfg) (recK : St → Id → Out (St × Bool)) (win : Id) (r1 : St × Bool) : Out (St × Bool) :=
  if r1.2 then kStage2 cfg recK win (r1.1, true) else do
    let w ← getW r1.1 win
    match w.focusedChild with
    | some fc => do
      let r2 ← recK r1.1 fc
      kStage2 cfg recK win r2
    | none => kStage2 cfg recK win (r1.1, false)

theorem handleKeyBody_eq (cfg : Cfg) (recK : St → Id → Out (St × Bool)) (st : St) (win : Id) :
    handleKeyBody cfg recK st win = (do
      let shown ← isShownW st win
      if !shown then pure (st, false)
      else do
        let st ← refW st win
        let w ← getW st win
        match w.children.head? with
        | some fc => do
          let fcw ← getW st fc
          if fcw.stealInput then do
            let r1 ← recK st fc
            kStage1 cfg recK win r1
          else kStage1 cfg recK win (st, false)
        | none => kStage1 cfg recK win (st, false)) := by
  rfl

/-- The end of the body of `_handle_mouse` (the join point of its `do` block): the frame's own reference goes. -/
def mStage2 (cfg : Cfg) (win : Id) (r2 : St × Option Id) : Out (St × Option Id) := do
  let st ← unrefW cfg r2.1 win
  pure (st, r2.2)

theorem handleMouseBody_eq (cfg : Cfg) (recM : St → Id → Mouse → Out (St × Option Id)) (st : St) (win : Id) (info : Mouse) :
    handleMouseBody cfg recM st win info = (do
      let shown ← isShownW st win
      if !shown then pure (st, none)
      else do
        let st ← refW st win
        let sn ← refChildren st win
        let r ← mouseLoop recM win info sn.1 sn.2
        let st ← unrefChildren cfg r.1 sn.2
        if r.2.isSome then mStage2 cfg win (st, r.2) else do
          let shown ← isShownW st win
          if shown then do
            let h ← runBinds cfg st win .mouse (logMouse win info)
            if h.2 then do
              let st ← refW h.1 win
              mStage2 cfg win (st, some win)
            else mStage2 cfg win (h.1, none)
          else mStage2 cfg win (st, none)) := by
  rfl

/-- What the walk of `_handle_key` / `_handle_mouse` needs of an account of the references its frames hold.  `t i` is the
    number of references the frames hold on window `i`; `I t st`: the invariant for that tally; `R`: what a step of the walk
    may do to the state; `B t st w`: nothing strictly below `w` is held (what makes it safe for a frame on `w` to give its
    reference back); `E t st w`: a frame may open on `w`; `C r`: `_handle_mouse` may return a counted reference to `r`; `Ok a`:
    handlers may contain the action `a`.  The fields from `ref` on say what each primitive step of the routing does. -/
structure Frames (cfg : Cfg) where
  I : (Nat → Nat) → St → Prop
  R : St → St → Prop
  B : (Nat → Nat) → St → Nat → Prop
  E : (Nat → Nat) → St → Nat → Prop
  C : Option Nat → Prop
  Ok : Act → Prop
  /-- The account covers `_handle_mouse`: under it a handler's answer `true` can be turned into a counted return (`answer`,
      the only field that has it as a premise; the two walks of mouse events take it as a hypothesis).  Always so where
      nothing is freed; where handlers free windows, only as long as no handler claims. -/
  M : Prop
  refl : ∀ st, R st st
  trans : ∀ {a b c}, R a b → R b c → R a c
  size : ∀ {a b}, R a b → b.tree.wins.size = a.tree.wins.size
  tinv : ∀ {t st}, I t st → TInv st.tree
  held : ∀ {t st i}, I t st → 0 < t i → ∃ w, LiveW st.tree i w
  later : ∀ {t st st' w}, B t st w → R st st' → B t st' w
  child : ∀ {t st win c cw}, I t st → B t st win → LiveW st.tree c cw → cw.parent = some win → B t st c
  enter : ∀ {t st win c cw}, 0 < t win → B t st c → LiveW st.tree c cw → cw.parent = some win → E t st c
  ref : ∀ {t st win ww}, I t st → LiveW st.tree win ww → E t st win →
    Post (refW st win) fun s => I (bump t win) s ∧ R st s ∧ B (bump t win) s win
  unref : ∀ {t st win r}, I (bumpOpt (bump t win) r) st → C r → B (bump t win) st win →
    Post (unrefW cfg st win) fun s => I (bumpOpt t r) s ∧ R st s
  claim : ∀ {t st win}, I t st → 0 < t win → C (some win) → Post (refW st win) fun s => I (bump t win) s ∧ R st s
  snap : ∀ {t st win w}, I t st → 0 < t win → LiveW st.tree win w → B t st win →
    Post (w.children.foldlM refW st) fun s1 => I (fun j => t j + w.children.count j) s1 ∧ R st s1 ∧
      (∀ c ∈ w.children, B (fun j => t j + w.children.count j) s1 c) ∧
      ∀ s2 r, C r → I (fun j => bumpOpt t r j + w.children.count j) s2 → R s1 s2 →
        Post (w.children.foldlM (unrefW cfg) s2) fun s3 => I (bumpOpt t r) s3 ∧ R s2 s3
  cnone : C none
  ok : ∀ {t s w c a}, I t s → c ∈ (getX s w).binds → a ∈ c.acts → Ok a
  /-- One action of a handler, in the shape `simpleOp_cases` (Proof/LifeStep.lean) concludes: skipped by the harness, or run
      to its end. -/
  act : ∀ {t st} (a : Act) (self : Option (Id × Int)), I t st → Ok a →
    simpleOp cfg st a self = none ∨ ∃ st', simpleOp cfg st a self = some (.ok st') ∧ I t st' ∧ R st st'
  log : ∀ {t st} (l : List String), I t st → I t { st with log := l } ∧ R st { st with log := l }
  /-- a window's record rewritten: same pen, same tally, handlers among the old ones -/
  setx : ∀ {t st} (i : Nat) (x : WinX), I t st → x.pen = (getX st i).pen → x.appRefs = (getX st i).appRefs →
    (∀ b ∈ x.binds, b ∈ (getX st i).binds) → I t (setX st i x) ∧ R st (setX st i x)
  /-- a handler for mouse events that answers `true` makes its window the one returned -/
  answer : ∀ {t s win c}, I t s → c ∈ (getX s win).binds → c.ev = some .mouse → c.ret = true → M → C (some win)

variable {cfg : Cfg} (F : Frames cfg)

theorem runActs_walk (self : Id × Int) : ∀ (acts : List Act) {t : Nat → Nat} {st : St}, F.I t st → (∀ a ∈ acts, F.Ok a) →
    Post (runActs cfg self st acts) fun s => F.I t s ∧ F.R st s
  | [], _, st, K, _ => Post.ok ⟨K, F.refl st⟩
  | a :: rest, _, st, K, hk => by
    unfold runActs
    have hrest : ∀ a ∈ rest, F.Ok a := fun x hx => hk x (List.mem_cons_of_mem _ hx)
    rcases F.act a (some self) K (hk a List.mem_cons_self) with h | ⟨st1, h, K1, R1⟩
    · simp only [h]; exact runActs_walk self rest K hrest
    · simp only [h, bind_ok]
      exact (runActs_walk self rest K1 hrest).mono fun _ h2 => ⟨h2.1, F.trans R1 h2.2⟩

theorem runBinds_go_walk (win : Id) (ev : Ev) (tag : String) : ∀ (bs : List Bind) {t : Nat → Nat} {st : St}, F.I t st →
    Post (runBinds.go cfg win ev tag st bs) fun r => F.I t r.1 ∧ F.R st r.1 ∧ (ev = .mouse → F.M → r.2 = true → F.C (some win))
  | [], _, st, K => Post.ok ⟨K, F.refl st, fun _ _ => nofun⟩
  | b :: rest, _, st, K => by
    unfold runBinds.go
    dsimp only
    cases hc : List.find? (fun c => decide (c.id = b.id ∧ b.id ≠ -1)) (getX st win).binds with
    | none => exact runBinds_go_walk win ev tag rest K
    | some c =>
      have hcm := List.mem_of_find?_eq_some hc
      dsimp only
      refine Post.ite (fun hev => ?_) fun _ => runBinds_go_walk win ev tag rest K
      obtain ⟨K0, R0⟩ := F.log (st.log ++ [tag]) K
      refine Post.bind (runActs_walk F (win, c.id) c.acts K0 fun a ha => F.ok K hcm ha) fun st1 ⟨K1, R1⟩ => ?_
      have R01 := F.trans R0 R1
      refine Post.ite (fun hret => Post.ok ⟨K1, R01, fun he m _ => F.answer K hcm (he ▸ hev) hret m⟩) fun _ => ?_
      exact (runBinds_go_walk win ev tag rest K1).mono fun _ h => ⟨h.1, F.trans R01 h.2.1, h.2.2⟩

theorem Frames.binds {t : Nat → Nat} {st : St} {win : Nat} (ev : Ev) (tag : String) (K : F.I t st) (hg : 0 < t win) :
    Post (runBinds cfg st win ev tag) fun r => F.I t r.1 ∧ F.R st r.1 ∧ (ev = .mouse → F.M → r.2 = true → F.C (some win)) := by
  obtain ⟨ww, hwl⟩ := F.held K hg
  unfold runBinds
  simp only [getW, get_live hwl, bind_ok]
  obtain ⟨K1, R1⟩ := F.setx win { getX st win with iterating := true } K rfl rfl (fun _ h => h)
  refine Post.bind (runBinds_go_walk F win ev tag (getX st win).binds K1) fun r2 ⟨K2, R2, hans⟩ => ?_
  obtain ⟨w2, hw2⟩ := F.held K2 hg
  simp only [get_live hw2, bind_ok, pure_ok]
  obtain ⟨hxp, hxa, hxb⟩ := swept (getX st win).iterating (getX r2.1 win)
  obtain ⟨K3, R3⟩ := F.setx win _ K2 hxp hxa hxb
  exact Post.ok ⟨K3, F.trans (F.trans R1 R2) R3, hans⟩

/-- `x` runs to its end in a state that satisfies the invariant for the tally `t` and that `F.R` relates to `st`. -/
abbrev Frames.Runs {α : Type} (t : Nat → Nat) (st : St) (x : Out (St × α)) : Prop := Post x fun r => F.I t r.1 ∧ F.R st r.1

theorem Frames.Runs.after {F : Frames cfg} {α β : Type} {t' t'' : Nat → Nat} {st : St} {x : Out (St × α)} {f : St × α → Out (St × β)}
    (hx : F.Runs t' st x) (hf : ∀ r, F.I t' r.1 → F.R st r.1 → F.Runs t'' r.1 (f r)) :
    F.Runs t'' st (x >>= f) :=
  Post.bind hx fun r h => (hf r h.1 h.2).mono fun _ h' => ⟨h'.1, F.trans h.2 h'.2⟩

/-- The recursive call of `_handle_key` on a child of `win` (the induction hypothesis of the walk).  `N` is the size of the
    store, which no step changes (`Frames.size`): the fuel of the recursion is measured against it. -/
def Frames.RecK (recK : St → Id → Out (St × Bool)) (win : Nat) (N : Nat) : Prop :=
  ∀ {st : St} {t : Nat → Nat} {child : Nat} {cw : Win}, F.I t st → LiveW st.tree child cw → cw.parent = some win → F.E t st child →
    st.tree.wins.size = N → F.Runs t st (recK st child)

theorem keyLoop_walk {recK : St → Id → Out (St × Bool)} {win : Nat} {N : Nat} (hrec : F.RecK recK win N) :
    ∀ (cs : List Nat) {st : St} {t : Nat → Nat}, F.I t st → 0 < t win → (∀ c ∈ cs, 0 < t c) → (∀ c ∈ cs, F.B t st c) →
      st.tree.wins.size = N → F.Runs t st (keyLoop recK win st cs)
  | [], st, t, K, _, _, _, _ => by rw [keyLoop]; exact Post.ok ⟨K, F.refl st⟩
  | child :: rest, st, t, K, hgw, hgc, hbf, hN => by
    obtain ⟨cw, hc⟩ := F.held K (hgc child (by simp))
    obtain ⟨w, hw⟩ := F.held K hgw
    have next : ∀ {s : St}, F.I t s → F.R st s → F.Runs t s (keyLoop recK win s rest) := fun K1 R1 =>
      keyLoop_walk hrec rest K1 hgw (fun x hx => hgc x (by simp [hx])) (fun x hx => F.later (hbf x (by simp [hx])) R1)
        ((F.size R1).trans hN)
    rw [keyLoop]
    simp only [getW, get_live hc, bind_ok]
    refine Post.ite (fun _ => next K (F.refl st)) fun hp => ?_
    have hp' : cw.parent = some win := Decidable.of_not_not hp
    simp only [get_live hw, bind_ok]
    refine Post.ite (fun _ => next K (F.refl st)) fun _ => ?_
    refine Frames.Runs.after (hrec K hc hp' (F.enter hgw (hbf child (by simp)) hc hp') hN) fun r K1 R1 => ?_
    exact Post.ite (fun _ => Post.ok ⟨K1, F.refl _⟩) fun _ => next K1 R1

theorem kStage4_walk {win : Nat} {r4 : St × Bool} {t : Nat → Nat} (K : F.I (bump t win) r4.1) (hb : F.B (bump t win) r4.1 win) :
    F.Runs t r4.1 (kStage4 cfg win r4) :=
  Post.bind (F.unref (r := none) K F.cnone hb) fun _ h => Post.ok h

theorem refChildren_walk {st : St} {t : Nat → Nat} {win : Nat} (K : F.I t st) (hg : 0 < t win) (hb : F.B t st win) :
    Post (refChildren st win) fun sn => F.I (fun j => t j + sn.2.count j) sn.1 ∧ F.R st sn.1 ∧ (∀ c ∈ sn.2, 0 < t c + sn.2.count c) ∧
      (∀ c ∈ sn.2, F.B (fun j => t j + sn.2.count j) sn.1 c) ∧
      ∀ s2 r, F.C r → F.I (fun j => bumpOpt t r j + sn.2.count j) s2 → F.R sn.1 s2 →
        Post (unrefChildren cfg s2 sn.2) fun s3 => F.I (bumpOpt t r) s3 ∧ F.R s2 s3 := by
  obtain ⟨w, hwl⟩ := F.held K hg
  unfold refChildren
  simp only [getW, get_live hwl, bind_ok]
  exact Post.bind (F.snap K hg hwl hb) fun s1 ⟨K1, R1, hbc, back⟩ =>
    Post.ok ⟨K1, R1, fun c hc => Nat.lt_of_lt_of_le (List.count_pos_iff.2 hc) (Nat.le_add_left _ _), hbc, back⟩

theorem kStage3_walk {recK : St → Id → Out (St × Bool)} {win : Nat} {N : Nat} (hrec : F.RecK recK win N)
    {r3 : St × Bool} {t : Nat → Nat} (K : F.I (bump t win) r3.1) (hb : F.B (bump t win) r3.1 win) (hN : r3.1.tree.wins.size = N) :
    F.Runs t r3.1 (kStage3 cfg recK win r3) := by
  unfold kStage3
  refine Post.ite (fun _ => kStage4_walk F (r4 := (r3.1, true)) K hb) fun _ => ?_
  refine Post.bind (refChildren_walk F K (bump_self t win) hb) fun sn ⟨K1, R1, hgc, hbc, back⟩ => ?_
  refine Post.bind (keyLoop_walk F hrec sn.2 K1 (Nat.lt_of_lt_of_le (bump_self t win) (Nat.le_add_right _ _)) hgc hbc
    ((F.size R1).trans hN)) fun h ⟨K2, R2⟩ => ?_
  refine Post.bind (back h.1 none F.cnone K2 R2) fun s3 ⟨K3, R3⟩ => ?_
  have R13 := F.trans (F.trans R1 R2) R3
  exact (kStage4_walk F (r4 := (s3, h.2)) K3 (F.later hb R13)).mono fun _ h' => ⟨h'.1, F.trans R13 h'.2⟩

theorem kStage2_walk {recK : St → Id → Out (St × Bool)} {win : Nat} {N : Nat} (hrec : F.RecK recK win N)
    {r2 : St × Bool} {t : Nat → Nat} (K : F.I (bump t win) r2.1) (hb : F.B (bump t win) r2.1 win) (hN : r2.1.tree.wins.size = N) :
    F.Runs t r2.1 (kStage2 cfg recK win r2) := by
  unfold kStage2
  refine Post.ite (fun _ => kStage3_walk F hrec (r3 := (r2.1, true)) K hb hN) fun _ => ?_
  obtain ⟨w, hwl⟩ := F.held K (bump_self t win)
  refine Post.bind (isShownW_post (F.tinv K) hwl) fun sh _ => Post.ite (fun _ => ?_) fun _ => kStage3_walk F hrec (r3 := (r2.1, false)) K hb hN
  exact Frames.Runs.after ((F.binds .key (logKey win) K (bump_self t win)).mono fun _ h => ⟨h.1, h.2.1⟩) fun r3 K1 R1 =>
    kStage3_walk F hrec K1 (F.later hb R1) ((F.size R1).trans hN)

theorem kStage1_walk {recK : St → Id → Out (St × Bool)} {win : Nat} {N : Nat} (hrec : F.RecK recK win N)
    {r1 : St × Bool} {t : Nat → Nat} (K : F.I (bump t win) r1.1) (hb : F.B (bump t win) r1.1 win) (hN : r1.1.tree.wins.size = N) :
    F.Runs t r1.1 (kStage1 cfg recK win r1) := by
  unfold kStage1
  refine Post.ite (fun _ => kStage2_walk F hrec (r2 := (r1.1, true)) K hb hN) fun _ => ?_
  obtain ⟨w, hwl⟩ := F.held K (bump_self t win)
  simp only [getW, get_live hwl, bind_ok]
  cases hf : w.focusedChild with
  | none => exact kStage2_walk F hrec (r2 := (r1.1, false)) K hb hN
  | some fc =>
    obtain ⟨cw, hcl, hcp⟩ := (F.tinv K).child_ok win w hwl fc ((F.tinv K).focus_ok win w hwl fc hf)
    exact Frames.Runs.after (hrec K hcl hcp (F.enter (bump_self t win) (F.child K hb hcl hcp) hcl hcp) hN) fun r2 K1 R1 =>
      kStage2_walk F hrec K1 (F.later hb R1) ((F.size R1).trans hN)

theorem handleKeyBody_walk {recK : St → Id → Out (St × Bool)} {win : Nat} {N : Nat} (hrec : F.RecK recK win N)
    {st : St} {t : Nat → Nat} (K : F.I t st) {ww : Win} (hw : LiveW st.tree win ww) (he : F.E t st win) (hN : st.tree.wins.size = N) :
    F.Runs t st (handleKeyBody cfg recK st win) := by
  rw [handleKeyBody_eq]
  refine Post.bind (isShownW_post (F.tinv K) hw) fun sh _ => Post.ite (fun _ => Post.ok ⟨K, F.refl st⟩) fun _ => ?_
  refine Post.bind (F.ref K hw he) fun st1 ⟨K1, R1, hb1⟩ => ?_
  have hN1 := (F.size R1).trans hN
  have tail : ∀ {r1 : St × Bool}, F.I (bump t win) r1.1 → F.R st1 r1.1 → F.Runs t st (kStage1 cfg recK win r1) := fun K2 R2 =>
    (kStage1_walk F hrec K2 (F.later hb1 R2) ((F.size R2).trans hN1)).mono fun _ h => ⟨h.1, F.trans (F.trans R1 R2) h.2⟩
  obtain ⟨w1, hw1⟩ := F.held K1 (bump_self t win)
  simp only [getW, get_live hw1, bind_ok]
  cases hh : w1.children.head? with
  | none => exact tail (r1 := (st1, false)) K1 (F.refl st1)
  | some fc =>
    obtain ⟨cw, hcl, hcp⟩ := (F.tinv K1).child_ok win w1 hw1 fc (List.mem_of_mem_head? hh)
    simp only [get_live hcl, bind_ok]
    refine Post.ite (fun _ => ?_) fun _ => tail (r1 := (st1, false)) K1 (F.refl st1)
    exact Post.bind (hrec K1 hcl hcp (F.enter (bump_self t win) (F.child K1 hb1 hcl hcp) hcl hcp) hN1) fun r1 ⟨K2, R2⟩ => tail K2 R2

/-- `_handle_key`; the fuel suffices because a child's index is above its parent's. -/
theorem handleKey_walk : ∀ (fuel : Nat) {st : St} {t : Nat → Nat} {win : Nat} {ww : Win},
    F.I t st → LiveW st.tree win ww → F.E t st win → st.tree.wins.size ≤ win + fuel → F.Runs t st (handleKey cfg fuel st win)
  | 0, st, t, win, ww, _, hw, _, hsz => by have := hw.lt; omega
  | fuel + 1, st, t, win, ww, K, hw, he, hsz => by
    unfold handleKey
    refine handleKeyBody_walk F (N := st.tree.wins.size) ?_ K hw he rfl
    intro st1 t1 child cw K1 hcl hcp he1 hN1
    have hlt := ((F.tinv K1).parent_ok child cw hcl win hcp).1
    exact handleKey_walk fuel K1 hcl he1 (by omega)

/-- What `_handle_mouse` leaves: `r.2` is the window it returns a counted reference to, which is in flight in the tally. -/
structure Frames.Got (t : Nat → Nat) (st : St) (r : St × Option Id) : Prop where
  claim : F.C r.2
  inv : F.I (bumpOpt t r.2) r.1
  rel : F.R st r.1

abbrev Frames.RunsM (t : Nat → Nat) (st : St) (x : Out (St × Option Id)) : Prop := Post x (F.Got t st)

theorem Frames.RunsM.of_rel {F : Frames cfg} {t : Nat → Nat} {st s : St} {x : Out (St × Option Id)} (h : F.RunsM t s x) (R1 : F.R st s) :
    F.RunsM t st x := h.mono fun _ h => ⟨h.claim, h.inv, F.trans R1 h.rel⟩

def Frames.RecM (recM : St → Id → Mouse → Out (St × Option Id)) (win : Nat) (N : Nat) : Prop :=
  ∀ {st : St} {t : Nat → Nat} {child : Nat} {cw : Win} (info : Mouse), F.I t st → LiveW st.tree child cw → cw.parent = some win →
    F.E t st child → st.tree.wins.size = N → F.RunsM t st (recM st child info)

theorem mouseLoop_walk {recM : St → Id → Mouse → Out (St × Option Id)} {win : Nat} {N : Nat} (hrec : F.RecM recM win N) (info : Mouse) :
    ∀ (cs : List Nat) {st : St} {t : Nat → Nat}, F.I t st → 0 < t win → (∀ c ∈ cs, 0 < t c) → (∀ c ∈ cs, F.B t st c) →
      st.tree.wins.size = N → F.RunsM t st (mouseLoop recM win info st cs)
  | [], st, t, K, _, _, _, _ => by rw [mouseLoop]; exact Post.ok ⟨F.cnone, K, F.refl st⟩
  | child :: rest, st, t, K, hgw, hgc, hbf, hN => by
    obtain ⟨cw, hc⟩ := F.held K (hgc child (by simp))
    have next : ∀ {s : St}, F.I t s → F.R st s → F.RunsM t st (mouseLoop recM win info s rest) := fun K1 R1 =>
      (mouseLoop_walk hrec info rest K1 hgw (fun x hx => hgc x (by simp [hx])) (fun x hx => F.later (hbf x (by simp [hx])) R1)
        ((F.size R1).trans hN)).of_rel R1
    rw [mouseLoop]
    simp only [getW, get_live hc, bind_ok]
    refine Post.ite (fun _ => next K (F.refl st)) fun hp => ?_
    have hp' : cw.parent = some win := Decidable.of_not_not hp
    refine Post.ite (fun _ => next K (F.refl st)) fun _ => ?_
    refine Post.bind (hrec _ K hc hp' (F.enter hgw (hbf child (by simp)) hc hp') hN) fun r ⟨hC, K1, R1⟩ => ?_
    refine Post.ite (fun _ => Post.ok ⟨hC, K1, R1⟩) fun hs => ?_
    rw [Option.not_isSome_iff_eq_none.1 hs] at K1
    exact next K1 R1

theorem mStage2_walk {win : Nat} {r2 : St × Option Id} {t : Nat → Nat} (K : F.I (bumpOpt (bump t win) r2.2) r2.1) (hC : F.C r2.2)
    (hb : F.B (bump t win) r2.1 win) : F.RunsM t r2.1 (mStage2 cfg win r2) :=
  Post.bind (F.unref K hC hb) fun _ h => Post.ok ⟨hC, h.1, h.2⟩

theorem handleMouseBody_walk (hm : F.M) {recM : St → Id → Mouse → Out (St × Option Id)} {win : Nat} {N : Nat} (hrec : F.RecM recM win N)
    (info : Mouse) {st : St} {t : Nat → Nat} (K : F.I t st) {ww : Win} (hw : LiveW st.tree win ww) (he : F.E t st win)
    (hN : st.tree.wins.size = N) : F.RunsM t st (handleMouseBody cfg recM st win info) := by
  rw [handleMouseBody_eq]
  refine Post.bind (isShownW_post (F.tinv K) hw) fun sh _ => Post.ite (fun _ => Post.ok ⟨F.cnone, K, F.refl st⟩) fun _ => ?_
  refine Post.bind (F.ref K hw he) fun st1 ⟨K1, R1, hb1⟩ => ?_
  refine Post.bind (refChildren_walk F K1 (bump_self t win) hb1) fun sn ⟨K2, R2, hgc, hbc, back⟩ => ?_
  refine Post.bind (mouseLoop_walk F hrec info sn.2 K2 (Nat.lt_of_lt_of_le (bump_self t win) (Nat.le_add_right _ _)) hgc hbc
    ((F.size (F.trans R1 R2)).trans hN)) fun r ⟨hC, K3, R3⟩ => ?_
  rw [bumpOpt_add] at K3
  refine Post.bind (back r.1 r.2 hC K3 R3) fun s4 ⟨K4, R4⟩ => ?_
  have R14 := F.trans (F.trans (F.trans R1 R2) R3) R4
  have hb4 := F.later hb1 (F.trans (F.trans R2 R3) R4)
  have fin : ∀ {r2 : St × Option Id}, F.I (bumpOpt (bump t win) r2.2) r2.1 → F.C r2.2 → F.R s4 r2.1 → F.RunsM t st (mStage2 cfg win r2) :=
    fun K5 hC5 R5 => (mStage2_walk F K5 hC5 (F.later hb4 R5)).of_rel (F.trans R14 R5)
  refine Post.ite (fun _ => fin (r2 := (s4, r.2)) K4 hC (F.refl s4)) fun hs => ?_
  rw [Option.not_isSome_iff_eq_none.1 hs] at K4
  obtain ⟨w4, hw4⟩ := F.held (t := bump t win) K4 (bump_self t win)
  refine Post.bind (isShownW_post (F.tinv K4) hw4) fun sh2 _ => Post.ite (fun _ => ?_) fun _ => fin (r2 := (s4, none)) K4 F.cnone (F.refl s4)
  refine Post.bind (F.binds .mouse (logMouse win info) (t := bump t win) K4 (bump_self t win)) fun h ⟨K5, R5, hcl⟩ => ?_
  refine Post.ite (fun hb => ?_) fun _ => fin (r2 := (h.1, none)) K5 F.cnone R5
  have hC5 := hcl rfl hm hb
  exact Post.bind (F.claim K5 (bump_self t win) hC5) fun s6 ⟨K6, R6⟩ => fin (r2 := (s6, some win)) K6 hC5 (F.trans R5 R6)

theorem handleMouse_walk (hm : F.M) : ∀ (fuel : Nat) {st : St} {t : Nat → Nat} {win : Nat} {ww : Win} (info : Mouse),
    F.I t st → LiveW st.tree win ww → F.E t st win → st.tree.wins.size ≤ win + fuel → F.RunsM t st (handleMouse cfg fuel st win info)
  | 0, st, t, win, ww, _, _, hw, _, hsz => by have := hw.lt; omega
  | fuel + 1, st, t, win, ww, info, K, hw, he, hsz => by
    unfold handleMouse
    refine handleMouseBody_walk F hm (N := st.tree.wins.size) ?_ info K hw he rfl
    intro st1 t1 child cw info1 K1 hcl hcp he1 hN1
    have hlt := ((F.tinv K1).parent_ok child cw hcl win hcp).1
    exact handleMouse_walk hm fuel info1 K1 hcl he1 (by omega)

end Tickit.Life
