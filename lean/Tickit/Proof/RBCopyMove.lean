import Tickit.Proof.RBCopyLoop
import Tickit.Proof.RBCopyFuel
import Tickit.Proof.RBCopyPen
/-
  C13: `moverect` = copy, then `skiprect` over the rectangle set `{src} − {dest}` (the render-buffer engine's
  `skiprect_painted`, rectangle after rectangle); before that, the cell-wise specifications (`copyExpect`,
  `selfCopyExpect`, `moveExpect`) read at a destination cell, at any other cell and at a vacated cell.
-/
namespace Tickit.RBCopy
open Tickit Tickit.RB

theorem copyExpect_of_mem {copySkip : Bool} {dst src : RB} {sr : Rect} {lo co L C : Int}
    (hm : sr.Mem (L - lo) (C - co)) (hw : writable dst L C = true) :
    copyExpect copySkip dst src sr lo co L C =
      pieceNew copySkip dst.pen (absContent src (L - lo) (C - co)) (absContent dst L C) := by
  rw [copyExpect_eq, (Rect.memb_iff sr _ _).2 hm, hw]; rfl

theorem copyExpect_of_not {copySkip : Bool} {dst src : RB} {sr : Rect} {lo co L C : Int}
    (h : ¬ (sr.Mem (L - lo) (C - co) ∧ writable dst L C = true)) :
    copyExpect copySkip dst src sr lo co L C = absContent dst L C := by
  rw [copyExpect_eq, if_neg]
  rw [Bool.and_eq_true, Rect.memb_iff]; exact h

theorem selfCopyExpect_moved {rb : RB} {dr sr : Rect} (h : ¬ (dr.top = sr.top ∧ dr.left = sr.left)) (L C : Int) :
    selfCopyExpect rb dr sr L C = copyExpect true rb rb sr (dr.top - sr.top) (dr.left - sr.left) L C := if_neg h

theorem moveExpect_of_dest {rb : RB} {dr sr : Rect} {L C : Int} (hd : Rect.Mem ⟨dr.top, dr.left, sr.lines, sr.cols⟩ L C) :
    moveExpect rb dr sr L C = selfCopyExpect rb dr sr L C := by
  unfold moveExpect
  rw [(Rect.memb_iff _ _ _).2 hd]
  simp

theorem moveExpect_vacated {rb : RB} {dr sr : Rect} {L C : Int} (hs : sr.Mem L C)
    (hd : ¬ Rect.Mem ⟨dr.top, dr.left, sr.lines, sr.cols⟩ L C) (hw : writable rb L C = true) :
    moveExpect rb dr sr L C = .skip := by
  unfold moveExpect
  rw [(Rect.memb_iff sr _ _).2 hs, Bool.eq_false_iff.2 (mt (Rect.memb_iff _ _ _).1 hd), hw]
  rfl

theorem copyExpect_line {copySkip : Bool} {dst src : RB} {sr : Rect} {lo co L C : Int} {p : Pen} {m : Nat}
    (hm : sr.Mem (L - lo) (C - co)) (hw : writable dst L C = true)
    (hs : absContent src (L - lo) (C - co) = .line p m) :
    ∃ q, copyExpect copySkip dst src sr lo co L C = .line q (mergedMask m (absContent dst L C)) ∧
      penLook q = penLook (completePen p dst.pen) ∧
      (∀ p' m', absContent dst L C = .line p' m' → Pen.equiv p' (completePen p dst.pen) = false → q = completePen p dst.pen) := by
  rw [copyExpect_of_mem hm hw, hs]
  obtain ⟨q, h1, h2, h3, _⟩ := mergeLine_look (completePen p dst.pen) m (absContent dst L C)
  exact ⟨q, h1, h2, h3⟩

theorem absContent_inside {rb : RB} {L C : Int} (h : absContent rb L C ≠ .skip) : Rect.Mem ⟨0, 0, rb.lines, rb.cols⟩ L C := by
  rw [absContent_eq] at h
  split at h
  · rw [Rect.mem_origin]; omega
  · exact absurd rfl h

theorem foldl_skiprect_painted : ∀ (rects : List Rect) {B d : RB} {cov : Int → Int → Prop},
    Painted B d cov (fun _ _ => .skip) →
    Painted B (rects.foldl RB.skiprect d) (fun L C => cov L C ∨ Covered rects (L - B.xlLine) (C - B.xlCol)) (fun _ _ => .skip) := by
  intro rects
  induction rects with
  | nil => intro B d cov h; exact h.congr (fun L C => ⟨fun a => a.elim id (fun ⟨_, m, _⟩ => nomatch m), Or.inl⟩)
  | cons r rs ih =>
    intro B d cov h
    have s := skiprect_painted h.runsOK r
    rw [show d.xlLine = B.xlLine from congrArg Aux.xlLine h.aux, show d.xlCol = B.xlCol from congrArg Aux.xlCol h.aux] at s
    refine (ih (h.step s (fun _ _ _ _ _ => rfl))).congr (fun L C => ?_)
    unfold Covered
    simp only [List.mem_cons, exists_eq_or_imp, or_assoc]

/-- What an operation leaves behind: a well-formed buffer with the same auxiliary state and mask depths whose
    cells show `E`. -/
structure Result (B rb' : RB) (E : Int → Int → Content) : Prop where
  wf : WF rb'
  aux : SameAux rb' B
  mask : ∀ l c, 0 ≤ l → l < B.lines → 0 ≤ c → c < B.cols → ((rb'.cells l).get c).maskdepth = ((B.cells l).get c).maskdepth
  content : ∀ L C, absContent rb' L C = E L C
  flags : rb'.aborted = B.aborted ∧ rb'.fuelOut = B.fuelOut

theorem Result.kept {B rb' : RB} {E : Int → Int → Content} (h : Result B rb' E) : Kept B rb' :=
  ⟨h.wf, h.aux, h.mask, h.flags⟩

theorem Result.of_kept {B rb' : RB} {E : Int → Int → Content} (k : Kept B rb') (hc : ∀ L C, absContent rb' L C = E L C) :
    Result B rb' E := ⟨k.wf, k.aux, k.mask, hc, k.flags⟩

/-- A copy without displacement is not carried out. -/
theorem copy_unmoved (v : Variant) (B : RB) {dr sr : Rect} (h : dr.top = sr.top ∧ dr.left = sr.left) : copy v B dr sr = B := by
  unfold copy copyrect
  split
  · rfl
  · exact if_pos ⟨rfl, by omega, by omega⟩

theorem copy_result (B : RB) (dr sr : Rect) (hwf : WF B) (hxl : B.xlLine = 0) (hxc : B.xlCol = 0)
    (hin : 0 ≤ sr.top ∧ sr.top + sr.lines ≤ B.lines ∧ 0 ≤ sr.left ∧ sr.left + sr.cols ≤ B.cols ∧ sr.Nonempty) :
    Result B (copy Variant.repaired B dr sr) (selfCopyExpect B dr sr) := by
  obtain ⟨ht0, hb1, hc0, hc1, hne⟩ := hin
  unfold Rect.Nonempty at hne
  by_cases hid : dr.top = sr.top ∧ dr.left = sr.left
  · rw [copy_unmoved _ B hid]
    refine .of_kept (.refl hwf) fun L C => ?_
    unfold selfCopyExpect; rw [if_pos hid]
  · have hacc := copyrect_same_acc true B dr sr hwf hxl hxc ht0 hb1 hc0 hc1 hne.1 hne.2 (by omega)
    refine .of_kept hacc.kept fun L C => ?_
    unfold selfCopyExpect; rw [if_neg hid]
    exact acc_final hacc L C

theorem move_result (B : RB) (dr sr : Rect) (hwf : WF B) (hxl : B.xlLine = 0) (hxc : B.xlCol = 0)
    (hin : 0 ≤ sr.top ∧ sr.top + sr.lines ≤ B.lines ∧ 0 ≤ sr.left ∧ sr.left + sr.cols ≤ B.cols ∧ sr.Nonempty) :
    Result B (move Variant.repaired B dr sr) (moveExpect B dr sr) := by
  have hcopy := copy_result B dr sr hwf hxl hxc hin
  obtain ⟨-, -, -, -, hne⟩ := hin
  obtain ⟨rects, hca⟩ := clearArea_returns dr sr hne
  have hreg := clearArea_region hca hne
  unfold move
  simp only [hca]
  have hacc := Painted.acc hcopy.wf (foldl_skiprect_painted rects (Painted.refl hcopy.wf.runsOK (fun _ _ => .skip)))
    (fun L C => sr.memb L C && !(Rect.memb ⟨dr.top, dr.left, sr.lines, sr.cols⟩ L C))
    (fun L C => by
      rw [false_or, hcopy.aux.xlLine, hcopy.aux.xlCol, hxl, hxc, Int.sub_zero, Int.sub_zero, hreg L C, Bool.and_eq_true,
        Bool.not_eq_true', Rect.memb_iff, ← Bool.not_eq_true, Rect.memb_iff])
    (fun _ _ => .skip) (fun _ _ _ => rfl)
  refine .of_kept (hcopy.kept.trans hacc.kept) fun L C => ?_
  rw [hacc.content L C, hcopy.kept.writable L C, hcopy.content L C]
  unfold moveExpect
  simp only [Bool.and_eq_true]

theorem blit_result (dst src : RB) (hwf : WF dst) (hsrc : WF src) (hl : 0 ≤ src.lines) (hc : 0 ≤ src.cols) :
    Result dst (blit Variant.repaired false dst src) (blitExpect dst src) := by
  have hacc := copyrect_other_acc false dst src ⟨0, 0, src.lines, src.cols⟩ ⟨0, 0, src.lines, src.cols⟩ hwf hsrc
    (Int.le_refl _) (by simp) (Int.le_refl _) (by simp) hl hc
  refine .of_kept hacc.kept fun L C => ?_
  have h := acc_final hacc L C
  simp only [Int.sub_self, Int.zero_add] at h
  exact h

end Tickit.RBCopy
