import Tickit.Proof.EvLoopOnceStep
/-
  What a step does to the two queues (timers, deferred callbacks), to liveness and to the cancel requests (`Listed`, `Gone`
  of Proof/EvLoopOnce.lean are carried along it): `R2 E`, where `E` lists the watches that are for the moment allowed to be
  allocated without being queued — a watch between its allocation and its insertion, or between its removal from the
  queue and `free`.
-/
namespace Tickit.EvLoop

/-- `gone` speaks of a watch that was live before the step, or is new (`x < st.heap.length → st.live x = true`), and is not
    live after it. -/
structure R2 (E : List Nat) (st st' : St) : Prop where
  h : MH st st'
  alive : st'.alive = st.alive
  creq : ∀ k ∈ st.cancelReq, k ∈ st'.cancelReq
  stayT : st'.isOk = true → ∀ x ∈ st.timers, x < st.heap.length → x ∈ st'.timers ∨ st'.live x = false ∨ x ∈ E
  stayL : st'.isOk = true → ∀ x ∈ st.laters, x < st.heap.length → x ∈ st'.laters ∨ st'.live x = false ∨ x ∈ E
  newl : st'.isOk = true → ∀ x, st.heap.length ≤ x → x < st'.heap.length → st'.live x = true →
    ((st'.getW x).type = .timer → x ∈ st'.timers ∨ x ∈ E) ∧ ((st'.getW x).type = .later → x ∈ st'.laters ∨ x ∈ E)
  gone : ∀ x, x < st'.heap.length → (x < st.heap.length → st.live x = true) → st'.live x = false →
    isOneShot (st'.getW x).type = false ∨ (st'.getW x).slot ∈ st'.cancelReq ∨ (st'.getW x).slot < 0

/-- Watch `a` may be freed without having been invoked (`R2.gone`). -/
def MayGo (st : St) (a : Nat) : Prop :=
  isOneShot (st.getW a).type = false ∨ (st.getW a).slot ∈ st.cancelReq ∨ (st.getW a).slot < 0

theorem MayGo.step {st st' : St} {a : Nat} (m : MayGo st a) (h : MH st st') (hc : ∀ k ∈ st.cancelReq, k ∈ st'.cancelReq)
    (ha : a < st.heap.length) : MayGo st' a := by
  rcases m with e | e | e
  · exact Or.inl (h.notOneShot ha e)
  · exact Or.inr (Or.inl (by rw [h.slot a ha]; exact hc _ e))
  · exact Or.inr (Or.inr (by rw [h.slot a ha]; exact e))

/-- What `R2` says of one of the two queues: `qu` holds the watches of type `t`. -/
structure R2q (E : List Nat) (qu : St → List Nat) (t : WType) (st st' : St) : Prop where
  stay : st'.isOk = true → ∀ x ∈ qu st, x < st.heap.length → x ∈ qu st' ∨ st'.live x = false ∨ x ∈ E
  newl : st'.isOk = true → ∀ x, st.heap.length ≤ x → x < st'.heap.length → st'.live x = true →
    (st'.getW x).type = t → x ∈ qu st' ∨ x ∈ E

theorem R2.tq {E : List Nat} {st st' : St} (h : R2 E st st') : R2q E St.timers .timer st st' :=
  ⟨h.stayT, fun hok x a b c => (h.newl hok x a b c).1⟩
theorem R2.lq {E : List Nat} {st st' : St} (h : R2 E st st') : R2q E St.laters .later st st' :=
  ⟨h.stayL, fun hok x a b c => (h.newl hok x a b c).2⟩

theorem R2.of_q {E : List Nat} {st st' : St} (h : MH st st') (ha : st'.alive = st.alive) (hc : ∀ k ∈ st.cancelReq, k ∈ st'.cancelReq)
    (t : R2q E St.timers .timer st st') (l : R2q E St.laters .later st st')
    (g : ∀ x, x < st'.heap.length → (x < st.heap.length → st.live x = true) → st'.live x = false → MayGo st' x) : R2 E st st' :=
  ⟨h, ha, hc, t.stay, l.stay, fun hok x a b c => ⟨t.newl hok x a b c, l.newl hok x a b c⟩, g⟩

theorem R2q.trans {E : List Nat} {qu : St → List Nat} {t : WType} {a b c : St} (m1 : MH a b) (m2 : MH b c) (ht : isOneShot t = true)
    (q1 : R2q E qu t a b) (q2 : R2q E qu t b c) : R2q E qu t a c := by
  refine ⟨fun hok x hx hlt => ?_, fun hok x hx1 hx2 hl hty => ?_⟩
  · have hltb := Nat.lt_of_lt_of_le hlt m1.len
    rcases q1.stay (m2.ok hok) x hx hlt with h | h | h
    · exact q2.stay hok x h hltb
    · refine Or.inr (Or.inl ?_)
      cases hc : c.live x with
      | false => rfl
      | true => rw [m2.live x hltb hc] at h; cases h
    · exact Or.inr (Or.inr h)
  · by_cases hb : x < b.heap.length
    · have htb : (b.getW x).type = t := by rw [← m2.oneShot hb (by rw [hty]; exact ht)]; exact hty
      rcases q1.newl (m2.ok hok) x hx1 hb (m2.live x hb hl) htb with h | h
      · rcases q2.stay hok x h hb with h' | h' | h'
        · exact Or.inl h'
        · rw [hl] at h'; cases h'
        · exact Or.inr h'
      · exact Or.inr h
    · exact q2.newl hok x (by omega) hx2 hl hty

theorem R2q.mono {E E' : List Nat} {qu : St → List Nat} {t : WType} {st st' : St} (q : R2q E qu t st st') (hs : ∀ x ∈ E, x ∈ E') :
    R2q E' qu t st st' :=
  ⟨fun hok x hx hl => (q.stay hok x hx hl).imp id (Or.imp id (hs x)), fun hok x a b c d => (q.newl hok x a b c d).imp id (hs x)⟩

theorem R2q.drop {a : Nat} {qu : St → List Nat} {t : WType} {st st' : St} (q : R2q [a] qu t st st')
    (hE : st'.isOk = true → st'.live a = false ∨ (((st'.getW a).type = t → a ∈ qu st') ∧ (a ∈ qu st → a ∈ qu st'))) :
    R2q [] qu t st st' := by
  refine ⟨fun hok x hx hl => ?_, fun hok x h1 h2 h3 hty => ?_⟩
  · rcases q.stay hok x hx hl with h' | h' | h'
    · exact Or.inl h'
    · exact Or.inr (Or.inl h')
    · cases List.mem_singleton.mp h'
      exact (hE hok).elim (fun e => Or.inr (Or.inl e)) (fun e => Or.inl (e.2 hx))
  · rcases q.newl hok x h1 h2 h3 hty with h' | h'
    · exact Or.inl h'
    · cases List.mem_singleton.mp h'
      rcases hE hok with e | e
      · rw [h3] at e; cases e
      · exact Or.inl (e.1 hty)

theorem R2.refl (E : List Nat) (st : St) : R2 E st st :=
  ⟨MH.refl st, rfl, fun _ h => h, fun _ x hx _ => Or.inl hx, fun _ x hx _ => Or.inl hx, fun _ x h1 h2 => by omega,
   fun x hx hl hd => by rw [hl hx] at hd; cases hd⟩

theorem R2.trans {E : List Nat} {a b c : St} (h1 : R2 E a b) (h2 : R2 E b c) : R2 E a c := by
  refine .of_q (h1.h.trans h2.h) (by rw [h2.alive, h1.alive]) (fun k hk => h2.creq k (h1.creq k hk))
    (.trans h1.h h2.h rfl h1.tq h2.tq) (.trans h1.h h2.h rfl h1.lq h2.lq) fun x hx hl hd => ?_
  by_cases hb : x < b.heap.length
  · cases hlb : b.live x with
    | false => exact MayGo.step (h1.gone x hb hl hlb) h2.h h2.creq hb
    | true => exact h2.gone x hx (fun _ => hlb) hd
  · exact h2.gone x hx (fun h => absurd h hb) hd

theorem R2.mono {E E' : List Nat} {st st' : St} (h : R2 E st st') (hs : ∀ x ∈ E, x ∈ E') : R2 E' st st' :=
  .of_q h.h h.alive h.creq (h.tq.mono hs) (h.lq.mono hs) h.gone

theorem R2.nil {E : List Nat} {st st' : St} (h : R2 [] st st') : R2 E st st' := h.mono (fun _ hx => by cases hx)

/-- The excepted watch `a` is an exception no longer: it is in the queue of its type, and has left no queue it was in. -/
structure Queued (st st' : St) (a : Nat) : Prop where
  timer : (st'.getW a).type = .timer → a ∈ st'.timers
  later : (st'.getW a).type = .later → a ∈ st'.laters
  keptT : a ∈ st.timers → a ∈ st'.timers
  keptL : a ∈ st.laters → a ∈ st'.laters

theorem R2.drop_one {st st' : St} {a : Nat} (h : R2 [a] st st')
    (hE : st'.isOk = true → st'.live a = false ∨ Queued st st' a) : R2 [] st st' :=
  .of_q h.h h.alive h.creq (h.tq.drop fun hok => (hE hok).imp id fun e => ⟨e.timer, e.keptT⟩)
    (h.lq.drop fun hok => (hE hok).imp id fun e => ⟨e.later, e.keptL⟩) h.gone

theorem R2.drop_dead {st st' : St} {a : Nat} (h : R2 [a] st st') (hd : st'.live a = false) : R2 [] st st' :=
  h.drop_one fun _ => Or.inl hd

theorem R2.of_heap_q {E : List Nat} {st st' : St} (hh : st'.heap = st.heap) (hok : st'.isOk = true → st.isOk = true)
    (ha : st'.alive = st.alive) (hc : ∀ k ∈ st.cancelReq, k ∈ st'.cancelReq)
    (ht : ∀ x ∈ st.timers, x ∈ st'.timers ∨ x ∈ E) (hl : ∀ x ∈ st.laters, x ∈ st'.laters ∨ x ∈ E) : R2 E st st' :=
  have hlen : st'.heap.length = st.heap.length := by rw [hh]
  .of_q (MH.of_heap hh hok) ha hc
    ⟨fun _ x hx _ => (ht x hx).imp id Or.inr, fun _ x h1 h2 => absurd h2 (by omega)⟩
    ⟨fun _ x hx _ => (hl x hx).imp id Or.inr, fun _ x h1 h2 => absurd h2 (by omega)⟩
    fun x hx hlv hd => by rw [hh] at hx; rw [live_of_heap_eq hh, hlv hx] at hd; cases hd

theorem R2.of_heap {E : List Nat} {st st' : St} (hh : st'.heap = st.heap) (hok : st'.isOk = true → st.isOk = true)
    (ha : st'.alive = st.alive) (hc : st'.cancelReq = st.cancelReq) (ht : st'.timers = st.timers) (hl : st'.laters = st.laters) :
    R2 E st st' :=
  .of_heap_q hh hok ha (fun _ hk => hc ▸ hk) (fun _ hx => Or.inl (ht ▸ hx)) (fun _ hx => Or.inl (hl ▸ hx))

theorem Inert.r2 {st st' : St} (i : Inert st st') {E : List Nat} : R2 E st st' :=
  R2.of_heap i.heap i.ok i.alive i.creq i.timers i.laters

theorem r2_setW (E : List Nat) (st : St) (a : Nat) (w : Watch) (h : okMH (st.getW a) w)
    (hg : a < st.heap.length → (st.getW a).freed = false → w.freed = true →
      isOneShot w.type = false ∨ w.slot ∈ st.cancelReq ∨ w.slot < 0) : R2 E st (st.setW a w) := by
  have hlen := St.length_setW st a w
  refine ⟨mh_setW st a w h, rfl, fun _ h => h, fun _ x hx _ => Or.inl hx, fun _ x hx _ => Or.inl hx,
    fun _ x h1 h2 => by omega, ?_⟩
  intro x hx hlv hd
  rw [hlen] at hx
  by_cases hax : a = x
  · subst hax
    have hold := hlv hx
    rw [live_eq_not_freed _ _ hx] at hold
    rw [live_eq_not_freed _ _ (by rw [hlen]; exact hx), St.getW_setW_self st a w hx] at hd
    rw [St.getW_setW_self st a w hx]
    exact hg hx (by simpa using hold) (by simpa using hd)
  · rw [St.live_setW_ne _ _ _ _ hax, hlv hx] at hd; cases hd

theorem r2_setW_keep (E : List Nat) (st : St) (a : Nat) (w : Watch) (h : okMH (st.getW a) w) (hf : w.freed = (st.getW a).freed) :
    R2 E st (st.setW a w) :=
  r2_setW E st a w h (fun _ hold h' => absurd (hf ▸ h') (by rw [hold]; decide))

theorem r2_setEvi (E : List Nat) (st : St) (a idx : Nat) : R2 E st (st.setW a { st.getW a with evi := idx }) :=
  r2_setW_keep E st a _ (mh_admits.evi _ _) rfl
theorem r2_setWstatus (E : List Nat) (st : St) (a : Nat) (ws : Int) : R2 E st (st.setW a { st.getW a with wstatus := ws }) :=
  r2_setW_keep E st a _ (mh_admits.wstatus _ _) rfl

theorem r2_setNone (E : List Nat) (st : St) (a : Nat) : R2 E st (st.setW a { st.getW a with type := .none }) :=
  r2_setW_keep E st a _ (mh_admits.typeNone _) rfl

theorem r2_free (E : List Nat) (st : St) (a : Nat) (ha : a < st.heap.length → MayGo st a) : R2 E st (st.free a) :=
  of_ite (r2_setW E st a _ (mh_admits.freed _) (fun hlt _ _ => ha hlt)) (inert_fail st _).r2

theorem r2_with_timers (E : List Nat) (st : St) (l : List Nat) (hs : ∀ x ∈ st.timers, x ∈ l ∨ x ∈ E) : R2 E st { st with timers := l } :=
  .of_heap_q rfl id rfl (fun _ h => h) hs (fun _ h => Or.inl h)
theorem r2_with_laters (E : List Nat) (st : St) (l : List Nat) (hs : ∀ x ∈ st.laters, x ∈ l ∨ x ∈ E) : R2 E st { st with laters := l } :=
  .of_heap_q rfl id rfl (fun _ h => h) (fun _ h => Or.inl h) hs
theorem r2_with_cancelReq (E : List Nat) (st : St) (l : List Int) (hs : ∀ k ∈ st.cancelReq, k ∈ l) : R2 E st { st with cancelReq := l } :=
  .of_heap_q rfl id rfl hs (fun _ h => Or.inl h) (fun _ h => Or.inl h)

theorem r2_setListOf_erase (st : St) (t : WType) (a : Nat) : R2 [a] st (setListOf st t ((listOf st t).erase a)) := by
  have hmem : ∀ (l : List Nat) x, x ∈ l → x ∈ l.erase a ∨ x ∈ [a] := by
    intro l x hx
    by_cases e : x = a
    · exact Or.inr (by simp [e])
    · exact Or.inl ((List.mem_erase_of_ne e).mpr hx)
  cases t with
  | timer => exact r2_with_timers [a] st _ (hmem st.timers)
  | later => exact r2_with_laters [a] st _ (hmem st.laters)
  | io => exact (inert_with_iow st _).r2
  | signal => exact (inert_with_signals st _).r2
  | process => exact (inert_with_procs st _).r2
  | none => exact R2.refl _ _

theorem R2.free_drop {st s3 s5 : St} {a : Nat} (h : R2 [a] st s3) (hm : a < s3.heap.length → MayGo s3 a) (i : Inert (s3.free a) s5) :
    R2 [] st s5 :=
  ((h.trans (r2_free [a] s3 a hm)).trans i.r2).drop_dead ((live_of_heap_eq i.heap a).trans (live_free_false s3 a))

/-- `cancelFound` with the arguments `watchCancel0` passes. -/
theorem r2_cancelFound (st : St) (a : Nat) (ha : MayGo st a) :
    R2 [] st (cancelFound st a (st.getW a) (listOf st (st.getW a).type)) := by
  have i := (inert_cancelNotify (setListOf st (st.getW a).type ((listOf st (st.getW a).type).erase a)) a (st.getW a)).trans
    (inert_cancelHook _ (st.getW a).type (st.getW a).evi)
  have h3 := (r2_setListOf_erase st (st.getW a).type a).trans i.r2
  refine h3.free_drop (fun hlt => ?_) (inert_cancelRest _ _)
  rw [i.heap, heap_setListOf] at hlt
  exact ha.step h3.h h3.creq hlt

theorem r2_cancelDetached (E : List Nat) (st : St) (a : Nat) : R2 E st (cancelDetached st a) :=
  (inert_cancelNotify st a _).r2.trans (r2_setNone E _ a)

theorem r2_laterPre (E : List Nat) (st : St) (a : Nat) : R2 E st (laterPre st a) :=
  of_ite (r2_setW_keep E _ a _ (mh_admits.flags _ _) rfl) (.refl _ _)

theorem r2_watchCancel0 (E : List Nat) (st : St) (a : Nat) (ha : MayGo st a) : R2 E st (watchCancel0 st a) :=
  watchCancel0_cases st a (.refl _ st) (fun _ => (inert_fail st _).r2) (fun _ _ _ => r2_cancelDetached E st a)
    (fun _ _ => (r2_cancelFound st a ha).nil)

theorem r2_watchCancel (E : List Nat) (st : St) (a : Nat) (ha : MayGo st a)
    (hn : ∀ l, (st.getW a).notify = some l → l < st.heap.length ∧ (st.getW l).slot < 0) : R2 E st (watchCancel st a) :=
  have h1 := r2_watchCancel0 E st a ha
  watchCancel_cases st a h1 fun l _ hl =>
    h1.trans (r2_watchCancel0 E _ l (Or.inr (Or.inr (by rw [h1.h.slot l (hn l hl).1]; exact (hn l hl).2))))

/-- `watch->type = WATCH_NONE; free(watch);` — the freed watch has no type any more, so it may go. -/
theorem r2_setNoneFree (E : List Nat) (st : St) (a : Nat) {w : Watch} (hw : st.getW a = w) :
    R2 E st ((st.setW a { w with type := .none }).free a) :=
  hw ▸ (r2_setNone E st a).trans
    (r2_free E _ a fun hlt => Or.inl (by rw [St.getW_setW_self st a _ (by rw [St.length_setW] at hlt; exact hlt)]; rfl))

theorem r2_unlinkOneshotSaved (E : List Nat) (st : St) (a : Nat) (t : WType) : R2 E st (unlinkOneshotSaved st a t) :=
  unlinkOneshotSaved_cases st a t (.refl _ st) (fun _ => (inert_fail st _).r2) fun _ _ _ _ =>
    (((r2_setListOf_erase st t a).trans (r2_setNoneFree [a] _ a (getW_setListOf ..))).drop_dead (live_free_false _ a)).nil

/-! constructors: the new watch is excepted until it is linked -/

theorem r2_alloc (st : St) (w : Watch) (hw : w.freed = false) : R2 [st.heap.length] st (st.alloc w).1 := by
  have hlen := alloc_len st w
  refine ⟨mh_alloc st w, rfl, fun _ h => h, fun _ x hx _ => Or.inl hx, fun _ x hx _ => Or.inl hx, ?_, ?_⟩
  · intro _ x h1 h2 _
    rw [hlen] at h2
    have : x = st.heap.length := by omega
    subst this
    exact ⟨fun _ => Or.inr (by simp), fun _ => Or.inr (by simp)⟩
  · intro x hx hlv hd
    rw [hlen] at hx
    by_cases e : x < st.heap.length
    · rw [live_alloc_old st w x e, hlv e] at hd; cases hd
    · have : x = st.heap.length := by omega
      subst this
      rw [live_alloc_new st w hw] at hd; cases hd

theorem R2.drop_other {st st' : St} {a : Nat} (h : R2 [a] st st') (ha : a < st'.heap.length)
    (ht : isOneShot (st'.getW a).type = false) (hn1 : a ∉ st.timers) (hn2 : a ∉ st.laters) : R2 [] st st' :=
  h.drop_one fun _ => Or.inr ⟨fun e => (by rw [e] at ht; cases ht), fun e => (by rw [e] at ht; cases ht), fun e => absurd e hn1,
    fun e => absurd e hn2⟩

theorem insertWatch_mem (st : St) (l : List Nat) (flags new : Nat) :
    (∀ x ∈ l, x ∈ (insertWatch st l flags new).2) ∧ ((insertWatch st l flags new).1.isOk = true → new ∈ (insertWatch st l flags new).2) :=
  of_ite (P := fun r : St × List Nat => (∀ x ∈ l, x ∈ r.2) ∧ (r.1.isOk = true → new ∈ r.2))
    ⟨fun _ h => List.mem_cons_of_mem _ h, fun _ => List.mem_cons_self⟩ <| of_ite
    (P := fun r : St × List Nat => (∀ x ∈ l, x ∈ r.2) ∧ (r.1.isOk = true → new ∈ r.2))
    ⟨fun _ h => List.mem_append_left _ h, fun _ => by simp⟩ ⟨fun _ h => h, fun h => by rw [St.isOk_fail] at h; cases h⟩

theorem r2_watchTimerAt (st : St) (due : TV) (flags : Nat) (slot : Int) : R2 [] st (watchTimerAt st due flags slot).1 := by
  unfold watchTimerAt
  simp only []
  generalize hs : (st.alloc _).1 = s1
  have hA : R2 [st.heap.length] st s1 := hs ▸ r2_alloc st _ rfl
  have hgw : (s1.getW st.heap.length).type = .timer := by rw [← hs, getW_alloc_new]
  have hlat : s1.laters = st.laters := by rw [← hs]; rfl
  split
  · rename_i l hl
    have hmem := insTimer_mem s1 _ due _ l hl
    refine (hA.trans (r2_with_timers _ s1 l (fun x hx => Or.inl ((hmem x).mpr (Or.inr hx))))).drop_one fun _ => Or.inr
      ⟨fun _ => (hmem _).mpr (Or.inl rfl), fun e => ?_, fun _ => (hmem _).mpr (Or.inl rfl), fun e => ?_⟩
    · exact absurd ((show (({ s1 with timers := l } : St).getW st.heap.length).type = .timer from hgw).symm.trans e) (by decide)
    · show st.heap.length ∈ s1.laters; rw [hlat]; exact e
  · exact (hA.trans (inert_fail _ _).r2).drop_one fun hok => by rw [St.isOk_fail] at hok; cases hok

theorem r2_watchLater (st : St) (flags : Nat) (slot : Int) (puser : Nat) : R2 [] st (watchLater st flags slot puser).1 := by
  unfold watchLater
  simp only []
  generalize hs : (st.alloc _).1 = s1
  have hA : R2 [st.heap.length] st s1 := hs ▸ r2_alloc st _ rfl
  have hgw : (s1.getW st.heap.length).type = .later := by rw [← hs, getW_alloc_new]
  have htim : s1.timers = st.timers := by rw [← hs]; rfl
  have i := inert_insertWatch s1 s1.laters flags st.heap.length
  obtain ⟨hsub, hin⟩ := insertWatch_mem s1 s1.laters flags st.heap.length
  refine ((hA.trans i.r2).trans (r2_with_laters _ _ _ (fun x hx => Or.inl (hsub x (by rw [i.laters] at hx; exact hx))))).drop_one
    fun hok => Or.inr ⟨fun e => ?_, fun _ => hin hok, fun e => ?_, fun _ => hin hok⟩
  · have : ((insertWatch s1 s1.laters flags st.heap.length).1.getW st.heap.length).type = .later := by
      rw [getW_of_heap_eq i.heap, hgw]
    exact absurd (this.symm.trans e) (by decide)
  · show st.heap.length ∈ (insertWatch s1 s1.laters flags st.heap.length).1.timers
    rw [i.timers, htim]; exact e

theorem r2_alloc_other (E : List Nat) (st : St) (w : Watch) (hw : w.freed = false) (ht : isOneShot w.type = false) :
    R2 E st (st.alloc w).1 :=
  ((r2_alloc st w hw).drop_one fun _ => Or.inr
    ⟨fun e => (by rw [getW_alloc_new] at e; rw [e] at ht; cases ht), fun e => (by rw [getW_alloc_new] at e; rw [e] at ht; cases ht),
     id, id⟩).nil

theorem r2_evloopIo (E : List Nat) (st : St) (fd : Int) (cond : Nat) (w : Nat) : R2 E st (evloopIo st fd cond w).1 := by
  obtain ⟨p, e, _⟩ := evloopIo_eq st fd cond w
  rw [e]
  exact R2.of_heap rfl id rfl rfl rfl rfl

theorem r2_watchIo (E : List Nat) (st : St) (fd : Int) (cond flags : Nat) (slot : Int) : R2 E st (watchIo st fd cond flags slot).1 :=
  ((((r2_alloc_other E st _ rfl rfl).trans (r2_evloopIo _ _ _ _ _)).trans (r2_setEvi _ _ _ _)).trans (inert_insertWatch _ _ _ _).r2).trans
    (inert_with_iow _ _).r2

theorem r2_watchSignalPre (E : List Nat) (st : St) (signum : Int) (flags : Nat) (slot : Int) :
    R2 E st (watchSignalPre st signum flags slot) :=
  ((r2_alloc_other E st { type := .signal, flags := flags &&& (BIND_UNBIND ||| BIND_DESTROY), slot := slot, signum := signum } rfl rfl).trans
    (inert_evloopSignal _ _).r2).trans (r2_setEvi _ _ _ _)

theorem r2_watchSignal (E : List Nat) (st : St) (signum : Int) (flags : Nat) (slot : Int) :
    R2 E st (watchSignal st signum flags slot).1 :=
  ((r2_watchSignalPre E st signum flags slot).trans (inert_insertWatch _ _ _ _).r2).trans (inert_with_signals _ _).r2

theorem r2_ensureSigchld (E : List Nat) (st : St) : R2 E st (ensureSigchld st) := by
  unfold ensureSigchld
  cases st.sigchldwatch with
  | some _ => exact .refl _ _
  | none => exact (r2_watchSignal E st SIGCHLD 0 (-3)).trans (inert_with_sigchldwatch _ _).r2

theorem r2_setNotify (E : List Nat) (st : St) (a : Nat) (n : Option Nat) : R2 E st (setNotify st a n) :=
  r2_setW_keep E st a _ (mh_admits.notify _ n) rfl

theorem r2_linkNotified (E : List Nat) (r : St × Nat) (a : Nat) (flags : Nat) : R2 E r.1 (linkNotified r a flags) :=
  ((r2_setNotify E r.1 a (some r.2)).trans (inert_insertWatch _ _ _ _).r2).trans (inert_with_procs _ _).r2

theorem r2_clearNotify (E : List Nat) (st : St) (a : Nat) : R2 E st (clearNotify st a) :=
  of_ite (r2_setNotify E st a none) (.refl _ _)

theorem r2_linkProcess (st : St) (a : Nat) (pid : Int) (flags : Nat) : R2 [] st (linkProcess st a pid flags) :=
  have h := (inert_waitpid st pid).r2.trans (r2_setWstatus [] (waitpid st pid).st a (waitpid st pid).wstatus)
  of_ite (of_ite ((h.trans (r2_watchLater _ 0 (-4) a)).trans (r2_linkNotified [] _ a flags)) (h.trans (r2_watchLater _ _ _ _)))
    (((inert_waitpid st pid).r2.trans (inert_insertWatch _ _ _ _).r2).trans (inert_with_procs _ _).r2)

theorem r2_watchProcess (st : St) (pid : Int) (flags : Nat) (slot : Int) : R2 [] st (watchProcess st pid flags slot).1 :=
  ((r2_alloc_other [] st { type := .process, flags := flags &&& (BIND_UNBIND ||| BIND_DESTROY), slot := slot, pid := pid } rfl rfl).trans
    (r2_ensureSigchld _ _)).trans (r2_linkProcess _ _ _ _)

theorem r2_base : Base (R2 []) := .ofStill (R2.refl []) R2.trans fun h => h.inert.r2

theorem r2_ctor {k : Int} {f : St → St × Nat} (c : Ctor k f) (s : St) : R2 [] s (f s).1 :=
  r2_base.ctor (r2_watchTimerAt · · · k) (r2_watchLater · · k 0) (r2_watchIo [] · · · · k) (fun s sig fl _ => r2_watchSignal [] s sig fl k)
    (r2_watchProcess · · · k) c s

theorem r2_doRegister (st : St) (k : Int) (reg : St → St × Nat) (hreg : ∀ s, R2 [] s (reg s).1) : R2 [] st (doRegister st k reg) :=
  r2_base.doRegister (fun _ _ => R2.of_heap rfl id rfl rfl rfl rfl) st k reg hreg

end Tickit.EvLoop
