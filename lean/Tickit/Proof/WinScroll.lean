import Tickit.Model.WinFlush
import Tickit.Proof.RectSet
import Tickit.Proof.RectSetInv
import Tickit.Proof.Rect
import Tickit.Proof.WinDamage
/-
  The rebuilding of the pending damage in `_scrollrectset` (`WinFlush.shiftDamage`) is exact — the damage outside the
  scrolled rectangle stays, the damage inside moves with the scroll and is cut to the rectangle — and keeps the invariant
  of the rectangle set.
-/
namespace Tickit
namespace WinFlush
open WinTree WinRB

/-- What one pending damage rectangle `rj` contributes after a scroll of `rect` by `(d, r)`. -/
def ShiftedMem (rect : Rect) (d r : Int) (rj : Rect) (L C : Int) : Prop :=
  (rj.Mem L C ∧ ¬ rect.Mem L C) ∨ (rect.Mem L C ∧ rj.Mem (L + d) (C + r) ∧ rect.Mem (L + d) (C + r))

theorem rsAdd_ok {s : List Rect} {r : Rect} {s' : List Rect} (h : rsAdd s r = .ok s') : RectSet.add rsFuel s r = some s' := by
  unfold rsAdd at h
  split at h
  · rename_i x hx; cases h; exact hx
  · cases h

theorem rsAddMany_ok {s rs s' : List Rect} (h : rsAddMany s rs = .ok s') : RectSet.addMany rsFuel s rs = some s' := by
  unfold rsAddMany at h
  split at h
  · rename_i x hx; cases h; exact hx
  · cases h

theorem shiftedMem_far {rect rj : Rect} {d r : Int}
    (hfar : rj.bottom < rect.top ∨ rj.top > rect.bottom ∨ rj.right < rect.left ∨ rj.left > rect.right)
    (L C : Int) : ShiftedMem rect d r rj L C ↔ rj.Mem L C := by
  unfold ShiftedMem
  simp only [Rect.Mem, Rect.bottom, Rect.right] at hfar ⊢
  constructor
  · rintro (⟨hm, _⟩ | ⟨h1, h2, h3⟩)
    · exact hm
    · omega
  · exact fun hm => Or.inl ⟨hm, by omega⟩

theorem shiftDamage_spec (rect : Rect) (d r : Int) (hrect : rect.Nonempty) :
    ∀ (dmg acc acc' : List Rect), shiftDamage rect d r dmg acc = .ok acc' →
      (∀ x ∈ dmg, x.Nonempty) → RectSet.InvS acc →
      RectSet.InvS acc' ∧
      ∀ L C, Covered acc' L C ↔ (Covered acc L C ∨ ∃ rj ∈ dmg, ShiftedMem rect d r rj L C) := by
  intro dmg
  induction dmg with
  | nil =>
    intro acc acc' h _ hinv
    simp only [shiftDamage] at h
    cases h
    exact ⟨hinv, fun L C => ⟨Or.inl, fun hh => hh.elim id (fun ⟨_, hx, _⟩ => by cases hx)⟩⟩
  | cons rj rest ih =>
    intro acc acc' h hne hinv
    simp only [shiftDamage] at h
    have hrj : rj.Nonempty := hne rj List.mem_cons_self
    have step : ∀ acc1, RectSet.InvS acc1 → (∀ L C, Covered acc1 L C ↔ (Covered acc L C ∨ ShiftedMem rect d r rj L C)) →
        shiftDamage rect d r rest acc1 = .ok acc' →
        RectSet.InvS acc' ∧ ∀ L C, Covered acc' L C ↔ (Covered acc L C ∨ ∃ rj' ∈ rj :: rest, ShiftedMem rect d r rj' L C) := by
      intro acc1 hinv1 hcov1 hrest
      obtain ⟨hi, hc⟩ := ih acc1 acc' hrest (fun x hx => hne x (List.mem_cons_of_mem _ hx)) hinv1
      refine ⟨hi, fun L C => ?_⟩
      rw [hc L C, hcov1 L C]
      constructor
      · rintro ((h1 | h2) | ⟨rj', hr', hs⟩)
        · exact Or.inl h1
        · exact Or.inr ⟨rj, List.mem_cons_self, h2⟩
        · exact Or.inr ⟨rj', List.mem_cons_of_mem _ hr', hs⟩
      · rintro (h1 | ⟨rj', hr', hs⟩)
        · exact Or.inl (Or.inl h1)
        · rcases List.mem_cons.1 hr' with rfl | hr'
          · exact Or.inl (Or.inr hs)
          · exact Or.inr ⟨rj', hr', hs⟩
    by_cases hfar : rj.bottom < rect.top ∨ rj.top > rect.bottom ∨ rj.right < rect.left ∨ rj.left > rect.right
    · simp only [hfar, if_true] at h
      obtain ⟨acc1, ha, h⟩ := bind_ok_iff.1 h
      have ha' := rsAdd_ok ha
      refine step acc1 (RectSet.add_invS ha' hrj hinv) (fun L C => ?_) h
      rw [(RectSet.add_region ha' hrj hinv.1).2 L C, shiftedMem_far hfar]
    · simp only [hfar, if_false] at h
      obtain ⟨acc1, ha, h⟩ := bind_ok_iff.1 h
      have ha' := rsAddMany_ok ha
      obtain ⟨_, hsne, _, hscov⟩ := Rect.subtract_spec rj rect hrj hrect
      have hcov1 := (RectSet.addMany_region ha' hsne hinv.1).2
      have hinv1 := RectSet.addMany_invS ha' hsne hinv
      -- without a moved part, the loop goes on with `acc1`
      have plain : (∀ L C, rect.Mem L C → rj.Mem (L + d) (C + r) → rect.Mem (L + d) (C + r) → False) →
          shiftDamage rect d r rest acc1 = .ok acc' →
          RectSet.InvS acc' ∧ ∀ L C, Covered acc' L C ↔ (Covered acc L C ∨ ∃ rj' ∈ rj :: rest, ShiftedMem rect d r rj' L C) := by
        intro hno hrest
        refine step acc1 hinv1 (fun L C => ?_) hrest
        rw [hcov1 L C, hscov L C]
        exact or_congr Iff.rfl ⟨Or.inl, fun hx => hx.elim id (fun ⟨h1, h2, h3⟩ => (hno L C h1 h2 h3).elim)⟩
      cases hi : Rect.intersect rj rect with
      | none =>
        simp only [hi] at h
        exact plain (fun L C _ h2 h3 => Rect.intersect_none _ _ hi _ _ ⟨h2, h3⟩) h
      | some inside =>
        simp only [hi] at h
        have hins := Rect.intersect_some _ _ _ hi
        have htr : ∀ L C, (inside.translate (-d) (-r)).Mem L C ↔ inside.Mem (L + d) (C + r) := fun L C => by
          rw [Rect.mem_translate, Int.sub_neg, Int.sub_neg]
        cases hi2 : Rect.intersect (inside.translate (-d) (-r)) rect with
        | none =>
          simp only [hi2] at h
          refine plain (fun L C h1 h2 h3 => ?_) h
          exact Rect.intersect_none _ _ hi2 _ _ ⟨(htr L C).2 ((hins.2 _ _).2 ⟨h2, h3⟩), h1⟩
        | some moved =>
          simp only [hi2] at h
          obtain ⟨acc2, hacc, h⟩ := bind_ok_iff.1 h
          have hmv := Rect.intersect_some _ _ _ hi2
          have ha2' := rsAdd_ok hacc
          refine step acc2 (RectSet.add_invS ha2' hmv.1 hinv1) (fun L C => ?_) h
          rw [(RectSet.add_region ha2' hmv.1 hinv1.1).2 L C, hcov1 L C, hscov L C, hmv.2 L C]
          unfold ShiftedMem
          constructor
          · rintro ((h1 | h2) | ⟨h3, h4⟩)
            · exact Or.inl h1
            · exact Or.inr (Or.inl h2)
            · have := (hins.2 _ _).1 ((htr L C).1 h3)
              exact Or.inr (Or.inr ⟨h4, this.1, this.2⟩)
          · rintro (h1 | h2 | ⟨h3, h4, h5⟩)
            · exact Or.inl (Or.inl h1)
            · exact Or.inl (Or.inr h2)
            · exact Or.inr ⟨(htr L C).2 ((hins.2 _ _).2 ⟨h4, h5⟩), h3⟩

end WinFlush
end Tickit
