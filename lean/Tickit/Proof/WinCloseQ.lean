import Tickit.Proof.WinResize
/-
  The queue of restacking requests: what is assumed of a queued request (`QueueOk`), what `_request_hierarchy_change` does
  to the queue (it only appends), and the relation `Shrinks` (requests only dropped, child lists only lose entries), under
  which the ordering of the store is kept.  What `tickit_window_close` does is in Proof/WinClose.lean.

  Also here, for want of a lower module of this half: `tree_op_ok` (what a successful `runOp`/`runTreeOp` of Props/C01
  unpacks to) and the transfer of `TInv` to a tree with the same windows (`tinv_congr_core`, `tinv_of_wins`,
  `tinv_congr_wins`).
-/
namespace Tickit
namespace WinFlush
open WinTree WinRB WinSpec

theorem tree_op_ok {st st' : St} {x : Res Tree} (h : (do let t ← x; pure { st with tree := t }) = .ok st') :
    ∃ t', x = .ok t' ∧ st' = { st with tree := t' } := by
  obtain ⟨t', hx, h⟩ := bind_ok_iff.1 h
  simp only [pure, Pure.pure, Res.ok.injEq] at h
  exact ⟨t', hx, h.symm⟩

/-- `t'` has only lost things: queued requests, entries of child lists; rectangles are the same. -/
def Shrinks (t t' : Tree) : Prop :=
  (∀ r ∈ t'.root.changes, r ∈ t.root.changes) ∧
  (∀ (x : Nat) (w' : Win), t'.wins[x]? = some w' → ∃ w, t.wins[x]? = some w ∧ (∀ ch ∈ w'.children, ch ∈ w.children) ∧ w'.rect = w.rect) ∧
  (t.root.needsLater = true → t'.root.needsLater = true)

theorem ordered_shrinks {t t' : Tree} (h : Shrinks t t') (ho : Ordered t) : Ordered t' :=
  ordered_of_children (fun x w' hw' => by obtain ⟨w, a, b, _⟩ := h.2.1 x w' hw'; exact ⟨w, a, b⟩) ho

/-- Every queued request is a restacking one (raise, lower): insertions and removals are never queued. -/
def QueueOk (t : Tree) : Prop := ∀ r ∈ t.root.changes, isRestack r.change = true

theorem core_set_of_core (t : Tree) (id : Id) (w w' : Win) (hw : t.wins[id]? = some w) (hc : core w' = core w) (x : Id) :
    ((WinTree.set t id w').wins[x]?).map core = (t.wins[x]?).map core :=
  sameBy_set hw hc x

theorem tinv_congr_core {content : Id → Int → Int → Cell} {screen : Int → Int → Cell} {t t' : Tree}
    (hcore : SameBy core t t') (hsz : t'.wins.size = t.wins.size)
    (hd : t'.root.damage = t.root.damage) (hI : TInv content screen t) : TInv content screen t' :=
  ⟨treeOk_congr_core hcore hI.ok, ordered_agree (links_of_core hcore) hI.ord, rootsPositive_congr_core hcore hI.pos,
    by rw [hd]; exact hI.nonempty, by rw [hd]; exact hI.dinv, fun L C w l c ho => by
      rw [ownerAt_congr_view (fun x => map_core_view (hcore x)) hsz] at ho
      rw [hd]
      exact hI.inv L C w l c ho⟩

theorem tinv_of_wins {content content' : Id → Int → Int → Cell} {screen screen' : Int → Int → Cell} {t t' : Tree}
    (hw : t'.wins = t.wins) (hI : TInv content screen t) (hne : ∀ x ∈ t'.root.damage, x.Nonempty)
    (hdi : RectSet.Inv t'.root.damage) (hinv : InvC content' t' screen') : TInv content' screen' t' :=
  ⟨treeOk_congr hw hI.ok, ordered_congr hw hI.ord, rootsPositive_congr hw hI.pos, hne, hdi, hinv⟩

theorem tinv_congr_wins {content : Id → Int → Int → Cell} {screen : Int → Int → Cell} {t t' : Tree} (hw : t'.wins = t.wins)
    (hd : t'.root.damage = t.root.damage) (hI : TInv content screen t) : TInv content screen t' :=
  tinv_congr_core (fun x => by rw [hw]) (by rw [hw]) hd hI

end WinFlush
end Tickit
