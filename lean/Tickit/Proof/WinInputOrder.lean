import Tickit.Proof.WinInput
/-
  C14, what the reference orders say (no dispatcher here): what is offered is a prefix, all of it when nobody claims;
  `keyVisits` lists visible windows; `mouseVisits` gives every window the event's kind and its own cell; with no window
  stealing input, the first window offered a mouse event is the painter's-model owner of the cell.  Then the decidable
  checks the examples use for the hypotheses.
-/
namespace Tickit
namespace WinInput
open WinTree

theorem firstOccAux_prefix : ∀ (xs ys seen : List WinTree.Id), firstOccAux seen xs <+: firstOccAux seen (xs ++ ys) := by
  intro xs
  induction xs with
  | nil => intro ys seen; exact List.nil_prefix
  | cons x xs ih =>
    intro ys seen
    simp only [List.cons_append, firstOccAux]
    by_cases hx : x ∈ seen
    · simp only [hx, if_true]; exact ih ys seen
    · simp only [hx, if_false]; exact (List.prefix_cons_inj x).2 (ih ys (x :: seen))

theorem firstOcc_prefix {xs ws : List WinTree.Id} (h : xs <+: ws) : firstOcc xs <+: firstOcc ws := by
  obtain ⟨ys, rfl⟩ := h
  exact firstOccAux_prefix xs ys []

theorem offerAll_prefix (k : Kind) : ∀ (ws : List (WinTree.Id × Ev)) (b : Array Binding), (offerAll b k ws).2.1 <+: ws := by
  intro ws
  induction ws with
  | nil => intro b; simp [offerAll]
  | cons x xs ih =>
    intro b
    obtain ⟨w, e⟩ := x
    simp only [offerAll]
    by_cases hc : (offerOne b k w).2 = true
    · simp only [hc, if_true]; exact (List.prefix_cons_inj _).2 List.nil_prefix
    · simp only [hc, Bool.false_eq_true, if_false]; exact (List.prefix_cons_inj _).2 (ih _)

theorem offerAll_none (k : Kind) : ∀ (ws : List (WinTree.Id × Ev)) (b : Array Binding),
    (offerAll b k ws).2.2 = none → (offerAll b k ws).2.1 = ws := by
  intro ws
  induction ws with
  | nil => intro b _; simp [offerAll]
  | cons x xs ih =>
    intro b h
    obtain ⟨w, e⟩ := x
    simp only [offerAll] at h ⊢
    by_cases hc : (offerOne b k w).2 = true
    · simp [hc] at h
    · simp only [hc, Bool.false_eq_true, if_false] at h ⊢
      rw [ih _ h]

theorem offerAll_some (k : Kind) : ∀ (ws : List (WinTree.Id × Ev)) (b : Array Binding) (w : WinTree.Id),
    (offerAll b k ws).2.2 = some w →
    ∃ pre e post, ws = pre ++ (w, e) :: post ∧ (offerAll b k ws).2.1 = pre ++ [(w, e)] := by
  intro ws
  induction ws with
  | nil => intro b w h; simp [offerAll] at h
  | cons x xs ih =>
    intro b w h
    obtain ⟨w0, e0⟩ := x
    simp only [offerAll] at h ⊢
    by_cases hc : (offerOne b k w0).2 = true
    · simp only [hc, if_true, Option.some.injEq] at h ⊢
      subst h
      exact ⟨[], e0, xs, rfl, rfl⟩
    · simp only [hc, Bool.false_eq_true, if_false] at h ⊢
      obtain ⟨pre, e, post, h1, h2⟩ := ih _ w h
      exact ⟨(w0, e0) :: pre, e, post, by rw [h1]; rfl, by rw [h2]; rfl⟩

/-- In the property's words: what is offered is a prefix of the list; all of it when nobody claims; a claim is the last
    one offered. -/
theorem offerAll_reference (k : Kind) (ws : List (WinTree.Id × Ev)) (b : Array Binding) :
    (offerAll b k ws).2.1 <+: ws ∧ ((offerAll b k ws).2.2 = none → (offerAll b k ws).2.1 = ws) ∧
    ∀ w, (offerAll b k ws).2.2 = some w → ∃ pre e post, ws = pre ++ (w, e) :: post ∧ (offerAll b k ws).2.1 = pre ++ [(w, e)] :=
  ⟨offerAll_prefix k ws b, offerAll_none k ws b, offerAll_some k ws b⟩

/-- …for one event offered to a list of windows, the claim read as the dispatcher returns it (a `Bool`). -/
theorem offerAll_reference_const (k : Kind) (ev : Ev) (ws : List WinTree.Id) (b : Array Binding) :
    ∃ offered : List WinTree.Id, (offerAll b k (ws.map (·, ev))).2.1 = offered.map (·, ev) ∧ offered <+: ws ∧
      ((offerAll b k (ws.map (·, ev))).2.2.isSome = false → offered = ws) ∧
      ((offerAll b k (ws.map (·, ev))).2.2.isSome = true → ∃ pre w post, ws = pre ++ w :: post ∧ offered = pre ++ [w]) := by
  obtain ⟨hp, hn, hs⟩ := offerAll_reference k (ws.map (·, ev)) b
  have inj : ∀ {l l' : List WinTree.Id}, l.map (·, ev) = l'.map (·, ev) → l = l' :=
    fun h => (List.map_inj_right fun x y e => (Prod.mk.inj e).1).1 h
  have he : (offerAll b k (ws.map (·, ev))).2.1 = (ws.take (offerAll b k (ws.map (·, ev))).2.1.length).map (·, ev) := by
    rw [List.map_take]; exact List.prefix_iff_eq_take.1 hp
  refine ⟨_, he, List.take_prefix _ _, fun h => inj (he.symm.trans (hn (Option.isNone_iff_eq_none.1 (Option.isSome_eq_false_iff.1 h)))),
    fun h => ?_⟩
  obtain ⟨w, hq⟩ := Option.isSome_iff_exists.1 h
  obtain ⟨pre, e, post, h1, h2⟩ := hs w hq
  obtain ⟨l1, l2, rfl, rfl, h3⟩ := List.map_eq_append_iff.1 h1
  obtain ⟨a, l, rfl, ha, _⟩ := List.map_eq_cons_iff.1 h3
  cases ha
  exact ⟨l1, _, l, rfl, inj (he.symm.trans (by rw [h2]; simp))⟩

theorem keyVisits_visible (t : Tree) : ∀ (F : Nat) (win : WinTree.Id) (ws : List WinTree.Id),
    keyVisits t F win = some ws → ∀ x ∈ ws, visibleChain t (treeFuel t) x = true := by
  intro F
  induction F with
  | zero => intro win ws h; cases h
  | succ F ih =>
    intro win ws h x hx
    cases hv : visibleChain t (treeFuel t) win with
    | false => rw [keyVisits_hidden hv h] at hx; cases hx
    | true =>
      obtain ⟨w, hw, _, _⟩ := visibleChain_alive hv
      obtain ⟨F', a, b, c, hF, ha, hb, hc, rfl⟩ := keyVisits_shown hw hv h
      cases hF
      simp only [List.mem_append, List.mem_singleton] at hx
      rcases hx with ((hx | hx) | hx) | hx
      · unfold stealVisits at ha
        split at ha
        · split at ha
          · exact ih _ a ha x hx
          · cases ha; cases hx
        · cases ha; cases hx
      · unfold focusVisits at hb
        split at hb
        · exact ih _ b hb x hx
        · cases hb; cases hx
      · rw [hx]; exact hv
      · obtain ⟨c', _, l, hl, hxl⟩ := visitList_mem hc hx
        split at hl
        · cases hl; cases hxl
        · exact ih c' l hl x hxl

/-- `mouse_relative`, at the level of the reference order: every window is given the event's kind and its position
    minus the window's own absolute origin. -/
theorem mouseVisits_relative {t : Tree} (hwf : WF t) : ∀ (F : Nat) (win : WinTree.Id) (ev : Ev) (ws : List (WinTree.Id × Ev))
    (a b : Int), mouseVisits t F win ev = some ws → OriginSum t (some win) a b →
    ∀ x e, (x, e) ∈ ws → visibleChain t (treeFuel t) x = true ∧ sameKind ev e ∧
      ∃ a' b', OriginSum t (some x) a' b' ∧ e.line = ev.line - (a' - a) ∧ e.col = ev.col - (b' - b) := by
  intro F
  induction F with
  | zero => intro win ev ws a b h; cases h
  | succ F ih =>
    intro win ev ws a b h ho x e hx
    cases hv : visibleChain t (treeFuel t) win with
    | false => rw [mouseVisits_hidden hv h] at hx; cases hx
    | true =>
      obtain ⟨w, hw, hfr, _⟩ := visibleChain_alive hv
      obtain ⟨F', below, hF, hb, rfl⟩ := mouseVisits_shown hw hv h
      cases hF
      rcases List.mem_append.1 hx with h1 | h2
      · obtain ⟨c, hc, l, hl, hxl⟩ := visitList_mem hb h1
        cases hcw : t.wins[c]? with
        | none => cases (childVisits_none hcw _ ev).symm.trans hl; cases hxl
        | some cw =>
          rw [childVisits_eq hcw] at hl
          split at hl
          · cases hl; cases hxl
          · have hpar : cw.parent = some win := hwf.parent win c w cw hw hfr hc hcw
            have hoc : OriginSum t (some c) (a + cw.rect.top) (b + cw.rect.left) :=
              OriginSum.step hcw (by rw [hpar]; exact ho)
            obtain ⟨hvx, hk, a', b', hox, hl', hc'⟩ := ih c (ev.toChild cw) l _ _ hl hoc x e hxl
            refine ⟨hvx, ⟨hk.type, hk.button, hk.mod⟩, a', b', hox, ?_, ?_⟩
            · rw [hl']; simp only [Ev.toChild]; omega
            · rw [hc']; simp only [Ev.toChild]; omega
      · simp only [List.mem_singleton, Prod.mk.injEq] at h2
        obtain ⟨rfl, rfl⟩ := h2
        exact ⟨hv, sameKind.rfl' _, a, b, ho, by omega, by omega⟩

/-- `tickit_window_get_abs_geometry` computes that origin. -/
theorem up_origin (t : Tree) : ∀ (f : Nat) (p : Option WinTree.Id) (g g' : Rect), absGeometry.up t f p g = Res.ok g' →
    ∃ a b, OriginSum t p a b ∧ g'.top = g.top + a ∧ g'.left = g.left + b := by
  intro f
  induction f with
  | zero => intro p g g' h; simp [absGeometry.up] at h
  | succ f ih =>
    intro p g g' h
    cases p with
    | none => simp only [absGeometry.up, res_pure, Res.ok.injEq] at h; subst h; exact ⟨0, 0, OriginSum.top, by omega, by omega⟩
    | some p =>
      simp only [absGeometry.up] at h
      obtain ⟨pw, hpw, h⟩ := WinTree.bind_ok_iff.1 h
      obtain ⟨a, b, ho, h1, h2⟩ := ih _ _ _ h
      refine ⟨a + pw.rect.top, b + pw.rect.left, OriginSum.step (WinTree.get_ok_iff.1 hpw).1 ho, ?_, ?_⟩
      · rw [h1]; simp only [Rect.translate]; omega
      · rw [h2]; simp only [Rect.translate]; omega

theorem absGeometry_origin {t : Tree} {f : Nat} {x : WinTree.Id} {g : Rect} (h : absGeometry t f x = Res.ok g) :
    OriginSum t (some x) g.top g.left := by
  unfold absGeometry at h
  obtain ⟨w, hw, h⟩ := WinTree.bind_ok_iff.1 h
  obtain ⟨a, b, ho, h1, h2⟩ := up_origin t _ _ _ _ h
  have := OriginSum.step (WinTree.get_ok_iff.1 hw).1 ho
  rw [h1, h2, Int.add_comm w.rect.top a, Int.add_comm w.rect.left b]; exact this

theorem OriginSum.unique {t : Tree} : ∀ {p : Option WinTree.Id} {a b a' b' : Int}, OriginSum t p a b → OriginSum t p a' b' →
    a = a' ∧ b = b' := by
  intro p a b a' b' h1
  induction h1 generalizing a' b' with
  | top => intro h2; cases h2; exact ⟨rfl, rfl⟩
  | step hw _ ih =>
    intro h2
    cases h2 with
    | step hw' h' =>
      rw [hw] at hw'; cases hw'
      obtain ⟨e1, e2⟩ := ih h'
      exact ⟨by rw [e1], by rw [e2]⟩

def wfCheck (t : Tree) : Bool :=
  (List.range t.wins.size).all fun i =>
    match t.wins[i]? with
    | none => true
    | some w =>
      w.freed || (decide (1 ≤ w.refcount) && w.children.all fun c =>
        match t.wins[c]? with
        | none => true
        | some cw => cw.parent == some i)

theorem wfCheck_sound {t : Tree} (h : wfCheck t = true) : WF t := by
  unfold wfCheck at h
  rw [List.all_eq_true] at h
  have hi : ∀ (i : WinTree.Id) (w : Win), t.wins[i]? = some w → w.freed = false →
      1 ≤ w.refcount ∧ ∀ c ∈ w.children, ∀ cw, t.wins[c]? = some cw → cw.parent = some i := by
    intro i w hw hf
    have hlt : i < t.wins.size := (Array.getElem?_eq_some_iff.1 hw).1
    have := h i (List.mem_range.2 hlt)
    simp only [hw, hf, Bool.false_or, Bool.and_eq_true, decide_eq_true_eq, List.all_eq_true] at this
    refine ⟨this.1, ?_⟩
    intro c hc cw hcw
    have := this.2 c hc
    simp only [hcw, beq_iff_eq] at this
    exact this
  exact ⟨fun i w hw hf => (hi i w hw hf).1, fun i c w cw hw hf hc hcw => (hi i w hw hf).2 c hc cw hcw⟩

def noStealCheck (t : Tree) : Bool :=
  (List.range t.wins.size).all fun i =>
    match t.wins[i]? with
    | some w => !w.stealInput
    | none => true

theorem noStealCheck_sound {t : Tree} (h : noStealCheck t = true) :
    ∀ (i : WinTree.Id) (w : Win), t.wins[i]? = some w → w.stealInput = false := by
  intro i w hw
  unfold noStealCheck at h
  rw [List.all_eq_true] at h
  have := h i (List.mem_range.2 (Array.getElem?_eq_some_iff.1 hw).1)
  simpa [hw] using this

def staticCheck (binds : Array Binding) : Bool :=
  binds.toList.all fun b => b.entries.all fun e => e.actions.isEmpty

theorem staticCheck_sound {binds : Array Binding} (h : staticCheck binds = true) : Static binds := by
  intro i b hb e he
  unfold staticCheck at h
  rw [List.all_eq_true] at h
  have hm : b ∈ binds.toList := by
    rw [Array.mem_toList_iff]
    exact Array.mem_of_getElem? hb
  have := h b hm
  rw [List.all_eq_true] at this
  have := this e he
  simpa using this

theorem key_returns {x : Out (St × Bool)} {b : Bool}
    (h : (match x with | .ok (_, d) => d == b | _ => false) = true) : ∃ st', x = Out.ok (st', b) := by
  cases x with
  | ok p => obtain ⟨st', d⟩ := p; simp only [beq_iff_eq] at h; subst h; exact ⟨st', rfl⟩
  | ub w => simp at h
  | fuel => simp at h

theorem mouse_returns {x : Out (St × Option WinTree.Id)} {r : Option WinTree.Id}
    (h : (match x with | .ok (_, d) => d == r | _ => false) = true) : ∃ st', x = Out.ok (st', r) := by
  cases x with
  | ok p => obtain ⟨st', d⟩ := p; simp only [beq_iff_eq] at h; subst h; exact ⟨st', rfl⟩
  | ub w => simp at h
  | fuel => simp at h

theorem origin_of_test {t : Tree} {f : Nat} {x : WinTree.Id} {a b : Int}
    (h : (match absGeometry t f x with | .ok g => g.top == a && g.left == b | _ => false) = true) :
    OriginSum t (some x) a b := by
  cases hg : absGeometry t f x with
  | ub w => simp [hg] at h
  | ok g =>
    simp only [hg, Bool.and_eq_true, beq_iff_eq] at h
    rw [← h.1, ← h.2]; exact absGeometry_origin hg

/-- the first window of a reference order -/
def headWin (ws : List (WinTree.Id × Ev)) : Option WinTree.Id := ws.head?.map (·.1)

theorem headWin_append (a b : List (WinTree.Id × Ev)) : headWin (a ++ b) = (headWin a).or (headWin b) := by
  unfold headWin
  rw [List.head?_append]
  cases a.head? <;> rfl

theorem visitList_all_some {α : Type} {g : WinTree.Id → Option (List α)} : ∀ {cs : List WinTree.Id} {ws : List α},
    visitList g cs = some ws → ∀ c ∈ cs, ∃ l, g c = some l := by
  intro cs
  induction cs with
  | nil => intro ws _ c hc; cases hc
  | cons x rest ih =>
    intro ws h c hc
    obtain ⟨a, b, ha, hb, _⟩ := visitList_cons_some h
    rcases List.mem_cons.1 hc with rfl | hr
    · exact ⟨a, ha⟩
    · exact ih hb c hr

theorem visitList_headWin {g : WinTree.Id → Option (List (WinTree.Id × Ev))} : ∀ {cs : List WinTree.Id}
    {ws : List (WinTree.Id × Ev)}, visitList g cs = some ws →
    headWin ws = cs.findSome? (fun c => match g c with | some l => headWin l | none => none) := by
  intro cs
  induction cs with
  | nil => intro ws h; simp only [visitList, Option.some.injEq] at h; subst h; rfl
  | cons x rest ih =>
    intro ws h
    obtain ⟨a, b, ha, hb, rfl⟩ := visitList_cons_some h
    rw [headWin_append, List.findSome?_cons, ha]
    simp only
    cases hh : headWin a with
    | some o => rfl
    | none => simp only [Option.or]; exact ih hb

theorem inChild_eq_memb (cw : Win) (l c : Int) : inChild cw l c = cw.rect.memb l c := by
  unfold inChild outsideChild Rect.memb Rect.bottom Rect.right
  rw [Bool.eq_iff_iff]
  simp only [Bool.not_eq_true', Bool.or_eq_false_iff, Bool.and_eq_true, decide_eq_true_eq, decide_eq_false_iff_not]
  omega

theorem ownerIn_succ {t : Tree} {id : WinTree.Id} {w : Win} (hw : t.wins[id]? = some w) (f : Nat) (l c : Int) :
    ownerIn t (f + 1) id l c =
      if !w.isVisible || w.freed then none else if !(w.rect.memb l c) then none
      else some ((w.children.findSome? fun ch => ownerIn t f ch (l - w.rect.top) (c - w.rect.left)).getD id) := by
  rw [ownerIn]; simp only [hw]
  split
  · rfl
  · split
    · rfl
    · cases w.children.findSome? _ <;> rfl

/-- When no window steals input, the first window offered a mouse event is the painter's-model owner of the cell
    (`ownerIn`).  `g` is the depth of `win`: the fuel `visibleChain` needs to see it and its ancestors visible. -/
theorem mouseVisits_owner {t : Tree} (hwf : WF t) (hns : ∀ (i : WinTree.Id) (w : Win), t.wins[i]? = some w → w.stealInput = false) :
    ∀ (f : Nat) (win : WinTree.Id) (ev : Ev) (g : Nat) (w : Win) (ws : List (WinTree.Id × Ev)),
      t.wins[win]? = some w → visibleChain t g win = true → g + f ≤ treeFuel t →
      mouseVisits t f win ev = some ws →
      headWin ws = some (match w.children.findSome? (fun ch => ownerIn t (f - 1) ch ev.line ev.col) with
        | some o => o
        | none => win) := by
  intro f
  induction f with
  | zero => intro win ev g w ws _ _ _ h; cases h
  | succ f ih =>
    intro win ev g w ws hw hvg hfuel hv
    have hvF : visibleChain t (treeFuel t) win = true := by
      have := visibleChain_mono' (treeFuel t - g) g hvg
      rwa [show g + (treeFuel t - g) = treeFuel t by omega] at this
    obtain ⟨w', hw', hwfree, _⟩ := visibleChain_alive hvg
    cases hw.symm.trans hw'
    obtain ⟨F', below, hF, hb, rfl⟩ := mouseVisits_shown hw hvF hv
    cases hF
    -- child by child, the head of what is visited below it is what `ownerIn` finds there
    rw [headWin_append, visitList_headWin hb, Nat.add_sub_cancel,
      findSome?_congr_mem _ (fun ch => ownerIn t f ch ev.line ev.col)]
    · cases w.children.findSome? _ <;> rfl
    intro ch hch
    obtain ⟨l, hl⟩ := visitList_all_some hb ch hch
    rw [hl]
    show headWin l = _
    cases hcw : t.wins[ch]? with
    | none =>
      cases (childVisits_none hcw _ ev).symm.trans hl
      cases f with
      | zero => rfl
      | succ f' => simp only [ownerIn, hcw]; rfl
    | some cw =>
      rw [childVisits_eq hcw, hns ch cw hcw] at hl
      cases f with
      | zero =>
        -- no fuel left: an inner child cannot have been visited
        by_cases ho : (!false && outsideChild cw ev.line ev.col) = true
        · rw [if_pos ho] at hl; cases hl; rfl
        · rw [if_neg ho] at hl; cases hl
      | succ f' =>
        rw [ownerIn_succ hcw, ← inChild_eq_memb]
        unfold inChild
        by_cases ho : outsideChild cw ev.line ev.col = true
        · simp only [ho, Bool.not_false, Bool.and_self, if_true] at hl
          cases hl
          simp only [ho, Bool.not_true, Bool.not_false, if_true, ite_self]; rfl
        · simp only [ho, Bool.and_false, Bool.false_eq_true, if_false] at hl
          simp only [ho, Bool.not_false, Bool.not_true, Bool.false_eq_true, if_false]
          by_cases hok : (!cw.isVisible || cw.freed) = true
          · rw [if_pos hok, mouseVisits_hidden (visibleChain_of_hidden hcw hok _) hl]; rfl
          · rw [if_neg hok]
            have hpar : cw.parent = some win := hwf.parent win ch w cw hw hwfree hch hcw
            rw [ih ch (ev.toChild cw) (g + 1) cw l hcw
              (visibleChain_child hcw (by simpa using hok) hpar hvg) (by omega) hl]
            simp only [Ev.toChild, Nat.add_sub_cancel]
            cases cw.children.findSome? _ <;> rfl

/-- …in particular at the root: the first window offered a mouse event is `WinTree.owner` of the cell. -/
theorem mouseVisits_owner_root {t : Tree} (hwf : WF t) (hns : ∀ (i : WinTree.Id) (w : Win), t.wins[i]? = some w → w.stealInput = false)
    {w0 : Win} (hw0 : t.wins[0]? = some w0) (hf0 : w0.freed = false) (hv0 : w0.isVisible = true) (hp0 : w0.parent = none)
    {l c : Int} (hin : w0.rect.memb l c = true) {ev : Ev} (hl : ev.line = l - w0.rect.top) (hc : ev.col = c - w0.rect.left)
    {ws : List (WinTree.Id × Ev)} (hv : mouseVisits t (t.wins.size + 1) 0 ev = some ws) : headWin ws = owner t l c := by
  have hvc : visibleChain t 1 0 = true := by
    unfold visibleChain
    simp [hw0, hf0, hv0, hp0]
  rw [mouseVisits_owner hwf hns (t.wins.size + 1) 0 ev 1 w0 ws hw0 hvc (by unfold treeFuel; omega) hv, owner,
    ownerIn_succ hw0, hv0, hf0, hin, hl, hc]
  simp only [Bool.not_true, Bool.or_self, Bool.false_eq_true, if_false, Nat.add_sub_cancel]
  cases w0.children.findSome? _ <;> rfl

end WinInput
end Tickit
