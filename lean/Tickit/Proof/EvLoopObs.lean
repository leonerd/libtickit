import Tickit.Proof.EvLoopState
/-
  `signal_observer` (the file-scope pointer of evloop-default.c, `St.observer` relative to the instance the
  state describes) is moved by nothing but `evloop_init` and `evloop_destroy`: every other step of the model
  — registrations, cancels, whole iterations with whatever their callbacks do, `tickit_run` — leaves it alone
  (`ObsEq`), and `tickit_destroy` changes it exactly as `observerAfterDestroy` says.
-/
namespace Tickit.EvLoop

def ObsEq (st st' : St) : Prop := st'.observer = st.observer

theorem ObsEq.refl (st : St) : ObsEq st st := rfl
theorem ObsEq.trans {a b c : St} (h1 : ObsEq a b) (h2 : ObsEq b c) : ObsEq a c := by
  unfold ObsEq at *; rw [h2, h1]
theorem ObsEq.of_eq {st st' : St} (h : st'.observer = st.observer) : ObsEq st st' := h

theorem ob_low : Low ObsEq where
  toBase := observer_base
  alloc := fun _ _ => rfl
  setW := fun _ _ _ => rfl
  setList := fun _ t _ => by cases t <;> rfl
  evloopIo := fun _ _ _ _ => by unfold evloopIo; split <;> rfl
  evloopCancelIo := fun _ _ => rfl
  sameSig := fun h => h.observer
  harness := fun _ _ _ => rfl

theorem ob_closed : Closed ObsEq := ob_low.closed

theorem ob_iter : IterLeaves ObsEq :=
  .of_timers ob_closed ob_low.timers ⟨fun _ => rfl, fun _ => by unfold deliverPending; split <;> rfl⟩ fun _ => rfl

theorem ob_destroyBody (st : St) :
    ObsEq st (destroyOf .process (destroyOf .signal (destroyOf .later (destroyOf .timer (destroyOf .io (cancelSigchld st)))))) :=
  ob_low.destroyBody (ob_closed.cancelSigchld st)

theorem observer_destroy (st : St) (hok : (destroy st).isOk = true) :
    (destroy st).observer = observerAfterDestroy st.observer :=
  destroy_cases (P := fun r => r.isOk = true → r.observer = observerAfterDestroy st.observer) st
    (fun h hok => by rw [hok] at h; cases h)
    (fun s e => ⟨fun _ _ => congrArg observerAfterDestroy (e ▸ ob_destroyBody st), fun h hok => absurd hok h⟩) hok

theorem observer_destroy_cases (st : St) :
    (destroy st).observer = st.observer ∨ ((destroy st).observer = .none ∧ st.observer = .self) :=
  destroy_cases (P := fun r => r.observer = st.observer ∨ (r.observer = .none ∧ st.observer = .self)) st (fun _ => Or.inl rfl)
    fun s e => by
      have h : s.observer = st.observer := e ▸ ob_destroyBody st
      refine ⟨fun _ => ?_, fun _ => Or.inl h⟩
      show observerAfterDestroy _ = _ ∨ (observerAfterDestroy _ = _ ∧ _)
      rw [h]
      cases st.observer
      · exact Or.inr ⟨rfl, rfl⟩
      · exact Or.inl rfl
      · exact Or.inl rfl

theorem ob_applyOp (st : St) (op : Op) (h : op ≠ .destroy) : ObsEq st (applyOp st op) :=
  ObsEq.trans (rfl : ObsEq st { st with log := [] }) (ob_closed.applyOp' ob_iter _ op h)

theorem observer_applyOp_cases (st : St) (op : Op) :
    (applyOp st op).observer = st.observer ∨ ((applyOp st op).observer = .none ∧ st.observer = .self) :=
  applyOp'_cases (P := fun r => r.observer = st.observer ∨ (r.observer = .none ∧ st.observer = .self)) _ op
    (fun _ h => .inl h.observer) (fun _ => .inl (ob_closed.runAct _ _))
    (fun _ => .inl (ob_closed.tick ob_iter _ { st with log := [], stillRunning := true } _))
    (.inl (ob_closed.run ob_iter _ _)) fun _ _ => observer_destroy_cases _

end Tickit.EvLoop
