import Tickit.Model.RBFlush
/-
  C04: the hypotheses of `flush_spec` - what C03's invariant says of a reachable buffer, as far as the flush looks at it.
  This module imports the model of the flush only: `CharOK` writes `Utf8.nextUtf8` for the render buffer's decoder
  (`Tickit.RB.Utf8`, through `open Tickit.RB`), and with Model/Utf8.lean in scope that text would name C07's.
-/
namespace Tickit.RBFlush
open Tickit.RB

/-- A CHAR code point the terminal shows in exactly one column: it survives the UTF-8 encoding of `tickit_utf8_put`
    and the library's width of it is 1.  (The known finding `char_not_one_column` is the negation of this.) -/
def CharOK (cp : Int) : Prop :=
  Utf8.nextUtf8 (Utf8.put cp.toNat) 0 (some (Utf8.put cp.toNat).length) = some ⟨(Utf8.put cp.toNat).length, cp.toNat⟩ ∧
  Utf8.wcwidth cp.toNat = 1

def TextOK (cell : Cell) : Prop :=
  ∃ cs, decode cell.text = some cs ∧ 0 ≤ cell.offs ∧ cell.offs + cell.cols ≤ chCols cs

/-- What C03's invariant says of a run that starts at `(line, col)`, as far as the flush looks at it; `ok` is the
    condition on CHAR content (`CharOK` for `flush_spec`, `fun _ => True` for `C04_full`). -/
structure RunAtP (ok : Int → Prop) (rb : RB) (line col : Int) : Prop where
  notCont : (rb.cell line col).state ≠ .cont
  pos : 1 ≤ (rb.cell line col).cols
  fits : col + (rb.cell line col).cols ≤ rb.cols
  conts : ∀ k, col < k → k < col + (rb.cell line col).cols →
    (rb.cell line k).state = .cont ∧ (rb.cell line k).cols = col
  one : (rb.cell line col).state = .line ∨ (rb.cell line col).state = .char → (rb.cell line col).cols = 1
  mask : (rb.cell line col).state = .line → 1 ≤ (rb.cell line col).lmask ∧ (rb.cell line col).lmask < 256
  char : (rb.cell line col).state = .char → ok (rb.cell line col).cp
  text : (rb.cell line col).state = .text → TextOK (rb.cell line col)

abbrev RunAt := RunAtP CharOK

inductive TiledP (ok : Int → Prop) (rb : RB) (line : Int) : Int → Prop
  | done : TiledP ok rb line rb.cols
  | run {col : Int} : col < rb.cols → RunAtP ok rb line col →
      TiledP ok rb line (col + (rb.cell line col).cols) → TiledP ok rb line col

abbrev Tiled := TiledP CharOK

def FlushWFP (ok : Int → Prop) (rb : RB) : Prop := ∀ line, 0 ≤ line → line < rb.lines → TiledP ok rb line 0

abbrev FlushWF := FlushWFP CharOK

end Tickit.RBFlush
