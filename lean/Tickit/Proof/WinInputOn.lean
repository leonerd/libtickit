import Tickit.Proof.WinInput
/-
  C14, handlers that only claim or decline (`Static`), the repaired code: the offers follow the reference order of the
  store the dispatch started on (`handleKey_static`, `handleMouse_static`).  `SegK` / `SegM` say what a stretch of offers
  does to bindings and log; the invariant is indexed by the references the dispatcher's frames hold (`OnI s0 held`).
-/
namespace Tickit
namespace WinInput
open WinTree

theorem offerAll_append (k : Kind) : ∀ (xs ys : List (WinTree.Id × Ev)) (b : Array Binding),
    offerAll b k (xs ++ ys) =
      if (offerAll b k xs).2.2.isSome then offerAll b k xs
      else ((offerAll (offerAll b k xs).1 k ys).1,
            (offerAll b k xs).2.1 ++ (offerAll (offerAll b k xs).1 k ys).2.1,
            (offerAll (offerAll b k xs).1 k ys).2.2) := by
  intro xs
  induction xs with
  | nil => intro ys b; simp [offerAll]
  | cons x xs ih =>
    intro ys b
    obtain ⟨w, e⟩ := x
    simp only [List.cons_append, offerAll]
    by_cases hc : (offerOne b k w).2 = true
    · simp [hc]
    · simp only [hc, Bool.false_eq_true, if_false, ih ys (offerOne b k w).1]
      by_cases hs : (offerAll (offerOne b k w).1 k xs).2.2.isSome = true
      · simp [hs]
      · simp [hs]

/-- what a dispatch with handlers that only claim or decline leaves of a state: the store up to counts that only grew -/
structure Frame (st st' : St) : Prop where
  le : Le st.tree st'.tree
  owned : st'.owned = st.owned
  static : Static st'.binds

theorem Frame.trans {a b c : St} (h1 : Frame a b) (h2 : Frame b c) : Frame a c :=
  ⟨h1.le.trans h2.le, by rw [h2.owned, h1.owned], h2.static⟩

/-- The key event was offered to the windows `ws`, in order, up to the first claim (`offerAll`): what that did to the
    bindings, which offers the log gained, and `d`, whether somebody claimed. -/
structure SegK (st : St) (ev : Ev) (ws : List WinTree.Id) (st' : St) (d : Bool) : Prop where
  binds : st'.binds = (offerAll st.binds .key (ws.map (·, ev))).1
  log : offers st'.log = offers st.log ++ ((offerAll st.binds .key (ws.map (·, ev))).2.1).map (fun p => (Kind.key, p.1, p.2))
  ret : d = (offerAll st.binds .key (ws.map (·, ev))).2.2.isSome

theorem SegK.nil (st : St) (ev : Ev) : SegK st ev [] st false := ⟨rfl, by simp [offerAll], rfl⟩

theorem SegK.claimed {st st1 : St} {ev : Ev} {xs : List WinTree.Id} (h : SegK st ev xs st1 true) (ys : List WinTree.Id) :
    SegK st ev (xs ++ ys) st1 true := by
  have hs : (offerAll st.binds .key (xs.map (·, ev))).2.2.isSome = true := h.ret.symm
  have key : offerAll st.binds .key ((xs ++ ys).map (·, ev)) = offerAll st.binds .key (xs.map (·, ev)) := by
    rw [List.map_append, offerAll_append, if_pos hs]
  exact ⟨by rw [key]; exact h.binds, by rw [key]; exact h.log, by rw [key]; exact h.ret⟩

theorem SegK.append {st st1 st2 : St} {ev : Ev} {xs ys : List WinTree.Id} {d2 : Bool}
    (h1 : SegK st ev xs st1 false) (h2 : SegK st1 ev ys st2 d2) : SegK st ev (xs ++ ys) st2 d2 := by
  have hs : ¬ ((offerAll st.binds .key (xs.map (·, ev))).2.2.isSome = true) := by
    rw [← h1.ret]; simp
  have key : offerAll st.binds .key ((xs ++ ys).map (·, ev)) =
      ((offerAll (offerAll st.binds .key (xs.map (·, ev))).1 .key (ys.map (·, ev))).1,
       (offerAll st.binds .key (xs.map (·, ev))).2.1 ++ (offerAll (offerAll st.binds .key (xs.map (·, ev))).1 .key (ys.map (·, ev))).2.1,
       (offerAll (offerAll st.binds .key (xs.map (·, ev))).1 .key (ys.map (·, ev))).2.2) := by
    rw [List.map_append, offerAll_append, if_neg hs]
  refine ⟨?_, ?_, ?_⟩
  · rw [key, h2.binds, h1.binds]
  · rw [key, h2.log, h1.log, h1.binds]; simp only [List.map_append, List.append_assoc]
  · rw [key, h2.ret, h1.binds]

theorem firstClaim_seg {a : Out (St × Bool)} {k : St → Out (St × Bool)} {st st2 : St} {d2 : Bool} {ev : Ev}
    {xs ys : List WinTree.Id}
    (h : firstClaim a k = Out.ok (st2, d2))
    (ha : ∀ st1 d1, a = Out.ok (st1, d1) → Frame st st1 ∧ SegK st ev xs st1 d1)
    (hk : ∀ st1, Frame st st1 → k st1 = Out.ok (st2, d2) → Frame st1 st2 ∧ SegK st1 ev ys st2 d2) :
    Frame st st2 ∧ SegK st ev (xs ++ ys) st2 d2 := by
  obtain ⟨st1, d1, e, hc⟩ := firstClaim_ok h
  obtain ⟨f1, s1⟩ := ha st1 d1 e
  rcases hc with ⟨hd, hst, hd2⟩ | ⟨hd, hk2⟩
  · subst hd; subst hst; subst hd2
    exact ⟨f1, s1.claimed ys⟩
  · subst hd
    obtain ⟨f2, s2⟩ := hk st1 f1 hk2
    exact ⟨f1.trans f2, s1.append s2⟩

/-- `t'` is `t` with counts raised: a window's by at least the number of times it occurs in `cs` (references held, with
    multiplicity). -/
structure LeBy (t : Tree) (cs : List WinTree.Id) (t' : Tree) : Prop where
  root : t'.root = t.root
  size : t'.wins.size = t.wins.size
  win : ∀ (i : WinTree.Id) (w : Win), t.wins[i]? = some w →
    ∃ w', t'.wins[i]? = some w' ∧ noRc w' = noRc w ∧ w.refcount + (cs.count i : Int) ≤ w'.refcount

theorem LeBy.refl (t : Tree) : LeBy t [] t := ⟨rfl, rfl, fun _ w hw => ⟨w, hw, rfl, by simp⟩⟩

theorem LeBy.le {t t' : Tree} {cs : List WinTree.Id} (h : LeBy t cs t') : Le t t' :=
  ⟨h.root, h.size, fun i w hw => by
    obtain ⟨w', hw', e, l⟩ := h.win i w hw
    exact ⟨w', hw', e, by omega⟩⟩

theorem LeBy.trans {t t1 t2 : Tree} {cs : List WinTree.Id} (h1 : LeBy t cs t1) (h2 : Le t1 t2) : LeBy t cs t2 := by
  refine ⟨by rw [h2.root, h1.root], by rw [h2.size, h1.size], ?_⟩
  intro i w hw
  obtain ⟨w1, hw1, e1, l1⟩ := h1.win i w hw
  obtain ⟨w2, hw2, e2, l2⟩ := h2.win i w1 hw1
  exact ⟨w2, hw2, e2.trans e1, Int.le_trans l1 l2⟩

theorem offerAll_single (b : Array Binding) (k : Kind) (w : WinTree.Id) (e : Ev) :
    offerAll b k [(w, e)] = ((offerOne b k w).1, [(w, e)], if (offerOne b k w).2 then some w else none) := by
  simp only [offerAll]
  by_cases hc : (offerOne b k w).2 = true <;> simp [hc]

theorem runBindings_static (kind : Kind) (win : WinTree.Id) (ev : Ev) :
    ∀ (idxs : List Nat) (st : St), Static st.binds →
      ∃ st' c, runBindings st kind win ev idxs = Res.ok (st', c) ∧ st'.tree = st.tree ∧ st'.owned = st.owned ∧
        Static st'.binds ∧ offers st'.log = offers st.log ∧ (st'.binds, c) = offerBindings st.binds idxs := by
  intro idxs
  induction idxs with
  | nil => intro st hs; exact ⟨st, false, rfl, rfl, rfl, hs, rfl, rfl⟩
  | cons bi rest ih =>
    intro st hs
    unfold runBindings offerBindings
    cases hb : st.binds[bi]? with
    | none => exact ih st hs
    | some b =>
      by_cases hg : b.gone = true
      · simp only [hg, if_true]; exact ih st hs
      simp only [hg, Bool.false_eq_true, if_false, hs.entry hb, doActions, res_pure, res_bind_ok]
      cases b.entry.ret with
      | true => exact ⟨_, true, rfl, rfl, rfl, hs.fired hb, rfl, rfl⟩
      | false => exact ih _ (hs.fired hb)

/-- `run_events_whilefalse` on one window, non-mutating handlers: a one-window segment. -/
theorem runHandlers_static (kind : Kind) (win : WinTree.Id) (ev : Ev) (st : St) (hs : Static st.binds) :
    ∃ st' c, runHandlers st kind win ev = Res.ok (st', c) ∧ Frame st st' ∧
      st'.binds = (offerAll st.binds kind [(win, ev)]).1 ∧
      offers st'.log = offers st.log ++ ((offerAll st.binds kind [(win, ev)]).2.1).map (fun p => (kind, p.1, p.2)) ∧
      (if c then some win else none) = (offerAll st.binds kind [(win, ev)]).2.2 := by
  obtain ⟨st', c, h1, h2, h3, h4, h5, h6⟩ :=
    runBindings_static kind win ev (bindingsOf st.binds kind win) (st.say (.offer kind win ev _)) hs
  have hc : c = (offerOne st.binds kind win).2 := congrArg Prod.snd h6
  refine ⟨st', c, h1, ⟨h2 ▸ Le.refl _, h3, h4⟩, ?_, ?_, ?_⟩ <;> simp only [offerAll_single, ← hc]
  · exact congrArg Prod.fst h6
  · simpa using h5

theorem SegK.congr {st st1 st2 st' : St} {ev : Ev} {ws : List WinTree.Id} {d : Bool} (h : SegK st1 ev ws st2 d)
    (b1 : st1.binds = st.binds) (l1 : st1.log = st.log) (b2 : st'.binds = st2.binds) (l2 : st'.log = st2.log) :
    SegK st ev ws st' d :=
  ⟨by rw [b2, h.binds, b1], by rw [l2, h.log, l1, b1], by rw [h.ret, b1]⟩

theorem LeBy.perm {t t' : Tree} {cs cs' : List WinTree.Id} (h : LeBy t cs t') (hp : cs.Perm cs') : LeBy t cs' t' :=
  ⟨h.root, h.size, fun i w hw => by rw [← hp.count_eq i]; exact h.win i w hw⟩

/-- The invariant of a dispatch with handlers that only claim or decline, begun in `s0`, while its frames hold the
    references `held`: the store is that of `s0` with every count raised by at least what is held, so the reference
    orders can be read off `s0.tree` throughout. -/
structure OnI (s0 : St) (held : List WinTree.Id) (st : St) : Prop where
  wf : WF s0.tree
  le : LeBy s0.tree held st.tree
  static : Static st.binds
  owned : st.owned = s0.owned

section
variable {s0 st st' : St} {held : List WinTree.Id} {c : WinTree.Id}

theorem OnI.read {w0 : Win} (h : OnI s0 held st) (hw0 : s0.tree.wins[c]? = some w0) (hf0 : w0.freed = false) :
    ∃ w, WinTree.get st.tree c = Res.ok w ∧ noRc w = noRc w0 :=
  let ⟨w, hg, e, _⟩ := h.le.le.get (WinTree.get_ok_iff.2 ⟨hw0, hf0⟩); ⟨w, hg, e⟩

theorem OnI.get {w : Win} (h : OnI s0 held st) (hg : WinTree.get st.tree c = Res.ok w) :
    ∃ w0, s0.tree.wins[c]? = some w0 ∧ w0.freed = false ∧ noRc w = noRc w0 :=
  let ⟨w0, hg0, e, _⟩ := h.le.le.get' hg; ⟨w0, (WinTree.get_ok_iff.1 hg0).1, (WinTree.get_ok_iff.1 hg0).2, e⟩

theorem OnI.frame (h : OnI s0 held st) (fr : Frame st st') : OnI s0 held st' :=
  ⟨h.wf, h.le.trans fr.le, fr.static, fr.owned.trans h.owned⟩

theorem OnI.perm {held' : List WinTree.Id} (h : OnI s0 held st) (hp : held.Perm held') : OnI s0 held' st :=
  { h with le := h.le.perm hp }

theorem OnI.ref (h : OnI s0 held st) (e : refWin st c = Res.ok st') :
    OnI s0 (c :: held) st' ∧ st'.binds = st.binds ∧ st'.log = st.log := by
  obtain ⟨w, hg, rfl⟩ := refWin_eq_ok e
  obtain ⟨hw, hf⟩ := WinTree.get_ok_iff.1 hg
  refine ⟨⟨h.wf, ⟨h.le.root, (WinTree.set_size ..).trans h.le.size, fun i x hx => ?_⟩, h.static, h.owned⟩, rfl, rfl⟩
  obtain ⟨w1, hw1, e1, l1⟩ := h.le.win i x hx
  by_cases hic : c = i
  · subst hic
    rw [hw] at hw1; cases hw1
    exact ⟨_, WinTree.set_wins_self hw _, e1, by simp only [List.count_cons_self]; omega⟩
  · exact ⟨w1, by simp only [WinTree.set_wins_ne _ hic]; exact hw1, e1, by rw [List.count_cons_of_ne hic]; exact l1⟩

/-- The count of a window the dispatch holds a reference on is at least two: dropping the reference frees nothing. -/
theorem OnI.release (h : OnI s0 (c :: held) st) (e : unrefLogged st c = Res.ok st') :
    OnI s0 held st' ∧ st'.binds = st.binds ∧ st'.log = st.log := by
  obtain ⟨w, hg⟩ : ∃ w, WinTree.get st.tree c = Res.ok w := by
    unfold unrefLogged at e; obtain ⟨w, hg, _⟩ := WinTree.bind_ok_iff.1 e; exact ⟨w, hg⟩
  obtain ⟨w0, hw0, hf0, _⟩ := h.get hg
  obtain ⟨w1, hw1, e1, l1⟩ := h.le.win c w0 hw0
  rw [(WinTree.get_ok_iff.1 hg).1] at hw1; cases hw1
  have h1 := h.wf.rc c w0 hw0 hf0
  simp only [List.count_cons_self] at l1
  rw [unrefLogged_nd hg (by omega)] at e; cases e
  refine ⟨⟨h.wf, ⟨h.le.root, (WinTree.set_size ..).trans h.le.size, fun i x hx => ?_⟩, h.static, h.owned⟩, rfl, rfl⟩
  by_cases hic : c = i
  · subst hic
    rw [hw0] at hx; cases hx
    exact ⟨_, WinTree.set_wins_self (WinTree.get_ok_iff.1 hg).1 _, e1, by simp only; omega⟩
  · obtain ⟨w2, hw2, e2, l2⟩ := h.le.win i x hx
    exact ⟨w2, by simp only [WinTree.set_wins_ne _ hic]; exact hw2, e2, by rw [List.count_cons_of_ne hic] at l2; exact l2⟩

theorem OnI.refAll : ∀ (cs : List WinTree.Id) {held : List WinTree.Id} {st st' : St}, OnI s0 held st →
    refAll st cs = Res.ok st' → OnI s0 (cs ++ held) st' ∧ st'.binds = st.binds ∧ st'.log = st.log
  | [], _, _, _, h, e => by cases e; exact ⟨h, rfl, rfl⟩
  | c :: rest, _, _, _, h, e => by
    obtain ⟨st1, e1, e2⟩ := WinTree.bind_ok_iff.1 e
    obtain ⟨i1, b1, l1⟩ := h.ref e1
    obtain ⟨i2, b2, l2⟩ := OnI.refAll rest i1 e2
    exact ⟨i2.perm List.perm_middle, b2.trans b1, l2.trans l1⟩

theorem OnI.unrefAll : ∀ (cs : List WinTree.Id) {st st' : St}, OnI s0 (cs ++ held) st →
    unrefAll st cs = Res.ok st' → OnI s0 held st' ∧ st'.binds = st.binds ∧ st'.log = st.log
  | [], _, _, h, e => by cases e; exact ⟨h, rfl, rfl⟩
  | c :: rest, _, _, h, e => by
    obtain ⟨st1, e1, e2⟩ := WinTree.bind_ok_iff.1 e
    obtain ⟨i1, b1, l1⟩ := OnI.release (held := rest ++ held) h e1
    obtain ⟨i2, b2, l2⟩ := OnI.unrefAll rest i1 e2
    exact ⟨i2, b2.trans b1, l2.trans l1⟩

end

/-- a branch not taken, against a reference order that lists nothing for it (`some [] = some ws`) -/
theorem SegK.skip (st : St) (ev : Ev) : ∀ ws, some [] = some ws → SegK st ev ws st false :=
  fun _ hv => by cases hv; exact SegK.nil _ _

def KeyRecOn (rec : KeyRec) : Prop :=
  ∀ (s0 st : St) (c : WinTree.Id) (ev : Ev) (held : List WinTree.Id) (st' : St) (d : Bool) (F : Nat), OnI s0 held st →
    rec st c ev = Out.ok (st', d) → OnI s0 held st' ∧ ∀ ws, keyVisits s0.tree F c = some ws → SegK st ev ws st' d

section
variable {rec : KeyRec} (hrec : KeyRecOn rec) (F : Nat) {s0 st st' : St} {win : WinTree.Id} {w0 : Win} {ev : Ev} {held : List WinTree.Id}
  {d : Bool}
include hrec

theorem keySteal_on (h : OnI s0 held st) (hw0 : s0.tree.wins[win]? = some w0) (hf0 : w0.freed = false)
    (hk : keySteal rec st win ev = Out.ok (st', d)) :
    OnI s0 held st' ∧ ∀ ws, stealVisits s0.tree (keyVisits s0.tree F) w0 = some ws → SegK st ev ws st' d := by
  obtain ⟨w, hw, e⟩ := h.read hw0 hf0
  unfold keySteal at hk
  simp only [hw, lift_ok, out_bind_ok, (noRc_eq e Win.children)] at hk
  unfold stealVisits
  cases hc : w0.children.head? with
  | none => simp only [hc, out_pure] at hk; cases hk; exact ⟨h, SegK.skip _ _⟩
  | some fc =>
    simp only [hc] at hk
    obtain ⟨fw, hfw, hk⟩ := lift_bind_eq_ok.1 hk
    obtain ⟨fw0, hfw0, hff0, ef⟩ := h.get hfw
    simp only [stealAt_of_get (WinTree.get_ok_iff.2 ⟨hfw0, hff0⟩), ← (noRc_eq ef Win.stealInput)]
    cases hst : fw.stealInput with
    | true => simp only [hst, if_true] at hk; exact hrec s0 st fc ev held st' d F h hk
    | false => simp only [hst, Bool.false_eq_true, if_false, out_pure] at hk; cases hk; exact ⟨h, SegK.skip _ _⟩

theorem keyFocus_on (h : OnI s0 held st) (hw0 : s0.tree.wins[win]? = some w0) (hf0 : w0.freed = false)
    (hk : keyFocus rec st win ev = Out.ok (st', d)) :
    OnI s0 held st' ∧ ∀ ws, focusVisits (keyVisits s0.tree F) w0 = some ws → SegK st ev ws st' d := by
  obtain ⟨w, hw, e⟩ := h.read hw0 hf0
  unfold keyFocus at hk
  simp only [hw, lift_ok, out_bind_ok, (noRc_eq e Win.focusedChild)] at hk
  unfold focusVisits
  cases hc : w0.focusedChild with
  | none => simp only [hc, out_pure] at hk; cases hk; exact ⟨h, SegK.skip _ _⟩
  | some fc => simp only [hc] at hk; exact hrec s0 st fc ev held st' d F h hk

omit hrec F in
theorem keyOwn_on (h : OnI s0 held st) (hv : visibleChain s0.tree (treeFuel s0.tree) win = true)
    (hk : keyOwn Cfg.repaired st win ev = Out.ok (st', d)) :
    OnI s0 held st' ∧ SegK st ev [win] st' d := by
  unfold keyOwn at hk
  obtain ⟨own, hown, hk⟩ := lift_bind_eq_ok.1 hk
  cases (shown_vis h.le.le hown).symm.trans hv
  obtain ⟨st1, c, h1, fr, hb, hl, hc⟩ := runHandlers_static .key win ev st h.static
  simp only [if_true, h1, lift_ok] at hk
  cases hk
  exact ⟨h.frame fr, hb, hl, (by cases d <;> rfl : d = (if d = true then some win else none).isSome).trans (congrArg _ hc)⟩

theorem keySnap_on (hw0 : s0.tree.wins[win]? = some w0) (hf0 : w0.freed = false) :
    ∀ (cs : List WinTree.Id) (st st' : St) (d : Bool), OnI s0 held st → (∀ c ∈ cs, c ∈ w0.children) →
      keySnap rec st win cs ev = Out.ok (st', d) →
      OnI s0 held st' ∧ ∀ ws,
        visitList (fun c => if w0.focusedChild = some c then some [] else keyVisits s0.tree F c) cs = some ws →
        SegK st ev ws st' d := by
  intro cs
  induction cs with
  | nil => intro st st' d h _ hk; simp only [keySnap, out_pure] at hk; cases hk; exact ⟨h, SegK.skip _ _⟩
  | cons c rest ih =>
    intro st st' d h hsub hk
    have hrest : ∀ c' ∈ rest, c' ∈ w0.children := fun c' hc' => hsub c' (List.mem_cons_of_mem _ hc')
    simp only [keySnap] at hk
    obtain ⟨cw, hcw, hk⟩ := lift_bind_eq_ok.1 hk
    -- nothing was closed: the child still knows its parent
    obtain ⟨cw0, hcw0, _, ec⟩ := h.get hcw
    have hpar : cw.parent = some win := by
      rw [(noRc_eq ec Win.parent)]
      exact h.wf.parent win c w0 cw0 hw0 hf0 (hsub c (List.mem_cons_self ..)) hcw0
    obtain ⟨w, hw, e⟩ := h.read hw0 hf0
    simp only [hpar, ne_eq, not_true_eq_false, if_false, hw, lift_ok, out_bind_ok, (noRc_eq e Win.focusedChild)] at hk
    by_cases hfc : w0.focusedChild = some c
    · simp only [hfc, if_true] at hk
      obtain ⟨i, sp⟩ := ih st st' d h hrest hk
      refine ⟨i, fun ws hv => ?_⟩
      obtain ⟨a, b, ha, hb, rfl⟩ := visitList_cons_some hv
      simp only [hfc, if_true, Option.some.injEq] at ha
      subst ha; exact sp b hb
    · simp only [hfc, if_false] at hk
      obtain ⟨⟨st1, d1⟩, hr, hk⟩ := out_bind_eq_ok.1 hk
      obtain ⟨i1, sp1⟩ := hrec s0 st c ev held st1 d1 F h hr
      cases d1 with
      | true =>
        simp only [if_true, out_pure] at hk; cases hk
        refine ⟨i1, fun ws hv => ?_⟩
        obtain ⟨a, b, ha, _, rfl⟩ := visitList_cons_some hv
        simp only [hfc, if_false] at ha
        exact (sp1 a ha).claimed b
      | false =>
        simp only [Bool.false_eq_true, if_false] at hk
        obtain ⟨i2, sp2⟩ := ih st1 st' d i1 hrest hk
        refine ⟨i2, fun ws hv => ?_⟩
        obtain ⟨a, b, ha, hb, rfl⟩ := visitList_cons_some hv
        simp only [hfc, if_false] at ha
        exact (sp1 a ha).append (sp2 b hb)

end

theorem keyChildren_on {rec : KeyRec} (hrec : KeyRecOn rec) (F : Nat) {fuel : Nat} {s0 st st' : St} {win : WinTree.Id} {w0 : Win} {ev : Ev}
    {held : List WinTree.Id} {d : Bool} (h : OnI s0 held st) (hw0 : s0.tree.wins[win]? = some w0) (hf0 : w0.freed = false)
    (hk : keyChildren Cfg.repaired rec fuel st win ev = Out.ok (st', d)) :
    OnI s0 held st' ∧ ∀ ws, restVisits (keyVisits s0.tree F) w0 = some ws → SegK st ev ws st' d := by
  obtain ⟨w, hw, e⟩ := h.read hw0 hf0
  obtain ⟨st4, st5, h4, h5, h6⟩ := keyChildren_ok hw hk
  rw [noRc_eq e Win.children] at h4 h5 h6
  obtain ⟨i4, b4, l4⟩ := h.refAll _ h4
  obtain ⟨i5, sp5⟩ := keySnap_on hrec F hw0 hf0 w0.children st4 st5 d i4 (fun _ hc => hc) h5
  obtain ⟨i6, b6, l6⟩ := i5.unrefAll _ h6
  exact ⟨i6, fun ws hv => (sp5 ws hv).congr b4 l4 b6 l6⟩

theorem handleKeyBody_on {rec : KeyRec} (hrec : KeyRecOn rec) (fuel : Nat) :
    KeyRecOn (handleKeyBody Cfg.repaired rec fuel) := by
  intro s0 st win ev held st' d F h hk
  obtain ⟨vis, hvis, hc⟩ := handleKeyBody_ok hk
  have hvc : visibleChain s0.tree (treeFuel s0.tree) win = vis := shown_vis h.le.le hvis
  rcases hc with ⟨rfl, rfl, rfl⟩ | ⟨rfl, st1, st5, h1, h5, hu⟩
  · exact ⟨h, fun ws hv => by rw [keyVisits_hidden hvc hv]; exact SegK.nil _ _⟩
  · obtain ⟨w0, hw0, hf0, _⟩ := visibleChain_alive hvc
    obtain ⟨i1, b1, l1⟩ := h.ref h1
    have key : OnI s0 (win :: held) st5 ∧ ∀ a b c, stealVisits s0.tree (keyVisits s0.tree (F - 1)) w0 = some a →
        focusVisits (keyVisits s0.tree (F - 1)) w0 = some b → restVisits (keyVisits s0.tree (F - 1)) w0 = some c →
        SegK st1 ev (a ++ (b ++ ([win] ++ c))) st5 d := by
      obtain ⟨stA, dA, eA, hcA⟩ := firstClaim_ok h5
      obtain ⟨iA, spA⟩ := keySteal_on hrec (F - 1) i1 hw0 hf0 eA
      rcases hcA with ⟨rfl, rfl, rfl⟩ | ⟨rfl, hA⟩
      · exact ⟨iA, fun a b c ha _ _ => (spA a ha).claimed _⟩
      obtain ⟨stB, dB, eB, hcB⟩ := firstClaim_ok hA
      obtain ⟨iB, spB⟩ := keyFocus_on hrec (F - 1) iA hw0 hf0 eB
      rcases hcB with ⟨rfl, rfl, rfl⟩ | ⟨rfl, hB⟩
      · exact ⟨iB, fun a b c ha hb _ => (spA a ha).append ((spB b hb).claimed _)⟩
      obtain ⟨stC, dC, eC, hcC⟩ := firstClaim_ok hB
      obtain ⟨iC, spC⟩ := keyOwn_on iB hvc eC
      rcases hcC with ⟨rfl, rfl, rfl⟩ | ⟨rfl, hC⟩
      · exact ⟨iC, fun a b c ha hb _ => (spA a ha).append ((spB b hb).append (spC.claimed _))⟩
      obtain ⟨iD, spD⟩ := keyChildren_on hrec (F - 1) iC hw0 hf0 hC
      exact ⟨iD, fun a b c ha hb hc => (spA a ha).append ((spB b hb).append (spC.append (spD c hc)))⟩
    obtain ⟨i5, sp5⟩ := key
    obtain ⟨i6, b6, l6⟩ := i5.release hu
    refine ⟨i6, fun ws hv => ?_⟩
    obtain ⟨F', a, b, c, rfl, ha, hb, hc, rfl⟩ := keyVisits_shown hw0 hvc hv
    rw [show a ++ b ++ [win] ++ c = a ++ (b ++ ([win] ++ c)) by simp only [List.append_assoc]]
    exact (sp5 a b c ha hb hc).congr b1 l1 b6 l6

theorem handleKey_on : ∀ (f : Nat), KeyRecOn (handleKey Cfg.repaired f)
  | 0 => fun _ _ _ _ _ _ _ _ _ h => by cases h
  | f + 1 => handleKeyBody_on (handleKey_on f) f

/-- `handleKey_on` at `s0 = st`, `held = []`: the form Props/C14 quotes. -/
theorem handleKey_static (f : Nat) (st : St) (c : WinTree.Id) (ev : Ev) (st' : St) (d : Bool) (hs : Static st.binds)
    (hwf : WF st.tree) (h : handleKey Cfg.repaired f st c ev = Out.ok (st', d)) :
    Frame st st' ∧ ∀ (F : Nat) (ws : List WinTree.Id), keyVisits st.tree F c = some ws → SegK st ev ws st' d :=
  have p := fun F => handleKey_on f st st c ev [] st' d F ⟨hwf, LeBy.refl _, hs, rfl⟩ h
  ⟨⟨(p 0).1.le.le, (p 0).1.owned, (p 0).1.static⟩, fun F => (p F).2⟩

/-- The mouse event was offered to the windows `ws` (each with the event as it sees it), in order, up to the first
    claim; `r` is the window that claimed. -/
structure SegM (st : St) (ws : List (WinTree.Id × Ev)) (st' : St) (r : Option WinTree.Id) : Prop where
  binds : st'.binds = (offerAll st.binds .mouse ws).1
  log : offers st'.log = offers st.log ++ ((offerAll st.binds .mouse ws).2.1).map (fun p => (Kind.mouse, p.1, p.2))
  ret : r = (offerAll st.binds .mouse ws).2.2

theorem SegM.nil (st : St) : SegM st [] st none := ⟨rfl, by simp [offerAll], rfl⟩

theorem SegM.claimed {st st1 : St} {xs : List (WinTree.Id × Ev)} {h : WinTree.Id} (hx : SegM st xs st1 (some h))
    (ys : List (WinTree.Id × Ev)) : SegM st (xs ++ ys) st1 (some h) := by
  have hs : (offerAll st.binds .mouse xs).2.2.isSome = true := by rw [← hx.ret]; rfl
  have key : offerAll st.binds .mouse (xs ++ ys) = offerAll st.binds .mouse xs := by
    rw [offerAll_append, if_pos hs]
  exact ⟨by rw [key]; exact hx.binds, by rw [key]; exact hx.log, by rw [key]; exact hx.ret⟩

theorem SegM.append {st st1 st2 : St} {xs ys : List (WinTree.Id × Ev)} {r2 : Option WinTree.Id}
    (h1 : SegM st xs st1 none) (h2 : SegM st1 ys st2 r2) : SegM st (xs ++ ys) st2 r2 := by
  have hs : ¬ ((offerAll st.binds .mouse xs).2.2.isSome = true) := by
    rw [← h1.ret]; simp
  have key : offerAll st.binds .mouse (xs ++ ys) =
      ((offerAll (offerAll st.binds .mouse xs).1 .mouse ys).1,
       (offerAll st.binds .mouse xs).2.1 ++ (offerAll (offerAll st.binds .mouse xs).1 .mouse ys).2.1,
       (offerAll (offerAll st.binds .mouse xs).1 .mouse ys).2.2) := by
    rw [offerAll_append, if_neg hs]
  refine ⟨?_, ?_, ?_⟩
  · rw [key, h2.binds, h1.binds]
  · rw [key, h2.log, h1.log, h1.binds]; simp only [List.map_append, List.append_assoc]
  · rw [key, h2.ret, h1.binds]

theorem SegM.congr {st st1 st2 st' : St} {ws : List (WinTree.Id × Ev)} {r : Option WinTree.Id} (h : SegM st1 ws st2 r)
    (b1 : st1.binds = st.binds) (l1 : st1.log = st.log) (b2 : st'.binds = st2.binds) (l2 : st'.log = st2.log) :
    SegM st ws st' r :=
  ⟨by rw [b2, h.binds, b1], by rw [l2, h.log, l1, b1], by rw [h.ret, b1]⟩

theorem SegM.skip (st : St) : ∀ ws, some [] = some ws → SegM st ws st none :=
  fun _ hv => by cases hv; exact SegM.nil _

def MouseRecOn (rec : MouseRec) : Prop :=
  ∀ (s0 st : St) (c : WinTree.Id) (ev : Ev) (held : List WinTree.Id) (st' : St) (r : Option WinTree.Id) (F : Nat),
    OnI s0 held st → rec st c ev = Out.ok (st', r) →
    OnI s0 (heldR r held) st' ∧ ∀ ws, mouseVisits s0.tree F c ev = some ws → SegM st ws st' r

theorem mouseSnap_on {rec : MouseRec} (hrec : MouseRecOn rec) (F : Nat) {s0 : St} {win : WinTree.Id} {w0 : Win} {ev : Ev}
    {held : List WinTree.Id} (hw0 : s0.tree.wins[win]? = some w0) (hf0 : w0.freed = false) :
    ∀ (cs : List WinTree.Id) (st st' : St) (r : Option WinTree.Id), OnI s0 held st → (∀ c ∈ cs, c ∈ w0.children) →
      mouseSnap rec st win cs ev = Out.ok (st', r) →
      OnI s0 (heldR r held) st' ∧
        ∀ ws, visitList (childVisits s0.tree (mouseVisits s0.tree F) ev) cs = some ws → SegM st ws st' r := by
  intro cs
  induction cs with
  | nil => intro st st' r h _ hk; simp only [mouseSnap, out_pure] at hk; cases hk; exact ⟨h, SegM.skip _⟩
  | cons c rest ih =>
    intro st st' r h hsub hk
    have hrest : ∀ c' ∈ rest, c' ∈ w0.children := fun c' hc' => hsub c' (List.mem_cons_of_mem _ hc')
    simp only [mouseSnap] at hk
    obtain ⟨cw, hcw, hk⟩ := lift_bind_eq_ok.1 hk
    obtain ⟨cw0, hcw0, _, ec⟩ := h.get hcw
    have hpar : cw.parent = some win := by
      rw [(noRc_eq ec Win.parent)]
      exact h.wf.parent win c w0 cw0 hw0 hf0 (hsub c (List.mem_cons_self ..)) hcw0
    simp only [hpar, ne_eq, not_true_eq_false, if_false, (noRc_mouse ec ev).1, (noRc_mouse ec ev).2] at hk
    have hcv := childVisits_eq hcw0 (mouseVisits s0.tree F) ev
    by_cases hskip : (!cw0.stealInput && outsideChild cw0 ev.line ev.col) = true
    · rw [if_pos hskip] at hk hcv
      obtain ⟨i, sp⟩ := ih st st' r h hrest hk
      refine ⟨i, fun ws hv => ?_⟩
      obtain ⟨a, b, ha, hb, rfl⟩ := visitList_cons_some hv
      cases hcv.symm.trans ha
      exact sp b hb
    · rw [if_neg hskip] at hk hcv
      obtain ⟨⟨st1, r1⟩, hr, hk⟩ := out_bind_eq_ok.1 hk
      obtain ⟨i1, sp1⟩ := hrec s0 st c (ev.toChild cw0) held st1 r1 F h hr
      cases r1 with
      | some x =>
        simp only [out_pure] at hk; cases hk
        refine ⟨i1, fun ws hv => ?_⟩
        obtain ⟨a, b, ha, _, rfl⟩ := visitList_cons_some hv
        exact (sp1 a (hcv.symm.trans ha)).claimed b
      | none =>
        simp only at hk
        obtain ⟨i2, sp2⟩ := ih st1 st' r i1 hrest hk
        refine ⟨i2, fun ws hv => ?_⟩
        obtain ⟨a, b, ha, hb, rfl⟩ := visitList_cons_some hv
        exact (sp1 a (hcv.symm.trans ha)).append (sp2 b hb)

theorem mouseChildren_on {rec : MouseRec} (hrec : MouseRecOn rec) (F : Nat) {fuel : Nat} {s0 st st' : St} {win : WinTree.Id}
    {w0 : Win} {ev : Ev} {held : List WinTree.Id} {r : Option WinTree.Id} (h : OnI s0 held st)
    (hw0 : s0.tree.wins[win]? = some w0) (hf0 : w0.freed = false)
    (hk : mouseChildren Cfg.repaired rec fuel st win ev = Out.ok (st', r)) :
    OnI s0 (heldR r held) st' ∧
      ∀ ws, visitList (childVisits s0.tree (mouseVisits s0.tree F) ev) w0.children = some ws → SegM st ws st' r := by
  obtain ⟨w, hw, e⟩ := h.read hw0 hf0
  obtain ⟨st4, st5, h4, h5, h6⟩ := mouseChildren_ok hw hk
  rw [noRc_eq e Win.children] at h4 h5 h6
  obtain ⟨i4, b4, l4⟩ := h.refAll _ h4
  obtain ⟨i5, sp5⟩ := mouseSnap_on hrec F hw0 hf0 w0.children st4 st5 r i4 (fun _ hc => hc) h5
  -- the snapshot's references go before the one on the window that took the event
  obtain ⟨i6, b6, l6⟩ := (i5.perm (heldR_append r _ held)).unrefAll _ h6
  exact ⟨i6, fun ws hv => (sp5 ws hv).congr b4 l4 b6 l6⟩

theorem mouseOwn_on {s0 st st' : St} {win : WinTree.Id} {ev : Ev} {held : List WinTree.Id} {r : Option WinTree.Id}
    (h : OnI s0 held st) (hv : visibleChain s0.tree (treeFuel s0.tree) win = true)
    (hk : mouseOwn Cfg.repaired st win ev = Out.ok (st', r)) : OnI s0 (heldR r held) st' ∧ SegM st [(win, ev)] st' r := by
  obtain ⟨own, hown, hc⟩ := mouseOwn_ok hk
  cases (shown_vis h.le.le hown).symm.trans hv
  obtain ⟨st1', c, h1, fr, hb, hl, hc'⟩ := runHandlers_static .mouse win ev st h.static
  rcases hc with ⟨ho, _⟩ | ⟨_, st1, done, hrh, hd⟩
  · cases ho
  cases h1.symm.trans hrh
  rcases hd with ⟨rfl, rfl, rfl⟩ | ⟨rfl, h3, rfl⟩
  · exact ⟨h.frame fr, hb, hl, hc'⟩
  · -- the claim is returned as a counted reference
    obtain ⟨i3, b3, l3⟩ := (h.frame fr).ref h3
    exact ⟨i3, b3 ▸ hb, by rw [l3]; exact hl, hc'⟩

theorem handleMouseBody_on {rec : MouseRec} (hrec : MouseRecOn rec) (fuel : Nat) :
    MouseRecOn (handleMouseBody Cfg.repaired rec fuel) := by
  intro s0 st win ev held st' r F h hk
  obtain ⟨vis, hvis, hc⟩ := handleMouseBody_ok hk
  have hvc : visibleChain s0.tree (treeFuel s0.tree) win = vis := shown_vis h.le.le hvis
  rcases hc with ⟨rfl, rfl, rfl⟩ | ⟨rfl, st1, st2, r2, st3, h1, h2, h3, hu⟩
  · exact ⟨h, fun ws hv => by rw [mouseVisits_hidden hvc hv]; exact SegM.nil _⟩
  · obtain ⟨w0, hw0, hf0, _⟩ := visibleChain_alive hvc
    obtain ⟨i1, b1, l1⟩ := h.ref h1
    obtain ⟨i2, sp2⟩ := mouseChildren_on hrec (F - 1) i1 hw0 hf0 h2
    have key : OnI s0 (heldR r (win :: held)) st3 ∧
        ∀ a, visitList (childVisits s0.tree (mouseVisits s0.tree (F - 1)) ev) w0.children = some a →
        SegM st1 (a ++ [(win, ev)]) st3 r := by
      unfold mouseSelf at h3
      cases r2 with
      | some x => simp only [out_pure] at h3; cases h3; exact ⟨i2, fun a ha => (sp2 a ha).claimed _⟩
      | none =>
        obtain ⟨i3, sp3⟩ := mouseOwn_on i2 hvc h3
        exact ⟨i3, fun a ha => (sp2 a ha).append sp3⟩
    obtain ⟨i3, sp13⟩ := key
    -- the frame's own reference goes last
    obtain ⟨i6, b6, l6⟩ := (i3.perm (heldR_cons r win held)).release hu
    refine ⟨i6, fun ws hv => ?_⟩
    obtain ⟨F', a, rfl, ha, rfl⟩ := mouseVisits_shown hw0 hvc hv
    exact (sp13 a ha).congr b1 l1 b6 l6

theorem handleMouse_on : ∀ (f : Nat), MouseRecOn (handleMouse Cfg.repaired f)
  | 0 => fun _ _ _ _ _ _ _ _ _ h => by cases h
  | f + 1 => handleMouseBody_on (handleMouse_on f) f

/-- `handleMouse_on` at `s0 = st`, `held = []`. -/
theorem handleMouse_static (f : Nat) (st : St) (c : WinTree.Id) (ev : Ev) (st' : St) (r : Option WinTree.Id)
    (hs : Static st.binds) (hwf : WF st.tree) (h : handleMouse Cfg.repaired f st c ev = Out.ok (st', r)) :
    Frame st st' ∧ ∀ (F : Nat) (ws : List (WinTree.Id × Ev)), mouseVisits st.tree F c ev = some ws → SegM st ws st' r :=
  have p := fun F => handleMouse_on f st st c ev [] st' r F ⟨hwf, LeBy.refl _, hs, rfl⟩ h
  ⟨⟨(p 0).1.le.le, (p 0).1.owned, (p 0).1.static⟩, fun F => (p F).2⟩

end WinInput
end Tickit
