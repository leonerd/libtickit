import Tickit.Model.EvLoopMulti
import Tickit.Proof.EvLoopObs
/-
  Several toplevel instances (Model/EvLoopMulti.lean): where `signal_observer` points.

  `Consistent w`: the `St` the world operates on sees the pointer as the world has it.  It holds in every
  reachable world; with it, nothing but building and destroying an instance moves the pointer, and destroying an
  instance that is *not* the observer leaves it where it is (`observer_destroy_other`: the statement the seeded
  change "reset on every destroy" breaks).
-/
namespace Tickit.EvLoop

theorem abs_rel (cur : Nat) (old : Option Nat) : absObserver cur old (relObserver old cur) = old := by
  unfold absObserver relObserver
  cases old with
  | none => rfl
  | some j =>
    by_cases h : j = cur
    · simp only [h, if_true]
    · simp only [h, if_false]

/-- `h`: `absObserver` keeps the old pointer where the state says "another instance", so the old pointer must already name one. -/
theorem rel_abs (cur : Nat) (old : Option Nat) (r : Observer) (h : r = .other → relObserver old cur = .other) :
    relObserver (absObserver cur old r) cur = r := by
  cases r with
  | self => simp [absObserver, relObserver]
  | none => simp [absObserver, relObserver]
  | other => simpa [absObserver] using h rfl

namespace World

def Consistent (w : World) : Prop := w.st.observer = relObserver w.observer w.cur

theorem store_st (w : World) : w.store.st = w.st := rfl
theorem store_cur (w : World) : w.store.cur = w.cur := rfl
theorem store_observer (w : World) : w.store.observer = w.observer := rfl

theorem consistent_store {w : World} (h : w.Consistent) : w.store.Consistent := h

theorem consistent_load (w : World) (i : Nat) : (w.load i).Consistent := rfl

theorem sync_observer (w : World) (st' : St) : (w.sync st').observer = absObserver w.cur w.observer st'.observer := rfl
theorem sync_st (w : World) (st' : St) : (w.sync st').st = st' := rfl
theorem sync_cur (w : World) (st' : St) : (w.sync st').cur = w.cur := rfl

theorem consistent_sync {w : World} (h : w.Consistent) (st' : St) (ho : st'.observer = .other → w.st.observer = .other) :
    (w.sync st').Consistent := by
  unfold Consistent
  rw [sync_st, sync_observer, sync_cur]
  exact (rel_abs w.cur w.observer st'.observer (fun hh => by rw [← h]; exact ho hh)).symm

theorem observer_built (s : St) : (watchSignal (watchIo s (-1) IO_IN 0 (-1)).1 SIGWINCH 0 (-2)).1.observer = s.observer :=
  ObsEq.trans (ob_closed.watchIo s (-1) IO_IN 0 (-1)) (ob_low.watchSignal _ SIGWINCH 0 (-2))

theorem consistent_init (cfg : Config) : (init cfg).Consistent := by
  unfold init
  apply consistent_store
  unfold Consistent relObserver
  simp only [if_true]
  exact observer_built (build0 cfg)

/-- `tickit_build` of a further instance: `if(!signal_observer) signal_observer = evdata;`. -/
theorem observer_buildOn (st : St) : (buildOn st).observer = if st.observer = .none then .self else st.observer :=
  observer_built (build0On st)

theorem consistent_step {w : World} (h : w.Consistent) (op : WOp) : (w.step op).Consistent := by
  cases op with
  | use i =>
    unfold step
    simp only []
    split
    · exact h
    · exact consistent_load w i
  | inst i =>
    unfold step
    simp only []
    split
    · exact h
    · split
      · exact consistent_load w i
      · apply consistent_sync (consistent_load w i)
        intro hh
        rw [observer_buildOn] at hh
        split at hh
        · cases hh
        · exact hh
  | op o =>
    unfold step
    simp only []
    apply consistent_sync h
    intro hh
    cases observer_applyOp_cases w.st o with
    | inl e => rw [← e]; exact hh
    | inr e => rw [e.1] at hh; cases hh

theorem consistent_run (cfg : Config) (ops : List WOp) : (run cfg ops).Consistent := by
  unfold run
  have : ∀ (l : List WOp) (w : World), w.Consistent → (l.foldl step w).Consistent := by
    intro l
    induction l with
    | nil => intro w h; exact h
    | cons o rest ih => intro w h; exact ih _ (consistent_step h o)
  exact this ops _ (consistent_init cfg)

theorem observer_step_other {w : World} (h : w.Consistent) (op : WOp)
    (hop : (∃ i, op = .use i) ∨ (∃ o, op = .op o ∧ o ≠ .destroy)) : (w.step op).observer = w.observer := by
  cases hop with
  | inl hu =>
    obtain ⟨i, rfl⟩ := hu
    unfold step
    simp only []
    split <;> rfl
  | inr ho =>
    obtain ⟨o, rfl, hne⟩ := ho
    unfold step
    simp only []
    rw [sync_observer, ob_applyOp w.st o hne, h]
    exact abs_rel _ _

theorem observer_destroy_other {w : World} (h : w.Consistent) (o : Nat) (ho : w.observer = some o) (hne : o ≠ w.cur) :
    (w.step (.op .destroy)).observer = some o := by
  have hs : w.st.observer = .other := by
    rw [h, ho]; unfold relObserver; simp only [hne, if_false]
  unfold step
  simp only []
  rw [sync_observer]
  cases observer_applyOp_cases w.st .destroy with
  | inl e => rw [e, hs, ho]; rfl
  | inr e => rw [hs] at e; cases e.2

theorem Consistent.self {w : World} (h : w.Consistent) (ho : w.observer = some w.cur) : w.st.observer = .self := by
  rw [h, ho]; unfold relObserver; simp only [if_true]

theorem observer_destroy_self {w : World} (h : w.Consistent) (ho : w.observer = some w.cur) (ha : w.st.alive = true)
    (hok : (destroy { w.st with log := [] }).isOk = true) : (w.step (.op .destroy)).observer = none := by
  have hs : w.st.observer = .self := h.self ho
  have hok0 : w.st.isOk = true := by
    cases hh : w.st.isOk with
    | true => rfl
    | false =>
      have : ({ w.st with log := [] } : St).isOk = false := hh
      unfold destroy at hok
      rw [if_pos (by rw [this]; rfl)] at hok
      rw [this] at hok; cases hok
  unfold step
  simp only []
  rw [sync_observer]
  have e : ∀ s : St, s.isOk = true → s.alive = true → applyOp' s .destroy = destroy s := by
    intro s h1 h2
    unfold applyOp'
    rw [if_neg (by rw [h1]; simp)]
    simp only []
    rw [if_neg (by rw [h2]; simp)]
  have e : applyOp w.st .destroy = destroy { w.st with log := [] } := e _ hok0 ha
  rw [e, observer_destroy _ hok]
  show absObserver _ _ (observerAfterDestroy w.st.observer) = none
  rw [hs]; rfl

theorem observer_build {w : World} (i : Nat) (hok : w.st.isOk = true) (hi : i < NINST)
    (hna : (w.load i).st.alive = false) :
    (w.step (.inst i)).observer = match w.observer with | none => some i | some o => some o := by
  unfold step
  simp only []
  rw [if_neg (by simp [hok]; omega), if_neg (by simp [hna])]
  rw [sync_observer, observer_buildOn]
  show absObserver i w.observer (if relObserver w.observer i = .none then .self else relObserver w.observer i) = _
  cases hw : w.observer with
  | none => simp [relObserver, absObserver]
  | some o =>
    by_cases h : o = i
    · simp [relObserver, absObserver, h]
    · simp [relObserver, absObserver, h]

end World

end Tickit.EvLoop
