import Tickit.Model.WinFlush
import Tickit.Model.WinSpec
import Tickit.Proof.WinRB
import Tickit.Proof.WinDamage
import Tickit.Proof.WinOwner
/-
  The invariant of `_do_expose`, by induction on the window tree: the cells the buffer lets the handler of a window touch
  are exactly those the window owns in the painter's model, inside what was writable on entry (`ExposeOk.shots`); nothing
  outside the entry-writable set changes (`frame`); if every handler invocation repaints what it is asked to in the buffer
  it finds (`RepaintsAt`), every entry-writable cell ends up holding the content of its owner (`contentAt`).  The loop over
  the damage rectangles of `tickit_window_flush` (`RectsOk`) calls `_do_expose` of the root the way the children loop
  calls it for a child (`Entered`, `ExposeOk.leave`).
-/
namespace Tickit
namespace WinFlush
open WinTree WinRB WinSpec

theorem ownerLoc_in {t : Tree} {fuel : Nat} {id : Id} {w : Win} (hw : t.wins[id]? = some w) (hfuel : fuel ≠ 0)
    (hv : w.isVisible = true) (hf : w.freed = false) {l c : Int} (hm : w.rect.memb l c = true) :
    ownerLoc t fuel id l c = some (ownerSub t fuel id (l - w.rect.top) (c - w.rect.left)) := by
  obtain ⟨n, rfl⟩ : ∃ n, fuel = n + 1 := ⟨fuel - 1, by omega⟩
  rw [ownerLoc_rec hw, if_pos ⟨hv, hf, hm⟩]
  simp only [ownerSub, hw]
  cases List.findSome? (fun ch => ownerLoc t n ch (l - w.rect.top) (c - w.rect.left)) w.children <;> rfl

theorem ownerLoc_out {t : Tree} {fuel : Nat} {id : Id} {w : Win} (hw : t.wins[id]? = some w) {l c : Int}
    (h : w.isVisible = false ∨ w.rect.memb l c = false) : ownerLoc t fuel id l c = none := by
  cases fuel with
  | zero => rfl
  | succ n =>
    rw [ownerLoc_rec hw, if_neg]
    exact fun hc => h.elim (fun hv => Bool.noConfusion (hv.symm.trans hc.1)) fun hm => Bool.noConfusion (hm.symm.trans hc.2.2)

/-- One handler invocation repaints what it was asked to: the window's program, run on the buffer *as the handler found
    it*, leaves the window's content in every cell of the handed rectangle the buffer lets it touch. -/
def RepaintsAt (content : Id → Int → Int → Cell) (beh : Id → Rect → List DrawOp) (sh : Shot) : Prop :=
  ∀ (L C : Int), sh.rb.writable L C = true → sh.rect.memb (L - sh.rb.xl) (C - sh.rb.xc) = true →
    (sh.rb.run (beh sh.win sh.rect)).cells L C = some (.plain (content sh.win (L - sh.rb.xl) (C - sh.rb.xc)))

theorem repaintsAt_of_repaints {content : Id → Int → Int → Cell} {beh : Id → Rect → List DrawOp} (h : Repaints content beh)
    (sh : Shot) : RepaintsAt content beh sh :=
  fun L C hw hm => h sh.win sh.rect sh.rb L C hw hm

/-- What `_do_expose(win, ·)` does from `s` to `s'`: the invariant of the head comment, with `ownerSub t fuel win` the owner
    below `win`. -/
structure ExposeOk (t : Tree) (beh : Id → Rect → List DrawOp) (content : Id → Int → Int → Cell)
    (fuel : Nat) (win : Id) (s s' : RB × List Shot) : Prop where
  shots : ∃ new, s'.2 = s.2 ++ new ∧
    (∀ sh ∈ new, ∀ L C, sh.rb.writable L C = true →
      s.1.writable L C = true ∧ ownerSub t fuel win (L - s.1.xl) (C - s.1.xc) = (sh.win, L - sh.rb.xl, C - sh.rb.xc)) ∧
    (∀ L C, s.1.writable L C = true → ∃ sh ∈ new, sh.rb.writable L C = true)
  stack : s'.1.stack = s.1.stack
  masks : ∃ m, s'.1.masks = m ++ s.1.masks ∧ ∀ x ∈ m, s.1.stack.length ≤ x.2
  lines : s'.1.lines = s.1.lines
  cols : s'.1.cols = s.1.cols
  shotsMasks : (∀ sh ∈ s.2, MasksLe sh.rb) → ∀ sh ∈ s'.2, MasksLe sh.rb
  frame : ∀ L C, s.1.writable L C = false → s'.1.cells L C = s.1.cells L C
  contentAt : (∀ sh ∈ s'.2, RepaintsAt content beh sh) → ∀ L C, s.1.writable L C = true →
    s'.1.cells L C = some (.plain (content (ownerSub t fuel win (L - s.1.xl) (C - s.1.xc)).1
      (ownerSub t fuel win (L - s.1.xl) (C - s.1.xc)).2.1 (ownerSub t fuel win (L - s.1.xl) (C - s.1.xc)).2.2))

theorem ExposeOk.content {t : Tree} {beh : Id → Rect → List DrawOp} {content : Id → Int → Int → Cell}
    {fuel : Nat} {win : Id} {s s' : RB × List Shot} (h : ExposeOk t beh content fuel win s s') :
    Repaints content beh → ∀ L C, s.1.writable L C = true →
    s'.1.cells L C = some (.plain (content (ownerSub t fuel win (L - s.1.xl) (C - s.1.xc)).1
      (ownerSub t fuel win (L - s.1.xl) (C - s.1.xc)).2.1 (ownerSub t fuel win (L - s.1.xl) (C - s.1.xc)).2.2)) :=
  fun hr => h.contentAt (fun sh _ => repaintsAt_of_repaints hr sh)

/-- The owner among the children `cs` of a window (front-most first). -/
def childOwner (t : Tree) (fuel : Nat) (cs : List Id) (l c : Int) : Option (Id × Int × Int) :=
  cs.findSome? (fun ch => ownerLoc t fuel ch l c)

/-- The same for a stretch `cs` of the children loop; `writable`: what is writable afterwards is what was, minus what
    `cs` own (each child is masked once handled). -/
structure LoopOk (t : Tree) (beh : Id → Rect → List DrawOp) (content : Id → Int → Int → Cell)
    (fuel : Nat) (cs : List Id) (s s' : RB × List Shot) : Prop where
  shots : ∃ new, s'.2 = s.2 ++ new ∧
    (∀ sh ∈ new, ∀ L C, sh.rb.writable L C = true →
      s.1.writable L C = true ∧ childOwner t fuel cs (L - s.1.xl) (C - s.1.xc) = some (sh.win, L - sh.rb.xl, C - sh.rb.xc)) ∧
    (∀ L C, s.1.writable L C = true → (childOwner t fuel cs (L - s.1.xl) (C - s.1.xc)).isSome = true →
      ∃ sh ∈ new, sh.rb.writable L C = true)
  stack : s'.1.stack = s.1.stack
  xl : s'.1.xl = s.1.xl
  xc : s'.1.xc = s.1.xc
  lines : s'.1.lines = s.1.lines
  cols : s'.1.cols = s.1.cols
  masks : ∃ m, s'.1.masks = m ++ s.1.masks ∧ ∀ x ∈ m, s.1.stack.length ≤ x.2
  masksLe : MasksLe s'.1
  writable : ∀ L C, s'.1.writable L C = (s.1.writable L C && (childOwner t fuel cs (L - s.1.xl) (C - s.1.xc)).isNone)
  shotsMasks : (∀ sh ∈ s.2, MasksLe sh.rb) → ∀ sh ∈ s'.2, MasksLe sh.rb
  frame : ∀ L C, s.1.writable L C = false → s'.1.cells L C = s.1.cells L C
  contentAt : (∀ sh ∈ s'.2, RepaintsAt content beh sh) → ∀ L C, s.1.writable L C = true →
    ∀ o, childOwner t fuel cs (L - s.1.xl) (C - s.1.xc) = some o → s'.1.cells L C = some (.plain (content o.1 o.2.1 o.2.2))

theorem LoopOk.content {t : Tree} {beh : Id → Rect → List DrawOp} {content : Id → Int → Int → Cell}
    {fuel : Nat} {cs : List Id} {s s' : RB × List Shot} (h : LoopOk t beh content fuel cs s s') :
    Repaints content beh → ∀ L C, s.1.writable L C = true →
    ∀ o, childOwner t fuel cs (L - s.1.xl) (C - s.1.xc) = some o → s'.1.cells L C = some (.plain (content o.1 o.2.1 o.2.2)) :=
  fun hr => h.contentAt (fun sh _ => repaintsAt_of_repaints hr sh)

theorem memb_intersect {a b r : Rect} (h : Rect.intersect a b = some r) (L C : Int) :
    r.memb L C = (a.memb L C && b.memb L C) := by
  have := (Rect.intersect_some _ _ _ h).2 L C
  apply Bool.eq_iff_iff.mpr
  rw [Bool.and_eq_true, Rect.memb_iff, Rect.memb_iff, Rect.memb_iff]
  exact this

theorem doChildren_cons {t : Tree} {recur : Id → Rect → RB × List Shot → Res (RB × List Shot)} {rect : Rect} {c : Id}
    {cs : List Id} {s s' : RB × List Shot} (h : doChildren t recur rect (c :: cs) s = .ok s') :
    ∃ cw, WinTree.get t c = .ok cw ∧
      ((cw.isVisible = false ∧ doChildren t recur rect cs s = .ok s') ∨
       (cw.isVisible = true ∧ Rect.intersect rect cw.rect = none ∧
          doChildren t recur rect cs (s.1.mask cw.rect, s.2) = .ok s') ∨
       (cw.isVisible = true ∧ ∃ exposed s2, Rect.intersect rect cw.rect = some exposed ∧
          recur c (exposed.translate (-cw.rect.top) (-cw.rect.left))
            (((s.1.save).clipTo exposed).translate cw.rect.top cw.rect.left, s.2) = .ok s2 ∧
          doChildren t recur rect cs (s2.1.restore.mask cw.rect, s2.2) = .ok s')) := by
  unfold doChildren at h
  obtain ⟨cw, hg, h⟩ := bind_ok_iff.1 h
  refine ⟨cw, hg, ?_⟩
  rcases ite_ok h with ⟨hv, h⟩ | ⟨hv, h⟩
  · exact Or.inl ⟨by simpa using hv, h⟩
  · have hv : cw.isVisible = true := by simpa using hv
    cases hi : Rect.intersect rect cw.rect with
    | none => rw [hi] at h; exact Or.inr (Or.inl ⟨hv, rfl, h⟩)
    | some exposed =>
      rw [hi] at h
      obtain ⟨s2, h2, h⟩ := bind_ok_iff.1 h
      exact Or.inr (Or.inr ⟨hv, exposed, s2, rfl, h2, h⟩)

theorem doExpose_succ {beh : Id → Rect → List DrawOp} {t : Tree} {pens : Array (Option Pen)} {n : Nat} {win : Id} {rect : Rect}
    {s s' : RB × List Shot} (h : doExpose beh t pens (n + 1) win rect s = .ok s') :
    ∃ w sl, WinTree.get t win = .ok w ∧
      doChildren t (doExpose beh t pens n) rect w.children (applyWinPen pens win s.1, s.2) = .ok sl ∧
      s' = (sl.1.run (beh win rect), sl.2 ++ [⟨win, rect, sl.1⟩]) := by
  simp only [doExpose] at h
  obtain ⟨w, hg, h⟩ := bind_ok_iff.1 h
  obtain ⟨sl, hl, h⟩ := bind_ok_iff.1 h
  cases h
  exact ⟨w, sl, hg, hl, rfl⟩

theorem exposeRects_cons {beh : Id → Rect → List DrawOp} {t : Tree} {pens : Array (Option Pen)} {fuel : Nat} {bounds ρ0 : Rect}
    {rest : List Rect} {s s' : RB × List Shot} (h : exposeRects beh t pens fuel bounds (ρ0 :: rest) s = .ok s') :
    (Rect.intersect ρ0 bounds = none ∧ exposeRects beh t pens fuel bounds rest s = .ok s') ∨
    ∃ ρ s1, Rect.intersect ρ0 bounds = some ρ ∧ doExpose beh t pens fuel 0 ρ ((s.1.save).clipTo ρ, s.2) = .ok s1 ∧
      exposeRects beh t pens fuel bounds rest (s1.1.restore, s1.2) = .ok s' := by
  simp only [exposeRects] at h
  cases hi : Rect.intersect ρ0 bounds with
  | none => rw [hi] at h; exact Or.inl ⟨rfl, h⟩
  | some ρ =>
    rw [hi] at h
    obtain ⟨s1, h1, h⟩ := bind_ok_iff.1 h
    exact Or.inr ⟨ρ, s1, rfl, h1, h⟩

/-- `rb1` is `rb` after `save` and steps that leave the stack, the masks, the cells and the size alone (`clip`,
    `translate`): what `_do_expose` is entered with. -/
structure Entered (rb rb1 : RB) : Prop where
  stack : rb1.stack = { xl := rb.xl, xc := rb.xc, clip := rb.clip, pen := rb.pen, penOnly := false } :: rb.stack
  masks : rb1.masks = rb.masks
  cells : rb1.cells = rb.cells
  lines : rb1.lines = rb.lines
  cols : rb1.cols = rb.cols

theorem save_clipTo_xl (rb : RB) (e : Rect) : ((rb.save).clipTo e).xl = rb.xl := clipTo_xl _ e

theorem save_clipTo_xc (rb : RB) (e : Rect) : ((rb.save).clipTo e).xc = rb.xc := clipTo_xc _ e

theorem entered_clip (rb : RB) (e : Rect) : Entered rb ((rb.save).clipTo e) :=
  ⟨clipTo_stack _ e, clipTo_masks _ e, clipTo_cells _ e, clipTo_lines _ e, clipTo_cols _ e⟩

theorem Entered.translate {rb rb1 : RB} (h : Entered rb rb1) (d r : Int) : Entered rb (rb1.translate d r) :=
  ⟨h.stack, h.masks, h.cells, h.lines, h.cols⟩

theorem entered_child (rb : RB) (e : Rect) (d r : Int) : Entered rb (((rb.save).clipTo e).translate d r) :=
  (entered_clip rb e).translate d r

theorem Entered.masksLe {rb rb1 : RB} (h : Entered rb rb1) (hm : MasksLe rb) : MasksLe rb1 := by
  intro m hmm
  rw [h.masks] at hmm
  rw [h.stack]
  exact Nat.le_succ_of_le (hm m hmm)

theorem writable_save_clipTo (rb : RB) (e : Rect) (L C : Int) :
    ((rb.save).clipTo e).writable L C = (rb.writable L C && e.memb (L - rb.xl) (C - rb.xc)) := by
  rw [writable_clipTo, writable_save, memb_translate]
  rfl

/-- `SameFrame` and the translation too: what setting a pen keeps. -/
structure SameCtl (a b : RB) : Prop where
  xl : b.xl = a.xl
  xc : b.xc = a.xc
  clip : b.clip = a.clip
  stack : b.stack = a.stack
  masks : b.masks = a.masks
  lines : b.lines = a.lines
  cols : b.cols = a.cols

theorem SameCtl.writable {a b : RB} (h : SameCtl a b) (L C : Int) : b.writable L C = a.writable L C :=
  writable_congr h.clip h.masks L C

theorem SameCtl.masksLe {a b : RB} (h : SameCtl a b) (hm : MasksLe a) : MasksLe b := by
  intro m hmm; rw [h.masks] at hmm; rw [h.stack]; exact hm m hmm

theorem sameCtl_applyWinPen (pens : Array (Option Pen)) (win : Id) (rb : RB) :
    SameCtl rb (applyWinPen pens win rb) ∧ (applyWinPen pens win rb).cells = rb.cells := by
  unfold applyWinPen; split <;> exact ⟨⟨rfl, rfl, rfl, rfl, rfl, rfl, rfl⟩, rfl⟩

/-- Leaving `_do_expose`: the `restore` that closes the level opened on entry gives back the caller's translation, clip
    and stack, and drops exactly the masks the call added. -/
theorem ExposeOk.leave {t : Tree} {beh : Id → Rect → List DrawOp} {content : Id → Int → Int → Cell} {fuel : Nat} {win : Id}
    {rb rb1 : RB} {sh : List Shot} {s2 : RB × List Shot} (h : ExposeOk t beh content fuel win (rb1, sh) s2)
    (he : Entered rb rb1) (hm : MasksLe rb) :
    SameCtl rb s2.1.restore ∧ s2.1.restore.cells = s2.1.cells := by
  obtain ⟨mc, hmc, hmcd⟩ := h.masks
  obtain ⟨hxl, hxc, hclip, _, hstack, hcells, hlines, hcols, hmasks⟩ :=
    restore_of_save_frame rb s2.1 rb.stack (h.stack.trans he.stack)
  refine ⟨⟨hxl, hxc, hclip, hstack, ?_, hlines.trans (h.lines.trans he.lines), hcols.trans (h.cols.trans he.cols)⟩, hcells⟩
  rw [hmasks, hmc]
  simp only at hmcd
  rw [he.masks]
  refine filter_masks (fun x hx => ?_) hm
  have := hmcd x hx
  rw [he.stack] at this
  exact this

theorem masksLe_mask {rb : RB} (hm : MasksLe rb) (r : Rect) : MasksLe (rb.mask r) := by
  intro m hmm
  rcases List.mem_cons.1 hmm with rfl | hmm
  · exact Nat.le_refl _
  · exact hm m hmm

theorem childOwner_append (t : Tree) (fuel : Nat) (cs1 cs2 : List Id) (l c : Int) :
    childOwner t fuel (cs1 ++ cs2) l c = (childOwner t fuel cs1 l c).or (childOwner t fuel cs2 l c) := by
  simp only [childOwner, List.findSome?_append]

theorem childOwner_single (t : Tree) (fuel : Nat) (c : Id) (l k : Int) : childOwner t fuel [c] l k = ownerLoc t fuel c l k := by
  simp only [childOwner, List.findSome?_cons, List.findSome?_nil]
  cases ownerLoc t fuel c l k <;> rfl

/-- A stretch of the loop that runs no handler (hidden children, children outside the exposed rectangle): at most masks
    are added. -/
theorem LoopOk.of_none {t : Tree} {beh : Id → Rect → List DrawOp} {content : Id → Int → Int → Cell} {fuel : Nat} {cs : List Id}
    {s : RB × List Shot} {rb' : RB}
    (hnone : ∀ L C, s.1.writable L C = true → childOwner t fuel cs (L - s.1.xl) (C - s.1.xc) = none)
    (hstack : rb'.stack = s.1.stack) (hxl : rb'.xl = s.1.xl) (hxc : rb'.xc = s.1.xc) (hlines : rb'.lines = s.1.lines)
    (hcols : rb'.cols = s.1.cols) (hcells : rb'.cells = s.1.cells)
    (hmasks : ∃ m, rb'.masks = m ++ s.1.masks ∧ ∀ x ∈ m, s.1.stack.length ≤ x.2) (hmle : MasksLe rb')
    (hw : ∀ L C, rb'.writable L C = s.1.writable L C) : LoopOk t beh content fuel cs s (rb', s.2) :=
  { shots := ⟨[], (List.append_nil _).symm, (fun _ hsh => nomatch hsh), fun L C hwr ho => by rw [hnone L C hwr] at ho; cases ho⟩
    stack := hstack, xl := hxl, xc := hxc, lines := hlines, cols := hcols, masks := hmasks, masksLe := hmle
    writable := fun L C => by
      rw [hw]
      cases hwr : s.1.writable L C with
      | false => rfl
      | true => rw [hnone L C hwr]; rfl
    shotsMasks := fun h => h
    frame := fun L C _ => by rw [hcells]
    contentAt := fun _ L C hwr o ho => by rw [hnone L C hwr] at ho; cases ho }

theorem LoopOk.append {t : Tree} {beh : Id → Rect → List DrawOp} {content : Id → Int → Int → Cell} {fuel : Nat}
    {cs1 cs2 : List Id} {s s1 s' : RB × List Shot} (h1 : LoopOk t beh content fuel cs1 s s1)
    (h2 : LoopOk t beh content fuel cs2 s1 s') : LoopOk t beh content fuel (cs1 ++ cs2) s s' := by
  obtain ⟨new1, hnew1, hsound1, hcomp1⟩ := h1.shots
  obtain ⟨new2, hnew2, hsound2, hcomp2⟩ := h2.shots
  obtain ⟨m1, hm1, hmd1⟩ := h1.masks
  obtain ⟨m2, hm2, hmd2⟩ := h2.masks
  rw [h1.xl, h1.xc] at hsound2 hcomp2
  have hc2 := h2.contentAt
  have hw2 := h2.writable
  rw [h1.xl, h1.xc] at hc2 hw2
  -- a cell that stays writable after the first stretch has no owner among `cs1`
  have hsplit : ∀ L C, s1.1.writable L C = true → s.1.writable L C = true ∧
      childOwner t fuel (cs1 ++ cs2) (L - s.1.xl) (C - s.1.xc) = childOwner t fuel cs2 (L - s.1.xl) (C - s.1.xc) := by
    intro L C hw
    rw [h1.writable L C, Bool.and_eq_true, Option.isNone_iff_eq_none] at hw
    exact ⟨hw.1, by rw [childOwner_append, hw.2]; rfl⟩
  have hfirst : ∀ L C o, childOwner t fuel cs1 (L - s.1.xl) (C - s.1.xc) = some o →
      childOwner t fuel (cs1 ++ cs2) (L - s.1.xl) (C - s.1.xc) = some o ∧ s1.1.writable L C = false := by
    intro L C o ho
    exact ⟨by rw [childOwner_append, ho]; rfl, by rw [h1.writable L C, ho]; exact Bool.and_false _⟩
  refine { shots := ⟨new1 ++ new2, by rw [hnew2, hnew1, List.append_assoc], ?_, ?_⟩
           stack := h2.stack.trans h1.stack, xl := h2.xl.trans h1.xl, xc := h2.xc.trans h1.xc
           lines := h2.lines.trans h1.lines, cols := h2.cols.trans h1.cols
           masks := ⟨m2 ++ m1, by rw [hm2, hm1, List.append_assoc], fun x hx => ?_⟩
           masksLe := h2.masksLe
           writable := fun L C => ?_
           shotsMasks := fun h0 => h2.shotsMasks (h1.shotsMasks h0)
           frame := fun L C hw => ?_
           contentAt := fun hr L C hw o ho => ?_ }
  · intro sh hsh L C hw
    rcases List.mem_append.1 hsh with hsh | hsh
    · obtain ⟨a, b⟩ := hsound1 sh hsh L C hw
      exact ⟨a, (hfirst L C _ b).1⟩
    · obtain ⟨a, b⟩ := hsound2 sh hsh L C hw
      obtain ⟨a', e⟩ := hsplit L C a
      exact ⟨a', e.trans b⟩
  · intro L C hw ho
    cases h : childOwner t fuel cs1 (L - s.1.xl) (C - s.1.xc) with
    | some o =>
      obtain ⟨sh, hsh, hshw⟩ := hcomp1 L C hw (by rw [h]; rfl)
      exact ⟨sh, List.mem_append_left _ hsh, hshw⟩
    | none =>
      rw [childOwner_append, h] at ho
      obtain ⟨sh, hsh, hshw⟩ := hcomp2 L C (by rw [h1.writable L C, hw, h]; rfl) ho
      exact ⟨sh, List.mem_append_right _ hsh, hshw⟩
  · rcases List.mem_append.1 hx with hx | hx
    · have := hmd2 x hx; rwa [h1.stack] at this
    · exact hmd1 x hx
  · rw [hw2 L C, h1.writable L C, childOwner_append, Bool.and_assoc]
    cases childOwner t fuel cs1 (L - s.1.xl) (C - s.1.xc) <;> rfl
  · rw [h2.frame L C (by rw [h1.writable L C, hw]; rfl), h1.frame L C hw]
  · cases h : childOwner t fuel cs1 (L - s.1.xl) (C - s.1.xc) with
    | some o1 =>
      obtain ⟨e, hnw⟩ := hfirst L C o1 h
      rw [e] at ho
      cases ho
      rw [h2.frame L C hnw]
      exact h1.contentAt (fun sh hsh => hr sh (by rw [hnew2]; exact List.mem_append_left _ hsh)) L C hw _ h
    | none =>
      rw [childOwner_append, h] at ho
      exact hc2 hr L C (by rw [h1.writable L C, hw, h]; rfl) o ho

/-- One visible child whose rectangle meets the exposed one: `_do_expose` of the child between `save` and `restore`,
    then the child's rectangle is masked. -/
theorem LoopOk.child {t : Tree} {beh : Id → Rect → List DrawOp} {content : Id → Int → Int → Cell} {fuel : Nat} {c : Id}
    {cw : Win} {rect exposed : Rect} {s s2 : RB × List Shot} (hcw : t.wins[c]? = some cw) (hf : cw.freed = false)
    (hv : cw.isVisible = true) (hfuel : fuel ≠ 0) (hi : Rect.intersect rect cw.rect = some exposed) (hm : MasksLe s.1)
    (hsub : ∀ L C, s.1.writable L C = true → rect.memb (L - s.1.xl) (C - s.1.xc) = true)
    (hch : ExposeOk t beh content fuel c (((s.1.save).clipTo exposed).translate cw.rect.top cw.rect.left, s.2) s2) :
    LoopOk t beh content fuel [c] s (s2.1.restore.mask cw.rect, s2.2) := by
  have he := entered_child s.1 exposed cw.rect.top cw.rect.left
  obtain ⟨hctl, hcells⟩ := hch.leave he hm
  generalize hrb1 : ((s.1.save).clipTo exposed).translate cw.rect.top cw.rect.left = rb1 at hch he
  have h1xl : rb1.xl = s.1.xl + cw.rect.top := by rw [← hrb1]; exact congrArg (· + cw.rect.top) (save_clipTo_xl s.1 exposed)
  have h1xc : rb1.xc = s.1.xc + cw.rect.left := by rw [← hrb1]; exact congrArg (· + cw.rect.left) (save_clipTo_xc s.1 exposed)
  have h1w : ∀ L C, rb1.writable L C = (s.1.writable L C && exposed.memb (L - s.1.xl) (C - s.1.xc)) := by
    intro L C; rw [← hrb1, writable_translate, writable_save_clipTo]
  have hex := memb_intersect hi
  have h4w : ∀ L C, (s2.1.restore.mask cw.rect).writable L C = (s.1.writable L C && !cw.rect.memb (L - s.1.xl) (C - s.1.xc)) := by
    intro L C; rw [writable_mask, memb_translate, hctl.writable, hctl.xl, hctl.xc]
  have hin : ∀ L C, cw.rect.memb (L - s.1.xl) (C - s.1.xc) = true →
      childOwner t fuel [c] (L - s.1.xl) (C - s.1.xc) = some (ownerSub t fuel c (L - rb1.xl) (C - rb1.xc)) := by
    intro L C hmb
    rw [childOwner_single, ownerLoc_in hcw hfuel hv hf hmb, h1xl, h1xc, Int.sub_sub, Int.sub_sub]
  have hout : ∀ L C, cw.rect.memb (L - s.1.xl) (C - s.1.xc) = false → childOwner t fuel [c] (L - s.1.xl) (C - s.1.xc) = none := by
    intro L C hmb
    rw [childOwner_single, ownerLoc_out hcw (Or.inr hmb)]
  obtain ⟨newc, hnewc, hsoundc, hcompc⟩ := hch.shots
  simp only at hnewc hsoundc hcompc
  refine { shots := ⟨newc, hnewc, ?_, ?_⟩
           stack := hctl.stack, xl := hctl.xl, xc := hctl.xc, lines := hctl.lines, cols := hctl.cols
           masks := ⟨[(cw.rect.translate s2.1.restore.xl s2.1.restore.xc, s2.1.restore.depth)], by
             show _ :: s2.1.restore.masks = _; rw [hctl.masks]; rfl, fun x hx => by
             rw [List.mem_singleton.1 hx]; exact Nat.le_of_eq (congrArg List.length hctl.stack).symm⟩
           masksLe := masksLe_mask (hctl.masksLe hm) _
           writable := fun L C => ?_
           shotsMasks := hch.shotsMasks
           frame := fun L C hw => ?_
           contentAt := fun hr L C hw o ho => ?_ }
  · intro sh hsh L C hw
    obtain ⟨a, b⟩ := hsoundc sh hsh L C hw
    rw [h1w, Bool.and_eq_true, hex, Bool.and_eq_true] at a
    exact ⟨a.1, by rw [hin L C a.2.2, b]⟩
  · intro L C hw ho
    cases hmb : cw.rect.memb (L - s.1.xl) (C - s.1.xc) with
    | false => rw [hout L C hmb] at ho; cases ho
    | true => exact hcompc L C (by rw [h1w, hw, hex, hsub L C hw, hmb]; rfl)
  · rw [h4w]
    cases hmb : cw.rect.memb (L - s.1.xl) (C - s.1.xc) with
    | false => rw [hout L C hmb]; rfl
    | true => rw [hin L C hmb]; rfl
  · show s2.1.restore.cells L C = _
    rw [hcells, hch.frame L C (by rw [h1w, hw]; rfl), he.cells]
  · cases hmb : cw.rect.memb (L - s.1.xl) (C - s.1.xc) with
    | false => rw [hout L C hmb] at ho; cases ho
    | true =>
      rw [hin L C hmb] at ho
      cases ho
      show s2.1.restore.cells L C = _
      rw [hcells]
      exact hch.contentAt hr L C (by rw [h1w, hw, hex, hsub L C hw, hmb]; rfl)

theorem doChildren_ok (t : Tree) (beh : Id → Rect → List DrawOp) (pens : Array (Option Pen))
    (content : Id → Int → Int → Cell) (fuel : Nat) (rect : Rect)
    (ih : ∀ (win : Id) (r : Rect) (s s' : RB × List Shot), doExpose beh t pens fuel win r s = .ok s' →
      MasksLe s.1 → (∀ L C, s.1.writable L C = true → r.memb (L - s.1.xl) (C - s.1.xc) = true) →
      ExposeOk t beh content fuel win s s') :
    ∀ (cs : List Id) (s s' : RB × List Shot),
      doChildren t (doExpose beh t pens fuel) rect cs s = .ok s' →
      MasksLe s.1 → (∀ L C, s.1.writable L C = true → rect.memb (L - s.1.xl) (C - s.1.xc) = true) →
      LoopOk t beh content fuel cs s s' := by
  intro cs
  induction cs with
  | nil =>
    intro s s' h hm _
    cases h
    exact LoopOk.of_none (fun _ _ _ => rfl) rfl rfl rfl rfl rfl rfl ⟨[], rfl, fun _ hx => nomatch hx⟩ hm (fun _ _ => rfl)
  | cons c cs ihcs =>
    intro s s' h hm hsub
    obtain ⟨cw, hg, hcase⟩ := doChildren_cons h
    have hcw := get_ok hg
    suffices hstep : ∃ s1, LoopOk t beh content fuel [c] s s1 ∧ doChildren t (doExpose beh t pens fuel) rect cs s1 = .ok s' by
      obtain ⟨s1, h1, hrest⟩ := hstep
      refine h1.append (ihcs s1 s' hrest h1.masksLe fun L C hw => ?_)
      rw [h1.xl, h1.xc]
      rw [h1.writable L C, Bool.and_eq_true] at hw
      exact hsub L C hw.1
    rcases hcase with ⟨hv, hrest⟩ | ⟨hv, hi, hrest⟩ | ⟨hv, exposed, s2, hi, hrec, hrest⟩
    · -- a hidden child owns nothing
      refine ⟨s, LoopOk.of_none (fun L C _ => ?_) rfl rfl rfl rfl rfl rfl ⟨[], rfl, fun _ hx => nomatch hx⟩ hm (fun _ _ => rfl), hrest⟩
      rw [childOwner_single, ownerLoc_out hcw.1 (Or.inl hv)]
    · -- no writable cell lies in the child's rectangle
      have hnot : ∀ L C, s.1.writable L C = true → cw.rect.memb (L - s.1.xl) (C - s.1.xc) = false := fun L C hw =>
        Bool.eq_false_iff.2 fun hh => Rect.intersect_none _ _ hi _ _
          ⟨(Rect.memb_iff _ _ _).1 (hsub L C hw), (Rect.memb_iff _ _ _).1 hh⟩
      refine ⟨_, LoopOk.of_none (rb' := s.1.mask cw.rect) (fun L C hw => ?_) rfl rfl rfl rfl rfl rfl
        ⟨[(cw.rect.translate s.1.xl s.1.xc, s.1.depth)], rfl, fun x hx => by rw [List.mem_singleton.1 hx]; exact Nat.le_refl _⟩
        (masksLe_mask hm _) fun L C => ?_, hrest⟩
      · rw [childOwner_single, ownerLoc_out hcw.1 (Or.inr (hnot L C hw))]
      · rw [writable_mask, memb_translate]
        cases hw : s.1.writable L C with
        | false => rfl
        | true => rw [hnot L C hw]; rfl
    · have hfuel : fuel ≠ 0 := by
        intro h0; subst h0; cases hrec
      have he := entered_child s.1 exposed cw.rect.top cw.rect.left
      refine ⟨_, LoopOk.child hcw.1 hcw.2 hv hfuel hi hm hsub (ih c _ _ s2 hrec (he.masksLe hm) fun L C hw => ?_), hrest⟩
      rw [writable_translate, writable_save_clipTo, Bool.and_eq_true] at hw
      rw [memb_translate]
      simp only [RB.translate, RB.save, clipTo_xl, clipTo_xc]
      have e1 : L - (s.1.xl + cw.rect.top) - -cw.rect.top = L - s.1.xl := by omega
      have e2 : C - (s.1.xc + cw.rect.left) - -cw.rect.left = C - s.1.xc := by omega
      rw [e1, e2]
      exact hw.2

/-- The second hypothesis: on entry the writable set lies inside `rect`, in the coordinates of the window (the caller has
    clipped to it). -/
theorem doExpose_ok (t : Tree) (beh : Id → Rect → List DrawOp) (pens : Array (Option Pen))
    (content : Id → Int → Int → Cell) :
    ∀ (fuel : Nat) (win : Id) (rect : Rect) (s s' : RB × List Shot),
      doExpose beh t pens fuel win rect s = .ok s' →
      MasksLe s.1 → (∀ L C, s.1.writable L C = true → rect.memb (L - s.1.xl) (C - s.1.xc) = true) →
      ExposeOk t beh content fuel win s s' := by
  intro fuel
  induction fuel with
  | zero => intro win rect s s' h; cases h
  | succ n ih =>
    intro win rect s s' h hm hsub
    obtain ⟨w, sl, hg, hl, rfl⟩ := doExpose_succ h
    have hw := get_ok hg
    obtain ⟨h0, h0cells⟩ := sameCtl_applyWinPen pens win s.1
    generalize applyWinPen pens win s.1 = rb0 at hl h0 h0cells
    have hloop := doChildren_ok t beh pens content n rect ih w.children (rb0, s.2) sl hl (h0.masksLe hm)
      (fun L C hw' => by rw [h0.xl, h0.xc]; exact hsub L C (by rwa [h0.writable] at hw'))
    obtain ⟨newl, hnewl, hsoundl, hcompl⟩ := hloop.shots
    obtain ⟨ml, hml, hmld⟩ := hloop.masks
    have hlw := hloop.writable
    have hlc := hloop.contentAt
    simp only [h0.xl, h0.xc, h0.writable] at hnewl hsoundl hcompl hml hmld hlw hlc
    have hsf := run_sameFrame (beh win rect) sl.1 hloop.masksLe
    have hsub_eq : ∀ l k, ownerSub t (n + 1) win l k =
        match childOwner t n w.children l k with
        | some o => o
        | none => (win, l, k) := by
      intro l k
      simp only [ownerSub, hw.1, childOwner]
      cases List.findSome? (fun ch => ownerLoc t n ch l k) w.children <;> rfl
    refine { shots := ⟨newl ++ [⟨win, rect, sl.1⟩], by rw [hnewl, List.append_assoc], ?_, ?_⟩
             stack := (hsf.stack.trans hloop.stack).trans h0.stack
             masks := ⟨ml, by show (sl.1.run (beh win rect)).masks = ml ++ s.1.masks; rw [hsf.masks, hml, h0.masks],
                        fun x hx => by have := hmld x hx; rwa [h0.stack] at this⟩
             lines := (hsf.lines.trans hloop.lines).trans h0.lines
             cols := (hsf.cols.trans hloop.cols).trans h0.cols
             frame := fun L C hwr => ?_
             shotsMasks := fun h0 sh hsh => by
               rcases List.mem_append.1 hsh with hsh | hsh
               · exact hloop.shotsMasks h0 sh hsh
               · rw [List.mem_singleton.1 hsh]; exact hloop.masksLe
             contentAt := fun hr L C hwr => ?_ }
    · intro sh hsh L C hwr
      rcases List.mem_append.1 hsh with hsh | hsh
      · obtain ⟨a, b⟩ := hsoundl sh hsh L C hwr
        exact ⟨a, by rw [hsub_eq, b]⟩
      · rw [List.mem_singleton.1 hsh] at hwr ⊢
        rw [hlw L C, Bool.and_eq_true, Option.isNone_iff_eq_none] at hwr
        refine ⟨hwr.1, ?_⟩
        rw [hsub_eq, hwr.2]
        show _ = (win, L - sl.1.xl, C - sl.1.xc)
        rw [hloop.xl, hloop.xc, h0.xl, h0.xc]
    · intro L C hwr
      cases ho : childOwner t n w.children (L - s.1.xl) (C - s.1.xc) with
      | some o =>
        obtain ⟨sh, hsh, hshw⟩ := hcompl L C hwr (by rw [ho]; rfl)
        exact ⟨sh, List.mem_append_left _ hsh, hshw⟩
      | none => exact ⟨⟨win, rect, sl.1⟩, by simp, by show sl.1.writable L C = true; rw [hlw L C, hwr, ho]; rfl⟩
    · show (sl.1.run (beh win rect)).cells L C = s.1.cells L C
      rw [run_cells_of_not_writable _ _ hloop.masksLe L C (by rw [hlw L C, hwr]; rfl),
        hloop.frame L C (by rw [h0.writable]; exact hwr), h0cells]
    · show (sl.1.run (beh win rect)).cells L C = _
      rw [hsub_eq]
      cases ho : childOwner t n w.children (L - s.1.xl) (C - s.1.xc) with
      | some o =>
        rw [run_cells_of_not_writable _ _ hloop.masksLe L C (by rw [hlw L C, hwr, ho]; rfl)]
        exact hlc (fun sh hsh => hr sh (List.mem_append_left _ hsh)) L C hwr o ho
      | none =>
        have h1 : sl.1.writable L C = true := by rw [hlw L C, hwr, ho]; rfl
        have := hr ⟨win, rect, sl.1⟩ (List.mem_append_right _ List.mem_cons_self) L C h1
          (by show rect.memb (L - sl.1.xl) (C - sl.1.xc) = true
              rw [hloop.xl, hloop.xc, h0.xl, h0.xc]; exact hsub L C hwr)
        simp only at this
        rw [this, hloop.xl, hloop.xc, h0.xl, h0.xc]

/-- The render buffer between two damage rectangles of `tickit_window_flush`. -/
structure Neutral (rb : RB) : Prop where
  stack : rb.stack = []
  masks : rb.masks = []
  xl : rb.xl = 0
  xc : rb.xc = 0
  clip : rb.clip = ⟨0, 0, rb.lines, rb.cols⟩

theorem neutral_new (lines cols : Int) : Neutral (RB.new lines cols) := ⟨rfl, rfl, rfl, rfl, rfl⟩

theorem Neutral.writable {rb : RB} (h : Neutral rb) (L C : Int) : rb.writable L C = rb.bounds.memb L C := by
  simp only [RB.writable, RB.inClip, RB.masked, h.masks, h.clip, RB.bounds, List.any_nil, Bool.not_false, Bool.and_true]
  cases hm : (⟨0, 0, rb.lines, rb.cols⟩ : Rect).memb L C with
  | false => simp
  | true =>
    have := (Rect.memb_iff _ _ _).1 hm
    simp only [Rect.Mem, Rect.bottom, Rect.right] at this
    simp; omega

/-- `ExposeOk` for the loop over the damage rectangles, from one `Neutral` buffer to the next: the region is the union
    of `rects` inside the buffer's bounds. -/
structure RectsOk (t : Tree) (beh : Id → Rect → List DrawOp) (content : Id → Int → Int → Cell)
    (fuel : Nat) (rects : List Rect) (s s' : RB × List Shot) : Prop where
  neutral : Neutral s'.1
  lines : s'.1.lines = s.1.lines
  cols : s'.1.cols = s.1.cols
  shots : ∃ new, s'.2 = s.2 ++ new ∧
    (∀ sh ∈ new, ∀ L C, sh.rb.writable L C = true →
      s.1.bounds.memb L C = true ∧ (∃ ρ ∈ rects, ρ.memb L C = true) ∧
      ownerSub t fuel 0 L C = (sh.win, L - sh.rb.xl, C - sh.rb.xc)) ∧
    (∀ L C, s.1.bounds.memb L C = true → (∃ ρ ∈ rects, ρ.memb L C = true) → ∃ sh ∈ new, sh.rb.writable L C = true)
  shotsMasks : (∀ sh ∈ s.2, MasksLe sh.rb) → ∀ sh ∈ s'.2, MasksLe sh.rb
  frame : ∀ L C, (s.1.bounds.memb L C = false ∨ ∀ ρ ∈ rects, ρ.memb L C = false) → s'.1.cells L C = s.1.cells L C
  contentAt : (∀ sh ∈ s'.2, RepaintsAt content beh sh) → ∀ L C, s.1.bounds.memb L C = true → (∃ ρ ∈ rects, ρ.memb L C = true) →
    s'.1.cells L C = some (.plain (content (ownerSub t fuel 0 L C).1 (ownerSub t fuel 0 L C).2.1 (ownerSub t fuel 0 L C).2.2))

theorem RectsOk.content {t : Tree} {beh : Id → Rect → List DrawOp} {content : Id → Int → Int → Cell}
    {fuel : Nat} {rects : List Rect} {s s' : RB × List Shot} (h : RectsOk t beh content fuel rects s s') :
    Repaints content beh → ∀ L C, s.1.bounds.memb L C = true → (∃ ρ ∈ rects, ρ.memb L C = true) →
    s'.1.cells L C = some (.plain (content (ownerSub t fuel 0 L C).1 (ownerSub t fuel 0 L C).2.1 (ownerSub t fuel 0 L C).2.2)) :=
  fun hr => h.contentAt (fun sh _ => repaintsAt_of_repaints hr sh)

theorem exposeRects_ok (t : Tree) (beh : Id → Rect → List DrawOp) (pens : Array (Option Pen))
    (content : Id → Int → Int → Cell) (fuel : Nat) (bounds : Rect) :
    ∀ (rects : List Rect) (s s' : RB × List Shot),
      exposeRects beh t pens fuel bounds rects s = .ok s' → Neutral s.1 → bounds = s.1.bounds →
      RectsOk t beh content fuel rects s s' := by
  intro rects
  induction rects with
  | nil =>
    intro s s' h hn _
    cases h
    exact { neutral := hn, lines := rfl, cols := rfl
            shots := ⟨[], (List.append_nil _).symm, (fun _ hsh => nomatch hsh), fun _ _ _ ⟨_, hρ, _⟩ => nomatch hρ⟩
            frame := fun _ _ _ => rfl
            shotsMasks := fun h => h
            contentAt := fun _ _ _ _ ⟨_, hρ, _⟩ => nomatch hρ }
  | cons ρ0 rest ih =>
    intro s s' h hn hbd
    have hmem : ∀ {L C}, (∃ ρ' ∈ ρ0 :: rest, ρ'.memb L C = true) ↔ (ρ0.memb L C = true ∨ ∃ ρ' ∈ rest, ρ'.memb L C = true) :=
      ⟨fun ⟨ρ', hρ', hm'⟩ => (List.mem_cons.1 hρ').elim (fun e => Or.inl (e ▸ hm')) fun hr => Or.inr ⟨ρ', hr, hm'⟩,
       fun hh => hh.elim (fun hm' => ⟨ρ0, List.mem_cons_self, hm'⟩) fun ⟨ρ', hr, hm'⟩ => ⟨ρ', List.mem_cons_of_mem _ hr, hm'⟩⟩
    have hout : ∀ {L C}, (s.1.bounds.memb L C = false ∨ ∀ ρ ∈ ρ0 :: rest, ρ.memb L C = false) →
        (s.1.bounds.memb L C = false ∨ ∀ ρ ∈ rest, ρ.memb L C = false) :=
      fun hh => hh.imp_right fun hall => (List.forall_mem_cons.1 hall).2
    rcases exposeRects_cons h with ⟨hi0, hrest⟩ | ⟨ρ, s1, hi0, hd, hrest⟩
    · -- the rectangle lies outside the root's area
      have hdis : ∀ L C, s.1.bounds.memb L C = true → ρ0.memb L C = false := fun L C hb =>
        Bool.eq_false_iff.2 fun hh => Rect.intersect_none _ _ hi0 L C
          ⟨(Rect.memb_iff _ _ _).1 hh, (Rect.memb_iff _ _ _).1 (by rw [hbd]; exact hb)⟩
      have hrest := ih s s' hrest hn hbd
      obtain ⟨newr, hnewr, hsoundr, hcompr⟩ := hrest.shots
      exact { neutral := hrest.neutral, lines := hrest.lines, cols := hrest.cols
              shots := ⟨newr, hnewr,
                fun sh hsh L C hw => by
                  obtain ⟨h1, h2, h3⟩ := hsoundr sh hsh L C hw
                  exact ⟨h1, hmem.2 (Or.inr h2), h3⟩,
                fun L C hb hρ => hcompr L C hb ((hmem.1 hρ).resolve_left (by rw [hdis L C hb]; exact Bool.noConfusion))⟩
              frame := fun L C ho => hrest.frame L C (hout ho)
              shotsMasks := hrest.shotsMasks
              contentAt := fun hr L C hb hρ =>
                hrest.contentAt hr L C hb ((hmem.1 hρ).resolve_left (by rw [hdis L C hb]; exact Bool.noConfusion)) }
    · have hρ_iff : ∀ L C, ρ.memb L C = (ρ0.memb L C && s.1.bounds.memb L C) := by
        intro L C; rw [memb_intersect hi0, hbd]
      have he := entered_clip s.1 ρ
      have h1w : ∀ L C, ((s.1.save).clipTo ρ).writable L C = (s.1.bounds.memb L C && ρ.memb L C) := by
        intro L C
        rw [writable_save_clipTo, hn.writable, hn.xl, hn.xc, Int.sub_zero, Int.sub_zero]
      have hm0 : MasksLe s.1 := by intro m hm; rw [hn.masks] at hm; cases hm
      have hch := doExpose_ok t beh pens content fuel 0 ρ _ s1 hd (he.masksLe hm0) (fun L C hw => by
        rw [h1w, Bool.and_eq_true] at hw
        simpa only [save_clipTo_xl, save_clipTo_xc, hn.xl, hn.xc, Int.sub_zero] using hw.2)
      obtain ⟨hctl, hcells⟩ := hch.leave he hm0
      have hn3 : Neutral s1.1.restore :=
        ⟨hctl.stack.trans hn.stack, hctl.masks.trans hn.masks, hctl.xl.trans hn.xl, hctl.xc.trans hn.xc,
          by rw [hctl.clip, hn.clip, hctl.lines, hctl.cols]⟩
      have hb3 : (s1.1.restore).bounds = s.1.bounds := by simp only [RB.bounds, hctl.lines, hctl.cols]
      have hrest := ih (s1.1.restore, s1.2) s' hrest hn3 (by rw [hb3]; exact hbd)
      obtain ⟨newc, hnewc, hsoundc, hcompc⟩ := hch.shots
      obtain ⟨newr, hnewr, hsoundr, hcompr⟩ := hrest.shots
      simp only [save_clipTo_xl, save_clipTo_xc, hn.xl, hn.xc, Int.sub_zero] at hnewc hsoundc hcompc
      simp only at hnewr hsoundr hcompr
      rw [hb3] at hsoundr hcompr
      have hrframe := hrest.frame
      have hrcont := hrest.contentAt
      simp only [hb3] at hrframe hrcont
      refine { neutral := hrest.neutral
               lines := hrest.lines.trans hctl.lines
               cols := hrest.cols.trans hctl.cols
               shots := ⟨newc ++ newr, by rw [hnewr, hnewc, List.append_assoc], ?_, ?_⟩
               shotsMasks := fun h0 => hrest.shotsMasks (hch.shotsMasks h0)
               frame := fun L C ho => ?_
               contentAt := fun hr L C hb hρ' => ?_ }
      · intro sh hsh L C hw
        rcases List.mem_append.1 hsh with hsh | hsh
        · obtain ⟨a, b⟩ := hsoundc sh hsh L C hw
          rw [h1w, Bool.and_eq_true, hρ_iff, Bool.and_eq_true] at a
          exact ⟨a.1, hmem.2 (Or.inl a.2.1), b⟩
        · obtain ⟨h1, h2, h3⟩ := hsoundr sh hsh L C hw
          exact ⟨h1, hmem.2 (Or.inr h2), h3⟩
      · intro L C hb hρ'
        rcases hmem.1 hρ' with hm' | hr'
        · obtain ⟨sh, hsh, hshw⟩ := hcompc L C (by rw [h1w, hb, hρ_iff, hm', hb]; rfl)
          exact ⟨sh, List.mem_append_left _ hsh, hshw⟩
        · obtain ⟨sh, hsh, hshw⟩ := hcompr L C hb hr'
          exact ⟨sh, List.mem_append_right _ hsh, hshw⟩
      · have h1 : ((s.1.save).clipTo ρ).writable L C = false := by
          rw [h1w, hρ_iff]
          rcases ho with hb | hall
          · rw [hb]; rfl
          · rw [hall ρ0 List.mem_cons_self, Bool.false_and, Bool.and_false]
        rw [hrframe L C (hout ho)]
        show s1.1.restore.cells L C = _
        rw [hcells, hch.frame L C h1, he.cells]
      · by_cases hin : ∃ ρ'' ∈ rest, ρ''.memb L C = true
        · exact hrcont hr L C hb hin
        · have hρ : ρ.memb L C = true := by
            rw [hρ_iff, (hmem.1 hρ').resolve_right hin, hb]; rfl
          rw [hrframe L C (Or.inr fun ρ'' hρ'' => Bool.eq_false_iff.2 fun hh => hin ⟨ρ'', hρ'', hh⟩)]
          show s1.1.restore.cells L C = _
          rw [hcells]
          have := hch.contentAt (fun sh hsh => hr sh (by rw [hnewr]; exact List.mem_append_left _ hsh)) L C
            (by rw [h1w, hb, hρ]; rfl)
          simpa only [save_clipTo_xl, save_clipTo_xc, hn.xl, hn.xc, Int.sub_zero] using this

end WinFlush
end Tickit
