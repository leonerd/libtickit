import Tickit.Model.RBCopy
import Tickit.Proof.RB
/-
  One line of cells, for C13: what a column shows (`rowContent`) and the run structure (`RowWF`).  Both are those of the
  render-buffer engine (Proof/RB.lean): `RowWF` is its predicate with the fields grouped by kind of cell (`rowWF_iff`),
  and `Content` has the constructors of its `RBAbs.Content` (`ofAbs`).
-/
namespace Tickit.RBCopy
open Tickit Tickit.RB

/-- What a run whose start cell is `c` shows `off` columns further right. -/
def cellContent (c : Cell) (off : Int) : Content :=
  match c.state with
  | .skip => .skip
  | .text => .text c.pen c.text (c.offs + off)
  | .erase => .erase c.pen
  | .line => .line c.pen c.lmask
  | .char => .char c.pen c.cp
  | .cont => .skip

def rowContent (row : Row) (C : Int) : Content :=
  if (row.get C).state = .cont then cellContent (row.get (row.get C).cols) (C - (row.get C).cols)
  else cellContent (row.get C) 0

theorem absContent_eq (rb : RB) (L C : Int) :
    absContent rb L C = if 0 ≤ L ∧ L < rb.lines ∧ 0 ≤ C ∧ C < rb.cols then rowContent (rb.cells L) C else .skip := by
  unfold absContent rowContent cellContent RB.cell
  by_cases hg : 0 ≤ L ∧ L < rb.lines ∧ 0 ≤ C ∧ C < rb.cols
  · simp only [hg, and_self, if_true]
    by_cases hc : ((rb.cells L).get C).state = .cont
    · simp only [hc, if_true]; rfl
    · simp only [hc, if_false, Int.add_zero]; rfl
  · simp only [hg, if_false]

theorem cellContent_cols (c : Cell) (x off : Int) : cellContent { c with cols := x } off = cellContent c off := rfl

def ofAbs : RBAbs.Content → Content
  | .skip => .skip
  | .text p s k => .text p s k
  | .erase p => .erase p
  | .line p m => .line p m
  | .char p cp => .char p cp

theorem cellContent_ofAbs (c : Cell) (off : Int) : cellContent c off = ofAbs (RB.cellContent c off) := by
  unfold cellContent RB.cellContent; cases c.state <;> rfl

theorem rowContent_ofAbs (row : Row) (k : Int) : rowContent row k = ofAbs (RB.rowContent row k) := by
  unfold rowContent RB.rowContent; split <;> exact cellContent_ofAbs _ _

structure RowWF (n : Int) (row : Row) : Prop where
  cont : ∀ k, 0 ≤ k → k < n → (row.get k).state = .cont →
      0 ≤ (row.get k).cols ∧ (row.get k).cols < k ∧ (row.get (row.get k).cols).state ≠ .cont ∧
      k < (row.get k).cols + (row.get (row.get k).cols).cols
  head : ∀ k, 0 ≤ k → k < n → (row.get k).state ≠ .cont →
      1 ≤ (row.get k).cols ∧ k + (row.get k).cols ≤ n ∧
      (∀ j, k < j → j < k + (row.get k).cols → (row.get j).state = .cont ∧ (row.get j).cols = k)
  one : ∀ k, 0 ≤ k → k < n → ((row.get k).state = .line ∨ (row.get k).state = .char) → (row.get k).cols = 1

theorem rowWF_iff {n : Int} {row : Row} : RowWF n row ↔ RB.RowWF n row :=
  ⟨fun h => ⟨fun k h0 h1 hc => ⟨(h.cont k h0 h1 hc).1, (h.cont k h0 h1 hc).2.1⟩,
      fun k h0 h1 hc => (h.cont k h0 h1 hc).2.2.1, fun k h0 h1 hc => (h.cont k h0 h1 hc).2.2.2,
      fun k h0 h1 hc => ⟨(h.head k h0 h1 hc).1, (h.head k h0 h1 hc).2.1⟩,
      fun k j h0 h1 hc => (h.head k h0 h1 hc).2.2 j, h.one⟩,
   fun h => ⟨fun k h0 h1 hc => ⟨(h.cont_lo k h0 h1 hc).1, (h.cont_lo k h0 h1 hc).2, h.cont_start k h0 h1 hc, h.cont_in k h0 h1 hc⟩,
      fun k h0 h1 hc => ⟨(h.start_len k h0 h1 hc).1, (h.start_len k h0 h1 hc).2, fun j => h.start_run k j h0 h1 hc⟩,
      h.one⟩⟩

theorem Row.ext' {a b : Row} (h : ∀ k, a.get k = b.get k) : a = b := by
  cases a; cases b; simp only [Row.mk.injEq]; funext k; exact h k

theorem RowWF.congr {n : Int} {a b : Row} (h : ∀ k, a.get k = b.get k) (hb : RowWF n b) : RowWF n a := by
  have : a = b := Row.ext' h
  rw [this]; exact hb

/-- What the assignments through the returned pointer may do: they keep length and mask depth and make the cell a
    run start (of one column for LINE and CHAR). -/
structure FillOK (f : Cell → Cell) (cols : Int) : Prop where
  keepCols : ∀ c : Cell, c.cols = cols → (f c).cols = cols
  keepMask : ∀ c : Cell, (f c).maskdepth = c.maskdepth
  isHead : ∀ c : Cell, (f c).state ≠ .cont
  oneCol : ∀ c : Cell, ((f c).state = .line ∨ (f c).state = .char) → cols = 1

end Tickit.RBCopy
