import Tickit.Proof.WinInput
/-
  Towards "delivery to the windows a mutation does not affect" (C14): the vocabulary.

  `A : Aff` is a set of windows (the windows *affected* by the mutations the handlers perform, closed under
  descendants).  `Sim A t0 t`: the store `t` is the store `t0` up to what happened to windows of `A` — every window
  outside `A` still has the fields the routing looks at (liveness, visibility, steal-input, parent, rectangle), its
  children list is the old one with some windows of `A` removed (`Kids`), and its focus pointer is the old one or both
  point into `A` (or nowhere) (`FcRel`); and the children of a window of `A` are in `A` (`Down`).
-/
namespace Tickit
namespace WinInput
open WinTree

abbrev Aff := WinTree.Id → Bool

theorem aff_absurd {A : Aff} {i : WinTree.Id} {P : Prop} (h1 : A i = true) (h2 : A i = false) : P := by
  rw [h1] at h2; cases h2

inductive Kids (A : Aff) : List WinTree.Id → List WinTree.Id → Prop where
  | nil : Kids A [] []
  | keep (x : WinTree.Id) {cs cs0 : List WinTree.Id} : Kids A cs cs0 → Kids A (x :: cs) (x :: cs0)
  | drop {a : WinTree.Id} {cs cs0 : List WinTree.Id} : A a = true → Kids A cs cs0 → Kids A cs (a :: cs0)

theorem Kids.refl (A : Aff) : ∀ (cs : List WinTree.Id), Kids A cs cs
  | [] => Kids.nil
  | x :: cs => Kids.keep x (Kids.refl A cs)

theorem Kids.trans {A : Aff} {a b c : List WinTree.Id} (h1 : Kids A a b) (h2 : Kids A b c) : Kids A a c := by
  induction h2 generalizing a with
  | nil => exact h1
  | keep x _ ih =>
    cases h1 with
    | keep _ h => exact Kids.keep x (ih h)
    | drop hx h => exact Kids.drop hx (ih h)
  | drop hx _ ih => exact Kids.drop hx (ih h1)

theorem Kids.mem {A : Aff} {cs cs0 : List WinTree.Id} (h : Kids A cs cs0) {x : WinTree.Id} (hx : x ∈ cs) : x ∈ cs0 := by
  induction h with
  | nil => exact hx
  | keep y _ ih =>
    rcases List.mem_cons.1 hx with rfl | hx'
    · exact List.mem_cons_self ..
    · exact List.mem_cons_of_mem _ (ih hx')
  | drop _ _ ih => exact List.mem_cons_of_mem _ (ih hx)

theorem Kids.head {A : Aff} {cs cs0 : List WinTree.Id} (h : Kids A cs cs0) :
    cs0.head? = cs.head? ∨ ∃ a rest0, cs0 = a :: rest0 ∧ A a = true ∧ ∀ c ∈ cs, c ∈ rest0 := by
  cases h with
  | nil => exact Or.inl rfl
  | keep x _ => exact Or.inl rfl
  | drop ha hk => exact Or.inr ⟨_, _, rfl, ha, fun c hc => hk.mem hc⟩

theorem Kids.head_inA {A : Aff} {a : WinTree.Id} {rest cs0 : List WinTree.Id} (h : Kids A (a :: rest) cs0) (ha : A a = true) :
    ∃ a0 rest0, cs0 = a0 :: rest0 ∧ A a0 = true ∧ ∀ c ∈ rest, c ∈ rest0 := by
  cases h with
  | keep _ hk => exact ⟨a, _, rfl, ha, fun c hc => hk.mem hc⟩
  | drop ha' hk => exact ⟨_, _, rfl, ha', fun c hc => hk.mem (List.mem_cons_of_mem _ hc)⟩

theorem Kids.erase {A : Aff} {a : WinTree.Id} (ha : A a = true) : ∀ (cs : List WinTree.Id), Kids A (cs.erase a) cs
  | [] => Kids.nil
  | x :: cs => by
    by_cases hx : x = a
    · subst hx; rw [List.erase_cons_head]; exact Kids.drop ha (Kids.refl A cs)
    · rw [List.erase_cons_tail (by simpa using hx)]; exact Kids.keep x (Kids.erase ha cs)

def FcRel (A : Aff) (fc fc0 : Option WinTree.Id) : Prop :=
  fc = fc0 ∨ ((∀ x, fc = some x → A x = true) ∧ (∀ x, fc0 = some x → A x = true))

theorem FcRel.refl (A : Aff) (fc : Option WinTree.Id) : FcRel A fc fc := Or.inl rfl

theorem FcRel.iff {A : Aff} {a b : Option WinTree.Id} (h : FcRel A a b) {x : WinTree.Id} (hx : A x = false) :
    a = some x ↔ b = some x := by
  rcases h with e | ⟨p, q⟩
  · rw [e]
  · exact ⟨fun hh => aff_absurd (p x hh) hx, fun hh => aff_absurd (q x hh) hx⟩

theorem FcRel.trans {A : Aff} {a b c : Option WinTree.Id} (h1 : FcRel A a b) (h2 : FcRel A b c) : FcRel A a c := by
  rcases h1 with rfl | ⟨p1, q1⟩
  · exact h2
  · rcases h2 with rfl | ⟨_, q2⟩
    · exact Or.inr ⟨p1, q1⟩
    · exact Or.inr ⟨p1, q2⟩

structure WinRel (A : Aff) (w w0 : Win) : Prop where
  freed : w.freed = w0.freed
  visible : w.isVisible = w0.isVisible
  steal : w.stealInput = w0.stealInput
  parent : w.parent = w0.parent
  rect : w.rect = w0.rect
  kids : Kids A w.children w0.children
  fc : FcRel A w.focusedChild w0.focusedChild

theorem WinRel.refl (A : Aff) (w : Win) : WinRel A w w := ⟨rfl, rfl, rfl, rfl, rfl, Kids.refl A _, FcRel.refl A _⟩

theorem WinRel.trans {A : Aff} {a b c : Win} (h1 : WinRel A a b) (h2 : WinRel A b c) : WinRel A a c :=
  ⟨h1.freed.trans h2.freed, h1.visible.trans h2.visible, h1.steal.trans h2.steal, h1.parent.trans h2.parent,
   h1.rect.trans h2.rect, h1.kids.trans h2.kids, h1.fc.trans h2.fc⟩

def Down (A : Aff) (t : Tree) : Prop :=
  ∀ (x : WinTree.Id) (w : Win), A x = true → t.wins[x]? = some w → ∀ c ∈ w.children, A c = true

structure Sim (A : Aff) (t0 t : Tree) : Prop where
  size : t.wins.size = t0.wins.size
  win : ∀ (x : WinTree.Id) (w0 : Win), A x = false → t0.wins[x]? = some w0 → ∃ w, t.wins[x]? = some w ∧ WinRel A w w0
  down : Down A t

theorem Sim.refl {A : Aff} {t : Tree} (hd : Down A t) : Sim A t t :=
  ⟨rfl, fun _ w0 _ h => ⟨w0, h, WinRel.refl A w0⟩, hd⟩

theorem Sim.trans {A : Aff} {a b c : Tree} (h1 : Sim A a b) (h2 : Sim A b c) : Sim A a c := by
  refine ⟨h2.size.trans h1.size, ?_, h2.down⟩
  intro x w0 hx hw0
  obtain ⟨w1, hw1, r1⟩ := h1.win x w0 hx hw0
  obtain ⟨w2, hw2, r2⟩ := h2.win x w1 hx hw1
  exact ⟨w2, hw2, r2.trans r1⟩

theorem Sim.rel {A : Aff} {t0 t : Tree} (h : Sim A t0 t) {x : WinTree.Id} {w w0 : Win} (hx : A x = false)
    (hw0 : t0.wins[x]? = some w0) (hw : t.wins[x]? = some w) : WinRel A w w0 := by
  obtain ⟨w', hw', r⟩ := h.win x w0 hx hw0
  rw [hw] at hw'; cases hw'; exact r

theorem Sim.of_wins {A : Aff} {t t' : Tree} (hd : Down A t) (h : t'.wins = t.wins) : Sim A t t' :=
  ⟨by rw [h], fun _ w0 _ hw => ⟨w0, by rw [h]; exact hw, WinRel.refl A w0⟩, fun x w hx hw => hd x w hx (by rw [← h]; exact hw)⟩

theorem Sim.set {A : Aff} {t : Tree} (hd : Down A t) {i : WinTree.Id} {w w' : Win} (hw : t.wins[i]? = some w)
    (hrel : A i = false → WinRel A w' w) (hdown : A i = true → ∀ c ∈ w'.children, A c = true) :
    Sim A t (WinTree.set t i w') := by
  refine ⟨WinTree.set_size .., ?_, ?_⟩
  · intro x w0 hx hw0
    by_cases hix : i = x
    · subst hix
      rw [hw] at hw0; cases hw0
      exact ⟨w', WinTree.set_wins_self hw _, hrel hx⟩
    · exact ⟨w0, by rw [WinTree.set_wins_ne _ hix]; exact hw0, WinRel.refl A w0⟩
  · intro x y hx hy
    rw [set_wins_of hw] at hy
    by_cases hix : i = x
    · rw [if_pos hix] at hy; cases hy; exact hdown (hix ▸ hx)
    · rw [if_neg hix] at hy; exact hd x y hx hy

theorem Sim.set_refcount {A : Aff} {t : Tree} (hd : Down A t) {i : WinTree.Id} {w : Win} (hw : t.wins[i]? = some w) (k : Int) :
    Sim A t (WinTree.set t i { w with refcount := k }) :=
  Sim.set hd hw (fun _ => ⟨rfl, rfl, rfl, rfl, rfl, Kids.refl A _, FcRel.refl A _⟩) (fun hA => hd i w hA hw)

/-- Every live window outside `A` is still owned by the application (nobody dropped its creation reference). -/
def Own (A : Aff) (st : St) : Prop :=
  ∀ (x : WinTree.Id) (w : Win), A x = false → st.tree.wins[x]? = some w → w.freed = false → 1 ≤ st.owned.getD x 0

theorem Own.of_sim {A : Aff} {st st' : St} (hs : Sim A st.tree st'.tree)
    (ho : ∀ x, A x = false → st.owned.getD x 0 ≤ st'.owned.getD x 0) (hown : Own A st) : Own A st' := by
  intro x w' hx hw' hf'
  obtain ⟨w0, hw0⟩ := getElem?_of_size_eq hs.size hw'
  exact Nat.le_trans (hown x w0 hx hw0 (by rw [← (hs.rel hx hw0 hw').freed]; exact hf')) (ho x hx)

theorem own_all (st : St) : Own (fun _ => true) st := fun _ _ h => nomatch h

/-- An action of a handler that touches windows of `A` only: restack requests and extra references touch nothing
    the routing looks at before the next flush; close, unref, hide, show, steal-input and set_geometry act on a window of `A`.
    (`take_focus` moves focus pointers along the whole parent chain: covered separately, `ActConfF` in
    Proof/WinInputDInv.lean, when `A` is a union of top-level subtrees.) -/
def ActConf (A : Aff) (a : Action) : Prop :=
  match a.act with
  | .raise | .raiseFront | .lower | .lowerBack | .keep => True
  | .close | .unref | .hide | .unhide | .stealOn | .stealOff | .geom .. => A a.win = true
  | .focus => False

end WinInput
end Tickit
