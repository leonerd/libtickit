import Tickit.Proof.LifeWalk
/-
  C08: sibling-list surgery, restacking requests (`request_ok`, `ReqOk`) and their execution by `tickit_window_flush`
  (`flushT_ok`) keep `TInv` and never fail.
-/
namespace Tickit.Life
open WinTree (Id Win Req Change Tree)

theorem TInv.update {t : Tree} (inv : TInv t) {p : Nat} {pw pw' : Win} (hl : t.wins[p]? = some pw) (hr : WRel pw pw') :
    TInv (WinTree.set t p pw') ∧ TRel t (WinTree.set t p pw') :=
  have hrel : TRel t (WinTree.set t p pw') := WinTree.Lift.set (fun _ => WRel.refl) hl hr
  ⟨inv.of_rel hrel (fun _ h => h) (fun _ h => h), hrel⟩

theorem wrel_children {pw : Win} {cs : List Nat} (h : cs.Perm pw.children) : WRel pw { pw with children := cs } :=
  ⟨rfl, h, rfl, rfl, .inl rfl, .inl rfl⟩

def ReqOk (t : Tree) (r : Req) : Prop := ∃ w, LiveW t r.win w ∧ w.parent = some r.parent

theorem ReqOk.rel {t t' : Tree} {r : Req} (h : TRel t t') (hr : ReqOk t r) : ReqOk t' r := by
  obtain ⟨w, hl, hp⟩ := hr
  obtain ⟨w', hl', hrel⟩ := h.live hl
  exact ⟨w', hl', by rw [hrel.parent]; exact hp⟩

theorem isRestack_eq (c : Change) : isRestack c = c.isRestack := by cases c <;> rfl

/-- `tickit_window_expose` only reads in this model, so a restacking is one write of the list `WinTree.relist` computes. -/
theorem doHC_restack {t : Tree} {c : Change} (hc : isRestack c = true) {p w : Nat} {pw ww : Win}
    (hp : LiveW t p pw) (hw : LiveW t w ww) :
    doHC t c p w = (ofRes (WinTree.relist c pw.children w) >>= fun cs =>
      let t1 := WinTree.set t p { pw with children := cs }
      if ww.isVisible = true then (do exposeWalk t1 (chainFuel t1) p (some ww.rect); pure t1) else pure t1) := by
  unfold doHC
  simp only [get_live hp, get_live hw, bind_ok]
  cases c <;> simp only [isRestack, Bool.false_eq_true] at hc
  · simp only [WinTree.relist]; cases WinTree.listRaise pw.children w <;> rfl
  · simp only [WinTree.relist]; cases WinTree.listRemove pw.children w <;> rfl
  · rfl
  · simp only [WinTree.relist]; cases WinTree.listRemove pw.children w <;> rfl

theorem doHC_restack_ok {t : Tree} (inv : TInv t) {c : Change} {parent win : Nat} {ww : Win}
    (hc : isRestack c = true)
    (hw : LiveW t win ww) (hp : ww.parent = some parent) :
    ∃ t', doHC t c parent win = .ok t' ∧ TRel t t' ∧ t'.root = t.root ∧ SameRC t t' := by
  obtain ⟨_, pw, hpl, hmem⟩ := inv.parent_ok win ww hw parent hp
  obtain ⟨cs, hcs, hperm⟩ := WinTree.relist_of_mem (isRestack_eq c ▸ hc) hmem
  obtain ⟨inv', hrel⟩ := inv.update hpl.1 (wrel_children (pw := pw) hperm)
  obtain ⟨pw', hpl', _⟩ := hrel.live hpl
  refine ⟨WinTree.set t parent { pw with children := cs }, ?_, hrel, rfl, SameRC.set hpl.1 rfl⟩
  rw [doHC_restack hc hpl hw, hcs]
  simp only [ofRes, bind_ok]
  split
  · rw [expose_ok inv' hpl']; rfl
  · rfl

theorem runRequests_ok : ∀ (reqs : List Req) {t : Tree}, TInv t → t.root.changes = [] →
    (∀ r ∈ reqs, ReqOk t r ∧ isRestack r.change = true) →
    ∃ t', runRequests t reqs = .ok t' ∧ TInv t' ∧ TRel t t' ∧ t'.root = t.root ∧ SameRC t t'
  | [], t, inv, _, _ => ⟨t, rfl, inv, TRel.refl t, rfl, SameRC.refl t⟩
  | r :: rest, t, inv, hch, hreq => by
    obtain ⟨⟨ww, hw, hp⟩, hkind⟩ := hreq r (by simp)
    obtain ⟨t1, h1, hrel1, hroot1, hrc1⟩ := doHC_restack_ok inv hkind hw hp
    have inv1 : TInv t1 := inv.of_rel hrel1 (by rw [hroot1]; intro r hr; exact hr) (by rw [hroot1]; intro s hs; exact hs)
    obtain ⟨t2, h2, inv2, hrel2, hroot2, hrc2⟩ := runRequests_ok rest inv1 (by rw [hroot1]; exact hch)
      (fun r' hr' => ⟨(hreq r' (by simp [hr'])).1.rel hrel1, (hreq r' (by simp [hr'])).2⟩)
    refine ⟨t2, ?_, inv2, hrel1.trans hrel2, hroot2.trans hroot1, SameRC.trans hrel1 hrc1 hrc2⟩
    unfold runRequests
    simp only [h1, bind_ok]
    exact h2

theorem flushT_ok {t : Tree} (inv : TInv t) {r : Win} (hroot : LiveW t 0 r) :
    ∃ t', flushT t = .ok t' ∧ Calm t t' ∧ t'.root.changes = [] ∧ t'.root.dragSource = t.root.dragSource := by
  have inv0 : TInv { t with root := { t.root with changes := [] } } :=
    inv.of_rel (t' := { t with root := { t.root with changes := [] } }) (TRel.refl t) (by intro r hr; simp at hr) (fun s hs => hs)
  obtain ⟨t', h, inv', hrel, hr, hrc⟩ := runRequests_ok t.root.changes inv0 rfl (by
    intro q hq
    obtain ⟨hk, w, hl, hp, _⟩ := inv.req_ok q hq
    exact ⟨⟨w, hl, hp⟩, hk⟩)
  refine ⟨t', ?_, TRel.calm (t := t) hrel inv' hrc, by rw [hr], by rw [hr]⟩
  unfold flushT
  simp only [get_live hroot, bind_ok]
  exact h

theorem request_ok {t : Tree} (inv : TInv t) {c : Change} (hc : isRestack c = true) {win : Nat} {ww : Win}
    (hw : LiveW t win ww) (hr : Reach t win 0) :
    ∃ t', request t c win = .ok t' ∧ Calm t t' := by
  unfold request
  simp only [get_live hw, bind_ok]
  cases hp : ww.parent with
  | none => exact ⟨t, rfl, .of_wins inv rfl⟩
  | some p =>
    simp only [getRootA_ok inv win ww hw _ (chainFuel_gt hw) hr, bind_ok, pure_ok]
    refine ⟨_, rfl, .of_wins ?_ rfl⟩
    refine inv.of_rel_gen (t' := { t with root := { t.root with changes := t.root.changes ++ [⟨c, p, win⟩] } })
      (TRel.refl t) ?_ (fun s hs => inv.drag_ok s hs)
    intro r hr'
    simp only [List.mem_append, List.mem_singleton] at hr'
    rcases hr' with h | rfl
    · exact inv.req_ok r h
    · exact ⟨hc, ww, hw, hp, hr⟩

end Tickit.Life
