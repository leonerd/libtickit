import Tickit.Model.RBFlushX
import Tickit.Proof.TermBuf
import Tickit.Proof.XTermText
import Tickit.Proof.RBFlushText
/-
  The xterm-driver configuration of C04 (Model/RBFlushX.lean): the output buffer of src/term.c is transparent for the
  `write_str` calls of a flush, whatever its size (C11's `writeWhole_okExt`); `tickit_utf8_put` writes the UTF-8 form of
  the Unicode Standard (both write C07's `putBytes`), which the library's decoder and the VT screen read back as the
  same code point; the VT screen steps like the reference terminal (`XScreen.rd : VT.Reader …`), so it reads the
  driver's control sequences and texts as C09's generic lemmas say.  At the end the hypotheses of the open
  `C04_xterm_screen` (Props/C04.lean): `PenEncodable`, `PenTotal`, `TextsStrict`, `CharsPrintable`.
-/
namespace Tickit.RBFlushX
open Tickit.RB Tickit.RBFlush Tickit.TermBuf

theorem call_ne (bs : Bytes) : ∀ x ∈ call bs, x ≠ [] := by
  unfold call
  split
  · simp
  · rename_i h
    simpa using h

theorem call_of_ne {bs : Bytes} (h : bs ≠ []) : call bs = [bs] := by
  cases bs with
  | nil => exact absurd rfl h
  | cons b r => rfl

theorem call_flatten (bs : Bytes) : (call bs).flatten = bs := by
  unfold call
  split
  · rename_i h; simp at h; simp [h]
  · simp

theorem moveRelCalls_ne (d r : Int) : ∀ x ∈ moveRelCalls d r, x ≠ [] :=
  List.forall_mem_append.2 ⟨call_ne _, call_ne _⟩

theorem spacesCalls_ne : ∀ (fuel : Nat) (rem : Int), 1 ≤ rem → ∀ x ∈ spacesCalls fuel rem, x ≠ []
  | 0, _, _ => by simp [spacesCalls]
  | fuel + 1, rem, h1 => by
    unfold spacesCalls
    split
    · exact List.forall_mem_cons.2 ⟨by simp, spacesCalls_ne fuel (rem - 64) (by omega)⟩
    · simp only [List.mem_singleton, forall_eq, ne_eq, List.replicate_eq_nil_iff]
      omega

theorem eraseCalls_ne (rv : Bool) (n : Int) (m : MaybeBool) : ∀ x ∈ eraseCalls rv n m, x ≠ [] := by
  have hmove : ∀ (b : Prop) [Decidable b] (k : Int), ∀ x ∈ (if b then moveRelCalls 0 k else []), x ≠ [] := by
    intro b _ k
    split
    · exact moveRelCalls_ne 0 k
    · simp
  unfold eraseCalls
  split
  · simp
  · split
    · exact List.forall_mem_append.2 ⟨by split <;> simp [XTermDrv.csi], hmove _ _⟩
    · exact List.forall_mem_append.2 ⟨spacesCalls_ne _ n (by omega), hmove _ _⟩

theorem reqCalls_ne (caps : TermPen.Caps) (cache : Pen) : ∀ (r : Req), ∀ x ∈ reqCalls caps cache r, x ≠ []
  | .goto _ _ => call_ne _
  | .setpen p => by
    show ∀ x ∈ chpenCalls caps cache p, x ≠ []
    unfold chpenCalls
    split
    · exact call_ne _
    · simp
  | .print s start len => by
    show ∀ x ∈ (if len = 0 then [] else call ((s.drop start).take len)), x ≠ []
    split
    · simp
    · exact call_ne _
  | .erasech n m => eraseCalls_ne _ n m

theorem reqsCalls_ne (caps : TermPen.Caps) : ∀ (reqs : List Req) (cache : Pen), ∀ x ∈ reqsCalls caps cache reqs, x ≠ []
  | [], _ => by simp [reqsCalls]
  | r :: rs, cache => List.forall_mem_append.2 ⟨reqCalls_ne caps cache r, reqsCalls_ne caps rs _⟩

theorem writeCalls_ext : ∀ (calls : List Bytes) (st : State), TermBuf.WF st → (∀ x ∈ calls, x ≠ []) →
    OkExt st (writeCalls st calls) calls.flatten st.mode
  | [], _, hwf, _ => .refl hwf
  | bs :: rest, st, hwf, hne => by
    -- `bs` is not empty, so nothing is looked up with `strlen`: the write is of `bs` itself
    have h1 := writeWhole_okExt (st := st) hwf (List.prefix_refl bs) fun h0 => absurd h0 (hne bs List.mem_cons_self)
    exact h1.bind fun s1 e1 => e1.mode ▸ writeCalls_ext rest s1 e1.wf fun x hx => hne x (List.mem_cons_of_mem _ hx)

theorem wf_outState (n : Nat) : TermBuf.WF (outState n) := .of_buf_nil rfl

theorem chunkBytes_flatten (cs : List Chunk) : (chunkBytes cs).flatten = stream cs := by
  induction cs with
  | nil => rfl
  | cons c rest ih =>
    cases c <;> simpa [chunkBytes, stream, Chunk.bytes] using ih

/-- `stream`: what the terminal has received once `tickit_term_flush` has followed the flush; `n` is the size of the
    output buffer. -/
theorem xflush_stream (caps : TermPen.Caps) (n : Nat) (cache : Pen) (reqs : List Req) :
    (xflush caps n cache reqs).ok = true ∧
    (xflush caps n cache reqs).stream = (reqsCalls caps cache reqs).flatten := by
  obtain ⟨st', h, e⟩ :=
    writeCalls_ext (reqsCalls caps cache reqs) (outState n) (wf_outState n) (reqsCalls_ne caps reqs cache)
  unfold xflush
  rw [h]
  refine ⟨rfl, ?_⟩
  have hat : Attached (outState n) := Or.inl rfl
  have := e.eqn hat
  simp only [XFlushRes.stream, chunkBytes_flatten]
  simpa [outState] using this

theorem stdUtf8_length_ne (cp : Nat) : (stdUtf8 cp).length ≠ 0 := by
  unfold stdUtf8
  split
  · simp
  · split
    · simp
    · split <;> simp

theorem byteAt_cons0 (b : UInt8) (r : List UInt8) : Tickit.RB.Utf8.byteAt (b :: r) 0 = b.toNat := rfl

theorem stdUtf8_eq_putBytes (cp : Nat) (h : cp < 0x200000) :
    stdUtf8 cp = (Tickit.Utf8.putBytes cp).map UInt8.ofNat := by
  unfold stdUtf8
  rcases Nat.lt_or_ge cp 0x80 with hA | hA
  · rw [if_pos hA, Tickit.Utf8.putBytes_1 cp hA]; rfl
  rw [if_neg (Nat.not_lt.2 hA)]
  rcases Nat.lt_or_ge cp 0x800 with hB | hB
  · rw [if_pos hB, Tickit.Utf8.putBytes_2 cp hA hB]; rfl
  rw [if_neg (Nat.not_lt.2 hB)]
  rcases Nat.lt_or_ge cp 0x10000 with hC | hC
  · rw [if_pos hC, Tickit.Utf8.putBytes_3 cp hB hC]; rfl
  · rw [if_neg (Nat.not_lt.2 hC), Tickit.Utf8.putBytes_4 cp hC h,
      Nat.mod_eq_of_lt (show cp / 262144 < 8 from Nat.div_lt_of_lt_mul h)]
    rfl

/-- `tickit_utf8_put` writes the UTF-8 form of the Unicode Standard (and the four-byte pattern beyond U+10FFFF). -/
theorem put_eq_stdUtf8 (cp : Nat) (h : cp < 0x200000) : Tickit.RB.Utf8.put cp = stdUtf8 cp :=
  (RB.Utf8.put_eq_putBytes cp h).trans (stdUtf8_eq_putBytes cp h).symm

theorem nextUtf8_stdUtf8 (cp : Nat) (h0 : 0 < cp) (h : cp < 0x200000) :
    Tickit.RB.Utf8.nextUtf8 (stdUtf8 cp) 0 (some (stdUtf8 cp).length) = some ⟨(stdUtf8 cp).length, cp⟩ :=
  put_eq_stdUtf8 cp h ▸ RB.Utf8.nextUtf8_put cp h0 h

/-- A code point a CHAR cell or a text may hold and a terminal shows: not a C0/C1 control or DEL, a Unicode scalar
    position up to U+10FFFF.  Word for word C09's `XTermDrv.Spec.Printable` (Model/XTermDrv.lean). -/
def Printable (cp : Nat) : Prop := 0x20 ≤ cp ∧ ¬ (0x7f ≤ cp ∧ cp < 0xa0) ∧ cp < 0x110000
instance (cp : Nat) : Decidable (Printable cp) := by unfold Printable; exact inferInstance

namespace XScreen

theorem set_ps_ground (s : XScreen) (p : VT.PState) (hg : s.ps = .ground) :
    ({ ({ s with ps := p } : XScreen) with ps := .ground } : XScreen) = s := by
  cases s; simp_all

theorem set_ps_self (s : XScreen) (p : VT.PState) (h : s.ps = p) : { s with ps := p } = s := by
  cases s; simp_all

@[simp] theorem interp_nil (s : XScreen) : s.interp [] = s := rfl
@[simp] theorem interp_cons (s : XScreen) (b : UInt8) (bs : Bytes) : s.interp (b :: bs) = (s.step b).interp bs := rfl

/-- The VT screen of this configuration steps like the reference terminal (`XScreen.step` is `VT.step` over another
    screen), so C09's reading of control sequences and of UTF-8 holds of it. -/
theorem rd : VT.Reader (fun bs (s : XScreen) => s.interp bs) step ps (fun s p => { s with ps := p }) dispatch putCp where
  run_nil _ := rfl
  run_cons _ _ _ := rfl
  setPs_self := set_ps_self
  esc s hg := by simp [step, hg, groundByte]
  bracket s := by simp [step]
  reads s a hi acc b h1 h2 := by
    by_cases hd : b.toNat ≤ 57
    · simp [step, csiByte, VT.classify_digit ((VT.isDigit_iff b).2 ⟨h1, hd⟩), hi, Csi.Acc.byte_digit _ h1 hd]
    · rcases (by omega : b.toNat = 58 ∨ b.toNat = 59) with h | h
      · obtain rfl : b = 0x3a := UInt8.toNat_inj.1 h
        simp [step, csiByte, show VT.classify 0x3a = .colon by decide, hi, Csi.Acc.byte]
      · obtain rfl : b = 0x3b := UInt8.toNat_inj.1 h
        simp [step, csiByte, show VT.classify 0x3b = .semi by decide, hi, Csi.Acc.byte]
  inter s a b hb := by simp [step, csiByte, hb]
  final s a b hb := by simp only [step, csiByte, hb]
  ground s x hg h1 h3 h2 := by
    simp only [step, hg, groundByte, UInt8.toNat_ofNat_of_lt' h2]
    rw [if_neg (by omega), if_neg (by omega), if_neg (by omega), if_neg (by omega), if_neg (by omega)]
  cont s need acc x hx := by
    simp only [step, UInt8.toNat_ofNat_of_lt' (show x < 256 by omega)]
    rw [if_pos hx]

/-- The clause "every character cell appears … as that character" on the terminal's side. -/
theorem interp_stdUtf8 (s : XScreen) (hg : s.ps = .ground) (cp : Nat) (hp : Printable cp) :
    s.interp (stdUtf8 cp) = s.putCp cp := by
  rw [stdUtf8_eq_putBytes cp (Nat.lt_trans hp.2.2 (by decide))]
  -- `Printable` has the body of C09's `XTermDrv.Spec.Printable` (Model/XTermDrv.lean), so `hp` is one of those
  exact rd.run_putBytes s hg cp hp

theorem moveTo_ps (s : XScreen) (r c : Int) : (s.moveTo r c).ps = s.ps := rfl
theorem ech_ps (s : XScreen) (n : Int) : (s.ech n).ps = s.ps := rfl

theorem interp_ech (s : XScreen) (hg : s.ps = .ground) (n : Int) (hn : 1 ≤ n) :
    s.interp (if n = 1 then XTermDrv.csi [0x58] else XTermDrv.csi (XTermDrv.showInt n ++ [0x58])) = s.ech n :=
  rd.run_ech s hg n hn s.ech fun _ => rfl

/-- CUF as `move_rel(0, n)` writes it. -/
theorem interp_cuf (s : XScreen) (hg : s.ps = .ground) (n : Int) (hn : 1 ≤ n) :
    s.interp (XTermDrv.signedSeq n [] 0x43 0x44) = s.moveTo s.row (s.col + n) := by
  rw [show s.interp (XTermDrv.signedSeq n [] 0x43 0x44) = _ from
    rd.run_signedSeq_add s hg n 0x43 0x44 (fun c => s.moveTo s.row c) s.col (fun _ => rfl) fun _ => rfl,
    if_neg (by omega)]

/-- What no printed character touches. -/
structure Conf where
  lines : Int
  cols : Int
  ps : VT.PState
  attrs : Sgr.Attrs
  unknown : Nat

def conf (s : XScreen) : Conf := ⟨s.lines, s.cols, s.ps, s.attrs, s.unknown⟩

theorem conf_lines {s s' : XScreen} (h : s'.conf = s.conf) : s'.lines = s.lines := congrArg Conf.lines h
theorem conf_ps {s s' : XScreen} (h : s'.conf = s.conf) : s'.ps = s.ps := congrArg Conf.ps h

theorem addZeroWidth_conf (s : XScreen) (bs : Bytes) : (s.addZeroWidth bs).conf = s.conf := by
  unfold addZeroWidth; split <;> rfl

theorem wrap_conf (s : XScreen) : s.wrap.conf = s.conf := by
  unfold wrap lineFeed; split <;> rfl

theorem putWide_conf (s : XScreen) (bs : Bytes) (w : Int) : (s.putWide bs w).conf = s.conf := by
  have h1 : conf (if s.pending ∨ s.col + w > s.cols then s.wrap else s) = s.conf := by
    split
    · exact wrap_conf s
    · rfl
  unfold putWide
  dsimp only
  generalize (if s.pending = true ∨ s.col + w > s.cols then s.wrap else s) = s1 at h1 ⊢
  split <;> exact h1

theorem putCp_conf (s : XScreen) (cp : Nat) : (s.putCp cp).conf = s.conf := by
  unfold putCp
  dsimp only
  repeat' split
  all_goals first | rfl | exact addZeroWidth_conf s _ | exact putWide_conf s _ _

theorem foldl_putCp_conf (cps : List Nat) : ∀ s : XScreen, (cps.foldl putCp s).conf = s.conf := by
  induction cps with
  | nil => exact fun _ => rfl
  | cons cp cps ih => intro s; rw [List.foldl_cons, ih, putCp_conf]

theorem ech_cells (s : XScreen) (n : Int) (l c : Int) :
    (s.ech n).cells l c =
      if l = s.row ∧ s.col ≤ c ∧ c < s.col + n ∧ c < s.cols then
        { glyph := .blank, attrs := XScreen.blankAttrs s.attrs, writes := (s.cells l c).writes + 1 }
      else s.cells l c := rfl

theorem putWide_fit (s : XScreen) (bs : Bytes) (w : Int) (hp : s.pending = false) (hc : s.col + w ≤ s.cols) :
    s.putWide bs w =
      { s with
        cells := fun l c =>
          if l = s.row ∧ s.col ≤ c ∧ c < s.col + w ∧ c < s.cols then
            { glyph := if c = s.col then .chars bs else .wcont, attrs := s.attrs, writes := (s.cells l c).writes + 1 }
          else s.cells l c
        col := if s.col + w ≥ s.cols then s.cols - 1 else s.col + w
        pending := decide (s.col + w ≥ s.cols)
        last := some (s.row, s.col) } := by
  have hn : ¬ (s.pending = true ∨ s.col + w > s.cols) := by
    rw [hp]
    exact fun hx => hx.elim Bool.noConfusion (by omega)
  simp only [putWide, hn, if_false]
  split
  · rename_i h; simp only [h, decide_true]
  · rename_i h; simp only [h, decide_false, ← hp]

theorem addZeroWidth_some (s : XScreen) (bs g : List UInt8) (p : Int × Int) (hl : s.last = some p)
    (hg : (s.cells p.1 p.2).glyph = .chars g) :
    s.addZeroWidth bs =
      { s with cells := fun l c =>
          if l = p.1 ∧ c = p.2 then { s.cells l c with glyph := .chars (g ++ bs) } else s.cells l c } := by
  simp only [addZeroWidth, hl]
  congr 1
  funext l c
  by_cases hpc : l = p.1 ∧ c = p.2
  · obtain ⟨rfl, rfl⟩ := hpc
    simp only [and_self, if_true, hg]
  · rw [if_neg hpc, if_neg hpc]

theorem utf8_eq (cps : List Nat) (hp : ∀ cp ∈ cps, Printable cp) : cps.flatMap stdUtf8 = XTermDrv.Spec.utf8 cps := by
  induction cps with
  | nil => rfl
  | cons cp rest ih =>
    obtain ⟨h1, h2⟩ := List.forall_mem_cons.1 hp
    rw [List.flatMap_cons, ih h2, stdUtf8_eq_putBytes cp (Nat.lt_trans h1.2.2 (by decide))]
    rfl

theorem interp_text (cps : List Nat) (hp : ∀ cp ∈ cps, Printable cp) (s : XScreen) (hg : s.ps = .ground) :
    s.interp (cps.flatMap stdUtf8) = cps.foldl putCp s :=
  utf8_eq cps hp ▸ rd.run_text (fun s cp => conf_ps (putCp_conf s cp)) cps hp s hg

end XScreen

theorem interp_goto (caps : TermPen.Caps) (cache : Pen) (s : XScreen) (hg : s.ps = .ground) (line col : Int)
    (hl : 0 ≤ line) (hc : 0 ≤ col) :
    s.interp (reqCalls caps cache (.goto line col)).flatten = s.moveTo line col := by
  simp only [reqCalls, call_flatten]
  exact XScreen.rd.run_gotoAbs_pos s hg line col hl hc s.moveTo fun _ => rfl

/-- `erasech(n, moveend)` outside reverse video: ECH, then CUF exactly for `TICKIT_YES`. -/
theorem interp_erasech (caps : TermPen.Caps) (cache : Pen) (hrv : Pen.getBool cache.reverse = false) (s : XScreen)
    (hg : s.ps = .ground) (n : Int) (hn : 1 ≤ n) (m : MaybeBool) :
    s.interp (reqCalls caps cache (.erasech n m)).flatten =
      if m = .yes then (s.ech n).moveTo s.row (s.col + n) else s.ech n := by
  simp only [reqCalls, hrv]
  unfold eraseCalls
  rw [if_neg (by omega)]
  simp only [Bool.not_false, if_true, List.flatten_append, List.flatten_cons, List.flatten_nil, List.append_nil,
    XScreen.rd.run_append]
  rw [XScreen.interp_ech s hg n hn]
  by_cases hm : m = .yes
  · simp only [hm, if_true, moveRelCalls, List.flatten_append, call_flatten]
    have h0 : XTermDrv.signedSeq 0 [] 0x42 0x41 = [] := by simp [XTermDrv.signedSeq]
    rw [h0, List.nil_append, XScreen.interp_cuf _ (by rw [XScreen.ech_ps]; exact hg) n hn]
    rfl
  · simp only [hm, if_false, List.flatten_nil, XScreen.interp_nil]

/-- A print request for a whole string is one `write_str` call with it (none when it is empty: `tickit_term_printn`
    returns at once for a length of 0, and `call` writes nothing for an empty string). -/
theorem reqCalls_print_whole (caps : TermPen.Caps) (cache : Pen) (bs : Bytes) :
    reqCalls caps cache (.print bs 0 bs.length) = call bs := by
  by_cases h : bs.length = 0
  · rw [List.length_eq_zero_iff.1 h]; rfl
  · simp only [reqCalls, if_neg h, List.drop_zero, List.take_length]

theorem interp_print (caps : TermPen.Caps) (cache : Pen) (bs : Bytes) (start len : Nat) (hlen : len ≠ 0)
    (cps : List Nat) (hp : ∀ cp ∈ cps, Printable cp) (hsl : (bs.drop start).take len = cps.flatMap stdUtf8)
    (s : XScreen) (hg : s.ps = .ground) :
    s.interp (reqCalls caps cache (.print bs start len)).flatten = cps.foldl XScreen.putCp s := by
  simp only [reqCalls, if_neg hlen, call_flatten, hsl]
  exact XScreen.interp_text cps hp s hg

/-- A pen the xterm driver can say in SGR on a terminal with capabilities `caps`: palette colours, no
    `TICKIT_PEN_SIZEPOS_SMALL`, underline styles beyond double only with `:` sub-parameters (the negations are C10's
    known findings `sizepos_small` and `under_curly_no_colon`). -/
def PenEncodable (caps : TermPen.Caps) (p : Pen) : Prop :=
  -1 ≤ Pen.getColour p.fg ∧ Pen.getColour p.fg < 256 ∧ -1 ≤ Pen.getColour p.bg ∧ Pen.getColour p.bg < 256 ∧
  0 ≤ Pen.getInt p.under ∧ (caps.colon = false → Pen.getInt p.under ≤ 2) ∧
  0 ≤ Pen.getInt p.sizepos ∧ Pen.getInt p.sizepos ≤ 3 ∧ Pen.getInt p.sizepos ≠ Tickit.Gen.Sgr.sizeposSmall

theorem PenEncodable.fg_lt {caps : TermPen.Caps} {p : Pen} (h : PenEncodable caps p) : Pen.getColour p.fg < 256 := h.2.1

theorem PenEncodable.bg_lt {caps : TermPen.Caps} {p : Pen} (h : PenEncodable caps p) : Pen.getColour p.bg < 256 :=
  h.2.2.2.1

/-- What `tt->pen` is after any `tickit_term_setpen`. -/
def PenTotal (p : Pen) : Prop :=
  p.fg.isSome ∧ p.bg.isSome ∧ p.bold.isSome ∧ p.under.isSome ∧ p.italic.isSome ∧ p.reverse.isSome ∧ p.strike.isSome ∧
  p.altfont.isSome ∧ p.blink.isSome ∧ p.sizepos.isSome

/-- `next_utf8` also accepts sequences a terminal does not (C07's known finding `lax_continuation`), hence the
    hypothesis. -/
def TextsStrict (rb : RB) : Prop :=
  ∀ l c, (rb.cell l c).state = .text →
    ∃ cps : List Nat, (∀ cp ∈ cps, Printable cp) ∧ (rb.cell l c).text = cps.flatMap stdUtf8

/-- Every CHAR cell holds a code point a terminal shows. -/
def CharsPrintable (rb : RB) : Prop := ∀ l c, (rb.cell l c).state = .char → Printable (rb.cell l c).cp.toNat

end Tickit.RBFlushX
