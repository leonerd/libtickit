import Tickit.Model.RB
import Tickit.Model.RBAbs
import Tickit.Proof.Rect
/-
  One line of render-buffer cells: the run structure (`RowWF`; on a stretch of columns, `Seg`), which `make_span` keeps,
  and what a column shows (`rowContent`: its run's start cell, `runStart`, at the column's offset), which `make_span`
  changes on the span only.  Before that: the drawing primitives leave everything but the cells alone (`Aux`).
-/
namespace Tickit.RB

/-- Everything of a render buffer except the cells and the two fault flags. -/
structure Aux where
  lines : Int
  cols : Int
  vcSet : Bool
  vcLine : Int
  vcCol : Int
  xlLine : Int
  xlCol : Int
  clip : Rect
  pen : Pen
  depth : Int
  stack : List Frame

def RB.aux (rb : RB) : Aux :=
  ⟨rb.lines, rb.cols, rb.vcSet, rb.vcLine, rb.vcCol, rb.xlLine, rb.xlCol, rb.clip, rb.pen, rb.depth, rb.stack⟩

@[simp] theorem setRow_aux (rb : RB) (l : Int) (row : Row) : (rb.setRow l row).aux = rb.aux := rfl
@[simp] theorem makeSpan_aux (rb : RB) (l c n : Int) : (makeSpan rb l c n).aux = rb.aux := rfl
@[simp] theorem updCell_aux (rb : RB) (l c : Int) (f : Cell → Cell) : (rb.updCell l c f).aux = rb.aux := rfl

theorem placeRuns_aux (fill : Cell → Int → Cell) (line : Int) (fuel : Nat) :
    ∀ (rb : RB) (col cols startcol : Int), (placeRuns fill line fuel rb col cols startcol).aux = rb.aux := by
  induction fuel with
  | zero => intro rb col cols startcol; unfold placeRuns; split <;> rfl
  | succ n ih =>
    intro rb col cols startcol
    unfold placeRuns
    simp only
    split
    · rfl
    · split
      · rfl
      · split
        · rfl
        · rw [ih]; rfl

@[simp] theorem putStringCols_aux (rb : RB) (l c : Int) (s : List UInt8) (n : Int) :
    (putStringCols rb l c s n).aux = rb.aux := by
  unfold putStringCols; split
  · rfl
  · exact placeRuns_aux _ _ _ _ _ _ _

@[simp] theorem putString_aux (rb : RB) (l c : Int) (s : List UInt8) : (putString rb l c s).aux = rb.aux := by
  unfold putString; split
  · rfl
  · exact putStringCols_aux _ _ _ _ _

@[simp] theorem skipRun_aux (rb : RB) (l c n : Int) : (skipRun rb l c n).aux = rb.aux := by
  unfold skipRun; split
  · rfl
  · exact placeRuns_aux _ _ _ _ _ _ _

@[simp] theorem eraseRun_aux (rb : RB) (l c n : Int) : (eraseRun rb l c n).aux = rb.aux := by
  unfold eraseRun; split
  · rfl
  · exact placeRuns_aux _ _ _ _ _ _ _

@[simp] theorem putChar_aux (rb : RB) (l c cp : Int) : (putChar rb l c cp).aux = rb.aux := by
  unfold putChar; split
  · rfl
  · split <;> rfl

@[simp] theorem linecell_aux (rb : RB) (l c : Int) (bits : Nat) : (linecell rb l c bits).aux = rb.aux := by
  unfold linecell; split
  · rfl
  · split
    · rfl
    · simp only [updCell_aux]
      split
      · rfl
      · split <;> rfl

theorem forLines_aux (f : RB → Int → RB) (hf : ∀ rb l, (f rb l).aux = rb.aux) (n : Nat) :
    ∀ (rb : RB) (from_ : Int), (forLines f rb from_ n).aux = rb.aux := by
  induction n with
  | zero => intro rb from_; rfl
  | succ n ih => intro rb from_; unfold forLines; rw [ih, hf]

theorem lineLoop_aux (cellAt : Int → Int × Int) (bits : Nat) (n : Nat) :
    ∀ (rb : RB) (from_ : Int), (lineLoop cellAt bits rb from_ n).aux = rb.aux := by
  induction n with
  | zero => intro rb from_; rfl
  | succ n ih => intro rb from_; unfold lineLoop; rw [ih, linecell_aux]

@[simp] theorem clear_aux (rb : RB) : (clear rb).aux = rb.aux := by
  unfold clear; exact forLines_aux _ (fun r l => eraseRun_aux r l 0 r.cols) _ _ _

@[simp] theorem eraserect_aux (rb : RB) (r : Rect) : (eraserect rb r).aux = rb.aux := by
  unfold eraserect; exact forLines_aux _ (fun r' l => eraseRun_aux r' l _ _) _ _ _

@[simp] theorem skiprect_aux (rb : RB) (r : Rect) : (skiprect rb r).aux = rb.aux := by
  unfold skiprect; exact forLines_aux _ (fun r' l => skipRun_aux r' l _ _) _ _ _

@[simp] theorem hlineAt_aux (rb : RB) (l c1 c2 : Int) (st caps : Nat) : (hlineAt rb l c1 c2 st caps).aux = rb.aux := by
  unfold hlineAt; simp only [linecell_aux, lineLoop_aux]

@[simp] theorem vlineAt_aux (rb : RB) (l1 l2 c : Int) (st caps : Nat) : (vlineAt rb l1 l2 c st caps).aux = rb.aux := by
  unfold vlineAt; simp only [linecell_aux, lineLoop_aux]

/-- The left-hand side is the shape of every cursor-relative operation. -/
theorem cursorOp_aux (rb op : RB) (x : Int) (h : op.aux = rb.aux) :
    (if !rb.vcSet then rb else { op with vcCol := x }).aux = { rb.aux with vcCol := bif rb.vcSet then x else rb.vcCol } := by
  cases rb.vcSet
  · rfl
  · rw [← h]; rfl

theorem cursorOp_vc {rb op : RB} {x : Int} (h : op.aux = rb.aux) (hs : rb.vcSet = true) :
    (if !rb.vcSet then rb else { op with vcCol := x }).vcSet = true ∧
    (if !rb.vcSet then rb else { op with vcCol := x }).vcLine = rb.vcLine ∧
    (if !rb.vcSet then rb else { op with vcCol := x }).vcCol = x := by
  rw [hs]
  exact ⟨(congrArg Aux.vcSet h).trans hs, congrArg Aux.vcLine h, rfl⟩

/-- The shape of `erase_to` / `skip_to`, which draw only when the column asked for lies to the right. -/
theorem ite_aux (c : Prop) [Decidable c] {a rb : RB} (h : a.aux = rb.aux) : (if c then a else rb).aux = rb.aux := by
  split
  · exact h
  · rfl

@[simp] theorem rowSet_get (row : Row) (i : Int) (v : Cell) (k : Int) :
    (rowSet row i v).get k = if k = i then v else row.get k := rfl

@[simp] theorem contCell_state (c : Cell) (s : Int) : (contCell c s).state = .cont := rfl
@[simp] theorem contCell_cols (c : Cell) (s : Int) : (contCell c s).cols = s := rfl
@[simp] theorem contCell_maskdepth (c : Cell) (s : Int) : (contCell c s).maskdepth = -1 := rfl

/-- The cell `make_span` leaves at `col`: CONT-ed, carrying the span length (the caller sets the state). -/
def spanHead (c : Cell) (col cols : Int) : Cell := { contCell c col with cols := cols }

@[simp] theorem spanHead_state (c : Cell) (a b : Int) : (spanHead c a b).state = .cont := rfl
@[simp] theorem spanHead_cols (c : Cell) (a b : Int) : (spanHead c a b).cols = b := rfl
@[simp] theorem spanHead_maskdepth (c : Cell) (a b : Int) : (spanHead c a b).maskdepth = -1 := rfl

/-- skip, text or erase: the states of a run that may be longer than one column. -/
def CState.isSTE : CState → Bool
  | .skip | .text | .erase => true
  | _ => false

theorem makeSpanRow_get (n : Int) (row : Row) (col cols k : Int) (hc : 0 < cols) :
    (makeSpanRow n row col cols).get k =
      if k = col then spanHead ((shortenBefore (splitAfter n row (col + cols)) col).get col) col cols
      else if col ≤ k ∧ k < col + cols then contCell ((shortenBefore (splitAfter n row (col + cols)) col).get k) col
      else (shortenBefore (splitAfter n row (col + cols)) col).get k := by
  unfold makeSpanRow spanHead
  simp only [rowSet_get]
  split
  · rename_i h; subst h
    rw [if_pos (by omega)]
  · rfl

theorem shortenBefore_get (r : Row) (col k : Int) :
    (shortenBefore r col).get k =
      if (r.get col).state = .cont ∧ k = (r.get col).cols ∧ (r.get (r.get col).cols).state.isSTE = true
      then { r.get k with cols := col - k } else r.get k := by
  unfold shortenBefore
  by_cases hc : (r.get col).state = .cont
  · simp only [hc, true_and, if_true]
    by_cases hk : k = (r.get col).cols
    · subst hk
      cases hs : (r.get (r.get col).cols).state <;> simp [CState.isSTE, rowSet_get]
    · cases hs : (r.get (r.get col).cols).state <;> simp [CState.isSTE, rowSet_get, hk]
  · simp [hc]

/-- The new start cell that the first block of `make_span` writes at `e`. -/
def endCell (row : Row) (e : Int) : Cell :=
  let spanstart := (row.get e).cols
  let spancell := row.get spanstart
  let afterlen := spanstart + spancell.cols - e
  match spancell.state with
  | .skip => { row.get e with state := .skip, cols := afterlen }
  | .text => { row.get e with state := .text, cols := afterlen, pen := spancell.pen,
                              text := spancell.text, offs := spancell.offs + e - spanstart }
  | .erase => { row.get e with state := .erase, cols := afterlen, pen := spancell.pen }
  | _ => row.get e

theorem splitAfter_get (n : Int) (row : Row) (e k : Int) :
    (splitAfter n row e).get k =
      if e < n ∧ (row.get e).state = .cont then
        (if k = e then endCell row e
         else if e + 1 ≤ k ∧ k < (row.get e).cols + (row.get (row.get e).cols).cols then { row.get k with cols := e }
         else row.get k)
      else row.get k := by
  unfold splitAfter endCell
  split <;> rfl

theorem splitAfter_get_lt (n : Int) (row : Row) (e k : Int) (h : k < e) :
    (splitAfter n row e).get k = row.get k := by
  rw [splitAfter_get]
  split
  · rw [if_neg (by omega), if_neg (by omega)]
  · rfl

theorem endCell_maskdepth (row : Row) (e : Int) : (endCell row e).maskdepth = (row.get e).maskdepth := by
  unfold endCell; simp only; split <;> rfl

theorem endCell_state (row : Row) (e : Int) (h : (row.get (row.get e).cols).state.isSTE = true) :
    (endCell row e).state = (row.get (row.get e).cols).state := by
  unfold endCell; simp only
  cases hs : (row.get (row.get e).cols).state <;> simp_all [CState.isSTE]

theorem endCell_cols (row : Row) (e : Int) (h : (row.get (row.get e).cols).state.isSTE = true) :
    (endCell row e).cols = (row.get e).cols + (row.get (row.get e).cols).cols - e := by
  unfold endCell; simp only
  cases hs : (row.get (row.get e).cols).state <;> simp_all [CState.isSTE]

theorem splitAfter_maskdepth (n : Int) (row : Row) (e k : Int) :
    ((splitAfter n row e).get k).maskdepth = (row.get k).maskdepth := by
  rw [splitAfter_get]
  split
  · split
    · rename_i h; subst h; exact endCell_maskdepth _ _
    · split <;> rfl
  · rfl

theorem shortenBefore_maskdepth (row : Row) (col k : Int) :
    ((shortenBefore row col).get k).maskdepth = (row.get k).maskdepth := by
  rw [shortenBefore_get]; split <;> rfl

theorem shortenBefore_state (r : Row) (col k : Int) : ((shortenBefore r col).get k).state = (r.get k).state := by
  rw [shortenBefore_get]; split <;> rfl

theorem splitAfter_head (n : Int) (row : Row) (e k : Int) (hh : (row.get k).state ≠ .cont) :
    ((splitAfter n row e).get k).state ≠ .cont := by
  rw [splitAfter_get]
  split
  · rename_i q
    split
    · rename_i x; exact absurd (x ▸ q.2) hh
    · split <;> exact hh
  · exact hh

theorem makeSpanRow_maskdepth (n : Int) (row : Row) (col cols k : Int) (hc : 0 < cols) :
    ((makeSpanRow n row col cols).get k).maskdepth =
      if col ≤ k ∧ k < col + cols then -1 else (row.get k).maskdepth := by
  rw [makeSpanRow_get _ _ _ _ _ hc]
  split
  · rename_i h; subst h
    simp only [spanHead_maskdepth]
    rw [if_pos (by omega)]
  · split
    · simp
    · simp only [shortenBefore_maskdepth, splitAfter_maskdepth]

/-- The run structure of one line of `n` cells.  A CONT cell's `cols` is the union member `startcol`, the column where
    its run starts; a start cell's `cols` is the length of the run. -/
structure RowWF (n : Int) (row : Row) : Prop where
  cont_lo : ∀ k, 0 ≤ k → k < n → (row.get k).state = .cont → 0 ≤ (row.get k).cols ∧ (row.get k).cols < k
  cont_start : ∀ k, 0 ≤ k → k < n → (row.get k).state = .cont → (row.get (row.get k).cols).state ≠ .cont
  cont_in : ∀ k, 0 ≤ k → k < n → (row.get k).state = .cont → k < (row.get k).cols + (row.get (row.get k).cols).cols
  start_len : ∀ k, 0 ≤ k → k < n → (row.get k).state ≠ .cont → 1 ≤ (row.get k).cols ∧ k + (row.get k).cols ≤ n
  start_run : ∀ k j, 0 ≤ k → k < n → (row.get k).state ≠ .cont → k < j → j < k + (row.get k).cols →
    (row.get j).state = .cont ∧ (row.get j).cols = k
  one : ∀ k, 0 ≤ k → k < n → ((row.get k).state = .line ∨ (row.get k).state = .char) → (row.get k).cols = 1

theorem isSTE_of (c : Cell) (h1 : c.state ≠ .cont) (h2 : (c.state = .line ∨ c.state = .char) → c.cols = 1) (h3 : 2 ≤ c.cols) :
    c.state.isSTE = true := by
  cases hs : c.state <;> simp_all [CState.isSTE] <;> omega

theorem RowWF.start_isSTE {n : Int} {row : Row} (h : RowWF n row) (k : Int) (h0 : 0 ≤ k) (hn : k < n)
    (hc : (row.get k).state = .cont) : (row.get (row.get k).cols).state.isSTE = true := by
  have a := h.cont_lo k h0 hn hc
  have b := h.cont_start k h0 hn hc
  have c := h.cont_in k h0 hn hc
  exact isSTE_of _ b (h.one _ a.1 (by omega)) (by omega)

/-
  `make_span` cuts a line into the columns before the span, the span, and the columns after it; each part has the
  run structure on its own columns.  Both cuts are a `Seg.split`, a `Seg.single` for what is left of the run cut, and
  a `Seg.glue`; only states and lengths matter (`Seg.congr`).
-/

/-- The run structure on the columns `[a, b)`; `RowWF n` is `Seg 0 n`. -/
structure Seg (a b : Int) (row : Row) : Prop where
  cont_lo : ∀ k, a ≤ k → k < b → (row.get k).state = .cont → a ≤ (row.get k).cols ∧ (row.get k).cols < k
  cont_start : ∀ k, a ≤ k → k < b → (row.get k).state = .cont → (row.get (row.get k).cols).state ≠ .cont
  cont_in : ∀ k, a ≤ k → k < b → (row.get k).state = .cont → k < (row.get k).cols + (row.get (row.get k).cols).cols
  start_len : ∀ k, a ≤ k → k < b → (row.get k).state ≠ .cont → 1 ≤ (row.get k).cols ∧ k + (row.get k).cols ≤ b
  start_run : ∀ k j, a ≤ k → k < b → (row.get k).state ≠ .cont → k < j → j < k + (row.get k).cols →
    (row.get j).state = .cont ∧ (row.get j).cols = k
  one : ∀ k, a ≤ k → k < b → ((row.get k).state = .line ∨ (row.get k).state = .char) → (row.get k).cols = 1

theorem RowWF.seg {n : Int} {row : Row} (h : RowWF n row) : Seg 0 n row :=
  ⟨h.cont_lo, h.cont_start, h.cont_in, h.start_len, h.start_run, h.one⟩

theorem Seg.rowWF {n : Int} {row : Row} (h : Seg 0 n row) : RowWF n row :=
  ⟨h.cont_lo, h.cont_start, h.cont_in, h.start_len, h.start_run, h.one⟩

theorem Seg.glue {a c b : Int} {row : Row} (h1 : Seg a c row) (h2 : Seg c b row) (hac : a ≤ c) (hcb : c ≤ b) :
    Seg a b row where
  cont_lo k h0 hb x :=
    if hk : k < c then h1.cont_lo k h0 hk x
    else ⟨Int.le_trans hac (h2.cont_lo k (Int.not_lt.1 hk) hb x).1, (h2.cont_lo k (Int.not_lt.1 hk) hb x).2⟩
  cont_start k h0 hb x := if hk : k < c then h1.cont_start k h0 hk x else h2.cont_start k (Int.not_lt.1 hk) hb x
  cont_in k h0 hb x := if hk : k < c then h1.cont_in k h0 hk x else h2.cont_in k (Int.not_lt.1 hk) hb x
  start_len k h0 hb x :=
    if hk : k < c then ⟨(h1.start_len k h0 hk x).1, Int.le_trans (h1.start_len k h0 hk x).2 hcb⟩
    else h2.start_len k (Int.not_lt.1 hk) hb x
  start_run k j h0 hb x := if hk : k < c then h1.start_run k j h0 hk x else h2.start_run k j (Int.not_lt.1 hk) hb x
  one k h0 hb x := if hk : k < c then h1.one k h0 hk x else h2.one k (Int.not_lt.1 hk) hb x

theorem Seg.single {c e : Int} {row : Row} (hs : (row.get c).state ≠ .cont) (hl : (row.get c).cols = e - c) (hce : c < e)
    (hrun : ∀ j, c < j → j < e → (row.get j).state = .cont ∧ (row.get j).cols = c)
    (hone : ((row.get c).state = .line ∨ (row.get c).state = .char) → e - c = 1) : Seg c e row := by
  have contGt : ∀ k, c ≤ k → (row.get k).state = .cont → c < k := fun k a x =>
    Int.lt_iff_le_and_ne.2 ⟨a, fun y => hs (y ▸ x)⟩
  have startEq : ∀ k, c ≤ k → k < e → (row.get k).state ≠ .cont → k = c := fun k a b x =>
    Classical.byContradiction fun y => x (hrun k (by omega) b).1
  refine ⟨fun k a b x => ?_, fun k a b x => ?_, fun k a b x => ?_, fun k a b x => ?_, fun k j a b x y z => ?_,
    fun k a b x => ?_⟩
  · rw [(hrun k (contGt k a x) b).2]; exact ⟨Int.le_refl _, contGt k a x⟩
  · rw [(hrun k (contGt k a x) b).2]; exact hs
  · rw [(hrun k (contGt k a x) b).2, hl]; omega
  · rw [startEq k a b x, hl]; omega
  · rw [startEq k a b x] at y z ⊢; rw [hl] at z; exact hrun j y (by omega)
  · have := startEq k a b (by rcases x with x | x <;> rw [x] <;> exact CState.noConfusion)
    rw [this] at x ⊢; rw [hl]; exact hone x

theorem Seg.congr {a b : Int} {row row' : Row} (h : Seg a b row)
    (hs : ∀ k, a ≤ k → k < b → (row'.get k).state = (row.get k).state)
    (hc : ∀ k, a ≤ k → k < b → (row'.get k).cols = (row.get k).cols) : Seg a b row' := by
  refine ⟨fun k p q x => ?_, fun k p q x => ?_, fun k p q x => ?_, fun k p q x => ?_, fun k j p q x y z => ?_,
    fun k p q x => ?_⟩
  · rw [hs k p q] at x; rw [hc k p q]; exact h.cont_lo k p q x
  · rw [hs k p q] at x
    have lo := h.cont_lo k p q x
    rw [hc k p q, hs _ lo.1 (by omega)]; exact h.cont_start k p q x
  · rw [hs k p q] at x
    have lo := h.cont_lo k p q x
    rw [hc k p q, hc _ lo.1 (by omega)]; exact h.cont_in k p q x
  · rw [hs k p q] at x; rw [hc k p q]; exact h.start_len k p q x
  · rw [hs k p q] at x; rw [hc k p q] at z
    have sl := h.start_len k p q x
    rw [hs j (by omega) (by omega), hc j (by omega) (by omega)]; exact h.start_run k j p q x y z
  · rw [hs k p q] at x; rw [hc k p q]; exact h.one k p q x

theorem Seg.congr_cells {a b : Int} {row row' : Row} (h : Seg a b row) (hs : ∀ k, a ≤ k → k < b → row'.get k = row.get k) :
    Seg a b row' :=
  h.congr (fun k p q => by rw [hs k p q]) (fun k p q => by rw [hs k p q])

/-- A CONT cell right after a run would belong to a run overlapping this one. -/
theorem Seg.run_end {a b : Int} {row : Row} (h : Seg a b row) {s : Int} (h0 : a ≤ s) (hb : s < b)
    (hs : (row.get s).state ≠ .cont) :
    ¬ (s + (row.get s).cols < b ∧ (row.get (s + (row.get s).cols)).state = .cont) := by
  intro ⟨x, y⟩
  have len := h.start_len s h0 hb hs
  have lo := h.cont_lo _ (by omega) x y
  have st := h.cont_start _ (by omega) x y
  have hin := h.cont_in _ (by omega) x y
  by_cases z : s < (row.get (s + (row.get s).cols)).cols
  · exact st (h.start_run s _ h0 hb hs z lo.2).1
  · by_cases w : (row.get (s + (row.get s).cols)).cols = s
    · rw [w] at hin; omega
    · exact hs (h.start_run _ s lo.1 (by omega) st (by omega) (by omega)).1

/-- `hq`: no run straddles `c`. -/
theorem Seg.split {a b c : Int} {row : Row} (h : Seg a b row) (hac : a ≤ c) (hcb : c ≤ b)
    (hq : ¬ (c < b ∧ (row.get c).state = .cont)) : Seg a c row ∧ Seg c b row := by
  constructor
  · refine ⟨fun k p q x => h.cont_lo k p (by omega) x, fun k p q x => h.cont_start k p (by omega) x,
      fun k p q x => h.cont_in k p (by omega) x, fun k p q x => ⟨(h.start_len k p (by omega) x).1, ?_⟩,
      fun k j p q x => h.start_run k j p (by omega) x, fun k p q x => h.one k p (by omega) x⟩
    -- a run that began before `c` and reached beyond it would make `c` one of its CONT cells
    have len := h.start_len k p (by omega) x
    exact Int.not_lt.1 fun y => hq ⟨by omega, (h.start_run k c p (by omega) x q y).1⟩
  · refine ⟨fun k p q x => ⟨?_, (h.cont_lo k (by omega) q x).2⟩, fun k p q x => h.cont_start k (by omega) q x,
      fun k p q x => h.cont_in k (by omega) q x, fun k p q x => h.start_len k (by omega) q x,
      fun k j p q x => h.start_run k j (by omega) q x, fun k p q x => h.one k (by omega) q x⟩
    -- likewise for the run of a CONT cell `k ≥ c`, had it begun before `c`
    have lo := h.cont_lo k (by omega) q x
    have hin := h.cont_in k (by omega) q x
    exact Int.not_lt.1 fun y =>
      hq ⟨by omega, (h.start_run _ c lo.1 (by omega) (h.cont_start k (by omega) q x) y (by omega)).1⟩

/-- The columns before `c`, when the run that reaches beyond `c` (if any) is shortened to end there. -/
theorem RowWF.cut_left {n : Int} {row row' : Row} (h : RowWF n row) {c : Int} (h0 : 0 ≤ c) (hc : c < n)
    (h' : ∀ k, k < c → row'.get k =
      if (row.get c).state = .cont ∧ k = (row.get c).cols then { row.get k with cols := c - k } else row.get k) :
    Seg 0 c row' := by
  by_cases x : (row.get c).state = .cont
  · -- `c` lies inside the run that starts at `s = (row.get c).cols`: the runs before `s` stay, `[s, c)` is what is left of it
    have lo := h.cont_lo c h0 hc x
    have sst := h.cont_start c h0 hc x
    have hin := h.cont_in c h0 hc x
    have same : ∀ k, k < c → k ≠ (row.get c).cols → row'.get k = row.get k := fun k a b => by
      rw [h' k a, if_neg (fun p => b p.2)]
    have atS : row'.get (row.get c).cols = { row.get (row.get c).cols with cols := c - (row.get c).cols } := by
      rw [h' _ lo.2, if_pos ⟨x, rfl⟩]
    have left : Seg 0 (row.get c).cols row' := (h.seg.split lo.1 (by omega) (fun p => sst p.2)).1.congr_cells
      (fun k _ b => same k (by omega) (by omega))
    have mid : Seg (row.get c).cols c row' := by
      refine Seg.single (by rw [atS]; exact sst) (by rw [atS]) lo.2 (fun j a b => ?_) (fun y => ?_)
      · rw [same j b (by omega)]; exact h.start_run _ j lo.1 (by omega) sst a (by omega)
      · rw [atS] at y; have := h.one _ lo.1 (by omega) y; omega
    exact left.glue mid lo.1 (Int.le_of_lt lo.2)
  · have same : ∀ k, k < c → row'.get k = row.get k := fun k a => by rw [h' k a, if_neg (fun p => x p.1)]
    exact (h.seg.split h0 (Int.le_of_lt hc) (fun p => x p.2)).1.congr_cells (fun k _ b => same k b)

/-- The columns from `e` on, after the first block of `make_span` has made `e` the start of a run. -/
theorem RowWF.cut_right {n : Int} {row row' : Row} (h : RowWF n row) {e : Int} (h0 : 0 ≤ e) (he : e ≤ n)
    (h' : ∀ k, e ≤ k → row'.get k = (splitAfter n row e).get k) : Seg e n row' := by
  by_cases q : e < n ∧ (row.get e).state = .cont
  · -- `e` lies inside the run `[s, s + l)`, `s = (row.get e).cols`: `[e, s + l)` becomes a run of its own, the runs from `s + l` on stay
    obtain ⟨hen, ec⟩ := q
    have lo := h.cont_lo e h0 hen ec
    have sst := h.cont_start e h0 hen ec
    have hin := h.cont_in e h0 hen ec
    have ste := h.start_isSTE e h0 hen ec
    have slen := h.start_len _ lo.1 (by omega) sst
    have atE : (row'.get e).state = (row.get (row.get e).cols).state ∧
        (row'.get e).cols = (row.get e).cols + (row.get (row.get e).cols).cols - e := by
      rw [h' e (Int.le_refl _), splitAfter_get, if_pos ⟨hen, ec⟩, if_pos rfl]
      exact ⟨endCell_state _ _ ste, endCell_cols _ _ ste⟩
    have inRun : ∀ k, e < k → k < (row.get e).cols + (row.get (row.get e).cols).cols →
        (row'.get k).state = .cont ∧ (row'.get k).cols = e := fun k a b => by
      rw [h' k (by omega), splitAfter_get, if_pos ⟨hen, ec⟩, if_neg (by omega), if_pos ⟨by omega, b⟩]
      exact ⟨(h.start_run _ k lo.1 (by omega) sst (by omega) b).1, rfl⟩
    have after : ∀ k, (row.get e).cols + (row.get (row.get e).cols).cols ≤ k → row'.get k = row.get k := fun k a => by
      rw [h' k (by omega), splitAfter_get, if_pos ⟨hen, ec⟩, if_neg (by omega), if_neg (by omega)]
    have head : Seg e ((row.get e).cols + (row.get (row.get e).cols).cols) row' := by
      refine Seg.single (by rw [atE.1]; exact sst) (by rw [atE.2]) hin inRun (fun y => ?_)
      rw [atE.1] at y
      rcases y with y | y <;> rw [y] at ste <;> cases ste
    have tail : Seg ((row.get e).cols + (row.get (row.get e).cols).cols) n row' :=
      (h.seg.split (by omega) slen.2 (h.seg.run_end lo.1 (by omega) sst)).2.congr_cells (fun k a _ => after k a)
    exact head.glue tail (Int.le_of_lt hin) slen.2
  · have same : ∀ k, e ≤ k → row'.get k = row.get k := fun k a => by rw [h' k a, splitAfter_get, if_neg q]
    exact (h.seg.split h0 he q).2.congr_cells (fun k a _ => same k a)

open Tickit.RBAbs

def cellContent (start : Cell) (off : Int) : Content :=
  match start.state with
  | .skip => .skip
  | .text => .text start.pen start.text (start.offs + off)
  | .erase => .erase start.pen
  | .line => .line start.pen start.lmask
  | .char => .char start.pen start.cp
  | .cont => .skip

def rowContent (row : Row) (C : Int) : Content :=
  if (row.get C).state = .cont then cellContent (row.get (row.get C).cols) (C - (row.get C).cols)
  else cellContent (row.get C) 0

theorem absContent_eq (rb : RB) (L C : Int) :
    absContent rb L C = if inBuf rb.lines rb.cols L C then rowContent (rb.cells L) C else .skip := by
  unfold absContent rowContent cellContent RB.cell
  by_cases hb : inBuf rb.lines rb.cols L C = true
  · simp only [hb, if_true]
    by_cases hc : ((rb.cells L).get C).state = .cont
    · simp only [hc, if_true]
      cases ((rb.cells L).get ((rb.cells L).get C).cols).state <;> rfl
    · simp only [hc, if_false]
      cases ((rb.cells L).get C).state <;> rfl
  · simp only [hb]; rfl

@[simp] theorem cellContent_setCols (c : Cell) (x off : Int) : cellContent { c with cols := x } off = cellContent c off := rfl

theorem cellContent_endCell (row : Row) (e off : Int) (hs : (row.get (row.get e).cols).state.isSTE = true) :
    cellContent (endCell row e) off = cellContent (row.get (row.get e).cols) (e - (row.get e).cols + off) := by
  unfold endCell cellContent
  simp only
  cases h : (row.get (row.get e).cols).state <;> simp_all [CState.isSTE]
  omega

theorem Seg.run_content {a b : Int} {row : Row} (h : Seg a b row) {s k : Int} (h0 : a ≤ s) (hb : s < b)
    (hs : (row.get s).state ≠ .cont) (h1 : s ≤ k) (h2 : k < s + (row.get s).cols) :
    rowContent row k = cellContent (row.get s) (k - s) := by
  unfold rowContent
  by_cases e : k = s
  · subst e
    rw [if_neg hs, Int.sub_self]
  · obtain ⟨x, y⟩ := h.start_run s k h0 hb hs (by omega) h2
    rw [if_pos x, y]

/-- The column where the run of column `k` starts: what the `if(cell->state == CONT)` blocks of the C code compute
    (`get_span`, the copy loop of C13) and what `rowContent` reads. -/
def runStart (row : Row) (k : Int) : Int := if (row.get k).state = .cont then (row.get k).cols else k

theorem rowContent_runStart (row : Row) (k : Int) :
    rowContent row k = cellContent (row.get (runStart row k)) (k - runStart row k) := by
  unfold rowContent runStart
  split
  · rfl
  · rw [Int.sub_self]

theorem RowWF.run_of {n : Int} {row : Row} (h : RowWF n row) (k : Int) (h0 : 0 ≤ k) (hn : k < n) :
    0 ≤ runStart row k ∧ runStart row k ≤ k ∧ (row.get (runStart row k)).state ≠ .cont ∧
    k < runStart row k + (row.get (runStart row k)).cols := by
  unfold runStart
  by_cases x : (row.get k).state = .cont
  · rw [if_pos x]
    have lo := h.cont_lo k h0 hn x
    exact ⟨lo.1, Int.le_of_lt lo.2, h.cont_start k h0 hn x, h.cont_in k h0 hn x⟩
  · rw [if_neg x]
    have := h.start_len k h0 hn x
    exact ⟨h0, Int.le_refl k, x, by omega⟩

section span
variable {n : Int} {row : Row} {col cols : Int} (v : Cell)
  (h : RowWF n row) (h0 : 0 ≤ col) (hc : 0 < cols) (he : col + cols ≤ n)

include hc in
theorem makeSpanRow_out {k : Int} (hk : ¬ (col ≤ k ∧ k < col + cols)) :
    (rowSet (makeSpanRow n row col cols) col v).get k = (shortenBefore (splitAfter n row (col + cols)) col).get k := by
  rw [rowSet_get, if_neg (by omega), makeSpanRow_get _ _ _ _ _ hc, if_neg (by omega), if_neg hk]

/-- `make_span` followed by the caller's assignments to the returned cell. -/
def spanRow (n : Int) (row : Row) (col cols : Int) (v : Cell) : Row := rowSet (makeSpanRow n row col cols) col v

include h h0 hc he in
theorem spanRow_lt (k : Int) (hk : k < col) :
    (spanRow n row col cols v).get k =
      if (row.get col).state = .cont ∧ k = (row.get col).cols then { row.get k with cols := col - k } else row.get k := by
  unfold spanRow
  rw [makeSpanRow_out v hc (by omega), shortenBefore_get]
  rw [splitAfter_get_lt _ _ _ _ (by omega : col < col + cols), splitAfter_get_lt _ _ _ _ (by omega : k < col + cols)]
  by_cases hct : (row.get col).state = .cont
  · have a := h.cont_lo col h0 (by omega) hct
    rw [splitAfter_get_lt _ _ _ _ (by omega : (row.get col).cols < col + cols)]
    simp only [hct, true_and, h.start_isSTE col h0 (by omega) hct, and_true]
  · simp [hct]

theorem spanRow_col : (spanRow n row col cols v).get col = v := by
  unfold spanRow; simp

include hc in
theorem spanRow_maskdepth {k : Int} (hk : k ≠ col) :
    ((spanRow n row col cols v).get k).maskdepth = if col ≤ k ∧ k < col + cols then -1 else (row.get k).maskdepth := by
  unfold spanRow
  rw [rowSet_get, if_neg hk, makeSpanRow_maskdepth _ _ _ _ _ hc]

include hc in
theorem spanRow_mid (k : Int) (h1 : col < k) (h2 : k < col + cols) :
    ((spanRow n row col cols v).get k).state = .cont ∧ ((spanRow n row col cols v).get k).cols = col := by
  unfold spanRow
  rw [rowSet_get, if_neg (by omega), makeSpanRow_get _ _ _ _ _ hc, if_neg (by omega), if_pos (by omega)]
  simp

include h h0 hc he in
theorem spanRow_ge (k : Int) (hk : col + cols ≤ k) :
    (spanRow n row col cols v).get k = (splitAfter n row (col + cols)).get k := by
  unfold spanRow
  rw [makeSpanRow_out v hc (by omega), shortenBefore_get]
  rw [splitAfter_get_lt _ _ _ _ (by omega : col < col + cols)]
  by_cases hct : (row.get col).state = .cont
  · have a := h.cont_lo col h0 (by omega) hct
    rw [if_neg (by omega)]
  · simp [hct]

include h h0 hc he in
theorem spanRow_at_lt (k : Int) (hk0 : 0 ≤ k) (hk : k < col) :
    ((spanRow n row col cols v).get k).state = (row.get k).state ∧
    ((spanRow n row col cols v).get k).cols =
      (if (row.get col).state = .cont ∧ k = (row.get col).cols then col - k else (row.get k).cols) := by
  have _ := hk0  -- holds for negative `k` as well
  rw [spanRow_lt v h h0 hc he k hk]
  split <;> exact ⟨rfl, rfl⟩

include h h0 hc he in
theorem spanRow_at_end (hen : col + cols < n) :
    ((spanRow n row col cols v).get (col + cols)).state =
      (if (row.get (col + cols)).state = .cont then (row.get (row.get (col + cols)).cols).state else (row.get (col + cols)).state) ∧
    ((spanRow n row col cols v).get (col + cols)).cols =
      (if (row.get (col + cols)).state = .cont then (row.get (col + cols)).cols + (row.get (row.get (col + cols)).cols).cols - (col + cols)
       else (row.get (col + cols)).cols) := by
  rw [spanRow_ge v h h0 hc he _ (Int.le_refl _), splitAfter_get]
  by_cases x : (row.get (col + cols)).state = .cont
  · have ste := h.start_isSTE _ (by omega) hen x
    rw [if_pos ⟨hen, x⟩, if_pos rfl, if_pos x, if_pos x]
    exact ⟨endCell_state _ _ ste, endCell_cols _ _ ste⟩
  · rw [if_neg (fun y => x y.2), if_neg x, if_neg x]
    exact ⟨rfl, rfl⟩

include h h0 hc he in
theorem spanRow_at_gt (k : Int) (hk : col + cols < k) (hkn : k < n) :
    ((spanRow n row col cols v).get k).state = (row.get k).state ∧
    ((spanRow n row col cols v).get k).cols =
      (if (row.get (col + cols)).state = .cont ∧ k < (row.get (col + cols)).cols + (row.get (row.get (col + cols)).cols).cols
       then col + cols else (row.get k).cols) := by
  rw [spanRow_ge v h h0 hc he k (by omega), splitAfter_get]
  by_cases x : (row.get (col + cols)).state = .cont ∧ k < (row.get (col + cols)).cols + (row.get (row.get (col + cols)).cols).cols
  · rw [if_pos ⟨by omega, x.1⟩, if_neg (by omega), if_pos ⟨by omega, x.2⟩, if_pos x]
    exact ⟨rfl, rfl⟩
  · rw [if_neg x]
    split
    · rename_i y
      rw [if_neg (by omega), if_neg (fun z => x ⟨y.2, z.2⟩)]
      exact ⟨rfl, rfl⟩
    · exact ⟨rfl, rfl⟩

include h h0 hc he in
theorem spanRow_left : Seg 0 col (spanRow n row col cols v) :=
  h.cut_left h0 (by omega) (fun k hk => spanRow_lt v h h0 hc he k hk)

include h h0 hc he in
theorem spanRow_right : Seg (col + cols) n (spanRow n row col cols v) :=
  h.cut_right (by omega) he (fun k hk => spanRow_ge v h h0 hc he k hk)

include h h0 hc he in
theorem spanRow_wf (hv1 : v.state ≠ .cont) (hv2 : v.cols = cols)
    (hv3 : (v.state = .line ∨ v.state = .char) → cols = 1) : RowWF n (spanRow n row col cols v) := by
  have mid : Seg col (col + cols) (spanRow n row col cols v) := by
    refine Seg.single ?_ ?_ (by omega) (fun j a b => spanRow_mid v hc j a b) ?_
    · rw [spanRow_col]; exact hv1
    · rw [spanRow_col, hv2]; omega
    · rw [spanRow_col]; intro x; have := hv3 x; omega
  exact (((spanRow_left v h h0 hc he).glue mid h0 (by omega)).glue (spanRow_right v h h0 hc he) (by omega) he).rowWF

include h h0 hc he in
theorem spanRow_content (hv1 : v.state ≠ .cont) (k : Int) (hk0 : 0 ≤ k) (hkn : k < n) :
    rowContent (spanRow n row col cols v) k =
      if col ≤ k ∧ k < col + cols then cellContent v (k - col) else rowContent row k := by
  obtain ⟨s0, sk, ss, sin⟩ := h.run_of k hk0 hkn
  have e := rowContent_runStart row k
  generalize runStart row k = s at s0 sk ss sin e
  by_cases r1 : k < col
  · -- its start cell is still there, at most shortened
    rw [if_neg (by omega), e]
    have cell := spanRow_lt v h h0 hc he s (by omega)
    have st : ((spanRow n row col cols v).get s).state = (row.get s).state := by rw [cell]; split <;> rfl
    have ln : k < s + ((spanRow n row col cols v).get s).cols := by
      rw [cell]; split
      · show k < s + (col - s); omega
      · exact sin
    rw [(spanRow_left v h h0 hc he).run_content s0 (by omega) (st ▸ ss) sk ln, cell]
    split <;> rfl
  · by_cases r2 : k < col + cols
    · rw [if_pos (by omega)]
      unfold rowContent
      by_cases r3 : k = col
      · rw [r3, spanRow_col, if_neg hv1, Int.sub_self]
      · obtain ⟨m1, m2⟩ := spanRow_mid v hc k (by omega) r2
        rw [if_pos m1, m2, spanRow_col]
    · rw [if_neg (by omega), e]
      have R := spanRow_right v h h0 hc he
      by_cases r3 : col + cols ≤ s
      · -- the run begins after the span: its start cell is untouched
        have cell : (spanRow n row col cols v).get s = row.get s := by
          rw [spanRow_ge v h h0 hc he s r3, splitAfter_get]
          split
          · rename_i q
            rw [if_neg (fun (x : s = col + cols) => ss (x ▸ q.2)), if_neg]
            intro x
            have a := h.cont_lo _ (by omega) q.1 q.2
            exact ss (h.start_run _ s a.1 (by omega) (h.cont_start _ (by omega) q.1 q.2) (by omega) x.2).1
          · rfl
        rw [R.run_content r3 (by omega) (cell ▸ ss) sk (cell ▸ sin), cell]
      · -- the run began before the end of the span: what is left of it starts at `col + cols`
        obtain ⟨ec, es⟩ := h.start_run s (col + cols) s0 (by omega) ss (by omega) (by omega)
        have ste := h.start_isSTE _ (by omega) (by omega) ec
        have cell : (spanRow n row col cols v).get (col + cols) = endCell row (col + cols) := by
          rw [spanRow_ge v h h0 hc he _ (Int.le_refl _), splitAfter_get, if_pos ⟨by omega, ec⟩, if_pos rfl]
        rw [R.run_content (Int.le_refl _) (by omega) (by rw [cell, endCell_state _ _ ste, es]; exact ss) (by omega)
          (by rw [cell, endCell_cols _ _ ste, es]; omega), cell, cellContent_endCell _ _ _ ste, es]
        congr 1; omega

end span

/-- What a scan over the line relies on. -/
theorem spanRow_head_stays (n : Int) (row : Row) {col cols : Int} (v : Cell) (hc : 0 < cols) {k : Int}
    (hk : ¬ (col ≤ k ∧ k < col + cols)) (hh : (row.get k).state ≠ .cont) :
    ((spanRow n row col cols v).get k).state ≠ .cont := by
  unfold spanRow
  rw [makeSpanRow_out v hc hk, shortenBefore_state]
  exact splitAfter_head _ _ _ _ hh

end Tickit.RB
