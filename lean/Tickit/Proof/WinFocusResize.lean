import Tickit.Proof.WinFocusStep
/-
  C15 over histories: the terminal's resize event (`on_term_resize`, model `termResize`).

  The root window follows the terminal: its rectangle keeps its origin and takes the new size; the area gained is exposed.
  Nothing is done about an area lost — unless the source carries the repair `resizeRestore`, which requests a restore.
-/
namespace Tickit
namespace WinFocus
open WinTree WinSpec WinFlush

theorem rootRect_good {t : Tree} {w : Win} {l c : Int} (hg : Good15 t) (hw : Live t 0 w) (hl : 0 < l) (hc : 0 < c) :
    Good15 (WinTree.set t 0 { w with rect := ⟨w.rect.top, w.rect.left, l, c⟩ }) := by
  obtain ⟨r, hr⟩ := hg.rootWin.record
  cases hw.1.symm.trans hr.slot
  have hlinks := sameBy_set (g := links) (w' := { w with rect := ⟨w.rect.top, w.rect.left, l, c⟩ }) hw.1 rfl
  have h0 := set_wins_of (j := 0) (w' := { w with rect := ⟨w.rect.top, w.rect.left, l, c⟩ }) hw.1
  rw [if_pos rfl] at h0
  refine good15_mk (struct_links hlinks (RootRec.rootWin ⟨h0, hr.live, hr.isRoot, hr.parent, hr.top, hr.left⟩) (fun i x hx hrt => ?_) hg.struct)
    (wfB_set_same hg.wf hw.1 rfl) hg.nonempty hg.flagged hg.later
  -- the only root window is the one rewritten
  cases onlyRoot_agree hlinks hg.onlyRoot i x hx hrt
  cases h0.symm.trans hx
  exact ⟨hl, hc⟩

theorem resize_root {t t1 : Tree} {l c : Int} (h : resize t 0 l c = .ok t1) :
    ∃ w, Live t 0 w ∧ (t1 = t ∨ t1 = WinTree.set t 0 { w with rect := ⟨w.rect.top, w.rect.left, l, c⟩ }) ∧
      rootRect t1 = some ⟨w.rect.top, w.rect.left, l, c⟩ := by
  unfold resize at h
  simp only [bind_ok_iff] at h
  obtain ⟨w, hgw, x, hx, h⟩ := h
  obtain ⟨ta, b⟩ := x
  simp only [pure_ok_iff] at h
  subst h
  have hw := get_ok_iff.mp hgw
  refine ⟨w, hw, ?_⟩
  obtain ⟨w2, hw2, ⟨_, h1⟩ | ⟨heq, h1⟩⟩ := setGeometry_cases hx <;> cases Live.unique hw2 hw <;> cases (show ta = _ from h1)
  · refine ⟨.inr rfl, ?_⟩
    unfold rootRect; rw [set_wins_of hw.1, if_pos rfl]; rfl
  · refine ⟨.inl rfl, ?_⟩
    unfold rootRect; rw [hw.1]
    exact congrArg some heq

/-- What the resize event of a terminal of `l × c` cells does; with the repair `resizeRestore` a restore is pending
    afterwards, so the next flush re-establishes the cursor. -/
structure Resized (fx : Fixes) (t t' : Tree) (l c : Int) : Prop where
  good : Good15 t'
  keeps : RootKeeps t.root t'.root
  rect : rootRect t' = some ⟨0, 0, l, c⟩
  pending : fx.resizeRestore = true → Pending t'

theorem termResize_step {fx : Fixes} {t t' : Tree} {l c : Int} (hg : Good15 t) (hl : 0 < l) (hc : 0 < c)
    (h : termResize fx t l c = .ok t') : Resized fx t t' l c := by
  unfold termResize at h
  simp only [bind_ok_iff, pure_ok_iff] at h
  obtain ⟨w, _, t1, h1, t2, h2, t3, h3, rfl⟩ := h
  obtain ⟨w0, hw0, e1, r1⟩ := resize_root h1
  have g1 : Good15 t1 ∧ t1.root = t.root := by
    rcases e1 with rfl | rfl
    · exact ⟨hg, rfl⟩
    · exact ⟨rootRect_good hg hw0 hl hc, rfl⟩
  have s2 : StepInv t1 t2 := .expose_if g1.1 h2
  have s3 : StepInv t2 t3 := .expose_if s2.good h3
  have k3 : RootKeeps t.root t3.root := by rw [← g1.2]; exact rootKeeps_trans s2.keeps s3.keeps
  have e3 : rootRect t3 = some ⟨0, 0, l, c⟩ := by
    obtain ⟨r, hr⟩ := hg.rootWin.record
    cases hw0.1.symm.trans hr.slot
    rw [s3.rect, s2.rect, r1, hr.top, hr.left]
  -- the last line of the repaired handler
  split
  · exact ⟨good15_rootReq s3.good s3.good.wf (fun _ => rfl) (.inr rfl),
      rootKeeps_trans k3 (rootKeeps_of_req (.inr rfl)), e3, fun _ => ⟨.inl rfl, rfl⟩⟩
  · next hfx => exact ⟨s3.good, k3, e3, fun h => absurd h hfx⟩

end WinFocus
end Tickit
