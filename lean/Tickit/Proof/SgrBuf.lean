import Tickit.Model.SgrBuf
import Tickit.Model.Sgr
import Tickit.Proof.TermBuf
/-
  C10 over the output buffer: whatever the size of the buffer of `tickit_term_set_output_buffer`, after
  `tickit_term_flush` the output function has received the bytes of the pen requests in the order the requests
  emitted them — so the terminal's rendering attributes are those the unbuffered history yields.
  Everything about `write_str`/`flush` is C11's (`Proof/TermBuf.lean`: `writeWhole_okExt`, `ExtM.flushed`); here it is
  only composed over a list of writes and converted to the byte type of the SGR interpreter.
-/
namespace Tickit.Proof.SgrBuf
open Tickit.TermBuf Tickit.SgrBuf

def enc (bs : List Nat) : Bytes := bs.map UInt8.ofNat

theorem write_ext {st : State} (hwf : WF st) (bs : List Nat) : Ext st (write st bs) (enc bs) := by
  unfold write
  by_cases he : bs.isEmpty = true
  · rw [if_pos he, List.isEmpty_iff.1 he]
    exact Ext.refl hwf
  · obtain ⟨st', hst', hx⟩ :=
      writeWhole_okExt (st := st) hwf (List.prefix_append (enc bs) [0]) fun e => by rw [e]; rfl
    rw [show (enc bs).length = bs.length from List.length_map _] at hst'
    rw [if_neg he, show bs.map UInt8.ofNat = enc bs from rfl, hst']
    exact hx

def writeAll (st : State) (l : List (List Nat)) : State := l.foldl write st

theorem writeAll_ext : ∀ (l : List (List Nat)) {st : State}, WF st → Ext st (writeAll st l) (enc l.flatten)
  | [], st, hwf => by simpa [writeAll, enc] using Ext.refl hwf
  | bs :: r, st, hwf => by
    have h1 := write_ext hwf bs
    have h2 := writeAll_ext r (st := write st bs) h1.wf
    have := Ext.trans h1 h2
    simpa [writeAll, enc, List.map_append] using this

theorem received_eq (st : State) : received st = (stream st.out).map (·.toNat) := by
  unfold received stream
  induction st.out with
  | nil => rfl
  | cons c cs ih =>
    cases c <;> simp [List.flatMap_cons, chunkBytes, Chunk.bytes, ih]

theorem dec_enc (bs : List Nat) (h : ∀ b ∈ bs, b < 256) : (enc bs).map (·.toNat) = bs := by
  rw [enc, List.map_map]
  exact (List.map_congr_left fun b hb => by simp [Nat.mod_eq_of_lt (h b hb)]).trans (List.map_id _)

theorem flush_in_order {st : State} (hwf : WF st) (hf : st.hasFunc = true) (l : List (List Nat)) :
    stream (flush (writeAll st l)).out = stream st.out ++ st.buf ++ enc l.flatten ∧ (flush (writeAll st l)).buf = [] :=
  (writeAll_ext l hwf).flushed (Or.inl hf)

/-- The same read by the terminal, on the harness's terminal (`init`: output function, no descriptor) with a buffer of any
    size `n`: its state is the one the unbuffered history gives. -/
theorem buffered_reads_in_order (n : Nat) (l : List (List Nat)) (h : ∀ b ∈ l.flatten, b < 256) (vt : Tickit.Sgr.VT) :
    Tickit.Sgr.run (received (flush (writeAll (setOutputBuffer Tickit.SgrBuf.init n) l))) vt = l.foldl (fun v bs => Tickit.Sgr.run bs v) vt := by
  have hwf : WF (setOutputBuffer Tickit.SgrBuf.init n) := .of_buf_nil rfl
  have := (flush_in_order hwf (by rfl) l).1
  rw [received_eq, this]
  have h0 : stream (setOutputBuffer Tickit.SgrBuf.init n).out = [] := rfl
  have h1 : (setOutputBuffer Tickit.SgrBuf.init n).buf = [] := rfl
  rw [h0, h1]
  simp only [List.nil_append]
  rw [dec_enc _ h]
  exact List.foldl_flatten

end Tickit.Proof.SgrBuf
