import Tickit.Model.RBFlush
import Tickit.Proof.RBRefine
import Tickit.Proof.RBCopyPen
/-
  C04: `tickit_term_setpen`; the grid terminal request by request, with `Wrote` as the common form of "a stretch of the
  line was written" (erased or printed) and `Wrote.trans` to put stretches one after the other, `GridTerm.conf` for what
  no print or erase touches; the buffer after a flush (`IsEmpty`).
-/
namespace Tickit.RBFlush
open Tickit.RB

open Tickit.RBCopy (PenLook penLook)

theorem penSame_iff (a b : Pen) : penSame a b = true ↔ penLook a = penLook b := RBCopy.equiv_iff_penLook a b

theorem setAttr_cases {α : Type} {Q : Option α → Prop} (eqv : Option α → Option α → Bool) (val : Option α → α)
    (t p : Option α) (ht : t.isSome = true → eqv t p = true → Q t) (hp : Q (some (val p))) : Q (setAttr eqv val t p).1 := by
  unfold setAttr
  split
  · rename_i h
    exact ht (Bool.and_eq_true _ _ ▸ h).1 (Bool.and_eq_true _ _ ▸ h).2
  · exact hp

theorem setAttr_get {α β : Type} (eqv : Option α → Option α → Bool) (val : Option α → α) (get : Option α → β)
    (heqv : ∀ t p, eqv t p = true → get t = get p) (hval : ∀ p, get (some (val p)) = get p) (t p : Option α) :
    get (setAttr eqv val t p).1 = get p :=
  setAttr_cases (Q := fun o => get o = get p) eqv val t p (fun _ => heqv t p) (hval p)

theorem penLook_termSetpen (t p : Pen) : penLook (termSetpen t p) = penLook p := by
  unfold penLook termSetpen
  have hb := setAttr_get Pen.equivBool Pen.getBool Pen.getBool (fun t p => (RBCopy.equivBool_iff_look t p).1) fun _ => rfl
  have hi := setAttr_get Pen.equivInt Pen.getInt Pen.getInt (fun t p => (RBCopy.equivInt_iff_look t p).1) fun _ => rfl
  have hc := setAttr_get Pen.equivColour colourVal Pen.getColour (fun t p h => ((RBCopy.equivColour_iff_look t p).1 h).1)
    fun _ => rfl
  have hr := setAttr_get Pen.equivColour colourVal Pen.getRgb (fun t p h => ((RBCopy.equivColour_iff_look t p).1 h).2)
    fun _ => rfl
  simp only [hb, hi, hc, hr]

theorem penSame_termSetpen (t p : Pen) : penSame (termSetpen t p) p = true :=
  (penSame_iff _ _).mpr (penLook_termSetpen t p)

theorem equiv_refl (p : Pen) : Pen.equiv p p = true := (RBCopy.equiv_iff_penLook p p).mpr rfl

theorem penSame_of_equiv (tp p0 p : Pen) (h : Pen.equiv p p0 = true) : penSame (termSetpen tp p0) p = true := by
  rw [penSame_iff, penLook_termSetpen]
  exact ((RBCopy.equiv_iff_penLook _ _).mp h).symm

namespace GridTerm

theorem run_append (t : GridTerm) (a b : List Req) : t.run (a ++ b) = (t.run a).run b := by
  induction a generalizing t with
  | nil => rfl
  | cons r rs ih => simp only [List.cons_append, run]; exact ih _

theorem run_cons (t : GridTerm) (r : Req) (rs : List Req) : t.run (r :: rs) = (t.step r).run rs := rfl

theorem run_nil (t : GridTerm) : t.run [] = t := rfl

theorem addZeroWidth_line (t : GridTerm) (bs : List UInt8) : (t.addZeroWidth bs).line = t.line := by
  unfold addZeroWidth
  cases t.last <;> rfl

theorem addZeroWidth_col (t : GridTerm) (bs : List UInt8) : (t.addZeroWidth bs).col = t.col := by
  unfold addZeroWidth
  cases t.last <;> rfl

/-- What neither printing nor erasing touches. -/
structure Conf where
  cols : Int
  pen : Pen
  oracle : Nat → Bool
  viaWriteStr : Bool

def conf (t : GridTerm) : Conf := ⟨t.cols, t.pen, t.oracle, t.viaWriteStr⟩

theorem conf_cols {t t' : GridTerm} (h : t'.conf = t.conf) : t'.cols = t.cols := congrArg Conf.cols h
theorem conf_pen {t t' : GridTerm} (h : t'.conf = t.conf) : t'.pen = t.pen := congrArg Conf.pen h

theorem addZeroWidth_conf (t : GridTerm) (bs : List UInt8) : (t.addZeroWidth bs).conf = t.conf := by
  unfold addZeroWidth
  cases t.last <;> rfl

theorem addZeroWidth_some (t : GridTerm) (bs g : List UInt8) (p : Int × Int) (hl : t.last = some p)
    (hg : (t.cells p.1 p.2).glyph = .chars g) :
    t.addZeroWidth bs =
      { t with cells := fun l c =>
          if l = p.1 ∧ c = p.2 then { t.cells l c with glyph := .chars (g ++ bs) } else t.cells l c } := by
  simp only [addZeroWidth, hl]
  congr 1
  funext l c
  by_cases hpc : l = p.1 ∧ c = p.2
  · obtain ⟨rfl, rfl⟩ := hpc
    simp only [and_self, if_true, hg]
  · rw [if_neg hpc, if_neg hpc]

theorem putGlyph_fit (t : GridTerm) (bs : List UInt8) (w : Int) (h : t.col + w ≤ t.cols) :
    t.putGlyph bs w = t.putGlyphRaw bs w := by
  unfold putGlyph
  rw [if_neg (by omega)]

theorem putGlyph_line (t : GridTerm) (bs : List UInt8) (w : Int) :
    (t.putGlyph bs w).line = if t.col + w > t.cols then t.line + 1 else t.line := by
  unfold putGlyph
  split <;> rfl

theorem putCh_line_le (t : GridTerm) (c : Ch) : t.line ≤ (t.putCh c).line := by
  unfold putCh
  split
  · rw [addZeroWidth_line]; omega
  · rw [putGlyph_line]; split <;> omega

theorem putCh_conf (t : GridTerm) (c : Ch) : (t.putCh c).conf = t.conf := by
  unfold putCh putGlyph
  repeat' split
  all_goals first | rfl | exact addZeroWidth_conf t _

theorem putCh_col (t : GridTerm) (c : Ch) (hfit : c.width = 0 ∨ t.col + c.width ≤ t.cols) :
    (t.putCh c).col = t.col + c.width := by
  unfold putCh
  split
  · rename_i hz
    rw [addZeroWidth_col, hz, Int.add_zero]
  · rename_i hz
    rw [putGlyph_fit _ _ _ (hfit.resolve_left hz)]
    rfl

/-- `min t.col (t.cols - 1)`: in the pending-wrap state the blanks start at the last column. -/
theorem erasech_eq (t : GridTerm) (n : Int) (m : MaybeBool) (hn : 1 ≤ n) :
    t.erasech n m =
      { t with
        cells := fun l c =>
          if l = t.line ∧ min t.col (t.cols - 1) ≤ c ∧ c < min t.col (t.cols - 1) + n ∧ c < t.cols then
            { glyph := .blank, pen := t.pen, writes := (t.cells l c).writes + 1 }
          else t.cells l c
        last := none
        col := match m with
          | .yes => min (min t.col (t.cols - 1) + n) (t.cols - 1)
          | .no => t.col
          | .maybe => if t.oracle t.nmaybe then min (min t.col (t.cols - 1) + n) (t.cols - 1) else t.col
        nmaybe := match m with
          | .maybe => t.nmaybe + 1
          | _ => t.nmaybe } := by
  unfold erasech
  rw [if_neg (by omega)]
  cases m <;> rfl

theorem erasech_cells_raw (t : GridTerm) (n : Int) (m : MaybeBool) (hn : 1 ≤ n) (l c : Int) :
    (t.erasech n m).cells l c =
      if l = t.line ∧ min t.col (t.cols - 1) ≤ c ∧ c < min t.col (t.cols - 1) + n ∧ c < t.cols then
        { glyph := .blank, pen := t.pen, writes := (t.cells l c).writes + 1 }
      else t.cells l c := by
  rw [erasech_eq t n m hn]

theorem erasech_cells (t : GridTerm) (n : Int) (m : MaybeBool) (hn : 1 ≤ n) (hfit : t.col + n ≤ t.cols) (l c : Int) :
    (t.erasech n m).cells l c =
      if l = t.line ∧ t.col ≤ c ∧ c < t.col + n then
        { glyph := .blank, pen := t.pen, writes := (t.cells l c).writes + 1 }
      else t.cells l c := by
  rw [erasech_cells_raw t n m hn, show min t.col (t.cols - 1) = t.col by omega]
  by_cases h : l = t.line ∧ t.col ≤ c ∧ c < t.col + n
  · rw [if_pos h, if_pos ⟨h.1, h.2.1, h.2.2, by omega⟩]
  · rw [if_neg h, if_neg (fun h' => h ⟨h'.1, h'.2.1, h'.2.2.1⟩)]

theorem erasech_line (t : GridTerm) (n : Int) (m : MaybeBool) : (t.erasech n m).line = t.line := by
  unfold erasech
  split
  · rfl
  · cases m <;> rfl

theorem erasech_conf (t : GridTerm) (n : Int) (m : MaybeBool) : (t.erasech n m).conf = t.conf := by
  unfold erasech
  split
  · rfl
  · cases m <;> rfl

theorem erasech_last (t : GridTerm) (n : Int) (m : MaybeBool) (hn : 1 ≤ n) : (t.erasech n m).last = none := by
  rw [erasech_eq t n m hn]

/-- `TICKIT_MAYBE` with the oracle saying "the driver leaves the cursor". -/
theorem erasech_col_maybe (t : GridTerm) (n : Int) (hn : 1 ≤ n) (ho : t.oracle t.nmaybe = false) :
    (t.erasech n .maybe).col = t.col := by
  rw [erasech_eq t n .maybe hn]
  exact if_neg (ne_true_of_eq_false ho)

theorem erasech_col_yes_raw (t : GridTerm) (n : Int) (hn : 1 ≤ n) :
    (t.erasech n .yes).col = min (min t.col (t.cols - 1) + n) (t.cols - 1) := by
  rw [erasech_eq t n .yes hn]

theorem erasech_col_yes (t : GridTerm) (n : Int) (hn : 1 ≤ n) (hfit : t.col + n < t.cols) :
    (t.erasech n .yes).col = t.col + n := by
  rw [erasech_col_yes_raw t n hn]
  omega

end GridTerm

/-- The `w` columns from the cursor were written, each cell once more, in the terminal's pen.  Where the cursor column
    is afterwards is said separately. -/
structure Wrote (t t' : GridTerm) (w : Int) (g : Int → Glyph) : Prop where
  line_eq : t'.line = t.line
  cols_eq : t'.cols = t.cols
  pen_eq : t'.pen = t.pen
  outside : ∀ l c, ¬ (l = t.line ∧ t.col ≤ c ∧ c < t.col + w) → t'.cells l c = t.cells l c
  inside : ∀ c, t.col ≤ c → c < t.col + w →
    t'.cells t.line c = { glyph := g c, pen := t.pen, writes := (t.cells t.line c).writes + 1 }

theorem Wrote.refl (t : GridTerm) (g : Int → Glyph) : Wrote t t 0 g :=
  ⟨rfl, rfl, rfl, fun _ _ _ => rfl, fun c h1 h2 => by omega⟩

theorem Wrote.congr {t t' : GridTerm} {w : Int} {g g' : Int → Glyph} (h : Wrote t t' w g)
    (hg : ∀ c, t.col ≤ c → c < t.col + w → g c = g' c) : Wrote t t' w g' :=
  ⟨h.line_eq, h.cols_eq, h.pen_eq, h.outside, fun c h1 h2 => by rw [h.inside c h1 h2, hg c h1 h2]⟩

theorem Wrote.trans {t t1 t2 : GridTerm} {w1 w2 : Int} {g1 g2 : Int → Glyph} (h1 : Wrote t t1 w1 g1)
    (hc : t1.col = t.col + w1) (h2 : Wrote t1 t2 w2 g2) (hw1 : 0 ≤ w1) (hw2 : 0 ≤ w2) :
    Wrote t t2 (w1 + w2) (fun c => if c < t.col + w1 then g1 c else g2 c) := by
  refine ⟨h2.line_eq.trans h1.line_eq, h2.cols_eq.trans h1.cols_eq, h2.pen_eq.trans h1.pen_eq, ?_, ?_⟩
  · intro l c hn
    rw [h2.outside l c (by rw [h1.line_eq, hc]; omega), h1.outside l c (by omega)]
  · intro c hc1 hc2
    by_cases hlt : c < t.col + w1
    · rw [← h1.line_eq, h2.outside _ c (by rw [hc]; omega), h1.line_eq, h1.inside c hc1 hlt]
      simp only [hlt, if_true]
    · have := h2.inside c (by rw [hc]; omega) (by rw [hc]; omega)
      rw [h1.line_eq, h1.pen_eq, h1.outside _ c (by omega)] at this
      rw [this]
      simp only [hlt, if_false]

theorem GridTerm.erasech_wrote (t : GridTerm) (n : Int) (m : MaybeBool) (hn : 1 ≤ n) (hfit : t.col + n ≤ t.cols) :
    Wrote t (t.erasech n m) n (fun _ => .blank) :=
  ⟨erasech_line t n m, conf_cols (erasech_conf t n m), conf_pen (erasech_conf t n m),
    fun l c h => by rw [erasech_cells t n m hn hfit, if_neg h],
    fun c h1 h2 => by rw [erasech_cells t n m hn hfit, if_pos ⟨rfl, h1, h2⟩]⟩

theorem flushWith_rb_of_ok (txt : Cell → List Req) (rb : RB) (h : (flushWith txt rb).out = .ok) :
    (flushWith txt rb).rb = reset rb := by
  unfold flushWith at h ⊢
  simp only at h ⊢
  rw [if_pos h]

/-- The buffer as `reset` leaves it. -/
def IsEmpty (rb : RB) : Prop :=
  ∀ l c, rb.inGrid l c →
    (rb.cell l c).state = (if c = 0 then .skip else .cont) ∧ (rb.cell l c).maskdepth = -1 ∧
    (rb.cell l c).cols = (if c = 0 then rb.cols else 0)

theorem reset_isEmpty (rb : RB) : IsEmpty (reset rb) := by
  intro l c h
  have h' : rb.inGrid l c := h
  rw [RB.reset_cell, if_pos (show 0 ≤ l ∧ l < rb.lines ∧ 0 ≤ c ∧ c < rb.cols from h')]
  by_cases hc : c = 0
  · simp [hc, reset]
  · simp [hc, contCell]

theorem want_outside {rb : RB} {l c : Int} (hg : ¬ rb.inGrid l c) : want rb l c = .keep := if_pos hg

theorem want_inside {rb : RB} {l c : Int} (hg : rb.inGrid l c) :
    want rb l c = wantOf (rb.cell l (runStart rb l c)) (c - runStart rb l c) := if_neg fun hn => hn hg

theorem want_of_isEmpty (rb : RB) (he : IsEmpty rb) (l c : Int) : want rb l c = .keep := by
  by_cases hg : rb.inGrid l c
  · rw [want_inside hg]
    have hg0 : rb.inGrid l 0 := by unfold RB.inGrid at hg ⊢; omega
    have h00 := he l 0 hg0
    simp only [if_true] at h00
    have hs : runStart rb l c = 0 := by
      unfold runStart
      by_cases h0 : c = 0
      · subst h0; simp [h00.1]
      · have hc := he l c hg
        simp only [if_neg h0] at hc
        simp [hc.1, hc.2.2]
    simp only [hs, wantOf, h00.1]
  · exact want_outside hg

theorem flushCols_empty (txt : Cell → List Req) (rb : RB) (he : IsEmpty rb) (line : Int)
    (hl : 0 ≤ line ∧ line < rb.lines) (fuel : Nat) (phycol : Int) :
    flushCols txt rb line (fuel + 1) 0 phycol = ([], .ok) := by
  unfold flushCols
  by_cases hc : (0 : Int) < rb.cols
  · rw [if_neg (fun hn => hn hc)]
    have h0 := he line 0 (by unfold RB.inGrid; omega)
    simp only [if_true] at h0
    simp only [h0.1, h0.2.2]
    cases fuel with
    | zero => unfold flushCols; simp
    | succ n => unfold flushCols; simp
  · rw [if_pos hc]

theorem flushLines_empty (txt : Cell → List Req) (rb : RB) (he : IsEmpty rb) :
    ∀ (n : Nat) (line : Int), 0 ≤ line → line + n ≤ rb.lines → flushLines txt rb n line = ([], .ok) := by
  intro n
  induction n with
  | zero => intro line _ _; rfl
  | succ k ih =>
    intro line h0 h1
    unfold flushLines
    have := flushCols_empty txt rb he line (by omega) rb.cols.toNat (-1)
    simp only [this, andThen, List.nil_append]
    exact ih (line + 1) (by omega) (by omega)

theorem flushLines_isEmpty (txt : Cell → List Req) (rb : RB) (he : IsEmpty rb) :
    flushLines txt rb rb.lines.toNat 0 = ([], .ok) := by
  by_cases hl : 0 ≤ rb.lines
  · exact flushLines_empty txt rb he rb.lines.toNat 0 (by omega) (by omega)
  · rw [show rb.lines.toNat = 0 by omega]; rfl

theorem reset_depth (rb : RB) (hd : rb.depth = rb.stack.length) : (reset rb).depth = 0 := by
  simp only [reset]
  cases hs : rb.stack with
  | nil => simp [hs] at hd ⊢; exact hd
  | cons f fs => simp

end Tickit.RBFlush
