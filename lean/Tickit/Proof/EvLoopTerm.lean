import Tickit.Model.EvLoopTerm
/-
  `tickit_term_observe_sigwinch` next to the default event loop (Model/EvLoopTerm.lean): the function leaves the
  signal mask as it found it; while the loop keeps SIGWINCH blocked (it watches it) and other terminals keep
  observing, a terminal that joins or leaves the observers changes nothing the loop can see.
-/
namespace Tickit.EvLoop

theorem blocked_sigRecord (st : St) (s : Int) : (sigRecord st s).blocked = st.blocked := by
  unfold sigRecord; cases st.observer <;> rfl

theorem blocked_raiseSig (st : St) (s : Int) : (raiseSig st s).blocked = st.blocked := by
  unfold raiseSig
  refine iteInduction (motive := fun x => St.blocked x = st.blocked) (fun _ => rfl) fun _ => ?_
  refine iteInduction (motive := fun x => St.blocked x = st.blocked) (fun _ => rfl) fun _ => ?_
  refine iteInduction (motive := fun x => St.blocked x = st.blocked) (fun _ => blocked_sigRecord st s) fun _ => ?_
  exact iteInduction (motive := fun x => St.blocked x = st.blocked) (fun _ => rfl) fun _ => rfl

theorem blocked_restoreFold (l : List Int) : ∀ (st : St),
    (l.foldl (fun st s => raiseSig { st with kpending := setErase s st.kpending } s) st).blocked = st.blocked := by
  induction l with
  | nil => intro st; rfl
  | cons s l ih =>
    intro st
    rw [List.foldl_cons, ih, blocked_raiseSig]

theorem blocked_restoreMask (st : St) (old : List Int) : (restoreMask st old).blocked = old := by
  unfold restoreMask
  rw [blocked_restoreFold]

theorem blocked_termObserveBody (obs : List Nat) (st : St) (tt : Nat) (observe : Bool) :
    (termObserveBody obs st tt observe).2.blocked = st.blocked := by
  unfold termObserveBody
  split
  · dsimp only; split <;> rfl
  · split
    · dsimp only; split <;> rfl
    · rfl

theorem termObserve_restores_mask (obs : List Nat) (st : St) (tt : Nat) (observe : Bool) :
    (termObserve obs st tt observe).2.blocked = st.blocked := by
  unfold termObserve
  exact blocked_restoreMask _ _

theorem setInsert_of_contains (s : Int) (l : List Int) (h : l.contains s = true) : setInsert s l = l := by
  unfold setInsert; rw [if_pos h]

theorem restoreMask_same (st : St) (hp : ∀ s ∈ st.kpending, st.blocked.contains s = true) :
    restoreMask st st.blocked = st := by
  unfold restoreMask
  have : (st.kpending.filter fun s => !st.blocked.contains s) = [] := by
    rw [List.filter_eq_nil_iff]
    intro s hs
    have := hp s hs
    simpa using this
  rw [this]
  rfl

theorem termObserve_transparent (obs : List Nat) (st : St) (tt : Nat) (observe : Bool)
    (hb : st.blocked.contains SIGWINCH = true) (hp : ∀ s ∈ st.kpending, st.blocked.contains s = true)
    (h1 : obs.isEmpty = false) (h2 : (obs.erase tt).isEmpty = false) :
    (termObserve obs st tt observe).2 = st := by
  have e : ({ st with blocked := setInsert SIGWINCH st.blocked } : St) = st := by
    rw [setInsert_of_contains _ _ hb]
  unfold termObserve
  rw [e]
  have b : (termObserveBody obs st tt observe).2 = st := by
    unfold termObserveBody
    split
    · dsimp only; rw [h1]; rfl
    · split
      · dsimp only; rw [h2]; rfl
      · rfl
  rw [b]
  exact restoreMask_same st hp

end Tickit.EvLoop
