import Tickit.Model.XTermPenRgb
import Tickit.Proof.XTermCsi
/-
  Pen changes: `ESC [ … m` as the driver renders it is a fold of the SGR interpreter over the parameter list
  (`run_renderSgr`); what the parameter list of a `setpen` / `chpen` does to background and reverse video, for any
  rendering of the background (`run_chpenBytesX`); and the invariant every pen change keeps (`chpenBytes_penInv`).
-/
namespace Tickit.XTermDrv
open Tickit Tickit.VT

/-- One driver parameter fed to the SGR interpreter: a parameter marked `CSI_MORE_SUBPARAM` joins the next one
    in the same group when the terminal takes colons, otherwise it is a parameter of its own. -/
def pstep (colon : Bool) (s : SgrAcc × List (Option Nat)) (p : SgrParam) : SgrAcc × List (Option Nat) :=
  if (p.more && colon) = true then (s.1, s.2 ++ [some p.val.toNat])
  else (sgrStep s.1 (s.2 ++ [some p.val.toNat]), [])

/-- The last parameter closes its group whatever its mark says. -/
def pfinish (s : SgrAcc × List (Option Nat)) : SgrAcc := if s.2 = [] then s.1 else sgrStep s.1 s.2

/-- The digit strings `renderSgr` writes, with their separator flags.  (`joinSep`, `groupsOf` below are `Csi.joinSep` /
    `Csi.groupsOf` for this tokenizer's bytes, `Proof/VTReader.lean`; the proofs unfold those.) -/
def sepOf (colon : Bool) (ps : List SgrParam) : List (List UInt8 × Bool) :=
  ps.map fun p => (showInt p.val, p.more && colon)

theorem renderSgr_eq (colon : Bool) (ps : List SgrParam) : renderSgr colon ps = joinSep (sepOf colon ps) ++ [0x6d] := by
  induction ps with
  | nil => rfl
  | cons p rest ih =>
    cases rest with
    | nil => simp [renderSgr, sepOf, Csi.joinSep]
    | cons q rest =>
      simp only [renderSgr, sepOf, List.map_cons, Csi.joinSep, List.append_assoc]
      simp only [sepOf, List.map_cons] at ih
      rw [ih]
      simp [sepByte, Bool.and_eq_true]

theorem groups_fold (colon : Bool) (ps : List SgrParam) (hne : ps ≠ []) (hnn : ∀ p ∈ ps, 0 ≤ p.val)
    (acc : SgrAcc) (sub : List (Option Nat)) :
    (groupsOf sub (sepOf colon ps)).foldl sgrStep acc = pfinish (ps.foldl (pstep colon) (acc, sub)) := by
  induction ps generalizing acc sub with
  | nil => exact absurd rfl hne
  | cons p rest ih =>
    have hv : paramVal (showInt p.val) = some p.val.toNat := by
      rw [showInt_of_nonneg (hnn p (by simp)), paramVal_showNat]
    cases rest with
    | nil =>
      simp only [sepOf, List.map_cons, List.map_nil, Csi.groupsOf, List.foldl_cons, List.foldl_nil, hv, pstep, pfinish]
      by_cases hf : (p.more && colon) = true
      · simp [hf]
      · simp [hf]
    | cons q rest =>
      have ih' := ih (by simp) (fun x hx => hnn x (by simp [hx]))
      simp only [sepOf, List.map_cons, Csi.groupsOf, hv] at ih' ⊢
      rw [List.foldl_cons (f := pstep colon)]
      by_cases hf : (p.more && colon) = true
      · simp only [hf, if_true, pstep]
        exact ih' acc (sub ++ [some p.val.toNat])
      · simp only [hf, pstep, List.foldl_cons]
        exact ih' (sgrStep acc (sub ++ [some p.val.toNat])) []

theorem run_renderSgr (vt : VTState) (hg : vt.ps = .ground) (colon : Bool) (ps : List SgrParam) (hne : ps ≠ [])
    (hnn : ∀ p ∈ ps, 0 ≤ p.val) :
    run (csi (renderSgr colon ps)) vt =
      { vt with bg := (pfinish (ps.foldl (pstep colon) (⟨vt.bg, vt.rv, .none⟩, []))).bg,
                rv := (pfinish (ps.foldl (pstep colon) (⟨vt.bg, vt.rv, .none⟩, []))).rv } := by
  have h := vtR.run_csi_sep vt hg (sepOf colon ps) (by
    intro x hx b hb
    obtain ⟨q, hq, rfl⟩ := List.mem_map.mp hx
    simp only at hb
    rw [showInt_of_nonneg (hnn q hq)] at hb
    exact decimal_showNat.digits _ b hb) [] (by simp) 0x6d (by decide)
  rw [List.append_nil] at h
  rw [renderSgr_eq, csi, h, dispatch_sgr]
  simp only [VTState.sgr, groups_fold colon ps hne hnn]

theorem run_sgr_reset (vt : VTState) (hg : vt.ps = .ground) :
    run (csi [0x6d]) vt = { vt with bg := -1, rv := false } := by
  rw [vtR.run_csi_0 vt hg 0x6d, dispatch_sgr]
  simp [VTState.sgr, sgrStep]

abbrev PS := SgrAcc × List (Option Nat)

theorem fold_ite {α β : Type} (f : β → α → β) (c : Bool) (l : List α) (s : β) :
    (if c = true then l else []).foldl f s = if c = true then l.foldl f s else s := by
  cases c <;> simp

theorem piece_fg (colon : Bool) (bg : Int) (rv : Bool) :
    ([⟨39, false⟩] : List SgrParam).foldl (pstep colon) (⟨bg, rv, .none⟩, []) = (⟨bg, rv, .none⟩, []) := rfl

theorem piece_bui (colon : Bool) (bg : Int) (rv : Bool) :
    ([⟨22, false⟩, ⟨24, false⟩, ⟨23, false⟩] : List SgrParam).foldl (pstep colon) (⟨bg, rv, .none⟩, []) =
      (⟨bg, rv, .none⟩, []) := rfl

theorem piece_tail (colon : Bool) (bg : Int) (rv : Bool) :
    ([⟨29, false⟩, ⟨10, false⟩, ⟨25, false⟩, ⟨75, false⟩] : List SgrParam).foldl (pstep colon) (⟨bg, rv, .none⟩, []) =
      (⟨bg, rv, .none⟩, []) := rfl

theorem piece_rv (colon : Bool) (bg : Int) (rv v : Bool) :
    ([⟨if v = true then 7 else 27, false⟩] : List SgrParam).foldl (pstep colon) (⟨bg, rv, .none⟩, []) =
      (⟨bg, v, .none⟩, []) := by
  cases v <;> rfl

theorem pstep_plain (colon : Bool) (s : SgrAcc) (v : Int) :
    pstep colon (s, []) ⟨v, false⟩ = (sgrStep s [some v.toNat], []) := rfl

theorem sgrStep_bg_basic (bg : Int) (rv : Bool) (n : Nat) (h : 40 ≤ n ∧ n ≤ 47) :
    sgrStep ⟨bg, rv, .none⟩ [some n] = ⟨((n - 40 : Nat) : Int), rv, .none⟩ := by
  simp only [sgrStep, Option.getD_some, ne_eq, not_true_eq_false, if_false]
  rw [if_neg (by omega), if_neg (by omega), if_neg (by omega), if_pos h]

theorem sgrStep_bg_bright (bg : Int) (rv : Bool) (n : Nat) (h : 100 ≤ n ∧ n ≤ 107) :
    sgrStep ⟨bg, rv, .none⟩ [some n] = ⟨((n - 100 + 8 : Nat) : Int), rv, .none⟩ := by
  simp only [sgrStep, Option.getD_some, ne_eq, not_true_eq_false, if_false]
  rw [if_neg (by omega), if_neg (by omega), if_neg (by omega), if_neg (by omega), if_pos h]

theorem bgParams_elim (v : Int) {P : List SgrParam → Prop} (hdef : v < 0 → P [⟨49, false⟩])
    (hbasic : 0 ≤ v → v < 8 → P [⟨40 + v, false⟩]) (hbright : 8 ≤ v → v < 16 → P [⟨40 + 60 + v - 8, false⟩])
    (hidx : 16 ≤ v → P [⟨48, true⟩, ⟨5, true⟩, ⟨v, false⟩]) : P (bgParams v) := by
  unfold bgParams
  by_cases c0 : v < 0
  · rw [if_pos c0]; exact hdef c0
  · rw [if_neg c0]
    by_cases c1 : v < 8
    · rw [if_pos c1]; exact hbasic (Int.not_lt.mp c0) c1
    · rw [if_neg c1]
      by_cases c2 : v < 16
      · rw [if_pos c2]; exact hbright (Int.not_lt.mp c1) c2
      · rw [if_neg c2]; exact hidx (Int.not_lt.mp c2)

theorem piece_bg (colon : Bool) (bg : Int) (rv : Bool) (v : Int) (h0 : -1 ≤ v) (h1 : v ≤ 255) :
    (bgParams v).foldl (pstep colon) (⟨bg, rv, .none⟩, []) = (⟨v, rv, .none⟩, []) := by
  refine bgParams_elim v (P := fun ps => ps.foldl (pstep colon) (⟨bg, rv, .none⟩, []) = (⟨v, rv, .none⟩, []))
    (fun c0 => ?_) (fun _ c1 => ?_) (fun c1 c2 => ?_) (fun c2 => ?_)
  · obtain rfl : v = -1 := by omega
    rfl
  · rw [List.foldl_cons, List.foldl_nil, pstep_plain, sgrStep_bg_basic _ _ _ (by omega)]
    congr 2; omega
  · rw [List.foldl_cons, List.foldl_nil, pstep_plain, sgrStep_bg_bright _ _ _ (by omega)]
    congr 2; omega
  · have hv : ((v.toNat : Nat) : Int) = v := by omega
    cases colon
    · simp [pstep, sgrStep, hv]
    · simp [pstep, sgrStep, sgrExtBgColon, hv]

theorem bgParams_ne_nil (v : Int) : bgParams v ≠ [] :=
  bgParams_elim v (P := (· ≠ [])) (fun _ => List.cons_ne_nil _ _) (fun _ _ => List.cons_ne_nil _ _) (fun _ _ => List.cons_ne_nil _ _)
    (fun _ => List.cons_ne_nil _ _)

theorem bgParams_nonneg (v : Int) : ∀ p ∈ bgParams v, 0 ≤ p.val := by
  refine bgParams_elim v (P := fun ps => ∀ p ∈ ps, 0 ≤ p.val) (fun _ => ?_) (fun c0 _ => ?_) (fun c1 _ => ?_) (fun c2 => ?_) <;>
    simp only [List.mem_cons, List.mem_nil_iff, or_false, forall_eq_or_imp, forall_eq] <;> omega

/-! The parameter list of a pen change, for any rendering `bgPs` of the background (`setpenParams` is the case
    `bgPs = bgParams v`). -/

theorem setpenParamsX_nonneg (o cb cr : Bool) (ps : List SgrParam) (rvv : Bool) (hps : ∀ p ∈ ps, 0 ≤ p.val) :
    ∀ p ∈ setpenParamsX o cb cr ps rvv, 0 ≤ p.val := by
  intro p hp
  unfold setpenParamsX at hp
  simp only [List.mem_append] at hp
  rcases hp with (((hp | hp) | hp) | hp) | hp
  · cases o <;> simp at hp; subst hp; decide
  · cases cb <;> simp at hp; exact hps p hp
  · cases o <;> simp at hp; rcases hp with hp | hp | hp <;> subst hp <;> decide
  · cases cr <;> simp at hp; subst hp; cases rvv <;> decide
  · cases o <;> simp at hp; rcases hp with hp | hp | hp | hp <;> subst hp <;> decide

theorem setpenParamsX_fold (colon o cb cr : Bool) (ps : List SgrParam) (nb : Int) (rvv : Bool)
    (hpiece : ∀ bg rv, ps.foldl (pstep colon) (⟨bg, rv, .none⟩, []) = (⟨nb, rv, .none⟩, [])) (bg : Int) (rv : Bool) :
    (setpenParamsX o cb cr ps rvv).foldl (pstep colon) (⟨bg, rv, .none⟩, []) =
      (⟨if cb = true then nb else bg, if cr = true then rvv else rv, .none⟩, []) := by
  unfold setpenParamsX
  simp only [List.foldl_append, fold_ite, piece_fg, ite_self]
  cases cb
  · cases cr
    · simp only [Bool.false_eq_true, if_false, piece_bui, piece_tail, ite_self]
    · simp only [Bool.false_eq_true, if_false, if_true, piece_bui, piece_rv, piece_tail, ite_self]
  · cases cr
    · simp only [Bool.false_eq_true, if_false, if_true, hpiece, piece_bui, piece_tail, ite_self]
    · simp only [if_true, hpiece, piece_bui, piece_rv, piece_tail, ite_self]

theorem setpenParamsX_eq_nil (o cb cr : Bool) (ps : List SgrParam) (rvv : Bool) (hps : ps ≠ []) :
    setpenParamsX o cb cr ps rvv = [] ↔ (o = false ∧ cb = false ∧ cr = false) := by
  unfold setpenParamsX
  cases o <;> cases cb <;> cases cr <;> simp [hps]

/-- `ps` renders the background, with `nb` what it selects (`hpiece`); `o`: the eight attributes this engine never sets
    are part of the change (with their defaults). -/
theorem run_chpenBytesX (vt : VTState) (hg : vt.ps = .ground) (colon o cb cr : Bool) (ps : List SgrParam) (nb : Int)
    (rvv : Bool) (hne : ps ≠ []) (hnn : ∀ p ∈ ps, 0 ≤ p.val)
    (hpiece : ∀ bg rv, ps.foldl (pstep colon) (⟨bg, rv, .none⟩, []) = (⟨nb, rv, .none⟩, [])) (final : PenCache) :
    run (chpenBytes colon (setpenParamsX o cb cr ps rvv) final) vt =
      if o = false ∧ cb = false ∧ cr = false then vt
      else if final.nondefault = false then { vt with bg := -1, rv := false }
      else { vt with bg := if cb = true then nb else vt.bg, rv := if cr = true then rvv else vt.rv } := by
  unfold chpenBytes
  by_cases hnil : setpenParamsX o cb cr ps rvv = []
  · rw [if_pos hnil, if_pos ((setpenParamsX_eq_nil o cb cr ps rvv hne).mp hnil)]; rfl
  · rw [if_neg hnil, if_neg (fun h => hnil ((setpenParamsX_eq_nil o cb cr ps rvv hne).mpr h))]
    cases hnd : final.nondefault
    · simp only [Bool.not_false, if_true]
      exact run_sgr_reset vt hg
    · simp only [Bool.not_true, Bool.false_eq_true, if_false]
      rw [run_renderSgr vt hg colon _ hnil (setpenParamsX_nonneg o cb cr ps rvv hnn),
        setpenParamsX_fold colon o cb cr ps nb rvv hpiece]
      rfl

theorem run_chpenBytes (vt : VTState) (hg : vt.ps = .ground) (colon o cb cr : Bool) (bgv : Int) (rvv : Bool)
    (h0 : -1 ≤ bgv) (h1 : bgv ≤ 255) (final : PenCache) :
    run (chpenBytes colon (setpenParams o cb cr bgv rvv) final) vt =
      if o = false ∧ cb = false ∧ cr = false then vt
      else if final.nondefault = false then { vt with bg := -1, rv := false }
      else { vt with bg := if cb = true then bgv else vt.bg, rv := if cr = true then rvv else vt.rv } :=
  run_chpenBytesX vt hg colon o cb cr (bgParams bgv) bgv rvv (bgParams_ne_nil bgv) (bgParams_nonneg bgv)
    (fun bg rv => piece_bg colon bg rv bgv h0 h1) final

/-- The five parameters of an RGB8 background (`xd->cap.rgb8`). -/
def rgbParams (c : RGB8) : List SgrParam := [⟨48, true⟩, ⟨2, true⟩, ⟨c.r, true⟩, ⟨c.g, true⟩, ⟨c.b, false⟩]

theorem piece_rgb8 (colon : Bool) (c : RGB8) (bg : Int) (rv : Bool) :
    (rgbParams c).foldl (pstep colon) (⟨bg, rv, .none⟩, []) = (⟨rgbColour c.r c.g c.b, rv, .none⟩, []) := by
  cases colon <;> simp [rgbParams, pstep, sgrStep, sgrExtBgColon]

theorem rgb8_nonneg (c : RGB8) : ∀ p ∈ rgbParams c, 0 ≤ p.val := by
  intro p hp
  simp only [rgbParams, List.mem_cons, List.mem_nil_iff, or_false] at hp
  rcases hp with h | h | h | h | h <;> subst h <;> simp

theorem bgParamsX_rgb (v : Int) (c : RGB8) (h0 : 0 ≤ v) : bgParamsX true v (some c) = rgbParams c := by
  unfold bgParamsX; rw [if_neg (by omega)]; rfl

theorem run_chpenBytes_rgb (vt : VTState) (hg : vt.ps = .ground) (colon o cb cr : Bool) (c : RGB8) (rvv : Bool)
    (final : PenCache) :
    run (chpenBytes colon (setpenParamsX o cb cr (rgbParams c) rvv) final) vt =
      if o = false ∧ cb = false ∧ cr = false then vt
      else if final.nondefault = false then { vt with bg := -1, rv := false }
      else { vt with bg := if cb = true then rgbColour c.r c.g c.b else vt.bg, rv := if cr = true then rvv else vt.rv } :=
  run_chpenBytesX vt hg colon o cb cr (rgbParams c) _ rvv (List.cons_ne_nil _ _) (rgb8_nonneg c) (piece_rgb8 colon c) final

theorem nondefault_of_bg (o : Bool) (v : Int) (r : Option Bool) (h : v ≠ -1) : (PenCache.mk o (some v) r).nondefault = true := by
  simp [PenCache.nondefault, h]

theorem nondefault_false (p : PenCache) (h : p.nondefault = false) :
    (∀ v, p.bg = some v → v = -1) ∧ p.reverse = false := by
  obtain ⟨o, b, r⟩ := p
  simp only [PenCache.nondefault, Bool.or_eq_false_iff] at h
  refine ⟨?_, h.2⟩
  rintro v rfl
  simpa using h.1

theorem penOK_getD (bg : Option Int) (h : ∀ v, bg = some v → -1 ≤ v ∧ v ≤ 255) : -1 ≤ bg.getD (-1) ∧ bg.getD (-1) ≤ 255 := by
  cases bg with
  | none => decide
  | some v => exact h v rfl

/-- The terminal's background and reverse video are those of the pen cached afterwards, provided that pen holds what
    the change asks for (`cb`, `cr`: the attribute is part of the change) and otherwise what the terminal has.
    `setpen`, `chpen` and the pen re-sent by a resume are instances. -/
theorem chpenBytes_penInv (vt : VTState) (hg : vt.ps = .ground) (colon o cb cr : Bool) (bg : Option Int) (rvv : Bool)
    (hok : ∀ v, bg = some v → -1 ≤ v ∧ v ≤ 255) (final : PenCache)
    (hbg : ∀ v, final.bg = some v → v = if cb = true then bg.getD (-1) else vt.bg)
    (hrv : final.reverse = if cr = true then rvv else vt.rv) :
    ∃ bg' rv', run (chpenBytes colon (setpenParams o cb cr (bg.getD (-1)) rvv) final) vt = { vt with bg := bg', rv := rv' } ∧
      Spec.PenInv final { vt with bg := bg', rv := rv' } := by
  rw [run_chpenBytes vt hg colon o cb cr _ rvv (penOK_getD bg hok).1 (penOK_getD bg hok).2]
  by_cases hnil : o = false ∧ cb = false ∧ cr = false
  · rw [if_pos hnil]
    obtain ⟨-, rfl, rfl⟩ := hnil
    exact ⟨vt.bg, vt.rv, rfl, hrv.symm, fun v hv => (hbg v hv).symm⟩
  · rw [if_neg hnil]
    cases hnd : final.nondefault
    · obtain ⟨n1, n2⟩ := nondefault_false final hnd
      rw [if_pos rfl]
      exact ⟨-1, false, rfl, n2.symm, fun v hv => (n1 v hv).symm⟩
    · rw [if_neg (by decide)]
      exact ⟨_, _, rfl, hrv.symm, fun v hv => (hbg v hv).symm⟩

/-- The form for a terminal that agrees with the cache: `final` holds what the change asks for or what the cache held. -/
theorem penChange_penInv (vt : VTState) (hg : vt.ps = .ground) (colon o cb cr : Bool) (bg : Option Int) (rvv : Bool)
    (hok : ∀ v, bg = some v → -1 ≤ v ∧ v ≤ 255) {cache final : PenCache} (hinv : Spec.PenInv cache vt)
    (hb : final.bg = if cb = true then some (bg.getD (-1)) else cache.bg)
    (hr : final.rv = if cr = true then some rvv else cache.rv) :
    ∃ bg' rv', run (chpenBytes colon (setpenParams o cb cr (bg.getD (-1)) rvv) final) vt = { vt with bg := bg', rv := rv' } ∧
      Spec.PenInv final { vt with bg := bg', rv := rv' } := by
  refine chpenBytes_penInv vt hg colon o cb cr bg rvv hok final (fun v hv => ?_) ?_
  · rw [hb] at hv
    split at hv
    · rw [if_pos ‹_›]; exact (Option.some.inj hv).symm
    · rw [if_neg ‹_›]; exact (hinv.2 v hv).symm
  · rw [PenCache.reverse, hr]
    split
    · rfl
    · exact hinv.1.symm

end Tickit.XTermDrv
