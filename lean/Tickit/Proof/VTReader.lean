import Tickit.Model.VT
import Tickit.Proof.Csi
/-
  The tokenizer of the reference terminal as an interface: `Reader` lists what one byte does to a screen whose
  tokenizer is in a given state, and a whole control sequence is read from that alone (`Reader.run_csi_sep`; the
  parameter bytes by `Csi.Reads`).  Every screen type that steps like `VT.step` is an instance (`VT.vtR`; the screen of
  the render-buffer flush), so the driver's strings are read once for all of them.
-/
namespace Tickit.VT

abbrev sepByte (c : Bool) : UInt8 := if c then 0x3a else 0x3b

abbrev paramVal := Csi.value UInt8.toNat

abbrev joinSep := Csi.joinSep sepByte
abbrev groupsOf := Csi.groupsOf UInt8.toNat

theorem isDigit_iff (b : UInt8) : isDigit b = true ↔ 48 ≤ b.toNat ∧ b.toNat ≤ 57 := by
  simp [isDigit, UInt8.le_iff_toNat_le]

/-- `run` interprets bytes over the screen type `σ` one `step` at a time as the reference tokenizer does: `setPs s p` is
    `s` with the tokenizer in state `p`, `exec` what a complete control sequence does, `glyph` what a decoded character
    does.  The operations are indices, not fields, so that an instance's lemmas speak of its own functions. -/
structure Reader {σ : Type} (run : List UInt8 → σ → σ) (step : σ → UInt8 → σ) (ps : σ → PState)
    (setPs : σ → PState → σ) (exec : σ → UInt8 → List (List (Option Nat)) → List UInt8 → UInt8 → σ)
    (glyph : σ → Nat → σ) : Prop where
  run_nil : ∀ s, run [] s = s
  run_cons : ∀ b bs s, run (b :: bs) s = run bs (step s b)
  setPs_self : ∀ s p, ps s = p → setPs s p = s
  esc : ∀ s, ps s = .ground → step s 0x1b = setPs s .esc
  bracket : ∀ s, step (setPs s .esc) 0x5b = setPs s (.csi CsiAcc.empty)
  reads : ∀ s (a : CsiAcc), a.inter = [] →
    Csi.Reads UInt8.toNat step fun acc => setPs s (.csi { a with done := acc.done, sub := acc.sub, cur := acc.cur })
  inter : ∀ s (a : CsiAcc) b, classify b = .inter →
    step (setPs s (.csi a)) b = setPs s (.csi { a with inter := a.inter ++ [b] })
  final : ∀ s (a : CsiAcc) b, classify b = .final →
    step (setPs s (.csi a)) b = exec (setPs s .ground) a.priv a.params a.inter b
  ground : ∀ s n, ps s = .ground → 0x20 ≤ n → n ≠ 0x7f → n < 256 → step s (UInt8.ofNat n) =
    if n < 0x80 then glyph s n
    else if 0xc2 ≤ n ∧ n ≤ 0xdf then setPs s (.utf8 1 (n - 0xc0))
    else if 0xe0 ≤ n ∧ n ≤ 0xef then setPs s (.utf8 2 (n - 0xe0))
    else if 0xf0 ≤ n ∧ n ≤ 0xf4 then setPs s (.utf8 3 (n - 0xf0))
    else glyph s 0xfffd
  cont : ∀ s need acc x, 0x80 ≤ x ∧ x ≤ 0xbf → step (setPs s (.utf8 need acc)) (UInt8.ofNat x) =
    if need ≤ 1 then glyph (setPs s .ground) (acc * 64 + (x - 0x80)) else setPs s (.utf8 (need - 1) (acc * 64 + (x - 0x80)))

namespace Reader
variable {σ : Type} {run : List UInt8 → σ → σ} {step : σ → UInt8 → σ} {ps : σ → PState} {setPs : σ → PState → σ}
  {exec : σ → UInt8 → List (List (Option Nat)) → List UInt8 → UInt8 → σ} {glyph : σ → Nat → σ}
  (R : Reader run step ps setPs exec glyph)
include R

theorem run_append (a b : List UInt8) (s : σ) : run (a ++ b) s = run b (run a s) := by
  induction a generalizing s with
  | nil => rw [List.nil_append, R.run_nil]
  | cons x a ih => rw [List.cons_append, R.run_cons, R.run_cons, ih]

theorem run_eq_foldl (bs : List UInt8) (s : σ) : run bs s = bs.foldl step s := by
  induction bs generalizing s with
  | nil => exact R.run_nil s
  | cons b bs ih => rw [R.run_cons, ih, List.foldl_cons]

theorem run_inter (inter : List UInt8) (hi : ∀ b ∈ inter, classify b = .inter) (s : σ) (a : CsiAcc) :
    run inter (setPs s (.csi a)) = setPs s (.csi { a with inter := a.inter ++ inter }) := by
  induction inter generalizing a with
  | nil => cases a; simp [R.run_nil]
  | cons b rest ih =>
    rw [R.run_cons, R.inter s a b (hi b (by simp)), ih (fun x hx => hi x (by simp [hx]))]
    simp

/-- `ESC [ p ; … : … I F`: the command `F` with the parameter groups the digit strings `p` denote (no private marker). -/
theorem run_csi_sep (s : σ) (hg : ps s = .ground) (qs : List (List UInt8 × Bool))
    (hd : ∀ p ∈ qs, Csi.Digits UInt8.toNat p.1) (inter : List UInt8) (hi : ∀ b ∈ inter, classify b = .inter)
    (f : UInt8) (hf : classify f = .final) :
    run (0x1b :: 0x5b :: (joinSep qs ++ inter ++ [f])) s = exec s 0 (groupsOf [] qs) inter f := by
  obtain ⟨acc, e, h⟩ := (R.reads s CsiAcc.empty rfl).foldl_joinSep (sep := sepByte) rfl rfl qs [] [] hd
  have e' : run (joinSep qs) (setPs s (.csi CsiAcc.empty)) = _ := (R.run_eq_foldl _ _).trans e
  rw [R.run_cons, R.esc s hg, R.run_cons, R.bracket, R.run_append, R.run_append, e', R.run_inter inter hi, R.run_cons,
    R.run_nil, R.final _ _ f hf, R.setPs_self s _ hg]
  exact congrArg (exec s 0 · inter f) h

end Reader
end Tickit.VT
