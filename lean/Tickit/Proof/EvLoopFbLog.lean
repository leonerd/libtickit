import Tickit.Proof.EvLoopFbSig
/-
  The self-pipe configuration: the log only grows (read off `SLStep`), and "visited ⇒ logged" for its instance of the
  shared walk `sigSnapLoopG`.
-/
namespace Tickit.EvLoop.Fb
open Tickit.EvLoop

theorem lg_tick (fuel : Nat) (st : St) (nohang : Bool) : LogExt st (tick fuel st nohang) := (sl_steps.tick sl_iter fuel st nohang).log

theorem lg_run (fuel : Nat) (st : St) : LogExt st (run fuel st) := (sl_steps.run sl_iter fuel st).log

theorem lg_destroyList (t : WType) (l : List Nat) : ∀ st : St, LogExt st (destroyList st t l) :=
  fun st => (sl_destroyList t l st).log

/-- The harness's callback logs its invocation before it does anything else. -/
theorem mem_fireUser (st : St) (k : Int) (flags : Nat) (info : Info) : Ev.cb k flags info ∈ (fireUser st k flags info).log := by
  unfold fireUser
  simp only []
  split
  · exact mem_emit _ _
  · split
    · exact mem_emit _ _
    · rename_i b _
      exact (sl_steps.runActs b.acts _).log.mem (mem_emit st _)

theorem mem_sigCb (fuel : Nat) (st : St) (a : Nat) (s : Int) (hs : (st.getW a).signum = s) (hk : (st.getW a).slot ≥ 0) :
    Ev.cb (st.getW a).slot EV_FIRE .none ∈ (sigCb fuel st a s).log := by
  unfold sigCb
  rw [if_pos hs, if_pos hk]
  exact mem_fireUser _ _ _ _

theorem sigsnap_logged (fuel : Nat) (s : Int) (l : List Nat) : ∀ st : St, SInv st →
    (sigSnapLoopT fuel st s l).1.status = .ok →
    ∀ b ∈ l, b < st.heap.length → b ∈ (sigSnapLoopT fuel st s l).1.signals →
      (st.getW b).signum = s → (st.getW b).slot ≥ 0 →
      Ev.cb (st.getW b).slot EV_FIRE .none ∈ (sigSnapLoopT fuel st s l).1.log := by
  intro st
  unfold sigSnapLoopT
  exact sigsnapG_logged _ s (fun st a => (sl_steps.sigCb fuel st a s).sig) (fun st a => (sl_steps.sigCb fuel st a s).log)
    (fun st a hs hk => mem_sigCb fuel st a s hs hk) l st

end Tickit.EvLoop.Fb
