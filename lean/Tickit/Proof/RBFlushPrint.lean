import Tickit.Proof.RBFlushText
import Tickit.Proof.RBFlush
/-
  C04: what the grid terminal shows after characters were printed on it.  Graphemes and columns of a character list,
  and `putChs_wrote`: characters that start at a grapheme boundary and fit on the line are written column by column as
  their graphemes lay them out — the TEXT, CHAR and LINE cases of the flush all print through it.
-/
namespace Tickit.RBFlush
open Tickit.RB Tickit.RB.Utf8

def gCols : List Grapheme → Int
  | [] => 0
  | g :: gs => g.width + gCols gs

/-- The list starts at a grapheme boundary. -/
def BaseHead (B : List Ch) : Prop := ∀ b rest, B = b :: rest → b.width > 0

theorem graphemesAux_nil (cur : Option Grapheme) : graphemesAux [] cur = cur.toList := by
  cases cur <;> rfl

theorem graphemesAux_cons_zero (c : Ch) (cs : List Ch) (g : Grapheme) (h : c.width = 0) :
    graphemesAux (c :: cs) (some g) = graphemesAux cs (some { g with bytes := g.bytes ++ c.bytes }) := by
  simp [graphemesAux, h]

theorem graphemesAux_cons_zero_none (c : Ch) (cs : List Ch) (h : c.width = 0) :
    graphemesAux (c :: cs) none = graphemesAux cs none := by
  simp [graphemesAux, h]

theorem graphemesAux_cons_base (c : Ch) (cs : List Ch) (cur : Option Grapheme) (h : c.width ≠ 0) :
    graphemesAux (c :: cs) cur = cur.toList ++ graphemesAux cs (some ⟨c.bytes, c.width⟩) := by
  cases cur <;> simp [graphemesAux, h]

theorem graphemesAux_append (A B : List Ch) (hB : BaseHead B) : ∀ cur,
    graphemesAux (A ++ B) cur = graphemesAux A cur ++ graphemesAux B none := by
  induction A with
  | nil =>
    intro cur
    cases B with
    | nil => simp [graphemesAux_nil]
    | cons b B' =>
      have hb := hB b B' rfl
      simp only [List.nil_append]
      rw [graphemesAux_cons_base b B' cur (by omega), graphemesAux_cons_base b B' none (by omega), graphemesAux_nil]
      simp
  | cons a A ih =>
    intro cur
    simp only [List.cons_append]
    by_cases ha : a.width = 0
    · cases cur with
      | none => rw [graphemesAux_cons_zero_none _ _ ha, graphemesAux_cons_zero_none _ _ ha]; exact ih none
      | some g => rw [graphemesAux_cons_zero _ _ _ ha, graphemesAux_cons_zero _ _ _ ha]; exact ih _
    · rw [graphemesAux_cons_base _ _ _ ha, graphemesAux_cons_base _ _ _ ha, ih, List.append_assoc]

theorem gCols_append (X Y : List Grapheme) : gCols (X ++ Y) = gCols X + gCols Y := by
  induction X with
  | nil => simp [gCols]
  | cons g X ih => simp only [List.cons_append, gCols, ih]; omega

theorem gCols_graphemesAux (cs : List Ch) : ∀ cur : Option Grapheme,
    gCols (graphemesAux cs cur) = gCols cur.toList + chCols cs := by
  induction cs with
  | nil => intro cur; rw [graphemesAux_nil]; simp [chCols]
  | cons c cs ih =>
    intro cur
    by_cases hc : c.width = 0
    · cases cur with
      | none => rw [graphemesAux_cons_zero_none _ _ hc, ih]; simp [chCols, hc]
      | some g => rw [graphemesAux_cons_zero _ _ _ hc, ih]; simp [chCols, hc, gCols]
    · rw [graphemesAux_cons_base _ _ _ hc, gCols_append, ih]
      simp only [Option.toList_some, gCols, chCols]
      omega

theorem graphemesAux_width_pos (cs : List Ch) (hw : ∀ c ∈ cs, 0 ≤ c.width) : ∀ cur : Option Grapheme,
    (∀ g ∈ cur.toList, 1 ≤ g.width) → ∀ g ∈ graphemesAux cs cur, 1 ≤ g.width := by
  induction cs with
  | nil => intro cur hcur g hg; rw [graphemesAux_nil] at hg; exact hcur g hg
  | cons c cs ih =>
    intro cur hcur g hg
    obtain ⟨hc0, hw'⟩ := List.forall_mem_cons.1 hw
    by_cases hc : c.width = 0
    · cases cur with
      | none => rw [graphemesAux_cons_zero_none _ _ hc] at hg; exact ih hw' none (by simp) g hg
      | some g0 =>
        rw [graphemesAux_cons_zero _ _ _ hc] at hg
        exact ih hw' _ (by intro g' hg'; simp at hg'; subst hg'; exact hcur g0 (by simp)) g hg
    · rw [graphemesAux_cons_base _ _ _ hc, List.mem_append] at hg
      cases hg with
      | inl h => exact hcur g h
      | inr h => exact ih hw' _ (by intro g' hg'; simp at hg'; subst hg'; simp only; omega) g h

theorem graphemes_cols (cs : List Ch) (hw : ∀ c ∈ cs, 0 ≤ c.width) :
    gCols (graphemesAux cs none) = chCols cs ∧ ∀ g ∈ graphemesAux cs none, 1 ≤ g.width :=
  ⟨(gCols_graphemesAux cs none).trans (Int.zero_add _), graphemesAux_width_pos cs hw none fun _ h => nomatch h⟩

theorem gCols_nonneg (X : List Grapheme) (hX : ∀ g ∈ X, 1 ≤ g.width) : 0 ≤ gCols X := by
  induction X with
  | nil => simp [gCols]
  | cons g X ih =>
    obtain ⟨_, hX'⟩ := List.forall_mem_cons.1 hX
    have := ih hX'
    simp only [gCols]; omega

theorem colGlyph_cons_skip (g : Grapheme) (gs : List Grapheme) (c k : Int) (hg : 1 ≤ g.width)
    (h : c + g.width ≤ k) : colGlyph (g :: gs) c k = colGlyph gs (c + g.width) k := by
  simp only [colGlyph]
  rw [if_neg (by omega), if_neg (by omega), if_neg (by omega)]

theorem colGlyph_cons_first (g : Grapheme) (gs : List Grapheme) (c k : Int) (h1 : c ≤ k) (h2 : k < c + g.width) :
    colGlyph (g :: gs) c k = some (if k = c then .chars g.bytes else .wcont, c, g.width) := by
  simp only [colGlyph]
  rw [if_neg (by omega)]
  by_cases hk : k = c
  · rw [if_pos hk, if_pos hk]
  · rw [if_neg hk, if_pos h2, if_neg hk]

theorem colGlyph_append (X Y : List Grapheme) (hX : ∀ g ∈ X, 1 ≤ g.width) : ∀ (c k : Int), c ≤ k →
    colGlyph (X ++ Y) c k = if k < c + gCols X then colGlyph X c k else colGlyph Y (c + gCols X) k := by
  induction X with
  | nil => intro c k hk; simp [gCols]; intro h; omega
  | cons g X ih =>
    intro c k hk
    obtain ⟨hg, hX'⟩ := List.forall_mem_cons.1 hX
    have hgc : 0 ≤ gCols X := gCols_nonneg X hX'
    have hgX : gCols (g :: X) = g.width + gCols X := rfl
    rw [hgX, List.cons_append]
    by_cases h2 : k < c + g.width
    · rw [if_pos (by omega), colGlyph_cons_first _ _ _ _ hk h2, colGlyph_cons_first _ _ _ _ hk h2]
    · rw [colGlyph_cons_skip _ _ _ _ hg (by omega), ih hX' (c + g.width) k (by omega)]
      by_cases h3 : k < c + g.width + gCols X
      · rw [if_pos h3, if_pos (by omega), colGlyph_cons_skip _ _ _ _ hg (by omega)]
      · rw [if_neg h3, if_neg (by omega)]
        congr 1
        omega

theorem colGlyph_bounds (gs : List Grapheme) (hpos : ∀ g ∈ gs, 1 ≤ g.width) : ∀ (c k : Int) (g : Glyph) (c0 w : Int),
    colGlyph gs c k = some (g, c0, w) → c ≤ c0 ∧ c0 ≤ k ∧ k < c0 + w ∧ c0 + w ≤ c + gCols gs := by
  induction gs with
  | nil => intro c k g c0 w h; simp [colGlyph] at h
  | cons g0 gs ih =>
    intro c k g c0 w h
    obtain ⟨hg, hpos'⟩ := List.forall_mem_cons.1 hpos
    have hrest := gCols_nonneg gs hpos'
    simp only [gCols]
    by_cases h0 : k < c
    · rw [colGlyph, if_pos h0] at h; cases h
    · by_cases h2 : k < c + g0.width
      · rw [colGlyph_cons_first g0 gs c k (by omega) h2] at h
        simp only [Option.some.injEq, Prod.mk.injEq] at h
        omega
      · rw [colGlyph_cons_skip g0 gs c k hg (by omega)] at h
        have := ih hpos' (c + g0.width) k g c0 w h
        omega

theorem colGlyph_shift (gs : List Grapheme) (δ : Int) : ∀ (c k : Int),
    colGlyph gs (c + δ) (k + δ) = (colGlyph gs c k).map fun x => (x.1, x.2.1 + δ, x.2.2) := by
  induction gs with
  | nil => intro c k; rfl
  | cons g gs ih =>
    intro c k
    simp only [colGlyph]
    by_cases h0 : k < c
    · rw [if_pos h0, if_pos (by omega)]; rfl
    · rw [if_neg h0, if_neg (by omega)]
      by_cases h1 : k = c
      · rw [if_pos h1, if_pos (by omega)]; rfl
      · rw [if_neg h1, if_neg (by omega)]
        by_cases h2 : k < c + g.width
        · rw [if_pos h2, if_pos (by omega)]; rfl
        · rw [if_neg h2, if_neg (by omega)]
          rw [show c + δ + g.width = c + g.width + δ by omega]
          exact ih (c + g.width) k

theorem colGlyph_isSome (gs : List Grapheme) (hpos : ∀ g ∈ gs, 1 ≤ g.width) : ∀ (c k : Int),
    c ≤ k → k < c + gCols gs → ∃ x, colGlyph gs c k = some x := by
  induction gs with
  | nil => intro c k h1 h2; simp [gCols] at h2; omega
  | cons g gs ih =>
    intro c k h1 h2
    obtain ⟨hg, hpos'⟩ := List.forall_mem_cons.1 hpos
    simp only [gCols] at h2
    by_cases hk : k < c + g.width
    · exact ⟨_, colGlyph_cons_first g gs c k h1 hk⟩
    · rw [colGlyph_cons_skip g gs c k hg (by omega)]
      exact ih hpos' (c + g.width) k (by omega) (by omega)

theorem colGlyph_head (cs : List Ch) : ∀ (g : Grapheme) (c k : Int), c ≤ k → k < c + g.width →
    ∃ gl, colGlyph (graphemesAux cs (some g)) c k = some (gl, c, g.width) := by
  induction cs with
  | nil =>
    intro g c k h1 h2
    exact ⟨_, colGlyph_cons_first g [] c k h1 h2⟩
  | cons a cs ih =>
    intro g c k h1 h2
    by_cases ha : a.width = 0
    · rw [graphemesAux_cons_zero _ _ _ ha]
      exact ih _ c k h1 h2
    · rw [graphemesAux_cons_base _ _ _ ha]
      exact ⟨_, colGlyph_cons_first g _ c k h1 h2⟩

theorem graphemesAux_base_none (b : Ch) (cs : List Ch) (hb : b.width > 0) :
    graphemesAux (b :: cs) none = graphemesAux cs (some ⟨b.bytes, b.width⟩) := by
  rw [graphemesAux_cons_base _ _ _ (by omega)]; rfl

/-- The glyph in column `q` (from 0) of the characters `M` laid out from the left. -/
def glyphAt (M : List Ch) (q : Int) : Glyph := ((colGlyph (graphemesAux M none) 0 q).map (·.1)).getD .blank

theorem glyphAt_of_colGlyph {M : List Ch} {base k : Int} {x : Glyph × Int × Int}
    (h : colGlyph (graphemesAux M none) base k = some x) : glyphAt M (k - base) = x.1 := by
  have := colGlyph_shift (graphemesAux M none) (-base) base k
  rw [h, show base + -base = 0 by omega, show k + -base = k - base by omega] at this
  rw [glyphAt, this]
  rfl

theorem glyphAt_cons (c : Ch) (M : List Ch) (hc : c.width > 0) (hM : BaseHead M) (q : Int) :
    glyphAt (c :: M) q =
      if q < 0 then .blank else if q = 0 then .chars c.bytes else if q < c.width then .wcont
      else glyphAt M (q - c.width) := by
  have hg : graphemesAux (c :: M) none = ⟨c.bytes, c.width⟩ :: graphemesAux M none := by
    rw [graphemesAux_base_none c M hc]
    exact graphemesAux_append [] M hM _
  have hs := colGlyph_shift (graphemesAux M none) c.width 0 (q - c.width)
  rw [show q - c.width + c.width = q by omega, Int.zero_add] at hs
  simp only [glyphAt, hg, colGlyph, Int.zero_add]
  split
  · rfl
  · split
    · rfl
    · split
      · rfl
      · rw [hs, Option.map_map]; rfl

theorem chCols_nonneg (cs : List Ch) (hw : ∀ c ∈ cs, 0 ≤ c.width) : 0 ≤ chCols cs := by
  induction cs with
  | nil => simp [chCols]
  | cons c cs ih =>
    obtain ⟨_, hw'⟩ := List.forall_mem_cons.1 hw
    have := ih hw'
    simp only [chCols]; omega

theorem chCols_append (a b : List Ch) : chCols (a ++ b) = chCols a + chCols b := by
  induction a with
  | nil => simp [chCols]
  | cons c a ih => simp only [List.cons_append, chCols, ih]; omega

theorem putChs_cons (t : GridTerm) (c : Ch) (cs : List Ch) : t.putChs (c :: cs) = (t.putCh c).putChs cs := rfl

theorem putGlyphRaw_wrote (t : GridTerm) (bs : List UInt8) (w : Int) :
    Wrote t (t.putGlyphRaw bs w) w (fun c => if c = t.col then .chars bs else .wcont) :=
  ⟨rfl, rfl, rfl, fun _ _ h => if_neg h, fun _ h1 h2 => if_pos (And.intro rfl (And.intro h1 h2))⟩

theorem addZeroWidth_putGlyphRaw (t : GridTerm) (bs z : List UInt8) (w : Int) (hw : 1 ≤ w) :
    (t.putGlyphRaw bs w).addZeroWidth z = t.putGlyphRaw (bs ++ z) w := by
  simp only [GridTerm.addZeroWidth, GridTerm.putGlyphRaw, GridTerm.mk.injEq, and_true]
  funext l c
  by_cases h : l = t.line ∧ t.col ≤ c ∧ c < t.col + w
  · by_cases hc : c = t.col
    · simp only [h.1, hc, and_self, if_true, Int.le_refl, show t.col < t.col + w by omega]
    · simp only [h, hc, and_self, and_false, if_true, if_false]
  · have hc : ¬ (l = t.line ∧ c = t.col) := fun hc => h ⟨hc.1, by omega, by omega⟩
    simp only [h, hc, if_false]

/-- Also for a list that starts with zero-width characters (they have nothing to join and are dropped), which
    `putChs_wrote` excludes. -/
theorem putChs_col (cs : List Ch) (hw : ∀ c ∈ cs, 0 ≤ c.width) : ∀ t : GridTerm, t.col + chCols cs ≤ t.cols →
    (t.putChs cs).col = t.col + chCols cs := by
  induction cs with
  | nil => intro t _; simp [GridTerm.putChs, chCols]
  | cons c cs ih =>
    intro t hfit
    obtain ⟨hc0, hw'⟩ := List.forall_mem_cons.1 hw
    have hn := chCols_nonneg cs hw'
    simp only [chCols] at hfit ⊢
    have hc := GridTerm.putCh_col t c (Or.inr (by omega))
    rw [putChs_cons, ih hw' _ (by rw [hc, GridTerm.conf_cols (GridTerm.putCh_conf t c)]; omega), hc]
    omega

/-- Zero-width characters are absorbed one by one into the character before them (on the terminal and in
    `graphemesAux` alike); what is left is one grapheme per character. -/
theorem putChs_wrote_of_length : ∀ (n : Nat) (M : List Ch), M.length ≤ n → (∀ c ∈ M, 0 ≤ c.width) → BaseHead M →
    ∀ t : GridTerm, t.col + chCols M ≤ t.cols → Wrote t (t.putChs M) (chCols M) (fun c => glyphAt M (c - t.col)) := by
  intro n
  induction n with
  | zero =>
    intro M hn _ _ t _
    rw [List.eq_nil_of_length_eq_zero (Nat.le_zero.mp hn)]
    exact Wrote.refl t _
  | succ n ih =>
    intro M hn hw hb t hfit
    cases M with
    | nil => exact Wrote.refl t _
    | cons b M' =>
      have hbw := hb b M' rfl
      obtain ⟨hb0, hw'⟩ := List.forall_mem_cons.1 hw
      have hM' := chCols_nonneg M' hw'
      simp only [chCols] at hfit
      have hputc : ∀ bs cp, t.putCh ⟨bs, cp, b.width⟩ = t.putGlyphRaw bs b.width := fun bs cp => by
        simp only [GridTerm.putCh, if_neg (show ¬ b.width = 0 by omega)]
        exact GridTerm.putGlyph_fit _ _ _ (by omega)
      have hput : t.putCh b = t.putGlyphRaw b.bytes b.width := hputc b.bytes b.cp
      by_cases hz : ∃ z rest, M' = z :: rest ∧ z.width = 0
      · obtain ⟨z, rest, rfl, hz⟩ := hz
        have e1 : t.putChs (b :: z :: rest) = t.putChs (⟨b.bytes ++ z.bytes, b.cp, b.width⟩ :: rest) := by
          have hzw : (t.putGlyphRaw b.bytes b.width).putCh z = (t.putGlyphRaw b.bytes b.width).addZeroWidth z.bytes := by
            simp only [GridTerm.putCh, hz, if_true]
          rw [putChs_cons, putChs_cons, putChs_cons, hput, hzw, addZeroWidth_putGlyphRaw _ _ _ _ (by omega), hputc]
        have e2 : graphemesAux (b :: z :: rest) none = graphemesAux (⟨b.bytes ++ z.bytes, b.cp, b.width⟩ :: rest) none := by
          simp [graphemesAux, hz, show ¬ b.width = 0 by omega]
        have e3 : chCols (b :: z :: rest) = chCols (⟨b.bytes ++ z.bytes, b.cp, b.width⟩ :: rest) := by
          simp only [chCols, hz]; omega
        simp only [glyphAt, e1, e2, e3]
        exact ih (⟨b.bytes ++ z.bytes, b.cp, b.width⟩ :: rest) (by simp only [List.length_cons] at hn ⊢; omega)
          (List.forall_mem_cons.2 ⟨hb0, (List.forall_mem_cons.1 hw').2⟩)
          (fun b' rest' h => by rw [← (List.cons.inj h).1]; exact hbw) t (by rw [← e3]; simp only [chCols]; exact hfit)
      · have hbM : BaseHead M' := fun c rest h => by
          have := hw' c (by rw [h]; simp)
          have : c.width ≠ 0 := fun h0 => hz ⟨c, rest, h, h0⟩
          omega
        have w := ih M' (by simp only [List.length_cons] at hn; omega) hw' hbM (t.putGlyphRaw b.bytes b.width)
          (by show t.col + b.width + chCols M' ≤ t.cols; omega)
        have c1 : (t.putGlyphRaw b.bytes b.width).col = t.col + b.width := rfl
        rw [putChs_cons, hput]
        refine ((putGlyphRaw_wrote t b.bytes b.width).trans c1 w (by omega) hM').congr fun c h1 h2 => ?_
        rw [glyphAt_cons b M' hbw hbM (c - t.col), c1, if_neg (show ¬ c - t.col < 0 by omega)]
        by_cases h0 : c = t.col
        · rw [if_pos (show c < t.col + b.width by omega), if_pos h0, if_pos (show c - t.col = 0 by omega)]
        · rw [if_neg (show ¬ c - t.col = 0 by omega)]
          by_cases hlt : c < t.col + b.width
          · rw [if_pos hlt, if_neg h0, if_pos (show c - t.col < b.width by omega)]
          · rw [if_neg hlt, if_neg (show ¬ c - t.col < b.width by omega),
              show c - t.col - b.width = c - (t.col + b.width) by omega]

theorem putChs_wrote (M : List Ch) (hw : ∀ c ∈ M, 0 ≤ c.width) (hb : BaseHead M) (t : GridTerm)
    (hfit : t.col + chCols M ≤ t.cols) :
    Wrote t (t.putChs M) (chCols M) (fun c => glyphAt M (c - t.col)) ∧ (t.putChs M).col = t.col + chCols M :=
  ⟨putChs_wrote_of_length M.length M (Nat.le_refl _) hw hb t hfit, putChs_col M hw t hfit⟩

theorem nil_of_chCols_zero {M : List Ch} (hw : ∀ c ∈ M, 0 ≤ c.width) (hb : BaseHead M) (h : chCols M = 0) : M = [] := by
  cases M with
  | nil => rfl
  | cons b rest =>
    have := hb b rest rfl
    have := chCols_nonneg rest (List.forall_mem_cons.1 hw).2
    simp only [chCols] at h
    omega

theorem reqBytes_of_ne_zero (ws : Bool) (s : List UInt8) (start : Nat) {len : Nat} (h : len ≠ 0) :
    GridTerm.reqBytes ws s start len = (s.drop start).take len := by
  unfold GridTerm.reqBytes
  rw [if_neg (by simp [h])]

theorem reqBytes_whole (ws : Bool) (bs : List UInt8) (h : bs ≠ []) : GridTerm.reqBytes ws bs 0 bs.length = bs := by
  rw [reqBytes_of_ne_zero ws bs 0 (fun hc => h (List.length_eq_zero_iff.mp hc)), List.drop_zero, List.take_length]

theorem printBytes_chars (M : List Ch) (hp : ∀ c ∈ M, Decoded c) (t : GridTerm) :
    t.printBytes (M.flatMap (·.bytes)) = t.putChs M := by
  unfold GridTerm.printBytes
  have hsd : ∀ c ∈ M, SelfDec c := fun c hc => (hp c hc).selfDec
  have hlen := flatMap_bytes_length_ge M hsd
  have := termDecode_flatten M hsd [] ((M.flatMap (·.bytes)).length + 1) (by omega)
  simp only [List.nil_append, List.length_nil] at this
  rw [this]
  have hmap : (M.map fun c => (⟨c.bytes, c.cp, termWidth c.cp⟩ : Ch)) = M := by
    have : ∀ c ∈ M, (⟨c.bytes, c.cp, termWidth c.cp⟩ : Ch) = c := by
      intro c hc
      obtain ⟨_, h2, h3⟩ := hp c hc
      have : termWidth c.cp = c.width := by
        unfold termWidth
        rw [← h2]
        rw [if_neg (by omega)]
      rw [this]
    rw [List.map_congr_left this, List.map_id']
  rw [hmap]

theorem narrow_props (M : List Ch) (hw : ∀ c ∈ M, c.width = 1) :
    (∀ c ∈ M, 0 ≤ c.width) ∧ BaseHead M ∧ chCols M = M.length ∧
    ∀ i : Nat, i < M.length → glyphAt M i = .chars (M.getD i ⟨[], 0, 0⟩).bytes := by
  induction M with
  | nil => exact ⟨fun _ h => by simp at h, fun _ _ h => by simp at h, rfl, fun i h => by simp at h⟩
  | cons c M ih =>
    obtain ⟨hc, hw'⟩ := List.forall_mem_cons.1 hw
    obtain ⟨i1, i2, i3, i4⟩ := ih hw'
    refine ⟨fun c' h => by rw [hw c' h]; omega, fun b rest h => by rw [← (List.cons.inj h).1, hc]; omega,
      by simp only [chCols, i3, hc, List.length_cons]; omega, fun i hi => ?_⟩
    rw [glyphAt_cons c M (by omega) i2, if_neg (by omega), hc]
    cases i with
    | zero => rfl
    | succ j =>
      rw [if_neg (by omega), if_neg (by omega), show ((j + 1 : Nat) : Int) - 1 = (j : Nat) by omega,
        i4 j (by simp only [List.length_cons] at hi; omega), List.getD_cons_succ]

theorem narrow_print (t : GridTerm) (cs : List Ch)
    (hs : ∀ c ∈ cs, SelfDec c ∧ c.width = 1 ∧ RB.Utf8.wcwidth c.cp = 1) (hne : cs ≠ [])
    (hfit : t.col + cs.length ≤ t.cols) :
    Wrote t (t.run [.print (cs.flatMap (·.bytes)) 0 (cs.flatMap (·.bytes)).length]) cs.length
      (fun c => .chars (cs.getD (c - t.col).toNat ⟨[], 0, 0⟩).bytes) ∧
    (t.run [.print (cs.flatMap (·.bytes)) 0 (cs.flatMap (·.bytes)).length]).col = t.col + cs.length := by
  have hbne : cs.flatMap (·.bytes) ≠ [] := by
    intro hc
    have h1 := flatMap_bytes_length_ge cs fun c hc => (hs c hc).1
    rw [hc] at h1
    exact hne (List.length_eq_zero_iff.mp (Nat.le_zero.mp h1))
  simp only [GridTerm.run, GridTerm.step]
  rw [reqBytes_whole _ _ hbne, printBytes_chars cs fun c hc =>
    ⟨(hs c hc).1, by rw [(hs c hc).2.1, (hs c hc).2.2], Or.inr (Or.inl (hs c hc).2.1)⟩]
  obtain ⟨n1, n2, n3, n4⟩ := narrow_props cs fun c hc => (hs c hc).2.1
  obtain ⟨w, wcol⟩ := putChs_wrote cs n1 n2 t (by rw [n3]; exact hfit)
  rw [n3] at w wcol
  refine ⟨w.congr fun c h1 h2 => ?_, wcol⟩
  have := n4 (c - t.col).toNat (by omega)
  rwa [show (((c - t.col).toNat : Nat) : Int) = c - t.col by omega] at this

end Tickit.RBFlush
