import Tickit.Proof.WinDamage
import Tickit.Proof.WinFlush
/-
  What the composition, `tickit_window_expose` and the invariants read of a window (`view`, `core`, `links`), and stores
  compared through such a reading.  "`t'` is `t` except …" comes in three strengths, each what some operation concludes:
  `SameBut` (the visibility of one window: hide, show) ⇒ `SameButG` (its rectangle too: geometry) ⇒ `SameButC` (the
  window itself and where child lists name it: re-listing).

  Locality of the painter's model: between `SameButC … c` stores the owner of a terminal cell differs only if, going down
  from the root through visible windows, the cell reaches a window listing `c` inside `c`'s old or new area
  (`ownerLoc_local`, top-down); under `WFp` such a cell comes with the context `tickit_window_expose` needs to report it
  as damage (`under_ctx`: the bottom-up `ExposedAt`).  `SameButC.changed` (Proof/WinSteps.lean) joins the two.
-/
namespace Tickit
namespace WinFlush
open WinTree WinRB WinSpec

/-- What the composition and `tickit_window_expose` read of a window. -/
def core (w : Win) : Bool × Bool × Rect × List Id × Option Id × Bool :=
  (w.isVisible, w.freed, w.rect, w.children, w.parent, w.isRoot)

/-- What the composition reads of a window. -/
def view (w : Win) : Bool × Bool × Rect × List Id := (w.isVisible, w.freed, w.rect, w.children)

/-- `core` without the visibility: what `SameBut` keeps of the window it is about. -/
def coreNoVis (w : Win) : Bool × Rect × List Id × Option Id × Bool :=
  (w.freed, w.rect, w.children, w.parent, w.isRoot)

/-- `core` without visibility and rectangle: what `SameButG` keeps of the window it is about. -/
def coreSelf (w : Win) : Bool × List Id × Option Id × Bool := (w.freed, w.children, w.parent, w.isRoot)

/-- `t'` is `t` except possibly for the visibility of window `id` (and attributes nothing here reads). -/
structure SameBut (t t' : Tree) (id : Id) : Prop where
  other : ∀ x, x ≠ id → (t'.wins[x]?).map core = (t.wins[x]?).map core
  self : (t'.wins[id]?).map coreNoVis = (t.wins[id]?).map coreNoVis
  size : t'.wins.size = t.wins.size

structure SameButG (t t' : Tree) (id : Id) : Prop where
  other : ∀ x, x ≠ id → (t'.wins[x]?).map core = (t.wins[x]?).map core
  self : (t'.wins[id]?).map coreSelf = (t.wins[id]?).map coreSelf

/-- What the composition reads of a window once the child `c` is left out of its list. -/
def viewBut (c : Id) (w : Win) : Bool × Bool × Rect × List Id :=
  (w.isVisible, w.freed, w.rect, w.children.filter (fun x => decide (x ≠ c)))

structure SameButC (t t' : Tree) (c : Id) : Prop where
  other : ∀ x, x ≠ c → (t'.wins[x]?).map (viewBut c) = (t.wins[x]?).map (viewBut c)

theorem noVis_of_core {a b : Option Win} (h : a.map core = b.map core) : a.map coreNoVis = b.map coreNoVis :=
  map_eq_of_map_eq (fun p => p.2) (fun _ => rfl) h

theorem SameBut.toG {t t' : Tree} {id : Id} (h : SameBut t t' id) : SameButG t t' id :=
  ⟨h.other, map_eq_of_map_eq (fun x => (x.1, x.2.2)) (fun _ => rfl) h.self⟩

/-- What the structural invariants of the store read of a window: child list, parent pointer, root flag. -/
def links (w : Win) : List Id × Option Id × Bool := (w.children, w.parent, w.isRoot)

theorem links_of_core {t t' : Tree} (h : SameBy core t t') : SameBy links t t' := sameBy_of (fun p => p.2.2.2) (fun _ => rfl) h

theorem SameButG.links {t t' : Tree} {id : Id} (h : SameButG t t' id) : SameBy links t t' := fun x => by
  by_cases hx : x = id
  · subst hx; exact map_eq_of_map_eq (fun p => p.2) (fun _ => rfl) h.self
  · exact map_eq_of_map_eq (fun p => p.2.2.2) (fun _ => rfl) (h.other x hx)

theorem SameButG.size {t t' : Tree} {id : Id} (h : SameButG t t' id) : t'.wins.size = t.wins.size := sameBy_size h.links

theorem SameButG.toC {t t' : Tree} {id : Id} (h : SameButG t t' id) : SameButC t t' id :=
  ⟨fun x hx => map_eq_of_map_eq (fun p => (p.1, p.2.1, p.2.2.1, p.2.2.2.1.filter (fun x => decide (x ≠ id)))) (fun _ => rfl)
    (h.other x hx)⟩

theorem exists_ne_of_findSome?_ne {α β : Type} {f g : α → Option β} {l : List α} (h : l.findSome? f ≠ l.findSome? g) :
    ∃ a ∈ l, f a ≠ g a :=
  Classical.byContradiction fun hno =>
    h (findSome?_congr_mem f g l fun a ha => Classical.byContradiction fun hd => hno ⟨a, ha, hd⟩)

theorem ownerLoc_congr_on {t t' : Tree} (S : Id → Prop)
    (hS : ∀ (x : Id) (w : Win), S x → t.wins[x]? = some w → ∀ ch ∈ w.children, S ch)
    (h : ∀ x, S x → (t'.wins[x]?).map view = (t.wins[x]?).map view) :
    ∀ (fuel : Nat) (id : Id) (l c : Int), S id → ownerLoc t' fuel id l c = ownerLoc t fuel id l c := by
  intro fuel
  induction fuel with
  | zero => intro id l c _; rfl
  | succ n ih =>
    intro id l c hid
    cases ht : t.wins[id]? with
    | none => simp only [ownerLoc, ht, map_eq_none (h id hid) ht]
    | some w =>
      obtain ⟨w', ht', hc⟩ := map_eq_some (h id hid) ht
      simp only [view, Prod.mk.injEq] at hc
      simp only [ownerLoc, ht, ht', hc.1, hc.2.1, hc.2.2.1, hc.2.2.2]
      rw [findSome?_congr_mem _ _ _ fun ch hch => ih ch _ _ (hS id w hid ht ch hch)]

theorem ownerLoc_ne_step {t t' : Tree} {n : Nat} {cur : Id} {l c : Int} {w w' : Win}
    (hw : t.wins[cur]? = some w) (hw' : t'.wins[cur]? = some w')
    (hv : w'.isVisible = w.isVisible) (hf : w'.freed = w.freed) (hr : w'.rect = w.rect)
    (hne : ownerLoc t' (n + 1) cur l c ≠ ownerLoc t (n + 1) cur l c) :
    w.freed = false ∧ w.rect.memb l c = true ∧ w.isVisible = true ∧
      w'.children.findSome? (fun ch => ownerLoc t' n ch (l - w.rect.top) (c - w.rect.left)) ≠
        w.children.findSome? (fun ch => ownerLoc t n ch (l - w.rect.top) (c - w.rect.left)) := by
  simp only [ownerLoc, hw, hw', hv, hf, hr] at hne
  cases hvis : w.isVisible with
  | false => simp [hvis] at hne
  | true =>
    cases hfr : w.freed with
    | true => simp [hvis, hfr] at hne
    | false =>
      cases hm : w.rect.memb l c with
      | false => simp [hvis, hfr, hm] at hne
      | true =>
        refine ⟨rfl, rfl, rfl, fun heq => hne ?_⟩
        rw [heq]

theorem ownerLoc_claims {t : Tree} {n : Nat} {c : Id} {x y : Int} (h : ownerLoc t n c x y ≠ none) : Claims t c x y := by
  cases n with
  | zero => exact absurd rfl h
  | succ k =>
    obtain ⟨o, ho⟩ := Option.ne_none_iff_exists'.1 h
    obtain ⟨w, hw, hv, hf, hm, _⟩ := ownerLoc_some ho
    exact ⟨w, hw, hv, hf, hm⟩

/-- Window `p` lists `c` as a child, in `t` or in `t'`. -/
def Lists (t t' : Tree) (p c : Id) : Prop :=
  p ≠ c ∧ ((∃ w, t.wins[p]? = some w ∧ c ∈ w.children) ∨ (∃ w, t'.wins[p]? = some w ∧ c ∈ w.children))

/-- Going down from `cur` through visible windows the cell reaches a window `p` in whose own coordinates, with `n` levels
    of fuel left for its children, it satisfies `P p n`. -/
def Under (t : Tree) (P : Id → Nat → Int → Int → Prop) : Nat → Id → Int → Int → Prop
  | 0, _, _, _ => False
  | fuel + 1, cur, l, c =>
    ∃ w : Win, t.wins[cur]? = some w ∧ w.freed = false ∧ w.rect.memb l c = true ∧ w.isVisible = true ∧
      (P cur fuel (l - w.rect.top) (c - w.rect.left) ∨
       ∃ ch ∈ w.children, Under t P fuel ch (l - w.rect.top) (c - w.rect.left))

theorem findSome?_filter_ne {α β : Type} [DecidableEq α] (f : α → Option β) (c : α) (l : List α) (h : c ∈ l → f c = none) :
    l.findSome? f = (l.filter (fun x => decide (x ≠ c))).findSome? f := by
  induction l with
  | nil => rfl
  | cons a rest ih =>
    have ih := ih fun hm => h (List.mem_cons_of_mem a hm)
    by_cases ha : a = c
    · subst ha
      simp only [List.findSome?_cons, h List.mem_cons_self, ne_eq, not_true_eq_false, decide_false, List.filter_cons_of_neg,
        Bool.false_eq_true, not_false_eq_true]
      exact ih
    · simp only [List.findSome?_cons, ne_eq, ha, not_false_eq_true, decide_true, List.filter_cons_of_pos]
      cases f a with
      | some o => rfl
      | none => exact ih

theorem ownerLoc_local {t t' : Tree} {c : Id} (h : SameButC t t' c) :
    ∀ (fuel : Nat) (cur : Id) (l k : Int), cur ≠ c → ownerLoc t' fuel cur l k ≠ ownerLoc t fuel cur l k →
      Under t' (fun p n x y => Lists t t' p c ∧ (ownerLoc t n c x y ≠ none ∨ ownerLoc t' n c x y ≠ none)) fuel cur l k := by
  intro fuel
  induction fuel with
  | zero => intro cur l k _ hne; exact absurd rfl hne
  | succ n ih =>
    intro cur l k hcc hne
    cases ht : t.wins[cur]? with
    | none =>
      simp only [ownerLoc, ht, map_eq_none (h.other cur hcc) ht] at hne
      exact absurd rfl hne
    | some w =>
      obtain ⟨w', ht', hc⟩ := map_eq_some (h.other cur hcc) ht
      simp only [viewBut, Prod.mk.injEq] at hc
      obtain ⟨hv, hf, hrr, hch⟩ := hc
      obtain ⟨hfr, hm, hvis, hfs⟩ := ownerLoc_ne_step ht ht' hv hf hrr hne
      refine ⟨w', ht', hf.trans hfr, by rw [hrr]; exact hm, hv.trans hvis, ?_⟩
      rw [hrr]
      apply Classical.or_iff_not_imp_left.2
      intro hP
      -- where `c` is listed it owns the cell in neither store, so both searches may skip it: they run through one list
      have hn : ∀ (s : Tree) (ws : Win), s.wins[cur]? = some ws → (s = t ∨ s = t') → c ∈ ws.children →
          ownerLoc s n c (l - w.rect.top) (k - w.rect.left) = none := fun s ws hws hs hmem =>
        Classical.byContradiction fun hx => hP ⟨⟨hcc, hs.elim (fun e => Or.inl ⟨ws, e ▸ hws, hmem⟩) fun e => Or.inr ⟨ws, e ▸ hws, hmem⟩⟩,
          hs.elim (fun e => Or.inl (e ▸ hx)) fun e => Or.inr (e ▸ hx)⟩
      rw [findSome?_filter_ne _ c w'.children (hn t' w' ht' (Or.inr rfl)),
        findSome?_filter_ne _ c w.children (hn t w ht (Or.inl rfl)), hch] at hfs
      obtain ⟨ch, hmem, hd⟩ := exists_ne_of_findSome?_ne hfs
      have hmem' : ch ∈ w'.children.filter (fun x => decide (x ≠ c)) := hch ▸ hmem
      exact ⟨ch, (List.mem_filter.1 hmem').1, ih ch _ _ (by simpa using (List.mem_filter.1 hmem).2) hd⟩

/-- The parent pointers agree with the child lists. -/
structure WFp (t : Tree) : Prop where
  child : ∀ (cur : Id) (w : Win), t.wins[cur]? = some w → ∀ ch ∈ w.children,
    ∃ cw : Win, t.wins[ch]? = some cw ∧ cw.parent = some cur ∧ cw.isRoot = false

theorem wfp_agree {t t' : Tree} (h : SameBy links t t') (hwf : WFp t) : WFp t' := by
  constructor
  intro cur w' hw' ch hch
  obtain ⟨w, hw, hc⟩ := sameBy_some (sameBy_symm h) hw'
  simp only [links, Prod.mk.injEq] at hc
  obtain ⟨cw, hcw, hcp, hcr⟩ := hwf.child cur w hw ch (by rw [hc.1]; exact hch)
  obtain ⟨cw', hcw', hcc⟩ := sameBy_some h hcw
  simp only [links, Prod.mk.injEq] at hcc
  exact ⟨cw', hcw', by rw [hcc.2.1]; exact hcp, by rw [hcc.2.2]; exact hcr⟩

theorem exposedAt_imp {t t' : Tree} (h : ∀ (x : Id) (w : Win), t.wins[x]? = some w → t'.wins[x]? = some w) :
    ∀ (k k' : Nat), k ≤ k' → ∀ (id : Id) (l c L C : Int), ExposedAt t k id l c L C → ExposedAt t' k' id l c L C := by
  intro k
  induction k with
  | zero => intro k' _ id l c L C hx; exact hx.elim
  | succ n ih =>
    intro k' hk id l c L C hx
    obtain ⟨m, rfl⟩ : ∃ m, k' = m + 1 := ⟨k' - 1, by omega⟩
    obtain ⟨w, hw, hf, h1, h2, h3, h4, hv, hrest⟩ := hx
    exact ⟨w, h id w hw, hf, h1, h2, h3, h4, hv, hrest.imp (fun x => x) fun ⟨hr, p, hp, hy⟩ => ⟨hr, p, hp, ih m (by omega) p _ _ L C hy⟩⟩

theorem exposedAt_mono_le (t : Tree) {k k' : Nat} (hk : k ≤ k') {id : Id} {l c L C : Int}
    (h : ExposedAt t k id l c L C) : ExposedAt t k' id l c L C :=
  exposedAt_imp (fun _ _ h => h) k k' hk id l c L C h

theorem exposedAt_congr {t t' : Tree} (h : t'.wins = t.wins) (k : Nat) (id : Id) (l c L C : Int) :
    ExposedAt t k id l c L C → ExposedAt t' k id l c L C :=
  exposedAt_imp (fun x w hw => by rw [h]; exact hw) k k (Nat.le_refl k) id l c L C

/-- The context of a window on a path from the root: the cell `(l, c)`, in the coordinates of the window's parent
    `po`, is exposed up to the root where it is `(L, C)`; for the root window itself the coordinates are the terminal's. -/
def Ctx (t : Tree) (k : Nat) (po : Option Id) (l c L C : Int) : Prop :=
  match po with
  | none => l = L ∧ c = C
  | some p => ExposedAt t k p l c L C

theorem mem_local {r : Rect} {l c : Int} (h : r.memb l c = true) :
    0 ≤ l - r.top ∧ l - r.top < r.lines ∧ 0 ≤ c - r.left ∧ c - r.left < r.cols := by
  have hm := (Rect.memb_iff _ _ _).1 h
  simp only [Rect.Mem, Rect.bottom, Rect.right] at hm
  omega

theorem exposedAt_of_ctx {t : Tree} {k : Nat} {cur : Id} {w : Win} {l c L C : Int} (hw : t.wins[cur]? = some w)
    (hf : w.freed = false) (hm : w.rect.memb l c = true) (hv : w.isVisible = true) (hroot : w.isRoot = w.parent.isNone)
    (hz : w.parent = none → w.rect.top = 0 ∧ w.rect.left = 0) (hctx : Ctx t k w.parent l c L C) :
    ExposedAt t (k + 1) cur (l - w.rect.top) (c - w.rect.left) L C := by
  obtain ⟨h1, h2, h3, h4⟩ := mem_local hm
  refine ⟨w, hw, hf, h1, h2, h3, h4, hv, ?_⟩
  cases hp : w.parent with
  | none =>
    rw [hp] at hroot hctx
    rw [(hz hp).1, (hz hp).2, Int.sub_zero, Int.sub_zero]
    exact Or.inl ⟨hroot, hctx.1, hctx.2⟩
  | some p =>
    rw [hp] at hroot hctx
    refine Or.inr ⟨hroot, p, rfl, ?_⟩
    rw [Int.sub_add_cancel, Int.sub_add_cancel]
    exact hctx

theorem under_ctx (t : Tree) (hwf : WFp t) (P : Id → Nat → Int → Int → Prop) :
    ∀ (fuel : Nat) (cur : Id) (l c : Int) (k : Nat) (L C : Int) (w : Win),
    t.wins[cur]? = some w → w.isRoot = w.parent.isNone → (w.parent = none → w.rect.top = 0 ∧ w.rect.left = 0) →
    Ctx t k w.parent l c L C → Under t P fuel cur l c →
    ∃ (p : Id) (n : Nat) (x y : Int) (k' : Nat), P p n x y ∧ k' + n ≤ k + fuel ∧ ExposedAt t k' p x y L C := by
  intro fuel
  induction fuel with
  | zero => intro cur l c k L C w _ _ _ _ hu; exact hu.elim
  | succ n ih =>
    intro cur l c k L C w hw hroot hz hctx hu
    obtain ⟨w2, hw2, hf, hm, hv, hcase⟩ := hu
    rw [hw] at hw2; cases hw2
    have hex := exposedAt_of_ctx hw hf hm hv hroot hz hctx
    rcases hcase with hP | ⟨ch, hch, hunder⟩
    · exact ⟨cur, n, _, _, k + 1, hP, by omega, hex⟩
    · obtain ⟨cw, hcw, hcp, hcr⟩ := hwf.child cur w hw ch hch
      obtain ⟨p, m, x, y, k', h1, h2, h3⟩ := ih ch _ _ (k + 1) L C cw hcw (by rw [hcr, hcp]; rfl)
        (by intro hx; rw [hcp] at hx; cases hx) (by rw [hcp]; exact hex) hunder
      exact ⟨p, m, x, y, k', h1, by omega, h3⟩

end WinFlush
end Tickit
