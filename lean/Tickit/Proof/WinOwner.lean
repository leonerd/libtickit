import Tickit.Proof.WinTreeStore
import Tickit.Proof.Rect
import Tickit.Model.WinSpec
/-
  The painter's model of `Model/WinSpec.lean` (a search down the tree) against a walk up the parent chain of one window,
  for any engine that has such a walk (`_scrollrectset`, `_cell_visible`): `own_chain`; `own_shown` supplies its hypothesis `Shown` for the owner of a cell.

  The hypothesis is `Links`, about the windows that have not been destroyed only: `ownerLoc` returns `none` at a destroyed
  window before it reads anything else of it, so nothing need be known of the destroyed slots.
-/
namespace Tickit
namespace WinSpec
open WinTree

/-- Parent pointers and child lists of the live windows agree, and a parent has the smaller number.  Weaker than
    `WinTree.Linked`: the record found at the other end (`pw`, `cw`) need not be live. -/
structure Links (t : Tree) : Prop where
  up : ∀ (c : Nat) (cw : Win) (p : Nat), WinTree.Live t c cw → cw.parent = some p →
    p < c ∧ ∃ pw, t.wins[p]? = some pw ∧ c ∈ pw.children
  down : ∀ (p : Nat) (pw : Win) (c : Nat), WinTree.Live t p pw → c ∈ pw.children →
    p < c ∧ ∃ cw, t.wins[c]? = some cw ∧ cw.parent = some p

theorem _root_.Tickit.WinTree.Linked.links {t : Tree} (h : Linked t) : Links t where
  up c cw p hc hp := (h.parent c cw hc p hp).imp_right fun ⟨pw, hpw, hm⟩ => ⟨pw, hpw.1, hm⟩
  down p pw c hp hc := ⟨h.child_lt hp hc, (h.child p pw hp c hc).imp fun _ hcw => ⟨hcw.1.1, hcw.2⟩⟩

/-- The window `s` takes the cell `(x, y)` of its parent's frame from whatever lies below: it is visible, not destroyed,
    and its rectangle covers the cell. -/
def Claims (t : Tree) (s : Id) (x y : Int) : Prop :=
  ∃ sw, t.wins[s]? = some sw ∧ sw.isVisible = true ∧ sw.freed = false ∧ sw.rect.memb x y = true

theorem ownerLoc_none_slot {t : Tree} {id : Id} (h : t.wins[id]? = none) (n : Nat) (x y : Int) : ownerLoc t n id x y = none := by
  cases n with
  | zero => rfl
  | succ k => rw [ownerLoc, h]

theorem ownerLoc_rec {t : Tree} {id : Id} {w : Win} (hw : t.wins[id]? = some w) (n : Nat) (x y : Int) :
    ownerLoc t (n + 1) id x y = if w.isVisible = true ∧ w.freed = false ∧ w.rect.memb x y = true then
      some (match w.children.findSome? (fun ch => ownerLoc t n ch (x - w.rect.top) (y - w.rect.left)) with
        | some o => o
        | none => (id, x - w.rect.top, y - w.rect.left))
      else none := by
  rw [ownerLoc, hw]
  dsimp only
  cases w.isVisible with
  | false => rfl
  | true =>
    cases w.freed with
    | true => rfl
    | false =>
      cases w.rect.memb x y with
      | false => rfl
      | true => cases w.children.findSome? (fun ch => ownerLoc t n ch (x - w.rect.top) (y - w.rect.left)) <;> rfl

/-- Every child of a live window has the larger number: what makes `size + 1` fuel enough for `ownerLoc`. -/
def Younger (t : Tree) : Prop :=
  ∀ (p : Nat) (pw : Win), t.wins[p]? = some pw → pw.freed = false → ∀ c ∈ pw.children, p < c

theorem Links.younger {t : Tree} (hl : Links t) : Younger t := fun p pw hp hf c hc => (hl.down p pw c ⟨hp, hf⟩ hc).1

/-- A destroyed window owns nothing, and below the others the search only meets younger windows. -/
theorem ownerLoc_fuel {t : Tree} (hy : Younger t) : ∀ (n m id : Nat) (x y : Int), t.wins.size ≤ id + n → t.wins.size ≤ id + m →
    ownerLoc t n id x y = ownerLoc t m id x y := by
  have hbig : ∀ (k id : Nat) (x y : Int), t.wins.size ≤ id → ownerLoc t k id x y = none := fun k id x y h =>
    ownerLoc_none_slot (Array.getElem?_eq_none_iff.2 h) k x y
  intro n
  induction n with
  | zero => intro m id x y h1 _; rw [hbig 0 id x y (by omega), hbig m id x y (by omega)]
  | succ n ih =>
    intro m id x y h1 h2
    cases m with
    | zero => rw [hbig _ id x y (by omega), hbig 0 id x y (by omega)]
    | succ m =>
      cases hw : t.wins[id]? with
      | none => rw [ownerLoc_none_slot hw, ownerLoc_none_slot hw]
      | some w =>
        rw [ownerLoc_rec hw, ownerLoc_rec hw]
        by_cases hc : w.isVisible = true ∧ w.freed = false ∧ w.rect.memb x y = true
        · rw [if_pos hc, if_pos hc, findSome?_congr_mem _ _ _ fun ch hch => ih m ch _ _
            (by have := hy id w hw hc.2.1 ch hch; omega) (by have := hy id w hw hc.2.1 ch hch; omega)]
        · rw [if_neg hc, if_neg hc]

/-- `ownerLoc` with the fuel `ownerAt` uses: `own t 0 L C` is `ownerAt t L C` by definition. -/
def own (t : Tree) (id : Id) (x y : Int) : Option (Id × Int × Int) := ownerLoc t (t.wins.size + 1) id x y

theorem ownerIn_eq_loc (t : Tree) : ∀ (k x : Nat) (l c : Int), ownerIn t k x l c = (ownerLoc t k x l c).map (·.1) := by
  intro k
  induction k with
  | zero => intro x l c; rfl
  | succ k ih =>
    intro x l c
    rw [ownerIn, ownerLoc]
    cases t.wins[x]? with
    | none => rfl
    | some w =>
      have e : (fun ch => ownerIn t k ch (l - w.rect.top) (c - w.rect.left)) =
          Option.map (·.1) ∘ fun ch => ownerLoc t k ch (l - w.rect.top) (c - w.rect.left) := funext fun ch => ih ch _ _
      simp only [e, ← List.map_findSome?]
      split
      · rfl
      · split
        · rfl
        · cases List.findSome? (fun ch => ownerLoc t k ch (l - w.rect.top) (c - w.rect.left)) w.children <;> rfl

theorem owner_eq_at (t : Tree) (L C : Int) : owner t L C = (ownerAt t L C).map (·.1) :=
  ownerIn_eq_loc t _ 0 L C

/-- `(x, y)` in `a`'s own coordinates; `cs` are `a`'s children. -/
def subOwn (t : Tree) (a : Id) (cs : List Id) (x y : Int) : Id × Int × Int :=
  match cs.findSome? (fun ch => own t ch x y) with
  | some o => o
  | none => (a, x, y)

theorem own_eq_sub {t : Tree} (hl : Links t) {id : Id} {w : Win} (hw : t.wins[id]? = some w) {x y : Int} :
    own t id x y = if w.isVisible = true ∧ w.freed = false ∧ w.rect.memb x y = true
      then some (subOwn t id w.children (x - w.rect.top) (y - w.rect.left)) else none := by
  unfold own subOwn
  rw [ownerLoc_rec hw, findSome?_congr_mem _ (fun ch => own t ch (x - w.rect.top) (y - w.rect.left)) _ fun ch _ =>
    ownerLoc_fuel hl.younger _ _ ch _ _ (Nat.le_add_left _ _) (Nat.le_trans (Nat.le_succ _) (Nat.le_add_left _ _))]

theorem own_none_iff {t : Tree} (hl : Links t) {s : Id} {x y : Int} : own t s x y = none ↔ ¬ Claims t s x y := by
  cases hs : t.wins[s]? with
  | none => exact ⟨fun _ ⟨_, h, _⟩ => (nomatch hs.symm.trans h), fun _ => ownerLoc_none_slot hs _ x y⟩
  | some sw =>
    rw [own_eq_sub hl hs]
    constructor
    · rintro h ⟨sw', hsw', hc⟩
      cases hs.symm.trans hsw'
      rw [if_pos hc] at h
      cases h
    · exact fun h => if_neg fun hc => h ⟨sw, hs, hc⟩

theorem ownerLoc_some {t : Tree} {n : Nat} {id : Id} {x y : Int} {o : Id × Int × Int} (h : ownerLoc t (n + 1) id x y = some o) :
    ∃ w, t.wins[id]? = some w ∧ w.isVisible = true ∧ w.freed = false ∧ w.rect.memb x y = true ∧
      ((∃ ch ∈ w.children, ownerLoc t n ch (x - w.rect.top) (y - w.rect.left) = some o) ∨
       o = (id, x - w.rect.top, y - w.rect.left)) := by
  cases hw : t.wins[id]? with
  | none => rw [ownerLoc_none_slot hw] at h; cases h
  | some w =>
    rw [ownerLoc_rec hw] at h
    by_cases hc : w.isVisible = true ∧ w.freed = false ∧ w.rect.memb x y = true
    · rw [if_pos hc] at h
      refine ⟨w, rfl, hc.1, hc.2.1, hc.2.2, ?_⟩
      cases hfs : w.children.findSome? (fun c' => ownerLoc t n c' (x - w.rect.top) (y - w.rect.left)) with
      | none =>
        rw [hfs] at h
        exact Or.inr (Option.some.inj h).symm
      | some o' =>
        rw [hfs] at h
        cases h
        obtain ⟨c', hc', hown⟩ := List.exists_of_findSome?_eq_some hfs
        exact Or.inl ⟨c', hc', hown⟩
    · rw [if_neg hc] at h; cases h

/-- `Anc t a w`: `a` is `w` or an ancestor of `w` (the ancestor comes first).  A step carries `p < w`, so that the order
    lemmas need no hypothesis about the store: whoever builds a step has an invariant that gives it. -/
inductive Anc (t : Tree) : Nat → Nat → Prop where
  | refl (w : Nat) : Anc t w w
  | step {a w p : Nat} {ww : Win} : t.wins[w]? = some ww → ww.parent = some p → p < w → Anc t a p → Anc t a w

theorem Anc.parent_up {t : Tree} {c w a : Nat} {cw : Win} (h : Anc t c w) (hc : t.wins[c]? = some cw) (hp : cw.parent = some a)
    (hlt : a < c) : Anc t a w := by
  induction h with
  | refl => exact Anc.step hc hp hlt (Anc.refl a)
  | step hw hpar hl _ ih => exact Anc.step hw hpar hl ih

theorem Anc.trans {t : Tree} {a b c : Nat} (h1 : Anc t a b) (h2 : Anc t b c) : Anc t a c := by
  induction h2 with
  | refl => exact h1
  | step hw hp hl _ ih => exact Anc.step hw hp hl ih

theorem Anc.le {t : Tree} {a w : Nat} (h : Anc t a w) : a ≤ w := by
  induction h with
  | refl => exact Nat.le_refl _
  | step _ _ hl _ ih => exact Nat.le_trans ih (Nat.le_of_lt hl)

theorem Anc.parent_down {t : Tree} {a w p : Nat} {ww : Win} (h : Anc t a w) (hne : a ≠ w) (hw : t.wins[w]? = some ww)
    (hp : ww.parent = some p) : Anc t a p := by
  cases h with
  | refl => exact absurd rfl hne
  | step hw' hp' _ hrest =>
    rw [hw] at hw'; cases hw'
    rw [hp] at hp'; cases hp'
    exact hrest

theorem Anc.unique {t : Tree} {c a w p : Nat} {cw aw : Win} (hc : Anc t c w) (ha : Anc t a w) (hcw : t.wins[c]? = some cw)
    (haw : t.wins[a]? = some aw) (hcp : cw.parent = some p) (hap : aw.parent = some p) (hpc : p < c) (hpa : p < a) : c = a := by
  induction hc generalizing a aw with
  | refl =>
    cases ha with
    | refl => rfl
    | step hw hpar _ hrest =>
      -- `w = c`, its parent is `p`, and `a` is above `p` while `p` is `a`'s parent
      rw [hcw] at hw; cases hw
      rw [hcp] at hpar; cases hpar
      exact absurd hpa (Nat.not_lt.2 (Anc.le hrest))
  | step hw hpar _ hrest ih =>
    cases ha with
    | refl =>
      rw [haw] at hw; cases hw
      rw [hap] at hpar; cases hpar
      exact absurd hpc (Nat.not_lt.2 (Anc.le hrest))
    | step hw' hpar' _ hrest' =>
      rw [hw] at hw'; cases hw'
      rw [hpar] at hpar'; cases hpar'
      exact ih hrest' haw hap hpa

theorem ownerLoc_anc {t : Tree} (hl : Links t) : ∀ {n : Nat} {ch : Id} {x y : Int} {o : Id × Int × Int},
    ownerLoc t n ch x y = some o → Anc t ch o.1 := by
  intro n
  induction n with
  | zero => intro ch x y o h; cases h
  | succ m ih =>
    intro ch x y o h
    obtain ⟨cw, hw, _, hf, _, ⟨c', hc', hown⟩ | ho⟩ := ownerLoc_some h
    · obtain ⟨hlt, ccw, hccw, hcp⟩ := hl.down ch cw c' ⟨hw, hf⟩ hc'
      exact (ih hown).parent_up hccw hcp hlt
    · rw [ho]
      exact Anc.refl ch

theorem subOwn_anc {t : Tree} (hl : Links t) {a : Id} {aw : Win} (haw : WinTree.Live t a aw) (x y : Int) :
    Anc t a (subOwn t a aw.children x y).1 := by
  unfold subOwn
  cases hfs : aw.children.findSome? (fun ch => own t ch x y) with
  | none => exact Anc.refl a
  | some o =>
    obtain ⟨ch, hch, hown⟩ := List.exists_of_findSome?_eq_some hfs
    obtain ⟨hlt, cw, hcw, hcp⟩ := hl.down a aw ch haw hch
    exact (ownerLoc_anc hl hown).parent_up hcw hcp hlt

theorem subOwn_child_ne {t : Tree} (hl : Links t) {win : Id} {ww : Win} (hww : WinTree.Live t win ww) {x y : Int}
    {o : Id × Int × Int} (h : ww.children.findSome? (fun ch => own t ch x y) = some o) : o.1 ≠ win := by
  obtain ⟨ch, hch, hown⟩ := List.exists_of_findSome?_eq_some h
  have h1 := Anc.le (ownerLoc_anc hl hown)
  intro e
  rw [e] at h1
  exact Nat.not_lt.2 h1 (hl.down win ww ch hww hch).1

theorem subOwn_self_iff {t : Tree} (hl : Links t) {win : Id} {ww : Win} (hww : WinTree.Live t win ww) (x y : Int) :
    subOwn t win ww.children x y = (win, x, y) ↔ ∀ ch ∈ ww.children, ¬ Claims t ch x y := by
  simp only [← own_none_iff hl, ← List.findSome?_eq_none_iff]
  unfold subOwn
  cases hfs : ww.children.findSome? (fun ch => own t ch x y) with
  | none => simp
  | some o => exact ⟨fun e => absurd (congrArg Prod.fst e) (subOwn_child_ne hl hww hfs), nofun⟩

theorem prefix_unique {α : Type} (a : α) : ∀ (l1 m1 l2 m2 : List α), l1 ++ a :: l2 = m1 ++ a :: m2 → a ∉ l1 → a ∉ m1 → l1 = m1 := by
  intro l1
  induction l1 with
  | nil =>
    intro m1 l2 m2 h _ hm
    cases m1 with
    | nil => rfl
    | cons b m =>
      simp only [List.nil_append, List.cons_append, List.cons.injEq] at h
      exact absurd (by rw [← h.1]; exact List.mem_cons_self) hm
  | cons x l ih =>
    intro m1 l2 m2 h hl hm
    cases m1 with
    | nil =>
      simp only [List.nil_append, List.cons_append, List.cons.injEq] at h
      exact absurd (by rw [h.1]; exact List.mem_cons_self) hl
    | cons b m =>
      simp only [List.cons_append, List.cons.injEq] at h
      rw [h.1, ih m l2 m2 h.2 (fun hx => hl (List.mem_cons_of_mem _ hx)) (fun hx => hm (List.mem_cons_of_mem _ hx))]

theorem findSome?_append_none {α β : Type} (f : α → Option β) (l1 l2 : List α) (h : ∀ a ∈ l1, f a = none) :
    (l1 ++ l2).findSome? f = l2.findSome? f := by
  rw [List.findSome?_append, List.findSome?_eq_none_iff.2 h]
  rfl

/-- One level of the painter's model seen from below: among the children of `p`, the one on the way to `o` is `a`;
    `p`'s subtree gives the cell to `o` iff no child listed before `a` claims it and `a`'s subtree gives it to `o`. -/
theorem subOwn_level {t : Tree} (hl : Links t) {p a : Nat} {pw aw : Win} (hpw : WinTree.Live t p pw)
    (haw : t.wins[a]? = some aw) (hp : aw.parent = some p) (hlt : p < a) {l1 l2 : List Id}
    (hsplit : pw.children = l1 ++ a :: l2) (hn : a ∉ l1) {X Y : Int} {o : Id × Int × Int} (hao : Anc t a o.1) :
    subOwn t p pw.children X Y = o ↔ (∀ s ∈ l1, ¬ Claims t s X Y) ∧ own t a X Y = some o := by
  simp only [← own_none_iff hl]
  unfold subOwn
  constructor
  · intro hs
    cases hfs : pw.children.findSome? (fun ch => own t ch X Y) with
    | none =>
      rw [hfs] at hs
      subst hs
      exact absurd hlt (Nat.not_lt.2 (Anc.le hao))
    | some o' =>
      rw [hfs] at hs
      simp only at hs
      subst hs
      obtain ⟨m1, ch, m2, hdec, hch, hm1⟩ := List.findSome?_eq_some_iff.1 hfs
      obtain ⟨hpc, chw, hchw, hchp⟩ := hl.down p pw ch hpw (by rw [hdec]; simp)
      have hcha : ch = a := Anc.unique (ownerLoc_anc hl hch) hao hchw haw hchp hp hpc hlt
      subst hcha
      have hnm1 : ch ∉ m1 := fun hx => by rw [hm1 ch hx] at hch; cases hch
      have hl1 : l1 = m1 := prefix_unique ch l1 m1 l2 m2 (by rw [← hsplit, hdec]) hn hnm1
      rw [hl1]
      exact ⟨hm1, hch⟩
  · rintro ⟨h1, h2⟩
    rw [hsplit, findSome?_append_none _ l1 _ h1, List.findSome?_cons, h2]

/-- Walking up from `a`, at no level does a window in front of the chain claim the cell `(x, y)` of `a` (own
    coordinates); "in front" are the windows the parent lists before the chain's window (the model's "earlier siblings over
    later ones").  `True` at fuel 0: it says something only beside `Shown … k` (or `ExposedAt … k`), which is `False`
    there.  It speaks of every way to split the list at `a`; `frontFree_succ` is the step for the one split there is. -/
def FrontFree (t : Tree) : Nat → Id → Int → Int → Prop
  | 0, _, _, _ => True
  | k + 1, a, x, y => ∀ aw, t.wins[a]? = some aw → ∀ p, aw.parent = some p → ∀ pw, t.wins[p]? = some pw →
      (∀ l1 l2, pw.children = l1 ++ a :: l2 → a ∉ l1 → ∀ s ∈ l1, ¬ Claims t s (x + aw.rect.top) (y + aw.rect.left)) ∧
      FrontFree t k p (x + aw.rect.top) (y + aw.rect.left)

theorem frontFree_top {t : Tree} {k : Nat} {a : Id} {aw : Win} (haw : t.wins[a]? = some aw) (hp : aw.parent = none)
    (x y : Int) : FrontFree t (k + 1) a x y := fun aw' haw' p hp' => by
  rw [haw] at haw'; cases haw'; rw [hp] at hp'; cases hp'

theorem frontFree_succ {t : Tree} {k : Nat} {a p : Id} {aw pw : Win} (haw : t.wins[a]? = some aw) (hp : aw.parent = some p)
    (hpw : t.wins[p]? = some pw) {l1 l2 : List Id} (hsplit : pw.children = l1 ++ a :: l2) (hn : a ∉ l1) (x y : Int) :
    FrontFree t (k + 1) a x y ↔
      (∀ s ∈ l1, ¬ Claims t s (x + aw.rect.top) (y + aw.rect.left)) ∧ FrontFree t k p (x + aw.rect.top) (y + aw.rect.left) := by
  constructor
  · intro h
    obtain ⟨h1, h2⟩ := h aw haw p hp pw hpw
    exact ⟨h1 l1 l2 hsplit hn, h2⟩
  · rintro ⟨h1, h2⟩ aw' haw' p' hp' pw' hpw'
    rw [haw] at haw'; cases haw'
    rw [hp] at hp'; cases hp'
    rw [hpw] at hpw'; cases hpw'
    refine ⟨fun m1 m2 hdec hnm => ?_, h2⟩
    rw [← prefix_unique a l1 m1 l2 m2 (by rw [← hsplit, hdec]) hn hnm]
    exact h1

/-- The cell `(x, y)` of window `a` (own coordinates) lies inside `a` and inside every ancestor, none of them destroyed,
    all visible; the parent chain ends in the parentless window `top`, and in the frame `top` is placed in the cell is
    `(X, Y)`. -/
def Shown (t : Tree) : Nat → Id → Int → Int → Id → Int → Int → Prop
  | 0, _, _, _, _, _, _ => False
  | k + 1, a, x, y, top, X, Y =>
    ∃ aw : Win, WinTree.Live t a aw ∧ aw.isVisible = true ∧ 0 ≤ x ∧ x < aw.rect.lines ∧ 0 ≤ y ∧ y < aw.rect.cols ∧
      ((aw.parent = none ∧ a = top ∧ x + aw.rect.top = X ∧ y + aw.rect.left = Y) ∨
       ∃ p, aw.parent = some p ∧ Shown t k p (x + aw.rect.top) (y + aw.rect.left) top X Y)

theorem Shown.mono {t : Tree} : ∀ {k k' : Nat} {a : Id} {x y : Int} {top : Id} {X Y : Int}, Shown t k a x y top X Y → k ≤ k' →
    Shown t k' a x y top X Y := by
  intro k
  induction k with
  | zero => intro k' a x y top X Y h; exact h.elim
  | succ n ih =>
    intro k' a x y top X Y ⟨aw, haw, hv, b1, b2, b3, b4, hrest⟩ hk
    obtain ⟨m, rfl⟩ : ∃ m, k' = m + 1 := ⟨k' - 1, by omega⟩
    exact ⟨aw, haw, hv, b1, b2, b3, b4, hrest.imp_right fun ⟨p, hp, h⟩ => ⟨p, hp, ih h (by omega)⟩⟩

/-- The search is entered at a cell of `cur`'s parent frame that shows at `(X, Y)` or, for the parentless `top`, is it. -/
theorem ownerLoc_shown {t : Tree} (hl : Links t) : ∀ (n : Nat) (cur : Id) (x y : Int) (k : Nat) (top : Id) (X Y : Int) (cw : Win)
    (o : Id × Int × Int), t.wins[cur]? = some cw →
    (match cw.parent with
      | none => cur = top ∧ x = X ∧ y = Y
      | some p => Shown t k p x y top X Y) →
    ownerLoc t n cur x y = some o → Shown t (k + n) o.1 o.2.1 o.2.2 top X Y := by
  intro n
  induction n with
  | zero => intro cur x y k top X Y cw o _ _ h; cases h
  | succ m ih =>
    intro cur x y k top X Y cw o hcw hctx h
    obtain ⟨cw', hcw', hv, hf, hmm, hcase⟩ := ownerLoc_some h
    cases hcw.symm.trans hcw'
    have hb := (Rect.memb_iff _ _ _).1 hmm
    simp only [Rect.Mem, Rect.bottom, Rect.right] at hb
    have hself : Shown t (k + 1) cur (x - cw.rect.top) (y - cw.rect.left) top X Y := by
      refine ⟨cw, ⟨hcw, hf⟩, hv, by omega, by omega, by omega, by omega, ?_⟩
      rw [Int.sub_add_cancel, Int.sub_add_cancel]
      cases hp : cw.parent with
      | none => rw [hp] at hctx; exact Or.inl ⟨rfl, hctx⟩
      | some p => rw [hp] at hctx; exact Or.inr ⟨p, rfl, hctx⟩
    rcases hcase with ⟨c', hc', hown⟩ | ho
    · obtain ⟨_, ccw, hccw, hcp⟩ := hl.down cur cw c' ⟨hcw, hf⟩ hc'
      have := ih c' _ _ (k + 1) top X Y ccw o hccw (by rw [hcp]; exact hself) hown
      rwa [Nat.add_assoc, Nat.add_comm 1 m] at this
    · subst ho
      exact hself.mono (by omega)

theorem own_shown {t : Tree} (hl : Links t) {top : Id} {tw : Win} (htw : t.wins[top]? = some tw) (hp : tw.parent = none)
    {X Y : Int} {o : Id × Int × Int} (h : own t top X Y = some o) : Shown t (t.wins.size + 1) o.1 o.2.1 o.2.2 top X Y := by
  have := ownerLoc_shown hl _ top X Y 0 top X Y tw o htw (by rw [hp]; exact ⟨rfl, rfl, rfl⟩) h
  rwa [Nat.zero_add] at this

/-- Where the cell `(x, y)` of `a` shows at `(X, Y)`, the painter's model gives `(X, Y)` to a window `o` of `a`'s subtree iff
    nothing in front of the chain claims the cell and `a`'s subtree gives it to `o`. -/
theorem own_chain {t : Tree} (hl : Links t) : ∀ (k : Nat) (a : Id) (aw : Win) (x y : Int) (top : Id) (X Y : Int)
    (o : Id × Int × Int), t.wins[a]? = some aw → Shown t k a x y top X Y → Anc t a o.1 →
    (own t top X Y = some o ↔ FrontFree t k a x y ∧ subOwn t a aw.children x y = o) := by
  intro k
  induction k with
  | zero => intro a aw x y top X Y o _ hex; exact hex.elim
  | succ n ih =>
    intro a aw x y top X Y o haw hex hao
    obtain ⟨aw', haw', hv, b1, b2, b3, b4, hrest⟩ := hex
    cases haw.symm.trans haw'.1
    have hself : own t a (x + aw.rect.top) (y + aw.rect.left) = some (subOwn t a aw.children x y) := by
      rw [own_eq_sub hl haw, if_pos ⟨hv, haw'.2, (Rect.memb_iff _ _ _).2 (by
        simp only [Rect.Mem, Rect.bottom, Rect.right]; omega)⟩, Int.add_sub_cancel, Int.add_sub_cancel]
    rcases hrest with ⟨hp, rfl, rfl, rfl⟩ | ⟨p, hp, hexp⟩
    · rw [hself]
      exact ⟨fun h => ⟨frontFree_top haw hp x y, Option.some.inj h⟩, fun h => by rw [h.2]⟩
    · obtain ⟨hlt, pw, hpw, hmem⟩ := hl.up a aw p haw' hp
      have hpl : WinTree.Live t p pw := by
        cases n with
        | zero => exact hexp.elim
        | succ _ => obtain ⟨pw', hpl, _⟩ := hexp; cases hpw.symm.trans hpl.1; exact hpl
      obtain ⟨l1, l2, hsplit, hn⟩ := List.eq_append_cons_of_mem hmem
      rw [ih p pw _ _ top X Y o hpw hexp (hao.parent_up haw hp hlt), subOwn_level hl hpl haw hp hlt hsplit hn hao, hself,
        frontFree_succ haw hp hpw hsplit hn, Option.some.injEq]
      exact ⟨fun ⟨a, b, c⟩ => ⟨⟨b, a⟩, c⟩, fun ⟨⟨b, a⟩, c⟩ => ⟨a, b, c⟩⟩

/-- `FrontFree` reads only the windows on the way up and those listed with them. -/
theorem frontFree_congr_on {t t' : Tree} (S : Id → Prop) (hS : ∀ a, S a → t'.wins[a]? = t.wins[a]?)
    (hup : ∀ a w p, S a → t.wins[a]? = some w → w.parent = some p →
      S p ∧ ∀ pw, t.wins[p]? = some pw → ∀ s ∈ pw.children, t'.wins[s]? = t.wins[s]?) :
    ∀ (k : Nat) (a : Id) (x y : Int), S a → (FrontFree t' k a x y ↔ FrontFree t k a x y) := by
  intro k
  induction k with
  | zero => intro a x y _; exact Iff.rfl
  | succ n ih =>
    intro a x y ha
    simp only [FrontFree, hS a ha]
    refine forall_congr' fun aw => forall_congr' fun haw => forall_congr' fun p => forall_congr' fun hp => ?_
    obtain ⟨hSp, hsib⟩ := hup a aw p ha haw hp
    rw [hS p hSp]
    refine forall_congr' fun pw => forall_congr' fun hpw => and_congr ?_ (ih p _ _ hSp)
    refine forall_congr' fun l1 => forall_congr' fun l2 => forall_congr' fun hsplit => forall_congr' fun _ =>
      forall_congr' fun s => forall_congr' fun hs => ?_
    unfold Claims
    rw [hsib pw hpw s (by rw [hsplit]; exact List.mem_append_left _ hs)]

end WinSpec
end Tickit
