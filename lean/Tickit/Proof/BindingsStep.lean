import Tickit.Proof.Bindings
/-
  C16: what the main theorem (`exec_good`, Proof/BindingsExec.lean) is stated in.  `Step occ st st'`: what a completed task
  that left the owner alive has done to the state; `Post`: that, or the owner destroyed under no walker.  Then the states
  in which a task starts its sub-task, and the arms of `exec` that hand a sub-task one of them as equations.
-/
namespace Tickit.Bindings

@[simp] theorem repaired_skipTomb : Cfg.repaired.skipTomb = true := rfl
@[simp] theorem repaired_wfOneshot : Cfg.repaired.wfOneshot = true := rfl
@[simp] theorem repaired_notifyLast : Cfg.repaired.notifyLast = true := rfl

/-- Which occurrence numbers an event recorded during a task may carry: deliveries (`fire`) and handler returns
    (`leave`) belong to occurrences that start later (`next ≤ o'`), to notifications (`leave … 0 …`), or to the
    occurrence the task itself works for (`occ.1` for deliveries, `occ.2` for returns). -/
def EvOcc (occ : Option Nat × Option Nat) (next : Nat) : Ev → Prop
  | .fire _ o' => next ≤ o' ∨ occ.1 = some o'
  | .leave _ o' _ => o' = 0 ∨ next ≤ o' ∨ occ.2 = some o'
  | _ => True

/-- whatever a task working for `a` may record, a task working for `b` may record too -/
def OccLe (a b : Option Nat × Option Nat) : Prop :=
  (∀ o, a.1 = some o → b.1 = some o) ∧ ∀ o, a.2 = some o → o = 0 ∨ b.2 = some o

theorem OccLe.refl (a : Option Nat × Option Nat) : OccLe a a := ⟨fun _ h => h, fun _ h => Or.inr h⟩
theorem OccLe.of_none (b : Option Nat × Option Nat) : OccLe (none, none) b := ⟨nofun, nofun⟩
theorem OccLe.call (o : Nat) : OccLe (none, some o) (some o, some o) := ⟨nofun, fun _ h => Or.inr h⟩
theorem OccLe.notif (b : Option Nat × Option Nat) : OccLe (none, some 0) b :=
  ⟨nofun, fun _ h => Or.inl (Option.some.inj h).symm⟩

theorem EvOcc.mono {occ : Option Nat × Option Nat} {n n' : Nat} {e : Ev} (h : EvOcc occ n e) (hn : n' ≤ n) : EvOcc occ n' e := by
  cases e with
  | fire k o' => exact h.imp_left (Nat.le_trans hn)
  | leave k o' r => exact h.imp_right (Or.imp_left (Nat.le_trans hn))
  | _ => trivial

theorem EvOcc.weaken {a b : Option Nat × Option Nat} {n : Nat} {e : Ev} (h : EvOcc a n e) (hle : OccLe a b) : EvOcc b n e := by
  cases e with
  | fire k o' => exact h.imp_right (hle.1 o')
  | leave k o' r =>
    rcases h with h | h | h
    · exact Or.inl h
    · exact Or.inr (Or.inl h)
    · exact (hle.2 o' h).imp_right Or.inr
  | _ => trivial

/-- what occurrence `o` recorded between its brackets belongs, seen from outside, to an occurrence not older than `o` -/
theorem EvOcc.close {o : Nat} {e : Ev} (h : EvOcc (some o, some o) (o + 1) e) : EvOcc (none, none) o e := by
  cases e with
  | fire k o' =>
    refine Or.inl ?_
    rcases h with h | h
    · exact Nat.le_of_succ_le h
    · exact Nat.le_of_eq (Option.some.inj h)
  | leave k o' r =>
    rcases h with h | h | h
    · exact Or.inl h
    · exact Or.inr (Or.inl (Nat.le_of_succ_le h))
    · exact Or.inr (Or.inl (Nat.le_of_eq (Option.some.inj h)))
  | _ => trivial

def b2n (b : Bool) : Nat := if b then 1 else 0
@[simp] theorem b2n_true : b2n true = 1 := rfl
@[simp] theorem b2n_false : b2n false = 0 := rfl

theorem b2n_le_one (b : Bool) : b2n b ≤ 1 := by cases b <;> simp

/-- Reference accounting across a completed task that left the owner alive.  Written additively, so that chains of
    such facts are linear arithmetic over the atoms `b2n _.userRef`. -/
structure Life (st st' : St) : Prop where
  refs : st'.refs + b2n st.userRef = st.refs + b2n st'.userRef
  freeze : st'.pen.freeze = st.pen.freeze
  frozen : st'.frozenRefs = st.frozenRefs

theorem Life.same {st st' : St} (hr : st'.refs = st.refs) (hu : st'.userRef = st.userRef)
    (hp : st'.pen.freeze = st.pen.freeze := by rfl) (hf : st'.frozenRefs = st.frozenRefs := by rfl) : Life st st' :=
  ⟨by rw [hr, hu], hp, hf⟩

theorem Life.trans {a b c : St} (h1 : Life a b) (h2 : Life b c) : Life a c := by
  obtain ⟨r1, p1, f1⟩ := h1
  obtain ⟨r2, p2, f2⟩ := h2
  exact ⟨by omega, p2.trans p1, f2.trans f1⟩

/-- `occ` is the occurrence the task itself delivers for (a walker) and the occurrence whose handler it runs (a call),
    if any. -/
structure Step (occ : Option Nat × Option Nat) (st st' : St) : Prop where
  iter : st'.isIter = st.isIter
  /-- while a walker runs nothing is unlinked: the chain only grows at its two ends -/
  keysIter : st.isIter = true → ∃ P A, keys st'.list = P ++ keys st.list ++ A
  occMono : st.nextOcc ≤ st'.nextOcc
  logExt : ∃ seg, st'.log = seg ++ st.log ∧ ∀ e ∈ seg, EvOcc occ st.nextOcc e
  life : Life st st'

theorem Step.mem_keys {occ : Option Nat × Option Nat} {st st' : St} (s : Step occ st st') (hi : st.isIter = true) {k : Nat}
    (hk : k ∈ keys st.list) : k ∈ keys st'.list := by
  obtain ⟨P, A, h⟩ := s.keysIter hi
  rw [h]; simp [hk]

theorem Step.refl (occ : Option Nat × Option Nat) (st : St) : Step occ st st :=
  ⟨rfl, fun _ => ⟨[], [], by simp⟩, Nat.le_refl _, ⟨[], rfl, by simp⟩, Life.same rfl rfl⟩

theorem Step.trans {occ : Option Nat × Option Nat} {a b c : St} (h1 : Step occ a b) (h2 : Step occ b c) : Step occ a c := by
  obtain ⟨s1, hs1, hf1⟩ := h1.logExt
  obtain ⟨s2, hs2, hf2⟩ := h2.logExt
  refine ⟨h2.iter.trans h1.iter, fun hi => ?_, Nat.le_trans h1.occMono h2.occMono,
    ⟨s2 ++ s1, by rw [hs2, hs1, List.append_assoc], ?_⟩, h1.life.trans h2.life⟩
  · obtain ⟨P1, A1, hk1⟩ := h1.keysIter hi
    obtain ⟨P2, A2, hk2⟩ := h2.keysIter (h1.iter.trans hi)
    exact ⟨P2 ++ P1, A1 ++ A2, by rw [hk2, hk1]; simp⟩
  · intro e hm
    rcases List.mem_append.1 hm with hm | hm
    · exact (hf2 e hm).mono h1.occMono
    · exact hf1 e hm

theorem Step.weaken {a b : Option Nat × Option Nat} {st st' : St} (h : Step a st st') (hle : OccLe a b) : Step b st st' :=
  let ⟨s, hs, hf⟩ := h.logExt
  ⟨h.iter, h.keysIter, h.occMono, ⟨s, hs, fun e hm => (hf e hm).weaken hle⟩, h.life⟩

theorem Step.of_keys {occ : Option Nat × Option Nat} {st st' : St} (hi : st'.isIter = st.isIter) (hk : keys st'.list = keys st.list)
    (ho : st.nextOcc ≤ st'.nextOcc) {e : Ev} (hlog : st'.log = e :: st.log)
    (he : EvOcc occ st.nextOcc e)
    (hlife : Life st st' := by exact Life.same rfl rfl) : Step occ st st' :=
  ⟨hi, fun _ => ⟨[], [], by simp [hk]⟩, ho, ⟨[e], by simp [hlog], fun e' hm => by
    simp only [List.mem_singleton] at hm; rw [hm]; exact he⟩, hlife⟩

theorem Step.push {occ : Option Nat × Option Nat} (st : St) {e : Ev} (he : EvOcc occ st.nextOcc e) : Step occ st (st.push e) :=
  Step.of_keys rfl rfl (Nat.le_refl _) rfl he

theorem Step.bind {occ : Option Nat × Option Nat} (st : St) (ev : Int) (first : Bool) (flags : BFlags) (hh : Nat) :
    Step occ st (bindEvent st ev first flags hh) := by
  refine ⟨rfl, fun _ => ?_, Nat.le_refl _, ⟨[_], rfl, fun e he => by rw [List.mem_singleton.1 he]; trivial⟩,
    Life.same rfl rfl⟩
  rw [keys_bindEvent]
  split
  · exact ⟨[st.slotIds.length], [], by simp⟩
  · exact ⟨[], [st.slotIds.length], by simp⟩

theorem Step.of_same {occ : Option Nat × Option Nat} {st st' : St} (hlife : Life st st') (hl : st'.list = st.list := by rfl)
    (hi : st'.isIter = st.isIter := by rfl) (hlog : st'.log = st.log := by rfl) (ho : st'.nextOcc = st.nextOcc := by rfl) :
    Step occ st st' :=
  ⟨hi, fun _ => ⟨[], [], by simp [hl]⟩, by rw [ho]; exact Nat.le_refl _, ⟨[], by simp [hlog], by simp⟩, hlife⟩

theorem Step.drop_ref {occ : Option Nat × Option Nat} {st st2 : St} (s : Step occ { st with refs := st.refs + 1 } st2)
    (h1 : 1 ≤ st2.refs) : Step occ st { st2 with refs := st2.refs - 1 } := by
  obtain ⟨r, p, f⟩ := s.life
  refine ⟨s.iter, s.keysIter, s.occMono, s.logExt, ?_, p, f⟩
  simp only at r ⊢
  omega

def NoDestroy (beh : Behaviour) : Prop := ∀ h n, Action.destroy ∉ (beh h n).acts

/-- Destroying the owner from inside its handlers is harmless when its emitters hold a reference while they run
    the handlers (`Owner.holdsRef`, the code since fix 4d40c98); otherwise the behaviours must not do it. -/
def Safe (own : Owner) (beh : Behaviour) : Prop := own.holdsRef = true ∨ NoDestroy beh

/-- Reference accounting: every open freeze region holds a reference (when the emitters hold references at all), and
    while a walker runs some emitter or closing region holds one more, besides the handlers' own. -/
def RefOk (own : Owner) (st : St) : Prop :=
  (st.frozenRefs = (if own.holdsRef then st.pen.freeze else 0) ∧
   -- a change is remembered only inside a frozen region: `thaw` clears the flag before it delivers the batched occurrence
   (st.pen.freeze = 0 → st.pen.changed = false)) ∧
  (own.holdsRef = true → b2n st.userRef + st.frozenRefs + b2n st.isIter ≤ st.refs)

theorem RefOk.frozen {own : Owner} {st : St} (h : RefOk own st) : st.frozenRefs = if own.holdsRef then st.pen.freeze else 0 := h.1.1
theorem RefOk.unchanged {own : Owner} {st : St} (h : RefOk own st) : st.pen.freeze = 0 → st.pen.changed = false := h.1.2
theorem RefOk.held {own : Owner} {st : St} (h : RefOk own st) :
    own.holdsRef = true → b2n st.userRef + st.frozenRefs + b2n st.isIter ≤ st.refs := h.2

/-- What `exec_good` asks of the state a task starts in.  `False` of `.unref`, `.destroyLoop` and `.unbindLoopOrig`: they are
    never the task of an induction step (an `unref` may destroy the owner, the loops run on a dying or an unrepaired
    chain); what they do is said by `unref_post`, `destroyLoop_post`, `Top.destroy_post`. -/
def TaskOk (own : Owner) (beh : Behaviour) (task : Task) (st : St) : Prop :=
  match task with
  | .emitter _ _ => True
  | .unref => False
  | .pen _ => True
  | .penRegion _ => True
  | .runEvent _ _ => own.holdsRef = true → b2n st.userRef + st.frozenRefs + 1 ≤ st.refs
  | .walk _ _ occ cur => st.isIter = true ∧ (∀ k, cur = some k → k ∈ keys st.list) ∧ occ < st.nextOcc
  | .unbindId id => id ≠ TOMBSTONE
  | .unbindLoopOrig _ _ => False
  | .call key fn fl occ => fn ≠ none ∧ key < st.slotIds.length ∧ ∀ h n, EvOk (Ev.enter key h n fl occ) st.log
  | .acts _ _ as => NoDestroy beh → ∀ a ∈ as, a ≠ Action.destroy
  | .destroyLoop _ => False

/-- The index of a task's `Step`: first the occurrence it may record deliveries for (a walker's own), second the one it
    may record handler returns for (a walker's, or the one a call runs a handler of). -/
def occOf : Task → Option Nat × Option Nat
  | .walk _ _ o _ => (some o, some o)
  | .call _ _ _ occ => (none, some occ)
  | _ => (none, none)

/-- tasks during which the owner may be destroyed (never under a walker) -/
def canDie : Task → Bool
  | .walk _ _ _ _ => false
  | .runEvent _ _ => false
  | _ => true

/-- what is still said of a task in which the owner was destroyed: the trace is well formed and only grew -/
def DeadStep (st st' : St) : Prop := TraceOk st'.log ∧ ∃ seg, st'.log = seg ++ st.log

theorem DeadStep.of_step {occ : Option Nat × Option Nat} {st st1 st2 : St} (s : Step occ st st1) (d : DeadStep st1 st2) :
    DeadStep st st2 :=
  let ⟨seg1, h1, _⟩ := s.logExt
  let ⟨seg2, h2⟩ := d.2
  ⟨d.1, seg2 ++ seg1, by rw [h2, h1, List.append_assoc]⟩

/-- brackets and handler returns are still recorded after the owner is gone -/
theorem DeadStep.push {st st2 : St} (d : DeadStep st st2) (e : Ev) (he : e.key? = none) : DeadStep st (st2.push e) :=
  let ⟨seg, h⟩ := d.2
  ⟨⟨evOk_of_key_none he _, d.1⟩, e :: seg, by simp [St.push, h]⟩

/-- What is claimed of a task: completed, it left the owner alive, with the invariant and a `Step` — or destroyed, which
    happens under no walker. -/
def Post (own : Owner) (task : Task) (st : St) : Res (St × Int) → Prop :=
  Res.Sat fun (st', _) =>
    (st'.dead = false ∧ Inv st' ∧ RefOk own st' ∧ Step (occOf task) st st') ∨
    (st'.dead = true ∧ canDie task = true ∧ st.isIter = false ∧ DeadStep st st')

section
variable {own : Owner} {task : Task} {st st' : St} {r : Int}

theorem Post.ok_alive (h : Inv st') (hro : RefOk own st') (s : Step (occOf task) st st') : Post own task st (.ok (st', r)) :=
  Or.inl ⟨h.alive.2, h, hro, s⟩

theorem Post.ok_dead (hd : st'.dead = true) (hc : canDie task = true) (hni : st.isIter = false) (d : DeadStep st st') :
    Post own task st (.ok (st', r)) :=
  Or.inr ⟨hd, hc, hni, d⟩

theorem Post.alive (h : Post own task st (.ok (st', r)))
    (hi : st.isIter = true ∨ canDie task = false) : Inv st' ∧ RefOk own st' ∧ Step (occOf task) st st' := by
  rcases h with ⟨_, h1, h2, h3⟩ | ⟨_, hc, hni, _⟩
  · exact ⟨h1, h2, h3⟩
  · rcases hi with hi | hi
    · rw [hni] at hi; cases hi
    · rw [hc] at hi; cases hi

theorem Post.seq {t1 : Task} {st1 : St} {r1 : Res (St × Int)} (hw : Post own t1 st1 r1)
    {P : Res (St × Int) → Prop} {k : St → Int → Res (St × Int)} (hf : P .outOfFuel)
    (hk : ∀ st2 r, Post own t1 st1 (.ok (st2, r)) → P (k st2 r)) :
    P (match (generalizing := false) r1 with | .ok (st2, r) => k st2 r | e => e) :=
  hw.cases hf fun p _ hw => hk p.1 p.2 hw

/-- Under a walker the owner does not die: the second alternative of `hc`. -/
theorem Post.trans {t : Task} {st1 : St} {res : Res (St × Int)} (s : Step (occOf task) st st1)
    (hle : OccLe (occOf t) (occOf task)) (hc : canDie task = true ∨ st1.isIter = true) (hw : Post own t st1 res) :
    Post own task st res := by
  refine hw.mono fun p _ hw => ?_
  rcases hw with ⟨hd, h2, hro2, s2⟩ | ⟨hd, _, hni, d⟩
  · exact Or.inl ⟨hd, h2, hro2, s.trans (s2.weaken hle)⟩
  · exact Or.inr ⟨hd, hc.resolve_right (by rw [hni]; simp), s.iter ▸ hni, d.of_step s⟩

end

theorem RefOk.of_eq {own : Owner} {st st' : St} (h : RefOk own st) (hi : st'.isIter = st.isIter) (hu : st'.userRef = st.userRef)
    (hr : st'.refs = st.refs) (hp : st'.pen.freeze = st.pen.freeze := by rfl) (hf : st'.frozenRefs = st.frozenRefs := by rfl)
    (hc : st'.pen.changed = st.pen.changed := by rfl) : RefOk own st' := by
  refine ⟨⟨by rw [hf, hp]; exact h.1.1, by rw [hp, hc]; exact h.1.2⟩, fun ho => ?_⟩
  rw [hu, hr, hi, hf]; exact h.2 ho

theorem Inv.push {st : St} (h : Inv st) (e : Ev) (he : e.key? = none) : Inv (st.push e) :=
  h.of_push rfl rfl rfl (affects_none_of_key_none he) (by rw [he]; nofun) (evOk_of_key_none he _) h.tombIter

theorem Post.push {own : Owner} {task : Task} {st st' : St} {r r' : Int} (hw : Post own task st (.ok (st', r))) (e : Ev)
    (he : e.key? = none) (hocc : EvOcc (occOf task) st'.nextOcc e) : Post own task st (.ok (st'.push e, r')) := by
  rcases hw with ⟨hd, h2, hro2, s2⟩ | ⟨hd, hc, hni, d⟩
  · exact Or.inl ⟨hd, h2.push e he, hro2.of_eq rfl rfl rfl, s2.trans (Step.push st' hocc)⟩
  · exact Or.inr ⟨hd, hc, hni, d.push e he⟩

section
variable {own : Owner} {beh : Behaviour} {st : St}

/-- `run_event`: the guard set, a new occurrence number taken -/
def occSt (st : St) (ev : Int) (wf : Bool) : St :=
  { st with isIter := true, nextOcc := st.nextOcc + 1, log := Ev.occBegin st.nextOcc ev wf :: st.log }

@[simp] theorem occSt_list (st : St) (ev : Int) (wf : Bool) : (occSt st ev wf).list = st.list := rfl
@[simp] theorem occSt_log (st : St) (ev : Int) (wf : Bool) :
    (occSt st ev wf).log = Ev.occBegin st.nextOcc ev wf :: st.log := rfl

theorem occSt_ok {wf : Bool} {ev : Int} (h : Inv st) (hro : RefOk own st) (hok : TaskOk own beh (.runEvent wf ev) st) :
    Inv (occSt st ev wf) ∧ RefOk own (occSt st ev wf) ∧
    TaskOk own beh (.walk wf ev st.nextOcc (firstOf st.list)) (occSt st ev wf) :=
  ⟨h.of_push rfl rfl rfl rfl nofun trivial fun b hb ht => ⟨rfl, (h.tombIter b hb ht).2⟩,
    ⟨hro.1, fun ho => by have := hok ho; simpa [occSt] using this⟩,
    rfl, fun _ hk => firstOf_mem hk, Nat.lt_succ_self _⟩

/-- the walker has decided to deliver to `b`: a one-shot binding is tombstoned before its handler runs -/
def fireSt (st : St) (b : Node) (occ : Nat) : St :=
  { st with
    list := if b.flags.oneshot = true then modifyKey st.list b.key (fun b => { b with id := TOMBSTONE }) else st.list,
    needsDelete := b.flags.oneshot || st.needsDelete, log := Ev.fire b.key occ :: st.log }

@[simp] theorem fireSt_log (st : St) (b : Node) (occ : Nat) : (fireSt st b occ).log = Ev.fire b.key occ :: st.log := rfl
@[simp] theorem fireSt_inv (st : St) (b : Node) (occ : Nat) : (fireSt st b occ).inv = st.inv := rfl

theorem fireSt_ok {b : Node} {occ : Nat} (h : Inv st) (hro : RefOk own st) (hit : st.isIter = true) (hbm : b ∈ st.list)
    (hlive : b.id ≠ TOMBSTONE) :
    Inv (fireSt st b occ) ∧ RefOk own (fireSt st b occ) ∧
    TaskOk own beh (.call b.key b.fn (if b.flags.oneshot = true then EV_FIRE + EV_UNBIND else EV_FIRE) occ) (fireSt st b occ) ∧
    Step (some occ, some occ) st (fireSt st b occ) := by
  refine ⟨?_, hro.of_eq rfl rfl rfl, ⟨h.liveFn b hbm hlive, h.keysLt b hbm, fun hh n => ⟨fun _ => ⟨_, rfl⟩, fun he => ?_⟩⟩,
    Step.of_keys rfl ?_ (Nat.le_refl _) rfl (Or.inr rfl)⟩
  · unfold fireSt
    cases ho : b.flags.oneshot with
    | true =>
      obtain ⟨id, ev', first, hm, _⟩ := h.boundInfo b hbm
      exact h.of_kill hbm (f := fun b => { b with id := TOMBSTONE }) (fun a => ⟨rfl, rfl, rfl⟩) (by simp) rfl rfl rfl
        (not_liveAt_fire_oneshot h.trace ⟨id, ev', first, hm⟩ ho) ((h.liveIff b.key).1 ⟨b, hbm, rfl, hlive⟩) hit (by simp) rfl
    | false =>
      exact h.of_fire_keep hbm hlive ho (by simp) rfl rfl (fun x hx hxt => ⟨hit, by simpa using (h.tombIter x hx hxt).2⟩)
  · split at he <;> simp [EV_FIRE, EV_UNBIND] at he
  · unfold fireSt
    split
    · exact keys_modifyKey _ _ _ (fun _ => rfl)
    · rfl

/-- a handler is entered: its invocation counted, the entry recorded -/
def enterSt (st : St) (key hh fl occ : Nat) : St :=
  { st with inv := fun x => if x = hh then st.inv hh + 1 else st.inv x, log := Ev.enter key hh (st.inv hh) fl occ :: st.log }

theorem enterSt_ok {key hh fl occ : Nat} (h : Inv st) (hro : RefOk own st) (hok : TaskOk own beh (.call key (some hh) fl occ) st) :
    Inv (enterSt st key hh fl occ) ∧ RefOk own (enterSt st key hh fl occ) ∧
    TaskOk own beh (.acts key 0 (if fl / EV_DESTROY % 2 = 1 then [] else (beh hh (st.inv hh)).acts)) (enterSt st key hh fl occ) ∧
    Step (none, some occ) st (enterSt st key hh fl occ) := by
  refine ⟨h.of_push rfl rfl rfl rfl (fun k hk => ?_) (hok.2.2 _ _) h.tombIter, hro.of_eq rfl rfl rfl, fun hb a ha => ?_,
    Step.of_keys rfl rfl (Nat.le_refl _) rfl trivial⟩
  · rw [← Option.some.inj hk]; exact hok.2.1
  · split at ha
    · cases ha
    · rintro rfl; exact hb _ _ ha

/-- `unbind_event_id` has found `b`: unlinked at once, or tombstoned while a walker runs -/
def unbindSt (st : St) (b : Node) : St :=
  { st with
    list := if (!st.isIter) = true then eraseKey st.list b.key
            else modifyKey st.list b.key (fun b => { b with id := TOMBSTONE, ev := -1, fn := none }),
    needsDelete := st.isIter || st.needsDelete, log := Ev.unbindReq b.key :: st.log }

theorem Inv.of_unbind {b : Node} (h : Inv st) (hbm : b ∈ st.list) (hlive : b.id ≠ TOMBSTONE) : Inv (unbindSt st b) := by
  unfold unbindSt
  cases hi : st.isIter with
  | false => exact h.of_erase hbm hlive hi (by simp) rfl rfl
  | true =>
    exact h.of_kill hbm (f := fun b => { b with id := TOMBSTONE, ev := -1, fn := none }) (fun a => ⟨rfl, rfl, rfl⟩)
      (by simp) rfl rfl rfl (not_liveAt_req _ _) ((h.liveIff b.key).1 ⟨b, hbm, rfl, hlive⟩) rfl (by simp) rfl

theorem unbindSt_ok {b : Node} (h : Inv st) (hro : RefOk own st) (hbm : b ∈ st.list) (hlive : b.id ≠ TOMBSTONE) :
    Inv (unbindSt st b) ∧ RefOk own (unbindSt st b) ∧
    (b.flags.unbind = true → ∀ hh, TaskOk own beh (.call b.key (some hh) EV_UNBIND 0) (unbindSt st b)) ∧
    Step (none, none) st (unbindSt st b) := by
  refine ⟨h.of_unbind hbm hlive, hro.of_eq rfl rfl rfl,
    fun hu hh => ⟨nofun, h.keysLt b hbm, fun _ _ => ⟨fun ho => by simp [EV_UNBIND] at ho, fun _ => ?_⟩⟩,
    ⟨rfl, fun hi => ⟨[], [], ?_⟩, Nat.le_refl _, ⟨[Ev.unbindReq b.key], rfl, by simp [EvOcc]⟩, Life.same rfl rfl⟩⟩
  · obtain ⟨id', ev', first, hm, _⟩ := h.boundInfo b hbm
    exact ⟨_, b.flags, rfl, ⟨id', ev', first, List.mem_cons_of_mem _ hm⟩, hu⟩
  · simp only [unbindSt, hi, Bool.not_true, Bool.false_eq_true, if_false, List.nil_append, List.append_nil]
    exact keys_modifyKey _ _ _ (fun _ => rfl)

/-- `freeze(pen)`: a reference (when the emitters hold references), `freezecount++` -/
def freezeSt (own : Owner) (st : St) : St :=
  { st with
    pen := { st.pen with freeze := st.pen.freeze + 1 },
    refs := if own.holdsRef then st.refs + 1 else st.refs,
    frozenRefs := if own.holdsRef then st.frozenRefs + 1 else st.frozenRefs }

theorem freezeSt_ok (h : Inv st) (hro : RefOk own st) : Inv (freezeSt own st) ∧ RefOk own (freezeSt own st) := by
  refine ⟨h.of_same ?_ h.alive.2, ⟨?_, nofun⟩, fun ho => ?_⟩
  · have := h.alive.1
    simp only [freezeSt]; split <;> omega
  · have e := hro.frozen
    simp only [freezeSt]
    cases hh : own.holdsRef <;> simp only [hh, if_true, Bool.false_eq_true, if_false] at e ⊢ <;> omega
  · have := hro.held ho
    simp only [freezeSt, ho, if_true]; omega

/-- `thaw(pen)` up to the delivery of the batched occurrence: `freezecount--`, the `changed` flag as `c` -/
def thawSt (own : Owner) (st : St) (c : Bool) : St :=
  { st with
    pen := { st.pen with freeze := st.pen.freeze - 1, changed := c },
    frozenRefs := if own.holdsRef then st.frozenRefs - 1 else st.frozenRefs }

theorem thawSt_ok {c : Bool} (h : Inv st) (hro : RefOk own st) (hpos : 1 ≤ st.pen.freeze) (hc : st.pen.freeze = 1 → c = false) :
    Inv (thawSt own st c) ∧ RefOk own (thawSt own st c) ∧ TaskOk own beh (.runEvent false 1) (thawSt own st c) := by
  have e := hro.frozen
  have hle : own.holdsRef = true → b2n st.userRef + (st.frozenRefs - 1) + 1 ≤ st.refs := fun ho => by
    have := hro.held ho
    rw [ho] at e
    simp only [if_true] at e
    omega
  refine ⟨h.of_same h.alive.1 h.alive.2, ⟨⟨?_, fun hz => hc (by simp only [thawSt] at hz; omega)⟩, fun ho => ?_⟩, fun ho => ?_⟩
  · simp only [thawSt]
    cases hh : own.holdsRef <;> simp only [hh, if_true, Bool.false_eq_true, if_false] at e ⊢ <;> omega
  · have := hle ho
    have := b2n_le_one st.isIter
    have := hro.held ho
    simp only [thawSt, ho, if_true]; omega
  · simp only [thawSt, ho, if_true]; exact hle ho

/-- The region's body ran between `freeze` and `thaw`: seen from the state before `freeze` — but for the reference the
    region still holds — `thaw` ends a step. -/
theorem Step.thaw {occ : Option Nat × Option Nat} {st2 : St} {c : Bool} (s : Step occ (freezeSt own st) st2) :
    Step occ { st with refs := (freezeSt own st).refs } (thawSt own st2 c) := by
  obtain ⟨r, p, f⟩ := s.life
  refine ⟨s.iter, s.keysIter, s.occMono, s.logExt, r, ?_, ?_⟩
  · simp only [thawSt, freezeSt] at p ⊢; omega
  · simp only [thawSt, freezeSt] at f ⊢
    cases hh : own.holdsRef <;> simp only [hh, if_true, Bool.false_eq_true, if_false] at f ⊢ <;> omega

end

section
variable {own : Owner} {beh : Behaviour}

theorem exec_acts_dead {cfg : Cfg} {fuel : Nat} {self i : Nat} {as : List Action} {st : St} (hd : st.dead = true) :
    exec cfg own beh (fuel + 1) (.acts self i as) st = .ok (st, 0) := by
  cases as with
  | nil => simp [exec]
  | cons a rest => simp [exec, hd]

theorem exec_pen_dead {cfg : Cfg} {fuel : Nat} {steps : List PenStep} {st : St} (hd : st.dead = true) :
    exec cfg own beh (fuel + 1) (.pen steps) st = .ok (st, 0) := by
  cases steps with
  | nil => simp [exec]
  | cons a rest => simp [exec, hd]

theorem exec_runEvent {cfg : Cfg} (f : Nat) (wf : Bool) (ev : Int) (st : St) :
    exec cfg own beh (f + 1) (.runEvent wf ev) st =
      match exec cfg own beh f (.walk wf ev st.nextOcc (firstOf st.list)) (occSt st ev wf) with
      | .ok (st2, r) =>
        if st2.dead then .ub "walker: the owner was freed during the iteration"
        else if !st.isIter && st2.needsDelete then
          .ok ({ st2 with isIter := st.isIter, log := Ev.occEnd st.nextOcc :: st2.log, list := sweep st2.list, needsDelete := false }, r)
        else .ok ({ st2 with isIter := st.isIter, log := Ev.occEnd st.nextOcc :: st2.log }, r)
      | e => e := rfl

theorem exec_call {cfg : Cfg} (f key hh fl occ : Nat) (st : St) :
    exec cfg own beh (f + 1) (.call key (some hh) fl occ) st =
      match exec cfg own beh f (.acts key 0 (if fl / EV_DESTROY % 2 = 1 then [] else (beh hh (st.inv hh)).acts)) (enterSt st key hh fl occ) with
      | .ok (st2, _) => .ok (st2.push (Ev.leave key occ (beh hh (st.inv hh)).ret), (beh hh (st.inv hh)).ret)
      | e => e := rfl

theorem exec_unbindId (f : Nat) {id : Int} {st : St} {b : Node} (hf : findId st.list id = some b) :
    exec Cfg.repaired own beh (f + 1) (.unbindId id) st =
      match (if b.flags.unbind = true then b.fn else none) with
      | none => .ok (unbindSt st b, 0)
      | some hh => match exec Cfg.repaired own beh f (.call b.key (some hh) EV_UNBIND 0) (unbindSt st b) with
        | .ok (st2, _) => .ok (st2, 0)
        | e => e := by
  simp only [exec, repaired_notifyLast, if_true, hf]; rfl

theorem exec_walk (f : Nat) (wf : Bool) (ev : Int) (occ : Nat) {st : St} {b : Node} (hfb : findKey st.list b.key = some b) :
    exec Cfg.repaired own beh (f + 1) (.walk wf ev occ (some b.key)) st =
      if b.ev = ev ∧ b.id ≠ TOMBSTONE then
        match exec Cfg.repaired own beh f (.call b.key b.fn (if b.flags.oneshot = true then EV_FIRE + EV_UNBIND else EV_FIRE) occ)
            (fireSt st b occ) with
        | .ok (st2, r) =>
          if wf && r != 0 then .ok (st2, r)
          else match nextOf st2.list b.key with
            | none => .ub "walker: binding was freed during its handler"
            | some nx => exec Cfg.repaired own beh f (.walk wf ev occ nx) st2
        | e => e
      else match nextOf st.list b.key with
        | none => .ub "walker: unreachable"
        | some nx => exec Cfg.repaired own beh f (.walk wf ev occ nx) st := by
  simp only [exec, hfb, repaired_skipTomb, repaired_wfOneshot, Bool.or_true, Bool.and_true, forall_const]; rfl

end

end Tickit.Bindings
