import Tickit.Proof.EvLoopOnceIter
/-
  C17, "exactly once": `tickit_run`, destruction, the operations of the harness and whole histories keep the bundle
  `B` of Proof/EvLoopOnceB.lean (`b_runOps`); an iteration begun by an operation of the harness is `tick` from the state
  with the log emptied (`applyOp_tick`), whence the theorem about one iteration in the form Props/C17 uses
  (`queued_once_in_iteration`).
-/
namespace Tickit.EvLoop

theorem b_runLoop (D : List Nat) (fuel : Nat) (n : Nat) (st : St) : BStep D st (runLoop fuel n st) :=
  ((bt_base D).on_runLoop fuel (bt_runIter D fuel) n st).bstep

/-- `tickit_watch_cancel` of a watch that is not a timer / deferred callback (the loop's own signal watches). -/
theorem b_watchCancel_other (D : List Nat) (st : St) (a : Nat) (ht : isOneShot (st.getW a).type = false) : BStep D st (watchCancel st a) := by
  intro b
  refine BStep.of_q0 (q0_watchCancel st a) (l_closed.watchCancel st a) (r2_watchCancel _ st a (Or.inl ht) ?_) b
  by_cases ha : a < st.heap.length
  · exact b.k.p3 a ha
  · -- not allocated: `tickit_watch_cancel` reads a freed watch
    have hno : (st.getW a).notify = none := by rw [getW_oob st a (Nat.le_of_not_lt ha)]; rfl
    exact fun l h => by rw [hno] at h; cases h

theorem type_watchSignal (st : St) (signum : Int) (flags : Nat) (slot : Int) :
    st.heap.length < (watchSignal st signum flags slot).1.heap.length ∧
    isOneShot ((watchSignal st signum flags slot).1.getW st.heap.length).type = false := by
  have hm : MH (st.alloc { type := .signal, flags := flags &&& (BIND_UNBIND ||| BIND_DESTROY), slot := slot, signum := signum }).1
      (watchSignal st signum flags slot).1 :=
    (((inert_evloopSignal _ _).mh.trans (q0_setEvi _ _ _).b.h).trans (inert_insertWatch _ _ _ _).mh).trans (inert_with_signals _ _).mh
  exact ⟨Nat.lt_of_lt_of_le (by rw [alloc_len]; omega) hm.len,
    hm.notOneShot (by rw [alloc_len]; omega) (by rw [getW_alloc_new]; rfl)⟩

/-- `tickit_run` once its SIGINT watch `a` has been made (state `S`): the loop, then the cancel of `a`. -/
theorem b_runFrom (D : List Nat) (fuel n : Nat) (S : St) (a : Nat) (ha : a < S.heap.length) (ht : isOneShot (S.getW a).type = false) :
    BStep D S (if !(runLoop fuel n S).isOk then runLoop fuel n S else watchCancel { runLoop fuel n S with inRun := false } a) :=
  of_ite (b_runLoop D fuel n S) fun b =>
    b_watchCancel_other D _ a ((mh_runLoop fuel n S).notOneShot ha ht)
      (BStep.of_same (same_inRun _ _) (b_runLoop _ _ _ _ b))

theorem b_run (D : List Nat) (fuel : Nat) (st : St) : BStep D st (run fuel st) :=
  have tw := type_watchSignal st 2 0 (-5)
  -- facts about the state the loop starts in go through `MH`: comparing it field by field with the state
  -- `tickit_watch_signal` leaves makes the unifier evaluate the constructor
  have hm := (same_runFlags (watchSignal st 2 0 (-5)).1 true true 0).inert.mh
  have h0 : BStep D st { (watchSignal st 2 0 (-5)).1 with stillRunning := true, inRun := true, runPolls := 0 } :=
    BStep.of_q0 (((reg_watchSignal st 2 0 (-5) (by decide)).q0 (by decide)).trans (same_runFlags _ true true 0).inert.q0)
      ((lstep_watchSignal st 2 0 (-5)).trans (g4_run_flags _).lstep)
      ((r2_watchSignal [] st 2 0 (-5)).trans (same_runFlags _ true true 0).inert.r2)
  of_ite (BStep.refl D st) <| h0.trans <|
    b_runFrom D fuel _ _ _ (Nat.lt_of_lt_of_le tw.1 hm.len) (hm.notOneShot tw.1 tw.2)

theorem q0_base : Base Q0 := .ofStill Q0.refl Q0.trans fun h => h.inert.q0

theorem q0_destroy (st : St) : Q0 st (destroy st) := by
  have hc : Q0 st (cancelSigchld st) := by
    unfold cancelSigchld
    cases st.sigchldwatch with
    | some a => exact q0_watchCancel _ _
    | none => exact .refl _
  have hf : ∀ s, Q0 s (destroyFinish s) := fun s => of_ite (Q0.of_eq rfl rfl rfl rfl) (.refl _)
  exact of_ite (.refl _) ((q0_base.destroyBody
    (q0_base.destroyList (fun s t evi => (inert_cancelHook s t evi).q0) q0_free) hc).trans (hf _))

theorem alive_destroy (st : St) : (destroy st).isOk = true → (destroy st).alive = false :=
  iteInduction (motive := fun s : St => s.isOk = true → s.alive = false) (fun c h => by rw [h] at c; cases c) fun _ =>
    iteInduction (motive := fun s : St => s.isOk = true → s.alive = false) (fun _ _ => rfl) (fun c h => absurd h c)

/-- The bundle without `Rep` and `WF`: `tickit_unref` gives up the lists; `b_applyOp` has the two from `wf_applyOp`. -/
abbrev KO (st : St) : Prop := K st ∧ Once none st ∧ Listed [] st ∧ Gone st

theorem B.ko {st : St} (b : B [] st) : KO st := ⟨b.k, b.o, b.li, b.g⟩

theorem ko_destroy (s0 : St) (b0 : B [] s0) (hok : (destroy s0).isOk = true) : KO (destroy s0) :=
  have hdead := alive_destroy s0 hok
  have q := Q.of_q0 (q0_destroy s0)
  ⟨K.of_q q b0.k, Once.none_of_q q b0.k b0.o, fun _ hal => (by rw [hdead] at hal; cases hal),
   fun hal => (by rw [hdead] at hal; cases hal)⟩

theorem ko_applyOp (st : St) (op : Op) (b : B [] st) : (applyOp st op).isOk = true → KO (applyOp st op) := by
  unfold applyOp
  have b0 : B [] ({ st with log := [] } : St) := BStep.of_still (still_with_log st []) b
  generalize ({ st with log := [] } : St) = s0 at b0
  exact applyOp'_cases (P := fun s => s.isOk = true → KO s) s0 op (fun _ h _ => (BStep.of_same h b0).ko)
    (fun a _ => (BStep.of_q (q_runAct s0 a) (l_closed.runAct s0 a) (r2_runAct s0 a b0.k) b0).ko)
    (fun nh _ => (bt_tick [] _ _ nh (BStep.of_same (st := s0) (st' := { s0 with stillRunning := true }) (.of_eq rfl rfl) b0)).1.ko)
    (fun _ => (b_run _ _ _ b0).ko) (fun _ _ => ko_destroy s0 b0)

theorem b_applyOp (st : St) (op : Op) (b : B [] st) (hok : (applyOp st op).status = .ok) : B [] (applyOp st op) := by
  obtain ⟨w, hc⟩ := wf_applyOp st op b.rep.timersPop b.wf hok
  obtain ⟨k, o, li, g⟩ := ko_applyOp st op b ((St.isOk_iff _).mpr hok)
  exact ⟨by rw [hc]; exact b.rep, w, k, o, li, g⟩

/-- `tickit_build` from an arbitrary state `s` (for `build0 cfg`, a concrete record, the same terms make the
    unifier evaluate the constructors). -/
theorem q0_buildFrom (s : St) : Q0 s { (watchSignal (watchIo s (-1) IO_IN 0 (-1)).1 SIGWINCH 0 (-2)).1 with log := [] } :=
  (((reg_watchIo s (-1) IO_IN 0 (-1) (by decide)).q0 (by decide)).trans
    ((reg_watchSignal _ SIGWINCH 0 (-2) (by decide)).q0 (by decide))).trans (still_with_log _ _).inert.q0

theorem r2_buildFrom (s : St) : R2 [] s { (watchSignal (watchIo s (-1) IO_IN 0 (-1)).1 SIGWINCH 0 (-2)).1 with log := [] } :=
  ((r2_watchIo [] s (-1) IO_IN 0 (-1)).trans (r2_watchSignal [] _ SIGWINCH 0 (-2))).trans (still_with_log _ _).inert.r2

theorem b_build (cfg : Config) (hr : Rep cfg) : B [] (build cfg) := by
  obtain ⟨w, hc⟩ := wf_build cfg hr.timersPop
  have k0 : K (build0 cfg) :=
    ⟨fun a ha => (by cases ha), List.nodup_nil, fun r hr => (by cases hr), fun s hs => (by cases hs), fun l hl => (by cases hl),
     fun r hr => (by cases hr), fun x hx => (by cases hx)⟩
  have q := Q.of_q0 (q0_buildFrom (build0 cfg))
  have r := r2_buildFrom (build0 cfg)
  exact ⟨by rw [hc]; exact hr, w, K.of_q q k0, Once.none_of_q q k0 (fun r hr => by cases hr),
    Listed.of_r2E r (fun _ _ a ha => by cases ha), Gone.of_r2 r q k0 (fun _ r hr => by cases hr)⟩

/-- The state an iteration starts from: `tickit_tick` sets `still_running`, the harness empties its log. -/
theorem still_tickStart (s : St) : Still s { s with stillRunning := true, log := [] } := ⟨.of_eq rfl rfl, rfl⟩

theorem applyOp_tick (s : St) (op : Op) (nohang : Bool) (hop : (op = .tick ∧ nohang = true) ∨ (op = .tickhang ∧ nohang = false))
    (hok : s.isOk = true) (hal : s.alive = true) :
    applyOp s op = tick defaultFuel { s with stillRunning := true, log := [] } nohang := by
  have hok1 : (!({ s with log := [] } : St).isOk) ≠ true := by
    show (!s.isOk) ≠ true
    rw [hok]; decide
  have hal1 : (!({ s with log := [] } : St).alive) ≠ true := by
    show (!s.alive) ≠ true
    rw [hal]; decide
  rcases hop with ⟨rfl, rfl⟩ | ⟨rfl, rfl⟩
  · exact (if_neg hok1).trans (if_neg hal1)
  · exact (if_neg hok1).trans (if_neg hal1)

theorem runOps_snoc (cfg : Config) (ops : List Op) (o : Op) : runOps cfg (ops ++ [o]) = applyOp (runOps cfg ops) o := by
  unfold runOps; rw [List.foldl_append]; rfl

theorem B.tickStart {s : St} (b : B [] s) : B [] { s with stillRunning := true, log := [] } :=
  BStep.of_still (still_tickStart s) b

theorem QInv.tickStart {s : St} (q : QInv s) : QInv { s with stillRunning := true, log := [] } :=
  q.grow (still_tickStart s).grow

/-- `timer_once_in_iteration` and `later_once_in_iteration` for a record whose watch is queued: the lists are well formed, so
    being queued gives the type and that the watch is allocated. -/
theorem queued_once_in_iteration (fuel : Nat) (st : St) (nohang : Bool) (b : B [] st) (q : QInv st) (hal : st.alive = true)
    (hok : (tick fuel st nohang).status = .ok) (r : SlotRec) (hr : r ∈ st.slots) (hnc : r.k ∉ (tick fuel st nohang).cancelReq)
    (hq : (r.handle ∈ st.timers ∧ (st.getW r.handle).due.gt (TV.ofUs (phaseClock st nohang)) = false) ∨ r.handle ∈ st.laters) :
    r.fires = 0 ∧ (tick fuel st nohang).live r.handle = false ∧
    ∃ r' ∈ (tick fuel st nohang).slots, r'.k = r.k ∧ r'.handle = r.handle ∧ r'.fires = 1 := by
  rcases hq with ⟨hin, hdue⟩ | hin
  · exact (timer_once_in_iteration fuel st nohang b q hal r hr (b.wf.typ .timer _ hin) (b.wf.live .timer _ hin) hdue hok hnc).2
  · exact (later_once_in_iteration fuel st nohang b hal r hr (b.wf.typ .later _ hin) (b.wf.live .later _ hin) hok hnc).2

theorem b_runOps (cfg : Config) (hr : Rep cfg) (ops : List Op) (hok : (runOps cfg ops).status = .ok) : B [] (runOps cfg ops) :=
  foldl_invariant applyOp status_applyOp_of_not_ok b_applyOp ops _ (b_build cfg hr) hok

end Tickit.EvLoop
