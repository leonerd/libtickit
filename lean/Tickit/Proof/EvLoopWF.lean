import Tickit.Proof.EvLoopSig
import Tickit.Proof.EvLoop
import Tickit.Proof.EvLoopCalls
/-
  Well-formedness of the five watch lists (C17): `WF st` — every list holds distinct, live watches of the
  list's type (so the lists are disjoint).  It holds in every reachable state whose status is ok when the
  timer loop is the repaired one (`timersPop`; the loop as shipped keeps freed timers in `t->timers` while
  callbacks run).  `LStep st st' := timersPop → WF st → (WF st' ∧ only fresh addresses enter any list ∧ cfg kept)` is a
  `Closed` relation over the frame relation `G4`; the timer phase is proved by hand, because freeing a watch is an `LStep`
  only while the watch is in no list.  (`l_*`: the functions of the walk; `lstep_*`, `lfacts_*`: the relation's own leaves.)
  At the end, with `WF`: what `tickit_destroy` leaves in the log, list by list (C17 `destroy_notifies_all_kinds`: `Ready`,
  `ready_step`, `destroy_log`).
-/
namespace Tickit.EvLoop

structure WF (st : St) : Prop where
  nodup : ∀ t, (listOf st t).Nodup
  live : ∀ t, ∀ a ∈ listOf st t, st.live a = true
  typ : ∀ t, ∀ a ∈ listOf st t, (st.getW a).type = t

structure H4 (st st' : St) : Prop where
  len : st.heap.length ≤ st'.heap.length
  same : ∀ x, x < st.heap.length → st'.live x = st.live x ∧ (st'.getW x).type = (st.getW x).type

theorem H4.refl (st : St) : H4 st st := ⟨Nat.le_refl _, fun _ _ => ⟨rfl, rfl⟩⟩
theorem H4.trans {a b c : St} (h1 : H4 a b) (h2 : H4 b c) : H4 a c :=
  ⟨Nat.le_trans h1.len h2.len, fun x hx => by
    have hx' := Nat.lt_of_lt_of_le hx h1.len
    exact ⟨(h2.same x hx').1.trans (h1.same x hx).1, (h2.same x hx').2.trans (h1.same x hx).2⟩⟩
theorem H4.of_heap_eq {st st' : St} (h : st'.heap = st.heap) : H4 st st' :=
  ⟨by rw [h]; exact Nat.le_refl _, fun x _ => by rw [getW_of_heap_eq h, live_of_heap_eq h]; exact ⟨rfl, rfl⟩⟩

structure G4 (st st' : St) : Prop where
  ext : H4 st st'
  lists : ∀ t, listOf st' t = listOf st t
  cfg : st'.cfg = st.cfg

theorem G4.refl (st : St) : G4 st st := ⟨H4.refl st, fun _ => rfl, rfl⟩
theorem G4.trans {a b c : St} (h1 : G4 a b) (h2 : G4 b c) : G4 a c :=
  ⟨h1.ext.trans h2.ext, fun t => by rw [h2.lists, h1.lists], by rw [h2.cfg, h1.cfg]⟩
theorem G4.of_eq {st st' : St} (hh : st'.heap = st.heap) (h1 : st'.iow = st.iow) (h2 : st'.timers = st.timers)
    (h3 : st'.laters = st.laters) (h4 : st'.signals = st.signals) (h5 : st'.procs = st.procs) (hc : st'.cfg = st.cfg) : G4 st st' :=
  ⟨H4.of_heap_eq hh, fun t => by cases t <;> simp only [listOf] <;> assumption, hc⟩
theorem Still.g4 {st st' : St} (h : Still st st') : G4 st st' :=
  .of_eq h.same.heap h.same.iow h.same.timers h.same.laters h.same.signals h.same.procs h.same.cfg

theorem g4_base : Base G4 := .ofStill G4.refl G4.trans Still.g4

structure LFacts (st st' : St) : Prop where
  wf : WF st'
  len : st.heap.length ≤ st'.heap.length
  fresh : ∀ t x, x ∈ listOf st' t → x ∈ listOf st t ∨ st.heap.length ≤ x
  cfg : st'.cfg = st.cfg

def LStep (st st' : St) : Prop := st.cfg.timersPop = true → WF st → LFacts st st'

theorem LStep.refl (st : St) : LStep st st := fun _ w => ⟨w, Nat.le_refl _, fun _ _ h => Or.inl h, rfl⟩
theorem LFacts.andThen {a b c : St} (f1 : LFacts a b) (h2 : LStep b c) (hc : a.cfg.timersPop = true) : LFacts a c := by
  have f2 := h2 (by rw [f1.cfg]; exact hc) f1.wf
  refine ⟨f2.wf, Nat.le_trans f1.len f2.len, ?_, f2.cfg.trans f1.cfg⟩
  intro t x hx
  cases f2.fresh t x hx with
  | inl h => exact f1.fresh t x h
  | inr h => exact Or.inr (Nat.le_trans f1.len h)

theorem LStep.trans {a b c : St} (h1 : LStep a b) (h2 : LStep b c) : LStep a c := fun hc w => (h1 hc w).andThen h2 hc

theorem WF.alloc {st : St} (w : WF st) {t : WType} {a : Nat} (h : a ∈ listOf st t) : a < st.heap.length :=
  St.live_lt (w.live t a h)

theorem G4.lstep {st st' : St} (g : G4 st st') : LStep st st' := by
  intro _ w
  refine ⟨⟨fun t => by rw [g.lists]; exact w.nodup t, ?_, ?_⟩, g.ext.len, fun t x hx => Or.inl (by rw [g.lists] at hx; exact hx), g.cfg⟩
  · intro t a ha; rw [g.lists] at ha; rw [(g.ext.same a (w.alloc ha)).1]; exact w.live t a ha
  · intro t a ha; rw [g.lists] at ha; rw [(g.ext.same a (w.alloc ha)).2]; exact w.typ t a ha

theorem g4_alloc (st : St) (w : Watch) : G4 st (st.alloc w).1 :=
  ⟨⟨by rw [alloc_len]; omega, fun x hx => by rw [getW_alloc_old st w x hx, live_alloc_old st w x hx]; exact ⟨rfl, rfl⟩⟩,
   fun t => by cases t <;> rfl, rfl⟩
theorem g4_setW (st : St) (a : Nat) (w : Watch) (h1 : w.freed = (st.getW a).freed) (h2 : w.type = (st.getW a).type) :
    G4 st (st.setW a w) := by
  refine ⟨⟨by rw [St.length_setW]; exact Nat.le_refl _, ?_⟩, fun t => by cases t <;> rfl, rfl⟩
  intro x hx
  by_cases hax : a = x
  · subst hax
    have hx' : a < (st.setW a w).heap.length := by rw [St.length_setW]; exact hx
    rw [live_eq_not_freed _ _ hx', live_eq_not_freed _ _ hx, St.getW_setW_self st a w hx, h1]
    exact ⟨rfl, h2⟩
  · rw [St.getW_setW_ne st a x w hax, St.live_setW_ne _ _ _ _ hax]; exact ⟨rfl, rfl⟩
theorem g4_setEvi (st : St) (a idx : Nat) : G4 st (st.setW a { st.getW a with evi := idx }) := g4_setW st a _ rfl rfl
theorem g4_setWstatus (st : St) (a : Nat) (ws : Int) : G4 st (st.setW a { st.getW a with wstatus := ws }) := g4_setW st a _ rfl rfl

theorem lstep_setW_unlisted (st : St) (a : Nat) (w' : Watch) (h : ∀ t, a ∉ listOf st t) : LStep st (st.setW a w') := by
  intro _ w
  have hl : ∀ t, listOf (st.setW a w') t = listOf st t := fun t => by cases t <;> rfl
  refine ⟨⟨fun t => by rw [hl]; exact w.nodup t, ?_, ?_⟩, by rw [St.length_setW]; exact Nat.le_refl _,
    fun t x hx => Or.inl (by rw [hl] at hx; exact hx), rfl⟩
  · intro t b hb; rw [hl] at hb
    have : a ≠ b := fun e => h t (e ▸ hb)
    rw [St.live_setW_ne _ _ _ _ this]; exact w.live t b hb
  · intro t b hb; rw [hl] at hb
    have : a ≠ b := fun e => h t (e ▸ hb)
    rw [St.getW_setW_ne _ _ _ _ this]; exact w.typ t b hb

theorem lstep_free_unlisted (st : St) (a : Nat) (h : ∀ t, a ∉ listOf st t) : LStep st (st.free a) := by
  unfold St.free
  exact iteInduction (fun _ => lstep_setW_unlisted st a _ h) fun _ => (g4_base.fail st _).lstep

theorem unlisted_after {s0 s1 : St} (f : LFacts s0 s1) {a : Nat} (ha : a < s0.heap.length) (h : ∀ t, a ∉ listOf s0 t) :
    ∀ t, a ∉ listOf s1 t := by
  intro t hin
  cases f.fresh t a hin with
  | inl h' => exact h t h'
  | inr h' => omega

theorem unlisted_erase {st : St} (w : WF st) {a : Nat} {t0 : WType} (ha : a ∈ listOf st t0) :
    ∀ t, a ∉ (if t = t0 then (listOf st t0).erase a else listOf st t) := by
  intro t
  split
  · intro h; exact ((List.Nodup.mem_erase_iff (w.nodup t0)).mp h).1 rfl
  · rename_i hne
    intro h
    have h1 := w.typ t a h
    have h2 := w.typ t0 a ha
    exact hne (h1.symm.trans h2)

/-- Linking a watch `a` into list `t0`, seen from an earlier state `st`: `sB` is the state before the list is written,
    `sF` the one after, in which `a` is live and of type `t0`; list `t0` gained at most `a`, the other lists are untouched. -/
theorem lfacts_link (st sB sF : St) (a : Nat) (t0 : WType) (f : LFacts st sB) (ha0 : st.heap.length ≤ a) (hext : H4 sB sF)
    (halive : sF.live a = true) (hatyp : (sF.getW a).type = t0)
    (hnd : (listOf sF t0).Nodup) (hmem : ∀ x ∈ listOf sF t0, x = a ∨ x ∈ listOf sB t0)
    (hoth : ∀ t, t ≠ t0 → listOf sF t = listOf sB t) (hcfg : sF.cfg = sB.cfg) : LFacts st sF := by
  have w := f.wf
  have hold : ∀ t b, b ∈ listOf sF t → (t = t0 ∧ b = a) ∨ b ∈ listOf sB t := by
    intro t b hb
    by_cases h : t = t0
    · subst h; exact (hmem b hb).imp (fun e => ⟨rfl, e⟩) id
    · exact Or.inr (hoth t h ▸ hb)
  refine ⟨⟨fun t => ?_, fun t b hb => ?_, fun t b hb => ?_⟩, Nat.le_trans f.len hext.len, fun t x hx => ?_, hcfg.trans f.cfg⟩
  · by_cases h : t = t0
    · subst h; exact hnd
    · rw [hoth t h]; exact w.nodup t
  · rcases hold t b hb with ⟨rfl, rfl⟩ | e
    · exact halive
    · rw [(hext.same b (w.alloc e)).1]; exact w.live t b e
  · rcases hold t b hb with ⟨rfl, rfl⟩ | e
    · exact hatyp
    · rw [(hext.same b (w.alloc e)).2]; exact w.typ t b e
  · rcases hold t x hx with ⟨rfl, rfl⟩ | e
    · exact Or.inr ha0
    · exact f.fresh t x e

theorem lfacts_register (st sF : St) (t0 : WType) (hext : H4 st sF) (hlen : st.heap.length < sF.heap.length)
    (hlive : sF.live st.heap.length = true) (htyp : (sF.getW st.heap.length).type = t0)
    (hnd : (listOf sF t0).Nodup) (hmem : ∀ x ∈ listOf sF t0, x = st.heap.length ∨ x ∈ listOf st t0)
    (hoth : ∀ t, t ≠ t0 → listOf sF t = listOf st t) (hcfg : sF.cfg = st.cfg) (w : WF st) : LFacts st sF :=
  { lfacts_link st st sF _ t0 ⟨w, Nat.le_refl _, fun _ _ h => Or.inl h, rfl⟩ (Nat.le_refl _) hext hlive htyp hnd hmem hoth hcfg with
    len := Nat.le_of_lt hlen }

theorem g4_evloopIo (st : St) (fd : Int) (cond : Nat) (w : Nat) : G4 st (evloopIo st fd cond w).1 := by
  unfold evloopIo
  split <;> exact G4.of_eq rfl rfl rfl rfl rfl rfl rfl

theorem G4.of_sameSig {st st' : St} (h : SameSig st st') : G4 st st' :=
  G4.of_eq h.heap h.iow h.timers h.laters h.signals h.procs h.cfg

theorem g4_evloopSignal (st : St) (s : Int) : G4 st (evloopSignal st s).1 := G4.of_sameSig (sameSig_evloopSignal st s)

theorem g4_frame : Frame G4 (fun w w' => w'.freed = w.freed ∧ w'.type = w.type) (fun _ => True) where
  toBase := g4_base
  alloc := g4_alloc
  setW := fun st a w h => g4_setW st a w h.1 h.2
  setList := fun _ _ _ h => absurd trivial h
  evloopIo := g4_evloopIo
  evloopCancelIo := fun _ _ => G4.of_eq rfl rfl rfl rfl rfl rfl rfl

theorem g4_cancelHook (st : St) (t : WType) (evi : Nat) : G4 st (cancelHook st t evi) :=
  g4_frame.cancelHook st t evi fun _ => .of_sameSig (sameSig_evloopCancelSignal st evi)

theorem listOf_setListOf_all (st : St) (t0 : WType) (l : List Nat) (h0 : t0 ≠ .none) (t : WType) :
    listOf (setListOf st t0 l) t = if t = t0 then l else listOf st t := by
  cases t0 <;> cases t <;> first | rfl | exact absurd rfl h0

theorem heap_setListOf (st : St) (t : WType) (l : List Nat) : (setListOf st t l).heap = st.heap := by cases t <;> rfl
theorem cfg_setListOf (st : St) (t : WType) (l : List Nat) : (setListOf st t l).cfg = st.cfg := by cases t <;> rfl

theorem new_unlisted {st : St} (w : WF st) : ∀ t, st.heap.length ∉ listOf st t :=
  fun t h => Nat.lt_irrefl _ (w.alloc h)

theorem lfacts_insert {st sB : St} {t0 : WType} (h0 : t0 ≠ .none) (flags : Nat) (f : LFacts st sB)
    (halive : sB.live st.heap.length = true) (hatyp : (sB.getW st.heap.length).type = t0) (haun : ∀ t, st.heap.length ∉ listOf sB t) :
    LFacts st (setListOf (insertWatch sB (listOf sB t0) flags st.heap.length).1 t0 (insertWatch sB (listOf sB t0) flags st.heap.length).2) := by
  have gI := g4_base.insertWatch sB (listOf sB t0) flags st.heap.length
  have hl := listOf_setListOf_all (insertWatch sB (listOf sB t0) flags st.heap.length).1 t0 (insertWatch sB (listOf sB t0) flags st.heap.length).2 h0
  obtain ⟨hnd, hmem, -⟩ := nodup_insert_cases (snd_insertWatch sB (listOf sB t0) flags st.heap.length) (f.wf.nodup t0) (haun t0)
  have hext : H4 sB _ := gI.ext.trans (H4.of_heap_eq (heap_setListOf _ t0 (insertWatch sB (listOf sB t0) flags st.heap.length).2))
  have hh := hext.same st.heap.length (St.live_lt halive)
  refine lfacts_link st sB _ st.heap.length t0 f (Nat.le_refl _) hext (hh.1.trans halive) (hh.2.trans hatyp) ?_ ?_ ?_ ((cfg_setListOf _ _ _).trans gI.cfg)
  · rw [hl, if_pos rfl]; exact hnd
  · rw [hl, if_pos rfl]; exact hmem
  · intro t ht; rw [hl, if_neg ht]; exact gI.lists t

theorem lfacts_alloc {st : St} (w0 : Watch) (hf : w0.freed = false) (hc : st.cfg.timersPop = true) (w : WF st) :
    LFacts st (st.alloc w0).1 ∧ (st.alloc w0).1.live st.heap.length = true ∧
      ((st.alloc w0).1.getW st.heap.length).type = w0.type ∧ ∀ t, st.heap.length ∉ listOf (st.alloc w0).1 t :=
  ⟨(g4_alloc st w0).lstep hc w, live_alloc_new st w0 hf, by rw [getW_alloc_new],
   fun t h => new_unlisted w t ((g4_alloc st w0).lists t ▸ h)⟩

theorem lstep_watchLater (st : St) (flags : Nat) (slot : Int) (puser : Nat) : LStep st (watchLater st flags slot puser).1 := by
  intro hc w
  obtain ⟨fA, hlv, hty, hun⟩ :=
    lfacts_alloc { type := .later, flags := flags &&& (BIND_UNBIND ||| BIND_DESTROY), slot := slot, puser := puser } rfl hc w
  exact lfacts_insert (t0 := .later) (by decide) flags fA hlv hty hun

theorem G4.carry {s1 s2 : St} (g : G4 s1 s2) {a : Nat} {t0 : WType} (hlv : s1.live a = true) (hty : (s1.getW a).type = t0)
    (hun : ∀ t, a ∉ listOf s1 t) : s2.live a = true ∧ (s2.getW a).type = t0 ∧ ∀ t, a ∉ listOf s2 t :=
  have h := g.ext.same a (St.live_lt hlv)
  ⟨h.1.trans hlv, h.2.trans hty, fun t hin => hun t (g.lists t ▸ hin)⟩

theorem lstep_watchIo (st : St) (fd : Int) (cond flags : Nat) (slot : Int) : LStep st (watchIo st fd cond flags slot).1 := by
  intro hc w
  obtain ⟨fA, hlv, hty, hun⟩ :=
    lfacts_alloc { type := .io, flags := flags &&& st.cfg.ioFlagMask, slot := slot, fd := fd, cond := cond } rfl hc w
  unfold watchIo
  simp only []
  generalize (st.alloc { type := .io, flags := flags &&& st.cfg.ioFlagMask, slot := slot, fd := fd, cond := cond }).1 = s1 at *
  have gB := (g4_evloopIo s1 fd cond st.heap.length).trans (g4_setEvi _ st.heap.length (evloopIo s1 fd cond st.heap.length).2)
  obtain ⟨hlv, hty, hun⟩ := gB.carry hlv hty hun
  exact lfacts_insert (t0 := .io) (by decide) flags (fA.andThen gB.lstep hc) hlv hty hun

theorem lstep_watchSignal (st : St) (signum : Int) (flags : Nat) (slot : Int) : LStep st (watchSignal st signum flags slot).1 := by
  intro hc w
  obtain ⟨fA, hlv, hty, hun⟩ :=
    lfacts_alloc { type := .signal, flags := flags &&& (BIND_UNBIND ||| BIND_DESTROY), slot := slot, signum := signum } rfl hc w
  unfold watchSignal watchSignalPre
  generalize (st.alloc { type := .signal, flags := flags &&& (BIND_UNBIND ||| BIND_DESTROY), slot := slot, signum := signum }).1 = s1 at *
  have gB := (g4_evloopSignal s1 signum).trans (g4_setEvi _ st.heap.length (evloopSignal s1 signum).2)
  obtain ⟨hlv, hty, hun⟩ := gB.carry hlv hty hun
  exact lfacts_insert (t0 := .signal) (by decide) flags (fA.andThen gB.lstep hc) hlv hty hun

theorem nodup_insTimer (st : St) (new : Nat) (due : TV) (l l' : List Nat) (h : insTimer st new due l = some l')
    (hn : l.Nodup) (ha : new ∉ l) : l'.Nodup := by
  obtain ⟨pre, post, h1, h2, _, _⟩ := insTimer_spec st new due l l' h
  subst h1 h2
  rw [List.nodup_append] at hn ⊢
  refine ⟨hn.1, List.nodup_cons.mpr ⟨fun hh => ha (List.mem_append_right _ hh), hn.2.1⟩, ?_⟩
  intro x hx y hy
  simp only [List.mem_cons] at hy
  cases hy with
  | inl e => subst e; intro e2; subst e2; exact ha (List.mem_append_left _ hx)
  | inr e => exact hn.2.2 x hx y e

theorem lstep_watchTimerAt (st : St) (due : TV) (flags : Nat) (slot : Int) : LStep st (watchTimerAt st due flags slot).1 := by
  intro hc w
  obtain ⟨fA, hlv, hty, hun⟩ :=
    lfacts_alloc { type := .timer, flags := flags &&& (BIND_UNBIND ||| BIND_DESTROY), slot := slot, due := due } rfl hc w
  unfold watchTimerAt
  simp only []
  generalize (st.alloc { type := .timer, flags := flags &&& (BIND_UNBIND ||| BIND_DESTROY), slot := slot, due := due }).1 = s1 at *
  split
  · rename_i l hl
    exact lfacts_link st s1 { s1 with timers := l } st.heap.length .timer fA (Nat.le_refl _) (H4.of_heap_eq rfl) hlv hty
      (nodup_insTimer s1 _ due _ l hl (fA.wf.nodup .timer) (hun .timer)) (fun x hx => (insTimer_mem s1 _ due _ l hl x).mp hx)
      (fun t ht => by cases t <;> first | rfl | exact absurd rfl ht) rfl
  · exact fA.andThen (g4_base.fail _ _).lstep hc

theorem lstep_ensureSigchld (st : St) : LStep st (ensureSigchld st) := by
  unfold ensureSigchld
  split
  · exact LStep.refl _
  · exact (lstep_watchSignal st SIGCHLD 0 (-3)).trans (g4_base.same (same_sigchldwatch _ _)).lstep

theorem h4_ensureSigchld (st : St) : H4 st (ensureSigchld st) := by
  unfold ensureSigchld
  split
  · exact H4.refl _
  · refine H4.trans ?_ (g4_base.same (same_sigchldwatch _ _)).ext
    unfold watchSignal
    exact ((g4_frame.watchSignalPre g4_evloopSignal (fun _ _ => ⟨rfl, rfl⟩) st SIGCHLD 0 (-3)).trans (g4_base.insertWatch _ _ _ _)).ext.trans (H4.of_heap_eq rfl)

theorem lstep_watchProcess (st : St) (pid : Int) (flags : Nat) (slot : Int) : LStep st (watchProcess st pid flags slot).1 := by
  intro hc w
  obtain ⟨fA, hlv, hty, hun⟩ :=
    lfacts_alloc { type := .process, flags := flags &&& (BIND_UNBIND ||| BIND_DESTROY), slot := slot, pid := pid } rfl hc w
  unfold watchProcess
  generalize (st.alloc { type := .process, flags := flags &&& (BIND_UNBIND ||| BIND_DESTROY), slot := slot, pid := pid }).1 = s1 at *
  -- the SIGCHLD watch, where it is registered now, is another address
  have halt := St.live_lt hlv
  have fB : LFacts st (ensureSigchld s1) := fA.andThen (lstep_ensureSigchld s1) hc
  have hun := unlisted_after (lstep_ensureSigchld s1 (by rw [fA.cfg]; exact hc) fA.wf) halt hun
  have hlv := ((h4_ensureSigchld s1).same _ halt).1.trans hlv
  have hty := ((h4_ensureSigchld s1).same _ halt).2.trans hty
  generalize ensureSigchld s1 = sB at *
  unfold linkProcess
  simp only []
  have gW := g4_base.same (same_waitpid sB pid)
  refine iteInduction (fun _ => ?_) fun _ => ?_
  · -- pre-exited: a `later` is registered; as shipped the watch stays unlisted, repaired it is linked
    have gS := gW.trans (g4_setWstatus (waitpid sB pid).st st.heap.length (waitpid sB pid).wstatus)
    have fS : LFacts st _ := fB.andThen gS.lstep hc
    obtain ⟨hlv, hty, hun⟩ := gS.carry hlv hty hun
    generalize ((waitpid sB pid).st.setW st.heap.length { (waitpid sB pid).st.getW st.heap.length with wstatus := (waitpid sB pid).wstatus }) = sS at *
    have fL : LFacts st (watchLater sS 0 (-4) st.heap.length).1 :=
      fS.andThen (lstep_watchLater sS 0 (-4) st.heap.length) hc
    refine iteInduction (fun _ => ?_) fun _ => fL
    have halt := St.live_lt hlv
    have hun := unlisted_after (lstep_watchLater sS 0 (-4) st.heap.length (by rw [fS.cfg]; exact hc) fS.wf) halt hun
    have hH : H4 sS (watchLater sS 0 (-4) st.heap.length).1 := by
      unfold watchLater
      exact ((g4_alloc sS _).trans (g4_base.insertWatch _ _ _ _)).ext.trans (H4.of_heap_eq rfl)
    have hlv := (hH.same _ halt).1.trans hlv
    have hty := (hH.same _ halt).2.trans hty
    generalize watchLater sS 0 (-4) st.heap.length = rL at *
    unfold linkNotified
    have gN : G4 rL.1 (setNotify rL.1 st.heap.length (some rL.2)) := g4_setW _ _ _ rfl rfl
    obtain ⟨hlv, hty, hun⟩ := gN.carry hlv hty hun
    exact lfacts_insert (t0 := .process) (by decide) flags (fL.andThen gN.lstep hc) hlv hty hun
  · obtain ⟨hlv, hty, hun⟩ := gW.carry hlv hty hun
    exact lfacts_insert (t0 := .process) (by decide) flags (fB.andThen gW.lstep hc) hlv hty hun

theorem lfacts_sublist {st st' : St} (w : WF st) (hh : st'.heap = st.heap) (hc : st'.cfg = st.cfg)
    (hsub : ∀ t, (listOf st' t).Sublist (listOf st t)) : LFacts st st' :=
  ⟨⟨fun t => (w.nodup t).sublist (hsub t), fun t b hb => by rw [live_of_heap_eq hh]; exact w.live t b ((hsub t).subset hb),
    fun t b hb => by rw [getW_of_heap_eq hh]; exact w.typ t b ((hsub t).subset hb)⟩,
   by rw [hh]; exact Nat.le_refl _, fun t x hx => Or.inl ((hsub t).subset hx), hc⟩

theorem lfacts_erase (st : St) (a : Nat) (t0 : WType) (w : WF st) (ha : a ∈ listOf st t0) :
    LFacts st (setListOf st t0 ((listOf st t0).erase a)) ∧ ∀ t, a ∉ listOf (setListOf st t0 ((listOf st t0).erase a)) t := by
  have h0 : t0 ≠ .none := by intro h; subst h; cases ha
  have hl := listOf_setListOf_all st t0 ((listOf st t0).erase a) h0
  refine ⟨lfacts_sublist w (heap_setListOf _ _ _) (cfg_setListOf _ _ _) fun t => ?_, fun t => by rw [hl]; exact unlisted_erase w ha t⟩
  rw [hl]; split
  · rename_i h; subst h; exact List.erase_sublist
  · exact List.Sublist.refl _

theorem lstep_cancelFound (st : St) (a : Nat) (ha : a ∈ listOf st (st.getW a).type) :
    LStep st (cancelFound st a (st.getW a) (listOf st (st.getW a).type)) := by
  intro hc w
  unfold cancelFound
  obtain ⟨fE, hun⟩ := lfacts_erase st a (st.getW a).type w ha
  generalize setListOf st (st.getW a).type ((listOf st (st.getW a).type).erase a) = sE at *
  have gN := (g4_base.cancelNotify sE a (st.getW a)).trans (g4_cancelHook _ (st.getW a).type (st.getW a).evi)
  have hunN : ∀ t, a ∉ listOf (cancelHook (cancelNotify sE a (st.getW a)) (st.getW a).type (st.getW a).evi) t :=
    fun t h => hun t (by rw [gN.lists] at h; exact h)
  exact ((fE.andThen gN.lstep hc).andThen (lstep_free_unlisted _ a hunN) hc).andThen (g4_base.cancelRest _ _).lstep hc

/-- The repaired tail of `tickit_watch_cancel`: the watch was not found in the list of its type, so (lists hold
    watches of their own type) it is in no list; it is notified and marked. -/
theorem lstep_cancelDetached (st : St) (a : Nat) (hn : a ∉ listOf st (st.getW a).type) : LStep st (cancelDetached st a) := by
  intro hc w
  unfold cancelDetached
  have gN := g4_base.cancelNotify st a (st.getW a)
  have hun : ∀ t, a ∉ listOf (cancelNotify st a (st.getW a)) t := by
    intro t h
    rw [gN.lists] at h
    have := w.typ t a h
    rw [← this] at h
    exact hn h
  exact (LStep.trans gN.lstep (lstep_setW_unlisted _ a _ hun)) hc w

theorem g4_laterPre (st : St) (a : Nat) : G4 st (laterPre st a) := g4_frame.laterPre (fun _ _ => ⟨rfl, rfl⟩) st a

theorem lstep_unlink_found (st : St) (a : Nat) (t0 : WType) (ha : a ∈ listOf st t0) :
    LStep st (((setListOf st t0 ((listOf st t0).erase a)).setW a { st.getW a with type := .none }).free a) := by
  intro hc w
  obtain ⟨fE, hun⟩ := lfacts_erase st a t0 w ha
  have hgw : (setListOf st t0 ((listOf st t0).erase a)).getW a = st.getW a := getW_setListOf _ _ _ _
  generalize setListOf st t0 ((listOf st t0).erase a) = sE at *
  have h1 := lstep_setW_unlisted sE a { sE.getW a with type := .none } hun
  rw [hgw] at h1
  have hun2 : ∀ t, a ∉ listOf (sE.setW a { st.getW a with type := .none }) t := fun t h => hun t (by
    have : listOf (sE.setW a { st.getW a with type := .none }) t = listOf sE t := by cases t <;> rfl
    rw [this] at h; exact h)
  exact (fE.andThen h1 hc).andThen (lstep_free_unlisted _ a hun2) hc

theorem g4_clearNotify (st : St) (a : Nat) : G4 st (clearNotify st a) := g4_frame.clearNotify (fun _ _ => ⟨rfl, rfl⟩) st a

theorem l_closed : Closed LStep where
  toBase := .ofStill LStep.refl LStep.trans fun h => h.g4.lstep
  watchTimerAt := lstep_watchTimerAt
  watchLater := lstep_watchLater
  watchIo := lstep_watchIo
  watchSignal := fun st sg f k _ => lstep_watchSignal st sg f k
  watchProcess := lstep_watchProcess
  cancelDetached := lstep_cancelDetached
  cancelFound := lstep_cancelFound
  unlinkFound := fun st a t _ _ _ h => lstep_unlink_found st a t h
  clearNotify := fun st a => (g4_clearNotify st a).lstep
  harness := fun _ _ _ => G4.lstep (.of_eq rfl rfl rfl rfl rfl rfl rfl)

theorem g4_with_cancelReq (st : St) (l : List Int) : G4 st { st with cancelReq := l } := G4.of_eq rfl rfl rfl rfl rfl rfl rfl

theorem l_laterPreCb (st : St) (a : Nat) : LStep st (laterCb (laterPre st a) a) :=
  (g4_laterPre st a).lstep.trans (l_closed.laterCb _ a)

theorem l_laterLoopT (l : List Nat) : ∀ st : St, (∀ a ∈ l, a < st.heap.length ∧ ∀ t, a ∉ listOf st t) → LStep st (laterLoopT st l).1 := by
  induction l with
  | nil => intro st _; exact LStep.refl st
  | cons a rest ih =>
    intro st hl
    have ha := hl a List.mem_cons_self
    have hrest : ∀ s1 : St, LFacts st s1 → ∀ b ∈ rest, b < s1.heap.length ∧ ∀ t, b ∉ listOf s1 t := by
      intro s1 f b hb
      have hb' := hl b (List.mem_cons_of_mem _ hb)
      exact ⟨Nat.lt_of_lt_of_le hb'.1 f.len, unlisted_after f hb'.1 hb'.2⟩
    unfold laterLoopT
    refine ite_fst (fun _ => LStep.refl _) fun _ => ?_
    refine ite_fst (fun _ => (g4_base.fail _ _).lstep) fun _ => ?_
    refine ite_fst (fun _ => ?_) fun _ => ?_
    · -- a cancelled entry: freed without being invoked
      intro hc w
      have f2 : LFacts st (st.free a) := lstep_free_unlisted st a ha.2 hc w
      exact f2.andThen (ih _ (hrest _ f2)) hc
    refine ite_fst (fun _ => l_laterPreCb _ _) fun _ => ?_
    refine ite_fst (fun _ => (l_laterPreCb _ _).trans (g4_base.fail _ _).lstep) fun _ => ?_
    intro hc w
    have f1 := l_laterPreCb st a hc w
    have f12 : LFacts st ((laterCb (laterPre st a) a).free a) :=
      f1.andThen (lstep_free_unlisted _ a (unlisted_after f1 ha.1 ha.2)) hc
    exact f12.andThen (ih _ (hrest _ f12)) hc

theorem pop_is_erase (st : St) (a : Nat) (rest : List Nat) (hq : st.timers = a :: rest) :
    ({ st with timers := rest } : St) = setListOf st .timer ((listOf st .timer).erase a) := by
  show _ = { st with timers := st.timers.erase a }
  rw [hq]; simp

theorem l_timerLoopPopT (fuel : Nat) : ∀ (st : St) (now : TV), LStep st (timerLoopPopT fuel st now).1 := by
  induction fuel with
  | zero => intro st now; unfold timerLoopPopT; exact l_closed.outOfFuel st
  | succ n ih =>
    intro st now
    rcases timerLoopPopT_succ n st now with ⟨s', h, hs, -⟩ | ⟨a, rest, hq, -, hh⟩
    · rw [h]; exact (g4_base.same hs).lstep
    · -- `a` leaves the queue, so it is in no list; after its callback it still is (only fresh addresses enter)
      intro hc w
      have ha : a ∈ listOf st .timer := by show a ∈ st.timers; rw [hq]; exact List.mem_cons_self
      obtain ⟨fE, hun⟩ := lfacts_erase st a .timer w ha
      rw [← pop_is_erase st a rest hq] at fE hun
      have halt : a < st.heap.length := w.alloc ha
      have f1 : LFacts st (popFire st a rest) := fE.andThen (l_closed.fireUser _ _ _ _) hc
      have f1' := l_closed.fireUser { st with timers := rest } (st.getW a).slot (EV_FIRE ||| EV_UNBIND) .none
        (by rw [fE.cfg]; exact hc) fE.wf
      have hun1 := unlisted_after f1' (show a < ({ st with timers := rest } : St).heap.length from halt) hun
      rcases hh with ⟨s', h, hs, -⟩ | h <;> rw [h]
      · exact f1.andThen (g4_base.same hs).lstep hc
      · exact (f1.andThen (lstep_free_unlisted _ a hun1) hc).andThen (ih _ _) hc

theorem l_timerPhase (fuel : Nat) (st : St) : LStep st (timerPhase fuel st) := by
  unfold timerPhase
  split
  · exact LStep.refl _
  · split
    · exact (g4_base.emit _ _).lstep.trans (l_timerLoopPopT _ _ _)
    · rename_i h
      intro hc _
      exact absurd hc h

/-- Only new watches enter a list, so the detached batch is still in no list after the timer phase. -/
theorem detach_laters (fuel : Nat) (st : St) (hc : st.cfg.timersPop = true) (w : WF st) : LFacts st { st with laters := [] } ∧
    ∀ a ∈ st.laters, a < st.heap.length ∧ a < (timerPhase fuel { st with laters := [] }).heap.length ∧
      ∀ t, a ∉ listOf (timerPhase fuel { st with laters := [] }) t := by
  have hsub : ∀ t, (listOf ({ st with laters := [] } : St) t).Sublist (listOf st t) := by
    intro t; cases t <;> first | exact List.Sublist.refl _ | exact List.nil_sublist _
  have f0 : LFacts st { st with laters := [] } := lfacts_sublist w rfl rfl hsub
  have f1 := l_timerPhase fuel { st with laters := [] } hc f0.wf
  refine ⟨f0, fun a ha => ?_⟩
  have ha' : a ∈ listOf st .later := ha
  refine ⟨w.alloc ha', Nat.lt_of_lt_of_le (w.alloc ha') f1.len, unlisted_after f1 (w.alloc ha') fun t h => ?_⟩
  by_cases ht : t = .later
  · subst ht; cases h
  · exact ht ((w.typ t a ((hsub t).subset h)).symm.trans (w.typ .later a ha'))

theorem l_invokeTimers (fuel : Nat) (st : St) : LStep st (invokeTimers fuel st) := by
  unfold invokeTimers
  split
  · exact LStep.refl _
  · intro hc w
    obtain ⟨f0, hdet⟩ := detach_laters fuel st hc w
    exact (f0.andThen (l_timerPhase _ _) hc).andThen (l_laterLoopT st.laters _ fun a ha => (hdet a ha).2) hc

theorem l_dispatchSignals (fuel : Nat) (st : St) : LStep st (dispatchSignals fuel st) :=
  l_closed.dispatchSignals (fun st => (still_with_pendingSig st []).g4.lstep) fuel st

theorem g4_ppoll (st : St) (t : Option Int) : G4 st (ppoll st t).1 := g4_base.ppoll (.ofStill Still.g4) st t

theorem l_iter : IterLeaves LStep where
  toPollLeaves := .ofStill fun h => h.g4.lstep
  invokeTimers := l_invokeTimers
  clearPending := fun st => (still_with_pendingSig st []).g4.lstep

theorem g4_run_flags (st : St) : G4 st { st with stillRunning := true, inRun := true, runPolls := 0 } := G4.of_eq rfl rfl rfl rfl rfl rfl rfl

theorem wf_empty {st : St} (h1 : st.iow = []) (h2 : st.timers = []) (h3 : st.laters = []) (h4 : st.signals = []) (h5 : st.procs = []) : WF st := by
  have : ∀ t, listOf st t = [] := by intro t; cases t <;> simp only [listOf] <;> assumption
  exact ⟨fun t => (by rw [this]; exact List.nodup_nil), fun t a h => (by rw [this] at h; cases h), fun t a h => (by rw [this] at h; cases h)⟩

theorem wf_destroy (st : St) (_ : WF st) (hok : (destroy st).status = .ok) : WF (destroy st) :=
  wf_empty (lists_destroy st hok .io) (lists_destroy st hok .timer) (lists_destroy st hok .later)
    (lists_destroy st hok .signal) (lists_destroy st hok .process)

theorem lstep_resetLog (st : St) : LStep st { st with log := [] } := (still_with_log st []).g4.lstep

theorem LStep.keep {cfg : Config} (hc : cfg.timersPop = true) {st st' : St} (s : LStep st st') (p : WF st ∧ st.cfg = cfg) :
    WF st' ∧ st'.cfg = cfg :=
  have f := s (p.2 ▸ hc) p.1
  ⟨f.wf, f.cfg.trans p.2⟩

theorem wf_applyOp (st : St) (op : Op) (hc : st.cfg.timersPop = true) (w : WF st) (hok : (applyOp st op).status = .ok) :
    WF (applyOp st op) ∧ (applyOp st op).cfg = st.cfg :=
  -- a destruction that is the whole operation has run to completion: its lists are empty
  l_closed.applyOp_keeps l_iter (LStep.keep hc) lstep_resetLog st op ⟨w, rfl⟩
    fun e p => ⟨wf_destroy _ p.1 (e ▸ hok), (cfg_destroy _).trans p.2⟩

theorem wf_build (cfg : Config) (hc : cfg.timersPop = true) : WF (build cfg) ∧ (build cfg).cfg = cfg :=
  LStep.keep hc (l_closed.build lstep_resetLog cfg) ⟨wf_empty rfl rfl rfl rfl rfl, rfl⟩

theorem wf_runOps' (cfg : Config) (hc : cfg.timersPop = true) (ops : List Op) (hok : (runOps cfg ops).status = .ok) :
    WF (runOps cfg ops) ∧ (runOps cfg ops).cfg = cfg :=
  l_closed.reach l_iter (LStep.keep hc) lstep_resetLog
    (fun st p hok => ⟨wf_destroy st p.1 hok, (cfg_destroy st).trans p.2⟩) cfg ⟨wf_empty rfl rfl rfl rfl rfl, rfl⟩ ops hok

theorem wf_runOps (cfg : Config) (hc : cfg.timersPop = true) (ops : List Op) (hok : (runOps cfg ops).status = .ok) :
    WF (runOps cfg ops) := (wf_runOps' cfg hc ops hok).1

theorem destroyList_not_ok (t : WType) (l : List Nat) (st : St) (h : st.isOk = false) : destroyList st t l = st := by
  cases l with
  | nil => rfl
  | cons a rest => unfold destroyList; simp [h]

theorem destroyList_frame (t : WType) : ∀ (l : List Nat) (st : St),
    (∀ t', listOf (destroyList st t l) t' = listOf st t') ∧
    (∀ b, b ∉ l → (destroyList st t l).getW b = st.getW b ∧ (destroyList st t l).live b = st.live b) := by
  intro l
  induction l with
  | nil => intro st; exact ⟨fun _ => rfl, fun _ _ => ⟨rfl, rfl⟩⟩
  | cons a rest ih =>
    intro st
    unfold destroyList
    split
    · exact ⟨fun _ => rfl, fun _ _ => ⟨rfl, rfl⟩⟩
    · split
      · exact ⟨fun t' => (g4_base.fail st _).lists t', fun b _ => ⟨St.getW_fail _ _ _, St.live_fail _ _ _⟩⟩
      · have g := (g4_base.destroyNotify st a).trans (g4_cancelHook _ t (st.getW a).evi)
        have hheap : (cancelHook (destroyNotify st a) t (st.getW a).evi).heap = st.heap := by
          rw [heap_cancelHook, heap_destroyNotify]
        obtain ⟨h1, h2⟩ := ih ((cancelHook (destroyNotify st a) t (st.getW a).evi).free a)
        refine ⟨fun t' => by rw [h1, lists_free, g.lists], ?_⟩
        intro b hb
        simp only [List.mem_cons, not_or] at hb
        obtain ⟨h3, h4⟩ := h2 b hb.2
        have hne : a ≠ b := fun e => hb.1 e.symm
        exact ⟨by rw [h3, St.getW_free_ne _ _ _ hne, getW_of_heap_eq hheap],
               by rw [h4, St.live_free_ne _ _ _ hne, live_of_heap_eq hheap]⟩

theorem destroyOf_log (t : WType) (st : St) (hnd : (listOf st t).Nodup) (hlive : st.allLive (listOf st t) = true)
    (hok : (destroyOf t st).status = .ok) :
    (destroyOf t st).log = ((listOf st t).filterMap (destroyNote st)).reverse ++ st.log :=
  destroyList_log t (listOf st t) st hnd hlive hok

theorem allLive_of_wf {st : St} (w : WF st) (t : WType) : st.allLive (listOf st t) = true := by
  simp only [St.allLive, List.all_eq_true]; exact fun a ha => w.live t a ha

theorem destroyOf_other (t : WType) (st : St) (w : WF st) (t' : WType) (hne : t' ≠ t) :
    listOf (destroyOf t st) t' = listOf st t' ∧
    ∀ b ∈ listOf st t', (destroyOf t st).getW b = st.getW b ∧ (destroyOf t st).live b = st.live b := by
  unfold destroyOf
  obtain ⟨h1, h2⟩ := destroyList_frame t (listOf st t) st
  refine ⟨h1 t', fun b hb => h2 b ?_⟩
  intro hin
  exact hne ((w.typ t' b hb).symm.trans (w.typ t b hin))

/-- What `destroyOf` needs of a state to deal with list `t` and to hand the remaining lists `ts` on: the lists of `ts` are
    those of the reference state `s0` (which is well formed), their members live with the contents they had there. -/
structure Ready (s0 st : St) (ts : List WType) : Prop where
  lists : ∀ t ∈ ts, listOf st t = listOf s0 t
  same : ∀ t ∈ ts, ∀ b ∈ listOf s0 t, st.getW b = s0.getW b ∧ st.live b = true

theorem ready_step (s0 st : St) (w0 : WF s0) (t : WType) (ts : List WType) (hnt : t ∉ ts) (r : Ready s0 st (t :: ts))
    (hok : (destroyOf t st).status = .ok) :
    (destroyOf t st).log = ((listOf s0 t).filterMap (destroyNote s0)).reverse ++ st.log ∧ Ready s0 (destroyOf t st) ts := by
  have hl := r.lists t List.mem_cons_self
  have hs := r.same t List.mem_cons_self
  have hnd : (listOf st t).Nodup := by rw [hl]; exact w0.nodup t
  have hlive : st.allLive (listOf st t) = true := by
    simp only [St.allLive, List.all_eq_true]; rw [hl]; exact fun b hb => (hs b hb).2
  refine ⟨?_, ?_⟩
  · rw [destroyOf_log t st hnd hlive hok, hl]
    congr 2
    apply filterMap_congr'
    intro b hb
    unfold destroyNote; rw [(hs b hb).1]
  · obtain ⟨h1, h2⟩ := destroyList_frame t (listOf st t) st
    refine ⟨fun t' ht' => by unfold destroyOf; rw [h1, r.lists t' (List.mem_cons_of_mem _ ht')], ?_⟩
    intro t' ht' b hb
    have hne : t' ≠ t := fun e => hnt (e ▸ ht')
    have hbn : b ∉ listOf st t := by
      rw [hl]; intro hin
      exact hne ((w0.typ t' b hb).symm.trans (w0.typ t b hin))
    have := h2 b hbn
    have hs' := r.same t' (List.mem_cons_of_mem _ ht') b hb
    unfold destroyOf
    exact ⟨by rw [this.1]; exact hs'.1, by rw [this.2]; exact hs'.2⟩

theorem destroy_log (st : St) (hok0 : st.isOk = true) (w0 : WF (cancelSigchld st)) (hok : (destroy st).status = .ok) :
    (destroy st).log =
      ((listOf (cancelSigchld st) .io ++ listOf (cancelSigchld st) .timer ++ listOf (cancelSigchld st) .later ++
        listOf (cancelSigchld st) .signal ++ listOf (cancelSigchld st) .process).filterMap (destroyNote (cancelSigchld st))).reverse
      ++ (cancelSigchld st).log := by
  unfold destroy at hok ⊢
  simp only [hok0, Bool.not_true, Bool.false_eq_true, if_false] at hok ⊢
  generalize cancelSigchld st = s0 at *
  have hfin : ∀ s : St, (destroyFinish s).status = .ok → s.status = .ok ∧ (destroyFinish s).log = s.log := by
    intro s h
    unfold destroyFinish at h ⊢
    split
    · rename_i hh; exact ⟨(St.isOk_iff s).mp hh, rfl⟩
    · rename_i hh; rw [if_neg hh] at h; exact ⟨h, rfl⟩
  have hback : ∀ (t : WType) (s : St), (destroyOf t s).status = .ok → s.status = .ok := by
    intro t s h
    cases hs : s.isOk
    · unfold destroyOf at h; rw [destroyList_not_ok t _ s hs] at h; exact h
    · exact (St.isOk_iff s).mp hs
  obtain ⟨h5, hlog⟩ := hfin _ hok
  have h4 := hback _ _ h5
  have h3 := hback _ _ h4
  have h2 := hback _ _ h3
  have h1 := hback _ _ h2
  have r0 : Ready s0 s0 [.io, .timer, .later, .signal, .process] :=
    ⟨fun _ _ => rfl, fun t _ b hb => ⟨rfl, w0.live t b hb⟩⟩
  obtain ⟨l1, r1⟩ := ready_step s0 s0 w0 .io _ (by decide) r0 h1
  obtain ⟨l2, r2⟩ := ready_step s0 _ w0 .timer _ (by decide) r1 h2
  obtain ⟨l3, r3⟩ := ready_step s0 _ w0 .later _ (by decide) r2 h3
  obtain ⟨l4, r4⟩ := ready_step s0 _ w0 .signal _ (by decide) r3 h4
  obtain ⟨l5, _⟩ := ready_step s0 _ w0 .process _ (by decide) r4 h5
  rw [hlog, l5, l4, l3, l2, l1]
  simp only [List.filterMap_append, List.reverse_append, List.append_assoc]

theorem destroy_log_reachable (cfg : Config) (hc : cfg.timersPop = true) (ops : List Op)
    (hok : (runOps cfg ops).status = .ok) (hd : (destroy (runOps cfg ops)).status = .ok) :
    (destroy (runOps cfg ops)).log =
      ((listOf (cancelSigchld (runOps cfg ops)) .io ++ listOf (cancelSigchld (runOps cfg ops)) .timer ++
        listOf (cancelSigchld (runOps cfg ops)) .later ++ listOf (cancelSigchld (runOps cfg ops)) .signal ++
        listOf (cancelSigchld (runOps cfg ops)) .process).filterMap (destroyNote (cancelSigchld (runOps cfg ops)))).reverse
      ++ (cancelSigchld (runOps cfg ops)).log := by
  obtain ⟨w, hcfg⟩ := wf_runOps' cfg hc ops hok
  have hc' : (runOps cfg ops).cfg.timersPop = true := by rw [hcfg]; exact hc
  have w0 : WF (cancelSigchld (runOps cfg ops)) := by
    unfold cancelSigchld
    split
    · exact (l_closed.watchCancel _ _ hc' w).wf
    · exact w
  exact destroy_log _ ((St.isOk_iff _).mpr hok) w0 hd

end Tickit.EvLoop
