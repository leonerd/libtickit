import Tickit.Proof.RBFlushTextRun
/-
  C04: the induction over the columns of a line (`flushCols`) and over the lines, and the whole flush on a terminal wide
  enough for the content of the buffer: `Done` of a line from a column, of some lines, of the plane.
-/
namespace Tickit.RBFlush
open Tickit.RB

/-- The content of the buffer lies within `W` columns and `L` lines (`W = rb.cols`, `L = rb.lines` always works). -/
def FitsIn (rb : RB) (W L : Int) : Prop :=
  ∀ line col, 0 ≤ line → line < rb.lines → 0 ≤ col → RunAt rb line col → (rb.cell line col).state ≠ .skip →
    col + (rb.cell line col).cols ≤ W ∧ line < L

/-- Wherever the cursor was (pending wrap included), the line is done from `col`, on a terminal wide enough for its
    content (`W` columns). -/
theorem flushCols_spec {rb : RB} {line W L : Int} (hl : 0 ≤ line ∧ line < rb.lines) (hin : FitsIn rb W L) :
    ∀ (fuel : Nat) (col phycol : Int) (t : GridTerm), Tiled rb line col → 0 ≤ col → W ≤ t.cols →
      (rb.cols - col).toNat < fuel → phycol ≤ col → (phycol = col → col < W → t.line = line ∧ t.col = col) →
      LineDone rb line L col t (flushCols textReqs rb line fuel col phycol) := by
  intro fuel
  induction fuel with
  | zero => intro col phycol t _ _ _ hf; omega
  | succ f ih =>
    intro col phycol t htl h0 hcw hf hp1 hp2
    unfold flushCols
    by_cases hlt : col < rb.cols
    · rw [if_neg (fun hn => hn hlt)]
      obtain ⟨hr, hnext⟩ := htl.inv hlt
      have hpos := hr.pos
      have hfit := hr.fits
      simp only
      by_cases hsk : (rb.cell line col).state = .skip
      · simp only [hsk]
        refine (ih (col + (rb.cell line col).cols) phycol t hnext (by omega) hcw (by omega) (by omega) (by omega)).widen
          (fun l c h => by omega) fun l c h hn => ?_
        rw [h.1, want_of_run hl h0 hr c h.2.1 (by omega)]
        simp [wantOf, hsk]
      · obtain ⟨hW, hL⟩ := hin line col hl.1 hl.2 h0 hr hsk
        -- the requests of a run of `n` columns, then the rest of the line by the induction hypothesis
        have step : ∀ {n : Int} {moved : Prop} {X : List Req} (phycol' : Int),
            1 ≤ n → Tiled rb line (col + n) → col + n ≤ W → (∀ r ∈ X, r.isGoto = false) →
            RunDraws rb line col n moved X → phycol' ≤ col + n → (phycol' = col + n → moved) →
            LineDone rb line L col t
              (andThen (gotoIf phycol line col ++ X) (flushCols textReqs rb line f (col + n) phycol')) :=
          fun phycol' hn htl' hWn hng hrun hph hmv =>
            LineDone.step ⟨hl.1, hL⟩ h0 hn htl'.le_cols hWn hcw hp1 (fun h => hp2 h (by omega)) hng hrun
              fun t1 hc1 hcur => ih _ phycol' t1 htl' (by omega) (by rw [hc1]; exact hcw) (by omega) hph
                fun he hlt' => hcur (hmv he) hlt'
        split
        · exact absurd ‹_› hsk
        · rename_i hs
          exact step _ hpos hnext hW (textReqs_noGoto _) (text_run hl h0 hr hs) (Int.le_refl _) fun _ => trivial
        · rename_i hs
          generalize eraseMoveend rb line col (rb.cell line col) = me
          refine step _ hpos hnext hW (noGoto_setpen _ _ rfl) (erase_run hl h0 hr hs _) (by split <;> omega) ?_
          cases me
          · intro he; simp at he; omega
          · intro _; rfl
        · rename_i hs
          obtain ⟨hb, hbt, hblen⟩ := lineBatch_isBatch htl hlt hs
          rw [batchCols_of_isBatch _ _ hb]
          -- the last cell of the batch is a LINE run: it ends within `W`
          have hWb : col + (lineBatch rb line col).length ≤ W := by
            obtain ⟨_, hrl, hsl, _⟩ := hb.get ((lineBatch rb line col).length - 1) (by omega)
            have h1 := (hin line _ hl.1 hl.2 (by omega) hrl (by rw [hsl]; decide)).1
            have h2 := hrl.one (Or.inl hsl)
            omega
          exact step _ (by omega) hbt hWb (noGoto_setpen _ _ rfl) (line_run hl h0 htl hlt hs) (Int.le_refl _)
            fun _ => trivial
        · rename_i hs
          exact step _ hpos hnext hW (noGoto_setpen _ _ rfl) (char_run hl h0 hr hs) (Int.le_refl _) fun _ => trivial
        · -- CONT: excluded by RunAt
          exact absurd ‹_› hr.notCont
    · rw [if_pos hlt]
      have := htl.le_cols
      exact ⟨rfl, rfl, fun c hc1 hc2 => by omega, fun l c _ => rfl, trivial⟩

theorem flushLines_spec {rb : RB} {W L : Int} (hwf : FlushWF rb) (hin : FitsIn rb W L) :
    ∀ (n : Nat) (line : Int) (t : GridTerm), 0 ≤ line → line + n ≤ rb.lines → W ≤ t.cols →
      Done rb L (fun l c => line ≤ l ∧ l < line + n ∧ 0 ≤ c ∧ c < rb.cols) t (flushLines textReqs rb n line) := by
  intro n
  induction n with
  | zero =>
    intro line t _ _ _
    exact ⟨rfl, rfl, fun l c h => by omega, fun l c _ => rfl, trivial⟩
  | succ k ih =>
    intro line t h0 h1 hcw
    have hl : 0 ≤ line ∧ line < rb.lines := by omega
    have c := flushCols_spec hl hin (rb.cols.toNat + 1) 0 (-1) t (hwf line hl.1 hl.2) (by omega) hcw (by omega) (by omega)
      (by omega)
    unfold flushLines
    simp only [c.ok]
    exact c.seq (ih (line + 1) _ (by omega) (by omega) (by rw [c.cols_eq]; exact hcw)) (fun l c => by omega)
      fun l c h1 h2 => by omega

/-- The central theorem (`flush_spec` and `flush_spec_screen` of Props/C04 are its instances).  `keep` outside the
    buffer: every cell of the plane is as the buffer wants it. -/
theorem flush_spec_within {rb : RB} {W L : Int} (hwf : FlushWF rb) (hin : FitsIn rb W L) (t : GridTerm)
    (hcw : W ≤ t.cols) : Done rb L (fun _ _ => True) t ((flushToTerm rb).reqs, (flushToTerm rb).out) := by
  show Done rb L _ t (flushLines textReqs rb rb.lines.toNat 0)
  by_cases hlines : 0 ≤ rb.lines
  · exact (flushLines_spec hwf hin rb.lines.toNat 0 t (by omega) (by omega) hcw).widen (fun _ _ _ => trivial)
      fun l c _ h => want_outside (by unfold RB.inGrid; omega)
  · rw [show rb.lines.toNat = 0 by omega]
    exact ⟨rfl, rfl, fun l c _ => by rw [want_outside (by unfold RB.inGrid; omega)]; exact cellOK_keep _,
      fun l c h => absurd trivial h, trivial⟩

theorem FitsIn.self (rb : RB) : FitsIn rb rb.cols rb.lines :=
  fun _ _ _ h2 _ hr _ => ⟨hr.fits, h2⟩

theorem FitsIn.mono {rb : RB} {W L W' L' : Int} (h : FitsIn rb W L) (hW : W ≤ W') (hL : L ≤ L') : FitsIn rb W' L' := by
  intro line col h1 h2 h3 hr hs
  have := h line col h1 h2 h3 hr hs
  omega

theorem wantOf_ne_keep (sc : Cell) (j : Int) (h : sc.state ≠ .skip) : wantOf sc j ≠ .keep := by
  unfold wantOf
  cases hs : sc.state with
  | skip => exact absurd hs h
  | erase => simp
  | char => simp
  | line => simp
  | cont => simp
  | text =>
    simp only
    split
    · simp
    · split <;> simp

theorem FitsIn.of_want {rb : RB} {W L : Int} (h : ∀ l c, L ≤ l ∨ W ≤ c → want rb l c = .keep) : FitsIn rb W L := by
  intro line col h1 h2 h3 hr hs
  have hpos := hr.pos
  have hw := want_of_run ⟨h1, h2⟩ h3 hr (col + (rb.cell line col).cols - 1) (by omega) (by omega)
  have hne := wantOf_ne_keep (rb.cell line col) (col + (rb.cell line col).cols - 1 - col) hs
  rw [← hw] at hne
  refine ⟨?_, ?_⟩
  · by_cases hc : W ≤ col + (rb.cell line col).cols - 1
    · exact absurd (h _ _ (Or.inr hc)) hne
    · omega
  · by_cases hc : L ≤ line
    · exact absurd (h _ _ (Or.inl hc)) hne
    · omega

/-- `contentWithinB` is what the driver evaluates; the conclusion is the hypothesis of `flush_spec_screen`. -/
theorem want_keep_of_contentWithinB {rb : RB} {W L : Int} (h : contentWithinB rb W L = true) :
    ∀ l c, L ≤ l ∨ W ≤ c → want rb l c = .keep := by
  intro l c hout
  by_cases hg : rb.inGrid l c
  · unfold RB.inGrid at hg
    unfold contentWithinB at h
    simp only [List.all_eq_true, List.mem_range, Bool.or_eq_true, Bool.and_eq_true, decide_eq_true_eq,
      beq_iff_eq] at h
    have := h l.toNat (by omega) c.toNat (by omega)
    rw [show ((l.toNat : Nat) : Int) = l by omega, show ((c.toNat : Nat) : Int) = c by omega] at this
    exact this.resolve_left (by omega)
  · exact want_outside hg

end Tickit.RBFlush
