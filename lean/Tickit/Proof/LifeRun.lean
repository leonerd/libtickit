import Tickit.Model.LifeTop
/-
  C08: histories.  The three layers of the model (`runOps`, `xrunOps`, `yrunOps`) run a list of operations by the
  same recursion over their own step function; what is true of that recursion is proved here once, over `runWith`
  (`yrunOps_eq`, which needs the model of the output layer, is in Proof/LifeOut.lean).
-/
namespace Tickit.Life

def runWith {σ ω : Type} (step : σ → ω → Out (σ × String)) : σ → List ω → Out σ
  | s, [] => .ok s
  | s, op :: rest =>
    match step s op with
    | .ok (s', _) => runWith step s' rest
    | .ub k w => .ub k w
    | .fuel => .fuel

theorem runWith_unique {σ ω : Type} {step : σ → ω → Out (σ × String)} {f : σ → List ω → Out σ} (h0 : ∀ s, f s [] = .ok s)
    (h1 : ∀ s op rest, f s (op :: rest) =
      match step s op with | .ok (s', _) => f s' rest | .ub k w => .ub k w | .fuel => .fuel) :
    ∀ (ops : List ω) (s : σ), f s ops = runWith step s ops
  | [], s => h0 s
  | op :: rest, s => by
    rw [h1, runWith]
    cases step s op with
    | ok p => exact runWith_unique h0 h1 rest p.1
    | ub k w => rfl
    | fuel => rfl

theorem runOps_eq (cfg : Cfg) (ops : List Op) (s : St) : runOps cfg s ops = runWith (step cfg) s ops :=
  runWith_unique (fun _ => rfl) (fun s op _ => by rw [runOps]; cases step cfg s op <;> rfl) ops s

theorem xrunOps_eq (tc : TCfg) (ops : List XOp) (s : Top) : xrunOps tc s ops = runWith (xstep tc) s ops :=
  runWith_unique (fun _ => rfl) (fun s op _ => by rw [xrunOps]; cases xstep tc s op <;> rfl) ops s

section
variable {σ ω : Type} {step : σ → ω → Out (σ × String)}

theorem runWith_cons {s s0 : σ} {op : ω} {r : String} (h : step s op = .ok (s0, r)) (ops : List ω) :
    runWith step s (op :: ops) = runWith step s0 ops := by
  rw [runWith, h]

theorem runWith_inv {I : σ → Prop} {P : ω → Prop} (hstep : ∀ s op, I s → P op → ∃ s' r, step s op = .ok (s', r) ∧ I s') :
    ∀ (ops : List ω) (s : σ), I s → (∀ op ∈ ops, P op) → ∃ s', runWith step s ops = .ok s' ∧ I s'
  | [], s, inv, _ => ⟨s, rfl, inv⟩
  | op :: rest, s, inv, h => by
    obtain ⟨s1, r, hs, inv1⟩ := hstep s op inv (h op List.mem_cons_self)
    obtain ⟨s2, hr, inv2⟩ := runWith_inv hstep rest s1 inv1 (fun o ho => h o (List.mem_cons_of_mem _ ho))
    exact ⟨s2, by rw [runWith_cons hs]; exact hr, inv2⟩

theorem runWith_append : ∀ (ops1 ops2 : List ω) (s0 s1 : σ), runWith step s0 ops1 = .ok s1 →
    runWith step s0 (ops1 ++ ops2) = runWith step s1 ops2
  | [], ops2, s0, s1, h => by cases h; rfl
  | o :: rest, ops2, s0, s1, h => by
    rw [List.cons_append, runWith]
    rw [runWith] at h
    cases hs : step s0 o with
    | ok p =>
      simp only [hs] at h ⊢
      exact runWith_append rest ops2 p.1 s1 h
    | ub k w => simp only [hs] at h; cases h
    | fuel => simp only [hs] at h; cases h

theorem runWith_end {s0 s1 s2 : σ} {ops : List ω} {fin : ω} {r : String} (h1 : runWith step s0 ops = .ok s1)
    (h2 : step s1 fin = .ok (s2, r)) : runWith step s0 (ops ++ [fin]) = .ok s2 := by
  rw [runWith_append ops [fin] s0 s1 h1, runWith_cons h2]; rfl

end

theorem runOps_inv {cfg : Cfg} {I : St → Prop} {P : Op → Prop}
    (hstep : ∀ st op, I st → P op → ∃ st' r, step cfg st op = .ok (st', r) ∧ I st') (ops : List Op) (st : St) (inv : I st)
    (h : ∀ op ∈ ops, P op) : ∃ st', runOps cfg st ops = .ok st' ∧ I st' := by
  rw [runOps_eq]; exact runWith_inv hstep ops st inv h

theorem runOps_append (cfg : Cfg) (ops1 ops2 : List Op) (s0 s1 : St) (h : runOps cfg s0 ops1 = .ok s1) :
    runOps cfg s0 (ops1 ++ ops2) = runOps cfg s1 ops2 := by
  rw [runOps_eq] at h; rw [runOps_eq, runOps_eq]; exact runWith_append ops1 ops2 s0 s1 h

theorem step_end {cfg : Cfg} {st st' : St} (h : dropAll cfg st = .ok st') : step cfg st .«end» = .ok (st', "end") := by
  unfold step; rw [h]; rfl

theorem runOps_cons_end {cfg : Cfg} {op : Op} {ops : List Op} {s s0 st1 st2 : St} {r : String} (h0 : step cfg s op = .ok (s0, r))
    (hr : runOps cfg s0 ops = .ok st1) (hd : dropAll cfg st1 = .ok st2) : runOps cfg s (op :: ops ++ [.«end»]) = .ok st2 := by
  rw [runOps_eq] at hr ⊢
  exact runWith_end (by rw [runWith_cons h0]; exact hr) (step_end hd)

end Tickit.Life
