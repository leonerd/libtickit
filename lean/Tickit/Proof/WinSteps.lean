import Tickit.Proof.WinOrder
/-
  A tree operation is a store change followed by `tickit_window_expose`s.  What it guarantees for the next flush does not
  depend on what the windows or the terminal show: the damage only grew and covers every cell whose owner changed
  (`Recorded`).  `Step` adds what is kept of the structural invariants and of the root's bookkeeping (`RootMove`), so that
  the invariant `TInv` goes through and steps compose.  Which cells change owner comes from the locality of the painter's
  model (`SameButC.changed`).  No `Step`, each for its own reason: hiding the root window (nothing is owned afterwards and
  nothing is recorded), queueing a restacking request, a terminal resize (a cell that leaves the root area loses its owner
  unrecorded).
-/
namespace Tickit
namespace WinFlush
open WinTree WinRB WinSpec

/-- Every owned terminal cell is pending repaint or already right. -/
def InvC (content : Id → Int → Int → Cell) (tree : Tree) (screen : Int → Int → Cell) : Prop :=
  ∀ L C w l c, ownerAt tree L C = some (w, l, c) → Covered tree.root.damage L C ∨ screen L C = content w l c

/-- The invariant of every reachable store, against what the windows show (`content`) and the terminal shows (`screen`). -/
structure TInv (content : Id → Int → Int → Cell) (screen : Int → Int → Cell) (t : Tree) : Prop where
  ok : TreeOk t
  ord : Ordered t
  pos : RootsPositive t
  nonempty : ∀ x ∈ t.root.damage, x.Nonempty
  dinv : RectSet.Inv t.root.damage
  inv : InvC content t screen

theorem invC_of_hidden (content : Id → Int → Int → Cell) (screen : Int → Int → Cell) (t : Tree) (w : Win)
    (hw : t.wins[0]? = some w) (hv : w.isVisible = false) : InvC content t screen := by
  intro L C w' l c ho
  rw [ownerAt_none_of_hidden t w hw hv] at ho
  cases ho

theorem Exposed.of_ite {t t' : Tree} {fuel : Nat} {id : Id} {e : Option Rect} {b : Bool}
    (h : (if b then expose t fuel id e else pure t) = .ok t') (hne : ∀ x ∈ t.root.damage, x.Nonempty)
    (hpos : RootsPositive t) : Exposed t (fun L C => b = true ∧ ExposedRegion t fuel id e L C) t' := by
  cases b with
  | true =>
    have hE := Exposed.of_expose h hne hpos
    exact ⟨hE.wins, hE.nonempty, hE.dinv, hE.root, hE.restore, fun L C =>
      (hE.cov L C).trans (or_congr Iff.rfl ⟨fun hx => ⟨rfl, hx⟩, fun hx => hx.2⟩)⟩
  | false =>
    cases h
    exact .same hne fun _ _ hx => nomatch hx.1

theorem Exposed.trans {t t2 t' : Tree} {R1 R2 : Int → Int → Prop} (h1 : Exposed t R1 t2) (h2 : Exposed t2 R2 t') :
    Exposed t (fun L C => R1 L C ∨ R2 L C) t' :=
  ⟨h2.wins.trans h1.wins, h2.nonempty, fun hi => h2.dinv (h1.dinv hi), h1.root.trans h2.root,
    h2.restore.trans h1.restore, fun L C =>
    (h2.cov L C).trans ((or_congr (h1.cov L C) Iff.rfl).trans or_assoc)⟩

/-- `t'` is `t` after an operation that only added to the damage and recorded every cell whose owner it changed; it did not
    ask for the cursor to be restored (`needs_restore`: only scrolling and focus changes do). -/
structure Recorded (t t' : Tree) : Prop where
  restore : t'.root.needsRestore = t.root.needsRestore
  nonempty : (∀ x ∈ t.root.damage, x.Nonempty) → ∀ x ∈ t'.root.damage, x.Nonempty
  dinv : RectSet.Inv t.root.damage → RectSet.Inv t'.root.damage
  grow : ∀ L C, Covered t.root.damage L C → Covered t'.root.damage L C
  cov : ∀ L C, ownerAt t' L C ≠ ownerAt t L C → Covered t'.root.damage L C

theorem Recorded.refl (t : Tree) : Recorded t t := ⟨rfl, fun h => h, fun h => h, fun _ _ h => h, fun _ _ h => absurd rfl h⟩

theorem Recorded.of_root {t t' : Tree} (h : t'.root = t.root) (hcov : ∀ L C, ownerAt t' L C ≠ ownerAt t L C → False) :
    Recorded t t' :=
  ⟨by rw [h], by rw [h]; exact fun x => x, by rw [h]; exact fun x => x, by rw [h]; exact fun _ _ x => x,
    fun L C hd => (hcov L C hd).elim⟩

theorem Recorded.trans {a b c : Tree} (h1 : Recorded a b) (h2 : Recorded b c) : Recorded a c :=
  ⟨h2.restore.trans h1.restore, fun h => h2.nonempty (h1.nonempty h), fun h => h2.dinv (h1.dinv h),
    fun L C h => h2.grow L C (h1.grow L C h),
    fun L C hne => Classical.byCases (fun hb : ownerAt c L C = ownerAt b L C => h2.grow L C (h1.cov L C (hb ▸ hne))) (h2.cov L C)⟩

theorem Recorded.invC {content : Id → Int → Int → Cell} {screen : Int → Int → Cell} {t t' : Tree} (h : Recorded t t')
    (hinv : InvC content t screen) : InvC content t' screen := by
  intro L C w l c ho
  by_cases heq : ownerAt t' L C = ownerAt t L C
  · exact (hinv L C w l c (heq ▸ ho)).imp (h.grow L C) fun x => x
  · exact Or.inl (h.cov L C heq)

theorem Exposed.recorded {t tb t' : Tree} {R : Int → Int → Prop} (h : Exposed tb R t') (hdmg : tb.root.damage = t.root.damage)
    (hres : tb.root.needsRestore = t.root.needsRestore) (hcov : ∀ L C, ownerAt tb L C ≠ ownerAt t L C → R L C) :
    Recorded t t' :=
  ⟨h.restore.trans hres, fun _ => h.nonempty, by rw [← hdmg]; exact h.dinv, fun L C hc => (h.cov L C).2 (Or.inl (by rw [hdmg]; exact hc)),
    fun L C hne => (h.cov L C).2 (Or.inr (hcov L C (by rwa [ownerAt_congr t' tb h.wins] at hne)))⟩

/-- `ok` and `pos` hold of `t'` outright, every operation being proved from `TreeOk t`; `ord` and `listed` are implications
    because not every invariant that goes through a step has them (C01's `Good`, the focus engine's); `rootRect` is what
    `TermRoot` (root window = terminal) needs. -/
structure Step (t t' : Tree) : Prop where
  ok : TreeOk t'
  pos : RootsPositive t'
  recorded : Recorded t t'
  root : RootMove t t'
  ord : Ordered t → Ordered t'
  listed : ParentListed t → ParentListed t'
  rootRect : ∀ w, t.wins[0]? = some w → ∃ w', t'.wins[0]? = some w' ∧ w'.rect = w.rect

theorem Step.refl {t : Tree} (hok : TreeOk t) (hpos : RootsPositive t) : Step t t :=
  ⟨hok, hpos, .refl t, (RootStep.refl t).move, fun h => h, fun h => h, fun w hw => ⟨w, hw, rfl⟩⟩

theorem Step.trans {a b c : Tree} (h1 : Step a b) (h2 : Step b c) : Step a c :=
  ⟨h2.ok, h2.pos, h1.recorded.trans h2.recorded, h1.root.trans h2.root, fun h => h2.ord (h1.ord h),
    fun h => h2.listed (h1.listed h), fun w hw => by
      obtain ⟨w1, hw1, hr1⟩ := h1.rootRect w hw
      obtain ⟨w2, hw2, hr2⟩ := h2.rootRect w1 hw1
      exact ⟨w2, hw2, hr2.trans hr1⟩⟩

theorem Step.tinv {content : Id → Int → Int → Cell} {screen : Int → Int → Cell} {t t' : Tree} (h : Step t t')
    (hI : TInv content screen t) : TInv content screen t' :=
  ⟨h.ok, h.ord hI.ord, h.pos, h.recorded.nonempty hI.nonempty, h.recorded.dinv hI.dinv, h.recorded.invC hI.inv⟩

theorem Step.of_links {t t' : Tree} (hrec : Recorded t t') (hroot : RootStep t t') (hl : SameBy links t t') (hok : TreeOk t)
    (hrw : RootWin t') (hpos : RootsPositive t')
    (hrect : ∀ w, t.wins[0]? = some w → ∃ w', t'.wins[0]? = some w' ∧ w'.rect = w.rect) : Step t t' :=
  ⟨hok.of_links hl hrw, hpos, hrec, hroot.move, ordered_agree hl, parentListed_agree hl, hrect⟩

theorem Exposed.step {t t' : Tree} {R : Int → Int → Prop} (h : Exposed t R t') (hok : TreeOk t) (hpos : RootsPositive t) :
    Step t t' :=
  ⟨treeOk_congr h.wins hok, rootsPositive_congr h.wins hpos, h.recorded rfl rfl fun _ _ hd => absurd rfl hd, h.root.move,
    ordered_congr h.wins, parentListed_congr h.wins, fun w hw => ⟨w, by rw [h.wins]; exact hw, rfl⟩⟩

/-- For what neither the composition nor the invariants read: marking a window closed, taking requests off the queue. -/
theorem Step.of_core {t t' : Tree} (hcore : SameBy core t t') (hroot : RootMove t t')
    (hdmg : t'.root.damage = t.root.damage) (hres : t'.root.needsRestore = t.root.needsRestore) (hok : TreeOk t)
    (hpos : RootsPositive t) : Step t t' :=
  ⟨treeOk_congr_core hcore hok, rootsPositive_congr_core hcore hpos,
    ⟨hres, by rw [hdmg]; exact fun x => x, by rw [hdmg]; exact fun x => x, by rw [hdmg]; exact fun _ _ x => x,
      fun L C hd => absurd (ownerAt_congr_view (fun x => map_core_view (hcore x)) (sameBy_size hcore) L C) hd⟩,
    hroot, ordered_agree (links_of_core hcore), parentListed_agree (links_of_core hcore), fun w hw => by
      obtain ⟨w2, hw2, hc⟩ := map_eq_some (hcore 0) hw
      exact ⟨w2, hw2, congrArg (·.2.2.1) hc⟩⟩

theorem SameBut.of_wins {t t2 t' : Tree} {id : Id} (h : SameBut t t2 id) (hw : t'.wins = t2.wins) : SameBut t t' id :=
  ⟨by rw [hw]; exact h.other, by rw [hw]; exact h.self, by rw [hw]; exact h.size⟩

theorem SameBut.step {t t' : Tree} {id : Id} (h : SameBut t t' id) (hrec : Recorded t t') (hroot : RootStep t t')
    (hok : TreeOk t) (hpos : RootsPositive t) : Step t t' :=
  .of_links hrec hroot h.toG.links hok (rootWin_sameBut h hok.rootWin) (rootsPositive_sameBut h hpos) fun w hw => by
    obtain ⟨w', hw', hc⟩ := map_eq_some (sameBut_noVis h 0) hw
    exact ⟨w', hw', congrArg (·.2.1) hc⟩

/-- A cell whose owner differs lies, in the coordinates of a window `p` that lists `c`, inside `c` as it is shown in one
    of the two stores, and `p` is exposed there up to the root; one level of fuel is left for `c` itself. -/
theorem SameButC.changed {t tb : Tree} {c : Id} (h : SameButC t tb c) (hc0 : c ≠ 0) (hwf : WFp tb) (hrw : RootWin tb)
    {fe : Nat} {L C : Int} (hne : ownerLoc tb fe 0 L C ≠ ownerLoc t fe 0 L C) :
    ∃ (p : Id) (x y : Int) (k : Nat), Lists t tb p c ∧ (Claims t c x y ∨ Claims tb c x y) ∧ k + 1 ≤ fe ∧ ExposedAt tb k p x y L C := by
  obtain ⟨rw1, r⟩ := hrw.record
  obtain ⟨p, n, x, y, k, ⟨hl, hP⟩, hk, hex⟩ := under_ctx tb hwf _ fe 0 L C 0 L C rw1 r.slot
    (by rw [r.isRoot, r.parent]; rfl) (fun _ => ⟨r.top, r.left⟩) (by rw [r.parent]; exact ⟨rfl, rfl⟩)
    (ownerLoc_local h fe 0 L C (Ne.symm hc0) hne)
  have hn : n ≠ 0 := fun h0 => by subst h0; exact hP.elim (fun e => e rfl) fun e => e rfl
  exact ⟨p, x, y, k, hl, hP.imp ownerLoc_claims ownerLoc_claims, by omega, hex⟩

theorem SameButG.changed {t t1 : Tree} {id : Id} (h : SameButG t t1 id) {w0 w1 : Win} (hw0 : t.wins[id]? = some w0)
    (hw1 : t1.wins[id]? = some w1) (hid : id ≠ 0) (hwf : WFp t1) (hrw : RootWin t1) {L C : Int}
    (hne : ownerAt t1 L C ≠ ownerAt t L C) :
    ∃ (p : Id) (x y : Int) (k : Nat), (w1.parent = some p ∧ w1.isRoot = false) ∧
      ((w0.isVisible = true ∧ w0.rect.memb x y = true) ∨ (w1.isVisible = true ∧ w1.rect.memb x y = true)) ∧
      k ≤ t.wins.size ∧ ExposedAt t1 k p x y L C := by
  unfold ownerAt at hne
  rw [h.size] at hne
  obtain ⟨p, x, y, k, hl, hP, hk, hex⟩ := h.toC.changed hid hwf hrw hne
  refine ⟨p, x, y, k, ?_, hP.imp (fun ⟨cw, hcw, hv, _, hm⟩ => by rw [hw0] at hcw; cases hcw; exact ⟨hv, hm⟩)
    (fun ⟨cw, hcw, hv, _, hm⟩ => by rw [hw1] at hcw; cases hcw; exact ⟨hv, hm⟩), by omega, hex⟩
  -- the child lists are the same in both stores, and `t1`'s parent pointers agree with them
  obtain ⟨pw1, hpw1, hmem⟩ : ∃ w, t1.wins[p]? = some w ∧ id ∈ w.children := hl.2.elim (fun ⟨w, hw, hm⟩ => by
    obtain ⟨w', hw', hc⟩ := sameBy_some h.links hw
    exact ⟨w', hw', by rw [show w'.children = w.children from congrArg Prod.fst hc]; exact hm⟩) fun x => x
  obtain ⟨cw, hcw, hcp, hcr⟩ := hwf.child p pw1 hpw1 id hmem
  rw [hw1] at hcw; cases hcw
  exact ⟨hcp, hcr⟩

theorem SameBut.changed {t t2 : Tree} {id : Id} (h : SameBut t t2 id) {w0 : Win} (hw0 : t.wins[id]? = some w0) (hid : id ≠ 0)
    (hwf : WFp t2) (hrw : RootWin t2) {L C : Int} (hne : ownerAt t2 L C ≠ ownerAt t L C) :
    ∃ (w2 : Win) (p : Id) (x y : Int) (k : Nat), t2.wins[id]? = some w2 ∧ coreNoVis w2 = coreNoVis w0 ∧ w0.parent = some p ∧
      w0.isRoot = false ∧ w0.rect.memb x y = true ∧ k ≤ t.wins.size ∧ ExposedAt t2 k p x y L C := by
  obtain ⟨w2, hw2, hc⟩ := map_eq_some h.self hw0
  obtain ⟨p, x, y, k, ⟨hpar, hroot⟩, hm, hk, hex⟩ := h.toG.changed hw0 hw2 hid hwf hrw hne
  have hc' := hc
  simp only [coreNoVis, Prod.mk.injEq] at hc'
  exact ⟨w2, p, x, y, k, hw2, hc, hc'.2.2.2.1 ▸ hpar, hc'.2.2.2.2 ▸ hroot, hm.elim (fun x => x.2) (fun x => hc'.2.1 ▸ x.2), hk, hex⟩

/-- The common end of hide and show. -/
theorem SameBut.step_of_expose {t t2 t' : Tree} {id target : Id} {e : Option Rect} {fe : Nat} (hsb2 : SameBut t t2 id)
    (hroot2 : t2.root = t.root) (hex : expose t2 fe target e = .ok t') (hok : TreeOk t)
    (hne : ∀ x ∈ t.root.damage, x.Nonempty) (hpos : RootsPositive t)
    (hregion : WFp t2 → RootWin t2 → ∀ L C, ownerAt t2 L C ≠ ownerAt t L C → ExposedRegion t2 fe target e L C) :
    Step t t' ∧ SameBut t t' id :=
  have hE := Exposed.of_expose hex (by rw [hroot2]; exact hne) (rootsPositive_sameBut hsb2 hpos)
  have hsb := hsb2.of_wins hE.wins
  ⟨hsb.step (hE.recorded (by rw [hroot2]) (by rw [hroot2])
      (hregion (wfp_sameBut hsb2 hok.wf) (rootWin_sameBut hsb2 hok.rootWin)))
    (RootStep.trans (Or.inl hroot2) hE.root) hok hpos, hsb⟩

/-- `tickit_window_hide` / `_show` start by setting the flag of a live window; what follows is stated in
    Proof/WinTree.lean (`hide_orphan`, `hide_child`, `show_orphan`, `show_child`). -/
theorem vis_live {t t' : Tree} {id : Id} {b : Bool} {k : Tree → Res Tree}
    (h : (WinTree.modify t id (fun w => { w with isVisible := b }) >>= k) = .ok t') :
    ∃ w0, WinTree.Live t id w0 ∧ SameBut t (WinTree.set t id { w0 with isVisible := b }) id := by
  obtain ⟨_, hmod, _⟩ := bind_ok_iff.1 h
  obtain ⟨w0, hw0, _⟩ := modify_ok_iff.1 hmod
  exact ⟨w0, hw0, sameBut_set t id id w0 _ hw0.1 (by simp [coreNoVis])⟩

theorem hide_step {t t' : Tree} {id : Id} (h : WinTree.hide t (t.wins.size + 1) id = .ok t') (hid : id ≠ 0)
    (hok : TreeOk t) (hpos : RootsPositive t) (hne : ∀ x ∈ t.root.damage, x.Nonempty) : Step t t' ∧ SameBut t t' id := by
  obtain ⟨w0, hl0, hsb1⟩ := vis_live h
  have hw0 := hl0.1
  cases hp : w0.parent with
  | none =>
    -- a window without parent other than the root is not in the composition: nothing changes
    rw [hide_orphan hl0 hp] at h
    cases h
    refine ⟨hsb1.step (.of_root rfl fun L C hd => ?_) (Or.inl rfl) hok hpos, hsb1⟩
    obtain ⟨_, _, _, _, _, _, _, hpar, _⟩ := hsb1.changed hw0 hid (wfp_sameBut hsb1 hok.wf) (rootWin_sameBut hsb1 hok.rootWin) hd
    exact nomatch hp.symm.trans hpar
  | some p =>
    rw [hide_child hl0 hp] at h
    obtain ⟨pw, hgp, h⟩ := bind_ok_iff.1 h
    -- whether or not the parent's focus is cleared, the expose of `id`'s rectangle in `p` reports every cell under `id`
    have finish : ∀ t2, SameBut t t2 id → t2.root = t.root → expose t2 (t.wins.size + 1) p (some w0.rect) = .ok t' → _ :=
      fun t2 hsb2 hroot2 hex => hsb2.step_of_expose hroot2 hex hok hne hpos fun hwf2 hr2 L C hd => by
          obtain ⟨_, p', x, y, k, _, _, hpar, _, h4, h5, h6⟩ := SameBut.changed hsb2 hw0 hid hwf2 hr2 hd
          cases hp.symm.trans hpar
          exact exposedRegion_some ((Rect.memb_iff _ _ _).1 h4) (exposedAt_mono_le t2 (by omega) h6)
    split at h
    · exact finish _ (sameBut_trans hsb1 (sameBut_set _ id p pw _ (get_ok hgp).1 (by split <;> simp [core, coreNoVis]))) rfl h
    · exact finish _ hsb1 rfl h

theorem show_step {t t' : Tree} {id : Id} (h : WinTree.show t (t.wins.size + 1) id = .ok t')
    (hok : TreeOk t) (hpos : RootsPositive t) (hne : ∀ x ∈ t.root.damage, x.Nonempty) : Step t t' ∧ SameBut t t' id := by
  obtain ⟨w0, hl0, hsb1⟩ := vis_live h
  have hw0 := hl0.1
  have hf0 := hl0.2
  have hw1 := set_wins_self hw0 { w0 with isVisible := true }
  -- in a tree where `id` is shown, `expose id NULL` reports every cell under `id`
  have finish : ∀ t2, SameBut t t2 id → t2.root = t.root → (∀ w2, t2.wins[id]? = some w2 → w2.isVisible = true) →
      expose t2 (t.wins.size + 1) id none = .ok t' → _ :=
    fun t2 hsb2 hroot2 hvis hex => hsb2.step_of_expose hroot2 hex hok hne hpos fun hwf2 hr2 L C hd => by
        by_cases hid : id = 0
        · -- the root window: a cell outside it is owned in neither store
          subst hid
          obtain ⟨w2, hw2, hc⟩ := map_eq_some hsb2.self hw0
          simp only [coreNoVis, Prod.mk.injEq] at hc
          obtain ⟨w, r⟩ := hr2.record
          cases hw2.symm.trans r.slot
          have hm : w2.rect.memb L C = true := Classical.byContradiction fun hno => hd (by
            have hno : w2.rect.memb L C = false := by simpa using hno
            unfold ownerAt
            rw [ownerLoc_out hw2 (Or.inr hno), ownerLoc_out hw0 (Or.inr (hc.2.1 ▸ hno))])
          have hml := mem_local hm
          rw [r.top, r.left, Int.sub_zero, Int.sub_zero] at hml
          obtain ⟨b1, b2, b3, b4⟩ := hml
          exact ⟨L, C, fun r hr' => (by cases hr'), w2, hw2, hc.1.trans hf0, b1, b2, b3, b4, hvis w2 hw2, Or.inl ⟨r.isRoot, rfl, rfl⟩⟩
        · obtain ⟨w2, p, x, y, k, hw2, hc, hpar, hroot, h4, h5, h6⟩ := SameBut.changed hsb2 hw0 hid hwf2 hr2 hd
          simp only [coreNoVis, Prod.mk.injEq] at hc
          refine ⟨x - w2.rect.top, y - w2.rect.left, fun r hr' => (by cases hr'), ?_⟩
          refine exposedAt_mono_le t2 (k := k + 1) (by omega)
            (exposedAt_of_ctx hw2 (hc.1.trans hf0) (by rw [hc.2.1]; exact h4) (hvis w2 hw2) (by rw [hc.2.2.2.2, hc.2.2.2.1, hroot, hpar]; rfl)
              (fun hp => nomatch (hc.2.2.2.1 ▸ hp).symm.trans hpar) (by rw [hc.2.2.2.1, hpar]; exact h6))
  have hvis1 : ∀ w2, (WinTree.set t id { w0 with isVisible := true }).wins[id]? = some w2 → w2.isVisible = true := by
    intro w2 hw2; rw [hw1] at hw2; cases hw2; rfl
  cases hp : w0.parent with
  | none =>
    rw [show_orphan hl0 hp] at h
    exact finish _ hsb1 rfl hvis1 h
  | some p =>
    rw [show_child hl0 hp] at h
    obtain ⟨pw, hgp, h⟩ := bind_ok_iff.1 h
    have hpw := get_ok hgp
    split at h
    · -- the parent's focused child is set: nothing the composition reads changes
      refine finish _ (sameBut_trans hsb1 (sameBut_set _ id p pw _ hpw.1 (by split <;> simp [core, coreNoVis]))) rfl ?_ h
      intro w2 hw2
      by_cases hpi : p = id
      · subst hpi
        rw [set_wins_self hpw.1] at hw2
        cases hw2
        rw [hw1] at hpw
        cases hpw.1
        rfl
      · rw [set_wins_ne _ hpi] at hw2
        exact hvis1 w2 hw2
    · exact finish _ hsb1 rfl hvis1 h

end WinFlush
end Tickit
