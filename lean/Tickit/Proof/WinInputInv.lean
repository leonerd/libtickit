import Tickit.Proof.WinInputSim
import Tickit.Proof.WinTree
/-
  The ground of the store layer of C14.  `SafeR` / `SafeO`: an operation reaches no undefined behaviour of the C code (`FuelMsg`
  sets apart the `ub` outcomes that are artefacts of the model's fuel).  `TInv` is the consistency of the window store (its two
  clauses about pairs of windows are the shared `Linked`).  An operation performed from inside a dispatch concludes `StepIn A`:
  `StepOK`, and the store changed only inside the set `A` of windows (`Sim A`); `A := fun _ => true` is plain safety, so each
  operation is walked once.  How the relations between two stores hang together:
    FStep A ──FStep.stepIn──▶ StepIn A ──extends──▶ StepOK = TInv ∧ DragOK ∧ Evolve        Grown (one more slot)
       │ .focus                  │ .sim    └─StepIn.dropIn─▶ DropIn A c = TInv ∧ KeepOthers c ∧ Sim A
    FocusOnly A ─FocusOnly.sim─▶ Sim A          Evolve ──Evolve.keepOthers──▶ KeepOthers c
    FocusOnly A ─.keepParents──▶ KeepParents none
  (`FStep`, `FocusOnly`: Proof/WinInputSimFocus.lean; `DropIn`, `KeepOthers`, `Grown`: Proof/WinInputSimOps.lean.)
-/
namespace Tickit
namespace WinInput
open WinTree

def FuelMsg (w : String) : Prop :=
  w = "parent chain too long" ∨ w = "focus chain too long" ∨ w = "destroy recursion too deep" ∨
  w = "rectset_contains out of fuel" ∨ w = "rectset_add out of fuel"

def SafeR {α : Type} (r : Res α) (Q : α → Prop) : Prop :=
  match r with
  | .ok a => Q a
  | .ub w => FuelMsg w

def SafeO {α : Type} (r : Out α) (Q : α → Prop) : Prop :=
  match r with
  | .ok a => Q a
  | .ub w => FuelMsg w
  | .fuel => True

theorem safeR_ok {α : Type} {r : Res α} {Q : α → Prop} {a : α} (hs : SafeR r Q) (hr : r = Res.ok a) : Q a := by
  rw [hr] at hs; exact hs

theorem safeR_ub {α : Type} {r : Res α} {Q : α → Prop} {w : String} (hs : SafeR r Q) (hr : r = Res.ub w) : FuelMsg w := by
  rw [hr] at hs; exact hs

theorem safeO_ok {α : Type} {r : Out α} {Q : α → Prop} {a : α} (hs : SafeO r Q) (hr : r = Out.ok a) : Q a := by
  rw [hr] at hs; exact hs

theorem safeO_ub {α : Type} {r : Out α} {Q : α → Prop} {w : String} (hs : SafeO r Q) (hr : r = Out.ub w) : FuelMsg w := by
  rw [hr] at hs; exact hs

theorem SafeR.pure {α : Type} {a : α} {Q : α → Prop} (h : Q a) : SafeR (pure a : Res α) Q := h

theorem SafeR.bind {α β : Type} {x : Res α} {f : α → Res β} {Q : α → Prop} {R : β → Prop}
    (hx : SafeR x Q) (hf : ∀ a, Q a → SafeR (f a) R) : SafeR (x >>= f) R := by
  cases x with
  | ok a => exact hf a hx
  | ub w => exact hx

theorem SafeR.mono {α : Type} {x : Res α} {Q Q' : α → Prop} (hx : SafeR x Q) (h : ∀ a, Q a → Q' a) : SafeR x Q' := by
  cases x with
  | ok a => exact h a hx
  | ub w => exact hx

theorem SafeO.pure {α : Type} {a : α} {Q : α → Prop} (h : Q a) : SafeO (pure a : Out α) Q := h

theorem SafeO.bind {α β : Type} {x : Out α} {f : α → Out β} {Q : α → Prop} {R : β → Prop}
    (hx : SafeO x Q) (hf : ∀ a, Q a → SafeO (f a) R) : SafeO (x >>= f) R := by
  cases x with
  | ok a => exact hf a hx
  | ub w => exact hx
  | fuel => trivial

theorem SafeO.mono {α : Type} {x : Out α} {Q Q' : α → Prop} (hx : SafeO x Q) (h : ∀ a, Q a → Q' a) : SafeO x Q' := by
  cases x with
  | ok a => exact h a hx
  | ub w => exact hx
  | fuel => trivial

theorem SafeR.and_ok {α : Type} {x : Res α} {Q Q' : α → Prop} (hx : SafeR x Q) (h : ∀ a, x = Res.ok a → Q a → Q' a) :
    SafeR x Q' := by
  cases x with
  | ok a => exact h a rfl hx
  | ub w => exact hx

theorem SafeO.and_ok {α : Type} {x : Out α} {Q Q' : α → Prop} (hx : SafeO x Q) (h : ∀ a, x = Out.ok a → Q a → Q' a) :
    SafeO x Q' := by
  cases x with
  | ok a => exact h a rfl hx
  | ub w => exact hx
  | fuel => trivial

theorem SafeO.lift {α : Type} {x : Res α} {Q : α → Prop} (hx : SafeR x Q) : SafeO (liftM x : Out α) Q := by
  cases x with
  | ok a => exact hx
  | ub w => exact hx

theorem SafeO.lbind {α β : Type} {x : Res α} {f : α → Out β} {Q : α → Prop} {R : β → Prop}
    (hx : SafeR x Q) (hf : ∀ a, Q a → SafeO (f a) R) : SafeO ((liftM x : Out α) >>= f) R :=
  SafeO.bind (SafeO.lift hx) hf

theorem SafeR.ite {α : Type} {c : Prop} [Decidable c] {x y : Res α} {Q : α → Prop} (h1 : c → SafeR x Q)
    (h2 : ¬ c → SafeR y Q) : SafeR (if c then x else y) Q := by
  split
  · exact h1 ‹_›
  · exact h2 ‹_›

theorem SafeO.ite {α : Type} {c : Prop} [Decidable c] {x y : Out α} {Q : α → Prop} (h1 : c → SafeO x Q)
    (h2 : ¬ c → SafeO y Q) : SafeO (if c then x else y) Q := by
  split
  · exact h1 ‹_›
  · exact h2 ‹_›

/-- `WinTree.Live t i w` with the record left out: for the statements that do not speak of it. -/
def Alive (t : Tree) (i : WinTree.Id) : Prop := ∃ w, t.wins[i]? = some w ∧ w.freed = false

theorem Alive.get {t : Tree} {i : WinTree.Id} (h : Alive t i) : ∃ w, WinTree.get t i = Res.ok w ∧ t.wins[i]? = some w ∧ w.freed = false := by
  obtain ⟨w, hw, hf⟩ := h
  exact ⟨w, WinTree.Live.get ⟨hw, hf⟩, hw, hf⟩

theorem Alive.lt_fuel {t : Tree} {i : WinTree.Id} (h : Alive t i) : i < treeFuel t := by
  obtain ⟨w, hw, _⟩ := h
  exact Nat.lt_add_right 2 (Array.getElem?_eq_some_iff.1 hw).1

theorem isAlive_of_alive {t : Tree} {i : WinTree.Id} (h : Alive t i) : isAlive t i = true := by
  obtain ⟨w, hw, hf⟩ := h
  unfold isAlive; rw [hw]; simp [hf]

theorem alive_of_isAlive {t : Tree} {i : WinTree.Id} (h : isAlive t i = true) : Alive t i := by
  unfold isAlive at h
  cases hw : t.wins[i]? with
  | none => simp [hw] at h
  | some w => simp only [hw] at h; exact ⟨w, hw, by simpa using h⟩

theorem SafeR.of_ok {α : Type} {x : Res α} {a : α} {Q : α → Prop} (hx : x = Res.ok a) (h : Q a) : SafeR x Q := by
  rw [hx]; exact h

theorem safeR_get {t : Tree} {i : WinTree.Id} (h : Alive t i) :
    SafeR (WinTree.get t i) (fun w => t.wins[i]? = some w ∧ w.freed = false) := by
  obtain ⟨w, hg, hw, hf⟩ := h.get
  rw [hg]; exact ⟨hw, hf⟩

/-- `x` hangs below the root (the model's `attached`). -/
inductive Att (t : Tree) : WinTree.Id → Prop where
  | root : Att t 0
  | step {x p : WinTree.Id} {w : Win} : t.wins[x]? = some w → w.freed = false → w.parent = some p → Att t p → Att t x

/-- `x` is `a` or lies below it (the model's `isWithin`). -/
inductive Within (t : Tree) (a : WinTree.Id) : WinTree.Id → Prop where
  | self : Within t a a
  | step {x p : WinTree.Id} {w : Win} : t.wins[x]? = some w → w.parent = some p → Within t a p → Within t a x

theorem isWithin_sound {t : Tree} {a : WinTree.Id} : ∀ (f : Nat) (x : WinTree.Id), isWithin t f a x = true → Within t a x := by
  intro f
  induction f with
  | zero => intro x h; simp [isWithin] at h
  | succ f ih =>
    intro x h
    unfold isWithin at h
    by_cases hx : x = a
    · subst hx; exact Within.self
    · simp only [hx, if_false] at h
      cases hw : t.wins[x]? with
      | none => simp [hw] at h
      | some w =>
        simp only [hw] at h
        cases hp : w.parent with
        | none => simp [hp] at h
        | some p => simp only [hp] at h; exact Within.step hw hp (ih p h)

theorem Within.of_wins {t t' : Tree} {a x : WinTree.Id} (h : Within t' a x) (e : t'.wins = t.wins) : Within t a x := by
  induction h with
  | self => exact Within.self
  | step hw hp _ ih => exact Within.step (by rw [← e]; exact hw) hp ih

/-- What carries `Att` from `t` to `t'`: every live window other than `e` stays live, with the parent it had. -/
def KeepParents (e : Option WinTree.Id) (t t' : Tree) : Prop :=
  ∀ (x : WinTree.Id) (w : Win), t.wins[x]? = some w → w.freed = false → some x ≠ e →
    ∃ w', t'.wins[x]? = some w' ∧ w'.freed = false ∧ w'.parent = w.parent

theorem Att.keep {t t' : Tree} (h : KeepParents none t t') {x : WinTree.Id} (ha : Att t x) : Att t' x := by
  induction ha with
  | root => exact Att.root
  | step hw hf hp _ ih =>
    obtain ⟨w', hw', hf', hp'⟩ := h _ _ hw hf (by simp)
    exact Att.step hw' hf' (by rw [hp']; exact hp) ih

theorem Att.keep_outside {t t' : Tree} {e : WinTree.Id} (h : KeepParents (some e) t t') {x : WinTree.Id} (ha : Att t x)
    (hn : ¬ Within t e x) : Att t' x := by
  induction ha with
  | root => exact Att.root
  | @step x p w hw hf hp _ ih =>
    have hxe : x ≠ e := fun he => hn (he ▸ Within.self)
    obtain ⟨w', hw', hf', hp'⟩ := h _ _ hw hf (by simpa using hxe)
    exact Att.step hw' hf' (by rw [hp']; exact hp) (ih (fun hw2 => hn (Within.step hw hp hw2)))

theorem Att.keep_leaf {t t' : Tree} {e : WinTree.Id} (h : KeepParents (some e) t t')
    (hleaf : ∀ (x : WinTree.Id) (w : Win), t.wins[x]? = some w → w.freed = false → w.parent ≠ some e)
    {x : WinTree.Id} (ha : Att t x) (hxe : x ≠ e) : Att t' x := by
  induction ha with
  | root => exact Att.root
  | @step x p w hw hf hp _ ih =>
    obtain ⟨w', hw', hf', hp'⟩ := h _ _ hw hf (by simpa using hxe)
    have hpe : p ≠ e := fun he => hleaf x w hw hf (by rw [hp, he])
    exact Att.step hw' hf' (by rw [hp']; exact hp) (ih hpe)

/-- The requests `_request_hierarchy_change` is asked to queue by the public API: raise, lower, to front, to back. -/
def Restack (c : Change) : Prop := c = .raise ∨ c = .raiseFront ∨ c = .lower ∨ c = .lowerBack

theorem Restack.isRestack {c : Change} (h : Restack c) : c.isRestack = true := by
  rcases h with h | h | h | h <;> rw [h] <;> rfl

structure TInv (t : Tree) : Prop where
  root : ∃ w0, t.wins[0]? = some w0 ∧ w0.freed = false ∧ w0.parent = none
  child : ∀ (i c : WinTree.Id) (w : Win), t.wins[i]? = some w → w.freed = false → c ∈ w.children →
    ∃ cw, t.wins[c]? = some cw ∧ cw.freed = false ∧ cw.parent = some i
  parent : ∀ (c p : WinTree.Id) (cw : Win), t.wins[c]? = some cw → cw.freed = false → cw.parent = some p →
    ∃ pw, t.wins[p]? = some pw ∧ pw.freed = false ∧ c ∈ pw.children
  focus : ∀ (i f : WinTree.Id) (w : Win), t.wins[i]? = some w → w.freed = false → w.focusedChild = some f →
    f ∈ w.children
  nodup : ∀ (i : WinTree.Id) (w : Win), t.wins[i]? = some w → w.freed = false → w.children.Nodup
  noself : ∀ (i : WinTree.Id) (w : Win), t.wins[i]? = some w → w.freed = false → w.parent ≠ some i
  closed : ∀ (i : WinTree.Id) (w : Win), t.wins[i]? = some w → w.freed = false → w.isClosed = true → w.parent = none
  /-- parents were created before their children: no cycles, and chains are shorter than the store -/
  lt : ∀ (c p : WinTree.Id) (cw : Win), t.wins[c]? = some cw → cw.freed = false → cw.parent = some p → p < c
  rootflag : ∀ (i : WinTree.Id) (w : Win), t.wins[i]? = some w → w.freed = false → (w.isRoot = true ↔ i = 0)
  queue : ∀ r ∈ t.root.changes, ∃ w, t.wins[r.win]? = some w ∧ w.freed = false ∧ w.parent = some r.parent ∧ Att t r.win
  qkind : ∀ r ∈ t.root.changes, Restack r.change

def SoundReq (t : Tree) (r : Req) : Prop :=
  ∃ w, t.wins[r.win]? = some w ∧ w.freed = false ∧ w.parent = some r.parent ∧ Att t r.win

structure ListOK (x : Win) : Prop where
  focus : ∀ f, x.focusedChild = some f → f ∈ x.children
  nodup : x.children.Nodup
  closed : x.isClosed = true → x.parent = none

/-- The clauses of `TInv` about one window alone: what is re-checked of a rewritten record. -/
structure WinOK (i : WinTree.Id) (x : Win) : Prop extends ListOK x where
  lt : ∀ p, x.parent = some p → p < i
  rootflag : x.isRoot = true ↔ i = 0

theorem TInv.winOK {t : Tree} (hi : TInv t) {i : WinTree.Id} {x : Win} (hx : t.wins[i]? = some x) (hf : x.freed = false) :
    WinOK i x :=
  ⟨⟨fun f => hi.focus i f x hx hf, hi.nodup i x hx hf, hi.closed i x hx hf⟩, fun p => hi.lt i p x hx hf, hi.rootflag i x hx hf⟩

theorem TInv.of_winOK {t : Tree} (root : ∃ w0, t.wins[0]? = some w0 ∧ w0.freed = false ∧ w0.parent = none)
    (child : ∀ (i c : WinTree.Id) (w : Win), t.wins[i]? = some w → w.freed = false → c ∈ w.children →
      ∃ cw, t.wins[c]? = some cw ∧ cw.freed = false ∧ cw.parent = some i)
    (parent : ∀ (c p : WinTree.Id) (cw : Win), t.wins[c]? = some cw → cw.freed = false → cw.parent = some p →
      ∃ pw, t.wins[p]? = some pw ∧ pw.freed = false ∧ c ∈ pw.children)
    (ok : ∀ (i : WinTree.Id) (x : Win), t.wins[i]? = some x → x.freed = false → WinOK i x)
    (queue : ∀ r ∈ t.root.changes, SoundReq t r)
    (qkind : ∀ r ∈ t.root.changes, Restack r.change) : TInv t :=
  { root := root, child := child, parent := parent, queue := queue, qkind := qkind
    focus := fun i f x hx hf => (ok i x hx hf).focus f
    nodup := fun i x hx hf => (ok i x hx hf).nodup
    noself := fun i x hx hf h => Nat.lt_irrefl i ((ok i x hx hf).lt i h)
    closed := fun i x hx hf => (ok i x hx hf).closed
    lt := fun c p x hx hf => (ok c x hx hf).lt p
    rootflag := fun i x hx hf => (ok i x hx hf).rootflag }

theorem TInv.linked {t : Tree} (hi : TInv t) : Linked t :=
  ⟨fun c cw hc p hp => ⟨hi.lt c p cw hc.1 hc.2 hp, (hi.parent c p cw hc.1 hc.2 hp).imp fun _ h => ⟨⟨h.1, h.2.1⟩, h.2.2⟩⟩,
   fun p pw hp c hc => (hi.child p c pw hp.1 hp.2 hc).imp fun _ h => ⟨⟨h.1, h.2.1⟩, h.2.2⟩⟩

theorem TInv.of_linked {t : Tree} (root : ∃ w0, t.wins[0]? = some w0 ∧ w0.freed = false ∧ w0.parent = none) (hl : Linked t)
    (ok : ∀ (i : WinTree.Id) (x : Win), t.wins[i]? = some x → x.freed = false → WinOK i x)
    (queue : ∀ r ∈ t.root.changes, SoundReq t r) (qkind : ∀ r ∈ t.root.changes, Restack r.change) : TInv t :=
  TInv.of_winOK root (fun i c w hw hf hc => (hl.child i w ⟨hw, hf⟩ c hc).imp fun _ h => ⟨h.1.1, h.1.2, h.2⟩)
    (fun c p cw hw hf hp => (hl.parent c cw ⟨hw, hf⟩ p hp).2.imp fun _ h => ⟨h.1.1, h.1.2, h.2⟩) ok queue qkind

theorem TInv.relink {t t' : Tree} (hi : TInv t) (hl : Linked t') {e : Option WinTree.Id} (keep : KeepParents e t t')
    (h0 : some 0 ≠ e) (ok : ∀ (i : WinTree.Id) (x : Win), t'.wins[i]? = some x → x.freed = false → WinOK i x)
    (hq : ∀ r ∈ t'.root.changes, SoundReq t r ∧ Restack r.change ∧ some r.win ≠ e ∧ Att t' r.win) : TInv t' := by
  refine TInv.of_linked ?_ hl ok (fun r hr => ?_) fun r hr => (hq r hr).2.1
  · obtain ⟨w0, hw0, hf0, hp0⟩ := hi.root
    obtain ⟨x', hx', hxf, hxp⟩ := keep 0 w0 hw0 hf0 h0
    exact ⟨x', hx', hxf, hxp.trans hp0⟩
  · obtain ⟨⟨x, hx, hxf, hxp, _⟩, _, hne, ha⟩ := hq r hr
    obtain ⟨x', hx', hxf', hxp'⟩ := keep r.win x hx hxf hne
    exact ⟨x', hx', hxf', hxp'.trans hxp, ha⟩

theorem TInv.queued {t t' : Tree} (hi : TInv t) {e : Option WinTree.Id} (hc : t'.root.changes = t.root.changes)
    (h : ∀ r ∈ t.root.changes, some r.win ≠ e ∧ Att t' r.win) :
    ∀ r ∈ t'.root.changes, SoundReq t r ∧ Restack r.change ∧ some r.win ≠ e ∧ Att t' r.win := fun r hr =>
  have hr0 := hc ▸ hr
  ⟨hi.queue r hr0, hi.qkind r hr0, h r hr0⟩

theorem TInv.alive_root {t : Tree} (hi : TInv t) : Alive t 0 :=
  hi.root.imp fun _ h => ⟨h.1, h.2.1⟩

theorem children_alive {t : Tree} (hi : TInv t) {win : WinTree.Id} {w : Win} (hw : t.wins[win]? = some w)
    (hf : w.freed = false) : ∀ c ∈ w.children, Alive t c := fun c hc => by
  obtain ⟨cw, hcw, hcf, _⟩ := hi.child win c w hw hf hc
  exact ⟨cw, hcw, hcf⟩

theorem parent_alive {t : Tree} (hi : TInv t) {i p : WinTree.Id} {w : Win} (hw : t.wins[i]? = some w) (hf : w.freed = false)
    (hp : w.parent = some p) : Alive t p := by
  obtain ⟨pw, hpw, hpf, _⟩ := hi.parent i p w hw hf hp
  exact ⟨pw, hpw, hpf⟩

def DragOK (t : Tree) : Prop := ∀ d, t.root.dragSource = some d → Alive t d

/-- What a `ref` / `unref` that frees nothing leaves. -/
structure Shape (t t' : Tree) : Prop where
  changes : t'.root.changes = t.root.changes
  win : ∀ (i : WinTree.Id), (t'.wins[i]?).map noRc = (t.wins[i]?).map noRc

theorem Shape.refl (t : Tree) : Shape t t := ⟨rfl, fun _ => rfl⟩
theorem Shape.trans {a b c : Tree} (h1 : Shape a b) (h2 : Shape b c) : Shape a c :=
  ⟨h2.changes.trans h1.changes, fun i => (h2.win i).trans (h1.win i)⟩

theorem Shape.alive {t t' : Tree} (h : Shape t t') {i : WinTree.Id} (ha : Alive t i) : Alive t' i := by
  obtain ⟨w, hw, hf⟩ := ha
  obtain ⟨w', hw', e⟩ := sameBy_some h.win hw
  exact ⟨w', hw', by rw [(noRc_eq e Win.freed)]; exact hf⟩

theorem wins_set_cases {t : Tree} {i : WinTree.Id} {w w' : Win} (hw : t.wins[i]? = some w) (j : WinTree.Id) (x : Win)
    (hx : (WinTree.set t i w').wins[j]? = some x) : (j = i ∧ x = w') ∨ (j ≠ i ∧ t.wins[j]? = some x) := by
  by_cases hij : i = j
  · subst hij
    rw [set_wins_self hw] at hx
    cases hx; exact Or.inl ⟨rfl, rfl⟩
  · rw [set_wins_ne _ hij] at hx
    exact Or.inr ⟨fun h => hij h.symm, hx⟩

theorem TInv.lift {R : Nat → Win → Win → Prop} (hR : ∀ i w w', R i w w' → SameLinks w w' ∧ w'.isRoot = w.isRoot) {t t' : Tree}
    (hi : TInv t) (h : Lift R t t')
    (ok : ∀ (i : WinTree.Id) (x x' : Win), t.wins[i]? = some x → x.freed = false → R i x x' → ListOK x')
    (queue : ∀ r ∈ t'.root.changes, SoundReq t r ∧ Restack r.change) : TInv t' := by
  have keep : KeepParents none t t' := fun x w hx hf _ => by
    obtain ⟨w', hw', r⟩ := h.2 x w hx
    exact ⟨w', hw', (hR _ _ _ r).1.freed.trans hf, (hR _ _ _ r).1.parent⟩
  refine hi.relink (hi.linked.lift (fun i w w' r => (hR i w w' r).1) h) keep nofun (fun i x' hx' hxf => ?_) fun r hr =>
    ⟨(queue r hr).1, (queue r hr).2, nofun, (queue r hr).1.elim fun _ hq => hq.2.2.2.keep keep⟩
  obtain ⟨x, hx, r⟩ := h.back hx'
  obtain ⟨sl, hro⟩ := hR _ _ _ r
  have hxf0 : x.freed = false := sl.freed.symm.trans hxf
  exact ⟨ok i x x' hx hxf0 r, fun p hp => hi.lt i p x hx hxf0 (sl.parent ▸ hp), hro ▸ hi.rootflag i x hx hxf0⟩

theorem TInv.shape {t t' : Tree} (hi : TInv t) (h : Shape t t') : TInv t' := by
  refine hi.lift (R := fun _ w w' => noRc w' = noRc w) (fun _ w w' e => ⟨⟨noRc_eq e Win.parent, fun c => by
    rw [noRc_eq e Win.children], noRc_eq e Win.freed⟩, noRc_eq e Win.isRoot⟩) (SameBy.lift h.win) (fun i x x' hx hxf e => ?_)
    fun r hr => by rw [h.changes] at hr; exact ⟨hi.queue r hr, hi.qkind r hr⟩
  have e2 := noRc_eq e Win.children
  exact ⟨fun f hfc => e2 ▸ hi.focus i f x hx hxf (noRc_eq e Win.focusedChild ▸ hfc), e2 ▸ hi.nodup i x hx hxf,
    fun hcl => noRc_eq e Win.parent ▸ hi.closed i x hx hxf (noRc_eq e Win.isClosed ▸ hcl)⟩

theorem DragOK.shape {t t' : Tree} (hd : DragOK t) (h : Shape t t') (hs : t'.root.dragSource = t.root.dragSource) :
    DragOK t' := by
  intro d hdd
  rw [hs] at hdd
  exact h.alive (hd d hdd)

/-- What the reference accounting (`AInv.step`, Proof/WinInputSafe.lean) needs of a step; the last clause is for its leaf-first rule `AInv.leaf`. -/
structure Evolve (t t' : Tree) : Prop where
  size : t'.wins.size = t.wins.size
  win : ∀ (i : WinTree.Id) (w : Win), t.wins[i]? = some w →
    ∃ w', t'.wins[i]? = some w' ∧ w'.freed = w.freed ∧ w'.refcount = w.refcount ∧ (w.children = [] → w'.children = [])

structure EvolveW (w w' : Win) : Prop where
  freed : w'.freed = w.freed
  count : w'.refcount = w.refcount
  leaf : w.children = [] → w'.children = []

theorem EvolveW.refl (w : Win) : EvolveW w w := ⟨rfl, rfl, id⟩

theorem EvolveW.trans (a b c : Win) (h1 : EvolveW a b) (h2 : EvolveW b c) : EvolveW a c :=
  ⟨h2.freed.trans h1.freed, h2.count.trans h1.count, fun h => h2.leaf (h1.leaf h)⟩

theorem evolve_iff {t t' : Tree} : Evolve t t' ↔ Lift (fun _ => EvolveW) t t' :=
  ⟨fun h => ⟨h.size, fun i w hw => (h.win i w hw).imp fun _ h => ⟨h.1, h.2.1, h.2.2.1, h.2.2.2⟩⟩,
   fun h => ⟨h.1, fun i w hw => (h.2 i w hw).imp fun _ h => ⟨h.1, h.2.freed, h.2.count, h.2.leaf⟩⟩⟩

theorem Evolve.refl (t : Tree) : Evolve t t := evolve_iff.2 (.refl (fun _ => EvolveW.refl) t)

theorem Evolve.trans {a b c : Tree} (h1 : Evolve a b) (h2 : Evolve b c) : Evolve a c :=
  evolve_iff.2 (.trans (fun _ => EvolveW.trans) (evolve_iff.1 h1) (evolve_iff.1 h2))

theorem Evolve.of_wins {t t' : Tree} (h : t'.wins = t.wins) : Evolve t t' := evolve_iff.2 (.of_wins (fun _ => EvolveW.refl) h)

theorem Evolve.alive {t t' : Tree} (h : Evolve t t') {i : WinTree.Id} (ha : Alive t i) : Alive t' i := by
  obtain ⟨w, hw, hf⟩ := ha
  obtain ⟨w', hw', f, _, _⟩ := h.win i w hw
  exact ⟨w', hw', by rw [f]; exact hf⟩

theorem Evolve.set {t : Tree} {i : WinTree.Id} {w w' : Win} (hw : t.wins[i]? = some w) (hf : w'.freed = w.freed)
    (hr : w'.refcount = w.refcount) (hc : w.children = [] → w'.children = []) : Evolve t (WinTree.set t i w') :=
  evolve_iff.2 (.set (fun _ => EvolveW.refl) hw ⟨hf, hr, hc⟩)

theorem Evolve.back {t t' : Tree} (h : Evolve t t') {j : WinTree.Id} {x' : Win} (hx' : t'.wins[j]? = some x') :
    ∃ x, t.wins[j]? = some x ∧ EvolveW x x' := (evolve_iff.1 h).back hx'

theorem DragOK.evolve {t t' : Tree} (hd : DragOK t) (h : Evolve t t') (hs : t'.root.dragSource = t.root.dragSource) :
    DragOK t' := by
  intro d hdd
  rw [hs] at hdd
  exact h.alive (hd d hdd)

theorem expose_safe {t : Tree} (hi : TInv t) (f : Nat) (i : WinTree.Id) (r : Option Rect) (ha : Alive t i) :
    SafeR (expose t f i r) (fun t' => t'.wins = t.wins ∧ t'.root.changes = t.root.changes ∧
      t'.root.dragSource = t.root.dragSource) := by
  obtain ⟨w, hl⟩ := ha
  cases h : expose t f i r with
  | ok t' => rcases WinTree.expose_cases f h with rfl | ⟨d, rfl⟩ <;> exact ⟨rfl, rfl, rfl⟩
  | ub m =>
    rcases expose_ub hi.linked.upward f r hl h with e | e | e
    · exact .inl e
    · exact .inr (.inr (.inr (.inl e)))
    · exact .inr (.inr (.inr (.inr e)))

theorem TInv.set_perm {t : Tree} (hi : TInv t) {i : WinTree.Id} {w w' : Win} (hw : t.wins[i]? = some w)
    (hl : SameLinks w w') (hro : w'.isRoot = w.isRoot) (ok : ListOK w') : TInv (WinTree.set t i w') := by
  refine hi.lift (R := fun _ x x' => x' = x ∨ (x = w ∧ x' = w')) (fun _ x x' r => ?_)
    (Lift.set (fun _ _ => .inl rfl) hw (.inr ⟨rfl, rfl⟩)) (fun j x x' hx hxf r => ?_) fun r hr => ⟨hi.queue r hr, hi.qkind r hr⟩
  · rcases r with rfl | ⟨rfl, rfl⟩
    · exact ⟨.refl _, rfl⟩
    · exact ⟨hl, hro⟩
  · rcases r with rfl | ⟨rfl, rfl⟩
    · exact (hi.winOK hx hxf).toListOK
    · exact ok

theorem alive_set {t : Tree} {i : WinTree.Id} {w w' : Win} (hw : t.wins[i]? = some w) (hf' : w'.freed = w.freed)
    {j : WinTree.Id} (ha : Alive t j) : Alive (WinTree.set t i w') j := by
  obtain ⟨x, hx, hxf⟩ := ha
  by_cases hij : i = j
  · subst hij
    rw [hw] at hx; cases hx
    exact ⟨w', set_wins_self hw _, by rw [hf']; exact hxf⟩
  · exact ⟨x, by rw [set_wins_ne _ hij]; exact hx, hxf⟩

theorem DragOK.set {t : Tree} (hd : DragOK t) {i : WinTree.Id} {w w' : Win} (hw : t.wins[i]? = some w)
    (hf' : w'.freed = w.freed) : DragOK (WinTree.set t i w') :=
  fun d hdd => alive_set hw hf' (hd d hdd)

structure StepOK (t t' : Tree) : Prop where
  inv : TInv t'
  drag : DragOK t'
  ev : Evolve t t'

theorem StepOK.refl {t : Tree} (hi : TInv t) (hd : DragOK t) : StepOK t t := ⟨hi, hd, Evolve.refl t⟩

theorem StepOK.trans {a b c : Tree} (h1 : StepOK a b) (h2 : StepOK b c) : StepOK a c :=
  ⟨h2.inv, h2.drag, h1.ev.trans h2.ev⟩

theorem StepOK.queue {t0 t t' : Tree} (s : StepOK t0 t) (hw : t'.wins = t.wins) (hd : DragOK t')
    (hq : ∀ r ∈ t'.root.changes, SoundReq t r ∧ Restack r.change) : StepOK t0 t' :=
  ⟨s.inv.lift (R := fun _ w w' => w' = w) (fun _ _ _ e => e ▸ ⟨.refl _, rfl⟩) (.of_wins (fun _ _ => rfl) hw)
      (fun _ _ _ hx hxf e => e ▸ (s.inv.winOK hx hxf).toListOK) hq,
   hd, s.ev.trans (Evolve.of_wins hw)⟩

theorem StepOK.root {t0 t t' : Tree} (s : StepOK t0 t) (hw : t'.wins = t.wins) (hc : t'.root.changes = t.root.changes)
    (hd : t'.root.dragSource = t.root.dragSource) : StepOK t0 t' :=
  s.queue hw (s.drag.evolve (Evolve.of_wins hw) hd) fun r hr => by rw [hc] at hr; exact ⟨s.inv.queue r hr, s.inv.qkind r hr⟩

theorem exposeIf_after {t0 t : Tree} (s : StepOK t0 t) (f : Nat) (i : WinTree.Id) (r : Option Rect) (ha : Alive t i)
    (c : Prop) [Decidable c] :
    SafeR (if c then expose t f i r else pure t) (fun t' => StepOK t0 t' ∧ t'.wins = t.wins ∧ t'.root.changes = t.root.changes) :=
  SafeR.ite (fun _ => (expose_safe s.inv f i r ha).mono fun _ ⟨hw, hc, hdr⟩ => ⟨s.root hw hc hdr, hw, hc⟩) fun _ => ⟨s, rfl, rfl⟩

theorem _root_.Tickit.WinTree.SameLinks.of_eq {w w' : Win} (hp : w'.parent = w.parent) (hc : w'.children = w.children) (hf : w'.freed = w.freed) :
    SameLinks w w' := ⟨hp, fun _ => by rw [hc], hf⟩

theorem StepOK.set {t : Tree} (hi : TInv t) (hd : DragOK t) {i : WinTree.Id} {w w' : Win} (hl : WinTree.Live t i w)
    (sl : SameLinks w w') (hr : w'.refcount = w.refcount) (hro : w'.isRoot = w.isRoot) (ok : ListOK w') :
    StepOK t (WinTree.set t i w') :=
  ⟨hi.set_perm hl.1 sl hro ok, hd.set hl.1 sl.freed, Evolve.set hl.1 sl.freed hr fun h =>
    List.eq_nil_iff_forall_not_mem.2 fun c hc => by have := (sl.children c).1 hc; rw [h] at this; cases this⟩

structure StepIn (A : Aff) (t t' : Tree) : Prop extends StepOK t t' where
  sim : Sim A t t'

theorem down_all (t : Tree) : Down (fun _ => true) t := fun _ _ _ _ _ _ => rfl

theorem StepIn.refl {A : Aff} {t : Tree} (hi : TInv t) (hd : DragOK t) (hdn : Down A t) : StepIn A t t :=
  ⟨.refl hi hd, .refl hdn⟩

theorem StepIn.trans {A : Aff} {a b c : Tree} (h1 : StepIn A a b) (h2 : StepIn A b c) : StepIn A a c :=
  ⟨h1.toStepOK.trans h2.toStepOK, h1.sim.trans h2.sim⟩

theorem StepIn.of_wins {A : Aff} {t t' : Tree} (s : StepOK t t') (hdn : Down A t) (hw : t'.wins = t.wins) : StepIn A t t' :=
  ⟨s, Sim.of_wins hdn hw⟩

theorem StepIn.exposeIf {A : Aff} {t0 t : Tree} (s : StepIn A t0 t) (f : Nat) (i : WinTree.Id) (r : Option Rect) (ha : Alive t i)
    (c : Prop) [Decidable c] :
    SafeR (if c then WinTree.expose t f i r else pure t) (fun t' => StepIn A t0 t' ∧ t'.wins = t.wins) :=
  (exposeIf_after s.toStepOK f i r ha c).mono fun _ h => ⟨⟨h.1, s.sim.trans (Sim.of_wins s.sim.down h.2.1)⟩, h.2.1⟩

theorem StepIn.expose {A : Aff} {t0 t : Tree} (s : StepIn A t0 t) (f : Nat) (i : WinTree.Id) (r : Option Rect) (ha : Alive t i) :
    SafeR (WinTree.expose t f i r) (StepIn A t0) :=
  (if_pos trivial ▸ s.exposeIf f i r ha True).mono fun _ h => h.1

theorem StepIn.set {A : Aff} {t : Tree} (hi : TInv t) (hd : DragOK t) (hdn : Down A t) {i : WinTree.Id} {w w' : Win}
    (hl : WinTree.Live t i w) (hA : A i = true ∨ WinRel A w' w) (sl : SameLinks w w') (hr : w'.refcount = w.refcount)
    (hro : w'.isRoot = w.isRoot) (ok : ListOK w') : StepIn A t (WinTree.set t i w') :=
  ⟨StepOK.set hi hd hl sl hr hro ok,
   Sim.set hdn hl.1 (fun hn => hA.elim (fun h => aff_absurd h hn) id) fun h c hm => hdn i w h hl.1 c ((sl.children c).1 hm)⟩

/-- The part of a window record that the store invariant and the reference accounting look at. -/
def linkPart (w : Win) := (w.parent, w.children, w.focusedChild, w.freed, w.refcount, w.isClosed, w.isRoot)

theorem StepIn.flag {A : Aff} {t : Tree} (hi : TInv t) (hd : DragOK t) (hdn : Down A t) {i : WinTree.Id} {w w' : Win}
    (hl : WinTree.Live t i w) (hA : A i = true ∨ WinRel A w' w) (e : linkPart w' = linkPart w) :
    StepIn A t (WinTree.set t i w') := by
  simp only [linkPart, Prod.mk.injEq] at e
  obtain ⟨g1, g2, g3, g4, g5, g6, g7⟩ := e
  have ok := hi.winOK hl.1 hl.2
  exact .set hi hd hdn hl hA (.of_eq g1 g2 g4) g5 g7
    ⟨fun f h => g2 ▸ ok.focus f (g3 ▸ h), g2 ▸ ok.nodup, fun hc => g1 ▸ ok.closed (g6 ▸ hc)⟩


theorem Att.top {t : Tree} {x : WinTree.Id} {w : Win} (ha : Att t x) (hw : t.wins[x]? = some w) (hp : w.parent = none) : x = 0 := by
  cases ha with
  | root => rfl
  | step hw' _ hp' _ => rw [hw] at hw'; cases hw'; rw [hp] at hp'; cases hp'

theorem Att.parent {t : Tree} {x p : WinTree.Id} {w : Win} (hi : TInv t) (ha : Att t x) (hw : t.wins[x]? = some w)
    (hp : w.parent = some p) : Att t p := by
  cases ha with
  | root =>
    obtain ⟨w0, h0, _, hp0⟩ := hi.root
    rw [hw] at h0; cases h0; rw [hp] at hp0; cases hp0
  | step hw' _ hp' ha' => rw [hw] at hw'; cases hw'; rw [hp] at hp'; cases hp'; exact ha'

theorem Att.of_within {t : Tree} (hi : TInv t) {a x : WinTree.Id} (hwi : Within t a x) (ha : Att t x) : Att t a := by
  induction hwi with
  | self => exact ha
  | step hw hp _ ih => exact ih (ha.parent hi hw hp)

theorem topOf_root {t : Tree} (hi : TInv t) : ∀ (x : WinTree.Id) (w : Win), WinTree.Live t x w → ∀ f, x < f → Att t x →
    topOf t f x = Res.ok 0 := by
  refine WinTree.chain_induction hi.linked.upward fun x w f hl ih hatt => ?_
  rw [topOf, hl.get, ok_bind]
  cases hp : w.parent with
  | none => rw [hatt.top hl.1 hp]; rfl
  | some p => exact (ih p hp).2 (hatt.parent hi hl.1 hp)

theorem isWithin_complete {t : Tree} (hi : TInv t) {a : WinTree.Id} : ∀ {x : WinTree.Id}, Within t a x → ∀ (f : Nat),
    Alive t x → x < f → isWithin t f a x = true := by
  intro x hwi
  induction hwi with
  | self => intro f _ hlt; cases f with
    | zero => cases hlt
    | succ f => simp [isWithin]
  | @step x p w hw hp _ ih =>
    intro f hal hlt
    cases f with
    | zero => cases hlt
    | succ f =>
      unfold isWithin
      by_cases hxa : x = a
      · simp [hxa]
      · obtain ⟨w2, hw2, hf2⟩ := hal
        rw [hw] at hw2; cases hw2
        simp only [hxa, if_false, hw, hp]
        obtain ⟨pw, hpw, hpf, _⟩ := hi.parent x p w hw hf2 hp
        have hlt' := hi.lt x p w hw hf2 hp
        exact ih f ⟨pw, hpw, hpf⟩ (Nat.lt_of_lt_of_le hlt' (Nat.le_of_lt_succ hlt))

theorem attached_att {t : Tree} (hi : TInv t) : ∀ (x : WinTree.Id) (w : Win), WinTree.Live t x w → ∀ f, x < f →
    attached t f x = true → Att t x := by
  refine WinTree.chain_induction hi.linked.upward fun x w f hl ih h => ?_
  rw [attached, hl.1] at h
  simp only [hl.2, Bool.false_eq_true, if_false] at h
  by_cases hr : w.isRoot = true
  · rw [(hi.rootflag x w hl.1 hl.2).1 hr]; exact Att.root
  · rw [if_neg hr] at h
    cases hp : w.parent with
    | none => rw [hp] at h; cases h
    | some p => rw [hp] at h; exact Att.step hl.1 hl.2 hp ((ih p hp).2 h)

theorem getRoot_ok {t : Tree} (hi : TInv t) : ∀ (x : WinTree.Id) (w : Win), WinTree.Live t x w → ∀ f, x < f → Att t x →
    ∃ r, getRoot t f x = Res.ok r := by
  refine WinTree.chain_induction hi.linked.upward fun x w f hl ih hatt => ?_
  rw [getRoot, hl.get, ok_bind]
  by_cases hr : w.isRoot = true
  · rw [if_pos hr]; exact ⟨x, rfl⟩
  · rw [if_neg hr]
    cases hp : w.parent with
    | none => exact absurd ((hi.rootflag x w hl.1 hl.2).2 (hatt.top hl.1 hp)) hr
    | some p => exact (ih p hp).2 (hatt.parent hi hl.1 hp)

end WinInput
end Tickit
