import Tickit.Proof.WinFocusReq
import Tickit.Proof.WinNew
/-
  C15 over whole histories: `Good15` through the operations.  Its structural half (`Struct`) is the window engine's
  `TreeOk` with `RootsPositive` and is kept by that engine's steps (`good15_step`); its own half (`wfB`) is kept operation
  by operation (`wfB_inserted` for a window creation, on the store `WinTree.newWindow_ok` describes).
-/
namespace Tickit
namespace WinFocus
open WinTree WinSpec WinFlush

theorem rootKeeps_of_move {t t' : Tree} (hm : RootMove t t') (hres : t'.root.needsRestore = t.root.needsRestore) :
    RootKeeps t.root t'.root :=
  ⟨fun h => hres ▸ h, hm.flagged.elim (fun a h => a.2.1 ▸ h) fun a _ => a.1,
    hm.flagged.elim (fun a h => a.2.2 ▸ h) fun a _ => a.2, hm.queue⟩

theorem good15_mk {t : Tree} (hs : Struct t) (hwf : wfB t = true) (hne : ∀ x ∈ t.root.damage, x.Nonempty)
    (hfl : t.root.damage ≠ [] → t.root.needsExpose = true)
    (hlat : (t.root.needsExpose = true ∨ t.root.needsRestore = true) → t.root.needsLater = true) : Good15 t :=
  { wf := hwf, wfp := hs.wf, rootWin := hs.rootWin, onlyRoot := hs.onlyRoot, nodup := hs.nodup, noSelf := hs.noSelf
    pos := hs.pos, nonempty := hne, flagged := hfl, later := hlat }

/-- All but the root window's record and the positive sizes read only child lists, parent links and root flags. -/
theorem struct_links {t t' : Tree} (h : SameBy links t t') (hr : RootWin t') (hp : RootsPositive t') (hs : Struct t) :
    Struct t' :=
  have hn := struct_agree h hs.nodup hs.noSelf
  ⟨⟨wfp_agree h hs.wf, hn.1, hn.2, onlyRoot_agree h hs.onlyRoot, hr⟩, hp⟩

/-- The structural invariants only read `coreNoVis` (liveness, rectangle, child list, parent, root flag). -/
theorem struct_congr {t t' : Tree} (h : SameBy coreNoVis t t') (hs : Struct t) : Struct t' :=
  struct_links (sameBy_of (g := coreNoVis) (fun c => (c.2.2.1, c.2.2.2.1, c.2.2.2.2)) (fun _ => rfl) h)
    (rootWin_of_noVis (h 0) hs.rootWin) (rootsPositive_agree h hs.pos) hs

theorem good15_congr {t t' : Tree} (hg : Good15 t) (hwf' : wfB t' = true)
    (h : ∀ x : Nat, (t'.wins[x]?).map coreNoVis = (t.wins[x]?).map coreNoVis)
    (hd : t'.root.damage = t.root.damage)
    (hfl : t.root.needsExpose = true → t'.root.needsExpose = true)
    (hlat : (t'.root.needsExpose = true ∨ t'.root.needsRestore = true) → t'.root.needsLater = true) : Good15 t' :=
  good15_mk (struct_congr h hg.struct) hwf' (by rw [hd]; exact hg.nonempty)
    (fun hne => hfl (hg.flagged (by rw [← hd]; exact hne))) hlat

theorem good15_of {t t' : Tree} (hg : Good15 t) (hwf' : wfB t' = true) (h : SameBy coreNoVis t t')
    (hne : ∀ x ∈ t'.root.damage, x.Nonempty)
    (hfl : t'.root.damage ≠ [] → t'.root.needsExpose = true)
    (hlat : (t'.root.needsExpose = true ∨ t'.root.needsRestore = true) → t'.root.needsLater = true) : Good15 t' :=
  good15_mk (struct_congr h hg.struct) hwf' hne hfl hlat

theorem good15_rootReq {t t' : Tree} (hg : Good15 t) (hwf' : wfB t' = true) (h : SameBy coreNoVis t t')
    (hr : RootReq t.root t'.root) : Good15 t' := by
  rcases hr with hr | hr
  · exact good15_of hg hwf' h (by rw [hr]; exact hg.nonempty) (by rw [hr]; exact hg.flagged) (by rw [hr]; exact hg.later)
  · exact good15_of hg hwf' h (by rw [hr]; exact hg.nonempty) (by rw [hr]; exact hg.flagged) (by rw [hr]; intro _; rfl)

theorem restoreIfFocused_rootReq {t t' : Tree} {win : Nat} (h : restoreIfFocused t win = .ok t') :
    t'.wins = t.wins ∧ RootReq t.root t'.root := by
  obtain ⟨_, _, rfl | ⟨_, rfl⟩⟩ := restoreIfFocused_cases h
  · exact ⟨rfl, .inr rfl⟩
  · exact ⟨rfl, .inl rfl⟩

theorem focusGained_rootReq (fx : Fixes) : ∀ (fuel : Nat) (t : Tree) (x : Nat) (child : Option Nat)
    (r : Tree × List Event), focusGained fx fuel t x child = .ok r → RootReq t.root r.1.root := by
  intro fuel
  induction fuel with
  | zero => intro t x child r h; simp [focusGained] at h
  | succ n ih =>
    intro t x child r h
    obtain ⟨r1, r2, r3, h1, h2, h3, h4⟩ := focusGained_succ h
    have hr2 : r2.1.root = t.root := (level_dropped h1 h2).root
    have hr3 : RootReq t.root r3.1.root := by
      obtain ⟨_, _, ⟨_, _, _, h3⟩ | ⟨_, _, _, rfl⟩ | ⟨_, rfl⟩⟩ := gainClimb_ok h3
      · have := ih _ _ _ _ h3; rw [hr2] at this; exact this
      · exact .inl hr2
      · right; show (requestRestore r2.1).root = _
        unfold requestRestore; rw [hr2]
    rw [gainSelfIn_root h4]; exact hr3

theorem good15_step {t t' : Tree} (hg : Good15 t) (hs : WinFlush.Step t t') (hwf' : wfB t' = true) : Good15 t' := by
  refine good15_mk ⟨hs.ok, hs.pos⟩ hwf' (hs.recorded.nonempty hg.nonempty) (hs.root.pending hg.flagged) ?_
  rcases hs.root.flagged with ⟨_, b, c⟩ | ⟨_, b⟩
  · rw [b, c, hs.recorded.restore]; exact hg.later
  · exact fun _ => b

theorem restack_request_good {t t' : Tree} {ch : Change} {win : Nat} (hg : Good15 t)
    (h : requestHierarchyChange t (treeFuel t) ch win = .ok t') : Good15 t' := by
  obtain ⟨_, _, ⟨_, rfl⟩ | ⟨p, _, rfl⟩⟩ := request_cases h
  · exact hg
  · refine good15_of hg hg.wf (fun _ => rfl) hg.nonempty hg.flagged (fun hp => ?_)
    show (t.root.needsLater || _) = true
    rw [hg.later hp]; rfl

theorem push_set_lookup {t : Tree} {par : Nat} {pw wn w' : Win} (hpw : t.wins[par]? = some pw) (i : Nat) :
    (WinTree.set { t with wins := t.wins.push wn } par w').wins[i]? =
      if i = t.wins.size then some wn else if i = par then some w' else t.wins[i]? := by
  have hpn : par ≠ t.wins.size := Nat.ne_of_lt (Array.getElem?_eq_some_iff.mp hpw).1
  have hl : ({ t with wins := t.wins.push wn } : Tree).wins[par]? = some pw :=
    Array.getElem?_push.trans ((if_neg hpn).trans hpw)
  rw [set_wins_of hl]
  by_cases hi : i = t.wins.size
  · subst hi; rw [if_neg hpn, if_pos rfl]; exact Array.getElem?_push.trans (if_pos rfl)
  · rw [if_neg hi]
    by_cases hip : i = par
    · subst hip; rw [if_pos rfl, if_pos rfl]
    · rw [if_neg (Ne.symm hip), if_neg hip]; exact Array.getElem?_push.trans (if_neg hi)

/-- The store `tickit_window_new` builds below a live window (`WinTree.newWindow_ok`) keeps the store invariant. -/
theorem wfB_inserted {t : Tree} {par : Nat} {pw : Win} {rect : Rect} {hid st low : Bool} (hwf : wfB t = true)
    (hpw : Live t par pw) :
    wfB (WinTree.set { t with wins := t.wins.push (pushedWin par rect hid st) } par
      { pw with children := inserted low pw.children t.wins.size }) = true := by
  have hW := wfB_iff.mp hwf
  have hlinked := hW.linked.insert hpw (w := pushedWin par rect hid st) rfl rfl rfl
    (cs := inserted low pw.children t.wins.size) fun _ => WinTree.mem_inserted
  have hl := push_set_lookup (wn := pushedWin par rect hid st)
    (w' := { pw with children := inserted low pw.children t.wins.size }) hpw.1
  have hpn : par ≠ t.wins.size := Nat.ne_of_lt (Live.lt hpw)
  have h2 : Two t _ t.wins.size (pushedWin par rect hid st) par { pw with children := inserted low pw.children t.wins.size } :=
    ⟨by rw [hl, if_pos rfl], by rw [hl, if_neg hpn, if_pos rfl], fun i h1 h2 => by rw [hl, if_neg h1, if_neg h2]⟩
  exact wfB_iff.mpr (hW.two h2 hpw hlinked (Nat.ne_of_gt (Nat.lt_of_le_of_lt (Nat.zero_le _) (Live.lt hpw)))
    (fun _ _ => rfl) rfl rfl hpw.2 id (fun _ => False) (fun c cw hcw _ => Nat.ne_of_lt (Live.lt hcw)) nofun
    (fun c hc => ⟨hc, id⟩) (fun _ _ _ _ _ _ => id))

end WinFocus
end Tickit
