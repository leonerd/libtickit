import Tickit.Proof.LifePens
import Tickit.Proof.LifeRoute
/-
  C08: key events delivered to handlers that call back into the library
  (`tickit_term_emit_key` → `on_term_key` → `_handle_key`, `run_events_whilefalse`).

  The account of references while `_handle_key` runs (`KInv gh st int`): the invariant of the lower layers holds with
  the frames' references booked with the library's (`SInv (gh.plus int) st`, where `int i` is the number of references
  the frames of `_handle_key` hold on window `i` at that moment: its own window, and the counted snapshot of the
  children), and every live window has one reference more than the frames hold on it.  Handlers that free nothing
  (every action except `tickit_window_unref`) keep every window alive, so every frame finds its windows and gives
  back exactly the references it took.  A step that changes one window's count is the lower layers' lemma for it
  (`SInv.set_count`, Proof/LifeOps.lean) and `KInv.of_set` for what the account adds.
-/
namespace Tickit.Life
open WinTree (Id Win Req Change Tree)
variable {gh : Ghost}

/-- The frames' tally `cnt` booked with the library's own references. -/
def Ghost.plus (g : Ghost) (cnt : Nat → Nat) : Ghost := { g with win := fun j => g.win j + cnt j }

@[simp] theorem Ghost.plus_win (g : Ghost) (cnt : Nat → Nat) (j : Nat) : (g.plus cnt).win j = g.win j + cnt j := rfl

theorem Ghost.plus_zero (g : Ghost) : g.plus (fun _ => 0) = g := by cases g; rfl

/-- A frame of the routing takes a reference; both accounts (`KInv` here, `FK` in Proof/LifeFrames.lean) start from this. -/
theorem SInv.ref_plus {g : Ghost} {t : Nat → Nat} {st : St} (inv : SInv (g.plus t) st) {win : Nat} {ww : Win} (hw : LiveW st.tree win ww) :
    SInv (g.plus (bump t win)) (setW st win { ww with refcount := ww.refcount + 1 }) := by
  have hs : (g.plus (bump t win)).win win = (g.plus t).win win + 1 := by simp only [Ghost.plus_win, bump, if_true]; omega
  have h := inv.wref win ww hw
  refine inv.set_refcount hw (ww.refcount + 1) rfl (fun j hj => by simp [bump, hj]) ⟨by rw [hs]; push_cast; omega, fun hc => ?_⟩
    (by have := inv.rc win ww hw; omega)
  rw [hs]
  rcases hc with h0 | h0
  · have := h.2 (.inl h0); push_cast; omega
  · omega

structure KInv (gh : Ghost) (st : St) (int : Nat → Nat) : Prop where
  inv : SInv (gh.plus int) st
  /-- a window of which the library holds nothing but the frames' references has exactly the references accounted for -/
  low : ∀ (i : Nat) (w : Win), LiveW st.tree i w → gh.covers i →
    ((getX st i).appRefs : Int) + (gh.win i : Int) + (int i : Int) ≤ w.refcount
  /-- besides the frames' references there is one more: giving them back frees nothing -/
  lo : ∀ (i : Nat) (w : Win), LiveW st.tree i w → 1 + (int i : Int) ≤ w.refcount
  held : ∀ (i : Nat), 0 < int i → ∃ w, LiveW st.tree i w

theorem KInv.tinv {st : St} {int : Nat → Nat} (K : KInv gh st int) : TInv st.tree := K.inv.tinv
theorem KInv.wx_size {st : St} {int : Nat → Nat} (K : KInv gh st int) : st.wx.size = st.tree.wins.size := K.inv.wx_size

theorem KInv.of_inv {st : St} (inv : SInv gh st) : KInv gh st (fun _ => 0) :=
  ⟨gh.plus_zero.symm ▸ inv, fun i w hl hc => by have := (inv.wref i w hl).2 hc; simpa using this,
    fun i w hl => by have := inv.rc i w hl; simpa using this, fun _ h => absurd h (Nat.lt_irrefl 0)⟩

theorem KInv.to_inv {st : St} (K : KInv gh st (fun _ => 0)) : SInv gh st := gh.plus_zero ▸ K.inv

/-- What handlers that free nothing do to a state: nothing dies, and the terminal object is untouched (`Shr`,
    Proof/LifeFrames.lean, is the opposite direction - nothing comes back to life - for handlers that may free). -/
structure Pres (st st' : St) : Prop where
  size : st'.tree.wins.size = st.tree.wins.size
  live : ∀ (i : Nat) (w : Win), LiveW st.tree i w → ∃ w', LiveW st'.tree i w'
  term : st'.term = st.term

theorem Pres.refl (st : St) : Pres st st := ⟨rfl, fun _ w h => ⟨w, h⟩, rfl⟩
theorem Pres.trans {a b c : St} (h1 : Pres a b) (h2 : Pres b c) : Pres a c :=
  ⟨h2.size.trans h1.size, fun i w h => by obtain ⟨w', h'⟩ := h1.live i w h; exact h2.live i w' h', h2.term.trans h1.term⟩

theorem KInv.of_tree {st : St} {int : Nat → Nat} (K : KInv gh st int) {t' : Tree} (inv' : SInv (gh.plus int) { st with tree := t' })
    (hlive : ∀ (i : Nat) (w : Win), LiveW st.tree i w → ∃ w', LiveW t' i w' ∧ w'.refcount = w.refcount)
    (hback : ∀ (i : Nat) (w' : Win), LiveW t' i w' → ∃ w, LiveW st.tree i w ∧ w'.refcount = w.refcount)
    (hsz : t'.wins.size = st.tree.wins.size) : KInv gh { st with tree := t' } int ∧ Pres st { st with tree := t' } :=
  ⟨⟨inv', fun i w' hl' hc => by obtain ⟨w, hl, hr⟩ := hback i w' hl'; rw [hr]; exact K.low i w hl hc,
      fun i w' hl' => by obtain ⟨w, hl, hr⟩ := hback i w' hl'; rw [hr]; exact K.lo i w hl,
      fun i hi => (K.held i hi).elim fun w hl => (hlive i w hl).imp fun _ h => h.1⟩,
    ⟨hsz, fun i w hl => (hlive i w hl).imp fun _ h => h.1, rfl⟩⟩

/-- A state that differs in nothing the invariant reads (the log, `termIter`, `pressSeen`). -/
theorem SInv.of_same {st st' : St} (inv : SInv gh st) (ht : st'.tree = st.tree) (hwx : st'.wx = st.wx)
    (hp : st'.pens = st.pens) (htm : st'.term = st.term) (hrb : st'.rbs = st.rbs) (hstr : st'.strs = st.strs) : SInv gh st' := by
  have hg : ∀ i, getX st' i = getX st i := fun i => by unfold getX; rw [hwx]
  refine ⟨inv.toSInvB.of_wx ht hp htm hrb hstr (by rw [hwx]), fun i w hl => ?_, fun h0 => ?_⟩
  · rw [hg]; rw [ht] at hl; exact inv.wref i w hl
  · rw [ht]; exact inv.glive h0

theorem SInv.set_termIter {st : St} (inv : SInv gh st) (b : Bool) : SInv gh { st with termIter := b } :=
  inv.of_same rfl rfl rfl rfl rfl rfl

theorem SInv.of_log {st : St} (inv : SInv gh st) (l : List String) : SInv gh { st with log := l } :=
  inv.of_same rfl rfl rfl rfl rfl rfl

theorem KInv.of_same {st st' : St} {int : Nat → Nat} (K : KInv gh st int) (ht : st'.tree = st.tree) (hwx : st'.wx = st.wx)
    (hp : st'.pens = st.pens) (htm : st'.term = st.term) (hrb : st'.rbs = st.rbs) (hstr : st'.strs = st.strs) :
    KInv gh st' int ∧ Pres st st' := by
  have hg : ∀ i, getX st' i = getX st i := fun i => by unfold getX; rw [hwx]
  refine ⟨⟨K.inv.of_same ht hwx hp htm hrb hstr, fun i w hl hc => ?_, fun i w hl => ?_,
    fun i hi => ?_⟩, ⟨by rw [ht], fun i w h => ⟨w, by rw [ht]; exact h⟩, htm⟩⟩
  · rw [hg]; rw [ht] at hl; exact K.low i w hl hc
  · rw [ht] at hl; exact K.lo i w hl
  · rw [ht]; exact K.held i hi

theorem KInv.of_calm {st : St} {int : Nat → Nat} (K : KInv gh st int) {t' : Tree} (C : Calm st.tree t') :
    KInv gh { st with tree := t' } int ∧ Pres st { st with tree := t' } :=
  K.of_tree (K.inv.of_calm C) (fun _ _ => C.live) (fun _ _ => C.live_back) C.size

theorem KInv.setX_same {st : St} {int : Nat → Nat} (K : KInv gh st int) (i : Nat) (x : WinX) (hp : x.pen = (getX st i).pen)
    (ha : x.appRefs = (getX st i).appRefs) : KInv gh (setX st i x) int ∧ Pres st (setX st i x) := by
  refine ⟨⟨K.inv.setX_same i x hp ha, ?_, K.lo, K.held⟩, ⟨rfl, fun _ w h => ⟨w, h⟩, rfl⟩⟩
  intro j w hl hc
  rw [getX_setX]
  split
  · rename_i h; rw [ha, h.1]; exact K.low j w hl hc
  · exact K.low j w hl hc

/-- The count of one window changes, and with it the tally and the application's references on that window at most:
    given the invariant of the lower layers, what is left of the account is what it says of that window. -/
theorem KInv.of_set {st st' : St} {int int' : Nat → Nat} (K : KInv gh st int) (inv' : SInv (gh.plus int') st') {win : Nat} {ww : Win}
    (hw : LiveW st.tree win ww) {r : Int} (htree : st'.tree = WinTree.set st.tree win { ww with refcount := r })
    (hterm : st'.term = st.term) (hint : ∀ j, j ≠ win → int' j = int j)
    (hx : ∀ j, j ≠ win → (getX st' j).appRefs = (getX st j).appRefs)
    (hlow : gh.covers win → ((getX st' win).appRefs : Int) + (gh.win win : Int) + (int' win : Int) ≤ r)
    (hlo : 1 + (int' win : Int) ≤ r) : KInv gh st' int' ∧ Pres st st' := by
  have live : ∀ {i : Nat} {w' : Win}, LiveW st'.tree i w' ↔ (i = win ∧ w' = { ww with refcount := r }) ∨ (i ≠ win ∧ LiveW st.tree i w') := by
    rw [htree]; exact liveW_set hw r
  have fwd : ∀ i w, LiveW st.tree i w → ∃ w', LiveW st'.tree i w' := fun i w hl => by
    by_cases hi : i = win
    · exact ⟨_, live.2 (.inl ⟨hi, rfl⟩)⟩
    · exact ⟨w, live.2 (.inr ⟨hi, hl⟩)⟩
  refine ⟨⟨inv', fun i w' hl' hc => ?_, fun i w' hl' => ?_, fun i hi => ?_⟩, ⟨by rw [htree]; exact set_size _ _ _, fwd, hterm⟩⟩
  · rcases live.1 hl' with ⟨rfl, rfl⟩ | ⟨hi, hl⟩
    · exact hlow hc
    · rw [hint i hi, hx i hi]; exact K.low i w' hl hc
  · rcases live.1 hl' with ⟨rfl, rfl⟩ | ⟨hi, hl⟩
    · exact hlo
    · rw [hint i hi]; exact K.lo i w' hl
  · by_cases hiw : i = win
    · subst hiw; exact fwd i ww hw
    · rw [hint i hiw] at hi
      exact (K.held i hi).elim (fwd i)

theorem KeepingHandlers.of_wx {st st' : St} (H : KeepingHandlers st) (h : st'.wx = st.wx) : KeepingHandlers st' := by
  intro i b hb; unfold getX at hb; rw [h] at hb; exact H i b hb

/-- The account of handlers that free nothing, seen from an earlier state `s0`: it holds, the handlers bound still free
    nothing, and nothing has died since `s0`.  Every step is stated for any `s0`, so that consecutive steps compose under
    `Post.bind` by themselves. -/
structure KG (gh : Ghost) (s0 : St) (int : Nat → Nat) (st : St) : Prop where
  inv : KInv gh st int
  keep : KeepingHandlers st
  pres : Pres s0 st

theorem KG.start {st : St} {int : Nat → Nat} (h : KInv gh st int ∧ KeepingHandlers st) : KG gh st int st := ⟨h.1, h.2, Pres.refl st⟩

theorem KG.out {s0 st : St} {int : Nat → Nat} (G : KG gh s0 int st) : (KInv gh st int ∧ KeepingHandlers st) ∧ Pres s0 st :=
  ⟨⟨G.inv, G.keep⟩, G.pres⟩

theorem KG.live {s0 st : St} {int : Nat → Nat} (G : KG gh s0 int st) {i : Nat} {w : Win} (h : LiveW s0.tree i w) :
    ∃ w', LiveW st.tree i w' := G.pres.live i w h

theorem KG.step {s0 st s : St} {int int' : Nat → Nat} (G : KG gh s0 int st) (h : KInv gh s int' ∧ Pres st s)
    (hb : BindsFrom (fun _ => False) st s) : KG gh s0 int' s := ⟨h.1, G.keep.from hb nofun, G.pres.trans h.2⟩

theorem KG.refI {s0 st : St} {int : Nat → Nat} (G : KG gh s0 int st) {win : Nat} {ww : Win} (hw : LiveW st.tree win ww) :
    Post (refW st win) (KG gh s0 (bump int win)) := by
  rw [refW_eq hw]
  have hl := G.inv.lo win ww hw
  refine .ok (G.step (G.inv.of_set (G.inv.inv.ref_plus hw) hw rfl rfl (fun j hj => by simp [bump, hj]) (fun _ _ => rfl)
    (fun hc => ?_) (by simp only [bump, if_true]; push_cast; omega)) (.of_wx rfl))
  have := G.inv.low win ww hw hc
  show ((getX st win).appRefs : Int) + _ + ((bump int win win : Nat) : Int) ≤ _
  simp only [bump, if_true]; push_cast; omega

theorem KG.unrefI (cfg : Cfg) {s0 st : St} {int : Nat → Nat} (G : KG gh s0 int st) {win : Nat} (hi : 1 ≤ int win) :
    Post (unrefW cfg st win) (KG gh s0 (unbump int win)) := by
  obtain ⟨ww, hw⟩ := G.inv.held win hi
  have hu := (G.inv.inv.wref win ww hw).1
  have hl := G.inv.lo win ww hw
  have hlow := G.inv.low win ww hw
  have hs : unbump int win win + 1 = int win := by simp only [unbump, if_true]; omega
  rw [unrefW_dec cfg hw (by omega)]
  have inv' : SInv (gh.plus (unbump int win)) (setW st win { ww with refcount := ww.refcount - 1 }) := by
    refine G.inv.inv.set_refcount hw (ww.refcount - 1) rfl (fun j hj => by simp [unbump, hj]) ⟨?_, fun hc => ?_⟩ (by omega)
    · simp only [Ghost.plus_win] at hu ⊢; push_cast at hu ⊢; omega
    · have := hlow (hc.imp id fun h => by simp only [Ghost.plus_win] at h; omega)
      simp only [Ghost.plus_win]; push_cast; omega
  refine .ok (G.step (G.inv.of_set inv' hw rfl rfl (fun j hj => by simp [unbump, hj]) (fun _ _ => rfl) (fun hc => ?_) (by omega)) (.of_wx rfl))
  have := hlow hc
  show ((getX st win).appRefs : Int) + _ + _ ≤ _
  omega

theorem tree_update_wx (st : St) (t' : Tree) : ({ st with tree := t' } : St).wx = st.wx := rfl

theorem simpleOp_keep {cfg : Cfg} (R : Repaired cfg) {s0 st : St} {int : Nat → Nat} (G : KG gh s0 int st)
    (a : Act) (ha : a.keeps = true) (self : Option (Id × Int)) :
    simpleOp cfg st a self = none ∨ ∃ st', simpleOp cfg st a self = some (.ok st') ∧ KG gh s0 int st' := by
  refine simpleOp_cases R G.inv.tinv G.inv.wx_size self a (fun t' C => G.step (G.inv.of_calm C) (.of_wx rfl))
    (fun w x hxp hxa hxb => G.step (G.inv.setX_same w x hxp hxa) (.upd_stems w x hxb))
    (fun w ww _ hw => ?_) (fun w e _ => by subst e; cases ha)
  -- `tickit_window_ref` by a handler: one more of the application's references (`refW_ok`)
  have hl := G.inv.lo w ww hw
  have hlt : w < st.wx.size := by rw [G.inv.wx_size]; exact hw.lt
  have hx : ∀ j, getX (setX st w { getX st w with appRefs := (getX st w).appRefs + 1 }) j =
      if w = j ∧ w < st.wx.size then { getX st w with appRefs := (getX st w).appRefs + 1 } else getX st j := fun j => getX_setX _ _ _ _
  refine G.step (G.inv.of_set (refW_ok G.inv.inv hw) hw rfl rfl (fun _ _ => rfl)
    (fun j hj => by show (getX (setX st w _) j).appRefs = _; rw [hx, if_neg (fun h => hj h.1.symm)]) (fun hc => ?_) (by omega)) ?_
  · have := G.inv.low w ww hw hc
    show ((getX (setX st w _) w).appRefs : Int) + _ + _ ≤ ww.refcount + 1
    rw [hx, if_pos ⟨rfl, hlt⟩]
    show (((getX st w).appRefs + 1 : Nat) : Int) + _ + _ ≤ _
    omega
  · exact (BindsFrom.upd_sub w { getX st w with appRefs := (getX st w).appRefs + 1 } fun _ h => h).trans (.of_wx rfl)

theorem KG.foldl_refW {s0 : St} : ∀ (cs : List Nat) {st : St} {int : Nat → Nat}, KG gh s0 int st → (∀ c ∈ cs, ∃ cw, LiveW s0.tree c cw) →
    Post (cs.foldlM refW st) (KG gh s0 fun j => int j + cs.count j)
  | [], _, _, G, _ => .ok (by simpa using G)
  | c :: rest, _, int, G, hl => by
    obtain ⟨cw, hc⟩ := hl c (by simp)
    obtain ⟨cw', hc'⟩ := G.live hc
    rw [List.foldlM_cons]
    exact (G.refI hc').bind fun _ G1 =>
      (KG.foldl_refW rest G1 fun x hx => hl x (by simp [hx])).mono fun _ G2 => bump_add_count int c rest ▸ G2

theorem KG.foldl_unrefW (cfg : Cfg) {s0 : St} : ∀ (cs : List Nat) {st : St} {int : Nat → Nat}, KG gh s0 (fun j => int j + cs.count j) st →
    Post (cs.foldlM (unrefW cfg) st) (KG gh s0 int)
  | [], _, _, G => .ok (by simpa using G)
  | c :: rest, _, int, G => by
    rw [List.foldlM_cons]
    exact (G.unrefI cfg (win := c) (by simp; omega)).bind fun _ G1 =>
      KG.foldl_unrefW cfg rest (unbump_add_count int c rest ▸ G1)

/-- Handlers that free nothing: any tally will do, no side conditions. -/
def keepFrames {cfg : Cfg} (R : Repaired cfg) (gh : Ghost) : Frames cfg where
  I t st := KInv gh st t ∧ KeepingHandlers st
  R := Pres
  B _ _ _ := True
  E _ _ _ := True
  C _ := True
  Ok a := a.keeps = true
  M := True
  refl := Pres.refl
  trans := Pres.trans
  size h := h.size
  tinv h := h.1.tinv
  held h hi := h.1.held _ hi
  later _ _ := trivial
  child _ _ _ _ := trivial
  enter _ _ _ _ := trivial
  ref h hw _ := ((KG.start h).refI hw).mono fun _ G => ⟨G.out.1, G.out.2, trivial⟩
  unref {t _ win r} h _ _ :=
    ((KG.start h).unrefI cfg (win := win) (Nat.le_trans (bump_self t win) (bumpOpt_ge _ _ _))).mono fun _ G =>
      (unbump_bumpOpt_bump t win r ▸ G).out
  claim h hg _ := let ⟨_, hw⟩ := h.1.held _ hg; ((KG.start h).refI hw).mono fun _ G => G.out
  snap {_ _ win w} h _ hwl _ :=
    ((KG.start h).foldl_refW w.children fun c hc => (h.1.tinv.child_ok win w hwl c hc).imp fun _ h => h.1).mono fun _ G =>
      ⟨G.out.1, G.out.2, fun _ _ => trivial, fun _ _ _ K2 _ => ((KG.start K2).foldl_unrefW cfg w.children).mono fun _ G3 => G3.out⟩
  cnone := trivial
  ok K hc ha := K.2 _ _ hc _ ha
  act a self K ha := (simpleOp_keep R (KG.start K) a ha self).imp_right fun ⟨s, e, G⟩ => ⟨s, e, G.out⟩
  log {_ st} l K := ((KG.start K).step (K.1.of_same (st' := { st with log := l }) rfl rfl rfl rfl rfl rfl) (.of_wx rfl)).out
  setx i x K hp ha hb := ((KG.start K).step (K.1.setX_same i x hp ha) (.upd_sub i x hb)).out
  answer _ _ _ _ _ := trivial

theorem handleKey_keep {cfg : Cfg} (R : Repaired cfg) (fuel : Nat) {s0 st : St} {int : Nat → Nat} {win : Nat} {ww : Win}
    (G : KG gh s0 int st) (hw : LiveW st.tree win ww) (hsz : st.tree.wins.size ≤ win + fuel) :
    Post (handleKey cfg fuel st win) fun r => KG gh s0 int r.1 :=
  (handleKey_walk (keepFrames R gh) fuel G.out.1 hw trivial hsz).mono fun _ ⟨⟨K', H'⟩, P'⟩ => ⟨K', H', G.pres.trans P'⟩

theorem KInv.set_termIter {st : St} {int : Nat → Nat} (K : KInv gh st int) (b : Bool) : KInv gh { st with termIter := b } int :=
  (K.of_same (st' := { st with termIter := b }) rfl rfl rfl rfl rfl rfl).1

/-- `tickit_term_emit_key` and `tickit_term_emit_mouse` with the routing repaired; `route` is `_handle_key` on the root
    window, resp. `on_term_mouse`. -/
def emitVia (route : St → Out (St × Bool)) (st : St) : Out St :=
  if st.term.freed then .ub .mem "emit on freed terminal" else
  match st.tree.wins[0]? with
  | none => pure st
  | some r =>
    if r.freed then pure st
    else do
      let (st, _) ← route { st with termIter := true }
      if st.term.freed then .ub .mem "terminal freed while its bindings are being run"
      else pure { st with termIter := false }

theorem emitKeyNew_eq (cfg : Cfg) (st : St) : emitKeyNew cfg st = emitVia (fun s => handleKey cfg (routeFuel s) s 0) st := rfl

theorem emitMouseNew_eq (cfg : Cfg) (st : St) (info : Mouse) :
    emitMouseNew cfg st info = emitVia (fun s => onTermMouse cfg s info) st := rfl

theorem emitVia_ok {Q : St → Prop} {route : St → Out (St × Bool)} {st : St} (tinv : TInv st.tree) (hT : heldT st = true) (h0 : Q st)
    (hroute : ∀ r, LiveW st.tree 0 r → ∃ st1 b, route { st with termIter := true } = .ok (st1, b) ∧ st1.term.freed = false ∧
      Q { st1 with termIter := false }) : ∃ st', emitVia route st = .ok st' ∧ Q st' := by
  unfold emitVia
  simp only [(heldT_spec hT).1, Bool.false_eq_true, if_false]
  obtain ⟨r, hr, _, _⟩ := tinv.root_ex
  simp only [hr]
  by_cases hrf : r.freed = true
  · rw [if_pos hrf]; exact ⟨st, rfl, h0⟩
  · rw [if_neg hrf]
    obtain ⟨st1, b1, h1, ht1, q⟩ := hroute r ⟨hr, Bool.eq_false_iff.2 hrf⟩
    simp only [h1, bind_ok, ht1, Bool.false_eq_true, if_false, pure_ok]
    exact ⟨_, rfl, q⟩

theorem emitVia_keep {route : St → Out (St × Bool)} {st : St} (inv : SInv gh st) (H : KeepingHandlers st) (hT : heldT st = true)
    (hroute : ∀ (s : St) (r : Win), KInv gh s (fun _ => 0) → KeepingHandlers s → LiveW s.tree 0 r →
      Post (route s) fun p => KG gh s (fun _ => 0) p.1) :
    ∃ st', emitVia route st = .ok st' ∧ SInv gh st' ∧ KeepingHandlers st' := by
  refine emitVia_ok (Q := fun s => SInv gh s ∧ KeepingHandlers s) inv.tinv hT ⟨inv, H⟩ fun r hrl => ?_
  obtain ⟨⟨st1, b1⟩, h1, G⟩ := hroute { st with termIter := true } r ((KInv.of_inv inv).set_termIter true) (H.of_wx rfl) hrl
  exact ⟨st1, b1, h1, by rw [G.pres.term]; exact (heldT_spec hT).1, (G.inv.set_termIter false).to_inv, G.keep.of_wx rfl⟩

theorem step_key_ok {cfg : Cfg} (R : Repaired cfg) {st : St} (inv : SInv gh st) (H : KeepingHandlers st) :
    ∃ st' r, step cfg st .key = .ok (st', r) ∧ SInv gh st' ∧ KeepingHandlers st' :=
  guard_keeps (Q := fun s => SInv gh s ∧ KeepingHandlers s) ⟨inv, H⟩ fun hT => okR_keeps <| by
    rw [emitKey, if_pos R.snapshotRouting, emitKeyNew_eq]
    exact emitVia_keep inv H hT fun s _ K H hrl => handleKey_keep R (routeFuel s) (KG.start ⟨K, H⟩) hrl (by simp only [routeFuel]; omega)

theorem KeepingHandlers.iff_elems (st : St) :
    KeepingHandlers st ↔ ∀ x ∈ st.wx.toList, ∀ b ∈ x.binds, ∀ a ∈ b.acts, a.keeps = true := by
  constructor
  · intro H x hx b hb
    obtain ⟨i, hi⟩ := List.mem_iff_getElem?.1 hx
    rw [Array.getElem?_toList] at hi
    exact H i b (by unfold getX; rw [hi]; exact hb)
  · intro H i b hb
    unfold getX at hb
    cases h : st.wx[i]? with
    | none => rw [h] at hb; cases hb
    | some x =>
      rw [h] at hb
      exact H x (List.mem_iff_getElem?.2 ⟨i, by rw [Array.getElem?_toList]; exact h⟩) b hb

theorem okR_ok {x : Out St} {st' : St} {r : String} (h : okR x = .ok (st', r)) : x = .ok st' := by
  unfold okR at h
  simp only [bind_eq_ok, pure_ok, Out.ok.injEq, Prod.mk.injEq] at h
  obtain ⟨a, ha, hb, _⟩ := h
  rw [ha, hb]

theorem step_plain_keeps {cfg : Cfg} (R : Repaired cfg) {st : St} (inv : SInv gh st) (H : KeepingHandlers st) (op : Op)
    (hp : op.plain = true) (hnew : ∀ l c m, op = .newTerm l c m → gh.term = 0 ∧ gh.win 0 = 0)
    (hb : ∀ w ev ret acts, op = .bind w ev ret acts → ∀ a ∈ acts, a.keeps = true) :
    ∃ st' r, step cfg st op = .ok (st', r) ∧ SInv gh st' ∧ KeepingHandlers st' :=
  let ⟨st', r, h, inv', hb'⟩ := step_plain_kept R inv op hp hnew
  ⟨st', r, h, inv', H.from hb' fun acts ⟨w, ev, ret, e⟩ => hb w ev ret acts e⟩

end Tickit.Life
