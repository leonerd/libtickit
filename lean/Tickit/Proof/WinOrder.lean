import Tickit.Proof.WinTreeOk
/-
  Window ids are handed out in creation order and a window's parent exists when it is created, so in every reachable
  store a child has a larger id than the window that lists it (`Ordered`; `WinSpec.Younger` asks it of the live slots
  only).  With that the painter's-model owner does not depend on the fuel once the fuel reaches the size of the store
  (`WinSpec.ownerLoc_fuel`, here `ownerAt_fuel`): this is what the step of `tickit_window_new` needs (the store grows by
  one slot, and so does the fuel `ownerAt` uses).
-/
namespace Tickit
namespace WinFlush
open WinTree WinRB WinSpec

/-- `@LT.lt Nat _ x ch` is `x < ch`. -/
def Ordered (t : Tree) : Prop := ∀ (x : Nat) (w : Win), t.wins[x]? = some w → ∀ ch ∈ w.children, @LT.lt Nat _ x ch

theorem Ordered.younger {t : Tree} (ho : Ordered t) : Younger t := fun x w hw _ => ho x w hw

theorem ownerAt_fuel {t : Tree} (hy : Younger t) {n : Nat} (h : t.wins.size ≤ n) (L C : Int) :
    ownerLoc t n 0 L C = ownerAt t L C :=
  ownerLoc_fuel hy n (t.wins.size + 1) 0 L C (by omega) (by omega)

theorem ordered_of_children {t t' : Tree}
    (h : ∀ (x : Id) (w' : Win), t'.wins[x]? = some w' → ∃ w, t.wins[x]? = some w ∧ ∀ ch ∈ w'.children, ch ∈ w.children)
    (ho : Ordered t) : Ordered t' := by
  intro x w' hw' ch hch
  obtain ⟨w, hw, hsub⟩ := h x w' hw'
  exact ho x w hw ch (hsub ch hch)

theorem ordered_agree {t t' : Tree} (h : SameBy links t t') (ho : Ordered t) : Ordered t' := by
  refine ordered_of_children (fun x w' hw' => ?_) ho
  obtain ⟨w, hw, hc⟩ := sameBy_some (sameBy_symm h) hw'
  have hcs : w.children = w'.children := congrArg Prod.fst hc
  exact ⟨w, hw, fun ch hch => by rw [hcs]; exact hch⟩

theorem ordered_congr {t t' : Tree} (h : t'.wins = t.wins) (ho : Ordered t) : Ordered t' := ordered_agree (sameBy_of_wins h) ho

theorem ordered_newRoot (l c : Int) : Ordered (newRoot l c) :=
  fun _ w hw ch hch => by obtain ⟨_, rfl⟩ := newRoot_win_some hw; cases hch

end WinFlush
end Tickit
