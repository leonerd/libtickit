import Tickit.Proof.RectSetInv
/-
  Termination of `tickit_rectset_add` / `tickit_rectset_subtract` on arrays that have the invariant (C05).

  The measure of a call `add s cur` is the lexicographic pair
    (number of cells of `widen cur` already covered by `s`,
     number of members of `s`);
  every nested call (after a stretch, or on a piece after a split) has a strictly smaller measure.
  All counting is done with lists of cells, so only linear arithmetic is needed.
-/
namespace Tickit
namespace RectSet
open Rect

theorem add_addMany_mono (fuel : Nat) :
    (∀ s cur s', add fuel s cur = some s' → add (fuel + 1) s cur = some s') ∧
    (∀ s ps s', addMany fuel s ps = some s' → addMany (fuel + 1) s ps = some s') := by
  induction fuel with
  | zero =>
    refine ⟨fun s cur s' h => by simp [add] at h, fun s ps s' h => ?_⟩
    cases ps with
    | nil => exact h
    | cons p ps => simp [addMany] at h
  | succ n ih =>
    refine ⟨fun s cur s' h => ?_, fun s ps s' h => ?_⟩
    · unfold add at h ⊢
      split at h
      · exact h
      · exact h
      · exact ih.1 _ _ _ h
      · exact ih.2 _ _ _ h
    · cases ps with
      | nil => exact h
      | cons p ps =>
        unfold addMany at h ⊢
        split at h
        · cases h
        · next s1 hadd =>
          rw [ih.1 _ _ _ hadd]
          exact ih.2 _ _ _ h

theorem mono_of_succ {α : Type} {f : Nat → Option α} (h : ∀ n a, f n = some a → f (n + 1) = some a)
    {n m : Nat} {a : α} (hn : f n = some a) (hle : n ≤ m) : f m = some a := by
  induction hle with
  | refl => exact hn
  | step _ ih => exact h _ _ ih

theorem add_mono {fuel fuel' : Nat} {s : List Rect} {cur : Rect} {s' : List Rect}
    (h : add fuel s cur = some s') (hle : fuel ≤ fuel') : add fuel' s cur = some s' :=
  mono_of_succ (f := fun n => add n s cur) (fun n a => (add_addMany_mono n).1 s cur a) h hle

theorem addMany_mono {fuel fuel' : Nat} {s ps s' : List Rect}
    (h : addMany fuel s ps = some s') (hle : fuel ≤ fuel') : addMany fuel' s ps = some s' :=
  mono_of_succ (f := fun n => addMany n s ps) (fun n a => (add_addMany_mono n).2 s ps a) h hle

theorem filter_len_le {α : Type} [DecidableEq α] {L1 L2 : List α} {P Q : α → Bool} (nd : L1.Nodup)
    (h : ∀ x ∈ L1, P x = true → x ∈ L2 ∧ Q x = true) :
    (L1.filter P).length ≤ (L2.filter Q).length := by
  apply List.Nodup.length_le_of_subset (List.Pairwise.filter P nd)
  intro x hx
  rw [List.mem_filter] at hx ⊢
  exact h x hx.1 hx.2

theorem filter_len_lt {α : Type} [DecidableEq α] {L1 L2 : List α} {P Q : α → Bool} (nd : L1.Nodup)
    (h : ∀ x ∈ L1, P x = true → x ∈ L2 ∧ Q x = true)
    (y : α) (hy : y ∈ L2) (hq : Q y = true) (hny : ¬ (y ∈ L1 ∧ P y = true)) :
    (L1.filter P).length < (L2.filter Q).length := by
  have hyf : y ∈ L2.filter Q := List.mem_filter.2 ⟨hy, hq⟩
  have hsub : L1.filter P ⊆ (L2.filter Q).erase y := by
    intro x hx
    rw [List.mem_filter] at hx
    have hxy : x ≠ y := by rintro rfl; exact hny hx
    rw [List.mem_erase_of_ne hxy, List.mem_filter]
    exact h x hx.1 hx.2
  have h1 := List.Nodup.length_le_of_subset (List.Pairwise.filter P nd) hsub
  rw [List.length_erase_of_mem hyf] at h1
  have h2 : 0 < (L2.filter Q).length := List.length_pos_of_mem hyf
  omega

def rangeI (a : Int) (n : Nat) : List Int := (List.range n).map (fun (k : Nat) => a + (k : Int))

theorem mem_rangeI {a : Int} {n : Nat} {x : Int} : x ∈ rangeI a n ↔ a ≤ x ∧ x < a + n := by
  unfold rangeI
  simp only [List.mem_map, List.mem_range]
  constructor
  · rintro ⟨k, hk, rfl⟩; omega
  · intro h; exact ⟨(x - a).toNat, by omega, by omega⟩

theorem nodup_rangeI (a : Int) (n : Nat) : (rangeI a n).Nodup := by
  unfold rangeI List.Nodup
  rw [List.pairwise_map]
  exact (List.nodup_range (n := n)).imp (fun {x y} h e => h (by omega))

def cells (r : Rect) : List (Int × Int) :=
  (rangeI r.top r.lines.toNat).flatMap (fun l => (rangeI r.left r.cols.toNat).map (fun c => (l, c)))

theorem mem_cells {r : Rect} {l c : Int} : (l, c) ∈ cells r ↔ r.Mem l c := by
  unfold cells Rect.Mem Rect.bottom Rect.right
  simp only [List.mem_flatMap, List.mem_map, Prod.mk.injEq, mem_rangeI]
  constructor
  · rintro ⟨l', hl, c', hc, rfl, rfl⟩
    omega
  · intro h
    exact ⟨l, by omega, c, by omega, rfl, rfl⟩

theorem nodup_cells (r : Rect) : (cells r).Nodup := by
  unfold cells List.Nodup
  rw [List.pairwise_flatMap]
  refine ⟨?_, ?_⟩
  · intro l _
    rw [List.pairwise_map]
    exact (nodup_rangeI _ _).imp (fun {x y} h e => h (by injection e))
  · refine (nodup_rangeI _ _).imp ?_
    intro l1 l2 hne x hx y hy e
    simp only [List.mem_map] at hx hy
    obtain ⟨_, _, rfl⟩ := hx
    obtain ⟨_, _, rfl⟩ := hy
    injection e with e1 _
    exact hne e1

theorem coveredb_iff (s : List Rect) (l c : Int) : coveredb s l c = true ↔ Covered s l c := by
  unfold coveredb Covered
  simp only [List.any_eq_true, memb_iff]

/-- The number of cells of `cur` that `s` covers. -/
def mA (s : List Rect) (cur : Rect) : Nat :=
  ((cells cur).filter (fun x => coveredb s x.1 x.2)).length

theorem mA_sub {s t : List Rect} {cur p : Rect}
    (h : ∀ l c, p.Mem l c → Covered t l c → cur.Mem l c ∧ Covered s l c) :
    ∀ x ∈ cells p, coveredb t x.1 x.2 = true → x ∈ cells cur ∧ coveredb s x.1 x.2 = true := by
  rintro ⟨l, c⟩ hx hP
  rw [mem_cells] at hx ⊢
  rw [coveredb_iff] at hP ⊢
  exact h l c hx hP

theorem mA_le {s t : List Rect} {cur p : Rect}
    (h : ∀ l c, p.Mem l c → Covered t l c → cur.Mem l c ∧ Covered s l c) : mA t p ≤ mA s cur :=
  filter_len_le (nodup_cells p) (mA_sub h)

theorem mA_lt {s t : List Rect} {cur p : Rect}
    (h : ∀ l c, p.Mem l c → Covered t l c → cur.Mem l c ∧ Covered s l c)
    (l0 c0 : Int) (h1 : cur.Mem l0 c0) (h2 : Covered s l0 c0) (h3 : ¬ (p.Mem l0 c0 ∧ Covered t l0 c0)) :
    mA t p < mA s cur :=
  filter_len_lt (nodup_cells p) (mA_sub h) (l0, c0) (mem_cells.2 h1) ((coveredb_iff ..).2 h2)
    (fun ⟨a, b⟩ => h3 ⟨mem_cells.1 a, (coveredb_iff ..).1 b⟩)

/-- `acc` (newest first) is a stack of bands, all above row `t`. -/
def BandStack (acc : List Rect) (t : Int) : Prop :=
  acc.Pairwise (fun p q => q.bottom ≤ p.top) ∧ ∀ p ∈ acc, p.bottom ≤ t

theorem bandStack_push {acc : List Rect} {t t' L R : Int} (h : BandStack acc t) (hle : t ≤ t') :
    BandStack (pushBand acc t t' L R) t' := by
  obtain ⟨hp, hb⟩ := h
  have hb' : ∀ p ∈ acc, p.bottom ≤ t' := fun p hp => Int.le_trans (hb p hp) hle
  have hnew : BandStack (initBounded t L t' R :: acc) t' :=
    ⟨List.pairwise_cons.2 ⟨hb, hp⟩, List.forall_mem_cons.2 ⟨by rect_omega, hb'⟩⟩
  unfold pushBand
  split
  · split
    · rw [List.pairwise_cons] at hp
      exact ⟨List.pairwise_cons.2 hp,
        List.forall_mem_cons.2 ⟨by rect_omega, fun q hq => hb' q (List.mem_cons_of_mem _ hq)⟩⟩
    · exact hnew
  · exact hnew

theorem bandStack_addBand {a b : Rect} {acc : List Rect} {t t' : Int} (h : BandStack acc t) (hle : t ≤ t') :
    BandStack (addBand a b acc t t') t' := by
  unfold addBand
  split
  · exact ⟨h.1, fun p hp => by have := h.2 p hp; omega⟩
  · exact bandStack_push h hle

theorem add_rowsep (a b : Rect) (ha : a.Nonempty) (hb : b.Nonempty)
    (hnear : ¬ (a.left > b.right ∨ b.left > a.right ∨ a.top > b.bottom ∨ b.top > a.bottom)) :
    (Rect.add a b).Pairwise (fun p q => p.bottom ≤ q.top) := by
  obtain ⟨acc, e, _, h⟩ := Rect.add_bands ha hb hnear (P := BandStack) ⟨List.Pairwise.nil, by simp⟩
    (fun acc t t' h hband => bandStack_addBand h hband.le)
  rw [e, List.pairwise_reverse]
  exact h.1

/-- `p` is not empty, lies in `r ∪ cur` and holds all of `r ∪ cur` in its rows. -/
def IsBandOf (r cur p : Rect) : Prop :=
  p.Nonempty ∧ (∀ l c, p.Mem l c → r.Mem l c ∨ cur.Mem l c) ∧
  ∀ l c, p.top ≤ l → l < p.bottom → (r.Mem l c ∨ cur.Mem l c) → p.Mem l c

/-- The rectangle `p` of a nested call made after member `r` has been deleted is a band of `r ∪ cur`, and the
    array `t` it is added to covers, in the rows of `p`, only what the other members covered.  Then a covered
    cell in or beside `p` is one in or beside `cur`, so the measure does not grow; and a cell of `r` in or
    beside `cur` counts no more, so it shrinks. -/
theorem piece_measure {s : List Rect} {i : Nat} {r cur p : Rect} {t : List Rect}
    (hs : InvS s) (hi : s[i]? = some r) (hb : IsBandOf r cur p)
    (ht : ∀ l c, Covered t l c → Covered (s.eraseIdx i) l c ∨ ¬ (p.top ≤ l ∧ l < p.bottom)) :
    mA t (widen p) ≤ mA s (widen cur) ∧
    (∀ l c, r.Mem l c → (widen cur).Mem l c → mA t (widen p) < mA s (widen cur)) := by
  obtain ⟨hp, hsub, hfull⟩ := hb
  have hcov : ∀ l c, p.top ≤ l → l < p.bottom → Covered t l c → Covered s l c ∧ ¬ (widen r).Mem l c := by
    intro l c h1 h2 h
    rcases ht l c h with h | h
    · exact covered_eraseIdx_apart hs hi h
    · exact absurd ⟨h1, h2⟩ h
  have hW : ∀ l c, (widen p).Mem l c → Covered t l c → (widen cur).Mem l c ∧ Covered s l c := by
    intro l c hm h
    rw [mem_widen] at hm ⊢
    obtain ⟨h1, h2, h3, h4⟩ := hm
    obtain ⟨a, e⟩ := hcov l c h1 h2 h
    refine ⟨?_, a⟩
    by_cases e1 : c = p.left - 1
    · -- just left of the piece: the piece begins where `cur` begins
      subst e1
      obtain ⟨u, w⟩ := left_edge (hsub l _ (mem_edge_cols hp h1 h2).1) e
        (fun h => (not_mem_outside p l).1 (hfull l _ h1 h2 (Or.inr h)))
      exact ⟨u.1, u.2.1, by omega, by have := u.2.2.2; omega⟩
    · by_cases e2 : c = p.right
      · subst e2
        obtain ⟨u, w⟩ := right_edge (hsub l _ (mem_edge_cols hp h1 h2).2) e
          (fun h => (not_mem_outside p l).2 (hfull l _ h1 h2 (Or.inr h)))
        exact ⟨u.1, u.2.1, by have := u.2.2.1; omega, by omega⟩
      · have hc := (hsub l c ⟨h1, h2, by omega, by omega⟩).resolve_left (fun h => e (mem_widen_of_mem h))
        exact ⟨hc.1, hc.2.1, by have := hc.2.2.1; omega, by have := hc.2.2.2; omega⟩
  refine ⟨mA_le hW, fun l c hrm hw => mA_lt hW l c hw ⟨r, List.mem_of_getElem? hi, hrm⟩ (fun ⟨a, b⟩ => ?_)⟩
  rw [mem_widen] at a
  exact (hcov l c a.1 a.2.1 b).2 (mem_widen_of_mem hrm)

def AddTerminates (s : List Rect) (cur : Rect) : Prop := ∃ N s', add N s cur = some s'

/-- The measure of the call `add s2 cur2` is below that of `add s cur`. -/
def MeasLt (s2 : List Rect) (cur2 : Rect) (s : List Rect) (cur : Rect) : Prop :=
  Prod.Lex (· < ·) (· < ·) (mA s2 (widen cur2), s2.length) (mA s (widen cur), s.length)

theorem measLt_of_le {s2 s : List Rect} {cur2 cur : Rect} (ha : mA s2 (widen cur2) ≤ mA s (widen cur))
    (h : mA s2 (widen cur2) < mA s (widen cur) ∨ s2.length < s.length) : MeasLt s2 cur2 s cur := by
  unfold MeasLt
  simp only [Prod.lex_def]
  omega

theorem addMany_cons_terminates {t t1 s' : List Rect} {p : Rect} {ps : List Rect} {N1 N2 : Nat}
    (h1 : add N1 t p = some t1) (h2 : addMany N2 t1 ps = some s') :
    addMany (max N1 N2 + 1) t (p :: ps) = some s' := by
  unfold addMany
  rw [add_mono h1 (Nat.le_max_left ..)]
  exact addMany_mono h2 (Nat.le_max_right ..)

theorem split_pieces_terminate {s : List Rect} {i : Nat} {r cur : Rect}
    (hs : InvS s) (hc : cur.Nonempty) (hi : s[i]? = some r) (hnear : Near cur r)
    (hrows : cur.top < r.bottom ∧ r.top < cur.bottom)
    (ih : ∀ s2 cur2, InvS s2 → cur2.Nonempty → MeasLt s2 cur2 s cur → AddTerminates s2 cur2) :
    ∀ (rest : List Rect),
      (∀ p ∈ rest, IsBandOf r cur p) →
      rest.Pairwise (fun p q => p.bottom ≤ q.top) →
      ∀ t, InvS t →
        (∀ p ∈ rest, ∀ l c, Covered t l c → Covered (s.eraseIdx i) l c ∨ ¬ (p.top ≤ l ∧ l < p.bottom)) →
        ∃ N s', addMany N t rest = some s' := by
  intro rest
  induction rest with
  | nil => exact fun _ _ t _ _ => ⟨0, t, rfl⟩
  | cons p rest ihr =>
    intro hF hsep t ht hcov
    rw [List.forall_mem_cons] at hF hcov
    rw [List.pairwise_cons] at hsep
    have hp := hF.1.1
    obtain ⟨hA, hstrict⟩ := piece_measure hs hi hF.1 hcov.1
    obtain ⟨l, c, w1, w2⟩ := near_witness hnear hrows hc (hs.1 r (List.mem_of_getElem? hi))
    obtain ⟨N1, t1, ht1⟩ := ih t p ht hp (measLt_of_le hA (Or.inl (hstrict l c w2 w1)))
    obtain ⟨N2, s', hs'⟩ := ihr hF.2 hsep.2 t1 (add_invS ht1 hp ht) (by
      -- what adding `p` has covered lies in the rows of `p`, above the rows of the later pieces
      intro q hq l c h
      rcases ((add_region ht1 hp ht.1).2 l c).1 h with h1 | h1
      · exact hcov.2 q hq l c h1
      · exact Or.inr (fun h => Int.lt_irrefl l (Int.lt_of_lt_of_le h1.2.1 (Int.le_trans (hsep.1 q hq) h.1))))
    exact ⟨_, s', addMany_cons_terminates ht1 hs'⟩

theorem add_terminates_step {s : List Rect} {cur : Rect} (hs : InvS s) (hc : cur.Nonempty)
    (ih : ∀ s2 cur2, InvS s2 → cur2.Nonempty → MeasLt s2 cur2 s cur → AddTerminates s2 cur2) :
    AddTerminates s cur := by
  unfold AddTerminates
  cases hscan : scan cur s 0 with
  | insert => exact ⟨1, _, by unfold add; rw [hscan]⟩
  | covered => exact ⟨1, _, by unfold add; rw [hscan]⟩
  | stretch i g =>
    obtain ⟨r, hri, hn, ha, rfl⟩ := scan_stretch hscan
    have hgne : (grow r cur).Nonempty := grow_nonempty hc
    -- the grown rectangle is exactly `r ∪ cur`: no measure grows, and the array gets shorter
    obtain ⟨hA, _⟩ := piece_measure hs hri
      ⟨hgne, fun l c => (mem_grow hn ha l c).1, fun l c _ _ => (mem_grow hn ha l c).2⟩ (fun l c h => Or.inl h)
    have hlen : (s.eraseIdx i).length < s.length := by
      have := (List.getElem?_eq_some_iff.1 hri).1
      rw [List.length_eraseIdx_of_lt this]; omega
    obtain ⟨N, s', hs'⟩ := ih _ _ (invS_eraseIdx hs i) hgne (measLt_of_le hA (Or.inr hlen))
    exact ⟨N + 1, s', by unfold add; rw [hscan]; exact hs'⟩
  | split i r =>
    obtain ⟨hri, hnear, hrows⟩ := scan_split hscan
    have hrne : r.Nonempty := hs.1 r (List.mem_of_getElem? hri)
    obtain ⟨_, hpne, _, hpc⟩ := Rect.add_spec r cur hrne hc
    have hsep := add_rowsep r cur hrne hc (not_far_of_near hnear)
    -- the pieces are bands: each holds all cells of `r ∪ cur` in its rows
    have hF : ∀ p ∈ Rect.add r cur, IsBandOf r cur p := by
      intro p hp
      refine ⟨hpne p hp, fun l c hm => (hpc l c).1 ⟨p, hp, hm⟩, fun l c h1 h2 h3 => ?_⟩
      obtain ⟨q, hq, hqm⟩ := (hpc l c).2 h3
      rcases pairwise_sym_of_ne hsep hp hq with rfl | h | h
      · exact hqm
      · exact (Int.lt_irrefl l (Int.lt_of_lt_of_le h2 (Int.le_trans h hqm.1))).elim
      · exact (Int.lt_irrefl l (Int.lt_of_lt_of_le hqm.2.1 (Int.le_trans h h1))).elim
    obtain ⟨N, s', hs'⟩ := split_pieces_terminate hs hc hri hnear hrows ih _ hF hsep _
      (invS_eraseIdx hs i) (fun p _ l c h => Or.inl h)
    exact ⟨N + 1, s', by unfold add; rw [hscan]; exact hs'⟩

theorem addTerminates_of_invS (s : List Rect) (cur : Rect) (hs : InvS s) (hc : cur.Nonempty) :
    AddTerminates s cur :=
  add_terminates_step hs hc (fun s2 cur2 hs2 hc2 _ => addTerminates_of_invS s2 cur2 hs2 hc2)
termination_by (mA s (widen cur), s.length)
decreasing_by assumption

theorem add_eventually {s : List Rect} {cur : Rect} (hs : InvS s) (hc : cur.Nonempty) :
    ∃ N s', ∀ fuel, N ≤ fuel → add fuel s cur = some s' :=
  have ⟨N, s', h⟩ := addTerminates_of_invS s cur hs hc
  ⟨N, s', fun _ hf => add_mono h hf⟩

theorem add_terminates {s : List Rect} {cur : Rect} (hs : InvS s) (hc : cur.Nonempty) :
    ∃ N, ∀ fuel, N ≤ fuel → ∃ s', add fuel s cur = some s' :=
  have ⟨N, s', h⟩ := add_eventually hs hc
  ⟨N, fun fuel hf => ⟨s', h fuel hf⟩⟩

theorem addMany_terminates : ∀ (ps : List Rect) (t : List Rect), InvS t → (∀ p ∈ ps, p.Nonempty) →
    ∃ N s', addMany N t ps = some s' := by
  intro ps
  induction ps with
  | nil => exact fun t _ _ => ⟨0, t, rfl⟩
  | cons p ps ih =>
    intro t ht hps
    rw [List.forall_mem_cons] at hps
    obtain ⟨N1, t1, ht1⟩ := addTerminates_of_invS t p ht hps.1
    obtain ⟨N2, s', hs'⟩ := ih t1 (add_invS ht1 hps.1 ht) hps.2
    exact ⟨_, s', addMany_cons_terminates ht1 hs'⟩

theorem subtractFrom_mono_succ (fuel : Nat) : ∀ (s : List Rect) (hole : Rect) (i : Nat) (s' : List Rect),
    subtractFrom fuel s hole i = some s' → subtractFrom (fuel + 1) s hole i = some s' := by
  intro s hole i
  fun_induction subtractFrom fuel s hole i with
  | case1 | case4 => intro s' h; cases h
  | case2 fuel s hole i hnone => intro s' h; unfold subtractFrom; rw [hnone]; exact h
  | case3 fuel s hole i r hri hcl ih =>
    intro s' h
    unfold subtractFrom
    rw [hri]
    exact (if_pos hcl).trans (ih s' h)
  | case5 fuel s hole i r hri hcl s1 hadd ih =>
    intro s' h
    unfold subtractFrom
    rw [hri]
    refine (if_neg hcl).trans ?_
    rw [addMany_mono hadd (Nat.le_succ _)]
    exact ih s' h

theorem subtractFrom_mono {fuel fuel' : Nat} {s : List Rect} {hole : Rect} {i : Nat} {s' : List Rect}
    (h : subtractFrom fuel s hole i = some s') (hle : fuel ≤ fuel') :
    subtractFrom fuel' s hole i = some s' :=
  mono_of_succ (f := fun n => subtractFrom n s hole i) (fun n a => subtractFrom_mono_succ n s hole i a) h hle

def dirtyCount (hole : Rect) (s : List Rect) : Nat := (s.filter (fun m => m.intersects hole)).length

/-- The index loop ends: a round either steps past a clean member or leaves one dirty member fewer. -/
theorem subtractFrom_terminates (s : List Rect) (hole : Rect) (i : Nat) (hs : InvS s) (hh : hole.Nonempty)
    (hcb : CleanBefore hole s i) : ∃ N s', subtractFrom N s hole i = some s' := by
  cases hri : s[i]? with
  | none => exact ⟨1, s, by unfold subtractFrom; rw [hri]⟩
  | some r =>
    have hil : i < s.length := (List.getElem?_eq_some_iff.1 hri).1
    have hr : r ∈ s := List.mem_of_getElem? hri
    cases hdirty : r.intersects hole with
    | false =>
      obtain ⟨N, s', hs'⟩ := subtractFrom_terminates s hole (i + 1) hs hh
        (cleanBefore_succ hcb hri (sep_of_not_intersects hdirty))
      exact ⟨N + 1, s', by unfold subtractFrom; rw [hri]; simp only [hdirty]; exact hs'⟩
    | true =>
      obtain ⟨N1, s2, hs2⟩ := addMany_terminates (Rect.subtract r hole) (s.eraseIdx i)
        (invS_eraseIdx hs i) (Rect.subtract_spec r hole (hs.1 r hr) hh).2.1
      obtain ⟨hinv2, hcb2⟩ := subtract_step hs hh hri hcb hs2
      -- a member of the new array is an old one other than `r`, or built from the remains and clean:
      -- the new array has one dirty member fewer
      have hmem := (subtract_step_readding hs hh hri hs2).mem
      have hlt : dirtyCount hole s2 < dirtyCount hole s := by
        refine filter_len_lt (invS_nodup hinv2) (fun x hx hxd => ?_) r hr hdirty (fun ⟨hr2, _⟩ => ?_)
        · rcases hmem x hx with h1 | h1
          · exact ⟨h1.1, hxd⟩
          · exact ((intersects_iff_not_sep x hole).1 hxd h1.2).elim
        · rcases hmem r hr2 with h1 | h1
          · exact h1.2 rfl
          · exact (intersects_iff_not_sep r hole).1 hdirty h1.2
      obtain ⟨N2, s', hs'⟩ := subtractFrom_terminates s2 hole i hinv2 hh hcb2
      refine ⟨max N1 N2 + 1, s', ?_⟩
      unfold subtractFrom
      rw [hri]
      simp only [hdirty]
      rw [addMany_mono hs2 (Nat.le_max_left ..)]
      exact subtractFrom_mono hs' (Nat.le_max_right ..)
termination_by (dirtyCount hole s, s.length - i)
decreasing_by
  · exact Prod.Lex.right _ (Nat.sub_succ_lt_self _ _ hil)
  · exact Prod.Lex.left _ _ hlt

theorem subtract_eventually {s : List Rect} {hole : Rect} (hs : InvS s) (hh : hole.Nonempty) :
    ∃ N s', ∀ fuel, N ≤ fuel → subtract fuel s hole = some s' := by
  obtain ⟨N, s', h⟩ := subtractFrom_terminates s hole 0 hs hh (by intro j m hj; omega)
  exact ⟨N, s', fun fuel hf => by rw [subtract_of_nonempty fuel s hole hh]; exact subtractFrom_mono h hf⟩

theorem subtract_terminates {s : List Rect} {hole : Rect} (hs : InvS s) (hh : hole.Nonempty) :
    ∃ N, ∀ fuel, N ≤ fuel → ∃ s', subtract fuel s hole = some s' :=
  have ⟨N, s', h⟩ := subtract_eventually hs hh
  ⟨N, fun fuel hf => ⟨s', h fuel hf⟩⟩

theorem bind_terminates {f : Nat → Option (List Rect)} {g : Nat → List Rect → Option (List Rect)} {N1 : Nat}
    {s1 : List Rect} (h1 : ∀ fuel, N1 ≤ fuel → f fuel = some s1)
    (h2 : ∃ N, ∀ fuel, N ≤ fuel → ∃ s', g fuel s1 = some s') :
    ∃ N, ∀ fuel, N ≤ fuel → ∃ s', (f fuel).bind (g fuel) = some s' := by
  obtain ⟨N2, h2⟩ := h2
  refine ⟨max N1 N2, fun fuel hf => ?_⟩
  rw [h1 fuel (by omega)]
  exact h2 fuel (by omega)

theorem run_terminates_invS : ∀ (ops : List Op) (s : List Rect), InvS s → Props.C05.Valid ops →
    ∃ N, ∀ fuel, N ≤ fuel → ∃ s', runOps fuel s ops = some s' := by
  intro ops
  induction ops with
  | nil => intro s _ _; exact ⟨0, fun _ _ => ⟨s, rfl⟩⟩
  | cons o ops ih =>
    intro s hs hv
    obtain ⟨hvo, hvr⟩ := List.forall_mem_cons.1 hv
    cases o with
    | add r =>
      obtain ⟨N1, s1, h1⟩ := add_eventually hs hvo
      exact bind_terminates h1 (ih s1 (add_invS (h1 N1 (Nat.le_refl _)) hvo hs) hvr)
    | sub r =>
      obtain ⟨N1, s1, h1⟩ := subtract_eventually hs hvo
      exact bind_terminates h1 (ih s1 (subtract_clean (h1 N1 (Nat.le_refl _)) hvo hs).1 hvr)
    | xl d k => exact ih _ (invS_translate hs d k) hvr
    | clear => exact ih _ invS_nil hvr

end RectSet
end Tickit
