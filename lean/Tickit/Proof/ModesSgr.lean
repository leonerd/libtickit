import Tickit.Proof.ModesVT
/-
  C12 — pens.  `feed_render`: the parameters `chpen` renders, read back as groups (`toGroups`); `feed_drvChpen`: the
  terminal after the driver's `chpen(delta, final)`; `chpen_establishes`: a terminal that shows `cur` then shows `next`
  (`sem`: what a pen value means for the rendition; `PenDom`: the model's `penInDomain` as a Prop).
-/
namespace Tickit.Modes
open Tickit.Gen

theorem Attr.mem_all (a : Attr) : a ∈ Attr.all := by cases a <;> simp [Attr.all]

/-- The parameter groups of a parameter list: a parameter marked "more sub-parameters" shares its group with the next
    one (where the terminal is sent `:` for it). -/
def toGroups (colon : Bool) : List Param → List PGroup
  | [] => []
  | p :: rest =>
    if p.sub && colon then
      match toGroups colon rest with
      | g :: gs => (some p.val.toNat :: g) :: gs
      | [] => [[some p.val.toNat]]
    else [some p.val.toNat] :: toGroups colon rest

/-- `g`, the sub-parameters read so far, joined to the first group of what follows. -/
def attach (g : PGroup) : List PGroup → List PGroup
  | [] => [g]
  | h :: t => (g ++ h) :: t

theorem attach_nil : ∀ {gs : List PGroup}, gs ≠ [] → attach [] gs = gs
  | [], h => absurd rfl h
  | _ :: _, _ => rfl

theorem toGroups_ne_nil (colon : Bool) : ∀ (ps : List Param), ps ≠ [] → toGroups colon ps ≠ []
  | [], h => absurd rfl h
  | p :: rest, _ => by
    simp only [toGroups]
    split
    · split <;> simp
    · simp

def Param.toTP (p : Param) : TermPen.Param := ⟨p.val.toNat, p.sub⟩

theorem renderParams_eq (colon : Bool) : ∀ ps : List Param, (∀ p ∈ ps, 0 ≤ p.val) →
    renderParams colon ps = Csi.body showNat colon (ps.map Param.toTP)
  | [], _ => rfl
  | [p], h => showInt_nonneg _ (h p List.mem_cons_self)
  | p :: q :: rest, h => by
    rw [renderParams, showInt_nonneg _ (h p List.mem_cons_self),
      renderParams_eq colon (q :: rest) fun x hx => h x (List.mem_cons_of_mem _ hx)]
    rfl

theorem feed_render (colon : Bool) (m : VModes) (a : Attrs) (ps : List Param) (gs : List PGroup) (g : PGroup)
    (h : ∀ p ∈ ps, 0 ≤ p.val) :
    VT.feed ⟨.csi 0 gs g none [], m, a⟩ (renderParams colon ps ++ [109]) =
      ⟨.ground, m, sgrRun (Proof.Sgr.groupsFlat colon (ps.map Param.toTP) gs g) a⟩ := by
  obtain ⟨acc, hb, hg⟩ : ∃ acc : Csi.Acc, VT.feed ⟨.csi 0 gs g none [], m, a⟩ (Csi.body showNat colon (ps.map Param.toTP)) =
      ⟨.csi 0 acc.done acc.sub acc.cur [], m, a⟩ ∧ _ :=
    (reads 0 m a).foldl_body decimal_showNat (sep := Csi.natSep) rfl rfl colon (ps.map Param.toTP) gs g
  rw [feed_append, renderParams_eq colon ps h, hb, ← hg]
  rfl

theorem groupsFlat_toGroups (colon : Bool) : ∀ (ps : List Param) (gs : List PGroup) (g : PGroup), ps ≠ [] →
    Proof.Sgr.groupsFlat colon (ps.map Param.toTP) gs g = gs ++ attach g (toGroups colon ps)
  | [], _, _, hne => absurd rfl hne
  | [p], gs, g, _ => by simp [Proof.Sgr.groupsFlat, toGroups, attach, Param.toTP]
  | p :: q :: rest, gs, g, _ => by
    have ih := fun gs g => groupsFlat_toGroups colon (q :: rest) gs g (by simp)
    simp only [List.map_cons] at ih ⊢
    rw [Proof.Sgr.groupsFlat, toGroups]
    cases htg : toGroups colon (q :: rest) with
    | nil => exact absurd htg (toGroups_ne_nil colon _ (by simp))
    | cons hd t =>
      rw [htg] at ih
      show (if (p.sub && colon) = true then _ else _) = _
      split <;> rw [ih] <;> simp [attach, Param.toTP]

theorem toGroups_append (colon : Bool) : ∀ (as bs : List Param),
    (∀ p, as.getLast? = some p → p.sub = false) → toGroups colon (as ++ bs) = toGroups colon as ++ toGroups colon bs
  | [], bs, _ => rfl
  | [p], bs, h => by
    have hp := h p rfl
    simp [toGroups, hp]
  | p :: q :: rest, bs, h => by
    have ih := toGroups_append colon (q :: rest) bs (fun x hx => h x (by simpa [List.getLast?_cons_cons] using hx))
    have e1 := toGroups.eq_2 colon p (q :: rest ++ bs)
    have e2 := toGroups.eq_2 colon p (q :: rest)
    simp only [List.cons_append] at ih e1 ⊢
    rw [e1, e2, ih]
    have hne := toGroups_ne_nil colon (q :: rest) (by simp)
    cases htg : toGroups colon (q :: rest) with
    | nil => exact absurd htg hne
    | cons hd t => split <;> simp

theorem colRGB_range (v : Int) : (0 ≤ colR v ∧ colR v ≤ 255) ∧ (0 ≤ colG v ∧ colG v ≤ 255) ∧ (0 ≤ colB v ∧ colB v ≤ 255) := by
  unfold colR colG colB; omega

def PenDom (p : PenMap) : Prop := ∀ a v, p a = some v → inDomain a v = true

theorem PenDom.of_penInDomain {p : PenMap} (h : penInDomain p = true) : PenDom p := fun a v e => by
  simp only [penInDomain, List.all_eq_true] at h
  simpa [e] using h a (Attr.mem_all a)

/-- What the tokenizer lemmas need of one attribute's parameters: numbers `printf` writes without a sign, at least
    one, the last not marked "more sub-parameters". -/
structure ParamShape (ps : List Param) : Prop where
  nonneg : ∀ p ∈ ps, 0 ≤ p.val
  ne : ps ≠ []
  last : ∀ p, ps.getLast? = some p → p.sub = false

theorem ParamShape.single (n : Int) (h : 0 ≤ n) : ParamShape [⟨n, false⟩] :=
  ⟨fun p hp => by rw [List.mem_singleton.mp hp]; exact h, nofun, fun p hp => by cases hp; rfl⟩

theorem paletteParams_shape (on off i : Int) (hon : 0 ≤ on) (hoff : 0 ≤ off) :
    ParamShape (paletteParams on off i) := by
  unfold paletteParams
  split
  · exact .single _ hoff
  · split
    · exact .single _ (by omega)
    · split
      · exact .single _ (by omega)
      · refine ⟨?_, nofun, fun p hp => by cases hp; rfl⟩
        simp only [List.mem_cons, List.not_mem_nil, or_false]
        rintro p (rfl | rfl | rfl) <;> simp only <;> omega

theorem colourParams_cases (rgb8 : Bool) (on off v : Int) :
    colourParams rgb8 on off v =
      if 0 ≤ colIndex v ∧ (rgb8 && hasRgb v) = true then
        [⟨on + 8, true⟩, ⟨2, true⟩, ⟨colR v, true⟩, ⟨colG v, true⟩, ⟨colB v, false⟩]
      else paletteParams on off (colIndex v) := by
  unfold colourParams
  by_cases h0 : colIndex v < 0
  · rw [if_pos h0, if_neg (by omega)]
    unfold paletteParams; rw [if_pos h0]
  · rw [if_neg h0]
    by_cases h1 : (rgb8 && hasRgb v) = true
    · rw [if_pos h1, if_pos ⟨by omega, h1⟩]
    · rw [if_neg h1, if_neg (fun hc => h1 hc.2)]

theorem colourParams_shape (rgb8 : Bool) (on off v : Int) (hon : 0 ≤ on) (hoff : 0 ≤ off) :
    ParamShape (colourParams rgb8 on off v) := by
  rw [colourParams_cases]
  split
  · have hc := colRGB_range v
    refine ⟨?_, nofun, fun p hp => by cases hp; rfl⟩
    simp only [List.mem_cons, List.not_mem_nil, or_false]
    rintro p (rfl | rfl | rfl | rfl | rfl) <;> simp only <;> omega
  · exact paletteParams_shape on off _ hon hoff
theorem attrParams_single (rgb8 : Bool) (a : Attr) (v : Int) (h : inDomain a v = true) (ha : a ≠ .fg ∧ a ≠ .bg) :
    ∃ n : Nat, attrParams rgb8 a v = [⟨(n : Int), false⟩] := by
  cases a <;> simp only [inDomain, decide_eq_true_eq] at h
  case fg => exact absurd rfl ha.1
  case bg => exact absurd rfl ha.2
  case altfont =>
    simp only [attrParams]
    split
    · exact ⟨10, rfl⟩
    · exact ⟨(10 + v).toNat, by rw [Int.toNat_of_nonneg (by omega)]⟩
  case sizepos => rcases h with rfl | rfl | rfl <;> exact ⟨_, rfl⟩
  all_goals (rcases h with rfl | rfl <;> exact ⟨_, rfl⟩)

theorem attrParams_shape (rgb8 : Bool) (a : Attr) (v : Int) (h : inDomain a v = true) : ParamShape (attrParams rgb8 a v) := by
  by_cases ha : a = .fg ∨ a = .bg
  · rcases ha with rfl | rfl
    · exact colourParams_shape rgb8 30 39 v (by omega) (by omega)
    · exact colourParams_shape rgb8 40 49 v (by omega) (by omega)
  · obtain ⟨n, e⟩ := attrParams_single rgb8 a v h ⟨fun e => ha (.inl e), fun e => ha (.inr e)⟩
    rw [e]
    exact .single _ (Int.natCast_nonneg n)

theorem deltaParams_nonneg (rgb8 : Bool) (delta : PenMap) (h : PenDom delta) :
    ∀ p ∈ deltaParams rgb8 delta, 0 ≤ p.val := by
  intro p hp
  simp only [deltaParams, List.mem_flatMap] at hp
  obtain ⟨a, _, hpa⟩ := hp
  cases hd : delta a with
  | none => simp [hd] at hpa
  | some v => simp only [hd] at hpa; exact (attrParams_shape rgb8 a v (h a v hd)).nonneg p hpa

theorem attrParams'_eq (single rgb8 : Bool) (a : Attr) (v : Int) (h : inDomain a v = true) :
    attrParams' single rgb8 a v = attrParams rgb8 a v := by
  unfold attrParams'
  split
  · rename_i hc
    obtain ⟨_, ha, h0, h1⟩ := hc
    subst ha
    simp [inDomain] at h
    omega
  · rfl

theorem deltaParams'_eq (single rgb8 : Bool) (delta : PenMap) (h : PenDom delta) :
    deltaParams' single rgb8 delta = deltaParams rgb8 delta := by
  unfold deltaParams' deltaParams
  congr 1
  funext a
  cases hd : delta a with
  | none => rfl
  | some v => exact attrParams'_eq single rgb8 a v (h a v hd)

theorem feed_drvChpen (cfg : Cfg) (d : XDrv) (delta final : PenMap) (m : VModes) (A : Attrs)
    (h : PenDom delta) :
    VT.feed ⟨.ground, m, A⟩ (drvChpen cfg d delta final) =
      ⟨.ground, m, if (deltaParams d.rgbOn delta).isEmpty then A
        else if isNondefault final then sgrRun (toGroups (decide (d.cap.csiSubColon ≠ 0)) (deltaParams d.rgbOn delta)) A
        else Attrs.default⟩ := by
  unfold drvChpen
  rw [deltaParams'_eq _ _ delta h]
  simp only
  split
  · rfl
  · rename_i hne
    have h1 : VT.feed ⟨.ground, m, A⟩ [27, 91] = ⟨.csi 0 [] [] none [], m, A⟩ := rfl
    have hne' : deltaParams d.rgbOn delta ≠ [] := by simpa using hne
    split
    · rw [List.append_assoc, feed_append, h1, feed_render _ _ _ _ _ _ (deltaParams_nonneg _ delta h),
        groupsFlat_toGroups _ _ _ _ hne', attach_nil (toGroups_ne_nil _ _ hne')]
      rfl
    · exact feed_sgrReset m A

/-- The two colour arms of `chpen`: first "on" code, "off" code, attribute. -/
def ColourArm (on off : Int) (tgt : Attr) : Prop := (on = 30 ∧ off = 39 ∧ tgt = .fg) ∨ (on = 40 ∧ off = 49 ∧ tgt = .bg)

theorem sgrRun_one (n : Nat) (more : List PGroup) (A : Attrs) (hn : n ≠ 38 ∧ n ≠ 48) :
    sgrRun ([some n] :: more) A = sgrRun more (sgrSingle n A) := by
  simp [sgrRun, pv, hn]

theorem sgrSingle_colour {on off : Int} {tgt : Attr} (arm : ColourArm on off tgt) (A : Attrs) :
    sgrSingle off.toNat A = A.set tgt (-1) ∧
    ∀ k : Nat, k < 8 → sgrSingle (on.toNat + k) A = A.set tgt k ∧ sgrSingle (on.toNat + 60 + k) A = A.set tgt (k + 8 : Nat) := by
  rcases arm with ⟨rfl, rfl, rfl⟩ | ⟨rfl, rfl, rfl⟩ <;> refine ⟨rfl, fun k hk => ?_⟩ <;>
    rcases (by omega : k = 0 ∨ k = 1 ∨ k = 2 ∨ k = 3 ∨ k = 4 ∨ k = 5 ∨ k = 6 ∨ k = 7) with
      rfl | rfl | rfl | rfl | rfl | rfl | rfl | rfl <;> exact ⟨rfl, rfl⟩

theorem sgrRun_extended {on off : Int} {tgt : Attr} (arm : ColourArm on off tgt) (colon : Bool) (more : List PGroup)
    (A : Attrs) :
    (∀ x : Int, sgrRun (toGroups colon [⟨on + 8, true⟩, ⟨5, true⟩, ⟨x, false⟩] ++ more) A = sgrRun more (A.set tgt x.toNat)) ∧
    ∀ r g b : Int, sgrRun (toGroups colon [⟨on + 8, true⟩, ⟨2, true⟩, ⟨r, true⟩, ⟨g, true⟩, ⟨b, false⟩] ++ more) A =
      sgrRun more (A.set tgt (rgbCode r.toNat g.toNat b.toNat)) := by
  rcases arm with ⟨rfl, rfl, rfl⟩ | ⟨rfl, rfl, rfl⟩ <;> cases colon <;>
    exact ⟨fun x => by simp [toGroups, sgrRun, pv, colourOfSubs], fun r g b => by simp [toGroups, sgrRun, pv, colourOfSubs]⟩

theorem palette_chunk {on off : Int} {tgt : Attr} (arm : ColourArm on off tgt) (colon : Bool) (v : Int)
    (more : List PGroup) (A : Attrs) (h : -1 ≤ v ∧ v ≤ 255) :
    sgrRun (toGroups colon (paletteParams on off v) ++ more) A = sgrRun more (A.set tgt v) := by
  have hon : on = 30 ∨ on = 40 := by rcases arm with ⟨h, _⟩ | ⟨h, _⟩ <;> simp [h]
  have hoff : off = 39 ∨ off = 49 := by rcases arm with ⟨_, h, _⟩ | ⟨_, h, _⟩ <;> simp [h]
  obtain ⟨e0, ek⟩ := sgrSingle_colour arm A
  have one : ∀ c : Int, toGroups colon [⟨c, false⟩] ++ more = [some c.toNat] :: more := fun _ => rfl
  unfold paletteParams
  split
  · rw [one, sgrRun_one _ _ _ (by omega), e0, show v = -1 by omega]
  · split
    · obtain ⟨k, rfl⟩ : ∃ k : Nat, v = k := ⟨v.toNat, by omega⟩
      rw [one, sgrRun_one _ _ _ (by omega), show (on + (k : Int)).toNat = on.toNat + k by omega, (ek k (by omega)).1]
    · split
      · obtain ⟨k, rfl⟩ : ∃ k : Nat, v = (k + 8 : Nat) := ⟨v.toNat - 8, by omega⟩
        rw [one, sgrRun_one _ _ _ (by omega),
          show (on + 60 + ((k + 8 : Nat) : Int) - 8).toNat = on.toNat + 60 + k by omega, (ek k (by omega)).2]
      · rw [(sgrRun_extended arm colon more A).1, show ((v.toNat : Nat) : Int) = v by omega]

/-- The colour values with an exact encoding: a palette index, or a palette index with an RGB8 refinement. -/
def ColDom (v : Int) : Prop := (-1 ≤ v ∧ v ≤ 255) ∨ (1000 ≤ v ∧ v < 1000 + 257 * 16777216)

theorem colIndex_range (v : Int) (h : ColDom v) : -1 ≤ colIndex v ∧ colIndex v ≤ 255 := by
  unfold colIndex ColDom at *
  split <;> omega

theorem colIndex_palette (v : Int) (h : v < 1000) : colIndex v = v := by
  unfold colIndex; rw [if_pos h]

theorem sem_colour (rgb8 : Bool) (a : Attr) (ha : a = .fg ∨ a = .bg) (v : Int) (h : ColDom v) :
    sem rgb8 a v = if 0 ≤ colIndex v ∧ (rgb8 && hasRgb v) = true then rgbCode (colR v).toNat (colG v).toNat (colB v).toNat
      else colIndex v := by
  have hr := colIndex_range v h
  rcases ha with rfl | rfl <;> simp only [sem]
  all_goals
    by_cases h0 : colIndex v < 0
    · rw [if_pos h0, if_neg (by omega)]; omega
    · rw [if_neg h0]
      by_cases h1 : (rgb8 && hasRgb v) = true
      · rw [if_pos h1, if_pos ⟨by omega, h1⟩]
      · rw [if_neg h1, if_neg (fun hc => h1 hc.2)]

theorem colour_chunk {on off : Int} {tgt : Attr} (arm : ColourArm on off tgt) (colon rgb8 : Bool) (v : Int) (h : ColDom v)
    (more : List PGroup) (A : Attrs) :
    sgrRun (toGroups colon (colourParams rgb8 on off v) ++ more) A = sgrRun more (A.set tgt (sem rgb8 tgt v)) := by
  have ht : tgt = .fg ∨ tgt = .bg := by rcases arm with ⟨_, _, h⟩ | ⟨_, _, h⟩ <;> simp [h]
  rw [colourParams_cases, sem_colour rgb8 tgt ht v h]
  split
  · exact (sgrRun_extended arm colon more A).2 _ _ _
  · exact palette_chunk arm colon _ more A (colIndex_range v h)

theorem chunk_sem (colon rgb8 : Bool) (a : Attr) (v : Int) (h : inDomain a v = true) (more : List PGroup) (A : Attrs) :
    sgrRun (toGroups colon (attrParams rgb8 a v) ++ more) A = sgrRun more (A.set a (sem rgb8 a v)) := by
  cases a <;> simp only [inDomain, decide_eq_true_eq] at h
  case fg => exact colour_chunk (.inl ⟨rfl, rfl, rfl⟩) colon rgb8 v h more A
  case bg => exact colour_chunk (.inr ⟨rfl, rfl, rfl⟩) colon rgb8 v h more A
  case altfont =>
    have hv : v = -1 ∨ v = 0 ∨ v = 1 ∨ v = 2 ∨ v = 3 ∨ v = 4 ∨ v = 5 ∨ v = 6 ∨ v = 7 ∨ v = 8 ∨ v = 9 ∨ v = 10 := by omega
    rcases hv with rfl | rfl | rfl | rfl | rfl | rfl | rfl | rfl | rfl | rfl | rfl | rfl <;>
      simp [attrParams, toGroups, sgrRun, sgrSingle, pv, sem]
  case sizepos =>
    rcases h with rfl | rfl | rfl <;> simp [attrParams, toGroups, sgrRun, sgrSingle, pv, sem]
  all_goals (rcases h with rfl | rfl <;> simp [attrParams, toGroups, sgrRun, sgrSingle, pv, sem])

/-- One attribute's share of `deltaParams`, and (`applyDelta`) what the terminal makes of the shares of `as`. -/
def chunkOf (rgb8 : Bool) (delta : PenMap) (a : Attr) : List Param :=
  match delta a with
  | none => []
  | some v => attrParams rgb8 a v

theorem deltaParams_eq (rgb8 : Bool) (delta : PenMap) : deltaParams rgb8 delta = Attr.all.flatMap (chunkOf rgb8 delta) := rfl

def applyDelta (rgb8 : Bool) (delta : PenMap) (as : List Attr) (A : Attrs) : Attrs :=
  as.foldl (fun acc a => match delta a with
    | some v => acc.set a (sem rgb8 a v)
    | none => acc) A

theorem chunkOf_last (rgb8 : Bool) (delta : PenMap) (hdom : PenDom delta) (a : Attr) :
    ∀ p, (chunkOf rgb8 delta a).getLast? = some p → p.sub = false := by
  intro p hp
  unfold chunkOf at hp
  cases hd : delta a with
  | none => simp [hd] at hp
  | some v => simp only [hd] at hp; exact (attrParams_shape rgb8 a v (hdom a v hd)).last p hp

theorem sgrRun_chunks (colon rgb8 : Bool) (delta : PenMap) (hdom : PenDom delta) :
    ∀ (as : List Attr) (more : List PGroup) (A : Attrs),
      sgrRun (toGroups colon (as.flatMap (chunkOf rgb8 delta)) ++ more) A = sgrRun more (applyDelta rgb8 delta as A)
  | [], more, A => rfl
  | a :: rest, more, A => by
    simp only [List.flatMap_cons]
    rw [toGroups_append colon _ _ (chunkOf_last rgb8 delta hdom a), List.append_assoc]
    cases hd : delta a with
    | none =>
      have : chunkOf rgb8 delta a = [] := by simp [chunkOf, hd]
      rw [this]
      simp only [toGroups, List.nil_append, applyDelta, List.foldl_cons, hd]
      exact sgrRun_chunks colon rgb8 delta hdom rest more A
    | some v =>
      have : chunkOf rgb8 delta a = attrParams rgb8 a v := by simp [chunkOf, hd]
      rw [this, chunk_sem colon rgb8 a v (hdom a v hd)]
      simp only [applyDelta, List.foldl_cons, hd]
      exact sgrRun_chunks colon rgb8 delta hdom rest more _

/-- Each attribute `delta` names ends with the pen's value (naming it twice would set it to the same value twice). -/
theorem applyDelta_get (rgb8 : Bool) (delta : PenMap) : ∀ (as : List Attr) (A : Attrs) (a : Attr),
    applyDelta rgb8 delta as A a = if a ∈ as then (match delta a with
      | some v => sem rgb8 a v
      | none => A a) else A a
  | [], A, a => by simp [applyDelta]
  | x :: rest, A, a => by
    have ih := applyDelta_get rgb8 delta rest (match delta x with
      | some v => A.set x (sem rgb8 x v)
      | none => A) a
    simp only [applyDelta, List.foldl_cons] at ih ⊢
    rw [ih]
    by_cases hax : a = x
    · subst hax; cases delta a <;> simp [Attrs.set]
    · have hset : (match delta x with
          | some v => A.set x (sem rgb8 x v)
          | none => A) a = A a := by
        cases delta x <;> simp [Attrs.set, hax]
      simp only [List.mem_cons, hax, false_or, hset]
theorem sgrRun_deltaParams (colon rgb8 : Bool) (delta : PenMap) (hdom : PenDom delta) (A : Attrs) (a : Attr) :
    sgrRun (toGroups colon (deltaParams rgb8 delta)) A a = match delta a with
      | some v => sem rgb8 a v
      | none => A a := by
  have := sgrRun_chunks colon rgb8 delta hdom Attr.all [] A
  rw [List.append_nil] at this
  rw [deltaParams_eq, this]
  simp only [sgrRun]
  rw [applyDelta_get rgb8 delta Attr.all A a, if_pos (Attr.mem_all a)]

theorem deltaParams_nil (rgb8 : Bool) (delta : PenMap) (hdom : PenDom delta) (h : deltaParams rgb8 delta = []) : ∀ a, delta a = none := by
  intro a
  rw [deltaParams_eq] at h
  have := (List.flatMap_eq_nil_iff.mp h) a (Attr.mem_all a)
  cases hd : delta a with
  | none => rfl
  | some v =>
    simp only [chunkOf, hd] at this
    exact absurd this (attrParams_shape rgb8 a v (hdom a v hd)).ne

/-- A value that `tickit_pen_nondefault_attr` does not count means the default rendition. -/
theorem sem_of_not_nondefault (rgb8 : Bool) (p : PenMap) (a : Attr) (v : Int) (hp : p a = some v) (hd : inDomain a v = true)
    (h : nondefaultAttr p a = false) : sem rgb8 a v = dflt a := by
  simp only [nondefaultAttr, hp] at h
  cases a
  case fg | bg =>
    have h1 : colIndex v = -1 := by simpa [Attr.kind] using h
    simp [sem, dflt, Attr.kind, h1]
  all_goals (simp only [inDomain, decide_eq_true_eq] at hd <;> simp [Attr.kind] at h <;> simp [sem, dflt, Attr.kind] <;> omega)

/-- `chpen(delta, next)` on a terminal that shows `cur` makes it show `next`; `h0`, `h1`: `delta` is what takes `cur` to `next`
    (for `putpen`: `penDelta_none`, `penDelta_some`). -/
theorem chpen_establishes (d : XDrv) (cur next delta : PenMap) (A : Attrs)
    (hdd : PenDom delta) (hdn : PenDom next)
    (h0 : ∀ a, delta a = none → next a = cur a) (h1 : ∀ a v, delta a = some v → next a = some v)
    (ih : ∀ a v, cur a = some v → A a = sem d.rgbOn a v) :
    ∀ a v, next a = some v →
      (if (deltaParams d.rgbOn delta).isEmpty then A
        else if isNondefault next then sgrRun (toGroups (decide (d.cap.csiSubColon ≠ 0)) (deltaParams d.rgbOn delta)) A
        else Attrs.default) a = sem d.rgbOn a v := by
  intro a v hn
  generalize d.rgbOn = rgb8 at *
  split
  · rename_i he
    rw [h0 a (deltaParams_nil rgb8 delta hdd (by simpa using he) a)] at hn
    exact ih a v hn
  · split
    · rw [sgrRun_deltaParams _ rgb8 delta hdd A a]
      cases hd : delta a with
      | none => rw [h0 a hd] at hn; exact ih a v hn
      | some w => rw [h1 a w hd] at hn; cases hn; rfl
    · -- a reset: no attribute of `next` counts as non-default
      rename_i hnd
      have hall : nondefaultAttr next a = false := by
        simp only [isNondefault, List.any_eq_true, not_exists, not_and, Bool.not_eq_true] at hnd
        exact hnd a (Attr.mem_all a)
      exact (sem_of_not_nondefault rgb8 next a v hn (hdn a v hn) hall).symm

/-- Every value of the pen means the default rendition (whatever the terminal's colour capability). -/
def allDefault (p : PenMap) : Bool := Attr.all.all fun a => match p a with
  | some v => sem false a v == dflt a
  | none => true

theorem sem_dflt_any (rgb8 : Bool) (a : Attr) (v : Int) (h : sem false a v = dflt a) : sem rgb8 a v = dflt a := by
  cases a
  case fg | bg =>
    simp only [sem, dflt, Attr.kind, Bool.false_and] at h ⊢
    by_cases h0 : colIndex v < 0
    · rw [if_pos h0]
    · rw [if_neg h0] at h; simp at h; omega
  all_goals exact h

theorem allDefault_sem (rgb8 : Bool) (p : PenMap) (h : allDefault p = true) : ∀ a v, p a = some v → dflt a = sem rgb8 a v := by
  intro a v hp
  simp only [allDefault, List.all_eq_true] at h
  have := h a (Attr.mem_all a)
  simp only [hp, beq_iff_eq] at this
  exact (sem_dflt_any rgb8 a v this).symm

/-- The capability only matters for colours with an RGB8 refinement of a non-default index. -/
theorem sem_cap (p : PenMap) (r1 r2 : Bool) (h : capSensitive p = false ∨ r1 = r2) (a : Attr) (v : Int)
    (hp : p a = some v) : sem r1 a v = sem r2 a v := by
  rcases h with h | rfl
  · simp only [capSensitive, List.any_cons, List.any_nil, Bool.or_false, Bool.or_eq_false_iff] at h
    have hcol : (a = .fg ∨ a = .bg) → hasRgb v = true → colIndex v < 0 := by
      rintro (rfl | rfl) hh
      · have h1 := h.1; simp only [hp, hh, Bool.true_and, decide_eq_false_iff_not] at h1; omega
      · have h1 := h.2; simp only [hp, hh, Bool.true_and, decide_eq_false_iff_not] at h1; omega
    cases a
    case fg | bg =>
      simp only [sem]
      by_cases h0 : colIndex v < 0
      · rw [if_pos h0, if_pos h0]
      · rw [if_neg h0, if_neg h0]
        have : hasRgb v = false := by
          cases hh : hasRgb v
          · rfl
          · exact absurd (hcol (by simp) hh) h0
        simp [this]
    all_goals rfl
  · rfl

theorem inDomain_dflt (a : Attr) : inDomain a (dflt a) = true := by
  cases a <;> simp [inDomain, dflt, Attr.kind]

theorem penNext_dom (isSet : Bool) (cur pen : PenMap) (hc : PenDom cur) (hp : penInDomain pen = true) :
    PenDom (penNext isSet cur pen) ∧ PenDom (penDelta isSet cur pen) := by
  have hp' := PenDom.of_penInDomain hp
  have hget : ∀ a, inDomain a (pen.getD a) = true := by
    intro a
    unfold PenMap.getD
    cases h : pen a with
    | none => simpa using inDomain_dflt a
    | some v => simpa using hp' a v h
  constructor
  · intro a v h
    simp only [penNext] at h
    split at h
    · exact hc a v h
    · simp only [Option.some.injEq] at h; subst h; exact hget a
  · intro a v h
    simp only [penDelta] at h
    split at h
    · cases h
    · simp only [Option.some.injEq] at h; subst h; exact hget a

theorem penNext_logical_aux (isSet : Bool) (c p : Option Int) (dv : Int) :
    (if ((!isSet && p.isNone) || (c.isSome && c.getD dv == p.getD dv)) = true then c else some (p.getD dv)) =
      (if isSet = true then some (p.getD dv) else (match p with
        | some v => some v
        | none => c)) := by
  cases isSet <;> cases p <;> cases c <;> simp
  all_goals (intro h; rw [h])

theorem penNext_eq_logical (isSet : Bool) (cur pen : PenMap) : penNext isSet cur pen = logicalPen isSet cur pen := by
  funext a
  exact penNext_logical_aux isSet (cur a) (pen a) (dflt a)

theorem penDelta_none (isSet : Bool) (cur pen : PenMap) (a : Attr) (h : penDelta isSet cur pen a = none) :
    penNext isSet cur pen a = cur a := by
  simp only [penDelta, penNext] at h ⊢
  split at h
  · rename_i hs; rw [if_pos hs]
  · cases h

theorem penDelta_some (isSet : Bool) (cur pen : PenMap) (a : Attr) (v : Int) (h : penDelta isSet cur pen a = some v) :
    penNext isSet cur pen a = some v := by
  simp only [penDelta, penNext] at h ⊢
  split at h
  · cases h
  · rename_i hs; rw [if_neg hs]; exact h

/-- `tickit_term_setpen` / `tickit_term_chpen` leave the modes alone (what the rendition becomes: `feed_drvChpen`). -/
theorem feed_putpen (cfg : Cfg) (isSet : Bool) (t : Term) (p : PenMap) (m : VModes) (A : Attrs) (hc : PenDom t.pen)
    (hp : penInDomain p = true) :
    ∃ A', VT.feed ⟨.ground, m, A⟩ (Term.putpen cfg isSet t p).2 = ⟨.ground, m, A'⟩ ∧
      PenDom (Term.putpen cfg isSet t p).1.pen :=
  ⟨_, feed_drvChpen _ _ _ _ m A (penNext_dom isSet t.pen p hc hp).2, (penNext_dom isSet t.pen p hc hp).1⟩

end Tickit.Modes
