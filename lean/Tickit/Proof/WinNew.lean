import Tickit.Proof.WinClose
/-
  The step of `tickit_window_new`: the store grows by one slot that no child list names yet (`push_spec`: the structural
  invariants are kept and no owner changes, through the fuel independence of `Proof/WinOrder.lean`), then
  `_do_hierarchy_change(INSERT_FIRST or INSERT_LAST)` lists it in the parent and exposes its rectangle there (`Relisted`).
-/
namespace Tickit
namespace WinFlush
open WinTree WinRB WinSpec

theorem push_spec {t t1 : Tree} {w0 : Win} {p : Id} (hok : TreeOk t) (hplt : p < t.wins.size)
    (hpar : w0.parent = some p) (hroot : w0.isRoot = false) (hch0 : w0.children = [])
    (h1_size : t1.wins.size = t.wins.size + 1) (h1_old : ∀ x : Nat, x < t.wins.size → t1.wins[x]? = t.wins[x]?)
    (h1_new : t1.wins[t.wins.size]? = some w0) :
    TreeOk t1 ∧ (RootsPositive t → RootsPositive t1) ∧ (Ordered t → Ordered t1) ∧
      (Younger t → ∀ L C, ownerAt t1 L C = ownerAt t L C) ∧
      (∀ (x : Nat) (w : Win), t.wins[x]? = some w → ∀ ch ∈ w.children, ch < t.wins.size) ∧
      ∀ (x : Nat) (w : Win), t1.wins[x]? = some w → (x < t.wins.size ∧ t.wins[x]? = some w) ∨ (x = t.wins.size ∧ w = w0) := by
  have hch : ∀ (x : Nat) (w : Win), t.wins[x]? = some w → ∀ ch ∈ w.children, ch < t.wins.size := by
    intro x w hw ch hc
    obtain ⟨cw, hcw, _⟩ := hok.wf.child x w hw ch hc
    exact lt_size_of_some hcw
  have hcase : ∀ (x : Nat) (w : Win), t1.wins[x]? = some w → (x < t.wins.size ∧ t.wins[x]? = some w) ∨ (x = t.wins.size ∧ w = w0) := by
    intro x w hw
    have hx : x < t1.wins.size := lt_size_of_some hw
    rw [h1_size] at hx
    by_cases hlt : x < t.wins.size
    · rw [h1_old x hlt] at hw; exact Or.inl ⟨hlt, hw⟩
    · have : x = t.wins.size := Nat.le_antisymm (Nat.le_of_lt_succ hx) (Nat.le_of_not_lt hlt)
      subst this
      rw [h1_new] at hw; cases hw
      exact Or.inr ⟨rfl, rfl⟩
  have hok1 : TreeOk t1 := by
    refine ⟨⟨?_⟩, ?_, ?_, ?_, ?_⟩
    · intro cur w hw ch hc
      rcases hcase cur w hw with ⟨_, hw'⟩ | ⟨_, hw'⟩
      · obtain ⟨cw, hcw, hcp, hcr⟩ := hok.wf.child cur w hw' ch hc
        exact ⟨cw, by rw [h1_old ch (lt_size_of_some hcw)]; exact hcw, hcp, hcr⟩
      · subst hw'; rw [hch0] at hc; cases hc
    · intro cur w hw
      rcases hcase cur w hw with ⟨_, hw'⟩ | ⟨_, hw'⟩
      · exact hok.nodup cur w hw'
      · subst hw'; rw [hch0]; exact List.nodup_nil
    · intro x w hw
      rcases hcase x w hw with ⟨_, hw'⟩ | ⟨hx, hw'⟩
      · exact hok.noSelf x w hw'
      · subst hw'; rw [hpar, hx]
        intro hh
        exact Nat.lt_irrefl _ ((Option.some.inj hh : @Eq Nat p t.wins.size) ▸ hplt)
    · intro x w hw hr
      rcases hcase x w hw with ⟨_, hw'⟩ | ⟨_, hw'⟩
      · exact hok.onlyRoot x w hw' hr
      · subst hw'; rw [hroot] at hr; cases hr
    · obtain ⟨w, hw, rest⟩ := hok.rootWin.ex
      exact ⟨⟨w, by rw [h1_old 0 (lt_size_of_some hw)]; exact hw, rest⟩⟩
  have h0lt : 0 < t.wins.size := by
    obtain ⟨w, hw, _⟩ := hok.rootWin.ex
    exact lt_size_of_some hw
  refine ⟨hok1, fun hpos x w hw hr => ?_, fun ho x w hw ch hc => ?_, fun ho L C => ?_, hch, hcase⟩
  · rcases hcase x w hw with ⟨_, hw'⟩ | ⟨_, hw'⟩
    · exact hpos x w hw' hr
    · subst hw'; rw [hroot] at hr; cases hr
  · rcases hcase x w hw with ⟨_, hw'⟩ | ⟨_, hw'⟩
    · exact ho x w hw' ch hc
    · subst hw'; rw [hch0] at hc; cases hc
  · have ho1 : Younger t1 := fun x w hw hf ch hc => by
      rcases hcase x w hw with ⟨_, hw'⟩ | ⟨_, hw'⟩
      · exact ho x w hw' hf ch hc
      · subst hw'; rw [hch0] at hc; cases hc
    rw [← ownerAt_fuel ho1 (Nat.le_of_eq h1_size), ← ownerAt_fuel ho (Nat.le_succ _)]
    exact ownerLoc_congr_on (· < t.wins.size) (fun x w _ hw => hch x w hw) (fun x hx => by rw [h1_old x hx]) _ 0 L C h0lt

/-- `tickit_window_new`, run with any fuel that suffices for the store with the new window. -/
theorem newWindow_step {t t' : Tree} {fe : Nat} {parent id : Id} {rect : Rect} {rootParent hidden lowest steal : Bool}
    (hok : TreeOk t) (hpos : RootsPositive t) (hne : ∀ x ∈ t.root.damage, x.Nonempty) (ho : Younger t)
    (hfe : t.wins.size + 1 ≤ fe) (h : newWindow t fe parent rect rootParent hidden lowest steal = .ok (t', id)) :
    Step t t' ∧ t'.wins.size = t.wins.size + 1 := by
  obtain ⟨_, p, r, ppw, hppw, _, hd⟩ := newWindow_ok h
  have hplt : p < t.wins.size := hppw.lt
  generalize hw0 : pushedWin p r hidden steal = w0 at hd
  obtain ⟨hwpar, hwroot, hwch, hwvis, hwrect⟩ :
      w0.parent = some p ∧ w0.isRoot = false ∧ w0.children = [] ∧ w0.isVisible = !hidden ∧ w0.rect = r := by
    rw [← hw0]; exact ⟨rfl, rfl, rfl, rfl, rfl⟩
  have h1_size : ({ t with wins := t.wins.push w0 } : Tree).wins.size = t.wins.size + 1 := Array.size_push ..
  have h1_old : ∀ x : Nat, x < t.wins.size → ({ t with wins := t.wins.push w0 } : Tree).wins[x]? = t.wins[x]? :=
    fun x hx => (Array.getElem?_push ..).trans (if_neg (Nat.ne_of_lt hx))
  have h1_new : ({ t with wins := t.wins.push w0 } : Tree).wins[t.wins.size]? = some w0 := Array.getElem?_push_size
  have h1_root : ({ t with wins := t.wins.push w0 } : Tree).root = t.root := rfl
  generalize ({ t with wins := t.wins.push w0 } : Tree) = t1 at hd h1_size h1_old h1_new h1_root
  obtain ⟨hok1, hpos1, hord1, hown, hch, hcase⟩ := push_spec hok hplt hwpar hwroot hwch h1_size h1_old h1_new
  have h0lt : 0 < t.wins.size := by
    obtain ⟨w, hw, _⟩ := hok.rootWin.ex
    exact lt_size_of_some hw
  have h1_p : t1.wins[p]? = some ppw := by rw [h1_old p hplt]; exact hppw.1
  have hnotin : t.wins.size ∉ ppw.children := fun hm => Nat.lt_irrefl _ (hch p ppw hppw.1 _ hm)
  have honly : ∀ (x : Nat) (w : Win), x ≠ p → x ≠ t.wins.size → t1.wins[x]? = some w → t.wins.size ∉ w.children := by
    intro x w _ hxs hw hm
    rcases hcase x w hw with ⟨_, hw'⟩ | ⟨hx, _⟩
    · exact Nat.lt_irrefl _ (hch x w hw' _ hm)
    · exact hxs hx
  -- the new child list, in front or at the back: the old one with the new id added once
  generalize hcs : inserted lowest ppw.children t.wins.size = cs at hd
  have hfilter : cs.filter (fun x => decide (x ≠ t.wins.size)) = ppw.children.filter (fun x => decide (x ≠ t.wins.size)) := by
    rw [← hcs]; cases lowest <;> simp [inserted, List.filter_append]
  have hnd : cs.Nodup := hcs ▸ nodup_inserted hnotin (hok.nodup p ppw hppw.1)
  have hcm : t.wins.size ∈ cs := hcs ▸ mem_inserted.2 (Or.inl rfl)
  have hh : (if w0.isVisible then expose (WinTree.set t1 p { ppw with children := cs }) fe p (some w0.rect)
      else pure (WinTree.set t1 p { ppw with children := cs })) = .ok t' := by
    rw [hwvis, hwrect]; exact hd
  have hR := Relisted.of_set h1_p h1_new (Nat.ne_of_lt hplt) honly hfilter hnd fun _ => ⟨hwpar, hwroot⟩
  have hokb := hR.treeOk hok1
  have hposb := hR.rootsPositive (hpos1 hpos)
  obtain ⟨hrec, hrs, hw⟩ := hR.recorded hokb hposb (Nat.ne_of_gt h0lt) (by rw [set_root]) (by rw [set_root])
    (by rw [h1_root]; exact hne)
    (by rw [h1_size]; exact hfe) hh
  have hrec1 : Recorded t t1 := .of_root h1_root fun L C hd => hd (hown ho L C)
  refine ⟨⟨treeOk_congr hw hokb, rootsPositive_congr hw hposb, hrec1.trans hrec,
    (RootStep.trans (Or.inl ((set_root t1 p _).trans h1_root)) hrs).move,
    fun ho' => ordered_congr hw (hR.ordered hok1 (hord1 ho') fun _ => hplt), fun hpl => parentListed_congr hw (hR.parentListed ?_ ?_),
    fun w hw' => (hR.rootRect w (by rw [h1_old 0 h0lt]; exact hw')).imp fun _ hx => ⟨by rw [hw]; exact hx.1, hx.2⟩⟩,
    by rw [hw, set_size, h1_size]⟩
  · intro x w q hx hw' hq
    rcases hcase x w hw' with ⟨_, hw''⟩ | ⟨hx', _⟩
    · obtain ⟨qw, hqw, hm⟩ := hpl x w q hw'' hq
      exact ⟨qw, by rw [h1_old q (lt_size_of_some hqw)]; exact hqw, hm⟩
    · exact absurd hx' hx
  · intro q hq
    rw [hwpar] at hq
    exact ⟨(Option.some.inj hq).symm, hcm⟩

end WinFlush
end Tickit
