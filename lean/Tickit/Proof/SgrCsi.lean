import Tickit.Model.TermPen
import Tickit.Proof.Csi
/-
  The xterm driver's `chpen` between `ESC [` and `m`, in the vocabulary of `Proof/Csi.lean`: its two `sprintf` loops write
  the digit strings of `params[]` joined by `;` or `:` (`sepOf`, `body`), and what any tokenizer that `Csi.Reads` has
  collected after them (`Reads.foldl_body`) is `groupsFlat`, the parameter groups as C10's proofs take them (`groupsFlat_eq`).
-/
-- `groupsFlat` is in `Tickit.Proof.Sgr` (the namespace of `Proof/Sgr.lean`), the lemmas about it in `Tickit.Csi`
namespace Tickit.Proof.Sgr
open Tickit.Sgr Tickit.TermPen

/-- What the parser has collected when it reaches the final byte, as a function of `params[]`. -/
def groupsFlat (colon : Bool) : List Param → List Group → Group → List Group
  | [], gs, cur => gs ++ [cur ++ [none]]
  | [p], gs, cur => gs ++ [cur ++ [some p.val]]
  | p :: q :: rest, gs, cur =>
    if p.more && colon then groupsFlat colon (q :: rest) gs (cur ++ [some p.val])
    else groupsFlat colon (q :: rest) (gs ++ [cur ++ [some p.val]]) []

theorem groupsFlat_cons (colon : Bool) (p : Param) (ps : List Param) (hps : ps ≠ []) (gs : List Group) (cur : Group) :
    groupsFlat colon (p :: ps) gs cur =
      if p.more && colon then groupsFlat colon ps gs (cur ++ [some p.val])
      else groupsFlat colon ps (gs ++ [cur ++ [some p.val]]) [] := by
  cases ps with
  | nil => exact absurd rfl hps
  | cons q rest => rfl

end Tickit.Proof.Sgr

namespace Tickit.Csi
open Tickit.Sgr (Group)
open Tickit.TermPen (Param)
open Tickit.Proof.Sgr (groupsFlat)

abbrev natSep (c : Bool) : Nat := if c then 58 else 59

variable {β : Type} {num : β → Nat} {shows : Nat → List β}

/-- What the two `sprintf` loops of `chpen` write, as digit strings with their separators, for any `%d`. -/
def sepOf (shows : Nat → List β) (colon : Bool) (ps : List Param) : List (List β × Bool) :=
  ps.map fun p => (shows p.val, p.more && colon)

abbrev body (shows : Nat → List Nat) (colon : Bool) (ps : List Param) : List Nat := joinSep natSep (sepOf shows colon ps)

theorem sepOf_digits (D : Decimal num shows) (colon : Bool) (ps : List Param) :
    ∀ p ∈ sepOf shows colon ps, Digits num p.1 := by
  intro p hp
  obtain ⟨q, _, rfl⟩ := List.mem_map.1 hp
  exact D.digits q.val

theorem groupsFlat_eq (D : Decimal num shows) (colon : Bool) : ∀ (ps : List Param) (gs : List Group) (cur : Group),
    groupsFlat colon ps gs cur = gs ++ groupsOf num cur (sepOf shows colon ps)
  | [], _, _ => rfl
  | [p], gs, cur => by simp [groupsFlat, sepOf, groupsOf, D.value]
  | p :: q :: rest, gs, cur => by
    have ih := groupsFlat_eq D colon (q :: rest)
    simp only [sepOf, List.map_cons] at ih
    simp only [groupsFlat, sepOf, List.map_cons, groupsOf, D.value]
    by_cases h : (p.more && colon) = true
    · simp only [h, if_true]; exact ih _ _
    · simp only [h, Bool.false_eq_true, if_false]; rw [ih]; simp

theorem Reads.foldl_body {σ : Type} {step : σ → β → σ} {emb : Acc → σ} {sep : Bool → β} (R : Reads num step emb)
    (D : Decimal num shows) (h58 : num (sep true) = 58) (h59 : num (sep false) = 59) (colon : Bool) (ps : List Param)
    (gs : List Group) (g : Group) :
    ∃ a : Acc, (joinSep sep (sepOf shows colon ps)).foldl step (emb ⟨gs, g, none⟩) = emb a ∧
      a.done ++ [a.sub ++ [a.cur]] = groupsFlat colon ps gs g := by
  obtain ⟨a, e, h⟩ := R.foldl_joinSep h58 h59 _ gs g (sepOf_digits D colon ps)
  exact ⟨a, e, h.trans (groupsFlat_eq D colon ps gs g).symm⟩

theorem body_range {shows : Nat → List Nat} (D : Decimal id shows) (colon : Bool) (ps : List Param) :
    ∀ b ∈ body shows colon ps, 48 ≤ b ∧ b ≤ 59 :=
  joinSep_range (num := id) rfl rfl _ (sepOf_digits D colon ps)

end Tickit.Csi
