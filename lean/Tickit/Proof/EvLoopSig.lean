import Tickit.Proof.EvLoopState
/-
  C18, the walk of `tickit_evloop_invoke_sigwatches` over a list that callbacks mutate.  It reads `this->next` after the
  callback: it continues with the head of `aft this l` (what follows the first occurrence of `this`) in the list `l` the
  callback left.  `SigStep`: what any step a callback can take does to that list — only fresh addresses enter, a watch
  leaves only by being freed, survivors keep their relative order — and to the heap (signal number and callback of a watch
  never change, a freed watch stays freed); a `Closed` relation (`step_closed`, `step_*`) over the frame relation `G2`.  Hence a walk that returns
  normally has skipped nobody (`sigwalk_complete`; `sigsnap_complete` for the repaired walk over a snapshot).
-/
namespace Tickit.EvLoop

def aft (a : Nat) (l : List Nat) : List Nat := (l.dropWhile (· ≠ a)).drop 1

theorem aft_nil (a : Nat) : aft a [] = [] := rfl

theorem aft_cons_self (a : Nat) (l : List Nat) : aft a (a :: l) = l := by
  simp [aft]

theorem aft_cons_ne {a x : Nat} (l : List Nat) (h : x ≠ a) : aft a (x :: l) = aft a l := by
  simp [aft, h]

theorem head_or_aft {b : Nat} {l : List Nat} (hb : b ∈ l) : ∃ a, l.head? = some a ∧ a ∈ l ∧ (b = a ∨ b ∈ aft a l) := by
  cases l with
  | nil => cases hb
  | cons h t => exact ⟨h, rfl, List.mem_cons_self, by rw [aft_cons_self]; exact List.mem_cons.mp hb⟩

theorem succOf_eq_head_aft (a : Nat) : ∀ l : List Nat, succOf a l = (aft a l).head? := by
  intro l
  induction l with
  | nil => rfl
  | cons x rest ih =>
    simp only [succOf]
    split
    · rename_i h; subst h; rw [aft_cons_self]
    · rename_i h; rw [aft_cons_ne rest h]; exact ih

theorem aft_sublist (a : Nat) (l : List Nat) : (aft a l).Sublist l :=
  (List.drop_sublist 1 _).trans (List.dropWhile_sublist _)

theorem mem_of_mem_aft {a b : Nat} {l : List Nat} (h : b ∈ aft a l) : b ∈ l := (aft_sublist a l).subset h

theorem aft_of_aft_cons (a n : Nat) : ∀ (l t : List Nat), l.Nodup → aft a l = n :: t → aft n l = t := by
  intro l
  induction l with
  | nil => intro t _ h; simp [aft] at h
  | cons x rest ih =>
    intro t hnd h
    rw [List.nodup_cons] at hnd
    by_cases hx : x = a
    · subst hx
      rw [aft_cons_self] at h
      -- rest = n :: t, x ≠ n because x ∉ rest
      have hn : x ≠ n := by
        intro hh; subst hh; rw [h] at hnd; exact hnd.1 List.mem_cons_self
      rw [aft_cons_ne _ hn, h, aft_cons_self]
    · rw [aft_cons_ne _ hx] at h
      have hn : x ≠ n := by
        intro hh; subst hh
        have : x ∈ rest := mem_of_mem_aft (by rw [h]; exact List.mem_cons_self)
        exact hnd.1 this
      rw [aft_cons_ne _ hn]
      exact ih t hnd.2 h

theorem mem_aft_erase (a b z : Nat) (hza : z ≠ a) (hzb : z ≠ b) : ∀ l : List Nat, b ∈ aft a l → b ∈ aft a (l.erase z) := by
  intro l
  induction l with
  | nil => intro h; simp [aft] at h
  | cons x rest ih =>
    intro h
    by_cases hxz : x = z
    · subst hxz
      rw [List.erase_cons_head]
      rw [aft_cons_ne _ hza] at h
      exact h
    · rw [List.erase_cons_tail (by simpa using hxz)]
      by_cases hxa : x = a
      · subst hxa
        rw [aft_cons_self] at h ⊢
        exact (List.mem_erase_of_ne (Ne.symm hzb)).mpr h
      · rw [aft_cons_ne _ hxa] at h ⊢
        exact ih h

theorem mem_aft_cons_new (a b n : Nat) (l : List Nat) (hn : n ≠ a) (h : b ∈ aft a l) : b ∈ aft a (n :: l) := by
  rw [aft_cons_ne _ hn]; exact h

theorem mem_aft_append (a b : Nat) (l m : List Nat) : b ∈ aft a l → b ∈ aft a (l ++ m) := by
  induction l with
  | nil => intro h; simp [aft] at h
  | cons x rest ih =>
    intro h
    by_cases hxa : x = a
    · subst hxa
      rw [List.cons_append, aft_cons_self] at *
      exact List.mem_append_left _ h
    · rw [List.cons_append, aft_cons_ne _ hxa] at *
      exact ih h

structure HExt2 (st st' : St) : Prop where
  len : st.heap.length ≤ st'.heap.length
  same : ∀ x, x < st.heap.length → (st'.getW x).signum = (st.getW x).signum ∧ (st'.getW x).slot = (st.getW x).slot
  dead : ∀ x, x < st.heap.length → st.live x = false → st'.live x = false

theorem HExt2.refl (st : St) : HExt2 st st := ⟨Nat.le_refl _, fun _ _ => ⟨rfl, rfl⟩, fun _ _ h => h⟩

theorem HExt2.trans {a b c : St} (h1 : HExt2 a b) (h2 : HExt2 b c) : HExt2 a c :=
  ⟨Nat.le_trans h1.len h2.len,
   fun x hx => by
     have hx' := Nat.lt_of_lt_of_le hx h1.len
     exact ⟨(h2.same x hx').1.trans (h1.same x hx).1, (h2.same x hx').2.trans (h1.same x hx).2⟩,
   fun x hx hd => h2.dead x (Nat.lt_of_lt_of_le hx h1.len) (h1.dead x hx hd)⟩

theorem HExt2.of_heap_eq {st st' : St} (h : st'.heap = st.heap) : HExt2 st st' :=
  ⟨by rw [h]; exact Nat.le_refl _, fun x _ => by rw [getW_of_heap_eq h]; exact ⟨rfl, rfl⟩,
   fun x _ hd => by rw [live_of_heap_eq h]; exact hd⟩

structure G2 (st st' : St) : Prop where
  ext : HExt2 st st'
  sigs : st'.signals = st.signals

theorem G2.refl (st : St) : G2 st st := ⟨HExt2.refl st, rfl⟩
theorem G2.trans {a b c : St} (h1 : G2 a b) (h2 : G2 b c) : G2 a c := ⟨h1.ext.trans h2.ext, by rw [h2.sigs, h1.sigs]⟩
theorem G2.of_eq {st st' : St} (hh : st'.heap = st.heap) (hs : st'.signals = st.signals) : G2 st st' :=
  ⟨HExt2.of_heap_eq hh, hs⟩
theorem Still.g2 {st st' : St} (h : Still st st') : G2 st st' := .of_eq h.same.heap h.same.signals

theorem g2_alloc (st : St) (w : Watch) : G2 st (st.alloc w).1 :=
  ⟨⟨by rw [alloc_len]; omega, fun x hx => by rw [getW_alloc_old st w x hx]; exact ⟨rfl, rfl⟩,
    fun x hx hd => by rw [live_alloc_old st w x hx]; exact hd⟩, rfl⟩

theorem g2_setW (st : St) (a : Nat) (w : Watch) (h1 : w.signum = (st.getW a).signum) (h2 : w.slot = (st.getW a).slot)
    (h3 : (st.getW a).freed = true → w.freed = true) : G2 st (st.setW a w) := by
  refine ⟨⟨by rw [St.length_setW]; exact Nat.le_refl _, ?_, ?_⟩, rfl⟩
  · intro x hx
    by_cases hax : a = x
    · subst hax; rw [St.getW_setW_self st a w hx]; exact ⟨h1, h2⟩
    · rw [St.getW_setW_ne st a x w hax]; exact ⟨rfl, rfl⟩
  · intro x hx hd
    by_cases hax : a = x
    · subst hax
      have hx' : a < (st.setW a w).heap.length := by rw [St.length_setW]; exact hx
      rw [live_eq_not_freed _ _ hx', St.getW_setW_self st a w hx]
      rw [live_eq_not_freed _ _ hx] at hd
      have : (st.getW a).freed = true := by simpa using hd
      rw [h3 this]; rfl
    · rw [St.live_setW_ne _ _ _ _ hax]; exact hd

theorem g2_base : Base G2 := .ofStill G2.refl G2.trans Still.g2

theorem G2.of_sameSig {st st' : St} (h : SameSig st st') : G2 st st' := G2.of_eq h.heap h.signals

theorem g2_setListOf_ne (st : St) (t : WType) (l : List Nat) (h : t ≠ .signal) : G2 st (setListOf st t l) := by
  cases t <;> first | exact G2.of_eq rfl rfl | exact absurd rfl h

theorem g2_evloopCancelIo (st : St) (idx : Nat) : G2 st (evloopCancelIo st idx) := G2.of_eq rfl rfl

theorem g2_frame : Frame G2 (fun w w' => w'.signum = w.signum ∧ w'.slot = w.slot ∧ (w.freed = true → w'.freed = true))
    (· = .signal) where
  toBase := g2_base
  alloc := g2_alloc
  setW := fun st a w h => g2_setW st a w h.1 h.2.1 h.2.2
  setList := g2_setListOf_ne
  evloopIo := fun st fd cond w => by unfold evloopIo; split <;> exact G2.of_eq rfl rfl
  evloopCancelIo := g2_evloopCancelIo

theorem g2_admits : Admits (fun w w' => w'.signum = w.signum ∧ w'.slot = w.slot ∧ (w.freed = true → w'.freed = true)) :=
  ⟨fun _ => ⟨rfl, rfl, fun _ => rfl⟩, fun _ _ => ⟨rfl, rfl, id⟩, fun _ _ => ⟨rfl, rfl, id⟩, fun _ _ => ⟨rfl, rfl, id⟩,
   fun _ => ⟨rfl, rfl, id⟩, fun _ _ => ⟨rfl, rfl, id⟩⟩

theorem g2_free (st : St) (a : Nat) : G2 st (st.free a) := g2_frame.free g2_admits.freed st a

theorem g2_evloopSignal (st : St) (s : Int) : G2 st (evloopSignal st s).1 := .of_sameSig (sameSig_evloopSignal st s)

theorem g2_watchLater (st : St) (flags : Nat) (slot : Int) (puser : Nat) : G2 st (watchLater st flags slot puser).1 :=
  g2_frame.watchLater (by decide) st flags slot puser

theorem g2_watchIo (st : St) (fd : Int) (cond flags : Nat) (slot : Int) : G2 st (watchIo st fd cond flags slot).1 :=
  g2_frame.watchIo (by decide) g2_admits.evi st fd cond flags slot

theorem g2_watchTimerAt (st : St) (due : TV) (flags : Nat) (slot : Int) : G2 st (watchTimerAt st due flags slot).1 :=
  g2_frame.watchTimerAt (by decide) st due flags slot

theorem g2_cancelHook (st : St) (t : WType) (evi : Nat) : G2 st (cancelHook st t evi) :=
  g2_frame.cancelHook st t evi fun _ => .of_sameSig (sameSig_evloopCancelSignal st evi)

structure SInv (st : St) : Prop where
  nodup : st.signals.Nodup
  alloc : ∀ x ∈ st.signals, x < st.heap.length

structure SigFacts (st st' : St) : Prop where
  inv : SInv st'
  ext : HExt2 st st'
  fresh : ∀ x ∈ st'.signals, x ∈ st.signals ∨ st.heap.length ≤ x
  leave : ∀ x ∈ st.signals, x ∈ st'.signals ∨ st'.live x = false
  fwd : ∀ a b, a ∈ st.signals → a ∈ st'.signals → b ∈ st'.signals → b ∈ aft a st.signals → b ∈ aft a st'.signals

def SigStep (st st' : St) : Prop := SInv st → SigFacts st st'

theorem SigFacts.between {st s1 s2 : St} {b : Nat} (f1 : SigFacts st s1) (f2 : SigFacts s1 s2) (hb : b < st.heap.length)
    (h : b ∈ s2.signals) : b ∈ s1.signals :=
  (f2.fresh b h).resolve_right (Nat.not_le_of_lt (Nat.lt_of_lt_of_le hb f1.ext.len))

theorem SigStep.refl (st : St) : SigStep st st :=
  fun i => ⟨i, HExt2.refl st, fun _ h => Or.inl h, fun _ h => Or.inl h, fun _ _ _ _ _ h => h⟩

theorem SigStep.trans {a b c : St} (h1 : SigStep a b) (h2 : SigStep b c) : SigStep a c := by
  intro ia
  have f1 := h1 ia
  have f2 := h2 f1.inv
  refine ⟨f2.inv, f1.ext.trans f2.ext, ?_, ?_, ?_⟩
  · intro x hx
    cases f2.fresh x hx with
    | inl h => exact f1.fresh x h
    | inr h => exact Or.inr (Nat.le_trans f1.ext.len h)
  · intro x hx
    cases f1.leave x hx with
    | inl h => exact f2.leave x h
    | inr h =>
      right
      exact f2.ext.dead x (Nat.lt_of_lt_of_le (ia.alloc x hx) f1.ext.len) h
  · intro x y hxa hxc hyc hxy
    -- x and y are in the middle list as well: they are old addresses
    have hxlt : x < a.heap.length := ia.alloc x hxa
    have hya : y ∈ a.signals := mem_of_mem_aft hxy
    have hylt : y < a.heap.length := ia.alloc y hya
    have hxb := f1.between f2 hxlt hxc
    have hyb := f1.between f2 hylt hyc
    exact f2.fwd x y hxb hxc hyc (f1.fwd x y hxa hxb hyb hxy)

theorem G2.step {st st' : St} (g : G2 st st') : SigStep st st' := by
  intro i
  refine ⟨⟨by rw [g.sigs]; exact i.nodup, fun x hx => by rw [g.sigs] at hx; exact Nat.lt_of_lt_of_le (i.alloc x hx) g.ext.len⟩,
    g.ext, ?_, ?_, ?_⟩
  · intro x hx; rw [g.sigs] at hx; exact Or.inl hx
  · intro x hx; left; rw [g.sigs]; exact hx
  · intro a b _ _ _ h; rw [g.sigs]; exact h

theorem g2_watchSignalPre (st : St) (signum : Int) (flags : Nat) (slot : Int) :
    G2 st (watchSignalPre st signum flags slot) :=
  g2_frame.watchSignalPre g2_evloopSignal g2_admits.evi st signum flags slot

theorem len_watchSignalPre (st : St) (signum : Int) (flags : Nat) (slot : Int) :
    st.heap.length < (watchSignalPre st signum flags slot).heap.length := by
  unfold watchSignalPre
  have h1 := alloc_len st { type := .signal, flags := flags &&& (BIND_UNBIND ||| BIND_DESTROY), slot := slot, signum := signum }
  have h2 := (g2_evloopSignal (st.alloc { type := .signal, flags := flags &&& (BIND_UNBIND ||| BIND_DESTROY), slot := slot, signum := signum }).1 signum).ext.len
  rw [St.length_setW]
  omega

theorem snd_insertWatch (st : St) (l : List Nat) (flags new : Nat) :
    (insertWatch st l flags new).2 = new :: l ∨ (insertWatch st l flags new).2 = l ++ [new] ∨ (insertWatch st l flags new).2 = l := by
  unfold insertWatch
  split
  · exact Or.inl rfl
  · split
    · exact Or.inr (Or.inl rfl)
    · exact Or.inr (Or.inr rfl)

/-- `hl`: the three results of `insert_watch` of a new address `a`. -/
theorem nodup_insert_cases {l l' : List Nat} {a : Nat} (hl : l' = a :: l ∨ l' = l ++ [a] ∨ l' = l) (hn : l.Nodup) (ha : a ∉ l) :
    l'.Nodup ∧ (∀ x ∈ l', x = a ∨ x ∈ l) ∧ ∀ x ∈ l, x ∈ l' := by
  rcases hl with h | h | h <;> subst h
  · exact ⟨List.nodup_cons.mpr ⟨ha, hn⟩, fun x hx => by simpa using hx, fun x hx => List.mem_cons_of_mem _ hx⟩
  · refine ⟨?_, fun x hx => by simp only [List.mem_append, List.mem_singleton] at hx; exact hx.symm,
      fun x hx => List.mem_append_left _ hx⟩
    rw [List.nodup_append]
    exact ⟨hn, by simp, fun x hx y hy => by simp only [List.mem_singleton] at hy; subst hy; intro e; subst e; exact ha hx⟩
  · exact ⟨hn, fun x hx => Or.inr hx, fun x hx => hx⟩

theorem sigfacts_insert {st s1 : St} (flags : Nat) (i : SInv st) (g : G2 st s1) (hlen : st.heap.length < s1.heap.length) :
    SigFacts st { (insertWatch s1 s1.signals flags st.heap.length).1 with
      signals := (insertWatch s1 s1.signals flags st.heap.length).2 } := by
  have hnew : st.heap.length ∉ st.signals := fun h => Nat.lt_irrefl _ (i.alloc _ h)
  have gi := g2_base.insertWatch s1 s1.signals flags st.heap.length
  have hext : HExt2 st (insertWatch s1 s1.signals flags st.heap.length).1 := g.ext.trans gi.ext
  have hlist := snd_insertWatch s1 s1.signals flags st.heap.length
  have hlen2 : s1.heap.length ≤ (insertWatch s1 s1.signals flags st.heap.length).1.heap.length := gi.ext.len
  generalize (insertWatch s1 s1.signals flags st.heap.length).2 = l' at hlist ⊢
  generalize (insertWatch s1 s1.signals flags st.heap.length).1 = s2 at hext hlen2 ⊢
  rw [g.sigs] at hlist
  obtain ⟨hnd, hmem, hsub⟩ := nodup_insert_cases hlist i.nodup hnew
  refine ⟨⟨hnd, fun x hx => ?_⟩, hext.trans (HExt2.of_heap_eq rfl), fun x hx => ?_, fun x hx => Or.inl (hsub x hx),
    fun a b ha _ _ hab => ?_⟩
  · show x < s2.heap.length
    rcases hmem x hx with rfl | h
    · omega
    · have := i.alloc x h; omega
  · rcases hmem x hx with rfl | h
    · exact Or.inr (Nat.le_refl _)
    · exact Or.inl h
  · rcases hlist with rfl | rfl | rfl
    · exact mem_aft_cons_new a b _ _ (fun h => hnew (h ▸ ha)) hab
    · exact mem_aft_append a b _ _ hab
    · exact hab

theorem step_watchSignal (st : St) (signum : Int) (flags : Nat) (slot : Int) :
    SigStep st (watchSignal st signum flags slot).1 := fun i =>
  sigfacts_insert flags i (g2_watchSignalPre st signum flags slot) (len_watchSignalPre st signum flags slot)

theorem live_of_g2_dead {st st' : St} (g : G2 st st') (x : Nat) (hx : x < st.heap.length) (h : st.live x = false) :
    st'.live x = false := g.ext.dead x hx h

theorem live_free_false (st : St) (a : Nat) : (st.free a).live a = false := by
  cases h : st.live a
  · unfold St.free; rw [h]; simp only [Bool.false_eq_true, if_false]; rw [St.live_fail]; exact h
  · exact St.live_free_self st a h

theorem sigfacts_erase {st s' : St} {a : Nat} (i : SInv st) (g : G2 { st with signals := st.signals.erase a } s')
    (hdead : s'.live a = false) : SigFacts st s' := by
  have hs : s'.signals = st.signals.erase a := g.sigs
  have hext : HExt2 st s' := (HExt2.of_heap_eq rfl : HExt2 st { st with signals := st.signals.erase a }).trans g.ext
  have hne : ∀ x, x ∈ st.signals.erase a → x ≠ a := by
    intro x hx h; subst h
    exact (List.Nodup.mem_erase_iff i.nodup).mp hx |>.1 rfl
  refine ⟨⟨by rw [hs]; exact i.nodup.sublist List.erase_sublist, ?_⟩, hext, ?_, ?_, ?_⟩
  · intro x hx; rw [hs] at hx
    exact Nat.lt_of_lt_of_le (i.alloc x (List.erase_sublist.subset hx)) hext.len
  · intro x hx; rw [hs] at hx; exact Or.inl (List.erase_sublist.subset hx)
  · intro x hx
    by_cases hxa : x = a
    · subst hxa; exact Or.inr hdead
    · left; rw [hs]; exact (List.mem_erase_of_ne hxa).mpr hx
  · intro x y _ hx' hy' hxy
    rw [hs] at hx' hy' ⊢
    exact mem_aft_erase x y a (Ne.symm (hne x hx')) (Ne.symm (hne y hy')) _ hxy

theorem step_cancelFound (st : St) (a : Nat) (w : Watch) (l : List Nat) (hl : l = listOf st w.type) (ha : a ∈ l) :
    SigStep st (cancelFound st a w l) := by
  unfold cancelFound
  by_cases ht : w.type = .signal
  · intro i
    rw [ht] at hl ⊢
    have hl' : l = st.signals := hl
    subst hl'
    -- from `free` on the watch stays dead: `g1` is the part of the composition up to `free`
    have g1 := ((g2_base.cancelNotify { st with signals := st.signals.erase a } a w).trans (g2_cancelHook _ .signal w.evi)).trans
      (g2_free _ a)
    refine sigfacts_erase i (g1.trans (g2_base.cancelRest _ _)) ?_
    exact (g2_base.cancelRest _ _).ext.dead a (Nat.lt_of_lt_of_le (i.alloc a ha) g1.ext.len) (live_free_false _ a)
  · exact (((((g2_setListOf_ne st w.type _ ht).trans (g2_base.cancelNotify _ a w)).trans (g2_cancelHook _ _ _)).trans (g2_free _ a)).trans
      (g2_base.cancelRest _ _)).step

theorem g2_cancelDetached (st : St) (a : Nat) : G2 st (cancelDetached st a) :=
  g2_frame.cancelDetached g2_admits.typeNone st a

theorem g2_laterPre (st : St) (a : Nat) : G2 st (laterPre st a) := g2_frame.laterPre g2_admits.flags st a

theorem step_ensureSigchld (st : St) : SigStep st (ensureSigchld st) := by
  unfold ensureSigchld
  split
  · exact SigStep.refl _
  · exact (step_watchSignal _ _ _ _).trans (g2_base.same (same_sigchldwatch _ _)).step

theorem g2_clearNotify (st : St) (a : Nat) : G2 st (clearNotify st a) := g2_frame.clearNotify g2_admits.notify st a

theorem g2_linkProcess (st : St) (a : Nat) (pid : Int) (flags : Nat) : G2 st (linkProcess st a pid flags) :=
  g2_frame.linkProcess (by decide) (by decide) g2_admits.notify g2_admits.wstatus st a pid flags

theorem step_watchProcess (st : St) (pid : Int) (flags : Nat) (slot : Int) : SigStep st (watchProcess st pid flags slot).1 := by
  unfold watchProcess
  exact ((g2_alloc st _).step.trans (step_ensureSigchld _)).trans (g2_linkProcess _ _ _ _).step

theorem g2_unlinkFound (st : St) (a : Nat) (t : WType) (ht : t ≠ .signal) : G2 st (unlinkFound st a t) :=
  g2_frame.unlinkFound g2_admits.freed g2_admits.typeNone st a t ht

theorem step_closed : Closed SigStep where
  toBase := .ofStill SigStep.refl SigStep.trans fun h => h.g2.step
  watchTimerAt := fun st d f k => (g2_watchTimerAt st d f k).step
  watchLater := fun st f k p => (g2_watchLater st f k p).step
  watchIo := fun st fd c f k => (g2_watchIo st fd c f k).step
  watchSignal := fun st sg f k _ => step_watchSignal st sg f k
  watchProcess := step_watchProcess
  cancelDetached := fun st a _ => (g2_cancelDetached st a).step
  cancelFound := fun st a h => step_cancelFound st a _ _ rfl h
  unlinkFound := fun st a t _ _ ht _ => (g2_unlinkFound st a t ht).step
  clearNotify := fun st a => (g2_clearNotify st a).step
  harness := fun _ _ _ => G2.step (.of_eq rfl rfl)

theorem step_timers : TimerLeaves SigStep where
  free := fun st a => (g2_free st a).step
  pop := fun st _ rest _ => (g2_frame.setList st .timer rest (by decide)).step
  suffix := fun st _ => (g2_frame.setList st .timer _ (by decide)).step
  detach := fun st => (g2_frame.setList st .later [] (by decide)).step
  laterPre := fun st a => (g2_laterPre st a).step

theorem step_iter : IterLeaves SigStep :=
  .of_timers step_closed step_timers (.ofStill fun h => h.g2.step) fun st => (still_with_pendingSig st []).g2.step

theorem step_tick (fuel : Nat) (st : St) (nohang : Bool) : SigStep st (tick fuel st nohang) :=
  step_closed.tick step_iter fuel st nohang

theorem g2_destroyList (t : WType) (l : List Nat) : ∀ st : St, G2 st (destroyList st t l) :=
  g2_base.destroyList g2_cancelHook g2_free t l

/-- `SInv` only (destruction empties the lists while the watches in them have been freed one by one). -/
theorem sinv_destroy (st : St) (i : SInv st) : SInv (destroy st) :=
  destroy_cases st (fun _ => i) fun s e =>
    ⟨fun _ => ⟨List.nodup_nil, fun x hx => by cases hx⟩,
     fun _ => e ▸ (step_closed.toBase.destroyBody (fun t l s => (g2_destroyList t l s).step) (step_closed.cancelSigchld st) i).inv⟩

theorem SInv.of_same {st st' : St} (h1 : st'.heap = st.heap) (h2 : st'.signals = st.signals) (i : SInv st) : SInv st' :=
  ⟨by rw [h2]; exact i.nodup, fun x hx => by rw [h2] at hx; rw [h1]; exact i.alloc x hx⟩

theorem sinv_runOps (cfg : Config) (ops : List Op) : SInv (runOps cfg ops) :=
  step_closed.reach_all step_iter (fun s i => (s i).inv) (fun st => (still_with_log st []).g2.step) sinv_destroy cfg
    ⟨List.nodup_nil, fun x hx => (by cases hx)⟩ ops

theorem sigwatchLoopT_succ (n : Nat) (st : St) (s : Int) (this : Option Nat) :
    ((sigwatchLoopT (n + 1) st s this).2 = [] ∧ ((sigwatchLoopT (n + 1) st s this).1.status = .ok → this = none)) ∨
    ∃ a, this = some a ∧
      ((∃ s', sigwatchLoopT (n + 1) st s this = (s', [a]) ∧ s'.status ≠ .ok ∧
          (s' = sigCb n st a s ∨ s' = (sigCb n st a s).fail .sigLoopThis)) ∨
       ((sigCb n st a s).live a = true ∧ sigwatchLoopT (n + 1) st s this =
          ((sigwatchLoopT n (sigCb n st a s) s (succOf a (sigCb n st a s).signals)).1,
            a :: (sigwatchLoopT n (sigCb n st a s) s (succOf a (sigCb n st a s).signals)).2))) := by
  generalize hr : sigwatchLoopT n = r
  generalize hres : sigwatchLoopT (n + 1) st s this = res
  unfold sigwatchLoopT at hres
  rcases ite_eq_cases hres with ⟨h, rfl⟩ | ⟨_, hres⟩
  · exact Or.inl ⟨rfl, fun hok => St.not_ok_absurd h hok⟩
  split at hres
  · subst hres; exact Or.inl ⟨rfl, fun _ => rfl⟩
  · rename_i a _
    rcases ite_eq_cases hres with ⟨_, rfl⟩ | ⟨_, hres⟩
    · exact Or.inl ⟨rfl, fun hok => absurd hok (St.status_fail_ne _ _)⟩
    refine Or.inr ⟨a, rfl, ?_⟩
    rcases ite_eq_cases hres with ⟨hbad, rfl⟩ | ⟨_, hres⟩
    · exact Or.inl ⟨_, rfl, fun hok => St.not_ok_absurd hbad hok, Or.inl rfl⟩
    rcases ite_eq_cases hres with ⟨_, rfl⟩ | ⟨hlive, rfl⟩
    · exact Or.inl ⟨_, rfl, St.status_fail_ne _ _, Or.inr rfl⟩
    · subst hr; exact Or.inr ⟨by simpa using hlive, rfl⟩

theorem sigwalk_complete (fuel : Nat) : ∀ (st : St) (s : Int) (this : Option Nat), SInv st →
    (sigwatchLoopT fuel st s this).1.status = .ok →
    ∀ b, b ∈ (sigwatchLoopT fuel st s this).1.signals →
      (∃ a, this = some a ∧ a ∈ st.signals ∧ (b = a ∨ b ∈ aft a st.signals)) →
      b ∈ (sigwatchLoopT fuel st s this).2 := by
  induction fuel with
  | zero =>
    intro st s this _ hok
    unfold sigwatchLoopT at hok
    simp only [] at hok
    split at hok
    · cases hok
    · rename_i h; exact absurd ((St.isOk_iff st).mpr hok) h
  | succ n ih =>
    intro st s this i hok b hbfin ⟨a', ha', hain, hb⟩
    rcases sigwatchLoopT_succ n st s this with ⟨-, hnone⟩ | ⟨a, ha, ⟨s', h, hbad, -⟩ | ⟨hlive1, h⟩⟩
    · rw [hnone hok] at ha'; cases ha'
    · rw [h] at hok; exact absurd hok hbad
    · rw [ha] at ha'
      simp only [Option.some.injEq] at ha'
      subst ha'
      rw [h] at hok hbfin ⊢
      cases hb with
      | inl h => subst h; exact List.mem_cons_self
      | inr hb =>
        apply List.mem_cons_of_mem
        have f1 := step_closed.sigCb n st a s i
        have i1 := f1.inv
        have f2 := step_closed.sigwatchLoopT n (sigCb n st a s) s (succOf a (sigCb n st a s).signals) i1
        have hbst : b ∈ st.signals := mem_of_mem_aft hb
        have hblt : b < st.heap.length := i.alloc b hbst
        have hb1 := f1.between f2 hblt hbfin
        have ha1 : a ∈ (sigCb n st a s).signals := by
          cases f1.leave a hain with
          | inl h => exact h
          | inr h => rw [h] at hlive1; cases hlive1
        have hb2 : b ∈ aft a (sigCb n st a s).signals := f1.fwd a b hain ha1 hb1 hb
        -- the walk continues with the head of what follows a
        cases hq : aft a (sigCb n st a s).signals with
        | nil => rw [hq] at hb2; cases hb2
        | cons nx t =>
          have hnext : succOf a (sigCb n st a s).signals = some nx := by
            rw [succOf_eq_head_aft, hq]; rfl
          have hnx : nx ∈ (sigCb n st a s).signals := mem_of_mem_aft (by rw [hq]; exact List.mem_cons_self)
          rw [hnext] at hok hbfin ⊢
          apply ih _ s (some nx) i1 hok b hbfin
          refine ⟨nx, rfl, hnx, ?_⟩
          rw [hq] at hb2
          simp only [List.mem_cons] at hb2
          cases hb2 with
          | inl h => exact Or.inl h
          | inr h =>
            right
            rw [aft_of_aft_cons a nx _ t i1.nodup hq]
            exact h

theorem sigSnapLoopG_cons (cb : St → Nat → St) (st : St) (a : Nat) (rest : List Nat) :
    ((sigSnapLoopG cb st (a :: rest)).2 = [] ∧ (sigSnapLoopG cb st (a :: rest)).1.status ≠ .ok) ∨
    (a ∉ st.signals ∧ sigSnapLoopG cb st (a :: rest) = sigSnapLoopG cb st rest) ∨
    sigSnapLoopG cb st (a :: rest) = ((sigSnapLoopG cb (cb st a) rest).1, a :: (sigSnapLoopG cb (cb st a) rest).2) := by
  generalize hres : sigSnapLoopG cb st (a :: rest) = res
  rw [sigSnapLoopG] at hres
  rcases ite_eq_cases hres with ⟨h, rfl⟩ | ⟨_, hres⟩
  · exact Or.inl ⟨rfl, fun hok => St.not_ok_absurd h hok⟩
  rcases ite_eq_cases hres with ⟨_, rfl⟩ | ⟨_, hres⟩
  · exact Or.inl ⟨rfl, St.status_fail_ne _ _⟩
  rcases ite_eq_cases hres with ⟨hnot, rfl⟩ | ⟨_, hres⟩
  · exact Or.inr (Or.inl ⟨by simpa using hnot, rfl⟩)
  rcases ite_eq_cases hres with ⟨_, rfl⟩ | ⟨_, rfl⟩
  · exact Or.inl ⟨rfl, St.status_fail_ne _ _⟩
  · exact Or.inr (Or.inr rfl)

theorem sigsnapG_sublist (cb : St → Nat → St) (l : List Nat) : ∀ st : St, (sigSnapLoopG cb st l).2.Sublist l := by
  induction l with
  | nil => intro st; simp [sigSnapLoopG]
  | cons a rest ih =>
    intro st
    rcases sigSnapLoopG_cons cb st a rest with ⟨h, -⟩ | ⟨-, h⟩ | h <;> rw [h]
    · exact List.nil_sublist _
    · exact (ih _).trans (List.sublist_cons_self a rest)
    · exact (ih _).cons_cons a

theorem sigsnapG_complete (cb : St → Nat → St) (hcb : ∀ st a, SigStep st (cb st a)) (l : List Nat) : ∀ st : St, SInv st →
    (sigSnapLoopG cb st l).1.status = .ok →
    ∀ b ∈ l, b < st.heap.length → b ∈ (sigSnapLoopG cb st l).1.signals → b ∈ (sigSnapLoopG cb st l).2 := by
  induction l with
  | nil => intro st _ _ b hb; cases hb
  | cons a rest ih =>
    intro st i
    have hstep := step_closed.sigSnapLoopG cb hcb (a :: rest) st i
    rcases sigSnapLoopG_cons cb st a rest with ⟨-, hbad⟩ | ⟨hnot, h⟩ | h
    · intro hok; exact absurd hok hbad
    · rw [h] at hstep ⊢
      intro hok b hb hblt hbfin
      rcases List.mem_cons.mp hb with rfl | hb
      · -- b is not in the list now, it is old, so it cannot be in the list at the end
        exfalso
        rcases hstep.fresh b hbfin with h | h
        · exact hnot h
        · omega
      · exact ih st i hok b hb hblt hbfin
    · rw [h]
      intro hok b hb hblt hbfin
      rcases List.mem_cons.mp hb with rfl | hb
      · exact List.mem_cons_self
      · have f1 := hcb st a i
        exact List.mem_cons_of_mem _ (ih _ f1.inv hok b hb (Nat.lt_of_lt_of_le hblt f1.ext.len) hbfin)

theorem sigsnap_sublist (fuel : Nat) (s : Int) (l : List Nat) : ∀ st : St, (sigSnapLoopT fuel st s l).2.Sublist l := by
  intro st
  rw [sigSnapLoopT_eq_G]
  exact sigsnapG_sublist _ l st

theorem sigsnap_complete (fuel : Nat) (s : Int) (l : List Nat) : ∀ st : St, SInv st →
    (sigSnapLoopT fuel st s l).1.status = .ok →
    ∀ b ∈ l, b < st.heap.length → b ∈ (sigSnapLoopT fuel st s l).1.signals → b ∈ (sigSnapLoopT fuel st s l).2 := by
  intro st
  rw [sigSnapLoopT_eq_G]
  exact sigsnapG_complete _ (fun st a => step_closed.sigCb fuel st a s) l st

theorem aft_total (x y : Nat) : ∀ l : List Nat, x ∈ l → y ∈ l → x ≠ y → y ∈ aft x l ∨ x ∈ aft y l := by
  intro l
  induction l with
  | nil => intro h; cases h
  | cons z rest ih =>
    intro hx hy hne
    simp only [List.mem_cons] at hx hy
    by_cases hzx : z = x
    · subst hzx
      left
      rw [aft_cons_self]
      cases hy with
      | inl h => exact absurd h.symm hne
      | inr h => exact h
    · by_cases hzy : z = y
      · subst hzy
        right
        rw [aft_cons_self]
        cases hx with
        | inl h => exact absurd h hne
        | inr h => exact h
      · rw [aft_cons_ne _ hzx, aft_cons_ne _ hzy]
        cases hx with
        | inl h => exact absurd h.symm hzx
        | inr hx =>
          cases hy with
          | inl h => exact absurd h.symm hzy
          | inr hy => exact ih hx hy hne

theorem aft_antisymm (x y : Nat) : ∀ l : List Nat, l.Nodup → y ∈ aft x l → x ∉ aft y l := by
  intro l
  induction l with
  | nil => intro _ h; simp [aft] at h
  | cons z rest ih =>
    intro hnd hy hx
    rw [List.nodup_cons] at hnd
    by_cases hzx : z = x
    · subst hzx
      rw [aft_cons_self] at hy
      by_cases hzy : z = y
      · subst hzy; exact hnd.1 hy
      · rw [aft_cons_ne _ hzy] at hx
        exact hnd.1 (mem_of_mem_aft hx)
    · rw [aft_cons_ne _ hzx] at hy
      by_cases hzy : z = y
      · subst hzy; exact hnd.1 (mem_of_mem_aft hy)
      · rw [aft_cons_ne _ hzy] at hx
        exact ih hnd.2 hy hx

theorem SigFacts.bwd {st st' : St} (f : SigFacts st st') (x y : Nat)
    (hx : x ∈ st.signals) (hy : y ∈ st.signals) (hx' : x ∈ st'.signals) (hy' : y ∈ st'.signals)
    (h : y ∈ aft x st'.signals) : y ∈ aft x st.signals := by
  have hne : x ≠ y := by
    intro hh; subst hh; exact not_mem_after_first x _ f.inv.nodup h
  cases aft_total x y st.signals hx hy hne with
  | inl h1 => exact h1
  | inr h1 =>
    have := f.fwd y x hy hy' hx' h1
    exact absurd this (aft_antisymm x y _ f.inv.nodup h)

theorem sigwalk_ordered (fuel : Nat) : ∀ (st : St) (s : Int) (this : Option Nat), SInv st →
    (∀ a, this = some a → a ∈ st.signals) →
    (∀ v ∈ (sigwatchLoopT fuel st s this).2, v ∈ st.signals ∨ st.heap.length ≤ v) ∧
    (∀ v ∈ (sigwatchLoopT fuel st s this).2, ∀ a, this = some a → v = a ∨ (v ∈ st.signals → v ∈ aft a st.signals)) ∧
    (sigwatchLoopT fuel st s this).2.Pairwise (fun x y => x ∈ st.signals → y ∈ st.signals → y ∈ aft x st.signals) := by
  induction fuel with
  | zero => intro st s this _ _; simp [sigwatchLoopT]
  | succ n ih =>
    intro st s this i hthis
    rcases sigwatchLoopT_succ n st s this with ⟨h, -⟩ | ⟨a, rfl, hh⟩
    · rw [h]; simp
    · have hain : a ∈ st.signals := hthis a rfl
      rcases hh with ⟨s', h, -⟩ | ⟨hlive1, h⟩ <;> rw [h]
      · refine ⟨?_, ?_, List.pairwise_singleton _ _⟩
        · intro v hv; simp only [List.mem_singleton] at hv; subst hv; exact Or.inl hain
        · intro v hv a' ha'
          simp only [List.mem_singleton] at hv
          simp only [Option.some.injEq] at ha'
          subst hv ha'; exact Or.inl rfl
      · have f1 := step_closed.sigCb n st a s i
        have i1 := f1.inv
        generalize hst1 : sigCb n st a s = st1 at f1 i1 hlive1 ⊢
        have ha1 : a ∈ st1.signals := by
          cases f1.leave a hain with
          | inl h => exact h
          | inr h => rw [h] at hlive1; cases hlive1
        have hnext : ∀ b, succOf a st1.signals = some b → b ∈ st1.signals := by
          intro b hb
          rw [succOf_eq_head_aft] at hb
          exact mem_of_mem_aft (List.mem_of_mem_head? hb)
        obtain ⟨h0, h1, h2⟩ := ih st1 s (succOf a st1.signals) i1 hnext
        have hold : ∀ v ∈ (sigwatchLoopT n st1 s (succOf a st1.signals)).2, v ∈ st.signals →
            v ∈ st1.signals ∧ v ∈ aft a st1.signals := by
          intro v hv hvst
          have hvlt : v < st.heap.length := i.alloc v hvst
          have hv1 : v ∈ st1.signals := by
            cases h0 v hv with
            | inl h => exact h
            | inr h => have := f1.ext.len; omega
          refine ⟨hv1, ?_⟩
          cases hq : aft a st1.signals with
          | nil =>
            have hnone : succOf a st1.signals = none := by rw [succOf_eq_head_aft, hq]; rfl
            rw [hnone] at hv
            cases n with
            | zero => simp [sigwatchLoopT] at hv
            | succ m =>
              rcases sigwatchLoopT_succ m st1 s none with ⟨h, -⟩ | ⟨_, h, -⟩
              · rw [h] at hv; cases hv
              · cases h
          | cons nx t =>
            have hsome : succOf a st1.signals = some nx := by rw [succOf_eq_head_aft, hq]; rfl
            cases h1 v hv nx hsome with
            | inl h => subst h; exact List.mem_cons_self
            | inr h =>
              have := h hv1
              rw [aft_of_aft_cons a nx _ t i1.nodup hq] at this
              exact List.mem_cons_of_mem _ this
        refine ⟨?_, ?_, ?_⟩
        · intro v hv
          simp only [List.mem_cons] at hv
          cases hv with
          | inl h => subst h; exact Or.inl hain
          | inr h =>
            cases h0 v h with
            | inl h' => exact f1.fresh v h'
            | inr h' => exact Or.inr (Nat.le_trans f1.ext.len h')
        · intro v hv a' ha'
          simp only [Option.some.injEq] at ha'
          subst ha'
          simp only [List.mem_cons] at hv
          cases hv with
          | inl h => exact Or.inl h
          | inr h =>
            right
            intro hvst
            obtain ⟨hv1, hv2⟩ := hold v h hvst
            exact f1.bwd a v hain hvst ha1 hv1 hv2
        · rw [List.pairwise_cons]
          refine ⟨?_, ?_⟩
          · intro y hy _ hyst
            obtain ⟨hy1, hy2⟩ := hold y hy hyst
            exact f1.bwd a y hain hyst ha1 hy1 hy2
          · refine List.Pairwise.imp_of_mem ?_ h2
            intro x y hx hy hxy hxst hyst
            obtain ⟨hx1, _⟩ := hold x hx hxst
            obtain ⟨hy1, _⟩ := hold y hy hyst
            exact f1.bwd x y hxst hyst hx1 hy1 (hxy hx1 hy1)

end Tickit.EvLoop
