import Tickit.Proof.LifeKeys
/-
  C08: the references the library itself holds (`Ghost`) change: an entry point of the terminal takes and gives back a
  reference to the terminal, the toplevel instance gives back its reference to the root window.  The lower layers'
  invariant is carried from one `Ghost` to the other.  (A frame of the input routing taking a reference: `SInv.ref_plus`,
  Proof/LifeKeys.lean.)
-/
namespace Tickit.Life
open WinTree (Id Win Req Change Tree)

def Ghost.addTerm (gh : Ghost) : Ghost := { gh with term := gh.term + 1 }

@[simp] theorem Ghost.addTerm_term (gh : Ghost) : gh.addTerm.term = gh.term + 1 := rfl
@[simp] theorem Ghost.addTerm_win (gh : Ghost) (i : Nat) : gh.addTerm.win i = gh.win i := rfl

def termRefS (st : St) : St := { st with term := { st.term with refcount := st.term.refcount + 1 } }

theorem termRefS_ok {gh : Ghost} {st : St} (inv : SInv gh st) (hf : st.term.freed = false) : SInv gh.addTerm (termRefS st) := by
  obtain ⟨n, hn1, hn0, H, _⟩ := inv.term_at
  exact inv.reghost (gh' := gh.addTerm) _ inv.wref inv.glive hn1 hn0 (Nat.add_right_comm .. ▸ H.ref hf)
    (fun h' => nomatch hf.symm.trans h')

theorem term_live_of_ghost {gh : Ghost} {st : St} (inv : SInv gh st) (h : 1 ≤ gh.term) : st.term.freed = false := by
  cases hf : st.term.freed with
  | false => rfl
  | true => have := (inv.term_dead hf).2.2; omega

theorem termUnref_ghost {gh : Ghost} {st : St} (inv : SInv gh.addTerm st) :
    termUnref st = .ok { st with term := st.term.dropped } ∧ SInv gh { st with term := st.term.dropped } := by
  obtain ⟨n, hn1, hn0, H, _⟩ := inv.term_at
  obtain ⟨hf, hr, H', ha⟩ := Obj.At.unref (h := gh.term + n) (Nat.add_right_comm .. ▸ H)
  exact ⟨termUnref_eq hf hr, inv.reghost _ inv.wref inv.glive hn1 hn0 H' ha⟩

theorem SInv.reghost_win {gh gh' : Ghost} {st : St} (inv : SInv gh st) (hterm : gh'.term = gh.term)
    (hwin : ∀ (i : Nat) (w : Win), LiveW st.tree i w → gh'.win i = gh.win i)
    (hgl : 0 < gh'.win 0 → ∃ r, LiveW st.tree 0 r) : SInv gh' st :=
  inv.toSInvB.reghost_wins hterm (fun i w hl => by
    have h1 := inv.wref i w hl
    unfold Ghost.covers at h1 ⊢
    rw [hwin i w hl]
    exact h1) hgl

theorem setX_appRefs_self (st : St) (x : Nat) : setX st x { getX st x with appRefs := (getX st x).appRefs } = st :=
  setX_getX_self st x

/-- `tickit_window_unref` on a reference the library itself holds (the toplevel instance's reference to the root
    window): `unrefW_gen` with the application's tally as it was. -/
theorem unrefW_ghost {cfg : Cfg} (R : Repaired cfg) {gh gh' : Ghost} {st : St} (inv : SInv gh st) {x : Nat} {ww : Win}
    (hl : LiveW st.tree x ww) (hterm : gh'.term = gh.term) (hx : gh'.win x + 1 = gh.win x)
    (hoth : ∀ j, j ≠ x → gh'.win j = gh.win j) (hcx : gh'.covers x → gh.covers x) :
    ∃ st', unrefW cfg st x = .ok st' ∧ SInv gh' st' ∧ WLater st st' ∧ Tally st st' ∧ BindsFrom (fun _ => False) st st' := by
  obtain ⟨st', _, _, hu, W⟩ := unrefW_gen (new := fun _ => False) R inv hl (getX st x).appRefs hterm hoth
    (by omega) fun h0 => (inv.wref x ww hl).2 (hcx h0)
  rw [setX_appRefs_self] at hu
  refine ⟨st', hu, W.inv, ⟨W.tree.size, W.tree.freed, fun j => ?_⟩, W.tally, W.binds⟩
  by_cases hj : j = x
  · subst hj; rw [W.apps j (inv.wx_size ▸ hl.lt), if_pos rfl]; exact Nat.le_refl _
  · exact W.le j hj

end Tickit.Life
