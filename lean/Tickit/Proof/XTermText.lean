import Tickit.Proof.XTermCsi
import Tickit.Proof.Utf8
/-
  Printed text: every `VT.Reader` decodes a UTF-8 form (`Reader.run_form`) and so a text in the library's own UTF-8
  encoding glyph by glyph (`Reader.run_text`; `run_utf8` for the reference tokenizer), and the glyphs of a text that
  fits in the row occupy exactly the cells its widths say (`foldl_putGlyph`); printable ASCII text as the one-byte,
  one-cell case (`run_ascii`).
-/
namespace Tickit.VT.Reader
open Tickit.XTermDrv
variable {σ : Type} {run : List UInt8 → σ → σ} {step : σ → UInt8 → σ} {ps : σ → PState} {setPs : σ → PState → σ}
  {exec : σ → UInt8 → List (List (Option Nat)) → List UInt8 → UInt8 → σ} {glyph : σ → Nat → σ}
  (R : Reader run step ps setPs exec glyph)
include R

/-- The lead byte leaves its payload and the number of bytes to come, each continuation byte shifts its six bits in. -/
theorem run_form {cp : Nat} {bs : List Nat} (f : Utf8.Form cp bs) (s : σ) (hg : ps s = .ground) (hp : Spec.Printable cp) :
    run (bs.map UInt8.ofNat) s = glyph s cp := by
  obtain ⟨p1, p2, p3⟩ := hp
  cases f with
  | one ha => rw [List.map_cons, List.map_nil, R.run_cons, R.run_nil, R.ground s _ hg p1 (by omega) (by omega), if_pos ha]
  | two ha hb hm =>
    simp only [List.map_cons, List.map_nil, R.run_cons, R.run_nil]
    rw [R.ground s _ hg (by omega) (by omega) (by omega), if_neg (by omega), if_pos (by omega), R.cont s _ _ _ (by omega),
      if_pos (Nat.le_refl 1), R.setPs_self s _ hg]
    simp only [Nat.add_sub_cancel_left]
  | three ha hb hc hm =>
    simp only [List.map_cons, List.map_nil, R.run_cons, R.run_nil]
    rw [R.ground s _ hg (by omega) (by omega) (by omega), if_neg (by omega), if_neg (by omega), if_pos (by omega),
      R.cont s _ _ _ (by omega), if_neg (by decide), R.cont s _ _ _ (by omega), if_pos (Nat.le_refl 1), R.setPs_self s _ hg]
    simp only [Nat.add_sub_cancel_left]
  | four ha hb hc hd hm =>
    simp only [List.map_cons, List.map_nil, R.run_cons, R.run_nil]
    rw [R.ground s _ hg (by omega) (by omega) (by omega), if_neg (by omega), if_neg (by omega), if_neg (by omega),
      if_pos (by omega), R.cont s _ _ _ (by omega), if_neg (by decide), R.cont s _ _ _ (by omega), if_neg (by decide),
      R.cont s _ _ _ (by omega), if_pos (Nat.le_refl 1), R.setPs_self s _ hg]
    simp only [Nat.add_sub_cancel_left]

theorem run_putBytes (s : σ) (hg : ps s = .ground) (cp : Nat) (hp : Spec.Printable cp) :
    run ((Utf8.putBytes cp).map UInt8.ofNat) s = glyph s cp :=
  R.run_form (Utf8.putBytes_form cp (Nat.lt_trans hp.2.2 (by decide))) s hg hp

theorem run_text (hgl : ∀ s cp, ps (glyph s cp) = ps s) (cps : List Nat) (hp : ∀ cp ∈ cps, Spec.Printable cp) (s : σ)
    (hg : ps s = .ground) : run (Spec.utf8 cps) s = cps.foldl glyph s := by
  induction cps generalizing s with
  | nil => exact R.run_nil s
  | cons cp rest ih =>
    rw [Spec.utf8, List.flatMap_cons, R.run_append, R.run_putBytes s hg cp (hp cp (by simp)), List.foldl_cons]
    exact ih (fun x hx => hp x (by simp [hx])) _ ((hgl s cp).trans hg)

end Tickit.VT.Reader

namespace Tickit.XTermDrv
open Tickit Tickit.VT

theorem run_utf8 (cps : List Nat) (hp : ∀ cp ∈ cps, Spec.Printable cp) (vt : VTState) (hg : vt.ps = .ground) :
    run (Spec.utf8 cps) vt = cps.foldl VTState.putGlyph vt :=
  vtR.run_text putGlyph_ps cps hp vt hg

theorem print_all (fx : Fixes) (s : List UInt8) : print fx s s.length = s := by
  unfold print
  by_cases h : s.length = 0
  · rw [List.eq_nil_of_length_eq_zero h]; simp
  · simp [h]

theorem getD_append_lt (a b : List Nat) (i : Nat) (h : i < a.length) : (a ++ b).getD i 32 = a.getD i 32 := by
  simp only [List.getD_eq_getElem?_getD, List.getElem?_append_left h]

theorem getD_append_ge (a b : List Nat) (i : Nat) (h : a.length ≤ i) : (a ++ b).getD i 32 = b.getD (i - a.length) 32 := by
  simp only [List.getD_eq_getElem?_getD, List.getElem?_append_right h]

theorem placeCells_eq (cells : List Nat) (vt : VTState) (n : Int) (hn : (cells.length : Int) = n)
    (hfit : vt.col + n ≤ vt.cols) :
    Spec.placeCells cells vt =
      if vt.col + n < vt.cols then { vt with grid := Spec.cellsGrid cells vt, col := vt.col + n, pendingWrap := false }
      else { vt with grid := Spec.cellsGrid cells vt, col := vt.cols - 1, pendingWrap := true } := by
  subst hn
  unfold Spec.placeCells
  by_cases h : vt.col + cells.length < vt.cols
  · rw [if_pos h, if_pos h, decide_eq_false (by omega)]
  · rw [if_neg h, if_neg h, decide_eq_true (by omega)]

theorem put1_place (vt : VTState) (cp : Nat) (hpw : vt.pendingWrap = false) (hfit : vt.col + 1 ≤ vt.cols) :
    vt.put1 cp = Spec.placeCells [cp] vt := by
  have hgrid : (fun l c => if l = vt.row ∧ c = vt.col then (⟨cp, vt.bg, vt.rv⟩ : Cell) else vt.grid l c) =
      Spec.cellsGrid [cp] vt := by
    funext l c
    refine ite_congr (propext (by simp only [List.length_cons, List.length_nil]; omega)) (fun h => ?_) (fun _ => rfl)
    have e : (c - vt.col).toNat = 0 := by simp only [List.length_cons, List.length_nil] at h; omega
    rw [e]; rfl
  rw [placeCells_eq [cp] vt 1 rfl hfit, VTState.put1]
  simp only [hpw, Bool.false_eq_true, if_false, hgrid]
  by_cases hlast : vt.col + 1 ≥ vt.cols
  · rw [if_pos hlast, if_neg (by omega)]; congr 1; omega
  · rw [if_neg hlast, if_pos (by omega)]

theorem put2_place (vt : VTState) (cp : Nat) (hpw : vt.pendingWrap = false) (hfit : vt.col + 2 ≤ vt.cols) :
    vt.put2 cp = Spec.placeCells [cp, 0] vt := by
  have hgrid : (fun l c => if l = vt.row ∧ c = vt.col then (⟨cp, vt.bg, vt.rv⟩ : Cell)
      else if l = vt.row ∧ c = vt.col + 1 ∧ c < vt.cols then ⟨0, vt.bg, vt.rv⟩ else vt.grid l c) =
      Spec.cellsGrid [cp, 0] vt := by
    funext l c
    unfold Spec.cellsGrid
    simp only [List.length_cons, List.length_nil]
    by_cases h1 : l = vt.row ∧ c = vt.col
    · have e : (c - vt.col).toNat = 0 := by rw [h1.2, Int.sub_self]; rfl
      rw [if_pos h1, if_pos (by omega), e]; rfl
    · rw [if_neg h1]
      by_cases h2 : l = vt.row ∧ c = vt.col + 1 ∧ c < vt.cols
      · have e : (c - vt.col).toNat = 1 := by rw [h2.2.1, Int.add_comm, Int.add_sub_cancel]; rfl
        rw [if_pos h2, if_pos (by omega), e]; rfl
      · rw [if_neg h2, if_neg (by omega)]
  have hnw : ¬ (vt.pendingWrap = true ∨ vt.col + 2 > vt.cols) := by rw [hpw]; simp; omega
  rw [placeCells_eq [cp, 0] vt 2 rfl hfit, VTState.put2]
  simp only [hnw, if_false, hgrid]
  by_cases hlast : vt.col + 2 ≥ vt.cols
  · rw [if_pos hlast, if_neg (by omega)]
  · rw [if_neg hlast, if_pos (by omega)]; congr 1

theorem toNat_sub_add (c col : Int) (n : Nat) (h : col + n ≤ c) : (c - (col + n)).toNat = (c - col).toNat - n := by
  omega

theorem placeCells_append (vt : VTState) (a b : List Nat) (hroom : vt.col + a.length < vt.cols) :
    Spec.placeCells b (Spec.placeCells a vt) = Spec.placeCells (a ++ b) vt := by
  have hlen : ((a ++ b).length : Int) = a.length + b.length := by rw [List.length_append]; omega
  unfold Spec.placeCells
  dsimp only
  rw [if_pos hroom, hlen, Int.add_assoc]
  congr 1
  funext l c
  unfold Spec.cellsGrid
  dsimp only
  rw [hlen]
  by_cases h1 : l = vt.row ∧ vt.col + ↑a.length ≤ c ∧ c < vt.col + ↑a.length + ↑b.length
  · rw [if_pos h1, if_pos (by omega), getD_append_ge a b _ (by omega)]
    rw [toNat_sub_add c vt.col a.length h1.2.1]
  · rw [if_neg h1]
    by_cases h3 : l = vt.row ∧ vt.col ≤ c ∧ c < vt.col + ↑a.length
    · rw [if_pos h3, if_pos (by omega), getD_append_lt a b _ (by omega)]
    · rw [if_neg h3, if_neg (by omega)]

theorem width_le_two (cp : Nat) : width cp = 0 ∨ width cp = 1 ∨ width cp = 2 := by
  unfold width
  rcases Utf8.wcwidth_range cp with h | h | h | h <;> rw [h] <;> decide

theorem cellsOf_cases (cp : Nat) :
    (width cp = 0 ∧ Spec.cellsOf cp = []) ∨ (width cp = 1 ∧ Spec.cellsOf cp = [cp]) ∨
    (width cp = 2 ∧ Spec.cellsOf cp = [cp, 0]) := by
  unfold Spec.cellsOf
  rcases width_le_two cp with h | h | h <;> simp [h]

theorem putGlyph_zero (vt : VTState) (cp : Nat) (h : Spec.cellsOf cp = []) : vt.putGlyph cp = vt := by
  rcases cellsOf_cases cp with ⟨hw, _⟩ | ⟨_, hc⟩ | ⟨_, hc⟩
  · simp only [VTState.putGlyph, hw]
  · rw [hc] at h; cases h
  · rw [hc] at h; cases h

theorem putGlyph_place (vt : VTState) (cp : Nat) (hpw : vt.pendingWrap = false) (hne : Spec.cellsOf cp ≠ [])
    (hfit : vt.col + (Spec.cellsOf cp).length ≤ vt.cols) : vt.putGlyph cp = Spec.placeCells (Spec.cellsOf cp) vt := by
  rcases cellsOf_cases cp with ⟨_, hc⟩ | ⟨hw, hc⟩ | ⟨hw, hc⟩
  · exact absurd hc hne
  · rw [hc] at hfit ⊢
    simp only [VTState.putGlyph, hw]
    exact put1_place vt cp hpw hfit
  · rw [hc] at hfit ⊢
    simp only [VTState.putGlyph, hw]
    exact put2_place vt cp hpw hfit

theorem foldl_zero_width (cps : List Nat) (h : Spec.textCells cps = []) (vt : VTState) :
    cps.foldl VTState.putGlyph vt = vt := by
  induction cps with
  | nil => rfl
  | cons cp rest ih =>
    rw [Spec.textCells, List.flatMap_cons, List.append_eq_nil_iff] at h
    rw [List.foldl_cons, putGlyph_zero vt cp h.1]
    exact ih h.2

theorem placeCells_nil (vt : VTState) (hpw : vt.pendingWrap = false) (hcol : vt.col < vt.cols) :
    Spec.placeCells [] vt = vt := by
  rw [placeCells_eq [] vt 0 rfl (by omega), if_pos (by omega), Int.add_zero]
  apply VTState.ext <;> first | rfl | skip
  · funext l c
    exact if_neg (by simp only [List.length_nil]; omega)
  · exact hpw.symm

theorem foldl_putGlyph (cps : List Nat) (vt : VTState) (hpw : vt.pendingWrap = false) (hcol : vt.col < vt.cols)
    (hfit : vt.col + (Spec.textCells cps).length ≤ vt.cols) :
    cps.foldl VTState.putGlyph vt = Spec.placeCells (Spec.textCells cps) vt := by
  induction cps generalizing vt with
  | nil => exact (placeCells_nil vt hpw hcol).symm
  | cons cp rest ih =>
    have htc : Spec.textCells (cp :: rest) = Spec.cellsOf cp ++ Spec.textCells rest := List.flatMap_cons ..
    rw [htc, List.length_append] at hfit
    rw [htc, List.foldl_cons]
    by_cases hz : Spec.cellsOf cp = []
    · rw [hz] at hfit
      rw [putGlyph_zero vt cp hz, hz, List.nil_append]
      exact ih vt hpw hcol (by simpa using hfit)
    · rw [putGlyph_place vt cp hpw hz (by omega)]
      by_cases hroom : vt.col + (Spec.cellsOf cp).length < vt.cols
      · have hcol' : (Spec.placeCells (Spec.cellsOf cp) vt).col = vt.col + (Spec.cellsOf cp).length := if_pos hroom
        rw [ih (Spec.placeCells (Spec.cellsOf cp) vt) (decide_eq_false (by omega))
          (by show _ < vt.cols; rw [hcol']; exact hroom) (by show _ ≤ vt.cols; rw [hcol']; omega)]
        exact placeCells_append vt _ _ hroom
      · -- the glyph ends at the right edge: only zero-width characters can follow
        have hz' : Spec.textCells rest = [] := List.eq_nil_of_length_eq_zero (by omega)
        rw [foldl_zero_width rest hz', hz', List.append_nil]

theorem combining_first : (Width.Table.at Gen.Width.combining 0).1 = 0x300 := by decide +kernel
theorem fullwidth_first : 0x300 ≤ (Width.Table.at Gen.Width.fullwidth 0).1 := by decide +kernel

theorem bisearch_below (t : Width.Table) (c : Nat) (h : c < (t.at 0).1) : Width.bisearch t c = false := by
  unfold Width.bisearch
  by_cases hs : t.size = 0
  · simp [hs]
  · simp [hs, h]

/-- Below U+0300 neither width table is consulted with success: the width is 1 unless the code point is a control. -/
theorem width_latin (c : Nat) (h0 : 0x20 ≤ c) (h1 : ¬ (0x7f ≤ c ∧ c < 0xa0)) (h2 : c < 0x300) : width c = 1 := by
  have hf := bisearch_below Gen.Width.fullwidth c (by have := fullwidth_first; omega)
  have hc := bisearch_below Gen.Width.combining c (by rw [combining_first]; exact h2)
  have hw : Width.isWideRange c = false := by
    unfold Width.isWideRange
    have : ¬ (c ≥ 0x1100) := by omega
    simp [this]
  have hz : c ≠ 0 := by omega
  have hctl : ¬ (c < 32 ∨ (c ≥ 0x7f ∧ c < 0xa0)) := by omega
  simp [width, Width.wcwidth, Width.mkWcwidth, hf, hc, hw, hz, hctl]

theorem utf8_ascii (bs : List UInt8) (hb : ∀ b ∈ bs, b.toNat < 0x80) : Spec.utf8 (bs.map UInt8.toNat) = bs := by
  induction bs with
  | nil => rfl
  | cons b rest ih =>
    show (Utf8.putBytes b.toNat).map UInt8.ofNat ++ Spec.utf8 (rest.map UInt8.toNat) = b :: rest
    rw [Utf8.putBytes_1 _ (hb b (by simp)), ih (fun x hx => hb x (by simp [hx]))]
    simp only [List.map_cons, List.map_nil, UInt8.ofNat_toNat, List.singleton_append]

theorem textCells_ascii (bs : List UInt8) (hb : ∀ b ∈ bs, 0x20 ≤ b.toNat ∧ b.toNat < 0x7f) :
    Spec.textCells (bs.map UInt8.toNat) = bs.map UInt8.toNat := by
  induction bs with
  | nil => rfl
  | cons b rest ih =>
    have hw := width_latin b.toNat (hb b (by simp)).1 (by have := (hb b (by simp)).2; omega)
      (by have := (hb b (by simp)).2; omega)
    show Spec.cellsOf b.toNat ++ Spec.textCells (rest.map UInt8.toNat) = b.toNat :: rest.map UInt8.toNat
    rw [ih (fun x hx => hb x (by simp [hx])), Spec.cellsOf, hw]
    rfl

theorem run_ascii (bs : List UInt8) (hb : ∀ b ∈ bs, 0x20 ≤ b ∧ b < 0x7f) (hne : bs ≠ []) (vt : VTState)
    (hg : vt.ps = .ground) (hpw : vt.pendingWrap = false) (hfit : vt.col + bs.length ≤ vt.cols) :
    run bs vt = Spec.placeCells (bs.map UInt8.toNat) vt := by
  have hn : ∀ b ∈ bs, 0x20 ≤ b.toNat ∧ b.toNat < 0x7f := fun b h =>
    ⟨UInt8.le_iff_toNat_le.mp (hb b h).1, UInt8.lt_iff_toNat_lt.mp (hb b h).2⟩
  have hprint : ∀ cp ∈ bs.map UInt8.toNat, Spec.Printable cp := by
    intro cp h
    obtain ⟨b, hb', rfl⟩ := List.mem_map.mp h
    have := hn b hb'
    exact ⟨this.1, by omega, by omega⟩
  have hcells := textCells_ascii bs hn
  have hrun := run_utf8 (bs.map UInt8.toNat) hprint vt hg
  rw [utf8_ascii bs (fun b h => by have := hn b h; omega)] at hrun
  have hcol : vt.col < vt.cols := by
    cases bs with
    | nil => exact absurd rfl hne
    | cons _ _ => simp only [List.length_cons] at hfit; omega
  rw [hrun, foldl_putGlyph _ vt hpw hcol (by rw [hcells, List.length_map]; exact hfit), hcells]

end Tickit.XTermDrv
