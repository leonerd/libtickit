import Tickit.Proof.WinInputDeliver
/-
  C14, "with the position made relative to the receiving window" when handlers move windows from inside the dispatch
  (`tickit_window_set_geometry`, `Act.geom`): every window outside the set `A` of windows the handlers act on is given
  the event at the position of the terminal cell relative to *itself* — whatever the windows offered the event before
  it did to windows of `A` (moved them, resized them, closed them, …).

  The dispatch invariant `DInv` (Proof/WinInputDInv.lean) says that the store is the initial one up to `A`; the
  induction below uses `handleMouse_sim` for its preservation and adds the positions.
-/
namespace Tickit
namespace WinInput
open WinTree

/-- `(e.line, e.col)` is the cell `(L, C)` seen from window `x` as it lies in `t0`. -/
def RelTo (t0 : Tree) (L C : Int) (x : WinTree.Id) (e : Ev) : Prop :=
  ∃ a b, OriginSum t0 (some x) a b ∧ e.line = L - a ∧ e.col = C - b

def PosItem (A : Aff) (t0 : Tree) (L C : Int) : LogItem → Prop
  | .offer _ x e _ => A x = false → RelTo t0 L C x e
  | .call _ x _ _ _ e => A x = false → RelTo t0 L C x e
  | _ => True

theorem posItem_quiet (A : Aff) (t0 : Tree) (L C : Int) : Quiet (PosItem A t0 L C) :=
  ⟨fun _ => trivial, fun _ => trivial⟩

def MouseRecPos (A : Aff) (t0 : Tree) (L C : Int) (rec : MouseRec) : Prop :=
  ∀ (st : St) (win : WinTree.Id) (ev : Ev) (held : List WinTree.Id) (st' : St) (r : Option WinTree.Id),
    DInv A t0 held st → Alive st.tree win → (A win = false → RelTo t0 L C win ev) →
    rec st win ev = Out.ok (st', r) → Ext (PosItem A t0 L C) st st'

/-- The event handed to a child outside `A` is relative to the child: its rectangle and parent are those of `t0`. -/
theorem relTo_child {A : Aff} {t0 : Tree} {L C : Int} {st : St} {held : List WinTree.Id} (h : DInv A t0 held st)
    {win c : WinTree.Id} {cw : Win} {ev : Ev} (hcw : st.tree.wins[c]? = some cw) (hcf : cw.freed = false)
    (hpar : cw.parent = some win) (hpos : A win = false → RelTo t0 L C win ev) :
    A c = false → RelTo t0 L C c (ev.toChild cw) := by
  intro hAc
  obtain ⟨pw, hpw, _, hmem⟩ := h.ainv.tree.parent c win cw hcw hcf hpar
  have hAw : A win = false := by
    cases hA : A win with
    | false => rfl
    | true => exact aff_absurd (h.sim.down win pw hA hpw c hmem) hAc
  obtain ⟨a, b, ho, hl, hc⟩ := hpos hAw
  obtain ⟨c0, hc0⟩ := getElem?_of_size_eq h.sim.size hcw
  have rel := h.sim.rel hAc hc0 hcw
  have ho' : OriginSum t0 c0.parent a b := by rw [← rel.parent, hpar]; exact ho
  refine ⟨a + c0.rect.top, b + c0.rect.left, OriginSum.step hc0 ho', ?_, ?_⟩
  · show ev.line - cw.rect.top = L - (a + c0.rect.top)
    rw [rel.rect, hl, Int.sub_sub]
  · show ev.col - cw.rect.left = C - (b + c0.rect.left)
    rw [rel.rect, hc, Int.sub_sub]

theorem mouseSnap_pos {A : Aff} {t0 : Tree} {L C : Int} {rec : MouseRec} (hsim : MouseRecSim A t0 rec)
    (hrec : MouseRecPos A t0 L C rec) (win : WinTree.Id) (ev : Ev) (held : List WinTree.Id)
    (hpos : A win = false → RelTo t0 L C win ev) :
    ∀ (cs : List WinTree.Id) (st st' : St) (r : Option WinTree.Id), DInv A t0 held st →
      mouseSnap rec st win cs ev = Out.ok (st', r) → Ext (PosItem A t0 L C) st st' := by
  intro cs
  induction cs with
  | nil =>
    intro st st' r _ h
    cases h; exact Ext.refl _ _
  | cons c rest ih =>
    intro st st' r g h
    rw [mouseSnap] at h
    obtain ⟨cw, hcw, h⟩ := lift_bind_eq_ok.1 h
    obtain ⟨hcww, hcwf⟩ := WinTree.get_ok_iff.1 hcw
    by_cases hp : cw.parent ≠ some win
    · rw [if_pos hp] at h; exact ih _ _ _ g h
    · rw [if_neg hp] at h
      have hpar : cw.parent = some win := Classical.not_not.1 hp
      by_cases hskip : (!cw.stealInput && outsideChild cw ev.line ev.col) = true
      · rw [if_pos hskip] at h; exact ih _ _ _ g h
      · rw [if_neg hskip] at h
        obtain ⟨⟨st1, r1⟩, hr, h⟩ := out_bind_eq_ok.1 h
        have hal : Alive st.tree c := ⟨cw, hcww, hcwf⟩
        have e1 := hrec _ _ _ held _ _ g hal (relTo_child g hcww hcwf hpar hpos) hr
        have g1 := (hsim st c _ held st1 r1 g hal hr).inv
        cases r1 with
        | some hh => cases h; exact e1
        | none => exact e1.trans (ih _ _ _ g1 h)

theorem handleMouseBody_pos {A : Aff} {t0 : Tree} {L C : Int} {rec : MouseRec}
    (hsim : MouseRecSim A t0 rec) (hrec : MouseRecPos A t0 L C rec) (fuel : Nat) :
    MouseRecPos A t0 L C (handleMouseBody Cfg.repaired rec fuel) := by
  intro st win ev held st' r g hal hpos h
  have hq := posItem_quiet A t0 L C
  obtain ⟨vis, _, hc⟩ := handleMouseBody_ok h
  rcases hc with ⟨_, rfl, _⟩ | ⟨_, st1, st2, r2, st3, h1, h2, h3, hu⟩
  · exact Ext.refl _ _
  · obtain ⟨g1, _⟩ := g.ref h1
    obtain ⟨w, hg, _⟩ := (g1.ainv.held win (List.mem_cons_self ..)).get
    obtain ⟨st4, st5, h4, h5, h6⟩ := mouseChildren_ok hg h2
    obtain ⟨g4, _⟩ := DInv.refAll _ _ _ _ g1 h4
    have e2 : Ext (PosItem A t0 L C) st1 st2 :=
      ((refAll_ext _ _ _ h4).trans (mouseSnap_pos hsim hrec win ev _ hpos _ _ _ _ g4 h5)).trans (unrefAll_ext hq _ _ _ h6)
    have e3 : Ext (PosItem A t0 L C) st2 st3 := by
      unfold mouseSelf at h3
      cases r2 with
      | some hh => cases h3; exact Ext.refl _ _
      | none =>
        obtain ⟨own, _, hc⟩ := mouseOwn_ok h3
        rcases hc with ⟨_, rfl, _⟩ | ⟨_, st1', done, hh1, hc⟩
        · exact Ext.refl _ _
        · have e1 : Ext (PosItem A t0 L C) st2 st1' := runHandlers_ext hq .mouse win ev (fun _ _ _ => hpos) hpos hh1
          rcases hc with ⟨_, rfl, _⟩ | ⟨_, hh2, _⟩
          · exact e1
          · exact e1.trans (refWin_ext hh2)
    exact (((refWin_ext h1).trans e2).trans e3).trans (unrefLogged_ext hq hu)

theorem handleMouse_pos {A : Aff} {t0 : Tree} (hb : Base A t0) (L C : Int) :
    ∀ (f : Nat), MouseRecPos A t0 L C (handleMouse Cfg.repaired f) := by
  intro f
  induction f with
  | zero => intro st win ev held st' r _ _ _ hr; cases hr
  | succ f ih => exact handleMouseBody_pos (handleMouse_sim hb f) ih f

end WinInput
end Tickit
