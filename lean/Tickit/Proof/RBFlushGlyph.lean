import Tickit.Proof.RBFlushText
/-
  C04: the box-drawing block (`boxArms`) and the glyph table of the working tree (`Gen.LineChars.linemaskToChar`).

  A line mask is the base-4 number of its four styles (`armCode_maskArms`), so arms are compared through their codes,
  and every table is read front to back (`zipIdx_toList`): an indexed read of a literal array, or a comparison of two
  quadruples, costs the kernel far more than the arithmetic it stands for.
-/
namespace Tickit.RBFlush
open Tickit.RB

theorem zipIdx_toList {α : Type} (arr : Array α) (d : α) :
    arr.toList.zipIdx = (List.range arr.size).map fun i => (arr.getD i d, i) := by
  apply List.ext_getElem (by simp)
  intro i h _
  simp at h
  simp [h]

theorem toList_eq_getD {α : Type} (arr : Array α) (d : α) :
    arr.toList = (List.range arr.size).map fun i => arr.getD i d := by
  have h := congrArg (List.map Prod.fst) (zipIdx_toList arr d)
  rw [List.zipIdx_map_fst, List.map_map] at h
  exact h

/-- The four two-bit styles as one number: a line mask is the code of its own arms. -/
def armCode (a : Arms) : Nat := a.1 + 4 * a.2.1 + 16 * a.2.2.1 + 64 * a.2.2.2

theorem armCode_maskArms {m : Nat} (h : m < 256) : armCode (maskArms m) = m := by
  simp only [armCode, maskArms, Tickit.Gen.LineChars.shiftNorth, Tickit.Gen.LineChars.shiftEast,
    Tickit.Gen.LineChars.shiftSouth, Tickit.Gen.LineChars.shiftWest, Nat.shiftRight_eq_div_pow]
  omega

def boxCodes : List (Option Nat) := boxArms.toList.map (Option.map armCode)

theorem boxArms_coded : ∀ q ∈ boxArms.toList.zipIdx,
    (q.1.all fun a => maskArms (armCode a) == a && boxCodes.idxOf (some (armCode a)) == q.2) = true := by
  decide +kernel

theorem armsOf_some_range {cp : Nat} {a : Arms} (h : armsOf cp = some a) :
    0x2500 ≤ cp ∧ cp < 0x2580 ∧ (some a, cp - 0x2500) ∈ boxArms.toList.zipIdx := by
  unfold armsOf at h
  split at h
  · rename_i hr
    refine ⟨hr.1, hr.2, ?_⟩
    rw [zipIdx_toList boxArms none, ← h]
    exact List.mem_map_of_mem (List.mem_range.2 (by have : boxArms.size = 128 := rfl; omega))
  · cases h

theorem armsOf_coded {cp : Nat} {a : Arms} (h : armsOf cp = some a) :
    maskArms (armCode a) = a ∧ boxCodes.idxOf (some (armCode a)) = cp - 0x2500 := by
  simpa using boxArms_coded _ (armsOf_some_range h).2.2

theorem armsOf_inj {x y : Nat} {a : Arms} (hx : armsOf x = some a) (hy : armsOf y = some a) : x = y := by
  have h1 := (armsOf_coded hx).2
  have h2 := (armsOf_coded hy).2
  have := armsOf_some_range hx
  have := armsOf_some_range hy
  omega

theorem hasExact_iff (a : Arms) : hasExact a = true ↔ some a ∈ boxArms.toList := by
  have hsz : boxArms.size = 128 := by decide +kernel
  rw [toList_eq_getD boxArms none, List.mem_map, hsz]
  simp only [hasExact, List.any_eq_true, beq_iff_eq]

theorem hasExact_of_armsOf {cp : Nat} {a : Arms} (h : armsOf cp = some a) : hasExact a = true :=
  (hasExact_iff a).2 (List.mem_of_getElem? (List.mem_zipIdx_iff_getElem?.1 (armsOf_some_range h).2.2))

/-- The codes of the arm glyphs as a bit set: membership is one `testBit`, where `hasExact` searches the block, for
    every mask of a table the dearest part of judging it. -/
def exactSet : Nat := (boxCodes.filterMap id).foldl (fun s c => s ||| 1 <<< c) 0

theorem testBit_foldl_or (m : Nat) (l : List Nat) :
    ∀ s, (l.foldl (fun s c => s ||| 1 <<< c) s).testBit m = (s.testBit m || l.contains m) := by
  induction l with
  | nil => intro s; simp
  | cons c l ih =>
    intro s
    rw [List.foldl_cons, ih]
    simp [Nat.testBit_or, Nat.one_shiftLeft, Nat.testBit_two_pow, Bool.or_assoc, eq_comm]

theorem hasExact_maskArms {m : Nat} (h : m < 256) : hasExact (maskArms m) = exactSet.testBit m := by
  rw [exactSet, testBit_foldl_or, Nat.zero_testBit, Bool.false_or, Bool.eq_iff_iff, hasExact_iff,
    List.contains_iff_mem, List.mem_filterMap]
  constructor
  · intro hm
    refine ⟨some m, ?_, rfl⟩
    have := List.mem_map_of_mem (f := Option.map armCode) hm
    rwa [Option.map_some, armCode_maskArms h] at this
  · rintro ⟨_, hm, rfl⟩
    obtain ⟨oa, hoa, he⟩ := List.mem_map.1 hm
    obtain ⟨b, rfl, hb⟩ := Option.map_eq_some_iff.1 he
    obtain ⟨i, hi, hget⟩ := List.mem_iff_getElem.1 hoa
    have := boxArms_coded (some b, i) (List.mem_zipIdx_iff_getElem?.2 (by rw [List.getElem?_eq_getElem hi, hget]))
    simp only [Option.all_some, Bool.and_eq_true, beq_iff_eq] at this
    rw [← hb, this.1]
    exact hoa

theorem armed_iff (x y : Nat) : ((x != 0) == (y != 0)) = true ↔ (x ≠ 0 ↔ y ≠ 0) := by
  rw [beq_iff_eq, Bool.eq_iff_iff, bne_iff_ne, bne_iff_ne]

theorem sameDirs_iff (a b : Arms) : sameDirs a b = true ↔
    (a.1 ≠ 0 ↔ b.1 ≠ 0) ∧ (a.2.1 ≠ 0 ↔ b.2.1 ≠ 0) ∧ (a.2.2.1 ≠ 0 ↔ b.2.2.1 ≠ 0) ∧ (a.2.2.2 ≠ 0 ↔ b.2.2.2 ≠ 0) := by
  simp only [sameDirs, Bool.and_eq_true, armed_iff, and_assoc]

theorem glyphOK_iff (m cp : Nat) : glyphOK m cp = true ↔
    ∃ a, armsOf cp = some a ∧ sameDirs a (maskArms m) = true ∧ (hasExact (maskArms m) = true → a = maskArms m) := by
  unfold glyphOK
  cases armsOf cp with
  | none => simp
  | some a => cases hasExact (maskArms m) <;> simp

/-- `armsOf` without the array's bounds check (which walks the whole block to find its size). -/
def armsOfL (cp : Nat) : Option Arms := if 0x2500 ≤ cp then boxArms.toList[cp - 0x2500]?.join else none

theorem armsOf_eq (cp : Nat) : armsOf cp = armsOfL cp := by
  have hsz : boxArms.toList.length = 128 := by decide +kernel
  unfold armsOf armsOfL
  by_cases h1 : 0x2500 ≤ cp
  · rw [if_pos h1, Array.getD_eq_getD_getElem?, ← Array.getElem?_toList]
    by_cases h2 : cp < 0x2580
    · rw [if_pos ⟨h1, h2⟩]
      cases boxArms.toList[cp - 0x2500]? <;> rfl
    · rw [if_neg (fun h => h2 h.2), List.getElem?_eq_none (by omega)]
      rfl
  · rw [if_neg (fun h => h1 h.1), if_neg h1]

def glyphOKc (m cp : Nat) : Bool :=
  (armsOfL cp).any fun a => sameDirs a (maskArms m) && (!exactSet.testBit m || armCode a == m)

theorem glyphOK_eq {m : Nat} (h : m < 256) (cp : Nat) : glyphOK m cp = glyphOKc m cp := by
  unfold glyphOK glyphOKc
  rw [← armsOf_eq]
  cases ha : armsOf cp with
  | none => rfl
  | some a =>
    simp only [Option.any_some, hasExact_maskArms h]
    congr 2
    rw [Bool.eq_iff_iff, beq_iff_eq, beq_iff_eq]
    constructor
    · rintro rfl; exact armCode_maskArms h
    · intro he; rw [← he]; exact (armsOf_coded ha).1.symm

theorem glyphOK_getD {table : Array Nat} (hs : table.size = 256) {m : Nat} (h : m < 256) :
    (table.getD m 0, m) ∈ table.toList.zipIdx ∧ glyphOK m (table.getD m 0) = glyphOKc m (table.getD m 0) := by
  refine ⟨?_, glyphOK_eq h _⟩
  rw [zipIdx_toList table 0]
  exact List.mem_map_of_mem (List.mem_range.2 (by omega))

open Tickit.Gen.LineChars in
theorem glyph_table_ok : ∀ m, m < 256 → 1 ≤ m → glyphOK m (linemaskToChar.getD m 0) = true := by
  have h : ∀ q ∈ linemaskToChar.toList.zipIdx, 1 ≤ q.2 → glyphOKc q.2 q.1 = true := by decide +kernel
  intro m hm h1
  obtain ⟨hq, he⟩ := glyphOK_getD (table := linemaskToChar) (by decide +kernel) hm
  rw [he]
  generalize linemaskToChar.getD m 0 = cp at hq ⊢
  exact h (cp, m) hq h1

theorem box_width : ∀ i, i < 128 → RB.Utf8.wcwidth (0x2500 + i) = 1 := by decide +kernel

open Tickit.Gen.LineChars in
structure GlyphFacts (m : Nat) : Prop where
  dec : RB.Utf8.nextUtf8 (glyphBytes m) 0 (some (glyphBytes m).length) =
    some ⟨(glyphBytes m).length, linemaskToChar.getD m 0⟩
  width : RB.Utf8.wcwidth (linemaskToChar.getD m 0) = 1
  ok : lineGlyphOK m (glyphBytes m) = true

open Tickit.Gen.LineChars in
theorem glyph_table_facts (m : Nat) (h : 1 ≤ m ∧ m < 256) : GlyphFacts m := by
  have hok := glyph_table_ok m h.2 h.1
  have hbox : ∃ i, i < 128 ∧ linemaskToChar.getD m 0 = 0x2500 + i := by
    obtain ⟨a, ha, _⟩ := (glyphOK_iff _ _).1 hok
    obtain ⟨r1, r2, _⟩ := armsOf_some_range ha
    exact ⟨linemaskToChar.getD m 0 - 0x2500, by omega, by omega⟩
  obtain ⟨i, hi, he⟩ := hbox
  have hdec := RB.Utf8.nextUtf8_put (0x2500 + i) (by omega) (by omega)
  have hw := box_width i hi
  rw [← he] at hdec hw
  refine ⟨hdec, hw, ?_⟩
  rw [lineGlyphOK, glyphBytes, hdec]
  simp only [hok, beq_self_eq_true, Bool.and_self]

end Tickit.RBFlush
