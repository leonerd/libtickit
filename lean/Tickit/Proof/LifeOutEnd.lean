import Tickit.Proof.LifeOut
import Tickit.Proof.LifeTopEnd
/-
  C08: the operation `end` at the layer of `Model/LifeOut.lean`.  A file of its own because it rests on `end_ok` of
  `LifeTopEnd`, which the rest of this layer (`LifeOut`) does not import.
-/
namespace Tickit.Life

/-- After `end` nothing is left, whatever the output side has seen (a buffer with output pending included: the terminal
    frees it). -/
theorem yrun_end {tc : TCfg} (R : TRepaired tc) (hcap : 19 ≤ Gen.Sgr.paramsCap) (start : XOp) (hstart : start.isNew = true)
    (ops : List YOp) (h : ∀ op ∈ ops, op.covered) :
    ∃ o', yrunOps tc {} (.x start :: ops ++ [.x (.base .«end»)]) = .ok o' ∧ o'.top.anythingLeft = false ∧ o'.top.fail = none := by
  obtain ⟨o1, hr, I1⟩ := yrun_from_start R hcap start hstart ops h
  obtain ⟨top2, r, he, hleft, hfail⟩ := end_ok R I1.top
  obtain ⟨io2, hio, _⟩ := ioAfter_ok top2 (.base .«end») r I1.io
  rw [yrunOps_eq] at hr ⊢
  exact ⟨_, runWith_end hr (ystep_x_eq he hio), hleft, hfail⟩

end Tickit.Life
