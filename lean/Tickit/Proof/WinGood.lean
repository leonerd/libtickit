import Tickit.Proof.WinFull
/-
  `Props.C01.Good`, the invariant of C01's histories with nothing queued and the root window shown, with the predicates its
  statement is made of, and how it is kept.  `WinFlush.ExactC`, `InvC`, `Flagged'` are the same predicates as `Exact`, `Inv`,
  `Flagged` here, under the names the proof modules use.
-/
namespace Tickit.Props.C01
open Tickit WinTree WinRB WinFlush WinSpec

/-- Every owned terminal cell shows what its owner paints there. -/
def Exact (content : Id → Int → Int → Cell) (tree : Tree) (screen : Int → Int → Cell) : Prop :=
  ∀ L C w l c, ownerAt tree L C = some (w, l, c) → screen L C = content w l c

/-- Every owned terminal cell is pending repaint or already right. -/
def Inv (content : Id → Int → Int → Cell) (tree : Tree) (screen : Int → Int → Cell) : Prop :=
  InvC content tree screen

/-- Pending damage is flagged (what `tickit_window_expose` does when it records damage). -/
def Flagged (t : Tree) : Prop := t.root.damage ≠ [] → t.root.needsExpose = true

/-- The state is in order: the root window is at the origin, visible and not a child; nothing is queued; recorded
    damage is flagged for the next flush. -/
structure Good (content : Id → Int → Int → Cell) (st : St) : Prop where
  root : RootOk st.tree
  rootTop : ∀ w, st.tree.wins[0]? = some w → w.parent = none
  pos : RootsPositive st.tree
  nonempty : ∀ x ∈ st.tree.root.damage, x.Nonempty
  noQueue : st.tree.root.changes = []
  flagged : Flagged st.tree
  later : st.tree.root.damage ≠ [] → st.tree.root.needsLater = true
  inv : Inv content st.tree st.screen
  /-- parent pointers agree with the child lists -/
  wf : WFp st.tree
  rootWin : RootWin st.tree
  /-- the damage set satisfies the invariant of C05 (in particular its rectangles are pairwise disjoint) -/
  dinv : RectSet.Inv st.tree.root.damage
  onlyRoot : OnlyRoot st.tree
  nodup : ChildrenNodup st.tree
  noSelf : NoSelfParent st.tree

theorem Good.treeOk {content : Id → Int → Int → Cell} {st : St} (hg : Good content st) : TreeOk st.tree :=
  ⟨hg.wf, hg.nodup, hg.noSelf, hg.onlyRoot, hg.rootWin⟩

theorem Good.flags {content : Id → Int → Int → Cell} {st : St} (hg : Good content st) : Flags st.tree :=
  fun hd => ⟨hg.flagged hd, hg.later hd⟩

theorem Good.of_step {content : Id → Int → Int → Cell} {st : St} {t' : Tree} (hg : Good content st) (hs : Step st.tree t')
    (hro : RootOk t') : Good content { st with tree := t' } :=
  have hfl := hs.root.flags hg.flags
  { root := hro
    rootTop := hs.ok.rootWin.parentless
    pos := hs.pos
    nonempty := hs.recorded.nonempty hg.nonempty
    noQueue := hs.root.queueEmpty hg.noQueue
    flagged := fun hd => (hfl hd).1
    later := fun hd => (hfl hd).2
    inv := hs.recorded.invC hg.inv
    wf := hs.ok.wf, rootWin := hs.ok.rootWin, onlyRoot := hs.ok.onlyRoot, nodup := hs.ok.nodup, noSelf := hs.ok.noSelf
    dinv := hs.recorded.dinv hg.dinv }

theorem Good.of_exact {content : Id → Int → Int → Cell} {st st' : St} (hg : Good content st)
    (hw : st'.tree.wins = st.tree.wins) (hd : st'.tree.root.damage = []) (hq : st'.tree.root.changes = [])
    (hex : Exact content st'.tree st'.screen) : Good content st' :=
  have hok := treeOk_congr hw hg.treeOk
  { root := rootOk_congr hw hg.root
    rootTop := hok.rootWin.parentless
    pos := by intro i w h; rw [hw] at h; exact hg.pos i w h
    nonempty := by intro x hx; rw [hd] at hx; cases hx
    noQueue := hq
    flagged := fun hx => absurd hd hx
    later := fun hx => absurd hd hx
    inv := fun L C w l c ho => Or.inr (hex L C w l c ho)
    wf := hok.wf, rootWin := hok.rootWin, onlyRoot := hok.onlyRoot, nodup := hok.nodup, noSelf := hok.noSelf
    dinv := by rw [hd]; exact RectSet.inv_nil }

/-- The tree `t` rendered differs from the state's in the two flags the flush lowers only. -/
theorem Good.flush_cases {beh : Id → Rect → List DrawOp} {content : Id → Int → Int → Cell} {st st' : St} {shots : List Shot}
    (hg : Good content st) (h : WinFlush.flush beh st = .ok (st', shots)) :
    (st.tree.root.needsLater = false ∧ st' = st ∧ shots = []) ∨
      ∃ t, flushRender beh st t = .ok (st', shots) ∧ t.wins = st.tree.wins ∧ t.root.damage = st.tree.root.damage ∧
        t.root.changes = [] ∧ Flagged t ∧ Inv content t st.screen := by
  obtain ⟨root, hr⟩ := hg.rootWin.record
  rcases WinFlush.flush_cases h (WinTree.Live.get ⟨hr.slot, hr.live⟩) hr.parent with h1 | ⟨t, hq, h⟩
  · exact Or.inl h1
  · simp only [hg.noQueue, applyChanges, Res.ok.injEq] at hq
    have htw : t.wins = st.tree.wins := by rw [← hq]
    exact Or.inr ⟨t, h, htw, by rw [← hq], by rw [← hq], by rw [← hq]; exact hg.flagged, fun L C w l c ho => by
      rw [ownerAt_congr t st.tree htw] at ho
      rw [← hq]
      exact hg.inv L C w l c ho⟩

theorem Good.flush {beh : Id → Rect → List DrawOp} {content : Id → Int → Int → Cell} {st st' : St} {shots : List Shot}
    (hg : Good content st) (h : WinFlush.flush beh st = .ok (st', shots)) (hrep : Repaints content beh) :
    Good content st' ∧ Exact content st'.tree st'.screen := by
  rcases hg.flush_cases h with ⟨hnl, e, _⟩ | ⟨t, h, htw, _, hq, hfl, hinv⟩
  · rw [e]
    exact ⟨hg, exactC_of_no_damage hg.inv (nil_of_flag_down hg.later hnl)⟩
  · obtain ⟨hd', hw', hex⟩ := flushRender_exact beh content st st' t shots h (rootOk_congr htw hg.root) hfl hrep hinv
    exact ⟨hg.of_exact (hw'.trans htw) hd' ((flushRender_tree beh st st' t shots h).2.1.trans hq) hex, hex⟩

end Tickit.Props.C01
