import Tickit.Proof.WinFlush
/-
  The rectangles handed to the expose handlers, as a pure function of the tree (`handed`): the sequence of
  `(window, rectangle)` events of `_do_expose` does not depend on the render buffer.  On the pure function: every
  handed rectangle lies inside its window and, moved to its window's origin, inside the rectangle the traversal started
  from; in a tree in which no window occurs twice a window is visited at most once and its origin is unique.  Hence the
  rectangles handed to one window in one flush are pairwise disjoint when the damage rectangles are.
-/
namespace Tickit
namespace WinFlush
open WinTree WinRB WinSpec

/-- C02's "the handed rectangle lies within the window's bounds", in the window's own coordinates. -/
def InB (t : Tree) (w : Id) (r : Rect) : Prop :=
  ∃ ww, t.wins[w]? = some ww ∧ r.Nonempty ∧ 0 ≤ r.top ∧ 0 ≤ r.left ∧ r.bottom ≤ ww.rect.lines ∧ r.right ≤ ww.rect.cols

theorem inB_child {t : Tree} {c : Id} {cw : Win} {rect exposed : Rect} (hcw : t.wins[c]? = some cw)
    (hi : Rect.intersect rect cw.rect = some exposed) : InB t c (exposed.translate (-cw.rect.top) (-cw.rect.left)) := by
  have hb := Rect.intersect_within hi
  refine ⟨cw, hcw, ?_⟩
  simp only [Rect.Nonempty, Rect.Within, Rect.translate, Rect.bottom, Rect.right] at *
  omega

/-- A handed rectangle with the (ghost) origin of its window in root coordinates. -/
structure Handed where
  win : Id
  rect : Rect
  ol : Int
  oc : Int
deriving Repr, Inhabited

def Handed.ev (h : Handed) : Ev := (h.win, h.rect)

/-- What the child `c` contributes to the loop of `_do_expose(·, rect)` at `(ol, oc)`; `recur` is `_do_expose` itself. -/
def handedChild (t : Tree) (recur : Id → Rect → Int → Int → List Handed) (rect : Rect) (ol oc : Int) (c : Id) : List Handed :=
  match t.wins[c]? with
  | none => []
  | some cw =>
    if !cw.isVisible then []
    else match Rect.intersect rect cw.rect with
      | some e => recur c (e.translate (-cw.rect.top) (-cw.rect.left)) (ol + cw.rect.top) (oc + cw.rect.left)
      | none => []

/-- The handler invocations of `_do_expose(win, rect)`, in order, `win` being at `(ol, oc)`. -/
def handed (t : Tree) : Nat → Id → Rect → Int → Int → List Handed
  | 0, _, _, _, _ => []
  | fuel + 1, win, rect, ol, oc =>
    (match t.wins[win]? with
      | none => []
      | some w => w.children.flatMap (handedChild t (handed t fuel) rect ol oc)) ++ [⟨win, rect, ol, oc⟩]

/-- The handed rectangles of a whole flush: one traversal per damage rectangle cut down to the root's area. -/
def handedRects (t : Tree) (fuel : Nat) (bounds : Rect) (rects : List Rect) : List Handed :=
  rects.flatMap fun ρ0 =>
    match Rect.intersect ρ0 bounds with
    | some ρ => handed t fuel 0 ρ 0 0
    | none => []

theorem handedChild_cases (t : Tree) (recur : Id → Rect → Int → Int → List Handed) (rect : Rect) (ol oc : Int) (c : Id) :
    handedChild t recur rect ol oc c = [] ∨
    ∃ cw e, t.wins[c]? = some cw ∧ Rect.intersect rect cw.rect = some e ∧
      handedChild t recur rect ol oc c =
        recur c (e.translate (-cw.rect.top) (-cw.rect.left)) (ol + cw.rect.top) (oc + cw.rect.left) := by
  unfold handedChild
  cases hcw : t.wins[c]? with
  | none => exact Or.inl rfl
  | some cw =>
    dsimp only
    cases cw.isVisible with
    | false => exact Or.inl rfl
    | true =>
      cases hi : Rect.intersect rect cw.rect with
      | none => exact Or.inl rfl
      | some e => exact Or.inr ⟨cw, e, rfl, hi, rfl⟩

theorem mem_handed_succ {t : Tree} {n : Nat} {win : Id} {rect : Rect} {ol oc : Int} {h : Handed}
    (hh : h ∈ handed t (n + 1) win rect ol oc) :
    h = ⟨win, rect, ol, oc⟩ ∨ ∃ w c cw e, t.wins[win]? = some w ∧ c ∈ w.children ∧ t.wins[c]? = some cw ∧
      Rect.intersect rect cw.rect = some e ∧
      h ∈ handed t n c (e.translate (-cw.rect.top) (-cw.rect.left)) (ol + cw.rect.top) (oc + cw.rect.left) := by
  simp only [handed] at hh
  rcases List.mem_append.1 hh with hh | hh
  · cases hw : t.wins[win]? with
    | none => rw [hw] at hh; cases hh
    | some w =>
      rw [hw] at hh
      obtain ⟨c, hc, hh⟩ := List.mem_flatMap.1 hh
      rcases handedChild_cases t (handed t n) rect ol oc c with he | ⟨cw, e, hcw, hi, he⟩
      · rw [he] at hh; cases hh
      · exact Or.inr ⟨w, c, cw, e, rfl, hc, hcw, hi, he ▸ hh⟩
  · exact Or.inl (List.mem_singleton.1 hh)

theorem doChildren_events (t : Tree) (beh : Id → Rect → List DrawOp) (pens : Array (Option Pen)) (fuel : Nat) (rect : Rect)
    (ih : ∀ (win : Id) (r : Rect) (ol oc : Int) (s s' : RB × List Shot), doExpose beh t pens fuel win r s = .ok s' →
      s'.2.map Shot.ev = s.2.map Shot.ev ++ (handed t fuel win r ol oc).map Handed.ev) (ol oc : Int) :
    ∀ (cs : List Id) (s s' : RB × List Shot), doChildren t (doExpose beh t pens fuel) rect cs s = .ok s' →
      s'.2.map Shot.ev = s.2.map Shot.ev ++ (cs.flatMap (handedChild t (handed t fuel) rect ol oc)).map Handed.ev := by
  intro cs
  induction cs with
  | nil => intro s s' h; cases h; exact (List.append_nil _).symm
  | cons c cs ihcs =>
    intro s s' h
    obtain ⟨cw, hg, hcase⟩ := doChildren_cons h
    rw [List.flatMap_cons, List.map_append, ← List.append_assoc]
    simp only [handedChild, (get_ok hg).1]
    rcases hcase with ⟨hv, hrest⟩ | ⟨hv, hi, hrest⟩ | ⟨hv, exposed, s2, hi, hrec, hrest⟩
    · rw [ihcs s s' hrest]; simp [hv]
    · rw [ihcs _ s' hrest]; simp [hv, hi]
    · rw [ihcs _ s' hrest, ih c _ (ol + cw.rect.top) (oc + cw.rect.left) _ s2 hrec]; simp [hv, hi]

theorem doExpose_events (t : Tree) (beh : Id → Rect → List DrawOp) (pens : Array (Option Pen)) :
    ∀ (fuel : Nat) (win : Id) (r : Rect) (ol oc : Int) (s s' : RB × List Shot), doExpose beh t pens fuel win r s = .ok s' →
      s'.2.map Shot.ev = s.2.map Shot.ev ++ (handed t fuel win r ol oc).map Handed.ev := by
  intro fuel
  induction fuel with
  | zero => intro win r ol oc s s' h; cases h
  | succ n ih =>
    intro win r ol oc s s' h
    obtain ⟨w, sl, hg, hl, rfl⟩ := doExpose_succ h
    have := doChildren_events t beh pens n r ih ol oc w.children _ sl hl
    simp only [handed, (get_ok hg).1, List.map_append, this, List.map_cons, List.map_nil, Shot.ev, Handed.ev, List.append_assoc]

theorem exposeRects_events (t : Tree) (beh : Id → Rect → List DrawOp) (pens : Array (Option Pen)) (fuel : Nat) (bounds : Rect) :
    ∀ (rects : List Rect) (s s' : RB × List Shot), exposeRects beh t pens fuel bounds rects s = .ok s' →
      s'.2.map Shot.ev = s.2.map Shot.ev ++ (handedRects t fuel bounds rects).map Handed.ev := by
  intro rects
  induction rects with
  | nil => intro s s' h; cases h; exact (List.append_nil _).symm
  | cons ρ0 rest ih =>
    intro s s' h
    simp only [handedRects, List.flatMap_cons, List.map_append]
    rcases exposeRects_cons h with ⟨hi0, hrest⟩ | ⟨ρ, s1, hi0, hd, hrest⟩
    · rw [ih s s' hrest, hi0]; rfl
    · rw [ih _ s' hrest, doExpose_events t beh pens fuel 0 ρ 0 0 _ s1 hd, hi0, List.append_assoc]; rfl

/-- All the origins at which window `w` is visited when the traversal starts from `cur` at `(ol, oc)`. -/
def origins (t : Tree) : Nat → Id → Int → Int → Id → List (Int × Int)
  | 0, _, _, _, _ => []
  | fuel + 1, cur, ol, oc, w =>
    (if cur = w then [(ol, oc)] else []) ++
    (match t.wins[cur]? with
      | none => []
      | some cw => cw.children.flatMap (fun ch =>
          match t.wins[ch]? with
          | none => []
          | some chw => origins t fuel ch (ol + chw.rect.top) (oc + chw.rect.left) w))

/-- The windows the traversal can visit, with multiplicity. -/
def visitIds (t : Tree) : Nat → Id → List Id
  | 0, _ => []
  | fuel + 1, id =>
    id :: (match t.wins[id]? with
      | none => []
      | some w => w.children.flatMap (visitIds t fuel))

theorem flatMap_length_le_count {α β : Type} (f : α → List β) (g : α → List Id) (w : Id)
    (h : ∀ a, (f a).length ≤ (g a).count w) : ∀ cs : List α, (cs.flatMap f).length ≤ (cs.flatMap g).count w := by
  intro cs
  induction cs with
  | nil => exact Nat.le_refl _
  | cons a rest ih =>
    rw [List.flatMap_cons, List.flatMap_cons, List.length_append, List.count_append]
    exact Nat.add_le_add (h a) ih

theorem origins_length_le (t : Tree) (w : Id) : ∀ (fuel : Nat) (cur : Id) (ol oc : Int),
    (origins t fuel cur ol oc w).length ≤ (visitIds t fuel cur).count w := by
  intro fuel
  induction fuel with
  | zero => intro cur ol oc; exact Nat.le_refl _
  | succ n ih =>
    intro cur ol oc
    simp only [origins, visitIds, List.length_append, List.count_cons]
    have h1 : (if cur = w then [(ol, oc)] else []).length = (if (cur == w) = true then 1 else 0) := by
      by_cases h : cur = w <;> simp [h]
    rw [h1, Nat.add_comm]
    refine Nat.add_le_add_right ?_ _
    cases t.wins[cur]? with
    | none => exact Nat.le_refl _
    | some cw =>
      refine flatMap_length_le_count _ _ w (fun ch => ?_) cw.children
      cases t.wins[ch]? with
      | none => exact Nat.zero_le _
      | some chw => exact ih ch _ _

/-- Moved to its window's origin the handed rectangle lies inside the rectangle the traversal started from. -/
structure HandedOk (t : Tree) (fuel : Nat) (win : Id) (rect : Rect) (ol oc : Int) (h : Handed) : Prop where
  inside : ∀ l c, h.rect.memb l c = true → rect.memb (l + h.ol - ol) (c + h.oc - oc) = true
  origin : (h.ol, h.oc) ∈ origins t fuel win ol oc h.win

theorem handed_ok (t : Tree) : ∀ (fuel : Nat) (win : Id) (rect : Rect) (ol oc : Int),
    ∀ h ∈ handed t fuel win rect ol oc, HandedOk t fuel win rect ol oc h := by
  intro fuel
  induction fuel with
  | zero => intro win rect ol oc h hh; cases hh
  | succ n ih =>
    intro win rect ol oc h hh
    rcases mem_handed_succ hh with rfl | ⟨w, c, cw, e, hw, hc, hcw, hi, hh⟩
    · exact ⟨fun l c hm => by simpa using hm, by simp [origins]⟩
    · have hk := ih c _ _ _ h hh
      refine ⟨fun l k hm => ?_, ?_⟩
      · have := hk.inside l k hm
        rw [memb_translate] at this
        have hb := Rect.intersect_within hi
        have hm2 := (Rect.memb_iff _ _ _).1 this
        apply (Rect.memb_iff _ _ _).2
        simp only [Rect.Mem, Rect.Within, Rect.bottom, Rect.right] at hm2 hb ⊢
        omega
      · simp only [origins, hw]
        exact List.mem_append_right _ (List.mem_flatMap.2 ⟨c, hc, by rw [hcw]; exact hk.origin⟩)

theorem handed_inB (t : Tree) : ∀ (fuel : Nat) (win : Id) (rect : Rect) (ol oc : Int), InB t win rect →
    ∀ h ∈ handed t fuel win rect ol oc, InB t h.win h.rect := by
  intro fuel
  induction fuel with
  | zero => intro win rect ol oc _ h hh; cases hh
  | succ n ih =>
    intro win rect ol oc hin h hh
    rcases mem_handed_succ hh with rfl | ⟨w, c, cw, e, _, _, hcw, hi, hh⟩
    · exact hin
    · exact ih c _ _ _ (inB_child hcw hi) h hh

theorem handed_count (t : Tree) (w : Id) : ∀ (fuel : Nat) (win : Id) (rect : Rect) (ol oc : Int),
    ((handed t fuel win rect ol oc).filter (fun h => h.win = w)).length ≤ (visitIds t fuel win).count w := by
  intro fuel
  induction fuel with
  | zero => intro win rect ol oc; exact Nat.le_refl _
  | succ n ih =>
    intro win rect ol oc
    simp only [handed, visitIds, List.filter_append, List.length_append, List.count_cons, List.filter_cons, List.filter_nil]
    have h1 : (if decide (win = w) = true then [(⟨win, rect, ol, oc⟩ : Handed)] else []).length =
        (if (win == w) = true then 1 else 0) := by
      by_cases h : win = w <;> simp [h]
    rw [h1]
    refine Nat.add_le_add_right ?_ _
    cases t.wins[win]? with
    | none => exact Nat.le_refl _
    | some w' =>
      simp only [List.filter_flatMap]
      refine flatMap_length_le_count _ _ w (fun c => ?_) w'.children
      rcases handedChild_cases t (handed t n) rect ol oc c with he | ⟨cw, e, _, _, he⟩ <;> rw [he]
      · exact Nat.zero_le _
      · exact ih c _ _ _

/-- The damage rectangles are cut down to the root's area before the traversal starts. -/
theorem flushRender_inB (beh : Id → Rect → List DrawOp) (st st' : St) (t : Tree) (shots : List Shot)
    (h : flushRender beh st t = .ok (st', shots)) :
    ∀ sh ∈ shots, InB st'.tree sh.win sh.rect := by
  rcases flushRender_cases beh st st' t shots h with i | ⟨root, s', r⟩
  · rw [i.shots]; intro sh hsh; cases hsh
  · have hroot := r.slot
    have he := r.run
    rw [r.shots, r.tree]
    intro sh hsh
    have hev : sh.ev ∈ s'.2.map Shot.ev := List.mem_map_of_mem hsh
    rw [exposeRects_events (rendered t) beh st.pens _ _ _ _ s' he, List.map_nil, List.nil_append] at hev
    obtain ⟨hd, hhd, hevd⟩ := List.mem_map.1 hev
    obtain ⟨ρ0, _, hhd⟩ := List.mem_flatMap.1 hhd
    cases hi : Rect.intersect ρ0 ⟨0, 0, root.rect.lines, root.rect.cols⟩ with
    | none => rw [hi] at hhd; cases hhd
    | some ρ =>
      rw [hi] at hhd
      have hb := Rect.intersect_within hi
      have hin : InB (rendered t) 0 ρ := by
        refine ⟨root, hroot, ?_⟩
        simp only [Rect.Nonempty, Rect.Within, Rect.bottom, Rect.right] at hb ⊢
        omega
      have := handed_inB (rendered t) _ 0 ρ 0 0 hin hd hhd
      rwa [show hd.win = sh.win from congrArg Prod.fst hevd, show hd.rect = sh.rect from congrArg Prod.snd hevd] at this

theorem pairwise_of_length_le_one {α : Type} (R : α → α → Prop) (l : List α) (h : l.length ≤ 1) : l.Pairwise R := by
  cases l with
  | nil => exact List.Pairwise.nil
  | cons a rest =>
    cases rest with
    | nil => exact List.pairwise_singleton R a
    | cons b r => simp at h

theorem handedOf_ok (t : Tree) (fuel : Nat) (bounds ρ0 : Rect) (h : Handed)
    (hh : h ∈ (match Rect.intersect ρ0 bounds with
      | some ρ => handed t fuel 0 ρ 0 0
      | none => [])) :
    (h.ol, h.oc) ∈ origins t fuel 0 0 0 h.win ∧ ∀ l c, h.rect.memb l c = true → ρ0.memb (l + h.ol) (c + h.oc) = true := by
  cases hi : Rect.intersect ρ0 bounds with
  | none => rw [hi] at hh; cases hh
  | some ρ =>
    rw [hi] at hh
    have hk := handed_ok t fuel 0 ρ 0 0 h hh
    refine ⟨hk.origin, fun l c hm => ?_⟩
    have := hk.inside l c hm
    rw [Int.sub_zero, Int.sub_zero, memb_intersect hi, Bool.and_eq_true] at this
    exact this.1

/-- The window has one origin, so two of its rectangles that met would meet in a cell of two damage rectangles; and one
    traversal hands it at most one. -/
theorem handedRects_disjoint (t : Tree) (fuel : Nat) (bounds : Rect) (hnd : (visitIds t fuel 0).Nodup) (w : Id) :
    ∀ (rects : List Rect), rects.Pairwise Rect.Disjoint →
      (((handedRects t fuel bounds rects).map Handed.ev).filter (fun e => e.1 = w)).Pairwise
        (fun a b => Rect.Disjoint a.2 b.2) := by
  have hcount : (visitIds t fuel 0).count w ≤ 1 := List.nodup_iff_count.1 hnd w
  have horig : ∀ p q, p ∈ origins t fuel 0 0 0 w → q ∈ origins t fuel 0 0 0 w → p = q := by
    intro p q hp hq
    have hl := Nat.le_trans (origins_length_le t w fuel 0 0 0) hcount
    cases ho : origins t fuel 0 0 0 w with
    | nil => rw [ho] at hp; cases hp
    | cons a rest =>
      rw [ho] at hp hq hl
      cases rest with
      | nil => rw [List.mem_singleton.1 hp, List.mem_singleton.1 hq]
      | cons b r => simp at hl
  intro rects
  induction rects with
  | nil => intro _; exact List.Pairwise.nil
  | cons ρ0 rest ih =>
    intro hpw
    obtain ⟨hρ0, hrest⟩ := List.pairwise_cons.1 hpw
    simp only [handedRects, List.flatMap_cons, List.map_append, List.filter_append]
    refine List.pairwise_append.2 ⟨pairwise_of_length_le_one _ _ ?_, ih hrest, ?_⟩
    · rw [List.filter_map, List.length_map]
      cases hi : Rect.intersect ρ0 bounds with
      | none => exact Nat.zero_le _
      | some ρ => exact Nat.le_trans (handed_count t w fuel 0 ρ 0 0) hcount
    · intro a ha b hb
      simp only [List.mem_filter, List.mem_map, decide_eq_true_eq] at ha hb
      obtain ⟨⟨ha', hha, rfl⟩, hwa⟩ := ha
      obtain ⟨⟨hb', hhb, rfl⟩, hwb⟩ := hb
      obtain ⟨ρ1, hρ1, hhb⟩ := List.mem_flatMap.1 hhb
      obtain ⟨hoa, hina⟩ := handedOf_ok t fuel bounds ρ0 ha' hha
      obtain ⟨hob, hinb⟩ := handedOf_ok t fuel bounds ρ1 hb' hhb
      simp only [Handed.ev] at hwa hwb ⊢
      rw [hwa] at hoa
      rw [hwb] at hob
      have heq := horig _ _ hoa hob
      simp only [Prod.mk.injEq] at heq
      intro l c ⟨hma, hmb⟩
      have h1 := hina l c ((Rect.memb_iff _ _ _).2 hma)
      have h2 := hinb l c ((Rect.memb_iff _ _ _).2 hmb)
      rw [← heq.1, ← heq.2] at h2
      exact hρ0 ρ1 hρ1 _ _ ⟨(Rect.memb_iff _ _ _).1 h1, (Rect.memb_iff _ _ _).1 h2⟩

theorem flushRender_handed_disjoint (beh : Id → Rect → List DrawOp) (st st' : St) (t : Tree) (shots : List Shot)
    (h : flushRender beh st t = .ok (st', shots))
    (hdis : t.root.damage.Pairwise Rect.Disjoint)
    (hnd : (visitIds st'.tree (st'.tree.wins.size + 1) 0).Nodup) :
    ∀ w, ((shots.map Shot.ev).filter (fun e => e.1 = w)).Pairwise (fun a b => Rect.Disjoint a.2 b.2) := by
  intro w
  rcases flushRender_cases beh st st' t shots h with i | ⟨root, s', r⟩
  · rw [i.shots]; exact List.Pairwise.nil
  · have he := r.run
    rw [r.tree] at hnd
    rw [r.shots]
    have hev := exposeRects_events (rendered t) beh st.pens (t.wins.size + 1) ⟨0, 0, root.rect.lines, root.rect.cols⟩ _ _ s' he
    simp only [List.map_nil, List.nil_append] at hev
    rw [hev]
    have hpw : (if root.isVisible = true then t.root.damage else []).Pairwise Rect.Disjoint := by
      split
      · exact hdis
      · exact List.Pairwise.nil
    exact handedRects_disjoint (rendered t) (t.wins.size + 1) _ hnd w _ hpw

end WinFlush
end Tickit
