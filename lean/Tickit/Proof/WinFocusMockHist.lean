import Tickit.Proof.WinFocusRestack
import Tickit.Proof.WinFocusMock
/-
  C15 over histories on the library's mock terminal (the engine's second configuration).

  The mock terminal has a size; it clamps every goto to it.  The root window is created with the terminal's size and
  only the terminal's resize event changes it (no operation of a plain history touches the root window's rectangle), so
  the root window always covers exactly the screen and the clamp never bites: after every flush the mock reports
  `cursorSpec`.
-/
namespace Tickit
namespace WinFocus
open WinTree WinSpec WinFlush

structure MSt where
  tree : Tree
  term : TermCursor := TermCursor.mockInit
  lines : Int
  cols : Int

/-- One operation on the mock terminal: the flush's calls are executed by the mock (clamped goto, `!!value` controls), a
    resize is `tickit_mockterm_resize` (the terminal's size changes, the resize event fires, the stored position is
    clamped); everything else does not touch the terminal. -/
def stepOpMock (fx : Fixes) (s : MSt) : Op → Res MSt
  | .flush => do
    let o ← WinFocus.flush fx s.tree
    pure { s with tree := o.tree, term := s.term.applyAllMock s.lines s.cols o.calls }
  | .termResize l c => do
    let t ← termResize fx s.tree l c
    pure { tree := t, term := s.term.mockResize l c, lines := l, cols := c }
  | op => do
    let s' ← stepOp fx { tree := s.tree, term := s.term } op
    pure { s with tree := s'.tree }

def runOpsMock (fx : Fixes) (s : MSt) : List Op → Res MSt
  | [] => pure s
  | op :: rest => do
    let s' ← stepOpMock fx s op
    runOpsMock fx s' rest

/-- The invariant of a history on the mock terminal: that of any history, and the root window covers the screen. -/
structure MInv (s : MSt) : Prop where
  hinv : HInv { tree := s.tree, term := s.term }
  fits : rootRect s.tree = some ⟨0, 0, s.lines, s.cols⟩

theorem flush_step_mock {fx : Fixes} (hfx : fx.hiddenRoot = true) {s s' : MSt} (hi : MInv s)
    (hs : stepOpMock fx s .flush = .ok s') : MInv s' ∧ s'.term.matches (cursorSpec s'.tree) = true := by
  simp only [stepOpMock, bind_ok_iff, pure_ok_iff] at hs
  obtain ⟨o, ho, hs⟩ := hs
  subst hs
  -- the same flush on a recording terminal
  have hrec : stepOp fx { tree := s.tree, term := s.term } .flush =
      .ok { tree := o.tree, term := s.term.applyAll o.calls } := by
    simp only [stepOp, ho]; rfl
  obtain ⟨hi', hmrec⟩ := flush_step hfx hi.hinv hrec
  have hfit : rootRect o.tree = some ⟨0, 0, s.lines, s.cols⟩ := (flush_good hi.hinv.good hi.hinv.queue ho).2.trans hi.fits
  have hmatch : (s.term.applyAllMock s.lines s.cols o.calls).matches (cursorSpec o.tree) = true := by
    rcases flush_calls_cases fx ho with hc | ⟨c1, c2, hc, hd⟩
    · -- no call was made: the cursor was in order already (as on any terminal)
      rw [hc] at hmrec ⊢
      exact hmrec
    · -- `_do_restore` ran; the root window covers the screen
      have hr0 : ∃ r, o.tree.wins[0]? = some r ∧ r.rect = ⟨0, 0, s.lines, s.cols⟩ := by
        unfold rootRect at hfit
        cases h0 : o.tree.wins[0]? with
        | none => rw [h0] at hfit; cases hfit
        | some r => rw [h0] at hfit; exact ⟨r, rfl, by simpa using hfit⟩
      obtain ⟨r, hr0, hrr⟩ := hr0
      rw [hc, applyAllMock_append]
      exact doRestore_spec_mock hi'.good.wf fx (.inl hfx) hd hr0 (by rw [hrr]) (by rw [hrr])
        (by rw [hrr]; exact Int.le_refl _) (by rw [hrr]; exact Int.le_refl _) _
  exact ⟨⟨⟨hi'.good, hi'.queue, hi'.qlater, .inr hmatch⟩, hfit⟩, hmatch⟩

theorem stepOpMock_plain {fx : Fixes} {s s' : MSt} {op : Op} (hp : op.plain) (hnf : op ≠ .flush)
    (hs : stepOpMock fx s op = .ok s') :
    ∃ r, stepOp fx { tree := s.tree, term := s.term } op = .ok r ∧ s' = { s with tree := r.tree } := by
  cases op with
  | flush => exact absurd rfl hnf
  | termResize l c => exact absurd hp id
  | _ =>
    obtain ⟨r, hr, hs⟩ := bind_ok_iff.mp hs
    exact ⟨r, hr, (pure_ok_iff.mp hs).symm⟩

theorem step_mock {fx : Fixes} (hfx1 : fx.hiddenRoot = true) (hfx2 : fx.chainRestore = true)
    (hfx3 : fx.resizeRestore = true) {s s' : MSt} {op : Op}
    (hop : op.plainR) (hi : MInv s) (hs : stepOpMock fx s op = .ok s') : MInv s' := by
  rcases plainR_cases hop with hp | ⟨l, c, rfl, hl, hc⟩
  · by_cases hf : op = .flush
    · subst hf; exact (flush_step_mock hfx1 hi hs).1
    · obtain ⟨r, hr1, rfl⟩ := stepOpMock_plain hp hf hs
      have hterm : r.term = s.term := stepOp_term hf hr1
      obtain ⟨hi', hrect⟩ := plain_step hfx1 hfx2 hp hi.hinv hr1
      refine ⟨?_, hrect.trans hi.fits⟩
      have : r = { tree := r.tree, term := s.term } := by rw [← hterm]
      rw [this] at hi'; exact hi'
  · simp only [stepOpMock, bind_ok_iff, pure_ok_iff] at hs
    obtain ⟨x, hx, rfl⟩ := hs
    have R := termResize_step hi.hinv.good hl hc hx
    exact ⟨⟨R.good, fun q hq => hi.hinv.queue q (R.keeps.queue q hq), qlater_keeps hi.hinv R.keeps, .inl (R.pending hfx3)⟩,
      R.rect⟩

theorem runOpsMock_inv {fx : Fixes} (hfx1 : fx.hiddenRoot = true) (hfx2 : fx.chainRestore = true)
    (hfx3 : fx.resizeRestore = true) :
    ∀ (ops : List Op) (s s' : MSt), (∀ op ∈ ops, op.plainR) → MInv s → runOpsMock fx s ops = .ok s' → MInv s' := by
  intro ops
  induction ops with
  | nil => intro s s' _ hi h; simp only [runOpsMock, pure_ok_iff] at h; subst h; exact hi
  | cons op rest ih =>
    intro s s' hp hi h
    simp only [runOpsMock, bind_ok_iff] at h
    obtain ⟨s1, h1, h2⟩ := h
    exact ih s1 s' (fun o ho => hp o (by simp [ho])) (step_mock hfx1 hfx2 hfx3 (hp op (by simp)) hi h1) h2

theorem runOpsMock_append (fx : Fixes) : ∀ (a b : List Op) (s s' : MSt), runOpsMock fx s (a ++ b) = .ok s' →
    ∃ s1, runOpsMock fx s a = .ok s1 ∧ runOpsMock fx s1 b = .ok s' := by
  intro a
  induction a with
  | nil => intro b s s' h; exact ⟨s, rfl, h⟩
  | cons op rest ih =>
    intro b s s' h
    simp only [List.cons_append, runOpsMock, bind_ok_iff] at h ⊢
    obtain ⟨s0, h0, h⟩ := h
    obtain ⟨s1, h1, h2⟩ := ih b s0 s' h
    exact ⟨s1, ⟨s0, h0, h1⟩, h2⟩

theorem flush_last_mock {fx : Fixes} (hfx1 : fx.hiddenRoot = true) {s0 s : MSt} {ops : List Op}
    (hinv : ∀ s1, runOpsMock fx s0 ops = .ok s1 → MInv s1) (h : runOpsMock fx s0 (ops ++ [.flush]) = .ok s) :
    s.term.matches (cursorSpec s.tree) = true := by
  obtain ⟨s1, h1, h2⟩ := runOpsMock_append fx ops [.flush] _ s h
  simp only [runOpsMock, bind_ok_iff, pure_ok_iff] at h2
  obtain ⟨s2, h2, rfl⟩ := h2
  exact (flush_step_mock hfx1 (hinv s1 h1) h2).2

theorem minv_newRoot (l c : Int) (hl : 0 < l) (hc : 0 < c) : MInv { tree := newRoot l c, lines := l, cols := c } :=
  ⟨hinv_newRoot l c hl hc _, rfl⟩

end WinFocus
end Tickit
