import Tickit.Proof.WinFull
import Tickit.Proof.WinOwner
/-
  `Proof/WinOwner.lean` for the stores of this engine.  Its hypothesis `Links` speaks of the windows that have not been
  destroyed only; this engine's `WFp`, `Ordered`, `ParentListed` say the same of every slot and give it (`WStruct.links`;
  `WinTree.Linked`, the focus and input engines' form, gives it too, and neither form implies the other).  `ExposedAt` (the
  predicate `tickit_window_expose` is specified with) is its `Shown` with the root window at the origin.
-/
namespace Tickit
namespace WinFlush
open WinTree WinRB WinSpec

theorem not_root_of_parent {t : Tree} (hok : TreeOk t) {a : Id} {aw : Win} {p : Id} (haw : t.wins[a]? = some aw)
    (hp : aw.parent = some p) : aw.isRoot = false := by
  cases hr : aw.isRoot with
  | false => rfl
  | true =>
    have hx := hok.onlyRoot a aw haw hr
    obtain ⟨rw0, hr0⟩ := hok.rootWin.record
    rw [hx] at haw
    cases hr0.slot.symm.trans haw
    exact nomatch hr0.parent.symm.trans hp

/-- One step of `ExposedAt` at a window `aw` that is there: visible, the cell inside it, and either the root at the
    cell asked for or the same question one frame up. -/
structure ExposedUp (t : Tree) (k : Nat) (aw : Win) (x y L C : Int) : Prop where
  visible : aw.isVisible = true
  inside : (⟨0, 0, aw.rect.lines, aw.rect.cols⟩ : Rect).Mem x y
  top : aw.parent = none → x = L ∧ y = C
  up : ∀ p, aw.parent = some p → ExposedAt t k p (x + aw.rect.top) (y + aw.rect.left) L C

theorem exposedAt_up {t : Tree} (hok : TreeOk t) {k : Nat} {a : Id} {x y L C : Int} {aw : Win}
    (hex : ExposedAt t k a x y L C) (haw : t.wins[a]? = some aw) : ExposedUp t k aw x y L C := by
  cases k with
  | zero => exact hex.elim
  | succ n =>
    simp only [ExposedAt] at hex
    obtain ⟨w', hw', _, b1, b2, b3, b4, hv, hrest⟩ := hex
    rw [haw] at hw'; cases hw'
    refine ⟨hv, (Rect.mem_origin _ _ _ _).2 ⟨b1, b2, b3, b4⟩, fun hp => ?_, fun p hp => ?_⟩
    · rcases hrest with ⟨_, h1, h2⟩ | ⟨_, p, hp', _⟩
      · exact ⟨h1, h2⟩
      · rw [hp] at hp'; cases hp'
    · rcases hrest with ⟨hr, _⟩ | ⟨_, p', hp', hexp⟩
      · rw [not_root_of_parent hok haw hp] at hr; cases hr
      · rw [hp] at hp'; cases hp'
        exact exposedAt_mono_le t (Nat.le_succ n) hexp

theorem exposedAt_anc {t : Tree} (hok : TreeOk t) {a o : Id} (h : Anc t a o) :
    ∀ (k : Nat) (lo co L C : Int), ExposedAt t k o lo co L C → ∃ l c, ExposedAt t k a l c L C := by
  induction h with
  | refl => intro k lo co L C hex; exact ⟨lo, co, hex⟩
  | step hw hp _ _ ih =>
    intro k lo co L C hex
    exact ih k _ _ L C ((exposedAt_up hok hex hw).up _ hp)

theorem parent_lt {t : Tree} (ho : Ordered t) (hpl : ParentListed t) {x : Nat} {w : Win} {p : Id}
    (hw : t.wins[x]? = some w) (hp : w.parent = some p) : p < x := by
  obtain ⟨pw, hpw, hm⟩ := hpl x w p hw hp
  exact ho p pw hpw x hm

/-- `ExposedAt` reads only the windows on the way up. -/
theorem exposedAt_congr_on {t t' : Tree} (S : Id → Prop) (hS : ∀ a, S a → t'.wins[a]? = t.wins[a]?)
    (hup : ∀ a w p, S a → t.wins[a]? = some w → w.parent = some p → S p) :
    ∀ (k : Nat) (a : Id) (x y L C : Int), S a → (ExposedAt t' k a x y L C ↔ ExposedAt t k a x y L C) := by
  intro k
  induction k with
  | zero => intro a x y L C _; exact Iff.rfl
  | succ n ih =>
    intro a x y L C ha
    simp only [ExposedAt, hS a ha]
    refine exists_congr fun w => and_congr_right fun hw => ?_
    refine and_congr_right fun _ => and_congr_right fun _ => and_congr_right fun _ => and_congr_right fun _ =>
      and_congr_right fun _ => and_congr_right fun _ => or_congr_right (and_congr_right fun _ => ?_)
    exact exists_congr fun p => and_congr_right fun hp => ih p _ _ L C (hup a w p ha hw hp)

theorem exposedAt_iff_shown {t : Tree} (hok : TreeOk t) : ∀ (k : Nat) (a : Id) (x y L C : Int),
    ExposedAt t k a x y L C ↔ Shown t k a x y 0 L C := by
  obtain ⟨rw0, hr0⟩ := hok.rootWin.record
  intro k
  induction k with
  | zero => intro a x y L C; exact Iff.rfl
  | succ n ih =>
    intro a x y L C
    simp only [ExposedAt, Shown]
    constructor
    · rintro ⟨w, hw, hf, b1, b2, b3, b4, hv, ⟨hr, rfl, rfl⟩ | ⟨_, p, hp, hexp⟩⟩
      · cases hok.onlyRoot a w hw hr
        have e : w = rw0 := Option.some.inj (hw.symm.trans hr0.slot)
        subst e
        exact ⟨w, ⟨hw, hf⟩, hv, b1, b2, b3, b4,
          Or.inl ⟨hr0.parent, rfl, by rw [hr0.top, Int.add_zero], by rw [hr0.left, Int.add_zero]⟩⟩
      · exact ⟨w, ⟨hw, hf⟩, hv, b1, b2, b3, b4, Or.inr ⟨p, hp, (ih p _ _ L C).1 hexp⟩⟩
    · rintro ⟨w, hw, hv, b1, b2, b3, b4, ⟨_, rfl, e1, e2⟩ | ⟨p, hp, hsh⟩⟩
      · have e : w = rw0 := Option.some.inj (hw.1.symm.trans hr0.slot)
        subst e
        rw [hr0.top, Int.add_zero] at e1
        rw [hr0.left, Int.add_zero] at e2
        exact ⟨w, hw.1, hw.2, b1, b2, b3, b4, hv, Or.inl ⟨hr0.isRoot, e1, e2⟩⟩
      · exact ⟨w, hw.1, hw.2, b1, b2, b3, b4, hv, Or.inr ⟨not_root_of_parent hok hw.1 hp, p, hp, (ih p _ _ L C).2 hsh⟩⟩

/-- The structural invariants of a reachable store that the scrolling proof reads. -/
structure WStruct (t : Tree) : Prop where
  ok : TreeOk t
  ord : Ordered t
  pos : RootsPositive t
  pc : ParentListed t

theorem wstruct_congr {t t' : Tree} (h : t'.wins = t.wins) (hs : WStruct t) : WStruct t' :=
  { ok := treeOk_congr h hs.ok, ord := ordered_congr h hs.ord, pos := rootsPositive_congr h hs.pos,
    pc := parentListed_congr h hs.pc }

theorem GoodQ.struct {content : Id → Int → Int → Cell} {st : St} (hg : GoodQ content st) : WStruct st.tree :=
  ⟨hg.tinv.ok, hg.tinv.ord, hg.tinv.pos, hg.pc⟩

theorem WStruct.links {t : Tree} (hs : WStruct t) : Links t where
  up c cw p hc hp := by
    obtain ⟨pw, hpw, hm⟩ := hs.pc c cw p hc.1 hp
    exact ⟨hs.ord p pw hpw c hm, pw, hpw, hm⟩
  down p pw c hp hc := by
    obtain ⟨cw, hcw, hcp, _⟩ := hs.ok.wf.child p pw hp.1 c hc
    exact ⟨hs.ord p pw hp.1 c hc, cw, hcw, hcp⟩

theorem owner_exposedAt {t : Tree} (hs : WStruct t) {L C : Int} {w : Id} {l c : Int} (h : ownerAt t L C = some (w, l, c)) :
    ExposedAt t (t.wins.size + 1) w l c L C :=
  have ⟨_, hr0⟩ := hs.ok.rootWin.record
  (exposedAt_iff_shown hs.ok _ w l c L C).2 (own_shown hs.links hr0.slot hr0.parent h)

theorem WStruct.up {t : Tree} (hs : WStruct t) {c w a : Id} {cw : Win} (h : Anc t c w) (hc : t.wins[c]? = some cw)
    (hp : cw.parent = some a) : Anc t a w :=
  h.parent_up hc hp (parent_lt hs.ord hs.pc hc hp)

theorem WStruct.chain {t : Tree} (hs : WStruct t) (k : Nat) (a : Id) (aw : Win) (x y L C : Int) (o : Id × Int × Int)
    (haw : t.wins[a]? = some aw) (hex : ExposedAt t k a x y L C) (hao : Anc t a o.1) :
    ownerAt t L C = some o ↔ FrontFree t k a x y ∧ subOwn t a aw.children x y = o :=
  own_chain hs.links k a aw x y 0 L C o haw ((exposedAt_iff_shown hs.ok k a x y L C).1 hex) hao

end WinFlush
end Tickit
