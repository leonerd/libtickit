import Tickit.Model.Rect
/-
  rect.c: what each operation does, cell by cell (`Mem`).  Intersection is the rectangle between the inner edges
  (`inter`) if that is not empty; `tickit_rect_add` is a loop over three bands that keeps `BandInv`;
  `tickit_rect_subtract` returns those of four candidates that are not empty.  Props/C06.lean applies these.
-/
namespace Tickit
namespace Rect

theorem nonempty_iff (r : Rect) : r.Nonempty ↔ r.top < r.bottom ∧ r.left < r.right := by
  unfold Nonempty bottom right; omega

theorem initBounded_top (t l b r : Int) : (initBounded t l b r).top = t := rfl

theorem initBounded_left (t l b r : Int) : (initBounded t l b r).left = l := rfl

theorem initBounded_bottom (t l b r : Int) : (initBounded t l b r).bottom = b := by
  show t + (b - t) = b; omega

theorem initBounded_right (t l b r : Int) : (initBounded t l b r).right = r := by
  show l + (r - l) = r; omega

theorem withLines_bottom (r : Rect) (k : Int) : ({ r with lines := k } : Rect).bottom = r.top + k := rfl

theorem withLines_right (r : Rect) (k : Int) : ({ r with lines := k } : Rect).right = r.right := rfl

theorem translate_top (r : Rect) (d k : Int) : (r.translate d k).top = r.top + d := rfl

theorem translate_left (r : Rect) (d k : Int) : (r.translate d k).left = r.left + k := rfl

theorem translate_bottom (r : Rect) (d k : Int) : (r.translate d k).bottom = r.bottom + d :=
  Int.add_right_comm ..

theorem translate_right (r : Rect) (d k : Int) : (r.translate d k).right = r.right + k :=
  Int.add_right_comm ..

/- `rect_omega`: rewrite membership, non-emptiness, `initBounded`, `{ r with lines := k }` and `translate` to the four
   edges everywhere and finish by `omega`.  `bottom` and `right` stay atoms: unfolding them to `top + lines`,
   `left + cols` doubles the cost of the goals about three rectangles.  A goal that speaks of `cols` itself is given
   `r.right = r.left + r.cols` by hand. -/
macro "rect_omega" : tactic =>
  `(tactic| ((try simp only [Rect.Mem, Rect.nonempty_iff, Rect.initBounded_top, Rect.initBounded_left,
      Rect.initBounded_bottom, Rect.initBounded_right, Rect.withLines_bottom, Rect.withLines_right, Rect.translate_top, Rect.translate_left,
      Rect.translate_bottom, Rect.translate_right] at *) <;> omega))

theorem memb_iff (r : Rect) (l c : Int) : r.memb l c = true ↔ r.Mem l c := by
  simp only [memb, Mem, Bool.and_eq_true, decide_eq_true_eq, and_assoc]

theorem disjoint_comm {a b : Rect} : Disjoint a b ↔ Disjoint b a := by
  unfold Disjoint
  constructor <;> intro h l c hh <;> exact h l c ⟨hh.2, hh.1⟩

theorem mem_initBounded (t l b r x y : Int) :
    (initBounded t l b r).Mem x y ↔ t ≤ x ∧ x < b ∧ l ≤ y ∧ y < r := by
  rect_omega

theorem nonempty_of_mem {p : Rect} {l c : Int} (h : p.Mem l c) : p.Nonempty := by rect_omega

theorem mem_origin (n m l c : Int) : (⟨0, 0, n, m⟩ : Rect).Mem l c ↔ 0 ≤ l ∧ l < n ∧ 0 ≤ c ∧ c < m := by
  simp only [Mem, bottom, right, Int.zero_add]

theorem interval_inter_iff (t1 b1 t2 b2 x : Int) :
    max t1 t2 ≤ x ∧ x < min b1 b2 ↔ (t1 ≤ x ∧ x < b1) ∧ (t2 ≤ x ∧ x < b2) := by
  omega

theorem interval_union_iff (t1 b1 t2 b2 x : Int) (h1 : t1 ≤ b2) (h2 : t2 ≤ b1) :
    min t1 t2 ≤ x ∧ x < max b1 b2 ↔ (t1 ≤ x ∧ x < b1) ∨ (t2 ≤ x ∧ x < b2) := by
  omega

theorem mem_top_left {q : Rect} (hq : q.Nonempty) : q.Mem q.top q.left := by rect_omega

def inter (a b : Rect) : Rect :=
  initBounded (max a.top b.top) (max a.left b.left) (min a.bottom b.bottom) (min a.right b.right)

theorem intersect_eq (a b : Rect) : intersect a b = if (inter a b).Nonempty then some (inter a b) else none := by
  unfold intersect inter
  simp only [ge_iff_le]
  split
  · rw [if_neg (by rect_omega)]
  · split
    · rw [if_neg (by rect_omega)]
    · rw [if_pos (by rect_omega)]

theorem mem_inter (a b : Rect) (l c : Int) : (inter a b).Mem l c ↔ a.Mem l c ∧ b.Mem l c := by
  -- rows and columns separately
  rw [inter, mem_initBounded, ← and_assoc, interval_inter_iff, interval_inter_iff]
  unfold Mem
  omega

theorem intersect_some (a b r : Rect) (h : intersect a b = some r) :
    r.Nonempty ∧ ∀ l c, r.Mem l c ↔ (a.Mem l c ∧ b.Mem l c) := by
  rw [intersect_eq] at h
  split at h <;> cases h
  exact ⟨‹_›, mem_inter a b⟩

theorem intersect_none (a b : Rect) (h : intersect a b = none) : ∀ l c, ¬ (a.Mem l c ∧ b.Mem l c) := by
  rw [intersect_eq] at h
  split at h <;> cases h
  exact fun l c hm => ‹¬ _› (nonempty_of_mem ((mem_inter a b l c).2 hm))

theorem intersect_none_iff (a b : Rect) : intersect a b = none ↔ ∀ l c, ¬ (a.Mem l c ∧ b.Mem l c) := by
  refine ⟨intersect_none a b, fun h => ?_⟩
  rw [intersect_eq, if_neg fun hn => h _ _ ((mem_inter a b _ _).1 (mem_top_left hn))]

theorem intersects_iff_lt (a b : Rect) :
    intersects a b = true ↔ a.top < b.bottom ∧ b.top < a.bottom ∧ a.left < b.right ∧ b.left < a.right := by
  simp only [intersects, Bool.and_eq_true, decide_eq_true_eq, and_assoc]

theorem intersects_comm (a b : Rect) : a.intersects b = b.intersects a :=
  Bool.eq_iff_iff.2 (by rw [intersects_iff_lt, intersects_iff_lt]; omega)

theorem mem_intersects {a b : Rect} {l c : Int} (h1 : a.Mem l c) (h2 : b.Mem l c) : a.intersects b = true := by
  rw [intersects_iff_lt]; unfold Mem at h1 h2; omega

theorem intersects_iff (a b : Rect) (ha : a.Nonempty) (hb : b.Nonempty) :
    intersects a b = true ↔ ∃ l c, a.Mem l c ∧ b.Mem l c := by
  refine ⟨fun h => ⟨max a.top b.top, max a.left b.left, ?_⟩, fun ⟨l, c, h1, h2⟩ => mem_intersects h1 h2⟩
  rw [intersects_iff_lt] at h
  rect_omega

/-- `p` lies inside `r`, edge by edge: what `tickit_rect_contains` tests. -/
def Within (p r : Rect) : Prop :=
  r.top ≤ p.top ∧ p.bottom ≤ r.bottom ∧ r.left ≤ p.left ∧ p.right ≤ r.right

theorem contains_iff_within (r p : Rect) : contains r p = true ↔ Within p r := by
  simp only [contains, Within, Bool.and_eq_true, decide_eq_true_eq, ge_iff_le, and_assoc]

theorem mem_of_within {p r : Rect} {l c : Int} (hw : Within p r) (hm : p.Mem l c) : r.Mem l c := by
  unfold Within at hw; rect_omega

theorem within_inter (a b : Rect) : Within (inter a b) a ∧ Within (inter a b) b := by
  have key : ∀ x y : Int, x + (y - x) = y := fun x y => by omega
  simp only [Within, inter, bottom, right, initBounded, key]
  exact ⟨⟨Int.le_max_left .., Int.min_le_left .., Int.le_max_left .., Int.min_le_left ..⟩,
    Int.le_max_right .., Int.min_le_right .., Int.le_max_right .., Int.min_le_right ..⟩

theorem intersect_within {a b r : Rect} (h : intersect a b = some r) : r.Nonempty ∧ Within r a ∧ Within r b := by
  rw [intersect_eq] at h
  split at h <;> cases h
  exact ⟨‹_›, within_inter a b⟩

theorem contains_iff (large small : Rect) (hs : small.Nonempty) :
    contains large small = true ↔ ∀ l c, small.Mem l c → large.Mem l c := by
  rw [contains_iff_within]
  refine ⟨fun h l c => mem_of_within h, fun h => ?_⟩
  -- the two corner cells of `small` are cells of `large`
  have h1 := h small.top small.left (mem_top_left hs)
  have h2 := h (small.bottom - 1) (small.right - 1) (by rect_omega)
  unfold Within; rect_omega

theorem mem_translate (r : Rect) (d k l c : Int) : (r.translate d k).Mem l c ↔ r.Mem (l - d) (c - k) := by
  simp only [Mem, translate_top, translate_bottom, translate_left, translate_right]
  omega

theorem inter_translate (a b : Rect) (d k : Int) :
    inter (a.translate d k) (b.translate d k) = (inter a b).translate d k := by

  have emax : ∀ x y z : Int, max (x + z) (y + z) = max x y + z := fun x y z => by omega
  have emin : ∀ x y z : Int, min (x + z) (y + z) = min x y + z := fun x y z => by omega
  simp only [inter, translate_top, translate_bottom, translate_left, translate_right, emax, emin]
  simp only [initBounded, translate, Int.add_sub_add_right]

theorem intersect_translate (a b : Rect) (d k : Int) :
    intersect (a.translate d k) (b.translate d k) = (intersect a b).map (·.translate d k) := by
  rw [intersect_eq, intersect_eq, inter_translate]
  show (if (inter a b).Nonempty then _ else _) = _
  split <;> rfl

theorem contains_translate (a b : Rect) (d k : Int) :
    contains (a.translate d k) (b.translate d k) = contains a b := by
  simp only [contains, translate_top, translate_bottom, translate_left, translate_right, ge_iff_le,
    Int.add_le_add_iff_right]

theorem intersects_translate (a b : Rect) (d k : Int) :
    intersects (a.translate d k) (b.translate d k) = intersects a b := by
  simp only [intersects, translate_top, translate_bottom, translate_left, translate_right,
    Int.add_lt_add_iff_right]

/-- What the band loop of `tickit_rect_add` maintains after having handled all rows `< t`:
    `U` is the target region. -/
structure BandInv (U : Int → Int → Prop) (acc : List Rect) (t : Int) : Prop where
  nonempty : ∀ p ∈ acc, p.Nonempty
  below    : ∀ p ∈ acc, p.bottom ≤ t
  disj     : acc.Pairwise Disjoint
  cover    : ∀ l c, (∃ p ∈ acc, p.Mem l c) ↔ (l < t ∧ U l c)
  lastBot  : ∀ p rest, acc = p :: rest → p.bottom = t

theorem BandInv.nil {U : Int → Int → Prop} {t : Int} (h : ∀ l c, U l c → t ≤ l) : BandInv U [] t :=
  ⟨nofun, nofun, .nil,
    fun l c => iff_of_false (fun ⟨_, hp, _⟩ => nomatch hp) (fun hh => Int.not_lt.2 (h l c hh.2) hh.1),
    fun _ _ e => nomatch e⟩

theorem BandInv.done {U : Int → Int → Prop} {acc : List Rect} {t : Int} (h : BandInv U acc t)
    (hU : ∀ l c, U l c → l < t) :
    (∀ p ∈ acc.reverse, p.Nonempty) ∧ acc.reverse.Pairwise Disjoint ∧ ∀ l c, Covered acc.reverse l c ↔ U l c :=
  ⟨fun p hp => h.nonempty p (List.mem_reverse.1 hp), List.pairwise_reverse.2 (h.disj.imp disjoint_comm.1),
    fun l c => by
      unfold Covered
      simp only [List.mem_reverse]
      exact (h.cover l c).trans (and_iff_right_of_imp (hU l c))⟩

theorem pushBand_length (acc : List Rect) (t t' L R : Int) :
    (pushBand acc t t' L R).length ≤ acc.length + 1 := by
  unfold pushBand
  cases acc with
  | nil => simp
  | cons p rest => simp only; split <;> simp

theorem addBand_length (a b : Rect) (acc : List Rect) (t t' : Int) :
    (addBand a b acc t t').length ≤ acc.length + 1 := by
  unfold addBand
  split
  · omega
  · exact pushBand_length ..

theorem bandInv_push {U : Int → Int → Prop} {acc : List Rect} {t t' L R : Int}
    (h : BandInv U acc t) (hlt : t < t') (hLR : L < R)
    (hsec : ∀ l c, t ≤ l → l < t' → (U l c ↔ (L ≤ c ∧ c < R))) :
    BandInv U (pushBand acc t t' L R) t' := by
  obtain ⟨hne, hbelow, hdisj, hcover, hlast⟩ := h

  have hU : ∀ l c, (l < t' ∧ U l c) ↔ (l < t ∧ U l c) ∨ (t ≤ l ∧ l < t' ∧ L ≤ c ∧ c < R) := by
    intro l c
    constructor
    · rintro ⟨h1, h2⟩
      by_cases hl : l < t
      · exact Or.inl ⟨hl, h2⟩
      · exact Or.inr ⟨Int.not_lt.1 hl, h1, (hsec l c (Int.not_lt.1 hl) h1).1 h2⟩
    · rintro (⟨h1, h2⟩ | ⟨h1, h2, h3⟩)
      · exact ⟨Int.lt_trans h1 hlt, h2⟩
      · exact ⟨h2, (hsec l c h1 h2).2 h3⟩
  have hout : ∀ q ∈ acc, ∀ l c, q.Mem l c → ¬ t ≤ l := fun q hq l c hm =>
    Int.not_le.2 (Int.lt_of_lt_of_le hm.2.1 (hbelow q hq))
  have hnew : BandInv U (initBounded t L t' R :: acc) t' := by
    refine ⟨List.forall_mem_cons.2 ⟨by rect_omega, hne⟩,
      List.forall_mem_cons.2 ⟨by rect_omega, fun q hq => Int.le_trans (hbelow q hq) (Int.le_of_lt hlt)⟩,
      List.pairwise_cons.2 ⟨fun q hq l c hm => hout q hq l c hm.2 ((mem_initBounded ..).1 hm.1).1, hdisj⟩,
      fun l c => ?_, fun p rest he => by cases he; rect_omega⟩
    simp only [List.mem_cons, exists_eq_or_imp]
    rw [mem_initBounded, hcover, hU]
    exact or_comm
  unfold pushBand
  split
  · next last rest =>
    split
    · next hmerge =>
      have hlb : last.bottom = t := hlast last rest rfl
      have hlne : last.Nonempty := hne last List.mem_cons_self
      have hE : ∀ l c, ({ last with lines := t' - last.top } : Rect).Mem l c ↔
          last.Mem l c ∨ (t ≤ l ∧ l < t' ∧ L ≤ c ∧ c < R) := by
        intro l c
        have hr : last.right = last.left + last.cols := rfl
        rect_omega
      rw [List.pairwise_cons] at hdisj
      refine ⟨List.forall_mem_cons.2 ⟨by rect_omega, fun q hq => hne q (List.mem_cons_of_mem _ hq)⟩,
        List.forall_mem_cons.2 ⟨by rect_omega,
          fun q hq => Int.le_trans (hbelow q (List.mem_cons_of_mem _ hq)) (Int.le_of_lt hlt)⟩,
        List.pairwise_cons.2 ⟨fun q hq l c hm => ?_, hdisj.2⟩, fun l c => ?_,
        fun p rest he => by cases he; rect_omega⟩
      · rcases (hE l c).1 hm.1 with h1 | h1
        · exact hdisj.1 q hq l c ⟨h1, hm.2⟩
        · exact hout q (List.mem_cons_of_mem _ hq) l c hm.2 h1.1
      · have hc := hcover l c
        simp only [List.mem_cons, exists_eq_or_imp] at hc ⊢
        rw [hE, hU, ← hc, or_right_comm]
    · exact hnew
  · exact hnew

/-- `[t, t')` lies between two consecutive sorted edge rows of `a` and `b`, which touch or overlap sideways:
    each of the two spans the band or misses it, and one of them spans it if it is not empty. -/
structure IsBand (a b : Rect) (t t' : Int) : Prop where
  le    : t ≤ t'
  inA   : (a.top ≤ t ∧ t' ≤ a.bottom) ∨ a.bottom ≤ t ∨ t' ≤ a.top
  inB   : (b.top ≤ t ∧ t' ≤ b.bottom) ∨ b.bottom ≤ t ∨ t' ≤ b.top
  some  : t < t' → (a.top ≤ t ∧ t' ≤ a.bottom) ∨ (b.top ≤ t ∧ t' ≤ b.bottom)
  touch : a.left ≤ b.right ∧ b.left ≤ a.right

theorem bandHas_iff (r : Rect) (t t' : Int) : bandHas r t t' = true ↔ r.top ≤ t ∧ t' ≤ r.bottom := by
  simp only [bandHas, Bool.and_eq_true, decide_eq_true_eq, ge_iff_le]

theorem band_section {a b : Rect} {t t' : Int} (hb : IsBand a b t t') (hlt : t < t')
    (hna : a.Nonempty) (hnb : b.Nonempty) :
    bandLeft a b t t' < bandRight a b t t' ∧
    ∀ l c, t ≤ l → l < t' →
      ((a.Mem l c ∨ b.Mem l c) ↔ (bandLeft a b t t' ≤ c ∧ c < bandRight a b t t')) := by
  obtain ⟨_, hA, hB, hsome, htouch⟩ := hb
  unfold Nonempty at hna hnb
  unfold bandLeft bandRight Mem
  unfold right at *
  -- a rectangle that does not span the band misses it: none of its rows lies in the band
  by_cases hsa : a.top ≤ t ∧ t' ≤ a.bottom <;> by_cases hsb : b.top ≤ t ∧ t' ≤ b.bottom
  · simp only [(bandHas_iff a t t').2 hsa, (bandHas_iff b t t').2 hsb, Bool.and_self, if_true]
    clear hA hB hsome
    exact ⟨by omega, fun l c h1 h2 => by omega⟩
  · simp only [(bandHas_iff a t t').2 hsa, Bool.eq_false_iff.2 (mt (bandHas_iff b t t').1 hsb), Bool.and_false,
      Bool.false_eq_true, if_false, if_true]
    have hb' := hB.resolve_left hsb
    clear hA hB hsome
    exact ⟨by omega, fun l c h1 h2 => by omega⟩
  · simp only [Bool.eq_false_iff.2 (mt (bandHas_iff a t t').1 hsa), Bool.false_and, Bool.false_eq_true, if_false]
    have ha' := hA.resolve_left hsa
    clear hA hB hsome
    exact ⟨by omega, fun l c h1 h2 => by omega⟩
  · exact ((hsome hlt).elim hsa hsb).elim

theorem bandInv_step {a b : Rect} {acc : List Rect} {t t' : Int}
    (h : BandInv (fun l c => a.Mem l c ∨ b.Mem l c) acc t) (hb : IsBand a b t t')
    (hna : a.Nonempty) (hnb : b.Nonempty) :
    BandInv (fun l c => a.Mem l c ∨ b.Mem l c) (addBand a b acc t t') t' := by
  unfold addBand
  split
  · next heq => subst heq; exact h
  · next hne =>
    have hlt : t < t' := by have := hb.le; omega
    obtain ⟨h1, h2⟩ := band_section hb hlt hna hnb
    exact bandInv_push h hlt h1 h2

/-- `tickit_rect_add` of two rectangles that touch or overlap: the three compare-exchanges leave the rows
    (least top, greatest top, least bottom, greatest bottom), the three bands between them are handled in turn.
    So whatever holds of the empty array and survives the handling of a band holds of the result. -/
theorem add_bands {a b : Rect} (ha : a.Nonempty) (hb : b.Nonempty)
    (hnear : ¬ (a.left > b.right ∨ b.left > a.right ∨ a.top > b.bottom ∨ b.top > a.bottom))
    {P : List Rect → Int → Prop} (h0 : P [] (min a.top b.top))
    (step : ∀ acc t t', P acc t → IsBand a b t t' → P (addBand a b acc t t') t') :
    ∃ acc, add a b = acc.reverse ∧ acc.length ≤ 3 ∧ P acc (max a.bottom b.bottom) := by
  have hta : a.top < a.bottom := Int.lt_add_of_pos_right _ ha.1
  have htb : b.top < b.bottom := Int.lt_add_of_pos_right _ hb.1
  have htouch : a.left ≤ b.right ∧ b.left ≤ a.right := by omega
  have b1 : IsBand a b (min a.top b.top) (max a.top b.top) :=
    ⟨by omega, by omega, by omega, by omega, htouch⟩
  have b2 : IsBand a b (max a.top b.top) (min a.bottom b.bottom) :=
    ⟨by omega, by omega, by omega, by omega, htouch⟩
  have b3 : IsBand a b (min a.bottom b.bottom) (max a.bottom b.bottom) :=
    ⟨by omega, by omega, by omega, by omega, htouch⟩
  have e1 : min (max a.top b.top) (min a.bottom b.bottom) = max a.top b.top := by omega
  have e2 : max (max a.top b.top) (min a.bottom b.bottom) = min a.bottom b.bottom := by omega
  refine ⟨_, ?_, ?_, step _ _ _ (step _ _ _ (step _ _ _ h0 b1) b2) b3⟩
  · unfold add sortRows
    rw [if_neg hnear]
    simp only [e1, e2]
  · exact Nat.le_trans (addBand_length ..) (Nat.succ_le_succ (Nat.le_trans (addBand_length ..)
      (Nat.succ_le_succ (addBand_length a b [] _ _))))

theorem add_spec (a b : Rect) (ha : a.Nonempty) (hb : b.Nonempty) :
    (add a b).length ≤ 3 ∧
    (∀ p ∈ add a b, p.Nonempty) ∧
    (add a b).Pairwise Disjoint ∧
    ∀ l c, Covered (add a b) l c ↔ (a.Mem l c ∨ b.Mem l c) := by
  by_cases hfar : a.left > b.right ∨ b.left > a.right ∨ a.top > b.bottom ∨ b.top > a.bottom
  · rw [add, if_pos hfar]
    refine ⟨Nat.le_succ 2, List.forall_mem_cons.2 ⟨ha, List.forall_mem_cons.2 ⟨hb, nofun⟩⟩,
      List.pairwise_pair.2 fun l c => by unfold Mem bottom right at *; omega, fun l c => ?_⟩
    simp only [Covered, List.mem_cons, List.not_mem_nil, or_false, exists_eq_or_imp, exists_eq_left]
  · obtain ⟨acc, e, hlen, hinv⟩ := add_bands ha hb hfar
      (BandInv.nil (U := fun l c => a.Mem l c ∨ b.Mem l c) fun l c h => by unfold Mem at h; omega)
      (fun acc t t' h hband => bandInv_step h hband ha hb)
    rw [e]
    exact ⟨by rwa [List.length_reverse], hinv.done fun l c h => by unfold Mem at h; omega⟩

theorem filter_cons_append (p : Rect → Bool) (x : Rect) (l : List Rect) :
    (x :: l).filter p = (if p x = true then [x] else []) ++ l.filter p := by
  rw [List.filter_cons]
  split <;> rfl

/-- The rectangles above, left of, right of and below the hole; `tickit_rect_subtract` returns those of them
    that are not empty. -/
def subtractCands (a b : Rect) : List Rect :=
  [initBounded a.top a.left b.top a.right, initBounded (max a.top b.top) a.left (min a.bottom b.bottom) b.left,
   initBounded (max a.top b.top) b.right (min a.bottom b.bottom) a.right, initBounded b.bottom a.left a.bottom a.right]

/-- `tickit_rect_subtract` when the hole cuts into the rectangle without covering it: the tests that guard the
    four candidates say which of them are not empty. -/
theorem subtract_cut {a b : Rect} (ha : a.Nonempty) (hb : b.Nonempty) (hc : ¬ contains b a = true)
    (hi : intersects b a = true) :
    subtract a b = (subtractCands a b).filter (fun p => decide p.Nonempty) := by
  have hi' := (intersects_iff_lt b a).1 hi
  have g1 : (initBounded a.top a.left b.top a.right).Nonempty ↔ a.top < b.top := by rect_omega
  have g2 : (initBounded (max a.top b.top) a.left (min a.bottom b.bottom) b.left).Nonempty ↔
      a.left < b.left := by rect_omega
  have g3 : (initBounded (max a.top b.top) b.right (min a.bottom b.bottom) a.right).Nonempty ↔
      a.right > b.right := by rect_omega
  have g4 : (initBounded b.bottom a.left a.bottom a.right).Nonempty ↔ a.bottom > b.bottom := by rect_omega
  unfold subtract
  rw [if_neg hc, if_neg (by simp [hi])]
  simp only [subtractCands, filter_cons_append, List.filter_nil, List.append_nil, decide_eq_true_eq, g1, g2, g3,
    g4, List.append_assoc]

theorem cand_of_mem {a b : Rect} {l c : Int} (ha : a.Mem l c) (hb : ¬ b.Mem l c) :
    ∃ p ∈ subtractCands a b, p.Mem l c := by
  simp only [subtractCands, List.mem_cons, List.not_mem_nil, or_false, exists_eq_or_imp, exists_eq_left]
  by_cases h1 : l < b.top
  · exact Or.inl (by rect_omega)
  · by_cases h2 : b.bottom ≤ l
    · exact Or.inr (Or.inr (Or.inr (by rect_omega)))
    · by_cases h3 : c < b.left
      · exact Or.inr (Or.inl (by rect_omega))
      · exact Or.inr (Or.inr (Or.inl (by rect_omega)))

theorem subtractCands_mem {a b p : Rect} (hi : intersects b a = true) (hp : p ∈ subtractCands a b) (l c : Int)
    (hm : p.Mem l c) : a.Mem l c ∧ ¬ b.Mem l c := by
  rw [intersects_iff_lt] at hi
  simp only [subtractCands, List.mem_cons, List.not_mem_nil, or_false] at hp
  rcases hp with rfl | rfl | rfl | rfl <;> rect_omega

theorem subtractCands_disjoint (a : Rect) {b : Rect} (hb : b.Nonempty) : (subtractCands a b).Pairwise Disjoint := by
  simp only [subtractCands, List.pairwise_cons, List.mem_cons, List.not_mem_nil, or_false, forall_eq_or_imp,
    forall_eq, false_imp_iff, implies_true, List.Pairwise.nil, and_true]
  refine ⟨⟨?_, ?_, ?_⟩, ⟨?_, ?_⟩, ?_⟩ <;> intro l c <;> rect_omega

theorem subtract_spec (a b : Rect) (ha : a.Nonempty) (hb : b.Nonempty) :
    (subtract a b).length ≤ 4 ∧
    (∀ p ∈ subtract a b, p.Nonempty) ∧
    (subtract a b).Pairwise Disjoint ∧
    ∀ l c, Covered (subtract a b) l c ↔ (a.Mem l c ∧ ¬ b.Mem l c) := by
  by_cases hc : contains b a = true
  · have e : subtract a b = [] := by unfold subtract; rw [if_pos hc]
    rw [e]
    refine ⟨Nat.zero_le _, nofun, .nil, fun l c => ?_⟩
    have := (contains_iff b a ha).1 hc l c
    simp only [Covered, List.not_mem_nil, false_and, exists_false, false_iff]
    exact fun h => h.2 (this h.1)
  · by_cases hi : intersects b a = true
    · rw [subtract_cut ha hb hc hi]
      refine ⟨List.length_filter_le .., fun p hp => of_decide_eq_true (List.mem_filter.1 hp).2,
        (subtractCands_disjoint a hb).sublist List.filter_sublist, fun l c => ⟨?_, fun h => ?_⟩⟩
      · rintro ⟨p, hp, hm⟩
        exact subtractCands_mem hi (List.mem_filter.1 hp).1 l c hm
      · obtain ⟨p, hp, hm⟩ := cand_of_mem h.1 h.2
        exact ⟨p, List.mem_filter.2 ⟨hp, decide_eq_true (nonempty_of_mem hm)⟩, hm⟩
    · have e : subtract a b = [a] := by unfold subtract; rw [if_neg hc, if_pos (by simpa using hi)]
      rw [e]
      refine ⟨Nat.le_succ_of_le (Nat.le_succ_of_le (Nat.le_succ 1)), List.forall_mem_cons.2 ⟨ha, nofun⟩, List.pairwise_singleton .., fun l c => ?_⟩
      simp only [Covered, List.mem_singleton, exists_eq_left, iff_self_and]
      exact fun h1 h2 => hi (mem_intersects h2 h1)

end Rect
end Tickit
