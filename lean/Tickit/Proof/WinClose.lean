import Tickit.Proof.WinRelist
/-
  `tickit_window_close` of any window, whatever is queued (`close_step`): three steps.  The purge takes the window's
  requests off the queue; `_do_hierarchy_change(REMOVE)` takes the window out of its parent's child list and clears its
  parent pointer (`Relisted`) and exposes its rectangle in the parent; then it is marked closed, which nothing the
  composition or the invariants read sees.
-/
namespace Tickit
namespace WinFlush
open WinTree WinRB WinSpec

theorem close_step {t t' : Tree} {id : Id} (h : WinTree.close t (t.wins.size + 1) id = .ok t')
    (hok : TreeOk t) (hne : ∀ x ∈ t.root.damage, x.Nonempty) (hpos : RootsPositive t) :
    Step t t' ∧ (RootOk t → RootOk t') := by
  obtain ⟨w0, tc, wc, hw0, hwc, rfl, hcase⟩ := close_ok h
  -- the last step, marking the window closed
  have hcore := core_set_closed tc id wc hwc.1
  suffices hs : Step t tc ∧ (RootOk t → RootOk tc) from
    ⟨hs.1.trans (.of_core hcore (RootStep.move (Or.inl rfl)) rfl rfl hs.1.ok hs.1.pos),
      fun hro => rootOk_congr_core (hcore 0) (hs.2 hro)⟩
  rcases hcase with ⟨_, rfl⟩ | ⟨p, tq, hp, hpu, hd⟩
  · exact ⟨.refl hok hpos, fun x => x⟩
  · obtain ⟨hqw, hqd, hqe, hql, hqr, hqc⟩ := purge_spec hpu
    have hs1 : Step t tq := .of_core (fun x => by rw [hqw]) ⟨Or.inl ⟨hqd, hqe, hql⟩, hqc⟩ hqd hqr hok hpos
    -- `_do_hierarchy_change(REMOVE)`: the list surgery and the cleared parent pointer
    obtain ⟨pw, w0', cs, tb, hpw, hw0', hrl, hlk, hc⟩ := doHierarchyChange_ok hd
    obtain ⟨hmem, rfl⟩ := listRemove_ok_iff.1 hrl
    cases (hw0.of_wins hqw).unique hw0'
    obtain ⟨_, _, hpid, hid, honly⟩ := hs1.ok.listed hpw.1 hmem hw0'.1
    rw [relink_remove hw0' hpid] at hlk
    cases hlk
    generalize hpw' : unlinkParent pw id (pw.children.erase id) = pw' at hc
    have hnm : id ∉ pw.children.erase id := List.Nodup.not_mem_erase (hs1.ok.nodup p pw hpw.1)
    have hR : Relisted tq (WinTree.set (WinTree.set tq p pw') id { w0 with parent := none }) p id pw pw' w0
        { w0 with parent := none } (pw.children.erase id) :=
      { hpw := hpw.1, hw0 := hw0'.1
        only := fun x w hx _ => honly x w hx
        filter := erase_filter_ne id _
        nodup := (hs1.ok.nodup p pw hpw.1).erase id
        par := by rw [set_wins_ne _ (Ne.symm hpid)]; exact set_wins_self hpw.1 _
        parF := by rw [← hpw']; exact ⟨rfl, rfl, rfl, rfl, rfl, rfl⟩
        child := set_wins_self (by rw [set_wins_ne _ hpid]; exact hw0'.1) _
        childF := ⟨rfl, rfl, rfl, rfl, rfl, Or.inr rfl⟩
        other := fun x hxp hxi => by rw [set_wins_ne _ (Ne.symm hxi), set_wins_ne _ (Ne.symm hxp)]
        size := by rw [set_size, set_size]
        listed := fun hm => absurd hm hnm }
    obtain ⟨hs2, r1⟩ := hR.step hs1.ok hs1.pos (hs1.recorded.nonempty hne) hid rfl (by rw [hqw]; exact Nat.le_succ _)
      (fun _ hm => absurd hm hnm) (fun q hq => nomatch hq) hc
    exact ⟨hs1.trans hs2, fun hro => rootOk_congr r1 (hR.rootOk (rootOk_congr hqw hro))⟩

end WinFlush
end Tickit
