import Tickit.Proof.WinResize
/-
  Engine `win` (C01), second configuration: the library's mock terminal resized by `tickit_mockterm_resize`
  (src/mockterm.c).  The function is modelled on the cell grid it keeps (`NULL` cell pointer = `none`) in the order of its
  statements; `mockResize_screen` proves that what the terminal then displays is `WinFlush.resizedScreen` — the grid
  `WinFlush.termResize` continues with, on which `goodQ_resize` / `C01_full` are proved.  So the clause "no stale or
  misplaced cell survives a flush" after "resizing the terminal" is proved about the mock terminal's own cells, not only
  about the harness's grid driver.
-/
namespace Tickit
namespace WinFlush
open WinRB

/-- The mock terminal driver's grid: `cells l c = none` is a cell pointer that is `NULL` (or outside the arrays);
    `blank`: a space in `mtd->pen`. -/
structure Mock where
  lines : Int
  cols : Int
  cells : Int → Int → Option Cell
  blank : Cell

/-- `for(line …) mtd_clear_cells(mtd, line, startcol, stopcol)` over the lines `l0 ≤ line < l1`: the cells are vivified
    and become blanks in the pen in force. -/
def Mock.clearLines (m : Mock) (l0 l1 startcol stopcol : Int) : Mock :=
  { m with cells := fun l c => if l0 ≤ l ∧ l < l1 ∧ startcol ≤ c ∧ c < stopcol then some m.blank else m.cells l c }

/-- `tickit_mockterm_resize(mt, newlines, newcols)`. -/
def Mock.resize (m : Mock) (newlines newcols : Int) : Mock :=
  let oldlines := m.lines
  let oldcols := m.cols
  -- the lines beyond `newlines` are freed; every line kept gets a new array of `newcols` pointers: the cells of the
  -- columns both widths share are carried over, the others are NULL; the lines gained are NULL
  let m1 : Mock :=
    { m with lines := newlines, cols := newcols,
             cells := fun l c => if 0 ≤ l ∧ l < min newlines oldlines ∧ 0 ≤ c ∧ c < min newcols oldcols then m.cells l c else none }
  -- if(newcols > oldcols) for(line = 0; line < newlines && line < oldlines; line++) mtd_clear_cells(mtd, line, oldcols, newcols);
  let m2 := if newcols > oldcols then m1.clearLines 0 (min newlines oldlines) oldcols newcols else m1
  -- for(line = oldlines; line < newlines; line++) mtd_clear_cells(mtd, line, 0, newcols);
  m2.clearLines oldlines newlines 0 newcols

/-- What the mock terminal displays at `(l, c)` (`tickit_mockterm_get_display_text` / `_pen`). -/
def Mock.display (m : Mock) (l c : Int) : Cell := (m.cells l c).getD Cell.never

/-- Every cell of the terminal is allocated (kept by the resize: `mockResize_full`). -/
def Mock.Full (m : Mock) : Prop :=
  ∀ l c, 0 ≤ l → l < m.lines → 0 ≤ c → c < m.cols → (m.cells l c).isSome = true

theorem mockResize_cells (m : Mock) (nl nc : Int) (l c : Int) (h0 : 0 ≤ l) (h1 : l < nl) (h2 : 0 ≤ c) (h3 : c < nc) :
    (m.resize nl nc).cells l c =
      if l < min m.lines nl ∧ c < min m.cols nc then m.cells l c else some m.blank := by
  unfold Mock.resize Mock.clearLines
  by_cases hw : nc > m.cols
  · simp only [hw, if_true]
    by_cases hA : l < m.lines
    · by_cases hB : c < m.cols
      · rw [if_neg (fun hx => absurd hA (Int.not_lt.2 hx.1)), if_neg (fun hx => absurd hB (Int.not_lt.2 hx.2.2.1)),
          if_pos ⟨h0, Int.lt_min.2 ⟨h1, hA⟩, h2, Int.lt_min.2 ⟨h3, hB⟩⟩, if_pos ⟨Int.lt_min.2 ⟨hA, h1⟩, Int.lt_min.2 ⟨hB, h3⟩⟩]
      · rw [if_neg (fun hx => absurd hA (Int.not_lt.2 hx.1)), if_pos ⟨h0, Int.lt_min.2 ⟨h1, hA⟩, Int.not_lt.1 hB, h3⟩,
          if_neg (fun hx => hB (Int.lt_min.1 hx.2).1)]
    · rw [if_pos ⟨Int.not_lt.1 hA, h1, h2, h3⟩, if_neg (fun hx => hA (Int.lt_min.1 hx.1).1)]
  · simp only [hw, if_false]
    by_cases hA : l < m.lines
    · rw [if_neg (fun hx => absurd hA (Int.not_lt.2 hx.1)),
        if_pos ⟨h0, Int.lt_min.2 ⟨h1, hA⟩, h2, Int.lt_min.2 ⟨h3, Int.lt_of_lt_of_le h3 (Int.not_lt.1 hw)⟩⟩,
        if_pos ⟨Int.lt_min.2 ⟨hA, h1⟩, Int.lt_min.2 ⟨Int.lt_of_lt_of_le h3 (Int.not_lt.1 hw), h3⟩⟩]
    · rw [if_pos ⟨Int.not_lt.1 hA, h1, h2, h3⟩, if_neg (fun hx => hA (Int.lt_min.1 hx.1).1)]

theorem mockResize_size (m : Mock) (nl nc : Int) : (m.resize nl nc).lines = nl ∧ (m.resize nl nc).cols = nc := by
  unfold Mock.resize Mock.clearLines
  dsimp only
  split <;> exact ⟨rfl, rfl⟩

theorem mockResize_full (m : Mock) (hf : m.Full) (nl nc : Int) :
    (m.resize nl nc).Full := by
  intro l c h0 h1 h2 h3
  rw [(mockResize_size m nl nc).1] at h1
  rw [(mockResize_size m nl nc).2] at h3
  rw [mockResize_cells m nl nc l c h0 h1 h2 h3]
  split
  · rename_i h; exact hf l c h0 (Int.lt_min.1 h.1).1 h2 (Int.lt_min.1 h.2).1
  · rfl

/-- `tickit_mockterm_resize` is the resize `termResize` models (`resizedScreen`).  `hb`: the pen in force is the default
    one (the harness sets it before it resizes). -/
theorem mockResize_screen (st : St) (m : Mock) (hml : m.lines = st.tlines) (hmc : m.cols = st.tcols)
    (hb : m.blank = Cell.never)
    (hs : ∀ l c, 0 ≤ l → l < st.tlines → 0 ≤ c → c < st.tcols → m.display l c = st.screen l c)
    (nl nc : Int) (l c : Int) (h0 : 0 ≤ l) (h1 : l < nl) (h2 : 0 ≤ c) (h3 : c < nc) :
    (m.resize nl nc).display l c = resizedScreen st nl nc l c := by
  unfold Mock.display
  rw [mockResize_cells m nl nc l c h0 h1 h2 h3]
  unfold resizedScreen
  rw [← hml, ← hmc]
  by_cases h : l < min m.lines nl ∧ c < min m.cols nc
  · rw [if_pos h, if_pos ⟨h0, h.1, h2, h.2⟩]
    exact hs l c h0 (hml ▸ (Int.lt_min.1 h.1).1) h2 (hmc ▸ (Int.lt_min.1 h.2).1)
  · rw [if_neg h, if_neg (fun hx => h ⟨hx.2.1, hx.2.2.2⟩), hb]; rfl

/-- The clause as the property words it: a cell that showed the right thing before the terminal was made wider, taller,
    narrower or shorter and that lies inside both sizes still shows it. -/
theorem mockResize_keeps_shared (m : Mock) (nl nc : Int) (l c : Int)
    (h0 : 0 ≤ l) (h1 : l < min m.lines nl) (h2 : 0 ≤ c) (h3 : c < min m.cols nc) :
    (m.resize nl nc).display l c = m.display l c := by
  unfold Mock.display
  rw [mockResize_cells m nl nc l c h0 (Int.lt_min.1 h1).2 h2 (Int.lt_min.1 h3).2, if_pos ⟨h1, h3⟩]

/-! Non-vacuity: a landscape terminal (2 lines of 5 columns) showing `'A' + column` made wider and taller. -/
def demoMock : Mock :=
  { lines := 2, cols := 5, blank := Cell.never,
    cells := fun l c => if 0 ≤ l ∧ l < 2 ∧ 0 ≤ c ∧ c < 5 then some ⟨65 + c.toNat, 1, -1, false, false⟩ else none }

example : ((List.range 7).map fun (c : Nat) => ((demoMock.resize 3 7).display 1 (c : Int)).glyph) = [65, 66, 67, 68, 69, 32, 32] := by
  decide +kernel
example : ((List.range 7).map fun (c : Nat) => ((demoMock.resize 3 7).display 2 (c : Int)).glyph) = [32, 32, 32, 32, 32, 32, 32] := by
  decide +kernel
example : ((List.range 3).map fun (c : Nat) => ((demoMock.resize 1 3).display 0 (c : Int)).glyph) = [65, 66, 67] := by decide +kernel

end WinFlush
end Tickit
