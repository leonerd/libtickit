import Tickit.Proof.EvLoopWF
/-
  Step relations for C17 "exactly once" (the invariants are in Proof/EvLoopOnce.lean).  Here: `MH`, what any step does to
  allocated watches: it holds of every primitive step (a `Frame` of Proof/EvLoopStep.lean that is `Closed`), so the walk
  made there gives it for every function.  `TS`, no type changes and no cancel requests: a `Frame` that admits the
  overwrites that keep the type, which gives it for the constructors and `cancelFound` but not for callbacks (hence `TY`,
  Proof/EvLoopOnceIter.lean).  `Inert`: a step that touches nothing the C17 relations read; it gives each of them, and each
  is a `Base` through it (`Base.ofStill`, `Still.inert`).  `Q` (Proof/EvLoopOnceSlots.lean) and `R2`
  (Proof/EvLoopOnceQueues.lean) hold of bracketed sequences only: a constructor alone is no `Q` step (its record comes
  after it) and no `R2 []` step (a timer is allocated first and queued second).
-/
namespace Tickit.EvLoop

def isOneShot (t : WType) : Bool := t == .timer || t == .later

theorem isOneShot_none : isOneShot .none = false := rfl

/-- What any step of the model does to the watches that are allocated before it. -/
structure MH (st st' : St) : Prop where
  len : st.heap.length ≤ st'.heap.length
  slot : ∀ x, x < st.heap.length → (st'.getW x).slot = (st.getW x).slot
  puser : ∀ x, x < st.heap.length → (st'.getW x).puser = (st.getW x).puser
  typ : ∀ x, x < st.heap.length → (st'.getW x).type = (st.getW x).type ∨ (st'.getW x).type = .none
  live : ∀ x, x < st.heap.length → st'.live x = true → st.live x = true
  ok : st'.isOk = true → st.isOk = true

theorem MH.refl (st : St) : MH st st := ⟨Nat.le_refl _, fun _ _ => rfl, fun _ _ => rfl, fun _ _ => Or.inl rfl, fun _ _ h => h, fun h => h⟩

theorem MH.trans {a b c : St} (h1 : MH a b) (h2 : MH b c) : MH a c := by
  refine ⟨Nat.le_trans h1.len h2.len, ?_, ?_, ?_, ?_, fun h => h1.ok (h2.ok h)⟩
  · intro x hx; rw [h2.slot x (Nat.lt_of_lt_of_le hx h1.len), h1.slot x hx]
  · intro x hx; rw [h2.puser x (Nat.lt_of_lt_of_le hx h1.len), h1.puser x hx]
  · intro x hx
    cases h2.typ x (Nat.lt_of_lt_of_le hx h1.len) with
    | inl e => rw [e]; exact h1.typ x hx
    | inr e => exact Or.inr e
  · intro x hx hl; exact h1.live x hx (h2.live x (Nat.lt_of_lt_of_le hx h1.len) hl)

theorem MH.of_heap {st st' : St} (h : st'.heap = st.heap) (ok : st'.isOk = true → st.isOk = true) : MH st st' :=
  ⟨by rw [h]; exact Nat.le_refl _, fun x _ => by rw [getW_of_heap_eq h], fun x _ => by rw [getW_of_heap_eq h],
   fun x _ => by rw [getW_of_heap_eq h]; exact Or.inl rfl, fun x _ hl => by rw [live_of_heap_eq h] at hl; exact hl, ok⟩

theorem MH.oneShot {st st' : St} (h : MH st st') {x : Nat} (hx : x < st.heap.length)
    (ho : isOneShot (st'.getW x).type = true) : (st'.getW x).type = (st.getW x).type := by
  cases h.typ x hx with
  | inl e => exact e
  | inr e => rw [e] at ho; cases ho

theorem MH.notOneShot {st st' : St} (h : MH st st') {x : Nat} (hx : x < st.heap.length)
    (ho : isOneShot (st.getW x).type = false) : isOneShot (st'.getW x).type = false := by
  cases h.typ x hx with
  | inl e => rw [e]; exact ho
  | inr e => rw [e]; rfl

theorem mh_alloc (st : St) (w : Watch) : MH st (st.alloc w).1 :=
  ⟨by rw [alloc_len]; omega, fun x hx => by rw [getW_alloc_old st w x hx], fun x hx => by rw [getW_alloc_old st w x hx],
   fun x hx => by rw [getW_alloc_old st w x hx]; exact Or.inl rfl, fun x hx hl => by rw [live_alloc_old st w x hx] at hl; exact hl,
   fun h => h⟩

structure okMH (w w' : Watch) : Prop where
  slot : w'.slot = w.slot
  puser : w'.puser = w.puser
  typ : w'.type = w.type ∨ w'.type = .none
  freed : w'.freed = false → w.freed = false

theorem mh_setW (st : St) (a : Nat) (w : Watch) (h : okMH (st.getW a) w) : MH st (st.setW a w) := by
  refine ⟨by rw [St.length_setW]; exact Nat.le_refl _, ?_, ?_, ?_, ?_, fun h => h⟩
  · intro x hx
    by_cases hax : a = x
    · subst hax; rw [St.getW_setW_self st a w hx, h.slot]
    · rw [St.getW_setW_ne st a x w hax]
  · intro x hx
    by_cases hax : a = x
    · subst hax; rw [St.getW_setW_self st a w hx, h.puser]
    · rw [St.getW_setW_ne st a x w hax]
  · intro x hx
    by_cases hax : a = x
    · subst hax; rw [St.getW_setW_self st a w hx]; exact h.typ
    · rw [St.getW_setW_ne st a x w hax]; exact Or.inl rfl
  · intro x hx hl
    by_cases hax : a = x
    · subst hax
      have hx' : a < (st.setW a w).heap.length := by rw [St.length_setW]; exact hx
      rw [live_eq_not_freed _ _ hx', St.getW_setW_self st a w hx] at hl
      rw [live_eq_not_freed _ _ hx, h.freed (by simpa using hl)]; rfl
    · rw [St.live_setW_ne _ _ _ _ hax] at hl; exact hl

theorem mh_admits : Admits okMH :=
  ⟨fun _ => ⟨rfl, rfl, Or.inl rfl, fun h => nomatch h⟩, fun _ _ => ⟨rfl, rfl, Or.inl rfl, id⟩, fun _ _ => ⟨rfl, rfl, Or.inl rfl, id⟩,
   fun _ _ => ⟨rfl, rfl, Or.inl rfl, id⟩, fun _ => ⟨rfl, rfl, Or.inr rfl, id⟩, fun _ _ => ⟨rfl, rfl, Or.inl rfl, id⟩⟩

/-- A poll slot may stop pointing at a watch, and the status may leave `ok`. -/
structure Inert (st st' : St) : Prop where
  heap : st'.heap = st.heap
  ok : st'.isOk = true → st.isOk = true
  slots : st'.slots = st.slots
  pfd : ∀ s ∈ st'.pfd, ∀ a, s.watch = some a → ∃ s0 ∈ st.pfd, s0.watch = some a
  alive : st'.alive = st.alive
  creq : st'.cancelReq = st.cancelReq
  timers : st'.timers = st.timers
  laters : st'.laters = st.laters

theorem Inert.refl (st : St) : Inert st st := ⟨rfl, id, rfl, fun s hs _ ha => ⟨s, hs, ha⟩, rfl, rfl, rfl, rfl⟩

theorem Inert.trans {a b c : St} (h1 : Inert a b) (h2 : Inert b c) : Inert a c :=
  ⟨h2.heap.trans h1.heap, fun h => h1.ok (h2.ok h), h2.slots.trans h1.slots,
   fun s hs x hx => (h2.pfd s hs x hx).elim fun s0 h0 => h1.pfd s0 h0.1 x h0.2,
   h2.alive.trans h1.alive, h2.creq.trans h1.creq, h2.timers.trans h1.timers, h2.laters.trans h1.laters⟩

def St.inertCore (st : St) := (st.heap, st.slots, st.pfd, st.alive, st.cancelReq, st.timers, st.laters)

theorem Inert.of_eq {st st' : St} (h : st'.inertCore = st.inertCore) (hst : st'.status = st.status) : Inert st st' := by
  simp only [St.inertCore, Prod.mk.injEq] at h
  obtain ⟨hh, hs, hp, ha, hc, ht, hl⟩ := h
  exact ⟨hh, fun h => (by unfold St.isOk at *; rw [← hst]; exact h), hs, fun s h _ ha' => ⟨s, by rw [← hp]; exact h, ha'⟩, ha, hc, ht, hl⟩

theorem Inert.mh {st st' : St} (i : Inert st st') : MH st st' := MH.of_heap i.heap i.ok

-- Updates of single fields, stated about an arbitrary state: the same `rfl`s against a composed state make the
-- unifier compare the two records field by field, evaluating the composition.
theorem inert_with_iow (st : St) (l : List Nat) : Inert st { st with iow := l } := .of_eq rfl rfl
theorem inert_with_signals (st : St) (l : List Nat) : Inert st { st with signals := l } := .of_eq rfl rfl
theorem inert_with_procs (st : St) (l : List Nat) : Inert st { st with procs := l } := .of_eq rfl rfl
theorem inert_with_errno (st : St) (v : Int) : Inert st { st with errno := v } := .of_eq rfl rfl
theorem inert_with_children (st : St) (l : List Proc) : Inert st { st with children := l } := .of_eq rfl rfl
theorem inert_with_stillRunning (st : St) (b : Bool) : Inert st { st with stillRunning := b } := .of_eq rfl rfl
theorem inert_with_sigchldwatch (st : St) (w : Option Nat) : Inert st { st with sigchldwatch := w } := .of_eq rfl rfl
theorem Still.inert {st st' : St} (h : Still st st') : Inert st st' :=
  ⟨h.same.heap, h.same.ok, h.same.slots, fun s hs a ha => by
    have hm : some a ∈ st'.pfd.map (·.watch) := ha ▸ List.mem_map_of_mem hs
    rw [h.watch] at hm
    exact (List.mem_map.mp hm).elim fun s0 h0 => ⟨s0, h0⟩, h.same.alive, h.same.cancelReq, h.same.timers, h.same.laters⟩

theorem Same.inert {st st' : St} (h : Same st st') : Inert st st' := h.still.inert

theorem inert_emit (st : St) (e : Ev) : Inert st (st.emit e) := (still_emit st e).inert

theorem Inert.of_sameSig {st st' : St} (h : SameSig st st') : Inert st st' :=
  ⟨h.heap, h.ok, h.slots, fun s hs _ ha => ⟨s, h.pfd ▸ hs, ha⟩, h.alive, h.cancelReq, h.timers, h.laters⟩

theorem inert_evloopSignal (st : St) (s : Int) : Inert st (evloopSignal st s).1 := .of_sameSig (sameSig_evloopSignal st s)

theorem inert_evloopCancelSignal (st : St) (idx : Nat) : Inert st (evloopCancelSignal st idx) :=
  .of_sameSig (sameSig_evloopCancelSignal st idx)

theorem inert_evloopCancelIo (st : St) (idx : Nat) : Inert st (evloopCancelIo st idx) := by
  refine ⟨rfl, id, rfl, fun s hs a ha => ?_, rfl, rfl, rfl, rfl⟩
  rcases List.mem_or_eq_of_mem_set (show s ∈ st.pfd.set idx _ from hs) with h | h
  · exact ⟨s, h, ha⟩
  · rw [h] at ha; cases ha

theorem inert_cancelHook (st : St) (t : WType) (evi : Nat) : Inert st (cancelHook st t evi) := by
  cases t <;> first | exact inert_evloopCancelIo _ _ | exact inert_evloopCancelSignal _ _ | exact .refl _

/-- Every function built from leaf steps alone is `Inert`: `inert_base.raiseSig`, `.ppoll`, `.cancelRest`, … -/
theorem inert_base : Base Inert := .ofStill Inert.refl Inert.trans Still.inert

theorem inert_fail (st : St) (w : Ub) : Inert st (st.fail w) := inert_base.fail st w
theorem inert_raiseSig (st : St) (s : Int) : Inert st (raiseSig st s) := inert_base.raiseSig st s
theorem inert_insertWatch (st : St) (l : List Nat) (flags new : Nat) : Inert st (insertWatch st l flags new).1 :=
  inert_base.insertWatch st l flags new
theorem inert_waitpid (st : St) (pid : Int) : Inert st (waitpid st pid).st := (same_waitpid st pid).inert
theorem inert_cancelNotify (st : St) (a : Nat) (w : Watch) : Inert st (cancelNotify st a w) := inert_base.cancelNotify st a w
theorem inert_cancelRest (st : St) (rest : List Nat) : Inert st (cancelRest st rest) := inert_base.cancelRest st rest

theorem mh_frame : Frame MH okMH (fun _ => False) where
  toBase := .ofStill MH.refl MH.trans fun h => h.inert.mh
  alloc := mh_alloc
  setW := mh_setW
  setList := fun st t l _ => by cases t <;> exact MH.of_heap rfl id
  evloopIo := fun st fd c w => by
    obtain ⟨p, e, _⟩ := evloopIo_eq st fd c w
    rw [e]
    exact MH.of_heap rfl id
  evloopCancelIo := fun st i => (inert_evloopCancelIo st i).mh

theorem mh_outer : Outer MH :=
  ⟨fun st s => (inert_evloopSignal st s).mh, fun st i => (inert_evloopCancelSignal st i).mh, fun _ _ _ => MH.of_heap rfl id⟩

theorem mh_closed : Closed MH := mh_frame.closed mh_admits mh_outer
theorem mh_timers : TimerLeaves MH := mh_frame.timers mh_admits

theorem mh_invokeTimers (fuel : Nat) (st : St) : MH st (invokeTimers fuel st) := mh_closed.invokeTimers mh_timers fuel st

theorem mh_iter : IterLeaves MH :=
  .of_timers mh_closed mh_timers (.ofStill fun h => h.inert.mh) fun st => (still_with_pendingSig st []).inert.mh

theorem mh_laterLoop (l : List Nat) (st : St) : MH st (laterLoop st l) := mh_closed.laterLoop mh_timers l st
theorem mh_dispatchSignals (fuel : Nat) (st : St) : MH st (dispatchSignals fuel st) :=
  mh_closed.dispatchSignals mh_iter.clearPending fuel st
theorem mh_ioLoop (fuel : Nat) (st : St) (idx : Nat) : MH st (ioLoop fuel st idx) := mh_closed.ioLoop fuel st idx
theorem mh_tick (fuel : Nat) (st : St) (nohang : Bool) : MH st (tick fuel st nohang) := mh_closed.tick mh_iter fuel st nohang
theorem mh_runLoop (fuel : Nat) (n : Nat) (st : St) : MH st (runLoop fuel n st) := mh_closed.runLoop mh_iter fuel n st
theorem mh_run (fuel : Nat) (st : St) : MH st (run fuel st) := mh_closed.run mh_iter fuel st

theorem mh_destroyList (t : WType) (l : List Nat) : ∀ st : St, MH st (destroyList st t l) :=
  mh_closed.toBase0.destroyList (fun st t evi => (inert_cancelHook st t evi).mh) mh_timers.free t l

/-- No type changes, no cancel requests. -/
structure TS (st st' : St) : Prop where
  len : st.heap.length ≤ st'.heap.length
  typ : ∀ x, x < st.heap.length → (st'.getW x).type = (st.getW x).type
  creq : st'.cancelReq = st.cancelReq
  alive : st'.alive = st.alive

theorem TS.refl (st : St) : TS st st := ⟨Nat.le_refl _, fun _ _ => rfl, rfl, rfl⟩

theorem TS.trans {a b c : St} (h1 : TS a b) (h2 : TS b c) : TS a c :=
  ⟨Nat.le_trans h1.len h2.len, fun x hx => (h2.typ x (Nat.lt_of_lt_of_le hx h1.len)).trans (h1.typ x hx), h2.creq.trans h1.creq, h2.alive.trans h1.alive⟩

theorem TS.of_eq {st st' : St} (h : st'.heap = st.heap) (hc : st'.cancelReq = st.cancelReq) (ha : st'.alive = st.alive) : TS st st' :=
  ⟨by rw [h]; exact Nat.le_refl _, fun x _ => by rw [getW_of_heap_eq h], hc, ha⟩

theorem Inert.ts {st st' : St} (i : Inert st st') : TS st st' := TS.of_eq i.heap i.creq i.alive

theorem ts_alloc (st : St) (w : Watch) : TS st (st.alloc w).1 :=
  ⟨by rw [alloc_len]; omega, fun x hx => by rw [getW_alloc_old st w x hx], rfl, rfl⟩

theorem ts_setW (st : St) (a : Nat) (w : Watch) (h : w.type = (st.getW a).type) : TS st (st.setW a w) := by
  refine ⟨by rw [St.length_setW]; exact Nat.le_refl _, ?_, rfl, rfl⟩
  intro x hx
  by_cases hax : a = x
  · subst hax; rw [St.getW_setW_self st a w hx, h]
  · rw [St.getW_setW_ne st a x w hax]

theorem ts_with_timers (st : St) (l : List Nat) : TS st { st with timers := l } := TS.of_eq rfl rfl rfl
theorem ts_with_laters (st : St) (l : List Nat) : TS st { st with laters := l } := TS.of_eq rfl rfl rfl
theorem ts_with_slots (st : St) (l : List SlotRec) : TS st { st with slots := l } := TS.of_eq rfl rfl rfl
theorem ts_with_inRun (st : St) (b : Bool) : TS st { st with inRun := b } := TS.of_eq rfl rfl rfl

theorem ts_setListOf (st : St) (t : WType) (l : List Nat) : TS st (setListOf st t l) := by
  cases t <;> exact TS.of_eq rfl rfl rfl

theorem ts_evloopIo (st : St) (fd : Int) (cond : Nat) (w : Nat) : TS st (evloopIo st fd cond w).1 := by
  obtain ⟨p, e, _⟩ := evloopIo_eq st fd cond w
  rw [e]
  exact TS.of_eq rfl rfl rfl

theorem ts_frame : Frame TS (fun w w' => w'.type = w.type) (fun _ => False) where
  toBase := .ofStill TS.refl TS.trans fun h => h.inert.ts
  alloc := ts_alloc
  setW := ts_setW
  setList := fun st t l _ => ts_setListOf st t l
  evloopIo := ts_evloopIo
  evloopCancelIo := fun st i => (inert_evloopCancelIo st i).ts

theorem ts_free (st : St) (a : Nat) : TS st (st.free a) := ts_frame.free (fun _ => rfl) st a
theorem ts_clearNotify (st : St) (a : Nat) : TS st (clearNotify st a) := ts_frame.clearNotify (fun _ _ => rfl) st a
theorem ts_laterPre (st : St) (a : Nat) : TS st (laterPre st a) := ts_frame.laterPre (fun _ _ => rfl) st a

theorem ts_watchSignal (st : St) (signum : Int) (flags : Nat) (slot : Int) : TS st (watchSignal st signum flags slot).1 :=
  ts_frame.watchSignal id (fun s x => (inert_evloopSignal s x).ts) (fun _ _ => rfl) st signum flags slot

theorem ts_ctor {k : Int} {f : St → St × Nat} (c : Ctor k f) (s : St) : TS s (f s).1 :=
  ts_frame.toBase0.ctor (ts_frame.watchTimerAt id · · · k) (ts_frame.watchLater id · · k 0) (ts_frame.watchIo id (fun _ _ => rfl) · · · · k)
    (fun s sig fl _ => ts_watchSignal s sig fl k)
    (ts_frame.watchProcess id id (fun s => ts_watchSignal s _ _ _) (fun _ _ => rfl) (fun _ _ => rfl) · · · k) c s

theorem ts_doRegister (st : St) (k : Int) (reg : St → St × Nat) (h : ∀ s, TS s (reg s).1) : TS st (doRegister st k reg) :=
  ts_frame.toBase0.doRegister (fun _ _ => ts_with_slots _ _) st k reg h

theorem ts_cancelFoundAll (st : St) (a : Nat) (w : Watch) (l : List Nat) : TS st (cancelFound st a w l) :=
  ts_frame.cancelFound (fun _ => rfl) st a w l id fun s _ => (inert_evloopCancelSignal s _).ts

end Tickit.EvLoop
