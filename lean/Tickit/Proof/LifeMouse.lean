import Tickit.Proof.LifeKeys
/-
  C08: mouse events delivered to handlers that free nothing (`_handle_mouse` with its counted return,
  `on_term_mouse` with the drag context).  Same account as for key events (Proof/LifeKeys.lean, `KG`); `_handle_mouse`
  returns a counted reference to the window that took the event, which its caller gives back.
-/
namespace Tickit.Life
open WinTree (Id Win Req Change Tree)
variable {gh : Ghost}

theorem KG.setRoot {s0 st : St} {int : Nat → Nat} (G : KG gh s0 int st) (f : WinTree.Root → WinTree.Root)
    (hc : (f st.tree.root).changes = st.tree.root.changes)
    (hd : ∀ (s : Nat), (f st.tree.root).dragSource = some s → ∃ w, LiveW st.tree s w ∧ Reach st.tree s 0) :
    KG gh s0 int (setRoot st f) := by
  have hrel : TRel st.tree { st.tree with root := f st.tree.root } := ⟨rfl, fun i w h => ⟨w, h, WRel.refl w⟩⟩
  have hinv : TInv { st.tree with root := f st.tree.root } :=
    G.inv.tinv.of_rel_gen hrel (fun r hr => by
      have : r ∈ st.tree.root.changes := by rw [← hc]; exact hr
      exact G.inv.tinv.req_ok r this) hd
  have inv' : SInv (gh.plus int) (Life.setRoot st f) :=
    ⟨G.inv.inv.toSInvB.of_tree hinv rfl fun i w h => ⟨w, h, rfl, fun _ h => h⟩, G.inv.inv.wref, G.inv.inv.glive⟩
  exact G.step (G.inv.of_tree inv' (fun _ w h => ⟨w, h, rfl⟩) (fun _ w h => ⟨w, h, rfl⟩) rfl) (.of_wx rfl)

theorem KG.unref_bump (cfg : Cfg) {s0 st : St} {int : Nat → Nat} {w : Nat} (G : KG gh s0 (bump int w) st) :
    Post (unrefW cfg st w) (KG gh s0 int) :=
  (G.unrefI cfg (bump_self int w)).mono fun _ G1 => unbump_bump int w ▸ G1

theorem unrefOpt_kg {cfg : Cfg} {s0 st : St} {int : Nat → Nat} {r : Option Nat} (G : KG gh s0 (bumpOpt int r) st) :
    Post (unrefOpt cfg st r) (KG gh s0 int) := by
  cases r with
  | none => exact Post.ok G
  | some w => exact G.unref_bump cfg

theorem handleMouse_kg {cfg : Cfg} (R : Repaired cfg) (fuel : Nat) {s0 st : St} {int : Nat → Nat} {win : Nat} {ww : Win} (info : Mouse)
    (G : KG gh s0 int st) (hw : LiveW st.tree win ww) (hsz : s0.tree.wins.size ≤ win + fuel) :
    Post (handleMouse cfg fuel st win info) fun r => KG gh s0 (bumpOpt int r.2) r.1 :=
  (handleMouse_walk (keepFrames R gh) trivial fuel info G.out.1 hw trivial (G.pres.size ▸ hsz)).mono fun _ h =>
    ⟨h.inv.1, h.inv.2, G.pres.trans h.rel⟩

/-- `for(w = source; w; w = w->parent) if(w == win) …` in `on_term_mouse`. -/
theorem reachesTop_ok {t : Tree} (inv : TInv t) (top : Nat) :
    ∀ (w : Nat) (ww : Win), LiveW t w ww → ∀ fuel, w < fuel → ∀ acc,
      ∃ b, reachesTop t fuel w top acc = .ok b ∧ (b = true → acc = true ∨ Reach t w top) := by
  intro w
  induction w using Nat.strongRecOn with
  | ind w ih =>
    intro ww hl fuel hf acc
    cases fuel with
    | zero => omega
    | succ fuel =>
      unfold reachesTop
      simp only [get_live hl, bind_ok]
      cases hp : ww.parent with
      | none =>
        simp only [pure_ok]
        refine ⟨_, rfl, fun hb => ?_⟩
        simp only [Bool.or_eq_true, decide_eq_true_eq] at hb
        rcases hb with hb | hb
        · exact .inl hb
        · subst hb; exact .inr (.refl _)
      | some p =>
        simp only
        obtain ⟨hlt, pw, hpl, _⟩ := inv.parent_ok w ww hl p hp
        obtain ⟨b, hb, hspec⟩ := ih p hlt pw hpl fuel (by omega) (acc || decide (w = top))
        refine ⟨b, hb, fun hbt => ?_⟩
        rcases hspec hbt with h | h
        · simp only [Bool.or_eq_true, decide_eq_true_eq] at h
          rcases h with h | h
          · exact .inl h
          · subst h; exact .inr (.refl _)
        · exact .inr (.step hl.1 hp h)

theorem dragSourceSet_kg {cfg : Cfg} {s0 st : St} {int : Nat → Nat} {source : Option Nat} (G : KG gh s0 (bumpOpt int source) st) :
    Post (dragSourceSet cfg st source) (KG gh s0 int) := by
  cases source with
  | none => exact Post.ok G
  | some src =>
    obtain ⟨sw, hsl⟩ := G.inv.held src (bump_self int src)
    unfold dragSourceSet
    obtain ⟨b, hb, hspec⟩ := reachesTop_ok G.inv.tinv 0 src sw hsl _ (chainFuel_gt hsl) false
    simp only [hb, bind_ok]
    cases b with
    | false => exact G.unref_bump cfg
    | true =>
      have hreach : Reach st.tree src 0 := (hspec rfl).resolve_left nofun
      exact KG.unref_bump cfg (G.setRoot (fun r => { r with dragSource := some src }) rfl
        fun s hs => by cases hs; exact ⟨sw, hsl, hreach⟩)

/-! The steps of `on_term_mouse`, from a state `s0` whose root window is alive, with fuel for its whole tree. -/
section
variable {cfg : Cfg} (R : Repaired cfg) {fuel : Nat} {s0 : St} (hF : s0.tree.wins.size ≤ fuel)
include R hF

/-- An event for the drag source: `_handle_mouse` on it, its counted return given back. -/
theorem toSource_kg {st : St} {int : Nat → Nat} (G : KG gh s0 int st)
    {src : Nat} (hsrc : st.tree.root.dragSource = some src) (m : Rect → Mouse) :
    Post (do let g ← absGeom st.tree src; let r ← handleMouse cfg fuel st src (m g); unrefOpt cfg r.1 r.2)
      (KG gh s0 int) := by
  obtain ⟨sw, hsl, _⟩ := G.inv.tinv.drag_ok src hsrc
  obtain ⟨g, hg⟩ := absGeom_ok G.inv.tinv hsl
  simp only [hg, bind_ok]
  exact (handleMouse_kg R fuel _ G hsl (by omega)).bind fun _ G1 => unrefOpt_kg G1

variable {rw : Win} (hroot : LiveW s0.tree 0 rw)
include hroot

theorem dragOutside_kg {st : St} {int : Nat → Nat} (G : KG gh s0 int st) (info : Mouse) (handled : Option Id) :
    Post (dragOutside cfg fuel st info handled) (KG gh s0 int) := by
  unfold dragOutside
  refine Post.ite (fun _ => ?_) fun _ => Post.ok G
  obtain ⟨r, hr⟩ := G.live hroot
  simp only [getW, get_live hr, bind_ok]
  cases hsrc : st.tree.root.dragSource with
  | none => exact Post.ok G
  | some src =>
    exact Post.ite (fun _ => toSource_kg R hF G hsrc fun g => ⟨mDRAG_OUTSIDE, info.button, info.line - g.top, info.col - g.left⟩)
      fun _ => Post.ok G

theorem mouseDeliver_kg {st : St} {int : Nat → Nat} (G : KG gh s0 (bump int 0) st) (info : Mouse) :
    Post (mouseDeliver cfg fuel st info) fun r => KG gh s0 int r.1 := by
  unfold mouseDeliver
  obtain ⟨r0, hr0⟩ := G.live hroot
  refine (handleMouse_kg R fuel info G hr0 (by omega)).bind fun r1 G1 => ?_
  refine (dragOutside_kg R hF hroot G1 info r1.2).bind fun st2 G2 => ?_
  refine (unrefOpt_kg G2).bind fun st3 G3 => ?_
  unfold dropRoot
  rw [if_pos R.mouseKeepsRoot]
  exact (G3.unref_bump cfg).bind fun _ G4 => Post.ok G4

theorem mouseDragStart_kg {st : St} {int : Nat → Nat} (G : KG gh s0 int st) : Post (mouseDragStart cfg fuel st) (KG gh s0 int) := by
  unfold mouseDragStart
  obtain ⟨r0, hr0⟩ := G.live hroot
  refine (handleMouse_kg R fuel _ G hr0 (by omega)).bind fun r1 G1 => ?_
  obtain ⟨r1w, hr1⟩ := G1.live hroot
  simp only [getW, get_live hr1, bind_ok]
  refine (dragSourceSet_kg (G1.setRoot (fun r => { r with dragSource := none }) rfl nofun)).bind fun st3 G3 => ?_
  obtain ⟨r3w, hr3⟩ := G3.live hroot
  simp only [get_live hr3, bind_ok]
  exact Post.ok (G3.setRoot _ rfl G3.inv.tinv.drag_ok)

theorem mouseRelease_kg {st : St} {int : Nat → Nat} (G : KG gh s0 int st) (info : Mouse) :
    Post (mouseRelease cfg fuel st info) (KG gh s0 int) := by
  unfold mouseRelease
  obtain ⟨r0, hr0⟩ := G.live hroot
  refine (handleMouse_kg R fuel { info with type := mDRAG_DROP } G hr0 (by omega)).bind fun r1 G1 => ?_
  refine (unrefOpt_kg G1).bind fun st2 G2 => ?_
  obtain ⟨r2, hr2⟩ := G2.live hroot
  simp only [getW, get_live hr2, bind_ok]
  have stop : Post (dragStop cfg fuel st2 info) (KG gh s0 int) := by
    unfold dragStop
    cases hsrc : st2.tree.root.dragSource with
    | none => exact Post.ok G2
    | some src => exact toSource_kg R hF G2 hsrc fun g => ⟨mDRAG_STOP, info.button, info.line - g.top, info.col - g.left⟩
  refine stop.bind fun st3 G3 => ?_
  obtain ⟨r3, hr3⟩ := G3.live hroot
  simp only [get_live hr3, bind_ok]
  exact Post.ok (G3.setRoot _ rfl G3.inv.tinv.drag_ok)

theorem mousePrepare_kg {st : St} {int : Nat → Nat} (G : KG gh s0 int st) (info : Mouse) :
    Post (mousePrepare cfg fuel st info) (KG gh s0 int) := by
  unfold mousePrepare
  refine Post.ite (fun _ => ?_) fun _ => Post.ite (fun _ => mouseDragStart_kg R hF hroot G) fun _ =>
    Post.ite (fun _ => mouseRelease_kg R hF hroot G info) fun _ => Post.ok G
  let f : WinTree.Root → WinTree.Root := fun r =>
    { r with mouseLastButton := info.button, mouseLastLine := info.line, mouseLastCol := info.col }
  have G1 := G.setRoot f rfl G.inv.tinv.drag_ok
  exact Post.ok (G1.step (G1.inv.of_same (st' := { setRoot st f with pressSeen := true }) rfl rfl rfl rfl rfl rfl) (.of_wx rfl))

end

theorem onTermMouse_keep {cfg : Cfg} (R : Repaired cfg) {st : St} {int : Nat → Nat} (K : KInv gh st int) (H : KeepingHandlers st)
    {rw : Win} (hroot : LiveW st.tree 0 rw) (info : Mouse) : Post (onTermMouse cfg st info) fun r => KG gh st int r.1 := by
  have hF : st.tree.wins.size ≤ routeFuel st := by simp only [routeFuel]; omega
  unfold onTermMouse keepRoot
  rw [if_pos R.mouseKeepsRoot]
  exact ((KG.start ⟨K, H⟩).refI hroot).bind fun _ G1 =>
    (mousePrepare_kg R hF hroot G1 info).bind fun _ G2 => mouseDeliver_kg R hF hroot G2 info

theorem step_mouse_ok {cfg : Cfg} (R : Repaired cfg) {st : St} (inv : SInv gh st) (H : KeepingHandlers st) (m : Mouse) :
    ∃ st' r, step cfg st (.mouse m) = .ok (st', r) ∧ SInv gh st' ∧ KeepingHandlers st' :=
  guard_keeps (Q := fun s => SInv gh s ∧ KeepingHandlers s) ⟨inv, H⟩ fun hT => okR_keeps <| by
    rw [emitMouse, if_pos R.snapshotRouting, emitMouseNew_eq]
    exact emitVia_keep inv H hT fun _ _ K H hrl => onTermMouse_keep R K H hrl m

end Tickit.Life
