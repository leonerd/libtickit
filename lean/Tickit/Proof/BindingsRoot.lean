import Tickit.Proof.BindingsExec
import Tickit.Model.BindingsRoot
/-
  C16, the root window as a client of its terminal's bindings (`Model/BindingsRoot.lean`): a client that hands the
  identifiers of its own live bindings to `unbind_event_id` removes exactly those and nothing else (`unbindAll_owns`); the
  invariant `WInv` of a terminal with root windows coming and going.
-/
namespace Tickit.Bindings

/-- the client's bindings: (key, identifier) pairs of distinct live nodes that did not ask for an unbind notification -/
def Owns (st : St) (ps : List (Nat × Int)) : Prop :=
  (ps.map (·.1)).Nodup ∧
  ∀ p ∈ ps, ∃ b ∈ st.list, b.key = p.1 ∧ b.id = p.2 ∧ b.id ≠ TOMBSTONE ∧ b.flags.unbind = false

section
variable (own : Owner) (beh : Behaviour)

theorem exec_unbindId_quiet {st : St} {b : Node} {fuel : Nat} (hf : findId st.list b.id = some b) (hu : b.flags.unbind = false) :
    exec Cfg.repaired own beh (fuel + 1) (.unbindId b.id) st = .ok (unbindSt st b, 0) := by
  rw [exec_unbindId _ hf, hu]; rfl

/-- what is left, no walker running, when the bindings with keys `ks` have been unbound: they are off the chain, the
    requests are recorded, nothing else has changed -/
def unboundSt (st : St) (ks : List Nat) : St :=
  { st with list := st.list.filter (fun b => !ks.contains b.key), log := ks.reverse.map Ev.unbindReq ++ st.log }

theorem unboundSt_nil (st : St) : unboundSt st [] = st := by
  cases st; simp [unboundSt]

theorem unboundSt_unbindSt {st : St} (hni : st.isIter = false) (b : Node) (ks : List Nat) :
    unboundSt (unbindSt st b) ks = unboundSt st (b.key :: ks) := by
  have hL : (eraseKey st.list b.key).filter (fun x => !ks.contains x.key) =
      st.list.filter (fun x => !(b.key :: ks).contains x.key) := by
    simp only [eraseKey, List.filter_filter]
    apply List.filter_congr
    intro x _
    simp only [List.contains_cons]
    by_cases hx : x.key = b.key <;> simp [hx]
  unfold unboundSt unbindSt
  simp only [hni, Bool.not_false, if_true, Bool.false_or]
  rw [hL]; simp

/-- The client hands its identifiers to `unbind_event_id`, one after the other (`tickit_window_destroy` of a root window):
    every call finds the client's own binding, no handler is called, and the trace records exactly the client's keys. -/
theorem unbindAll_owns (fuel : Nat) : ∀ (ps : List (Nat × Int)) (st : St), Inv st → st.isIter = false → Owns st ps →
    unbindAll Cfg.repaired own beh (fuel + 1) (ps.map (·.2)) st = .ok (unboundSt st (ps.map (·.1))) ∧
      Inv (unboundSt st (ps.map (·.1))) := by
  intro ps
  induction ps with
  | nil =>
    intro st h _ _
    simp only [List.map_nil]; rw [unboundSt_nil]; exact ⟨rfl, h⟩
  | cons p ps ih =>
    intro st h hni ho
    obtain ⟨b, hbm, hbk, hbid, hbl, hbu⟩ := ho.2 p (List.mem_cons_self ..)
    have hex := exec_unbindId_quiet own beh (fuel := fuel) (findId_of_node h hbm hbl) hbu
    have hnd : (ps.map (·.1)).Nodup ∧ p.1 ∉ ps.map (·.1) := by
      have := ho.1
      simp only [List.map_cons, List.nodup_cons] at this
      exact ⟨this.2, this.1⟩
    have ho1 : Owns (unbindSt st b) ps := by
      refine ⟨hnd.1, fun q hq => ?_⟩
      obtain ⟨c, hcm, hck, hcid, hcl, hcu⟩ := ho.2 q (List.mem_cons_of_mem _ hq)
      refine ⟨c, ?_, hck, hcid, hcl, hcu⟩
      simp only [unbindSt, hni, Bool.not_false, if_true]
      exact mem_eraseKey.2 ⟨hcm, by rw [hck, hbk]; exact fun e => hnd.2 (e ▸ List.mem_map_of_mem hq)⟩
    obtain ⟨he, hinv⟩ := ih (unbindSt st b) (h.of_unbind hbm hbl) hni ho1
    rw [unboundSt_unbindSt hni, hbk] at he hinv
    refine ⟨?_, hinv⟩
    simp only [List.map_cons, unbindAll]
    rw [← hbid, hex]
    exact he

end

theorem Inv.of_slotIds {st : St} (h : Inv st) (l : List Int) (hlen : l.length = st.slotIds.length) (hpos : ∀ id ∈ l, 0 ≤ id) :
    Inv { st with slotIds := l } :=
  { h with slotPos := hpos, keysLt := by simp only [hlen]; exact h.keysLt, logKeys := by simp only [hlen]; exact h.logKeys }

theorem libBind_inv {st : St} (h : Inv st) (ev : Int) (i : Nat) : Inv (libBind st ev i) := by
  have hb := h.of_bind ev false noFlags (LIB_H + i)
  refine hb.of_slotIds (st.slotIds ++ [0]) (by simp [bindEvent]) ?_
  intro id hid
  rcases List.mem_append.1 hid with hid | hid
  · exact h.slotPos id hid
  · simp at hid; omega

theorem libBind_list (st : St) (ev : Int) (i : Nat) :
    (libBind st ev i).list = st.list ++ [⟨st.slotIds.length, nextId st, ev, noFlags, some (LIB_H + i)⟩] := by
  simp [libBind, bindEvent, nextId]

theorem libBind_log (st : St) (ev : Int) (i : Nat) :
    (libBind st ev i).log = Ev.bound st.slotIds.length (nextId st) ev false noFlags :: st.log := by
  simp [libBind, bindEvent, nextId]

theorem libBind_slotIds (st : St) (ev : Int) (i : Nat) : (libBind st ev i).slotIds = st.slotIds ++ [0] := rfl

theorem libBind_refOk {own : Owner} {st : St} (h : RefOk own st) (ev : Int) (i : Nat) : RefOk own (libBind st ev i) :=
  h.of_eq rfl rfl rfl

theorem nextId_pos (st : St) : 1 ≤ nextId st := by
  have := (maxId_ge st.list).1
  simp only [nextId]; omega

theorem RefOk.of_more_refs {own : Owner} {st : St} (h : RefOk own st) (n : Nat) (hn : st.refs ≤ n) : RefOk own { st with refs := n } :=
  ⟨h.1, fun ho => Nat.le_trans (h.2 ho) hn⟩

/-- nobody but the root window has unbound the root window's three bindings -/
def RootIntact (w : WSt) : Prop := ∀ r, w.root = some r → ∀ k ∈ r.keys, ¬ reqIn w.st.log k

structure WInv (own : Owner) (w : WSt) : Prop where
  top : Top w.st
  ref : RefOk own w.st
  lib : ∀ r, w.root = some r →
    r.keys.length = r.ids.length ∧ r.keys.Nodup ∧ 1 ≤ r.refs ∧
    (∀ p ∈ r.keys.zip r.ids, ∃ ev, Ev.bound p.1 p.2 ev false noFlags ∈ w.st.log) ∧
    (∀ k ∈ r.keys, k ∈ w.libKeys) ∧
    -- the root window's reference on the terminal, besides the application's
    (own.holdsRef = true → b2n w.st.userRef + w.st.frozenRefs + 1 ≤ w.st.refs)
  occ : 1 ≤ w.st.nextOcc

theorem WInv.root_refs {own : Owner} {w : WSt} (h : WInv own w) {r : Root} (hr : w.root = some r) : 1 ≤ r.refs :=
  (h.lib r hr).2.2.1

theorem WInv.init (own : Owner) : WInv own WSt.init :=
  ⟨Top.init, RefOk.init own, fun r hr => by simp [WSt.init] at hr, by simp [WSt.init, St.init]⟩

theorem liveAt_unboundSt {st : St} {ks : List Nat} {k : Nat} (hk : k ∉ ks) : liveAt (unboundSt st ks).log k ↔ liveAt st.log k := by
  have reqs : ∀ l : List Nat, k ∉ l → (liveAt (l.map Ev.unbindReq ++ st.log) k ↔ liveAt st.log k) := by
    intro l h
    induction l with
    | nil => simp
    | cons x xs ih =>
      simp only [List.map_cons, List.cons_append]
      rw [liveAt_cons (by
        simp only [Ev.affects, ne_eq, Option.some.injEq]
        intro e; exact h (by rw [e]; exact List.mem_cons_self ..))]
      exact ih (fun hm => h (List.mem_cons_of_mem _ hm))
  exact reqs _ fun hm => hk (List.mem_reverse.1 hm)

theorem enter_of_unboundSt {st : St} {ks : List Nat} {k hh n fl occ : Nat} (hm : Ev.enter k hh n fl occ ∈ (unboundSt st ks).log) :
    Ev.enter k hh n fl occ ∈ st.log := by
  rcases List.mem_append.1 hm with hm | hm
  · simp at hm
  · exact hm

def Root.pairs (r : Root) : List (Nat × Int) := r.keys.zip r.ids

theorem WInv.owns {own : Owner} {w : WSt} (h : WInv own w) (hi : RootIntact w) {r : Root} (hr : w.root = some r) :
    Owns w.st r.pairs := by
  obtain ⟨hlen, hnd, _, hb, _, _⟩ := h.lib r hr
  constructor
  · simp only [Root.pairs]
    rw [List.map_fst_zip (by omega)]
    exact hnd
  · intro p hp
    obtain ⟨ev, hbd⟩ := hb p hp
    have hk : p.1 ∈ r.keys := (List.of_mem_zip hp).1
    have hl : liveAt w.st.log p.1 := ⟨noFlags, ⟨_, _, _, hbd⟩, hi r hr p.1 hk, fun ho => by simp [noFlags] at ho⟩
    obtain ⟨b, _, hbm, hbk, hbid, hbf, hbl⟩ := id_denotes_binding h.top.1 hbd hl
    exact ⟨b, hbm, hbk, hbid, hbl, by rw [hbf]; rfl⟩

/-- `tickit_window_new_root2` -/
theorem rootNew_inv {own : Owner} {w : WSt} (h : WInv own w) : WInv own (rootNew w) := by
  unfold rootNew
  cases hr : w.root with
  | some r => simpa [hr] using h
  | none =>
    simp only
    have h0 : Inv { w.st with refs := w.st.refs + 1 } := h.top.1.of_refs _ (by omega)
    have hro0 : RefOk own { w.st with refs := w.st.refs + 1 } := h.ref.of_more_refs _ (by simp)
    have h1 := libBind_inv h0 1 0
    have h2 := libBind_inv h1 2 1
    have h3 := libBind_inv h2 3 2
    refine ⟨⟨h3, h.top.2⟩, libBind_refOk (libBind_refOk (libBind_refOk hro0 1 0) 2 1) 3 2, ?_, h.occ⟩
    intro r' hr'
    simp only [Option.some.injEq] at hr'
    subst hr'
    refine ⟨rfl, ?_, Nat.le_refl _, ?_, ?_, ?_⟩
    · simp [libBind_slotIds]
    · intro p hp
      simp only [List.zip_cons_cons, List.zip_nil_right, List.mem_cons, List.not_mem_nil, or_false] at hp
      rcases hp with rfl | rfl | rfl
      · exact ⟨1, by rw [libBind_log, libBind_log, libBind_log]; simp⟩
      · exact ⟨2, by rw [libBind_log, libBind_log]; simp⟩
      · exact ⟨3, by rw [libBind_log]; simp⟩
    · intro k hk; simp only [List.mem_append]; exact Or.inr hk
    · intro ho
      have := h.ref.2 ho
      rw [h.top.2] at this
      simp only [libBind, bindEvent] at this ⊢
      simp at this ⊢
      omega

/-- `tickit_window_new_root2` gets identifiers no live binding has, and they are the ones the root window keeps. -/
theorem rootNew_fresh (own : Owner) {w : WSt} (h : WInv own w) (hn : w.root = none) :
    ∃ r, (rootNew w).root = some r ∧ r.ids.length = 3 ∧ r.keys.length = 3 ∧
      Owns (rootNew w).st r.pairs ∧ (∀ id ∈ r.ids, ∀ b ∈ w.st.list, b.id ≠ id) := by
  have hw := rootNew_inv h
  -- the three bindings take new slots at the end of the chain, and nothing is unbound
  obtain ⟨r, hr, hi3, hk3, hkeys, hsub, hreq⟩ : ∃ r, (rootNew w).root = some r ∧ r.ids.length = 3 ∧ r.keys.length = 3 ∧
      (∀ k ∈ r.keys, w.st.slotIds.length ≤ k) ∧ (∀ b ∈ w.st.list, b ∈ (rootNew w).st.list) ∧
      (∀ k, reqIn (rootNew w).st.log k → reqIn w.st.log k) := by
    simp only [rootNew, hn]
    refine ⟨_, rfl, rfl, rfl, fun k hk => ?_, fun b hb => ?_, fun k hk => ?_⟩
    · simp only [List.mem_cons, List.not_mem_nil, or_false, libBind_slotIds, List.length_append, List.length_singleton] at hk
      omega
    · rw [libBind_list, libBind_list, libBind_list]
      simp [hb]
    · simpa [libBind_log, reqIn] using hk
  have hint : RootIntact (rootNew w) := fun r' hr' k hk hq => by
    rw [hr] at hr'; cases hr'
    exact Nat.lt_irrefl _ (Nat.lt_of_lt_of_le (h.top.1.logKeys _ (hreq k hq) k rfl) (hkeys k hk))
  have hown := hw.owns hint hr
  refine ⟨r, hr, hi3, hk3, hown, fun id hid b hb heq => ?_⟩
  -- the identifier belongs to one of the three new nodes, whose key no old node has; live identifiers are unique
  obtain ⟨p, hp, rfl⟩ : ∃ p ∈ r.pairs, p.2 = id := by
    have : id ∈ r.pairs.map (·.2) := by rw [Root.pairs, List.map_snd_zip (by omega)]; exact hid
    obtain ⟨p, hp, rfl⟩ := List.mem_map.1 this
    exact ⟨p, hp, rfl⟩
  obtain ⟨c, hcm, hck, hcid, hcl, _⟩ := hown.2 p hp
  have hkk := hw.top.1.idsUnique c hcm b (hsub b hb) hcl (by rw [hcid, heq])
  have := hkeys p.1 (List.of_mem_zip hp).1
  have := h.top.1.keysLt b hb
  omega

section
variable (own : Owner) (beh : Behaviour)

/-- `keep = false` for the one operation after which nothing is claimed (`destroy` of the terminal). -/
def PostW (own : Owner) (keep : Bool) : Res WSt → Prop :=
  Res.Sat fun w' => w'.st.dead = false → keep = true → WInv own w'

/-- **The root window goes** (`tickit_window_unref` to zero → `tickit_window_destroy`): as long as nobody else has unbound
    its three bindings, the three `tickit_term_unbind_event_id` calls find exactly these bindings, no handler is called,
    every other binding stays as it is, and the terminal loses one reference. -/
theorem rootUnref_spec {w : WSt} (h : WInv own w) (hi : RootIntact w) {r : Root} (hr : w.root = some r)
    (hlast : r.refs = 1) (fuel : Nat) :
    unbindAll Cfg.repaired own beh (fuel + 1) r.ids w.st = .ok (unboundSt w.st r.keys) ∧
      Inv (unboundSt w.st r.keys) ∧ RefOk own (unboundSt w.st r.keys) ∧
      Res.Sat (fun w' => w'.root = none ∧ w'.libKeys = w.libKeys ∧
          ((w'.st.dead = false ∧ w'.st = { unboundSt w.st r.keys with refs := w.st.refs - 1 } ∧ WInv own w') ∨
           (w'.st.dead = true ∧ TraceOk w'.st.log ∧ ∃ seg, w'.st.log = seg ++ (unboundSt w.st r.keys).log)))
        (rootUnref Cfg.repaired own beh (fuel + 1) w) := by
  obtain ⟨hlen, _, _, _, _, hrefs⟩ := h.lib r hr
  obtain ⟨he, h1⟩ := unbindAll_owns own beh fuel r.pairs w.st h.top.1 h.top.2 (h.owns hi hr)
  have hk : r.pairs.map (·.1) = r.keys := List.map_fst_zip (by omega)
  rw [show r.pairs.map (·.2) = r.ids from List.map_snd_zip (by omega), hk] at he
  rw [hk] at h1
  have hro1 : RefOk own (unboundSt w.st r.keys) := h.ref.of_eq rfl rfl rfl
  have hni : w.st.isIter = false := h.top.2
  refine ⟨he, h1, hro1, ?_⟩
  have hun := unref_post (own := own) (beh := beh) (fuel := fuel) h1 (fun hit => by have : w.st.isIter = true := hit; rw [hni] at this; cases this)
  simp only [rootUnref, hr, hlast, Nat.lt_irrefl, if_false, he]
  refine hun.cases trivial fun ⟨st2, x⟩ _ hun => ⟨rfl, rfl, ?_⟩
  rcases hun with ⟨hd2, h2r, rfl⟩ | ⟨hd2, _, htr, _, seg, hseg, _⟩
  · refine Or.inl ⟨hd2, rfl, ⟨h1.of_refs _ (by omega), hni⟩, ⟨hro1.1, fun hh => ?_⟩, nofun, h.occ⟩
    have := hrefs hh
    simp only [unboundSt, hni, b2n_false, Nat.add_zero]
    omega
  · exact Or.inr ⟨hd2, htr, seg, hseg⟩

theorem WInv.of_root {w : WSt} (h : WInv own w) {r r' : Root} (hr : w.root = some r) (hk : r'.keys = r.keys) (hids : r'.ids = r.ids)
    (hrefs : 1 ≤ r'.refs) : WInv own { w with root := some r' } := by
  refine ⟨h.top, h.ref, fun x hx => ?_, h.occ⟩
  simp only [Option.some.injEq] at hx
  subst hx
  obtain ⟨a, b, _, d, e, f⟩ := h.lib r hr
  exact ⟨by rw [hk, hids]; exact a, by rw [hk]; exact b, hrefs, by rw [hk, hids]; exact d, by rw [hk]; exact e, f⟩

theorem RootIntact.of_root {w : WSt} (h : RootIntact w) {r r' : Root} (hr : w.root = some r) (hk : r'.keys = r.keys) :
    RootIntact { w with root := some r' } := by
  intro x hx
  simp only [Option.some.injEq] at hx
  subst hx
  rw [hk]; exact h r hr

/-- `tickit_window_unref`: the invariant is kept if the terminal lives on; the root window is gone, or has one reference less
    and nothing else has changed. -/
theorem rootUnref_good (fuel : Nat) {w : WSt} (h : WInv own w) (hi : RootIntact w) :
    Res.Sat (fun w' => (w'.st.dead = false → WInv own w') ∧
        (w'.root = none ∨ ∃ r, w.root = some r ∧ w' = { w with root := some { r with refs := r.refs - 1 } }))
      (rootUnref Cfg.repaired own beh fuel w) := by
  cases hr : w.root with
  | none => simp only [rootUnref, hr]; exact ⟨fun _ => h, Or.inl hr⟩
  | some r =>
    by_cases hgt : r.refs > 1
    · simp only [rootUnref, hr, hgt, if_true]
      exact ⟨fun _ => h.of_root own hr rfl rfl (by simp; omega), Or.inr ⟨r, rfl, rfl⟩⟩
    · have hlast : r.refs = 1 := by have := h.root_refs hr; omega
      cases fuel with
      | zero =>
        simp only [rootUnref, hr, hgt, if_false]
        cases hids : r.ids with
        | nil => simp [unbindAll, exec, Res.Sat]
        | cons x xs => simp [unbindAll, exec, Res.Sat]
      | succ fuel =>
        refine (rootUnref_spec own beh h hi hr hlast fuel).2.2.2.mono fun w' _ hres => ⟨fun hal => ?_, Or.inl hres.1⟩
        rcases hres.2.2 with ⟨_, _, hw⟩ | ⟨hd, _⟩
        · exact hw
        · rw [hd] at hal; cases hal

theorem rootRelease_none (fuel : Nat) : ∀ (n : Nat) (w : WSt), w.root = none → rootRelease Cfg.repaired own beh fuel n w = .ok w := by
  intro n
  induction n with
  | zero => intro w _; rfl
  | succ n ih => intro w hw; simp only [rootRelease, rootUnref, hw]; exact ih w hw

theorem rootRelease_good (fuel : Nat) : ∀ (n : Nat) (w : WSt), WInv own w → RootIntact w →
    PostW own true (rootRelease Cfg.repaired own beh fuel n w) := by
  intro n
  induction n with
  | zero => intro w h _; exact fun _ _ => h
  | succ n ih =>
    intro w h hi
    simp only [rootRelease]
    refine (rootUnref_good own beh fuel h hi).cases trivial fun w1 _ hp => ?_
    simp only
    rcases hp.2 with hn | ⟨r, hr, rfl⟩
    · rw [rootRelease_none own beh fuel n w1 hn]
      exact fun hal _ => hp.1 hal
    · exact ih _ (hp.1 h.top.1.alive.2) (hi.of_root hr rfl)

def WOpOk : WOp → Prop
  | .base op => OpOk op
  | _ => True

theorem execW_good (hs : Safe own beh) (fuel : Nat) (op : WOp) (hop : WOpOk op) {w : WSt} (h : WInv own w) (hi : RootIntact w) :
    PostW own (decide (op ≠ .base .destroy)) (execW Cfg.repaired own beh fuel op w) := by
  cases op with
  | rootNew => simp only [execW, PostW]; exact fun _ _ => rootNew_inv h
  | rootRef =>
    simp only [execW, PostW, rootRef]
    cases hr : w.root with
    | none => exact fun _ _ => h
    | some r => exact fun _ _ => h.of_root own hr rfl rfl (by simp)
  | rootClose =>
    simp only [execW, PostW, rootClose]
    cases hr : w.root with
    | none => exact fun _ _ => h
    | some r => exact fun _ _ => h.of_root own hr rfl rfl (h.root_refs (r := r) hr)
  | rootUnref =>
    simp only [execW]
    exact (rootUnref_good own beh fuel h hi).mono fun w' _ hw hal _ => hw.1 hal
  | base o =>
    by_cases hd : o = .destroy
    · subst hd
      simp only [execW, if_true]
      refine (rootRelease_good own beh fuel (match w.root with | some r => r.refs | none => 0) w h hi).cases trivial
        fun w1 _ hp => ?_
      simp only
      cases hdd : w1.st.dead with
      | true => exact fun _ h => nomatch h
      | false =>
        simp only [Bool.false_eq_true, if_false, execOp]
        exact ((hp hdd rfl).top.destroy_post (own := own) (beh := beh) fuel).cases trivial fun p _ _ _ h => nomatch h
    · simp only [execW, hd, if_false]
      refine (execOp_good hs fuel o hop hd w.st h.top h.ref).cases trivial fun st' _ hpo hal _ => ?_
      rcases hpo with ⟨_, htop, hro, s⟩ | ⟨hdd, _⟩
      · refine ⟨htop, hro, fun r hr => ?_, Nat.le_trans h.occ s.occMono⟩
        obtain ⟨a, b, c, d, e, f⟩ := h.lib r hr
        obtain ⟨seg, hseg, _⟩ := s.logExt
        refine ⟨a, b, c, fun p hp => ?_, e, fun hh => ?_⟩
        · obtain ⟨ev, hm⟩ := d p hp
          exact ⟨ev, by simp only; rw [hseg]; exact List.mem_append_right _ hm⟩
        · have := f hh
          obtain ⟨l2, _, l5⟩ := s.life
          simp only at l2 l5 ⊢
          omega
      · simp only at hal; rw [hdd] at hal; cases hal

/-- along the run, nobody but the root window unbinds the root window's bindings -/
def Intact (fuel : Nat) : List WOp → WSt → Prop
  | [], _ => True
  | op :: rest, w => RootIntact w ∧ ∀ w', execW Cfg.repaired own beh fuel op w = .ok w' → Intact fuel rest w'

theorem execWOps_good (hs : Safe own beh) (fuel : Nat) : ∀ (ops : List WOp) (w : WSt), (∀ op ∈ ops, WOpOk op) → WInv own w →
    Intact own beh fuel ops w →
    Res.Sat (fun w' => WOp.base .destroy ∉ ops → w'.st.dead = false → WInv own w') (execWOps Cfg.repaired own beh fuel ops w) := by
  intro ops
  induction ops with
  | nil => intro w _ h _; exact fun _ _ => h
  | cons op rest ih =>
    intro w hops h hint
    simp only [execWOps]
    refine (execW_good own beh hs fuel op (hops op (List.mem_cons_self ..)) h hint.1).cases trivial fun w' hc hp => ?_
    by_cases hstop : (op = WOp.base Op.destroy || w'.st.dead) = true
    · simp only [hstop, if_true]
      intro hnd hal
      simp only [Bool.or_eq_true, decide_eq_true_eq] at hstop
      rcases hstop with hd | hd
      · exact absurd (by rw [hd]; exact List.mem_cons_self ..) hnd
      · rw [hd] at hal; cases hal
    · simp only [hstop, Bool.false_eq_true, if_false]
      simp only [Bool.or_eq_true, decide_eq_true_eq, not_or, Bool.not_eq_true] at hstop
      have hw' : WInv own w' := hp hstop.2 (by simp [hstop.1])
      exact (ih w' (fun o ho => hops o (List.mem_cons_of_mem _ ho)) hw' (hint.2 w' hc)).mono fun w'' _ hw hnd hal =>
        hw (fun hm => hnd (List.mem_cons_of_mem _ hm)) hal

/-- `RootIntact` and `Intact` as Booleans, for `decide` in the examples. -/
def rootIntactB (w : WSt) : Bool :=
  match w.root with
  | none => true
  | some r => r.keys.all fun k => !(w.st.log.contains (Ev.unbindReq k))

theorem rootIntact_of_B {w : WSt} (h : rootIntactB w = true) : RootIntact w := by
  intro r hr k hk hreq
  simp only [rootIntactB, hr, List.all_eq_true, Bool.not_eq_true', List.contains_eq_mem, decide_eq_false_iff_not] at h
  exact h k hk hreq

def intactB (fuel : Nat) : List WOp → WSt → Bool
  | [], _ => true
  | op :: rest, w =>
    rootIntactB w && match execW Cfg.repaired own beh fuel op w with
      | .ok w' => intactB fuel rest w'
      | _ => true

theorem intact_of_B (fuel : Nat) : ∀ (ops : List WOp) (w : WSt), intactB own beh fuel ops w = true → Intact own beh fuel ops w := by
  intro ops
  induction ops with
  | nil => intro _ _; trivial
  | cons op rest ih =>
    intro w h
    simp only [intactB, Bool.and_eq_true] at h
    refine ⟨rootIntact_of_B h.1, fun w' hw' => ?_⟩
    rw [hw'] at h
    exact ih w' h.2

end

end Tickit.Bindings
