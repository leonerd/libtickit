import Tickit.Proof.Utf8
/-
  The runtime oracle of `bin/check` (Driver/Utf8.lean) decodes the effective bytes of a buffer with a list
  decoder of its own, `refScan`, strict about continuation bytes.  One step of it agrees with one step of the
  strict scan over memory (`refStep_stepStrict`), so the two scans find the same characters and the same ending;
  `effectiveOf` computes the effective bytes.
-/
namespace Tickit
namespace Utf8

theorem refClassify_spec (n cp : Nat) :
    (IsControl cp → ∃ why, refClassify Width.wcwidth n cp = .err why) ∧
    (¬ IsControl cp → refClassify Width.wcwidth n cp = .ch ⟨n, cp, Width.wcwidth cp⟩) := by
  unfold refClassify IsControl
  constructor
  · intro h
    by_cases h1 : cp < 0x20
    · exact ⟨"C0 control", by simp [h1]⟩
    · by_cases h2 : cp = 0x7f
      · exact ⟨"DEL", by simp [h2]⟩
      · have h3 : 0x80 ≤ cp ∧ cp < 0xa0 := by omega
        exact ⟨"C1 control", by simp only [h1, h2, if_false]; simp [h3]⟩
  · intro h
    have h1 : ¬ cp < 0x20 := by omega
    have h2 : ¬ cp = 0x7f := by omega
    have h3 : ¬ (0x80 ≤ cp ∧ cp < 0xa0) := by omega
    have h4 : ¬ Width.wcwidth cp < 0 := Int.not_lt.2 (wcwidth_nonneg h)
    simp only [h1, h2, h3, h4, if_false]

theorem badCont_iff (mem : Mem) (p : Nat) (len : Option Nat) :
    badCont mem p len = true ↔
      (len ≠ some 0 ∧ (mem p).toNat ≠ 0 ∧ leadLen (mem p).toNat ≠ 0 ∧ lenLt len (leadLen (mem p).toNat) = false ∧
        ∃ i, 1 ≤ i ∧ i < leadLen (mem p).toNat ∧ (mem (p + i)).toNat ≠ 0 ∧ isContByte (mem (p + i)).toNat = false) := by
  unfold badCont
  simp only [Bool.and_eq_true, decide_eq_true_eq, Bool.not_eq_true', List.any_eq_true, List.mem_range]
  constructor
  · rintro ⟨⟨⟨⟨h1, h2⟩, h3⟩, h4⟩, i, hi, ⟨h5, h6⟩, h7⟩
    exact ⟨h1, h2, h3, h4, i, h5, hi, h6, h7⟩
  · rintro ⟨h1, h2, h3, h4, i, h5, hi, h6, h7⟩
    exact ⟨⟨⟨⟨h1, h2⟩, h3⟩, h4⟩, i, hi, ⟨h5, h6⟩, h7⟩

theorem badCont_memOfBytes (l : List Nat) (h : ∀ p, p < l.length → badCont (memOfBytes l) p none = false) :
    ∀ p len, badCont (memOfBytes l) p len = false := by
  intro p len
  refine Bool.eq_false_iff.2 fun hb => ?_
  obtain ⟨_, h0, hN, _, w⟩ := (badCont_iff _ p len).1 hb
  have hp : p < l.length := Nat.lt_of_not_le fun h => h0 (memOfBytes_end h)
  exact Bool.eq_false_iff.1 (h p hp) ((badCont_iff _ p none).2 ⟨nofun, h0, hN, rfl, w⟩)

theorem stepStrict_err_of_errAt {mem : Mem} {p : Nat} {len : Option Nat} (h : ErrAt mem p len) :
    ∃ hi, stepStrict mem p len = .err hi := by
  unfold stepStrict; split
  · exact ⟨_, rfl⟩
  · exact (stepAt_err_iff mem p len).2 h

theorem stepStrict_eq_stepAt {mem : Mem} {p : Nat} {len : Option Nat}
    (h : ∀ i, 1 ≤ i → i < leadLen (mem p).toNat → (mem (p + i)).toNat ≠ 0 →
      isContByte (mem (p + i)).toNat = true) : stepStrict mem p len = stepAt mem p len := by
  rw [stepStrict, if_neg]
  intro hb
  obtain ⟨_, _, _, _, i, h1, h2, h3, h4⟩ := (badCont_iff mem p len).1 hb
  rw [h i h1 h2 h3] at h4; cases h4

theorem scanStrict_eq_scan {mem : Mem} (hno : ∀ p len, badCont mem p len = false) :
    ∀ (f s : Nat) (l : Option Nat), scanStrict mem f s l = scan mem f s l
  | 0, _, _ => rfl
  | f + 1, s, l => by
    rw [scanStrict, scan, stepStrict, hno s l]
    simp only [Bool.false_eq_true, if_false, scanStrict_eq_scan hno f]

/-- The two steps found the same (the reference step has no read index, and a reason with its error). -/
def StepRel : Step → RefStep → Prop
  | .stop _, .eof => True
  | .err _, .err _ => True
  | .ch n cp w _, .ch c => c = ⟨n, cp, w⟩
  | _, _ => False

theorem stepRel_err {s : Step} {r : RefStep} (hs : ∃ hi, s = .err hi) (hr : ∃ why, r = .err why) : StepRel s r := by
  obtain ⟨hi, rfl⟩ := hs; obtain ⟨why, rfl⟩ := hr; trivial

theorem stepRel_classify (n cp hi : Nat) :
    StepRel (if IsControl cp then .err hi else .ch n cp (Width.wcwidth cp) hi) (refClassify Width.wcwidth n cp) := by
  by_cases hc : IsControl cp
  · rw [if_pos hc]; exact stepRel_err ⟨_, rfl⟩ ((refClassify_spec n cp).1 hc)
  · rw [if_neg hc, (refClassify_spec n cp).2 hc]; rfl

theorem Effective.len_ge {mem : Mem} {str : Nat} {len : Option Nat} {bs : List Nat} (hE : Effective mem str len bs)
    (l : Nat) (hl : len = some l) : bs.length ≤ l := by
  rcases hE.2 with h | ⟨_, h⟩
  · exact Nat.le_of_eq (Option.some.inj (h.symm.trans hl))
  · exact Nat.le_of_lt (h l hl)

theorem Effective.drop {mem : Mem} {str : Nat} {len : Option Nat} {bs : List Nat} (hE : Effective mem str len bs)
    (n : Nat) (hn : n ≤ bs.length) : Effective mem (str + n) (lenDec len n) (bs.drop n) := by
  obtain ⟨h1, h2⟩ := hE
  refine ⟨fun i hi => ?_, ?_⟩
  · rw [List.length_drop] at hi
    rw [List.getD_eq_getElem?_getD, List.getElem?_drop, ← List.getD_eq_getElem?_getD, Nat.add_assoc]
    exact h1 (n + i) (by omega)
  · rw [List.length_drop, Nat.add_assoc, Nat.add_sub_cancel' hn]
    rcases h2 with rfl | ⟨hz, hlt⟩
    · exact .inl rfl
    · refine .inr ⟨hz, fun l hl' => ?_⟩
      cases len with
      | none => cases hl'
      | some l0 => cases hl'; exact Nat.sub_lt_sub_right hn (hlt l0 rfl)

theorem Effective.step {mem : Mem} {str : Nat} {len : Option Nat} {bs : List Nat} (hE : Effective mem str len bs)
    {n cp hi : Nat} {w : Int} (h : stepAt mem str len = .ch n cp w hi) :
    0 < n ∧ n ≤ bs.length ∧ Effective mem (str + n) (lenDec len n) (bs.drop n) := by
  have c := stepAt_ch_inv h
  have hr := nextUtf8_reads mem str len c.len_ne c.nz
  rw [c.dec] at hr
  obtain ⟨_, hn, hlen, hnz⟩ := hr
  have hle : n ≤ bs.length := by
    rcases hE.2 with h | ⟨hz, _⟩
    · exact hlen _ h
    · exact Nat.le_of_not_lt fun hlt => hnz _ (Nat.le_add_right ..) (Nat.add_lt_add_left hlt str) hz
  exact ⟨hn, hle, hE.drop n hle⟩

/-- The reference decoder at a lead byte: too few bytes, a byte that is no continuation byte, or the value the
    model decodes.  In each arm it tests `isCont` of the bytes it is about to use, all at once. -/
theorem refStep_lead (w : Nat → Int) (mem : Mem) (str : Nat) (rest : List Nat) (hn : leadLen (mem str).toNat ≠ 0)
    (hbs : ∀ i, i < rest.length + 1 → ((mem str).toNat :: rest).getD i 0 = (mem (str + i)).toNat) :
    refStep w ((mem str).toNat :: rest) =
      if rest.length + 1 < leadLen (mem str).toNat then .err "truncated sequence"
      else if (List.range' 1 (leadLen (mem str).toNat - 1)).all fun i => isContByte (mem (str + i)).toNat then
        refClassify w (leadLen (mem str).toNat) (seqValue mem str (leadLen (mem str).toNat))
      else .err "truncated sequence (bad continuation)" := by
  rcases leadLen_spec (mem str).toNat with ⟨_, h⟩ | ⟨hb, h⟩ | ⟨hb, h⟩ | ⟨hb, h⟩
  · exact absurd h hn
  · rw [h]; unfold refStep; dsimp only
    rw [if_neg (by omega), if_neg (by omega), if_pos hb.2]
    match rest, hbs with
    | [], _ => rfl
    | b1 :: _, hbs =>
      obtain rfl : b1 = (mem (str + 1)).toNat := hbs 1 (by simp)
      rw [if_neg (by simp)]
      simp only [isCont, List.range', List.all_cons, List.all_nil, Bool.and_true, seqValue]
      rfl
  · rw [h]; unfold refStep; dsimp only
    rw [if_neg (by omega), if_neg (by omega), if_neg (by omega), if_pos hb.2]
    match rest, hbs with
    | [], _ => rfl
    | [_], _ => rfl
    | b1 :: b2 :: _, hbs =>
      obtain rfl : b1 = (mem (str + 1)).toNat := hbs 1 (by simp)
      obtain rfl : b2 = (mem (str + 2)).toNat := hbs 2 (by simp)
      rw [if_neg (by simp)]
      simp only [isCont, List.range', List.all_cons, List.all_nil, Bool.and_true, seqValue]
      rfl
  · rw [h]; unfold refStep; dsimp only
    rw [if_neg (by omega), if_neg (by omega), if_neg (by omega), if_neg (by omega), if_pos hb.2]
    match rest, hbs with
    | [], _ => rfl
    | [_], _ => rfl
    | [_, _], _ => rfl
    | b1 :: b2 :: b3 :: _, hbs =>
      obtain rfl : b1 = (mem (str + 1)).toNat := hbs 1 (by simp)
      obtain rfl : b2 = (mem (str + 2)).toNat := hbs 2 (by simp)
      obtain rfl : b3 = (mem (str + 3)).toNat := hbs 3 (by simp)
      rw [if_neg (by simp)]
      simp only [isCont, List.range', List.all_cons, List.all_nil, Bool.and_true, Bool.and_assoc, seqValue]

theorem stepStrict_ch {mem : Mem} {p : Nat} {len : Option Nat} {n cp hi : Nat} {w : Int}
    (h : stepStrict mem p len = .ch n cp w hi) : stepAt mem p len = .ch n cp w hi := by
  rw [stepStrict] at h; split at h
  · cases h
  · exact h

theorem refStep_stepStrict (mem : Mem) (str : Nat) (len : Option Nat) (bs : List Nat)
    (hE : Effective mem str len bs) : StepRel (stepStrict mem str len) (refStep Width.wcwidth bs) := by
  cases bs with
  | nil =>
    -- no effective byte: the length is used up, or the terminator stands here
    have hout : len = some 0 ∨ (mem str).toNat = 0 := hE.2.imp id And.left
    have hb : badCont mem str len = false := Bool.eq_false_iff.2 fun hb => by
      obtain ⟨h1, h2, _⟩ := (badCont_iff mem str len).1 hb
      exact hout.elim h1 h2
    rw [stepStrict, hb]
    exact stepAt_cases (motive := fun st => StepRel st (refStep Width.wcwidth [])) mem str len (fun _ => trivial)
      (fun _ _ => trivial) fun hl h0 => (hout.elim hl h0).elim
  | cons b0 rest =>
    obtain ⟨rfl, h0⟩ : b0 = (mem str).toNat ∧ (mem str).toNat ≠ 0 := hE.1 0 (Nat.zero_lt_succ _)
    have hbound := hE.len_ge
    have hl : len ≠ some 0 := fun h => absurd (hbound 0 h) (Nat.not_succ_le_zero _)
    rcases leadLen_spec (mem str).toNat with ⟨hr, hN⟩ | hN'
    · -- one byte, or an invalid lead byte: no continuation bytes to be strict about
      rw [stepStrict_eq_stepAt (fun i h1 h2 => by rw [hN] at h2; omega)]
      by_cases ha : (mem str).toNat < 0x80
      · rw [stepAt_ok hl h0 (nextUtf8_ascii mem str len hl h0 ha)]
        unfold refStep; dsimp only; rw [if_pos ha]
        exact stepRel_classify ..
      · refine stepRel_err ((stepAt_err_iff mem str len).2 ⟨hl, h0, .inr (.inl ⟨by omega, hN⟩)⟩) ?_
        unfold refStep; dsimp only; rw [if_neg ha]
        rcases hr with hr | hr
        · exact ⟨_, if_pos hr⟩
        · exact ⟨_, by rw [if_neg (by omega), if_neg (by omega), if_neg (by omega), if_neg (by omega)]⟩
    · have hN : leadLen (mem str).toNat ≠ 0 := by omega
      rw [refStep_lead _ mem str rest hN (fun i hi => (hE.1 i hi).1)]
      by_cases hshort : rest.length + 1 < leadLen (mem str).toNat
      · rw [if_pos hshort]
        refine stepRel_err (stepStrict_err_of_errAt ⟨hl, h0, .inr (.inr (.inl ⟨hN, ?_⟩))⟩) ⟨_, rfl⟩
        rcases hE.2 with h | ⟨hz, _⟩
        · left; rw [h]; exact decide_eq_true hshort
        · exact .inr ⟨rest.length + 1, Nat.le_add_left .., hshort, hz⟩
      · rw [if_neg hshort]
        have hlt : lenLt len (leadLen (mem str).toNat) = false := by
          cases hlen : len with
          | none => rfl
          | some l => have := hbound l hlen; exact decide_eq_false (by simp only [List.length_cons] at this; omega)
        have hnz : ∀ i, 1 ≤ i → i < leadLen (mem str).toNat → (mem (str + i)).toNat ≠ 0 :=
          fun i _ h2 => (hE.1 i (by simp only [List.length_cons]; omega)).2
        by_cases hc : ((List.range' 1 (leadLen (mem str).toNat - 1)).all fun i => isContByte (mem (str + i)).toNat) = true
        · rw [if_pos hc, stepStrict_eq_stepAt (fun i h1 h2 _ => List.all_eq_true.1 hc i (List.mem_range'_1.2 ⟨h1, by omega⟩)),
            stepAt_ok hl h0 (nextUtf8_complete mem str len hN hlt hnz)]
          exact stepRel_classify ..
        · rw [if_neg hc]
          obtain ⟨i, hi, hb⟩ := List.all_eq_false.1 (Bool.eq_false_iff.2 hc)
          obtain ⟨h1, h2⟩ := List.mem_range'_1.1 hi
          refine stepRel_err ⟨str + 1, ?_⟩ ⟨_, rfl⟩
          rw [stepStrict, if_pos ((badCont_iff mem str len).2 ⟨hl, h0, hN, hlt, i, h1, by omega, hnz i h1 (by omega), Bool.eq_false_iff.2 hb⟩)]

/-- The runtime oracle's decoder is the strict scan: on the effective bytes of the input, `refScan`
    finds the characters and the ending that `scanStrict` finds over memory. -/
theorem refScan_eq_scanStrict (mem : Mem) : ∀ (fuel str : Nat) (len : Option Nat) (bs : List Nat)
    (cs : List Ch) (t : Tail), Effective mem str len bs →
    scanStrict mem fuel str len = some (cs, t) →
    ∀ rfuel, bs.length < rfuel →
      (refScan Width.wcwidth rfuel bs).1 = cs ∧ (refScan Width.wcwidth rfuel bs).2.1 = t := by
  intro fuel
  induction fuel with
  | zero => intro str len bs cs t _ h; cases h
  | succ f ih =>
    intro str len bs cs t hE h rfuel hrf
    have hrel := refStep_stepStrict mem str len bs hE
    obtain ⟨rf, rfl⟩ := Nat.exists_eq_succ_of_ne_zero (Nat.ne_of_gt (Nat.lt_of_le_of_lt (Nat.zero_le _) hrf))
    rw [scanStrict] at h
    rw [refScan]
    -- the two steps are related, so only the three matching pairs of outcomes remain
    cases hst : stepStrict mem str len <;> cases hr : refStep Width.wcwidth bs <;> rw [hst, hr] at hrel <;>
      try exact hrel.elim
    · rw [hst] at h; cases h; exact ⟨rfl, rfl⟩
    · rw [hst] at h; cases h; exact ⟨rfl, rfl⟩
    · rename_i n cp w hi c
      obtain ⟨hpos, hnl, hE'⟩ := hE.step (stepStrict_ch hst)
      rw [hst] at h
      simp only at h
      cases hsc : scanStrict mem f (str + n) (lenDec len n) with
      | none => rw [hsc] at h; cases h
      | some x =>
        rw [hsc] at h; cases h
        obtain ⟨i1, i2⟩ := ih (str + n) (lenDec len n) (bs.drop n) x.1 x.2 hE' hsc rf
          (by rw [List.length_drop]; omega)
        cases (show c = ⟨n, cp, w⟩ from hrel)
        exact ⟨by rw [← i1], by rw [← i2]⟩

theorem takeWhile_nz_spec : ∀ (l : List Nat),
    (∀ i, i < (l.takeWhile (· != 0)).length →
      (l.takeWhile (· != 0)).getD i 0 = l.getD i 0 ∧ l.getD i 0 ≠ 0) ∧
    (l.any (· == 0) = true → (l.takeWhile (· != 0)).length < l.length ∧
      l.getD (l.takeWhile (· != 0)).length 0 = 0) ∧
    (l.any (· == 0) = false → l.takeWhile (· != 0) = l) := by
  intro l
  induction l with
  | nil => simp
  | cons x xs ih =>
    obtain ⟨ih1, ih2, ih3⟩ := ih
    by_cases hx : x = 0
    · subst hx
      simp
    · have hx' : (x != 0) = true := by simpa using hx
      have hx'' : (x == 0) = false := by simpa using hx
      simp only [List.takeWhile_cons, hx', if_true, List.length_cons, List.any_cons, hx'', Bool.false_or]
      refine ⟨?_, ?_, ?_⟩
      · intro i hi
        cases i with
        | zero => simpa using hx
        | succ j => simpa using ih1 j (by omega)
      · intro h
        obtain ⟨a, b⟩ := ih2 h
        exact ⟨by omega, by simpa using b⟩
      · intro h; rw [ih3 h]

theorem bytes_getD (a : Array UInt8) (start i : Nat) :
    ((a.toList.map (·.toNat)).drop start).getD i 0 = (memOfArray a (start + i)).toNat := by
  unfold memOfArray
  rw [List.getD_eq_getElem?_getD, List.getElem?_drop, List.getElem?_map]
  by_cases h : start + i < a.size
  · simp [h, Array.getD]
  · simp [h, Array.getD]

theorem effective_takeWhile {mem : Mem} {str : Nat} {len : Option Nat} {win : List Nat}
    (hget : ∀ i, i < win.length → win.getD i 0 = (mem (str + i)).toNat) (hany : win.any (· == 0) = true)
    (hlen : ∀ l, len = some l → win.length ≤ l) : Effective mem str len (win.takeWhile (· != 0)) := by
  obtain ⟨t1, t2, _⟩ := takeWhile_nz_spec win
  obtain ⟨z1, z2⟩ := t2 hany
  refine ⟨fun i hi => ?_, .inr ⟨?_, fun l hl => Nat.lt_of_lt_of_le z1 (hlen l hl)⟩⟩
  · obtain ⟨e1, e2⟩ := t1 i hi
    rw [e1]; rw [hget i (Nat.lt_trans hi z1)] at e2 ⊢
    exact ⟨rfl, e2⟩
  · rw [← hget _ z1]; exact z2

theorem effective_window {mem : Mem} {str : Nat} {len : Option Nat} {win : List Nat}
    (hget : ∀ i, i < win.length → win.getD i 0 = (mem (str + i)).toNat) (hany : win.any (· == 0) = false)
    (hlen : len = some win.length) : Effective mem str len win := by
  obtain ⟨t1, _, t3⟩ := takeWhile_nz_spec win
  rw [t3 hany] at t1
  exact ⟨fun i hi => ⟨hget i hi, hget i hi ▸ (t1 i hi).2⟩, .inl hlen⟩

theorem effectiveOf_sound (a : Array UInt8) (len : Option Nat) (start : Nat) (bs : List Nat)
    (h : effectiveOf a len start = some bs) :
    Effective (memOfArray a) start (lenSub len start) bs := by
  unfold effectiveOf at h
  generalize hb0 : (a.toList.map (·.toNat)).drop start = bs0 at h
  have hget : ∀ i, bs0.getD i 0 = (memOfArray a (start + i)).toNat := fun i => hb0 ▸ bytes_getD a start i
  cases len with
  | none =>
    simp only at h
    split at h
    · rename_i hc; cases h
      exact effective_takeWhile (fun i _ => hget i) hc.2 nofun
    · cases h
  | some l =>
    simp only at h
    split at h
    · cases h
    · rename_i hsl
      rw [show lenSub (some l) start = some (l - start) by simp [lenSub, Nat.le_of_not_lt hsl]]
      -- the window is the part of the buffer inside the length
      have hwin : ∀ i, i < (bs0.take (l - start)).length →
          (bs0.take (l - start)).getD i 0 = (memOfArray a (start + i)).toNat := by
        intro i hi
        rw [List.length_take] at hi
        rw [List.getD_eq_getElem?_getD, List.getElem?_take, if_pos (by omega), ← List.getD_eq_getElem?_getD, hget]
      split at h
      · rename_i hany; cases h
        exact effective_takeWhile hwin hany (fun l' hl' => by cases hl'; rw [List.length_take]; omega)
      · rename_i hnone
        split at h
        · rename_i hla; cases h
          refine effective_window hwin (Bool.eq_false_iff.2 hnone) ?_
          rw [List.length_take, ← hb0, List.length_drop, List.length_map, Array.length_toList, Nat.min_eq_left (by omega)]
        · cases h

theorem effective_memOfBytes (l : List Nat) (h : ∀ i (hi : i < l.length), l[i] < 256 ∧ l[i] ≠ 0) :
    Effective (memOfBytes l) 0 none l := by
  refine ⟨fun i hi => ?_, .inr ⟨by rw [Nat.zero_add]; exact memOfBytes_end (Nat.le_refl _), nofun⟩⟩
  rw [Nat.zero_add, memOfBytes, List.getD_eq_getElem?_getD, List.getElem?_eq_getElem hi, Option.getD_some,
    UInt8.toNat_ofNat', Nat.mod_eq_of_lt (h i hi).1]
  exact ⟨rfl, (h i hi).2⟩

end Utf8
end Tickit
