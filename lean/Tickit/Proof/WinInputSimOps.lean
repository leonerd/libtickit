import Tickit.Proof.WinInputInv
/-
  The operations on the window store, over Proof/WinInputInv.lean: one lemma `SafeR (op …) Q` per model function.  `*_step`
  concludes `StepIn A t` (what a handler may do from inside a dispatch; destroy and unref conclude `DropIn A c` / `Unref`
  instead), `*_safe` concludes `StepOK` or `Grown` (what only the application does between events: a reordered child list and a
  grown store are not `Sim A`).
-/
namespace Tickit
namespace WinInput
open WinTree

theorem hide_step {A : Aff} {t : Tree} (hi : TInv t) (hd : DragOK t) (hdn : Down A t) (f : Nat) {win : WinTree.Id}
    (ha : Alive t win) (hA : A win = true) : SafeR (WinTree.hide t f win) (StepIn A t) := by
  obtain ⟨w, hl⟩ : ∃ w, WinTree.Live t win w := ha
  have s1 : StepIn A t (WinTree.set t win { w with isVisible := false }) := .flag hi hd hdn hl (.inl hA) rfl
  cases hp : w.parent with
  | none => rw [hide_orphan hl hp]; exact s1
  | some p =>
    obtain ⟨pw, hpw, hpf, hpm⟩ := s1.inv.parent win p _ (set_wins_self hl.1 _) hl.2 hp
    rw [hide_child hl hp, WinTree.Live.get ⟨hpw, hpf⟩, ok_bind]
    by_cases hfc : pw.focusedChild = some win
    ·
      rw [if_pos hfc]
      have s2 : StepIn A _ (WinTree.set _ p { pw with focusedChild := none }) :=
        .set s1.inv s1.drag s1.sim.down ⟨hpw, hpf⟩
          (.inr ⟨rfl, rfl, rfl, rfl, rfl, Kids.refl A _, .inr ⟨fun _ h => (nomatch h), fun x hx => by rw [hfc] at hx; cases hx; exact hA⟩⟩)
          (.of_eq rfl rfl rfl) rfl rfl ⟨fun _ h => (nomatch h), s1.inv.nodup p pw hpw hpf, s1.inv.closed p pw hpw hpf⟩
      exact (s1.trans s2).expose f p _ ⟨_, set_wins_self hpw _, hpf⟩
    · rw [if_neg hfc]
      exact s1.expose f p _ ⟨pw, hpw, hpf⟩

theorem show_step {A : Aff} {t : Tree} (hi : TInv t) (hd : DragOK t) (hdn : Down A t) (f : Nat) {win : WinTree.Id}
    (ha : Alive t win) (hA : A win = true) : SafeR (WinTree.show t f win) (StepIn A t) := by
  obtain ⟨w, hl⟩ : ∃ w, WinTree.Live t win w := ha
  have s1 : StepIn A t (WinTree.set t win { w with isVisible := true }) := .flag hi hd hdn hl (.inl hA) rfl
  have hl1 : WinTree.Live (WinTree.set t win { w with isVisible := true }) win { w with isVisible := true } :=
    ⟨set_wins_self hl.1 _, hl.2⟩
  cases hp : w.parent with
  | none => rw [show_orphan hl hp]; exact s1.expose f win none ⟨_, hl1⟩
  | some p =>
    obtain ⟨pw, hpw, hpf, hpm⟩ := s1.inv.parent win p _ hl1.1 hl1.2 hp
    rw [show_child hl hp, WinTree.Live.get ⟨hpw, hpf⟩, ok_bind]
    split
    ·
      rename_i hc
      have s2 : StepIn A _ (WinTree.set _ p { pw with focusedChild := some win }) :=
        .set s1.inv s1.drag s1.sim.down ⟨hpw, hpf⟩
          (.inr ⟨rfl, rfl, rfl, rfl, rfl, Kids.refl A _, .inr ⟨fun x hx => by cases hx; exact hA,
            fun x hx => by rw [Option.isNone_iff_eq_none.1 (Bool.and_eq_true_iff.1 hc).1] at hx; cases hx⟩⟩)
          (.of_eq rfl rfl rfl) rfl rfl ⟨fun f h => by cases h; exact hpm, s1.inv.nodup p pw hpw hpf, s1.inv.closed p pw hpw hpf⟩
      exact (s1.trans s2).expose f win none (s2.ev.alive ⟨_, hl1⟩)
    · exact s1.expose f win none ⟨_, hl1⟩

/-- `tickit_window_set_steal_input`, `set_geometry` and the like. -/
theorem modify_flag_step {A : Aff} {t : Tree} (hi : TInv t) (hd : DragOK t) (hdn : Down A t) {win : WinTree.Id}
    (ha : Alive t win) (hA : A win = true) (g : Win → Win) (hg : ∀ w, linkPart (g w) = linkPart w) :
    SafeR (WinTree.modify t win g) (StepIn A t) := by
  obtain ⟨w, hl⟩ : ∃ w, WinTree.Live t win w := ha
  rw [hl.modify]
  exact .flag hi hd hdn hl (.inl hA) (hg w)

theorem chk_ok {t : Tree} : ∀ (l : List Req), (∀ r ∈ l, Alive t r.win) → purgeHierarchyChanges.chk t l = Res.ok () := by
  intro l
  induction l with
  | nil => intro _; rfl
  | cons r rest ih =>
    intro h
    obtain ⟨w, hg, _, _⟩ := (h r (List.mem_cons_self ..)).get
    simp only [purgeHierarchyChanges.chk, hg, ok_bind]
    exact ih (fun r' hr' => h r' (List.mem_cons_of_mem _ hr'))

theorem purge_step {A : Aff} {t : Tree} (hi : TInv t) (hd : DragOK t) (hdn : Down A t) (f : Nat) (hfu : t.wins.size ≤ f)
    {win : WinTree.Id} (ha : Alive t win) :
    SafeR (purgeHierarchyChanges t f win) (fun t' => StepIn A t t' ∧ t'.wins = t.wins ∧
      ∀ r ∈ t'.root.changes, ¬ Within t win r.win) := by
  unfold purgeHierarchyChanges
  obtain ⟨w, hw, hf⟩ := ha
  have hlt : win < f := Nat.lt_of_lt_of_le (Array.getElem?_eq_some_iff.1 hw).1 hfu
  obtain ⟨top, tw, htop, ⟨htw, htf⟩, _, _⟩ := topOf_ok hi.linked.upward win w ⟨hw, hf⟩ f hlt
  simp only [htop, ok_bind, WinTree.Live.get ⟨htw, htf⟩]
  by_cases hr : tw.isRoot = true
  · simp only [hr, Bool.not_true, Bool.false_eq_true, if_false]
    rw [chk_ok _ (fun r hr' => by obtain ⟨w, a, b, _, _⟩ := hi.queue r hr'; exact ⟨w, a, b⟩)]
    simp only [ok_bind, res_pure]
    refine ⟨.of_wins ((StepOK.refl hi hd).queue rfl (fun d hd' => hd d hd') fun r hr' =>
      have hm := (List.mem_filter.1 hr').1; ⟨hi.queue r hm, hi.qkind r hm⟩) hdn rfl, rfl, ?_⟩
    intro r hrq hwi
    obtain ⟨hmem, hnot⟩ := List.mem_filter.1 hrq
    obtain ⟨w, hw, hf, _, _⟩ := hi.queue r hmem
    have hlt : r.win < f := Nat.lt_of_lt_of_le (Array.getElem?_eq_some_iff.1 hw).1 hfu
    have := isWithin_complete hi hwi f ⟨w, hw, hf⟩ hlt
    rw [this] at hnot; cases hnot
  · have hr' : tw.isRoot = false := by simpa using hr
    simp only [hr', Bool.not_false, if_true]
    refine ⟨.refl hi hd hdn, rfl, ?_⟩
    intro r hrq hwi
    obtain ⟨_, _, _, _, hatt⟩ := hi.queue r hrq
    have := (topOf_root hi win w ⟨hw, hf⟩ f hlt (Att.of_within hi hwi hatt)).symm.trans htop
    cases this
    have := (hi.rootflag 0 tw htw htf).2 rfl
    rw [hr'] at this; cases this

/-- `_do_hierarchy_remove`, `win->parent = NULL` and the parent's focus pointer, as one step. -/
theorem StepIn.unlink {A : Aff} {t : Tree} (hi : TInv t) (hd : DragOK t) (hdn : Down A t) {win p : WinTree.Id} {w pw : Win}
    (hl : WinTree.Live t win w) (hp : w.parent = some p) (hpl : WinTree.Live t p pw)
    (hqw : ∀ r ∈ t.root.changes, ¬ Within t win r.win) (hA : A win = true) :
    StepIn A t (WinTree.set (WinTree.set t p (unlinkParent pw win (pw.children.erase win))) win { w with parent := none }) := by
  have hne : p ≠ win := fun h => hi.noself win w hl.1 hl.2 (by rw [hp, h])
  have okw := hi.winOK hl.1 hl.2
  have okp := hi.winOK hpl.1 hpl.2
  have look := set_set_wins hpl.1 hl.1 hne (unlinkParent pw win (pw.children.erase win)) { w with parent := none }
  have hw1 : (WinTree.set t p (unlinkParent pw win (pw.children.erase win))).wins[win]? = some w := by
    rw [set_wins_ne _ hne]; exact hl.1
  have keep : KeepParents (some win) t
      (WinTree.set (WinTree.set t p (unlinkParent pw win (pw.children.erase win))) win { w with parent := none }) := by
    intro x y hx hyf hxe
    have hxw : win ≠ x := fun e => hxe (by rw [e])
    rw [look, if_neg hxw]
    by_cases hxp : p = x
    · subst hxp; cases hpl.1.symm.trans hx
      exact ⟨unlinkParent pw win (pw.children.erase win), by rw [if_pos rfl], hpl.2, rfl⟩
    · exact ⟨y, by rw [if_neg hxp]; exact hx, hyf, rfl⟩
  have ev : Evolve t (WinTree.set (WinTree.set t p (unlinkParent pw win (pw.children.erase win))) win { w with parent := none }) :=
    (Evolve.set (w' := unlinkParent pw win (pw.children.erase win)) hpl.1 rfl rfl
      (fun h => by show pw.children.erase win = []; rw [h]; rfl)).trans
      (Evolve.set (w' := { w with parent := none }) hw1 rfl rfl id)
  have fc : FcRel A (if pw.focusedChild = some win then none else pw.focusedChild) pw.focusedChild := by
    by_cases hfc : pw.focusedChild = some win
    · rw [if_pos hfc]
      exact Or.inr ⟨fun _ hy => (nomatch hy), fun y hy => by rw [hfc] at hy; cases hy; exact hA⟩
    · rw [if_neg hfc]; exact Or.inl rfl
  have s1 : Sim A t (WinTree.set t p (unlinkParent pw win (pw.children.erase win))) :=
    Sim.set hdn hpl.1 (fun _ => ⟨rfl, rfl, rfl, rfl, rfl, Kids.erase hA _, fc⟩)
      fun hp c hc => hdn p pw hp hpl.1 c (List.mem_of_mem_erase hc)
  refine ⟨⟨hi.relink (hi.linked.unlink hl hp hpl okp.nodup) keep ?_ ?_ (hi.queued rfl fun r hr => ?_), hd.evolve ev rfl, ev⟩,
    s1.trans (Sim.set s1.down hw1 (fun h => aff_absurd hA h) fun _ c hc => hdn win w hA hl.1 c hc)⟩
  · intro h; cases h
    obtain ⟨w0, hw0, _, hp0⟩ := hi.root
    cases hl.1.symm.trans hw0; rw [hp0] at hp; cases hp
  ·
    intro i x hx hxf
    rw [look] at hx
    by_cases h1 : win = i
    · subst h1; rw [if_pos rfl] at hx; cases hx
      exact ⟨⟨okw.focus, okw.nodup, fun _ => rfl⟩, fun q h => (by cases h), okw.rootflag⟩
    · rw [if_neg h1] at hx
      by_cases h2 : p = i
      · subst h2; rw [if_pos rfl] at hx; cases hx
        refine ⟨⟨fun f hfc => ?_, okp.nodup.erase win, okp.closed⟩, okp.lt, okp.rootflag⟩
        have hfc' : (if pw.focusedChild = some win then none else pw.focusedChild) = some f := hfc
        split at hfc'
        · cases hfc'
        · rename_i hfw
          exact (List.mem_erase_of_ne (fun h => hfw (hfc'.trans (congrArg some h)))).2 (okp.focus f hfc')
      · rw [if_neg h2] at hx; exact hi.winOK hx hxf
  · obtain ⟨_, _, _, _, ha⟩ := hi.queue r hr
    exact ⟨fun h => hqw r hr (Option.some.inj h ▸ Within.self), ha.keep_outside keep (hqw r hr)⟩

/-- `win` as `_do_hierarchy_change(REMOVE)` leaves it; `w`: its record before. -/
structure Detached (t : Tree) (win : WinTree.Id) (w w' : Win) : Prop where
  live : WinTree.Live t win w'
  orphan : w'.parent = none
  children : w'.children = w.children

theorem doRemove_step {A : Aff} {t : Tree} (hi : TInv t) (hd : DragOK t) (hdn : Down A t) (f : Nat) {win p : WinTree.Id} {w : Win}
    (hl : WinTree.Live t win w) (hp : w.parent = some p) (hA : A win = true)
    (hq : ∀ r ∈ t.root.changes, ¬ Within t win r.win) :
    SafeR (doHierarchyChange t f .remove p win) (fun t' => StepIn A t t' ∧ ∃ w', Detached t' win w w') := by
  obtain ⟨pw, hpw, hpf, hpm⟩ := hi.parent win p w hl.1 hl.2 hp
  have hne : p ≠ win := fun h => hi.noself win w hl.1 hl.2 (by rw [hp, h])
  have st := StepIn.unlink hi hd hdn hl hp ⟨hpw, hpf⟩ hq hA
  rw [doHierarchyChange_eq, WinTree.Live.get ⟨hpw, hpf⟩, hl.get]
  simp only [ok_bind, relist, listRemove_of_mem hpm, relink_remove hl hne]
  exact (st.exposeIf f p _ (st.ev.alive ⟨pw, hpw, hpf⟩) _).mono fun t' ⟨s', e1⟩ =>
    ⟨s', { w with parent := none }, ⟨by rw [e1]; exact set_wins_self (by rw [set_wins_ne _ hne]; exact hl.1) _, hl.2⟩, rfl, rfl⟩

theorem close_step {A : Aff} {t : Tree} (hi : TInv t) (hd : DragOK t) (hdn : Down A t) (f : Nat) (hfu : t.wins.size ≤ f)
    {win : WinTree.Id} {w : Win} (hl : WinTree.Live t win w) (hA : A win = true) :
    SafeR (WinTree.close t f win) (fun t' => StepIn A t t' ∧ ∃ w', Detached t' win w w') := by
  unfold WinTree.close
  simp only [hl.get, ok_bind]
  cases hp : w.parent with
  | none =>
    simp only [res_pure, ok_bind, hl.modify]
    exact ⟨.set hi hd hdn hl (.inl hA) (.of_eq rfl rfl rfl) rfl rfl
      ⟨fun f => hi.focus win f w hl.1 hl.2, hi.nodup win w hl.1 hl.2, fun _ => hp⟩, _, ⟨set_wins_self hl.1 _, hl.2⟩, hp, rfl⟩
  | some p =>
    simp only
    apply SafeR.bind (purge_step hi hd hdn f hfu ⟨w, hl⟩)
    intro t1 ⟨s1, e1, hq1⟩
    have hq1' : ∀ r ∈ t1.root.changes, ¬ Within t1 win r.win := fun r hr hwi => hq1 r hr (hwi.of_wins e1)
    apply SafeR.bind (doRemove_step s1.inv s1.drag s1.sim.down f (hl.of_wins e1) hp hA hq1')
    intro t2 ⟨s2, w2, d2⟩
    rw [d2.live.modify]
    exact ⟨(s1.trans s2).trans (.set s2.inv s2.drag s2.sim.down d2.live (.inl hA) (.of_eq rfl rfl rfl) rfl rfl
      ⟨fun f => s2.inv.focus win f w2 d2.live.1 d2.live.2, s2.inv.nodup win w2 d2.live.1 d2.live.2, fun _ => d2.orphan⟩),
      _, ⟨set_wins_self d2.live.1 _, d2.live.2⟩, d2.orphan, d2.children⟩

theorem shape_set_rc {t : Tree} {i : WinTree.Id} {w : Win} (hw : t.wins[i]? = some w) (k : Int) :
    Shape t (WinTree.set t i { w with refcount := k }) :=
  ⟨rfl, sameBy_set hw rfl⟩

/-- `tickit_window_destroy`'s last write. -/
theorem TInv.free {t : Tree} (hi : TInv t) {c : WinTree.Id} {w : Win} (hl : WinTree.Live t c w)
    (hp : w.parent = none) (hch : w.children = []) (hc0 : c ≠ 0) : TInv (WinTree.set t c { w with freed := true }) := by
  have keep : KeepParents (some c) t (WinTree.set t c { w with freed := true }) := fun x y hx hyf hne =>
    ⟨y, by rw [set_wins_ne _ fun h => hne (by rw [h])]; exact hx, hyf, rfl⟩
  refine hi.relink (hi.linked.free hl hp hch) keep (fun h => hc0 (Option.some.inj h).symm) ?_ (hi.queued rfl fun r hr => ?_)
  · intro i x hx hxf
    rcases wins_set_cases hl.1 i x hx with ⟨rfl, rfl⟩ | ⟨_, h2⟩
    · cases hxf
    · exact hi.winOK h2 hxf
  · obtain ⟨x, hx, _, hxp, ha⟩ := hi.queue r hr
    have hrc : r.win ≠ c := by
      intro h; rw [h, hl.1] at hx; cases hx; rw [hp] at hxp; cases hxp
    refine ⟨fun h => hrc (Option.some.inj h), ha.keep_leaf keep ?_ hrc⟩
    intro y yw hy hyf hyp
    obtain ⟨qw, hqw, _, hqm⟩ := hi.parent y c yw hy hyf hyp
    cases hl.1.symm.trans hqw; rw [hch] at hqm; cases hqm

theorem normalizeDrag_ok (t : Tree) : DragOK (normalizeDrag t) ∧ (normalizeDrag t).wins = t.wins ∧
    (normalizeDrag t).root.changes = t.root.changes := by
  unfold normalizeDrag
  cases hd : t.root.dragSource with
  | none => exact ⟨fun d h => (by rw [hd] at h; cases h), rfl, rfl⟩
  | some d =>
    simp only
    by_cases hc : (isAlive t d && isWithin t (treeFuel t) 0 d) = true
    · rw [if_pos hc]
      refine ⟨fun d' h => ?_, rfl, rfl⟩
      rw [hd] at h; cases h
      simp only [Bool.and_eq_true] at hc
      exact alive_of_isAlive hc.1
    · rw [if_neg hc]
      exact ⟨fun d' h => (by simp at h), rfl, rfl⟩

theorem TInv.normalizeDrag {t : Tree} (hi : TInv t) : TInv (normalizeDrag t) := by
  obtain ⟨_, hw, hc⟩ := normalizeDrag_ok t
  exact hi.shape ⟨hc, fun i => by rw [hw]⟩

theorem StepIn.normalizeDrag {A : Aff} {t t' : Tree} (s : StepIn A t t') : StepIn A t (normalizeDrag t') :=
  have ⟨dok, ew, _⟩ := normalizeDrag_ok t'
  ⟨⟨s.inv.normalizeDrag, dok, s.ev.trans (Evolve.of_wins ew)⟩, s.sim.trans (Sim.of_wins s.sim.down ew)⟩

abbrev KeepOthers (c : WinTree.Id) : Tree → Tree → Prop := Lift fun j w w' => j ≠ c → EvolveW w w'

theorem Evolve.keepOthers {t t' : Tree} (h : Evolve t t') (c : WinTree.Id) : KeepOthers c t t' :=
  (evolve_iff.1 h).mono fun _ _ _ r _ => r

theorem KeepOthers.trans {c : WinTree.Id} {a b d : Tree} (h1 : KeepOthers c a b) (h2 : KeepOthers c b d) : KeepOthers c a d :=
  Lift.trans (fun _ _ _ _ r1 r2 hj => EvolveW.trans _ _ _ (r1 hj) (r2 hj)) h1 h2

theorem KeepOthers.set {t : Tree} {c : WinTree.Id} {w : Win} (hw : t.wins[c]? = some w) (w' : Win) :
    KeepOthers c t (WinTree.set t c w') :=
  Lift.set (fun _ w _ => EvolveW.refl w) hw fun h => absurd rfl h

/-- The shape the elaborator gives `let t ← if c then x else pure a; f t`. -/
theorem ite_bind_pure {α β : Type} {c : Prop} [Decidable c] (x : Res α) (a : α) (f : α → Res β) :
    (if c then x >>= f else f a) = ((if c then x else Res.ok a) >>= f) := by
  split <;> rfl

/-- No `StepOK`: the drag source may be the window that went; `normalizeDrag` comes after. -/
structure DropIn (A : Aff) (c : WinTree.Id) (t t' : Tree) : Prop where
  inv : TInv t'
  others : KeepOthers c t t'
  sim : Sim A t t'

theorem StepIn.dropIn {A : Aff} {t t' : Tree} (s : StepIn A t t') (c : WinTree.Id) : DropIn A c t t' :=
  ⟨s.inv, s.ev.keepOthers c, s.sim⟩

theorem DropIn.trans {A : Aff} {c : WinTree.Id} {t t1 t2 : Tree} (h1 : DropIn A c t t1) (h2 : DropIn A c t1 t2) : DropIn A c t t2 :=
  ⟨h2.inv, h1.others.trans h2.others, h1.sim.trans h2.sim⟩

theorem DropIn.count {A : Aff} {t : Tree} (hi : TInv t) (hdn : Down A t) {c : WinTree.Id} {w : Win} (hw : t.wins[c]? = some w)
    (k : Int) : DropIn A c t (WinTree.set t c { w with refcount := k }) :=
  ⟨hi.shape (shape_set_rc hw k), .set hw _, Sim.set_refcount hdn hw k⟩

theorem DropIn.normalizeDrag {A : Aff} {c : WinTree.Id} {t t' : Tree} (d : DropIn A c t t') : DropIn A c t (normalizeDrag t') :=
  have ew := (normalizeDrag_ok t').2.1
  d.trans ⟨d.inv.normalizeDrag, (Evolve.of_wins ew).keepOthers c, Sim.of_wins d.sim.down ew⟩

theorem destroy_step {A : Aff} {t : Tree} (hi : TInv t) (hd : DragOK t) (hdn : Down A t) (m : Nat) (hm : t.wins.size ≤ m + 1)
    {c : WinTree.Id} {w : Win} (hl : WinTree.Live t c w) (hch : w.children = []) (hc0 : c ≠ 0) (hA : A c = true) :
    SafeR (WinTree.destroy (fun t _ => pure t) (m + 1) t c) (fun t' => DropIn A c t t' ∧
      ∃ w', t'.wins[c]? = some w' ∧ w'.freed = true) := by
  rw [WinTree.destroy]
  simp only [res_pure, ok_bind]
  -- the reads are taken one at a time: rewriting `get t c` throughout would also reach into the branch that skips the
  -- purge, and the two branches would no longer end in the same continuation (`ite_bind_pure`)
  apply SafeR.bind (safeR_get ⟨w, hl⟩)
  intro wa hwa
  cases hl.unique hwa
  simp only [hch, WinTree.destroyChildren, res_pure, ok_bind]
  apply SafeR.bind (safeR_get ⟨w, hl⟩)
  intro wb hwb
  cases hl.unique hwb
  rw [ite_bind_pure]
  apply SafeR.bind (Q := fun t1 => StepIn A t t1 ∧ t1.wins = t.wins)
  · exact SafeR.ite (fun _ => (purge_step hi hd hdn _ hm ⟨w, hl⟩).mono fun _ h => ⟨h.1, h.2.1⟩)
      (fun _ => ⟨.refl hi hd hdn, rfl⟩)
  intro t1 ⟨s1, e1⟩
  have hl1 := hl.of_wins e1
  apply SafeR.bind (safeR_get ⟨w, hl1⟩)
  intro wc hwc
  cases hl1.unique hwc
  rw [ite_bind_pure]
  apply SafeR.bind (Q := fun t2 => StepIn A t t2 ∧ ∃ w2, Detached t2 c w w2)
  · refine SafeR.ite (fun _ => ?_) (fun hcl => ?_)
    · exact (close_step s1.inv s1.drag s1.sim.down _ (by rw [e1]; exact hm) hl1 hA).mono fun t2 ⟨s2, d2⟩ => ⟨s1.trans s2, d2⟩
    · have hcl' : w.isClosed = true := by simpa using hcl
      exact ⟨s1, w, hl1, hi.closed c w hl.1 hl.2 hcl', rfl⟩
  intro t2 ⟨s2, w2, d2⟩
  simp only [d2.live.get, ok_bind]
  rw [if_neg (fun hr => hc0 ((s2.inv.rootflag c w2 d2.live.1 d2.live.2).1 hr))]
  exact ⟨(s2.dropIn c).trans ⟨s2.inv.free d2.live d2.orphan (by rw [d2.children, hch]) hc0, .set d2.live.1 _,
      Sim.set s2.sim.down d2.live.1 (fun h => aff_absurd hA h) fun _ x hx => s2.sim.down c w2 hA d2.live.1 x hx⟩,
    _, set_wins_self d2.live.1 _, rfl⟩

/-- `w`: the record of `c` before; `slot`: freed with the last reference, counted down with any other. -/
structure Unref (A : Aff) (c : WinTree.Id) (w : Win) (st st' : St) : Prop where
  binds : st'.binds = st.binds
  owned : st'.owned = st.owned
  store : DropIn A c st.tree st'.tree
  drag : DragOK st'.tree
  slot : ∃ w', st'.tree.wins[c]? = some w' ∧
    ((w.refcount = 1 ∧ w'.freed = true) ∨
     (2 ≤ w.refcount ∧ w'.freed = false ∧ w'.refcount = w.refcount - 1 ∧ w'.children = w.children))

theorem unref_step {A : Aff} {st : St} (hi : TInv st.tree) (hd : DragOK st.tree) (hdn : Down A st.tree) {c : WinTree.Id} {w : Win}
    (hl : WinTree.Live st.tree c w) (h1 : 1 ≤ w.refcount)
    (hlast : w.refcount = 1 → w.children = [] ∧ c ≠ 0 ∧ A c = true) : SafeR (unrefLogged st c) (Unref A c w st) := by
  by_cases h2 : 2 ≤ w.refcount
  · rw [unrefLogged_nd hl.get h2]
    exact ⟨rfl, rfl, .count hi hdn hl.1 _, hd.shape (shape_set_rc hl.1 _) rfl, _, set_wins_self hl.1 _, Or.inr ⟨h2, hl.2, rfl, rfl⟩⟩
  · have hr1 : w.refcount = 1 := by omega
    obtain ⟨hch, hc0, hA⟩ := hlast hr1
    unfold unrefLogged
    simp only [hl.get, ok_bind]
    have hfuel : destroyFuel st.tree = (3 * st.tree.wins.size + 4) + 1 + 1 := rfl
    rw [hfuel, WinTree.unref]
    simp only [hl.get, ok_bind, hr1, Int.lt_irrefl, if_false, Int.sub_self, if_true, foldl_destroyed]
    have d0 : DropIn A c st.tree (WinTree.set st.tree c { w with refcount := 0 }) := .count hi hdn hl.1 0
    apply SafeR.bind (destroy_step d0.inv (hd.shape (shape_set_rc hl.1 0) rfl) d0.sim.down _
      (by simp only [WinTree.set, Array.size_setIfInBounds]; omega) ⟨set_wins_self hl.1 _, hl.2⟩ hch hc0 hA)
    intro t' ⟨d, w', hw', hf'⟩
    obtain ⟨dok, ew, _⟩ := normalizeDrag_ok t'
    exact ⟨rfl, rfl, (d0.trans d).normalizeDrag, dok, w', by rw [ew]; exact hw', Or.inl ⟨hr1, hf'⟩⟩

theorem request_step {A : Aff} {t : Tree} (hi : TInv t) (hd : DragOK t) (hdn : Down A t) {f : Nat} {c : Change} (hc : Restack c)
    {win : WinTree.Id} (ha : Alive t win) (hfu : t.wins.size ≤ f) (hatt : Att t win) :
    SafeR (requestHierarchyChange t f c win) (StepIn A t) := by
  obtain ⟨w, hg, hw, hf⟩ := ha.get
  unfold requestHierarchyChange
  simp only [hg, ok_bind]
  cases hp : w.parent with
  | none => exact .refl hi hd hdn
  | some p =>
    simp only
    obtain ⟨_, hr⟩ := getRoot_ok hi win w ⟨hw, hf⟩ f (Nat.lt_of_lt_of_le (WinTree.Live.lt ⟨hw, hf⟩) hfu) hatt
    rw [hr, ok_bind]
    refine .of_wins ((StepOK.refl hi hd).queue rfl (fun d hd' => hd d hd') ?_) hdn rfl
    intro r hr
    rcases List.mem_append.1 hr with h | h
    · exact ⟨hi.queue r h, hi.qkind r h⟩
    · simp only [List.mem_singleton] at h
      subst h
      exact ⟨⟨w, hw, hf, hp, hatt⟩, hc⟩

theorem restack_safe {t : Tree} (hi : TInv t) (hd : DragOK t) (f : Nat) {r : Req} (hr : r ∈ t.root.changes) :
    SafeR (doHierarchyChange t f r.change r.parent r.win) (fun t' => StepOK t t' ∧ t'.root.changes = t.root.changes) := by
  obtain ⟨w, hw, hf, hp, _⟩ := hi.queue r hr
  obtain ⟨pw, hpw, hpf, hpm⟩ := hi.parent r.win r.parent w hw hf hp
  have hk := (hi.qkind r hr).isRestack
  obtain ⟨cs', hcs, hperm⟩ := relist_of_mem hk hpm
  rw [doHierarchyChange_restack hk ⟨hpw, hpf⟩ ⟨hw, hf⟩, hcs]
  have st : StepOK t (WinTree.set t r.parent { pw with children := cs' }) :=
    .set hi hd ⟨hpw, hpf⟩ ⟨rfl, fun _ => hperm.mem_iff, rfl⟩ rfl rfl
      ⟨fun f h => hperm.mem_iff.2 (hi.focus _ f pw hpw hpf h), hperm.nodup_iff.2 (hi.nodup _ pw hpw hpf), hi.closed _ pw hpw hpf⟩
  exact (exposeIf_after st f r.parent _ (st.ev.alive ⟨pw, hpw, hpf⟩) _).mono fun _ h => ⟨h.1, h.2.2⟩

theorem applyChanges_safe : ∀ (l : List Req) (t : Tree), TInv t → DragOK t → (∀ r ∈ l, r ∈ t.root.changes) →
    SafeR (applyChanges t l) (fun t' => StepOK t t' ∧ t'.root.changes = t.root.changes) := by
  intro l
  induction l with
  | nil => intro t hi hd _; exact ⟨StepOK.refl hi hd, rfl⟩
  | cons r rest ih =>
    intro t hi hd hl
    unfold applyChanges
    apply SafeR.bind (restack_safe hi hd _ (hl r (List.mem_cons_self ..)))
    intro t1 ⟨s1, e1⟩
    refine (ih t1 s1.inv s1.drag ?_).mono ?_
    · intro r' hr'; rw [e1]; exact hl r' (List.mem_cons_of_mem _ hr')
    · intro t2 ⟨s2, e2⟩
      exact ⟨s1.trans s2, e2.trans e1⟩

theorem flush_safe {t : Tree} (hi : TInv t) (hd : DragOK t) : SafeR (flush t) (StepOK t) := by
  unfold flush
  by_cases hl : t.root.needsLater = true
  · simp only [hl, Bool.not_true, Bool.false_eq_true, if_false]
    have s0 : StepOK t ({ t with root := { t.root with needsLater := false } } : Tree) :=
      (StepOK.refl hi hd).root rfl rfl rfl
    apply SafeR.bind (applyChanges_safe _ _ s0.inv s0.drag (fun r hr => hr))
    intro t1 ⟨s1, _⟩
    have fin : ∀ t2 : Tree, t2.wins = t1.wins → t2.root.changes = [] → t2.root.dragSource = t1.root.dragSource →
        StepOK t t2 :=
      fun t2 ew eq ed => (s0.trans s1).queue ew (s1.drag.evolve (Evolve.of_wins ew) ed) fun r hr => by rw [eq] at hr; cases hr
    split
    · exact fin _ rfl rfl rfl
    · exact fin _ rfl rfl rfl
  · have hl' : t.root.needsLater = false := by simpa using hl
    simp only [hl', Bool.not_false, if_true]
    exact StepOK.refl hi hd

/-- `old`: `p` is the one window whose child list changes, the parent. -/
structure Grown (t t' : Tree) : Prop where
  inv : TInv t'
  drag : DragOK t'
  size : t'.wins.size = t.wins.size + 1
  new : ∀ x', t'.wins[t.wins.size]? = some x' → x'.refcount = 1
  old : ∃ p, ∀ (j : WinTree.Id) (x' : Win), j ≠ t.wins.size → t'.wins[j]? = some x' →
    ∃ x, t.wins[j]? = some x ∧ x'.freed = x.freed ∧ x'.refcount = x.refcount ∧ (j ≠ p → x'.children = x.children)

theorem Grown.insert {t : Tree} (hi : TInv t) (hd : DragOK t) {p : WinTree.Id} {pw : Win} (hpl : WinTree.Live t p pw)
    {wn : Win} (hwp : wn.parent = some p) (hwc : wn.children = []) (hwf : wn.freed = false)
    (hwfo : wn.focusedChild = none) (hwcl : wn.isClosed = false) (hwr : wn.isRoot = false) (hwrc : wn.refcount = 1)
    {cs' : List WinTree.Id} (hcs : ∀ c, c ∈ cs' ↔ c = t.wins.size ∨ c ∈ pw.children) (hnd : cs'.Nodup) :
    Grown t (WinTree.set { t with wins := t.wins.push wn } p { pw with children := cs' }) := by
  have hplt : p < t.wins.size := hpl.lt
  have hpw := hpl.1
  have hpf := hpl.2
  have look : ∀ j, (WinTree.set { t with wins := t.wins.push wn } p { pw with children := cs' }).wins[j]? =
      if p = j then some { pw with children := cs' } else if j = t.wins.size then some wn else t.wins[j]? := fun j => by
    rw [set_wins_of (w := pw) (by rw [push_wins, if_neg (Nat.ne_of_lt hplt)]; exact hpw), push_wins]
  have old : ∀ (j : WinTree.Id) (x : Win), t.wins[j]? = some x → j ≠ t.wins.size :=
    fun j x hx => Nat.ne_of_lt (Array.getElem?_eq_some_iff.1 hx).1
  have keep : KeepParents none t (WinTree.set { t with wins := t.wins.push wn } p { pw with children := cs' }) := by
    intro x y hx hyf _
    rw [look]
    by_cases hxp : p = x
    · subst hxp; cases hpw.symm.trans hx
      exact ⟨{ pw with children := cs' }, by rw [if_pos rfl], hpf, rfl⟩
    · exact ⟨y, by rw [if_neg hxp, if_neg (old x y hx)]; exact hx, hyf, rfl⟩
  have okp := hi.winOK hpw hpf
  refine ⟨hi.relink (hi.linked.insert hpl hwp hwc hwf hcs) keep nofun ?_ (hi.queued rfl fun r hr => ⟨nofun, ?_⟩), ?_,
    by rw [WinTree.set_size]; exact Array.size_push .., fun x' hx' => ?_, p, fun j x' hj hx' => ?_⟩
  ·
    intro i x hx hxf
    rw [look] at hx
    by_cases h1 : p = i
    · subst h1; rw [if_pos rfl] at hx; cases hx
      exact ⟨⟨fun f h => (hcs f).2 (Or.inr (okp.focus f h)), hnd, okp.closed⟩, okp.lt, okp.rootflag⟩
    · rw [if_neg h1] at hx
      by_cases h2 : i = t.wins.size
      · subst h2; rw [if_pos rfl] at hx; cases hx
        refine ⟨⟨fun f h => ?_, hwc ▸ List.nodup_nil, fun h => ?_⟩, fun q h => ?_, ?_⟩
        · rw [hwfo] at h; cases h
        · rw [hwcl] at h; cases h
        · rw [hwp] at h; cases h; exact hplt
        · rw [hwr]; exact ⟨fun h => (by cases h), fun h => absurd (h ▸ hplt) (Nat.not_lt_zero p)⟩
      · rw [if_neg h2] at hx; exact hi.winOK hx hxf
  · obtain ⟨_, _, _, _, ha⟩ := hi.queue r hr
    exact ha.keep keep
  · intro d hdd
    obtain ⟨x, hx, hxf⟩ := hd d hdd
    obtain ⟨x', hx', hxf', _⟩ := keep d x hx hxf nofun
    exact ⟨x', hx', hxf'⟩
  · rw [look, if_neg (Nat.ne_of_lt hplt), if_pos rfl] at hx'; cases hx'; exact hwrc
  · rw [look, if_neg hj] at hx'
    by_cases hjp : p = j
    · subst hjp; rw [if_pos rfl] at hx'; cases hx'
      exact ⟨pw, hpw, rfl, rfl, fun h => absurd rfl h⟩
    · rw [if_neg hjp] at hx'; exact ⟨x', hx', rfl, rfl, fun _ => rfl⟩

theorem Grown.of_wins {t t1 t2 : Tree} (g : Grown t t1) (hw : t2.wins = t1.wins)
    (hc : t2.root.changes = t1.root.changes) (hd : t2.root.dragSource = t1.root.dragSource) : Grown t t2 :=
  have s := (StepOK.refl g.inv g.drag).root hw hc hd
  ⟨s.inv, s.drag, by rw [hw]; exact g.size, by rw [hw]; exact g.new, by rw [hw]; exact g.old⟩

theorem newWindow_safe {t : Tree} (hi : TInv t) (hd : DragOK t) {f : Nat} {parent : WinTree.Id} (hp : Alive t parent)
    (hfu : t.wins.size ≤ f) (rect : Rect) (rp hid low steal : Bool) :
    SafeR (newWindow t f parent rect rp hid low steal) (fun x => Grown t x.1) := by
  rw [newWindow_eq]
  have body : ∀ (pr : WinTree.Id × Rect), Alive t pr.1 → SafeR (insertNew t f hid low steal pr) (fun x => Grown t x.1) := by
    intro ⟨p, r⟩ ⟨pw, hpl⟩
    replace hpl : WinTree.Live t p pw := hpl
    have fresh : t.wins.size ∉ pw.children := fun hm => by
      obtain ⟨cw, hcw, _, _⟩ := hi.child p _ pw hpl.1 hpl.2 hm
      exact Nat.lt_irrefl _ (Array.getElem?_eq_some_iff.1 hcw).1
    have g := Grown.insert hi hd hpl (wn := pushedWin p r hid steal) rfl rfl rfl rfl rfl rfl rfl (fun _ => mem_inserted)
      (nodup_inserted (lowest := low) fresh (hi.nodup p pw hpl.1 hpl.2))
    rw [insertNew_eq hpl]
    unfold exposeIf
    refine SafeR.bind (Q := fun t3 => Grown t t3) (SafeR.ite (fun _ => ?_) fun _ => g) fun t3 h3 => h3
    exact (expose_safe g.inv f p _ ⟨_, set_wins_self (by rw [push_wins, if_neg (Nat.ne_of_lt hpl.lt)]; exact hpl.1) _, hpl.2⟩).mono
      fun t3 ⟨e1, e2, e3⟩ => g.of_wins e1 e2 e3
  cases rp with
  | true =>
    simp only [if_true]
    obtain ⟨pw, hpl⟩ := hp
    obtain ⟨pr, hc, hpr⟩ := climb_ok hi.linked.upward parent pw hpl f (Nat.lt_of_lt_of_le (WinTree.Live.lt hpl) hfu) rect
    rw [hc, ok_bind]
    exact body pr hpr
  | false =>
    simp only [Bool.false_eq_true, if_false]
    exact body (parent, rect) hp

end WinInput
end Tickit
