import Tickit.Model.XTermDrv
import Tickit.Proof.VT
/-
  The driver's bytes as commands of a terminal: `%d` read back; `ESC [ … F` with `%d`-rendered parameters as an executed
  command, `goto_abs`, the signed `n / 1 / -1 / -n` ladder of `move_rel` and `scrollrect`, ECH — each for every
  `VT.Reader`, with what the command does as a hypothesis; then for the reference terminal itself.
-/
namespace Tickit.XTermDrv
open Tickit Tickit.VT

theorem digit_isDigit : ∀ k, k < 10 → isDigit (UInt8.ofNat (48 + k)) = true := by decide

theorem digit_toNat : ∀ k, k < 10 → (UInt8.ofNat (48 + k)).toNat - 48 = k := by decide

theorem showNat_ne_nil (n : Nat) : showNat n ≠ [] := by
  unfold showNat showNatF; split <;> simp

theorem showNatF_digits : ∀ f n, ∀ b ∈ showNatF f n, isDigit b = true
  | 0, _ => fun _ hb => nomatch hb
  | f + 1, n => by
    intro b hb
    unfold showNatF at hb
    split at hb
    · rw [List.mem_singleton.1 hb]; exact digit_isDigit n ‹_›
    · rcases List.mem_append.1 hb with hb | hb
      · exact showNatF_digits f _ b hb
      · rw [List.mem_singleton.1 hb]; exact digit_isDigit _ (Nat.mod_lt _ (by decide))

theorem showNat_digits (n : Nat) : ∀ b ∈ showNat n, isDigit b = true := showNatF_digits _ n

theorem showNatF_value : ∀ f n, n < f → digitsValue (showNatF f n) 0 = n
  | 0, _, h => absurd h (Nat.not_lt_zero _)
  | f + 1, n, h => by
    unfold showNatF
    split
    · simp only [digitsValue, List.foldl_cons, List.foldl_nil, digit_toNat n ‹_›]; omega
    · rw [digitsValue_append, showNatF_value f (n / 10) (by omega)]
      simp only [digitsValue, List.foldl_cons, List.foldl_nil, digit_toNat (n % 10) (by omega)]
      omega

theorem digitsValue_showNat (n : Nat) : digitsValue (showNat n) 0 = n := showNatF_value _ n (Nat.lt_succ_self n)

theorem paramVal_showNat (n : Nat) : paramVal (showNat n) = some n :=
  (if_neg (showNat_ne_nil n)).trans (congrArg some (digitsValue_showNat n))

theorem decimal_showNat : Csi.Decimal UInt8.toNat showNat :=
  ⟨fun n b hb => (isDigit_iff b).1 (showNat_digits n b hb), paramVal_showNat⟩

theorem readNat_showNat (n : Nat) : readNat (showNat n) = some n := by
  have hd := showNat_digits n
  simp [readNat, showNat_ne_nil, digitsValue_showNat]
  exact hd

theorem showNat_head_ne_minus (n : Nat) : ∀ b rest, showNat n = b :: rest → b ≠ 0x2d := by
  intro b rest h
  have : isDigit b = true := showNat_digits n b (by rw [h]; simp)
  intro hb; subst hb; revert this; decide

theorem showInt_of_nonneg {i : Int} (h : 0 ≤ i) : showInt i = showNat i.toNat := by
  simp [showInt, Int.not_lt.mpr h]

/-- A parameter on the wire: omitted, or `%d`. -/
def wire : Option Nat → List UInt8
  | none => []
  | some n => showNat n

theorem paramVal_wire (p : Option Nat) : paramVal (wire p) = p := by
  cases p with
  | none => rfl
  | some n => exact paramVal_showNat n

theorem wire_digits : ∀ p : Option Nat, Csi.Digits UInt8.toNat (wire p)
  | none => fun _ hb => nomatch hb
  | some n => decimal_showNat.digits n

theorem groupsOf_wire (qs : List (Option Nat)) (hne : qs ≠ []) :
    groupsOf [] (qs.map fun p => (wire p, false)) = qs.map fun p => [p] := by
  induction qs with
  | nil => exact absurd rfl hne
  | cons p rest ih => cases rest with
    | nil => exact congrArg (fun x => [[x]]) (paramVal_wire p)
    | cons q rest =>
      refine (if_neg Bool.false_ne_true).trans ?_
      exact (congrArg (_ :: ·) (ih (List.cons_ne_nil _ _))).trans (congrArg (fun x => [x] :: _) (paramVal_wire p))

theorem param_0n0 (b : Nat) : param [[none], [some b]] 0 = none := rfl
theorem param_0n1 (b : Nat) : param [[none], [some b]] 1 = some b := rfl
theorem param_00 : param [[none]] 0 = none := rfl
theorem param_01 : param [[none]] 1 = none := rfl

end Tickit.XTermDrv

namespace Tickit.VT.Reader
open Tickit.XTermDrv
variable {σ : Type} {run : List UInt8 → σ → σ} {step : σ → UInt8 → σ} {ps : σ → PState} {setPs : σ → PState → σ}
  {exec : σ → UInt8 → List (List (Option Nat)) → List UInt8 → UInt8 → σ} {glyph : σ → Nat → σ}
  (R : Reader run step ps setPs exec glyph)
include R

/-- In this and the following lemmas the classes of the literal intermediate and final bytes are found by evaluation
    (the `by decide` defaults). -/
theorem run_csi_params (s : σ) (hg : ps s = .ground) (qs : List (Option Nat)) (hne : qs ≠ [])
    (inter : List UInt8) (f : UInt8) (hi : ∀ b ∈ inter, classify b = .inter := by decide)
    (hf : classify f = .final := by decide) :
    run (csi (joinSep (qs.map fun p => (wire p, false)) ++ inter ++ [f])) s = exec s 0 (qs.map fun p => [p]) inter f := by
  rw [csi, R.run_csi_sep s hg _ (by
    intro p hp
    obtain ⟨q, _, rfl⟩ := List.mem_map.mp hp
    exact wire_digits q) inter hi f hf, groupsOf_wire qs hne]

theorem run_csi_0_i (s : σ) (hg : ps s = .ground) (inter : List UInt8) (f : UInt8)
    (hi : ∀ b ∈ inter, classify b = .inter := by decide) (hf : classify f = .final := by decide) :
    run (csi (inter ++ [f])) s = exec s 0 [[none]] inter f :=
  R.run_csi_params s hg [none] (by simp) inter f hi hf

theorem run_csi_n_i (s : σ) (hg : ps s = .ground) (n : Int) (hn : 0 ≤ n) (inter : List UInt8) (f : UInt8)
    (hi : ∀ b ∈ inter, classify b = .inter := by decide) (hf : classify f = .final := by decide) :
    run (csi (showInt n ++ inter ++ [f])) s = exec s 0 [[some n.toNat]] inter f := by
  rw [showInt_of_nonneg hn]
  exact R.run_csi_params s hg [some n.toNat] (by simp) inter f hi hf

theorem run_csi_0 (s : σ) (hg : ps s = .ground) (f : UInt8) (hf : classify f = .final := by decide) :
    run (csi [f]) s = exec s 0 [[none]] [] f :=
  R.run_csi_0_i s hg [] f (by simp) hf

theorem run_csi_n (s : σ) (hg : ps s = .ground) (n : Int) (hn : 0 ≤ n) (f : UInt8)
    (hf : classify f = .final := by decide) :
    run (csi (showInt n ++ [f])) s = exec s 0 [[some n.toNat]] [] f := by
  have := R.run_csi_n_i s hg n hn [] f (by simp) hf
  rwa [List.append_nil] at this

theorem run_csi_nn (s : σ) (hg : ps s = .ground) (a b : Int) (ha : 0 ≤ a) (hb : 0 ≤ b) (f : UInt8)
    (hf : classify f = .final := by decide) :
    run (csi (showInt a ++ [0x3b] ++ showInt b ++ [f])) s = exec s 0 [[some a.toNat], [some b.toNat]] [] f := by
  rw [showInt_of_nonneg ha, showInt_of_nonneg hb]
  have := R.run_csi_params s hg [some a.toNat, some b.toNat] (by simp) [] f (by simp) hf
  rwa [List.append_nil] at this

theorem run_csi_0n (s : σ) (hg : ps s = .ground) (b : Int) (hb : 0 ≤ b) (f : UInt8)
    (hf : classify f = .final := by decide) :
    run (csi ([0x3b] ++ showInt b ++ [f])) s = exec s 0 [[none], [some b.toNat]] [] f := by
  rw [showInt_of_nonneg hb]
  have := R.run_csi_params s hg [none, some b.toNat] (by simp) [] f (by simp) hf
  rwa [List.append_nil] at this

theorem run_gotoAbs_pos (s : σ) (hg : ps s = .ground) (line col : Int) (hl : 0 ≤ line) (hc : 0 ≤ col)
    (M : Int → Int → σ) (hcup : ∀ qs, exec s 0 qs [] 0x48 = M (cnt qs 0 - 1) (cnt qs 1 - 1)) :
    run (gotoAbs line col) s = M line col := by
  unfold gotoAbs
  have h1 : line ≠ -1 := by omega
  by_cases h2 : col > 0
  · rw [if_pos ⟨h1, h2⟩, R.run_csi_nn s hg (line + 1) (col + 1) (by omega) (by omega) 0x48,
      hcup, cnt_toNat0 _ (by omega), cnt_toNat1 _ (by omega), Int.add_sub_cancel, Int.add_sub_cancel]
  · rw [if_neg (fun h => h2 h.2), if_pos ⟨h1, by omega⟩, R.run_csi_n s hg (line + 1) (by omega) 0x48, hcup,
      cnt_toNat0 _ (by omega), cnt_missing1, Int.add_sub_cancel, show col = 0 by omega]; rfl

/-- CUP, VPA or CHA: `-1` keeps a coordinate; `row0`, `col0` are the one VPA / CHA keep. -/
theorem run_gotoAbs (s : σ) (hg : ps s = .ground) (line col : Int) (hl : -1 ≤ line) (hc : -1 ≤ col)
    (M : Int → Int → σ) (row0 col0 : Int) (hcup : ∀ qs, exec s 0 qs [] 0x48 = M (cnt qs 0 - 1) (cnt qs 1 - 1))
    (hvpa : ∀ qs, exec s 0 qs [] 0x64 = M (cnt qs 0 - 1) col0)
    (hcha : ∀ qs, exec s 0 qs [] 0x47 = M row0 (cnt qs 0 - 1)) :
    run (gotoAbs line col) s =
      if line = -1 ∧ col = -1 then s else M (if line = -1 then row0 else line) (if col = -1 then col0 else col) := by
  by_cases h1 : line = -1
  · unfold gotoAbs
    have n1 : ¬ (line ≠ -1 ∧ col > 0) := fun h => h.1 h1
    have n2 : ¬ (line ≠ -1 ∧ col = 0) := fun h => h.1 h1
    have n3 : ¬ (line ≠ -1) := fun h => h h1
    rw [if_neg n1, if_neg n2, if_neg n3, if_pos h1]
    by_cases h2 : col > 0
    · have n4 : ¬ (line = -1 ∧ col = -1) := fun h => by omega
      have n5 : ¬ (col = -1) := by omega
      rw [if_pos h2, if_neg n4, if_neg n5, R.run_csi_n s hg (col + 1) (by omega) 0x47, hcha,
        cnt_toNat0 _ (by omega), Int.add_sub_cancel]
    · rw [if_neg h2]
      by_cases h3 : col = -1
      · have n6 : ¬ (col ≠ -1) := fun h => h h3
        rw [if_neg n6, if_pos ⟨h1, h3⟩, R.run_nil]
      · have h4 : col = 0 := by omega
        have n4 : ¬ (line = -1 ∧ col = -1) := fun h => h3 h.2
        rw [if_pos h3, if_neg n4, if_neg h3, R.run_csi_0 s hg 0x47, hcha, cnt_none0, h4]; rfl
  · rw [if_neg (fun h => h1 h.1), if_neg h1]
    by_cases h5 : col = -1
    · unfold gotoAbs
      rw [if_neg (fun h => by omega), if_neg (fun h => by omega), if_pos h1, if_pos h5,
        R.run_csi_n s hg (line + 1) (by omega) 0x64, hvpa, cnt_toNat0 _ (by omega), Int.add_sub_cancel]
    · rw [if_neg h5]
      exact R.run_gotoAbs_pos s hg line col (by omega) (by omega) M hcup

/-- The ladder for a pair of control sequences that act on a count (`P` for the final byte `pos`, `N` for `neg`):
    the count is `|n|`, omitted on the wire when it is 1; nothing is sent for 0. -/
theorem run_signedSeq (s : σ) (hg : ps s = .ground) (n : Int) (inter : List UInt8) (pos neg : UInt8)
    (P N : Int → σ) (hP : ∀ qs, exec s 0 qs inter pos = P (cnt qs 0))
    (hN : ∀ qs, exec s 0 qs inter neg = N (cnt qs 0))
    (hi : ∀ b ∈ inter, classify b = .inter := by decide) (hp : classify pos = .final := by decide)
    (hn : classify neg = .final := by decide) :
    run (signedSeq n inter pos neg) s = if n > 0 then P n else if n < 0 then N (-n) else s := by
  unfold signedSeq
  by_cases h1 : n > 1
  · rw [if_pos h1, if_pos (by omega), R.run_csi_n_i s hg n (by omega) inter pos hi hp, hP, cnt_toNat0 n (by omega)]
  · rw [if_neg h1]
    by_cases h2 : n = 1
    · subst h2
      rw [if_pos rfl, if_pos (by decide), R.run_csi_0_i s hg inter pos hi hp, hP, cnt_none0]
    · rw [if_neg h2]
      by_cases h3 : n = -1
      · subst h3
        rw [if_pos rfl, if_neg (by decide), if_pos (by decide), R.run_csi_0_i s hg inter neg hi hn, hN, cnt_none0]; rfl
      · rw [if_neg h3]
        by_cases h4 : n < -1
        · rw [if_pos h4, if_neg (by omega), if_pos (by omega), R.run_csi_n_i s hg (-n) (by omega) inter neg hi hn, hN,
            cnt_toNat0 (-n) (by omega)]
        · rw [if_neg h4, if_neg (by omega), if_neg (by omega), R.run_nil]

theorem run_signedSeq_add (s : σ) (hg : ps s = .ground) (n : Int) (pos neg : UInt8) (M : Int → σ) (x0 : Int)
    (hP : ∀ qs, exec s 0 qs [] pos = M (x0 + cnt qs 0)) (hN : ∀ qs, exec s 0 qs [] neg = M (x0 - cnt qs 0))
    (hp : classify pos = .final := by decide) (hn : classify neg = .final := by decide) :
    run (signedSeq n [] pos neg) s = if n = 0 then s else M (x0 + n) := by
  rw [R.run_signedSeq s hg n [] pos neg (fun k => M (x0 + k)) (fun k => M (x0 - k)) hP hN (by simp) hp hn]
  rcases Int.lt_trichotomy n 0 with h | h | h
  · rw [if_neg (by omega), if_pos h, if_neg (by omega), Int.sub_neg]
  · rw [if_neg (by omega), if_neg (by omega), if_pos h]
  · rw [if_pos h, if_neg (by omega)]

theorem run_ech (s : σ) (hg : ps s = .ground) (count : Int) (h1 : 1 ≤ count) (E : Int → σ)
    (hE : ∀ qs, exec s 0 qs [] 0x58 = E (cnt qs 0)) :
    run (if count = 1 then csi [0x58] else csi (showInt count ++ [0x58])) s = E count := by
  by_cases hc1 : count = 1
  · rw [if_pos hc1, R.run_csi_0 s hg 0x58, hE, cnt_none0, hc1]
  · rw [if_neg hc1, R.run_csi_n s hg count (by omega) 0x58, hE, cnt_toNat0 _ h1]

end Tickit.VT.Reader

namespace Tickit.XTermDrv
open Tickit Tickit.VT

theorem run_gotoAbs (vt : VTState) (hg : vt.ps = .ground) (line col : Int) (hl : -1 ≤ line) (hc : -1 ≤ col) :
    run (gotoAbs line col) vt =
      if line = -1 ∧ col = -1 then vt
      else vt.moveTo (if line = -1 then vt.row else line) (if col = -1 then vt.col else col) :=
  vtR.run_gotoAbs vt hg line col hl hc vt.moveTo vt.row vt.col (dispatch_cup vt) (dispatch_vpa vt) (dispatch_cha vt)

theorem run_gotoAbs_pos (vt : VTState) (hg : vt.ps = .ground) (line col : Int) (hl : 0 ≤ line) (hc : 0 ≤ col) :
    run (gotoAbs line col) vt = vt.moveTo line col :=
  vtR.run_gotoAbs_pos vt hg line col hl hc vt.moveTo (dispatch_cup vt)

theorem run_ech (vt : VTState) (hg : vt.ps = .ground) (count : Int) (h1 : 1 ≤ count) :
    run (if count = 1 then csi [0x58] else csi (showInt count ++ [0x58])) vt = vt.ech count :=
  vtR.run_ech vt hg count h1 vt.ech (dispatch_ech vt)

theorem run_signedSeq_vshift (vt : VTState) (hg : vt.ps = .ground) (d : Int) :
    run (signedSeq d [] 0x4d 0x4c) vt = vshift vt d :=
  vtR.run_signedSeq vt hg d [] 0x4d 0x4c vt.dl vt.il (dispatch_dl vt) (dispatch_il vt)

theorem run_signedSeq_hshift (vt : VTState) (hg : vt.ps = .ground) (r : Int) :
    run (signedSeq r [0x27] 0x7e 0x7d) vt = hshift vt r :=
  vtR.run_signedSeq vt hg r [0x27] 0x7e 0x7d vt.decdc vt.decic (dispatch_decdc vt) (dispatch_decic vt)

theorem run_signedSeq_rshift (vt : VTState) (hg : vt.ps = .ground) (r : Int) :
    run (signedSeq r [] 0x50 0x40) vt = rshift vt r :=
  vtR.run_signedSeq vt hg r [] 0x50 0x40 vt.dch vt.ich (dispatch_dch vt) (dispatch_ich vt)

theorem run_signedSeq_vmove (vt : VTState) (hg : vt.ps = .ground) (d : Int) :
    run (signedSeq d [] 0x42 0x41) vt = if d = 0 then vt else vt.moveTo (vt.row + d) vt.col :=
  vtR.run_signedSeq_add vt hg d 0x42 0x41 (fun r => vt.moveTo r vt.col) vt.row (dispatch_cud vt) (dispatch_cuu vt)

theorem run_signedSeq_hmove (vt : VTState) (hg : vt.ps = .ground) (r : Int) :
    run (signedSeq r [] 0x43 0x44) vt = if r = 0 then vt else vt.moveTo vt.row (vt.col + r) :=
  vtR.run_signedSeq_add vt hg r 0x43 0x44 (fun c => vt.moveTo vt.row c) vt.col (dispatch_cuf vt) (dispatch_cub vt)

theorem run_moveRel_right (vt : VTState) (hg : vt.ps = .ground) (r : Int) :
    run (moveRel 0 r) vt = if r = 0 then vt else vt.moveTo vt.row (vt.col + r) :=
  run_signedSeq_hmove vt hg r

theorem run_decstbm (vt : VTState) (hg : vt.ps = .ground) (t b : Int) (h0 : 0 ≤ t) (h1 : t + 1 < b) (h2 : b ≤ vt.lines) :
    run (csi (showInt (t + 1) ++ [0x3b] ++ showInt b ++ [0x72])) vt =
      { vt with top := t, bottom := b - 1, row := 0, col := 0, pendingWrap := false } := by
  rw [vtR.run_csi_nn vt hg (t + 1) b (by omega) (by omega) 0x72, dispatch_decstbm]
  exact decstbm_valid vt t b h0 h1 h2

theorem run_decstbm_reset (vt : VTState) (hg : vt.ps = .ground) :
    run (csi [0x72]) vt = { vt with top := 0, bottom := vt.lines - 1, row := 0, col := 0, pendingWrap := false } := by
  rw [vtR.run_csi_0 vt hg 0x72, dispatch_decstbm]
  exact decstbm_reset vt

theorem run_decslrm (vt : VTState) (hg : vt.ps = .ground) (hd : vt.declrmm = true) (l r : Int) (h0 : 0 ≤ l)
    (h1 : l + 1 < r) (h2 : r ≤ vt.cols) :
    run (csi (showInt (l + 1) ++ [0x3b] ++ showInt r ++ [0x73])) vt =
      { vt with left := l, right := r - 1, row := 0, col := 0, pendingWrap := false } := by
  rw [vtR.run_csi_nn vt hg (l + 1) r (by omega) (by omega) 0x73, dispatch_decslrm, if_pos hd]
  exact decslrm_valid vt l r h0 h1 h2

theorem run_decslrm_right (vt : VTState) (hg : vt.ps = .ground) (hd : vt.declrmm = true) (r : Int) (h1 : 1 < r)
    (h2 : r ≤ vt.cols) :
    run (csi ([0x3b] ++ showInt r ++ [0x73])) vt =
      { vt with left := 0, right := r - 1, row := 0, col := 0, pendingWrap := false } := by
  rw [vtR.run_csi_0n vt hg r (by omega) 0x73, dispatch_decslrm, if_pos hd]
  exact decslrm_right vt r h1 h2

theorem run_decslrm_reset (vt : VTState) (hg : vt.ps = .ground) (hd : vt.declrmm = true) :
    run (csi [0x73]) vt = { vt with left := 0, right := vt.cols - 1, row := 0, col := 0, pendingWrap := false } := by
  rw [vtR.run_csi_0 vt hg 0x73, dispatch_decslrm, if_pos hd]
  exact decslrm_reset vt

end Tickit.XTermDrv
