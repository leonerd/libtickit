import Tickit.Proof.InputXlate
/-
  Lemmas for C20, bytes to keys: a push is "feed, then `got_key` over the keys"; pushes in sequence as one combinator
  `seq`; two cuttings of one byte stream agree (`pushPiecesOnce_agree`); the repaired push loop is the cutting it performs.
-/
namespace Tickit.InputXlate

theorem Outcome.bind_assoc {α β γ : Type} (o : Outcome α) (f : α → Outcome β) (g : β → Outcome γ) :
    (o.bind f).bind g = o.bind fun a => (f a).bind g := by
  cases o <;> rfl

theorem Outcome.ok_bind {α β : Type} (a : α) (f : α → Outcome β) : (Outcome.ok a).bind f = f a := rfl

theorem Outcome.bind_ok {α : Type} (o : Outcome α) : o.bind .ok = o := by
  cases o <;> rfl

theorem Outcome.map_eq_bind {α β : Type} (f : α → β) (o : Outcome α) : o.map f = o.bind fun a => .ok (f a) := by
  cases o <;> rfl

theorem Outcome.bind_eq_ok {α β : Type} {o : Outcome α} {f : α → Outcome β} {b : β} (h : o.bind f = .ok b) :
    ∃ a, o = .ok a ∧ f a = .ok b := by
  cases o <;> first | exact ⟨_, rfl, h⟩ | cases h

/-- The common form of `runKeys` and `pushPieces`. -/
def seq {σ α : Type} (f : σ → α → Outcome (σ × List Event)) : σ → List α → Outcome (σ × List Event)
  | s, [] => .ok (s, [])
  | s, a :: as => (f s a).bind fun r => (seq f r.1 as).bind fun r' => .ok (r'.1, r.2 ++ r'.2)

theorem seq_append {σ α : Type} (f : σ → α → Outcome (σ × List Event)) : ∀ (a b : List α) (s : σ),
    seq f s (a ++ b) = (seq f s a).bind fun r => (seq f r.1 b).bind fun r' => .ok (r'.1, r.2 ++ r'.2)
  | [], b, s => (Outcome.bind_ok _).symm
  | x :: xs, b, s => by
    simp only [List.cons_append, seq, seq_append f xs b, Outcome.bind_assoc, Outcome.ok_bind, List.append_assoc]

theorem seq_singleton {σ α : Type} (f : σ → α → Outcome (σ × List Event)) (s : σ) (a : α) : seq f s [a] = f s a := by
  show (f s a).bind (fun r => .ok (r.1, r.2 ++ [])) = _
  simp only [List.append_nil]
  exact Outcome.bind_ok _

section
variable (T : Tokenizer) (cfg : Cfg) (fuel : Nat) (now : TimeVal)

theorem drainFuel_succ_key (n : Nat) {s s' : T.σ} {k : Key} (h : T.getkey s = (Res.key k, s')) :
    T.drainFuel (n + 1) s = (T.drainFuel n s').map fun r => (k :: r.1, r.2.1, r.2.2) := by
  simp only [Tokenizer.drainFuel, h]
  cases T.drainFuel n s' <;> rfl

theorem drainFuel_succ_stop (n : Nat) {s s' : T.σ} {r : Res}
    (h : T.getkey s = (r, s')) (hr : r.isKey = false) :
    T.drainFuel (n + 1) s = some ([], r, s') := by
  cases r <;> first | (simp [Res.isKey] at hr; done) | simp only [Tokenizer.drainFuel, h]

theorem getKeysLoop_succ_key (n held : Nat) {s s' : T.σ} {k : Key} (h : T.getkey s = (Res.key k, s')) :
    getKeysLoop T cfg fuel (n + 1) s held =
      (gotKey cfg fuel held k).bind fun r => (getKeysLoop T cfg fuel n s' r.1).bind fun r' =>
        .ok (r'.1, r'.2.1, r.2 ++ r'.2.2.1, r'.2.2.2) := by
  simp only [getKeysLoop, h]
  cases gotKey cfg fuel held k with
  | ok r => simp only [Outcome.ok_bind]; cases getKeysLoop T cfg fuel n s' r.1 <;> rfl
  | ub w => rfl
  | outOfFuel => rfl

theorem getKeysLoop_succ_stop (n held : Nat) {s s' : T.σ} {r : Res}
    (h : T.getkey s = (r, s')) (hr : r.isKey = false) :
    getKeysLoop T cfg fuel (n + 1) s held = .ok (s', held, [], r) := by
  cases r <;> first | (simp [Res.isKey] at hr; done) | simp only [getKeysLoop, h]

theorem isKey_cases (r : Res) : (∃ k, r = Res.key k) ∨ r.isKey = false := by
  cases r <;> simp [Res.isKey]

theorem drainFuel_enough : ∀ (n : Nat) (s : T.σ), T.pending s < n →
    ∃ r, ∀ m, T.pending s < m → T.drainFuel m s = some r
  | 0, _, h => absurd h (Nat.not_lt_zero _)
  | n + 1, s, h => by
    cases hg : T.getkey s with
    | mk r0 s' =>
      rcases isKey_cases r0 with ⟨k, rfl⟩ | hr
      · have hlt := T.getkey_consumes s k s' hg
        obtain ⟨r, hr⟩ := drainFuel_enough n s' (Nat.lt_of_lt_of_le hlt (Nat.le_of_lt_succ h))
        refine ⟨(k :: r.1, r.2.1, r.2.2), fun m hm => ?_⟩
        obtain ⟨m', rfl⟩ := Nat.exists_eq_succ_of_ne_zero (Nat.ne_of_gt (Nat.zero_lt_of_lt hm))
        rw [drainFuel_succ_key T m' hg, hr m' (Nat.lt_of_lt_of_le hlt (Nat.le_of_lt_succ hm))]
        rfl
      · refine ⟨([], r0, s'), fun m hm => ?_⟩
        obtain ⟨m', rfl⟩ := Nat.exists_eq_succ_of_ne_zero (Nat.ne_of_gt (Nat.zero_lt_of_lt hm))
        exact drainFuel_succ_stop T m' hg hr

theorem drainFuel_eq_drain {n : Nat} {s : T.σ} (h : T.pending s < n) : T.drainFuel n s = some (T.drain s) := by
  obtain ⟨r, hr⟩ := drainFuel_enough T n s h
  rw [Tokenizer.drain, hr _ (Nat.lt_succ_self _), hr n h]

theorem drain_key {s s' : T.σ} {k : Key} (h : T.getkey s = (Res.key k, s')) :
    T.drain s = (k :: (T.drain s').1, (T.drain s').2.1, (T.drain s').2.2) := by
  have := drainFuel_eq_drain T (Nat.lt_succ_self (T.pending s))
  rw [drainFuel_succ_key T _ h, drainFuel_eq_drain T (T.getkey_consumes s k s' h)] at this
  exact (Option.some.inj this).symm

theorem drain_stop {s s' : T.σ} {r : Res} (h : T.getkey s = (r, s')) (hr : r.isKey = false) :
    T.drain s = ([], r, s') :=
  Option.some.inj ((drainFuel_eq_drain T (Nat.lt_succ_self _)).symm.trans (drainFuel_succ_stop T _ h hr))

theorem runKeys_eq_seq : ∀ (keys : List Key) (held : Nat),
    runKeys cfg fuel held keys = seq (gotKey cfg fuel) held keys
  | [], _ => rfl
  | k :: ks, held => by
    rw [runKeys, seq]
    cases gotKey cfg fuel held k with
    | ok r =>
      simp only [Outcome.ok_bind, ← runKeys_eq_seq ks]
      cases runKeys cfg fuel r.1 ks <;> rfl
    | ub w => rfl
    | outOfFuel => rfl

theorem pushPieces_eq_seq : ∀ (ps : List (List UInt8)) (tt : Term T),
    pushPieces T cfg fuel now tt ps = seq (inputPushBytes T cfg fuel now) tt ps
  | [], _ => rfl
  | p :: ps, tt => by
    rw [pushPieces, seq]
    cases inputPushBytes T cfg fuel now tt p with
    | ok r =>
      simp only [Outcome.ok_bind, ← pushPieces_eq_seq ps]
      cases pushPieces T cfg fuel now r.1 ps <;> rfl
    | ub w => rfl
    | outOfFuel => rfl

theorem runKeys_append (k1 k2 : List Key) (held : Nat) :
    runKeys cfg fuel held (k1 ++ k2) =
      (runKeys cfg fuel held k1).bind fun x => (runKeys cfg fuel x.1 k2).bind fun y => .ok (y.1, x.2 ++ y.2) := by
  simp only [runKeys_eq_seq, seq_append]

theorem getKeysLoop_eq :
    ∀ (n : Nat) (s : T.σ) (held : Nat) (r : List Key × Res × T.σ), T.drainFuel n s = some r →
      getKeysLoop T cfg fuel n s held = (runKeys cfg fuel held r.1).map fun x => (r.2.2, x.1, x.2, r.2.1)
  | 0, _, _, _, h => nomatch h
  | n + 1, s, held, r, h => by
    cases hg : T.getkey s with
    | mk r0 s' =>
      rcases isKey_cases r0 with ⟨k, rfl⟩ | hr
      · rw [drainFuel_succ_key T n hg] at h
        obtain ⟨r', hd, rfl⟩ := Option.map_eq_some_iff.1 h
        rw [getKeysLoop_succ_key T cfg fuel n held hg, runKeys_eq_seq, seq]
        cases gotKey cfg fuel held k with
        | ok x =>
          simp only [Outcome.ok_bind, getKeysLoop_eq n s' x.1 r' hd, runKeys_eq_seq, Outcome.map_eq_bind,
            Outcome.bind_assoc]
        | ub w => rfl
        | outOfFuel => rfl
      · rw [drainFuel_succ_stop T n hg hr] at h
        cases h
        rw [getKeysLoop_succ_stop T cfg fuel n held hg hr]
        rfl

/-- `tickit_term_input_push_bytes` (unchanged tree) in terms of the tokenizer's `feed`. -/
def pushSem (tt : Term T) (bytes : List UInt8) :
    Outcome (Term T × List Event) :=
  (runKeys cfg fuel tt.held (T.feed tt.tk bytes).1).map fun x =>
    ({ tk := (T.feed tt.tk bytes).2.2, held := x.1,
       timeoutAt := armTimeout tt.timeoutAt now (T.waittime (T.feed tt.tk bytes).2.2) (T.feed tt.tk bytes).2.1 }, x.2)

theorem inputPushBytesOnce_eq (tt : Term T)
    (bytes : List UInt8) :
    inputPushBytesOnce T cfg fuel now tt bytes = pushSem T cfg fuel now tt bytes := by
  unfold inputPushBytesOnce getKeys pushSem Tokenizer.feed
  simp only
  rw [getKeysLoop_eq T cfg fuel _ _ tt.held _ (drainFuel_eq_drain T (Nat.lt_succ_self _))]
  cases runKeys cfg fuel tt.held (T.drain (T.push tt.tk bytes).1).1 <;> rfl

theorem inputPushBytesOnce_tk (tt : Term T)
    (b : List UInt8) (r : Term T × List Event) (h : inputPushBytesOnce T cfg fuel now tt b = .ok r) :
    r.1.tk = (T.feed tt.tk b).2.2 := by
  rw [inputPushBytesOnce_eq, pushSem, Outcome.map_eq_bind] at h
  obtain ⟨x, _, h⟩ := Outcome.bind_eq_ok h
  cases h; rfl

theorem armTimeout_armed (t n : TimeVal) (w : Int) (res : Res) (hn : 0 ≤ n.sec) :
    decide ((armTimeout t n w res).sec ≠ -1) = decide (res = Res.again) := by
  unfold armTimeout
  by_cases h : res = Res.again
  · simp only [h, if_true]
    split <;> simp <;> omega
  · simp [h]

/-- The clock-independent observation of a run of pushes, from the tokenizer's point of view. -/
def semObs (tt : Term T) (f : List Key × Res × T.σ) :
    Outcome (T.σ × Nat × Bool × List Event) :=
  (runKeys cfg fuel tt.held f.1).map fun x => (f.2.2, x.1, decide (f.2.1 = Res.again), x.2)

theorem pushSem_obs (hnow : 0 ≤ now.sec) (tt : Term T)
    (bytes : List UInt8) :
    (pushSem T cfg fuel now tt bytes).map pushObs = semObs T cfg fuel tt (T.feed tt.tk bytes) := by
  unfold pushSem semObs
  cases runKeys cfg fuel tt.held (T.feed tt.tk bytes).1 with
  | ok x => simp only [Outcome.map, pushObs]; rw [armTimeout_armed _ _ _ _ hnow]
  | ub w => rfl
  | outOfFuel => rfl

/-- Feed the non-empty list of pieces `p :: ps`, draining after each. -/
def feedPieces : T.σ → List UInt8 → List (List UInt8) → List Key × Res × T.σ
  | s, p, [] => T.feed s p
  | s, p, q :: qs =>
    ((T.feed s p).1 ++ (feedPieces (T.feed s p).2.2 q qs).1,
     (feedPieces (T.feed s p).2.2 q qs).2.1, (feedPieces (T.feed s p).2.2 q qs).2.2)

/-- every push of the pieces `p :: ps`, each after the drain of the one before, is accepted in full -/
def AcceptedRun (T : Tokenizer) : T.σ → List UInt8 → List (List UInt8) → Prop
  | s, p, [] => T.Accepts s p
  | s, p, q :: qs => T.Accepts s p ∧ AcceptedRun T (T.feed s p).2.2 q qs

instance decAcceptedRun (T : Tokenizer) : ∀ (qs : List (List UInt8)) (s : T.σ) (p : List UInt8),
    Decidable (AcceptedRun T s p qs)
  | [], s, p => inferInstanceAs (Decidable (T.Accepts s p))
  | q :: qs, s, p =>
    have := decAcceptedRun T qs (T.feed s p).2.2 q
    inferInstanceAs (Decidable (T.Accepts s p ∧ AcceptedRun T (T.feed s p).2.2 q qs))

/-- `AcceptedRun` for a list that may be empty. -/
def AcceptedList : T.σ → List (List UInt8) → Prop
  | _, [] => True
  | s, p :: ps => T.Accepts s p ∧ AcceptedList (T.feed s p).2.2 ps

theorem acceptedRun_iff : ∀ (ps : List (List UInt8)) (s : T.σ) (p : List UInt8),
    AcceptedRun T s p ps ↔ AcceptedList T s (p :: ps)
  | [], _, _ => ⟨fun h => ⟨h, trivial⟩, fun h => h.1⟩
  | q :: qs, _, _ => and_congr_right fun _ => acceptedRun_iff qs _ q

theorem acceptedList_of_whole (hI : T.Incremental) : ∀ (ps : List (List UInt8)) (s : T.σ), T.Accepts s ps.flatten → AcceptedList T s ps
  | [], _, _ => trivial
  | p :: ps, s, h => by
    rw [List.flatten_cons] at h
    obtain ⟨h1, h2, _⟩ := hI.split s p ps.flatten h
    exact ⟨h1, acceptedList_of_whole hI ps _ h2⟩

theorem feedPieces_whole (hI : T.Incremental) : ∀ (ps : List (List UInt8)) (p : List UInt8) (s : T.σ),
    T.Accepts s (p :: ps).flatten → feedPieces T s p ps = T.feed s (p :: ps).flatten
  | [], p, s, _ => by simp [feedPieces]
  | q :: qs, p, s, hacc => by
    rw [List.flatten_cons] at hacc ⊢
    obtain ⟨_, h2, h3⟩ := hI.split s p (q :: qs).flatten hacc
    rw [feedPieces, feedPieces_whole hI qs q _ h2, h3]

theorem feedPieces_cut (hI : T.Incremental) (s : T.σ) (c e : List UInt8) (ds : List (List UInt8))
    (hacc : AcceptedList T s ((c ++ e) :: ds)) :
    AcceptedList T s (c :: e :: ds) ∧ feedPieces T s (c ++ e) ds = feedPieces T s c (e :: ds) := by
  obtain ⟨h1, h2, h3⟩ := hI.split s c e hacc.1
  have hst : (T.feed s (c ++ e)).2.2 = (T.feed (T.feed s c).2.2 e).2.2 := by rw [h3]
  refine ⟨⟨h1, h2, hst ▸ hacc.2⟩, ?_⟩
  cases ds with
  | nil => exact h3
  | cons d ds =>
    simp only [feedPieces]
    rw [← hst, h3]
    simp [List.append_assoc]

/-- Any two cuttings of one stream are fed alike when every push is accepted.  Pieces may be empty (`Incremental.split`
    holds for an empty `a` or `b`); only the empty list of pieces differs from `[[]]`, hence `c :: cs`, `d :: ds`. -/
theorem chunkings_agree (hI : T.Incremental) :
    ∀ (n : Nat) (s : T.σ) (c : List UInt8) (cs : List (List UInt8)) (d : List UInt8) (ds : List (List UInt8)),
      cs.length + ds.length < n → (c :: cs).flatten = (d :: ds).flatten →
      AcceptedList T s (c :: cs) → AcceptedList T s (d :: ds) →
      feedPieces T s c cs = feedPieces T s d ds := by
  intro n
  induction n with
  | zero => intro s c cs d ds h; exact absurd h (Nat.not_lt_zero _)
  | succ n ih =>
    -- the first piece of one cutting is a prefix of the other's, `d = c ++ e`: cut `d` there and go on behind `c`
    have key : ∀ (s : T.σ) (c : List UInt8) (cs : List (List UInt8)) (e : List UInt8) (ds : List (List UInt8)),
        cs.length + ds.length < n + 1 → cs.flatten = e ++ ds.flatten →
        AcceptedList T s (c :: cs) → AcceptedList T s ((c ++ e) :: ds) →
        feedPieces T s c cs = feedPieces T s (c ++ e) ds := by
      intro s c cs e ds hlen hfl hac had
      obtain ⟨hacc', heq⟩ := feedPieces_cut T hI s c e ds had
      rw [heq]
      cases cs with
      | nil =>
        -- nothing is left of the stream: the other cutting's remaining pieces are empty
        have hfl' : (c :: e :: ds).flatten = c := by rw [List.flatten_cons, List.flatten_cons, ← hfl]; exact List.append_nil c
        rw [feedPieces_whole T hI (e :: ds) c s (by rw [hfl']; exact hac.1), hfl']
        rfl
      | cons c' cs' =>
        simp only [feedPieces]
        rw [ih (T.feed s c).2.2 c' cs' e ds (by simp only [List.length_cons] at hlen; omega)
          (by rw [List.flatten_cons] at hfl ⊢; exact hfl) hac.2 hacc'.2]
    intro s c cs d ds hlen hflat hac had
    simp only [List.flatten_cons] at hflat
    rcases List.append_eq_append_iff.1 hflat with ⟨e, rfl, hcs⟩ | ⟨e, rfl, hds⟩
    · exact key s c cs e ds hlen hcs hac had
    · exact (key s d ds e cs (Nat.add_comm _ _ ▸ hlen) hds had hac).symm

/-- `pushPieces` with every piece pushed by the unchanged `tickit_term_input_push_bytes` (whatever
    `cfg.pushLoops` says). -/
abbrev pushPiecesOnce : Term T → List (List UInt8) → Outcome (Term T × List Event) :=
  seq (inputPushBytesOnce T cfg fuel now)

theorem pushPieces_eq_once (hc : cfg.pushLoops = false)
    (ps : List (List UInt8)) (tt : Term T) :
    pushPieces T cfg fuel now tt ps = pushPiecesOnce T cfg fuel now tt ps := by
  rw [pushPieces_eq_seq]
  congr 1
  funext tt p
  rw [inputPushBytes, hc, if_neg Bool.false_ne_true]

theorem pushPiecesOnce_obs (hnow : 0 ≤ now.sec) :
    ∀ (ps : List (List UInt8)) (p : List UInt8) (tt : Term T),
      (pushPiecesOnce T cfg fuel now tt (p :: ps)).map pushObs = semObs T cfg fuel tt (feedPieces T tt.tk p ps)
  | [], p, tt => by
    rw [feedPieces, ← pushSem_obs T cfg fuel now hnow tt p, ← inputPushBytesOnce_eq, pushPiecesOnce, seq_singleton]
  | q :: qs, p, tt => by
    rw [feedPieces, semObs, runKeys_append, pushPiecesOnce, seq, inputPushBytesOnce_eq, pushSem]
    cases runKeys cfg fuel tt.held (T.feed tt.tk p).1 with
    | ok x =>
      -- the events of the first piece are put in front of both sides of the induction hypothesis
      have ih := congrArg (Outcome.map fun o => (o.1, o.2.1, o.2.2.1, x.2 ++ o.2.2.2))
        (pushPiecesOnce_obs hnow qs q
          { tk := (T.feed tt.tk p).2.2, held := x.1,
            timeoutAt := armTimeout tt.timeoutAt now (T.waittime (T.feed tt.tk p).2.2) (T.feed tt.tk p).2.1 })
      simp only [semObs, Outcome.map_eq_bind, Outcome.bind_assoc, Outcome.ok_bind] at ih ⊢
      exact ih
    | ub w => rfl
    | outOfFuel => rfl

theorem pushPiecesOnce_agree (hI : T.Incremental) (hnow : 0 ≤ now.sec) (tt : Term T) {c d : List UInt8} {cs ds : List (List UInt8)}
    (hflat : (c :: cs).flatten = (d :: ds).flatten) (hac : AcceptedList T tt.tk (c :: cs)) (had : AcceptedList T tt.tk (d :: ds)) :
    (pushPiecesOnce T cfg fuel now tt (c :: cs)).map pushObs = (pushPiecesOnce T cfg fuel now tt (d :: ds)).map pushObs := by
  rw [pushPiecesOnce_obs T cfg fuel now hnow cs c tt, pushPiecesOnce_obs T cfg fuel now hnow ds d tt,
    chunkings_agree T hI _ tt.tk c cs d ds (Nat.lt_succ_self _) hflat hac had]

/-- The chunks one call of the repaired `tickit_term_input_push_bytes` hands to the tokenizer, and the
    tokenizer state afterwards; `none`: the loop stalled (the tokenizer took nothing although bytes were
    left — its buffer is full of an unfinished sequence — and the rest was dropped), or the count `n` of rounds ran out
    (every round but a stalled one takes a byte: `runChunks` gives `p.length + 1`). -/
def loopChunks (T : Tokenizer) : Nat → T.σ → List UInt8 → Option (List (List UInt8) × T.σ)
  | 0, _, _ => none
  | n + 1, s, bytes =>
    if bytes.length - min (T.push s bytes).2 bytes.length = 0 then
      some ([bytes], (T.drain (T.push s bytes).1).2.2)
    else if min (T.push s bytes).2 bytes.length = 0 then none
    else
      match loopChunks T n (T.drain (T.push s bytes).1).2.2 (bytes.drop (min (T.push s bytes).2 bytes.length)) with
      | some r => some (bytes.take (min (T.push s bytes).2 bytes.length) :: r.1, r.2)
      | none => none

/-- … of a sequence of calls. -/
def runChunks (T : Tokenizer) : T.σ → List (List UInt8) → Option (List (List UInt8) × T.σ)
  | s, [] => some ([], s)
  | s, p :: ps =>
    match loopChunks T (p.length + 1) s p with
    | some r =>
      match runChunks T r.2 ps with
      | some r' => some (r.1 ++ r'.1, r'.2)
      | none => none
    | none => none

/-- the tokenizer's state after the pieces `ps` were pushed (and drained) in turn -/
def endState (s : T.σ) (ps : List (List UInt8)) : T.σ :=
  ps.foldl (fun s p => (T.feed s p).2.2) s

theorem acceptedList_append : ∀ (a b : List (List UInt8)) (s : T.σ),
    AcceptedList T s (a ++ b) ↔ AcceptedList T s a ∧ AcceptedList T (endState T s a) b
  | [], _, _ => ⟨fun h => ⟨trivial, h⟩, fun h => h.2⟩
  | _ :: xs, b, _ => (and_congr_right fun _ => acceptedList_append xs b _).trans and_assoc.symm

theorem endState_append (a b : List (List UInt8)) (s : T.σ) :
    endState T s (a ++ b) = endState T (endState T s a) b := List.foldl_append ..

/-- `cs` cuts the stream `bytes` into pieces each of which, pushed in turn from state `s` on (and drained), is accepted in
    full; `e` is the tokenizer's state after the last. -/
structure Cutting (s : T.σ) (bytes : List UInt8) (cs : List (List UInt8)) (e : T.σ) : Prop where
  flat : cs.flatten = bytes
  acc : AcceptedList T s cs
  last : e = endState T s cs

theorem Cutting.append {s e1 e : T.σ} {a b : List UInt8} {c1 c2 : List (List UInt8)} (h1 : Cutting T s a c1 e1)
    (h2 : Cutting T e1 b c2 e) : Cutting T s (a ++ b) (c1 ++ c2) e :=
  ⟨by rw [List.flatten_append, h1.flat, h2.flat], (acceptedList_append T _ _ s).2 ⟨h1.acc, h1.last ▸ h2.acc⟩,
    by rw [endState_append, ← h1.last]; exact h2.last⟩

theorem loopChunks_succ_some (hP : T.PartialPush) {n : Nat} {s e : T.σ} {bytes : List UInt8} {cs : List (List UInt8)}
    (h : loopChunks T (n + 1) s bytes = some (cs, e)) :
    ((T.push s bytes).2 = bytes.length ∧ cs = [bytes] ∧ e = (T.feed s bytes).2.2) ∨
    ((T.push s bytes).2 < bytes.length ∧ (T.push s bytes).2 ≠ 0 ∧ ∃ cs',
      loopChunks T n (T.feed s (bytes.take (T.push s bytes).2)).2.2 (bytes.drop (T.push s bytes).2) = some (cs', e) ∧
      cs = bytes.take (T.push s bytes).2 :: cs') := by
  have hle := hP.le s bytes
  rw [loopChunks, Nat.min_eq_left hle] at h
  by_cases h1 : (T.push s bytes).2 = bytes.length
  · rw [if_pos (Nat.sub_eq_zero_of_le (Nat.le_of_eq h1.symm))] at h
    cases h
    exact .inl ⟨h1, rfl, rfl⟩
  · have hlt := Nat.lt_of_le_of_ne hle h1
    rw [if_neg (Nat.sub_ne_zero_of_lt hlt)] at h
    by_cases h2 : (T.push s bytes).2 = 0
    · rw [if_pos h2] at h; cases h
    · have hf : (T.feed s (bytes.take (T.push s bytes).2)).2.2 = (T.drain (T.push s bytes).1).2.2 := by
        rw [Tokenizer.feed, hP.take]
      rw [if_neg h2, ← hf] at h
      cases hr : loopChunks T n (T.feed s (bytes.take (T.push s bytes).2)).2.2 (bytes.drop (T.push s bytes).2) <;>
        rw [hr] at h <;> cases h
      exact .inr ⟨hlt, h2, _, rfl, rfl⟩

theorem loopChunks_spec (hP : T.PartialPush) :
    ∀ (n : Nat) (s : T.σ) (bytes : List UInt8) (cs : List (List UInt8)) (e : T.σ),
      loopChunks T n s bytes = some (cs, e) → Cutting T s bytes cs e ∧ cs ≠ []
  | 0, _, _, _, _, h => nomatch h
  | n + 1, s, bytes, cs, e, h => by
    rcases loopChunks_succ_some T hP h with ⟨hall, rfl, rfl⟩ | ⟨hlt, _, cs', hr, rfl⟩
    · exact ⟨⟨List.flatten_singleton .., ⟨hall, trivial⟩, rfl⟩, List.cons_ne_nil _ _⟩
    · obtain ⟨C, _⟩ := loopChunks_spec hP n _ _ cs' e hr
      have hacc1 : T.Accepts s (bytes.take (T.push s bytes).2) := by
        unfold Tokenizer.Accepts
        rw [hP.take, List.length_take, Nat.min_eq_left (Nat.le_of_lt hlt)]
      exact ⟨⟨by rw [List.flatten_cons, C.flat, List.take_append_drop], ⟨hacc1, C.acc⟩, C.last⟩, List.cons_ne_nil _ _⟩

theorem runChunks_cons_some {s e : T.σ} {p : List UInt8} {ps cs : List (List UInt8)}
    (h : runChunks T s (p :: ps) = some (cs, e)) :
    ∃ c1 e1 c2, loopChunks T (p.length + 1) s p = some (c1, e1) ∧ runChunks T e1 ps = some (c2, e) ∧ cs = c1 ++ c2 := by
  rw [runChunks] at h
  cases hl : loopChunks T (p.length + 1) s p <;> rw [hl] at h <;> dsimp only at h <;> try cases h
  rename_i r
  cases hr : runChunks T r.2 ps <;> rw [hr] at h <;> cases h
  exact ⟨r.1, r.2, _, rfl, hr, rfl⟩

theorem runChunks_spec (hP : T.PartialPush) :
    ∀ (ps : List (List UInt8)) (s : T.σ) (cs : List (List UInt8)) (e : T.σ),
      runChunks T s ps = some (cs, e) → Cutting T s ps.flatten cs e ∧ (ps ≠ [] → cs ≠ [])
  | [], s, cs, e, h => by
    cases h
    exact ⟨⟨rfl, trivial, rfl⟩, fun h => absurd rfl h⟩
  | p :: ps, s, cs, e, h => by
    obtain ⟨c1, e1, c2, hl, hr, rfl⟩ := runChunks_cons_some T h
    obtain ⟨C1, hnn1⟩ := loopChunks_spec T hP _ s p c1 e1 hl
    obtain ⟨C2, _⟩ := runChunks_spec hP ps e1 c2 e hr
    exact ⟨C1.append T C2, fun _ h0 => hnn1 (List.append_eq_nil_iff.1 h0).1⟩

theorem pushPiecesOnce_tk : ∀ (cs : List (List UInt8)) (tt : Term T) (r : Term T × List Event),
    pushPiecesOnce T cfg fuel now tt cs = .ok r → r.1.tk = endState T tt.tk cs
  | [], _, _, h => by cases h; rfl
  | c :: cs, tt, r, h => by
    obtain ⟨x, hx, h⟩ := Outcome.bind_eq_ok h
    obtain ⟨y, hy, h⟩ := Outcome.bind_eq_ok h
    cases h
    rw [endState, List.foldl_cons, ← inputPushBytesOnce_tk T cfg fuel now tt c x hx]
    exact pushPiecesOnce_tk cs x.1 y hy

theorem inputPushBytesLoop_succ (hP : T.PartialPush) (n : Nat)
    (tt : Term T) (bytes : List UInt8) :
    inputPushBytesLoop T cfg fuel now (n + 1) tt bytes =
      (inputPushBytesOnce T cfg fuel now tt (bytes.take (T.push tt.tk bytes).2)).bind fun r =>
        if (T.push tt.tk bytes).2 = bytes.length ∨ (T.push tt.tk bytes).2 = 0 then .ok r
        else (inputPushBytesLoop T cfg fuel now n r.1 (bytes.drop (T.push tt.tk bytes).2)).bind fun r' =>
          .ok (r'.1, r.2 ++ r'.2) := by
  have hle := hP.le tt.tk bytes
  rw [inputPushBytesLoop, inputPushBytesOnce, hP.take]
  simp only [Nat.min_eq_left hle]
  cases getKeys T cfg fuel now { tt with tk := (T.push tt.tk bytes).1 } with
  | ok r =>
    simp only [Outcome.ok_bind]
    by_cases hc : (T.push tt.tk bytes).2 = bytes.length ∨ (T.push tt.tk bytes).2 = 0
    · rw [if_pos hc, if_pos (hc.imp (fun h => Nat.sub_eq_zero_of_le (Nat.le_of_eq h.symm)) id)]
    · rw [if_neg hc, if_neg fun h => hc (h.imp (fun h => Nat.le_antisymm hle (Nat.le_of_sub_eq_zero h)) id)]
      cases inputPushBytesLoop T cfg fuel now n r.1 (bytes.drop (T.push tt.tk bytes).2) <;> rfl
  | ub w => rfl
  | outOfFuel => rfl

theorem inputPushBytesLoop_eq (hP : T.PartialPush) :
    ∀ (n : Nat) (tt : Term T) (bytes : List UInt8) (cs : List (List UInt8)) (e : T.σ),
      loopChunks T n tt.tk bytes = some (cs, e) →
      inputPushBytesLoop T cfg fuel now n tt bytes = pushPiecesOnce T cfg fuel now tt cs
  | 0, _, _, _, _, h => nomatch h
  | n + 1, tt, bytes, cs, e, h => by
    rw [inputPushBytesLoop_succ T cfg fuel now hP]
    rcases loopChunks_succ_some T hP h with ⟨hall, rfl, rfl⟩ | ⟨hlt, hpos, cs', hr, rfl⟩
    · rw [hall, List.take_of_length_le (Nat.le_refl _), pushPiecesOnce, seq_singleton]
      simp only [true_or, if_true]
      exact Outcome.bind_ok _
    · show _ = (inputPushBytesOnce T cfg fuel now tt (bytes.take (T.push tt.tk bytes).2)).bind fun x =>
        (pushPiecesOnce T cfg fuel now x.1 cs').bind fun r' => .ok (r'.1, x.2 ++ r'.2)
      cases hk : inputPushBytesOnce T cfg fuel now tt (bytes.take (T.push tt.tk bytes).2) with
      | ok x =>
        rw [Outcome.ok_bind, Outcome.ok_bind, if_neg (not_or.2 ⟨Nat.ne_of_lt hlt, hpos⟩),
          inputPushBytesLoop_eq hP n x.1 _ cs' e (by rw [inputPushBytesOnce_tk T cfg fuel now tt _ x hk, hr])]
      | ub w => rfl
      | outOfFuel => rfl

theorem pushPieces_loop_eq (hP : T.PartialPush) (hc : cfg.pushLoops = true) :
    ∀ (ps : List (List UInt8)) (tt : Term T) (cs : List (List UInt8)) (e : T.σ),
      runChunks T tt.tk ps = some (cs, e) →
      pushPieces T cfg fuel now tt ps = pushPiecesOnce T cfg fuel now tt cs
  | [], tt, cs, e, h => by cases h; rfl
  | p :: ps, tt, cs, e, h => by
    obtain ⟨c1, e1, c2, hl, hr, rfl⟩ := runChunks_cons_some T h
    have hend := (loopChunks_spec T hP _ tt.tk p c1 e1 hl).1.last
    rw [pushPiecesOnce, seq_append, pushPieces_eq_seq, seq, inputPushBytes, hc, if_pos rfl,
      inputPushBytesLoop_eq T cfg fuel now hP _ tt p c1 e1 hl]
    show (seq (inputPushBytesOnce T cfg fuel now) tt c1).bind _ = (seq (inputPushBytesOnce T cfg fuel now) tt c1).bind _
    cases hk : seq (inputPushBytesOnce T cfg fuel now) tt c1 with
    | ok x =>
      rw [Outcome.ok_bind, Outcome.ok_bind, ← pushPieces_eq_seq, pushPieces_loop_eq hP hc ps x.1 c2 e
        (by rw [pushPiecesOnce_tk T cfg fuel now c1 tt x hk, ← hend, hr])]
    | ub w => rfl
    | outOfFuel => rfl

/-- The repaired push: any two ways of cutting one stream on which the hand-over loop never stalls agree. -/
theorem pushPieces_loop_agree (hI : T.Incremental) (hP : T.PartialPush) (hc : cfg.pushLoops = true) (hnow : 0 ≤ now.sec)
    (tt : Term T) {ps qs : List (List UInt8)} (hflat : ps.flatten = qs.flatten) (hps : ps ≠ []) (hqs : qs ≠ [])
    (hp : (runChunks T tt.tk ps).isSome) (hq : (runChunks T tt.tk qs).isSome) :
    (pushPieces T cfg fuel now tt ps).map pushObs = (pushPieces T cfg fuel now tt qs).map pushObs := by
  obtain ⟨⟨cp, ep⟩, hcp⟩ := Option.isSome_iff_exists.1 hp
  obtain ⟨⟨cq, eq⟩, hcq⟩ := Option.isSome_iff_exists.1 hq
  obtain ⟨Cp, hnp⟩ := runChunks_spec T hP _ tt.tk cp ep hcp
  obtain ⟨Cq, hnq⟩ := runChunks_spec T hP _ tt.tk cq eq hcq
  -- both sides are the unchanged push over their chunks
  rw [pushPieces_loop_eq T cfg fuel now hP hc _ tt cp ep hcp, pushPieces_loop_eq T cfg fuel now hP hc _ tt cq eq hcq]
  obtain ⟨c, cs, rfl⟩ := List.exists_cons_of_ne_nil (hnp hps)
  obtain ⟨d, ds, rfl⟩ := List.exists_cons_of_ne_nil (hnq hqs)
  exact pushPiecesOnce_agree T cfg fuel now hI hnow tt (by rw [Cp.flat, Cq.flat, hflat]) Cp.acc Cq.acc

end

end Tickit.InputXlate
