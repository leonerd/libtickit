import Tickit.Model.RBCopy
import Tickit.Proof.RB
/-
  C13: the auxiliary state (size, cursor, translation, clip, pen, depth, stack) is untouched by every cell-drawing
  primitive and restored by `savepen; setpen; …; restore` - so by `copy`, `move` and `blit`, for every buffer and every
  text of `copyrect` that captures `active` before the dispatch (`v.capture = true`; the text as found does not).
-/
namespace Tickit.RBCopy
open Tickit Tickit.RB

/-- Two buffers agree on everything but the cells and the two sticky flags. -/
structure SameAux (a b : RB) : Prop where
  lines : a.lines = b.lines
  cols : a.cols = b.cols
  vcSet : a.vcSet = b.vcSet
  vcLine : a.vcLine = b.vcLine
  vcCol : a.vcCol = b.vcCol
  xlLine : a.xlLine = b.xlLine
  xlCol : a.xlCol = b.xlCol
  clip : a.clip = b.clip
  pen : a.pen = b.pen
  depth : a.depth = b.depth
  stack : a.stack = b.stack

/-- `SameAux` is equality of the auxiliary state `RB.aux` of the render-buffer engine, whose lemmas about the
    drawing primitives carry over. -/
theorem SameAux.of_aux {a b : RB} (h : a.aux = b.aux) : SameAux a b :=
  ⟨congrArg Aux.lines h, congrArg Aux.cols h, congrArg Aux.vcSet h, congrArg Aux.vcLine h, congrArg Aux.vcCol h,
   congrArg Aux.xlLine h, congrArg Aux.xlCol h, congrArg Aux.clip h, congrArg Aux.pen h, congrArg Aux.depth h,
   congrArg Aux.stack h⟩

theorem SameAux.aux_eq {a b : RB} (h : SameAux a b) : a.aux = b.aux := by
  unfold RB.aux
  rw [h.lines, h.cols, h.vcSet, h.vcLine, h.vcCol, h.xlLine, h.xlCol, h.clip, h.pen, h.depth, h.stack]

theorem SameAux.refl {a : RB} : SameAux a a := .of_aux rfl

theorem SameAux.trans {a b c : RB} (h : SameAux a b) (g : SameAux b c) : SameAux a c := .of_aux (h.aux_eq.trans g.aux_eq)

theorem sameAux_setRow (rb : RB) (l : Int) (r : Row) : SameAux (rb.setRow l r) rb :=
  .of_aux rfl

theorem sameAux_aborted (rb : RB) : SameAux { rb with aborted := true } rb :=
  .of_aux rfl

theorem sameAux_fuelOut (rb : RB) : SameAux { rb with fuelOut := true } rb :=
  .of_aux rfl

theorem sameAux_putStringSlice (rb : RB) (l c : Int) (s : List UInt8) (o n : Int) :
    SameAux (putStringSlice rb l c s o n) rb := by
  unfold putStringSlice; split
  · exact SameAux.refl
  · exact .of_aux (placeRuns_aux _ _ _ _ _ _ _)

theorem sameAux_dispatch (byRef copySkip : Bool) (cell : Cell) (offset cols : Int) (d : RB) (line col : Int) :
    SameAux (dispatch byRef copySkip cell offset cols d line col) d := by
  unfold dispatch
  split
  · split
    · exact .of_aux (skipRun_aux _ _ _ _)
    · exact SameAux.refl
  · split
    · exact sameAux_putStringSlice _ _ _ _ _ _
    · exact .of_aux (putString_aux _ _ _ _)
  · exact .of_aux (eraseRun_aux _ _ _ _)
  · exact .of_aux (linecell_aux _ _ _ _)
  · exact .of_aux (putChar_aux _ _ _ _)
  · exact sameAux_aborted _

theorem sameAux_restore_of_savepen (d d2 : RB) (p : Option Pen) (h : SameAux d2 (setpen (savepen d) p)) :
    SameAux (restore d2) d := by
  have hs : d2.stack = { penOnly := true, pen := d.pen } :: d.stack := by rw [h.stack]; rfl
  unfold restore
  rw [hs]
  simp only [Bool.not_true, Bool.false_eq_true, if_false]
  exact ⟨h.lines, h.cols, h.vcSet, h.vcLine, h.vcCol, h.xlLine, h.xlCol, h.clip, rfl,
    by rw [h.depth]; show d.depth + 1 - 1 = d.depth; omega, rfl⟩

theorem sameAux_drawPiece_skip (byRef copySkip : Bool) (cell : Cell) (offset cols : Int) (dst : RB) (line col : Int)
    (h : cell.state = .skip) : SameAux (drawPiece byRef copySkip cell offset cols dst line col) dst := by
  unfold drawPiece
  simp only [h, ne_eq, not_true_eq_false, if_false]
  exact sameAux_dispatch _ _ _ _ _ _ _ _

theorem sameAux_drawPiece_active (byRef copySkip : Bool) (cell : Cell) (offset cols : Int) (dst : RB) (line col : Int)
    (h : cell.state ≠ .skip) :
    SameAux (drawPiece byRef copySkip cell offset cols dst line col) (setpen (savepen dst) (some cell.pen)) := by
  unfold drawPiece
  simp only [h, ne_eq, not_false_eq_true, if_true]
  exact sameAux_dispatch _ _ _ _ _ _ _ _

theorem sameAux_copyPiece (byRef copySkip : Bool) (cell : Cell) (offset cols : Int) (dst : RB) (line col : Int) :
    SameAux (copyPiece byRef copySkip cell offset cols dst line col) dst := by
  unfold copyPiece
  by_cases h : cell.state = .skip
  · simp only [h, ne_eq, not_true_eq_false, if_false]
    exact sameAux_drawPiece_skip _ _ _ _ _ _ _ _ h
  · simp only [h, ne_eq, not_false_eq_true, if_true]
    exact sameAux_restore_of_savepen _ _ _ (sameAux_drawPiece_active _ _ _ _ _ _ _ _ h)

theorem body_captured (v : Variant) (hv : v.capture = true) (same copySkip : Bool) (src : RB) (sr : Rect)
    (lineoffs coloffs : Int) (leftwards : Bool) (line : Int) (dst : RB) (col : Int) :
    body v same copySkip src sr lineoffs coloffs leftwards line dst col =
      (let S := if same then dst else src
       let lk := look S sr leftwards line col
       let cell := S.cell line lk.hcol
       let run := cell.cols - lk.offset
       { rb := copyPiece v.byRef copySkip cell lk.offset (pieceCols sr lk run) dst (line + lineoffs) (lk.col + coloffs)
         col := if leftwards then lk.col - 1 else lk.col + run }) := by
  unfold body pieceRun
  simp only [hv, if_true]

theorem sameAux_body (v : Variant) (hv : v.capture = true) (same copySkip : Bool) (src : RB) (sr : Rect)
    (lineoffs coloffs : Int) (leftwards : Bool) (line : Int) (dst : RB) (col : Int) :
    SameAux (body v same copySkip src sr lineoffs coloffs leftwards line dst col).rb dst := by
  rw [body_captured v hv]
  exact sameAux_copyPiece _ _ _ _ _ _ _ _

theorem sameAux_colLoop (v : Variant) (hv : v.capture = true) (same copySkip : Bool) (src : RB) (sr : Rect)
    (lineoffs coloffs : Int) (leftwards : Bool) (line : Int) :
    ∀ (fuel : Nat) (dst : RB) (col : Int),
      SameAux (colLoop v same copySkip src sr lineoffs coloffs leftwards line fuel dst col) dst := by
  intro fuel
  induction fuel with
  | zero =>
    intro dst col
    unfold colLoop
    split
    · exact sameAux_fuelOut _
    · exact SameAux.refl
  | succ n ih =>
    intro dst col
    unfold colLoop
    split
    · exact (ih _ _).trans (sameAux_body v hv _ _ _ _ _ _ _ _ _ _)
    · exact SameAux.refl

theorem sameAux_lineLoop (f : RB → Int → RB) (hf : ∀ rb l, SameAux (f rb l) rb) (step : Int) :
    ∀ (n : Nat) (rb : RB) (line : Int), SameAux (lineLoop f step n rb line) rb := by
  intro n
  induction n with
  | zero => intro rb line; exact SameAux.refl
  | succ n ih => intro rb line; unfold lineLoop; exact (ih _ _).trans (hf _ _)

theorem sameAux_copyrect (v : Variant) (hv : v.capture = true) (same copySkip : Bool) (dst src : RB) (dr sr : Rect) :
    SameAux (copyrect v same copySkip dst src dr sr) dst := by
  unfold copyrect
  split
  · exact SameAux.refl
  · simp only []
    split
    · exact SameAux.refl
    · exact sameAux_lineLoop _ (fun rb l => sameAux_colLoop v hv _ _ _ _ _ _ _ _ _ _ _) _ _ _ _

theorem sameAux_foldl_skiprect : ∀ (rects : List Rect) (rb : RB), SameAux (rects.foldl skiprect rb) rb := by
  intro rects
  induction rects with
  | nil => intro rb; exact SameAux.refl
  | cons r rs ih => intro rb; exact (ih _).trans (.of_aux (skiprect_aux _ _))

theorem sameAux_copy (v : Variant) (hv : v.capture = true) (rb : RB) (dr sr : Rect) : SameAux (copy v rb dr sr) rb :=
  sameAux_copyrect v hv _ _ _ _ _ _

theorem sameAux_move (v : Variant) (hv : v.capture = true) (rb : RB) (dr sr : Rect) : SameAux (move v rb dr sr) rb := by
  unfold move
  simp only []
  split
  · exact (sameAux_fuelOut _).trans (sameAux_copy v hv _ _ _)
  · exact (sameAux_foldl_skiprect _ _).trans (sameAux_copy v hv _ _ _)

theorem sameAux_blit (v : Variant) (hv : v.capture = true) (same : Bool) (dst src : RB) :
    SameAux (blit v same dst src) dst :=
  sameAux_copyrect v hv _ _ _ _ _ _

end Tickit.RBCopy
