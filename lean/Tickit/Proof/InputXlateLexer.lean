import Tickit.Proof.InputXlatePush
/-
  Tokenizers that obey the two laws C20 trusts (`Incremental`, `PartialPush`): any lexer over a bounded buffer (`Lexer`),
  and a small CSI / SGR-mouse lexer for the examples of Props/C20.lean.
-/
namespace Tickit.InputXlate

/-- A lexer looks at the pending bytes: `some (k, n)` — they start with key `k` occupying `n` bytes;
    `none` — nothing yet (empty, or an incomplete sequence). -/
structure Lexer where
  peek : List UInt8 → Option (Key × Nat)
  peek_pos : ∀ buf k n, peek buf = some (k, n) → 0 < n ∧ n ≤ buf.length
  peek_stable : ∀ buf k n more, peek buf = some (k, n) → peek (buf ++ more) = some (k, n)

/-- The tokenizer with a buffer of `cap` bytes: `push` takes what fits (`termkey_push_bytes`), `getkey`
    removes the first key from the front (`termkey_getkey`). -/
@[reducible] def Lexer.tokenizer (L : Lexer) (cap : Nat) : Tokenizer where
  σ := List UInt8
  push s b := (s ++ b.take (cap - s.length), min b.length (cap - s.length))
  getkey s := match L.peek s with
    | some r => (Res.key r.1, s.drop r.2)
    | none => (if s.isEmpty then Res.none else Res.again, s)
  getkeyForce s := (Res.none, s)
  waittime _ := 50
  pending s := s.length
  getkey_consumes := by
    intro s k s' h
    cases hp : L.peek s with
    | none =>
      simp only [hp] at h
      have h1 := congrArg Prod.fst h
      simp only at h1
      split at h1 <;> cases h1
    | some r =>
      simp only [hp] at h
      have h2 := congrArg Prod.snd h
      simp only at h2
      subst h2
      obtain ⟨h0, hle⟩ := L.peek_pos s r.1 r.2 hp
      simp only [List.length_drop]
      omega

theorem Lexer.getkey_some (L : Lexer) (cap : Nat) (s : List UInt8) (k : Key) (n : Nat) (h : L.peek s = some (k, n)) :
    (L.tokenizer cap).getkey s = (Res.key k, s.drop n) := by
  simp [Lexer.tokenizer, h]

theorem Lexer.getkey_none (L : Lexer) (cap : Nat) (s : List UInt8) (h : L.peek s = none) :
    ∃ r, (L.tokenizer cap).getkey s = (r, s) ∧ r.isKey = false := by
  refine ⟨if s.isEmpty then Res.none else Res.again, by simp [Lexer.tokenizer, h], ?_⟩
  split <;> rfl

theorem Lexer.drain_length_le (L : Lexer) (cap : Nat) :
    ∀ (n : Nat) (buf : List UInt8), buf.length < n →
      ((L.tokenizer cap).drain buf).2.2.length ≤ buf.length
  | 0, _, h => absurd h (Nat.not_lt_zero _)
  | n + 1, buf, hlen => by
    cases hp : L.peek buf with
    | none =>
      obtain ⟨r, hg, hr⟩ := L.getkey_none cap buf hp
      rw [drain_stop (L.tokenizer cap) hg hr]
      exact Nat.le_refl _
    | some x =>
      obtain ⟨k, m⟩ := x
      obtain ⟨h0, hle⟩ := L.peek_pos buf k m hp
      have hdrop : (buf.drop m).length < buf.length := by
        rw [List.length_drop]; exact Nat.sub_lt (Nat.lt_of_lt_of_le h0 hle) h0
      rw [drain_key (L.tokenizer cap) (L.getkey_some cap buf k m hp)]
      exact Nat.le_trans (drain_length_le L cap n _ (Nat.lt_of_lt_of_le hdrop (Nat.le_of_lt_succ hlen)))
        (Nat.le_of_lt hdrop)

theorem Lexer.drain_append (L : Lexer) (cap : Nat) :
    ∀ (n : Nat) (buf more : List UInt8), buf.length < n →
      (L.tokenizer cap).drain (buf ++ more) =
        (((L.tokenizer cap).drain buf).1 ++ ((L.tokenizer cap).drain (((L.tokenizer cap).drain buf).2.2 ++ more)).1,
         ((L.tokenizer cap).drain (((L.tokenizer cap).drain buf).2.2 ++ more)).2.1,
         ((L.tokenizer cap).drain (((L.tokenizer cap).drain buf).2.2 ++ more)).2.2)
  | 0, _, _, h => absurd h (Nat.not_lt_zero _)
  | n + 1, buf, more, hlen => by
    cases hp : L.peek buf with
    | none =>
      obtain ⟨r, hg, hr⟩ := L.getkey_none cap buf hp
      rw [drain_stop (L.tokenizer cap) hg hr]
      simp
    | some x =>
      obtain ⟨k, m⟩ := x
      obtain ⟨h0, hle⟩ := L.peek_pos buf k m hp
      have hp' := L.peek_stable buf k m more hp
      rw [drain_key (L.tokenizer cap) (L.getkey_some cap buf k m hp)]
      have hdrop : (buf ++ more).drop m = buf.drop m ++ more := List.drop_append_of_le_length hle
      rw [drain_key (L.tokenizer cap) (s' := buf.drop m ++ more) (by rw [← hdrop]; exact L.getkey_some cap (buf ++ more) k m hp')]
      rw [drain_append L cap n (buf.drop m) more (by
        rw [List.length_drop]
        exact Nat.lt_of_lt_of_le (Nat.sub_lt (Nat.lt_of_lt_of_le h0 hle) h0) (Nat.le_of_lt_succ hlen))]
      simp

theorem Lexer.accepts_iff (L : Lexer) (cap : Nat) (s b : List UInt8) :
    (L.tokenizer cap).Accepts s b ↔ b.length ≤ cap - s.length :=
  show min b.length (cap - s.length) = b.length ↔ _ from ⟨fun h => h ▸ Nat.min_le_right .., Nat.min_eq_left⟩

theorem Lexer.feed_of_accepts (L : Lexer) (cap : Nat) (s b : List UInt8) (h : b.length ≤ cap - s.length) :
    (L.tokenizer cap).feed s b = (L.tokenizer cap).drain (s ++ b) := by
  unfold Tokenizer.feed
  have : ((L.tokenizer cap).push s b).1 = s ++ b := by
    simp only [Lexer.tokenizer]
    rw [List.take_of_length_le h]
  rw [this]

theorem Lexer.partialPush (L : Lexer) (cap : Nat) : (L.tokenizer cap).PartialPush where
  le := fun s b => Nat.min_le_left ..
  take := by
    intro s b
    show (s ++ (b.take (min b.length (cap - s.length))).take (cap - s.length),
        min (b.take (min b.length (cap - s.length))).length (cap - s.length)) =
      (s ++ b.take (cap - s.length), min b.length (cap - s.length))
    rw [List.take_take, List.length_take, Nat.min_assoc, Nat.min_self,
      Nat.min_comm (cap - s.length), Nat.min_assoc, Nat.min_self, Nat.min_comm, ← List.take_take,
      List.take_length]

theorem Lexer.incremental (L : Lexer) (cap : Nat) : (L.tokenizer cap).Incremental where
  split := by
    intro s a b hacc
    rw [Lexer.accepts_iff] at hacc
    simp only [List.length_append] at hacc
    have ha : a.length ≤ cap - s.length := by omega
    have hrest := L.drain_length_le cap (s ++ a).length.succ (s ++ a) (Nat.lt_succ_self _)
    simp only [List.length_append] at hrest
    rw [Lexer.accepts_iff, Lexer.accepts_iff, L.feed_of_accepts cap s a ha]
    have hb : b.length ≤ cap - (((L.tokenizer cap).drain (s ++ a)).2.2).length := by omega
    refine ⟨ha, hb, ?_⟩
    rw [L.feed_of_accepts cap _ b hb, L.feed_of_accepts cap s (a ++ b) (by simp only [List.length_append]; omega)]
    rw [← List.append_assoc]
    exact L.drain_append cap (s ++ a).length.succ (s ++ a) b (Nat.lt_succ_self _)

namespace Csi

def isParamByte (b : UInt8) : Bool := decide (0x30 ≤ b) && decide (b ≤ 0x3f)

/-- After `ESC [`: parameter bytes (0x30..0x3f), then one final byte.  `none`: not finished. -/
def scan : List UInt8 → Option (List UInt8 × UInt8)
  | [] => none
  | b :: rest =>
    if isParamByte b then
      match scan rest with
      | some r => some (b :: r.1, r.2)
      | none => none
    else some ([], b)

/-- Decimal numbers separated by `;` (any other byte is skipped). -/
def nums : List UInt8 → Nat → List Nat
  | [], acc => [acc]
  | b :: rest, acc =>
    if b = 0x3b then acc :: nums rest 0
    else if decide (0x30 ≤ b) && decide (b ≤ 0x39) then nums rest (acc * 10 + (b.toNat - 0x30))
    else nums rest acc

/-- What `termkey_interpret_mouse` makes of an SGR button code. -/
def mouseKey (code x y : Nat) (release : Bool) : Key :=
  let mods := (code / 4) % 8
  let drag := (code / 32) % 2 = 1
  let c := code % 4 + (code / 64) * 64
  let evb : Int × Int :=
    if c < 3 then (if drag then TERMKEY_MOUSE_DRAG else TERMKEY_MOUSE_PRESS, (c : Int) + 1)
    else if c = 3 then (TERMKEY_MOUSE_RELEASE, 0)
    else if c = 64 ∨ c = 65 then (if drag then TERMKEY_MOUSE_DRAG else TERMKEY_MOUSE_PRESS, (c : Int) - 60)
    else (TERMKEY_MOUSE_UNKNOWN, 0)
  Key.mouse (if release then TERMKEY_MOUSE_RELEASE else evb.1) evb.2 y x mods

def csiKey (params : List UInt8) (final : UInt8) : Key :=
  match params with
  | 0x3c :: rest =>
    if final = 0x4d ∨ final = 0x6d then
      match nums rest 0 with
      | [code, x, y] => mouseKey code x y (final = 0x6d)
      | _ => Key.other (-1)
    else Key.other (-1)
  | _ => Key.keysym 0 (params ++ [final])

def escapeKey : Key := Key.keysym 0 [0x45, 0x73, 0x63]

def peek (buf : List UInt8) : Option (Key × Nat) :=
  match buf with
  | [] => none
  | b0 :: rest0 =>
    if b0 ≠ 0x1b then some (Key.unicode 0 [b0] [b0], 1)
    else
      match rest0 with
      | [] => none
      | b1 :: rest1 =>
        if b1 ≠ 0x5b then some (escapeKey, 1)
        else
          match scan rest1 with
          | some r => some (csiKey r.1 r.2, r.1.length + 3)
          | none => none

theorem scan_cons (b : UInt8) (rest : List UInt8) :
    scan (b :: rest) = if isParamByte b then (scan rest).map fun r => (b :: r.1, r.2) else some ([], b) := by
  rw [scan]
  cases scan rest <;> rfl

theorem scan_length : ∀ (l : List UInt8) (r : List UInt8 × UInt8), scan l = some r → r.1.length + 1 ≤ l.length
  | [], _, h => nomatch h
  | b :: rest, r, h => by
    rw [scan_cons] at h
    split at h
    · obtain ⟨r', hs, rfl⟩ := Option.map_eq_some_iff.1 h
      exact Nat.succ_le_succ (scan_length rest r' hs)
    · cases h
      exact Nat.succ_le_succ (Nat.zero_le _)

theorem scan_stable : ∀ (l more : List UInt8) (r : List UInt8 × UInt8), scan l = some r → scan (l ++ more) = some r
  | [], _, _, h => nomatch h
  | b :: rest, more, r, h => by
    rw [List.cons_append, scan_cons]
    rw [scan_cons] at h
    by_cases hb : isParamByte b = true
    · rw [if_pos hb] at h ⊢
      obtain ⟨r', hs, rfl⟩ := Option.map_eq_some_iff.1 h
      rw [scan_stable rest more r' hs]
      rfl
    · rw [if_neg hb] at h ⊢
      exact h

def lexer : Lexer where
  peek := peek
  peek_pos := by
    intro buf k n h
    unfold peek at h
    split at h
    · cases h
    · rename_i b0 rest0
      split at h
      · cases h; simp
      · split at h
        · cases h
        · rename_i b1 rest1
          split at h
          · cases h; simp
          · cases hs : scan rest1 with
            | none => rw [hs] at h; cases h
            | some r =>
              rw [hs] at h
              cases h
              have := scan_length rest1 r hs
              simp only [List.length_cons]
              omega
  peek_stable := by
    intro buf k n more h
    unfold peek at h ⊢
    split at h
    · cases h
    · rename_i b0 rest0
      simp only [List.cons_append]
      split at h
      · rename_i hb
        rw [if_pos hb]; exact h
      · rename_i hb
        rw [if_neg hb]
        split at h
        · cases h
        · rename_i b1 rest1
          simp only [List.cons_append]
          split at h
          · rename_i hb1
            rw [if_pos hb1]; exact h
          · rename_i hb1
            rw [if_neg hb1]
            cases hs : scan rest1 with
            | none => rw [hs] at h; cases h
            | some r =>
              rw [hs] at h
              rw [scan_stable rest1 more r hs]
              exact h

end Csi

end Tickit.InputXlate
