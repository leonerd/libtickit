import Tickit.Proof.EvLoopBase
/-
  A preorder `R` that contains the leaf steps holds between the state before and after every function of the model.
  `Closed R` lists the leaves at the level where an invariant holds again: the steps that register, cancel or unlink a
  watch (and `clearNotify`), each with the side condition the model guarantees where it is called.  `Frame R ok fix` is one level further
  down (allocate, overwrite a watch, replace a list, the poll table), for a relation that says how old watches may
  change (`ok`) and which lists it keeps (`fix`); `Low R` holds of any overwrite.

  Which to fill: a relation that reads a single field or list (`LogExt`, `PendExt`, `ObsEq`, `PStep`) is `Low`; one of the
  form "the heap grows, old watches change only so, these lists are kept" (`Grow`, `G2`, `G3`, `G4`, `MH`, `TS`) is a
  `Frame`, and `Closed` by `Frame.closed` if it admits every overwrite the model makes and fixes no list (`MH`); one that
  holds under an invariant (`Pres`, `SigStep`, `KStep`, `LStep`: `Inv st → Facts st st'`) is `Closed` by hand, because
  between the allocation and the link into the list the invariant does not hold: its leaves are its own lemmas where
  the invariant matters and the `Frame` relation below it elsewhere.
-/

namespace Tickit.EvLoop

structure Closed (R : St → St → Prop) : Prop extends Base R where
  watchTimerAt : ∀ st due flags slot, R st (watchTimerAt st due flags slot).1
  watchLater : ∀ st flags slot puser, R st (watchLater st flags slot puser).1
  watchIo : ∀ st fd cond flags slot, R st (watchIo st fd cond flags slot).1
  watchSignal : ∀ st signum flags slot, signum ≠ 0 → R st (watchSignal st signum flags slot).1
  watchProcess : ∀ st pid flags slot, R st (watchProcess st pid flags slot).1
  cancelDetached : ∀ st a, a ∉ listOf st (st.getW a).type → R st (cancelDetached st a)
  cancelFound : ∀ st a, a ∈ listOf st (st.getW a).type →
    R st (cancelFound st a (st.getW a) (listOf st (st.getW a).type))
  /-- the tests of `unlinkOneshot*` as they stand: `SigStep` and `KStep` read `t ≠ .signal`, `LStep` the membership -/
  unlinkFound : ∀ st a t, t ≠ .none → t ≠ .io → t ≠ .signal → a ∈ listOf st t → R st (unlinkFound st a t)
  clearNotify : ∀ st a, R st (clearNotify st a)
  /-- the harness's table of slots and its list of cancel requests (`fireUser`, `doRegister`, `doCancel`) -/
  harness : ∀ st sl cr, R st { st with slots := sl, cancelReq := cr }

/-- What the relation says of old watches decides `ok`, the lists it keeps decide `fix` (`Grow`, `G2`, `G3`, `G4`).  Each
    function below asks for the overwrites it makes. -/
structure Frame (R : St → St → Prop) (ok : Watch → Watch → Prop) (fix : WType → Prop) : Prop extends Base R where
  alloc : ∀ st w, R st (st.alloc w).1
  setW : ∀ st a w, ok (st.getW a) w → R st (st.setW a w)
  setList : ∀ st t l, ¬fix t → R st (setListOf st t l)
  evloopIo : ∀ st fd cond w, R st (evloopIo st fd cond w).1
  evloopCancelIo : ∀ st idx, R st (evloopCancelIo st idx)

namespace Frame
variable {R : St → St → Prop} {ok : Watch → Watch → Prop} {fix : WType → Prop} (F : Frame R ok fix)
include F

theorem free (hf : ∀ w, ok w { w with freed := true }) (st : St) (a : Nat) : R st (st.free a) := by
  unfold St.free
  exact iteInduction (fun _ => F.setW _ _ _ (hf _)) fun _ => F.fail _ _

theorem watchLater (hl : ¬fix .later) (st : St) (flags : Nat) (slot : Int) (puser : Nat) :
    R st (watchLater st flags slot puser).1 :=
  F.trans (F.trans (F.alloc st _) (F.insertWatch _ _ _ _)) (F.setList _ .later _ hl)

theorem watchIo (hl : ¬fix .io) (he : ∀ w idx, ok w { w with evi := idx }) (st : St) (fd : Int) (cond flags : Nat) (slot : Int) :
    R st (watchIo st fd cond flags slot).1 :=
  F.trans (F.trans (F.trans (F.trans (F.alloc st _) (F.evloopIo _ _ _ _)) (F.setW _ _ _ (he _ _))) (F.insertWatch _ _ _ _))
    (F.setList _ .io _ hl)

theorem watchTimerAt (hl : ¬fix .timer) (st : St) (due : TV) (flags : Nat) (slot : Int) :
    R st (watchTimerAt st due flags slot).1 := by
  unfold EvLoop.watchTimerAt
  simp only []
  split
  · exact F.trans (F.alloc st _) (F.setList _ .timer _ hl)
  · exact F.trans (F.alloc st _) (F.fail _ _)

theorem watchSignalPre (hs : ∀ st s, R st (evloopSignal st s).1) (he : ∀ w idx, ok w { w with evi := idx })
    (st : St) (signum : Int) (flags : Nat) (slot : Int) : R st (watchSignalPre st signum flags slot) :=
  F.trans (F.trans (F.alloc st _) (hs _ _)) (F.setW _ _ _ (he _ _))

theorem setNotify (hn : ∀ w n, ok w { w with notify := n }) (st : St) (a : Nat) (n : Option Nat) : R st (setNotify st a n) :=
  F.setW _ _ _ (hn _ _)

theorem linkNotified (hl : ¬fix .process) (hn : ∀ w n, ok w { w with notify := n }) (r : St × Nat) (a : Nat) (flags : Nat) :
    R r.1 (linkNotified r a flags) :=
  F.trans (F.trans (F.setNotify hn r.1 a (some r.2)) (F.insertWatch _ _ _ _)) (F.setList _ .process _ hl)

theorem clearNotify (hn : ∀ w n, ok w { w with notify := n }) (st : St) (a : Nat) : R st (clearNotify st a) := by
  unfold EvLoop.clearNotify
  exact iteInduction (fun _ => F.setNotify hn st a none) fun _ => F.refl _

theorem linkProcess (hl : ¬fix .later) (hp : ¬fix .process) (hn : ∀ w n, ok w { w with notify := n })
    (hw : ∀ w ws, ok w { w with wstatus := ws }) (st : St) (a : Nat) (pid : Int) (flags : Nat) :
    R st (linkProcess st a pid flags) := by
  have h := F.trans (F.trans (F.same (same_waitpid st pid)) (F.setW _ a _ (hw _ (waitpid st pid).wstatus)))
    (F.watchLater hl _ 0 (-4) a)
  unfold EvLoop.linkProcess
  simp only []
  split
  · split
    · exact F.trans h (F.linkNotified hp hn _ _ _)
    · exact h
  · exact F.trans (F.trans (F.same (same_waitpid st pid)) (F.insertWatch _ _ _ _)) (F.setList _ .process _ hp)

theorem watchSignal (hl : ¬fix .signal) (hs : ∀ st s, R st (evloopSignal st s).1) (he : ∀ w idx, ok w { w with evi := idx })
    (st : St) (signum : Int) (flags : Nat) (slot : Int) : R st (watchSignal st signum flags slot).1 :=
  F.trans (F.trans (F.watchSignalPre hs he st _ _ _) (F.insertWatch _ _ _ _)) (F.setList _ .signal _ hl)

theorem watchProcess (hl : ¬fix .later) (hp : ¬fix .process) (hs : ∀ st, R st (EvLoop.watchSignal st SIGCHLD 0 (-3)).1)
    (hn : ∀ w n, ok w { w with notify := n }) (hw : ∀ w ws, ok w { w with wstatus := ws })
    (st : St) (pid : Int) (flags : Nat) (slot : Int) : R st (watchProcess st pid flags slot).1 :=
  F.trans (F.trans (F.alloc st _) (F.ensureSigchld hs _)) (F.linkProcess hl hp hn hw _ _ _ _)

theorem cancelHook (st : St) (t : WType) (evi : Nat) (hs : t = .signal → R st (evloopCancelSignal st evi)) :
    R st (cancelHook st t evi) := by
  unfold EvLoop.cancelHook
  split
  · exact F.evloopCancelIo _ _
  · exact hs rfl
  · exact F.refl _

theorem cancelDetached (ht : ∀ w, ok w { w with type := .none }) (st : St) (a : Nat) : R st (cancelDetached st a) :=
  F.trans (F.cancelNotify st a _) (F.setW _ _ _ (ht _))

theorem laterPre (hf : ∀ w f, ok w { w with flags := f }) (st : St) (a : Nat) : R st (laterPre st a) := by
  unfold EvLoop.laterPre
  exact iteInduction (fun _ => F.setW _ _ _ (hf _ _)) fun _ => F.refl _

theorem unlinkFound (hf : ∀ w, ok w { w with freed := true }) (ht : ∀ w, ok w { w with type := .none })
    (st : St) (a : Nat) (t : WType) (hl : ¬fix t) : R st (unlinkFound st a t) :=
  F.trans (F.trans (F.setList st t _ hl) (F.setW _ a { st.getW a with type := .none } (by rw [getW_setListOf]; exact ht _)))
    (F.free hf _ a)

theorem cancelFound (hf : ∀ w, ok w { w with freed := true }) (st : St) (a : Nat) (w : Watch) (l : List Nat) (hl : ¬fix w.type)
    (hs : ∀ s, w.type = .signal → R s (evloopCancelSignal s w.evi)) : R st (cancelFound st a w l) :=
  F.trans (F.trans (F.trans (F.trans (F.setList st _ _ hl) (F.cancelNotify _ a w)) (F.cancelHook _ _ _ (hs _))) (F.free hf _ a))
    (F.cancelRest _ _)

end Frame

namespace Closed
variable {R : St → St → Prop} (C : Closed R)
include C

theorem watchTimerAfterMsec (st : St) (msec : Int) (flags : Nat) (slot : Int) :
    R st (watchTimerAfterMsec st msec flags slot).1 :=
  C.trans (C.emit st .g) (C.watchTimerAt _ _ _ _)

theorem watchCancel0 (st : St) (a : Nat) : R st (watchCancel0 st a) :=
  watchCancel0_cases st a (C.refl st) (C.fail st) (fun _ _ hn => C.cancelDetached st a hn) fun _ hc => C.cancelFound st a hc

theorem watchCancel (st : St) (a : Nat) : R st (watchCancel st a) :=
  watchCancel_cases st a (C.watchCancel0 st a) fun _ _ _ => C.trans (C.watchCancel0 st a) (C.watchCancel0 _ _)

theorem cancelSigchld (st : St) : R st (cancelSigchld st) := by
  unfold EvLoop.cancelSigchld
  split
  · exact C.watchCancel _ _
  · exact C.refl _

theorem bump (st : St) (k : Int) : R st (bump st k) := C.harness st _ st.cancelReq

theorem regSlot (st : St) (r : SlotRec) : R st { st with slots := st.slots ++ [r] } := C.harness st _ st.cancelReq

theorem noteCancel (st : St) (k : Int) : R st { st with cancelReq := k :: st.cancelReq } := C.harness st st.slots _

theorem doRegister (st : St) (k : Int) (reg : St → St × Nat) (h : ∀ s, R s (reg s).1) : R st (doRegister st k reg) :=
  C.toBase0.doRegister C.regSlot st k reg h

theorem doCancel (st : St) (k : Int) : R st (doCancel st k) :=
  doCancel_cases EvLoop.watchCancel st k (C.emit _ _) fun _ _ _ => C.trans (C.noteCancel _ _) (C.watchCancel _ _)

theorem ctor {k : Int} {f : St → St × Nat} (c : Ctor k f) (s : St) : R s (f s).1 :=
  C.toBase0.ctor (fun s due fl => C.watchTimerAt s due fl k) (fun s fl => C.watchLater s fl k 0) (fun s fd c fl => C.watchIo s fd c fl k)
    (fun s sig fl hv => C.watchSignal s sig fl k (validSig_ne_zero _ hv)) (fun s pid fl => C.watchProcess s pid fl k) c s

theorem runAct (st : St) (act : Act) : R st (runAct st act) :=
  runAct_cases st act (C.refl st) (fun k _ c => C.doRegister st k _ (C.ctor c)) (C.doCancel st)
    (fun _ => C.same (.of_eq rfl rfl)) (C.raiseSig st) (fun _ => C.same (.of_eq rfl rfl)) (C.same (.of_eq rfl rfl))

theorem runActs (acts : List Act) (st : St) :
    R st (acts.foldl (fun st act => if st.isOk then EvLoop.runAct (st.emit .a) act else st) st) :=
  foldActs_cases EvLoop.runAct (I := fun _ => True) C.refl C.trans
    (fun s act _ => ⟨C.trans (C.emit _ _) (C.runAct _ act), trivial⟩) acts st trivial

theorem fireUser (st : St) (k : Int) (flags : Nat) (info : Info) : R st (fireUser st k flags info) :=
  fireUser_cases st k flags info (fun _ => C.emit _ _) fun acts => C.trans (C.trans (C.emit _ _) (C.bump _ _)) (C.runActs acts _)

theorem unlinkOneshot (st : St) (a : Nat) : R st (unlinkOneshot st a) := C.toBase0.unlinkOneshot st a (C.unlinkFound st a)

theorem unlinkOneshotSaved (st : St) (a : Nat) (t : WType) : R st (unlinkOneshotSaved st a t) :=
  C.toBase0.unlinkOneshotSaved st a t (C.unlinkFound st a t)

theorem invokeWatch (st : St) (a : Nat) (flags : Nat) (info : Info) : R st (invokeWatch st a flags info) := by
  unfold EvLoop.invokeWatch
  have hf : R st (if (st.getW a).slot ≥ 0 then EvLoop.fireUser st (st.getW a).slot flags info else st) :=
    iteInduction (fun _ => C.fireUser _ _ _ _) fun _ => C.refl st
  generalize (if (st.getW a).slot ≥ 0 then EvLoop.fireUser st (st.getW a).slot flags info else st) = s1 at hf ⊢
  refine iteInduction (fun _ => C.refl _) fun _ => ?_
  refine iteInduction (fun _ => C.fail _ _) fun _ => ?_
  refine iteInduction (fun _ => hf) fun _ => ?_
  exact iteInduction (fun _ => C.trans hf (C.unlinkOneshotSaved _ a _)) fun _ => C.trans hf (C.unlinkOneshot _ a)

theorem procStep (st : St) (a : Nat) : R st (procStep st a) := by
  unfold EvLoop.procStep
  split
  · exact C.same (same_waitpidV _ _)
  · exact C.trans (C.same (same_waitpidV _ _)) (C.invokeWatch _ _ _ _)

theorem onSigchld (fuel : Nat) : ∀ (st : St) (this : Option Nat), R st (onSigchld fuel st this) := by
  induction fuel with
  | zero => intro st this; unfold EvLoop.onSigchld; exact C.outOfFuel st
  | succ n ih =>
    intro st this
    unfold EvLoop.onSigchld
    split
    · exact C.refl _
    · split
      · exact C.refl _
      · split
        · exact C.fail _ _
        · exact C.trans (C.procStep _ _) (ih _ _)

theorem procSnapLoop (l : List Nat) (st : St) : R st (procSnapLoop st l) :=
  C.on_procSnapLoop (fun s a _ => C.procStep s a) l st

theorem onSigchldAny (fuel : Nat) (st : St) : R st (onSigchldAny fuel st) := by
  unfold EvLoop.onSigchldAny
  split
  · split
    · exact C.fail _ _
    · exact C.procSnapLoop _ _
  · exact C.onSigchld _ _ _

theorem processNotify (st : St) (a : Nat) : R st (processNotify st a) := by
  unfold EvLoop.processNotify
  split
  · exact C.fail _ _
  · exact C.trans (C.clearNotify _ _) (C.invokeWatch _ _ _ _)

theorem laterCb (st : St) (a : Nat) : R st (laterCb st a) := by
  unfold EvLoop.laterCb
  split
  · exact C.fireUser _ _ _ _
  · split
    · exact C.processNotify _ _
    · exact C.refl _

theorem sigCb (fuel : Nat) (st : St) (a : Nat) (s : Int) : R st (sigCb fuel st a s) := by
  unfold EvLoop.sigCb
  refine iteInduction (fun _ => ?_) fun _ => C.refl _
  refine iteInduction (fun _ => C.fireUser _ _ _ _) fun _ => ?_
  refine iteInduction (fun _ => C.onSigchldAny _ _) fun _ => ?_
  exact iteInduction (fun _ => C.same (.of_eq rfl rfl)) fun _ => C.refl _

theorem sigwatchLoopT (fuel : Nat) : ∀ (st : St) (s : Int) (this : Option Nat), R st (sigwatchLoopT fuel st s this).1 := by
  induction fuel with
  | zero => intro st s this; unfold EvLoop.sigwatchLoopT; exact C.outOfFuel st
  | succ n ih =>
    intro st s this
    unfold EvLoop.sigwatchLoopT
    refine ite_fst (fun _ => C.refl _) fun _ => ?_
    split
    · exact C.refl _
    · refine ite_fst (fun _ => C.fail _ _) fun _ => ?_
      refine ite_fst (fun _ => C.sigCb _ _ _ _) fun _ => ?_
      exact ite_fst (fun _ => C.trans (C.sigCb _ _ _ _) (C.fail _ _))
        fun _ => C.trans (C.sigCb _ _ _ _) (ih _ _ _)

theorem sigwatchLoop (fuel : Nat) (st : St) (s : Int) (this : Option Nat) : R st (sigwatchLoop fuel st s this) :=
  C.sigwatchLoopT fuel st s this

theorem sigSnapLoopG (cb : St → Nat → St) (hcb : ∀ st a, R st (cb st a)) (l : List Nat) (st : St) :
    R st (sigSnapLoopG cb st l).1 :=
  C.on_sigSnapLoopG cb (fun s a _ _ => hcb s a) l st

theorem sigSnapLoopT (fuel : Nat) (s : Int) (l : List Nat) (st : St) : R st (sigSnapLoopT fuel st s l).1 :=
  C.on_sigSnapLoopT fuel s (fun st a _ _ => C.sigCb fuel st a s) l st

theorem sigDispatch (fuel : Nat) (st : St) (s : Int) : R st (sigDispatch fuel st s) := by
  unfold EvLoop.sigDispatch
  split
  · split
    · exact C.fail _ _
    · exact C.sigSnapLoopT _ _ _ _
  · exact C.sigwatchLoop _ _ _ _

theorem dispatchLoop (fuel : Nat) (pending : List Int) (l : List Int) (st : St) : R st (dispatchLoop fuel st pending l) :=
  C.on_dispatchLoop fuel (C.sigDispatch fuel) pending l st

theorem dispatchSignals (hp : ∀ st, R st { st with pendingSig := [] }) (fuel : Nat) (st : St) :
    R st (dispatchSignals fuel st) :=
  C.trans (hp st) (C.dispatchLoop _ _ _ _)

theorem ioCb (st : St) (s : PollSlot) : R st (ioCb st s) := by
  unfold EvLoop.ioCb
  split
  · split
    · exact C.fail _ _
    · exact C.invokeWatch _ _ _ _
  · exact C.refl _

theorem ioLoopT (fuel : Nat) (st : St) (idx : Nat) : R st (ioLoopT fuel st idx).1 :=
  C.on_ioLoopT (fun s slot _ => C.ioCb s slot) fuel st idx

theorem ioLoop (fuel : Nat) (st : St) (idx : Nat) : R st (ioLoop fuel st idx) := C.ioLoopT fuel st idx

theorem build (hlog : ∀ st, R st { st with log := [] }) (cfg : Config) : R (build0 cfg) (build cfg) :=
  C.trans (C.trans (C.watchIo _ _ _ _ _) (C.watchSignal _ SIGWINCH 0 (-2) (by decide))) (hlog _)

end Closed

/-- The steps of `tickit_evloop_invoke_timers` beside the callbacks: the invoked watch is freed, the timer queue loses its
    head (repaired loop) or a prefix (shipped), the deferred callbacks are detached, an entry's UNBIND flag is cleared. -/
structure TimerLeaves (R : St → St → Prop) : Prop where
  free : ∀ st a, R st (st.free a)
  pop : ∀ st a rest, st.timers = a :: rest → R st { st with timers := rest }
  suffix : ∀ st o, R st { st with timers := suffixFrom o st.timers }
  detach : ∀ st, R st { st with laters := [] }
  laterPre : ∀ st a, R st (laterPre st a)

namespace Closed
variable {R : St → St → Prop} (C : Closed R) (T : TimerLeaves R)
include C T

theorem laterLoopT (l : List Nat) : ∀ st : St, R st (laterLoopT st l).1 := by
  induction l with
  | nil => intro st; exact C.refl st
  | cons a rest ih =>
    intro st
    have hcb := C.trans (T.laterPre st a) (C.laterCb _ a)
    unfold EvLoop.laterLoopT
    refine ite_fst (fun _ => C.refl _) fun _ => ?_
    refine ite_fst (fun _ => C.fail _ _) fun _ => ?_
    refine ite_fst (fun _ => C.trans (T.free _ a) (ih _)) fun _ => ?_
    refine ite_fst (fun _ => hcb) fun _ => ?_
    exact ite_fst (fun _ => C.trans hcb (C.fail _ _))
      fun _ => C.trans (C.trans hcb (T.free _ a)) (ih _)

theorem laterLoop (l : List Nat) (st : St) : R st (laterLoop st l) := C.laterLoopT T l st

theorem timerLoopT (fuel : Nat) : ∀ (st : St) (now : TV) (this : Option Nat), R st (timerLoopT fuel st now this).1 := by
  induction fuel with
  | zero => intro st now this; unfold EvLoop.timerLoopT; exact C.outOfFuel st
  | succ n ih =>
    intro st now this
    unfold EvLoop.timerLoopT
    refine ite_fst (fun _ => C.refl _) fun _ => ?_
    split
    · exact C.refl _
    · rename_i a
      have h1 := C.fireUser st (st.getW a).slot (EV_FIRE ||| EV_UNBIND) .none
      refine ite_fst (fun _ => C.fail _ _) fun _ => ?_
      refine ite_fst (fun _ => C.refl _) fun _ => ?_
      refine ite_fst (fun _ => h1) fun _ => ?_
      exact ite_fst (fun _ => C.trans h1 (C.fail _ _))
        fun _ => C.trans (C.trans h1 (T.free _ a)) (ih _ _ _)

theorem timerLoopPopT (fuel : Nat) : ∀ (st : St) (now : TV), R st (timerLoopPopT fuel st now).1 := by
  induction fuel with
  | zero => intro st now; unfold EvLoop.timerLoopPopT; exact C.outOfFuel st
  | succ n ih =>
    intro st now
    unfold EvLoop.timerLoopPopT
    refine ite_fst (fun _ => C.refl _) fun _ => ?_
    split
    · exact C.refl _
    · rename_i a rest hq
      have h1 := C.trans (T.pop st a rest hq)
        (C.fireUser { st with timers := rest } (st.getW a).slot (EV_FIRE ||| EV_UNBIND) .none)
      refine ite_fst (fun _ => C.fail _ _) fun _ => ?_
      refine ite_fst (fun _ => C.refl _) fun _ => ?_
      refine ite_fst (fun _ => h1) fun _ => ?_
      exact ite_fst (fun _ => C.trans h1 (C.fail _ _))
        fun _ => C.trans (C.trans h1 (T.free _ a)) (ih _ _)

theorem timerPhaseShipped (fuel : Nat) (st : St) (now : TV) : R st (timerPhaseShipped fuel st now) := by
  unfold EvLoop.timerPhaseShipped timerLoop
  simp only []
  split
  · exact C.trans (C.timerLoopT T _ _ _ _) (T.suffix _ _)
  · exact C.timerLoopT T _ _ _ _

theorem timerPhase (fuel : Nat) (st : St) : R st (timerPhase fuel st) := by
  unfold EvLoop.timerPhase
  split
  · exact C.refl _
  · split
    · exact C.trans (C.emit _ _) (C.timerLoopPopT T _ _ _)
    · exact C.trans (C.emit _ _) (C.timerPhaseShipped T _ _ _)

theorem invokeTimers (fuel : Nat) (st : St) : R st (invokeTimers fuel st) := by
  unfold EvLoop.invokeTimers
  split
  · exact C.refl _
  · exact C.trans (C.trans (T.detach st) (C.timerPhase T _ _)) (C.laterLoop T _ _)

end Closed

/-- The overwrites of a watch that the model makes. -/
structure Admits (ok : Watch → Watch → Prop) : Prop where
  freed : ∀ w, ok w { w with freed := true }
  evi : ∀ w i, ok w { w with evi := i }
  notify : ∀ w n, ok w { w with notify := n }
  wstatus : ∀ w s, ok w { w with wstatus := s }
  typeNone : ∀ w, ok w { w with type := .none }
  flags : ∀ w f, ok w { w with flags := f }

/-- What a `Frame` lacks to be `Closed`: the table of signal numbers (`SameSig` steps) and the harness's bookkeeping. -/
structure Outer (R : St → St → Prop) : Prop where
  evloopSignal : ∀ st s, R st (evloopSignal st s).1
  evloopCancelSignal : ∀ st i, R st (evloopCancelSignal st i)
  harness : ∀ st sl cr, R st { st with slots := sl, cancelReq := cr }

namespace Frame
variable {R : St → St → Prop} {ok : Watch → Watch → Prop} (F : Frame R ok (fun _ => False)) (A : Admits ok) (O : Outer R)
include F A O

theorem closed : Closed R where
  toBase := F.toBase
  watchTimerAt := F.watchTimerAt id
  watchLater := F.watchLater id
  watchIo := F.watchIo id A.evi
  watchSignal := fun st sg f k _ => F.watchSignal id O.evloopSignal A.evi st sg f k
  watchProcess := F.watchProcess id id (fun st => F.watchSignal id O.evloopSignal A.evi st _ _ _) A.notify A.wstatus
  cancelDetached := fun st a _ => F.cancelDetached A.typeNone st a
  cancelFound := fun st a _ => F.cancelFound A.freed st a _ _ id fun s _ => O.evloopCancelSignal s _
  unlinkFound := fun st a t _ _ _ _ => F.unlinkFound A.freed A.typeNone st a t id
  clearNotify := F.clearNotify A.notify
  harness := O.harness

omit O in
theorem timers : TimerLeaves R where
  free := F.free A.freed
  pop := fun st _ rest _ => F.setList st .timer rest id
  suffix := fun st _ => F.setList st .timer _ id
  detach := fun st => F.setList st .later [] id
  laterPre := F.laterPre A.flags

end Frame

/-- A relation that holds of every leaf step, whatever is overwritten. -/
structure Low (R : St → St → Prop) : Prop extends Base R where
  alloc : ∀ st w, R st (st.alloc w).1
  setW : ∀ st a w, R st (st.setW a w)
  setList : ∀ st t l, R st (setListOf st t l)
  evloopIo : ∀ st fd cond w, R st (evloopIo st fd cond w).1
  evloopCancelIo : ∀ st idx, R st (evloopCancelIo st idx)
  sameSig : ∀ {st st'}, SameSig st st' → R st st'
  harness : ∀ st sl cr, R st { st with slots := sl, cancelReq := cr }

theorem admits_all : Admits (fun _ _ => True) :=
  ⟨fun _ => trivial, fun _ _ => trivial, fun _ _ => trivial, fun _ _ => trivial, fun _ => trivial, fun _ _ => trivial⟩

namespace Low
variable {R : St → St → Prop} (L : Low R)
include L

theorem frame : Frame R (fun _ _ => True) (fun _ => False) where
  toBase := L.toBase
  alloc := L.alloc
  setW := fun st a w _ => L.setW st a w
  setList := fun st t l _ => L.setList st t l
  evloopIo := L.evloopIo
  evloopCancelIo := L.evloopCancelIo

theorem outer : Outer R :=
  ⟨fun st s => L.sameSig (sameSig_evloopSignal st s), fun st idx => L.sameSig (sameSig_evloopCancelSignal st idx), L.harness⟩

theorem closed : Closed R := L.frame.closed admits_all L.outer

theorem timers : TimerLeaves R := L.frame.timers admits_all

/-! The leaves that `Closed` states with a side condition hold of a `Low` relation without it. -/

theorem watchSignal (st : St) (signum : Int) (flags : Nat) (slot : Int) : R st (watchSignal st signum flags slot).1 :=
  L.frame.watchSignal id L.outer.evloopSignal (fun _ _ => trivial) st signum flags slot

theorem linkProcess (st : St) (a : Nat) (pid : Int) (flags : Nat) : R st (linkProcess st a pid flags) :=
  L.frame.linkProcess id id (fun _ _ => trivial) (fun _ _ => trivial) st a pid flags

theorem cancelHook (st : St) (t : WType) (evi : Nat) : R st (cancelHook st t evi) :=
  L.frame.cancelHook st t evi fun _ => L.outer.evloopCancelSignal st evi

theorem cancelDetached (st : St) (a : Nat) : R st (cancelDetached st a) := L.frame.cancelDetached (fun _ => trivial) st a

theorem unlinkFound (st : St) (a : Nat) (t : WType) : R st (unlinkFound st a t) :=
  L.frame.unlinkFound (fun _ => trivial) (fun _ => trivial) st a t id

theorem destroyList (t : WType) (l : List Nat) (st : St) : R st (destroyList st t l) :=
  L.toBase0.destroyList L.cancelHook L.timers.free t l st

theorem destroyBody {st : St} (hc : R st (EvLoop.cancelSigchld st)) :
    R st (destroyOf .process (destroyOf .signal (destroyOf .later (destroyOf .timer (destroyOf .io (EvLoop.cancelSigchld st)))))) :=
  L.toBase0.destroyBody L.destroyList hc

end Low

/-- What `Closed R` lacks for an iteration: the wait, the timer phase, `dispatch_signals` emptying `pending_signals`.
    The timer phase is a field as a whole because a relation for which freeing a watch is a step only under a condition
    (`LStep`) proves it by hand; the others fill it by `IterLeaves.of_timers`.  The harness's reset of the log is no
    field: `LogExt` is not closed under it (`Closed.reach`, Proof/EvLoopState.lean, takes it as a hypothesis). -/
structure IterLeaves (R : St → St → Prop) : Prop extends PollLeaves R where
  invokeTimers : ∀ fuel st, R st (invokeTimers fuel st)
  clearPending : ∀ st, R st { st with pendingSig := [] }

theorem IterLeaves.of_timers {R : St → St → Prop} (C : Closed R) (T : TimerLeaves R) (P : PollLeaves R)
    (hp : ∀ st, R st { st with pendingSig := [] }) : IterLeaves R :=
  { P with invokeTimers := C.invokeTimers T, clearPending := hp }

namespace Closed
variable {R : St → St → Prop} (C : Closed R) (I : IterLeaves R)
include C I

theorem tickAfterPoll (fuel : Nat) (st : St) (ret : Option Nat) : R st (tickAfterPoll fuel st ret) :=
  C.on_tickAfterPoll fuel (I.invokeTimers fuel) (fun s => C.ioLoop fuel s 0) (C.dispatchSignals I.clearPending fuel) st ret

theorem tick (fuel : Nat) (st : St) (nohang : Bool) : R st (tick fuel st nohang) :=
  C.toBase.on_tick I.toPollLeaves fuel (C.tickAfterPoll I fuel) st nohang

theorem runIter (fuel : Nat) (st : St) : R st (runIter fuel st) :=
  C.toBase.on_runIter I.toPollLeaves fuel (C.tickAfterPoll I fuel) st

theorem runLoop (fuel : Nat) (n : Nat) (st : St) : R st (runLoop fuel n st) :=
  C.on_runLoop fuel (C.runIter I fuel) n st

theorem run (fuel : Nat) (st : St) : R st (run fuel st) := by
  have h := C.trans (C.trans (C.watchSignal st 2 0 (-5) (by decide)) (C.same (same_runFlags _ true true 0)))
    (C.runLoop I fuel (maxRunPolls + 2) _)
  unfold EvLoop.run
  refine iteInduction (fun _ => C.refl _) fun _ => ?_
  exact iteInduction (fun _ => h) fun _ => C.trans (C.trans h (C.same (same_inRun _ _))) (C.watchCancel _ _)

theorem applyOp' (st : St) (op : Op) (hd : op ≠ .destroy) : R st (applyOp' st op) :=
  applyOp'_cases st op (fun _ => C.same) (C.runAct st) (fun _ => C.trans (C.same (by exact .of_eq rfl rfl)) (C.tick I _ _ _))
    (C.run I _ st) fun h => absurd h hd

end Closed

end Tickit.EvLoop
