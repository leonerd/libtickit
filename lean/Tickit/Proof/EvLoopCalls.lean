import Tickit.Proof.EvLoopState
/-
  Single calls, exactly (engine `evloop`): what `tickit_watch_cancel` and `destroy_watchlist` leave in the log (C17), what an
  interrupted wait has recorded and that `dispatch_signals` follows it under the repaired `evloop_run` (C18), how `revents`
  reach the io callbacks (C18).  Rests on Proof/EvLoopState.lean only.
-/
namespace Tickit.EvLoop

/-- The log entry `destroy_watchlist` makes for watch `a`: only if it asked for UNBIND or DESTROY and its callback is the
    harness's. -/
def destroyNote (st : St) (a : Nat) : Option Ev :=
  if (st.getW a).flags &&& (BIND_UNBIND ||| BIND_DESTROY) ≠ 0 ∧ (st.getW a).slot ≥ 0 then
    some (.cb (st.getW a).slot (EV_UNBIND ||| EV_DESTROY) .none)
  else none

theorem log_destroyNotify (st : St) (a : Nat) :
    (destroyNotify st a).log = (match destroyNote st a with | some e => [e] | none => []) ++ st.log := by
  unfold destroyNotify destroyNote notify
  by_cases h1 : (st.getW a).flags &&& (BIND_UNBIND ||| BIND_DESTROY) ≠ 0
  · by_cases h2 : (st.getW a).slot ≥ 0
    · simp [h1, h2, St.emit]
    · simp [h1, h2]
  · simp [h1]

theorem heap_destroyNotify (st : St) (a : Nat) : (destroyNotify st a).heap = st.heap := heap_base.destroyNotify st a

theorem destroyList_log (t : WType) : ∀ (l : List Nat) (st : St), l.Nodup → st.allLive l = true →
    (destroyList st t l).status = .ok →
    (destroyList st t l).log = (l.filterMap (destroyNote st)).reverse ++ st.log := by
  intro l
  induction l with
  | nil => intro st _ _ _; simp [destroyList]
  | cons a rest ih =>
    intro st hnd hlive hok
    rw [List.nodup_cons] at hnd
    simp only [St.allLive, List.all_cons, Bool.and_eq_true] at hlive
    unfold destroyList at hok ⊢
    split
    · rename_i h; exact St.not_ok_absurd h (by
        rw [if_pos h] at hok; exact hok)
    · rename_i hst
      rw [if_neg hst] at hok
      split
      · rename_i h; rw [hlive.1] at h; cases h
      · rename_i hl
        rw [if_neg hl] at hok
        have hheap : ((cancelHook (destroyNotify st a) t (st.getW a).evi)).heap = st.heap := by
          rw [heap_cancelHook, heap_destroyNotify]
        have hlv : (cancelHook (destroyNotify st a) t (st.getW a).evi).live a = true := by
          rw [live_of_heap_eq hheap]; exact hlive.1
        have hrest : ∀ b ∈ rest, ((cancelHook (destroyNotify st a) t (st.getW a).evi).free a).getW b = st.getW b := by
          intro b hb
          have hne : a ≠ b := fun h => hnd.1 (h ▸ hb)
          rw [St.getW_free_ne _ _ _ hne, getW_of_heap_eq hheap]
        have hrl : ((cancelHook (destroyNotify st a) t (st.getW a).evi).free a).allLive rest = true := by
          simp only [St.allLive, List.all_eq_true] at hlive ⊢
          intro b hb
          have hne : a ≠ b := fun h => hnd.1 (h ▸ hb)
          rw [St.live_free_ne _ _ _ hne, live_of_heap_eq hheap]
          exact hlive.2 b hb
        have hnote : rest.filterMap (destroyNote ((cancelHook (destroyNotify st a) t (st.getW a).evi).free a)) =
            rest.filterMap (destroyNote st) := by
          apply filterMap_congr'
          intro b hb
          unfold destroyNote
          rw [hrest b hb]
        rw [ih _ hnd.2 hrl hok, hnote, St.log_free, log_cancelHook, log_destroyNotify]
        simp only [List.filterMap_cons]
        cases destroyNote st a <;> simp

theorem watchCancel_exact (st : St) (a : Nat) (hok : st.status = .ok) (hl : st.live a = true)
    (ht : (st.getW a).type = .timer ∨ (st.getW a).type = .later)
    (hall : st.allLive (listOf st (st.getW a).type) = true) (hnd : (listOf st (st.getW a).type).Nodup)
    (hin : a ∈ listOf st (st.getW a).type) :
    (watchCancel st a).status = .ok ∧ (watchCancel st a).live a = false ∧
    listOf (watchCancel st a) (st.getW a).type = (listOf st (st.getW a).type).erase a ∧
    (watchCancel st a).log = (if (st.getW a).flags &&& BIND_UNBIND ≠ 0 ∧ (st.getW a).slot ≥ 0
               then [Ev.cb (st.getW a).slot EV_UNBIND .none] else []) ++ st.log := by
  have hisok : st.isOk = true := (St.isOk_iff st).mpr hok
  have htn : (st.getW a).type ≠ .none := by
    cases ht with
    | inl h => rw [h]; decide
    | inr h => rw [h]; decide
  have hpre : st.allLive ((listOf st (st.getW a).type).takeWhile (· ≠ a)) = true := by
    simp only [St.allLive, List.all_eq_true] at hall ⊢
    intro b hb
    exact hall b ((List.takeWhile_sublist _).subset hb)
  have hcont : (listOf st (st.getW a).type).contains a = true := by
    simp only [List.contains_eq_mem, decide_eq_true_eq]; exact hin
  have hhook : ∀ s : St, cancelHook s (st.getW a).type (st.getW a).evi = s := by
    intro s
    unfold cancelHook
    cases ht with
    | inl h => rw [h]
    | inr h => rw [h]
  have hset_heap : (setListOf st (st.getW a).type ((listOf st (st.getW a).type).erase a)).heap = st.heap := by
    cases (st.getW a).type <;> rfl
  have hset_log : (setListOf st (st.getW a).type ((listOf st (st.getW a).type).erase a)).log = st.log := by
    cases (st.getW a).type <;> rfl
  have hset_status : (setListOf st (st.getW a).type ((listOf st (st.getW a).type).erase a)).status = .ok := by
    cases (st.getW a).type <;> exact hok
  have hset_list : listOf (setListOf st (st.getW a).type ((listOf st (st.getW a).type).erase a)) (st.getW a).type
      = (listOf st (st.getW a).type).erase a := listOf_setListOf _ _ _ htn
  generalize hs1 : setListOf st (st.getW a).type ((listOf st (st.getW a).type).erase a) = s1 at *
  have hgw : s1.getW a = st.getW a := getW_of_heap_eq hset_heap a
  have hn := cancelNotify_eq s1 a (st.getW a)
  rw [hgw] at hn
  have hn_heap : (cancelNotify s1 a (st.getW a)).heap = st.heap := by rw [hn]; split <;> exact hset_heap
  have hn_status : (cancelNotify s1 a (st.getW a)).status = .ok := by rw [hn]; split <;> exact hset_status
  have hn_list : listOf (cancelNotify s1 a (st.getW a)) (st.getW a).type = (listOf st (st.getW a).type).erase a := by
    rw [hn]; split <;> exact hset_list
  have hn_log : (cancelNotify s1 a (st.getW a)).log =
      (if (st.getW a).flags &&& BIND_UNBIND ≠ 0 ∧ (st.getW a).slot ≥ 0
               then [Ev.cb (st.getW a).slot EV_UNBIND .none] else []) ++ st.log := by
    rw [hn]
    split
    · show _ :: s1.log = _; rw [hset_log]; rfl
    · exact hset_log
  generalize hs2 : cancelNotify s1 a (st.getW a) = s2 at *
  have hlive2 : s2.live a = true := by rw [live_of_heap_eq hn_heap]; exact hl
  have hfreeok : (s2.free a).isOk = true := by
    rw [St.isOk_iff, St.status_free_of_live _ _ hlive2]; exact hn_status
  have hrestlive : (s2.free a).allLive (((listOf st (st.getW a).type).dropWhile (· ≠ a)).drop 1) = true := by
    simp only [St.allLive, List.all_eq_true] at hall ⊢
    intro b hb
    have hbl : b ∈ listOf st (st.getW a).type :=
      (List.dropWhile_sublist _).subset ((List.drop_sublist 1 _).subset hb)
    have hab : a ≠ b := by
      intro h; subst h
      exact not_mem_after_first a _ hnd hb
    rw [St.live_free_ne _ _ _ hab, live_of_heap_eq hn_heap]; exact hall b hbl
  have hres : watchCancel st a = s2.free a := by
    rw [watchCancel_eq0 st a (by rcases ht with h | h <;> rw [h] <;> decide)]
    unfold watchCancel0
    simp only [hisok, hl, htn, hpre, hcont, Bool.not_true, Bool.false_eq_true, if_false]
    unfold cancelFound
    rw [hhook, hs1, hs2]
    unfold cancelRest
    simp only [hfreeok, hrestlive, Bool.not_true, Bool.false_eq_true, if_false]
  rw [hres]
  refine ⟨?_, St.live_free_self _ _ hlive2, ?_, ?_⟩
  · exact (St.isOk_iff _).mp hfreeok
  · rw [lists_free]; exact hn_list
  · rw [St.log_free]; exact hn_log

theorem observer_pollRaise (st : St) : (pollRaise st).observer = st.observer := observer_base.pollRaise st

theorem cfg_deliverPending (st : St) : (deliverPending st).cfg = st.cfg := by
  unfold deliverPending; split <;> rfl

theorem kpending_deliverPending (st : St) : (deliverPending st).kpending = [] := by
  unfold deliverPending; split <;> rfl

theorem cfg_ppoll (st : St) (t : Option Int) : (ppoll st t).1.cfg = st.cfg :=
  cfg_base.ppoll ⟨fun _ => rfl, cfg_deliverPending⟩ st t

theorem cfg_nextTimerMsec (st : St) : (nextTimerMsec st).1.cfg = st.cfg := cfg_base.nextTimerMsec st

theorem observer_nextTimerMsec (st : St) : (nextTimerMsec st).1.observer = st.observer := observer_base.nextTimerMsec st

theorem raiseSig_blocked (st : St) (s : Int) (hok : st.isOk = true) (hb : st.blocked.contains s = true) :
    raiseSig st s = { st with kpending := setInsert s st.kpending } := by
  unfold raiseSig
  rw [if_neg (by rw [hok]; decide), if_pos hb]

theorem mem_foldl_setInsert (l : List Int) : ∀ (acc : List Int) (s : Int),
    (s ∈ l ∨ s ∈ acc) → s ∈ l.foldl (fun acc s => setInsert s acc) acc := by
  induction l with
  | nil => exact fun acc s h => h.resolve_left nofun
  | cons x rest ih =>
    intro acc s h
    refine ih _ s ?_
    rcases h with h | h
    · exact (List.mem_cons.mp h).elim (fun e => .inr (mem_setInsert.mpr (.inl e))) .inl
    · exact .inr (mem_setInsert.mpr (.inr h))

theorem pollRaise_of_inpoll_nil (st : St) (h : st.inpoll = []) : pollRaise st = st := by
  have e : ({ st with inpoll := [] } : St) = st := by rw [← h]
  unfold pollRaise
  rw [h, e]
  rfl

theorem ppoll_interrupted (st : St) (t : Option Int) (hok : (pollRaise (pollScan st)).isOk = true) (hc : pollCount st = 0)
    (hk : (pollRaise (pollScan st)).kpending ≠ []) : (ppoll st t).2 = none := by
  unfold ppoll
  rw [if_neg (by rw [hok]; decide), if_neg (by omega), if_pos (by cases h : (pollRaise (pollScan st)).kpending <;> simp_all)]

theorem ppoll_none (st : St) (t : Option Int) (h : (ppoll st t).2 = none) :
    (ppoll st t).1 = ({ deliverPending (pollRaise (pollScan st)) with errno := EINTR }).emit (.poll t (pollSlots st) none) := by
  generalize hres : ppoll st t = res at h ⊢
  unfold ppoll at hres
  rcases ite_eq_cases hres with ⟨_, rfl⟩ | ⟨_, hres⟩
  · cases h
  rcases ite_eq_cases hres with ⟨_, rfl⟩ | ⟨_, hres⟩
  · cases h
  rcases ite_eq_cases hres with ⟨_, rfl⟩ | ⟨_, rfl⟩
  · rfl
  · cases h

theorem ppoll_eintr_errno (st : St) (t : Option Int) (h : (ppoll st t).2 = none) :
    (ppoll st t).1.errno = EINTR ∧ (ppoll st t).1.kpending = [] := by
  rw [ppoll_none st t h]
  exact ⟨rfl, kpending_deliverPending _⟩

theorem ppoll_eintr (st : St) (t : Option Int) (ho : st.observer = .self) (h : (ppoll st t).2 = none) :
    (ppoll st t).1.errno = EINTR ∧ (ppoll st t).1.kpending = [] ∧
    ∀ s ∈ (pollRaise (pollScan st)).kpending, s ∈ (ppoll st t).1.pendingSig := by
  refine ⟨(ppoll_eintr_errno st t h).1, (ppoll_eintr_errno st t h).2, ?_⟩
  rw [ppoll_none st t h]
  intro s hs
  show s ∈ (deliverPending (pollRaise (pollScan st))).pendingSig
  have hobs : (pollRaise (pollScan st)).observer = .self := by rw [observer_pollRaise]; exact ho
  unfold deliverPending
  rw [hobs]
  exact mem_foldl_setInsert _ _ _ (Or.inl hs)

/-- When `signal_observer` does not point at the loop that waits (another toplevel instance was built
    first, or the observer has been destroyed), an interrupted wait records nothing in this loop. -/
theorem ppoll_eintr_not_observer (st : St) (t : Option Int) (ho : st.observer ≠ .self) (h : (ppoll st t).2 = none) :
    (ppoll st t).1.pendingSig = (pollRaise (pollScan st)).pendingSig := by
  rw [ppoll_none st t h]
  show (deliverPending (pollRaise (pollScan st))).pendingSig = _
  have hobs : (pollRaise (pollScan st)).observer = st.observer := by rw [observer_pollRaise]; rfl
  unfold deliverPending
  split
  · rename_i hh; rw [hobs] at hh; exact absurd hh ho
  · rfl
  · rfl

theorem tickAfterPoll_eintr_saved (fuel : Nat) (st : St) (hs : st.cfg.errnoSaved = true) (he : st.errno = EINTR)
    (hok : (invokeTimers fuel st).isOk = true) :
    tickAfterPoll fuel st none = dispatchSignals fuel (invokeTimers fuel st) := by
  unfold tickAfterPoll errnoSeen
  simp only [hok, Bool.not_true, Bool.false_eq_true, if_false, hs, if_true, he]

theorem tickAfterPoll_eintr_shipped (fuel : Nat) (st : St) (hs : st.cfg.errnoSaved = false)
    (hok : (invokeTimers fuel st).isOk = true) :
    tickAfterPoll fuel st none =
      if (invokeTimers fuel st).errno = EINTR then dispatchSignals fuel (invokeTimers fuel st) else invokeTimers fuel st := by
  unfold tickAfterPoll errnoSeen
  simp only [hok, Bool.not_true, Bool.false_eq_true, if_false, hs]

theorem tick_eintr_dispatches (fuel : Nat) (st : St) (nohang : Bool) (hs : st.cfg.errnoSaved = true)
    (hok0 : st.isOk = true) (hok1 : (nextTimerMsec st).1.isOk = true)
    (hok2 : (ppoll (nextTimerMsec st).1 (tickTimeout nohang (nextTimerMsec st).2)).1.isOk = true)
    (hint : (ppoll (nextTimerMsec st).1 (tickTimeout nohang (nextTimerMsec st).2)).2 = none)
    (hok3 : (invokeTimers fuel (ppoll (nextTimerMsec st).1 (tickTimeout nohang (nextTimerMsec st).2)).1).isOk = true) :
    tick fuel st nohang =
      dispatchSignals fuel (invokeTimers fuel (ppoll (nextTimerMsec st).1 (tickTimeout nohang (nextTimerMsec st).2)).1) := by
  unfold tick
  simp only [hok0, hok1, hok2, Bool.not_true, Bool.false_eq_true, if_false]
  rw [hint]
  apply tickAfterPoll_eintr_saved
  · rw [cfg_ppoll, cfg_nextTimerMsec]; exact hs
  · exact (ppoll_eintr_errno _ _ hint).1
  · exact hok3

/-- Each rung of `tick` hands a failed state back. -/
theorem tick_ok (fuel : Nat) (st : St) (nohang : Bool) (hok : (tick fuel st nohang).status = .ok) :
    st.isOk = true ∧ (nextTimerMsec st).1.isOk = true ∧
    (ppoll (nextTimerMsec st).1 (tickTimeout nohang (nextTimerMsec st).2)).1.isOk = true ∧
    (invokeTimers fuel (ppoll (nextTimerMsec st).1 (tickTimeout nohang (nextTimerMsec st).2)).1).isOk = true := by
  generalize hres : tick fuel st nohang = res at hok
  unfold tick at hres
  rcases ite_eq_cases hres with ⟨c, rfl⟩ | ⟨c0, hres⟩
  · exact St.not_ok_absurd c hok
  rcases ite_eq_cases hres with ⟨c, rfl⟩ | ⟨c1, hres⟩
  · exact St.not_ok_absurd c hok
  rcases ite_eq_cases hres with ⟨c, rfl⟩ | ⟨c2, rfl⟩
  · exact St.not_ok_absurd c hok
  refine ⟨not_of_not_eq_true c0, not_of_not_eq_true c1, not_of_not_eq_true c2, not_of_not_eq_true fun c => ?_⟩
  unfold tickAfterPoll at hok
  rw [if_pos c] at hok
  exact St.not_ok_absurd c hok

theorem or_and_ne_zero (a b m : Nat) : (a ||| b) &&& m ≠ 0 ↔ a &&& m ≠ 0 ∨ b &&& m ≠ 0 := by
  rw [Nat.and_or_distrib_right, ne_eq, Nat.or_eq_zero_iff]; omega

theorem ite_and_ne_zero (c : Prop) [Decidable c] (k m : Nat) : (if c then k else 0) &&& m ≠ 0 ↔ c ∧ k &&& m ≠ 0 := by
  split <;> simp [*]

theorem condOfRevents_bits (r : Nat) :
    (condOfRevents r &&& IO_IN ≠ 0 ↔ r &&& POLLIN ≠ 0) ∧ (condOfRevents r &&& IO_OUT ≠ 0 ↔ r &&& POLLOUT ≠ 0) ∧
    (condOfRevents r &&& IO_HUP ≠ 0 ↔ r &&& POLLHUP ≠ 0) ∧ (condOfRevents r &&& IO_ERR ≠ 0 ↔ r &&& POLLERR ≠ 0) ∧
    (condOfRevents r &&& IO_INVAL ≠ 0 ↔ r &&& POLLNVAL ≠ 0) := by
  simp only [condOfRevents, or_and_ne_zero, ite_and_ne_zero, IO_IN, IO_OUT, IO_HUP, IO_ERR, IO_INVAL, Nat.reduceAnd,
    ne_eq, not_true_eq_false, not_false_eq_true, and_false, and_true, or_false, false_or, and_self, Nat.reduceEqDiff, iff_self]

theorem findFreeSlot_lt : ∀ (l : List PollSlot) (i j : Nat), findFreeSlot l i = some j → i ≤ j ∧ j < i + l.length := by
  intro l
  induction l with
  | nil => intro i j hh; simp [findFreeSlot] at hh
  | cons x xs ih =>
    intro i j hh
    simp only [findFreeSlot] at hh
    split at hh
    · cases hh; simp
    · have := ih (i + 1) j hh
      simp only [List.length_cons]; omega

theorem evloopIo_clears (st : St) (fd : Int) (cond : Nat) (w : Nat) (h : st.cfg.reventsCleared = true) :
    ((evloopIo st fd cond w).1.pfd.getD (evloopIo st fd cond w).2 default).revents = some 0 := by
  unfold evloopIo
  split
  · rename_i idx hfree
    have hlt : idx < st.pfd.length := by have := findFreeSlot_lt st.pfd 0 idx hfree; omega
    simp only [h, if_true, List.getD_eq_getElem?_getD, List.getElem?_set, hlt, Option.getD_some]
  · simp only [h, if_true, getD_append_self]

theorem pollScan_entry (st : St) (idx : Nat) (h : idx < st.pfd.length) :
    (pollScan st).pfd.getD idx default =
      { st.pfd.getD idx default with revents := some (pollRevents st (st.pfd.getD idx default)) } := by
  unfold pollScan
  simp only [List.getD_eq_getElem?_getD, List.getElem?_map]
  have : st.pfd[idx]? = some st.pfd[idx] := List.getElem?_eq_getElem h
  rw [this]
  simp

theorem ioLoop_skips_cancelled (fuel : Nat) (st : St) (idx : Nat) (hok : st.isOk = true) (hlt : idx < st.pfd.length)
    (hfd : (st.pfd.getD idx default).fd = -1) : ioLoop (fuel + 1) st idx = ioLoop fuel st (idx + 1) := by
  unfold ioLoop
  rw [ioLoopT]
  simp only [hok, Bool.not_true, Bool.false_eq_true, if_false, hfd, if_true]
  rw [if_neg (by omega)]

theorem ioLoop_skips_quiet (fuel : Nat) (st : St) (idx : Nat) (hok : st.isOk = true) (hlt : idx < st.pfd.length)
    (hfd : (st.pfd.getD idx default).fd ≠ -1) (hr : (st.pfd.getD idx default).revents = some 0) :
    ioLoop (fuel + 1) st idx = ioLoop fuel st (idx + 1) := by
  unfold ioLoop
  rw [ioLoopT]
  have : slotRevents (st.pfd.getD idx default) = 0 := by unfold slotRevents; rw [hr]
  simp only [hok, Bool.not_true, Bool.false_eq_true, if_false, hfd, this, if_true]
  rw [if_neg (by omega)]

theorem ioLoop_invokes (fuel : Nat) (st : St) (idx : Nat) (a : Nat) (hok : st.isOk = true) (hlt : idx < st.pfd.length)
    (hfd : (st.pfd.getD idx default).fd ≠ -1) (hr : slotRevents (st.pfd.getD idx default) ≠ 0)
    (hw : (st.pfd.getD idx default).watch = some a) (hl : st.live a = true) :
    ioLoop (fuel + 1) st idx =
      ioLoop fuel (invokeWatch st a EV_FIRE (.io (st.getW a).fd (condOfRevents (slotRevents (st.pfd.getD idx default))))) (idx + 1) := by
  unfold ioLoop
  rw [ioLoopT]
  simp only [hok, Bool.not_true, Bool.false_eq_true, if_false, hfd, hr]
  rw [if_neg (by omega)]
  unfold ioCb
  rw [hw]
  simp only [hl, Bool.not_true, Bool.false_eq_true, if_false]

end Tickit.EvLoop
