import Tickit.Proof.EvLoopStep
/-
  What every file of the engine `evloop` (C17, C18) rests on: what the primitives of the model do to the fields the proofs
  read, `tickit_destroy` followed once (`destroy_cases`), and histories — a failed status stays failed, so what a `Closed`
  relation (Proof/EvLoopStep.lean) and `tickit_destroy` keep holds in every reachable state whose status is ok
  (`Closed.reach`), or in every reachable state where destruction keeps it whatever its outcome (`Closed.reach_all`).  Also
  the list facts the engine shares: tables read with a default (`getD_set`, `getD_append_*`), `succOf`, `setInsert`.
-/
namespace Tickit.EvLoop

namespace St

theorem getW_def (st : St) (a : Nat) : st.getW a = st.heap.getD a default := rfl

@[simp] theorem heap_setW (st : St) (a : Nat) (w : Watch) : (st.setW a w).heap = st.heap.set a w := rfl
@[simp] theorem timers_setW (st : St) (a : Nat) (w : Watch) : (st.setW a w).timers = st.timers := rfl
@[simp] theorem status_setW (st : St) (a : Nat) (w : Watch) : (st.setW a w).status = st.status := rfl
@[simp] theorem cfg_setW (st : St) (a : Nat) (w : Watch) : (st.setW a w).cfg = st.cfg := rfl

theorem getW_setW_ne (st : St) (a b : Nat) (w : Watch) (h : a ≠ b) : (st.setW a w).getW b = st.getW b := by
  simp only [getW, setW, List.getD_eq_getElem?_getD, List.getElem?_set, if_neg h]

theorem getW_setW_self (st : St) (a : Nat) (w : Watch) (h : a < st.heap.length) : (st.setW a w).getW a = w := by
  simp only [getW, setW, List.getD_eq_getElem?_getD, List.getElem?_set, if_pos h, if_true, Option.getD_some]

theorem length_setW (st : St) (a : Nat) (w : Watch) : (st.setW a w).heap.length = st.heap.length := by
  simp only [heap_setW, List.length_set]

theorem live_lt {st : St} {a : Nat} (h : st.live a = true) : a < st.heap.length := by
  unfold live at h
  cases hh : st.heap[a]? with
  | none => rw [hh] at h; cases h
  | some w =>
    have := List.getElem?_eq_some_iff.mp hh
    exact this.1

@[simp] theorem timers_emit (st : St) (e : Ev) : (st.emit e).timers = st.timers := rfl
@[simp] theorem heap_emit (st : St) (e : Ev) : (st.emit e).heap = st.heap := rfl
@[simp] theorem status_emit (st : St) (e : Ev) : (st.emit e).status = st.status := rfl
@[simp] theorem cfg_emit (st : St) (e : Ev) : (st.emit e).cfg = st.cfg := rfl
@[simp] theorem getW_emit (st : St) (e : Ev) (a : Nat) : (st.emit e).getW a = st.getW a := rfl
@[simp] theorem live_emit (st : St) (e : Ev) (a : Nat) : (st.emit e).live a = st.live a := rfl
@[simp] theorem isOk_emit (st : St) (e : Ev) : (st.emit e).isOk = st.isOk := rfl

@[simp] theorem timers_fail (st : St) (w : Ub) : (st.fail w).timers = st.timers := by
  unfold fail; split <;> rfl
@[simp] theorem heap_fail (st : St) (w : Ub) : (st.fail w).heap = st.heap := by
  unfold fail; split <;> rfl
@[simp] theorem getW_fail (st : St) (w : Ub) (a : Nat) : (st.fail w).getW a = st.getW a := by
  unfold getW; rw [heap_fail]
@[simp] theorem cfg_fail (st : St) (w : Ub) : (st.fail w).cfg = st.cfg := by
  unfold fail; split <;> rfl
theorem isOk_iff (st : St) : st.isOk = true ↔ st.status = .ok := by
  unfold isOk; simp

theorem isOk_fail (st : St) (w : Ub) : (st.fail w).isOk = false := by
  unfold fail isOk
  split
  · rfl
  · rename_i h; simpa using h

theorem status_fail_ne (st : St) (w : Ub) : (st.fail w).status ≠ .ok := by
  intro h
  have h1 := (isOk_iff _).mpr h
  rw [isOk_fail] at h1
  cases h1

theorem not_ok_absurd {st : St} {P : Prop} (h : (!st.isOk) = true) (hok : st.status = .ok) : P := by
  rw [(isOk_iff st).mpr hok] at h
  cases h

end St

theorem isOk_of_status {st st' : St} (h : st.isOk = false → st' = st) (hok : st'.status = .ok) : st.isOk = true := by
  cases hs : st.isOk
  · rw [h hs, ← St.isOk_iff, hs] at hok; cases hok
  · rfl

theorem alloc_snd (st : St) (w : Watch) : (st.alloc w).2 = st.heap.length := rfl
theorem alloc_len (st : St) (w : Watch) : (st.alloc w).1.heap.length = st.heap.length + 1 := by
  simp [St.alloc]

theorem getW_alloc_old (st : St) (w : Watch) (a : Nat) (h : a < st.heap.length) : (st.alloc w).1.getW a = st.getW a := by
  simp only [St.getW, St.alloc, List.getD_eq_getElem?_getD, List.getElem?_append_left h]

theorem getW_alloc_new (st : St) (w : Watch) : (st.alloc w).1.getW st.heap.length = w := by
  simp only [St.getW, St.alloc, List.getD_eq_getElem?_getD]
  rw [List.getElem?_append_right (Nat.le_refl _)]
  simp

theorem live_alloc_old (st : St) (w : Watch) (a : Nat) (h : a < st.heap.length) : (st.alloc w).1.live a = st.live a := by
  simp only [St.live, St.alloc, List.getElem?_append_left h]

theorem live_alloc_new (st : St) (w : Watch) (h : w.freed = false) : (st.alloc w).1.live st.heap.length = true := by
  simp only [St.live, St.alloc]
  rw [List.getElem?_append_right (Nat.le_refl _)]
  simp [h]

theorem live_eq_not_freed (st : St) (a : Nat) (h : a < st.heap.length) : st.live a = !(st.getW a).freed := by
  have : st.heap[a]? = some st.heap[a] := List.getElem?_eq_getElem h
  simp only [St.live, St.getW, List.getD_eq_getElem?_getD, this, Option.getD_some]

theorem getD_set {α : Type} (l : List α) (i j : Nat) (v : α) {d : α} :
    (l.set i v).getD j d = if i = j ∧ i < l.length then v else l.getD j d := by
  simp only [List.getD_eq_getElem?_getD, List.getElem?_set]
  by_cases h : i = j
  · subst h
    by_cases h2 : i < l.length
    · simp [h2]
    · simp [h2]
  · simp [h]

theorem getD_set_ne {α : Type} (l : List α) (i j : Nat) (v : α) {d : α} (h : i ≠ j) : (l.set i v).getD j d = l.getD j d := by
  rw [getD_set, if_neg fun c => h c.1]

theorem getD_set_self {α : Type} (l : List α) (i : Nat) (v : α) {d : α} (h : i < l.length) : (l.set i v).getD i d = v := by
  rw [getD_set, if_pos ⟨rfl, h⟩]

theorem getD_append_self {α : Type} (l : List α) (v : α) {d : α} : (l ++ [v]).getD l.length d = v := by
  simp only [List.getD_eq_getElem?_getD, List.getElem?_append_right (Nat.le_refl _), Nat.sub_self, List.getElem?_cons_zero,
    Option.getD_some]

theorem getD_append_ne {α : Type} (l : List α) (v : α) {d : α} {j : Nat} (h : j ≠ l.length) : (l ++ [v]).getD j d = l.getD j d := by
  simp only [List.getD_eq_getElem?_getD]
  by_cases hlt : j < l.length
  · rw [List.getElem?_append_left hlt]
  · rw [List.getElem?_eq_none (Nat.le_of_not_lt hlt), List.getElem?_eq_none]
    rw [List.length_append, List.length_singleton]; omega

theorem evloopIo_eq (st : St) (fd : Int) (cond : Nat) (w : Nat) :
    ∃ p, (evloopIo st fd cond w).1 = { st with pfd := p } ∧ ∀ s ∈ p, s ∈ st.pfd ∨ s.watch = some w := by
  unfold evloopIo
  split
  · exact ⟨_, rfl, fun s hs => (List.mem_or_eq_of_mem_set hs).imp id (fun h => by rw [h])⟩
  · exact ⟨_, rfl, fun s hs => (List.mem_append.mp hs).imp id (fun h => by rw [List.mem_singleton.mp h])⟩

theorem snd_watchTimerAt (st : St) (due : TV) (flags : Nat) (slot : Int) : (watchTimerAt st due flags slot).2 = st.heap.length := by
  unfold watchTimerAt
  simp only []
  split <;> rfl

theorem watchCancel_eq0 (st : St) (a : Nat) (h : (st.getW a).type ≠ .process) : watchCancel st a = watchCancel0 st a := by
  unfold watchCancel
  rw [if_neg]
  intro hh
  have := hh.2
  unfold cancelFindsProcess at this
  simp only [Bool.and_eq_true, beq_iff_eq] at this
  exact h this.1.2

theorem suffixFrom_sublist (a : Option Nat) (l : List Nat) : (suffixFrom a l).Sublist l := by
  unfold suffixFrom
  split
  · exact List.nil_sublist _
  · exact (List.dropWhile_suffix _).sublist

theorem destroy_cases {P : St → Prop} (st : St) (same : (!st.isOk) = true → P st)
    (walked : ∀ s, s = destroyOf .process (destroyOf .signal (destroyOf .later (destroyOf .timer (destroyOf .io (cancelSigchld st))))) →
      (s.isOk = true → P { s with alive := false, iow := [], timers := [], laters := [], signals := [], procs := [],
                                  observer := observerAfterDestroy s.observer }) ∧ (¬s.isOk = true → P s)) : P (destroy st) :=
  iteInduction same fun _ => iteInduction (walked _ rfl).1 (walked _ rfl).2

theorem status_applyOp_of_not_ok (st : St) (op : Op) (h : st.status ≠ .ok) : (applyOp st op).status ≠ .ok := by
  unfold applyOp applyOp'
  have : ({ st with log := [] } : St).isOk = false := by
    cases hh : ({ st with log := [] } : St).isOk
    · rfl
    · exact absurd ((St.isOk_iff _).mp hh) h
  simp only [this, Bool.not_false, if_true]
  exact h

/-- A failed status stays failed, so every state on the way to one whose status is ok had status ok: what each step keeps
    where it ends ok holds at the end of a history that ends ok. -/
theorem foldl_invariant {α : Type} (f : St → α → St) (hf : ∀ s o, s.status ≠ .ok → (f s o).status ≠ .ok) {I : St → Prop}
    (step : ∀ s o, I s → (f s o).status = .ok → I (f s o)) (l : List α) (s : St) (h : I s)
    (hok : (l.foldl f s).status = .ok) : I (l.foldl f s) :=
  List.foldlRecOn l f (motive := fun s => s.status = .ok → I s) (fun _ => h)
    (fun s ih o _ hok' => step s o (ih (Classical.byContradiction fun hne => hf s o hne hok')) hok') hok

theorem runOps_invariant {P : St → Prop} (cfg : Config) (ops : List Op) (h0 : P (build cfg))
    (hstep : ∀ st op, P st → (applyOp st op).status = .ok → P (applyOp st op)) (hok : (runOps cfg ops).status = .ok) :
    P (runOps cfg ops) :=
  foldl_invariant applyOp status_applyOp_of_not_ok hstep ops _ h0 hok

namespace Closed
variable {R : St → St → Prop} (C : Closed R) (I : IterLeaves R) {P : St → Prop}
  (keep : ∀ {st st'}, R st st' → P st → P st') (hlog : ∀ st, R st { st with log := [] })
include C I keep hlog

/-- `hd`: `R` is not closed under `tickit_destroy`, so the caller says what it keeps where it is the whole operation. -/
theorem applyOp_keeps (st : St) (op : Op) (p : P st)
    (hd : applyOp st op = destroy { st with log := [] } → P { st with log := [] } → P (destroy { st with log := [] })) :
    P (applyOp st op) :=
  have p0 := keep (hlog st) p
  applyOp'_cases _ op (fun _ h => keep (C.same h) p0) (fun _ => keep (C.runAct _ _) p0)
    (fun _ => keep (C.trans (C.same (by exact .of_eq rfl rfl)) (C.tick I _ _ _)) p0) (keep (C.run I _ _) p0) fun _ e => hd e p0

theorem reach (hd : ∀ st, P st → (destroy st).status = .ok → P (destroy st)) (cfg : Config) (h0 : P (build0 cfg))
    (ops : List Op) (hok : (runOps cfg ops).status = .ok) : P (runOps cfg ops) :=
  runOps_invariant cfg ops (keep (C.build hlog cfg) h0)
    (fun st op p hok' => C.applyOp_keeps I keep hlog st op p fun e p0 => hd _ p0 (e ▸ hok')) hok

theorem reach_all (hd : ∀ st, P st → P (destroy st)) (cfg : Config) (h0 : P (build0 cfg)) (ops : List Op) : P (runOps cfg ops) :=
  List.foldlRecOn ops EvLoop.applyOp (keep (C.build hlog cfg) h0)
    fun st p op _ => C.applyOp_keeps I keep hlog st op p fun _ p0 => hd _ p0

end Closed

namespace St
theorem log_fail (st : St) (w : Ub) : (st.fail w).log = st.log := by unfold fail; split <;> rfl
theorem log_setW (st : St) (a : Nat) (w : Watch) : (st.setW a w).log = st.log := rfl

theorem log_free (st : St) (a : Nat) : (st.free a).log = st.log := by
  unfold free; split
  · rfl
  · exact log_fail _ _

theorem getW_free_ne (st : St) (a b : Nat) (h : a ≠ b) : (st.free a).getW b = st.getW b := by
  unfold free; split
  · exact getW_setW_ne _ _ _ _ h
  · exact getW_fail _ _ _

theorem live_setW_ne (st : St) (a b : Nat) (w : Watch) (h : a ≠ b) : (st.setW a w).live b = st.live b := by
  simp only [live, setW, List.getElem?_set, if_neg h]

theorem live_fail (st : St) (w : Ub) (b : Nat) : (st.fail w).live b = st.live b := by
  unfold live; rw [heap_fail]

theorem live_free_ne (st : St) (a b : Nat) (h : a ≠ b) : (st.free a).live b = st.live b := by
  unfold free; split
  · exact live_setW_ne _ _ _ _ h
  · exact live_fail _ _ _

theorem live_free_self (st : St) (a : Nat) (h : st.live a = true) : (st.free a).live a = false := by
  have hlt := live_lt h
  unfold free
  rw [if_pos h]
  simp only [live, setW, List.getElem?_set, if_true, if_pos hlt]
  rfl

theorem status_free_of_live (st : St) (a : Nat) (h : st.live a = true) : (st.free a).status = st.status := by
  unfold free; rw [if_pos h]; rfl
end St

theorem heap_cancelHook (st : St) (t : WType) (evi : Nat) : (cancelHook st t evi).heap = st.heap := by
  unfold cancelHook
  split
  · rfl
  · exact (sameSig_evloopCancelSignal st evi).heap
  · rfl

theorem log_cancelHook (st : St) (t : WType) (evi : Nat) : (cancelHook st t evi).log = st.log := by
  unfold cancelHook
  split
  · rfl
  · exact (sameSig_evloopCancelSignal st evi).log
  · rfl

theorem getW_of_heap_eq {st st' : St} (h : st'.heap = st.heap) (a : Nat) : st'.getW a = st.getW a := by
  unfold St.getW; rw [h]
theorem live_of_heap_eq {st st' : St} (h : st'.heap = st.heap) (a : Nat) : st'.live a = st.live a := by
  unfold St.live; rw [h]

theorem heap_base : Base (fun st st' : St => st'.heap = st.heap) :=
  Base.ofProj St.heap Same.heap (fun _ _ => rfl) (fun _ _ => by unfold sigRecord; split <;> rfl)

theorem heap_notify (st : St) (a flags : Nat) : (notify st a flags).heap = st.heap := heap_base.notify st a flags

theorem filterMap_congr' {α β : Type} (f g : α → Option β) : ∀ (l : List α), (∀ x ∈ l, f x = g x) → l.filterMap f = l.filterMap g := by
  intro l
  induction l with
  | nil => intro _; rfl
  | cons a r ih =>
    intro h
    simp only [List.filterMap_cons]
    rw [h a List.mem_cons_self, ih (fun x hx => h x (List.mem_cons_of_mem a hx))]

theorem not_mem_after_first (a : Nat) : ∀ l : List Nat, l.Nodup → a ∉ (l.dropWhile (· ≠ a)).drop 1 := by
  intro l
  induction l with
  | nil => intro _; simp
  | cons x xs ih =>
    intro hnd
    rw [List.nodup_cons] at hnd
    by_cases hx : x = a
    · subst hx
      simp only [List.dropWhile_cons, ne_eq, not_true_eq_false, decide_false, Bool.false_eq_true, if_false,
        List.drop_succ_cons, List.drop_zero]
      exact hnd.1
    · simp only [List.dropWhile_cons, ne_eq, hx, not_false_eq_true, decide_true, if_true]
      exact ih hnd.2

theorem lists_free (st : St) (a : Nat) (t : WType) : listOf (st.free a) t = listOf st t := by
  unfold St.free
  split
  · cases t <;> rfl
  · unfold St.fail; split <;> (cases t <;> rfl)

theorem listOf_setListOf (st : St) (t : WType) (l : List Nat) (h : t ≠ .none) : listOf (setListOf st t l) t = l := by
  cases t <;> first | rfl | exact absurd rfl h

theorem cancelNotify_eq (st : St) (a : Nat) (w : Watch) :
    cancelNotify st a w =
      if w.flags &&& BIND_UNBIND ≠ 0 ∧ (st.getW a).slot ≥ 0 then st.emit (.cb (st.getW a).slot EV_UNBIND .none) else st := by
  unfold cancelNotify notify
  by_cases h1 : w.flags &&& BIND_UNBIND ≠ 0 <;> by_cases h2 : (st.getW a).slot ≥ 0 <;> simp [h1, h2]

theorem succOf_rel {R : Nat → Nat → Prop} (a b : Nat) : ∀ l : List Nat, l.Pairwise R → succOf a l = some b → R a b := by
  intro l
  induction l with
  | nil => intro _ h; simp [succOf] at h
  | cons x rest ih =>
    intro hp h
    rw [List.pairwise_cons] at hp
    simp only [succOf] at h
    split at h
    · rename_i hx
      subst hx
      cases rest with
      | nil => simp at h
      | cons y ys =>
        simp only [List.head?_cons, Option.some.injEq] at h
        subst h
        exact hp.1 y List.mem_cons_self
    · exact ih hp.2 h

theorem succOf_mem (a b : Nat) : ∀ l : List Nat, succOf a l = some b → b ∈ l := by
  intro l
  induction l with
  | nil => intro h; simp [succOf] at h
  | cons x rest ih =>
    intro h
    simp only [succOf] at h
    split at h
    · cases rest with
      | nil => simp at h
      | cons y ys =>
        simp only [List.head?_cons, Option.some.injEq] at h
        subst h
        exact List.mem_cons_of_mem _ List.mem_cons_self
    · exact List.mem_cons_of_mem _ (ih h)

theorem lists_destroy (st : St) (hok : (destroy st).status = .ok) (t : WType) : listOf (destroy st) t = [] :=
  destroy_cases (P := fun r => r.status = .ok → listOf r t = []) st (fun h hok => St.not_ok_absurd h hok)
    (fun s _ => ⟨fun _ _ => by cases t <;> rfl, fun h hok => absurd ((St.isOk_iff _).mpr hok) h⟩) hok

theorem cfg_low : Low (fun st st' : St => st'.cfg = st.cfg) where
  refl := fun _ => rfl
  trans := fun h1 h2 => h2.trans h1
  same := Same.cfg
  emit := fun _ _ => rfl
  alloc := fun _ _ => rfl
  setW := fun _ _ _ => rfl
  setList := fun _ t _ => by cases t <;> rfl
  evloopIo := fun _ _ _ _ => by unfold evloopIo; split <;> rfl
  evloopCancelIo := fun _ _ => rfl
  sameSig := fun h => h.cfg
  sigRecord := fun _ _ => by unfold sigRecord; split <;> rfl
  harness := fun _ _ _ => rfl

theorem cfg_base : Base (fun st st' : St => st'.cfg = st.cfg) := cfg_low.toBase

theorem cfg_destroy (st : St) : (destroy st).cfg = st.cfg :=
  destroy_cases (P := fun r => r.cfg = st.cfg) st (fun _ => rfl) fun s e =>
    have hb : s.cfg = st.cfg := e ▸ cfg_low.destroyBody (cfg_low.closed.cancelSigchld st)
    ⟨fun _ => hb, fun _ => hb⟩

theorem observer_base : Base (fun st st' : St => st'.observer = st.observer) :=
  Base.ofProj St.observer Same.observer (fun _ _ => rfl)
    (fun _ _ => by unfold sigRecord; split <;> (rename_i h; simp only [h]))

theorem getW_oob (st : St) (a : Nat) (h : st.heap.length ≤ a) : st.getW a = default := by
  simp only [St.getW, List.getD_eq_getElem?_getD]
  rw [List.getElem?_eq_none h]; rfl

theorem mem_setInsert {s x : Int} {l : List Int} : x ∈ setInsert s l ↔ x = s ∨ x ∈ l := by
  unfold setInsert
  split
  · rename_i h
    exact ⟨Or.inr, fun h' => h'.elim (fun e => e ▸ List.contains_iff_mem.mp h) id⟩
  · exact List.mem_cons

end Tickit.EvLoop
