import Tickit.Proof.EvLoopOnceB
/-
  C17, "exactly once" for one iteration.

  `Once` is keyed on the *current* type of a watch, and `MH` only says that a type stays or is cleared, because
  `invoke_watch` clears the type of whatever one-shot watch it is handed.  It is never handed a timer or a deferred callback
  (`K.p1`, `K.p2`: poll entries and the process watch of `process_notify` are none; `WF.typ`: nor are the members of
  `t->processes`), so

    `TY`  the type of a timer / deferred callback that exists never changes — except that a deferred callback for which
          a cancel has been asked (or an internal one) may have been marked `WATCH_NONE` while its batch was detached —

  holds for every function of the loop, next to the bundle: `BT D st st' := B D st → B D st' ∧ TY st st'`.  With the bundle
  on both sides of an iteration and `TY` across it, a watch that is not in its queue at the end was queued and uninvoked,
  is gone, and has been invoked once (`once_over_step`).  That it is not in its queue at the end: no timer that was due is
  left (`tickAfterPoll_none_due`); the deferred callbacks queued then were all registered during the iteration
  (`tickAfterPoll_laters_fresh`).  At the end of the file: `phaseClock`, the clock the timer phase reads, and that a
  non-blocking iteration does not advance it.
-/
namespace Tickit.EvLoop

structure TY (st st' : St) : Prop where
  h : MH st st'
  creq : ∀ k ∈ st.cancelReq, k ∈ st'.cancelReq
  alive : st'.alive = st.alive
  typ : ∀ x, x < st.heap.length → isOneShot (st.getW x).type = true →
    (st'.getW x).type = (st.getW x).type ∨
    ((st.getW x).type = .later ∧ (st'.getW x).type = .none ∧
      ((st.getW x).slot ∈ st'.cancelReq ∨ (st.getW x).slot < 0))

theorem TY.refl (st : St) : TY st st := ⟨MH.refl st, fun _ h => h, rfl, fun _ _ _ => Or.inl rfl⟩

theorem TY.trans {a b c : St} (h1 : TY a b) (h2 : TY b c) : TY a c := by
  refine ⟨h1.h.trans h2.h, fun k hk => h2.creq k (h1.creq k hk), h2.alive.trans h1.alive, ?_⟩
  intro x hx ho
  have hxb := Nat.lt_of_lt_of_le hx h1.h.len
  rcases h1.typ x hx ho with e1 | ⟨l1, n1, x1⟩
  · rcases h2.typ x hxb (by rw [e1]; exact ho) with e2 | ⟨l2, n2, x2⟩
    · exact Or.inl (e2.trans e1)
    · right
      rw [h1.h.slot x hx] at x2
      exact ⟨by rw [← e1]; exact l2, n2, x2⟩
  · right
    refine ⟨l1, ?_, x1.imp (fun h => h2.creq _ h) id⟩
    rcases h2.h.typ x hxb with e | e
    · rw [e]; exact n1
    · exact e

theorem TY.of_ts {st st' : St} (h : MH st st') (t : TS st st') : TY st st' :=
  ⟨h, fun k hk => by rw [t.creq]; exact hk, t.alive, fun x hx _ => Or.inl (t.typ x hx)⟩

theorem Inert.ty {st st' : St} (i : Inert st st') : TY st st' := TY.of_ts i.mh i.ts

theorem ty_free (st : St) (a : Nat) : TY st (st.free a) := TY.of_ts (mh_timers.free st a) (ts_free st a)

theorem ty_setNone (st : St) (a : Nat)
    (h : isOneShot (st.getW a).type = true →
      (st.getW a).type = .later ∧ ((st.getW a).slot ∈ st.cancelReq ∨ (st.getW a).slot < 0)) :
    TY st (st.setW a { st.getW a with type := .none }) := by
  refine ⟨(q0_setNone st a).b.h, fun _ h => h, rfl, fun x hx ho => ?_⟩
  by_cases hax : a = x
  · subst hax
    exact Or.inr ⟨(h ho).1, by rw [St.getW_setW_self _ _ _ hx], (h ho).2⟩
  · rw [St.getW_setW_ne _ a x _ hax]
    exact Or.inl rfl

theorem ty_cancelDetached (st : St) (a : Nat) (hl : (st.getW a).type = .later)
    (hx : (st.getW a).slot ∈ st.cancelReq ∨ (st.getW a).slot < 0) : TY st (cancelDetached st a) := by
  have i := inert_cancelNotify st a (st.getW a)
  exact i.ty.trans (ty_setNone _ a fun _ => by rw [getW_of_heap_eq i.heap, i.creq]; exact ⟨hl, hx⟩)

theorem ty_watchCancel0 (st : St) (a : Nat)
    (hx : (st.getW a).type = .later → (st.getW a).slot ∈ st.cancelReq ∨ (st.getW a).slot < 0) : TY st (watchCancel0 st a) :=
  watchCancel0_cases st a (.refl st) (fun _ => (inert_fail st _).ty) (fun _ hc _ => ty_cancelDetached st a hc (hx hc))
    (fun _ _ => TY.of_ts (q0_cancelFound st a _ _).b.h (ts_cancelFoundAll st a _ _))

theorem ty_watchCancel (st : St) (a : Nat) (k : K st)
    (hx : (st.getW a).type = .later → (st.getW a).slot ∈ st.cancelReq ∨ (st.getW a).slot < 0) : TY st (watchCancel st a) :=
  have h1 := ty_watchCancel0 st a hx
  watchCancel_cases st a h1 fun l hc hl => by
    have hlive : st.live a = true := by
      unfold cancelFindsProcess at hc
      simp only [Bool.and_eq_true] at hc
      exact hc.1.1.2
    obtain ⟨p1, p2⟩ := k.p3 a (St.live_lt hlive) l hl
    exact h1.trans (ty_watchCancel0 _ l (fun _ => Or.inr (by rw [h1.h.slot l p1]; exact p2)))

theorem ty_doCancel (st : St) (k : Int) (kk : K st) : TY st (doCancel st k) :=
  doCancel_cases watchCancel st k (inert_emit _ _).ty fun r hr hrk =>
    have h0 : TY st { st with cancelReq := k :: st.cancelReq } :=
      ⟨(q0_with_cancelReq st _).b.h, fun _ hx => List.mem_cons_of_mem _ hx, rfl, fun _ _ _ => Or.inl rfl⟩
    h0.trans (ty_watchCancel _ r.handle (K.of_q (.of_q0 (q0_with_cancelReq st _)) kk) fun _ => Or.inl (hrk ▸ kk.asked hr _))

theorem ty_runAct (st : St) (act : Act) (kk : K st) : TY st (runAct st act) :=
  runAct_cases st act (.refl st)
    (fun k _ c => TY.of_ts (q_doRegister st k _ (reg_ctor c)).b.h (ts_doRegister st k _ (ts_ctor c))) (fun k => ty_doCancel st k kk)
    (fun _ => (inert_with_errno st _).ty) (fun s => (inert_raiseSig st s).ty) (fun _ => (inert_with_children st _).ty)
    (inert_with_stillRunning st _).ty

theorem ty_runActs (acts : List Act) (st : St) (kk : K st) :
    TY st (acts.foldl (fun st act => if st.isOk then runAct (st.emit .a) act else st) st) :=
  foldActs_cases runAct TY.refl TY.trans
    (fun s act k => ⟨(inert_emit s _).ty.trans (ty_runAct _ act (k.emit _)), K.of_q (q_runAct _ act) (k.emit _)⟩) acts st kk

theorem ty_fireUser (st : St) (k : Int) (flags : Nat) (info : Info) (kk : K st) : TY st (fireUser st k flags info) :=
  have h2 := (inert_emit st (.cb k flags info)).ty.trans (TY.of_ts (mh_closed.bump _ k) (ts_bump _ k))
  fireUser_cases st k flags info (fun _ => (inert_emit _ _).ty) (fun acts => h2.trans (ty_runActs acts _ ((kk.emit _).bump k)))

theorem ty_setNoneFree (st : St) (a : Nat) {w : Watch} (hw : st.getW a = w) (hns : isOneShot w.type = false) :
    TY st ((st.setW a { w with type := .none }).free a) := by
  subst hw
  exact (ty_setNone st a fun ho => by rw [hns] at ho; cases ho).trans (ty_free _ a)

theorem ty_unlinkOneshotSaved (st : St) (a : Nat) (t : WType) (hns : isOneShot (st.getW a).type = false) :
    TY st (unlinkOneshotSaved st a t) :=
  unlinkOneshotSaved_cases st a t (.refl st) (fun _ => (inert_fail st _).ty) fun _ _ _ _ =>
    (TY.of_ts (q0_setListOf st t _).b.h (ts_setListOf st t _)).trans (ty_setNoneFree _ a (getW_setListOf ..) hns)

def BT (D : List Nat) (st st' : St) : Prop := B D st → B D st' ∧ TY st st'

/-- What `BT` says of the state after the step (named so that it is a predicate of that state, as `of_ite` wants). -/
abbrev BTo (D : List Nat) (st st' : St) : Prop := B D st' ∧ TY st st'

theorem BT.refl (D : List Nat) (st : St) : BT D st st := fun b => ⟨b, TY.refl st⟩
theorem BT.trans {D : List Nat} {a b c : St} (h1 : BT D a b) (h2 : BT D b c) : BT D a c :=
  fun x => ⟨(h2 (h1 x).1).1, (h1 x).2.trans (h2 (h1 x).1).2⟩
theorem BT.bstep {D : List Nat} {st st' : St} (h : BT D st st') : BStep D st st' := fun b => (h b).1

theorem BT.of_q0 {D : List Nat} {st st' : St} (q : Q0 st st') (l : LStep st st') (r : R2 [] st st') (t : TY st st') : BT D st st' :=
  fun b => ⟨BStep.of_q0 q l r b, t⟩
theorem BT.of_inert {D : List Nat} {st st' : St} (i : Inert st st') (l : LStep st st') : BT D st st' :=
  .of_q0 i.q0 l i.r2 i.ty

theorem BT.of_still {D : List Nat} {st st' : St} (h : Still st st') : BT D st st' := .of_inert h.inert h.g4.lstep

/-- So the loops of the model are followed with the bundle (`Base0.on_procSnapLoop` … `Base.on_tick`). -/
theorem bt_base (D : List Nat) : Base (BT D) := .ofStill (BT.refl D) BT.trans .of_still

theorem bt_poll (D : List Nat) : PollLeaves (BT D) := .ofStill .of_still

theorem bt_fail (D : List Nat) (st : St) (w : Ub) : BT D st (st.fail w) := (bt_base D).fail st w

theorem bt_fire_other (D : List Nat) (st : St) (c : Nat) (flags : Nat) (info : Info) (hc : c < st.heap.length)
    (ht : isOneShot (st.getW c).type = false) (hk : (st.getW c).slot ≥ 0) (hok : st.isOk = true) :
    BT D st (fireUser st (st.getW c).slot flags info) := fun b =>
  ⟨(held_fire D st c flags info b hc hk hok (fun h => by rw [ht] at h; cases h)).b_of_other
    ((mh_closed.fireUser st _ flags info).notOneShot hc ht), ty_fireUser _ _ _ _ b.k⟩

theorem bt_invokeWatch (D : List Nat) (st : St) (a : Nat) (flags : Nat) (info : Info) (ha : a < st.heap.length)
    (ht : isOneShot (st.getW a).type = false) : BT D st (invokeWatch st a flags info) := by
  intro b
  show BTo D st _
  unfold invokeWatch
  refine iteInduction (fun _ => ⟨b, .refl _⟩) fun hok => ?_
  obtain ⟨bX, tX⟩ : BTo D st (if (st.getW a).slot ≥ 0 then fireUser st (st.getW a).slot flags info else st) :=
    iteInduction (fun hk => bt_fire_other D st a flags info ha ht hk (not_of_not_eq_true hok) b) (fun _ => ⟨b, .refl _⟩)
  generalize (if (st.getW a).slot ≥ 0 then fireUser st (st.getW a).slot flags info else st) = X at bX tX ⊢
  refine of_ite (bt_fail _ _ _ b) <| of_ite ⟨bX, tX⟩ ?_
  rw [if_pos b.rep.invokeTypeSaved]
  exact ⟨BStep.of_q0 (q0_unlinkOneshotSaved _ _ _) (l_closed.unlinkOneshotSaved _ a _) (r2_unlinkOneshotSaved _ _ _ _) bX,
    tX.trans (ty_unlinkOneshotSaved X a _ (tX.h.notOneShot ha ht))⟩

theorem bt_procStep (D : List Nat) (st : St) (a : Nat) (ha : a < st.heap.length) (ht : isOneShot (st.getW a).type = false) :
    BT D st (procStep st a) :=
  have i := (same_waitpidV st (st.getW a).pid).inert
  have hw : BT D st (waitpidV st (st.getW a).pid).st := (bt_base D).same (same_waitpidV _ _)
  of_ite hw (hw.trans (bt_invokeWatch D _ a _ _ (Nat.lt_of_lt_of_le ha i.mh.len) (i.mh.notOneShot ha ht)))

theorem bt_procSnapLoop (D : List Nat) (l : List Nat) (st : St) : BT D st (procSnapLoop st l) :=
  (bt_base D).on_procSnapLoop (fun s a hmem b =>
    bt_procStep D s a (b.wf.alloc (t := .process) hmem) (by rw [b.wf.typ .process a hmem]; rfl) b) l st

theorem bt_onSigchldAny (D : List Nat) (fuel : Nat) (st : St) : BT D st (onSigchldAny fuel st) := by
  intro b
  unfold onSigchldAny
  rw [if_pos b.rep.procSnapshot]
  exact of_ite (bt_fail _ _ _) (bt_procSnapLoop _ _ _) b

theorem bt_processNotify (D : List Nat) (st : St) (a : Nat) (ha : a < st.heap.length) (hs : (st.getW a).slot = -4) :
    BT D st (processNotify st a) := by
  intro b
  obtain ⟨h1, h2⟩ := b.k.p2 a ha hs
  have q := q0_clearNotify st (st.getW a).puser
  have hc : BT D st (clearNotify st (st.getW a).puser) :=
    .of_q0 q (g4_clearNotify st _).lstep (r2_clearNotify [] st _) (TY.of_ts q.b.h (ts_clearNotify _ _))
  exact of_ite (bt_fail _ _ _) (hc.trans (bt_invokeWatch _ _ _ _ _ (Nat.lt_of_lt_of_le h1 q.b.h.len) (q.b.h.notOneShot h1 h2))) b

theorem after_laterCb (D : List Nat) (st : St) (a : Nat) (b : B (a :: D) st) (ha : a < st.heap.length) (hok : st.isOk = true)
    (hl : st.live a = true) : After D (laterCb st a) a ∧ TY st (laterCb st a) := by
  unfold laterCb
  refine iteInduction (motive := fun s => After D s a ∧ TY st s) (fun hk => ⟨held_fire (a :: D) st a _ _ b ha hk hok fun _ => hl, ty_fireUser _ _ _ _ b.k⟩) fun hk =>
    iteInduction (motive := fun s => After D s a ∧ TY st s) (fun hs => ?_) fun _ => ⟨After.of_b b (by omega), .refl _⟩
  obtain ⟨b1, t1⟩ := bt_processNotify _ st a ha hs b
  exact ⟨After.of_b b1 (by rw [t1.h.slot a ha, hs]; decide), t1⟩

theorem bt_laterPre (D : List Nat) (st : St) (a : Nat) : BT D st (laterPre st a) :=
  .of_q0 (q0_laterPre st a) (g4_laterPre st a).lstep (r2_laterPre [] st a) (TY.of_ts (q0_laterPre st a).b.h (ts_laterPre st a))

theorem laterPre_frame (st : St) (a : Nat) : (laterPre st a).heap.length = st.heap.length ∧ (laterPre st a).isOk = st.isOk ∧
    ∀ x, x < st.heap.length → (laterPre st a).live x = st.live x :=
  ⟨of_ite (P := fun s : St => s.heap.length = st.heap.length) (St.length_setW _ _ _) rfl,
   of_ite (P := fun s : St => s.isOk = st.isOk) rfl rfl, fun x hx => ((g4_laterPre st a).ext.same x hx).1⟩

/-- Both loops after the callback of the detached watch `a` (state `s`, `a` in no list): they stop when the history has
    left defined behaviour or the callback freed `a`; otherwise they free `a` and go on (`s'`: the loop from there).
    Only the state of the loops' result is spoken of: `l1 l2 l3` stand for the lists of invoked watches they return. -/
theorem After.tail {β : Type} {D D' : List Nat} {st s s' : St} {a : Nat} (x : After D s a) (t : TY st s) (hun : ∀ t, a ∉ listOf s t)
    (w : Ub) (l1 l2 l3 : β) (ih : B D (s.free a) → B D' s' ∧ TY (s.free a) s') :
    BTo D' st (if !s.isOk then (s, l1) else if !s.live a then (s.fail w, l2) else (s', l3)).1 :=
  ite_fst (fun h => ⟨x.b_of_not_ok (eq_false_of_not h), t⟩) fun _ =>
    ite_fst (fun h => ⟨(x.b_of_dead (eq_false_of_not h)).fail w, t.trans (inert_fail _ _).ty⟩) fun hl =>
      have r := ih (x.free (not_of_not_eq_true hl) hun)
      ⟨r.1, (t.trans (ty_free _ a)).trans r.2⟩

/-- The loop over the detached batch of deferred callbacks (its members were deferred callbacks when the batch
    was detached; a cancel may have marked some `WATCH_NONE` since). -/
theorem bt_laterLoopT (D : List Nat) (l : List Nat) : ∀ st : St,
    (∀ a ∈ l, a < st.heap.length ∧ (∀ t, a ∉ listOf st t) ∧ ((st.getW a).type = .later ∨ (st.getW a).type = .none)) →
    B (l ++ D) st → B D (laterLoopT st l).1 ∧ TY st (laterLoopT st l).1 := by
  induction l with
  | nil => exact fun st _ b => ⟨b, .refl st⟩
  | cons a rest ih =>
    intro st hl b
    have b' : B (a :: (rest ++ D)) st := b
    have ha := hl a List.mem_cons_self
    have hrest : ∀ s', LFacts st s' → MH st s' → ∀ c ∈ rest, c < s'.heap.length ∧ (∀ t, c ∉ listOf s' t) ∧
        ((s'.getW c).type = .later ∨ (s'.getW c).type = .none) := by
      intro s' f hm c hc
      have hc' := hl c (List.mem_cons_of_mem _ hc)
      exact ⟨Nat.lt_of_lt_of_le hc'.1 f.len, unlisted_after f hc'.1 hc'.2.1,
        (hm.typ c hc'.1).elim (fun e => by rw [e]; exact hc'.2.2) Or.inr⟩
    show BTo D st _
    unfold laterLoopT
    refine ite_fst (fun h => ⟨b.of_not_ok (eq_false_of_not h), .refl _⟩) fun hok =>
      ite_fst (fun _ => ⟨b.fail _, (inert_fail _ _).ty⟩) fun hlive => ?_
    have hlive' := not_of_not_eq_true hlive
    refine ite_fst (fun hskip => ?_) fun _ => ?_
    · -- cancelled by an earlier callback of this iteration: freed without being invoked
      have hty : (st.getW a).type = .none := ha.2.2.elim (fun h => absurd h hskip.2) id
      have f2 : LFacts st (st.free a) := lstep_free_unlisted st a ha.2.1 b.rep.timersPop b.wf
      have q := Q.of_q0 (q0_free st a)
      have b2 : B (rest ++ D) (st.free a) :=
        ⟨by rw [f2.cfg]; exact b.rep, f2.wf, K.of_q q b.k, Once.none_of_q q b.k b.o,
         (b'.li.free a).drop (St.live_free_self st a hlive'), b.g.free a (fun r hr e ho => by rw [hty] at ho; cases ho)⟩
      have r := ih _ (hrest _ f2 (mh_timers.free st a)) b2
      exact ⟨r.1, (ty_free st a).trans r.2⟩
    · obtain ⟨b0, t0⟩ := bt_laterPre (a :: (rest ++ D)) st a b'
      obtain ⟨hlen0, hok0, hlive0⟩ := laterPre_frame st a
      obtain ⟨x, t1⟩ := after_laterCb (rest ++ D) (laterPre st a) a b0 (by rw [hlen0]; exact ha.1)
        (by rw [hok0]; exact not_of_not_eq_true hok) (by rw [hlive0 a ha.1]; exact hlive')
      have t01 := t0.trans t1
      have f1 := l_laterPreCb st a b.rep.timersPop b.wf
      have hun1 := unlisted_after f1 ha.1 ha.2.1
      have f12 : LFacts st ((laterCb (laterPre st a) a).free a) :=
        (LStep.trans (fun _ _ => f1) (lstep_free_unlisted (laterCb (laterPre st a) a) a hun1)) b.rep.timersPop b.wf
      exact x.tail t01 hun1 _ _ _ _ (ih _ (hrest _ f12 (t01.h.trans (mh_timers.free _ a))))

theorem bt_timerLoopPopT (D : List Nat) (fuel : Nat) : ∀ (st : St) (now : TV), BT D st (timerLoopPopT fuel st now).1 := by
  induction fuel with
  | zero => exact fun st _ => (bt_base D).outOfFuel st
  | succ n ih =>
    intro st now b
    show BTo D st _
    unfold timerLoopPopT
    refine ite_fst (fun _ => ⟨b, .refl _⟩) fun hok => ?_
    cases hq : st.timers with
    | nil => exact ⟨b, .refl _⟩
    | cons a rest =>
      refine ite_fst (fun _ => bt_fail _ _ _ b) fun hlive => ite_fst (fun _ => ⟨b, .refl _⟩) fun _ => ?_
      have ha : a ∈ listOf st .timer := by show a ∈ st.timers; rw [hq]; exact List.mem_cons_self
      obtain ⟨fE, hun⟩ := lfacts_erase st a .timer b.wf ha
      rw [← pop_is_erase st a rest hq] at fE hun
      have halt : a < st.heap.length := b.wf.alloc ha
      have b0 : B (a :: D) ({ st with timers := rest } : St) :=
        b.step (.of_q0 (q0_with_timers st rest)) (fun _ _ => fE)
          (r2_with_timers [a] st rest fun x hx => by rw [hq] at hx; rcases List.mem_cons.mp hx with e | e <;> simp [e])
      have f1' := l_closed.fireUser { st with timers := rest } (st.getW a).slot (EV_FIRE ||| EV_UNBIND) .none b.rep.timersPop fE.wf
      have hun1 := unlisted_after f1' (show a < ({ st with timers := rest } : St).heap.length from halt) hun
      have x : After D (fireUser { st with timers := rest } (st.getW a).slot (EV_FIRE ||| EV_UNBIND) .none) a := by
        by_cases hk : (st.getW a).slot ≥ 0
        · exact held_fire (a :: D) { st with timers := rest } a _ _ b0 halt hk (not_of_not_eq_true hok) fun _ => not_of_not_eq_true hlive
        · rw [fireUser_neg _ _ _ _ b0.k (by omega)]
          exact After.of_b (BStep.of_still (still_emit _ _) b0) (by show (st.getW a).slot < 0; omega)
      have t0 : TY st (fireUser { st with timers := rest } (st.getW a).slot (EV_FIRE ||| EV_UNBIND) .none) :=
        (TY.of_ts (q0_with_timers st rest).b.h (ts_with_timers st rest)).trans (ty_fireUser _ _ _ _ b0.k)
      exact x.tail t0 hun1 _ _ _ _ (ih _ now)

theorem bt_timerPhase (D : List Nat) (fuel : Nat) (st : St) : BT D st (timerPhase fuel st) := by
  intro b
  show BTo D st _
  unfold timerPhase
  refine of_ite ⟨b, .refl _⟩ ?_
  rw [if_pos b.rep.timersPop]
  exact ((BT.of_still (still_emit _ _)).trans (bt_timerLoopPopT _ _ _ _)) b

theorem bt_invokeTimers (D : List Nat) (fuel : Nat) (st : St) : BT D st (invokeTimers fuel st) := by
  intro b
  show BTo D st _
  unfold invokeTimers
  refine of_ite ⟨b, .refl _⟩ ?_
  obtain ⟨f0, hdet⟩ := detach_laters fuel st b.rep.timersPop b.wf
  have b0 : B (st.laters ++ D) ({ st with laters := [] } : St) :=
    b.step (.of_q0 (q0_with_laters st [])) (fun _ _ => f0) (r2_with_laters _ st [] fun _ hx => Or.inr hx)
  obtain ⟨b1, t1⟩ := bt_timerPhase (st.laters ++ D) fuel _ b0
  obtain ⟨b2, t2⟩ := bt_laterLoopT D st.laters _ (fun a ha => ⟨(hdet a ha).2.1, (hdet a ha).2.2,
    (t1.h.typ a (hdet a ha).1).imp (fun e => e.trans (b.wf.typ .later a ha)) id⟩) b1
  exact ⟨b2, ((TY.of_ts (q0_with_laters st []).b.h (ts_with_laters st [])).trans t1).trans t2⟩

theorem bt_sigCb (D : List Nat) (fuel : Nat) (st : St) (a : Nat) (s : Int) (ha : a < st.heap.length) (ht : isOneShot (st.getW a).type = false)
    (hok : st.isOk = true) : BT D st (sigCb fuel st a s) :=
  of_ite (iteInduction (fun hk => bt_fire_other D st a _ _ ha ht hk hok) fun _ => of_ite (bt_onSigchldAny _ _ _) <|
    of_ite ((bt_base D).same (.of_eq rfl rfl)) (.refl _ _)) (.refl _ _)

theorem bt_sigSnapLoopT (D : List Nat) (fuel : Nat) (s : Int) (l : List Nat) (st : St) : BT D st (sigSnapLoopT fuel st s l).1 :=
  (bt_base D).on_sigSnapLoopT fuel s (fun st a hok hmem b =>
    bt_sigCb D fuel st a s (b.wf.alloc (t := .signal) hmem) (by rw [b.wf.typ .signal a hmem]; rfl) hok b) l st

theorem bt_sigDispatch (D : List Nat) (fuel : Nat) (st : St) (s : Int) : BT D st (sigDispatch fuel st s) := by
  intro b
  unfold sigDispatch
  rw [if_pos b.rep.sigSnapshot]
  exact of_ite (bt_fail _ _ _) (bt_sigSnapLoopT _ _ _ _ _) b

theorem bt_dispatchLoop (D : List Nat) (fuel : Nat) (pending : List Int) (l : List Int) (st : St) : BT D st (dispatchLoop fuel st pending l) :=
  (bt_base D).on_dispatchLoop fuel (bt_sigDispatch D fuel) pending l st

theorem bt_dispatchSignals (D : List Nat) (fuel : Nat) (st : St) : BT D st (dispatchSignals fuel st) :=
  (BT.of_still (still_with_pendingSig st [])).trans (bt_dispatchLoop _ _ _ _ _)

theorem bt_ioCb (D : List Nat) (st : St) (s : PollSlot) (hs : s ∈ st.pfd) : BT D st (ioCb st s) := by
  intro b
  unfold ioCb
  cases hw : s.watch with
  | none => exact ⟨b, .refl _⟩
  | some a =>
    obtain ⟨h1, h2⟩ := b.k.p1 s hs a hw
    exact of_ite (bt_fail _ _ _) (bt_invokeWatch _ _ _ _ _ h1 h2) b

theorem bt_ioLoopT (D : List Nat) (fuel : Nat) (st : St) (idx : Nat) : BT D st (ioLoopT fuel st idx).1 :=
  (bt_base D).on_ioLoopT (bt_ioCb D) fuel st idx

theorem bt_tickAfterPoll (D : List Nat) (fuel : Nat) (st : St) (ret : Option Nat) : BT D st (tickAfterPoll fuel st ret) :=
  (bt_base D).on_tickAfterPoll fuel (bt_invokeTimers D fuel) (fun s => bt_ioLoopT D fuel s 0) (bt_dispatchSignals D fuel) st ret

theorem bt_beforeTimers (D : List Nat) (st : St) (t : Option Int) : BT D st (ppoll (nextTimerMsec st).1 t).1 :=
  ((bt_base D).nextTimerMsec st).trans ((bt_base D).ppoll (bt_poll D) _ t)

theorem bt_tick (D : List Nat) (fuel : Nat) (st : St) (nohang : Bool) : BT D st (tick fuel st nohang) :=
  (bt_base D).on_tick (bt_poll D) fuel (bt_tickAfterPoll D fuel) st nohang

theorem bt_runIter (D : List Nat) (fuel : Nat) (st : St) : BT D st (runIter fuel st) :=
  (bt_base D).on_runIter (bt_poll D) fuel (bt_tickAfterPoll D fuel) st

theorem record_persists {st st' : St} (k : K st) (k' : K st') (h : MH st st') (r : SlotRec) (hr : r ∈ st.slots) :
    ∃ r' ∈ st'.slots, r'.k = r.k ∧ r'.handle = r.handle := by
  obtain ⟨hlt, hslot⟩ := k.s3 r hr
  obtain ⟨r', hr', e1, e2⟩ := k'.s1 r.handle (Nat.lt_of_lt_of_le hlt h.len) (by rw [h.slot _ hlt, hslot]; exact k.s4 r hr)
  exact ⟨r', hr', by rw [e1, h.slot _ hlt, hslot], e2⟩

theorem invokeTimers_of_ok (fuel : Nat) {st : St} (h : st.isOk = true) :
    invokeTimers fuel st = laterLoop (timerPhase fuel { st with laters := [] }) st.laters :=
  if_neg (by rw [h]; decide)

/-- The batch that was queued has been detached, and only new watches enter a queue. -/
theorem invokeTimers_laters_fresh (fuel : Nat) (st : St) (hok : st.isOk = true) (hc : st.cfg.timersPop = true) (w : WF st) :
    ∀ x ∈ (invokeTimers fuel st).laters, st.heap.length ≤ x := by
  rw [invokeTimers_of_ok fuel hok]
  obtain ⟨f0, hdet⟩ := detach_laters fuel st hc w
  have f2 : LFacts ({ st with laters := [] } : St) (laterLoopT (timerPhase fuel { st with laters := [] }) st.laters).1 :=
    (LStep.trans (l_timerPhase fuel { st with laters := [] }) (l_laterLoopT st.laters _ fun a ha => (hdet a ha).2)) hc f0.wf
  exact fun x hx => (f2.fresh .later x hx).resolve_left fun h => by cases h

theorem timerPhase_none_due (fuel : Nat) (st : St) (hc : st.cfg.timersPop = true) (q : QInv st)
    (hok : (timerPhase fuel st).isOk = true) :
    ∀ x ∈ (timerPhase fuel st).timers, x < st.heap.length → (dueOf st x).gt (TV.ofUs st.clockUs) = true := by
  unfold timerPhase at hok ⊢
  by_cases he : st.timers.isEmpty = true
  · rw [if_pos he]
    intro x hx
    rw [List.isEmpty_iff.mp he] at hx; cases hx
  · rw [if_neg he, if_pos hc] at hok ⊢
    intro x hx hlt
    have hnd := timerLoopPopT_none_due fuel _ (TV.ofUs st.clockUs) (q.grow (still_emit st .g).grow) ((St.isOk_iff _).mp hok) x hx
    rw [((pres_closed.timerLoopPopT pres_timers) fuel (st.emit .g) (TV.ofUs st.clockUs)).ext.due x hlt] at hnd
    exact hnd

theorem invokeTimers_none_due (fuel : Nat) (st : St) (hc : st.cfg.timersPop = true) (q : QInv st)
    (hok : (invokeTimers fuel st).isOk = true) :
    ∀ x ∈ (invokeTimers fuel st).timers, x < st.heap.length → (dueOf st x).gt (TV.ofUs st.clockUs) = true := by
  have e := invokeTimers_of_ok fuel ((mh_invokeTimers fuel st).ok hok)
  rw [e] at hok ⊢
  intro x hx hlt
  have hlen : st.heap.length ≤ (timerPhase fuel { st with laters := [] }).heap.length :=
    ((pres_closed.timerPhase pres_timers) fuel { st with laters := [] }).ext.len
  exact timerPhase_none_due fuel { st with laters := [] } hc (q.grow (grow_with_laters st [])) ((mh_laterLoop _ _).ok hok) x
    ((((pres_closed.laterLoop pres_timers) _ _).mem x hx).resolve_right fun h => by omega) hlt

theorem afterTimers_facts (fuel : Nat) (st : St) (ret : Option Nat) :
    Pres (invokeTimers fuel st) (tickAfterPoll fuel st ret) ∧ LStep (invokeTimers fuel st) (tickAfterPoll fuel st ret) ∧
    ((tickAfterPoll fuel st ret).isOk = true → (invokeTimers fuel st).isOk = true) := by
  unfold tickAfterPoll
  split
  · exact ⟨Pres.refl _, LStep.refl _, id⟩
  · split
    · split
      · exact ⟨pres_closed.ioLoop _ _ _, l_closed.ioLoop _ _ _, (mh_ioLoop _ _ _).ok⟩
      · exact ⟨Pres.refl _, LStep.refl _, id⟩
    · split
      · exact ⟨pres_dispatchSignals _ _, l_dispatchSignals _ _, (mh_dispatchSignals _ _).ok⟩
      · exact ⟨Pres.refl _, LStep.refl _, id⟩

theorem tickAfterPoll_none_due (fuel : Nat) (st : St) (ret : Option Nat) (hc : st.cfg.timersPop = true) (q : QInv st)
    (hok : (tickAfterPoll fuel st ret).status = .ok) :
    ∀ x ∈ (tickAfterPoll fuel st ret).timers, x < st.heap.length → (dueOf st x).gt (TV.ofUs st.clockUs) = true := by
  obtain ⟨pA, _, okA⟩ := afterTimers_facts fuel st ret
  intro x hx hlt
  have hlen := ((pres_closed.invokeTimers pres_timers) fuel st).ext.len
  exact invokeTimers_none_due fuel st hc q (okA ((St.isOk_iff _).mpr hok)) x ((pA.mem x hx).resolve_right fun h => by omega) hlt

theorem tickAfterPoll_laters_fresh (fuel : Nat) (st : St) (ret : Option Nat) (hok : st.isOk = true) (hc : st.cfg.timersPop = true) (w : WF st) :
    ∀ x ∈ (tickAfterPoll fuel st ret).laters, st.heap.length ≤ x := by
  obtain ⟨_, lA, _⟩ := afterTimers_facts fuel st ret
  have fI := l_invokeTimers fuel st hc w
  have fA := lA (by rw [fI.cfg]; exact hc) fI.wf
  intro x hx
  cases fA.fresh .later x hx with
  | inl h => exact invokeTimers_laters_fresh fuel st hok hc w x h
  | inr h => exact Nat.le_trans fI.len h

theorem tick_eq_afterPoll (fuel : Nat) (st : St) (nohang : Bool) (hok : (tick fuel st nohang).status = .ok) :
    tick fuel st nohang = tickAfterPoll fuel (ppoll (nextTimerMsec st).1 (tickTimeout nohang (nextTimerMsec st).2)).1
      (ppoll (nextTimerMsec st).1 (tickTimeout nohang (nextTimerMsec st).2)).2 ∧
    (ppoll (nextTimerMsec st).1 (tickTimeout nohang (nextTimerMsec st).2)).1.isOk = true := by
  unfold tick at hok ⊢
  by_cases c1 : (!st.isOk) = true
  · rw [if_pos c1] at hok; exact St.not_ok_absurd c1 hok
  · rw [if_neg c1] at hok ⊢
    by_cases c2 : (!(nextTimerMsec st).1.isOk) = true
    · rw [if_pos c2] at hok; exact St.not_ok_absurd c2 hok
    · rw [if_neg c2] at hok ⊢
      by_cases c3 : (!(ppoll (nextTimerMsec st).1 (tickTimeout nohang (nextTimerMsec st).2)).1.isOk) = true
      · rw [if_pos c3] at hok; exact St.not_ok_absurd c3 hok
      · rw [if_neg c3]
        exact ⟨rfl, not_of_not_eq_true c3⟩

/-- The argument for one iteration (head comment), for any step.  `hsel`: a type with its queue, so that one proof serves
    timers and deferred callbacks. -/
theorem once_over_step {st st' : St} (b : B [] st) (b' : B [] st') (ty : TY st st') (hal : st.alive = true) (hok' : st'.isOk = true)
    (r : SlotRec) (hr : r ∈ st.slots) {t : WType} {qu : St → List Nat} (hsel : (t = .timer ∧ qu = St.timers) ∨ (t = .later ∧ qu = St.laters))
    (ht : (st.getW r.handle).type = t) (hl : st.live r.handle = true) (hnc : r.k ∉ st'.cancelReq) (hout : r.handle ∉ qu st') :
    r.handle ∈ qu st ∧ r.fires = 0 ∧ st'.live r.handle = false ∧
    ∃ r' ∈ st'.slots, r'.k = r.k ∧ r'.handle = r.handle ∧ r'.fires = 1 := by
  have ho : isOneShot (st.getW r.handle).type = true := by rcases hsel with ⟨e, _⟩ | ⟨e, _⟩ <;> rw [ht, e] <;> rfl
  have hok0 : st.isOk = true := ty.h.ok hok'
  obtain ⟨hlt, hslot⟩ := b.k.s3 r hr
  -- in its queue, if allocated: `Listed` before and after the step
  have inq : ∀ s : St, Listed [] s → s.isOk = true → s.alive = true → r.handle < s.heap.length → s.live r.handle = true →
      (s.getW r.handle).type = t → r.handle ∈ qu s := by
    intro s li h1 h2 h3 h4 h5
    rcases hsel with ⟨e, eq⟩ | ⟨e, eq⟩ <;> rw [eq] <;> rw [e] at h5
    · exact (li.queued h1 h2 h3 h4).1 h5
    · exact (li.queued h1 h2 h3 h4).2 h5
  have hty : (st'.getW r.handle).type = t := by
    rcases ty.typ r.handle hlt ho with e | ⟨_, _, ex⟩
    · rw [e, ht]
    · rw [hslot] at ex
      exact ex.elim (fun ex => absurd ex hnc) (fun ex => absurd (b.k.s4 r hr) (by omega))
  have hal' : st'.alive = true := ty.alive.trans hal
  obtain ⟨r', hr', e1, e2⟩ := record_persists b.k b'.k ty.h r hr
  have hdead : st'.live r.handle = false := by
    cases hlive : st'.live r.handle with
    | false => rfl
    | true => exact absurd (inq st' b'.li hok' hal' (Nat.lt_of_lt_of_le hlt ty.h.len) hlive hty) hout
  exact ⟨inq st b.li hok0 hal hlt hl ht, b.o.fires_zero hr ho hok0 hl, hdead, r', hr', e1, e2,
    b'.g hal' r' hr' (by rw [e2, hty, ← ht]; exact ho) (by rw [e1]; exact hnc) (by rw [e2]; exact hdead)⟩

/-- The clock when the timer phase of the iteration starts: the harness's clock after the wait (`gettimeofday` in
    `tickit_evloop_invoke_timers`). -/
def phaseClock (st : St) (nohang : Bool) : Int :=
  (ppoll (nextTimerMsec st).1 (tickTimeout nohang (nextTimerMsec st).2)).1.clockUs

theorem timer_once_in_iteration (fuel : Nat) (st : St) (nohang : Bool) (b : B [] st) (q : QInv st) (hal : st.alive = true)
    (r : SlotRec) (hr : r ∈ st.slots) (ht : (st.getW r.handle).type = .timer) (hl : st.live r.handle = true)
    (hdue : (st.getW r.handle).due.gt (TV.ofUs (phaseClock st nohang)) = false)
    (hok : (tick fuel st nohang).status = .ok) (hnc : r.k ∉ (tick fuel st nohang).cancelReq) :
    r.handle ∈ st.timers ∧ r.fires = 0 ∧ (tick fuel st nohang).live r.handle = false ∧
    ∃ r' ∈ (tick fuel st nohang).slots, r'.k = r.k ∧ r'.handle = r.handle ∧ r'.fires = 1 := by
  obtain ⟨b', ty⟩ := bt_tick [] fuel st nohang b
  refine once_over_step b b' ty hal ((St.isOk_iff _).mpr hok) r hr (Or.inl ⟨rfl, rfl⟩) ht hl hnc fun hin => ?_
  -- still queued at the end: then it was not due
  have hlt := (b.k.s3 r hr).1
  obtain ⟨he, _⟩ := tick_eq_afterPoll fuel st nohang hok
  rw [he] at hin hok
  have g := (grow_base.nextTimerMsec st).trans (grow_ppoll (nextTimerMsec st).1 (tickTimeout nohang (nextTimerMsec st).2))
  have g4 := (g4_base.nextTimerMsec st).trans (g4_ppoll (nextTimerMsec st).1 (tickTimeout nohang (nextTimerMsec st).2))
  have hnd := tickAfterPoll_none_due fuel _ _ (by rw [g4.cfg]; exact b.rep.timersPop) (q.grow g) hok r.handle hin
    (Nat.lt_of_lt_of_le hlt g.ext.len)
  rw [g.ext.due r.handle hlt] at hnd
  exact absurd (hnd.symm.trans hdue) (by decide)

theorem later_once_in_iteration (fuel : Nat) (st : St) (nohang : Bool) (b : B [] st) (hal : st.alive = true)
    (r : SlotRec) (hr : r ∈ st.slots) (ht : (st.getW r.handle).type = .later) (hl : st.live r.handle = true)
    (hok : (tick fuel st nohang).status = .ok) (hnc : r.k ∉ (tick fuel st nohang).cancelReq) :
    r.handle ∈ st.laters ∧ r.fires = 0 ∧ (tick fuel st nohang).live r.handle = false ∧
    ∃ r' ∈ (tick fuel st nohang).slots, r'.k = r.k ∧ r'.handle = r.handle ∧ r'.fires = 1 := by
  obtain ⟨b', ty⟩ := bt_tick [] fuel st nohang b
  refine once_over_step b b' ty hal ((St.isOk_iff _).mpr hok) r hr (Or.inr ⟨rfl, rfl⟩) ht hl hnc fun hin => ?_
  -- still queued at the end: then it was registered during the iteration
  obtain ⟨he, hokq⟩ := tick_eq_afterPoll fuel st nohang hok
  rw [he] at hin
  have bq := (bt_beforeTimers [] st (tickTimeout nohang (nextTimerMsec st).2) b).1
  have g := (grow_base.nextTimerMsec st).trans (grow_ppoll (nextTimerMsec st).1 (tickTimeout nohang (nextTimerMsec st).2))
  have := tickAfterPoll_laters_fresh fuel _ _ hokq bq.rep.timersPop bq.wf r.handle hin
  have := g.ext.len
  have := (b.k.s3 r hr).1
  omega

theorem TV.ofUs_exact (us : Int) :
    (TV.ofUs us).sec * 1000000 + (TV.ofUs us).usec = us ∧ 0 ≤ (TV.ofUs us).usec ∧ (TV.ofUs us).usec < 1000000 := by
  unfold TV.ofUs; simp only []; omega

theorem clock_raiseSig (st : St) (s : Int) : (raiseSig st s).clockUs = st.clockUs :=
  of_ite (P := fun x : St => x.clockUs = st.clockUs) rfl <| of_ite (P := fun x : St => x.clockUs = st.clockUs) rfl <|
    of_ite (P := fun x : St => x.clockUs = st.clockUs) (by unfold sigRecord; cases st.observer <;> rfl) <|
    of_ite (P := fun x : St => x.clockUs = st.clockUs) rfl rfl

theorem clock_foldl_raiseSig (l : List Int) : ∀ st : St, (l.foldl raiseSig st).clockUs = st.clockUs := by
  induction l with
  | nil => intro st; rfl
  | cons s rest ih => intro st; simp only [List.foldl_cons]; rw [ih, clock_raiseSig]

theorem clock_nextTimerMsec (st : St) : (nextTimerMsec st).1.clockUs = st.clockUs := by
  unfold nextTimerMsec
  refine of_ite_app Prod.fst (P := fun x : St => x.clockUs = st.clockUs) rfl ?_
  cases st.timers with
  | nil => rfl
  | cons a _ =>
    exact of_ite_app Prod.fst (P := fun x : St => x.clockUs = st.clockUs)
      (of_ite (P := fun x : St => x.clockUs = st.clockUs) rfl rfl) rfl

theorem clock_ppoll_zero (s : St) : (ppoll s (some 0)).1.clockUs = s.clockUs := by
  have hr : (pollRaise (pollScan s)).clockUs = s.clockUs := by unfold pollRaise; rw [clock_foldl_raiseSig]; rfl
  have hd : (deliverPending (pollRaise (pollScan s))).clockUs = s.clockUs := by
    rw [← hr]; unfold deliverPending; cases (pollRaise (pollScan s)).observer <;> rfl
  exact of_ite_app Prod.fst (P := fun x : St => x.clockUs = s.clockUs) hr <|
    of_ite_app Prod.fst (P := fun x : St => x.clockUs = s.clockUs) hr <|
    of_ite_app Prod.fst (P := fun x : St => x.clockUs = s.clockUs) hd
      (show (pollRaise (pollScan s)).clockUs + 0 * 1000 = _ by rw [hr]; omega)

theorem phaseClock_nohang (st : St) : phaseClock st true = st.clockUs :=
  (clock_ppoll_zero (nextTimerMsec st).1).trans (clock_nextTimerMsec st)

end Tickit.EvLoop
