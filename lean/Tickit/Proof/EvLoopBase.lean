import Tickit.Model.EvLoop
/-
  Every operation of the model composes a few leaf steps (an event is logged, a watch is registered, cancelled or
  unlinked, …) with `if`s and loops.  To show that a relation `R` holds between the state before and after every
  operation it is enough that `R` is a preorder that contains the leaves: each branching function is taken apart once
  (`f_cases`, for an arbitrary motive, every branch handed what the tests established) and each loop is followed once
  (`Base0.on_*`, the body's step a hypothesis).  Here is what does not depend on which leaves `R` contains; the relations
  that contain the registering and cancelling leaves are in Proof/EvLoopStep.lean.  `Base0` is the part the self-pipe
  configuration (Proof/EvLoopFbStep.lean) shares.
-/

namespace Tickit.EvLoop

/-- One rung of an `if`-ladder whose result has been named (`generalize h : f … = r; unfold f at h`), by unification only. -/
theorem ite_eq_cases {α : Type} {c : Prop} [Decidable c] {t e r : α} (h : (if c then t else e) = r) :
    (c ∧ t = r) ∨ (¬c ∧ e = r) := by
  by_cases hc : c
  · exact Or.inl ⟨hc, by rwa [if_pos hc] at h⟩
  · exact Or.inr ⟨hc, by rwa [if_neg hc] at h⟩

theorem ite_fst {α β : Type} {c : Prop} [Decidable c] {t e : α × β} {P : α → Prop} (ht : c → P t.1) (he : ¬c → P e.1) :
    P (if c then t else e).1 :=
  iteInduction (motive := fun x : α × β => P x.1) ht he

/-- Core's `iteInduction` when no branch needs the test (`split` rewrites the whole goal, which is slow to check on the
    `if` chains of the model). -/
theorem of_ite {α : Sort _} {P : α → Prop} {c : Prop} [Decidable c] {a b : α} (ha : P a) (hb : P b) :
    P (if c then a else b) :=
  iteInduction (fun _ => ha) (fun _ => hb)

/-- … under a function (`(if c then p else q).1`), where the motive is not inferred. -/
theorem of_ite_app {α β : Sort _} (f : α → β) {P : β → Prop} {c : Prop} [Decidable c] {a b : α} (ha : P (f a)) (hb : P (f b)) :
    P (f (if c then a else b)) :=
  iteInduction (motive := fun x => P (f x)) (fun _ => ha) (fun _ => hb)

theorem not_of_not_eq_true {b : Bool} (h : ¬(!b) = true) : b = true := by
  cases b with
  | true => rfl
  | false => exact absurd rfl h

theorem eq_false_of_not {b : Bool} (h : (!b) = true) : b = false := by
  cases b with
  | true => cases h
  | false => rfl

theorem mem_of_contains {l : List Nat} {a : Nat} (h : ¬(!l.contains a) = true) : a ∈ l := by
  simpa using not_of_not_eq_true h

theorem getD_mem_pfd {l : List PollSlot} {i : Nat} (h : i < l.length) : l.getD i default ∈ l := by
  rw [List.getD_eq_getElem?_getD, List.getElem?_eq_getElem h]
  exact List.getElem_mem h

/-- The fields some relation of the engine reads (either configuration, Props/C17 and Props/C18). -/
structure Core where
  heap : List Watch
  iow : List Nat
  timers : List Nat
  laters : List Nat
  signals : List Nat
  procs : List Nat
  cfg : Config
  log : List Ev
  pendingSig : List Int
  observer : Observer
  pfd : List PollSlot
  signums : List Int
  watched : List Int
  slots : List SlotRec
  cancelReq : List Int
  alive : Bool
  pipewatch : Option Nat
  pipeBytes : Nat
  pipesMade : Nat

def St.core (st : St) : Core :=
  ⟨st.heap, st.iow, st.timers, st.laters, st.signals, st.procs, st.cfg, st.log, st.pendingSig, st.observer, st.pfd,
   st.signums, st.watched, st.slots, st.cancelReq, st.alive, st.pipewatch, st.pipeBytes, st.pipesMade⟩

/-- A step that touches nothing any relation reads.  The status does not come back to `ok`; it may leave it (a failed
    walk, a fatal signal, no fuel). -/
structure Same (st st' : St) : Prop where
  core : st'.core = st.core
  ok : st'.isOk = true → st.isOk = true

namespace Same
variable {st st' : St}

theorem of_eq (h : st'.core = st.core) (hs : st'.status = st.status) : Same st st' :=
  ⟨h, fun h' => by unfold St.isOk at *; rw [← hs]; exact h'⟩

theorem of_bad (h : st'.core = st.core) (hb : st'.isOk = false) : Same st st' :=
  ⟨h, fun h' => by rw [hb] at h'; cases h'⟩

theorem refl (st : St) : Same st st := ⟨rfl, id⟩

variable (h : Same st st')
include h
theorem heap : st'.heap = st.heap := congrArg Core.heap h.core
theorem iow : st'.iow = st.iow := congrArg Core.iow h.core
theorem timers : st'.timers = st.timers := congrArg Core.timers h.core
theorem laters : st'.laters = st.laters := congrArg Core.laters h.core
theorem signals : st'.signals = st.signals := congrArg Core.signals h.core
theorem procs : st'.procs = st.procs := congrArg Core.procs h.core
theorem cfg : st'.cfg = st.cfg := congrArg Core.cfg h.core
theorem log : st'.log = st.log := congrArg Core.log h.core
theorem pendingSig : st'.pendingSig = st.pendingSig := congrArg Core.pendingSig h.core
theorem observer : st'.observer = st.observer := congrArg Core.observer h.core
theorem pfd : st'.pfd = st.pfd := congrArg Core.pfd h.core
theorem signums : st'.signums = st.signums := congrArg Core.signums h.core
theorem watched : st'.watched = st.watched := congrArg Core.watched h.core
theorem slots : st'.slots = st.slots := congrArg Core.slots h.core
theorem cancelReq : st'.cancelReq = st.cancelReq := congrArg Core.cancelReq h.core
theorem alive : st'.alive = st.alive := congrArg Core.alive h.core
theorem pipewatch : st'.pipewatch = st.pipewatch := congrArg Core.pipewatch h.core
theorem pipeBytes : st'.pipeBytes = st.pipeBytes := congrArg Core.pipeBytes h.core
theorem pipesMade : st'.pipesMade = st.pipesMade := congrArg Core.pipesMade h.core
end Same

/-- `evloop_signal` and `evloop_cancel_signal`: a `Same` step but for `signums[]` and `watched_signals` (the status leaves
    `ok` where a pending fatal signal is unblocked).  The projections of `Same` apply to `h : SameSig st st'` by unfolding
    (`h.heap : st'.heap = st.heap`; `h.signums` and `h.watched` are then the trivial `st.signums = st.signums`). -/
abbrev SameSig (st st' : St) : Prop := Same st { st' with signums := st.signums, watched := st.watched }

theorem sameSig_evloopSignal (st : St) (s : Int) : SameSig st (evloopSignal st s).1 := by
  unfold evloopSignal
  exact ite_fst (fun _ => ⟨rfl, id⟩) fun _ => ⟨rfl, id⟩

theorem sameSig_evloopCancelSignal (st : St) (idx : Nat) : SameSig st (evloopCancelSignal st idx) := by
  unfold evloopCancelSignal
  refine iteInduction (fun _ => ⟨rfl, id⟩) fun _ => ?_
  refine iteInduction (fun _ => ?_) fun _ => ⟨rfl, id⟩
  exact iteInduction (fun _ => ⟨rfl, nofun⟩) fun _ => ⟨rfl, id⟩

theorem same_sigchldwatch (st : St) (x : Option Nat) : Same st { st with sigchldwatch := x } := .of_eq rfl rfl

theorem same_errno (st : St) (e : Int) : Same st { st with errno := e } := .of_eq rfl rfl

theorem same_inRun (st : St) (b : Bool) : Same st { st with inRun := b } := .of_eq rfl rfl

theorem same_runFlags (st : St) (b r : Bool) (n : Nat) : Same st { st with stillRunning := b, inRun := r, runPolls := n } :=
  .of_eq rfl rfl

theorem same_fail (st : St) (w : Ub) : Same st (st.fail w) := by
  unfold St.fail
  exact iteInduction (fun _ => .of_bad rfl rfl) fun _ => .refl st

theorem same_outOfFuel (st : St) : Same st (if st.isOk then { st with status := .outOfFuel } else st) :=
  iteInduction (fun _ => .of_bad rfl rfl) fun _ => .refl st

theorem same_waitpid (st : St) (pid : Int) : Same st (waitpid st pid).st := by
  unfold waitpid
  split
  · split
    · exact .of_eq rfl rfl
    · split
      · exact .refl st
      · exact .of_eq rfl rfl
  · exact .refl st

theorem same_waitpidV (st : St) (pid : Int) : Same st (waitpidV st pid).st := by
  unfold waitpidV
  split
  · exact same_waitpid _ _
  · exact .refl st

theorem same_pollTimeout (st : St) (t : Option Int) : Same st (pollTimeout st t) := by
  unfold pollTimeout
  split
  · exact .of_eq rfl rfl
  · exact .refl st

/-- `Same` but for `log`, `pendingSig` and `pfd`, of which the watch column is kept (the steps in question write `revents`
    only; the exactly-once relations read which watch an entry points at: `Inert`, Proof/EvLoopOnceStep.lean). -/
structure Still (st st' : St) : Prop where
  same : Same st { st' with log := st.log, pendingSig := st.pendingSig, pfd := st.pfd }
  watch : st'.pfd.map (·.watch) = st.pfd.map (·.watch)

theorem Same.still {st st' : St} (h : Same st st') : Still st st' :=
  ⟨⟨by rw [← h.core]; simp only [St.core, h.log, h.pendingSig, h.pfd], h.ok⟩, by rw [h.pfd]⟩

theorem still_emit (st : St) (e : Ev) : Still st (st.emit e) := ⟨.of_eq rfl rfl, rfl⟩
theorem still_with_log (st : St) (l : List Ev) : Still st { st with log := l } := ⟨.of_eq rfl rfl, rfl⟩
theorem still_with_pendingSig (st : St) (l : List Int) : Still st { st with pendingSig := l } := ⟨.of_eq rfl rfl, rfl⟩
theorem still_sigRecord (st : St) (s : Int) : Still st (sigRecord st s) := by
  unfold sigRecord
  split <;> exact ⟨.of_eq rfl rfl, rfl⟩
theorem still_deliverPending (st : St) : Still st (deliverPending st) := by
  unfold deliverPending
  split <;> exact ⟨.of_eq rfl rfl, rfl⟩
theorem still_pollScan (st : St) : Still st (pollScan st) := ⟨.of_eq rfl rfl, List.map_map⟩

theorem validSig_ne_zero (s : Int) (h : validSig s = true) : s ≠ 0 := by
  intro h0; subst h0; revert h; decide

theorem getW_setListOf (st : St) (t : WType) (l : List Nat) (a : Nat) : (setListOf st t l).getW a = st.getW a := by
  cases t <;> rfl

/-- The last branch of `unlinkOneshot` / `unlinkOneshotSaved`: the watch `a` was found in the list of type `t`. -/
def unlinkFound (st : St) (a : Nat) (t : WType) : St :=
  ((setListOf st t ((listOf st t).erase a)).setW a { st.getW a with type := .none }).free a

/-- `W[k].fires++` -/
def bump (st : St) (k : Int) : St :=
  { st with slots := st.slots.map fun (s : SlotRec) => if s.k = k then { s with fires := s.fires + 1 } else s }

theorem watchCancel0_cases {P : St → Prop} (st : St) (a : Nat) (same : P st) (fail : ∀ w, P (st.fail w))
    (det : st.live a = true → (st.getW a).type = .later → a ∉ listOf st (st.getW a).type → P (cancelDetached st a))
    (found : st.live a = true → a ∈ listOf st (st.getW a).type →
      P (cancelFound st a (st.getW a) (listOf st (st.getW a).type))) : P (watchCancel0 st a) :=
  of_ite same <| iteInduction (fun _ => fail _) fun hl => of_ite same <| of_ite (fail _) <| iteInduction
    (fun hn => iteInduction (fun hc => det (not_of_not_eq_true hl) hc.2 (by simpa using hn)) fun _ => same)
    fun hn => found (not_of_not_eq_true hl) (by simpa using hn)

theorem watchCancel_cases {P : St → Prop} (st : St) (a : Nat) (one : P (watchCancel0 st a))
    (two : ∀ l, cancelFindsProcess st a = true → (st.getW a).notify = some l → P (watchCancel0 (watchCancel0 st a) l)) :
    P (watchCancel st a) := by
  unfold watchCancel
  refine iteInduction (fun hc => ?_) fun _ => one
  cases hn : (st.getW a).notify with
  | none => exact one
  | some l => exact two l hc.2 hn

theorem unlinkOneshotSaved_cases {P : St → Prop} (st : St) (a : Nat) (t : WType) (same : P st) (fail : ∀ w, P (st.fail w))
    (found : t ≠ .none → t ≠ .io → t ≠ .signal → a ∈ listOf st t → P (unlinkFound st a t)) :
    P (unlinkOneshotSaved st a t) :=
  iteInduction (fun _ => same) fun ht => of_ite (fail _) <| iteInduction (fun _ => same) fun hn => by
    simp only [Bool.or_eq_true, decide_eq_true_eq, not_or] at ht
    exact found ht.1.1 ht.1.2 ht.2 (by simpa using hn)

theorem unlinkOneshot_eq (st : St) (a : Nat) :
    unlinkOneshot st a = if !st.live a then st.fail .invokeWatchType else unlinkOneshotSaved st a (st.getW a).type := rfl

theorem findSlot_none {st : St} {k : Int} (h : findSlot st k = none) : ∀ r ∈ st.slots, r.k ≠ k := by
  intro r hr
  unfold findSlot at h
  have := List.find?_eq_none.mp h r hr
  simpa using this

theorem findSlot_some {st : St} {k : Int} {r : SlotRec} (h : findSlot st k = some r) : r ∈ st.slots ∧ r.k = k := by
  unfold findSlot at h
  exact ⟨List.mem_of_find?_eq_some h, by simpa using List.find?_some h⟩

/-- The registrations a callback can make: a constructor of the library, handed the slot number `k`. -/
inductive Ctor (k : Int) : (St → St × Nat) → Prop
  | timer (ms : Int) (flags : Nat) : Ctor k (fun s => watchTimerAfterMsec s ms flags k)
  | timerAt (sec usec : Int) (flags : Nat) : Ctor k (fun s => watchTimerAt s ⟨sec, usec⟩ flags k)
  | later (flags : Nat) : Ctor k (fun s => watchLater s flags k)
  | io (fd : Int) (cond flags : Nat) : Ctor k (fun s => watchIo s fd cond flags k)
  | signal (sig : Int) (flags : Nat) (hv : validSig sig = true) : Ctor k (fun s => watchSignal s sig flags k)
  | process (pid : Int) (flags : Nat) : Ctor k (fun s => watchProcess s pid flags k)

theorem runAct_cases {P : St → Prop} (st : St) (act : Act) (same : P st)
    (reg : ∀ k f, Ctor k f → P (doRegister st k f)) (cancel : ∀ k, P (doCancel st k))
    (errno : ∀ v, P { st with errno := v }) (raise : ∀ s, P (raiseSig st s))
    (child : ∀ l, P { st with children := l }) (stop : P { st with stillRunning := false }) : P (runAct st act) := by
  unfold runAct
  refine of_ite same ?_
  cases act with
  | timer k ms flags => exact of_ite (reg k _ (.timer ms flags)) same
  | timerAt k sec usec flags => exact of_ite (reg k _ (.timerAt sec usec flags)) same
  | later k flags => exact reg k _ (.later flags)
  | io k fd cond flags => exact reg k _ (.io fd cond flags)
  | signal k sig flags => exact iteInduction (fun hv => reg k _ (.signal sig flags hv)) fun _ => same
  | process k pid flags => exact of_ite (reg k _ (.process pid flags)) same
  | cancel k => exact cancel k
  | errno v => exact errno v
  | raise s => exact of_ite (raise s) same
  | exit pid status => exact of_ite (of_ite same (child _)) same
  | stop => exact stop
  | nop => exact same

/-- The body of a callback (`f`: `runAct`, or what an unbind handler may do; `I`: what the steps need of the state they
    start from). -/
theorem foldActs_cases (f : St → Act → St) {I : St → Prop} {R : St → St → Prop} (refl : ∀ s, R s s)
    (trans : ∀ {a b c}, R a b → R b c → R a c)
    (step : ∀ s act, I s → R s (f (s.emit .a) act) ∧ I (f (s.emit .a) act)) (acts : List Act) :
    ∀ st : St, I st → R st (acts.foldl (fun st act => if st.isOk then f (st.emit .a) act else st) st) := by
  induction acts with
  | nil => exact fun st _ => refl st
  | cons a rest ih =>
    intro st hi
    simp only [List.foldl_cons]
    by_cases hok : st.isOk = true
    · rw [if_pos hok]; exact trans (step st a hi).1 (ih _ (step st a hi).2)
    · rw [if_neg hok]; exact ih _ hi

/-- `c`: `watchCancel`, or its variant with an acting unbind handler. -/
theorem doCancel_cases {P : St → Prop} (c : St → Nat → St) (st : St) (k : Int) (skip : P (st.emit (.skip k)))
    (found : ∀ r ∈ st.slots, r.k = k → P (c { st with cancelReq := k :: st.cancelReq } r.handle)) :
    P (match findSlot st k with | none => st.emit (.skip k) | some r => c { st with cancelReq := k :: st.cancelReq } r.handle) := by
  cases h : findSlot st k with
  | none => exact skip
  | some r => exact found r (findSlot_some h).1 (findSlot_some h).2

theorem fireUser_cases {P : St → Prop} (st : St) (k : Int) (flags : Nat) (info : Info)
    (skip : findSlot (st.emit (.cb k flags info)) k = none → P (st.emit (.cb k flags info)))
    (run : ∀ acts : List Act,
      P (acts.foldl (fun st act => if st.isOk then runAct (st.emit .a) act else st) (bump (st.emit (.cb k flags info)) k))) :
    P (fireUser st k flags info) := by
  unfold fireUser
  simp only []
  cases h : findSlot (st.emit (.cb k flags info)) k with
  | none => exact skip h
  | some r =>
    show P (match (bump (st.emit (.cb k flags info)) k).behs.find? _ with | none => _ | some b => _)
    cases (bump (st.emit (.cb k flags info)) k).behs.find? (fun (b : Beh) => b.k = k && b.n = r.fires) with
    | none => exact run []
    | some b => exact run b.acts

/-- Only the `tickit_destroy` branch carries facts (that it is the whole operation): it is the one call the relations are
    not closed under, so a user either excludes it or takes the equation. -/
theorem applyOp'_cases {P : St → Prop} (st : St) (op : Op) (set : ∀ s, Same st s → P s) (act : ∀ a, P (runAct st a))
    (tick : ∀ nohang, P (tick defaultFuel { st with stillRunning := true } nohang)) (run : P (run defaultFuel st))
    (destroy : op = .destroy → applyOp' st op = destroy st → P (destroy st)) : P (applyOp' st op) := by
  have h0 := set _ (.refl _)
  unfold applyOp'
  refine iteInduction (fun _ => h0) fun h1 => ?_
  cases op <;> dsimp only <;> first | exact h0 | refine iteInduction (fun _ => h0) fun h2 => ?_
  case beh => exact set _ (.of_eq rfl rfl)
  case act => exact act _
  case clock => exact set _ (.of_eq rfl rfl)
  case ready => exact set _ (.of_eq rfl rfl)
  case inpoll => exact set _ (.of_eq rfl rfl)
  case tick => exact tick true
  case tickhang => exact tick false
  case run => exact run
  case destroy => exact destroy rfl ((if_neg h1).trans (if_neg h2))

/-- What both configurations share: the main one adds `sigRecord` (`Base`), the self-pipe one its own leaves (`Fb.Steps`). -/
structure Base0 (R : St → St → Prop) : Prop where
  refl : ∀ st, R st st
  trans : ∀ {a b c}, R a b → R b c → R a c
  same : ∀ {st st'}, Same st st' → R st st'
  emit : ∀ st e, R st (st.emit e)

structure Base (R : St → St → Prop) : Prop extends Base0 R where
  sigRecord : ∀ st s, R st (sigRecord st s)

theorem Base.ofProj {α : Type} (π : St → α) (hs : ∀ {st st'}, Same st st' → π st' = π st)
    (he : ∀ st e, π (st.emit e) = π st) (hr : ∀ st s, π (EvLoop.sigRecord st s) = π st) : Base (fun st st' => π st' = π st) :=
  ⟨⟨fun _ => rfl, fun h1 h2 => h2.trans h1, hs, he⟩, hr⟩

theorem Base.ofStill {R : St → St → Prop} (refl : ∀ st, R st st) (trans : ∀ {a b c}, R a b → R b c → R a c)
    (h : ∀ {st st'}, Still st st' → R st st') : Base R :=
  ⟨⟨refl, trans, fun s => h s.still, fun st e => h (still_emit st e)⟩, fun st s => h (still_sigRecord st s)⟩

theorem sigSnapLoopT_eq_G (fuel : Nat) (s : Int) (l : List Nat) :
    ∀ st : St, sigSnapLoopT fuel st s l = sigSnapLoopG (fun st a => sigCb fuel st a s) st l := by
  induction l with
  | nil => intro st; rfl
  | cons a rest ih =>
    intro st
    unfold sigSnapLoopT sigSnapLoopG
    simp only [ih]

namespace Base0
variable {R : St → St → Prop} (C : Base0 R)
include C

theorem fail (st : St) (w : Ub) : R st (st.fail w) := C.same (same_fail st w)

theorem outOfFuel (st : St) : R st (if st.isOk then { st with status := .outOfFuel } else st) :=
  C.same (same_outOfFuel st)

theorem nextTimerMsec (st : St) : R st (nextTimerMsec st).1 := by
  unfold EvLoop.nextTimerMsec
  split
  · exact C.refl _
  · split
    · exact C.refl _
    · split
      · exact C.trans (C.emit _ _) (C.fail _ _)
      · exact C.emit _ _

theorem insertWatch (st : St) (l : List Nat) (flags new : Nat) : R st (insertWatch st l flags new).1 := by
  unfold EvLoop.insertWatch
  split
  · exact C.refl st
  · split
    · exact C.refl st
    · exact C.fail st _

theorem notify (st : St) (a flags : Nat) : R st (notify st a flags) := by
  unfold EvLoop.notify
  simp only []
  split
  · exact C.emit st _
  · exact C.refl st

theorem cancelNotify (st : St) (a : Nat) (w : Watch) : R st (cancelNotify st a w) := by
  unfold EvLoop.cancelNotify
  split
  · exact C.notify _ _ _
  · exact C.refl _

theorem cancelRest (st : St) (rest : List Nat) : R st (cancelRest st rest) := by
  unfold EvLoop.cancelRest
  split
  · exact C.refl _
  · split
    · exact C.fail _ _
    · exact C.refl _

theorem destroyNotify (st : St) (a : Nat) : R st (destroyNotify st a) := by
  unfold EvLoop.destroyNotify
  split
  · exact C.notify _ _ _
  · exact C.refl _

theorem ensureSigchld (hs : ∀ st, R st (watchSignal st SIGCHLD 0 (-3)).1) (st : St) : R st (ensureSigchld st) := by
  unfold EvLoop.ensureSigchld
  split
  · exact C.refl _
  · exact C.trans (hs st) (C.same (same_sigchldwatch _ _))

theorem unlinkOneshotSaved (st : St) (a : Nat) (t : WType)
    (hu : t ≠ .none → t ≠ .io → t ≠ .signal → a ∈ listOf st t → R st (unlinkFound st a t)) : R st (unlinkOneshotSaved st a t) :=
  unlinkOneshotSaved_cases st a t (C.refl st) (C.fail st) hu

theorem unlinkOneshot (st : St) (a : Nat)
    (hu : ∀ t, t ≠ .none → t ≠ .io → t ≠ .signal → a ∈ listOf st t → R st (unlinkFound st a t)) : R st (unlinkOneshot st a) := by
  rw [unlinkOneshot_eq]
  exact iteInduction (fun _ => C.fail _ _) fun _ => C.unlinkOneshotSaved st a _ (hu _)

theorem destroyList (hh : ∀ st t evi, R st (cancelHook st t evi))
    (hf : ∀ st a, R st (st.free a)) (t : WType) (l : List Nat) : ∀ st : St, R st (destroyList st t l) := by
  induction l with
  | nil => intro st; exact C.refl st
  | cons a rest ih =>
    intro st
    unfold EvLoop.destroyList
    split
    · exact C.refl _
    · split
      · exact C.fail _ _
      · exact C.trans (C.trans (C.trans (C.destroyNotify _ _) (hh _ _ _)) (hf _ a)) (ih _)

theorem destroyBody (hd : ∀ t l st, R st (EvLoop.destroyList st t l)) {st : St} (hc : R st (EvLoop.cancelSigchld st)) :
    R st (destroyOf .process (destroyOf .signal (destroyOf .later (destroyOf .timer (destroyOf .io (EvLoop.cancelSigchld st)))))) :=
  C.trans (C.trans (C.trans (C.trans (C.trans hc (hd _ _ _)) (hd _ _ _)) (hd _ _ _)) (hd _ _ _)) (hd _ _ _)

theorem doRegister (hr : ∀ st r, R st { st with slots := st.slots ++ [r] }) (st : St) (k : Int) (reg : St → St × Nat)
    (h : ∀ s, R s (reg s).1) : R st (doRegister st k reg) := by
  unfold EvLoop.doRegister
  split
  · exact C.emit _ _
  · split
    · exact C.emit _ _
    · exact C.trans (h st) (hr _ _)

theorem ctor {k : Int} (ht : ∀ s due flags, R s (watchTimerAt s due flags k).1) (hl : ∀ s flags, R s (watchLater s flags k).1)
    (hi : ∀ s fd cond flags, R s (watchIo s fd cond flags k).1)
    (hs : ∀ s sig flags, validSig sig = true → R s (watchSignal s sig flags k).1)
    (hp : ∀ s pid flags, R s (watchProcess s pid flags k).1) {f : St → St × Nat} (c : Ctor k f) (s : St) : R s (f s).1 := by
  cases c with
  | timer ms flags => exact C.trans (C.emit s .g) (ht _ _ _)
  | timerAt sec usec flags => exact ht s _ flags
  | later flags => exact hl s flags
  | io fd cond flags => exact hi s fd cond flags
  | signal sig flags hv => exact hs s sig flags hv
  | process pid flags => exact hp s pid flags

theorem on_procSnapLoop (step : ∀ s a, a ∈ s.procs → R s (procStep s a)) (l : List Nat) : ∀ st : St, R st (procSnapLoop st l) := by
  induction l with
  | nil => exact C.refl
  | cons a rest ih =>
    intro st
    unfold EvLoop.procSnapLoop
    refine iteInduction (fun _ => C.refl _) fun _ => ?_
    refine iteInduction (fun _ => C.fail _ _) fun _ => ?_
    refine iteInduction (fun _ => ih _) fun hin => ?_
    exact iteInduction (fun _ => C.fail _ _) fun _ => C.trans (step st a (mem_of_contains hin)) (ih _)

theorem on_sigSnapLoopG (cb : St → Nat → St) (step : ∀ s a, s.isOk = true → a ∈ s.signals → R s (cb s a)) (l : List Nat) :
    ∀ st : St, R st (sigSnapLoopG cb st l).1 := by
  induction l with
  | nil => exact C.refl
  | cons a rest ih =>
    intro st
    unfold EvLoop.sigSnapLoopG
    refine ite_fst (fun _ => C.refl _) fun hok => ?_
    refine ite_fst (fun _ => C.fail _ _) fun _ => ?_
    refine ite_fst (fun _ => ih _) fun hin => ?_
    exact ite_fst (fun _ => C.fail _ _) fun _ => C.trans (step st a (not_of_not_eq_true hok) (mem_of_contains hin)) (ih _)

theorem on_sigSnapLoopT (fuel : Nat) (sig : Int) (step : ∀ s a, s.isOk = true → a ∈ s.signals → R s (sigCb fuel s a sig))
    (l : List Nat) (st : St) : R st (sigSnapLoopT fuel st sig l).1 := by
  rw [sigSnapLoopT_eq_G]
  exact C.on_sigSnapLoopG _ step l st

theorem on_dispatchLoop (fuel : Nat) (step : ∀ s sig, R s (sigDispatch fuel s sig)) (pending l : List Int) :
    ∀ st : St, R st (dispatchLoop fuel st pending l) := by
  induction l with
  | nil => exact C.refl
  | cons s rest ih =>
    intro st
    unfold EvLoop.dispatchLoop
    exact C.trans (of_ite (step _ _) (C.refl _)) (ih _)

theorem on_ioLoopT (step : ∀ s slot, slot ∈ s.pfd → R s (ioCb s slot)) (fuel : Nat) :
    ∀ (st : St) (idx : Nat), R st (ioLoopT fuel st idx).1 := by
  induction fuel with
  | zero => intro st idx; unfold EvLoop.ioLoopT; exact C.outOfFuel st
  | succ n ih =>
    intro st idx
    unfold EvLoop.ioLoopT
    refine ite_fst (fun _ => C.refl _) fun _ => ?_
    refine ite_fst (fun _ => C.refl _) fun hidx => ?_
    refine ite_fst (fun _ => ih _ _) fun _ => ?_
    exact ite_fst (fun _ => ih _ _) fun _ => C.trans (step _ _ (getD_mem_pfd (by omega))) (ih _ _)

theorem on_tickAfterPoll (fuel : Nat) (tm : ∀ s, R s (invokeTimers fuel s)) (io : ∀ s, R s (ioLoop fuel s 0))
    (sg : ∀ s, R s (dispatchSignals fuel s)) (st : St) (ret : Option Nat) : R st (tickAfterPoll fuel st ret) := by
  unfold EvLoop.tickAfterPoll
  refine of_ite (tm _) ?_
  cases ret with
  | some n => exact of_ite (C.trans (tm _) (io _)) (tm _)
  | none => exact of_ite (C.trans (tm _) (sg _)) (tm _)

theorem on_runLoop (fuel : Nat) (it : ∀ s, R s (runIter fuel s)) (n : Nat) : ∀ st : St, R st (runLoop fuel n st) := by
  induction n with
  | zero => intro st; unfold EvLoop.runLoop; exact C.outOfFuel st
  | succ k ih =>
    intro st
    unfold EvLoop.runLoop
    exact of_ite (C.refl _) <| of_ite (C.refl _) (C.trans (it _) (ih _))

end Base0

/-- The two steps of the wait that are no `Base` steps: the kernel writes `revents`; a pending signal is handed to the
    handler. -/
structure PollLeaves (R : St → St → Prop) : Prop where
  pollScan : ∀ st, R st (pollScan st)
  deliverPending : ∀ st, R st (deliverPending st)

theorem PollLeaves.ofStill {R : St → St → Prop} (h : ∀ {st st'}, Still st st' → R st st') : PollLeaves R :=
  ⟨fun st => h (still_pollScan st), fun st => h (still_deliverPending st)⟩

namespace Base
variable {R : St → St → Prop} (C : Base R)
include C

theorem raiseSig (st : St) (s : Int) : R st (raiseSig st s) := by
  unfold EvLoop.raiseSig
  refine iteInduction (fun _ => C.refl st) fun _ => ?_
  refine iteInduction (fun _ => C.same (.of_eq rfl rfl)) fun _ => ?_
  refine iteInduction (fun _ => C.sigRecord st s) fun _ => ?_
  exact iteInduction (fun _ => C.same (.of_bad rfl rfl)) fun _ => C.refl st

theorem foldl_raiseSig (l : List Int) : ∀ st : St, R st (l.foldl EvLoop.raiseSig st) := by
  induction l with
  | nil => intro st; exact C.refl st
  | cons s rest ih => intro st; exact C.trans (C.raiseSig st s) (ih _)

theorem pollRaise (st : St) : R st (pollRaise st) :=
  C.trans (C.same (by exact .of_eq rfl rfl)) (C.foldl_raiseSig _ _)

theorem ppollRest (hd : ∀ st, R st (deliverPending st)) (st : St) (t : Option Int) : R (pollScan st) (ppoll st t).1 := by
  have h1 := C.pollRaise (pollScan st)
  unfold EvLoop.ppoll
  refine ite_fst (fun _ => h1) fun _ => ?_
  refine ite_fst (fun _ => C.trans h1 (C.emit _ _)) fun _ => ?_
  exact ite_fst (fun _ => C.trans (C.trans (C.trans h1 (hd _)) (C.same (same_errno _ _))) (C.emit _ _))
    fun _ => C.trans (C.trans h1 (C.same (same_pollTimeout _ _))) (C.emit _ _)

variable (I : PollLeaves R)
include I

theorem ppoll (st : St) (t : Option Int) : R st (ppoll st t).1 :=
  C.trans (I.pollScan st) (C.ppollRest I.deliverPending st t)

theorem ppollRun (st : St) (t : Option Int) : R st (ppollRun st t).1 := by
  have h := C.ppoll I st t
  unfold EvLoop.ppollRun
  refine ite_fst (fun _ => h) fun _ => ?_
  exact ite_fst (fun _ => C.trans (C.trans h (C.same (same_runFlags _ false _ _))) (C.emit _ _))
    fun _ => C.trans h (C.same (same_runFlags _ _ _ _))

theorem on_tick (fuel : Nat) (after : ∀ s ret, R s (tickAfterPoll fuel s ret)) (st : St) (nohang : Bool) :
    R st (tick fuel st nohang) :=
  have h1 := C.nextTimerMsec st
  have h2 := C.trans h1 (C.ppoll I _ (tickTimeout nohang (EvLoop.nextTimerMsec st).2))
  of_ite (C.refl _) <| of_ite h1 <| of_ite h2 (C.trans h2 (after _ _))

theorem on_runIter (fuel : Nat) (after : ∀ s ret, R s (tickAfterPoll fuel s ret)) (st : St) : R st (runIter fuel st) :=
  have h1 := C.nextTimerMsec st
  have h2 := C.trans h1 (C.ppollRun I _ (tickTimeout false (EvLoop.nextTimerMsec st).2))
  of_ite (C.refl _) <| of_ite h1 <| of_ite h2 (C.trans h2 (after _ _))

end Base

end Tickit.EvLoop
