import Tickit.Model.LifeTop
/-
  C08: the process-wide list of SIGWINCH observers (`src/term.c`: `first_sigwinch_observer`,
  `tickit_term_observe_sigwinch`, `sigwinch`, and `tickit_term_destroy` which stops the observation first).

  The invariant: the links from `first_sigwinch_observer` form a chain without repetition of exactly the terminals
  whose `observe_winch` is set, each of them alive; every terminal outside the chain has a NULL link.  It is kept by
  the append walk, the unlink walk (with the unlinked terminal's link reset: fixes/C08_sigwinch_stale_next.patch) and
  the destruction of a terminal, and it makes every walk end without touching a freed terminal.  Both walks end in one
  store through the pointer they stop at (`chain_store`).  `ChainF next cur l`: the links from `cur` spell `l`; `lastPtr tailp l`:
  the pointer a walk that started with `tailp` holds after passing `l` (`&first` or `&p->next`).
-/
namespace Tickit.Life

def ChainF (next : Nat → Option Nat) : Option Nat → List Nat → Prop
  | none, [] => True
  | some c, d :: l => c = d ∧ ChainF next (next d) l
  | none, _ :: _ => False
  | some _, [] => False

theorem ChainF.congr {next next' : Nat → Option Nat} : ∀ {l : List Nat} {cur : Option Nat}, ChainF next cur l →
    (∀ c ∈ l, next' c = next c) → ChainF next' cur l
  | [], none, _, _ => trivial
  | [], some _, h, _ => h.elim
  | _ :: _, none, h, _ => h.elim
  | d :: l, some c, h, hc => by
    obtain ⟨e, h'⟩ := h
    refine ⟨e, ?_⟩
    rw [hc d (by simp)]
    exact ChainF.congr h' (fun x hx => hc x (by simp [hx]))

theorem ChainF.nil_iff {next : Nat → Option Nat} {cur : Option Nat} : ChainF next cur [] ↔ cur = none := by
  cases cur <;> simp [ChainF]

theorem ChainF.cons_iff {next : Nat → Option Nat} {cur : Option Nat} {d : Nat} {l : List Nat} :
    ChainF next cur (d :: l) ↔ cur = some d ∧ ChainF next (next d) l := by
  cases cur with
  | none => simp [ChainF]
  | some c => simp [ChainF]

theorem ChainF.head {next : Nat → Option Nat} {cur : Option Nat} {l : List Nat} (h : ChainF next cur l) : cur = l.head? := by
  cases l with
  | nil => exact ChainF.nil_iff.1 h
  | cons d l => exact (ChainF.cons_iff.1 h).1

/-- A pointer to a link: `&first` (`none`) or `&p->next` (`some p`). -/
def readP (first : Option Nat) (next : Nat → Option Nat) : Option Nat → Option Nat
  | none => first
  | some p => next p

def storeFirst (first : Option Nat) : Option Nat → Option Nat → Option Nat
  | none, v => v
  | some _, _ => first

def storeNext (next : Nat → Option Nat) : Option Nat → Option Nat → Nat → Option Nat
  | none, _ => next
  | some p, v => fun c => if c = p then v else next c

def lastPtr : Option Nat → List Nat → Option Nat
  | tailp, [] => tailp
  | _, c :: r => lastPtr (some c) r

theorem lastPtr_some (c : Nat) : ∀ (r : List Nat), ∃ q, lastPtr (some c) r = some q ∧ q ∈ c :: r
  | [] => ⟨c, rfl, by simp⟩
  | d :: r => by
    obtain ⟨q, hq, hm⟩ := lastPtr_some d r
    exact ⟨q, hq, by simp at hm ⊢; rcases hm with h | h <;> simp [h]⟩

theorem lastPtr_append (tailp : Option Nat) (l : List Nat) (c : Nat) : lastPtr tailp (l ++ [c]) = some c := by
  induction l generalizing tailp with
  | nil => rfl
  | cons d r ih => exact ih (some d)

theorem lastPtr_mem : ∀ {l : List Nat} {tailp : Option Nat} {p : Nat}, lastPtr tailp l = some p → tailp = some p ∨ p ∈ l
  | [], _, _, h => .inl h
  | c :: r, _, _, h => by
    rcases lastPtr_mem (l := r) (tailp := some c) h with h | h
    · cases h; exact .inr List.mem_cons_self
    · exact .inr (List.mem_cons_of_mem _ h)

theorem lastPtr_none_mem {l : List Nat} {p : Nat} (h : lastPtr none l = some p) : p ∈ l :=
  (lastPtr_mem h).resolve_left nofun

theorem storeFirst_lastPtr_none (first v : Option Nat) : ∀ (l : List Nat),
    storeFirst first (lastPtr none l) v = if l = [] then v else first
  | [] => rfl
  | c :: r => by
    obtain ⟨q, hq, _⟩ := lastPtr_some c r
    rw [lastPtr, hq]; rfl

theorem readP_store (first : Option Nat) (next : Nat → Option Nat) (q tailp v : Option Nat) :
    readP (storeFirst first q v) (storeNext next q v) tailp = if tailp = q then v else readP first next tailp := by
  cases q <;> cases tailp <;> simp [readP, storeFirst, storeNext]

theorem storeNext_of_ne (next : Nat → Option Nat) (q v : Option Nat) {c : Nat} (h : ∀ p, q = some p → c ≠ p) :
    storeNext next q v c = next c := by
  cases q with
  | none => rfl
  | some p => exact if_neg (h p rfl)

theorem chain_store {first : Option Nat} {next : Nat → Option Nat} {v : Option Nat} {rest rest' : List Nat} :
    ∀ (pre : List Nat) (tailp : Option Nat), ChainF next (readP first next tailp) (pre ++ rest) → pre.Nodup →
      (∀ p, tailp = some p → p ∉ pre) →
      (ChainF next (readP first next (lastPtr tailp pre)) rest → ChainF (storeNext next (lastPtr tailp pre) v) v rest') →
      ChainF (storeNext next (lastPtr tailp pre) v)
        (readP (storeFirst first (lastPtr tailp pre) v) (storeNext next (lastPtr tailp pre) v) tailp) (pre ++ rest')
  | [], tailp, hch, _, _, hv => by
    rw [lastPtr, readP_store, if_pos rfl]
    exact hv hch
  | c :: r, tailp, hch, hnd, ht, hv => by
    obtain ⟨hcur, hrest⟩ := ChainF.cons_iff.1 hch
    have ih := chain_store (first := first) r (some c) hrest (List.nodup_cons.1 hnd).2
      (by intro p hp; cases hp; exact (List.nodup_cons.1 hnd).1) hv
    refine ChainF.cons_iff.2 ⟨?_, ih⟩
    -- the link `tailp` points to is not the one written
    obtain ⟨q, hq, hqm⟩ := lastPtr_some c r
    rw [lastPtr, hq, readP_store, if_neg (fun e => ht q e hqm)]
    exact hcur

theorem chain_append {first : Option Nat} {next : Nat → Option Nat} {tid : Nat} (hn : next tid = none)
    (l : List Nat) (tailp : Option Nat) (hch : ChainF next (readP first next tailp) l) (hni : tid ∉ l) (hnd : l.Nodup)
    (ht : ∀ p, tailp = some p → p ∉ l ∧ p ≠ tid) :
    ChainF (storeNext next (lastPtr tailp l) (some tid))
      (readP (storeFirst first (lastPtr tailp l) (some tid)) (storeNext next (lastPtr tailp l) (some tid)) tailp) (l ++ [tid]) := by
  refine chain_store (rest := []) l tailp (by rwa [List.append_nil]) hnd (fun p hp => (ht p hp).1) fun _ => ⟨rfl, ?_⟩
  rw [storeNext_of_ne, hn]
  · trivial
  · intro p hp e
    rcases lastPtr_mem hp with h | h
    · exact (ht p h).2 e.symm
    · exact hni (e ▸ h)

theorem chain_unlink {first : Option Nat} {next : Nat → Option Nat} {tid : Nat} (post pre : List Nat) (tailp : Option Nat)
    (hch : ChainF next (readP first next tailp) (pre ++ tid :: post)) (hnd : (pre ++ tid :: post).Nodup)
    (ht : ∀ p, tailp = some p → p ∉ pre ++ tid :: post) :
    ChainF (storeNext next (lastPtr tailp pre) (next tid))
      (readP (storeFirst first (lastPtr tailp pre) (next tid)) (storeNext next (lastPtr tailp pre) (next tid)) tailp) (pre ++ post) := by
  refine chain_store pre tailp hch (List.nodup_append.1 hnd).1 (fun p hp hm => ht p hp (List.mem_append_left _ hm)) fun h => ?_
  -- no link of `post` is the one written
  refine ChainF.congr (ChainF.cons_iff.1 h).2 fun c hc => storeNext_of_ne _ _ _ fun p hp e => ?_
  subst e
  have hcp : c ∈ tid :: post := List.mem_cons_of_mem _ hc
  rcases lastPtr_mem hp with h | h
  · exact ht c h (List.mem_append_right _ hcp)
  · exact (List.nodup_append.1 hnd).2.2 c h c hcp rfl

def swNext (top : Top) (c : Nat) : Option Nat := (swNode top c).next
def swObs (top : Top) (c : Nat) : Bool := (swNode top c).obs

/-!
  Three levels.  `SwInv top l`: the pointers of `top` spell the list `l`; walks and stores are proved against it.
  `SwPre top`: some such `l`, and the process has not died: all that is left once a handler or the lower layers may have
  released the main terminal (0), which leaves the list only in `Top.swSync` (hence `SwInv.live` excepts 0).  `SwOk top`:
  `SwPre`, and a freed main terminal is not observed (`swOk_iff`); it holds between two operations and is what a walk needs.
-/

structure SwInv (top : Top) (l : List Nat) : Prop where
  chain : ChainF (swNext top) top.swFirst l
  nodup : l.Nodup
  mem : ∀ c ∈ l, c < top.sw.size ∧ swObs top c = true
  out : ∀ c, c ∉ l → swNext top c = none ∧ swObs top c = false
  /-- `c ≠ 0`: the main terminal (0) may have been freed and still be listed until `Top.swSync` (see `SwPre`) -/
  live : ∀ c ∈ l, c ≠ 0 → swFreed top c = false
  size : top.sw.size = top.xterms.size + 1
  handler : top.swHandler = top.swFirst.isSome
  xapp : ∀ (k : Nat) (x : XTerm), top.xterms[k]? = some x → x.freed = false → 1 ≤ x.appRefs

def SwOk (top : Top) : Prop :=
  top.fail = none ∧ ∃ l, SwInv top l ∧ (top.st.term.freed = true → 0 ∉ l)

def SwPre (top : Top) : Prop := top.fail = none ∧ ∃ l, SwInv top l

theorem SwInv.mem_iff {top : Top} {l : List Nat} (inv : SwInv top l) (c : Nat) : c ∈ l ↔ (swNode top c).obs = true := by
  refine ⟨fun h => (inv.mem c h).2, fun ho => Decidable.byContradiction fun hn => ?_⟩
  have := (inv.out c hn).2
  unfold swObs at this
  rw [this] at ho; cases ho

theorem swOk_iff {top : Top} : SwOk top ↔ SwPre top ∧ (top.st.term.freed = true → swObs top 0 = false) := by
  constructor
  · rintro ⟨hf, l, inv, h0⟩
    exact ⟨⟨hf, l, inv⟩, fun hfr => (inv.out 0 (h0 hfr)).2⟩
  · rintro ⟨⟨hf, l, inv⟩, h0⟩
    refine ⟨hf, l, inv, fun hfr hm => ?_⟩
    have := (inv.mem 0 hm).2
    rw [h0 hfr] at this; cases this

theorem SwOk.pre {top : Top} (h : SwOk top) : SwPre top := (swOk_iff.1 h).1
theorem SwOk.main {top : Top} (h : SwOk top) : top.st.term.freed = true → swObs top 0 = false := (swOk_iff.1 h).2
theorem SwOk.fail {top : Top} (h : SwOk top) : top.fail = none := h.1

theorem SwOk.intro {top : Top} {l : List Nat} (hf : top.fail = none) (inv : SwInv top l)
    (h0 : top.st.term.freed = true → swObs top 0 = false) : SwOk top := swOk_iff.2 ⟨⟨hf, l, inv⟩, h0⟩

theorem SwOk.map {a b : Top} (h : SwOk a) (hf : b.fail = a.fail) (ht : b.st.term.freed = true → a.st.term.freed = true)
    (f : ∀ {l : List Nat}, SwInv a l → SwInv b l) : SwOk b :=
  have ⟨h1, l, inv, h0⟩ := h
  ⟨hf.trans h1, l, f inv, fun hb => h0 (ht hb)⟩

theorem swOk_fresh (top : Top) (h1 : top.sw = #[{}]) (h2 : top.swFirst = none) (h3 : top.swHandler = false) (h4 : top.xterms = #[])
    (h5 : top.fail = none) : SwOk top := by
  refine ⟨h5, [], ⟨by rw [h2]; trivial, List.nodup_nil, by simp, ?_, by simp, by rw [h1, h4]; rfl, by rw [h2, h3]; rfl,
    by intro k x hx; rw [h4] at hx; simp at hx⟩, by simp⟩
  intro c _
  unfold swNext swObs swNode
  rw [h1]
  by_cases hc : c = 0
  · subst hc; exact ⟨rfl, rfl⟩
  · have : (#[({} : SwNode)])[c]? = none := by apply Array.getElem?_eq_none; simp; omega
    rw [this]; exact ⟨rfl, rfl⟩

theorem swOk_init : SwOk ({} : Top) := swOk_fresh {} rfl rfl rfl rfl rfl

def AllLive (top : Top) (l : List Nat) : Prop := ∀ c ∈ l, swFreed top c = false

theorem SwInv.live_of {top : Top} {l : List Nat} (inv : SwInv top l) {c : Nat} (hc : c ∈ l)
    (h0 : c = 0 → top.st.term.freed = false) : swFreed top c = false := by
  by_cases hz : c = 0
  · unfold swFreed
    rw [if_pos hz]
    exact h0 hz
  · exact inv.live c hc hz

theorem SwInv.allLive {top : Top} {l : List Nat} (inv : SwInv top l) (h0 : top.st.term.freed = true → 0 ∉ l) : AllLive top l :=
  fun c hc => inv.live_of hc fun e => Bool.eq_false_iff.2 fun hf => h0 hf (e ▸ hc)

theorem SwOk.elim {top : Top} (h : SwOk top) : ∃ l, SwInv top l ∧ AllLive top l :=
  have ⟨_, l, inv, h0⟩ := h
  ⟨l, inv, inv.allLive h0⟩

/-!
  Relations between two states.  `SwSame`: the SIGWINCH part is as it was (handlers, watches, entry points: part of `Rest`,
  Proof/LifeTopKeeps.lean); it carries `SwPre`, not `SwOk`, across.  `NonSw`: everything else is as it was (operations on the list
  or on a further terminal); the layer above reads `st`, `tbinds`, `inst`, `dangling` of it.  `SwFrame`: `NonSw` and more, what a
  store into the list leaves alone.  `SwStep a b`: `NonSw a b` and `SwOk b`, the claim of the lemmas on the walks and on `xUnref`
  and of `xstepCore_sw` (Proof/LifeTopSw.lean), which adds the frame to `swOk_xnew`, `swOk_xref` and `swSignal_ok` itself.
-/

/-- Everything a list walk looks at. -/
structure SwSame (a b : Top) : Prop where
  sw : b.sw = a.sw
  first : b.swFirst = a.swFirst
  handler : b.swHandler = a.swHandler
  xterms : b.xterms = a.xterms
  fail : b.fail = a.fail

theorem swFreed_of_same {a b : Top} (h : SwSame a b) (c : Nat) (hc : c ≠ 0) : swFreed b c = swFreed a c := by
  unfold swFreed; simp only [hc, if_false, h.xterms]

theorem SwInv.of_nodes {a b : Top} {l : List Nat} (inv : SwInv a l) (hn : ∀ c, swNode b c = swNode a c)
    (hsz : a.sw.size ≤ b.sw.size) (hf : b.swFirst = a.swFirst) (hh : b.swHandler = a.swHandler)
    (hs : b.sw.size = b.xterms.size + 1) (hlive : ∀ c ∈ l, c ≠ 0 → swFreed b c = false)
    (hxa : ∀ (k : Nat) (x : XTerm), b.xterms[k]? = some x → x.freed = false → 1 ≤ x.appRefs) : SwInv b l := by
  have hnx : swNext b = swNext a := by funext c; unfold swNext; rw [hn]
  have hob : swObs b = swObs a := by funext c; unfold swObs; rw [hn]
  refine ⟨by rw [hnx, hf]; exact inv.chain, inv.nodup, ?_, ?_, hlive, hs, by rw [hh, hf]; exact inv.handler, hxa⟩
  · intro c hc
    rw [hob]
    exact ⟨Nat.lt_of_lt_of_le (inv.mem c hc).1 hsz, (inv.mem c hc).2⟩
  · intro c hc
    rw [hnx, hob]
    exact inv.out c hc

theorem SwInv.of_same {a b : Top} {l : List Nat} (inv : SwInv a l) (h : SwSame a b) : SwInv b l :=
  inv.of_nodes (fun c => by unfold swNode; rw [h.sw]) (Nat.le_of_eq (congrArg _ h.sw.symm)) h.first h.handler
    (by rw [h.sw, h.xterms]; exact inv.size) (fun c hc h0 => (swFreed_of_same h c h0).trans (inv.live c hc h0))
    (by rw [h.xterms]; exact inv.xapp)

theorem SwPre.of_same {a b : Top} (h : SwPre a) (s : SwSame a b) : SwPre b :=
  ⟨by rw [s.fail]; exact h.1, h.2.imp fun _ hl => hl.of_same s⟩

theorem SwOk.of_same {a b : Top} (h : SwOk a) (s : SwSame a b) (ht : b.st.term.freed = true → a.st.term.freed = true) : SwOk b :=
  h.map s.fail ht fun inv => inv.of_same s

theorem swNode_setNode (top : Top) (p : Nat) (n : SwNode) (c : Nat) :
    swNode (swSetNode top p n) c = if c = p ∧ p < top.sw.size then n else swNode top c := by
  unfold swNode swSetNode
  by_cases hcp : c = p
  · subst hcp
    by_cases hlt : c < top.sw.size
    · simp [hlt]
    · simp [hlt]
  · have : ¬ p = c := fun h => hcp h.symm
    simp [hcp, this]

theorem swNext_setNode (top : Top) {p : Nat} (h : p < top.sw.size) (n : SwNode) (c : Nat) :
    swNext (swSetNode top p n) c = if c = p then n.next else swNext top c := by
  unfold swNext
  rw [swNode_setNode]
  simp only [h, and_true]
  split <;> rfl

theorem swObs_setNode (top : Top) {p : Nat} (h : p < top.sw.size) (n : SwNode) (c : Nat) :
    swObs (swSetNode top p n) c = if c = p then n.obs else swObs top c := by
  unfold swObs
  rw [swNode_setNode]
  simp only [h, and_true]
  split <;> rfl

theorem swNext_of_sw {a b : Top} (h : b.sw = a.sw) : swNext b = swNext a := by funext c; unfold swNext swNode; rw [h]
theorem swObs_of_sw {a b : Top} (h : b.sw = a.sw) : swObs b = swObs a := by funext c; unfold swObs swNode; rw [h]

structure NonSw (a b : Top) : Prop where
  st : b.st = a.st
  mock : b.mock = a.mock
  screen : b.screen = a.screen
  printed : b.printed = a.printed
  hasFd : b.hasFd = a.hasFd
  tbinds : b.tbinds = a.tbinds
  nTB : b.nTB = a.nTB
  pendingEsc : b.pendingEsc = a.pendingEsc
  timeoutAt : b.timeoutAt = a.timeoutAt
  now : b.now = a.now
  held : b.held = a.held
  inst : b.inst = a.inst
  inputDead : b.inputDead = a.inputDead
  dangling : b.dangling = a.dangling
  size : b.size = a.size

theorem NonSw.refl (a : Top) : NonSw a a := ⟨rfl, rfl, rfl, rfl, rfl, rfl, rfl, rfl, rfl, rfl, rfl, rfl, rfl, rfl, rfl⟩

theorem NonSw.trans {a b c : Top} (h1 : NonSw a b) (h2 : NonSw b c) : NonSw a c :=
  ⟨h2.st.trans h1.st, h2.mock.trans h1.mock, h2.screen.trans h1.screen, h2.printed.trans h1.printed, h2.hasFd.trans h1.hasFd,
   h2.tbinds.trans h1.tbinds, h2.nTB.trans h1.nTB, h2.pendingEsc.trans h1.pendingEsc, h2.timeoutAt.trans h1.timeoutAt,
   h2.now.trans h1.now, h2.held.trans h1.held, h2.inst.trans h1.inst, h2.inputDead.trans h1.inputDead,
   h2.dangling.trans h1.dangling, h2.size.trans h1.size⟩

/-- `NonSw top t` for a `t` that is `top` with fields of the SIGWINCH part replaced: every field is `rfl`. -/
macro "nonsw_rfl" : tactic => `(tactic| exact ⟨rfl, rfl, rfl, rfl, rfl, rfl, rfl, rfl, rfl, rfl, rfl, rfl, rfl, rfl, rfl⟩)

structure SwFrame (a b : Top) : Prop extends NonSw a b where
  xterms : b.xterms = a.xterms
  fail : b.fail = a.fail
  swSize : b.sw.size = a.sw.size

theorem SwFrame.trans {a b c : Top} (h1 : SwFrame a b) (h2 : SwFrame b c) : SwFrame a c :=
  ⟨h1.toNonSw.trans h2.toNonSw, h2.xterms.trans h1.xterms, h2.fail.trans h1.fail, h2.swSize.trans h1.swSize⟩

theorem SwFrame.freed {a b : Top} (h : SwFrame a b) (c : Nat) : swFreed b c = swFreed a c := by
  unfold swFreed; rw [h.xterms, h.st]

structure SwStep (a b : Top) : Prop where
  ok : SwOk b
  frame : NonSw a b

theorem SwStep.refl {a : Top} (h : SwOk a) : SwStep a a := ⟨h, NonSw.refl a⟩

theorem SwStep.trans {a b c : Top} (h1 : SwStep a b) (h2 : SwStep b c) : SwStep a c := ⟨h2.ok, h1.frame.trans h2.frame⟩

theorem SwInv.of_frame {a b : Top} {l l' : List Nat} (inv : SwInv a l) (fr : SwFrame a b)
    (chain : ChainF (swNext b) b.swFirst l') (nodup : l'.Nodup)
    (mem : ∀ c ∈ l', c < a.sw.size ∧ swObs b c = true ∧ (c ≠ 0 → swFreed a c = false))
    (out : ∀ c, c ∉ l' → swNext b c = none ∧ swObs b c = false) (handler : b.swHandler = b.swFirst.isSome) : SwInv b l' :=
  ⟨chain, nodup, fun c hc => ⟨fr.swSize ▸ (mem c hc).1, (mem c hc).2.1⟩, out,
    fun c hc h0 => (fr.freed c).trans ((mem c hc).2.2 h0), by rw [fr.swSize, fr.xterms]; exact inv.size, handler,
    by rw [fr.xterms]; exact inv.xapp⟩

theorem swSetNode_frame (top : Top) (p : Nat) (n : SwNode) : SwFrame top (swSetNode top p n) :=
  ⟨by nonsw_rfl, rfl, rfl, Array.size_setIfInBounds ..⟩

theorem swSetNode_first (top : Top) (p : Nat) (n : SwNode) : (swSetNode top p n).swFirst = top.swFirst := rfl
theorem swSetNode_handler (top : Top) (p : Nat) (n : SwNode) : (swSetNode top p n).swHandler = top.swHandler := rfl

theorem swStore_first (top : Top) (tailp v : Option Nat) : (swStore top tailp v).swFirst = storeFirst top.swFirst tailp v := by
  cases tailp <;> rfl

theorem swStore_next (top : Top) (tailp v : Option Nat) (h : ∀ p, tailp = some p → p < top.sw.size) :
    swNext (swStore top tailp v) = storeNext (swNext top) tailp v := by
  cases tailp with
  | none => rfl
  | some p =>
    funext c
    unfold swStore
    rw [swNext_setNode _ (h p rfl)]
    rfl

theorem swStore_obs (top : Top) (tailp v : Option Nat) : swObs (swStore top tailp v) = swObs top := by
  cases tailp with
  | none => rfl
  | some p =>
    funext c
    unfold swObs swStore
    simp only [swNode_setNode]
    split
    · rename_i h; rw [h.1]
    · rfl

theorem swStore_frame (top : Top) (tailp v : Option Nat) : SwFrame top (swStore top tailp v) := by
  cases tailp with
  | none => exact ⟨by nonsw_rfl, rfl, rfl, rfl⟩
  | some p => exact swSetNode_frame ..

theorem swStore_handler (top : Top) (tailp v : Option Nat) : (swStore top tailp v).swHandler = top.swHandler := by
  cases tailp <;> rfl

/-- The `sigaction` call made when the list becomes non-empty (`h = true`) or empty. -/
def handlerIf (t : Top) (c h : Bool) : Top := if c then { t with swHandler := h } else t

theorem handlerIf_frame (t : Top) (c h : Bool) : SwFrame t (handlerIf t c h) := by
  cases c <;> exact ⟨by nonsw_rfl, rfl, rfl, rfl⟩
theorem handlerIf_sw (t : Top) (c h : Bool) : (handlerIf t c h).sw = t.sw := by cases c <;> rfl
theorem handlerIf_first (t : Top) (c h : Bool) : (handlerIf t c h).swFirst = t.swFirst := by cases c <;> rfl
theorem handlerIf_handler (t : Top) (c h : Bool) : (handlerIf t c h).swHandler = if c then h else t.swHandler := by
  cases c <;> rfl

theorem swAppend_spec (top : Top) (tid : Nat) : ∀ (l : List Nat) (fuel : Nat) (tailp cur : Option Nat),
    ChainF (swNext top) cur l → AllLive top l → l.length < fuel →
    swAppend top tid fuel tailp cur = swStore top (lastPtr tailp l) (some tid)
  | _, 0, _, _, _, _, hf => absurd hf (Nat.not_lt_zero _)
  | [], f + 1, tailp, cur, hch, _, _ => by
    rw [ChainF.nil_iff] at hch
    subst hch
    rfl
  | c :: r, f + 1, tailp, cur, hch, hl, hf => by
    obtain ⟨hcur, hrest⟩ := ChainF.cons_iff.1 hch
    subst hcur
    unfold swAppend
    rw [hl c List.mem_cons_self]
    simp only [Bool.false_eq_true, if_false]
    exact swAppend_spec top tid r f (some c) _ hrest (fun x hx => hl x (List.mem_cons_of_mem _ hx)) (Nat.lt_of_succ_lt_succ hf)

theorem swUnlink_spec (top : Top) (tid : Nat) (post : List Nat) : ∀ (pre : List Nat) (fuel : Nat) (tailp cur : Option Nat),
    ChainF (swNext top) cur (pre ++ tid :: post) → AllLive top pre → tid ∉ pre → pre.length < fuel →
    swUnlink top tid fuel tailp cur = swStore top (lastPtr tailp pre) (swNext top tid)
  | _, 0, _, _, _, _, _, hf => absurd hf (Nat.not_lt_zero _)
  | [], f + 1, tailp, cur, hch, _, _, _ => by
    obtain ⟨hcur, _⟩ := ChainF.cons_iff.1 hch
    subst hcur
    unfold swUnlink
    simp only [if_true]
    rfl
  | c :: r, f + 1, tailp, cur, hch, hl, hni, hf => by
    obtain ⟨hcur, hrest⟩ := ChainF.cons_iff.1 hch
    subst hcur
    have hct : ¬ c = tid := fun h => hni (h ▸ List.mem_cons_self)
    unfold swUnlink
    simp only [hct, if_false]
    rw [hl c List.mem_cons_self]
    simp only [Bool.false_eq_true, if_false]
    exact swUnlink_spec top tid post r f (some c) _ hrest (fun x hx => hl x (List.mem_cons_of_mem _ hx))
      (fun h => hni (List.mem_cons_of_mem _ h)) (Nat.lt_of_succ_lt_succ hf)

theorem swSignal_go_spec (top : Top) : ∀ (l : List Nat) (fuel : Nat) (cur : Option Nat),
    ChainF (swNext top) cur l → AllLive top l → l.length < fuel → swSignal.go top fuel cur = top
  | _, 0, _, _, _, hf => absurd hf (Nat.not_lt_zero _)
  | [], f + 1, cur, hch, _, _ => by
    rw [ChainF.nil_iff] at hch
    subst hch
    rfl
  | c :: r, f + 1, cur, hch, hl, hf => by
    obtain ⟨hcur, hrest⟩ := ChainF.cons_iff.1 hch
    subst hcur
    unfold swSignal.go
    rw [hl c List.mem_cons_self]
    simp only [Bool.false_eq_true, if_false]
    exact swSignal_go_spec top r f _ hrest (fun x hx => hl x (List.mem_cons_of_mem _ hx)) (Nat.lt_of_succ_lt_succ hf)

theorem nodup_length_le : ∀ (l : List Nat) (n : Nat), l.Nodup → (∀ c ∈ l, c < n) → l.length ≤ n
  | [], 0, _, _ => Nat.le_refl 0
  | c :: _, 0, _, h => absurd (h c List.mem_cons_self) (Nat.not_lt_zero c)
  | l, n + 1, hnd, h => by
    -- without `n`, which occurs once at most, the list lies below `n`
    have := nodup_length_le (l.erase n) n (hnd.erase n) fun c hc =>
      Nat.lt_of_le_of_ne (Nat.le_of_lt_succ (h c (List.mem_of_mem_erase hc))) fun e => hnd.not_mem_erase (e ▸ hc)
    rw [List.length_erase] at this
    split at this <;> omega

theorem SwInv.fuel {top : Top} {l : List Nat} (inv : SwInv top l) : l.length < swFuel top := by
  have := nodup_length_le l top.sw.size inv.nodup (fun c hc => (inv.mem c hc).1)
  unfold swFuel; omega

/-- `tickit_term_observe_sigwinch(tt, true)` on a terminal that is alive. -/
theorem swObserve_ok {top : Top} (h : SwOk top) {tid : Nat} (ht : tid < top.sw.size) (hlive : swFreed top tid = false) :
    SwStep top (swObserve top tid) := by
  obtain ⟨l, inv, hl⟩ := h.elim
  unfold swObserve
  cases ho : (swNode top tid).obs with
  | true => exact .refl h
  | false =>
    have hnl : tid ∉ l := fun hm => by rw [(inv.mem_iff tid).1 hm] at ho; cases ho
    -- the flag is set and the handler installed: the links are as they were
    let n1 : SwNode := { swNode top tid with obs := true }
    let top2 := handlerIf (swSetNode top tid n1) top.swFirst.isNone true
    have f2 : SwFrame top top2 := (swSetNode_frame top tid n1).trans (handlerIf_frame ..)
    have h2first : top2.swFirst = top.swFirst := (handlerIf_first ..).trans (swSetNode_first ..)
    have h2next : swNext top2 = swNext top := by
      funext c
      rw [swNext_of_sw (handlerIf_sw ..), swNext_setNode _ ht]
      split
      · rename_i e; rw [e]; rfl
      · rfl
    have h2obs : ∀ c, swObs top2 c = if c = tid then true else swObs top c := fun c => by
      rw [swObs_of_sw (handlerIf_sw ..), swObs_setNode _ ht]
    have hwalk := swAppend_spec top2 tid l (swFuel top2) none top2.swFirst (by rw [h2next, h2first]; exact inv.chain)
      (fun c hc => (f2.freed c).trans (hl c hc)) (by unfold swFuel; rw [f2.swSize]; exact inv.fuel)
    show SwStep top (swAppend top2 tid (swFuel top2) none top2.swFirst)
    rw [hwalk]
    have hptr : ∀ p, lastPtr none l = some p → p < top2.sw.size := fun p hp =>
      f2.swSize ▸ (inv.mem p (lastPtr_none_mem hp)).1
    have fS : SwFrame top (swStore top2 (lastPtr none l) (some tid)) := f2.trans (swStore_frame ..)
    have inv' : SwInv (swStore top2 (lastPtr none l) (some tid)) (l ++ [tid]) := by
      refine inv.of_frame fS ?_ ?_ ?_ ?_ ?_
      · rw [swStore_next _ _ _ hptr, swStore_first]
        exact chain_append (first := top2.swFirst) (next := swNext top2) (tid := tid) (by rw [h2next]; exact (inv.out tid hnl).1)
          l none (by rw [h2next, h2first]; exact inv.chain) hnl inv.nodup (by intro p hp; cases hp)
      · rw [List.nodup_append]
        exact ⟨inv.nodup, by simp, by intro a ha b hb; simp at hb; subst hb; intro h; subst h; exact hnl ha⟩
      · intro c hc
        rw [swStore_obs, h2obs]
        rcases List.mem_append.1 hc with hc | hc
        · exact ⟨(inv.mem c hc).1, by split; rfl; exact (inv.mem c hc).2, inv.live c hc⟩
        · cases List.mem_singleton.1 hc
          exact ⟨ht, if_pos rfl, fun _ => hlive⟩
      · intro c hc
        simp only [List.mem_append, List.mem_singleton, not_or] at hc
        -- the link written lies inside the old list or is `first`
        rw [swStore_next _ _ _ hptr, swStore_obs, h2obs, if_neg hc.2,
          storeNext_of_ne (c := c) _ _ _ fun p hp e => hc.1 (e ▸ lastPtr_none_mem hp), h2next]
        exact inv.out c hc.1
      · -- the head of the list is written only when the list was empty
        rw [swStore_handler, swStore_first, handlerIf_handler, storeFirst_lastPtr_none, h2first, swSetNode_handler, inv.handler,
          inv.chain.head]
        cases l <;> rfl
    refine ⟨.intro (fS.fail.trans h.fail) inv' fun hfr => ?_, fS.toNonSw⟩
    rw [fS.st] at hfr
    rw [swStore_obs, h2obs]
    split
    · rename_i e
      unfold swFreed at hlive
      rw [if_pos e.symm, hfr] at hlive
      cases hlive
    · exact h.main hfr

/-- `tickit_term_observe_sigwinch(tt, false)` with the unlinked terminal's link reset (`sigwinchClearsNext`:
    fixes/C08_sigwinch_stale_next.patch).  From `SwPre`, so that it serves `Top.swSync` as well, where the terminal that
    leaves is the main one and has been freed; for any other terminal the main one must be in order (`h0`, from `SwOk.main`). -/
theorem swUnobserve_ok {tc : TCfg} (hc : tc.sigwinchClearsNext = true) {top : Top} (h : SwPre top) {tid : Nat}
    (h0 : tid ≠ 0 → top.st.term.freed = true → swObs top 0 = false) :
    SwStep top (swUnobserve tc top tid) ∧ (swUnobserve tc top tid).xterms = top.xterms ∧
      swObs (swUnobserve tc top tid) tid = false := by
  obtain ⟨hfail, l, inv⟩ := h
  have hl : ∀ c ∈ l, c ≠ tid → swFreed top c = false := fun c hcl hne => inv.live_of hcl fun e =>
    Bool.eq_false_iff.2 fun hfr => by
      have := (inv.mem c hcl).2
      rw [e, h0 (fun e' => hne (e.trans e'.symm)) hfr] at this
      cases this
  unfold swUnobserve
  cases ho : (swNode top tid).obs with
  | false =>
    refine ⟨⟨.intro hfail inv fun hfr => ?_, NonSw.refl top⟩, rfl, ho⟩
    by_cases ht : tid = 0
    · exact ht ▸ ho
    · exact h0 ht hfr
  | true =>
    have hm : tid ∈ l := (inv.mem_iff tid).2 ho
    obtain ⟨pre, post, rfl⟩ := List.append_of_mem hm
    have hnd := inv.nodup
    have htpre : tid ∉ pre := fun h => (List.nodup_append.1 hnd).2.2 tid h tid List.mem_cons_self rfl
    have he : (pre ++ tid :: post).erase tid = pre ++ post := by rw [List.erase_append_right _ htpre, List.erase_cons_head]
    have hmem : ∀ c, c ∈ pre ++ post ↔ c ≠ tid ∧ c ∈ pre ++ tid :: post := fun c => by rw [← he]; exact hnd.mem_erase_iff
    have hwalk := swUnlink_spec top tid post pre (swFuel top) none top.swFirst inv.chain
      (fun c hc => hl c (List.mem_append_left _ hc) fun e => htpre (e ▸ hc)) htpre
      (by have := inv.fuel; rw [List.length_append] at this; omega)
    rw [if_neg (by decide), hwalk]
    let topS := swStore top (lastPtr none pre) (swNext top tid)
    have fS : SwFrame top topS := swStore_frame ..
    dsimp only
    rw [if_neg (by rw [fS.fail, hfail]; simp)]
    have hptr : ∀ p, lastPtr none pre = some p → p < top.sw.size := fun p hp =>
      (inv.mem p (List.mem_append_left _ (lastPtr_none_mem hp))).1
    let top3 := handlerIf topS topS.swFirst.isNone false
    have f3 : SwFrame top top3 := fS.trans (handlerIf_frame ..)
    have htlt : tid < top3.sw.size := f3.swSize ▸ (inv.mem tid hm).1
    let n3 : SwNode := { swNode top3 tid with obs := false, next := if tc.sigwinchClearsNext then none else (swNode top3 tid).next }
    show SwStep top (swSetNode top3 tid n3) ∧ (swSetNode top3 tid n3).xterms = top.xterms ∧ swObs (swSetNode top3 tid n3) tid = false
    have f4 : SwFrame top (swSetNode top3 tid n3) := f3.trans (swSetNode_frame ..)
    have h4next : ∀ c, swNext (swSetNode top3 tid n3) c =
        if c = tid then none else storeNext (swNext top) (lastPtr none pre) (swNext top tid) c := fun c => by
      have hn3 : n3.next = none := if_pos hc
      rw [swNext_setNode _ htlt, hn3, swNext_of_sw (handlerIf_sw ..), swStore_next _ _ _ hptr]
    have h4obs : ∀ c, swObs (swSetNode top3 tid n3) c = if c = tid then false else swObs top c := fun c => by
      rw [swObs_setNode _ htlt, swObs_of_sw (handlerIf_sw ..), swStore_obs]
    have inv' : SwInv (swSetNode top3 tid n3) (pre ++ post) := by
      refine inv.of_frame f4 ?_ (by rw [← he]; exact hnd.erase tid) ?_ ?_ ?_
      · rw [swSetNode_first, handlerIf_first, swStore_first]
        refine (chain_unlink (first := top.swFirst) (next := swNext top) (tid := tid) post pre none inv.chain hnd
          (by intro p hp; cases hp)).congr fun c hcm => ?_
        rw [h4next, if_neg ((hmem c).1 hcm).1]
      · intro c hcm
        obtain ⟨hct, hcl⟩ := (hmem c).1 hcm
        rw [h4obs, if_neg hct]
        exact ⟨(inv.mem c hcl).1, (inv.mem c hcl).2, inv.live c hcl⟩
      · intro c hcm
        rw [h4next, h4obs]
        by_cases hct : c = tid
        · rw [if_pos hct, if_pos hct]; exact ⟨rfl, rfl⟩
        · have hcl : c ∉ pre ++ tid :: post := fun h => hcm ((hmem c).2 ⟨hct, h⟩)
          rw [if_neg hct, if_neg hct, storeNext_of_ne (c := c) _ _ _ fun p hp e => hcl (List.mem_append_left _ (e ▸ lastPtr_none_mem hp))]
          exact inv.out c hcl
      · -- the handler was installed: the list held `tid`
        have hh : top.swHandler = true := by rw [inv.handler, inv.chain.head]; cases pre <;> rfl
        rw [swSetNode_handler, swSetNode_first, handlerIf_handler, handlerIf_first, swStore_handler, hh]
        cases topS.swFirst <;> rfl
    refine ⟨⟨.intro (f4.fail.trans hfail) inv' fun hfr => ?_, f4.toNonSw⟩, f4.xterms, by rw [h4obs, if_pos rfl]⟩
    rw [f4.st] at hfr
    rw [h4obs]
    split
    · rfl
    · rename_i hne
      exact h0 (fun e => hne e.symm) hfr

theorem swSignal_ok {top : Top} (h : SwOk top) : swSignal top = top := by
  obtain ⟨l, inv, hl⟩ := h.elim
  unfold swSignal
  split
  · exact swSignal_go_spec top l _ _ inv.chain hl inv.fuel
  · rfl

/-- `tickit_term_destroy` of the main terminal has run in the lower layers: `swSync` takes the terminal off the list. -/
theorem swSync_ok {tc : TCfg} (hc : tc.sigwinchClearsNext = true) {top : Top} (h : SwPre top) : SwStep top (top.swSync tc) := by
  unfold Top.swSync
  rw [if_neg (by rw [h.1]; simp)]
  by_cases hc0 : (top.st.term.freed && (swNode top 0).obs) = true
  · rw [if_pos hc0]
    exact (swUnobserve_ok hc h fun e => absurd rfl e).1
  · rw [if_neg hc0]
    exact ⟨swOk_iff.2 ⟨h, fun hfr => Bool.eq_false_iff.2 fun ho => hc0 (by rw [hfr]; exact ho)⟩, NonSw.refl top⟩

theorem SwOk.xapp {top : Top} (h : SwOk top) (k : Nat) (x : XTerm) (hx : top.xterms[k]? = some x) (hf : x.freed = false) :
    1 ≤ x.appRefs :=
  have ⟨l, inv, _⟩ := h.elim
  inv.xapp k x hx hf

theorem SwOk.of_xterms {top : Top} (h : SwOk top) (xs : Array XTerm) (hsz : xs.size = top.xterms.size)
    (hx : ∀ (j : Nat) (x' : XTerm), xs[j]? = some x' → (x'.freed = false → 1 ≤ x'.appRefs) ∧
      (x'.freed = true → swObs top (j + 1) = false ∨ ∃ x, top.xterms[j]? = some x ∧ x.freed = true)) :
    SwOk { top with xterms := xs } := by
  refine h.map rfl id fun {l} inv => inv.of_nodes (fun _ => rfl) (Nat.le_refl _) rfl rfl (by rw [hsz]; exact inv.size) ?_
    (fun j y hy hyf => (hx j y hy).1 hyf)
  intro c hcm h0'
  have hlt : c - 1 < xs.size := by have := (inv.mem c hcm).1; have := inv.size; omega
  have hlive := inv.live c hcm h0'
  unfold swFreed at hlive ⊢
  rw [if_neg h0'] at hlive ⊢
  show ((xs[c - 1]?).map (fun (x : XTerm) => x.freed)).getD true = false
  rw [Array.getElem?_eq_getElem hlt]
  cases hfr : (xs[c - 1]'hlt).freed with
  | false => exact hfr
  | true =>
    exfalso
    rcases (hx (c - 1) _ (Array.getElem?_eq_getElem hlt)).2 hfr with ho | ⟨x, hxk, hxf⟩
    · rw [show c - 1 + 1 = c by omega, (inv.mem c hcm).2] at ho; cases ho
    · rw [hxk] at hlive
      have : x.freed = false := hlive
      rw [hxf] at this; cases this

theorem SwOk.set_xterm {top : Top} (h : SwOk top) (k : Nat) (x' : XTerm) (hlive : x'.freed = false → 1 ≤ x'.appRefs)
    (hdead : x'.freed = true → swObs top (k + 1) = false ∨ ∃ x, top.xterms[k]? = some x ∧ x.freed = true) :
    SwOk { top with xterms := top.xterms.setIfInBounds k x' } := by
  refine h.of_xterms _ (Array.size_setIfInBounds ..) fun j y hy => ?_
  rw [Array.getElem?_setIfInBounds] at hy
  split at hy
  · rename_i hk
    split at hy
    · cases hy; exact ⟨hlive, hk ▸ hdead⟩
    · cases hy
  · exact ⟨h.xapp j y hy, fun hfr => .inr ⟨y, hy, hfr⟩⟩

/-- `tickit_term_unref` of a further terminal the application holds; the last reference destroys it, and
    `tickit_term_destroy` stops the observation before anything is freed. -/
theorem xUnref_ok {tc : TCfg} (hc : tc.sigwinchClearsNext = true) {top : Top} (h : SwOk top) {k : Nat} {x : XTerm}
    (hx : top.xterms[k]? = some x) :
    SwStep top (xUnref tc top k) ∧ (xUnref tc top k).xterms = top.xterms.setIfInBounds k
      (if x.appRefs > 1 then { x with appRefs := x.appRefs - 1 } else { x with appRefs := 0, freed := true }) := by
  unfold xUnref
  rw [hx]
  dsimp only
  by_cases h1 : x.appRefs > 1
  · rw [if_pos h1, if_pos h1]
    exact ⟨⟨h.set_xterm k _ (fun _ => by show 1 ≤ x.appRefs - 1; omega) (fun hfr => .inr ⟨x, hx, hfr⟩), by nonsw_rfl⟩, rfl⟩
  · rw [if_neg h1, if_neg h1]
    obtain ⟨s, hxt, hobs⟩ := swUnobserve_ok hc h.pre (tid := k + 1) fun _ => h.main
    rw [if_neg (by rw [s.ok.fail]; simp)]
    refine ⟨⟨s.ok.set_xterm k _ (fun hfr => nomatch hfr) (fun _ => .inl hobs), s.frame.trans (by nonsw_rfl)⟩, ?_⟩
    show (swUnobserve tc top (k + 1)).xterms.setIfInBounds k _ = _
    rw [hxt]

theorem SwOk.nil_of_freed {top : Top} (h : SwOk top) (ht : top.st.term.freed = true)
    (hx : ∀ (k : Nat) (x : XTerm), top.xterms[k]? = some x → x.freed = true) :
    top.swFirst = none ∧ top.swHandler = false ∧ (swNode top 0).obs = false := by
  obtain ⟨l, inv, hlive⟩ := h.elim
  have hl : l = [] := by
    cases l with
    | nil => rfl
    | cons c r =>
      exfalso
      have hc := hlive c List.mem_cons_self
      have hlt := (inv.mem c List.mem_cons_self).1
      have hs := inv.size
      unfold swFreed at hc
      split at hc
      · rw [ht] at hc; cases hc
      · have hget : top.xterms[c - 1]? = some (top.xterms[c - 1]'(by omega)) := Array.getElem?_eq_getElem (by omega)
        rw [hget, Option.map_some, Option.getD_some, hx _ _ hget] at hc
        cases hc
  subst hl
  have hfirst : top.swFirst = none := ChainF.nil_iff.1 inv.chain
  exact ⟨hfirst, by rw [inv.handler, hfirst]; rfl, (inv.out 0 (by simp)).2⟩

theorem getD_append_replicate {α : Type} (xs : Array α) (n : Nat) (d : α) (c : Nat) :
    ((xs ++ Array.replicate n d)[c]?).getD d = (xs[c]?).getD d := by
  rw [Array.getElem?_append]
  split
  · rfl
  · rw [Array.getElem?_replicate, Array.getElem?_eq_none (xs := xs) (Nat.le_of_not_lt ‹_›)]
    split <;> rfl

theorem swOk_xnew {top : Top} (h : SwOk top) :
    SwOk { top with xterms := top.xterms.push {}, sw := top.sw ++ Array.replicate (top.xterms.size + 2 - top.sw.size) {} } := by
  refine h.map rfl id fun {l} inv => inv.of_nodes ?_ ?_ rfl rfl ?_ ?_ (by
    intro j y hy hyf
    have hy' : (top.xterms.push {})[j]? = some y := hy
    rw [Array.getElem?_push] at hy'
    split at hy'
    · cases hy'; exact Nat.le_refl 1
    · exact inv.xapp j y hy' hyf)
  · exact fun c => getD_append_replicate top.sw _ {} c
  · show top.sw.size ≤ (top.sw ++ Array.replicate (top.xterms.size + 2 - top.sw.size) ({} : SwNode)).size
    simp
  · show (top.sw ++ Array.replicate (top.xterms.size + 2 - top.sw.size) ({} : SwNode)).size = (top.xterms.push {}).size + 1
    have := inv.size
    simp
    omega
  · intro c hcm h0'
    have := inv.live c hcm h0'
    have hlt := (inv.mem c hcm).1
    have hs := inv.size
    unfold swFreed at this ⊢
    simp only [h0', if_false] at this ⊢
    show ((((top.xterms.push {})[c - 1]?).map (fun (x : XTerm) => x.freed)).getD true) = false
    rw [Array.getElem?_push_lt (by omega)]
    rw [Array.getElem?_eq_getElem (by omega)] at this
    exact this

theorem swOk_xref {top : Top} (h : SwOk top) (k : Nat) :
    SwOk { top with xterms := top.xterms.modify k (fun x => { x with appRefs := x.appRefs + 1 }) } := by
  refine h.of_xterms _ (Array.size_modify ..) (fun j y hy => ?_)
  rw [Array.getElem?_modify] at hy
  split at hy
  · cases hx : top.xterms[j]? with
    | none => rw [hx] at hy; cases hy
    | some x =>
      rw [hx] at hy; cases hy
      exact ⟨fun _ => Nat.succ_le_succ (Nat.zero_le _), fun hfr => .inr ⟨x, rfl, hfr⟩⟩
  · exact ⟨h.xapp j y hy, fun hfr => .inr ⟨y, hy, hfr⟩⟩

end Tickit.Life
