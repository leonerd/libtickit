import Tickit.Proof.WinTreeStore
/-
  What the operations of the shared window store (`Model/WinTree.lean`) come to, with no invariant assumed, so that the
  window engines need not unfold the model again.  Where proofs run the model forwards there is an equation under
  liveness of the windows read (`doHierarchyChange_eq`, `hide_child`, `insertNew_eq`, …) and the inversion of a
  successful run is derived from it (`doHierarchyChange_ok`, `newWindow_ok`); the other inversions (`expose_cases`,
  `purge_cases`, `request_cases`, `setGeometry_cases`, `close_ok`) unfold the operation here, once.
  The store itself is Proof/WinTreeStore.lean; `relist`, the first of the three pieces of `doHierarchyChange_eq`, stands
  there with the list surgery because the life engine, whose model has its own `_do_hierarchy_change`, uses it.
-/
namespace Tickit
namespace WinTree
open WinTree (Live)

/-- The trailing `if(win->is_visible) tickit_window_expose(parent, &win->rect)`. -/
def exposeIf (v : Bool) (t : Tree) (fuel : Nat) (p : Id) (r : Rect) : Res Tree :=
  if v then expose t fuel p (some r) else pure t

/-- What `_do_hierarchy_change` writes once the new child list is known: the parent's list; for REMOVE also the
    parent's focus pointer and the window's parent pointer. -/
def relink (t : Tree) (p w : Id) (pw : Win) (cs : List Id) : Change → Res Tree
  | .remove =>
    let t := set t p (unlinkParent pw w cs)
    get t w >>= fun w' => pure (set t w { w' with parent := none })
  | _ => pure (set t p { pw with children := cs })

theorem doHierarchyChange_eq (t : Tree) (fuel : Nat) (ch : Change) (p w : Id) :
    doHierarchyChange t fuel ch p w =
      (get t p >>= fun pw => get t w >>= fun ww => relist ch pw.children w >>= fun cs =>
        relink t p w pw cs ch >>= fun t1 => exposeIf ww.isVisible t1 fuel p ww.rect) := by
  unfold doHierarchyChange exposeIf
  cases get t p with
  | ub m => rfl
  | ok pw =>
    cases get t w with
    | ub m => rfl
    | ok ww =>
      cases ch with
      | insertFirst => rfl
      | insertLast => rfl
      | remove => simp only [ok_bind, relist, relink, unlinkParent, bind_assoc]
      | raise => simp only [ok_bind, relist, relink]
      | raiseFront => simp only [ok_bind, relist, relink]; cases listRemove pw.children w <;> rfl
      | lower => rfl
      | lowerBack => simp only [ok_bind, relist, relink]; cases listRemove pw.children w <;> rfl

theorem relink_root {t t1 : Tree} {p w : Id} {pw : Win} {cs : List Id} {ch : Change} (h : relink t p w pw cs ch = .ok t1) :
    t1.root = t.root := by
  cases ch with
  | remove =>
    obtain ⟨w', _, h⟩ := bind_ok_iff.1 h
    cases h; rfl
  | _ => cases h; rfl

theorem doHierarchyChange_ok {t t' : Tree} {fuel : Nat} {ch : Change} {p w : Id}
    (h : doHierarchyChange t fuel ch p w = .ok t') :
    ∃ pw ww cs t1, Live t p pw ∧ Live t w ww ∧ relist ch pw.children w = .ok cs ∧
      relink t p w pw cs ch = .ok t1 ∧
      exposeIf ww.isVisible t1 fuel p ww.rect = .ok t' := by
  rw [doHierarchyChange_eq] at h
  obtain ⟨pw, hp, h⟩ := bind_ok_iff.1 h
  obtain ⟨ww, hw, h⟩ := bind_ok_iff.1 h
  obtain ⟨cs, hc, h⟩ := bind_ok_iff.1 h
  obtain ⟨t1, h1, h⟩ := bind_ok_iff.1 h
  exact ⟨pw, ww, cs, t1, get_ok_iff.1 hp, get_ok_iff.1 hw, hc, h1, h⟩

theorem relink_restack {ch : Change} (hk : ch.isRestack = true) (t : Tree) (p w : Id) (pw : Win) (cs : List Id) :
    relink t p w pw cs ch = .ok (set t p { pw with children := cs }) := by
  cases ch <;> first | rfl | cases hk

theorem doHierarchyChange_restack {ch : Change} (hk : ch.isRestack = true) {t : Tree} {p w : Id} {pw ww : Win}
    (hp : Live t p pw) (hw : Live t w ww) (fuel : Nat) :
    doHierarchyChange t fuel ch p w =
      (relist ch pw.children w >>= fun cs => exposeIf ww.isVisible (set t p { pw with children := cs }) fuel p ww.rect) := by
  rw [doHierarchyChange_eq, hp.get, hw.get]
  simp only [ok_bind, relink_restack hk]

theorem doHierarchyChange_restack_ok {ch : Change} (hk : ch.isRestack = true) {t t' : Tree} {fuel : Nat} {p w : Id}
    (h : doHierarchyChange t fuel ch p w = .ok t') :
    ∃ pw ww cs, Live t p pw ∧ Live t w ww ∧ relist ch pw.children w = .ok cs ∧
      exposeIf ww.isVisible (set t p { pw with children := cs }) fuel p ww.rect = .ok t' := by
  obtain ⟨pw, ww, cs, t1, hp, hw, hc, h1, h⟩ := doHierarchyChange_ok h
  rw [relink_restack hk] at h1
  cases h1
  exact ⟨pw, ww, cs, hp, hw, hc, h⟩

/-- `damaged` of `tickit_window_expose`: the exposed rectangle clipped to the window (`none` = nothing to do). -/
def damagedOf (w : Win) (e : Option Rect) : Option Rect :=
  match e with
  | some e => Rect.intersect ⟨0, 0, w.rect.lines, w.rect.cols⟩ e
  | none => some ⟨0, 0, w.rect.lines, w.rect.cols⟩

/-- The rest of `tickit_window_expose` once `damaged` is known. -/
def exposeTail (t : Tree) (n : Nat) (w : Win) (damaged : Rect) : Res Tree :=
  if !w.isVisible then pure t
  else if !w.isRoot then
    match w.parent with
    | none => pure t
    | some p => expose t n p (some (damaged.translate w.rect.top w.rect.left))
  else
    match RectSet.contains rsFuel t.root.damage damaged with
    | none => .ub "rectset_contains out of fuel"
    | some true => pure t
    | some false =>
      match RectSet.add rsFuel t.root.damage damaged with
      | none => .ub "rectset_add out of fuel"
      | some d => pure { t with root := { t.root with damage := d, needsExpose := true, needsLater := true } }

theorem expose_succ (t : Tree) (n : Nat) (id : Id) (e : Option Rect) :
    expose t (n + 1) id e = (do
      let w ← get t id
      match damagedOf w e with
      | none => pure t
      | some damaged => exposeTail t n w damaged) := by
  simp only [expose, damagedOf, exposeTail]
  cases get t id with
  | ub w => rfl
  | ok w =>
    simp only [bind, Bind.bind]
    cases e with
    | none => rfl
    | some r => cases Rect.intersect ⟨0, 0, w.rect.lines, w.rect.cols⟩ r <;> rfl

/-- `tickit_window_expose` changes nothing (nothing visible to damage, or the damage is recorded already) or adds to the
    damage set and raises the two flags. -/
theorem expose_cases : ∀ (fuel : Nat) {t : Tree} {i : Id} {r : Option Rect} {t' : Tree},
    expose t fuel i r = .ok t' →
    t' = t ∨ ∃ d, t' = { t with root := { t.root with damage := d, needsExpose := true, needsLater := true } } := by
  intro fuel
  induction fuel with
  | zero => intro t i r t' h; cases h
  | succ f ih =>
    intro t i r t' h
    rw [expose_succ] at h
    obtain ⟨w, _, h⟩ := bind_ok_iff.1 h
    split at h
    · exact .inl (pure_ok_iff.1 h).symm
    · unfold exposeTail at h
      split at h
      · exact .inl (pure_ok_iff.1 h).symm
      · split at h
        · split at h
          · exact .inl (pure_ok_iff.1 h).symm
          · exact ih h
        · split at h
          · cases h
          · exact .inl (pure_ok_iff.1 h).symm
          · split at h
            · cases h
            · exact .inr ⟨_, (pure_ok_iff.1 h).symm⟩

theorem expose_wins {fuel : Nat} {t t' : Tree} {i : Id} {r : Option Rect} (h : expose t fuel i r = .ok t') :
    t'.wins = t.wins := by
  rcases expose_cases fuel h with rfl | ⟨d, rfl⟩ <;> rfl

theorem exposeIf_cases {v : Bool} {fuel : Nat} {t t' : Tree} {i : Id} {r : Rect} (h : exposeIf v t fuel i r = .ok t') :
    t' = t ∨ ∃ d, t' = { t with root := { t.root with damage := d, needsExpose := true, needsLater := true } } := by
  unfold exposeIf at h
  cases v with
  | true => exact expose_cases fuel h
  | false => exact .inl (pure_ok_iff.1 h).symm

theorem purge_cases {t t' : Tree} {fuel : Nat} {win : Id} (h : purgeHierarchyChanges t fuel win = .ok t') :
    t' = t ∨ t' = { t with root := { t.root with
      changes := t.root.changes.filter (fun r => !isWithin t fuel win r.win) } } := by
  unfold purgeHierarchyChanges at h
  obtain ⟨top, _, h⟩ := bind_ok_iff.1 h
  obtain ⟨tw, _, h⟩ := bind_ok_iff.1 h
  rcases ite_ok h with ⟨_, h⟩ | ⟨_, h⟩
  · exact .inl (pure_ok_iff.1 h).symm
  · obtain ⟨_, _, h⟩ := bind_ok_iff.1 h
    exact .inr (pure_ok_iff.1 h).symm

theorem request_cases {t t' : Tree} {fuel : Nat} {ch : Change} {win : Id}
    (h : requestHierarchyChange t fuel ch win = .ok t') :
    ∃ w, Live t win w ∧ ((w.parent = none ∧ t' = t) ∨ ∃ p, w.parent = some p ∧
      t' = { t with root := { t.root with changes := t.root.changes ++ [⟨ch, p, win⟩],
                                          needsLater := t.root.needsLater || t.root.changes.isEmpty } }) := by
  unfold requestHierarchyChange at h
  obtain ⟨w, hw, h⟩ := bind_ok_iff.1 h
  refine ⟨w, get_ok_iff.1 hw, ?_⟩
  cases hp : w.parent with
  | none => rw [hp] at h; exact .inl ⟨rfl, (pure_ok_iff.1 h).symm⟩
  | some p =>
    rw [hp] at h
    obtain ⟨_, _, h⟩ := bind_ok_iff.1 h
    exact .inr ⟨p, rfl, (pure_ok_iff.1 h).symm⟩

/-- The model reads `w` again after it has written `p`: hence `p ≠ w`. -/
theorem relink_remove {t : Tree} {p w : Id} {pw ww : Win} (hw : Live t w ww) (hne : p ≠ w) (cs : List Id) :
    relink t p w pw cs .remove = .ok (set (set t p (unlinkParent pw w cs)) w { ww with parent := none }) := by
  have : Live (set t p (unlinkParent pw w cs)) w ww := ⟨by rw [set_wins_ne _ hne]; exact hw.1, hw.2⟩
  show (get (set t p (unlinkParent pw w cs)) w >>= _) = _
  rw [this.get]; rfl

/-- `tickit_window_set_geometry` without its GEOMCHANGE event (the Boolean of the result says whether one is due). -/
theorem setGeometry_cases {t : Tree} {win : Id} {g : Rect} {x : Tree × Bool} (h : setGeometry t win g = .ok x) :
    ∃ w, Live t win w ∧ ((w.rect ≠ g ∧ x.1 = set t win { w with rect := g }) ∨ (w.rect = g ∧ x.1 = t)) := by
  unfold setGeometry at h
  obtain ⟨w, hg, h⟩ := bind_ok_iff.1 h
  refine ⟨w, get_ok_iff.1 hg, ?_⟩
  rcases ite_ok h with ⟨hne, h⟩ | ⟨he, h⟩
  · cases h; exact .inl ⟨hne, rfl⟩
  · cases h; exact .inr ⟨Classical.not_not.1 he, rfl⟩

theorem hide_orphan {t : Tree} {win : Id} {w : Win} (hw : Live t win w) (hp : w.parent = none) (fuel : Nat) :
    hide t fuel win = .ok (set t win { w with isVisible := false }) := by
  have h1 : Live (set t win { w with isVisible := false }) win { w with isVisible := false } :=
    ⟨set_wins_self hw.1 _, hw.2⟩
  unfold hide
  rw [hw.modify, ok_bind, h1.get, ok_bind]
  split
  · rename_i p' hp'; rw [show w.parent = some p' from hp'] at hp; cases hp
  · rfl

theorem hide_child {t : Tree} {win p : Id} {w : Win} (hw : Live t win w) (hp : w.parent = some p) (fuel : Nat) :
    hide t fuel win = (get (set t win { w with isVisible := false }) p >>= fun pw =>
      expose (if pw.focusedChild = some win
              then set (set t win { w with isVisible := false }) p { pw with focusedChild := none }
              else set t win { w with isVisible := false }) fuel p (some w.rect)) := by
  have h1 : Live (set t win { w with isVisible := false }) win { w with isVisible := false } :=
    ⟨set_wins_self hw.1 _, hw.2⟩
  unfold hide
  rw [hw.modify, ok_bind, h1.get, ok_bind]
  split
  · rename_i p' hp'; rw [show w.parent = some p' from hp'] at hp; cases hp; rfl
  · rename_i hp'; rw [show w.parent = none from hp'] at hp; cases hp

theorem show_child {t : Tree} {win p : Id} {w : Win} (hw : Live t win w) (hp : w.parent = some p) (fuel : Nat) :
    «show» t fuel win = (get (set t win { w with isVisible := true }) p >>= fun pw =>
      expose (if pw.focusedChild.isNone && (w.focusedChild.isSome || w.isFocused)
              then set (set t win { w with isVisible := true }) p { pw with focusedChild := some win }
              else set t win { w with isVisible := true }) fuel win none) := by
  have h1 : Live (set t win { w with isVisible := true }) win { w with isVisible := true } :=
    ⟨set_wins_self hw.1 _, hw.2⟩
  unfold «show»
  rw [hw.modify, ok_bind, h1.get, ok_bind]
  split
  · rename_i p' hp'
    rw [show w.parent = some p' from hp'] at hp; cases hp
    dsimp only
    refine congrArg (Bind.bind _) (funext fun pw => ?_)
    split <;> rfl
  · rename_i hp'; rw [show w.parent = none from hp'] at hp; cases hp

theorem show_orphan {t : Tree} {win : Id} {w : Win} (hw : Live t win w) (hp : w.parent = none) (fuel : Nat) :
    «show» t fuel win = expose (set t win { w with isVisible := true }) fuel win none := by
  have h1 : Live (set t win { w with isVisible := true }) win { w with isVisible := true } :=
    ⟨set_wins_self hw.1 _, hw.2⟩
  unfold «show»
  rw [hw.modify, ok_bind, h1.get, ok_bind]
  split
  · rename_i p' hp'; rw [show w.parent = some p' from hp'] at hp; cases hp
  · rfl

theorem close_ok {t t' : Tree} {fuel : Nat} {win : Id} (h : close t fuel win = .ok t') :
    ∃ w tc wc, Live t win w ∧ Live tc win wc ∧ t' = set tc win { wc with isClosed := true } ∧
      ((w.parent = none ∧ tc = t) ∨
       ∃ p tq, w.parent = some p ∧ purgeHierarchyChanges t fuel win = .ok tq ∧
         doHierarchyChange tq fuel .remove p win = .ok tc) := by
  unfold close at h
  obtain ⟨w, hg, h⟩ := bind_ok_iff.1 h
  cases hp : w.parent with
  | none =>
    simp only [hp] at h
    obtain ⟨wc, hwc, e⟩ := modify_ok_iff.1 h
    exact ⟨w, t, wc, get_ok_iff.1 hg, hwc, e, .inl ⟨hp, rfl⟩⟩
  | some p =>
    simp only [hp] at h
    obtain ⟨tq, hpu, h⟩ := bind_ok_iff.1 h
    obtain ⟨tc, hd, h⟩ := bind_ok_iff.1 h
    obtain ⟨wc, hwc, e⟩ := modify_ok_iff.1 h
    exact ⟨w, tc, wc, get_ok_iff.1 hg, hwc, e, .inr ⟨p, tq, hp, hpu, hd⟩⟩

/-- The three messages are the model's budgets: with no freed window on the way nothing else stops the expose. -/
theorem expose_ub {t : Tree} (hup : Upward t) : ∀ (fuel : Nat) {i : Id} {w : Win} (r : Option Rect) {m : String},
    Live t i w → expose t fuel i r = .ub m →
    m = "parent chain too long" ∨ m = "rectset_contains out of fuel" ∨ m = "rectset_add out of fuel" := by
  intro fuel
  induction fuel with
  | zero => intro i w r m _ h; cases h; exact .inl rfl
  | succ f ih =>
    intro i w r m hl h
    rw [expose_succ, hl.get, ok_bind] at h
    split at h
    · cases h
    · unfold exposeTail at h
      split at h
      · cases h
      · split at h
        · split at h
          · cases h
          · rename_i p hp
            obtain ⟨_, pw, hpw⟩ := hup i w p hl hp
            exact ih _ hpw h
        · split at h
          · cases h; exact .inr (.inl rfl)
          · cases h
          · split at h
            · cases h; exact .inr (.inr rfl)
            · cases h

theorem topOf_ok {t : Tree} (hup : Upward t) : ∀ (w : Nat) (ww : Win), Live t w ww → ∀ fuel, w < fuel →
    ∃ (top : Nat) (tw : Win), topOf t fuel w = .ok top ∧ Live t top tw ∧ tw.parent = none ∧ top ≤ w := by
  refine chain_induction hup fun w ww f hl ih => ?_
  rw [topOf, hl.get, ok_bind]
  cases hp : ww.parent with
  | none => exact ⟨w, ww, rfl, hl, hp, Nat.le_refl _⟩
  | some p =>
    obtain ⟨hlt, top, tw, h1, h2, h3, h4⟩ := ih p hp
    exact ⟨top, tw, h1, h2, h3, by omega⟩

/-- The record `tickit_window_new` pushes (`init_window` and the flags). -/
def pushedWin (parent : Id) (rect : Rect) (hidden steal : Bool) : Win :=
  { parent := some parent, rect := rect, isVisible := !hidden, stealInput := steal }

/-- The body of `tickit_window_new` after the ROOT_PARENT walk. -/
def insertNew (t : Tree) (fuel : Nat) (hidden lowest steal : Bool) (pr : Id × Rect) : Res (Tree × Id) :=
  match pr with
  | (parent, rect) => do
    let _ ← get t parent
    let id := t.wins.size
    let t := { t with wins := t.wins.push (pushedWin parent rect hidden steal) }
    let t ← doHierarchyChange t fuel (if lowest then .insertLast else .insertFirst) parent id
    pure (t, id)

theorem newWindow_eq (t : Tree) (f : Nat) (p : Id) (r : Rect) (rp hid low st : Bool) :
    newWindow t f p r rp hid low st =
      if rp then (newWindow.climb t f p r >>= insertNew t f hid low st) else insertNew t f hid low st (p, r) := by
  unfold newWindow insertNew
  cases rp <;> rfl

theorem insertNew_eq {t : Tree} {p : Id} {pw : Win} (hp : Live t p pw) (fuel : Nat) (r : Rect) (hid low st : Bool) :
    insertNew t fuel hid low st (p, r) =
      (exposeIf (!hid) (set { t with wins := t.wins.push (pushedWin p r hid st) } p
          { pw with children := inserted low pw.children t.wins.size }) fuel p r >>= fun t' => pure (t', t.wins.size)) := by
  have hp1 : Live ({ t with wins := t.wins.push (pushedWin p r hid st) } : Tree) p pw :=
    ⟨by rw [push_wins, if_neg (Nat.ne_of_lt hp.lt)]; exact hp.1, hp.2⟩
  have hn1 : Live ({ t with wins := t.wins.push (pushedWin p r hid st) } : Tree) t.wins.size (pushedWin p r hid st) :=
    ⟨by rw [push_wins, if_pos rfl], rfl⟩
  show (get t p >>= fun _ => doHierarchyChange ({ t with wins := t.wins.push (pushedWin p r hid st) } : Tree) fuel
    (if low then .insertLast else .insertFirst) p t.wins.size >>= fun t' => pure (t', t.wins.size)) = _
  rw [hp.get, ok_bind, doHierarchyChange_eq, hp1.get, hn1.get]
  cases low <;> rfl

/-- `p` is the given parent or, with ROOT_PARENT, the top of its chain. -/
theorem newWindow_ok {t t' : Tree} {fuel : Nat} {parent id : Id} {rect : Rect} {rp hid low st : Bool}
    (h : newWindow t fuel parent rect rp hid low st = .ok (t', id)) :
    id = t.wins.size ∧ ∃ (p : Id) (r : Rect) (pw : Win), Live t p pw ∧ (rp = false → p = parent ∧ r = rect) ∧
      exposeIf (!hid) (set { t with wins := t.wins.push (pushedWin p r hid st) } p
        { pw with children := inserted low pw.children t.wins.size }) fuel p r = .ok t' := by
  rw [newWindow_eq] at h
  have body : ∀ (pr : Id × Rect), insertNew t fuel hid low st pr = .ok (t', id) →
      id = t.wins.size ∧ ∃ pw, Live t pr.1 pw ∧
        exposeIf (!hid) (set { t with wins := t.wins.push (pushedWin pr.1 pr.2 hid st) } pr.1
          { pw with children := inserted low pw.children t.wins.size }) fuel pr.1 pr.2 = .ok t' := by
    intro ⟨p, r⟩ hb
    have hb0 := hb
    obtain ⟨pw, hg, _⟩ := bind_ok_iff.1 (show (get t p >>= fun _ => _) = _ from hb0)
    rw [insertNew_eq (get_ok_iff.1 hg)] at hb
    obtain ⟨t1, h1, h2⟩ := bind_ok_iff.1 hb
    cases h2
    exact ⟨rfl, pw, get_ok_iff.1 hg, h1⟩
  cases rp with
  | true =>
    obtain ⟨pr, _, hb⟩ := bind_ok_iff.1 h
    obtain ⟨e, pw, hp, hx⟩ := body pr hb
    exact ⟨e, pr.1, pr.2, pw, hp, nofun, hx⟩
  | false =>
    obtain ⟨e, pw, hp, hx⟩ := body (parent, rect) h
    exact ⟨e, parent, rect, pw, hp, fun _ => ⟨rfl, rfl⟩, hx⟩

theorem climb_ok {t : Tree} (hup : Upward t) : ∀ (p : Nat) (pw : Win), Live t p pw → ∀ f, p < f → ∀ r,
    ∃ pr, newWindow.climb t f p r = .ok pr ∧ ∃ w, Live t pr.1 w := by
  refine chain_induction hup fun p pw f hl ih r => ?_
  rw [newWindow.climb, hl.get, ok_bind]
  cases hpp : pw.parent with
  | none => exact ⟨_, rfl, pw, hl⟩
  | some pp => exact (ih pp hpp).2 _

end WinTree
end Tickit
