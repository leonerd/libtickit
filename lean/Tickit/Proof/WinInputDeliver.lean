import Tickit.Proof.WinInputDInv
/-
  Delivery under mutation (C14), the walks: `_handle_key` and `_handle_mouse` followed phase by phase with the invariant `DInv`
  and the algebra of phases of Proof/WinInputDInv.lean; each phase lemma says, at its decision point, that the present store
  and `t0` decide alike outside `A`.  `DInv` is a dispatch invariant in the sense of Proof/WinInputSafe.lean, so `on_term_mouse`,
  with all the dispatches it makes for one event, keeps it.
-/
namespace Tickit
namespace WinInput
open WinTree

theorem visitList_inA {A : Aff} {g : WinTree.Id → Option (List WinTree.Id)} {cs vs : List WinTree.Id}
    (hg : ∀ c ∈ cs, ∀ l, g c = some l → InA A l) (hv : visitList g cs = some vs) : InA A vs := by
  intro x hx
  obtain ⟨c, hc, l, hl, hxl⟩ := visitList_mem hv hx
  exact hg c hc l hl x hxl

theorem stealVisits_inA {A : Aff} {t0 : Tree} {g : WinTree.Id → Option (List WinTree.Id)}
    (hg : ∀ c vs, A c = true → g c = some vs → InA A vs) {w0 : Win} {vs : List WinTree.Id}
    (hh : ∀ fc, w0.children.head? = some fc → A fc = true ∨ stealAt t0 fc = false)
    (hv : stealVisits t0 g w0 = some vs) : InA A vs := by
  unfold stealVisits at hv
  split at hv
  · rename_i fc hc
    split at hv
    · rename_i hs
      rcases hh fc hc with h | h
      · exact hg fc vs h hv
      · rw [h] at hs; cases hs
    · exact InA.of_some_nil hv
  · exact InA.of_some_nil hv

theorem focusVisits_inA {A : Aff} {g : WinTree.Id → Option (List WinTree.Id)}
    (hg : ∀ c vs, A c = true → g c = some vs → InA A vs) {w0 : Win} {vs : List WinTree.Id}
    (hh : ∀ fc, w0.focusedChild = some fc → A fc = true) (hv : focusVisits g w0 = some vs) : InA A vs := by
  unfold focusVisits at hv
  split at hv
  · rename_i fc hc; exact hg fc vs (hh fc hc) hv
  · exact InA.of_some_nil hv

theorem restVisits_inA {A : Aff} {g : WinTree.Id → Option (List WinTree.Id)}
    (hg : ∀ c vs, A c = true → g c = some vs → InA A vs) {w0 : Win} {vs : List WinTree.Id}
    (hh : ∀ c ∈ w0.children, A c = true) (hv : restVisits g w0 = some vs) : InA A vs := by
  refine visitList_inA (fun ch hch l hl => ?_) hv
  split at hl
  · exact InA.of_some_nil hl
  · exact hg ch l (hh ch hch) hl

theorem keyVisits_in {A : Aff} {t0 : Tree} (hb : Base A t0) : ∀ (F : Nat) (win : WinTree.Id) (vs : List WinTree.Id),
    A win = true → keyVisits t0 F win = some vs → InA A vs := by
  intro F
  induction F with
  | zero => intro win vs _ hv; cases hv
  | succ F ih =>
    intro win vs hA hv
    cases hw : t0.wins[win]? with
    | none => unfold keyVisits at hv; simp only [hw] at hv; exact InA.of_some_nil hv
    | some w0 =>
      cases hvis : visibleChain t0 (treeFuel t0) win with
      | false => cases keyVisits_hidden hvis hv; exact InA.nil A
      | true =>
        obtain ⟨_, hw', hf0, _⟩ := visibleChain_alive hvis
        rw [hw] at hw'; cases hw'
        obtain ⟨F', a, b, c, e, ha, hb', hc, rfl⟩ := keyVisits_shown hw hvis hv
        cases e
        have hkid : ∀ c ∈ w0.children, A c = true := hb.down win w0 hA hw
        exact ((InA.append (stealVisits_inA ih (fun fc hh => Or.inl (hkid fc (List.mem_of_mem_head? hh))) ha)
          (focusVisits_inA ih (fun fc hh => hkid fc (hb.inv.focus win fc w0 hw hf0 hh)) hb')).append
          (fun x hx => by cases List.mem_singleton.1 hx; exact hA)).append (restVisits_inA ih hkid hc)

/-- What the walk proves of a dispatch to `win`: a phase against the whole reference order below `win` in `t0`. -/
def KeyRecSim (A : Aff) (t0 : Tree) (rec : KeyRec) : Prop :=
  ∀ (st : St) (win : WinTree.Id) (ev : Ev) (held : List WinTree.Id) (st' : St) (d : Bool), DInv A t0 held st →
    Alive st.tree win → rec st win ev = Out.ok (st', d) →
    PhaseOK A t0 held st st' d win (fun F vs => keyVisits t0 F win = some vs)

theorem keySteal_sim {A : Aff} {t0 : Tree} (hb : Base A t0) {rec : KeyRec} (hrec : KeyRecSim A t0 rec) {st st' : St}
    {win : WinTree.Id} {ev : Ev} {held : List WinTree.Id} {d : Bool} {w0 : Win} (h : DInv A t0 held st)
    (hal : Alive st.tree win) (hw0 : t0.wins[win]? = some w0) (hr : keySteal rec st win ev = Out.ok (st', d)) :
    PhaseOK A t0 held st st' d win (fun F vs => stealVisits t0 (keyVisits t0 F) w0 = some vs) := by
  obtain ⟨w, hg, hw, hf⟩ := hal.get
  unfold keySteal at hr
  simp only [hg, lift_ok, out_bind_ok] at hr
  -- the front-most child of the reference is the present one, or a window of `A` that went: then nobody behind it steals
  have front : A win = false → w0.children.head? = w.children.head? ∨
      ∃ a, w0.children.head? = some a ∧ A a = true ∧ ∀ c ∈ w.children, A c = false → stealAt t0 c = false := by
    intro hA
    have rel := h.sim.rel hA hw0 hw
    rcases rel.kids.head with e | ⟨a, rest0, e, ha, hsub⟩
    · exact Or.inl e
    · exact Or.inr ⟨a, by rw [e]; rfl, ha, fun c hc hAc =>
        hb.stealFront win w0 a rest0 hA hw0 (by rw [← rel.freed]; exact hf) e ha c (hsub c hc) hAc⟩
  cases hh : w.children.head? with
  | none =>
    simp only [hh] at hr; cases hr
    refine PhaseOK.skip h fun hA F vs hv => stealVisits_inA (keyVisits_in hb _) (fun fc hfc => ?_) hv
    rcases front hA with e | ⟨a, e, ha, _⟩
    · rw [e, hh] at hfc; cases hfc
    · rw [e] at hfc; cases hfc; exact Or.inl ha
  | some fc =>
    simp only [hh] at hr
    obtain ⟨fw, hfw, hr⟩ := lift_bind_eq_ok.1 hr
    obtain ⟨hfww, hfwf⟩ := WinTree.get_ok_iff.1 hfw
    have hfcm : fc ∈ w.children := List.mem_of_mem_head? hh
    have inA : A win = false → (A fc = true ∨ fw.stealInput = false) → ∀ F vs,
        stealVisits t0 (keyVisits t0 F) w0 = some vs → InA A vs := by
      intro hA hc F vs hv
      refine stealVisits_inA (keyVisits_in hb _) (fun fc0 hfc0 => ?_) hv
      rcases front hA with e | ⟨a, e, ha, _⟩
      · rw [e, hh] at hfc0; cases hfc0
        cases hAf : A fc with
        | true => exact Or.inl rfl
        | false =>
          exact Or.inr (by rw [stealAt_sim h.sim hAf hfww]; exact hc.resolve_left (fun h' => by rw [hAf] at h'; cases h'))
      · rw [e] at hfc0; cases hfc0; exact Or.inl ha
    cases hst : fw.stealInput with
    | false =>
      simp only [hst, Bool.false_eq_true, if_false] at hr; cases hr
      exact PhaseOK.skip h fun hA => inA hA (Or.inr hst)
    | true =>
      simp only [hst, if_true] at hr
      refine (hrec st fc ev held st' d h ⟨fw, hfww, hfwf⟩ hr).below (fun hA => h.sim.down win w hA hw fc hfcm)
        (fun hA hAf => inA hA (Or.inl hAf)) ?_
      intro hA hAf F vs hv
      have hs0 : stealAt t0 fc = true := by rw [stealAt_sim h.sim hAf hfww]; exact hst
      rcases front hA with e | ⟨a, e, ha, hns⟩
      · unfold stealVisits at hv
        rw [e, hh] at hv
        simpa only [hs0, if_true] using hv
      · rw [hns fc hfcm hAf] at hs0; cases hs0

theorem keyFocus_sim {A : Aff} {t0 : Tree} (hb : Base A t0) {rec : KeyRec} (hrec : KeyRecSim A t0 rec) {st st' : St}
    {win : WinTree.Id} {ev : Ev} {held : List WinTree.Id} {d : Bool} {w0 : Win} (h : DInv A t0 held st)
    (hal : Alive st.tree win) (hw0 : t0.wins[win]? = some w0) (hr : keyFocus rec st win ev = Out.ok (st', d)) :
    PhaseOK A t0 held st st' d win (fun F vs => focusVisits (keyVisits t0 F) w0 = some vs) := by
  obtain ⟨w, hg, hw, hf⟩ := hal.get
  unfold keyFocus at hr
  simp only [hg, lift_ok, out_bind_ok] at hr
  -- the focus pointer of the reference is the present one, or both point into `A`
  have inA : A win = false → (∀ fc, w.focusedChild = some fc → A fc = true) → ∀ F vs,
      focusVisits (keyVisits t0 F) w0 = some vs → InA A vs := by
    intro hA hc F vs hv
    refine focusVisits_inA (keyVisits_in hb _) (fun fc0 h0 => ?_) hv
    rcases (h.sim.rel hA hw0 hw).fc with e | ⟨_, q⟩
    · exact hc fc0 (e ▸ h0)
    · exact q fc0 h0
  cases hfc : w.focusedChild with
  | none =>
    simp only [hfc] at hr; cases hr
    exact PhaseOK.skip h fun hA => inA hA (fun fc h' => by rw [hfc] at h'; cases h')
  | some fc =>
    simp only [hfc] at hr
    have hfcm := h.ainv.tree.focus win fc w hw hf hfc
    obtain ⟨fw, hfww, hfwf, _⟩ := h.ainv.tree.child win fc w hw hf hfcm
    refine (hrec st fc ev held st' d h ⟨fw, hfww, hfwf⟩ hr).below (fun hA => h.sim.down win w hA hw fc hfcm)
      (fun hA hAf => inA hA (fun fc' h' => by rw [hfc] at h'; cases h'; exact hAf)) ?_
    intro hA hAf F vs hv
    unfold focusVisits at hv
    rwa [((h.sim.rel hA hw0 hw).fc.iff hAf).1 hfc] at hv

theorem keyOwn_sim {A : Aff} {t0 : Tree} (hb : Base A t0) {st st' : St} {win : WinTree.Id} {ev : Ev}
    {held : List WinTree.Id} {d : Bool} (h : DInv A t0 held st)
    (hvis0 : A win = false → visibleChain t0 (treeFuel t0) win = true)
    (hr : keyOwn Cfg.repaired st win ev = Out.ok (st', d)) :
    PhaseOK A t0 held st st' d win (fun _ vs => vs = [win]) := by
  unfold keyOwn ownVisible at hr
  simp only [Cfg.repaired, if_true] at hr
  obtain ⟨own, hown, hr⟩ := lift_bind_eq_ok.1 hr
  cases own with
  | true =>
    obtain ⟨d1, o1⟩ := h.handlers hb.inv (lift_eq_ok.1 hr)
    exact PhaseOK.own d1 o1
  | false =>
    cases hr
    exact PhaseOK.skip h fun hA => by have := isShown_sim hb h.sim hA hown; rw [hvis0 hA] at this; cases this

theorem keySnap_cons (rec : KeyRec) (st : St) (win c : WinTree.Id) (rest : List WinTree.Id) (ev : Ev) :
    keySnap rec st win (c :: rest) ev = (do
      let cw ← WinTree.get st.tree c
      if cw.parent ≠ some win then keySnap rec st win rest ev else
      let w ← WinTree.get st.tree win
      if w.focusedChild = some c then keySnap rec st win rest ev else
      firstClaim (rec st c ev) fun st => keySnap rec st win rest ev) := by
  rw [keySnap]; rfl

/-- The children loop over a snapshot `cs` that is the list `cs0` of the initial store up to `A`: below a window
    outside `A`, part of its children list; below a window of `A`, all of `cs` is in `A`. -/
theorem keySnap_sim {A : Aff} {t0 : Tree} (hb : Base A t0) {rec : KeyRec} (hrec : KeyRecSim A t0 rec) {win : WinTree.Id}
    {ev : Ev} {held : List WinTree.Id} {w0 : Win} (hw0 : A win = false → t0.wins[win]? = some w0 ∧ w0.freed = false)
    {cs cs0 : List WinTree.Id} (hk : Kids A cs cs0) : (A win = true → InA A cs) →
    (A win = false → ∀ c ∈ cs0, c ∈ w0.children) →
    ∀ (st st' : St) (d : Bool), DInv A t0 held st → keySnap rec st win cs ev = Out.ok (st', d) →
    PhaseOK A t0 held st st' d win (fun F vs =>
      visitList (fun c => if w0.focusedChild = some c then some [] else keyVisits t0 F c) cs0 = some vs) := by
  have refA : ∀ x, A x = true → ∀ F a,
      (if w0.focusedChild = some x then some [] else keyVisits t0 F x) = some a → InA A a := by
    intro x hAx F a ha
    split at ha
    · exact InA.of_some_nil ha
    · exact keyVisits_in hb F x a hAx ha
  induction hk with
  | nil =>
    intro _ _ st st' d h hr
    cases hr
    exact PhaseOK.skip h fun _ F vs hv => by cases hv; exact InA.nil A
  | @drop a cs' cs0' ha _ ih =>
    intro hin hsub st st' d h hr
    exact ((PhaseOK.skip (d := false) h fun _ F l hl => refA a ha F l hl).seq
      (ih hin (fun hA c hc => hsub hA c (List.mem_cons_of_mem _ hc)) st st' d h hr)).mono
      fun _ F vs hv => ⟨F, visitList_cons_some hv⟩
  | @keep x cs' cs0' _ ih =>
    intro hin hsub st st' d h hr
    have hin' : A win = true → InA A cs' := fun hA c hc => hin hA c (List.mem_cons_of_mem _ hc)
    have hsub' : A win = false → ∀ c ∈ cs0', c ∈ w0.children := fun hA c hc => hsub hA c (List.mem_cons_of_mem _ hc)
    rw [keySnap_cons] at hr
    obtain ⟨cw, hcw, hr⟩ := lift_bind_eq_ok.1 hr
    obtain ⟨hcww, hcwf⟩ := WinTree.get_ok_iff.1 hcw
    -- a child outside `A` is still a child, and is the focused one now iff it was
    have out : A win = false → A x = false → cw.parent = some win ∧
        ∀ w, WinTree.get st.tree win = Res.ok w → (w.focusedChild = some x ↔ w0.focusedChild = some x) := by
      intro hA hAx
      obtain ⟨hw0', hf0⟩ := hw0 hA
      obtain ⟨xw0, hxw0, _, hxp0⟩ := hb.inv.child win x w0 hw0' hf0 (hsub hA x (List.mem_cons_self ..))
      exact ⟨by rw [(h.sim.rel hAx hxw0 hcww).parent]; exact hxp0,
        fun w hw => (h.sim.rel hA hw0' (WinTree.get_ok_iff.1 hw).1).fc.iff hAx⟩
    -- the child is passed over: the reference order passes over it too, unless it is in `A`
    have pass : (cw.parent ≠ some win ∨ ∃ w, WinTree.get st.tree win = Res.ok w ∧ w.focusedChild = some x) →
        keySnap rec st win cs' ev = Out.ok (st', d) → PhaseOK A t0 held st st' d win (fun F vs =>
          visitList (fun c => if w0.focusedChild = some c then some [] else keyVisits t0 F c) (x :: cs0') = some vs) := by
      intro hs hr'
      refine ((PhaseOK.skip (d := false) h fun hA F l hl => ?_).seq (ih hin' hsub' st st' d h hr')).mono
        fun _ F vs hv => ⟨F, visitList_cons_some hv⟩
      cases hAx : A x with
      | true => exact refA x hAx F l hl
      | false =>
        obtain ⟨hp, hfc⟩ := out hA hAx
        rcases hs with hs | ⟨w, hw, hs⟩
        · exact absurd hp hs
        · rw [if_pos ((hfc w hw).1 hs)] at hl; exact InA.of_some_nil hl
    by_cases hpar : cw.parent ≠ some win
    · rw [if_pos hpar] at hr; exact pass (Or.inl hpar) hr
    · rw [if_neg hpar] at hr
      obtain ⟨w, hw, hr⟩ := lift_bind_eq_ok.1 hr
      by_cases hfc : w.focusedChild = some x
      · rw [if_pos hfc] at hr; exact pass (Or.inr ⟨w, hw, hfc⟩) hr
      · rw [if_neg hfc] at hr
        refine (PhaseOK.firstClaim hr
          (fun st1 d1 e => (hrec st x ev held st1 d1 h ⟨cw, hcww, hcwf⟩ e).below
            (fun hA => hin hA x (List.mem_cons_self ..)) (fun _ hAx F l hl => refA x hAx F l hl) ?_)
          (fun st1 g1 e => ih hin' hsub' st1 st' d g1 e)).mono fun _ F vs hv => ⟨F, visitList_cons_some hv⟩
        intro hA hAx F l hl
        rw [if_neg (fun hh => hfc (((out hA hAx).2 w hw).2 hh))] at hl; exact hl

theorem keyChildren_sim {A : Aff} {t0 : Tree} (hb : Base A t0) {rec : KeyRec} (hrec : KeyRecSim A t0 rec) {fuel : Nat}
    {st st' : St} {win : WinTree.Id} {ev : Ev} {held : List WinTree.Id} {d : Bool} {w0 : Win} (h : DInv A t0 held st)
    (hal : Alive st.tree win) (hw0 : t0.wins[win]? = some w0)
    (hr : keyChildren Cfg.repaired rec fuel st win ev = Out.ok (st', d)) :
    PhaseOK A t0 held st st' d win (fun F vs => restVisits (keyVisits t0 F) w0 = some vs) := by
  obtain ⟨w, hg, hw, hf⟩ := hal.get
  obtain ⟨st4, st5, h4, h5, h6⟩ := keyChildren_ok hg hr
  obtain ⟨g4, o4⟩ := DInv.refAll _ _ _ _ h h4
  -- the snapshot is the children list: that of the initial store up to `A`, or all in `A`
  have p5 : PhaseOK A t0 (w.children.reverse ++ held) st4 st5 d win
      (fun F vs => restVisits (keyVisits t0 F) w0 = some vs) := by
    cases hA : A win with
    | true =>
      exact (keySnap_sim hb hrec (w0 := w0) (aff_absurd hA) (Kids.refl A w.children)
        (fun _ => h.sim.down win w hA hw) (aff_absurd hA) st4 st5 d g4 h5).mono
        (aff_absurd hA)
    | false =>
      have rel := h.sim.rel hA hw0 hw
      exact keySnap_sim hb hrec (fun _ => ⟨hw0, by rw [← rel.freed]; exact hf⟩) rel.kids
        (fun hn => aff_absurd hn hA) (fun _ c hc => hc) st4 st5 d g4 h5
  exact p5.wrap o4 (DInv.unrefAll _ _ _ _ (p5.inv.perm ((List.reverse_perm _).append_right held)) h6)

theorem handleKeyBody_sim {A : Aff} {t0 : Tree} (hb : Base A t0) {rec : KeyRec} (hrec : KeyRecSim A t0 rec) (fuel : Nat) :
    KeyRecSim A t0 (handleKeyBody Cfg.repaired rec fuel) := by
  intro st win ev held st' d h hal hr
  obtain ⟨vis, hvis, hc⟩ := handleKeyBody_ok hr
  obtain ⟨w, hg, hw, hf⟩ := hal.get
  obtain ⟨w0, hw0⟩ := getElem?_of_size_eq h.sim.size hw
  have hvc0 : A win = false → visibleChain t0 (treeFuel t0) win = vis := fun hA => isShown_sim hb h.sim hA hvis
  rcases hc with ⟨rfl, rfl, rfl⟩ | ⟨rfl, st1, st5, h1, h5, hu⟩
  · exact PhaseOK.skip h fun hA F vs hv => by cases keyVisits_hidden (hvc0 hA) hv; exact InA.nil A
  · obtain ⟨g1, o1⟩ := h.ref h1
    have alive : ∀ s, DInv A t0 (win :: held) s → Alive s.tree win :=
      fun s g => g.ainv.held win (List.mem_cons_self ..)
    -- the four phases of the `goto done` chain, against the four parts of the reference order
    have p5 := PhaseOK.firstClaim h5 (fun _ _ e => keySteal_sim hb hrec g1 (alive _ g1) hw0 e) fun _ gA eA =>
      PhaseOK.firstClaim eA (fun _ _ e => keyFocus_sim hb hrec gA (alive _ gA) hw0 e) fun _ gB eB =>
      PhaseOK.firstClaim eB (fun _ _ e => keyOwn_sim hb gB hvc0 e) fun _ gC eC =>
      keyChildren_sim hb hrec gC (alive _ gC) hw0 eC
    refine (p5.wrap o1 (p5.inv.release hu)).mono fun hA F vs hv => ?_
    obtain ⟨F', a, b, c, rfl, ha, hb', hc, rfl⟩ := keyVisits_shown hw0 (hvc0 hA) hv
    exact ⟨F', a, b ++ ([win] ++ c), ha, ⟨b, [win] ++ c, hb', ⟨[win], c, rfl, hc, rfl⟩, rfl⟩, by simp⟩

theorem handleKey_sim {A : Aff} {t0 : Tree} (hb : Base A t0) : ∀ (f : Nat), KeyRecSim A t0 (handleKey Cfg.repaired f) := by
  intro f
  induction f with
  | zero => intro st win ev held st' d _ _ hr; cases hr
  | succ f ih => exact handleKeyBody_sim hb ih f

/-- The windows of a reference order for the mouse, which lists each window with the event in its coordinates. -/
def winsOf (o : Option (List (WinTree.Id × Ev))) (vs : List WinTree.Id) : Prop := ∃ l, o = some l ∧ vs = l.map (·.1)

theorem winsOf_nil {A : Aff} {vs : List WinTree.Id} (h : winsOf (some []) vs) : InA A vs := by
  obtain ⟨l, e, rfl⟩ := h
  cases e; exact InA.nil A

theorem winsOf_cons {g : WinTree.Id → Option (List (WinTree.Id × Ev))} {c : WinTree.Id} {cs vs : List WinTree.Id}
    (h : winsOf (visitList g (c :: cs)) vs) : ∃ a b, winsOf (g c) a ∧ winsOf (visitList g cs) b ∧ vs = a ++ b := by
  obtain ⟨l, hl, rfl⟩ := h
  obtain ⟨a, b, ha, hb, rfl⟩ := visitList_cons_some hl
  exact ⟨_, _, ⟨a, ha, rfl⟩, ⟨b, hb, rfl⟩, List.map_append⟩

theorem childVisits_inA {A : Aff} {t0 : Tree} {g : WinTree.Id → Ev → Option (List (WinTree.Id × Ev))}
    (hg : ∀ c e vs, A c = true → winsOf (g c e) vs → InA A vs) {ev : Ev} {c : WinTree.Id} {vs : List WinTree.Id}
    (hc : A c = true) (hv : winsOf (childVisits t0 g ev c) vs) : InA A vs := by
  unfold childVisits at hv
  split at hv
  · split at hv
    · exact hg c _ vs hc hv
    · exact winsOf_nil hv
  · exact winsOf_nil hv

theorem mouseVisits_in {A : Aff} {t0 : Tree} (hb : Base A t0) : ∀ (F : Nat) (win : WinTree.Id) (ev : Ev)
    (vs : List WinTree.Id), A win = true → winsOf (mouseVisits t0 F win ev) vs → InA A vs := by
  intro F
  induction F with
  | zero => intro win ev vs _ ⟨_, hv, _⟩; cases hv
  | succ F ih =>
    intro win ev vs hA ⟨l, hv, e⟩
    subst e
    cases hw : t0.wins[win]? with
    | none => unfold mouseVisits at hv; simp only [hw] at hv; cases hv; exact InA.nil A
    | some w0 =>
      cases hvis : visibleChain t0 (treeFuel t0) win with
      | false => cases mouseVisits_hidden hvis hv; exact InA.nil A
      | true =>
        obtain ⟨F', below, e, hbel, rfl⟩ := mouseVisits_shown hw hvis hv
        cases e
        rw [List.map_append]
        refine InA.append (fun y hy => ?_) (fun y hy => by cases List.mem_singleton.1 hy; exact hA)
        obtain ⟨p, hp, rfl⟩ := List.mem_map.1 hy
        obtain ⟨c, hc, lc, hlc, hpl⟩ := visitList_mem hbel hp
        exact childVisits_inA ih (hb.down win w0 hA hw c hc) ⟨lc, hlc, rfl⟩ _ (List.mem_map_of_mem hpl)

/-- The window that took the event is returned with a counted reference (`heldR`); the event counts as claimed then. -/
def MouseRecSim (A : Aff) (t0 : Tree) (rec : MouseRec) : Prop :=
  ∀ (st : St) (win : WinTree.Id) (ev : Ev) (held : List WinTree.Id) (st' : St) (r : Option WinTree.Id),
    DInv A t0 held st → Alive st.tree win → rec st win ev = Out.ok (st', r) →
    PhaseOK A t0 (heldR r held) st st' r.isSome win (fun F vs => winsOf (mouseVisits t0 F win ev) vs)

/-- The mouse counterpart of `PhaseOK.firstClaim`: a hit ends the phase. -/
theorem PhaseOK.firstHit {A : Aff} {t0 : Tree} {held : List WinTree.Id} {st st1 st2 : St} {r1 r2 : Option WinTree.Id}
    {win : WinTree.Id} {ref1 ref2 : Nat → List WinTree.Id → Prop} {k : St → Out (St × Option WinTree.Id)}
    (hk : (match r1 with
      | some h => pure (st1, some h)
      | none => k st1) = Out.ok (st2, r2))
    (p1 : PhaseOK A t0 (heldR r1 held) st st1 r1.isSome win ref1)
    (p2 : DInv A t0 held st1 → k st1 = Out.ok (st2, r2) → PhaseOK A t0 (heldR r2 held) st1 st2 r2.isSome win ref2) :
    PhaseOK A t0 (heldR r2 held) st st2 r2.isSome win (RefSeq ref1 ref2) := by
  cases r1 with
  | some h => cases hk; exact p1.claimed
  | none => exact p1.seq (p2 p1.inv hk)

theorem mouseSnap_sim {A : Aff} {t0 : Tree} (hb : Base A t0) {rec : MouseRec} (hrec : MouseRecSim A t0 rec) {win : WinTree.Id}
    {ev : Ev} {held : List WinTree.Id} {w0 : Win} (hw0 : A win = false → t0.wins[win]? = some w0 ∧ w0.freed = false)
    {cs cs0 : List WinTree.Id} (hk : Kids A cs cs0) : (A win = true → InA A cs) →
    (A win = false → ∀ c ∈ cs0, c ∈ w0.children) →
    ∀ (st st' : St) (r : Option WinTree.Id), DInv A t0 held st → mouseSnap rec st win cs ev = Out.ok (st', r) →
    PhaseOK A t0 (heldR r held) st st' r.isSome win (fun F vs =>
      winsOf (visitList (childVisits t0 (mouseVisits t0 F) ev) cs0) vs) := by
  have refA : ∀ x, A x = true → ∀ F a, winsOf (childVisits t0 (mouseVisits t0 F) ev x) a → InA A a :=
    fun x hAx F a ha => childVisits_inA (mouseVisits_in hb F) hAx ha
  induction hk with
  | nil =>
    intro _ _ st st' r h hr
    cases hr
    exact PhaseOK.skip h fun _ F vs hv => winsOf_nil hv
  | @drop a cs' cs0' ha _ ih =>
    intro hin hsub st st' r h hr
    exact ((PhaseOK.skip (d := false) h fun _ F l hl => refA a ha F l hl).seq
      (ih hin (fun hA c hc => hsub hA c (List.mem_cons_of_mem _ hc)) st st' r h hr)).mono
      fun _ F vs hv => ⟨F, winsOf_cons hv⟩
  | @keep x cs' cs0' _ ih =>
    intro hin hsub st st' r h hr
    have hin' : A win = true → InA A cs' := fun hA c hc => hin hA c (List.mem_cons_of_mem _ hc)
    have hsub' : A win = false → ∀ c ∈ cs0', c ∈ w0.children := fun hA c hc => hsub hA c (List.mem_cons_of_mem _ hc)
    rw [mouseSnap] at hr
    obtain ⟨cw, hcw, hr⟩ := lift_bind_eq_ok.1 hr
    obtain ⟨hcww, hcwf⟩ := WinTree.get_ok_iff.1 hcw
    -- a child outside `A` is still a child, with the rectangle and the steal flag it had: the reference order passes
    -- over it exactly when the loop does
    have out : A win = false → A x = false → cw.parent = some win ∧ ∀ F, childVisits t0 (mouseVisits t0 F) ev x =
        if (!cw.stealInput && outsideChild cw ev.line ev.col) = true then some [] else mouseVisits t0 F x (ev.toChild cw) := by
      intro hA hAx
      obtain ⟨hw0', hf0⟩ := hw0 hA
      obtain ⟨xw0, hxw0, _, hxp0⟩ := hb.inv.child win x w0 hw0' hf0 (hsub hA x (List.mem_cons_self ..))
      have xrel := h.sim.rel hAx hxw0 hcww
      refine ⟨by rw [xrel.parent]; exact hxp0, fun F => ?_⟩
      rw [childVisits_eq hxw0, xrel.steal, show outsideChild cw ev.line ev.col = outsideChild xw0 ev.line ev.col by
        unfold outsideChild; rw [xrel.rect], show ev.toChild cw = ev.toChild xw0 by unfold Ev.toChild; rw [xrel.rect]]
    have pass : (cw.parent ≠ some win ∨ (!cw.stealInput && outsideChild cw ev.line ev.col) = true) →
        mouseSnap rec st win cs' ev = Out.ok (st', r) → PhaseOK A t0 (heldR r held) st st' r.isSome win (fun F vs =>
          winsOf (visitList (childVisits t0 (mouseVisits t0 F) ev) (x :: cs0')) vs) := by
      intro hs hr'
      refine ((PhaseOK.skip (d := false) h fun hA F l hl => ?_).seq (ih hin' hsub' st st' r h hr')).mono
        fun _ F vs hv => ⟨F, winsOf_cons hv⟩
      cases hAx : A x with
      | true => exact refA x hAx F l hl
      | false =>
        obtain ⟨hp, cv⟩ := out hA hAx
        rcases hs with hs | hs
        · exact absurd hp hs
        · rw [cv F, if_pos hs] at hl; exact winsOf_nil hl
    by_cases hpar : cw.parent ≠ some win
    · rw [if_pos hpar] at hr; exact pass (Or.inl hpar) hr
    · rw [if_neg hpar] at hr
      by_cases hskip : (!cw.stealInput && outsideChild cw ev.line ev.col) = true
      · rw [if_pos hskip] at hr; exact pass (Or.inr hskip) hr
      · rw [if_neg hskip] at hr
        obtain ⟨⟨st1, r1⟩, hr1, hr⟩ := out_bind_eq_ok.1 hr
        refine (PhaseOK.firstHit (k := fun s => mouseSnap rec s win cs' ev) hr
          ((hrec st x _ held st1 r1 h ⟨cw, hcww, hcwf⟩ hr1).below
            (fun hA => hin hA x (List.mem_cons_self ..)) (fun _ hAx F l hl => refA x hAx F l hl) ?_)
          (fun g1 e => ih hin' hsub' st1 st' r g1 e)).mono fun _ F vs hv => ⟨F, winsOf_cons hv⟩
        intro hA hAx F l hl
        rw [(out hA hAx).2 F, if_neg hskip] at hl; exact hl

theorem mouseChildren_sim {A : Aff} {t0 : Tree} (hb : Base A t0) {rec : MouseRec} (hrec : MouseRecSim A t0 rec) {fuel : Nat}
    {st st' : St} {win : WinTree.Id} {ev : Ev} {held : List WinTree.Id} {r : Option WinTree.Id} {w0 : Win}
    (h : DInv A t0 held st) (hal : Alive st.tree win) (hw0 : t0.wins[win]? = some w0)
    (hr : mouseChildren Cfg.repaired rec fuel st win ev = Out.ok (st', r)) :
    PhaseOK A t0 (heldR r held) st st' r.isSome win (fun F vs =>
      winsOf (visitList (childVisits t0 (mouseVisits t0 F) ev) w0.children) vs) := by
  obtain ⟨w, hg, hw, hf⟩ := hal.get
  obtain ⟨st4, st5, h4, h5, h6⟩ := mouseChildren_ok hg hr
  obtain ⟨g4, o4⟩ := DInv.refAll _ _ _ _ h h4
  have p5 : PhaseOK A t0 (heldR r (w.children.reverse ++ held)) st4 st5 r.isSome win (fun F vs =>
      winsOf (visitList (childVisits t0 (mouseVisits t0 F) ev) w0.children) vs) := by
    cases hA : A win with
    | true =>
      exact (mouseSnap_sim hb hrec (w0 := w0) (aff_absurd hA) (Kids.refl A w.children)
        (fun _ => h.sim.down win w hA hw) (aff_absurd hA) st4 st5 r g4 h5).mono
        (aff_absurd hA)
    | false =>
      have rel := h.sim.rel hA hw0 hw
      exact mouseSnap_sim hb hrec (fun _ => ⟨hw0, by rw [← rel.freed]; exact hf⟩) rel.kids
        (fun hn => aff_absurd hn hA) (fun _ c hc => hc) st4 st5 r g4 h5
  -- the snapshot's references go before the one on the window that took the event
  exact p5.wrap o4 (DInv.unrefAll _ _ _ _
    (p5.inv.perm ((heldR_append r _ held).trans ((List.reverse_perm _).append_right _))) h6)

theorem mouseOwn_sim {A : Aff} {t0 : Tree} (hb : Base A t0) {st st' : St} {win : WinTree.Id} {ev : Ev}
    {held : List WinTree.Id} {r : Option WinTree.Id} (h : DInv A t0 held st)
    (hvis0 : A win = false → visibleChain t0 (treeFuel t0) win = true)
    (hr : mouseOwn Cfg.repaired st win ev = Out.ok (st', r)) :
    PhaseOK A t0 (heldR r held) st st' r.isSome win (fun _ vs => vs = [win]) := by
  obtain ⟨own, hown, hc⟩ := mouseOwn_ok hr
  rcases hc with ⟨rfl, rfl, rfl⟩ | ⟨rfl, st1, done, hrh, hc⟩
  · exact PhaseOK.skip h fun hA => by have := isShown_sim hb h.sim hA hown; rw [hvis0 hA] at this; cases this
  · obtain ⟨g1, o1⟩ := h.handlers hb.inv hrh
    rcases hc with ⟨rfl, rfl, rfl⟩ | ⟨rfl, h2, rfl⟩
    · exact PhaseOK.own g1 o1
    · exact PhaseOK.own (g1.ref h2).1 (o1.trans (g1.ref h2).2)

theorem handleMouseBody_sim {A : Aff} {t0 : Tree} (hb : Base A t0) {rec : MouseRec} (hrec : MouseRecSim A t0 rec)
    (fuel : Nat) : MouseRecSim A t0 (handleMouseBody Cfg.repaired rec fuel) := by
  intro st win ev held st' r h hal hr
  obtain ⟨vis, hvis, hc⟩ := handleMouseBody_ok hr
  obtain ⟨w, hg, hw, hf⟩ := hal.get
  obtain ⟨w0, hw0⟩ := getElem?_of_size_eq h.sim.size hw
  have hvc0 : A win = false → visibleChain t0 (treeFuel t0) win = vis := fun hA => isShown_sim hb h.sim hA hvis
  rcases hc with ⟨rfl, rfl, rfl⟩ | ⟨rfl, st1, st2, r2, st3, h1, h2, h3, hu⟩
  · exact PhaseOK.skip h fun hA F vs ⟨l, hl, e⟩ => by cases mouseVisits_hidden (hvc0 hA) hl; cases e; exact InA.nil A
  · obtain ⟨g1, o1⟩ := h.ref h1
    have p3 := PhaseOK.firstHit (k := fun s => mouseOwn Cfg.repaired s win ev) h3
      (mouseChildren_sim hb hrec g1 (g1.ainv.held win (List.mem_cons_self ..)) hw0 h2)
      (fun g2 e => mouseOwn_sim hb g2 hvc0 e)
    refine (p3.wrap o1 ((p3.inv.perm (heldR_cons r win held)).release hu)).mono fun hA F vs ⟨l, hl, e⟩ => ?_
    obtain ⟨F', below, _, hbel, rfl⟩ := mouseVisits_shown hw0 (hvc0 hA) hl
    exact ⟨F', below.map (·.1), [win], ⟨below, hbel, rfl⟩, rfl, by rw [e, List.map_append]; rfl⟩

theorem handleMouse_sim {A : Aff} {t0 : Tree} (hb : Base A t0) : ∀ (f : Nat), MouseRecSim A t0 (handleMouse Cfg.repaired f) := by
  intro f
  induction f with
  | zero => intro st win ev held st' r _ _ hr; cases hr
  | succ f ih => exact handleMouseBody_sim hb ih f

theorem dinv_dispInv {A : Aff} {t0 : Tree} (hb : Base A t0) : DispInv (DInv A t0) where
  good h := h.good
  ref h hc := (good_dispInv.ref h.good hc).and_ok fun _ e _ => (h.ref e).1
  release h := h.good.release.and_ok fun _ e _ => (DInv.release h e).1
  root _ h hc hd := ⟨.of (h.ainv.rootUpdate rfl hc hd), h.sim.trans (Sim.of_wins h.sim.down rfl), h.conf, h.own⟩
  mouse fuel win ev h hw := (handleMouse_safe fuel _ win ev _ h.good hw).and_ok fun p e _ =>
    (handleMouse_sim hb fuel _ win ev _ p.1 p.2 h hw e).inv

theorem onTermMouse_dinv {A : Aff} {t0 : Tree} (hb : Base A t0) {fuel : Nat} {st : St} {ev : Ev} (h : DInv A t0 [] st)
    {p : St × Bool} (hr : onTermMouse Cfg.repaired fuel st ev = Out.ok p) : DInv A t0 [] p.1 :=
  safeO_ok (a := p) (onTermMouse_inv (dinv_dispInv hb) fuel ev h) hr

end WinInput
end Tickit
