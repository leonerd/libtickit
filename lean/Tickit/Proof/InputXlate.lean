import Tickit.Model.InputXlate
/-
  Lemmas for C20 (Props/C20.lean), keys to events: the bit mask as a set, the X10 release loop, `got_key` as a
  refinement of the specification (`gotKey_refines`, `runKeys_refines`) and the kinds of events it emits.  Bytes to keys
  are in `InputXlatePush`, tokenizers that obey the two laws in `InputXlateLexer`.
-/
namespace Tickit.InputXlate

theorem testBit_bit (n i : Nat) : (bit n).testBit i = decide (n = i) := by
  rw [bit, Nat.one_shiftLeft]; exact Nat.testBit_two_pow

theorem testBit_setBit (h n i : Nat) : (setBit h n).testBit i = (h.testBit i || decide (n = i)) := by
  unfold setBit; rw [Nat.testBit_or, testBit_bit]

theorem testBit_clearBit (h n i : Nat) : (clearBit h n).testBit i = (h.testBit i && !decide (n = i)) := by
  unfold clearBit
  rw [Nat.testBit_xor, Nat.testBit_and, testBit_bit]
  cases h.testBit i <;> cases decide (n = i) <;> rfl

theorem eq_zero_of_testBit (h : Nat) (hz : ∀ i, h.testBit i = false) : h = 0 :=
  Nat.eq_of_testBit_eq fun i => by rw [hz i, Nat.zero_testBit]

theorem ne_zero_of_testBit {h i : Nat} (hi : h.testBit i = true) : h ≠ 0 := by
  intro h0; rw [h0, Nat.zero_testBit] at hi; cases hi

theorem hasBit_eq (h n : Nat) : hasBit h n = h.testBit n := by
  unfold hasBit
  have hand : ∀ i, (h &&& bit n).testBit i = (h.testBit i && decide (n = i)) := fun i => by
    rw [Nat.testBit_and, testBit_bit]
  cases hb : h.testBit n
  · rw [eq_zero_of_testBit (h &&& bit n) fun i => by
      rw [hand]
      by_cases hi : n = i
      · rw [← hi, hb]; rfl
      · rw [decide_eq_false hi, Bool.and_false]]
    rfl
  · exact bne_iff_ne.2 (ne_zero_of_testBit (i := n) (by rw [hand, hb, decide_eq_true rfl]; rfl))

/-- The mask of held buttons fits an `int` (as `tt->mouse_buttons_held` does). -/
def Fits (held : Nat) : Prop := held < 2 ^ INT_SHIFT_LIMIT

theorem Fits.testBit_false {held : Nat} (hf : Fits held) {i : Nat} (hi : INT_SHIFT_LIMIT ≤ i) :
    held.testBit i = false :=
  Nat.testBit_lt_two_pow (Nat.lt_of_lt_of_le hf (Nat.pow_le_pow_right (by decide) hi))

theorem Fits.lt_of_testBit {held i : Nat} (hf : Fits held) (hi : held.testBit i = true) : i < INT_SHIFT_LIMIT :=
  Nat.lt_of_not_le fun hge => by rw [hf.testBit_false hge] at hi; cases hi

theorem fits_setBit {held n : Nat} (hf : Fits held) (hn : n < INT_SHIFT_LIMIT) : Fits (setBit held n) :=
  Nat.lt_pow_two_of_testBit _ fun i hi => by
    rw [testBit_setBit, hf.testBit_false hi, decide_eq_false (Nat.ne_of_lt (Nat.lt_of_lt_of_le hn hi))]; rfl

theorem fits_clearBit {held n : Nat} (hf : Fits held) : Fits (clearBit held n) :=
  Nat.lt_pow_two_of_testBit _ fun i hi => by rw [testBit_clearBit, hf.testBit_false hi]; rfl

theorem fits_zero : Fits 0 := Nat.two_pow_pos _

/-- The set the mask stands for, as the specification keeps it: the numbers of the bits set, ascending. -/
def heldButtons (held : Nat) : List Nat := (List.range' 0 INT_SHIFT_LIMIT).filter (fun i => held.testBit i)

theorem Fits.mem_heldButtons {held : Nat} (hf : Fits held) {b : Nat} : b ∈ heldButtons held ↔ held.testBit b = true := by
  unfold heldButtons
  simp only [List.mem_filter, List.mem_range'_1, Nat.zero_le, Nat.zero_add, true_and, and_iff_right_iff_imp]
  exact hf.lt_of_testBit

theorem heldButtons_zero : heldButtons 0 = [] :=
  List.filter_eq_nil_iff.2 fun a _ => by simp

/-- What every mask reachable from a fresh terminal by well-formed keys satisfies (Props/C20.lean, `held_mask_inv`): it fits an
    `int` and bit 0 is clear. -/
def MaskInv (held : Nat) : Prop := Fits held ∧ held.testBit 0 = false

theorem MaskInv.fits {held : Nat} (h : MaskInv held) : Fits held := h.1
theorem MaskInv.bit0 {held : Nat} (h : MaskInv held) : held.testBit 0 = false := h.2

theorem maskInv_zero : MaskInv 0 := ⟨fits_zero, Nat.zero_testBit 0⟩

theorem MaskInv.bits {held : Nat} (h : MaskInv held) {i : Nat} (hi : held.testBit i = true) :
    RELEASE_LOOP_START ≤ i ∧ i < INT_SHIFT_LIMIT :=
  ⟨Nat.pos_of_ne_zero fun h0 => by rw [h0, h.bit0] at hi; exact Bool.false_ne_true hi, h.fits.lt_of_testBit hi⟩

def releaseEvent (line col mods : Int) (b : Nat) : Event :=
  Event.mouse MOUSEEV_RELEASE (b : Int) line col mods

theorem releaseLoop_empty (line col mods : Int) (fuel button : Nat) : releaseLoop line col mods fuel button 0 = .ok (0, []) := by
  cases fuel <;> rfl

theorem releaseLoop_noFuel (line col mods : Int) (button : Nat) {held : Nat} (hz : held ≠ 0) :
    releaseLoop line col mods 0 button held = .outOfFuel := by
  rw [releaseLoop, if_neg hz]

theorem releaseLoop_limit (line col mods : Int) (fuel : Nat) {button held : Nat} (hz : held ≠ 0) (hb : INT_SHIFT_LIMIT ≤ button) :
    ∃ w, releaseLoop line col mods (fuel + 1) button held = .ub w := by
  rw [releaseLoop, if_neg hz, if_pos hb]; exact ⟨_, rfl⟩

theorem releaseLoop_step (line col mods : Int) (fuel : Nat) {button held : Nat} (hz : held ≠ 0)
    (hb : button < INT_SHIFT_LIMIT) :
    releaseLoop line col mods (fuel + 1) button held =
      if held.testBit button = true then
        (releaseLoop line col mods fuel (button + 1) (clearBit held button)).map fun r =>
          (r.1, releaseEvent line col mods button :: r.2)
      else releaseLoop line col mods fuel (button + 1) held := by
  rw [releaseLoop, if_neg hz, if_neg (Nat.not_le.2 hb), hasBit_eq]
  split
  · cases releaseLoop line col mods fuel (button + 1) (clearBit held button) <;> rfl
  · rfl

theorem range'_limit {button : Nat} (hb : button < INT_SHIFT_LIMIT) :
    List.range' button (INT_SHIFT_LIMIT - button) =
      button :: List.range' (button + 1) (INT_SHIFT_LIMIT - (button + 1)) := by
  rw [← List.range'_succ, Nat.sub_add_eq, Nat.sub_add_cancel (Nat.le_sub_of_add_le' hb)]

theorem releaseLoop_ok (line col mods : Int) :
    ∀ (fuel button held : Nat), (∀ i, held.testBit i = true → button ≤ i ∧ i < INT_SHIFT_LIMIT) →
      INT_SHIFT_LIMIT ≤ fuel + button →
      releaseLoop line col mods fuel button held =
        .ok (0, ((List.range' button (INT_SHIFT_LIMIT - button)).filter (fun i => held.testBit i)).map
                  (releaseEvent line col mods))
  | 0, button, held, hin, hfuel => by
    have hb : INT_SHIFT_LIMIT ≤ button := Nat.zero_add button ▸ hfuel
    have hz : held = 0 := eq_zero_of_testBit held fun i => by
      cases hi : held.testBit i
      · rfl
      · exact absurd (Nat.lt_of_le_of_lt (hin i hi).1 (hin i hi).2) (Nat.not_lt.2 hb)
    rw [hz, Nat.sub_eq_zero_of_le hb]
    rfl
  | fuel + 1, button, held, hin, hfuel => by
    by_cases hz : held = 0
    · subst hz
      rw [releaseLoop_empty, List.filter_eq_nil_iff.2 fun a _ => by simp]
      rfl
    · obtain ⟨j, hj⟩ := Nat.exists_testBit_of_ne_zero hz
      have hb : button < INT_SHIFT_LIMIT := Nat.lt_of_le_of_lt (hin j hj).1 (hin j hj).2
      have hfuel' : INT_SHIFT_LIMIT ≤ fuel + (button + 1) := by rwa [Nat.add_right_comm] at hfuel
      rw [releaseLoop_step line col mods fuel hz hb, range'_limit hb, List.filter_cons]
      cases hbit : held.testBit button
      · rw [if_neg Bool.false_ne_true, if_neg Bool.false_ne_true]
        refine releaseLoop_ok line col mods fuel (button + 1) held (fun i hi => ⟨?_, (hin i hi).2⟩) hfuel'
        exact Nat.lt_of_le_of_ne (hin i hi).1 fun h => by rw [← h, hbit] at hi; cases hi
      · rw [if_pos rfl, if_pos rfl, releaseLoop_ok line col mods fuel (button + 1) (clearBit held button)
          (fun i hi => by
            rw [testBit_clearBit, Bool.and_eq_true, Bool.not_eq_true', decide_eq_false_iff_not] at hi
            exact ⟨Nat.lt_of_le_of_ne (hin i hi.1).1 hi.2, (hin i hi.1).2⟩) hfuel']
        have hcongr : ∀ x ∈ List.range' (button + 1) (INT_SHIFT_LIMIT - (button + 1)),
            (clearBit held button).testBit x = held.testBit x := fun x hx => by
          rw [testBit_clearBit, decide_eq_false (Nat.ne_of_lt (List.mem_range'_1.1 hx).1), Bool.not_false, Bool.and_true]
        rw [List.filter_congr hcongr]
        rfl

theorem heldButtons_eq_tail {held : Nat} (h0 : held.testBit 0 = false) :
    heldButtons held = (List.range' 1 (INT_SHIFT_LIMIT - 1)).filter (fun i => held.testBit i) := by
  unfold heldButtons
  have : List.range' 0 INT_SHIFT_LIMIT = 0 :: List.range' 1 (INT_SHIFT_LIMIT - 1) := by decide
  rw [this, List.filter_cons, h0]
  simp

theorem releaseLoop_held (line col mods : Int) {fuel held : Nat} (hinv : MaskInv held) (hfuel : 30 ≤ fuel) :
    releaseLoop line col mods fuel RELEASE_LOOP_START held =
      .ok (0, (heldButtons held).map (releaseEvent line col mods)) := by
  rw [releaseLoop_ok line col mods fuel RELEASE_LOOP_START held (fun _ => hinv.bits) (Nat.succ_le_succ hfuel), heldButtons_eq_tail hinv.bit0]
  rfl

/-- From a mask with bit 0 set the loop (which starts at 1 and only counts up) never sees the mask empty: it ends in
    the undefined shift by 31, or before that where the fuel ends. -/
theorem releaseLoop_bit0 (line col mods : Int) :
    ∀ (fuel button held : Nat), held.testBit 0 = true → 1 ≤ button →
      (∃ w, releaseLoop line col mods fuel button held = .ub w) ∨
      (releaseLoop line col mods fuel button held = .outOfFuel ∧ (fuel = 0 ∨ fuel + button ≤ INT_SHIFT_LIMIT))
  | 0, _, held, h0, _ => .inr ⟨releaseLoop_noFuel _ _ _ _ (ne_zero_of_testBit h0), .inl rfl⟩
  | fuel + 1, button, held, h0, hb => by
    have hz := ne_zero_of_testBit h0
    by_cases hlim : button < INT_SHIFT_LIMIT
    · have tail : ∀ o : Outcome (Nat × List Event), ∀ f : Nat × List Event → Nat × List Event,
          ((∃ w, o = .ub w) ∨ (o = .outOfFuel ∧ (fuel = 0 ∨ fuel + (button + 1) ≤ INT_SHIFT_LIMIT))) →
          (∃ w, o.map f = .ub w) ∨ (o.map f = .outOfFuel ∧ (fuel + 1 = 0 ∨ fuel + 1 + button ≤ INT_SHIFT_LIMIT)) := by
        rintro o f (⟨w, rfl⟩ | ⟨rfl, h⟩)
        · exact .inl ⟨w, rfl⟩
        · exact .inr ⟨rfl, .inr (by omega)⟩
      rw [releaseLoop_step line col mods fuel hz hlim]
      split
      · refine tail _ _ (releaseLoop_bit0 line col mods fuel (button + 1) (clearBit held button) ?_ (Nat.le_add_left 1 button))
        rw [testBit_clearBit, h0, decide_eq_false (Nat.ne_of_gt hb)]; rfl
      · have := tail _ id (releaseLoop_bit0 line col mods fuel (button + 1) held h0 (Nat.le_add_left 1 button))
        cases h : releaseLoop line col mods fuel (button + 1) held <;> rw [h] at this <;> exact this
    · exact .inl (releaseLoop_limit _ _ _ _ hz (Nat.le_of_not_lt hlim))

theorem releaseLoop_events (line col mods : Int) :
    ∀ (fuel button held : Nat) (r : Nat × List Event), releaseLoop line col mods fuel button held = .ok r →
      ∀ e ∈ r.2, ∃ b : Nat, e = releaseEvent line col mods b
  | 0, button, held, r, h => by
    by_cases hz : held = 0
    · rw [hz, releaseLoop_empty] at h; cases h
      exact fun _ he => nomatch he
    · rw [releaseLoop_noFuel _ _ _ _ hz] at h; cases h
  | fuel + 1, button, held, r, h => by
    by_cases hz : held = 0
    · rw [hz, releaseLoop_empty] at h; cases h
      exact fun _ he => nomatch he
    · by_cases hb : button < INT_SHIFT_LIMIT
      · rw [releaseLoop_step line col mods fuel hz hb] at h
        split at h
        · cases hr : releaseLoop line col mods fuel (button + 1) (clearBit held button) <;> rw [hr] at h <;> cases h
          intro e he
          rcases List.mem_cons.1 he with rfl | he
          · exact ⟨button, rfl⟩
          · exact releaseLoop_events line col mods fuel _ _ _ hr e he
        · exact releaseLoop_events line col mods fuel _ _ r h
      · obtain ⟨w, hw⟩ := releaseLoop_limit line col mods fuel hz (Nat.le_of_not_lt hb)
        rw [hw] at h; cases h

theorem insert_of_all_gt {b : Nat} {l : List Nat} (h : ∀ x ∈ l, b < x) : Spec.insert b l = b :: l := by
  cases l with
  | nil => rfl
  | cons x xs =>
    have : b < x := h x (by simp)
    simp [Spec.insert, this]

theorem insert_filter_range' (p : Nat → Bool) (b : Nat) :
    ∀ (n s : Nat), s ≤ b → b < s + n →
      Spec.insert b ((List.range' s n).filter p) = (List.range' s n).filter (fun i => p i || decide (b = i))
  | 0, _, h1, h2 => absurd h2 (Nat.not_lt.2 h1)
  | n + 1, s, h1, h2 => by
    rw [List.range'_succ, List.filter_cons, List.filter_cons]
    have gt : ∀ x ∈ List.range' (s + 1) n, s < x := fun x hx => (List.mem_range'_1.1 hx).1
    by_cases hs : s = b
    · subst hs
      have hrest : (List.range' (s + 1) n).filter (fun i => p i || decide (s = i)) = (List.range' (s + 1) n).filter p :=
        List.filter_congr fun x hx => by rw [decide_eq_false (Nat.ne_of_lt (gt x hx)), Bool.or_false]
      simp only [decide_true, Bool.or_true, if_true]
      rw [hrest]
      cases hp : p s
      · rw [if_neg Bool.false_ne_true]
        exact insert_of_all_gt fun x hx => gt x (List.mem_filter.1 hx).1
      · simp [Spec.insert]
    · have hlt : s < b := Nat.lt_of_le_of_ne h1 hs
      have hbs : ¬ b = s := fun h => hs h.symm
      have ih := insert_filter_range' p b n (s + 1) hlt (by rwa [Nat.add_comm n 1, ← Nat.add_assoc] at h2)
      simp only [hbs, decide_false, Bool.or_false]
      cases hp : p s
      · rw [if_neg Bool.false_ne_true, if_neg Bool.false_ne_true]
        exact ih
      · rw [if_pos rfl, if_pos rfl, ← ih]
        simp [Spec.insert, Nat.not_lt.2 (Nat.le_of_lt hlt), hbs]

theorem heldButtons_setBit {held b : Nat} (hb : b < INT_SHIFT_LIMIT) :
    heldButtons (setBit held b) = Spec.insert b (heldButtons held) := by
  unfold heldButtons
  rw [insert_filter_range' _ b INT_SHIFT_LIMIT 0 (Nat.zero_le b) ((Nat.zero_add _).symm ▸ hb)]
  apply List.filter_congr
  intro x _
  rw [testBit_setBit]

theorem heldButtons_clearBit {held b : Nat} :
    heldButtons (clearBit held b) = Spec.erase b (heldButtons held) := by
  unfold heldButtons Spec.erase
  rw [List.filter_filter]
  apply List.filter_congr
  intro x _
  rw [testBit_clearBit]
  by_cases h : b = x
  · subst h; simp
  · have : x ≠ b := fun h' => h h'.symm
    simp [h, this]

/-- Mouse reports the tokenizer could classify. -/
def Key.KnownKind : Key → Prop
  | .mouse ev _ _ _ _ => ev = TERMKEY_MOUSE_PRESS ∨ ev = TERMKEY_MOUSE_DRAG ∨ ev = TERMKEY_MOUSE_RELEASE
  | _ => True

instance (k : Key) : Decidable k.KnownKind := by
  cases k <;> unfold Key.KnownKind <;> infer_instance

/-- `got_key` on a mouse report, as one case distinction laid out like the specification's. -/
theorem gotKey_mouse (cfg : Cfg) (fuel held : Nat) (ev button line col mods : Int) :
    gotKey cfg fuel held (.mouse ev button line col mods) =
      if ev = TERMKEY_MOUSE_PRESS ∧ button ≥ 4 then
        .ok (held, [Event.mouse MOUSEEV_WHEEL (button - 3) (line - 1) (col - 1) mods])
      else if ev = TERMKEY_MOUSE_PRESS then
        if shiftOk button then .ok (setBit held button.toNat, [Event.mouse MOUSEEV_PRESS button (line - 1) (col - 1) mods])
        else .ub "1 << info.button out of range (press/drag)"
      else if ev = TERMKEY_MOUSE_DRAG then
        if shiftOk button then .ok (setBit held button.toNat, [Event.mouse MOUSEEV_DRAG button (line - 1) (col - 1) mods])
        else .ub "1 << info.button out of range (press/drag)"
      else if ev = TERMKEY_MOUSE_RELEASE ∧ button ≠ 0 then
        if shiftOk button then .ok (clearBit held button.toNat, [Event.mouse MOUSEEV_RELEASE button (line - 1) (col - 1) mods])
        else .ub "1 << info.button out of range (release)"
      else if ev = TERMKEY_MOUSE_RELEASE then releaseLoop (line - 1) (col - 1) mods fuel RELEASE_LOOP_START held
      else if cfg.dropUnknownMouse = true then .ok (held, [])
      else .ok (held, [Event.mouse (-1) button (line - 1) (col - 1) mods]) := by
  by_cases hp : ev = TERMKEY_MOUSE_PRESS
  · subst hp
    by_cases hw : button ≥ 4 <;>
      simp [gotKey, mouseType, TERMKEY_MOUSE_PRESS, MOUSEEV_PRESS, MOUSEEV_DRAG, MOUSEEV_WHEEL, MOUSEEV_RELEASE,
        MOUSEWHEEL_UP, WHEEL_FIRST_BUTTON, hw]
  · by_cases hd : ev = TERMKEY_MOUSE_DRAG
    · subst hd
      simp [gotKey, mouseType, TERMKEY_MOUSE_PRESS, TERMKEY_MOUSE_DRAG, MOUSEEV_PRESS, MOUSEEV_DRAG]
    · by_cases hr : ev = TERMKEY_MOUSE_RELEASE
      · subst hr
        by_cases hz : button = 0 <;>
          simp [gotKey, mouseType, TERMKEY_MOUSE_PRESS, TERMKEY_MOUSE_DRAG, TERMKEY_MOUSE_RELEASE, MOUSEEV_PRESS,
            MOUSEEV_DRAG, MOUSEEV_RELEASE, hz]
      · unfold TERMKEY_MOUSE_PRESS TERMKEY_MOUSE_DRAG TERMKEY_MOUSE_RELEASE at *
        cases hdm : cfg.dropUnknownMouse <;>
          simp [gotKey, mouseType, TERMKEY_MOUSE_PRESS, TERMKEY_MOUSE_DRAG, TERMKEY_MOUSE_RELEASE, MOUSEEV_PRESS,
            MOUSEEV_DRAG, MOUSEEV_RELEASE, hp, hd, hr, hdm]

theorem gotKey_mouse_wheel (cfg : Cfg) (fuel held : Nat) (button line col mods : Int)
    (h4 : WHEEL_FIRST_BUTTON ≤ button) :
    gotKey cfg fuel held (.mouse TERMKEY_MOUSE_PRESS button line col mods) =
      .ok (held, [Event.mouse MOUSEEV_WHEEL (button - 3) (line - 1) (col - 1) mods]) := by
  rw [gotKey_mouse, if_pos ⟨rfl, h4⟩]

theorem gotKey_mouse_release_all (cfg : Cfg) (fuel held : Nat) (line col mods : Int) :
    gotKey cfg fuel held (.mouse TERMKEY_MOUSE_RELEASE 0 line col mods) =
      releaseLoop (line - 1) (col - 1) mods fuel RELEASE_LOOP_START held := by
  rw [gotKey_mouse]; rfl

/-- `o` is what the specification's `s` asks for: it completes, the mask stands for the specification's set, and the events
    are the specification's if the keys are of kinds it knows (`known`) or the `default:` arm is repaired.  A relation, so
    that it can be proved along the case distinction of `gotKey_mouse`. -/
def Refines (cfg : Cfg) (known : Prop) (o : Outcome (Nat × List Event)) (s : List Nat × List Event) : Prop :=
  ∃ held' evs, o = .ok (held', evs) ∧ MaskInv held' ∧ heldButtons held' = s.1 ∧
    ((cfg.dropUnknownMouse = true ∨ known) → evs = s.2)

theorem Refines.same {cfg : Cfg} {k : Prop} {held : Nat} {evs : List Event} (hinv : MaskInv held) :
    Refines cfg k (.ok (held, evs)) (heldButtons held, evs) :=
  ⟨held, evs, rfl, hinv, rfl, fun _ => rfl⟩

theorem Refines.ite {cfg : Cfg} {k : Prop} {c : Prop} [Decidable c] {a b : Outcome (Nat × List Event)}
    {x y : List Nat × List Event} (h1 : c → Refines cfg k a x) (h2 : ¬ c → Refines cfg k b y) :
    Refines cfg k (if c then a else b) (if c then x else y) := by
  split
  · exact h1 ‹_›
  · exact h2 ‹_›

theorem shiftOk_of_lt {b : Int} (h0 : 0 ≤ b) (h31 : b < 31) : shiftOk b = true := by
  unfold shiftOk INT_SHIFT_LIMIT
  rw [Bool.and_eq_true, decide_eq_true_eq, decide_eq_true_eq]
  exact ⟨h0, h31⟩

theorem Refines.set {cfg : Cfg} {k : Prop} {held : Nat} {evs : List Event} {b : Int} (hinv : MaskInv held)
    (h1 : 1 ≤ b) (h31 : b < 31) :
    Refines cfg k (if shiftOk b then .ok (setBit held b.toNat, evs) else .ub "1 << info.button out of range (press/drag)")
      (Spec.insert b.toNat (heldButtons held), evs) := by
  have h0 : 0 ≤ b := Int.le_trans (by decide) h1
  have hnat : b.toNat < INT_SHIFT_LIMIT := (Int.toNat_lt h0).2 h31
  rw [shiftOk_of_lt h0 h31, if_pos rfl]
  refine ⟨_, evs, rfl, ⟨fits_setBit hinv.fits hnat, ?_⟩, heldButtons_setBit hnat, fun _ => rfl⟩
  rw [testBit_setBit, hinv.bit0, decide_eq_false (Nat.ne_of_gt (Int.lt_toNat.2 h1))]; rfl

/-- The events may differ from the specification's only for a mouse report of a kind the specification does not know,
    under the unrepaired `default:` arm.  `WF` is what the property trusts of the tokenizer; the fuel is for the 30
    possible iterations of the X10 loop. -/
theorem gotKey_refines (cfg : Cfg) (fuel : Nat) (hfuel : 30 ≤ fuel) (held : Nat)
    (hinv : MaskInv held) (k : Key) (hwf : k.WF)
    (hcb : cfg.onModereport = true ∧ cfg.onDecrqss = true) :
    Refines cfg k.KnownKind (gotKey cfg fuel held k) (Spec.keyEvents (heldButtons held) k) := by
  cases k with
  | mouse ev button line col mods =>
    obtain ⟨hb0, hb31, hbpos⟩ := hwf
    rw [gotKey_mouse]
    refine .ite (fun _ => .same hinv) fun _ => .ite (fun hp => .set hinv (hbpos (.inl hp)) hb31) fun hp =>
      .ite (fun hd => .set hinv (hbpos (.inr hd)) hb31) fun hd => .ite (fun hr => ?_) fun _ => .ite (fun hr => ?_) fun hr => ?_
    · rw [shiftOk_of_lt hb0 hb31, if_pos rfl]
      exact ⟨_, _, rfl, ⟨fits_clearBit hinv.fits, by rw [testBit_clearBit, hinv.bit0]; rfl⟩, heldButtons_clearBit, fun _ => rfl⟩
    · rw [releaseLoop_held _ _ _ hinv hfuel]
      exact ⟨0, _, rfl, maskInv_zero, heldButtons_zero, fun _ => rfl⟩
    · cases hdm : cfg.dropUnknownMouse
      · rw [if_neg Bool.false_ne_true]
        refine ⟨held, _, rfl, hinv, rfl, fun hk => ?_⟩
        rcases hk with hk | hk | hk | hk
        · exact absurd (hdm.symm.trans hk) Bool.false_ne_true
        · exact absurd hk hp
        · exact absurd hk hd
        · exact absurd hk hr
      · rw [if_pos rfl]; exact .same hinv
  | unicode mods utf8 name => exact .ite (fun h => by subst h; exact .same hinv) fun _ => .same hinv
  | function mods name => exact .same hinv
  | keysym mods name => exact .same hinv
  | modereport i m v =>
    show Refines cfg _ (if cfg.onModereport = true then _ else _) _
    rw [if_pos hcb.1]; exact .same hinv
  | dcs str =>
    cases str with
    | none => exact .same hinv
    | some s =>
      refine .ite (fun _ => ?_) fun _ => .same hinv
      rw [if_pos hcb.2]; exact .same hinv
  | other ty => exact .same hinv

theorem runKeys_refines (cfg : Cfg) (fuel : Nat) (hfuel : 30 ≤ fuel)
    (hcb : cfg.onModereport = true ∧ cfg.onDecrqss = true) :
    ∀ (keys : List Key) (held : Nat), MaskInv held → (∀ k ∈ keys, k.WF) →
      Refines cfg (∀ k ∈ keys, k.KnownKind) (runKeys cfg fuel held keys) (Spec.run (heldButtons held) keys) := by
  intro keys
  induction keys with
  | nil => intro held hinv _; exact ⟨held, [], rfl, hinv, rfl, fun _ => rfl⟩
  | cons k ks ih =>
    intro held hinv hwf
    obtain ⟨h1, e1, hg, hinv1, hb1, he1⟩ := gotKey_refines cfg fuel hfuel held hinv k (hwf k (by simp)) hcb
    obtain ⟨h2, e2, hr, hinv2, hb2, he2⟩ := ih h1 hinv1 (fun k' hk' => hwf k' (by simp [hk']))
    refine ⟨h2, e1 ++ e2, ?_, hinv2, ?_, ?_⟩
    · simp only [runKeys, hg, hr]
    · simp only [Spec.run, hb2, hb1]
    · intro hknown
      rw [he1 (hknown.imp id (fun h => h k (by simp))),
        he2 (hknown.imp id (fun h k' hk' => h k' (by simp [hk'])))]
      simp only [Spec.run, hb1]

theorem Spec.run_fixed {held : List Nat} : ∀ {ks : List Key}, (∀ k ∈ ks, (Spec.keyEvents held k).1 = held) →
    (Spec.run held ks).1 = held
  | [], _ => rfl
  | k :: ks, h => by
    simp only [Spec.run, h k List.mem_cons_self]
    exact Spec.run_fixed fun k' hk' => h k' (List.mem_cons_of_mem _ hk')

/-- Every event of a completed `o` satisfies `P` (proved along the case distinction of `gotKey_mouse`, like `Refines`). -/
def EvAll (P : Event → Prop) (o : Outcome (Nat × List Event)) : Prop := ∀ r, o = .ok r → ∀ e ∈ r.2, P e

theorem EvAll.ite {P : Event → Prop} {c : Prop} [Decidable c] {a b : Outcome (Nat × List Event)}
    (h1 : c → EvAll P a) (h2 : ¬ c → EvAll P b) : EvAll P (if c then a else b) :=
  iteInduction h1 h2

theorem EvAll.one {P : Event → Prop} {held : Nat} {e : Event} (h : P e) : EvAll P (.ok (held, [e])) := by
  intro r hr e' he
  cases hr
  rw [List.mem_singleton.1 he]; exact h

theorem EvAll.nil {P : Event → Prop} {held : Nat} : EvAll P (.ok (held, [])) := by
  intro r hr e' he
  cases hr; nomatch he

theorem EvAll.ub {P : Event → Prop} {w : String} : EvAll P (.ub w) := fun _ hr => nomatch hr

/-- The second disjunct: the event of type −1 that the unrepaired `default:` arm emits for a report the tokenizer
    could not classify. -/
theorem gotKey_mouse_events (cfg : Cfg) (fuel held : Nat) (ev button line col mods : Int) (r : Nat × List Event)
    (h : gotKey cfg fuel held (.mouse ev button line col mods) = .ok r) :
    ∀ e ∈ r.2, ∃ t b, e = Event.mouse t b (line - 1) (col - 1) mods ∧
      ((t = MOUSEEV_PRESS ∨ t = MOUSEEV_DRAG ∨ t = MOUSEEV_RELEASE ∨ t = MOUSEEV_WHEEL) ∨
       (t = -1 ∧ cfg.dropUnknownMouse = false ∧
        ev ≠ TERMKEY_MOUSE_PRESS ∧ ev ≠ TERMKEY_MOUSE_DRAG ∧ ev ≠ TERMKEY_MOUSE_RELEASE)) := by
  refine (?_ : EvAll _ _) r h
  rw [gotKey_mouse]
  refine .ite (fun _ => .one ⟨_, _, rfl, .inl (.inr (.inr (.inr rfl)))⟩) fun _ =>
    .ite (fun _ => .ite (fun _ => .one ⟨_, _, rfl, .inl (.inl rfl)⟩) fun _ => .ub) fun hp =>
    .ite (fun _ => .ite (fun _ => .one ⟨_, _, rfl, .inl (.inr (.inl rfl))⟩) fun _ => .ub) fun hd =>
    .ite (fun _ => .ite (fun _ => .one ⟨_, _, rfl, .inl (.inr (.inr (.inl rfl)))⟩) fun _ => .ub) fun _ =>
    .ite (fun _ r h e he => ?_) fun hr =>
    .ite (fun _ => .nil) fun hdm => .one ⟨_, _, rfl, .inr ⟨rfl, Bool.eq_false_iff.2 hdm, hp, hd, hr⟩⟩
  obtain ⟨b, hb⟩ := releaseLoop_events _ _ _ _ _ _ r h e he
  exact ⟨_, _, hb, .inl (.inr (.inr (.inl rfl)))⟩

theorem gotKey_mouse_kinds (cfg : Cfg) (fuel held : Nat) (ev button line col mods : Int) (r : Nat × List Event)
    (hk : cfg.dropUnknownMouse = true ∨ (Key.mouse ev button line col mods).KnownKind)
    (h : gotKey cfg fuel held (.mouse ev button line col mods) = .ok r) :
    ∀ e ∈ r.2, ∃ t b l c m, e = Event.mouse t b l c m ∧
      (t = MOUSEEV_PRESS ∨ t = MOUSEEV_DRAG ∨ t = MOUSEEV_RELEASE ∨ t = MOUSEEV_WHEEL) := by
  intro e he
  obtain ⟨t, b, hb, hkind | ⟨_, hf, h1, h2, h3⟩⟩ := gotKey_mouse_events cfg fuel held ev button line col mods r h e he
  · exact ⟨t, b, _, _, _, hb, hkind⟩
  · rcases hk with hk | hk | hk | hk
    · rw [hk] at hf; cases hf
    · exact absurd hk h1
    · exact absurd hk h2
    · exact absurd hk h3

theorem iff_of_flag {P : Prop} {b : Bool} (hn : b = false → ¬ P) (hy : b = true → P) : P ↔ b = true :=
  ⟨fun h => by cases hb : b with | true => rfl | false => exact absurd h (hn hb), hy⟩

end Tickit.InputXlate
