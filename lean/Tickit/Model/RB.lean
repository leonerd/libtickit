import Tickit.Model.Rect
import Tickit.Gen.RBWidth
/-
  Concrete model of /repo/src/renderbuffer.c (everything except `flush_to_term`, `copyrect`, `moverect`,
  `blit`, `tickit_renderbuffer_get_span` and the libc formatting of `vtextf`), statement by statement, together with the parts
  of src/pen.c (`tickit_pen_copy`, `tickit_pen_equiv`), src/utf8.c (`next_utf8`, `tickit_utf8_ncountmore`,
  `tickit_utf8_put`), src/unicode.h (`bisearch`, `mk_wcwidth`, `tickit_utf8_wcwidth`) and src/string.c it uses.

  Conventions (DESIGN.md §3):
  * C `int` is unbounded `Int`; cells are indexed by `Int` line and column, the grid is a total function
    `Int → Int → Cell` (the C arrays are `[0,lines) × [0,cols)`; the drawing primitives stay inside by the clipping,
    `xlateAndClip_some` in `Proof/RBOps.lean`, and the real run is the sanitizers' business).
  * `for` loops that assign independent elements are written in closed form; loops whose iterations depend
    on one another (`put_string`/`skip`/`erase` run placement, `hline`/`vline`, the `*rect` loops) are
    recursive.  The run placement loop takes a fuel; running out is the sticky `fuelOut` flag.
  * `abort()` (the "unreachable" arms of `make_span`) is the sticky `aborted` flag.
  * `tickit_renderbuffer_new` leaves `vc_line`/`vc_col` uninitialised and `save` copies them (together with
    `vc_pos_set`, which says they are meaningless): the indeterminate values are explicit parameters of `RB.new`.
  * Pens and strings are values (reference counts are not modelled here; the real run is under ASan/LSan).
    A NULL pen pointer in a cell is the empty pen: the field is only read in states that assigned it.
  * Pen attribute values are taken inside the range of their bit-fields (no wrap-around here; that is C19).
  * The text-width part is a self-contained transcription sufficient for the render buffer; it is proved equal to
    the C07 model (`Model/Utf8`, `Model/Width`) in `Proof/RBUtf8.lean`.
  No Mathlib: this file is linked into the driver executable.
-/
namespace Tickit.RB

/-! ## Pens (src/pen.c): attribute → optional value -/

structure RGB where
  r : Nat
  g : Nat
  b : Nat
deriving DecidableEq, Repr, Inhabited

/-- A colour attribute that is set: palette index and, optionally, the RGB8 refinement
    (`valid.fg_rgb8` can only be set while `valid.fgindex` is). -/
structure Colour where
  idx : Int
  rgb : Option RGB
deriving DecidableEq, Repr, Inhabited

/-- `struct TickitPen` as a partial map; `none` = the `valid.*` bit is clear. Field order = attribute ids. -/
structure Pen where
  fg      : Option Colour := none
  bg      : Option Colour := none
  bold    : Option Bool := none
  under   : Option Int := none
  italic  : Option Bool := none
  reverse : Option Bool := none
  strike  : Option Bool := none
  altfont : Option Int := none
  blink   : Option Bool := none
  sizepos : Option Int := none
deriving DecidableEq, Repr, Inhabited

namespace Pen

/-- `tickit_pen_new()` after `tickit_pen_clear`. -/
def empty : Pen := {}

/-- `tickit_pen_get_bool_attr`: false when absent. -/
def getBool (a : Option Bool) : Bool := a.getD false
/-- `tickit_pen_get_int_attr`: 0 when absent. -/
def getInt (a : Option Int) : Int := a.getD 0
/-- `tickit_pen_get_colour_attr`: `COLOUR_DEFAULT` (−1) when absent. -/
def getColour (a : Option Colour) : Int :=
  match a with
  | none => -1
  | some c => c.idx
/-- `tickit_pen_has_colour_attr_rgb8` + `tickit_pen_get_colour_attr_rgb8`. -/
def getRgb (a : Option Colour) : Option RGB :=
  match a with
  | none => none
  | some c => c.rgb

/-- `tickit_pen_equiv_attr` for the three attribute types. -/
def equivBool (a b : Option Bool) : Bool := getBool a == getBool b
def equivInt (a b : Option Int) : Bool := getInt a == getInt b
def equivColour (a b : Option Colour) : Bool :=
  if getColour a ≠ getColour b then false
  else match getRgb a, getRgb b with
    | none, none => true
    | some x, some y => x.r == y.r && x.g == y.g && x.b == y.b
    | _, _ => false

/-- `tickit_pen_equiv` (the pointer-equality shortcut is subsumed: equal values are equivalent). -/
def equiv (a b : Pen) : Bool :=
  equivColour a.fg b.fg && equivColour a.bg b.bg && equivBool a.bold b.bold && equivInt a.under b.under &&
  equivBool a.italic b.italic && equivBool a.reverse b.reverse && equivBool a.strike b.strike &&
  equivInt a.altfont b.altfont && equivBool a.blink b.blink && equivInt a.sizepos b.sizepos

/-- One iteration of the loop of `tickit_pen_copy`: `eqv src dst` is `tickit_pen_equiv_attr(src, dst, attr)`;
    `tickit_pen_copy_attr` stores `get(src)` and sets the valid bit, i.e. `src`'s value. -/
def copyAttr {α : Type} (eqv : Option α → Option α → Bool) (overwrite : Bool) (dst src : Option α) : Option α :=
  if src.isNone then dst
  else if dst.isSome && (!overwrite || eqv src dst) then dst
  else src

/-- `tickit_pen_copy(dst, src, overwrite)`. -/
def copy (dst src : Pen) (overwrite : Bool) : Pen :=
  { fg      := copyAttr equivColour overwrite dst.fg src.fg
    bg      := copyAttr equivColour overwrite dst.bg src.bg
    bold    := copyAttr equivBool overwrite dst.bold src.bold
    under   := copyAttr equivInt overwrite dst.under src.under
    italic  := copyAttr equivBool overwrite dst.italic src.italic
    reverse := copyAttr equivBool overwrite dst.reverse src.reverse
    strike  := copyAttr equivBool overwrite dst.strike src.strike
    altfont := copyAttr equivInt overwrite dst.altfont src.altfont
    blink   := copyAttr equivBool overwrite dst.blink src.blink
    sizepos := copyAttr equivInt overwrite dst.sizepos src.sizepos }

end Pen

/-! ## Text widths (src/utf8.c, src/unicode.h) -/

namespace Utf8
open Tickit.Gen.RBWidth

/-- `str[i]` of a `TickitString` (`len` bytes followed by NUL). -/
def byteAt (s : List UInt8) (i : Nat) : Nat := (s.getD i 0).toNat

/-- `bisearch`'s loop (`min`, `max` are C ints). -/
def bisearchLoop (t : Array (Nat × Nat)) (ucs : Nat) : Nat → Int → Int → Bool
  | 0, _, _ => false
  | fuel + 1, mn, mx =>
    if mx ≥ mn then
      let mid := (mn + mx) / 2
      let e := t.getD mid.toNat (0, 0)
      if ucs > e.2 then bisearchLoop t ucs fuel (mid + 1) mx
      else if ucs < e.1 then bisearchLoop t ucs fuel mn (mid - 1)
      else true
    else false

/-- `bisearch(ucs, table, max)` with `max = size − 1`. -/
def bisearch (t : Array (Nat × Nat)) (ucs : Nat) : Bool :=
  let mx : Int := (t.size : Int) - 1
  if ucs < (t.getD 0 (0, 0)).1 || ucs > (t.getD mx.toNat (0, 0)).2 then false
  else bisearchLoop t ucs (t.size + 1) 0 mx

/-- `mk_wcwidth`; the two range expressions are regenerated from the source. -/
def mkWcwidth (ucs : Nat) : Int :=
  if ucs = 0 then 0
  else if ctrlExpr ucs then -1
  else if bisearch combining ucs then 0
  else 1 + (if wideExpr ucs then 1 else 0)

/-- `tickit_utf8_wcwidth`. -/
def wcwidth (cp : Nat) : Int :=
  if bisearch fullwidth cp then 2 else mkWcwidth cp

/-- Result of `next_utf8`: bytes consumed and code point. -/
structure Dec where
  n : Nat
  cp : Nat
deriving DecidableEq, Repr

/-- The continuation-byte loop of `next_utf8`: only a NUL byte is rejected. -/
def contBytes (s : List UInt8) : Nat → Nat → Nat → Option Nat
  | 0, _, cp => some cp
  | k + 1, i, cp =>
    let b := byteAt s i
    if b = 0 then none else contBytes s k (i + 1) (cp * 64 + b % 64)

/-- `next_utf8(str + i, len, &cp)`; `len = none` is `(size_t)-1`; `none` is the `-1` return. -/
def nextUtf8 (s : List UInt8) (i : Nat) (len : Option Nat) : Option Dec :=
  let b0 := byteAt s i
  if len = some 0 then none
  else if b0 = 0 then none
  else if b0 < 0x80 then some ⟨1, b0⟩
  else if b0 < 0xc0 then none
  else if b0 < 0xf8 then
    let nbytes := if b0 < 0xe0 then 2 else if b0 < 0xf0 then 3 else 4
    let cp0 := if b0 < 0xe0 then b0 % 32 else if b0 < 0xf0 then b0 % 16 else b0 % 8
    if (match len with | none => false | some l => decide (l < nbytes)) then none
    else match contBytes s (nbytes - 1) (i + 1) cp0 with
      | none => none
      | some cp => some ⟨nbytes, cp⟩
  else none

/-- `TickitStringPos`; as a limit, −1 means "no limit" (for `bytes`: `(size_t)-1`). -/
structure StrPos where
  bytes : Int := 0
  codepoints : Int := 0
  graphemes : Int := 0
  columns : Int := 0
deriving DecidableEq, Repr, Inhabited

def limitColumns (n : Int) : StrPos := ⟨-1, -1, -1, n⟩
def limitGraphemes (n : Int) : StrPos := ⟨-1, -1, n, -1⟩

inductive CountStatus | ok | err | fuel
deriving DecidableEq, Repr

/-- What `tickit_utf8_ncountmore` leaves behind: the return status and `*pos`. -/
structure CountRes where
  status : CountStatus
  pos : StrPos
deriving DecidableEq, Repr

/-- The `while(len != 0 && *str)` loop of `tickit_utf8_ncountmore`; `off` is `str − string start`. -/
def countLoop (s : List UInt8) (limit : Option StrPos) : Nat → Nat → Option Nat → StrPos → StrPos → CountRes
  | 0, _, _, pos, _ => ⟨.fuel, pos⟩
  | fuel + 1, off, len, pos, here =>
    if len = some 0 || byteAt s off = 0 then ⟨.ok, here⟩      -- loop exit + "commit on the final grapheme"
    else match nextUtf8 s off len with
      | none => ⟨.err, pos⟩
      | some d =>
        if d.cp < 0x20 || (d.cp ≥ 0x80 && d.cp < 0xa0) then ⟨.err, pos⟩
        else
          let width := wcwidth d.cp
          if width = -1 then ⟨.err, pos⟩
          else
            let isG : Int := if width > 0 then 1 else 0
            let pos := if width > 0 then here else pos
            let stop := match limit with
              | none => false
              | some l =>
                (l.bytes ≠ -1 && here.bytes + d.n > l.bytes) ||
                (l.codepoints ≠ -1 && here.codepoints + 1 > l.codepoints) ||
                (l.graphemes ≠ -1 && here.graphemes + isG > l.graphemes) ||
                (l.columns ≠ -1 && here.columns + width > l.columns)
            if stop then ⟨.ok, pos⟩     -- break: neither `len == 0` nor `*str == 0` holds, no final commit
            else
              countLoop s limit fuel (off + d.n) (len.map (· - d.n)) pos
                { bytes := here.bytes + d.n, codepoints := here.codepoints + 1,
                  graphemes := here.graphemes + isG, columns := here.columns + width }

/-- `tickit_utf8_ncountmore(str, len, pos, limit)`. -/
def ncountmore (s : List UInt8) (len : Option Nat) (pos : StrPos) (limit : Option StrPos) : CountRes :=
  countLoop s limit (s.length + 1) pos.bytes.toNat (len.map (· - pos.bytes.toNat)) pos pos

/-- `tickit_utf8_ncount(tickit_string_get(s), tickit_string_len(s), &endpos, NULL)` as used by `put_string`:
    `some columns`, or `none` for the `-1` return. -/
def stringColumns (s : List UInt8) : Option Int :=
  let r := ncountmore s (some s.length) {} none
  match r.status with
  | .ok => some r.pos.columns
  | _ => none

/-- `tickit_utf8_seqlen`. -/
def seqlen (cp : Int) : Nat :=
  if cp < 0x80 then 1 else if cp < 0x800 then 2 else if cp < 0x10000 then 3
  else if cp < 0x200000 then 4 else if cp < 0x4000000 then 5 else 6

/-- The trailing bytes written backwards by `tickit_utf8_put`. -/
def putTail : Nat → Nat → List UInt8 → List UInt8
  | 0, _, acc => acc
  | k + 1, cp, acc => putTail k (cp / 64) (UInt8.ofNat (0x80 + cp % 64) :: acc)

/-- `tickit_utf8_put` for a non-negative code point: the bytes written. -/
def put (cp : Nat) : List UInt8 :=
  let n := seqlen cp
  let top := cp / 64 ^ (n - 1)
  let lead : Nat := match n with
    | 1 => top % 128
    | 2 => 0xc0 + top % 32
    | 3 => 0xe0 + top % 16
    | 4 => 0xf0 + top % 8
    | 5 => 0xf8 + top % 4
    | _ => 0xfc + top % 2
  UInt8.ofNat lead :: putTail (n - 1) cp []

end Utf8

/-! ## Cells and the buffer -/

/-- `enum TickitRenderBufferCellState`. -/
inductive CState | skip | text | erase | cont | line | char
deriving DecidableEq, Repr, Inhabited

/-- The numeric value of a state as in the C enum (tied to `Gen.RBWidth` by `Props.C03.gen_cell_states`). -/
def CState.toNat : CState → Nat
  | .skip => 0 | .text => 1 | .erase => 2 | .cont => 3 | .line => 4 | .char => 5

/-- `RBCell`.  `cols` is the anonymous union `{ startcol; cols }`; the members of the union `v` are separate
    fields (each is only read in the state that wrote it). -/
structure Cell where
  state : CState := .skip
  cols : Int := 0
  maskdepth : Int := -1
  pen : Pen := {}
  text : List UInt8 := []
  offs : Int := 0
  lmask : Nat := 0
  cp : Int := 0
deriving DecidableEq, Repr, Inhabited

/-- One line of cells, `cells[line]`, indexed by an `Int` column.  (A structure rather than a bare function so
    that the compiled model evaluates the `let`s of a row transformer once, not at every lookup.) -/
structure Row where
  get : Int → Cell

/-- `RBStack`.  In a `pen_only` frame only `pen` is initialised (the other fields are never read).
    `vcPosSet` is the `vc_pos_set` bit added by the repair 85271b4 (save/restore must also save whether the
    virtual cursor is set). -/
structure Frame where
  penOnly : Bool
  vcPosSet : Bool := false
  vcLine : Int := 0
  vcCol : Int := 0
  xlLine : Int := 0
  xlCol : Int := 0
  clip : Rect := ⟨0, 0, 0, 0⟩
  pen : Pen := {}
deriving DecidableEq, Repr, Inhabited

/-- `struct TickitRenderBuffer` (without `tmp`, `refcount`).  `stack` is the linked list, newest first. -/
structure RB where
  lines : Int
  cols : Int
  cells : Int → Row
  vcSet : Bool
  vcLine : Int
  vcCol : Int
  xlLine : Int
  xlCol : Int
  clip : Rect
  pen : Pen
  depth : Int
  stack : List Frame
  /-- an `abort()` was reached -/
  aborted : Bool := false
  /-- a fuel-bounded loop of the model ran out (never: `WF.fuelOut`, `Proof/RBOps.lean`) -/
  fuelOut : Bool := false

/-- `0 ≤ line < lines ∧ 0 ≤ col < cols`. -/
def RB.inGrid (rb : RB) (line col : Int) : Prop := 0 ≤ line ∧ line < rb.lines ∧ 0 ≤ col ∧ col < rb.cols

instance (rb : RB) (l c : Int) : Decidable (rb.inGrid l c) := by unfold RB.inGrid; exact inferInstance

/-- `cells[line][col]`. -/
@[inline] def RB.cell (rb : RB) (line col : Int) : Cell := (rb.cells line).get col

/-- Assignment to one element of a row. -/
def rowSet (row : Row) (i : Int) (v : Cell) : Row := ⟨fun k => if k = i then v else row.get k⟩

/-- Replace `cells[line]`. -/
def RB.setRow (rb : RB) (line : Int) (row : Row) : RB :=
  { rb with cells := fun l => if l = line then row else rb.cells l }

/-- `tickit_renderbuffer_new(lines, cols)`; `g1`, `g2` are the indeterminate contents of `vc_line`, `vc_col`. -/
def RB.new (lines cols g1 g2 : Int) : RB :=
  { lines := lines, cols := cols
    cells := fun _ => ⟨fun c => if c = 0 then { state := .skip, maskdepth := -1, cols := cols } else { state := .cont, maskdepth := -1, cols := 0 }⟩
    vcSet := false, vcLine := g1, vcCol := g2
    xlLine := 0, xlCol := 0
    clip := ⟨0, 0, lines, cols⟩
    pen := Pen.empty
    depth := 0, stack := [] }

/-! ### `xlate_and_clip` -/

structure Clipped where
  line : Int
  col : Int
  cols : Int
  startcol : Int
deriving DecidableEq, Repr

/-- `xlate_and_clip(rb, &line, &col, &cols, &startcol)`; `none` is the 0 return. -/
def xlateAndClip (rb : RB) (line col cols : Int) : Option Clipped :=
  let line := line + rb.xlLine
  let col := col + rb.xlCol
  if rb.clip.lines = 0 then none
  else if line < rb.clip.top ∨ line ≥ rb.clip.bottom ∨ col ≥ rb.clip.right then none
  else
    let cols1 := if col < rb.clip.left then cols - (rb.clip.left - col) else cols
    let startcol := if col < rb.clip.left then rb.clip.left - col else 0
    let col1 := if col < rb.clip.left then rb.clip.left else col
    if cols1 ≤ 0 then none
    else some { line := line, col := col1, startcol := startcol
                cols := if cols1 > rb.clip.right - col1 then rb.clip.right - col1 else cols1 }

/-! ### `cont_cell`, `make_span` -/

/-- `cont_cell(cell, startcol)` (the unrefs are not modelled). -/
def contCell (c : Cell) (startcol : Int) : Cell :=
  { c with state := .cont, maskdepth := -1, cols := startcol, pen := Pen.empty }

/-- First block of `make_span`: "if the following cell is a CONT, it needs to become a new start". -/
def splitAfter (ncols : Int) (row : Row) (end_ : Int) : Row :=
  if end_ < ncols ∧ (row.get end_).state = .cont then
    let spanstart := (row.get end_).cols
    let spancell := row.get spanstart
    let spanend := spanstart + spancell.cols
    let afterlen := spanend - end_
    let endcell : Cell :=
      match spancell.state with
      | .skip => { row.get end_ with state := .skip, cols := afterlen }
      | .text => { row.get end_ with state := .text, cols := afterlen, pen := spancell.pen,
                                     text := spancell.text, offs := spancell.offs + end_ - spanstart }
      | .erase => { row.get end_ with state := .erase, cols := afterlen, pen := spancell.pen }
      | _ => row.get end_
    ⟨fun k =>
      let cell := row.get k
      if k = end_ then endcell
      else if end_ + 1 ≤ k ∧ k < spanend then { cell with cols := end_ }
      else cell⟩
  else row

/-- Does the first block reach `abort()`? -/
def splitAfterAborts (ncols : Int) (row : Row) (end_ : Int) : Bool :=
  if end_ < ncols ∧ (row.get end_).state = .cont then
    match (row.get (row.get end_).cols).state with
    | .line | .char | .cont => true
    | _ => false
  else false

/-- Second block: "if the initial cell is a CONT, shorten its start". -/
def shortenBefore (row : Row) (col : Int) : Row :=
  if (row.get col).state = .cont then
    let beforestart := (row.get col).cols
    let spancell := row.get beforestart
    match spancell.state with
    | .skip | .text | .erase => rowSet row beforestart { spancell with cols := col - beforestart }
    | _ => row
  else row

def shortenBeforeAborts (row : Row) (col : Int) : Bool :=
  if (row.get col).state = .cont then
    match (row.get (row.get col).cols).state with
    | .line | .char | .cont => true
    | _ => false
  else false

/-- `make_span` on one line: the four blocks in order. -/
def makeSpanRow (ncols : Int) (row : Row) (col cols : Int) : Row :=
  let end_ := col + cols
  let row1 := splitAfter ncols row end_
  let row2 := shortenBefore row1 col
  let row3 : Row := ⟨fun k => let cell := row2.get k; if col ≤ k ∧ k < end_ then contCell cell col else cell⟩
  rowSet row3 col { row3.get col with cols := cols }

def makeSpanAborts (ncols : Int) (row : Row) (col cols : Int) : Bool :=
  splitAfterAborts ncols row (col + cols) || shortenBeforeAborts (splitAfter ncols row (col + cols)) col

/-- `make_span(rb, line, col, cols)`; the returned pointer is `&cells[line][col]`. -/
def makeSpan (rb : RB) (line col cols : Int) : RB :=
  { rb.setRow line (makeSpanRow rb.cols (rb.cells line) col cols) with
    aborted := rb.aborted || makeSpanAborts rb.cols (rb.cells line) col cols }

/-- Assignments through the pointer returned by `make_span`. -/
def RB.updCell (rb : RB) (line col : Int) (f : Cell → Cell) : RB :=
  rb.setRow line (rowSet (rb.cells line) col (f (rb.cell line col)))

/-! ### Mask-aware run placement: `put_string`, `skip`, `erase` -/

/-- `while(cols && linecells[col].maskdepth > -1) { col++; cols--; }`: how many iterations. -/
def maskedLen (row : Row) : Nat → Int → Nat
  | 0, _ => 0
  | n + 1, col => if (row.get col).maskdepth > -1 then maskedLen row n (col + 1) + 1 else 0

/-- `while(cols && linecells[col + spanlen].maskdepth == -1) { spanlen++; cols--; }`: `spanlen`. -/
def unmaskedLen (row : Row) : Nat → Int → Nat
  | 0, _ => 0
  | n + 1, col => if (row.get col).maskdepth = -1 then unmaskedLen row n (col + 1) + 1 else 0

/-- The `while(cols)` loop shared by `put_string`, `skip` and `erase`.  `fill cell startcol` is the block of
    assignments after `make_span` (`startcol` is only used by `put_string`). -/
def placeRuns (fill : Cell → Int → Cell) (line : Int) : Nat → RB → Int → Int → Int → RB
  | 0, rb, _, cols, _ => if cols = 0 then rb else { rb with fuelOut := true }
  | fuel + 1, rb, col, cols, startcol =>
    if cols = 0 then rb
    else
      let m : Int := maskedLen (rb.cells line) cols.toNat col
      let col := col + m
      let cols := cols - m
      let startcol := startcol + m
      if cols = 0 then rb
      else
        let spanlen : Int := unmaskedLen (rb.cells line) cols.toNat col
        if spanlen = 0 then rb
        else
          let rb := (makeSpan rb line col spanlen).updCell line col (fun c => fill c startcol)
          placeRuns fill line fuel rb (col + spanlen) (cols - spanlen) (startcol + spanlen)

def fillText (pen : Pen) (s : List UInt8) (c : Cell) (startcol : Int) : Cell :=
  { c with state := .text, pen := pen, text := s, offs := startcol }
def fillSkip (c : Cell) (_ : Int) : Cell := { c with state := .skip }
def fillErase (pen : Pen) (c : Cell) (_ : Int) : Cell := { c with state := .erase, pen := pen }

/-- The part of `put_string` after the width count succeeded with `cols` columns. -/
def putStringCols (rb : RB) (line col : Int) (s : List UInt8) (cols : Int) : RB :=
  match xlateAndClip rb line col cols with
  | none => rb
  | some r => placeRuns (fillText rb.pen s) r.line (r.cols.toNat + 1) rb r.col r.cols r.startcol

/-- Return value of `put_string` / `put_text`: the columns of the whole string, or −1.
    (Since e303fef/ef0c9fa `put_string` is a wrapper around `put_string_slice(rb, line, col, s, 0, columns)`;
    `putStringCols` is that call: the slice loop with `offs = 0`.  The general slice is `RBCopy.putStringSlice`.) -/
def putStringRet (s : List UInt8) : Int :=
  match Utf8.stringColumns s with
  | none => -1
  | some n => n

/-- `put_string` / `put_text`: the buffer afterwards. -/
def putString (rb : RB) (line col : Int) (s : List UInt8) : RB :=
  match Utf8.stringColumns s with
  | none => rb
  | some n => putStringCols rb line col s n

/-- `skip(rb, line, col, cols)` (static). -/
def skipRun (rb : RB) (line col cols : Int) : RB :=
  match xlateAndClip rb line col cols with
  | none => rb
  | some r => placeRuns fillSkip r.line (r.cols.toNat + 1) rb r.col r.cols 0

/-- `erase(rb, line, col, cols)` (static). -/
def eraseRun (rb : RB) (line col cols : Int) : RB :=
  match xlateAndClip rb line col cols with
  | none => rb
  | some r => placeRuns (fillErase rb.pen) r.line (r.cols.toNat + 1) rb r.col r.cols 0

/-- `put_char`. -/
def putChar (rb : RB) (line col : Int) (codepoint : Int) : RB :=
  match xlateAndClip rb line col 1 with
  | none => rb
  | some r =>
    if (rb.cell r.line r.col).maskdepth > -1 then rb
    else (makeSpan rb r.line r.col r.cols).updCell r.line r.col
           (fun c => { c with state := .char, pen := rb.pen, cp := codepoint })

/-- `linecell`. -/
def linecell (rb : RB) (line col : Int) (bits : Nat) : RB :=
  match xlateAndClip rb line col 1 with
  | none => rb
  | some r =>
    if (rb.cell r.line r.col).maskdepth > -1 then rb
    else
      let rb1 :=
        if (rb.cell r.line r.col).state ≠ .line then
          (makeSpan rb r.line r.col r.cols).updCell r.line r.col
            (fun c => { c with state := .line, cols := 1, pen := rb.pen, lmask := 0 })
        else if !Pen.equiv (rb.cell r.line r.col).pen rb.pen then
          rb.updCell r.line r.col (fun c => { c with pen := rb.pen })
        else rb
      rb1.updCell r.line r.col (fun c => { c with lmask := c.lmask ||| bits })

/-! ### Public operations -/

/-- `tickit_renderbuffer_translate`. -/
def translate (rb : RB) (downward rightward : Int) : RB :=
  { rb with xlLine := rb.xlLine + downward, xlCol := rb.xlCol + rightward }

/-- `tickit_renderbuffer_clip`. -/
def clip (rb : RB) (rect : Rect) : RB :=
  let other := rect.translate rb.xlLine rb.xlCol
  match Rect.intersect rb.clip other with
  | some r => { rb with clip := r }
  | none => { rb with clip := { rb.clip with lines := 0 } }

/-- The `hole` of `tickit_renderbuffer_mask` after translation and cropping at 0. -/
def maskHole (rb : RB) (mask : Rect) : Rect :=
  let h := mask.translate rb.xlLine rb.xlCol
  let h := if h.top < 0 then { h with lines := h.lines + h.top, top := 0 } else h
  if h.left < 0 then { h with cols := h.cols + h.left, left := 0 } else h

/-- `tickit_renderbuffer_mask`. -/
def mask (rb : RB) (m : Rect) : RB :=
  let hole := maskHole rb m
  { rb with cells := fun l => ⟨fun c =>
      let cell := rb.cell l c
      if hole.top ≤ l ∧ l < hole.bottom ∧ l < rb.lines ∧ hole.left ≤ c ∧ c < hole.right ∧ c < rb.cols ∧
         cell.maskdepth = -1
      then { cell with maskdepth := rb.depth } else cell⟩ }

/-- `tickit_renderbuffer_goto`. -/
def goto (rb : RB) (line col : Int) : RB := { rb with vcSet := true, vcLine := line, vcCol := col }

/-- `tickit_renderbuffer_ungoto`. -/
def ungoto (rb : RB) : RB := { rb with vcSet := false }

/-- `tickit_renderbuffer_setpen`; `pen = none` is a NULL argument. -/
def setpen (rb : RB) (pen : Option Pen) : RB :=
  let newpen := match pen with
    | some p => Pen.copy Pen.empty p true
    | none => Pen.empty
  let newpen := match rb.stack with
    | f :: _ => Pen.copy newpen f.pen false
    | [] => newpen
  { rb with pen := newpen }

/-- `tickit_renderbuffer_reset`. -/
def reset (rb : RB) : RB :=
  { rb with
    cells := fun l => ⟨fun c =>
      let cell := rb.cell l c
      if 0 ≤ l ∧ l < rb.lines ∧ 0 ≤ c ∧ c < rb.cols then
        if c = 0 then { contCell cell 0 with state := .skip, maskdepth := -1, cols := rb.cols }
        else contCell cell 0
      else cell⟩
    vcSet := false
    xlLine := 0, xlCol := 0
    clip := ⟨0, 0, rb.lines, rb.cols⟩
    pen := Pen.empty
    stack := []
    depth := if rb.stack.isEmpty then rb.depth else 0 }

/-- `tickit_renderbuffer_save`. -/
def save (rb : RB) : RB :=
  { rb with
    stack := { penOnly := false, vcPosSet := rb.vcSet, vcLine := rb.vcLine, vcCol := rb.vcCol, xlLine := rb.xlLine, xlCol := rb.xlCol,
               clip := rb.clip, pen := rb.pen } :: rb.stack
    depth := rb.depth + 1 }

/-- `tickit_renderbuffer_savepen`. -/
def savepen (rb : RB) : RB :=
  { rb with stack := { penOnly := true, pen := rb.pen } :: rb.stack, depth := rb.depth + 1 }

/-- `tickit_renderbuffer_restore`. -/
def restore (rb : RB) : RB :=
  match rb.stack with
  | [] => rb
  | f :: prev =>
    let rb1 : RB :=
      if !f.penOnly then
        { rb with vcSet := f.vcPosSet, vcLine := f.vcLine, vcCol := f.vcCol, xlLine := f.xlLine, xlCol := f.xlCol,
                  clip := f.clip }
      else rb
    let depth := rb.depth - 1
    { rb1 with
      stack := prev, pen := f.pen, depth := depth
      cells := fun l => ⟨fun c =>
        let cell := rb.cell l c
        if 0 ≤ l ∧ l < rb.lines ∧ 0 ≤ c ∧ c < rb.cols ∧ cell.maskdepth > depth
        then { cell with maskdepth := -1 } else cell⟩ }

/-- `for(line = from; line < to; line++) f(rb, line)`. -/
def forLines (f : RB → Int → RB) (rb : RB) (from_ : Int) : Nat → RB
  | 0 => rb
  | n + 1 => forLines f (f rb from_) (from_ + 1) n

/-- `tickit_renderbuffer_clear`. -/
def clear (rb : RB) : RB := forLines (fun r line => eraseRun r line 0 r.cols) rb 0 rb.lines.toNat

/-- `tickit_renderbuffer_skip_at`. -/
def skipAt (rb : RB) (line col cols : Int) : RB := skipRun rb line col cols

/-- `tickit_renderbuffer_skip`. -/
def skip (rb : RB) (cols : Int) : RB :=
  if !rb.vcSet then rb
  else { skipRun rb rb.vcLine rb.vcCol cols with vcCol := rb.vcCol + cols }

/-- `tickit_renderbuffer_skip_to`. -/
def skipTo (rb : RB) (col : Int) : RB :=
  if !rb.vcSet then rb
  else { (if rb.vcCol < col then skipRun rb rb.vcLine rb.vcCol (col - rb.vcCol) else rb) with vcCol := col }

/-- `tickit_renderbuffer_skiprect`. -/
def skiprect (rb : RB) (rect : Rect) : RB :=
  forLines (fun r line => skipRun r line rect.left rect.cols) rb rect.top (rect.bottom - rect.top).toNat

/-- `tickit_renderbuffer_textn_at` (also `text_at`, `textf_at`): the buffer afterwards. -/
def textAt (rb : RB) (line col : Int) (s : List UInt8) : RB := putString rb line col s

/-- `tickit_renderbuffer_textn` (also `text`, `textf`): the buffer afterwards. -/
def text (rb : RB) (s : List UInt8) : RB :=
  if !rb.vcSet then rb
  else { putString rb rb.vcLine rb.vcCol s with vcCol := rb.vcCol + putStringRet s }

/-- Return value of `tickit_renderbuffer_textn`. -/
def textRet (rb : RB) (s : List UInt8) : Int := if !rb.vcSet then -1 else putStringRet s

/-- `tickit_renderbuffer_erase_at`. -/
def eraseAt (rb : RB) (line col cols : Int) : RB := eraseRun rb line col cols

/-- `tickit_renderbuffer_erase`. -/
def erase (rb : RB) (cols : Int) : RB :=
  if !rb.vcSet then rb
  else { eraseRun rb rb.vcLine rb.vcCol cols with vcCol := rb.vcCol + cols }

/-- `tickit_renderbuffer_erase_to`. -/
def eraseTo (rb : RB) (col : Int) : RB :=
  if !rb.vcSet then rb
  else { (if rb.vcCol < col then eraseRun rb rb.vcLine rb.vcCol (col - rb.vcCol) else rb) with vcCol := col }

/-- `tickit_renderbuffer_eraserect`. -/
def eraserect (rb : RB) (rect : Rect) : RB :=
  forLines (fun r line => eraseRun r line rect.left rect.cols) rb rect.top (rect.bottom - rect.top).toNat

/-- `tickit_renderbuffer_char_at`. -/
def charAt (rb : RB) (line col : Int) (codepoint : Int) : RB := putChar rb line col codepoint

/-- `tickit_renderbuffer_char`. -/
def char (rb : RB) (codepoint : Int) : RB :=
  if !rb.vcSet then rb
  else { putChar rb rb.vcLine rb.vcCol codepoint with vcCol := rb.vcCol + 1 }

/-- `for(x = from; x <= to; x++) linecell(...)` of `hline_at`/`vline_at` (`n` iterations). -/
def lineLoop (cellAt : Int → Int × Int) (bits : Nat) (rb : RB) (from_ : Int) : Nat → RB
  | 0 => rb
  | n + 1 => lineLoop cellAt bits (linecell rb (cellAt from_).1 (cellAt from_).2 bits) (from_ + 1) n

open Tickit.Gen.RBWidth in
/-- `tickit_renderbuffer_hline_at`. -/
def hlineAt (rb : RB) (line startcol endcol : Int) (style caps : Nat) : RB :=
  let east := style <<< c_EAST_SHIFT
  let west := style <<< c_WEST_SHIFT
  let rb := linecell rb line startcol (east ||| (if caps &&& c_TICKIT_LINECAP_START ≠ 0 then west else 0))
  let rb := lineLoop (fun col => (line, col)) (east ||| west) rb (startcol + 1) (endcol - 1 - startcol).toNat
  linecell rb line endcol ((if caps &&& c_TICKIT_LINECAP_END ≠ 0 then east else 0) ||| west)

open Tickit.Gen.RBWidth in
/-- `tickit_renderbuffer_vline_at`. -/
def vlineAt (rb : RB) (startline endline col : Int) (style caps : Nat) : RB :=
  let north := style <<< c_NORTH_SHIFT
  let south := style <<< c_SOUTH_SHIFT
  let rb := linecell rb startline col (south ||| (if caps &&& c_TICKIT_LINECAP_START ≠ 0 then north else 0))
  let rb := lineLoop (fun line => (line, col)) (south ||| north) rb (startline + 1) (endline - 1 - startline).toNat
  linecell rb endline col ((if caps &&& c_TICKIT_LINECAP_END ≠ 0 then south else 0) ||| north)

/-! ### Queries -/

/-- Result of `get_span`: the start cell of the run and the offset of the queried column in it. -/
structure SpanRef where
  cell : Cell
  offset : Int
deriving DecidableEq, Repr

/-- `get_span(rb, line, col, &offset)`; `none` is the NULL return. -/
def getSpan (rb : RB) (line col : Int) : Option SpanRef :=
  match xlateAndClip rb line col 1 with
  | none => none
  | some r =>
    let cell := rb.cell r.line r.col
    if cell.state = .cont then some ⟨rb.cell r.line cell.cols, r.col - cell.cols⟩
    else some ⟨cell, 0⟩

/-- `tickit_renderbuffer_get_cell_active`. -/
def getCellActive (rb : RB) (line col : Int) : Int :=
  match getSpan rb line col with
  | none => -1
  | some sp => if sp.cell.state ≠ .skip then 1 else 0

/-- `tickit_renderbuffer_get_cell_pen`; `none` is NULL. -/
def getCellPen (rb : RB) (line col : Int) : Option Pen :=
  match getSpan rb line col with
  | none => none
  | some sp => if sp.cell.state = .skip then none else some sp.cell.pen

open Tickit.Gen.RBWidth in
/-- `tickit_renderbuffer_get_cell_linemask` as (north, south, east, west). -/
def getCellLinemask (rb : RB) (line col : Int) : Nat × Nat × Nat × Nat :=
  match getSpan rb line col with
  | none => (0, 0, 0, 0)
  | some sp =>
    if sp.cell.state ≠ .line then (0, 0, 0, 0)
    else ((sp.cell.lmask >>> c_NORTH_SHIFT) % 4, (sp.cell.lmask >>> c_SOUTH_SHIFT) % 4,
          (sp.cell.lmask >>> c_EAST_SHIFT) % 4, (sp.cell.lmask >>> c_WEST_SHIFT) % 4)

/-- `get_span_text(rb, span, offset, one_grapheme = 1, buffer, len)` with a non-NULL buffer:
    return value (−1 for `(size_t)-1`) and the bytes stored. -/
def getSpanText1 (sp : SpanRef) (len : Nat) : Int × List UInt8 :=
  match sp.cell.state with
  | .cont => (-1, [])
  | .skip | .erase => (0, [])
  | .text =>
    let start := (Utf8.ncountmore sp.cell.text none {} (some (Utf8.limitColumns (sp.cell.offs + sp.offset)))).pos
    let end_ := (Utf8.ncountmore sp.cell.text none start (some (Utf8.limitGraphemes (start.graphemes + 1)))).pos
    let bytes := end_.bytes - start.bytes
    if (len : Int) < bytes then (-1, [])
    else (bytes, (sp.cell.text.drop start.bytes.toNat).take bytes.toNat)
  | .line =>
    let bs := Utf8.put (Tickit.Gen.RBWidth.linemaskToChar.getD sp.cell.lmask 0)
    if len < bs.length then (-1, []) else (bs.length, bs)
  | .char =>
    let bs := Utf8.put sp.cell.cp.toNat
    if len < bs.length then (-1, []) else (bs.length, bs)

/-- `tickit_renderbuffer_get_cell_text(rb, line, col, buffer, len)`. -/
def getCellText (rb : RB) (line col : Int) (len : Nat) : Int × List UInt8 :=
  match getSpan rb line col with
  | none => (-1, [])
  | some sp => if sp.cell.state = .cont then (-1, []) else getSpanText1 sp len

/-- `tickit_renderbuffer_has_cursorpos` / `get_cursorpos` (`none`: the outputs are left alone). -/
def getCursor (rb : RB) : Option (Int × Int) := if rb.vcSet then some (rb.vcLine, rb.vcCol) else none

/-! ### Programs -/

/-- One public state-changing operation of the render buffer (the alphabet of "programs" in C03). -/
inductive Op
  | textAt (line col : Int) (s : List UInt8)
  | text (s : List UInt8)
  | eraseAt (line col cols : Int)
  | erase (cols : Int)
  | eraseTo (col : Int)
  | skipAt (line col cols : Int)
  | skip (cols : Int)
  | skipTo (col : Int)
  | charAt (line col : Int) (cp : Int)
  | char (cp : Int)
  | hlineAt (line startcol endcol : Int) (style caps : Nat)
  | vlineAt (startline endline col : Int) (style caps : Nat)
  | clear
  | eraserect (r : Rect)
  | skiprect (r : Rect)
  | goto (line col : Int)
  | ungoto
  | translate (downward rightward : Int)
  | clip (r : Rect)
  | mask (r : Rect)
  | setpen (pen : Option Pen)
  | save
  | savepen
  | restore
  | reset
deriving DecidableEq, Repr

/-- The effect of one operation. -/
def step (rb : RB) : Op → RB
  | .textAt l c s => textAt rb l c s
  | .text s => text rb s
  | .eraseAt l c n => eraseAt rb l c n
  | .erase n => erase rb n
  | .eraseTo c => eraseTo rb c
  | .skipAt l c n => skipAt rb l c n
  | .skip n => skip rb n
  | .skipTo c => skipTo rb c
  | .charAt l c cp => charAt rb l c cp
  | .char cp => char rb cp
  | .hlineAt l c1 c2 st caps => hlineAt rb l c1 c2 st caps
  | .vlineAt l1 l2 c st caps => vlineAt rb l1 l2 c st caps
  | .clear => clear rb
  | .eraserect r => eraserect rb r
  | .skiprect r => skiprect rb r
  | .goto l c => goto rb l c
  | .ungoto => ungoto rb
  | .translate d r => translate rb d r
  | .clip r => clip rb r
  | .mask r => mask rb r
  | .setpen p => setpen rb p
  | .save => save rb
  | .savepen => savepen rb
  | .restore => restore rb
  | .reset => reset rb

/-- A program: operations in order. -/
def run (rb : RB) (prog : List Op) : RB := prog.foldl step rb

/-! ### Tabulation (execution speed only) -/

/-- Re-tabulate the grid into arrays: the identity on `[0,lines) × [0,cols)`; the cells outside (never
    looked at by any operation on a well-formed buffer) become the default cell. -/
def RB.compact (rb : RB) : RB :=
  let nl := rb.lines.toNat
  let nc := rb.cols.toNat
  let tab : Array (Array Cell) := Array.ofFn (n := nl) fun l => Array.ofFn (n := nc) fun c => rb.cell l.val c.val
  { rb with cells := fun l =>
      if 0 ≤ l ∧ l.toNat < nl then
        match tab[l.toNat]? with
        | some row => ⟨fun c => if 0 ≤ c then (row[c.toNat]?).getD default else default⟩
        | none => ⟨fun _ => default⟩
      else ⟨fun _ => default⟩ }

end Tickit.RB
