import Tickit.Model.RB
/-
  The specification of C03: an abstract render buffer — a grid of cell contents indexed by all of
  `Int × Int`, a set of masked cells, and the auxiliary state — with a one-line, cell-wise definition of
  every operation.  Nothing here knows about runs, CONT cells or mask depths:

  * a drawing operation changes exactly the cells it covers (in coordinates shifted by the translation in
    force) that are inside the clipping region and not masked, to its own content and the current pen
    (`paint`); line segments OR into a cell that already holds a line (`mergeLine`);
  * `save` records translation, clip, pen, masks *and the whole virtual cursor*; `restore` brings them back;
  * the clipping region only ever shrinks (`clip` intersects);
  * cursor-relative operations advance the cursor by the columns requested, drawn or not.

  `absContent`, `absMasked`, `absClipRect` read a concrete buffer as an abstract one (what `get_span` does, without
  clip and translation; the whole state is `RB.absOf`, Proof/RBRefine.lean).  The same definitions are the runtime oracle of the driver (`SPEC`) and the right-hand side
  of the refinement theorems.  No Mathlib.
-/
namespace Tickit.RBAbs
open Tickit Tickit.RB

/-- What one cell shows. `text pen s k`: column `k` of the string `s`. -/
inductive Content
  | skip
  | text (pen : Pen) (s : List UInt8) (k : Int)
  | erase (pen : Pen)
  | line (pen : Pen) (mask : Nat)
  | char (pen : Pen) (cp : Int)
deriving DecidableEq, Repr, Inhabited

/-- A saved state. A `penOnly` frame (from `savepen`) restores only pen and masks. -/
structure AFrame where
  penOnly : Bool
  vc : Option (Int × Int)
  xlLine : Int
  xlCol : Int
  clip : Int → Int → Bool
  pen : Pen
  masked : Int → Int → Bool

structure AState where
  lines : Int
  cols : Int
  content : Int → Int → Content
  masked : Int → Int → Bool
  /-- the virtual cursor, if set -/
  vc : Option (Int × Int)
  xlLine : Int
  xlCol : Int
  /-- the clipping region (buffer coordinates) -/
  clip : Int → Int → Bool
  pen : Pen
  stack : List AFrame

def inBuf (lines cols L C : Int) : Bool := decide (0 ≤ L) && decide (L < lines) && decide (0 ≤ C) && decide (C < cols)

/-- A fresh buffer: everything skipped, nothing masked, clip = the whole buffer. -/
def AState.new (lines cols : Int) : AState :=
  { lines := lines, cols := cols
    content := fun _ _ => .skip
    masked := fun _ _ => false
    vc := none, xlLine := 0, xlCol := 0
    clip := inBuf lines cols
    pen := Pen.empty, stack := [] }

/-- May a drawing operation change cell `(L, C)` (buffer coordinates)? -/
def AState.writable (a : AState) (L C : Int) : Bool := a.clip L C && !a.masked L C

/-- The generic drawing operation: every writable cell whose *user* coordinates `(L − xlLine, C − xlCol)`
    satisfy `covers` gets `what` (also given the user coordinates); all other cells keep their content. -/
def paint (a : AState) (covers : Int → Int → Bool) (what : Int → Int → Content → Content) : AState :=
  { a with content := fun L C =>
      if covers (L - a.xlLine) (C - a.xlCol) && a.writable L C
      then what (L - a.xlLine) (C - a.xlCol) (a.content L C) else a.content L C }

/-- `cols` columns starting at `(line, col)`. -/
def inRun (line col cols : Int) (l c : Int) : Bool := decide (l = line) && decide (col ≤ c) && decide (c < col + cols)

def eraseAt (a : AState) (line col cols : Int) : AState :=
  paint a (inRun line col cols) (fun _ _ _ => .erase a.pen)

def skipAt (a : AState) (line col cols : Int) : AState :=
  paint a (inRun line col cols) (fun _ _ _ => .skip)

/-- A text the width counter accepts occupies its columns; a rejected one draws nothing. -/
def textAt (a : AState) (line col : Int) (s : List UInt8) : AState :=
  match Utf8.stringColumns s with
  | none => a
  | some n => paint a (inRun line col n) (fun _ c _ => .text a.pen s (c - col))

def charAt (a : AState) (line col : Int) (cp : Int) : AState :=
  paint a (inRun line col 1) (fun _ _ _ => .char a.pen cp)

/-- Line segments accumulate; the pen is the current one unless the cell's pen is already equivalent. -/
def mergeLine (pen : Pen) (bits : Nat) (old : Content) : Content :=
  match old with
  | .line p m => .line (if Pen.equiv p pen then p else pen) (m ||| bits)
  | _ => .line pen bits

def linecell (a : AState) (line col : Int) (bits : Nat) : AState :=
  paint a (inRun line col 1) (fun _ _ old => mergeLine a.pen bits old)

def lineLoop (cellAt : Int → Int × Int) (bits : Nat) (a : AState) (from_ : Int) : Nat → AState
  | 0 => a
  | n + 1 => lineLoop cellAt bits (linecell a (cellAt from_).1 (cellAt from_).2 bits) (from_ + 1) n

open Tickit.Gen.RBWidth in
def hlineAt (a : AState) (line startcol endcol : Int) (style caps : Nat) : AState :=
  let east := style <<< c_EAST_SHIFT
  let west := style <<< c_WEST_SHIFT
  let a := linecell a line startcol (east ||| (if caps &&& c_TICKIT_LINECAP_START ≠ 0 then west else 0))
  let a := lineLoop (fun col => (line, col)) (east ||| west) a (startcol + 1) (endcol - 1 - startcol).toNat
  linecell a line endcol ((if caps &&& c_TICKIT_LINECAP_END ≠ 0 then east else 0) ||| west)

open Tickit.Gen.RBWidth in
def vlineAt (a : AState) (startline endline col : Int) (style caps : Nat) : AState :=
  let north := style <<< c_NORTH_SHIFT
  let south := style <<< c_SOUTH_SHIFT
  let a := linecell a startline col (south ||| (if caps &&& c_TICKIT_LINECAP_START ≠ 0 then north else 0))
  let a := lineLoop (fun line => (line, col)) (south ||| north) a (startline + 1) (endline - 1 - startline).toNat
  linecell a endline col ((if caps &&& c_TICKIT_LINECAP_END ≠ 0 then south else 0) ||| north)

def eraserect (a : AState) (r : Rect) : AState := paint a r.memb (fun _ _ _ => .erase a.pen)
def skiprect (a : AState) (r : Rect) : AState := paint a r.memb (fun _ _ _ => .skip)
/-- `clear` erases the rectangle `(0,0,lines,cols)` *in user coordinates*. -/
def clear (a : AState) : AState := eraserect a ⟨0, 0, a.lines, a.cols⟩

def goto (a : AState) (line col : Int) : AState := { a with vc := some (line, col) }
def ungoto (a : AState) : AState := { a with vc := none }

/-- Cursor-relative drawing: draw at the cursor, then advance by `adv` whether or not anything was visible. -/
def atCursor (a : AState) (draw : AState → Int → Int → AState) (adv : Int) : AState :=
  match a.vc with
  | none => a
  | some (l, c) => { draw a l c with vc := some (l, c + adv) }

def erase (a : AState) (cols : Int) : AState := atCursor a (fun a l c => eraseAt a l c cols) cols
def skip (a : AState) (cols : Int) : AState := atCursor a (fun a l c => skipAt a l c cols) cols
def char (a : AState) (cp : Int) : AState := atCursor a (fun a l c => charAt a l c cp) 1
/-- Stated for texts the width counter accepts; for a rejected text the code moves the cursor by −1 and the
    property is silent (the specification copies that so that it stays a total function). -/
def text (a : AState) (s : List UInt8) : AState :=
  atCursor a (fun a l c => textAt a l c s) (putStringRet s)

def eraseTo (a : AState) (col : Int) : AState :=
  match a.vc with
  | none => a
  | some (l, c) => { eraseAt a l c (col - c) with vc := some (l, col) }

def skipTo (a : AState) (col : Int) : AState :=
  match a.vc with
  | none => a
  | some (l, c) => { skipAt a l c (col - c) with vc := some (l, col) }

def translate (a : AState) (downward rightward : Int) : AState :=
  { a with xlLine := a.xlLine + downward, xlCol := a.xlCol + rightward }

/-- Clipping intersects: it can only shrink. -/
def clip (a : AState) (r : Rect) : AState :=
  { a with clip := fun L C => a.clip L C && r.memb (L - a.xlLine) (C - a.xlCol) }

/-- Masking adds the buffer cells of the (translated) rectangle. -/
def mask (a : AState) (r : Rect) : AState :=
  { a with masked := fun L C => a.masked L C || (inBuf a.lines a.cols L C && r.memb (L - a.xlLine) (C - a.xlCol)) }

/-- Attribute-wise: the new pen's attribute, else the saved pen's. -/
def orElse {α : Type} (a b : Option α) : Option α :=
  match a with
  | some v => some v
  | none => b

def mergePen (p q : Pen) : Pen :=
  { fg := orElse p.fg q.fg, bg := orElse p.bg q.bg, bold := orElse p.bold q.bold, under := orElse p.under q.under,
    italic := orElse p.italic q.italic, reverse := orElse p.reverse q.reverse, strike := orElse p.strike q.strike,
    altfont := orElse p.altfont q.altfont, blink := orElse p.blink q.blink, sizepos := orElse p.sizepos q.sizepos }

/-- The pen becomes the given one, completed by the pen saved on top of the stack. -/
def setpen (a : AState) (pen : Option Pen) : AState :=
  let p := pen.getD Pen.empty
  match a.stack with
  | f :: _ => { a with pen := mergePen p f.pen }
  | [] => { a with pen := p }

def save (a : AState) : AState :=
  { a with stack := { penOnly := false, vc := a.vc, xlLine := a.xlLine, xlCol := a.xlCol, clip := a.clip,
                      pen := a.pen, masked := a.masked } :: a.stack }

def savepen (a : AState) : AState :=
  { a with stack := { penOnly := true, vc := a.vc, xlLine := a.xlLine, xlCol := a.xlCol, clip := a.clip,
                      pen := a.pen, masked := a.masked } :: a.stack }

def restore (a : AState) : AState :=
  match a.stack with
  | [] => a
  | f :: rest =>
    if f.penOnly then { a with pen := f.pen, masked := f.masked, stack := rest }
    else { a with pen := f.pen, masked := f.masked, stack := rest,
                  vc := f.vc, xlLine := f.xlLine, xlCol := f.xlCol, clip := f.clip }

def reset (a : AState) : AState := AState.new a.lines a.cols

/-- The specification of one operation. -/
def step (a : AState) : Op → AState
  | .textAt l c s => textAt a l c s
  | .text s => text a s
  | .eraseAt l c n => eraseAt a l c n
  | .erase n => erase a n
  | .eraseTo c => eraseTo a c
  | .skipAt l c n => skipAt a l c n
  | .skip n => skip a n
  | .skipTo c => skipTo a c
  | .charAt l c cp => charAt a l c cp
  | .char cp => char a cp
  | .hlineAt l c1 c2 st caps => hlineAt a l c1 c2 st caps
  | .vlineAt l1 l2 c st caps => vlineAt a l1 l2 c st caps
  | .clear => clear a
  | .eraserect r => eraserect a r
  | .skiprect r => skiprect a r
  | .goto l c => goto a l c
  | .ungoto => ungoto a
  | .translate d r => translate a d r
  | .clip r => clip a r
  | .mask r => mask a r
  | .setpen p => setpen a p
  | .save => save a
  | .savepen => savepen a
  | .restore => restore a
  | .reset => reset a

def run (a : AState) (prog : List Op) : AState := prog.foldl step a

/-! ### Reading a concrete buffer as an abstract one -/

/-- The content shown at `(L, C)`: look up the start of the run (as `get_span` does). -/
def absContent (rb : RB) (L C : Int) : Content :=
  if inBuf rb.lines rb.cols L C then
    let c := rb.cell L C
    let start := if c.state = .cont then rb.cell L c.cols else c
    let off := if c.state = .cont then C - c.cols else 0
    match start.state with
    | .skip => .skip
    | .text => .text start.pen start.text (start.offs + off)
    | .erase => .erase start.pen
    | .line => .line start.pen start.lmask
    | .char => .char start.pen start.cp
    | .cont => .skip
  else .skip

def absMasked (rb : RB) (L C : Int) : Bool := inBuf rb.lines rb.cols L C && decide ((rb.cell L C).maskdepth > -1)

/-- The clipping region of `xlate_and_clip` for a single cell. -/
def absClipRect (r : Rect) (L C : Int) : Bool := decide (r.lines ≠ 0) && r.memb L C

/-- The masks that were in force when the frame now at stack position `j` (0 = top) was pushed:
    the cells whose mask depth does not exceed the depth at that time. -/
def absMaskedAt (rb : RB) (savedDepth : Int) (L C : Int) : Bool :=
  absMasked rb L C && decide ((rb.cell L C).maskdepth ≤ savedDepth)

end Tickit.RBAbs
