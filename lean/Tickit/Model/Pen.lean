import Tickit.Gen.PenLayout
/-
  Model of /repo/src/pen.c (TickitPen), statement by statement.

  * `Pen` is the pen *value*: the value bit-fields and the validity bits of `struct TickitPen`.
    Stores into a value bit-field go through `store w signed`, with the widths and signedness
    regenerated from the source (`Tickit.Gen.PenLayout`); reads return the stored value.
  * The attribute enum is the inductive `PenAttr`; `PenAttr.code` gives the C enumerator value
    (from `Gen.PenLayout`), `PenAttr.ofCode?` the inverse; every public function also has a
    `…C` entry point taking the raw `int` (an out-of-range value takes the `default:` path).
  * `PenObj` adds what the value does not have: `freezecount`, `changed` and the number of
    `TICKIT_PEN_ON_CHANGE` events delivered (the observable effect of `run_events`).
  * `tickit_pen_set_colour_attr_desc` uses `sscanf`; its two uses are parameters (`Scanf`), and
    `glibcScanf` is a small explicit model of what glibc 2.36 does for `"%d"` and
    `"%2hhx%2hhx%2hhx"` (recorded libc behaviour, validated by the correspondence run only).
  * At the end: `PenDict`, the dictionary (partial map) that property C19 uses as specification.

  No Mathlib import: this file is linked into the driver executable.
-/
namespace Tickit

/-! ### Bit-field storage -/

namespace Bitfield

/-- Value read back from an unsigned bit-field of width `w` after storing `v` (conversion modulo `2^w`). -/
def wrapUnsigned (w : Nat) (v : Int) : Int := v % (2 : Int) ^ w

/-- Value read back from a signed bit-field of width `w` after storing `v`
    (gcc: reduced modulo `2^w` into `[-2^(w-1), 2^(w-1))`). -/
def wrapSigned (w : Nat) (v : Int) : Int :=
  (v + (2 : Int) ^ (w - 1)) % (2 : Int) ^ w - (2 : Int) ^ (w - 1)

/-- Store into a bit-field of width `w`. -/
def store (w : Nat) (signed : Bool) (v : Int) : Int :=
  if signed then wrapSigned w v else wrapUnsigned w v

/-- The values a bit-field of width `w` can hold. -/
def Representable (w : Nat) (signed : Bool) (v : Int) : Prop :=
  if signed then -((2 : Int) ^ (w - 1)) ≤ v ∧ v < (2 : Int) ^ (w - 1) else 0 ≤ v ∧ v < (2 : Int) ^ w

instance (w : Nat) (s : Bool) (v : Int) : Decidable (Representable w s v) := by
  unfold Representable; exact inferInstance

end Bitfield
open Bitfield

/-! ### Attributes -/

/-- `TickitPenAttr` (without the `TICKIT_N_PEN_ATTRS` sentinel). -/
inductive PenAttr
  | fg | bg | bold | under | italic | reverse | strike | altfont | blink | sizepos
deriving DecidableEq, Repr, Inhabited

/-- `TickitPenAttrType`. -/
inductive PenAttrType
  | bool | int | colour
deriving DecidableEq, Repr, Inhabited

namespace PenAttr
open Gen.PenLayout

/-- The C enumerator value. -/
def code : PenAttr → Int
  | fg => TICKIT_PEN_FG | bg => TICKIT_PEN_BG | bold => TICKIT_PEN_BOLD | under => TICKIT_PEN_UNDER
  | italic => TICKIT_PEN_ITALIC | reverse => TICKIT_PEN_REVERSE | strike => TICKIT_PEN_STRIKE
  | altfont => TICKIT_PEN_ALTFONT | blink => TICKIT_PEN_BLINK | sizepos => TICKIT_PEN_SIZEPOS

/-- The attributes in the order of `for(attr = 1; attr < TICKIT_N_PEN_ATTRS; attr++)`. -/
def all : List PenAttr := [fg, bg, bold, under, italic, reverse, strike, altfont, blink, sizepos]

def ofCode? (c : Int) : Option PenAttr := all.find? (fun a => a.code == c)

/-- `tickit_penattr_type`. -/
def type : PenAttr → PenAttrType
  | fg | bg => .colour
  | altfont | under | sizepos => .int
  | bold | italic | reverse | strike | blink => .bool

/-- Width of the bit-field that stores the attribute's value (`Gen.PenLayout`, from `struct TickitPen`). -/
def width : PenAttr → Nat
  | fg => fgindex_width | bg => bgindex_width | bold => bold_width | under => under_width
  | italic => italic_width | reverse => reverse_width | strike => strike_width
  | altfont => altfont_width | blink => blink_width | sizepos => sizepos_width

/-- Signedness of that bit-field. -/
def signed : PenAttr → Bool
  | fg => fgindex_signed | bg => bgindex_signed | bold => bold_signed | under => under_signed
  | italic => italic_signed | reverse => reverse_signed | strike => strike_signed
  | altfont => altfont_signed | blink => blink_signed | sizepos => sizepos_signed

/-- A *representable value* of the attribute: one its bit-field can hold. -/
def Representable (a : PenAttr) (v : Int) : Prop := Bitfield.Representable a.width a.signed v

instance (a : PenAttr) (v : Int) : Decidable (a.Representable v) := by
  unfold PenAttr.Representable; exact inferInstance

end PenAttr

namespace PenAttrType
open Gen.PenLayout
def code : PenAttrType → Int
  | bool => TICKIT_PENTYPE_BOOL | int => TICKIT_PENTYPE_INT | colour => TICKIT_PENTYPE_COLOUR
end PenAttrType

/-- `tickit_penattr_type` on a raw `int`: −1 from the `default` path. -/
def penattrTypeC (c : Int) : Int :=
  match PenAttr.ofCode? c with
  | some a => a.type.code
  | none => -1

/-! ### The pen value -/

/-- `TickitPenRGB8`. -/
structure RGB8 where
  r : UInt8
  g : UInt8
  b : UInt8
deriving DecidableEq, Repr, Inhabited

/-- The nested `valid` struct (only ever read as truth values, only ever assigned 0 or 1). -/
structure PenValid where
  fgindex : Bool := false
  bgindex : Bool := false
  fgRgb8  : Bool := false
  bgRgb8  : Bool := false
  bold    : Bool := false
  under   : Bool := false
  italic  : Bool := false
  reverse : Bool := false
  strike  : Bool := false
  altfont : Bool := false
  blink   : Bool := false
  sizepos : Bool := false
deriving DecidableEq, Repr, Inhabited

/-- The value part of `struct TickitPen`.  A field whose validity bit is off holds an
    arbitrary (in C: indeterminate) value that no public function reads. -/
structure Pen where
  fgindex : Int := 0
  bgindex : Int := 0
  fgRgb8  : RGB8 := ⟨0, 0, 0⟩
  bgRgb8  : RGB8 := ⟨0, 0, 0⟩
  bold    : Int := 0
  italic  : Int := 0
  reverse : Int := 0
  strike  : Int := 0
  blink   : Int := 0
  sizepos : Int := 0
  under   : Int := 0
  altfont : Int := 0
  valid   : PenValid := {}
deriving DecidableEq, Repr, Inhabited

namespace Pen
open Gen.PenLayout

/-- The raw content of the attribute's value bit-field. -/
def rawField (p : Pen) : PenAttr → Int
  | .fg => p.fgindex | .bg => p.bgindex | .bold => p.bold | .under => p.under | .italic => p.italic
  | .reverse => p.reverse | .strike => p.strike | .altfont => p.altfont | .blink => p.blink | .sizepos => p.sizepos

/-- The type invariant of the C struct: every value bit-field holds a value of its width (valid or not). -/
def WF (p : Pen) : Prop := ∀ a : PenAttr, a.Representable (p.rawField a)

/-- `tickit_pen_has_attr`. -/
def hasAttr (p : Pen) : PenAttr → Bool
  | .fg => p.valid.fgindex
  | .bg => p.valid.bgindex
  | .bold => p.valid.bold
  | .under => p.valid.under
  | .italic => p.valid.italic
  | .reverse => p.valid.reverse
  | .strike => p.valid.strike
  | .altfont => p.valid.altfont
  | .blink => p.valid.blink
  | .sizepos => p.valid.sizepos

/-- `tickit_pen_get_bool_attr`. -/
def getBoolAttr (p : Pen) (a : PenAttr) : Bool :=
  if !p.hasAttr a then false
  else match a with
    | .bold => p.bold != 0
    | .italic => p.italic != 0
    | .reverse => p.reverse != 0
    | .strike => p.strike != 0
    | .blink => p.blink != 0
    | .under => decide (p.under > 0)      -- back-compat
    | _ => false

/-- `tickit_pen_set_bool_attr` (value effect). -/
def setBoolAttr (p : Pen) (a : PenAttr) (v : Bool) : Pen :=
  let b : Int := if v then 1 else 0
  match a with
  | .bold => { p with bold := store bold_width bold_signed b, valid := { p.valid with bold := true } }
  | .italic => { p with italic := store italic_width italic_signed b, valid := { p.valid with italic := true } }
  | .reverse => { p with reverse := store reverse_width reverse_signed b, valid := { p.valid with reverse := true } }
  | .strike => { p with strike := store strike_width strike_signed b, valid := { p.valid with strike := true } }
  | .blink => { p with blink := store blink_width blink_signed b, valid := { p.valid with blink := true } }
  | .under =>
    { p with under := store under_width under_signed (if v then TICKIT_PEN_UNDER_SINGLE else TICKIT_PEN_UNDER_NONE),
             valid := { p.valid with under := true } }
  | _ => p

/-- `tickit_pen_get_int_attr`. -/
def getIntAttr (p : Pen) (a : PenAttr) : Int :=
  if !p.hasAttr a then 0
  else match a with
    | .under => p.under
    | .altfont => p.altfont
    | .sizepos => p.sizepos
    | _ => 0

/-- `tickit_pen_set_int_attr` (value effect). -/
def setIntAttr (p : Pen) (a : PenAttr) (v : Int) : Pen :=
  match a with
  | .under => { p with under := store under_width under_signed v, valid := { p.valid with under := true } }
  | .altfont => { p with altfont := store altfont_width altfont_signed v, valid := { p.valid with altfont := true } }
  | .sizepos => { p with sizepos := store sizepos_width sizepos_signed v, valid := { p.valid with sizepos := true } }
  | _ => p

/-- `tickit_pen_get_colour_attr`. -/
def getColourAttr (p : Pen) (a : PenAttr) : Int :=
  if !p.hasAttr a then COLOUR_DEFAULT
  else match a with
    | .fg => p.fgindex
    | .bg => p.bgindex
    | _ => 0

/-- `tickit_pen_set_colour_attr` (value effect). -/
def setColourAttr (p : Pen) (a : PenAttr) (v : Int) : Pen :=
  match a with
  | .fg => { p with fgindex := store fgindex_width fgindex_signed v,
                    valid := { p.valid with fgindex := true, fgRgb8 := false } }
  | .bg => { p with bgindex := store bgindex_width bgindex_signed v,
                    valid := { p.valid with bgindex := true, bgRgb8 := false } }
  | _ => p

/-- `tickit_pen_has_colour_attr_rgb8`. -/
def hasColourAttrRgb8 (p : Pen) : PenAttr → Bool
  | .fg => p.valid.fgindex && p.valid.fgRgb8
  | .bg => p.valid.bgindex && p.valid.bgRgb8
  | _ => false

/-- `tickit_pen_get_colour_attr_rgb8`. -/
def getColourAttrRgb8 (p : Pen) (a : PenAttr) : RGB8 :=
  if p.hasColourAttrRgb8 a then
    match a with
    | .fg => p.fgRgb8
    | .bg => p.bgRgb8
    | _ => ⟨0, 0, 0⟩
  else ⟨0, 0, 0⟩

/-- `tickit_pen_set_colour_attr_rgb8` (value effect): only if the index version is already set. -/
def setColourAttrRgb8 (p : Pen) (a : PenAttr) (v : RGB8) : Pen :=
  if !p.hasAttr a then p
  else match a with
    | .fg => { p with fgRgb8 := v, valid := { p.valid with fgRgb8 := true } }
    | .bg => { p with bgRgb8 := v, valid := { p.valid with bgRgb8 := true } }
    | _ => p

/-- `tickit_pen_nondefault_attr`. -/
def nondefaultAttr (p : Pen) (a : PenAttr) : Bool :=
  if !p.hasAttr a then false
  else match a.type with
    | .bool => p.getBoolAttr a
    | .int => decide (p.getIntAttr a > 0)
    | .colour => decide (p.getColourAttr a ≠ COLOUR_DEFAULT)

/-- `tickit_pen_is_nonempty`. -/
def isNonempty (p : Pen) : Bool := PenAttr.all.any p.hasAttr

/-- `tickit_pen_is_nondefault`. -/
def isNondefault (p : Pen) : Bool := PenAttr.all.any p.nondefaultAttr

/-- `tickit_pen_clear_attr` (value effect). -/
def clearAttr (p : Pen) : PenAttr → Pen
  | .fg => { p with valid := { p.valid with fgindex := false } }
  | .bg => { p with valid := { p.valid with bgindex := false } }
  | .bold => { p with valid := { p.valid with bold := false } }
  | .under => { p with valid := { p.valid with under := false } }
  | .italic => { p with valid := { p.valid with italic := false } }
  | .reverse => { p with valid := { p.valid with reverse := false } }
  | .strike => { p with valid := { p.valid with strike := false } }
  | .altfont => { p with valid := { p.valid with altfont := false } }
  | .blink => { p with valid := { p.valid with blink := false } }
  | .sizepos => { p with valid := { p.valid with sizepos := false } }

/-- `tickit_pen_clear`. -/
def clear (p : Pen) : Pen := PenAttr.all.foldl clearAttr p

/-- `tickit_pen_new`: `malloc` then `tickit_pen_clear`.  `garbage` is the indeterminate content of the
    fresh allocation; note that `clear` does not reset `valid.fg_rgb8` / `valid.bg_rgb8`. -/
def newFrom (garbage : Pen) : Pen := clear garbage

/-- `tickit_pen_new` with the allocation taken to be all zeroes (the choice is unobservable:
    `Proof/Pen.lean`, `abs_newFrom`; Props/C19, `new_is_empty`). -/
def new : Pen := newFrom {}

/-- `tickit_pen_equiv_attr`. -/
def equivAttr (a b : Pen) (attr : PenAttr) : Bool :=
  match attr.type with
  | .bool => a.getBoolAttr attr == b.getBoolAttr attr
  | .int => a.getIntAttr attr == b.getIntAttr attr
  | .colour =>
    if a.getColourAttr attr != b.getColourAttr attr then false
    else if !a.hasColourAttrRgb8 attr && !b.hasColourAttrRgb8 attr then true
    else if !a.hasColourAttrRgb8 attr || !b.hasColourAttrRgb8 attr then false
    else
      let acol := a.getColourAttrRgb8 attr
      let bcol := b.getColourAttrRgb8 attr
      acol.r == bcol.r && acol.g == bcol.g && acol.b == bcol.b

/-- `tickit_pen_equiv` (the `a == b` pointer shortcut returns what the loop returns: `equiv_refl`). -/
def equiv (a b : Pen) : Bool := PenAttr.all.all (equivAttr a b)

/-- `tickit_pen_copy_attr` (value effect).  Everything is read from `src` (index, `has_rgb8`, `rgb8`) before
    `dst` is written (since /repo 8cce03b), so `src` is a snapshot and the function is also right when `dst` and
    `src` are the same object. -/
def copyAttr (dst src : Pen) (attr : PenAttr) : Pen :=
  match attr.type with
  | .bool => dst.setBoolAttr attr (src.getBoolAttr attr)
  | .int => dst.setIntAttr attr (src.getIntAttr attr)
  | .colour =>
    let d1 := dst.setColourAttr attr (src.getColourAttr attr)
    if src.hasColourAttrRgb8 attr then d1.setColourAttrRgb8 attr (src.getColourAttrRgb8 attr) else d1

/-- `tickit_pen_copy_attr(p, p, attr)`: source and destination are the same object; the source values are
    those of `p` before the call, so the RGB8 secondary is kept. -/
def copyAttrSelf (p : Pen) (attr : PenAttr) : Pen := p.copyAttr p attr

/-- One iteration of the loop of `tickit_pen_copy`. -/
def copyStep (src : Pen) (overwrite : Bool) (dst : Pen) (attr : PenAttr) : Pen :=
  if !src.hasAttr attr then dst
  else if dst.hasAttr attr && (!overwrite || src.equivAttr dst attr) then dst
  else dst.copyAttr src attr

/-- `tickit_pen_copy` with `dst` and `src` distinct objects (value effect). -/
def copy (dst src : Pen) (overwrite : Bool) : Pen := PenAttr.all.foldl (copyStep src overwrite) dst

/-- `tickit_pen_clone`. -/
def clone (orig : Pen) : Pen := copy new orig true

/-! ### `tickit_pen_set_colour_attr_desc` -/

/-- The two uses of `sscanf`: `scanD s = some v` iff `sscanf(s, "%d", &val) == 1` with `val = v`;
    `scanRgb s = some c` iff `sscanf(s, "%2hhx%2hhx%2hhx", …) == 3` with the three bytes `c`. -/
structure Scanf where
  scanD : List UInt8 → Option Int
  scanRgb : List UInt8 → Option RGB8

/-- `strncmp(desc, name, len) != 0` is false, for `len ≤ desc.length` and NUL-free `desc`:
    `desc[0..len)` is a prefix of `name`. -/
def namePrefixMatch (desc : List UInt8) (name : List UInt8) (len : Nat) : Bool :=
  decide (len ≤ name.length) && (desc.take len == name.take len)

/-- `while(len > 0 && desc[len-1] == ' ') len--` -/
def trimLen (desc : List UInt8) : Nat → Nat
  | 0 => 0
  | len + 1 => if desc[len]? == some 32 then trimLen desc len else len + 1

/-- The colour-name table as byte strings. -/
def colourNames : List (List UInt8 × Int) :=
  colournames.map (fun (n, c) => (n.toUTF8.toList, c))

def hiPrefix : List UInt8 := [104, 105, 45]   -- "hi-"

/-- The tail `parse_rgb8:` of the function. -/
def descParseRgb8 (sc : Scanf) (p : Pen) (a : PenAttr) (desc : List UInt8) (hashp : Option Nat) : Bool × Pen :=
  match hashp with
  | some k =>
    match sc.scanRgb (desc.drop (k + 1)) with
    | some rgb => (true, p.setColourAttrRgb8 a rgb)
    | none => (true, p)
  | none => (true, p)

/-- The body of `tickit_pen_set_colour_attr_desc` after the `"hi-"` test: `desc` is what the pointer now points
    at, `hi` is 8 or 0. -/
def descCore (sc : Scanf) (p : Pen) (a : PenAttr) (desc : List UInt8) (hi : Int) : Bool × Pen :=
  let hashp : Option Nat := desc.findIdx? (· == 35)
  let len : Nat := match hashp with
    | some k => trimLen desc k
    | none => desc.length
  match sc.scanD desc with
  | some val =>
    if hi ≠ 0 ∧ val > 7 then (false, p)
    else descParseRgb8 sc (p.setColourAttr a (val + hi)) a desc hashp
  | none =>
    match colourNames.find? (fun e => namePrefixMatch desc e.1 len) with
    | some e =>
      let val := if e.2 < 8 ∧ hi ≠ 0 then e.2 + hi else e.2
      descParseRgb8 sc (p.setColourAttr a val) a desc hashp
    | none => (false, p)

/-- `tickit_pen_set_colour_attr_desc` (value effect and return value); `desc0` is the NUL-free
    content of the C string. -/
def setColourAttrDesc (sc : Scanf) (p : Pen) (a : PenAttr) (desc0 : List UInt8) : Bool × Pen :=
  if desc0.take 3 == hiPrefix then descCore sc p a (desc0.drop 3) 8
  else descCore sc p a desc0 0

/-- What the description parser extracts from the string alone: `none` = rejected, otherwise the index and
    the optional RGB8 that it passes to `set_colour_attr` / `set_colour_attr_rgb8` (`Proof/Pen.lean`,
    `setColourAttrDesc_eq_parse`). -/
def descParseCore (sc : Scanf) (desc : List UInt8) (hi : Int) : Option (Int × Option RGB8) :=
  let hashp : Option Nat := desc.findIdx? (· == 35)
  let len : Nat := match hashp with
    | some k => trimLen desc k
    | none => desc.length
  let rgb : Option RGB8 := match hashp with
    | some k => sc.scanRgb (desc.drop (k + 1))
    | none => none
  match sc.scanD desc with
  | some val => if hi ≠ 0 ∧ val > 7 then none else some (val + hi, rgb)
  | none =>
    match colourNames.find? (fun e => namePrefixMatch desc e.1 len) with
    | some e => some (if e.2 < 8 ∧ hi ≠ 0 then e.2 + hi else e.2, rgb)
    | none => none

def descParse (sc : Scanf) (desc0 : List UInt8) : Option (Int × Option RGB8) :=
  if desc0.take 3 == hiPrefix then descParseCore sc (desc0.drop 3) 8 else descParseCore sc desc0 0

/-- The direct calls a parsed description corresponds to. -/
def applyParsed (p : Pen) (a : PenAttr) : Option (Int × Option RGB8) → Bool × Pen
  | none => (false, p)
  | some (idx, none) => (true, p.setColourAttr a idx)
  | some (idx, some rgb) => (true, (p.setColourAttr a idx).setColourAttrRgb8 a rgb)

end Pen

/-! ### glibc's `sscanf` for the two formats used (recorded behaviour, glibc 2.36 `vfscanf-internal.c`) -/

namespace PenScan

/-- `isspace` in the "C" locale. -/
def isSpace (c : UInt8) : Bool := c == 32 || (9 ≤ c && c ≤ 13)
def isDigit (c : UInt8) : Bool := 48 ≤ c && c ≤ 57
def isXDigit (c : UInt8) : Bool := isDigit c || (97 ≤ c && c ≤ 102) || (65 ≤ c && c ≤ 70)
def xval (c : UInt8) : Nat :=
  if isDigit c then c.toNat - 48 else if 97 ≤ c then c.toNat - 87 else c.toNat - 55

def skipSpace (s : List UInt8) : List UInt8 := s.dropWhile isSpace

/-- `sscanf(s, "%d", &val)`: `some val` iff it returns 1.  Leading white space skipped, optional sign,
    decimal digits; the value is converted as by `strtol` (clamped to `long`) and stored into an `int`. -/
def scanD (s : List UInt8) : Option Int :=
  match skipSpace s with
  | [] => none
  | c :: rest =>
    let neg := c == 45
    let body := if c == 45 || c == 43 then rest else c :: rest
    let ds := body.takeWhile isDigit
    if ds.isEmpty then none
    else
      let n : Nat := ds.foldl (fun acc d => acc * 10 + (d.toNat - 48)) 0
      let v : Int := if neg then -(n : Int) else (n : Int)
      let clamped : Int := max (-(2 : Int) ^ 63) (min v ((2 : Int) ^ 63 - 1))
      some (wrapSigned 32 clamped)

/-- One `%<width>hhx` directive: the byte stored and the unread rest, or `none` for an input or
    matching failure.  The sign and the `0x` prefix count against the field width; `0x` without a
    following digit is accepted as 0 with the `x` consumed. -/
def scanHexW (width : Nat) (s : List UInt8) : Option (UInt8 × List UInt8) :=
  match skipSpace s with
  | [] => none
  | c :: rest =>
    let hasSign := c == 45 || c == 43
    let neg := c == 45
    let s1 := if hasSign then rest else c :: rest
    let w1 := if hasSign then width - 1 else width
    let zero := w1 != 0 && s1.head? == some 48
    let s2 := if zero then s1.tail else s1
    let w2 := if zero then w1 - 1 else w1
    let x := zero && w2 != 0 && (s2.head? == some 120 || s2.head? == some 88)
    let s3 := if x then s2.tail else s2
    let w3 := if x then w2 - 1 else w2
    let digs := (s3.takeWhile isXDigit).take w3
    if !zero && digs.isEmpty then none
    else
      let n : Nat := digs.foldl (fun acc d => acc * 16 + xval d) 0
      let v : Int := if neg then -(n : Int) else (n : Int)
      some (UInt8.ofNat (v % 256).toNat, s3.drop digs.length)

/-- `sscanf(s, "%2hhx%2hhx%2hhx", &r, &g, &b) == 3`. -/
def scanRgb (s : List UInt8) : Option RGB8 :=
  match scanHexW 2 s with
  | none => none
  | some (r, s1) =>
    match scanHexW 2 s1 with
    | none => none
    | some (g, s2) =>
      match scanHexW 2 s2 with
      | none => none
      | some (b, _) => some ⟨r, g, b⟩

end PenScan

/-- The recorded glibc behaviour. -/
def glibcScanf : Pen.Scanf := { scanD := PenScan.scanD, scanRgb := PenScan.scanRgb }

/-! ### Entry points taking the raw `int` attribute (out-of-range values take the `default:` path) -/

namespace Pen
open Gen.PenLayout

def hasAttrC (p : Pen) (c : Int) : Bool := match PenAttr.ofCode? c with | some a => p.hasAttr a | none => false
def nondefaultAttrC (p : Pen) (c : Int) : Bool := match PenAttr.ofCode? c with | some a => p.nondefaultAttr a | none => false
def getBoolAttrC (p : Pen) (c : Int) : Bool := match PenAttr.ofCode? c with | some a => p.getBoolAttr a | none => false
def getIntAttrC (p : Pen) (c : Int) : Int := match PenAttr.ofCode? c with | some a => p.getIntAttr a | none => 0
def getColourAttrC (p : Pen) (c : Int) : Int := match PenAttr.ofCode? c with | some a => p.getColourAttr a | none => COLOUR_DEFAULT
def hasColourAttrRgb8C (p : Pen) (c : Int) : Bool := match PenAttr.ofCode? c with | some a => p.hasColourAttrRgb8 a | none => false
def getColourAttrRgb8C (p : Pen) (c : Int) : RGB8 := match PenAttr.ofCode? c with | some a => p.getColourAttrRgb8 a | none => ⟨0, 0, 0⟩
/-- `tickit_pen_equiv_attr`: the type switch has no arm for −1, so the result is `false`. -/
def equivAttrC (a b : Pen) (c : Int) : Bool := match PenAttr.ofCode? c with | some at' => a.equivAttr b at' | none => false

end Pen

/-! ### `tickit_pen_new_attrs` -/

/-- One variadic argument as the caller passed it. -/
inductive VaArg
  | int (v : Int)
  | str (s : List UInt8)
deriving DecidableEq, Repr, Inhabited

namespace Pen
open Gen.PenLayout

/-- The loop of `tickit_pen_new_attrs` over the argument list (the named first parameter included).
    `none` = undefined behaviour: `va_arg` with the wrong type or past the end of the list.  Note the quirk:
    an attribute value without a type (`tickit_penattr_type` = −1) does not consume a value, so the value the
    caller passed for it is read as the next attribute. -/
def newAttrsGo (sc : Scanf) (p : Pen) : List VaArg → Option Pen
  | [] => none
  | .str _ :: _ => none
  | .int a :: rest =>
    if a < 1 then some p
    else if a = TICKIT_PEN_FG_DESC ∨ a = TICKIT_PEN_BG_DESC then
      match rest with
      | .str s :: rest' =>
        match PenAttr.ofCode? (a - 0x100) with
        | some at' => newAttrsGo sc (setColourAttrDesc sc p at' s).2 rest'
        | none => newAttrsGo sc p rest'
      | _ => none
    else
      match PenAttr.ofCode? a with
      | none => newAttrsGo sc p rest
      | some at' =>
        match rest with
        | .int v :: rest' =>
          match at'.type with
          | .bool => newAttrsGo sc (p.setBoolAttr at' (v != 0)) rest'
          | .int => newAttrsGo sc (p.setIntAttr at' v) rest'
          | .colour => newAttrsGo sc (p.setColourAttr at' v) rest'
        | _ => none
termination_by l => l.length

/-- `tickit_pen_new_attrs(attr, ...)`. -/
def newAttrs (sc : Scanf) (args : List VaArg) : Option Pen := newAttrsGo sc Pen.new args

end Pen

/-! ### The pen object: value + freeze state + delivered change events -/

/-- What `struct TickitPen` has beyond the value, as far as it is observable: `events` counts the
    `run_events(pen, TICKIT_PEN_ON_CHANGE, NULL)` calls. -/
structure PenObj where
  pen : Pen := Pen.new
  freezecount : Int := 0
  changed : Bool := false
  events : Nat := 0
deriving DecidableEq, Repr, Inhabited

namespace PenObj

def runEvents (o : PenObj) : PenObj := { o with events := o.events + 1 }
/-- `static void changed(TickitPen *pen)` -/
def markChanged (o : PenObj) : PenObj :=
  if o.freezecount = 0 then o.runEvents else { o with changed := true }
def freeze (o : PenObj) : PenObj := { o with freezecount := o.freezecount + 1 }
def thaw (o : PenObj) : PenObj :=
  let o1 := { o with freezecount := o.freezecount - 1 }
  if o1.freezecount = 0 ∧ o1.changed then { o1.runEvents with changed := false } else o1

def setBoolAttr (o : PenObj) (a : PenAttr) (v : Bool) : PenObj :=
  match a with
  | .bold | .italic | .reverse | .strike | .blink | .under =>
    ({ o with pen := o.pen.setBoolAttr a v }).markChanged
  | _ => o

def setIntAttr (o : PenObj) (a : PenAttr) (v : Int) : PenObj :=
  match a with
  | .under | .altfont | .sizepos => ({ o with pen := o.pen.setIntAttr a v }).markChanged
  | _ => o

/-- `tickit_pen_set_colour_attr` calls `run_events` directly, frozen or not. -/
def setColourAttr (o : PenObj) (a : PenAttr) (v : Int) : PenObj :=
  match a with
  | .fg | .bg => ({ o with pen := o.pen.setColourAttr a v }).runEvents
  | _ => o

def setColourAttrRgb8 (o : PenObj) (a : PenAttr) (v : RGB8) : PenObj :=
  if !o.pen.hasAttr a then o
  else match a with
    | .fg | .bg => ({ o with pen := o.pen.setColourAttrRgb8 a v }).markChanged
    | _ => o

def clearAttr (o : PenObj) (a : PenAttr) : PenObj := ({ o with pen := o.pen.clearAttr a }).markChanged

/-- `tickit_pen_clear_attr` on a raw `int`: a value matching no `case` falls out of the `switch` and still
    reaches `changed(pen)`; only `TICKIT_N_PEN_ATTRS` returns early. -/
def clearAttrC (o : PenObj) (c : Int) : PenObj :=
  match PenAttr.ofCode? c with
  | some a => o.clearAttr a
  | none => if c = Gen.PenLayout.TICKIT_N_PEN_ATTRS then o else o.markChanged

def clear (o : PenObj) : PenObj := PenAttr.all.foldl clearAttr o

/-- `tickit_pen_new`: no binding exists yet, so the events of the initial `clear` reach nobody. -/
def new : PenObj := {}

def copyAttr (dst : PenObj) (src : Pen) (attr : PenAttr) : PenObj :=
  match attr.type with
  | .bool => dst.setBoolAttr attr (src.getBoolAttr attr)
  | .int => dst.setIntAttr attr (src.getIntAttr attr)
  | .colour =>
    let d1 := dst.freeze.setColourAttr attr (src.getColourAttr attr)
    let d2 := if src.hasColourAttrRgb8 attr then d1.setColourAttrRgb8 attr (src.getColourAttrRgb8 attr) else d1
    d2.thaw

def copyAttrSelf (p : PenObj) (attr : PenAttr) : PenObj := p.copyAttr p.pen attr

def copyStep (src : Pen) (overwrite : Bool) (dst : PenObj) (attr : PenAttr) : PenObj :=
  if !src.hasAttr attr then dst
  else if dst.pen.hasAttr attr && (!overwrite || src.equivAttr dst.pen attr) then dst
  else dst.copyAttr src attr

def copy (dst : PenObj) (src : Pen) (overwrite : Bool) : PenObj :=
  (PenAttr.all.foldl (copyStep src overwrite) dst.freeze).thaw

/-- `tickit_pen_copy(p, p, overwrite)`: every attribute present is skipped (`equiv_attr(p, p, ·)` holds or
    `!overwrite`), so only `freeze`/`thaw` happen. -/
def copySelf (p : PenObj) (_overwrite : Bool) : PenObj := p.freeze.thaw

def descParseRgb8 (sc : Pen.Scanf) (o : PenObj) (a : PenAttr) (desc : List UInt8) (hashp : Option Nat) : Bool × PenObj :=
  match hashp with
  | some k =>
    match sc.scanRgb (desc.drop (k + 1)) with
    | some rgb => (true, (o.setColourAttrRgb8 a rgb).thaw)
    | none => (true, o.thaw)
  | none => (true, o.thaw)

def descCore (sc : Pen.Scanf) (o : PenObj) (a : PenAttr) (desc : List UInt8) (hi : Int) : Bool × PenObj :=
  let hashp : Option Nat := desc.findIdx? (· == 35)
  let len : Nat := match hashp with
    | some k => Pen.trimLen desc k
    | none => desc.length
  match sc.scanD desc with
  | some val =>
    if hi ≠ 0 ∧ val > 7 then (false, o)
    else descParseRgb8 sc (o.freeze.setColourAttr a (val + hi)) a desc hashp
  | none =>
    match Pen.colourNames.find? (fun e => Pen.namePrefixMatch desc e.1 len) with
    | some e =>
      let val := if e.2 < 8 ∧ hi ≠ 0 then e.2 + hi else e.2
      descParseRgb8 sc (o.freeze.setColourAttr a val) a desc hashp
    | none => (false, o)

def setColourAttrDesc (sc : Pen.Scanf) (o : PenObj) (a : PenAttr) (desc0 : List UInt8) : Bool × PenObj :=
  if desc0.take 3 == Pen.hiPrefix then descCore sc o a (desc0.drop 3) 8
  else descCore sc o a desc0 0

/-- `tickit_pen_set_colour_attr_desc` with an attribute value that is no enumerator: the setters do
    nothing, but the string is still parsed and decides the return value. -/
def setColourAttrDescNoAttr (sc : Pen.Scanf) (o : PenObj) (desc0 : List UInt8) : Bool :=
  (Pen.setColourAttrDesc sc o.pen .bold desc0).1

end PenObj

/-! ### The specification: a pen as a dictionary (partial map) from attributes to values -/

/-- What an attribute reads as through the getter of its own type. -/
inductive PenVal
  | b (v : Bool)
  | i (v : Int)
  | c (idx : Int) (rgb : Option RGB8)
deriving DecidableEq, Repr, Inhabited

/-- A pen as a partial map. -/
abbrev PenDict := PenAttr → Option PenVal

namespace PenDict
open Gen.PenLayout

def empty : PenDict := fun _ => none
def set (d : PenDict) (a : PenAttr) (v : PenVal) : PenDict := fun x => if x = a then some v else d x
def erase (d : PenDict) (a : PenAttr) : PenDict := fun x => if x = a then none else d x

/-- The default an absent attribute reads as. -/
def default (a : PenAttr) : PenVal :=
  match a.type with
  | .bool => .b false
  | .int => .i 0
  | .colour => .c COLOUR_DEFAULT none

/-- Reading with defaulting. -/
def read (d : PenDict) (a : PenAttr) : PenVal := (d a).getD (default a)

def setBool (d : PenDict) (a : PenAttr) (v : Bool) : PenDict :=
  match a.type with
  | .bool => d.set a (.b v)
  | .int => if a = .under then d.set a (.i (if v then TICKIT_PEN_UNDER_SINGLE else TICKIT_PEN_UNDER_NONE)) else d
  | .colour => d

def setInt (d : PenDict) (a : PenAttr) (v : Int) : PenDict :=
  if a.type = .int then d.set a (.i v) else d

def setColour (d : PenDict) (a : PenAttr) (v : Int) : PenDict :=
  if a.type = .colour then d.set a (.c v none) else d

def setRgb8 (d : PenDict) (a : PenAttr) (v : RGB8) : PenDict :=
  match d a with
  | some (.c idx _) => d.set a (.c idx (some v))
  | _ => d

/-- Copy: without overwrite only absent attributes are filled; with overwrite every attribute present
    in the source is taken from it. -/
def copy (dst src : PenDict) (overwrite : Bool) : PenDict := fun x =>
  match src x with
  | some v => if (dst x).isSome && !overwrite then dst x else some v
  | none => dst x

/-- `copy_attr`: the destination gets what the source *reads as* (so an absent attribute arrives as a
    present default). -/
def copyAttr (dst src : PenDict) (a : PenAttr) : PenDict := dst.set a (src.read a)

/-- Equivalence: every attribute reads the same. -/
def equiv (d1 d2 : PenDict) : Bool := PenAttr.all.all (fun a => d1.read a == d2.read a)

end PenDict

/-- What attribute `x` reads as through the getter(s) of its own type (each getter applies its own default). -/
def Pen.typedRead (p : Pen) (x : PenAttr) : PenVal :=
  match x.type with
  | .bool => .b (p.getBoolAttr x)
  | .int => .i (p.getIntAttr x)
  | .colour => .c (p.getColourAttr x) (if p.hasColourAttrRgb8 x then some (p.getColourAttrRgb8 x) else none)

/-- The abstraction function: the dictionary a pen value denotes. -/
def Pen.abs (p : Pen) : PenDict := fun a =>
  if p.hasAttr a then
    some (match a.type with
      | .bool => .b (p.getBoolAttr a)
      | .int => .i (p.getIntAttr a)
      | .colour => .c (p.getColourAttr a) (if p.hasColourAttrRgb8 a then some (p.getColourAttrRgb8 a) else none))
  else none

end Tickit
