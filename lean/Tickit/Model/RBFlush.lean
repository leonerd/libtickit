import Tickit.Model.RB
import Tickit.Gen.LineChars
/-
  Model of `tickit_renderbuffer_flush_to_term` (src/renderbuffer.c), statement by statement, on top of the
  concrete render-buffer model `Tickit.RB` (Model/RB.lean, engine `rb`), together with

  * the abstract terminal requests the flush issues (`Req`: `tickit_term_goto / setpen / printn / erasech`),
  * `tickit_term_setpen` of src/term.c (the cached pen `tt->pen`, the delta and the final pen handed to the
    driver's `chpen`),
  * `GridTerm`, the grid terminal the requests are interpreted on.  It is the specification device of C04 and is
    implemented a second time, in C, as the harness-owned terminal driver of harness/rbflush.c.  Where the
    cursor is after `erasech(…, TICKIT_MAYBE)` is an oracle (`Nat → Bool`, indexed by the number of such
    requests seen so far); with `viaWriteStr` the print request goes through `write_str` of src/term.c as the
    xterm driver's does (`len == 0` means "use strlen").

  Conventions as in Model/RB.lean (C `int` = `Int`; the grid is a total function, the terminal a plane `cols` columns
  wide with the VT behaviour at the right edge, unbounded downwards, of which the harness shows the window
  `[0,lines) × [0,cols)`; `stepL`/`runL` interpret the requests on a screen of `L` lines).
  No Mathlib: this file is linked into the driver executable.
-/
namespace Tickit.RBFlush
open Tickit.RB

/-! ## Requests -/

/-- `TickitMaybeBool` (values tied to the header by `Gen.LineChars.maybe*`). -/
inductive MaybeBool | no | yes | maybe
deriving DecidableEq, Repr, Inhabited

def MaybeBool.toInt : MaybeBool → Int
  | .no => Tickit.Gen.LineChars.maybeNo
  | .yes => Tickit.Gen.LineChars.maybeYes
  | .maybe => Tickit.Gen.LineChars.maybeMaybe

/-- One call of the terminal API made by the flush. -/
inductive Req
  /-- `tickit_term_goto(tt, line, col)` -/
  | goto (line col : Int)
  /-- `tickit_term_setpen(tt, pen)` -/
  | setpen (pen : Pen)
  /-- `tickit_term_printn(tt, s + start, len)`; `s` is the whole NUL-terminated string (or the staging buffer `rb->tmp`). -/
  | print (s : List UInt8) (start len : Nat)
  /-- `tickit_term_erasech(tt, count, moveend)` -/
  | erasech (count : Int) (moveend : MaybeBool)
deriving DecidableEq, Repr, Inhabited

/-- How a flush ends: normally, in `abort()` (a CONT cell at a run start), or not at all (a run of length ≤ 0). -/
inductive Outcome | ok | aborted | fuelOut
deriving DecidableEq, Repr, Inhabited

/-! ## `tickit_renderbuffer_flush_to_term` -/

/-- The bytes `tmp_cat_utf8(rb, linemask_to_char[mask])` appends. -/
def glyphBytes (mask : Nat) : List UInt8 :=
  Utf8.put (Tickit.Gen.LineChars.linemaskToChar.getD mask 0)

/-- The cells the `do … while` of the LINE case takes *after* the first one: `n` bounds the iterations
    (`n = cols − col` suffices: the loop condition starts with `col < rb->cols`). -/
def lineMore (rb : RB) (line : Int) (pen : Pen) : Nat → Int → List Cell
  | 0, _ => []
  | n + 1, col =>
    let cell := rb.cell line col
    if col < rb.cols ∧ cell.state = .line ∧ Pen.equiv cell.pen pen = true then
      cell :: lineMore rb line pen n (col + 1)
    else []

/-- All cells of one LINE batch starting at `col` (the first one unconditionally). -/
def lineBatch (rb : RB) (line col : Int) : List Cell :=
  let cell := rb.cell line col
  cell :: lineMore rb line cell.pen (rb.cols - (col + 1)).toNat (col + 1)

/-- Σ `cell->cols` over a batch: what `phycol` advances by. -/
def batchCols : List Cell → Int
  | [] => 0
  | c :: cs => c.cols + batchCols cs

/-- The bytes accumulated in `rb->tmp` by a batch. -/
def batchBytes (cs : List Cell) : List UInt8 := cs.flatMap fun c => glyphBytes c.lmask

/-! ### The TEXT case

  Two versions: `textReqsOld` is the code before the repair `fixes/C04_flush_wide_cut.patch` (kept for the
  counterexample theorems), `textReqs` the code with it.  They differ only when a run boundary falls inside a
  double-width character or the slice is empty. -/

/-- `tickit_utf8_count(text, &start, &limit)` with `limit.columns = offs`. -/
def textStart0 (cell : Cell) : Utf8.StrPos :=
  (Utf8.ncountmore cell.text none {} (some (Utf8.limitColumns cell.offs))).pos

/-- Before the repair: `tickit_utf8_countmore(text, &end, &limit)` from `start` with `limit.columns = offs + cols`. -/
def textEndOld (cell : Cell) : Utf8.StrPos :=
  (Utf8.ncountmore cell.text none (textStart0 cell) (some (Utf8.limitColumns (cell.offs + cell.cols)))).pos

/-- Before the repair: `setpen`, then one print request whatever its length. -/
def textReqsOld (cell : Cell) : List Req :=
  [.setpen cell.pen,
   .print cell.text (textStart0 cell).bytes.toNat ((textEndOld cell).bytes - (textStart0 cell).bytes).toNat]

/-- `start` after `if(start.columns < startcol) { limit graphemes = start.graphemes + 1; countmore }`:
    a run that begins inside a double-width character steps over it. -/
def textStart (cell : Cell) : Utf8.StrPos :=
  let s0 := textStart0 cell
  if s0.columns < cell.offs then
    (Utf8.ncountmore cell.text none s0 (some (Utf8.limitGraphemes (s0.graphemes + 1)))).pos
  else s0

/-- `end`: counted from `start` up to column `offs + cols` when `start` lies before it. -/
def textEnd (cell : Cell) : Utf8.StrPos :=
  let s := textStart cell
  if s.columns < cell.offs + cell.cols then
    (Utf8.ncountmore cell.text none s (some (Utf8.limitColumns (cell.offs + cell.cols)))).pos
  else s

/-- `lead = start.columns - startcol`: columns at the start of the run that hold the right half of a wide character. -/
def textLead (cell : Cell) : Int := (textStart cell).columns - cell.offs

/-- `trail = endcol - end.columns`: columns at the end of the run that hold the left half of a wide character. -/
def textTrail (cell : Cell) : Int := cell.offs + cell.cols - (textEnd cell).columns

/-- The requests of the TEXT case: `setpen`, blanks for a leading half, the slice when it is not empty, blanks for a
    trailing half. -/
def textReqs (cell : Cell) : List Req :=
  [.setpen cell.pen] ++
  (if textLead cell > 0 then [.erasech (textLead cell) .yes] else []) ++
  (if (textEnd cell).bytes > (textStart cell).bytes then
     [.print cell.text (textStart cell).bytes.toNat ((textEnd cell).bytes - (textStart cell).bytes).toNat] else []) ++
  (if textTrail cell > 0 then [.erasech (textTrail cell) .yes] else [])

/-- `moveend` of the ERASE case. -/
def eraseMoveend (rb : RB) (line col : Int) (cell : Cell) : Bool :=
  decide (col + cell.cols < rb.cols) && decide ((rb.cell line (col + cell.cols)).state ≠ .skip)

/-- Prefix a list of requests to the result of the rest of the loop. -/
def andThen (pre : List Req) (r : List Req × Outcome) : List Req × Outcome := (pre ++ r.1, r.2)

/-- `if(phycol < col) tickit_term_goto(tt, line, col);` -/
def gotoIf (phycol line col : Int) : List Req := if phycol < col then [.goto line col] else []

/-- The `for(int col = 0; col < rb->cols; )` loop of one line, from `col` with the tracker at `phycol`;
    `txt` is the TEXT case (`textReqs`, or `textReqsOld` for the code before the repair). -/
def flushCols (txt : Cell → List Req) (rb : RB) (line : Int) : Nat → Int → Int → List Req × Outcome
  | 0, col, _ => if col < rb.cols then ([], .fuelOut) else ([], .ok)
  | fuel + 1, col, phycol =>
    if ¬ col < rb.cols then ([], .ok)
    else
      let cell := rb.cell line col
      match cell.state with
      | .skip => flushCols txt rb line fuel (col + cell.cols) phycol
      | .text =>
        andThen (gotoIf phycol line col ++ txt cell)
          (flushCols txt rb line fuel (col + cell.cols) (col + cell.cols))
      | .erase =>
        let moveend := eraseMoveend rb line col cell
        andThen (gotoIf phycol line col ++ [.setpen cell.pen, .erasech cell.cols (if moveend then .yes else .maybe)])
          (flushCols txt rb line fuel (col + cell.cols) (if moveend then col + cell.cols else -1))
      | .line =>
        let batch := lineBatch rb line col
        andThen (gotoIf phycol line col ++ [.setpen cell.pen, .print (batchBytes batch) 0 (batchBytes batch).length])
          (flushCols txt rb line fuel (col + batch.length) (col + batchCols batch))
      | .char =>
        let bs := Utf8.put cell.cp.toNat
        andThen (gotoIf phycol line col ++ [.setpen cell.pen, .print bs 0 bs.length])
          (flushCols txt rb line fuel (col + cell.cols) (col + cell.cols))
      | .cont => (gotoIf phycol line col, .aborted)

/-- The `for(int line = 0; line < rb->lines; line++)` loop: `n` lines from `line`. -/
def flushLines (txt : Cell → List Req) (rb : RB) : Nat → Int → List Req × Outcome
  | 0, _ => ([], .ok)
  | n + 1, line =>
    let r := flushCols txt rb line (rb.cols.toNat + 1) 0 (-1)
    match r.2 with
    | .ok => andThen r.1 (flushLines txt rb n (line + 1))
    | _ => r

/-- What a flush does: the requests in order, how it ended, and the buffer afterwards. -/
structure FlushRes where
  reqs : List Req
  out : Outcome
  rb : RB

/-- The flush with a given TEXT case. -/
def flushWith (txt : Cell → List Req) (rb : RB) : FlushRes :=
  let r := flushLines txt rb rb.lines.toNat 0
  { reqs := r.1, out := r.2, rb := if r.2 = .ok then reset rb else rb }

/-- `tickit_renderbuffer_flush_to_term(rb, tt)`. -/
def flushToTerm (rb : RB) : FlushRes := flushWith textReqs rb

/-- `tickit_renderbuffer_flush_to_term(rb, tt)` before the repair of the TEXT case. -/
def flushToTermOld (rb : RB) : FlushRes := flushWith textReqsOld rb

/-! ## `tickit_term_setpen` (src/term.c) -/

/-- One attribute of the loop of `tickit_term_setpen`: `(tt->pen's attribute afterwards, delta's attribute)`.
    `val` is `tickit_pen_copy_attr`'s reading of the argument (the default when it lacks the attribute). -/
def setAttr {α : Type} (eqv : Option α → Option α → Bool) (val : Option α → α) (t p : Option α) : Option α × Option α :=
  if t.isSome && eqv t p then (t, none) else (some (val p), some (val p))

/-- `tickit_pen_copy_attr` for a colour: the index (−1 when absent) and the RGB8 refinement when present. -/
def colourVal (p : Option Colour) : Colour := ⟨Pen.getColour p, Pen.getRgb p⟩

/-- `tickit_term_setpen(tt, pen)`: `tt->pen` afterwards.  (Colour indices are below `tt->colors`: no palette conversion.) -/
def termSetpen (t p : Pen) : Pen :=
  { fg      := (setAttr Pen.equivColour colourVal t.fg p.fg).1
    bg      := (setAttr Pen.equivColour colourVal t.bg p.bg).1
    bold    := (setAttr Pen.equivBool Pen.getBool t.bold p.bold).1
    under   := (setAttr Pen.equivInt Pen.getInt t.under p.under).1
    italic  := (setAttr Pen.equivBool Pen.getBool t.italic p.italic).1
    reverse := (setAttr Pen.equivBool Pen.getBool t.reverse p.reverse).1
    strike  := (setAttr Pen.equivBool Pen.getBool t.strike p.strike).1
    altfont := (setAttr Pen.equivInt Pen.getInt t.altfont p.altfont).1
    blink   := (setAttr Pen.equivBool Pen.getBool t.blink p.blink).1
    sizepos := (setAttr Pen.equivInt Pen.getInt t.sizepos p.sizepos).1 }

/-- The `delta` pen handed to the driver's `chpen`. -/
def termSetpenDelta (t p : Pen) : Pen :=
  { fg      := (setAttr Pen.equivColour colourVal t.fg p.fg).2
    bg      := (setAttr Pen.equivColour colourVal t.bg p.bg).2
    bold    := (setAttr Pen.equivBool Pen.getBool t.bold p.bold).2
    under   := (setAttr Pen.equivInt Pen.getInt t.under p.under).2
    italic  := (setAttr Pen.equivBool Pen.getBool t.italic p.italic).2
    reverse := (setAttr Pen.equivBool Pen.getBool t.reverse p.reverse).2
    strike  := (setAttr Pen.equivBool Pen.getBool t.strike p.strike).2
    altfont := (setAttr Pen.equivInt Pen.getInt t.altfont p.altfont).2
    blink   := (setAttr Pen.equivBool Pen.getBool t.blink p.blink).2
    sizepos := (setAttr Pen.equivInt Pen.getInt t.sizepos p.sizepos).2 }

/-! ## The grid terminal -/

/-- One decoded character: its bytes, code point and column width. -/
structure Ch where
  bytes : List UInt8
  cp : Nat
  width : Int
deriving DecidableEq, Repr

/-- What a terminal cell shows. -/
inductive Glyph
  /-- erased -/
  | blank
  /-- a character of width ≥ 1 followed by the zero-width characters attached to it -/
  | chars (bs : List UInt8)
  /-- the second column of a double-width character -/
  | wcont
deriving DecidableEq, Repr, Inhabited

/-- A terminal cell: glyph, the rendition it was written with (the `final` pen of the last `chpen`), and how
    often it has been written since the grid was set up ("exactly once"). -/
structure TCell where
  glyph : Glyph := .blank
  pen : Pen := {}
  writes : Nat := 0
deriving DecidableEq, Repr, Inhabited

/-- The grid terminal. -/
structure GridTerm where
  cells : Int → Int → TCell
  line : Int
  /-- the cursor column; `col = cols` is the pending-wrap state of a VT (the cursor sits on the last column and the next
      character goes to the next line) -/
  col : Int
  /-- the width of the terminal -/
  cols : Int
  /-- the cell holding the last character of width ≥ 1 printed since the last cursor movement -/
  last : Option (Int × Int) := none
  /-- `tt->pen`, which is also the `final` pen the driver has been handed last -/
  pen : Pen := {}
  /-- does the cursor move to the end of the `k`-th `erasech(…, TICKIT_MAYBE)`? -/
  oracle : Nat → Bool := fun _ => false
  nmaybe : Nat := 0
  /-- `print` goes through `write_str` (as in the xterm driver): a length of 0 means `strlen` -/
  viaWriteStr : Bool := false

namespace GridTerm

/-- A character of width `w ≥ 1` written at the cursor, no questions asked. -/
def putGlyphRaw (t : GridTerm) (bs : List UInt8) (w : Int) : GridTerm :=
  { t with
    cells := fun l c =>
      if l = t.line ∧ t.col ≤ c ∧ c < t.col + w then
        { glyph := if c = t.col then .chars bs else .wcont, pen := t.pen, writes := (t.cells l c).writes + 1 }
      else t.cells l c
    col := t.col + w
    last := some (t.line, t.col) }

/-- The deferred wrap of a VT: to column 0 of the next line (no scrolling: the plane is unbounded downwards). -/
def wrap (t : GridTerm) : GridTerm := { t with line := t.line + 1, col := 0 }

/-- A character of width `w ≥ 1` arrives: if it does not fit on the line — in particular in the pending-wrap state
    `col = cols` — the cursor wraps first (DEC autowrap); printing into the last column leaves `col = cols`. -/
def putGlyph (t : GridTerm) (bs : List UInt8) (w : Int) : GridTerm :=
  (if t.col + w > t.cols then t.wrap else t).putGlyphRaw bs w

/-- A zero-width character: attached to the last character printed, dropped when there is none. -/
def addZeroWidth (t : GridTerm) (bs : List UInt8) : GridTerm :=
  match t.last with
  | none => t
  | some p =>
    { t with cells := fun l c =>
        if l = p.1 ∧ c = p.2 then
          match (t.cells l c).glyph with
          | .chars g => { t.cells l c with glyph := .chars (g ++ bs) }
          | _ => t.cells l c
        else t.cells l c }

/-- The terminal's reading of `bs` from byte `i`: UTF-8 as the library decodes it (`next_utf8`), widths from the
    library's tables; a byte that starts no sequence, a control character and a non-character take one column. -/
def termDecode (bs : List UInt8) : Nat → Nat → List Ch
  | 0, _ => []
  | fuel + 1, i =>
    if i ≥ bs.length then []
    else
      match Utf8.nextUtf8 bs i (some (bs.length - i)) with
      | none => ⟨(bs.drop i).take 1, Utf8.byteAt bs i, 1⟩ :: termDecode bs fuel (i + 1)
      | some d =>
        ⟨(bs.drop i).take d.n, d.cp, if Utf8.wcwidth d.cp < 0 then 1 else Utf8.wcwidth d.cp⟩ :: termDecode bs fuel (i + d.n)

/-- One character arrives: width 0 joins the previous character, otherwise it is put at the cursor. -/
def putCh (t : GridTerm) (c : Ch) : GridTerm :=
  if c.width = 0 then t.addZeroWidth c.bytes else t.putGlyph c.bytes c.width

def putChs (t : GridTerm) (cs : List Ch) : GridTerm := cs.foldl putCh t

/-- The driver's `print(str, len)` once the bytes are known. -/
def printBytes (t : GridTerm) (bs : List UInt8) : GridTerm := t.putChs (termDecode bs (bs.length + 1) 0)

/-- The bytes a print request delivers: `len` bytes from `start`; through `write_str`, `len = 0` means up to the NUL. -/
def reqBytes (viaWriteStr : Bool) (s : List UInt8) (start len : Nat) : List UInt8 :=
  if len = 0 && viaWriteStr then (s.drop start).takeWhile (· ≠ 0)
  else (s.drop start).take len

/-- The driver's `goto_abs`: the column is clamped to the screen; every cursor movement ends the pending-wrap state. -/
def goto (t : GridTerm) (line col : Int) : GridTerm :=
  { t with line := line, col := max 0 (min col (t.cols - 1)), last := none }

/-- `tickit_term_setpen` followed by the driver's `chpen(delta, final)`. -/
def setpen (t : GridTerm) (p : Pen) : GridTerm := { t with pen := termSetpen t.pen p }

/-- The driver's `erasech(count, moveend)`, as ECH (+ CUF): blanks from the cursor — which in the pending-wrap state is
    on the last column — to at most the right edge; the cursor stays, or moves right (clamped, ending pending wrap). -/
def erasech (t : GridTerm) (n : Int) (m : MaybeBool) : GridTerm :=
  if n < 1 then t
  else
    let start := min t.col (t.cols - 1)
    let t' : GridTerm :=
      { t with
        cells := fun l c =>
          if l = t.line ∧ start ≤ c ∧ c < start + n ∧ c < t.cols then
            { glyph := .blank, pen := t.pen, writes := (t.cells l c).writes + 1 }
          else t.cells l c
        last := none }
    match m with
    | .yes => { t' with col := min (start + n) (t.cols - 1) }
    | .no => t'
    | .maybe =>
      { t' with col := if t.oracle t.nmaybe then min (start + n) (t.cols - 1) else t.col, nmaybe := t.nmaybe + 1 }

/-- One request. -/
def step (t : GridTerm) : Req → GridTerm
  | .goto l c => t.goto l c
  | .setpen p => t.setpen p
  | .print s start len => t.printBytes (reqBytes t.viaWriteStr s start len)
  | .erasech n m => t.erasech n m

/-- A sequence of requests. -/
def run (t : GridTerm) : List Req → GridTerm
  | [] => t
  | r :: rs => run (t.step r) rs

/-! ### A screen of `L` lines

  `GridTerm` is a plane unbounded downwards.  A real screen has `L` lines: a cursor movement below the last line is
  clamped to it, and the deferred wrap on the last line scrolls the screen up by one line.  `stepL`/`runL` interpret the
  requests on such a screen (rows `0 … L-1` of the grid); `flush_spec_screen` (Props/C04.lean) shows that the flush of a
  buffer whose content lies within the screen never triggers either — `runL` and `run` agree on its requests. -/

/-- The deferred wrap on a screen of `L` lines: on the last line the screen scrolls (the top line is lost, the
    lines move up, the new bottom line is blank in the current rendition) and the cursor stays on the last line. -/
def wrapL (L : Int) (t : GridTerm) : GridTerm :=
  if t.line = L - 1 then
    { t with
      cells := fun l c =>
        if l = L - 1 then { glyph := .blank, pen := t.pen, writes := (t.cells l c).writes + 1 }
        else if 0 ≤ l ∧ l < L - 1 then t.cells (l + 1) c
        else t.cells l c
      col := 0
      last := t.last.map fun p => (p.1 - 1, p.2) }
  else t.wrap

def putGlyphL (L : Int) (t : GridTerm) (bs : List UInt8) (w : Int) : GridTerm :=
  (if t.col + w > t.cols then t.wrapL L else t).putGlyphRaw bs w

def putChL (L : Int) (t : GridTerm) (c : Ch) : GridTerm :=
  if c.width = 0 then t.addZeroWidth c.bytes else t.putGlyphL L c.bytes c.width

def putChsL (L : Int) (t : GridTerm) (cs : List Ch) : GridTerm := cs.foldl (putChL L) t

def printBytesL (L : Int) (t : GridTerm) (bs : List UInt8) : GridTerm := t.putChsL L (termDecode bs (bs.length + 1) 0)

/-- `goto` on a screen of `L` lines: the line is clamped to the screen, too. -/
def gotoL (L : Int) (t : GridTerm) (line col : Int) : GridTerm := t.goto (max 0 (min line (L - 1))) col

/-- One request on a screen of `L` lines. -/
def stepL (L : Int) (t : GridTerm) : Req → GridTerm
  | .goto l c => t.gotoL L l c
  | .setpen p => t.setpen p
  | .print s start len => t.printBytesL L (reqBytes t.viaWriteStr s start len)
  | .erasech n m => t.erasech n m

def runL (L : Int) (t : GridTerm) : List Req → GridTerm
  | [] => t
  | r :: rs => runL L (t.stepL L r) rs

/-- Re-tabulate the window `[0,lines) × [0,cols)` (execution speed only); cells outside keep their closure. -/
def compact (t : GridTerm) (lines cols : Nat) : GridTerm :=
  let tab : Array (Array TCell) := Array.ofFn (n := lines) fun l => Array.ofFn (n := cols) fun c => t.cells l.val c.val
  let old := t.cells
  { t with cells := fun l c =>
      if 0 ≤ l ∧ 0 ≤ c then
        match tab[l.toNat]? with
        | some row =>
          match row[c.toNat]? with
          | some x => x
          | none => old l c
        | none => old l c
      else old l c }

end GridTerm

/-! ## The specification: `overlay (content of the buffer) (old grid)` -/

/-- The characters of `s` from byte `i`, as the width counter (`tickit_utf8_ncountmore` without limit) reads them up
    to the NUL; `none` when the counter rejects the text (or the fuel, one more than the number of characters, runs out). -/
def decodeFrom (s : List UInt8) : Nat → Nat → Option (List Ch)
  | 0, _ => none
  | fuel + 1, i =>
    if Utf8.byteAt s i = 0 then some []
    else match Utf8.nextUtf8 s i none with
      | none => none
      | some d =>
        if d.cp < 0x20 || (d.cp ≥ 0x80 && d.cp < 0xa0) then none
        else if Utf8.wcwidth d.cp = -1 then none
        else (decodeFrom s fuel (i + d.n)).map (⟨(s.drop i).take d.n, d.cp, Utf8.wcwidth d.cp⟩ :: ·)

def decode (s : List UInt8) : Option (List Ch) := decodeFrom s (s.length + 1) 0

/-- Σ width. -/
def chCols : List Ch → Int
  | [] => 0
  | c :: cs => c.width + chCols cs

/-- A grapheme as the terminal shows it: the bytes of a character of width ≥ 1 and of the zero-width characters
    that follow it, and its width.  Zero-width characters before the first such character belong to no column. -/
structure Grapheme where
  bytes : List UInt8
  width : Int
deriving DecidableEq, Repr

/-- Attach zero-width characters to the grapheme under construction (`cur`). -/
def graphemesAux : List Ch → Option Grapheme → List Grapheme
  | [], none => []
  | [], some g => [g]
  | c :: cs, cur =>
    if c.width = 0 then
      match cur with
      | none => graphemesAux cs none
      | some g => graphemesAux cs (some { g with bytes := g.bytes ++ c.bytes })
    else
      match cur with
      | none => graphemesAux cs (some ⟨c.bytes, c.width⟩)
      | some g => g :: graphemesAux cs (some ⟨c.bytes, c.width⟩)

def graphemes (s : List UInt8) : Option (List Grapheme) := (decode s).map fun cs => graphemesAux cs none

/-- What column `k` of a laid-out text shows: `(glyph, first column of its grapheme, width)`. -/
def colGlyph : List Grapheme → Int → Int → Option (Glyph × Int × Int)
  | [], _, _ => none
  | g :: gs, c0, k =>
    if k < c0 then none
    else if k = c0 then some (.chars g.bytes, c0, g.width)
    else if k < c0 + g.width then some (.wcont, c0, g.width)
    else colGlyph gs (c0 + g.width) k

/-- What the flush owes one terminal cell. -/
inductive Want
  /-- leave the cell alone -/
  | keep
  /-- show this glyph with this pen -/
  | glyph (g : Glyph) (pen : Pen)
  /-- a line cell: any box-drawing glyph with the arms of `mask` (the exact one where Unicode has one) -/
  | line (mask : Nat) (pen : Pen)
  /-- the buffer is ill-formed here (a CONT cell pointing at a CONT, text shorter than its run): nothing is claimed -/
  | unspecified
deriving DecidableEq, Repr

/-- The start column of the run covering `(line, col)`. -/
def runStart (rb : RB) (line col : Int) : Int :=
  let cell := rb.cell line col
  if cell.state = .cont then cell.cols else col

/-- What the run with start cell `sc` owes the terminal cell `j` columns into it. -/
def wantOf (sc : Cell) (j : Int) : Want :=
  match sc.state with
  | .skip => .keep
  | .erase => .glyph .blank sc.pen
  | .char => .glyph (.chars (Utf8.put sc.cp.toNat)) sc.pen
  | .line => .line sc.lmask sc.pen
  | .cont => .unspecified
  | .text =>
    match (graphemes sc.text).bind fun gs => colGlyph gs 0 (sc.offs + j) with
    | none => .unspecified
    | some (g, c0, w) =>
      -- a double-width character cut by a boundary of the run cannot be shown: its visible half is blank
      if sc.offs ≤ c0 ∧ c0 + w ≤ sc.offs + sc.cols then .glyph g sc.pen else .glyph .blank sc.pen

/-- The content of the buffer at `(line, col)`, as an obligation on the terminal cell. -/
def want (rb : RB) (line col : Int) : Want :=
  if ¬ rb.inGrid line col then .keep
  else wantOf (rb.cell line (runStart rb line col)) (col - runStart rb line col)

/-- Rendition equality: `tickit_pen_equiv` (an absent attribute is its default). -/
def penSame (a b : Pen) : Bool := Pen.equiv a b

/-! ## Box-drawing characters: the arms of U+2500 … U+257F (part of the specification)

  `(north, east, south, west)`, each `0` = no arm, `1` = light ("single"), `2` = double, `3` = heavy ("thick") — the
  two-bit styles of `TickitLineStyle`.  Written from the Unicode character names (e.g. U+251E "BOX DRAWINGS UP HEAVY
  AND RIGHT DOWN LIGHT" = `(3, 1, 1, 0)`); dashed lines, arcs and diagonals are not arm glyphs (`none`). -/

abbrev Arms := Nat × Nat × Nat × Nat

def boxArms : Array (Option Arms) := #[
  some (0, 1, 0, 1), some (0, 3, 0, 3), some (1, 0, 1, 0), some (3, 0, 3, 0),   -- U+2500 ─━│┃
  none, none, none, none,   -- U+2504 ┄┅┆┇
  none, none, none, none,   -- U+2508 ┈┉┊┋
  some (0, 1, 1, 0), some (0, 3, 1, 0), some (0, 1, 3, 0), some (0, 3, 3, 0),   -- U+250C ┌┍┎┏
  some (0, 0, 1, 1), some (0, 0, 1, 3), some (0, 0, 3, 1), some (0, 0, 3, 3),   -- U+2510 ┐┑┒┓
  some (1, 1, 0, 0), some (1, 3, 0, 0), some (3, 1, 0, 0), some (3, 3, 0, 0),   -- U+2514 └┕┖┗
  some (1, 0, 0, 1), some (1, 0, 0, 3), some (3, 0, 0, 1), some (3, 0, 0, 3),   -- U+2518 ┘┙┚┛
  some (1, 1, 1, 0), some (1, 3, 1, 0), some (3, 1, 1, 0), some (1, 1, 3, 0),   -- U+251C ├┝┞┟
  some (3, 1, 3, 0), some (3, 3, 1, 0), some (1, 3, 3, 0), some (3, 3, 3, 0),   -- U+2520 ┠┡┢┣
  some (1, 0, 1, 1), some (1, 0, 1, 3), some (3, 0, 1, 1), some (1, 0, 3, 1),   -- U+2524 ┤┥┦┧
  some (3, 0, 3, 1), some (3, 0, 1, 3), some (1, 0, 3, 3), some (3, 0, 3, 3),   -- U+2528 ┨┩┪┫
  some (0, 1, 1, 1), some (0, 1, 1, 3), some (0, 3, 1, 1), some (0, 3, 1, 3),   -- U+252C ┬┭┮┯
  some (0, 1, 3, 1), some (0, 1, 3, 3), some (0, 3, 3, 1), some (0, 3, 3, 3),   -- U+2530 ┰┱┲┳
  some (1, 1, 0, 1), some (1, 1, 0, 3), some (1, 3, 0, 1), some (1, 3, 0, 3),   -- U+2534 ┴┵┶┷
  some (3, 1, 0, 1), some (3, 1, 0, 3), some (3, 3, 0, 1), some (3, 3, 0, 3),   -- U+2538 ┸┹┺┻
  some (1, 1, 1, 1), some (1, 1, 1, 3), some (1, 3, 1, 1), some (1, 3, 1, 3),   -- U+253C ┼┽┾┿
  some (3, 1, 1, 1), some (1, 1, 3, 1), some (3, 1, 3, 1), some (3, 1, 1, 3),   -- U+2540 ╀╁╂╃
  some (3, 3, 1, 1), some (1, 1, 3, 3), some (1, 3, 3, 1), some (3, 3, 1, 3),   -- U+2544 ╄╅╆╇
  some (1, 3, 3, 3), some (3, 1, 3, 3), some (3, 3, 3, 1), some (3, 3, 3, 3),   -- U+2548 ╈╉╊╋
  none, none, none, none,   -- U+254C ╌╍╎╏
  some (0, 2, 0, 2), some (2, 0, 2, 0), some (0, 2, 1, 0), some (0, 1, 2, 0),   -- U+2550 ═║╒╓
  some (0, 2, 2, 0), some (0, 0, 1, 2), some (0, 0, 2, 1), some (0, 0, 2, 2),   -- U+2554 ╔╕╖╗
  some (1, 2, 0, 0), some (2, 1, 0, 0), some (2, 2, 0, 0), some (1, 0, 0, 2),   -- U+2558 ╘╙╚╛
  some (2, 0, 0, 1), some (2, 0, 0, 2), some (1, 2, 1, 0), some (2, 1, 2, 0),   -- U+255C ╜╝╞╟
  some (2, 2, 2, 0), some (1, 0, 1, 2), some (2, 0, 2, 1), some (2, 0, 2, 2),   -- U+2560 ╠╡╢╣
  some (0, 2, 1, 2), some (0, 1, 2, 1), some (0, 2, 2, 2), some (1, 2, 0, 2),   -- U+2564 ╤╥╦╧
  some (2, 1, 0, 1), some (2, 2, 0, 2), some (1, 2, 1, 2), some (2, 1, 2, 1),   -- U+2568 ╨╩╪╫
  some (2, 2, 2, 2), none, none, none,   -- U+256C ╬╭╮╯
  none, none, none, none,   -- U+2570 ╰╱╲╳
  some (0, 0, 0, 1), some (1, 0, 0, 0), some (0, 1, 0, 0), some (0, 0, 1, 0),   -- U+2574 ╴╵╶╷
  some (0, 0, 0, 3), some (3, 0, 0, 0), some (0, 3, 0, 0), some (0, 0, 3, 0),   -- U+2578 ╸╹╺╻
  some (0, 3, 0, 1), some (1, 0, 3, 0), some (0, 1, 0, 3), some (3, 0, 1, 0)    -- U+257C ╼╽╾╿
]

/-- The arms of a code point: `none` outside the block and for the non-arm glyphs. -/
def armsOf (cp : Nat) : Option Arms :=
  if 0x2500 ≤ cp ∧ cp < 0x2580 then (boxArms.getD (cp - 0x2500) none) else none

/-- The four two-bit styles of a line mask, `(north, east, south, west)`; shifts from the source. -/
def maskArms (mask : Nat) : Arms :=
  open Tickit.Gen.LineChars in
  ((mask >>> shiftNorth) % 4, (mask >>> shiftEast) % 4, (mask >>> shiftSouth) % 4, (mask >>> shiftWest) % 4)

/-- Same set of directions with an arm. -/
def sameDirs (a b : Arms) : Bool :=
  (a.1 != 0) == (b.1 != 0) && (a.2.1 != 0) == (b.2.1 != 0) && (a.2.2.1 != 0) == (b.2.2.1 != 0) && (a.2.2.2 != 0) == (b.2.2.2 != 0)

/-- Unicode has a glyph with exactly these arms. -/
def hasExact (a : Arms) : Bool := (List.range 128).any fun i => boxArms.getD i none == some a

/-- `cp` is an acceptable picture of line mask `mask`: a box-drawing character with an arm in exactly the
    directions the mask has one, and *the* character with exactly the mask's arms where Unicode has one. -/
def glyphOK (mask cp : Nat) : Bool :=
  match armsOf cp with
  | none => false
  | some a => sameDirs a (maskArms mask) && (!hasExact (maskArms mask) || a == maskArms mask)

/-- Is `bs` the UTF-8 form of one code point acceptable for line mask `mask`? -/
def lineGlyphOK (mask : Nat) (bs : List UInt8) : Bool :=
  match Utf8.nextUtf8 bs 0 (some bs.length) with
  | none => false
  | some d => d.n == bs.length && glyphOK mask d.cp

/-- The obligation `w` holds of a terminal cell that was `old` before the flush and is `new` after it: the glyph, the
    rendition (`tickit_pen_equiv` with the cell's pen) and "written exactly once". -/
def cellOK (w : Want) (old new : TCell) : Bool :=
  match w with
  | .keep => new == old
  | .unspecified => true
  | .glyph g p => new.glyph == g && penSame new.pen p && new.writes == old.writes + 1
  | .line m p =>
    (match new.glyph with
     | .chars bs => lineGlyphOK m bs
     | _ => false) && penSame new.pen p && new.writes == old.writes + 1

/-! ## The library's mock terminal (src/mockterm.c), second configuration of the correspondence check

  `MockTerm` mirrors `mtd_goto_abs`, `mtd_print`, `mtd_erasech` and `mtd_chpen` statement by statement: goto is clamped to
  the screen, `erasech` moves the cursor unless `moveend == TICKIT_NO`, a cell holds the bytes of one grapheme (`" "`
  after an erase, NULL for the second column of a double-width character) and a clone of the driver's pen.  The loop of
  `mtd_print` that empties the further columns of a double-width character is bounded by the line width (a wide
  character printed in the last column shows in that column only; before the repair `mockterm_wide_at_edge` it wrote
  `linecells[cols]`), while the cursor column still advances by the character's width.  No theorem is about this model;
  the specification `want`/`cellOK` is evaluated on what the real mock terminal displays. -/

/-- `MockTermCell`: `str` (`none` = NULL) and pen. -/
structure MCell where
  str : Option (List UInt8) := some [0x20]
  pen : Pen := {}
deriving DecidableEq, Repr, Inhabited

structure MockTerm where
  lines : Int
  cols : Int
  cells : Int → Int → MCell
  line : Int := -1
  col : Int := -1
  /-- `tt->pen` (src/term.c); the driver's `mtd->pen` is a copy of the `final` pen, i.e. the same attributes -/
  pen : Pen := {}
  /-- `mtd_print` does not terminate (a byte string the width counter rejects) -/
  hung : Bool := false

namespace MockTerm

/-- `BOUND(var, min, max)`. -/
def bound (v lo hi : Int) : Int :=
  let v := if v < lo then lo else v
  if v > hi then hi else v

/-- `mtd_goto_abs`. -/
def goto (t : MockTerm) (line col : Int) : MockTerm :=
  { t with line := bound line 0 (t.lines - 1), col := bound col 0 (t.cols - 1) }

/-- `tickit_term_setpen` + `mtd_chpen`. -/
def setpen (t : MockTerm) (p : Pen) : MockTerm := { t with pen := termSetpen t.pen p }

/-- `mtd_erasech`. -/
def erasech (t : MockTerm) (count : Int) (m : MaybeBool) : MockTerm :=
  let right := bound (t.col + count) 0 t.cols
  let t' : MockTerm :=
    { t with cells := fun l c =>
        if l = t.line ∧ t.col ≤ c ∧ c < right then { str := some [0x20], pen := t.pen } else t.cells l c }
  match m with
  | .no => t'
  | _ => { t' with col := right }

/-- The `while(pos.bytes < len)` loop of `mtd_print`; `lim` is `limit.columns`. -/
def printLoop (bs : List UInt8) : Nat → MockTerm → Utf8.StrPos → Int → MockTerm
  | 0, t, _, _ => { t with hung := true }
  | fuel + 1, t, pos, lim =>
    if ¬ pos.bytes < bs.length then { t with col := pos.columns }
    else
      let lim := lim + 1
      let pos' := (Utf8.ncountmore bs (some bs.length) pos (some ⟨bs.length, -1, -1, lim⟩)).pos
      if pos'.columns = pos.columns then printLoop bs fuel t pos' lim
      else
        -- "Wrap but don't scroll"
        let wrapped := decide (pos.columns ≥ t.cols)
        let line := if wrapped ∧ t.line < t.lines - 1 then t.line + 1 else t.line
        let sc := if wrapped then 0 else pos.columns
        let slice := (bs.drop pos.bytes.toNat).take (pos'.bytes - pos.bytes).toNat
        let t' : MockTerm :=
          { t with
            line := line
            cells := fun l c =>
              if l = line ∧ c = sc then { str := some slice, pen := t.pen }
              else if l = line ∧ sc < c ∧ c < pos'.columns ∧ c < t.cols then { str := none, pen := t.pen }
              -- "Empty out the other cells for doublewidth":
              -- `for(start.columns++; start.columns < pos.columns && start.columns < mtd->cols; start.columns++)`
              else t.cells l c }
        printLoop bs fuel t' pos' lim

/-- `mtd_print(str, len)`. -/
def print (t : MockTerm) (bs : List UInt8) : MockTerm :=
  printLoop bs (2 * bs.length + 2) t { columns := t.col } t.col

/-- One request. -/
def step (t : MockTerm) : Req → MockTerm
  | .goto l c => t.goto l c
  | .setpen p => t.setpen p
  | .print s start len => t.print ((s.drop start).take len)
  | .erasech n m => t.erasech n m

def run (t : MockTerm) : List Req → MockTerm
  | [] => t
  | r :: rs => run (t.step r) rs

/-- `tickit_mockterm_new(lines, cols)`. -/
def new (lines cols : Int) : MockTerm := { lines := lines, cols := cols, cells := fun _ _ => {} }

/-- Re-tabulate (execution speed only). -/
def compact (t : MockTerm) : MockTerm :=
  let tab : Array (Array MCell) :=
    Array.ofFn (n := t.lines.toNat) fun l => Array.ofFn (n := t.cols.toNat) fun c => t.cells l.val c.val
  let old := t.cells
  { t with cells := fun l c =>
      if 0 ≤ l ∧ 0 ≤ c then
        match tab[l.toNat]? with
        | some row =>
          match row[c.toNat]? with
          | some x => x
          | none => old l c
        | none => old l c
      else old l c }

end MockTerm

/-- What the mock terminal shows for a glyph. -/
def mockStr : Glyph → Option (List UInt8)
  | .blank => some [0x20]
  | .chars bs => some bs
  | .wcont => none

/-- `cellOK` for the mock terminal, which does not count writes: glyph and rendition. -/
def mcellOK (w : Want) (old new : MCell) : Bool :=
  match w with
  | .keep => new == old
  | .unspecified => true
  | .glyph g p => new.str == mockStr g && penSame new.pen p
  | .line m p =>
    (match new.str with
     | some bs => lineGlyphOK m bs
     | none => false) && penSame new.pen p

/-! ## Well-formedness of a buffer as far as the flush looks at it (decidable form)

  The Prop form (`FlushWFP`, Proof/RBFlushWF.lean) is the hypothesis of `flush_spec`; this Bool form is proved to imply
  it, is used for the non-vacuity examples, and is evaluated by the driver on every buffer that is flushed. -/

def charOKb (cp : Int) : Bool :=
  decide (Utf8.nextUtf8 (Utf8.put cp.toNat) 0 (some (Utf8.put cp.toNat).length) =
    some ⟨(Utf8.put cp.toNat).length, cp.toNat⟩) && decide (Utf8.wcwidth cp.toNat = 1)

def textOKb (cell : Cell) : Bool :=
  match decode cell.text with
  | some cs => decide (0 ≤ cell.offs) && decide (cell.offs + cell.cols ≤ chCols cs)
  | none => false

def runAtB (okb : Int → Bool) (rb : RB) (line col : Int) : Bool :=
  let cell := rb.cell line col
  decide (cell.state ≠ .cont) && decide (1 ≤ cell.cols) && decide (col + cell.cols ≤ rb.cols) &&
  ((List.range (cell.cols - 1).toNat).all fun j =>
    decide ((rb.cell line (col + 1 + j)).state = .cont) && decide ((rb.cell line (col + 1 + j)).cols = col)) &&
  (!(decide (cell.state = .line) || decide (cell.state = .char)) || decide (cell.cols = 1)) &&
  (!decide (cell.state = .line) || (decide (1 ≤ cell.lmask) && decide (cell.lmask < 256))) &&
  (!decide (cell.state = .char) || okb cell.cp) &&
  (!decide (cell.state = .text) || textOKb cell)

def tiledB (okb : Int → Bool) (rb : RB) (line : Int) : Nat → Int → Bool
  | 0, col => decide (col = rb.cols)
  | n + 1, col =>
    decide (col = rb.cols) ||
    (decide (col < rb.cols) && runAtB okb rb line col && tiledB okb rb line n (col + (rb.cell line col).cols))

def flushWFPb (okb : Int → Bool) (rb : RB) : Bool :=
  (List.range rb.lines.toNat).all fun l => tiledB okb rb (l : Int) rb.cols.toNat 0

def flushWFb (rb : RB) : Bool := flushWFPb charOKb rb

/-- The hypothesis of `flush_spec_screen` in decidable form (evaluated by the driver on every flush): no cell of the
    buffer outside a screen of `W` columns and `L` lines is owed anything. -/
def contentWithinB (rb : RB) (W L : Int) : Bool :=
  (List.range rb.lines.toNat).all fun l => (List.range rb.cols.toNat).all fun c =>
    (decide ((l : Int) < L) && decide ((c : Int) < W)) || want rb (l : Int) (c : Int) == .keep

end Tickit.RBFlush
