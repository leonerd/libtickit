import Tickit.Gen.ModeLayout
import Tickit.Gen.XTermFacts
/-
  C12 — model of the terminal-mode life cycle.

  Part 1  the xterm driver's control interface (`src/termdriver-xterm.c`: `setctl_int`, `getctl_int`,
          `setctl_str`, `start`, `teardown` (= `stop` = `pause`), `resume`, `on_modereport`, `on_decrqss`,
          `chpen`), statement by statement, emitting bytes;
  Part 2  `src/term.c`: the UNSTARTED/STARTING/STARTED state machine, `tickit_term_teardown / pause /
          resume / destroy`, the cached pen of `tickit_term_setpen / chpen`;
  Part 3  `src/tickit.c`: `setupterm`, `tickit_tick`, `tickit_destroy`;
  Part 4  the specification side: a byte-level escape-sequence tokenizer and a VT *mode-state*
          interpreter (DESIGN.md Appendix C restricted to modes and SGR).

  C `int` is an unbounded `Int`; the driver's bit-fields are stored through `wrapU w` with the
  widths read from the struct definition (`Gen.ModeLayout`).  Bytes are `Nat`s.
  Core Lean only: this file is linked into the driver executable.
-/
namespace Tickit.Modes
open Tickit.Gen

abbrev Out := List Nat

/-! ### `%d` -/

/-- Decimal digits (ASCII) of `n`, most significant first; `fuel` bounds the number of digits. -/
def showNatAux : Nat → Nat → List Nat
  | 0, n => [48 + n % 10]
  | fuel + 1, n => if n < 10 then [48 + n] else showNatAux fuel (n / 10) ++ [48 + n % 10]

/-- Decimal digits of a natural number (`n` itself is fuel enough). -/
def showNat (n : Nat) : List Nat := showNatAux n n

/-- `printf("%d", i)`. -/
def showInt (i : Int) : List Nat :=
  if i < 0 then 45 :: showNat i.natAbs else showNat i.toNat

/-! ### which variant of the code is modelled -/

/-- The places where the working tree may or may not have been repaired; the extractor reads them
    from the source on every run (`Gen.ModeLayout`), the theorems are stated for every `Cfg`. -/
structure Cfg where
  /-- `setctl_int(KEYPAD_APP)` stores the value in `mode.keypad`. -/
  keypadRecorded : Bool
  /-- `tickit_term_resume` sends the cached pen again after the driver's resume. -/
  resumeResendsPen : Bool
  /-- `chpen` sends an underline style ≥ 2 as one parameter (21 for double, 4 otherwise) when the terminal
      does not understand `:` sub-parameters, instead of `4;<style>`. -/
  underStyleSafe : Bool
  /-- a value the program has set explicitly (cursor visibility, blink, shape) is no longer overwritten by
      a DECRPM / DECRQSS reply that arrives afterwards: `setctl_int` marks the field `initialised` and the
      reply handlers only fill in fields that are not. -/
  repliesGuarded : Bool
  /-- an RGB8 capability the program has forced through `xterm.cap_rgb8` is no longer overwritten by the
      terminal's SGR DECRQSS reply that arrives afterwards (`initialised.rgb8`). -/
  rgb8Guarded : Bool
deriving DecidableEq, Repr

/-- The variant the working tree has. -/
def Cfg.tree : Cfg :=
  { keypadRecorded := ModeLayout.keypadRecorded
    resumeResendsPen := ModeLayout.resumeResendsPen
    underStyleSafe := ModeLayout.underStyleSafe
    repliesGuarded := ModeLayout.repliesGuarded
    rgb8Guarded := ModeLayout.rgb8Guarded }

/-- The variant with every repair. -/
def Cfg.repaired : Cfg :=
  { keypadRecorded := true, resumeResendsPen := true, underStyleSafe := true, repliesGuarded := true, rgb8Guarded := true }

/-! ## Part 1 — the xterm driver -/

/-- Storing an `int` into an `unsigned : w` bit-field. -/
def wrapU (w : Nat) (v : Int) : Nat := (v % ((2 : Int) ^ w)).toNat

/-- `!!value`. -/
def bool01 (v : Int) : Int := if v = 0 then 0 else 1

/-- `XTermDriver.mode`. -/
structure Shadow where
  altscreen   : Nat := 0
  cursorvis   : Nat := 1
  cursorblink : Nat := 0
  cursorshape : Nat := 0
  mouse       : Nat := 0
  keypad      : Nat := 0
deriving DecidableEq, Repr

/-- `XTermDriver.cap`. -/
structure Caps where
  cursorshape : Nat := 0
  slrm        : Nat := 0
  csiSubColon : Nat := 0
  rgb8        : Nat := 0
deriving DecidableEq, Repr

/-- `XTermDriver.initialised`. -/
structure Inits where
  cursorvis   : Nat := 0
  cursorblink : Nat := 0
  cursorshape : Nat := 0
  slrm        : Nat := 0
  /-- only in a tree with the `rgb8Guarded` repair -/
  rgb8        : Nat := 0
deriving DecidableEq, Repr

/-- `struct XTermDriver` after `new()`. -/
structure XDrv where
  mode : Shadow := {}
  cap  : Caps := {}
  init : Inits := {}
deriving DecidableEq, Repr

/-- `xd->cap.rgb8` as a truth value. -/
def XDrv.rgbOn (d : XDrv) : Bool := decide (d.cap.rgb8 ≠ 0)

/-- The controls `setctl_int`/`getctl_int`/`setctl_str` distinguish; every other number is `none`. -/
inductive Ctl
  | altscreen | cursorvis | mouse | cursorblink | cursorshape | iconText | titleText | iconTitleText
  | keypadApp | colors | capCursorshape | capSlrm | capCsiSubColon | capRgb8
deriving DecidableEq, Repr

def Ctl.ofInt (n : Int) : Option Ctl :=
  if n = ModeLayout.ctl_altscreen then some .altscreen
  else if n = ModeLayout.ctl_cursorvis then some .cursorvis
  else if n = ModeLayout.ctl_mouse then some .mouse
  else if n = ModeLayout.ctl_cursorblink then some .cursorblink
  else if n = ModeLayout.ctl_cursorshape then some .cursorshape
  else if n = ModeLayout.ctl_icon_text then some .iconText
  else if n = ModeLayout.ctl_title_text then some .titleText
  else if n = ModeLayout.ctl_icontitle_text then some .iconTitleText
  else if n = ModeLayout.ctl_keypad_app then some .keypadApp
  else if n = ModeLayout.ctl_colors then some .colors
  else if n = ModeLayout.ctl_cap_cursorshape then some .capCursorshape
  else if n = ModeLayout.ctl_cap_slrm then some .capSlrm
  else if n = ModeLayout.ctl_cap_csi_sub_colon then some .capCsiSubColon
  else if n = ModeLayout.ctl_cap_rgb8 then some .capRgb8
  else none

/-- `mode_for_mouse`. -/
def modeForMouse (mode : Int) : Int :=
  if mode = 1 then 1000 else if mode = 2 then 1002 else if mode = 3 then 1003 else 0

/-! #### the byte strings (ESC = 27, `[` = 91, `?` = 63, `h` = 104, `l` = 108) -/

def altOn  : Out := [27, 91, 63, 49, 48, 52, 57, 104]   -- \e[?1049h
def altOff : Out := [27, 91, 63, 49, 48, 52, 57, 108]   -- \e[?1049l
def visOn  : Out := [27, 91, 63, 50, 53, 104]           -- \e[?25h
def visOff : Out := [27, 91, 63, 50, 53, 108]           -- \e[?25l
def blinkOn  : Out := [27, 91, 63, 49, 50, 104]         -- \e[?12h
def blinkOff : Out := [27, 91, 63, 49, 50, 108]         -- \e[?12l
def keypadOn  : Out := [27, 61]                         -- \e=
def keypadOff : Out := [27, 62]                         -- \e>
def sgrReset  : Out := [27, 91, 109]                    -- \e[m
def clearScreen : Out := [27, 91, 50, 74]               -- \e[2J
/-- `"\e[?%dh\e[?1006h"`. -/
def mouseOn (m : Int) : Out := [27, 91, 63] ++ showInt m ++ [104, 27, 91, 63, 49, 48, 48, 54, 104]
/-- `"\e[?%dl\e[?1006l"`. -/
def mouseOff (m : Int) : Out := [27, 91, 63] ++ showInt m ++ [108, 27, 91, 63, 49, 48, 48, 54, 108]
/-- `"\e[%d q"`. -/
def shapeSeq (n : Int) : Out := [27, 91] ++ showInt n ++ [32, 113]

/-- The bytes `start()` writes: `\e[?69h`, `\e[?69$p`, `\e[?25$p\e[?12$p\eP$q q\e\\`,
    `\e[38;5;255m\e[38:2:0:1:2m\eP$qm\e\\\e[m`, `\e[G\e[K`. -/
def startBytes : Out :=
  [27, 91, 63, 54, 57, 104] ++
  [27, 91, 63, 54, 57, 36, 112] ++
  [27, 91, 63, 50, 53, 36, 112, 27, 91, 63, 49, 50, 36, 112, 27, 80, 36, 113, 32, 113, 27, 92] ++
  [27, 91, 51, 56, 59, 53, 59, 50, 53, 53, 109, 27, 91, 51, 56, 58, 50, 58, 48, 58, 49, 58, 50, 109,
   27, 80, 36, 113, 109, 27, 92, 27, 91, 109] ++
  [27, 91, 71, 27, 91, 75]

/-- `setctl_int`: new driver state, bytes written, return value. -/
def setctlInt (cfg : Cfg) (d : XDrv) (ctl : Option Ctl) (value : Int) : XDrv × Out × Bool :=
  match ctl with
  | some .capRgb8 =>
    ({ d with cap := { d.cap with rgb8 := wrapU ModeLayout.w_cap_rgb8 (bool01 value) }
              init := { d.init with rgb8 := if cfg.rgb8Guarded then 1 else d.init.rgb8 } }, [], true)
  | some .altscreen =>
    if decide (d.mode.altscreen = 0) = decide (value = 0) then (d, [], true)
    else ({ d with mode := { d.mode with altscreen := wrapU ModeLayout.w_mode_altscreen (bool01 value) } },
          (if value ≠ 0 then altOn else altOff), true)
  | some .cursorvis =>
    if decide (d.mode.cursorvis = 0) = decide (value = 0) then (d, [], true)
    else ({ d with mode := { d.mode with cursorvis := wrapU ModeLayout.w_mode_cursorvis (bool01 value) }
                   init := { d.init with cursorvis := if cfg.repliesGuarded then wrapU ModeLayout.w_initialised_cursorvis 1 else d.init.cursorvis } },
          (if value ≠ 0 then visOn else visOff), true)
  | some .cursorblink =>
    if d.init.cursorblink ≠ 0 ∧ decide (d.mode.cursorblink = 0) = decide (value = 0) then (d, [], true)
    else ({ d with mode := { d.mode with cursorblink := wrapU ModeLayout.w_mode_cursorblink (bool01 value) }
                   init := { d.init with cursorblink := if cfg.repliesGuarded then wrapU ModeLayout.w_initialised_cursorblink 1 else d.init.cursorblink } },
          (if value ≠ 0 then blinkOn else blinkOff), true)
  | some .mouse =>
    if (d.mode.mouse : Int) = value then (d, [], true)
    else ({ d with mode := { d.mode with mouse := wrapU ModeLayout.w_mode_mouse value } },
          (if value = 0 then mouseOff (modeForMouse d.mode.mouse) else mouseOn (modeForMouse value)), true)
  | some .cursorshape =>
    if d.init.cursorshape ≠ 0 ∧ (d.mode.cursorshape : Int) = value then (d, [], true)
    else ({ d with mode := { d.mode with cursorshape := wrapU ModeLayout.w_mode_cursorshape value }
                   init := { d.init with cursorshape := if cfg.repliesGuarded then wrapU ModeLayout.w_initialised_cursorshape 1 else d.init.cursorshape } },
          (if d.cap.cursorshape ≠ 0 then shapeSeq (value * 2 + (if d.mode.cursorblink ≠ 0 then -1 else 0)) else []), true)
  | some .keypadApp =>
    if decide (d.mode.keypad = 0) = decide (value = 0) then (d, [], true)
    else ((if cfg.keypadRecorded then
             { d with mode := { d.mode with keypad := wrapU ModeLayout.w_mode_keypad (bool01 value) } } else d),
          (if value ≠ 0 then keypadOn else keypadOff), true)
  | _ => (d, [], false)

/-- `getctl_int`: `none` is the `false` return. -/
def getctlInt (d : XDrv) (ctl : Option Ctl) : Option Int :=
  match ctl with
  | some .capCursorshape => some d.cap.cursorshape
  | some .capSlrm => some d.cap.slrm
  | some .capCsiSubColon => some d.cap.csiSubColon
  | some .capRgb8 => some d.cap.rgb8
  | some .altscreen => some d.mode.altscreen
  | some .cursorvis => some d.mode.cursorvis
  | some .cursorblink => some d.mode.cursorblink
  | some .mouse => some d.mode.mouse
  | some .cursorshape => some d.mode.cursorshape
  | some .keypadApp => some d.mode.keypad
  | some .colors => some (if d.cap.rgb8 ≠ 0 then 16777216 else 256)
  | _ => none

/-- `setctl_str`: `"\e]1;%s\e\\"` (icon), `2` (title), `0` (both). -/
def setctlStr (ctl : Option Ctl) (value : List Nat) : Out × Bool :=
  match ctl with
  | some .iconText      => ([27, 93, 49, 59] ++ value ++ [27, 92], true)
  | some .titleText     => ([27, 93, 50, 59] ++ value ++ [27, 92], true)
  | some .iconTitleText => ([27, 93, 48, 59] ++ value ++ [27, 92], true)
  | _ => ([], false)

/-- `on_modereport` for `initial == '?'`. -/
def onModereport (cfg : Cfg) (d : XDrv) (mode value : Int) : XDrv :=
  if mode = 12 then
    let m := if value = 1 ∧ (!cfg.repliesGuarded || d.init.cursorblink = 0) then
               { d.mode with cursorblink := wrapU ModeLayout.w_mode_cursorblink 1 } else d.mode
    { d with mode := m, init := { d.init with cursorblink := wrapU ModeLayout.w_initialised_cursorblink 1 } }
  else if mode = 25 then
    let m := if value = 1 ∧ (!cfg.repliesGuarded || d.init.cursorvis = 0) then
               { d.mode with cursorvis := wrapU ModeLayout.w_mode_cursorvis 1 } else d.mode
    { d with mode := m, init := { d.init with cursorvis := wrapU ModeLayout.w_initialised_cursorvis 1 } }
  else if mode = 69 then
    let c := if (Gen.XTermFacts.slrmAccept.map Int.ofNat).contains value then { d.cap with slrm := wrapU ModeLayout.w_cap_slrm 1 } else d.cap
    { d with cap := c, init := { d.init with slrm := wrapU ModeLayout.w_initialised_slrm 1 } }
  else d

/-- `on_decrqss` for a DECSCUSR reply `<value> SP q`. -/
def onDecrqssShape (cfg : Cfg) (d : XDrv) (value : Int) : XDrv :=
  { d with mode := { d.mode with cursorshape :=
                       if cfg.repliesGuarded ∧ d.init.cursorshape ≠ 0 then d.mode.cursorshape
                       else wrapU ModeLayout.w_mode_cursorshape (Int.tdiv (value + 1) 2) }
           cap := { d.cap with cursorshape := wrapU ModeLayout.w_cap_cursorshape 1 }
           init := { d.init with cursorshape := wrapU ModeLayout.w_initialised_cursorshape 1 } }

/-- `on_decrqss` for an SGR reply, abstracted to what it concludes (sub-parameter separator, RGB). -/
def onDecrqssSgr (cfg : Cfg) (d : XDrv) (colon rgb : Bool) : XDrv :=
  { d with cap := { d.cap with
      csiSubColon := if colon then wrapU ModeLayout.w_cap_csi_sub_colon 1 else d.cap.csiSubColon
      rgb8 := if rgb ∧ (!cfg.rgb8Guarded || d.init.rgb8 = 0) then wrapU ModeLayout.w_cap_rgb8 1 else d.cap.rgb8 } }

/-- `teardown` (the vtable's `stop` and `pause`). -/
def drvTeardown (d : XDrv) : Out :=
  (if d.mode.mouse ≠ 0 then mouseOff (modeForMouse d.mode.mouse) else []) ++
  (if d.mode.cursorvis = 0 then visOn else []) ++
  (if d.mode.altscreen ≠ 0 then altOff else []) ++
  (if d.mode.keypad ≠ 0 then keypadOff else []) ++
  sgrReset

/-- `resume`. -/
def drvResume (d : XDrv) : Out :=
  (if d.mode.keypad ≠ 0 then keypadOn else []) ++
  (if d.mode.altscreen ≠ 0 then altOn else []) ++
  (if d.mode.cursorvis = 0 then visOff else []) ++
  (if d.mode.mouse ≠ 0 then mouseOn (modeForMouse d.mode.mouse) else [])

/-! #### pens -/

/-- `TickitPenAttr` in enum order (`Gen.ModeLayout.pen_*`, checked in `Props/C12`). -/
inductive Attr
  | fg | bg | bold | under | italic | reverse | strike | altfont | blink | sizepos
deriving DecidableEq, Repr

def Attr.all : List Attr := [.fg, .bg, .bold, .under, .italic, .reverse, .strike, .altfont, .blink, .sizepos]

inductive AttrKind | bool | int | colour
deriving DecidableEq, Repr

/-- `tickit_penattr_type`. -/
def Attr.kind : Attr → AttrKind
  | .fg | .bg => .colour
  | .under | .altfont | .sizepos => .int
  | _ => .bool

/-- A pen as a partial map.  A colour value is either a palette index `-1 … 255` (`-1` = default colour), or
    `rgbEnc index r g b`: the palette index together with its RGB8 refinement (`valid.fg_rgb8` set).  The
    encoding is injective, so `tickit_pen_equiv_attr` is equality of values. -/
abbrev PenMap := Attr → Option Int

/-- Palette index `idx` (`-1 … 255`) refined by the RGB8 triple `r g b`. -/
def rgbEnc (idx : Int) (r g b : Nat) : Int := 1000 + ((((idx + 1).toNat * 256 + r) * 256 + g) * 256 + b : Nat)

/-- `tickit_pen_has_colour_attr_rgb8`. -/
def hasRgb (v : Int) : Bool := decide (1000 ≤ v)

/-- `tickit_pen_get_colour_attr`. -/
def colIndex (v : Int) : Int := if v < 1000 then v else (v - 1000) / 16777216 - 1

/-- `tickit_pen_get_colour_attr_rgb8(...).r / .g / .b`. -/
def colR (v : Int) : Int := (v - 1000) / 65536 % 256
def colG (v : Int) : Int := (v - 1000) / 256 % 256
def colB (v : Int) : Int := (v - 1000) % 256

def PenMap.empty : PenMap := fun _ => none

/-- What the getters return for an absent attribute (`COLOUR_DEFAULT`, `0`, `false`). -/
def dflt (a : Attr) : Int := match a.kind with
  | .colour => -1
  | _ => 0

def PenMap.getD (p : PenMap) (a : Attr) : Int := (p a).getD (dflt a)

/-- `tickit_pen_nondefault_attr`. -/
def nondefaultAttr (p : PenMap) (a : Attr) : Bool :=
  match p a with
  | none => false
  | some v => match a.kind with
    | .bool => v ≠ 0
    | .int => v > 0
    | .colour => colIndex v ≠ -1

/-- `tickit_pen_is_nondefault`. -/
def isNondefault (p : PenMap) : Bool := Attr.all.any (nondefaultAttr p)

/-- One SGR parameter of `chpen`'s `params[]`: value and the `CSI_MORE_SUBPARAM` mark. -/
structure Param where
  val : Int
  sub : Bool
deriving DecidableEq, Repr

/-- The colour arm of `chpen` (`on` = 30/40, `off` = 39/49) for a palette index `val`. -/
def paletteParams (on off val : Int) : List Param :=
  if val < 0 then [⟨off, false⟩]
  else if val < 8 then [⟨on + val, false⟩]
  else if val < 16 then [⟨on + 60 + val - 8, false⟩]
  else [⟨on + 8, true⟩, ⟨5, true⟩, ⟨val, false⟩]

/-- The colour arm of `chpen`: `val < 0` first, then `xd->cap.rgb8 && tickit_pen_has_colour_attr_rgb8`, then
    the palette arms. -/
def colourParams (rgb8 : Bool) (on off v : Int) : List Param :=
  if colIndex v < 0 then [⟨off, false⟩]
  else if rgb8 && hasRgb v then [⟨on + 8, true⟩, ⟨2, true⟩, ⟨colR v, true⟩, ⟨colG v, true⟩, ⟨colB v, false⟩]
  else paletteParams on off (colIndex v)

/-- The `switch(attr)` of `chpen` for one attribute present in `delta` with value `v` (`rgb8` = `xd->cap.rgb8`). -/
def attrParams (rgb8 : Bool) (a : Attr) (v : Int) : List Param :=
  match a with
  | .fg => colourParams rgb8 30 39 v
  | .bg => colourParams rgb8 40 49 v
  | .bold => [⟨if v ≠ 0 then 1 else 22, false⟩]
  | .under => if v = 0 then [⟨24, false⟩] else if v = 1 then [⟨4, false⟩] else [⟨4, true⟩, ⟨v, false⟩]
  | .italic => [⟨if v ≠ 0 then 3 else 23, false⟩]
  | .reverse => [⟨if v ≠ 0 then 7 else 27, false⟩]
  | .strike => [⟨if v ≠ 0 then 9 else 29, false⟩]
  | .altfont => if v < 0 ∨ v ≥ 10 then [⟨10, false⟩] else [⟨10 + v, false⟩]
  | .blink => [⟨if v ≠ 0 then 5 else 25, false⟩]
  | .sizepos => if v = 0 then [⟨75, false⟩] else if v = 2 then [⟨73, false⟩] else if v = 3 then [⟨74, false⟩] else []

/-- The loop over `attr = 1 … TICKIT_N_PEN_ATTRS-1`. -/
def deltaParams (rgb8 : Bool) (delta : PenMap) : List Param :=
  Attr.all.flatMap fun a => match delta a with
    | none => []
    | some v => attrParams rgb8 a v

/-- The `TICKIT_PEN_UNDER` arm where it has been repaired (`single` = the repair is present and the
    terminal has no `:` sub-parameters): a style ≥ 2 becomes one parameter. -/
def attrParams' (single rgb8 : Bool) (a : Attr) (v : Int) : List Param :=
  if single ∧ a = .under ∧ v ≠ 0 ∧ v ≠ 1 then [⟨if v = 2 then 21 else 4, false⟩] else attrParams rgb8 a v

def deltaParams' (single rgb8 : Bool) (delta : PenMap) : List Param :=
  Attr.all.flatMap fun a => match delta a with
    | none => []
    | some v => attrParams' single rgb8 a v

/-- Rendering `params[]` between `ESC [` and `m`. -/
def renderParams (colon : Bool) : List Param → Out
  | [] => []
  | [p] => showInt p.val
  | p :: q :: rest => showInt p.val ++ [if p.sub && colon then 58 else 59] ++ renderParams colon (q :: rest)

/-- `chpen(delta, final)`. -/
def drvChpen (cfg : Cfg) (d : XDrv) (delta final : PenMap) : Out :=
  let ps := deltaParams' (cfg.underStyleSafe && decide (d.cap.csiSubColon = 0)) d.rgbOn delta
  if ps.isEmpty then []
  else [27, 91] ++ renderParams (d.cap.csiSubColon ≠ 0) (if isNondefault final then ps else []) ++ [109]

/-! ## Part 2 — `term.c` -/

inductive TState | unstarted | starting | started
deriving DecidableEq, Repr

/-- A reply of the terminal, as the driver's handlers see it. -/
inductive Reply
  | mode (mode value : Int)
  | shape (value : Int)
  | sgr (colon rgb : Bool)
deriving DecidableEq, Repr

/-- `on_modereport` / `on_decrqss`. -/
def applyReply (cfg : Cfg) (d : XDrv) : Reply → XDrv
  | .mode m v => onModereport cfg d m v
  | .shape v => onDecrqssShape cfg d v
  | .sgr c r => onDecrqssSgr cfg d c r

/-- The xterm driver's `started()`. -/
def drvStarted (d : XDrv) : Bool :=
  d.init.cursorvis ≠ 0 && d.init.cursorblink ≠ 0 && d.init.cursorshape ≠ 0 && d.init.slrm ≠ 0

/-- The fields of `struct TickitTerm` the property depends on.  `tk`: the libtermkey instance (`none`
    until something needs it; `some started`), `pending`: replies pushed while it was stopped - they stay
    in its buffer and are read at the next push after it has been started again. -/
structure Term where
  drv   : XDrv := {}
  state : TState := .unstarted
  pen   : PenMap := PenMap.empty
  tk    : Option Bool := none
  pending : List Reply := []

/-- `tickit_term_build` with an output function: the driver is started at once. -/
def Term.build : Term × Out := ({ state := .starting }, startBytes)

/-- `tickit_term_teardown`. -/
def Term.teardown (t : Term) : Term × Out :=
  if t.state ≠ .unstarted then ({ t with state := .unstarted, tk := t.tk.map fun _ => false }, drvTeardown t.drv)
  else ({ t with tk := t.tk.map fun _ => false }, [])

/-- `tickit_term_pause`. -/
def Term.pause (t : Term) : Term × Out := ({ t with tk := t.tk.map fun _ => false }, drvTeardown t.drv)

/-- Is `attr` skipped by the loop of `tickit_term_setpen` (`isSet`) / `tickit_term_chpen`? -/
def penSkips (isSet : Bool) (cur pen : PenMap) (a : Attr) : Bool :=
  (!isSet && (pen a).isNone) || ((cur a).isSome && cur.getD a == pen.getD a)

/-- The cached pen after the loop. -/
def penNext (isSet : Bool) (cur pen : PenMap) : PenMap :=
  fun a => if penSkips isSet cur pen a then cur a else some (pen.getD a)

/-- The `delta` pen after the loop. -/
def penDelta (isSet : Bool) (cur pen : PenMap) : PenMap :=
  fun a => if penSkips isSet cur pen a then none else some (pen.getD a)

/-- `tickit_term_setpen` (`isSet = true`) and `tickit_term_chpen`. -/
def Term.putpen (cfg : Cfg) (isSet : Bool) (t : Term) (pen : PenMap) : Term × Out :=
  let next := penNext isSet t.pen pen
  ({ t with pen := next }, drvChpen cfg t.drv (penDelta isSet t.pen pen) next)

/-- `tickit_term_resume`. -/
def Term.resume (cfg : Cfg) (t : Term) : Term × Out :=
  ({ t with tk := t.tk.map fun _ => true },
   drvResume t.drv ++ (if cfg.resumeResendsPen then drvChpen cfg t.drv t.pen t.pen else []))

/-- `tickit_term_input_push_bytes` with one reply: libtermkey is created (started) if need be; bytes
    pushed while it is stopped wait in its buffer. -/
def Term.reply (cfg : Cfg) (t : Term) (r : Reply) : Term :=
  if t.tk.getD true then
    { t with drv := (t.pending ++ [r]).foldl (applyReply cfg) t.drv, tk := some true, pending := [] }
  else { t with pending := t.pending ++ [r] }

/-- `tickit_term_await_started_msec(msec)`, `msec ≥ 0`, with a clock that advances by 1 ms every time it
    is looked at (the harness's): the state becomes STARTED; libtermkey is created on the way iff the loop
    reaches its wait, i.e. the driver has not seen all its replies and the budget is at least 1 ms. -/
def Term.await (t : Term) (msec : Int) : Term :=
  if t.state = .started then t
  else { t with state := .started,
                tk := if !drvStarted t.drv && decide (msec ≥ 1) then some (t.tk.getD true) else t.tk }

def Term.setctl (cfg : Cfg) (t : Term) (c : Option Ctl) (v : Int) : Term × Out × Bool :=
  let r := setctlInt cfg t.drv c v
  ({ t with drv := r.1 }, r.2.1, r.2.2)

/-! ## Part 3 — `tickit.c` -/

/-- `done_setup` and `use_altscreen` of `struct Tickit`. -/
structure Top where
  doneSetup : Bool := false
  useAlt    : Nat := 1
deriving DecidableEq, Repr

/-- `setupterm`: await (the state becomes STARTED whatever the replies), four controls, clear. -/
def setupterm (cfg : Cfg) (top : Top) (t : Term) : Top × Term × Out :=
  let t0 : Term := Term.await t ModeLayout.setup_await_msec
  let r1 := if top.useAlt ≠ 0 then Term.setctl cfg t0 (some .altscreen) 1 else (t0, [], true)
  let r2 := Term.setctl cfg r1.1 (some .cursorvis) 0
  let r3 := Term.setctl cfg r2.1 (some .mouse) 2
  let r4 := Term.setctl cfg r3.1 (some .keypadApp) 1
  ({ top with doneSetup := true }, r4.1, r1.2.1 ++ r2.2.1 ++ r3.2.1 ++ r4.2.1 ++ clearScreen)

/-! ## operations and histories -/

/-- One step of a history (what a program, or the terminal by replying, can do). -/
inductive Op
  | ctl (c : Option Ctl) (v : Int)
  | setstr (c : Option Ctl) (payload : List Nat)
  | setpen (p : PenMap)
  | chpen (p : PenMap)
  | print (bytes : List Nat)
  | clear
  | flush
  | replyMode (mode value : Int)
  | replyShape (value : Int)
  | replySgr (colon rgb : Bool)
  | await (msec : Int)
  | pause
  | resume
  | teardown
  | tick (nosetup : Bool)
  | usealt (v : Int)

/-- A terminal, possibly owned by a toplevel instance. -/
structure Sys where
  term : Term
  top  : Option Top

/-- Result of one operation. `ret = none`: the call returns nothing; `bad`: not applicable here. -/
structure StepRes where
  sys : Sys
  out : Out := []
  ret : Option Bool := none
  bad : Bool := false
  /-- the call ends with `tickit_term_flush` (after everything it writes) -/
  flush : Bool := false

def Sys.step (cfg : Cfg) (s : Sys) : Op → StepRes
  | .ctl c v =>
    let r := Term.setctl cfg s.term c v
    { sys := { s with term := r.1 }, out := r.2.1, ret := some r.2.2 }
  | .setstr c payload =>
    let r := setctlStr c payload
    { sys := s, out := r.1, ret := some r.2 }
  | .setpen p =>
    let r := Term.putpen cfg true s.term p
    { sys := { s with term := r.1 }, out := r.2 }
  | .chpen p =>
    let r := Term.putpen cfg false s.term p
    { sys := { s with term := r.1 }, out := r.2 }
  | .print bytes => { sys := s, out := bytes }
  | .clear => { sys := s, out := clearScreen }
  | .flush => { sys := s, flush := true }
  | .replyMode m v => { sys := { s with term := Term.reply cfg s.term (.mode m v) } }
  | .replyShape v => { sys := { s with term := Term.reply cfg s.term (.shape v) } }
  | .replySgr c r => { sys := { s with term := Term.reply cfg s.term (.sgr c r) } }
  | .await msec => { sys := { s with term := Term.await s.term msec } }
  | .pause =>
    let r := Term.pause s.term
    { sys := { s with term := r.1 }, out := r.2, flush := true }
  | .resume =>
    let r := Term.resume cfg s.term
    { sys := { s with term := r.1 }, out := r.2 }
  | .teardown =>
    let r := Term.teardown s.term
    { sys := { s with term := r.1 }, out := r.2, flush := true }
  | .tick nosetup =>
    match s.top with
    | none => { sys := s, bad := true }
    | some top =>
      if !top.doneSetup && !nosetup then
        let r := setupterm cfg top s.term
        { sys := { term := r.2.1, top := some r.1 }, out := r.2.2, flush := true }
      else { sys := s }
  | .usealt v =>
    match s.top with
    | none => { sys := s, bad := true }
    | some top =>
      { sys := { s with top := some { top with useAlt := wrapU ModeLayout.w_top_use_altscreen v } }, ret := some true }

/-- `tickit_term_unref` to zero / `tickit_unref` to zero: `tickit_destroy` tears the terminal down and
    drops it, `tickit_term_destroy` tears down again (a no-op for the driver by then). -/
def Sys.destroy (s : Sys) : Out :=
  let r := Term.teardown s.term
  r.2 ++ (Term.teardown r.1).2

/-- The owner drops its reference while `extra` other references to the terminal exist: `tickit_unref` of the
    toplevel instance (`tickit_destroy`: `tickit_term_teardown`, then `tickit_term_unref`), else
    `tickit_term_unref` of the terminal.  The terminal is destroyed only with its last reference.  Result: what
    is left (`none`: the terminal is gone) and the bytes written; every path that writes ends with a flush. -/
def Sys.dropOwner (s : Sys) (extra : Nat) : Option Sys × Out :=
  match s.top with
  | some _ =>
    let r := Term.teardown s.term
    if extra = 0 then (none, r.2 ++ (Term.teardown r.1).2) else (some { term := r.1, top := none }, r.2)
  | none => if extra = 0 then (none, s.destroy) else (some s, [])

/-! ### the terminal's output buffer (`write_str`, `tickit_term_flush`) -/

/-- `outbuffer_len` (`0`: no buffer, every write goes to the output function at once) and the bytes in
    `outbuffer[0 … outbuffer_cur)`. -/
structure OBuf where
  cap  : Nat := 0
  pend : Out := []
deriving DecidableEq, Repr

/-- `write_str` for all the bytes one call of the library writes: the buffer is handed to the output function
    every time it is full, so what goes out is the longest prefix that is a multiple of the buffer's length.
    Result: the buffer and the bytes delivered. -/
def OBuf.write (b : OBuf) (bytes : Out) : OBuf × Out :=
  if b.cap = 0 then ({ b with pend := [] }, b.pend ++ bytes)
  else
    let all := b.pend ++ bytes
    let k := all.length / b.cap * b.cap
    ({ b with pend := all.drop k }, all.take k)

/-- `tickit_term_flush`. -/
def OBuf.flush (b : OBuf) : OBuf × Out := ({ b with pend := [] }, b.pend)

/-- One call of the library on a buffered terminal: it writes `bytes` and, if `fl`, ends with a flush. -/
def OBuf.call (b : OBuf) (bytes : Out) (fl : Bool) : OBuf × Out :=
  let w := b.write bytes
  if fl then ((w.1.flush).1, w.2 ++ (w.1.flush).2) else w

def Sys.build (toplevel : Bool) : Sys × Out :=
  ({ term := Term.build.1, top := if toplevel then some {} else none }, Term.build.2)

/-- Run a history, concatenating the bytes. -/
def Sys.run (cfg : Cfg) : Sys → List Op → Sys × Out
  | s, [] => (s, [])
  | s, op :: rest =>
    let r := Sys.step cfg s op
    let q := Sys.run cfg r.sys rest
    (q.1, r.out ++ q.2)

/-! ## Part 4 — the VT as specification: tokenizer and mode-state interpreter -/

/-- One `;`-separated CSI parameter: its `:`-separated sub-parameters (`none` = empty). -/
abbrev PGroup := List (Option Nat)

def pv (o : Option Nat) : Nat := o.getD 0

def firstOf : PGroup → Nat
  | [] => 0
  | x :: _ => pv x

/-- The mode state of the terminal (DESIGN.md Appendix C). -/
structure VModes where
  altscreen     : Bool := false
  cursorVisible : Bool := true
  cursorBlink   : Bool := false
  cursorShape   : Nat := 0
  mouse         : Nat := 0       -- 0, 1000, 1002, 1003
  sgrMouse      : Bool := false
  keypadApp     : Bool := false
  declrmm       : Bool := false
deriving DecidableEq, Repr

/-- Rendering attributes, in the pen's value space: colours `-1` default, `0…255` palette index,
    `≥ 1000` an RGB triple; `under` the underline style; `altfont` the font number `0…9`;
    `sizepos` `0/2/3` normal/superscript/subscript; the others `0/1`. -/
abbrev Attrs := Attr → Int

def Attrs.default : Attrs := dflt

def Attrs.set (a : Attrs) (k : Attr) (v : Int) : Attrs := fun x => if x = k then v else a x

def rgbCode (r g b : Nat) : Int := 1000 + ((r * 256 + g) * 256 + b : Nat)

/-- A single (sub-parameter-free) SGR parameter. -/
def sgrSingle (n : Nat) (a : Attrs) : Attrs :=
  if n = 0 then Attrs.default
  else if n = 1 then a.set .bold 1
  else if n = 3 then a.set .italic 1
  else if n = 4 then a.set .under 1
  else if n = 5 then a.set .blink 1
  else if n = 7 then a.set .reverse 1
  else if n = 9 then a.set .strike 1
  else if 10 ≤ n ∧ n ≤ 19 then a.set .altfont (n - 10 : Nat)
  else if n = 21 then a.set .under 2
  else if n = 22 then a.set .bold 0
  else if n = 23 then a.set .italic 0
  else if n = 24 then a.set .under 0
  else if n = 25 then a.set .blink 0
  else if n = 27 then a.set .reverse 0
  else if n = 29 then a.set .strike 0
  else if 30 ≤ n ∧ n ≤ 37 then a.set .fg (n - 30 : Nat)
  else if n = 39 then a.set .fg (-1)
  else if 40 ≤ n ∧ n ≤ 47 then a.set .bg (n - 40 : Nat)
  else if n = 49 then a.set .bg (-1)
  else if n = 73 then a.set .sizepos 2
  else if n = 74 then a.set .sizepos 3
  else if n = 75 then a.set .sizepos 0
  else if 90 ≤ n ∧ n ≤ 97 then a.set .fg (n - 90 + 8 : Nat)
  else if 100 ≤ n ∧ n ≤ 107 then a.set .bg (n - 100 + 8 : Nat)
  else a

/-- The colour named by the sub-parameters after `38`/`48` (`5:n`, `2:r:g:b`, `2:cs:r:g:b`). -/
def colourOfSubs : List (Option Nat) → Option Int
  | [m, n] => if pv m = 5 then some (pv n : Nat) else none
  | [m, r, g, b] => if pv m = 2 then some (rgbCode (pv r) (pv g) (pv b)) else none
  | [m, _, r, g, b] => if pv m = 2 then some (rgbCode (pv r) (pv g) (pv b)) else none
  | _ => none

/-- SGR over a parameter list. `38`/`48` take their arguments either as sub-parameters (`:`) or from
    the following parameters (`;`); everything else is one parameter at a time. -/
def sgrRun : List PGroup → Attrs → Attrs
  | [], a => a
  | g :: rest, a =>
    match g with
    | [] => sgrRun rest a
    | [v] =>
      let n := pv v
      if n = 38 ∨ n = 48 then
        let tgt := if n = 38 then Attr.fg else Attr.bg
        match rest with
        | [m] :: [x] :: rest2 =>
          if pv m = 5 then sgrRun rest2 (a.set tgt (pv x : Nat))
          else if pv m = 2 then
            match rest2 with
            | [gg] :: [b] :: rest3 => sgrRun rest3 (a.set tgt (rgbCode (pv x) (pv gg) (pv b)))
            | _ => a
          else sgrRun rest2 a
        | _ => a
      else sgrRun rest (sgrSingle n a)
    | v :: subs =>
      let n := pv v
      if n = 38 ∨ n = 48 then
        match colourOfSubs subs with
        | some c => sgrRun rest (a.set (if n = 38 then Attr.fg else Attr.bg) c)
        | none => sgrRun rest a
      else if n = 4 then sgrRun rest (a.set .under (firstOf subs : Nat))
      else sgrRun rest a

/-- DECSET / DECRST of one private mode. -/
def decset (on : Bool) (n : Nat) (m : VModes) : VModes :=
  if n = 25 then { m with cursorVisible := on }
  else if n = 12 then { m with cursorBlink := on }
  else if n = 1049 then { m with altscreen := on }
  else if n = 1000 ∨ n = 1002 ∨ n = 1003 then { m with mouse := if on then n else 0 }
  else if n = 1006 then { m with sgrMouse := on }
  else if n = 69 then { m with declrmm := on }
  else m

/-- Parser state of the byte-level tokenizer (ECMA-48 / the DEC state machine, reduced). -/
inductive PState
  | ground
  | esc
  | escInterm
  /-- `priv`: the private marker (`?` = 63) or 0; finished groups; finished sub-parameters of the
      current group; the number being read; intermediates. -/
  | csi (priv : Nat) (groups : List PGroup) (grp : PGroup) (cur : Option Nat) (interm : List Nat)
  | csiIgnore
  | str
  | strEsc
deriving DecidableEq, Repr

structure VT where
  ps    : PState := .ground
  modes : VModes := {}
  attrs : Attrs := Attrs.default

/-- A complete control sequence. -/
def csiDispatch (vt : VT) (priv : Nat) (params : List PGroup) (interm : List Nat) (final : Nat) : VT :=
  if priv = 63 ∧ interm = [] ∧ (final = 104 ∨ final = 108) then
    { vt with ps := .ground, modes := params.foldl (fun m g => decset (final = 104) (firstOf g) m) vt.modes }
  else if priv = 0 ∧ interm = [] ∧ final = 109 then
    { vt with ps := .ground, attrs := sgrRun params vt.attrs }
  else if priv = 0 ∧ interm = [32] ∧ final = 113 then
    let n := match params with
      | g :: _ => firstOf g
      | [] => 0
    if n ≤ 6 then
      { vt with ps := .ground, modes := { vt.modes with cursorShape := n, cursorBlink := decide (n = 0 ∨ n % 2 = 1) } }
    else { vt with ps := .ground }
  else { vt with ps := .ground }

/-- The byte after `ESC`. -/
def escByte (vt : VT) (b : Nat) : VT :=
  if b = 91 then { vt with ps := .csi 0 [] [] none [] }
  else if b = 93 ∨ b = 80 ∨ b = 88 ∨ b = 94 ∨ b = 95 then { vt with ps := .str }
  else if b = 61 then { vt with ps := .ground, modes := { vt.modes with keypadApp := true } }
  else if b = 62 then { vt with ps := .ground, modes := { vt.modes with keypadApp := false } }
  else if b = 27 then { vt with ps := .esc }
  else if 32 ≤ b ∧ b ≤ 47 then { vt with ps := .escInterm }
  else { vt with ps := .ground }

def VT.step (vt : VT) (b : Nat) : VT :=
  match vt.ps with
  | .ground => if b = 27 then { vt with ps := .esc } else vt
  | .esc => escByte vt b
  | .escInterm =>
    if b = 27 then { vt with ps := .esc }
    else if 32 ≤ b ∧ b ≤ 47 then vt
    else { vt with ps := .ground }
  | .csi priv groups grp cur interm =>
    if 48 ≤ b ∧ b ≤ 57 then
      if interm = [] then { vt with ps := .csi priv groups grp (some (pv cur * 10 + (b - 48))) interm }
      else { vt with ps := .csiIgnore }
    else if b = 58 then
      if interm = [] then { vt with ps := .csi priv groups (grp ++ [cur]) none interm } else { vt with ps := .csiIgnore }
    else if b = 59 then
      if interm = [] then { vt with ps := .csi priv (groups ++ [grp ++ [cur]]) [] none interm } else { vt with ps := .csiIgnore }
    else if 60 ≤ b ∧ b ≤ 63 then
      if priv = 0 ∧ groups = [] ∧ grp = [] ∧ cur = none ∧ interm = [] then { vt with ps := .csi b [] [] none [] }
      else { vt with ps := .csiIgnore }
    else if 32 ≤ b ∧ b ≤ 47 then { vt with ps := .csi priv groups grp cur (interm ++ [b]) }
    else if 64 ≤ b ∧ b ≤ 126 then csiDispatch vt priv (groups ++ [grp ++ [cur]]) interm b
    else if b = 27 then { vt with ps := .esc }
    else if b = 24 ∨ b = 26 then { vt with ps := .ground }
    else vt
  | .csiIgnore =>
    if 64 ≤ b ∧ b ≤ 126 then { vt with ps := .ground }
    else if b = 27 then { vt with ps := .esc }
    else if b = 24 ∨ b = 26 then { vt with ps := .ground }
    else vt
  | .str =>
    if b = 27 then { vt with ps := .strEsc }
    else if b = 7 ∨ b = 24 ∨ b = 26 then { vt with ps := .ground }
    else vt
  | .strEsc => if b = 92 then { vt with ps := .ground } else escByte vt b

/-- The terminal interpreting a byte string. -/
def VT.feed (vt : VT) (bytes : List Nat) : VT := bytes.foldl VT.step vt

/-! ### the meaning of pen values on the terminal -/

/-- The terminal's value for pen attribute `a` holding `v`: the font number is `v` for `0…9` and the primary
    font otherwise; a colour is its palette index, or - on a terminal with 24-bit colours (`rgb8`) - its RGB8
    refinement when it has one; every other attribute is the identity. -/
def sem (rgb8 : Bool) (a : Attr) (v : Int) : Int :=
  match a with
  | .altfont => if v < 0 ∨ v ≥ 10 then 0 else v
  | .fg | .bg =>
    if colIndex v < 0 then -1
    else if rgb8 && hasRgb v then rgbCode (colR v).toNat (colG v).toNat (colB v).toNat
    else colIndex v
  | _ => v

/-- Values for which the xterm driver has an exact encoding (whether the encoding itself is right
    for every value is property C10, not C12): palette indexes with or without an RGB8 refinement, booleans,
    underline off/single, any font, size/position without the undocumented `SMALL`. -/
def inDomain (a : Attr) (v : Int) : Bool :=
  match a with
  | .fg | .bg => decide ((-1 ≤ v ∧ v ≤ 255) ∨ (1000 ≤ v ∧ v < 1000 + 257 * 16777216))
  | .under => decide (v = 0 ∨ v = 1)
  | .altfont => decide (-1 ≤ v ∧ v ≤ 10)
  | .sizepos => decide (v = 0 ∨ v = 2 ∨ v = 3)
  | _ => decide (v = 0 ∨ v = 1)

/-! ## Part 5 — the contract of the property and the ghost of what the program asked for -/

def textOnly (bs : List Nat) : Bool := bs.all fun b => decide (32 ≤ b ∧ b ≠ 127)

def penInDomain (p : PenMap) : Bool := Attr.all.all fun a => match p a with
  | some v => inDomain a v
  | none => true

/-- Arguments the documented API admits: mouse modes `0…3`, text without control bytes, pen values
    with an exact encoding. -/
def opOk : Op → Bool
  | .ctl (some .mouse) v => decide (0 ≤ v ∧ v ≤ 3)
  | .setstr _ p => textOnly p
  | .print p => textOnly p
  | .setpen p => penInDomain p
  | .chpen p => penInDomain p
  | _ => true

/-- The pen holds a colour whose rendering depends on the terminal's RGB8 capability (an RGB8 refinement
    of a non-default palette index). -/
def capSensitive (p : PenMap) : Bool :=
  [Attr.fg, Attr.bg].any fun a => match p a with
    | some v => hasRgb v && decide (0 ≤ colIndex v)
    | none => false

inductive Phase | running | paused | stopped
deriving DecidableEq, Repr

/-- The documented protocol: between pause and resume nothing but resume or teardown, after teardown
    nothing (but destruction). `none`: the history leaves the contract. -/
def phaseNext : Phase → Op → Option Phase
  | .running, .pause => some .paused
  | .running, .teardown => some .stopped
  | .running, .resume => none
  | .running, _ => some .running
  | .paused, .resume => some .running
  | .paused, .teardown => some .stopped
  | .paused, _ => none
  | .stopped, _ => none

/-- Phase after a history that stays inside the contract. -/
def validFrom : Phase → List Op → Option Phase
  | ph, [] => some ph
  | ph, op :: rest => if opOk op then (phaseNext ph op).bind (validFrom · rest) else none

/-- The protocol the property's quantifier spans ("control settings, pen changes, pause/resume cycles in any
    order"): operations may also come between pause and resume.  `pausedOps`: paused, and the program has
    called the library since (what it switched on then is on the terminal now; teardown or destruction
    has to switch it back, resume has to re-establish the logical modes and pen). -/
inductive PhaseW | running | paused | pausedOps | stopped
deriving DecidableEq, Repr

def PhaseW.ofPhase : Phase → PhaseW
  | .running => .running
  | .paused => .paused
  | .stopped => .stopped

/-- The wide protocol: between pause and resume anything but a second pause; after teardown nothing (but
    destruction); no resume without a pause. `none`: the history leaves the contract. -/
def phaseNextW : PhaseW → Op → Option PhaseW
  | .running, .pause => some .paused
  | .running, .teardown => some .stopped
  | .running, .resume => none
  | .running, _ => some .running
  | .stopped, _ => none
  | _, .resume => some .running
  | _, .teardown => some .stopped
  | _, .pause => none
  | _, _ => some .pausedOps

/-- Phase after a history that stays inside the wide contract. -/
def validFromW : PhaseW → List Op → Option PhaseW
  | ph, [] => some ph
  | ph, op :: rest => if opOk op then (phaseNextW ph op).bind (validFromW · rest) else none

/-- The pen the program has asked for: `setpen p` names every attribute, `chpen p` those present. -/
def logicalPen (isSet : Bool) (cur pen : PenMap) : PenMap :=
  fun a => if isSet then some (pen.getD a) else (match pen a with
    | some v => some v
    | none => cur a)

/-- What the program last set successfully (booleans as `0/1`), the pen it asked for. -/
structure Ghost where
  alt    : Int := 0
  vis    : Int := 1
  mouse  : Int := 0
  keypad : Int := 0
  blink  : Option Int := none
  shape  : Option Int := none
  rgb8   : Option Int := none
  pen    : PenMap := PenMap.empty
  doneSetup : Bool := false

def Ghost.set (g : Ghost) (c : Option Ctl) (v : Int) : Ghost :=
  match c with
  | some .altscreen => { g with alt := bool01 v }
  | some .cursorvis => { g with vis := bool01 v }
  | some .keypadApp => { g with keypad := bool01 v }
  | some .cursorblink => { g with blink := some (bool01 v) }
  | some .mouse => { g with mouse := v }
  | some .cursorshape => { g with shape := if 0 ≤ v ∧ v ≤ 3 then some v else none }
  | some .capRgb8 => { g with rgb8 := some (bool01 v) }
  | _ => g

/-- Ghost after one operation; `ret` is the call's return value, `ua` what the toplevel instance's
    `USE_ALTSCREEN` control read before the operation (`none`: there is no toplevel instance). -/
def Ghost.step (g : Ghost) (op : Op) (ret : Option Bool) (ua : Option Int) : Ghost :=
  match op with
  | .ctl c v => if ret = some true then g.set c v else g
  | .setpen p => { g with pen := logicalPen true g.pen p }
  | .chpen p => { g with pen := logicalPen false g.pen p }
  | .tick nosetup =>
    match ua with
    | none => g
    | some u =>
      if !g.doneSetup && !nosetup then
        { g with doneSetup := true, alt := if u ≠ 0 then 1 else g.alt, vis := 0, mouse := 2, keypad := 1 }
      else g
  | _ => g

/-- What the toplevel instance's `USE_ALTSCREEN` control reads. -/
def Sys.ua (s : Sys) : Option Int := s.top.map fun t => (t.useAlt : Int)

/-- The terminal shows the modes last set (while running). -/
def modesShown (m : VModes) (g : Ghost) : Bool :=
  m.altscreen == decide (g.alt ≠ 0) && m.cursorVisible == decide (g.vis ≠ 0) &&
  decide ((m.mouse : Int) = modeForMouse g.mouse) && m.sgrMouse == decide (g.mouse ≠ 0) &&
  m.keypadApp == decide (g.keypad ≠ 0)

/-- The terminal (with 24-bit colours iff `rgb8`) renders with the pen asked for (every attribute asked
    for, exact encodings). -/
def penShown (rgb8 : Bool) (a : Attrs) (pen : PenMap) : Bool :=
  Attr.all.all fun k => match pen k with
    | some v => !inDomain k v || a k == sem rgb8 k v
    | none => true

/-- Contract about the RGB8 capability: the operation does not change it (forcing it through the control, or a
    late SGR reply of the terminal) while the cached pen holds a colour that depends on it - such a colour keeps
    the form it was sent in until it is sent again. -/
def capKept (cfg : Cfg) (s : Sys) (op : Op) : Bool :=
  !capSensitive s.term.pen ||
    ((s.step cfg op).sys.term.drv.rgbOn == s.term.drv.rgbOn)

/-- The terminal is back in the mode state `m0` and in the default rendition. -/
def restoredOk (vt : VT) (m0 : VModes) : Bool :=
  vt.modes.altscreen == m0.altscreen && vt.modes.cursorVisible == m0.cursorVisible &&
  vt.modes.mouse == m0.mouse && vt.modes.sgrMouse == m0.sgrMouse && vt.modes.keypadApp == m0.keypadApp &&
  Attr.all.all fun k => vt.attrs k == dflt k

/-- Every control reads back what was last set. -/
def getctlOk (d : XDrv) (g : Ghost) : Bool :=
  getctlInt d (some .altscreen) == some g.alt && getctlInt d (some .cursorvis) == some g.vis &&
  getctlInt d (some .mouse) == some g.mouse && getctlInt d (some .keypadApp) == some g.keypad &&
  (g.blink.isNone || getctlInt d (some .cursorblink) == g.blink) &&
  (g.shape.isNone || getctlInt d (some .cursorshape) == g.shape) &&
  (g.rgb8.isNone || getctlInt d (some .capRgb8) == g.rgb8)

/-- The mode state a terminal is assumed to start in (the driver's own assumption): primary screen,
    cursor visible, no mouse reporting, numeric keypad; blink, shape and DECLRMM are free. -/
def VModes.standard (m : VModes) : Bool :=
  !m.altscreen && m.cursorVisible && m.mouse == 0 && !m.sgrMouse && !m.keypadApp

/-! ### the mode state at hand-over as a parameter of the history -/

/-- The mode state a terminal may be handed over in: primary screen, no mouse reporting, numeric keypad; the
    cursor may be visible or hidden (a program that hid it and then starts the library); blink, shape and
    DECLRMM are free. -/
def VModes.handover (m : VModes) : Bool :=
  !m.altscreen && m.mouse == 0 && !m.sgrMouse && !m.keypadApp

/-- Does the operation set cursor visibility through the control interface - directly, or through the toplevel
    instance's setup (a `tick` that may run `setupterm`)? -/
def touchesVis : Op → Bool
  | .ctl (some .cursorvis) _ => true
  | .tick nosetup => !nosetup
  | _ => false

/-- The replies the history feeds are those of a terminal handed over in mode state `m0`: the DECRPM reply to the
    start-up query `CSI ? 25 $ p` says "set" (1) for a visible cursor and "reset" (2) for a hidden one.  (The
    query is the first thing the library writes, so the reply describes the hand-over state whenever it is read.) -/
def replyConsistent (m0 : VModes) : Op → Bool
  | .replyMode m v => if m = 25 then (if m0.cursorVisible then decide (v = 1) else decide (v = 2)) else true
  | _ => true

/-- The contract about the hand-over state: consistent replies; and on a terminal handed over with its cursor
    hidden the program leaves cursor visibility alone (hidden is then not a mode "the library switched on": the
    driver's shadow records one bit per mode, assumed off at start, and has no record of what to go back to). -/
def handoverOk (m0 : VModes) (op : Op) : Bool :=
  replyConsistent m0 op && (m0.cursorVisible || !touchesVis op)

/-- The ghost at hand-over: the logical cursor visibility of a program that never sets it is the one the terminal
    was handed over with. -/
def Ghost.handover (m0 : VModes) : Ghost := { vis := if m0.cursorVisible then 1 else 0 }

end Tickit.Modes
