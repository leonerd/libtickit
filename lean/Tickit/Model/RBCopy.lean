import Tickit.Model.RB
import Tickit.Model.RectSet
/-
  Concrete model of `copyrect`, `tickit_renderbuffer_copyrect`, `tickit_renderbuffer_moverect` and
  `tickit_renderbuffer_blit` of /repo/src/renderbuffer.c, statement by statement, on top of the concrete
  render-buffer model `Model/RB.lean` (property C13).

  Three texts of the function are modelled, selected by a `Variant`:
  * `Variant.asFound`: the code as found.  In the loop body the `RBCell *cell` pointer aliases the
    destination when source and destination are the same buffer, and two things are read through it *after*
    the dispatch that may have overwritten the cell: `cell->state != SKIP` (decides whether `restore` is
    called) and `cell->cols` (the advance of `col`; after `cont_cell` the union member holds `startcol`).
    Also the length of the piece that is copied is the *whole* run's `cell->cols` even when the scan entered
    the run at `offset > 0` (rectangle edge inside the run).  A TEXT run is copied by cutting the bytes of the
    columns out of the string (`tickit_utf8_count`/`countmore`) and drawing them as a new text.
    (The as-found code also frees the string it is copying when the destination covers the run's start cell and
    the whole string is taken - reference counts are not modelled; the real run is under ASan.)
  * `Variant.captured`: with `fixes/C13_1_copyrect_run_state.patch`: `active = (cell->state != SKIP)` and
    `remaining = cell->cols - offset` are captured before the dispatch and used afterwards (and a reference to
    the string is held across the cheap whole-string copy).
  * `Variant.repaired`: additionally `fixes/C13_2_copyrect_text_by_reference.patch`: a TEXT run is copied as the
    same columns of the same string (`put_string_slice`), which is exact also when a rectangle edge falls inside
    a double-width character.
  All are executable; the driver runs the one that corresponds to the tree that is checked (the repaired one),
  the others carry the counterexample theorems of `Props/C13.lean`.

  Conventions as in `Model/RB.lean`: C `int` is `Int`; `abort()` is the sticky `aborted` flag; the column loop's
  trip count depends on data the loop itself rewrites, so it takes a fuel and running out is the sticky
  `fuelOut` flag.  No Mathlib: linked into the driver executable.
-/
namespace Tickit.RBCopy
open Tickit Tickit.RB

/-- Which text of `copyrect` (see above). -/
structure Variant where
  /-- `active` / `remaining` captured before the dispatch -/
  capture : Bool
  /-- TEXT runs copied by reference (`put_string_slice`) -/
  byRef : Bool
deriving DecidableEq, Repr

def Variant.asFound : Variant := ⟨false, false⟩
def Variant.captured : Variant := ⟨true, false⟩
def Variant.repaired : Variant := ⟨true, true⟩

/-- The `if(cell->state == CONT) { … }` block at the top of the loop body: where the run's start cell is, the
    (possibly moved) `col`, and `offset`. -/
structure Look where
  /-- column of `cell` (the start cell of the run) after the block -/
  hcol : Int
  /-- `col` after the block (moved only when iterating leftwards) -/
  col : Int
  offset : Int
deriving DecidableEq, Repr

def look (S : RB) (sr : Rect) (leftwards : Bool) (line col : Int) : Look :=
  let c := S.cell line col
  if c.state = .cont then
    let startcol := c.cols
    let col1 := if leftwards then (if startcol < sr.left then sr.left else startcol) else col
    { hcol := startcol, col := col1, offset := col1 - startcol }
  else { hcol := col, col := col, offset := 0 }

/-- `start`/`end` of the TEXT arm as found: the byte range of the columns `[offs + offset, offs + offset + cols)`. -/
def sliceStart (cell : Cell) (offset : Int) : Utf8.StrPos :=
  (Utf8.ncountmore cell.text none {} (some (Utf8.limitColumns (cell.offs + offset)))).pos

def sliceEnd (cell : Cell) (offset cols : Int) : Utf8.StrPos :=
  (Utf8.ncountmore cell.text none (sliceStart cell offset) (some (Utf8.limitColumns (cell.offs + offset + cols)))).pos

/-- The bytes handed to `put_text` / the whole string handed to `put_string` (as found). -/
def sliceBytes (cell : Cell) (offset cols : Int) : List UInt8 :=
  let start := sliceStart cell offset
  let end_ := sliceEnd cell offset cols
  if start.bytes > 0 ∨ end_.bytes < cell.text.length then
    (cell.text.drop start.bytes.toNat).take (end_.bytes - start.bytes).toNat
  else cell.text

/-- `put_string_slice(rb, line, col, s, offs, cols)` (repaired text): the columns `[offs, offs + cols)` of `s` at
    `(line, col)`.  `put_string` is `put_string_slice` with `offs = 0` and the columns of the whole string. -/
def putStringSlice (rb : RB) (line col : Int) (s : List UInt8) (offs cols : Int) : RB :=
  match xlateAndClip rb line col cols with
  | none => rb
  | some r => placeRuns (fillText rb.pen s) r.line (r.cols.toNat + 1) rb r.col r.cols (r.startcol + offs)

/-- The `switch(cell->state)` of the loop body, drawing into `d` at `(line, col)` (already offset). -/
def dispatch (byRef copySkip : Bool) (cell : Cell) (offset cols : Int) (d : RB) (line col : Int) : RB :=
  match cell.state with
  | .skip => if copySkip then skipRun d line col cols else d
  | .text =>
    if byRef then putStringSlice d line col cell.text (cell.offs + offset) cols
    else putString d line col (sliceBytes cell offset cols)
  | .erase => eraseRun d line col cols
  | .line => linecell d line col cell.lmask
  | .char => putChar d line col cell.cp
  | .cont => { d with aborted := true }

/-- Result of one execution of the loop body: the destination buffer and the new `col`. -/
structure BodyRes where
  rb : RB
  col : Int

/-- `if(cell->state != SKIP) { savepen; setpen(cell->pen); }` followed by the `switch`. -/
def drawPiece (byRef copySkip : Bool) (cell : Cell) (offset cols : Int) (dst : RB) (line col : Int) : RB :=
  dispatch byRef copySkip cell offset cols
    (if cell.state ≠ .skip then setpen (savepen dst) (some cell.pen) else dst) line col

/-- The repaired body's effect on the buffer: draw the piece and pop the pen iff one was saved. -/
def copyPiece (byRef copySkip : Bool) (cell : Cell) (offset cols : Int) (dst : RB) (line col : Int) : RB :=
  if cell.state ≠ .skip then restore (drawPiece byRef copySkip cell offset cols dst line col)
  else drawPiece byRef copySkip cell offset cols dst line col

/-- The length of the run from `col` on: `cell->cols` (as found) / `cell->cols - offset` (repaired). -/
def pieceRun (capture : Bool) (cell : Cell) (lk : Look) : Int :=
  if capture then cell.cols - lk.offset else cell.cols

/-- `cols`: the run length cut at the rectangle's right edge. -/
def pieceCols (sr : Rect) (lk : Look) (run : Int) : Int :=
  if lk.col + run > sr.right then sr.right - lk.col else run

/-- One execution of the body of the column loop.  `same`: `dst == src` (then `src` is ignored and every read
    of the source goes to the live destination). -/
def body (v : Variant) (same copySkip : Bool) (src : RB) (sr : Rect) (lineoffs coloffs : Int) (leftwards : Bool)
    (line : Int) (dst : RB) (col : Int) : BodyRes :=
  let S := if same then dst else src
  let lk := look S sr leftwards line col
  let cell := S.cell line lk.hcol
  let run := pieceRun v.capture cell lk
  let cols := pieceCols sr lk run
  if v.capture then
    -- repaired: `active` and `remaining` were captured before the dispatch
    { rb := copyPiece v.byRef copySkip cell lk.offset cols dst (line + lineoffs) (lk.col + coloffs)
      col := if leftwards then lk.col - 1 else lk.col + run }
  else
    let d2 := drawPiece v.byRef copySkip cell lk.offset cols dst (line + lineoffs) (lk.col + coloffs)
    -- as found: `if(cell->state != SKIP) restore` and `col += cell->cols` read the cell again
    let cellAfter := if same then d2.cell line lk.hcol else cell
    let d3 := if cellAfter.state ≠ .skip then restore d2 else d2
    let cellEnd := if same then d3.cell line lk.hcol else cell
    { rb := d3, col := if leftwards then lk.col - 1 else lk.col + cellEnd.cols }

/-- The condition of the column loop: `leftwards ? col >= srcrect->left : col < right`. -/
def more (leftwards : Bool) (sr : Rect) (col : Int) : Bool :=
  if leftwards then decide (col ≥ sr.left) else decide (col < sr.right)

/-- The column loop of one line. -/
def colLoop (v : Variant) (same copySkip : Bool) (src : RB) (sr : Rect) (lineoffs coloffs : Int) (leftwards : Bool)
    (line : Int) : Nat → RB → Int → RB
  | 0, dst, col => if more leftwards sr col then { dst with fuelOut := true } else dst
  | fuel + 1, dst, col =>
    if more leftwards sr col then
      colLoop v same copySkip src sr lineoffs coloffs leftwards line fuel
        (body v same copySkip src sr lineoffs coloffs leftwards line dst col).rb
        (body v same copySkip src sr lineoffs coloffs leftwards line dst col).col
    else dst

/-- Fuel of the column loop: with the repaired text every iteration advances by at least one column; the text
    as found can stall (an overwritten cell holds `startcol = 0`), hence the slack. -/
def colFuel (sr : Rect) : Nat := 4 * sr.cols.toNat + 16

/-- The line loop: `n` iterations from `line`, stepping by `step` (−1 when iterating upwards). -/
def lineLoop (f : RB → Int → RB) (step : Int) : Nat → RB → Int → RB
  | 0, rb, _ => rb
  | n + 1, rb, line => lineLoop f step n (f rb line) (line + step)

/-- `copyrect(dst, src, dstrect, srcrect, copy_skip)`; `same` is `dst == src`. -/
def copyrect (v : Variant) (same copySkip : Bool) (dst src : RB) (dr sr : Rect) : RB :=
  if sr.lines = 0 ∨ sr.cols = 0 then dst
  else
    let lineoffs := dr.top - sr.top
    let coloffs := dr.left - sr.left
    if same ∧ lineoffs = 0 ∧ coloffs = 0 then dst
    else
      let upwards : Bool := same && decide (lineoffs > 0)
      let leftwards : Bool := same && decide (lineoffs = 0) && decide (coloffs > 0)
      lineLoop
        (fun d line => colLoop v same copySkip src sr lineoffs coloffs leftwards line (colFuel sr) d
                         (if leftwards then sr.right - 1 else sr.left))
        (if upwards then -1 else 1) sr.lines.toNat dst (if upwards then sr.bottom - 1 else sr.top)

/-- `tickit_renderbuffer_copyrect(rb, dest, src)`. -/
def copy (v : Variant) (rb : RB) (dr sr : Rect) : RB := copyrect v true true rb rb dr sr

/-- `tickit_renderbuffer_blit(dst, src)`; `same` is `dst == src` (then nothing happens). -/
def blit (v : Variant) (same : Bool) (dst src : RB) : RB :=
  let S := if same then dst else src
  copyrect v same false dst src ⟨0, 0, S.lines, S.cols⟩ ⟨0, 0, S.lines, S.cols⟩

/-- Fuel for the two rectangle-set calls of `moverect` (a set of at most five rectangles). -/
def moveFuel : Nat := 64

/-- `cleararea` of `tickit_renderbuffer_moverect`: `{src} − {dest.top, dest.left, src.lines, src.cols}` as the
    rectangle set computes it; `none` = the rectangle-set model ran out of fuel. -/
def clearArea (dr sr : Rect) : Option (List Rect) :=
  match RectSet.add moveFuel [] sr with
  | none => none
  | some s => RectSet.subtract moveFuel s ⟨dr.top, dr.left, sr.lines, sr.cols⟩

/-- `tickit_renderbuffer_moverect(rb, dest, src)`. -/
def move (v : Variant) (rb : RB) (dr sr : Rect) : RB :=
  let rb1 := copy v rb dr sr
  match clearArea dr sr with
  | none => { rb1 with fuelOut := true }
  | some rects => rects.foldl skiprect rb1

end Tickit.RBCopy

/-! ## Specification vocabulary (C13): what a cell shows, and what copy / move / blit must leave behind

  Executable (the driver evaluates it on the implementation's dumps) and the right-hand side of the theorems of
  `Props/C13.lean`.  Nothing here knows about runs, CONT cells, iteration order or the saved-state stack. -/

namespace Tickit.RBCopy
open Tickit Tickit.RB

/-- What one cell shows.  `text pen s k`: column `k` of the string `s`. -/
inductive Content
  | skip
  | text (pen : Pen) (s : List UInt8) (k : Int)
  | erase (pen : Pen)
  | line (pen : Pen) (mask : Nat)
  | char (pen : Pen) (cp : Int)
deriving DecidableEq, Repr, Inhabited

/-- The content shown at `(L, C)` of a concrete buffer: look up the start of the run, as `get_span` does
    (without clip and translation).  Outside the buffer: `skip`. -/
def absContent (rb : RB) (L C : Int) : Content :=
  if 0 ≤ L ∧ L < rb.lines ∧ 0 ≤ C ∧ C < rb.cols then
    let c := rb.cell L C
    let start := if c.state = .cont then rb.cell L c.cols else c
    let off := if c.state = .cont then C - c.cols else 0
    match start.state with
    | .skip => .skip
    | .text => .text start.pen start.text (start.offs + off)
    | .erase => .erase start.pen
    | .line => .line start.pen start.lmask
    | .char => .char start.pen start.cp
    | .cont => .skip
  else .skip

/-- Is the buffer cell `(L, C)` under a mask? -/
def absMasked (rb : RB) (L C : Int) : Bool := decide ((rb.cell L C).maskdepth > -1)

/-- Is the buffer cell `(L, C)` inside the clipping region (`xlate_and_clip` for one column)? -/
def absClip (rb : RB) (L C : Int) : Bool := decide (rb.clip.lines ≠ 0) && rb.clip.memb L C

/-- May a drawing operation change the buffer cell `(L, C)`: inside the buffer and the clip, not masked. -/
def writable (rb : RB) (L C : Int) : Bool :=
  decide (0 ≤ L ∧ L < rb.lines ∧ 0 ≤ C ∧ C < rb.cols) && absClip rb L C && !absMasked rb L C

/-- What a text cell shows: the bytes of the grapheme that covers column `k` of `s` (the library's own
    counting, as `get_cell_text` does it) and which of its columns this is (0, or 1 for the right half of a
    double-width character).  Two text cells show the same thing iff pen and glyph agree; the string a cell
    refers to and the offset into it are representation (a copy stores a slice of the string). -/
structure Glyph where
  bytes : List UInt8
  half : Int
deriving DecidableEq, Repr

def glyphAt (s : List UInt8) (k : Int) : Glyph :=
  let start := (Utf8.ncountmore s none {} (some (Utf8.limitColumns k))).pos
  let end_ := (Utf8.ncountmore s none start (some (Utf8.limitGraphemes (start.graphemes + 1)))).pos
  { bytes := (s.drop start.bytes.toNat).take (end_.bytes - start.bytes).toNat, half := k - start.columns }

/-- Two contents show the same thing. -/
def Content.same : Content → Content → Bool
  | .text p s k, .text p' s' k' => decide (p = p') && decide (glyphAt s k = glyphAt s' k')
  | a, b => decide (a = b)

/-- Attribute-wise: the first pen's value, else the second's. -/
def orElse {α : Type} (a b : Option α) : Option α :=
  match a with
  | some v => some v
  | none => b

/-- The pen of a copied cell: the attributes the source cell's pen lacks are completed from the buffer's
    current pen. -/
def completePen (p cur : Pen) : Pen :=
  { fg := orElse p.fg cur.fg, bg := orElse p.bg cur.bg, bold := orElse p.bold cur.bold, under := orElse p.under cur.under,
    italic := orElse p.italic cur.italic, reverse := orElse p.reverse cur.reverse, strike := orElse p.strike cur.strike,
    altfont := orElse p.altfont cur.altfont, blink := orElse p.blink cur.blink, sizepos := orElse p.sizepos cur.sizepos }

/-- What a pen makes a cell look like: the value every getter of src/pen.c returns - colour index and RGB8 value (if
    the pen has one) of foreground and background, the flags and numbers with absent = default.  Two pens with the
    same look render alike; a pen *with* an RGB8 value on a colour never looks like one without, whatever the value. -/
structure PenLook where
  fg : Int
  fgRgb : Option RGB
  bg : Int
  bgRgb : Option RGB
  bold : Bool
  under : Int
  italic : Bool
  reverse : Bool
  strike : Bool
  altfont : Int
  blink : Bool
  sizepos : Int
deriving DecidableEq, Repr

def penLook (p : Pen) : PenLook :=
  { fg := Pen.getColour p.fg, fgRgb := Pen.getRgb p.fg, bg := Pen.getColour p.bg, bgRgb := Pen.getRgb p.bg
    bold := Pen.getBool p.bold, under := Pen.getInt p.under, italic := Pen.getBool p.italic
    reverse := Pen.getBool p.reverse, strike := Pen.getBool p.strike, altfont := Pen.getInt p.altfont
    blink := Pen.getBool p.blink, sizepos := Pen.getInt p.sizepos }

/-- Line segments merge into a line cell already there (the pen is replaced unless already equivalent). -/
def mergeLine (pen : Pen) (bits : Nat) (old : Content) : Content :=
  match old with
  | .line p m => .line (if Pen.equiv p pen then p else pen) (m ||| bits)
  | _ => .line pen bits

/-- What a destination cell that held `old` shows after receiving the (non-skip) source content `src` while the
    buffer's current pen is `cur`. -/
def transfer (cur : Pen) (src old : Content) : Content :=
  match src with
  | .skip => .skip
  | .text p s k => .text (completePen p cur) s k
  | .erase p => .erase (completePen p cur)
  | .line p m => mergeLine (completePen p cur) m old
  | .char p cp => .char (completePen p cur) cp

/-- The cell-wise specification of `copyrect(dst, src, dstrect, srcrect, copy_skip)`: the content of the
    destination buffer's cell `(L, C)` afterwards, from the two buffers *before* the call.  `lo`, `co` is the
    displacement `dstrect − srcrect` (plus the destination's translation, for `blit`). -/
def copyExpect (copySkip : Bool) (dst src : RB) (sr : Rect) (lo co : Int) (L C : Int) : Content :=
  if sr.memb (L - lo) (C - co) && writable dst L C then
    match absContent src (L - lo) (C - co) with
    | .skip => if copySkip then .skip else absContent dst L C
    | c => transfer dst.pen c (absContent dst L C)
  else absContent dst L C

/-- The cell-wise specification of `tickit_renderbuffer_copyrect` (within one buffer).  A copy onto itself
    (no displacement) is the identity: there is no "source before" and "destination after" to tell apart, and
    the library does nothing. -/
def selfCopyExpect (rb : RB) (dr sr : Rect) (L C : Int) : Content :=
  if dr.top = sr.top ∧ dr.left = sr.left then absContent rb L C
  else copyExpect true rb rb sr (dr.top - sr.top) (dr.left - sr.left) L C

/-- The cell-wise specification of `moverect`: as the copy, and the vacated cells are skipped. -/
def moveExpect (rb : RB) (dr sr : Rect) (L C : Int) : Content :=
  if sr.memb L C && !(Rect.memb ⟨dr.top, dr.left, sr.lines, sr.cols⟩ L C) && writable rb L C then .skip
  else selfCopyExpect rb dr sr L C

/-- The cell-wise specification of `blit`: exactly the source's non-skipped cells are overlaid (at the
    destination's translation). -/
def blitExpect (dst src : RB) (L C : Int) : Content :=
  copyExpect false dst src ⟨0, 0, src.lines, src.cols⟩ dst.xlLine dst.xlCol L C

end Tickit.RBCopy
