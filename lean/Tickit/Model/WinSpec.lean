import Tickit.Model.WinTree
import Tickit.Model.WinRB
/-
  Specification vocabulary of C01 / C02: the painter's-model composition of a window tree.

  `ownerLoc` is `WinTree.ownerIn` returning, with the owning window, the cell's position in that window's own
  coordinates (`ownerIn_eq_loc`, `owner_eq_at` in `Proof/WinOwner.lean`: the window is the one `WinTree.owner` names).
  `compose tree content` is what the property says every terminal cell shows after a flush.
-/
namespace Tickit
namespace WinSpec
open WinTree WinRB

/-- The front-most visible window of `id`'s subtree covering `(l, c)` (given in the coordinates of `id`'s parent),
    and the cell in that window's coordinates. -/
def ownerLoc (t : Tree) : Nat → Id → Int → Int → Option (Id × Int × Int)
  | 0, _, _, _ => none
  | fuel + 1, id, l, c =>
    match t.wins[id]? with
    | none => none
    | some w =>
      if !w.isVisible || w.freed then none
      else if !(w.rect.memb l c) then none
      else
        match w.children.findSome? (fun ch => ownerLoc t fuel ch (l - w.rect.top) (c - w.rect.left)) with
        | some o => some o
        | none => some (id, l - w.rect.top, c - w.rect.left)

/-- The owner of the cell `(l, c)` of window `id` (in `id`'s own coordinates) within `id`'s subtree: the first child
    (front-most first) that owns it, else `id` itself.  (`ownerLoc t fuel id` is `ownerSub t fuel id` where `id` is
    visible and covers the cell: `Proof/WinExpose.lean`.) -/
def ownerSub (t : Tree) : Nat → Id → Int → Int → Id × Int × Int
  | 0, id, l, c => (id, l, c)
  | fuel + 1, id, l, c =>
    match t.wins[id]? with
    | none => (id, l, c)
    | some w =>
      match w.children.findSome? (fun ch => ownerLoc t fuel ch l c) with
      | some o => o
      | none => (id, l, c)

/-- Owner of terminal cell `(l, c)` with the local position (root = window 0). -/
def ownerAt (t : Tree) (l c : Int) : Option (Id × Int × Int) := ownerLoc t (t.wins.size + 1) 0 l c

/-- What the painter's model shows at terminal cell `(l, c)`: the content of the owning window at the cell's
    position in that window; `none` where no visible window covers the cell. -/
def compose (t : Tree) (content : Id → Int → Int → Cell) (l c : Int) : Option Cell :=
  match ownerAt t l c with
  | some (w, l', c') => some (content w l' c')
  | none => none

/-- The proviso of C01 on expose handlers: asked for `rect`, window `w`'s program leaves `content w` in every cell of
    `rect` the buffer lets it touch, whatever the buffer's translation, clip, masks and pen are (positions relative to
    the translation, i.e. to the window's top-left corner). -/
def Repaints (content : Id → Int → Int → Cell) (beh : Id → Rect → List DrawOp) : Prop :=
  ∀ (w : Id) (rect : Rect) (rb : RB) (L C : Int), rb.writable L C = true → rect.memb (L - rb.xl) (C - rb.xc) = true →
    (rb.run (beh w rect)).cells L C = some (.plain (content w (L - rb.xl) (C - rb.xc)))

/-! ### pen inheritance

  `_do_expose` merges the window pens down the tree: `tickit_renderbuffer_save` in the parent's loop pushes the parent's
  merged pen, `if(win->pen) tickit_renderbuffer_setpen(rb, win->pen)` lays the window's pen over the pen saved in that
  frame.  A handler may rely on the pen it finds (e.g. only erase, expecting the background of an ancestor's pen). -/

/-- `tickit_renderbuffer_setpen(rb, p)` as a function of the pen `base` saved in the top frame (`RB.setpen`); a window
    without a pen (`none`: `win->pen == NULL`) leaves the buffer's pen alone. -/
def penOver (p : Option Pen) (base : Pen) : Pen :=
  match p with
  | some p => Pen.copy (Pen.copy {} p true) base false
  | none => base

/-- The pen the render buffer carries when `_do_expose` reaches window `w` during a flush: the window's pen over the
    merged pen of its parent, the root's over the fresh buffer's empty pen (`pens[w]`: `win->pen`, `none` = `NULL`;
    `fuel` bounds the walk up the parent chain). -/
def mergedPen (t : Tree) (pens : Array (Option Pen)) : Nat → Id → Pen
  | 0, _ => {}
  | fuel + 1, w =>
    penOver (pens[w]?).join
      (match t.wins[w]? with
       | some ww => (match ww.parent with
         | some p => mergedPen t pens fuel p
         | none => {})
       | none => {})

/-- The pen-aware proviso of C01: as `Repaints`, but window `w`'s program is only asked to repaint when the buffer
    carries the pen `_do_expose` hands it in tree `t` — the handler may rely on the inherited pen. -/
def RepaintsP (t : Tree) (pens : Array (Option Pen)) (content : Id → Int → Int → Cell) (beh : Id → Rect → List DrawOp) : Prop :=
  ∀ (w : Id) (rect : Rect) (rb : RB) (L C : Int), rb.pen = mergedPen t pens (t.wins.size + 1) w →
    rb.writable L C = true → rect.memb (L - rb.xl) (C - rb.xc) = true →
    (rb.run (beh w rect)).cells L C = some (.plain (content w (L - rb.xl) (C - rb.xc)))

/-- A handler that repaints whatever pen it finds does so in particular with the inherited one. -/
theorem repaintsP_of_repaints {content : Id → Int → Int → Cell} {beh : Id → Rect → List DrawOp} (h : Repaints content beh)
    (t : Tree) (pens : Array (Option Pen)) : RepaintsP t pens content beh :=
  fun w rect rb L C _ hw hm => h w rect rb L C hw hm

end WinSpec
end Tickit
