/-
  Model of the toplevel event loop: /repo/src/tickit.c (watch lists, timers, laters, io, signal and
  process watches, cancel, destroy) and /repo/src/evloop-default.c (one loop iteration, poll slots,
  signal bookkeeping), statement by statement, together with the environment the correspondence
  harness (harness/evloop.c) puts it in: a virtual clock, scripted descriptor readiness, virtual child
  processes, and the kernel's signal state (blocked / handled / pending).

  Representation.  Watches live in a heap `List Watch` indexed by allocation number and carry a
  `freed` mark.  A C linked list `head, ->next, ->next …` is the Lean list of the addresses it links;
  *reading a field of a freed node is undefined behaviour* and yields the outcome `Status.ub why`.
  This is what lets the model reproduce the stale `t->timers` head while timer callbacks run: the
  list still contains the freed prefix, and a walk that touches it is `ub`.

  Callbacks are data (`Beh`): the `n`-th FIRE invocation of the callback of watch slot `k` runs a
  list of actions.  Unbind and destroy notifications are passive (they are logged, they do not act).

  The variants of the source text that the repairs introduced (all of them have landed in /repo) are a `Config`; the driver
  takes it from `Gen/EvLoop.lean`, which is regenerated from the C source on every run.

  Core Lean only; everything is structurally recursive (loops whose length depends on what callbacks
  register take `fuel`) so that `decide +kernel` can evaluate concrete histories.
-/
namespace Tickit.EvLoop

/-! ### constants (include/tickit.h, <poll.h>, <errno.h>, <signal.h>) -/

def BIND_FIRST : Nat := 1
def BIND_UNBIND : Nat := 2
def BIND_DESTROY : Nat := 4
def EV_FIRE : Nat := 1
def EV_UNBIND : Nat := 2
def EV_DESTROY : Nat := 4
def IO_IN : Nat := 1
def IO_OUT : Nat := 2
def IO_HUP : Nat := 4
def IO_ERR : Nat := 8
def IO_INVAL : Nat := 16
def POLLIN : Nat := 1
def POLLOUT : Nat := 4
def POLLERR : Nat := 8
def POLLHUP : Nat := 16
def POLLNVAL : Nat := 32
def EINTR : Int := 4
def ECHILD : Int := 10
def SIGCHLD : Int := 17
def SIGWINCH : Int := 28
/-- `NSIG` (glibc: 65). -/
def NSIG : Nat := 65

/-- The harness's virtual descriptors and children. -/
def FD0 : Int := 100
def NFD : Int := 8
def PID0 : Int := 1000000000
def NPID : Int := 8
def MAXW : Int := 96
/-- Signals the harness raises and reports. -/
def SIGS : List Int := [1, 10, 12, 17, 23, 28]
/-- Default action "terminate" (SIGHUP, SIGUSR1, SIGUSR2) as opposed to "ignore" (SIGCHLD, SIGURG, SIGWINCH). -/
def sigTerminates (s : Int) : Bool := s == 1 || s == 10 || s == 12

/-- AddressSanitizer fills fresh `malloc`/`realloc` memory with this byte (`malloc_fill_byte`).  It is
    what an *uninitialised read* observes in the harness build; the model needs it only where the
    C code reads memory it never wrote (`pollfds[idx].revents` of a new slot, `pending_signals`). -/
def fillByte : Nat := 0xbe
/-- An uninitialised `short revents`. -/
def fillRevents : Nat := fillByte * 256 + fillByte
/-- Is signal `s` a member of an uninitialised `sigset_t`?  (bit `(s-1) % 8` of byte `(s-1) / 8`). -/
def fillSigMember (s : Int) : Bool := (fillByte >>> ((s - 1) % 8).toNat) % 2 == 1

/-! ### `struct timeval` -/

structure TV where
  sec : Int
  usec : Int
deriving DecidableEq, Repr, Inhabited

/-- `timercmp(a, b, >)`. -/
def TV.gt (a b : TV) : Bool := a.sec > b.sec || (a.sec == b.sec && a.usec > b.usec)

/-- `timeradd`. -/
def TV.add (a b : TV) : TV :=
  if a.usec + b.usec ≥ 1000000 then ⟨a.sec + b.sec + 1, a.usec + b.usec - 1000000⟩
  else ⟨a.sec + b.sec, a.usec + b.usec⟩

/-- `timersub`. -/
def TV.sub (a b : TV) : TV :=
  if a.usec - b.usec < 0 then ⟨a.sec - b.sec - 1, a.usec - b.usec + 1000000⟩
  else ⟨a.sec - b.sec, a.usec - b.usec⟩

/-- The harness's `gettimeofday`: the virtual clock in microseconds. -/
def TV.ofUs (us : Int) : TV := ⟨us / 1000000, us % 1000000⟩

/-! ### watches -/

inductive WType | none | io | timer | later | signal | process
deriving DecidableEq, Repr, Inhabited

/-- `struct TickitWatch` (src/tickit.c 23–65).  `slot ≥ 0`: the harness's callback for watch slot
    `slot`.  Internal callbacks: `-1` on_term_readable, `-2` on_sigwinch, `-3` on_sigchld,
    `-4` process_notify (its `user` is the process watch `puser`). -/
structure Watch where
  freed : Bool := false
  type : WType := .none
  flags : Nat := 0
  slot : Int := 0
  evi : Nat := 0
  fd : Int := 0
  cond : Nat := 0
  due : TV := ⟨0, 0⟩
  signum : Int := 0
  pid : Int := 0
  wstatus : Int := 0
  puser : Nat := 0
  /-- `process.notify` (repaired `tickit_watch_process`): the deferred callback that will deliver a pre-exited child -/
  notify : Option Nat := none
deriving DecidableEq, Repr, Inhabited

/-- Why a history left defined behaviour (which read touched freed memory). -/
inductive Ub
  | timerInsertWalk     -- tickit_watch_timer_at_tv: `(*prevp)->timer.at` of a freed node
  | insertWalk          -- insert_watch: `(*watchesptr)->next` of a freed node
  | cancelType          -- tickit_watch_cancel: `watch->type` of a freed watch
  | cancelWalk          -- tickit_watch_cancel: walk reads a freed node
  | timerLoopThis       -- tickit_evloop_invoke_timers: `this->timer.at` / `this->next` of a freed timer
  | laterLoopThis       -- tickit_evloop_invoke_timers: `later->fn` / `later->next` of a freed later
  | invokeWatchType     -- invoke_watch: `watch->type` after the callback freed the watch
  | invokeWatchWalk     -- invoke_watch: walk of the one-shot list reads a freed node
  | sigLoopThis         -- tickit_evloop_invoke_sigwatches: `this->signal.signum` / `this->next` of a freed watch
  | procLoopThis        -- on_sigchld: `this->next` / `this->process.pid` of a freed watch
  | destroyWalk         -- destroy_watchlist reads a freed node
  | nextTimerHead       -- tickit_evloop_next_timer_msec: `t->timers->timer.at` of a freed timer
  | doubleFree
deriving DecidableEq, Repr, Inhabited

inductive Status
  | ok
  | ub (why : Ub)
  | killed (sig : Int)     -- a signal with default action "terminate" reached the process
  | outOfFuel
deriving DecidableEq, Repr, Inhabited

inductive Info
  | none
  | io (fd : Int) (cond : Nat)
  | proc (pid : Int) (wstatus : Int)
deriving DecidableEq, Repr, Inhabited

/-- What the harness logs. -/
inductive Ev
  | g                                                   -- gettimeofday
  | poll (timeout : Option Int) (slots : List (Int × Nat)) (ret : Option Nat)   -- `ret = none`: -1/EINTR
  | cb (slot : Int) (flags : Nat) (info : Info)
  | skip (k : Int)
  | dup (k : Int)
  | a                                                   -- a callback starts its next action
  | hstop                                               -- the harness calls `tickit_stop` from inside the wait of a `run`
deriving DecidableEq, Repr, Inhabited

/-- Actions of a callback (and the top-level operations that do the same thing). -/
inductive Act
  | timer (k ms : Int) (flags : Nat)                    -- tickit_watch_timer_after_msec
  | timerAt (k sec usec : Int) (flags : Nat)            -- tickit_watch_timer_at_tv
  | later (k : Int) (flags : Nat)
  | io (k fd : Int) (cond flags : Nat)
  | signal (k sig : Int) (flags : Nat)
  | process (k pid : Int) (flags : Nat)
  | cancel (k : Int)
  | errno (v : Int)
  | raise (sig : Int)
  | exit (pid status : Int)
  | stop                                                -- tickit_stop
  | nop
deriving DecidableEq, Repr, Inhabited

structure Beh where
  k : Int
  n : Nat
  acts : List Act
deriving DecidableEq, Repr, Inhabited

/-- Variants of the source text (all `false`/unfixed values = the tree as shipped). -/
structure Config where
  /-- mask applied to `flags` in `tickit_watch_io` (shipped: `UNBIND|UNBIND` = 2; repaired: 6). -/
  ioFlagMask : Nat
  /-- `tickit_evloop_invoke_timers` unlinks a timer from `t->timers` before invoking it. -/
  timersPop : Bool
  /-- `evloop_run` reads `errno` right after `ppoll`, before any callback runs. -/
  errnoSaved : Bool
  /-- `evloop_init` empties `pending_signals`. -/
  pendingInit : Bool
  /-- `evloop_io` clears `revents` of the slot it hands out. -/
  reventsCleared : Bool
  /-- `invoke_watch` reads `watch->type` and `watch->t` before it calls the callback. -/
  invokeTypeSaved : Bool
  /-- `tickit_evloop_invoke_sigwatches` walks a snapshot of `t->signals` and skips entries no longer linked. -/
  sigSnapshot : Bool
  /-- `on_sigchld` walks a snapshot of `t->processes` and skips entries no longer linked. -/
  procSnapshot : Bool
  /-- `tickit_watch_cancel` of a deferred callback that is not in `t->laters` (its batch has been detached by the
      running iteration) notifies it and marks it `WATCH_NONE`; `tickit_evloop_invoke_timers` skips marked entries. -/
  laterCancelMarks : Bool := false
  /-- `tickit_watch_process` links the watch of an already exited child into `t->processes` like any other and
      remembers the deferred callback that will deliver it (`process.notify`); `tickit_watch_cancel` of the watch
      cancels that deferred callback; `process_notify` clears the pointer. -/
  processLinked : Bool := false
  /-- `on_sigpipe_readable` (the self-pipe signal fallback of tickit.c, Model/EvLoopFb.lean) hands every signal of
      its snapshot to `tickit_evloop_invoke_sigwatches` instead of walking `t->signals` itself. -/
  sigpipeViaInvoke : Bool := false
deriving DecidableEq, Repr, Inhabited

def Config.shipped : Config :=
  { ioFlagMask := 2, timersPop := false, errnoSaved := false, pendingInit := false, reventsCleared := false,
    invokeTypeSaved := false, sigSnapshot := false, procSnapshot := false }
def Config.repaired : Config :=
  { ioFlagMask := 6, timersPop := true, errnoSaved := true, pendingInit := true, reventsCleared := true,
    invokeTypeSaved := true, sigSnapshot := true, procSnapshot := true, laterCancelMarks := true,
    processLinked := true, sigpipeViaInvoke := true }

/-- One entry of `pollfds[]`/`pollwatches[]`.  `revents = none`: never written (uninitialised). -/
structure PollSlot where
  fd : Int
  events : Nat
  revents : Option Nat
  watch : Option Nat
deriving DecidableEq, Repr, Inhabited

/-- Where the file-scope `signal_observer` of evloop-default.c points, seen from the instance whose
    `struct Tickit`/`EventLoopData` the state describes: at this instance's loop, at the loop of another
    toplevel instance of the process, or nowhere (`NULL`). -/
inductive Observer | self | other | none
deriving DecidableEq, Repr, Inhabited

/-- The harness's table of watch slots. -/
structure SlotRec where
  k : Int
  handle : Nat
  fires : Nat
deriving DecidableEq, Repr, Inhabited

structure Proc where
  pid : Int
  exited : Bool
  reaped : Bool
  status : Int
deriving DecidableEq, Repr, Inhabited

structure St where
  cfg : Config
  status : Status := .ok
  heap : List Watch := []
  -- struct Tickit
  alive : Bool := false
  iow : List Nat := []
  timers : List Nat := []
  laters : List Nat := []
  signals : List Nat := []
  procs : List Nat := []
  sigchldwatch : Option Nat := none
  -- EventLoopData
  pfd : List PollSlot := []          -- `nfds` = length
  signums : List Int := []           -- `nsignals` = length
  watched : List Int := []           -- watched_signals
  pendingSig : List Int := []        -- pending_signals (members among 1 … NSIG-1)
  /-- `signal_observer` (file scope of evloop-default.c), relative to this instance -/
  observer : Observer := .self
  /-- `signal_observer->pending_signals` when the observer is another instance's loop (Model/EvLoopMulti.lean) -/
  otherPending : List Int := []
  -- process / kernel
  blocked : List Int := []
  handled : List Int := []
  kpending : List Int := []
  /-- `EventLoopData.still_running` -/
  stillRunning : Bool := false
  /-- the harness is inside `tickit_run`, and how often its `ppoll` has been called there -/
  inRun : Bool := false
  runPolls : Nat := 0
  errno : Int := 0
  clockUs : Int := 1000000000
  ready : List (Int × Nat) := []
  inpoll : List Int := []
  children : List Proc := []
  -- harness
  slots : List SlotRec := []
  /-- ghost: the slot numbers the history has called `tickit_watch_cancel` for (nothing reads it; Props/C17) -/
  cancelReq : List Int := []
  behs : List Beh := []
  log : List Ev := []                -- events of the current operation, newest first
  /-- the self-pipe of tickit.c's signal fallback (Model/EvLoopFb.lean; unused with the default hooks):
      bytes written to `t->signal.pipefds[1]` and not yet read, and `t->signal.pipewatch` -/
  pipeBytes : Nat := 0
  pipewatch : Option Nat := none
  /-- pipes the library has made in this process (the harness numbers their descriptors 90+2n / 91+2n) -/
  pipesMade : Nat := 0
deriving Repr, Inhabited

namespace St

@[inline] def isOk (st : St) : Bool := st.status == .ok
def fail (st : St) (why : Ub) : St := if st.isOk then { st with status := .ub why } else st
def emit (st : St) (e : Ev) : St := { st with log := e :: st.log }

/-- Address is allocated and not freed. -/
def live (st : St) (a : Nat) : Bool :=
  match st.heap[a]? with
  | some w => !w.freed
  | none => false

def getW (st : St) (a : Nat) : Watch := st.heap.getD a default

def setW (st : St) (a : Nat) (w : Watch) : St := { st with heap := st.heap.set a w }

def alloc (st : St) (w : Watch) : St × Nat := ({ st with heap := st.heap ++ [w] }, st.heap.length)

def free (st : St) (a : Nat) : St :=
  if st.live a then st.setW a { st.getW a with freed := true } else st.fail .doubleFree

def allLive (st : St) (l : List Nat) : Bool := l.all st.live

end St

/-- Element following the first occurrence of `a`. -/
def succOf (a : Nat) : List Nat → Option Nat
  | [] => none
  | x :: rest => if x = a then rest.head? else succOf a rest

/-- Suffix starting at the first occurrence of `a` (`[]` for `none` or when absent):
    what `head = a` denotes when `a` is a node of the list. -/
def suffixFrom (a : Option Nat) (l : List Nat) : List Nat :=
  match a with
  | none => []
  | some x => l.dropWhile (· ≠ x)

def setInsert (s : Int) (l : List Int) : List Int := if l.contains s then l else s :: l
def setErase (s : Int) (l : List Int) : List Int := l.filter (· ≠ s)

/-! ### the kernel's signal semantics (hypothesis `OsPpoll` of C18, implemented by the harness) -/

/-- `sighandler` (evloop-default.c 52–57): `if(signal_observer) sigaddset(&signal_observer->pending_signals, signum);` -/
def sigRecord (st : St) (s : Int) : St :=
  match st.observer with
  | .self => { st with pendingSig := setInsert s st.pendingSig }
  | .other => { st with otherPending := setInsert s st.otherPending }
  | .none => st

/-- `raise(s)` while the process runs (outside `ppoll`): blocked → stays pending; otherwise a handler
    (the loop's `sighandler`) or the default action runs. -/
def raiseSig (st : St) (s : Int) : St :=
  if !st.isOk then st
  else if st.blocked.contains s then { st with kpending := setInsert s st.kpending }
  else if st.handled.contains s then sigRecord st s
  else if sigTerminates s then { st with status := .killed s }
  else st

/-! ### evloop-default.c: slot tables -/

/-- `cond → events` of `evloop_io` (lines 232–239). -/
def eventsOfCond (cond : Nat) : Nat :=
  (if cond &&& IO_IN ≠ 0 then POLLIN else 0) |||
  (if cond &&& IO_OUT ≠ 0 then POLLOUT else 0) |||
  (if cond &&& IO_HUP ≠ 0 then POLLHUP else 0)

/-- `revents → cond` of `evloop_run` (lines 171–181). -/
def condOfRevents (revents : Nat) : Nat :=
  (if revents &&& POLLIN ≠ 0 then IO_IN else 0) |||
  (if revents &&& POLLOUT ≠ 0 then IO_OUT else 0) |||
  (if revents &&& POLLHUP ≠ 0 then IO_HUP else 0) |||
  (if revents &&& POLLERR ≠ 0 then IO_ERR else 0) |||
  (if revents &&& POLLNVAL ≠ 0 then IO_INVAL else 0)

/-- First index whose `fd == -1`. -/
def findFreeSlot : List PollSlot → Nat → Option Nat
  | [], _ => none
  | s :: rest, i => if s.fd = -1 then some i else findFreeSlot rest (i + 1)

/-- `evloop_io`: returns the slot index. -/
def evloopIo (st : St) (fd : Int) (cond : Nat) (watch : Nat) : St × Nat :=
  match findFreeSlot st.pfd 0 with
  | some idx =>
    let old := st.pfd.getD idx default
    let s : PollSlot := { fd := fd, events := eventsOfCond cond,
                          revents := if st.cfg.reventsCleared then some 0 else old.revents, watch := some watch }
    ({ st with pfd := st.pfd.set idx s }, idx)
  | none =>
    let s : PollSlot := { fd := fd, events := eventsOfCond cond,
                          revents := if st.cfg.reventsCleared then some 0 else none, watch := some watch }
    ({ st with pfd := st.pfd ++ [s] }, st.pfd.length)

/-- `evloop_cancel_io`. -/
def evloopCancelIo (st : St) (idx : Nat) : St :=
  let old := st.pfd.getD idx default
  { st with pfd := st.pfd.set idx { old with fd := -1, watch := none } }

def findZero : List Int → Nat → Option Nat
  | [], _ => none
  | s :: rest, i => if s = 0 then some i else findZero rest (i + 1)

/-- `evloop_signal`: returns the slot index. -/
def evloopSignal (st : St) (signum : Int) : St × Nat :=
  let idx := (findZero st.signums 0).getD st.signums.length
  let st := { st with signums := if idx < st.signums.length then st.signums.set idx signum else st.signums ++ [signum] }
  if st.watched.contains signum then (st, idx)
  else
    ({ st with blocked := setInsert signum st.blocked,
               handled := setInsert signum st.handled,
               watched := setInsert signum st.watched }, idx)

/-- `evloop_cancel_signal`. -/
def evloopCancelSignal (st : St) (idx : Nat) : St :=
  let signum := st.signums.getD idx 0
  let st := { st with signums := st.signums.set idx 0 }
  if st.signums.contains signum then st
  else
    -- sigdelset; sigaction(SIG_DFL): a pending signal whose default action is "ignore" is discarded;
    -- sigprocmask(SIG_UNBLOCK): a pending one whose default action is "terminate" is delivered
    let st := { st with watched := setErase signum st.watched, handled := setErase signum st.handled,
                        blocked := setErase signum st.blocked }
    if st.kpending.contains signum then
      let st := { st with kpending := setErase signum st.kpending }
      if sigTerminates signum then { st with status := .killed signum } else st
    else st

/-! ### tickit.c: constructors -/

/-- `insert_watch`: the walk to the tail reads `->next` of every node. -/
def insertWatch (st : St) (l : List Nat) (flags : Nat) (new : Nat) : St × List Nat :=
  if flags &&& BIND_FIRST ≠ 0 then (st, new :: l)
  else if st.allLive l then (st, l ++ [new])
  else (st.fail .insertWalk, l)

/-- The sorted insert of `tickit_watch_timer_at_tv` (lines 513–519); `none` = a freed node was read. -/
def insTimer (st : St) (new : Nat) (due : TV) : List Nat → Option (List Nat)
  | [] => some [new]
  | a :: rest =>
    if !st.live a then none
    else if (st.getW a).due.gt due then some (new :: a :: rest)
    else (insTimer st new due rest).map (a :: ·)

/-- `tickit_watch_timer_at_tv`. -/
def watchTimerAt (st : St) (due : TV) (flags : Nat) (slot : Int) : St × Nat :=
  let a := st.heap.length
  let st := (st.alloc { type := .timer, flags := flags &&& (BIND_UNBIND ||| BIND_DESTROY), slot := slot, due := due }).1
  match insTimer st a due st.timers with
  | some l => ({ st with timers := l }, a)
  | none => (st.fail .timerInsertWalk, a)

/-- `tickit_watch_timer_after_msec` (`msec ≥ 0`). -/
def watchTimerAfterMsec (st : St) (msec : Int) (flags : Nat) (slot : Int) : St × Nat :=
  let st := st.emit .g
  let now := TV.ofUs st.clockUs
  let after : TV := ⟨msec / 1000, (msec % 1000) * 1000⟩
  watchTimerAt st (now.add after) flags slot

/-- `tickit_watch_later`. -/
def watchLater (st : St) (flags : Nat) (slot : Int) (puser : Nat := 0) : St × Nat :=
  let a := st.heap.length
  let st := (st.alloc { type := .later, flags := flags &&& (BIND_UNBIND ||| BIND_DESTROY), slot := slot, puser := puser }).1
  let r := insertWatch st st.laters flags a
  ({ r.1 with laters := r.2 }, a)

/-- `tickit_watch_io`. -/
def watchIo (st : St) (fd : Int) (cond flags : Nat) (slot : Int) : St × Nat :=
  let a := st.heap.length
  let st := (st.alloc { type := .io, flags := flags &&& st.cfg.ioFlagMask, slot := slot, fd := fd, cond := cond }).1
  let r := evloopIo st fd cond a
  let st := r.1.setW a { r.1.getW a with evi := r.2 }
  let r := insertWatch st st.iow flags a
  ({ r.1 with iow := r.2 }, a)

/-- `tickit_watch_signal` up to the call of the `signal` hook: allocate, fill in, `evloop_signal`
    (the default loop supplies the hook, so the self-pipe fallback `watch_signal` is never used). -/
def watchSignalPre (st : St) (signum : Int) (flags : Nat) (slot : Int) : St :=
  (evloopSignal (st.alloc { type := .signal, flags := flags &&& (BIND_UNBIND ||| BIND_DESTROY), slot := slot, signum := signum }).1 signum).1.setW
    st.heap.length
    { (evloopSignal (st.alloc { type := .signal, flags := flags &&& (BIND_UNBIND ||| BIND_DESTROY), slot := slot, signum := signum }).1 signum).1.getW st.heap.length with
      evi := (evloopSignal (st.alloc { type := .signal, flags := flags &&& (BIND_UNBIND ||| BIND_DESTROY), slot := slot, signum := signum }).1 signum).2 }

/-- `tickit_watch_signal`: … and `insert_watch(&t->signals, flags, watch)`. -/
def watchSignal (st : St) (signum : Int) (flags : Nat) (slot : Int) : St × Nat :=
  ({ (insertWatch (watchSignalPre st signum flags slot) (watchSignalPre st signum flags slot).signals flags st.heap.length).1 with
     signals := (insertWatch (watchSignalPre st signum flags slot) (watchSignalPre st signum flags slot).signals flags st.heap.length).2 },
   st.heap.length)

/-- The harness's `waitpid(pid, &wstatus, WNOHANG)`: `(st', ret, wstatus)`. -/
structure WaitRes where
  st : St
  ret : Int
  wstatus : Int

def waitpid (st : St) (pid : Int) : WaitRes :=
  match st.children.find? (·.pid = pid) with
  | some c =>
    if c.reaped then ⟨{ st with errno := ECHILD }, -1, 0⟩
    else if !c.exited then ⟨st, 0, 0⟩
    else ⟨{ st with children := st.children.map fun d => if d.pid = pid then { d with reaped := true } else d }, pid, c.status⟩
  | none => ⟨st, 0, 0⟩

/-- `if(!t->sigchldwatch) t->sigchldwatch = tickit_watch_signal(t, SIGCHLD, 0, &on_sigchld, NULL);` -/
def ensureSigchld (st : St) : St :=
  match st.sigchldwatch with
  | some _ => st
  | none => { (watchSignal st SIGCHLD 0 (-3)).1 with sigchldwatch := some (watchSignal st SIGCHLD 0 (-3)).2 }

/-- `watch->process.notify = n;` -/
def setNotify (st : St) (a : Nat) (n : Option Nat) : St := st.setW a { st.getW a with notify := n }

/-- Repaired `tickit_watch_process` for a child that has already exited, after `tickit_watch_later` returned
    (`r` = state and handle): `watch->process.notify = <the later>; insert_watch(&t->processes, flags, watch);` -/
def linkNotified (r : St × Nat) (a : Nat) (flags : Nat) : St :=
  { (insertWatch (setNotify r.1 a (some r.2)) (setNotify r.1 a (some r.2)).procs flags a).1 with
    procs := (insertWatch (setNotify r.1 a (some r.2)) (setNotify r.1 a (some r.2)).procs flags a).2 }

/-- The tail of `tickit_watch_process` (lines 685–698): a child that has already exited is handed to a
    `later` and the watch is *not* linked into `t->processes`. -/
def linkProcess (st : St) (a : Nat) (pid : Int) (flags : Nat) : St :=
  let r := waitpid st pid
  if r.ret > 0 then
    if st.cfg.processLinked then linkNotified (watchLater (r.st.setW a { r.st.getW a with wstatus := r.wstatus }) 0 (-4) a) a flags
    else (watchLater (r.st.setW a { r.st.getW a with wstatus := r.wstatus }) 0 (-4) a).1
  else { (insertWatch r.st r.st.procs flags a).1 with procs := (insertWatch r.st r.st.procs flags a).2 }

/-- `tickit_watch_process` (the default loop has no `process` hook). -/
def watchProcess (st : St) (pid : Int) (flags : Nat) (slot : Int) : St × Nat :=
  (linkProcess (ensureSigchld (st.alloc { type := .process, flags := flags &&& (BIND_UNBIND ||| BIND_DESTROY), slot := slot, pid := pid }).1)
     st.heap.length pid flags, st.heap.length)

/-! ### tickit.c: cancel -/

/-- A passive notification `(*watch->fn)(t, flags, NULL, user)` (unbind / destroy). -/
def notify (st : St) (a : Nat) (flags : Nat) : St :=
  let w := st.getW a
  if w.slot ≥ 0 then st.emit (.cb w.slot flags .none) else st

def listOf (st : St) : WType → List Nat
  | .io => st.iow | .timer => st.timers | .later => st.laters | .signal => st.signals | .process => st.procs
  | .none => []

def setListOf (st : St) (t : WType) (l : List Nat) : St :=
  match t with
  | .io => { st with iow := l } | .timer => { st with timers := l } | .later => { st with laters := l }
  | .signal => { st with signals := l } | .process => { st with procs := l } | .none => st

/-- The `switch(this->type)` of `tickit_watch_cancel` / the `cancelfunc` of `destroy_watchlist`: the
    default loop has hooks for io and signal watches only. -/
def cancelHook (st : St) (t : WType) (evi : Nat) : St :=
  match t with
  | .io => evloopCancelIo st evi
  | .signal => evloopCancelSignal st evi
  | _ => st

/-- `if(this->flags & TICKIT_BIND_UNBIND) (*this->fn)(t, TICKIT_EV_UNBIND, NULL, this->user);` -/
def cancelNotify (st : St) (a : Nat) (w : Watch) : St :=
  if w.flags &&& BIND_UNBIND ≠ 0 then notify st a EV_UNBIND else st

/-- After the watch was found and freed the loop of `tickit_watch_cancel` keeps walking the rest of the list. -/
def cancelRest (st : St) (rest : List Nat) : St :=
  if !st.isOk then st
  else if !st.allLive rest then st.fail .cancelWalk
  else st

/-- `tickit_watch_cancel` once the watch `a` (contents `w`) has been found in its list `l`: unlink,
    notify, hook, free — and then the loop keeps walking. -/
def cancelFound (st : St) (a : Nat) (w : Watch) (l : List Nat) : St :=
  cancelRest ((cancelHook (cancelNotify (setListOf st w.type (l.erase a)) a w) w.type w.evi).free a)
    ((l.dropWhile (· ≠ a)).drop 1)

/-- The repaired tail of `tickit_watch_cancel`: a deferred callback that was not found in `t->laters` belongs to the
    batch the running iteration has detached; the loop still owns it.
    `if(watch->flags & UNBIND) (*watch->fn)(t, UNBIND, …); watch->type = WATCH_NONE;` -/
def cancelDetached (st : St) (a : Nat) : St :=
  (cancelNotify st a (st.getW a)).setW a { (cancelNotify st a (st.getW a)).getW a with type := .none }

/-- `tickit_watch_cancel` (lines 701–770).  The loop reads `->next` of every node of the list the
    watch's type selects (also after it has found the watch). -/
def watchCancel0 (st : St) (a : Nat) : St :=
  if !st.isOk then st
  else if !st.live a then st.fail .cancelType
  else if (st.getW a).type = .none then st
  else if !st.allLive ((listOf st (st.getW a).type).takeWhile (· ≠ a)) then st.fail .cancelWalk
  else if !(listOf st (st.getW a).type).contains a then
    (if st.cfg.laterCancelMarks = true ∧ (st.getW a).type = .later then cancelDetached st a else st)
  else cancelFound st a (st.getW a) (listOf st (st.getW a).type)

/-- Will `tickit_watch_cancel` find `a` — a process watch — in `t->processes`? -/
def cancelFindsProcess (st : St) (a : Nat) : Bool :=
  st.isOk && st.live a && (st.getW a).type == .process && st.procs.contains a

/-- `tickit_watch_cancel`.  `watchCancel0` is the function for every watch; repaired, a process watch found in
    `t->processes` whose child had already exited (`process.notify` set) also cancels the deferred callback that
    would deliver it: `if(this->process.notify) tickit_watch_cancel(t, this->process.notify);` — in the C text
    between the hook and `free(this)`; it touches only `t->laters` and that deferred callback (which asked for no
    notification), so the model performs it after the rest. -/
def watchCancel (st : St) (a : Nat) : St :=
  if st.cfg.processLinked = true ∧ cancelFindsProcess st a = true then
    match (st.getW a).notify with
    | some l => watchCancel0 (watchCancel0 st a) l
    | none => watchCancel0 st a
  else watchCancel0 st a

/-! ### the harness's callback: behaviour tables -/

def findSlot (st : St) (k : Int) : Option SlotRec := st.slots.find? (·.k = k)

def doRegister (st : St) (k : Int) (reg : St → St × Nat) : St :=
  if k < 0 || k ≥ MAXW then st.emit (.skip k)
  else match findSlot st k with
    | some _ => st.emit (.dup k)
    | none =>
      let r := reg st
      { r.1 with slots := r.1.slots ++ [{ k := k, handle := r.2, fires := 0 }] }

def doCancel (st : St) (k : Int) : St :=
  match findSlot st k with
  | none => st.emit (.skip k)
  | some r => watchCancel { st with cancelReq := k :: st.cancelReq } r.handle

def validSig (s : Int) : Bool := SIGS.contains s
def validPid (p : Int) : Bool := PID0 ≤ p && p < PID0 + NPID

/-- One action; `inCb`: inside a callback (where the harness restores `errno` around its own bookkeeping,
    so only `E` and a failing `waitpid` inside the library change it). -/
def runAct (st : St) (act : Act) : St :=
  if !st.isOk then st else
  match act with
  | .timer k ms flags => if ms ≥ 0 then doRegister st k (fun s => watchTimerAfterMsec s ms flags k) else st
  | .timerAt k sec usec flags => if usec ≥ 0 then doRegister st k (fun s => watchTimerAt s ⟨sec, usec⟩ flags k) else st
  | .later k flags => doRegister st k (fun s => watchLater s flags k)
  | .io k fd cond flags => doRegister st k (fun s => watchIo s fd cond flags k)
  | .signal k sig flags => if validSig sig then doRegister st k (fun s => watchSignal s sig flags k) else st
  | .process k pid flags => if validPid pid then doRegister st k (fun s => watchProcess s pid flags k) else st
  | .cancel k => doCancel st k
  | .errno v => { st with errno := v }
  | .raise s => if validSig s then raiseSig st s else st
  | .exit pid status =>
    if validPid pid then
      if st.children.any (·.pid = pid) then st      -- a child exits once
      else { st with children := st.children ++ [{ pid := pid, exited := true, reaped := false, status := status }] }
    else st
  | .stop => { st with stillRunning := false }
  | .nop => st

/-- `(*watch->fn)(t, flags, info, user)` with `FIRE` set, for the harness's callback of slot `k`. -/
def fireUser (st : St) (k : Int) (flags : Nat) (info : Info) : St :=
  let st := st.emit (.cb k flags info)
  match findSlot st k with
  | none => st
  | some r =>
    let st := { st with slots := st.slots.map fun (s : SlotRec) => if s.k = k then { s with fires := s.fires + 1 } else s }
    match st.behs.find? (fun (b : Beh) => b.k = k && b.n = r.fires) with
    | none => st
    | some b => b.acts.foldl (fun st act => if st.isOk then runAct (st.emit .a) act else st) st

/-! ### tickit.c: invoke_watch, process watches -/

def isChild (st : St) (pid : Int) : Bool := validPid pid && st.children.any (·.pid = pid)

/-- The tail of `invoke_watch` (lines 301–332): a one-shot watch (timer, later, process) is searched in
    its list, unlinked and freed; nothing happens when it is not found. -/
def unlinkOneshot (st : St) (a : Nat) : St :=
  if !st.live a then st.fail .invokeWatchType
  else if (st.getW a).type = .none || (st.getW a).type = .io || (st.getW a).type = .signal then st
  else if !st.allLive ((listOf st (st.getW a).type).takeWhile (· ≠ a)) then st.fail .invokeWatchWalk
  else if !(listOf st (st.getW a).type).contains a then st
  else
    ((setListOf st (st.getW a).type ((listOf st (st.getW a).type).erase a)).setW a { st.getW a with type := .none }).free a

/-- The same with the type `t` read *before* the callback (the repaired `invoke_watch`): the watch itself is
    not touched unless it is found in its list, where it is live. -/
def unlinkOneshotSaved (st : St) (a : Nat) (t : WType) : St :=
  if t = .none || t = .io || t = .signal then st
  else if !st.allLive ((listOf st t).takeWhile (· ≠ a)) then st.fail .invokeWatchWalk
  else if !(listOf st t).contains a then st
  else ((setListOf st t ((listOf st t).erase a)).setW a { st.getW a with type := .none }).free a

/-- `invoke_watch` for a watch whose callback is the harness's (lines 297–333). -/
def invokeWatch (st : St) (a : Nat) (flags : Nat) (info : Info) : St :=
  if !st.isOk then st
  else if !st.live a then st.fail .invokeWatchType
  else if !(if (st.getW a).slot ≥ 0 then fireUser st (st.getW a).slot flags info else st).isOk then
    (if (st.getW a).slot ≥ 0 then fireUser st (st.getW a).slot flags info else st)
  else if st.cfg.invokeTypeSaved then
    unlinkOneshotSaved (if (st.getW a).slot ≥ 0 then fireUser st (st.getW a).slot flags info else st) a (st.getW a).type
  else unlinkOneshot (if (st.getW a).slot ≥ 0 then fireUser st (st.getW a).slot flags info else st) a

/-- The harness's `waitpid` knows only its virtual children. -/
def waitpidV (st : St) (pid : Int) : WaitRes := if validPid pid then waitpid st pid else ⟨st, 0, 0⟩

/-- Body of the loop of `on_sigchld` for one process watch: `waitpid(pid, &wstatus, WNOHANG)`, and the
    watch is invoked when the child has exited. -/
def procStep (st : St) (a : Nat) : St :=
  if (waitpidV st (st.getW a).pid).ret ≤ 0 then (waitpidV st (st.getW a).pid).st
  else invokeWatch (waitpidV st (st.getW a).pid).st a EV_FIRE (.proc (st.getW a).pid (waitpidV st (st.getW a).pid).wstatus)

/-- `on_sigchld` (lines 639–653): `next` is read before the callback runs. -/
def onSigchld (fuel : Nat) (st : St) (this : Option Nat) : St :=
  match fuel with
  | 0 => if st.isOk then { st with status := .outOfFuel } else st
  | fuel + 1 =>
    if !st.isOk then st else
    match this with
    | none => st
    | some a =>
      if !st.live a then st.fail .procLoopThis
      else onSigchld fuel (procStep st a) (succOf a st.procs)

/-- The repaired `on_sigchld`: a snapshot of `t->processes` is walked; an entry is used only if
    `watch_is_linked` still finds it (pointer comparisons; the walk reads `->next` of the nodes before it). -/
def procSnapLoop (st : St) : List Nat → St
  | [] => st
  | a :: rest =>
    if !st.isOk then st
    else if !st.allLive (st.procs.takeWhile (· ≠ a)) then st.fail .procLoopThis
    else if !st.procs.contains a then procSnapLoop st rest
    else if !st.live a then st.fail .procLoopThis
    else procSnapLoop (procStep st a) rest

/-- `on_sigchld` in the variant the source has. -/
def onSigchldAny (fuel : Nat) (st : St) : St :=
  if st.cfg.procSnapshot then
    (if !st.allLive st.procs then st.fail .procLoopThis else procSnapLoop st st.procs)
  else onSigchld fuel st st.procs.head?

/-- Repaired `process_notify`: `watch->process.notify = NULL;` -/
def clearNotify (st : St) (a : Nat) : St :=
  if st.cfg.processLinked then setNotify st a none else st

/-- `process_notify` (lines 655–662), the callback of the internal `later` of a pre-exited child. -/
def processNotify (st : St) (later : Nat) : St :=
  if !st.live (st.getW later).puser then st.fail .invokeWatchType
  else invokeWatch (clearNotify st (st.getW later).puser) (st.getW later).puser EV_FIRE
         (.proc (st.getW (st.getW later).puser).pid (st.getW (st.getW later).puser).wstatus)

/-! ### tickit.c: tickit_evloop_next_timer_msec, tickit_evloop_invoke_timers -/

/-- C `/` on `long`: truncation toward zero. -/
def tdiv (a b : Int) : Int := Int.tdiv a b

/-- `timersub(&t->timers->timer.at, &now, &delay); msec = delay.tv_sec*1000 + delay.tv_usec/1000; if(msec < 0) msec = 0;` -/
def msecUntil (st : St) (a : Nat) : Int :=
  let delay := (st.getW a).due.sub (TV.ofUs st.clockUs)
  let msec := delay.sec * 1000 + tdiv delay.usec 1000
  if msec < 0 then 0 else msec

/-- `tickit_evloop_next_timer_msec`. -/
def nextTimerMsec (st : St) : St × Int :=
  if !st.laters.isEmpty then (st, 0)
  else match st.timers with
    | [] => (st, -1)
    | a :: _ =>
      if !st.live a then ((st.emit .g).fail .nextTimerHead, 0)
      else (st.emit .g, msecUntil st a)

/-- One timer callback performed by `tickit_evloop_invoke_timers`: which watch, and its deadline.
    The timer loops return the list of these next to the state; nothing in the model or the driver
    reads it — it is what the theorems of C17 talk about. -/
structure Fired where
  a : Nat
  slot : Int
  due : TV
deriving DecidableEq, Repr, Inhabited

/-- The `while(this)` loop of `tickit_evloop_invoke_timers` as shipped (lines 807–818): `t->timers`
    keeps pointing at the original head while callbacks run; `this->next` is read after the callback.
    Returns the state, the final `this`, and the timers invoked. -/
def timerLoopT (fuel : Nat) (st : St) (now : TV) (this : Option Nat) : St × Option Nat × List Fired :=
  match fuel with
  | 0 => (if st.isOk then { st with status := .outOfFuel } else st, this, [])
  | fuel + 1 =>
    if !st.isOk then (st, this, []) else
    match this with
    | none => (st, none, [])
    | some a =>
      if !st.live a then (st.fail .timerLoopThis, this, [])
      else if (st.getW a).due.gt now then (st, this, [])
      else
        let f : Fired := ⟨a, (st.getW a).slot, (st.getW a).due⟩
        let st1 := fireUser st (st.getW a).slot (EV_FIRE ||| EV_UNBIND) .none
        if !st1.isOk then (st1, this, [f])
        else if !st1.live a then (st1.fail .timerLoopThis, this, [f])
        else
          let r := timerLoopT fuel (st1.free a) now (succOf a st1.timers)
          (r.1, r.2.1, f :: r.2.2)

def timerLoop (fuel : Nat) (st : St) (now : TV) (this : Option Nat) : St × Option Nat :=
  ((timerLoopT fuel st now this).1, (timerLoopT fuel st now this).2.1)

/-- The repaired loop: unlink the head, then invoke it.  Returns the state and the timers invoked. -/
def timerLoopPopT (fuel : Nat) (st : St) (now : TV) : St × List Fired :=
  match fuel with
  | 0 => (if st.isOk then { st with status := .outOfFuel } else st, [])
  | fuel + 1 =>
    if !st.isOk then (st, []) else
    match st.timers with
    | [] => (st, [])
    | a :: rest =>
      if !st.live a then (st.fail .timerLoopThis, [])
      else if (st.getW a).due.gt now then (st, [])
      else
        let f : Fired := ⟨a, (st.getW a).slot, (st.getW a).due⟩
        let st1 := fireUser { st with timers := rest } (st.getW a).slot (EV_FIRE ||| EV_UNBIND) .none
        if !st1.isOk then (st1, [f])
        else if !st1.live a then (st1.fail .timerLoopThis, [f])
        else ((timerLoopPopT fuel (st1.free a) now).1, f :: (timerLoopPopT fuel (st1.free a) now).2)

def timerLoopPop (fuel : Nat) (st : St) (now : TV) : St := (timerLoopPopT fuel st now).1

/-- The `while(later)` loop over the detached queue (lines 823–829). -/
def laterCb (st : St) (a : Nat) : St :=
  if (st.getW a).slot ≥ 0 then fireUser st (st.getW a).slot (EV_FIRE ||| EV_UNBIND) .none
  else if (st.getW a).slot = -4 then processNotify st a
  else st

/-- The repaired loop, before it invokes an entry: `later->flags &= ~TICKIT_BIND_UNBIND;` (the invocation is the
    unbind notification: cancelling the entry from inside its own callback must not give it another one). -/
def laterPre (st : St) (a : Nat) : St :=
  if st.cfg.laterCancelMarks then st.setW a { st.getW a with flags := (st.getW a).flags - ((st.getW a).flags &&& BIND_UNBIND) }
  else st

/-- The `while(later)` loop over the detached queue (lines 823–829).  Returns the state and the deferred
    callbacks it invoked, in order (read only by the theorems of C17).  Repaired: an entry marked `WATCH_NONE`
    (cancelled by an earlier callback of this iteration) is freed without being invoked. -/
def laterLoopT (st : St) : List Nat → St × List Nat
  | [] => (st, [])
  | a :: rest =>
    if !st.isOk then (st, [])
    else if !st.live a then (st.fail .laterLoopThis, [])
    else if st.cfg.laterCancelMarks = true ∧ (st.getW a).type ≠ .later then laterLoopT (st.free a) rest
    else if !(laterCb (laterPre st a) a).isOk then (laterCb (laterPre st a) a, [a])
    else if !(laterCb (laterPre st a) a).live a then ((laterCb (laterPre st a) a).fail .laterLoopThis, [a])
    else ((laterLoopT ((laterCb (laterPre st a) a).free a) rest).1, a :: (laterLoopT ((laterCb (laterPre st a) a).free a) rest).2)

def laterLoop (st : St) (l : List Nat) : St := (laterLoopT st l).1

def timerPhaseShipped (fuel : Nat) (st : St) (now : TV) : St :=
  if (timerLoop fuel st now st.timers.head?).1.isOk then
    { (timerLoop fuel st now st.timers.head?).1 with
      timers := suffixFrom (timerLoop fuel st now st.timers.head?).2 (timerLoop fuel st now st.timers.head?).1.timers }
  else (timerLoop fuel st now st.timers.head?).1

/-- The `if(t->timers) { … }` block of `tickit_evloop_invoke_timers`. -/
def timerPhase (fuel : Nat) (st : St) : St :=
  if st.timers.isEmpty then st
  else if st.cfg.timersPop then timerLoopPop fuel (st.emit .g) (TV.ofUs st.clockUs)
  else timerPhaseShipped fuel (st.emit .g) (TV.ofUs st.clockUs)

def invokeTimers (fuel : Nat) (st : St) : St :=
  if !st.isOk then st
  else laterLoop (timerPhase fuel { st with laters := [] }) st.laters

/-! ### tickit.c: tickit_evloop_invoke_sigwatches;  evloop-default.c: dispatch_signals -/

/-- `if(this->signal.signum == signum) (*this->fn)(…)` for the three callbacks a signal watch can have. -/
def sigCb (fuel : Nat) (st : St) (a : Nat) (signum : Int) : St :=
  if (st.getW a).signum = signum then
    if (st.getW a).slot ≥ 0 then fireUser st (st.getW a).slot EV_FIRE .none
    else if (st.getW a).slot = -3 then onSigchldAny fuel st
    else if (st.getW a).slot = -5 then { st with stillRunning := false }    -- on_sigint: tickit_stop
    else st     -- on_sigwinch: the headless terminal has no output descriptor
  else st

/-- `tickit_evloop_invoke_sigwatches`: `this = this->next` is read after the callback.
    Returns the state and the watches the walk visited, in order (read only by the theorems of C18). -/
def sigwatchLoopT (fuel : Nat) (st : St) (signum : Int) (this : Option Nat) : St × List Nat :=
  match fuel with
  | 0 => (if st.isOk then { st with status := .outOfFuel } else st, [])
  | fuel + 1 =>
    if !st.isOk then (st, []) else
    match this with
    | none => (st, [])
    | some a =>
      if !st.live a then (st.fail .sigLoopThis, [])
      else if !(sigCb fuel st a signum).isOk then (sigCb fuel st a signum, [a])
      else if !(sigCb fuel st a signum).live a then ((sigCb fuel st a signum).fail .sigLoopThis, [a])
      else
        ((sigwatchLoopT fuel (sigCb fuel st a signum) signum (succOf a (sigCb fuel st a signum).signals)).1,
         a :: (sigwatchLoopT fuel (sigCb fuel st a signum) signum (succOf a (sigCb fuel st a signum).signals)).2)

def sigwatchLoop (fuel : Nat) (st : St) (signum : Int) (this : Option Nat) : St :=
  (sigwatchLoopT fuel st signum this).1

/-- The repaired `tickit_evloop_invoke_sigwatches`: a snapshot of `t->signals` is walked; an entry is used
    only if `watch_is_linked` still finds it.  Returns the state and the watches visited, in order. -/
def sigSnapLoopT (fuel : Nat) (st : St) (signum : Int) : List Nat → St × List Nat
  | [] => (st, [])
  | a :: rest =>
    if !st.isOk then (st, [])
    else if !st.allLive (st.signals.takeWhile (· ≠ a)) then (st.fail .sigLoopThis, [])
    else if !st.signals.contains a then sigSnapLoopT fuel st signum rest
    else if !st.live a then (st.fail .sigLoopThis, [])
    else ((sigSnapLoopT fuel (sigCb fuel st a signum) signum rest).1,
          a :: (sigSnapLoopT fuel (sigCb fuel st a signum) signum rest).2)

/-- The loop of the repaired walk with the body `if(this->signal.signum == signum) (*this->fn)(…)` abstracted as `cb`:
    `sigSnapLoopT fuel st signum l = sigSnapLoopG (fun st a => sigCb fuel st a signum) st l` (Proof/EvLoopBase.lean,
    `sigSnapLoopT_eq_G`).  Model/EvLoopFb.lean instantiates it with the callbacks of the self-pipe configuration, so
    that the theorems about the walk are proved once. -/
def sigSnapLoopG (cb : St → Nat → St) (st : St) : List Nat → St × List Nat
  | [] => (st, [])
  | a :: rest =>
    if !st.isOk then (st, [])
    else if !st.allLive (st.signals.takeWhile (· ≠ a)) then (st.fail .sigLoopThis, [])
    else if !st.signals.contains a then sigSnapLoopG cb st rest
    else if !st.live a then (st.fail .sigLoopThis, [])
    else ((sigSnapLoopG cb (cb st a) rest).1, a :: (sigSnapLoopG cb (cb st a) rest).2)

/-- `tickit_evloop_invoke_sigwatches` in the variant the source has. -/
def sigDispatch (fuel : Nat) (st : St) (signum : Int) : St :=
  if st.cfg.sigSnapshot then
    (if !st.allLive st.signals then st.fail .sigLoopThis else (sigSnapLoopT fuel st signum st.signals).1)
  else sigwatchLoop fuel st signum st.signals.head?

/-- The `for(signum = 1; signum < NSIG; signum++)` loop of `dispatch_signals`. -/
def dispatchLoop (fuel : Nat) (st : St) (pending : List Int) : List Int → St
  | [] => st
  | s :: rest =>
    dispatchLoop fuel
      (if st.isOk && pending.contains s && st.watched.contains s then sigDispatch fuel st s else st)
      pending rest

def signalRange : List Int := (List.range NSIG).tail.map Int.ofNat

/-- `dispatch_signals`. -/
def dispatchSignals (fuel : Nat) (st : St) : St :=
  dispatchLoop fuel { st with pendingSig := [] } st.pendingSig signalRange

/-! ### evloop-default.c: evloop_run, one iteration -/

def readyOf (st : St) (fd : Int) : Nat :=
  match st.ready.find? (·.1 = fd) with
  | some (_, b) => b
  | none => 0

/-- What the harness's `ppoll` writes into `revents` (the kernel reports only the requested events
    plus ERR, HUP and NVAL; a negative descriptor is ignored). -/
def pollRevents (st : St) (s : PollSlot) : Nat :=
  if FD0 ≤ s.fd && s.fd < FD0 + NFD then readyOf st s.fd &&& (s.events ||| POLLERR ||| POLLHUP ||| POLLNVAL) else 0

/-- Deliver every pending signal under the loop's (empty) mask: the handler records it in the loop
    `signal_observer` points at — which need not be the loop that waits. -/
def deliverPending (st : St) : St :=
  match st.observer with
  | .self => { st with pendingSig := st.kpending.foldl (fun acc s => setInsert s acc) st.pendingSig, kpending := [] }
  | .other => { st with otherPending := st.kpending.foldl (fun acc s => setInsert s acc) st.otherPending, kpending := [] }
  | .none => { st with kpending := [] }

/-- The kernel writes `revents` of every entry. -/
def pollScan (st : St) : St :=
  { st with pfd := st.pfd.map fun s => { s with revents := some (pollRevents st s) } }

/-- Number of entries with something to report. -/
def pollCount (st : St) : Nat := ((pollScan st).pfd.filter fun s => s.revents ≠ some 0).length

def pollSlots (st : St) : List (Int × Nat) := st.pfd.map fun s => (s.fd, s.events)

/-- Signals the harness raises from inside its `ppoll` (they are still blocked at that point). -/
def pollRaise (st : St) : St := st.inpoll.foldl raiseSig { st with inpoll := [] }

/-- A timeout elapses: the virtual clock advances. -/
def pollTimeout (st : St) (timeoutMs : Option Int) : St :=
  match timeoutMs with
  | some ms => { st with clockUs := st.clockUs + ms * 1000 }
  | none => st

/-- The harness's `ppoll` (hypothesis `OsPpoll`): ready descriptors are reported before signals are
    looked at; otherwise pending signals are delivered and the call fails with `EINTR`; otherwise it
    times out (advancing the virtual clock).  Returns `none` for -1/EINTR. -/
def ppoll (st : St) (timeoutMs : Option Int) : St × Option Nat :=
  if !(pollRaise (pollScan st)).isOk then (pollRaise (pollScan st), some 0)
  else if pollCount st > 0 then
    ((pollRaise (pollScan st)).emit (.poll timeoutMs (pollSlots st) (some (pollCount st))), some (pollCount st))
  else if !(pollRaise (pollScan st)).kpending.isEmpty then
    ({ deliverPending (pollRaise (pollScan st)) with errno := EINTR }.emit (.poll timeoutMs (pollSlots st) none), none)
  else
    ((pollTimeout (pollRaise (pollScan st)) timeoutMs).emit (.poll timeoutMs (pollSlots st) (some 0)), some 0)

/-- `revents` as the loop reads it: an entry that was never written is uninitialised memory. -/
def slotRevents (s : PollSlot) : Nat :=
  match s.revents with
  | some r => r
  | none => fillRevents

/-- `tickit_evloop_invoke_iowatch(evdata->pollwatches[idx], TICKIT_EV_FIRE, cond)`. -/
def ioCb (st : St) (s : PollSlot) : St :=
  match s.watch with
  | some a =>
    if !st.live a then st.fail .invokeWatchType
    else invokeWatch st a EV_FIRE (.io (st.getW a).fd (condOfRevents (slotRevents s)))
  | none => st

/-- The descriptor loop of `evloop_run` (lines 162–184); `nfds` is re-read on every iteration.  Returns the
    state and, for every `tickit_evloop_invoke_iowatch` it made, (index, watch, conditions) — read only by the
    theorems of C18. -/
def ioLoopT (fuel : Nat) (st : St) (idx : Nat) : St × List (Nat × Option Nat × Nat) :=
  match fuel with
  | 0 => (if st.isOk then { st with status := .outOfFuel } else st, [])
  | fuel + 1 =>
    if !st.isOk then (st, [])
    else if idx ≥ st.pfd.length then (st, [])
    else if (st.pfd.getD idx default).fd = -1 then ioLoopT fuel st (idx + 1)
    else if slotRevents (st.pfd.getD idx default) = 0 then ioLoopT fuel st (idx + 1)
    else
      ((ioLoopT fuel (ioCb st (st.pfd.getD idx default)) (idx + 1)).1,
       (idx, (st.pfd.getD idx default).watch, condOfRevents (slotRevents (st.pfd.getD idx default))) ::
         (ioLoopT fuel (ioCb st (st.pfd.getD idx default)) (idx + 1)).2)

def ioLoop (fuel : Nat) (st : St) (idx : Nat) : St := (ioLoopT fuel st idx).1

/-- `errno` as `evloop_run` looks at it when `ppoll` returned -1: `afterPoll` is the state right after
    the wait, `st` the state after `tickit_evloop_invoke_timers`. -/
def errnoSeen (afterPoll st : St) : Int := if afterPoll.cfg.errnoSaved then afterPoll.errno else st.errno

/-- `evloop_run` after the wait (lines 159–188): timers and deferred callbacks, then descriptors or signals. -/
def tickAfterPoll (fuel : Nat) (st : St) (ret : Option Nat) : St :=
  if !(invokeTimers fuel st).isOk then invokeTimers fuel st
  else match ret with
    | some n => if n > 0 then ioLoop fuel (invokeTimers fuel st) 0 else invokeTimers fuel st
    | none =>
      if errnoSeen st (invokeTimers fuel st) = EINTR then dispatchSignals fuel (invokeTimers fuel st)
      else invokeTimers fuel st

/-- The timeout `evloop_run` hands to `ppoll` (lines 142–154). -/
def tickTimeout (nohang : Bool) (msec : Int) : Option Int :=
  if (if nohang then 0 else msec) > -1 then some (if nohang then 0 else msec) else none

/-- One iteration of `evloop_run` under `tickit_tick`. -/
def tick (fuel : Nat) (st : St) (nohang : Bool) : St :=
  if !st.isOk then st
  else if !(nextTimerMsec st).1.isOk then (nextTimerMsec st).1
  else if !(ppoll (nextTimerMsec st).1 (tickTimeout nohang (nextTimerMsec st).2)).1.isOk then
    (ppoll (nextTimerMsec st).1 (tickTimeout nohang (nextTimerMsec st).2)).1
  else tickAfterPoll fuel (ppoll (nextTimerMsec st).1 (tickTimeout nohang (nextTimerMsec st).2)).1
         (ppoll (nextTimerMsec st).1 (tickTimeout nohang (nextTimerMsec st).2)).2

/-! ### tickit_run -/

/-- How many waits the harness lets one `tickit_run` make before it stops the loop itself. -/
def maxRunPolls : Nat := 50

/-- Inside `tickit_run` the harness's `ppoll` counts its calls and calls `tickit_stop` itself when the loop
    would block for ever (no timeout, nothing ready, no signal) or has made `maxRunPolls` waits. -/
def ppollRun (st : St) (timeoutMs : Option Int) : St × Option Nat :=
  if !(ppoll st timeoutMs).1.isOk then ppoll st timeoutMs
  else if (ppoll st timeoutMs).1.runPolls + 1 ≥ maxRunPolls || (timeoutMs = none && (ppoll st timeoutMs).2 = some 0) then
    (({ (ppoll st timeoutMs).1 with runPolls := (ppoll st timeoutMs).1.runPolls + 1, stillRunning := false }).emit .hstop,
     (ppoll st timeoutMs).2)
  else ({ (ppoll st timeoutMs).1 with runPolls := (ppoll st timeoutMs).1.runPolls + 1 }, (ppoll st timeoutMs).2)

/-- One iteration of the `while(evdata->still_running)` loop of `evloop_run` under `tickit_run`. -/
def runIter (fuel : Nat) (st : St) : St :=
  if !st.isOk then st
  else if !(nextTimerMsec st).1.isOk then (nextTimerMsec st).1
  else if !(ppollRun (nextTimerMsec st).1 (tickTimeout false (nextTimerMsec st).2)).1.isOk then
    (ppollRun (nextTimerMsec st).1 (tickTimeout false (nextTimerMsec st).2)).1
  else tickAfterPoll fuel (ppollRun (nextTimerMsec st).1 (tickTimeout false (nextTimerMsec st).2)).1
         (ppollRun (nextTimerMsec st).1 (tickTimeout false (nextTimerMsec st).2)).2

def runLoop (fuel : Nat) : Nat → St → St
  | 0, st => if st.isOk then { st with status := .outOfFuel } else st
  | n + 1, st =>
    if !st.isOk then st
    else if !st.stillRunning then st
    else runLoop fuel n (runIter fuel st)

/-- `tickit_run` (the terminal has been set up when the instance was built): watch SIGINT with
    `on_sigint` (= `tickit_stop`), loop until stopped, cancel that watch. -/
def run (fuel : Nat) (st : St) : St :=
  if !st.isOk then st
  else if !(runLoop fuel (maxRunPolls + 2)
        { (watchSignal st 2 0 (-5)).1 with stillRunning := true, inRun := true, runPolls := 0 }).isOk then
    runLoop fuel (maxRunPolls + 2) { (watchSignal st 2 0 (-5)).1 with stillRunning := true, inRun := true, runPolls := 0 }
  else
    watchCancel { (runLoop fuel (maxRunPolls + 2)
        { (watchSignal st 2 0 (-5)).1 with stillRunning := true, inRun := true, runPolls := 0 }) with inRun := false }
      (watchSignal st 2 0 (-5)).2

/-! ### tickit.c: construction and destruction -/

/-- `tickit_build` on a headless terminal with the default event loop: the terminal's input watch
    (descriptor -1!) and the SIGWINCH watch. -/
def build0 (cfg : Config) : St :=
  { cfg := cfg, alive := true,
    pendingSig := if cfg.pendingInit then [] else (signalRange.filter fillSigMember) }

def build (cfg : Config) : St :=
  { (watchSignal (watchIo (build0 cfg) (-1) IO_IN 0 (-1)).1 SIGWINCH 0 (-2)).1 with log := [] }

/-- `if(this->flags & (TICKIT_BIND_UNBIND|TICKIT_BIND_DESTROY)) (*this->fn)(this->t, TICKIT_EV_UNBIND|TICKIT_EV_DESTROY, NULL, this->user);` -/
def destroyNotify (st : St) (a : Nat) : St :=
  if (st.getW a).flags &&& (BIND_UNBIND ||| BIND_DESTROY) ≠ 0 then notify st a (EV_UNBIND ||| EV_DESTROY) else st

/-- `destroy_watchlist`. -/
def destroyList (st : St) (t : WType) : List Nat → St
  | [] => st
  | a :: rest =>
    if !st.isOk then st
    else if !st.live a then st.fail .destroyWalk
    else destroyList ((cancelHook (destroyNotify st a) t (st.getW a).evi).free a) t rest

/-- `if(t->LIST) destroy_watchlist(t, t->LIST, hook);` -/
def destroyOf (t : WType) (st : St) : St := destroyList st t (listOf st t)

/-- `if(t->sigchldwatch) tickit_watch_cancel(t, t->sigchldwatch);` -/
def cancelSigchld (st : St) : St :=
  match st.sigchldwatch with
  | some a => watchCancel st a
  | none => st

/-- `evloop_destroy` (lines 118–135): `if(signal_observer == evdata) signal_observer = NULL;` -/
def observerAfterDestroy : Observer → Observer
  | .self => .none
  | o => o

def destroyFinish (st : St) : St :=
  if st.isOk then { st with alive := false, iow := [], timers := [], laters := [], signals := [], procs := [],
                            observer := observerAfterDestroy st.observer } else st

/-- `tickit_destroy`. -/
def destroy (st : St) : St :=
  if !st.isOk then st
  else destroyFinish (destroyOf .process (destroyOf .signal (destroyOf .later (destroyOf .timer (destroyOf .io (cancelSigchld st))))))

/-- Blocks LeakSanitizer would report: allocated, not freed, and not reachable from the instance
    (its five lists, and the process watch an internal `later` carries as its `user`). -/
def leaked (st : St) : List Nat :=
  let roots := if st.alive then st.iow ++ st.timers ++ st.laters ++ st.signals ++ st.procs else []
  let carried := roots.filterMap fun a =>
    let w := st.getW a
    if w.type = .later && w.slot = -4 then some w.puser else none
  (List.range st.heap.length).filter fun a => st.live a && !roots.contains a && !carried.contains a

/-! ### operations of the harness -/

inductive Op
  | new (prop : Nat)          -- `new C17` / `new C18`: which property's clauses the specification evaluates (0 = all)
  | beh (b : Beh)
  | act (a : Act)
  | clock (us : Int)
  | ready (fd : Int) (bits : Nat)
  | inpoll (sig : Int)
  | tick
  | tickhang
  | run
  | destroy
  | finish
  | bad
deriving DecidableEq, Repr, Inhabited

/-- Fuel for the loops of one operation: every loop iteration either consumes a list element that
    existed before the operation or one registered by an action, and a history has fewer than this
    many of either. -/
def defaultFuel : Nat := 4096

def applyOp' (st : St) (op : Op) : St :=
  if !st.isOk then st else
  match op with
  | .new _ => st
  | .finish => st
  | .bad => st
  | _ =>
    if !st.alive then st else
    match op with
    | .beh b => { st with behs := st.behs ++ [b] }
    | .act a => runAct st a
    | .clock us => { st with clockUs := st.clockUs + us }
    | .ready fd bits => { st with ready := (fd, bits) :: st.ready.filter (·.1 ≠ fd) }
    | .inpoll s => { st with inpoll := st.inpoll ++ [s] }
    | .tick => tick defaultFuel { st with stillRunning := true } true
    | .tickhang => tick defaultFuel { st with stillRunning := true } false
    | .run => run defaultFuel st
    | .destroy => destroy st
    | _ => st

/-- One operation of the harness (`log` is reset first). -/
def applyOp (st : St) (op : Op) : St := applyOp' { st with log := [] } op

/-- A whole history. -/
def runOps (cfg : Config) (ops : List Op) : St := ops.foldl applyOp (build cfg)

end Tickit.EvLoop
