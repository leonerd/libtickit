import Tickit.Model.WinFocus
import Tickit.Proof.WinFocusBase
import Tickit.Proof.WinFocusReq
import Tickit.Driver.Common
import Tickit.Gen.WinFocusSrc
/-
  Engine `focus` (C15).  Operations and observation format: see harness/focus.c.
  The model observation is printed from the model state; the specification verdict is `cursorSpec` evaluated on the
  tree *parsed from the implementation's observation* and compared with the implementation's terminal cursor
  (after every `flush`; in the `newmock` configuration that is what the library's mock terminal reports), plus the order
  clauses on the implementation's focus-event log (after every `focus`), plus "the root window has the terminal's size"
  after every `termsize`.
-/
namespace Tickit.Driver.FocusEngine
open Tickit Tickit.Driver Tickit.WinTree Tickit.WinFocus

structure St where
  tree : Tree := {}
  term : TermCursor := {}
  live : Bool := false                    -- a history has begun
  origParent : Array (Option Id) := #[]   -- parent at creation (survives `close`, which clears `parent`)
  dead : Bool := false                    -- the model reached `ub`: the rest of the history is not modelled
  mock : Bool := false                    -- the history runs on the library's mock terminal (`newmock`)
  tl : Int := 0                           -- the terminal's size (`tickit_term_get_size`), which the root window follows
  tc : Int := 0
  prev : String := ""                     -- the implementation's previous observation line
  reqs : List (Change × Id) := []         -- the restacking requests made since the last flush, oldest first (from the operation lines)
deriving Inhabited

/-! ### printing -/

def showOptId : Option Id → String
  | none => "~"
  | some i => toString i

def b01 (b : Bool) : String := if b then "1" else "0"

def showEvent (e : Event) : String :=
  (match e.type with | .focusIn => "I" | .focusOut => "O") ++ toString e.target ++ ">" ++ toString e.win

def showEvents (es : List Event) : String :=
  if es.isEmpty then "~" else ",".intercalate (es.map showEvent)

def showCall : TermCall → String
  | .goto l c => s!"g{l}.{c}"
  | .vis v => s!"v{v}"
  | .shape s => s!"s{s}"
  | .blink b => s!"b{b}"

def showCalls (cs : List TermCall) : String :=
  if cs.isEmpty then "~" else ",".intercalate (cs.map showCall)

def showRects (rs : List Rect) : String :=
  if rs.isEmpty then "~" else ";".intercalate (rs.map fun r => s!"{r.top},{r.left},{r.lines},{r.cols}")

def dumpWin (id : Id) (w : Win) : String :=
  let kids := if w.children.isEmpty then "~" else ".".intercalate (w.children.map toString)
  s!"w{id}:{showOptId w.parent}:{b01 w.isVisible}{b01 w.isFocused}{b01 w.focusChildNotify}{b01 w.stealInput}:" ++
  s!"{w.rect.top},{w.rect.left},{w.rect.lines},{w.rect.cols}:" ++
  s!"{w.cursor.line},{w.cursor.col},{w.cursor.shape},{b01 w.cursor.visible},{w.cursor.blink}:" ++
  s!"{showOptId w.focusedChild}:{kids}"

def showTerm (c : TermCursor) : String := s!"C={c.vis},{c.line},{c.col},{c.shape},{c.blink}"

def showState (st : St) (evs : List Event) (exposed : List Rect) (calls : List TermCall) : String :=
  let ws := (List.range st.tree.wins.size).filterMap fun i =>
    match st.tree.wins[i]? with
    | some w => if w.freed then none else some (dumpWin i w)
    | none => none
  " ".intercalate ([s!"ok E={showEvents evs} X={showRects exposed} L={showCalls calls}", showTerm st.term] ++ ws)

/-! ### parsing the implementation's observation -/

def parseOptId (s : String) : Option (Option Id) :=
  if s = "~" then some none else s.toNat?.map some

def parseBit (c : Char) : Option Bool :=
  if c = '1' then some true else if c = '0' then some false else none

def parseWin (tok : String) : Option (Id × Win) := do
  guard (tok.startsWith "w")
  match (tok.drop 1).toString.splitOn ":" with
  | [ids, par, flags, rect, cur, fc, kids] =>
    let id ← ids.toNat?
    let parent ← parseOptId par
    let (v, f, n, s) ← match flags.toList with
      | [a, b, c, d] => do pure (← parseBit a, ← parseBit b, ← parseBit c, ← parseBit d)
      | _ => none
    let r ← ints? (rect.splitOn ",")
    let c ← ints? (cur.splitOn ",")
    let focusedChild ← parseOptId fc
    let children ← if kids = "~" then some [] else (kids.splitOn ".").mapM (·.toNat?)
    match r, c with
    | [t, l, ln, cl], [cline, ccol, shape, cvis, blink] =>
      pure (id, { parent := parent, children := children, focusedChild := focusedChild,
                  rect := ⟨t, l, ln, cl⟩,
                  cursor := { line := cline, col := ccol, shape := shape, visible := cvis ≠ 0, blink := blink },
                  isRoot := id = 0, isVisible := v, isFocused := f, focusChildNotify := n, stealInput := s })
    | _, _ => none
  | _ => none

structure ImplObs where
  events : String
  calls : String
  term : TermCursor
  tree : Tree

/-- Parse an implementation observation line into the observed tree (windows the dump does not list are freed
    slots) and the terminal cursor. -/
def parseImpl (line : String) : Option ImplObs := do
  let ts := toks line
  guard (ts.head? = some "ok")
  let ev ← (ts.find? (·.startsWith "E=")).map (fun s => (s.drop 2).toString)
  let lg ← (ts.find? (·.startsWith "L=")).map (fun s => (s.drop 2).toString)
  let cs ← ts.find? (·.startsWith "C=")
  let term ← match ints? ((cs.drop 2).toString.splitOn ",") with
    | some [v, l, c, s, b] => some ({ vis := v, line := l, col := c, shape := s, blink := b } : TermCursor)
    | _ => none
  let ws ← (ts.filter (·.startsWith "w")).mapM parseWin
  let size := ws.foldl (fun m (i, _) => max m (i + 1)) 0
  let blank : Win := { freed := true }
  let arr := ws.foldl (fun (a : Array Win) (i, w) => a.setIfInBounds i w) (Array.replicate size blank)
  pure { events := ev, calls := lg, term := term, tree := { wins := arr } }

def showSpecVal : Option (Int × Int × Int) → String
  | none => "hidden"
  | some (l, c, s) => s!"visible at {l},{c} shape {s}"

/-- First ancestor-or-self of `win` that is not visible. -/
def firstInvisible (t : Tree) : Nat → Id → Option Id
  | 0, _ => none
  | fuel + 1, win =>
    match t.wins[win]? with
    | some w => if !w.isVisible then some win else match w.parent with
      | some p => firstInvisible t fuel p
      | none => none
    | none => none

/-- Why the specification wants the cursor hidden. -/
def whyHidden (t : Tree) : String :=
  let e := chainEnd t (treeFuel t) 0
  match t.wins[e]? with
  | none => s!"no window {e}"
  | some w =>
    let (al, ac) := absCell t (treeFuel t) e w.cursor.line w.cursor.col
    if !w.isFocused then s!"window {e} at the end of the focus chain is not focused"
    else match firstInvisible t (treeFuel t) e with
      | some i => s!"window {i} is not visible"
      | none =>
        if !w.cursor.visible then s!"the cursor of window {e} is disabled"
        else if !insideAll t (treeFuel t) e w.cursor.line w.cursor.col then
          s!"the cursor cell of window {e} is outside the window or an ancestor"
        else s!"cell {al},{ac} belongs to window {showOptId (owner t al ac)}, not to {e}"

/-- The cursor clause, evaluated on the implementation's observation after a flush. -/
def specFlush (o : ImplObs) (calls : String) : String :=
  let want := cursorSpec o.tree
  if o.term.matches want then ""
  else
    let w := match want with
      | none => s!"hidden ({whyHidden o.tree})"
      | some (l, c, s) => s!"visible at {l},{c} shape {s} (window {chainEnd o.tree (treeFuel o.tree) 0})"
    let how := if calls = "~" then " (the flush made no terminal call)" else ""
    s!"cursor after flush is vis={o.term.vis} pos={o.term.line},{o.term.col} shape={o.term.shape}{how}; specification: {w}"

def showChange : Change → String
  | .raise => "raise"
  | .raiseFront => "raisefront"
  | .lower => "lower"
  | .lowerBack => "lowerback"
  | _ => "?"

def showKids (cs : List Id) : String := if cs.isEmpty then "~" else ".".intercalate (cs.map toString)

/-- The cursor clause over restacking requests, evaluated on the implementation's observations before and after a flush:
    the requests made since the last flush take effect in the order they were made, so "not covered by another window" is
    read on the observed tree stacked as the sibling lists found at the flush with the requests applied oldest first
    (`cursorSpecReq`).  Says which window ends up where when the terminal cursor disagrees. -/
def specFlushOrder (before after : ImplObs) (reqs : List (Change × Id)) : String :=
  if reqs.isEmpty then "" else
  let want := cursorSpecReq before.tree after.tree reqs
  if after.term.matches want then ""
  else
    let st := stackApplied before.tree reqs
    let t := withStacking after.tree st
    -- the first window whose sibling list is not what the requests in request order give
    let odd := (List.range after.tree.wins.size).find? fun i =>
      match after.tree.wins[i]?, st.wins[i]? with
      | some a, some b => !a.freed && a.children ≠ b.children
      | _, _ => false
    let stacking := match odd with
      | some i =>
        let a := match after.tree.wins[i]? with | some w => w.children | none => []
        let b := match st.wins[i]? with | some w => w.children | none => []
        let bb := match before.tree.wins[i]? with | some w => w.children | none => []
        s!"; children of window {i} were {showKids bb} at the flush, the requests in request order give {showKids b}, the flush left {showKids a}"
      | none => ""
    let w := match want with
      | none => s!"hidden ({whyHidden t})"
      | some (l, c, s) => s!"visible at {l},{c} shape {s} (window {chainEnd t (treeFuel t) 0})"
    let rs := ", ".intercalate (reqs.map fun (ch, i) => s!"{showChange ch} {i}")
    s!"cursor after flush is vis={after.term.vis} pos={after.term.line},{after.term.col} shape={after.term.shape}; " ++
    s!"specification with the requests [{rs}] applied in the order they were made: {w}{stacking}"

/-- Parse the focus-event log of an observation. -/
def parseEvents (s : String) : Option (List Event) :=
  if s = "~" then some [] else
  (s.splitOn ",").mapM fun e =>
    let ty := if e.startsWith "I" then some FocusType.focusIn else if e.startsWith "O" then some FocusType.focusOut else none
    match ty, (e.drop 1).toString.splitOn ">" with
    | some ty, [a, b] => do pure { target := ← a.toNat?, type := ty, win := ← b.toNat? }
    | _, _ => none

/-- The holder of the focus in a tree: the end of the focus chain, when it is focused. -/
def holder (t : Tree) : Option Id :=
  let e := chainEnd t (treeFuel t) 0
  match t.wins[e]? with
  | some w => if w.isFocused then some e else none
  | none => none

/-- The focus chain from the root as a list of windows (root first). -/
def chainList (t : Tree) : Nat → Id → List Id
  | 0, win => [win]
  | fuel + 1, win =>
    match t.wins[win]? with
    | some w => match w.focusedChild with
      | some c => win :: chainList t fuel c
      | none => [win]
    | none => [win]

/-- The event clause, on the implementation's observations before and after a `focus win`:
    every OUT precedes every IN; the gainer is told IN last; when the holder of the focus changes, the old holder is
    told OUT; windows that asked for child notifications and had / have the old / new holder below them on the
    chain are told OUT / IN. -/
def specFocus (before after : ImplObs) (win : Id) : String :=
  match parseEvents after.events with
  | none => "unparsable event log"
  | some evs =>
    let outs := evs.filter (·.type = .focusOut)
    let ins := evs.filter (·.type = .focusIn)
    -- "told" is truthful: a window told OUT about itself is not focused afterwards, the gainer is
    let focusedAfter (i : Id) : Bool := match after.tree.wins[i]? with | some w => w.isFocused | none => false
    let staleOut := outs.find? fun e => e.target = e.win && e.target ≠ win && focusedAfter e.target
    if evs ≠ outs ++ ins then "an OUT event is delivered after an IN event"
    else if evs.getLast? ≠ some ⟨win, .focusIn, win⟩ then s!"window {win} is not told IN last"
    else if !focusedAfter win then s!"window {win} was told IN but is not focused"
    else if let some e := staleOut then s!"window {e.target} was told OUT but is still focused"
    else
      let hb := holder before.tree
      let ha := holder after.tree
      match hb with
      | some b =>
        if ha ≠ some b ∧ !(outs.contains ⟨b, .focusOut, b⟩) then
          let rel := match ha with
            | some a =>
              if (ancestors before.tree (treeFuel before.tree) b).contains a then s!"its ancestor {a}"
              else if (ancestors after.tree (treeFuel after.tree) a).contains b then s!"its descendant {a}"
              else s!"window {a}"
            | none => "nowhere"
          s!"focus moved from window {b} to {rel} but window {b} was not told OUT"
        else
          if ha ≠ some b then
            -- notify-parents of the old holder that are no longer above the holder, or whose chain child changed
            let cb := chainList before.tree (treeFuel before.tree) 0
            let ca := chainList after.tree (treeFuel after.tree) 0
            let pairsB := cb.zip (cb.drop 1)
            let pairsA := ca.zip (ca.drop 1)
            let missOut := pairsB.find? fun (p, c) =>
              (match before.tree.wins[p]? with | some w => w.focusChildNotify | none => false) &&
              !(pairsA.contains (p, c)) && !(outs.contains ⟨p, .focusOut, c⟩)
            let missIn := pairsA.find? fun (p, c) =>
              (match after.tree.wins[p]? with | some w => w.focusChildNotify | none => false) &&
              !(pairsB.contains (p, c)) && !(ins.contains ⟨p, .focusIn, c⟩)
            match missOut, missIn with
            | some (p, c), _ =>
              (match pairsA.find? (fun (p', _) => p' = p) with
               | some (_, c') => s!"window {p} asked for child notifications; its focused child changed from {c} to {c'} but it was not told OUT for child {c}"
               | none =>
                 if ca.getLast? = some p then s!"window {p} asked for child notifications; it took the focus from its child {c} but was not told OUT for child {c}"
                 else s!"window {p} asked for child notifications but was not told OUT for child {c}")
            | _, some (p, c) => s!"window {p} asked for child notifications but was not told IN for child {c}"
            | _, _ => ""
          else ""
      | none => ""

/-- Operations that must not move the focus: the flush (it applies queued restacking, paints and restores), restacking
    requests, the cursor setters, the notification switch, expose and geometry changes.  (`take_focus` moves it and tells
    the windows; `show`, `hide`, `close`, `unref` relink the chain.)  Theorems: `ChainSame` for these operations in
    Proof/WinFocusReq.lean / WinFocusHist.lean. -/
def keepsFocus (op : String) : Bool :=
  ["flush", "raise", "raisefront", "lower", "lowerback", "curpos", "curvis", "curshape", "curblink", "notify", "expose",
   "exposer", "geom", "repos", "resize", "ref", "termsize"].contains op

/-- The focus did not move silently: the focus chain from the root and the `is_focused` flags along it are what they
    were.  Evaluated on the implementation's observations before and after the operation. -/
def specKeepsFocus (op : String) (before after : ImplObs) : String :=
  let cb := chainList before.tree (treeFuel before.tree) 0
  let ca := chainList after.tree (treeFuel after.tree) 0
  if cb ≠ ca then
    let shw (l : List Id) := "→".intercalate (l.map toString)
    s!"the focus moved during `{op}` without any focus event: focus chain {shw cb} before, {shw ca} after"
  else
    let foc (t : Tree) (i : Id) : Bool := match t.wins[i]? with | some w => w.isFocused | none => false
    match cb.find? (fun i => foc before.tree i ≠ foc after.tree i) with
    | some i => s!"window {i} on the focus chain changed is_focused during `{op}` without any focus event"
    | none => ""

/-- The end of the latent focus chain below (and including) `win`, following the observed `focused_child` links. -/
def latentEnd (t : Tree) : Nat → Id → Id
  | 0, win => win
  | fuel + 1, win =>
    match t.wins[win]? with
    | some w => match w.focusedChild with
      | some c => latentEnd t fuel c
      | none => win
    | none => win

/-- How `show`, `hide`, `close` and a freeing `unref` maintain the focus chain — the rules the property's "focus chain"
    rests on (anchors: tickit_window_show / tickit_window_hide, the REMOVE case of _do_hierarchy_change), evaluated on the
    implementation's observations before and after the operation:
    * no window's `is_focused` changes, and no link but the one of the parent of `win` changes;
    * `hide` / `close` / a freeing `unref` of the window the parent links to drops that link, and only that;
    * `show` relinks the parent to `win` exactly when the parent has no link and `win` carries a link or is focused —
      in particular when the branch below `win` ends in the focused window (then the cursor has to come back).
    This is what makes the chain a function of the history of take-focus / hide / show / close rather than of whatever
    the links happen to be. -/
def specRelink (op : String) (before after : ImplObs) (win : Id) : String :=
  match before.tree.wins[win]? with
  | none => ""
  | some wb =>
    if wb.freed then "" else
    let par := wb.parent
    let gone := match after.tree.wins[win]? with | some wa => wa.freed | none => true
    let lnk (t : Tree) (i : Id) : Option Id := match t.wins[i]? with | some w => if w.freed then none else w.focusedChild | none => none
    let foc (t : Tree) (i : Id) : Bool := match t.wins[i]? with | some w => !w.freed && w.isFocused | none => false
    let live (t : Tree) (i : Id) : Bool := match t.wins[i]? with | some w => !w.freed | none => false
    let ids := (List.range before.tree.wins.size).filter fun i => live before.tree i && live after.tree i
    match ids.find? (fun i => foc before.tree i ≠ foc after.tree i) with
    | some i => s!"`{op} {win}` changed is_focused of window {i} (no focus event is delivered by `{op}`)"
    | none =>
      match ids.find? (fun i => some i ≠ par && lnk before.tree i ≠ lnk after.tree i) with
      | some i => s!"`{op} {win}` changed the focus link of window {i}, which is not the parent of window {win}"
      | none =>
        match par with
        | none => ""
        | some p =>
          if !(live after.tree p) then "" else
          let lb := lnk before.tree p
          let la := lnk after.tree p
          if op = "show" then
            let want := if lb.isNone && ((lnk before.tree win).isSome || foc before.tree win) then some win else lb
            if la = want then ""
            else
              let e := latentEnd before.tree (treeFuel before.tree) win
              if lb.isNone && foc before.tree e then
                s!"`show {win}`: the branch below window {win} ends in the focused window {e} and window {p} has no focused child, " ++
                s!"but window {p} was not linked to window {win}: the focus chain from the root no longer reaches the focused window " ++
                s!"(focused child of window {p} is {showOptId la}, expected {win})"
              else s!"`show {win}`: focused child of window {p} is {showOptId la} afterwards, expected {showOptId want}"
          else if op == "hide" || op == "close" || (op == "unref" && gone) then
            let want := if lb = some win then none else lb
            if la = want then ""
            else s!"`{op} {win}`: focused child of window {p} is {showOptId la} afterwards, expected {showOptId want}"
          else if la = lb then "" else s!"`{op} {win}` changed the focus link of window {p}"

/-- The cursor setters store what they are given: after `curpos w l c` the cursor cell of window `w` is `(l, c)` (the
    property's "its cursor cell" is the cell last set, not whatever the record holds), after `curshape w s` its shape is
    `s`, after `curvis w 0/1` / `curblink w v` the switch reads accordingly; no other window's cursor record changes. -/
def specSetter (op : String) (before after : ImplObs) (win : Id) (args : List Int) : String :=
  let cur (t : Tree) (i : Id) : Option Cursor := match t.wins[i]? with | some w => if w.freed then none else some w.cursor | none => none
  match (List.range after.tree.wins.size).find? (fun i => i ≠ win && cur before.tree i ≠ cur after.tree i) with
  | some i => s!"`{op} {win}` changed the cursor record of window {i}"
  | none =>
    match cur before.tree win, cur after.tree win with
    | some b, some a =>
      match op, args with
      | "curpos", [l, c] =>
        if a = { b with line := l, col := c } then ""
        else s!"after `curpos {win} {l} {c}` the cursor cell of window {win} is {a.line},{a.col} (shape {a.shape}, enabled {a.visible}, blink {a.blink})"
      | "curshape", [v] =>
        if a = { b with shape := v } then "" else s!"after `curshape {win} {v}` the cursor shape of window {win} reads {a.shape}"
      | "curvis", [v] =>
        if v ≠ 0 ∧ v ≠ 1 then "" else
        if a = { b with visible := v = 1 } then "" else s!"after `curvis {win} {v}` the cursor of window {win} reads enabled={a.visible}"
      | "curblink", [v] =>
        if a = { b with blink := if v ≠ 0 then 1 else 0 } then "" else s!"after `curblink {win} {v}` the blink mode of window {win} reads {a.blink}"
      | _, _ => ""
    | _, _ => ""

/-! ### stepping the model -/

def detached (st : St) : Nat → Id → Bool
  | 0, _ => true
  | fuel + 1, id =>
    match st.tree.wins[id]? with
    | none => true
    | some w =>
      if w.isClosed then true
      else match st.origParent[id]? with
        | some (some p) => detached st fuel p
        | _ => false

def hasLiveChildren (st : St) (id : Id) : Bool :=
  (List.range st.tree.wins.size).any fun i =>
    i ≠ id && st.origParent[i]? == some (some id) &&
    (match st.tree.wins[i]? with | some w => !w.freed | none => false)

def liveId (st : St) (id : Id) : Bool :=
  match st.tree.wins[id]? with
  | some w => !w.freed
  | none => false

def changeOf : String → Option Change
  | "raise" => some .raise
  | "raisefront" => some .raiseFront
  | "lower" => some .lower
  | "lowerback" => some .lowerBack
  | _ => none

/-- Result of interpreting one operation on the model. -/
inductive Out where
  | bad
  | ub (what : String)
  | ok (st : St) (evs : List Event) (exposed : List Rect) (calls : List TermCall)

def ofRes (st : St) (r : Res Tree) : Out :=
  match r with
  | .ok t => .ok { st with tree := t } [] [] []
  | .ub w => .ub w

/-- The repairs present in the working tree, as read from the source by the extractor. -/
def fx : Fixes := Tickit.Gen.WinFocusSrc.fixes

def modelOp (st : St) (ts : List String) : Out :=
  let fuel := treeFuel st.tree
  match ts with
  | ["flush"] =>
    if !liveId st 0 then .bad else
    match flush fx st.tree with
    | .ok o =>
      if st.mock then
        -- the mock terminal logs only the goto (clamped to its screen); control changes are read back from its state
        let cs := o.calls.map (TermCall.onMock st.tl st.tc)
        .ok { st with tree := o.tree, term := st.term.applyAll cs } [] o.exposed
          (cs.filter fun c => match c with | .goto _ _ => true | _ => false)
      else .ok { st with tree := o.tree, term := st.term.applyAll o.calls } [] o.exposed o.calls
    | .ub w => .ub w
  | ["termsize", ls, cs] =>
    match ls.toInt?, cs.toInt? with
    | some l, some c =>
      if l < 1 ∨ c < 1 ∨ l > 200 ∨ c > 200 ∨ !liveId st 0 then .bad
      else
        -- `tickit_term_set_size` fires the resize event only when the size changes; `tickit_mockterm_resize` clamps its
        -- cursor position in any case
        let term := if st.mock then st.term.mockResize l c else st.term
        if l = st.tl ∧ c = st.tc then .ok { st with term := term } [] [] []
        else match termResize fx st.tree l c with
          | .ok t => .ok { st with tree := t, term := term, tl := l, tc := c } [] [] []
          | .ub w => .ub w
    | _, _ => .bad
  | "win" :: rest =>
    match ints? rest with
    | some [id, par, t, l, n, c, flags] =>
      let id := id.toNat
      let par' := par.toNat
      if id ≠ st.tree.wins.size ∨ id ≥ 64 ∨ par < 0 ∨ !liveId st par' ∨ detached st fuel par' then .bad
      else
        let f := flags.toNat
        match newWindow st.tree fuel par' ⟨t, l, n, c⟩ (f / 4 % 2 = 1) (f % 2 = 1) (f / 2 % 2 = 1) (f / 8 % 2 = 1) with
        | .ok (tr, nid) =>
          let p := match tr.wins[nid]? with | some w => w.parent | none => none
          .ok { st with tree := tr, origParent := st.origParent.push p } [] [] []
        | .ub w => .ub w
    | _ => .bad
  | op :: ids :: args =>
    match ids.toInt?, ints? args with
    | some idi, some args =>
      let id := idi.toNat
      if idi < 0 ∨ !liveId st id then .bad
      else if op = "unref" ∧ args = [] then
        match st.tree.wins[id]? with
        | some w =>
          if w.refcount = 1 ∧ hasLiveChildren st id then .bad
          else ofRes st (unrefWin fx st.tree id)
        | none => .bad
      else if op = "ref" ∧ args = [] then ofRes st (ref st.tree id)
      else if detached st fuel id then .bad
      else match op, args with
        | "close", [] =>
          if id = 0 then .bad else ofRes st (closeWin fx st.tree id)
        | "show", [] => ofRes st (showWin fx st.tree id)
        | "hide", [] => ofRes st (hideWin fx st.tree id)
        | "expose", [] => ofRes st (expose st.tree fuel id none)
        | "focus", [] =>
          match takeFocus fx st.tree id with
          | .ok (t, evs) => .ok { st with tree := t } evs [] []
          | .ub w => .ub w
        | "curvis", [v] => ofRes st (setCursorVisible st.tree id v)
        | "curshape", [v] => ofRes st (setCursorShape st.tree id v)
        | "curblink", [v] => ofRes st (setCursorBlink st.tree id v)
        | "notify", [v] => ofRes st (setFocusChildNotify st.tree id v)
        | "curpos", [a, b] => ofRes st (setCursorPosition st.tree id a b)
        | "repos", [a, b] => ofRes st (reposition st.tree id a b)
        | "resize", [a, b] => ofRes st (resize st.tree id a b)
        | "geom", [t, l, n, c] =>
          match setGeometry st.tree id ⟨t, l, n, c⟩ with
          | .ok (tr, _) => .ok { st with tree := tr } [] [] []
          | .ub w => .ub w
        | "exposer", [t, l, n, c] => ofRes st (expose st.tree fuel id (some ⟨t, l, n, c⟩))
        | _, [] =>
          match changeOf op with
          | some ch =>
            match requestHierarchyChange st.tree fuel ch id with
            | .ok t => .ok { st with tree := t } [] [] []
            | .ub w => .ub w
          | none => .bad
        | _, _ => .bad
    | _, _ => .bad
  | _ => .bad

/-- Every operation but the two that begin a history. -/
def stepOp (st : St) (ts : List String) (impl : String) : St × String × String :=
  if !st.live then (st, "bad-op", "")
  else if st.dead then (st, "UB (earlier in this history)", "")
  else
    match modelOp st ts with
    | .bad => (st, "bad-op", "")
    | .ub w => ({ st with dead := true }, "UB " ++ w, "")
    | .ok st' evs exposed calls =>
      let m := showState st' evs exposed calls
      let sv :=
        match ts with
        | ["flush"] =>
          (match parseImpl impl with
           | some o =>
             let v := specFlush o o.calls
             if v ≠ "" then v else
             (match parseImpl st.prev with
              | some b => specFlushOrder b o st.reqs
              | none => "")
           | none => if impl.startsWith "ok" then "unparsable implementation observation" else "")
        | ["focus", ids] =>
          (match parseImpl st.prev, parseImpl impl, ids.toNat? with
           | some b, some a, some id => specFocus b a id
           | _, _, _ => if impl.startsWith "ok" then "unparsable implementation observation" else "")
        | ["termsize", ls, cs] =>
          -- the root window follows the terminal (absolute positions are terminal positions only then)
          (match parseImpl impl, ls.toInt?, cs.toInt? with
           | some o, some l, some c =>
             (match o.tree.wins[0]? with
              | some r =>
                if r.rect = ⟨0, 0, l, c⟩ then ""
                else s!"the terminal is {l} x {c} but the root window is {r.rect.lines} x {r.rect.cols} at {r.rect.top},{r.rect.left}"
              | none => "no root window")
           | _, _, _ => if impl.startsWith "ok" then "unparsable implementation observation" else "")
        | _ => ""
      let sv := if sv ≠ "" then sv else
        match ts with
        | [op, ids] =>
          if ["show", "hide", "close", "unref"].contains op then
            (match parseImpl st.prev, parseImpl impl, ids.toNat? with
             | some b, some a, some id => specRelink op b a id
             | _, _, _ => "")
          else ""
        | _ => ""
      let sv := if sv ≠ "" then sv else
        match ts with
        | op :: ids :: args =>
          if ["curpos", "curshape", "curvis", "curblink"].contains op then
            (match parseImpl st.prev, parseImpl impl, ids.toNat?, ints? args with
             | some b, some a, some id, some as => specSetter op b a id as
             | _, _, _, _ => "")
          else ""
        | _ => ""
      let sv := if sv ≠ "" then sv else
        match ts with
        | op :: _ =>
          if keepsFocus op then
            (match parseImpl st.prev, parseImpl impl with
             | some b, some a => specKeepsFocus op b a
             | _, _ => "")
          else ""
        | [] => ""
      -- the hypothesis of the theorems, evaluated on every tree the real library is observed in
      let sv := if sv ≠ "" then sv else
        match parseImpl impl with
        | some o =>
          if !wfB o.tree then "the observed tree violates the store invariant wfB (parent/children consistency, chain_visible)"
          else if !good15B o.tree then "the observed tree violates the structural invariants of Good15 (child lists, root window)"
          else ""
        | none => ""
      -- the requests outstanding at the next flush
      let reqs := match ts with
        | ["flush"] => []
        | [op, ids] => (match changeOf op, ids.toNat? with
          | some ch, some id => st.reqs ++ [(ch, id)]
          | _, _ => st.reqs)
        | _ => st.reqs
      ({ st' with prev := impl, reqs := reqs }, m, sv)

def step (st : St) (ts : List String) (impl : String) : St × String × String :=
  match ts with
  | nw :: rest =>
    if nw = "new" ∨ nw = "newmock" then
      match rest with
      | [ls, cs] =>
        match ls.toInt?, cs.toInt? with
        | some l, some c =>
          if l < 1 ∨ c < 1 ∨ l > 200 ∨ c > 200 then ({}, "bad-op", "")
          else
            let st : St := { tree := newRoot l c, live := true, origParent := #[none], tl := l, tc := c,
                             mock := nw = "newmock", term := if nw = "newmock" then TermCursor.mockInit else {} }
            ({ st with prev := impl }, showState st [] [] [], "")
        | _, _ => ({}, "bad-op", "")
      | _ => ({}, "bad-op", "")
    else stepOp st ts impl
  | [] => stepOp st ts impl

def engine : Engine := { σ := St, init := {}, step := step }

end Tickit.Driver.FocusEngine
